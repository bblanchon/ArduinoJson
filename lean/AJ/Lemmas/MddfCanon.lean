/- The documents left by the slot-level MessagePack deserializers `MDDF.run` (any filter) / `MDD.run` store their values
   canonically - the side conditions of the document-level memory comparison (AJ/Lemmas/DocSize.lean, AJ/Props/C11Mem.lean):
   * `mp_run_inlineSmall`: every integer stored inline fits 32 bits (`DocSize.AllV inlineSmallV`) - on every path;
   * `mp_run_notLinked`: no value is a linked string: every string is a copy held by the string table
     (`DocSize.AllV notLinkedV`) - on every path;
   * `mp_run_canon`: when no allocation failed, for ONE layout `F'`: well-formed, tight (`JDDF.Tight`), and no extension slot
     is spent on an integer that fits 32 bits (`DocSize.ExtBig`; from `MDDF.run_tight_canon`, AJ/Lemmas/MddfExact.lean).
   The cell-global predicates `AllV p` go through the parser for every `p` that the values written by the deserializer satisfy
   (`PDeser p`): an instance of the induction `st_all` of AJ/Lemmas/MddfDStep.lean; a second instance: `mp_run_strOverhead`. -/
import AJ.Lemmas.MddfExact
import AJ.Lemmas.DocAlloc
namespace MDDF
open DL DocSize
open JD (Byte Code Flt)
open JDD (PlEq SaveOp Ctx Built isNum)
open MDD (S reserve save readString store fin J)

/-- `p` holds of every value the MessagePack deserializer writes -/
structure PDeser (p : VData → Bool) : Prop where
  coll : PColl p
  bool : ∀ b, p (.bool b) = true
  f32 : ∀ b, p (.f32 b) = true
  i32 : ∀ x : Int, -2^31 ≤ x ∧ x < 2^31 → p (.i32 x) = true
  owned : ∀ n, p (.owned n) = true
  raw : ∀ n, p (.raw n) = true
  num : ∀ a v, isNum a → argWrites a v → p v = true

theorem pdeser_inlineSmall : PDeser inlineSmallV := by
  refine ⟨pcoll_inlineSmall, fun _ => rfl, fun _ => rfl, fun x hx => ?_, fun _ => rfl, fun _ => rfl, fun a v ha hv => ?_⟩
  · simp only [inlineSmallV, decide_eq_true_eq]; exact hx
  · cases a <;> simp only [argWrites] at hv
    case sint x =>
      rcases hv with ⟨rfl, hr⟩ | ⟨s, rfl⟩
      · simp only [inlineSmallV, decide_eq_true_eq]; exact hr
      · rfl
    case uint x =>
      rcases hv with ⟨rfl, hr⟩ | ⟨s, rfl⟩
      · simp only [inlineSmallV, decide_eq_true_eq]; exact hr
      · rfl
    case f64 b => rcases hv with ⟨f, rfl⟩ | ⟨s, rfl⟩ <;> rfl
    case f32 b => subst hv; rfl
    all_goals exact absurd ha (fun h => h)

theorem pdeser_notLinked : PDeser notLinkedV := by
  refine ⟨pcoll_notLinked, fun _ => rfl, fun _ => rfl, fun _ _ => rfl, fun _ => rfl, fun _ => rfl, fun a v ha hv => ?_⟩
  cases a <;> simp only [argWrites] at hv
  case sint x => rcases hv with ⟨rfl, _⟩ | ⟨s, rfl⟩ <;> rfl
  case uint x => rcases hv with ⟨rfl, _⟩ | ⟨s, rfl⟩ <;> rfl
  case f64 b => rcases hv with ⟨f, rfl⟩ | ⟨s, rfl⟩ <;> rfl
  case f32 b => subst hv; rfl
  all_goals exact absurd ha (fun h => h)

/-! ### instance: a predicate on every stored value -/

/-- the step `d → d'` keeps `AllV p` -/
def AV (p : VData → Bool) (d d' : Doc) : Prop := AllV p d → AllV p d'

variable {p : VData → Bool}

theorem av_addMemberNode (hp : PDeser p) (d : Doc) (l : Loc) (node : Nat) : AV p d (JDD.addMemberNode d l node).2 := by
  intro h
  have h1 := h.allocVariant hp.coll
  rcases JDD.addMemberNode_cases d l node with ⟨d1, hal1, e⟩ | ⟨k, d1, d2, hal1, hal2, e⟩ | ⟨k, d1, v, d2, hal1, hal2, e⟩
  · rw [e]; rw [hal1] at h1; exact h1
  · rw [e]; rw [hal1] at h1
    have h2 := AllV.allocVariant hp.coll h1
    rw [hal2] at h2; exact h2
  · rw [e]; rw [hal1] at h1
    have h2 := AllV.allocVariant hp.coll h1
    rw [hal2] at h2
    exact AllV.appendPair hp.coll (h2.set _ (hp.owned node)) l k v

theorem dstep_av (hp : PDeser p) : DStep (AV p) where
  refl := fun _ h => h
  trans := fun h1 h2 h => h2 (h1 h)
  pleq := fun h ha l => by rw [h.get l]; exact ha l
  set_bool := fun _ l b h => h.set l (hp.bool b)
  set_f32 := fun _ l b h => h.set l (hp.f32 b)
  set_i32 := fun _ l x hx h => h.set l (hp.i32 x hx)
  set_owned := fun _ l n h => h.set l (hp.owned n)
  set_raw := fun _ l n h => h.set l (hp.raw n)
  set_arr := fun _ l a b h => h.set l (hp.coll.arr a b)
  set_obj := fun _ l a b h => h.set l (hp.coll.obj a b)
  setArg := fun _ l a ha h => h.setArg hp.coll l a (fun v hv => hp.num a v ha hv)
  save := fun x bytes h => by
    have sv := MDD.mp_save_spec x bytes
    exact h.of_cells sv.cells sv.root
  addElement := fun _ l h => h.addElement hp.coll l
  addMemberNode := av_addMemberNode hp

/-! ### instance: the per-node overhead of the string table is a constant of the document -/

def KeepOvh (d d' : Doc) : Prop := d'.strOverhead = d.strOverhead

theorem dstep_ovh : DStep KeepOvh where
  refl := fun _ => rfl
  trans := fun h1 h2 => Eq.trans h2 h1
  pleq := fun h => h.ovh
  set_bool := fun d l _ => set_strOverhead d l _
  set_f32 := fun d l _ => set_strOverhead d l _
  set_i32 := fun d l _ _ => set_strOverhead d l _
  set_owned := fun d l _ => set_strOverhead d l _
  set_raw := fun d l _ => set_strOverhead d l _
  set_arr := fun d l _ _ => set_strOverhead d l _
  set_obj := fun d l _ _ => set_strOverhead d l _
  setArg := fun d l a _ => (sameId_setArg d l a).2.1
  save := fun x bytes => (MDD.mp_save_spec x bytes).ovh
  addElement := fun d l => by
    show (d.addElement l).2.strOverhead = d.strOverhead
    simp only [Doc.addElement]
    have := (sameId_allocVariant d).2.1
    generalize d.allocVariant = r at this
    obtain ⟨m, d1⟩ := r
    cases m with
    | none => exact this
    | some j => exact ((sameId_appendOne d1 l j).2.1).trans this
  addMemberNode := fun d l node => by
    show (JDD.addMemberNode d l node).2.strOverhead = d.strOverhead
    have h1 := (sameId_allocVariant d).2.1
    rcases JDD.addMemberNode_cases d l node with ⟨d1, hal1, e⟩ | ⟨k, d1, d2, hal1, hal2, e⟩ | ⟨k, d1, v, d2, hal1, hal2, e⟩
    · rw [e]; rw [hal1] at h1; exact h1
    · rw [e]; rw [hal1] at h1
      have h2 := (sameId_allocVariant d1).2.1
      rw [hal2] at h2; exact h2.trans h1
    · rw [e]; rw [hal1] at h1
      have h2 := (sameId_allocVariant d1).2.1
      rw [hal2] at h2
      exact ((sameId_appendPair _ l k v).2.1).trans ((set_strOverhead d2 _ _).trans (h2.trans h1))

/-- `run` keeps the per-node overhead of the document it is given -/
theorem mp_run_strOverhead (env : MD.Env) (limit : Nat) (flt : Flt) (d : Doc) (input : List Byte) :
    (run env limit flt d input).2.1.strOverhead = d.strOverhead :=
  mp_run_step dstep_ovh env limit flt d input (fun _ _ => rfl)

/-- every value of the document `run` returns - whatever the input, the filter and the failure schedule - satisfies every
    predicate that the values written by the deserializer satisfy -/
theorem mp_run_allV (hp : PDeser p) (env : MD.Env) (limit : Nat) (flt : Flt) (d : Doc) (input : List Byte) :
    AllV p (run env limit flt d input).2.1 := by
  exact mp_run_step (dstep_av hp) env limit flt d input (fun _ pl h => h.with_pl pl) (AllV.clearAll hp.coll d)

/-- integers stored inline fit 32 bits, on every path -/
theorem mp_run_inlineSmall (env : MD.Env) (limit : Nat) (flt : Flt) (d : Doc) (input : List Byte) :
    AllV inlineSmallV (run env limit flt d input).2.1 := mp_run_allV pdeser_inlineSmall env limit flt d input

/-- no linked string: every string of the document is a copy held by its string table, on every path -/
theorem mp_run_notLinked (env : MD.Env) (limit : Nat) (flt : Flt) (d : Doc) (input : List Byte) :
    AllV notLinkedV (run env limit flt d input).2.1 := mp_run_allV pdeser_notLinked env limit flt d input

/-- no extension slot is spent on an integer that fits 32 bits (for a layout of the result), when no allocation failed -/
theorem mp_run_extBig (env : MD.Env) (limit : Nat) (flt : Flt) {d : Doc} (input : List Byte) (gok : PL.GeoOK d.g)
    (hp : PL.Inv d.g d.pl) (hov : (run env limit flt d input).2.1.overflowed = false) :
    ∃ F', WFG (run env limit flt d input).2.1 F' ∧ ExtBig (run env limit flt d input).2.1 F' := by
  obtain ⟨F', a, _, _, e⟩ := run_tight_canon env limit flt input gok hp hov
  exact ⟨F', a, e⟩

/-- ALL the side conditions of the memory comparison for ONE layout of the result, when no allocation failed: well-formed,
    exact reference counts, no leaked slot (in the form of AJ/Lemmas/DocSize.lean), canonical numbers, no linked string -/
theorem mp_run_canon (env : MD.Env) (limit : Nat) (flt : Flt) {d : Doc} (input : List Byte) (gok : PL.GeoOK d.g)
    (hp : PL.Inv d.g d.pl) (hov : (run env limit flt d input).2.1.overflowed = false) :
    ∃ F', WFG (run env limit flt d input).2.1 F' ∧
      StrOK (run env limit flt d input).2.1 ((run env limit flt d input).2.1.strRefs F') ∧
      Exact (run env limit flt d input).2.1 ((run env limit flt d input).2.1.strRefs F') ∧
      DocSize.NoLeak (run env limit flt d input).2.1 F' ∧
      Canon (run env limit flt d input).2.1 F' ∧ NoLinked (run env limit flt d input).2.1 F' := by
  obtain ⟨F', a, b, c, e⟩ := run_tight_canon env limit flt input gok hp hov
  refine ⟨F', a, b, c.exact, fun i hi => ?_, ⟨(mp_run_inlineSmall env limit flt d input).inlineSmall F', e⟩,
    (mp_run_notLinked env limit flt d input).noLinked F'⟩
  rcases c.noleak i hi with h | h
  · exact Or.inl h
  · exact Or.inr (mem_extIds.2 h)

end MDDF
