/- C12 (floating-point clauses), part 4: `make_float` on the generated tables. -/
import AJ.Lemmas.FloatErrLoop
namespace C12
open SF JD

theorem emin_b64 : emin b64 + (b64.mbits : Int) = -1022 := by decide
theorem top_b64 : (b64.emax : Int) - b64.bias - 1 = 1023 := by decide

theorem getD_getElem (l : List Nat) (i : Nat) (h : i < l.length) : l.getD i 0 = l[i] := by
  simp [List.getD, List.getElem?_eq_getElem h]

theorem len_pos64 : pos64.length = 9 := tables64_ok.1
theorem len_neg64 : neg64.length = 9 := tables64_ok.2.1
theorem len_pos32 : pos32.length = 6 := tables32_ok.1
theorem len_neg32 : neg32.length = 6 := tables32_ok.2.1

/-- a checked entry of a table of positive powers, as an approximation of `10^(2^i)` -/
theorem pos_entry_close {f : Fmt} {tbl : List Nat} {i : Nat} (h : i < tbl.length)
    (hok : entryOK f (tbl.getD i 0) (10 ^ 2 ^ i) 1 = true) :
    ∃ (m : Nat) (e : Int), decode f tbl[i] = .fin false m e ∧ m ≠ 0 ∧ Close (uro f) (qv m e) ((10 : ℚ) ^ (2 ^ i)) := by
  rw [getD_getElem tbl i h] at hok
  obtain ⟨m, e, hd, hm, hc⟩ := entry_close hok (by positivity) (by decide)
  exact ⟨m, e, hd, hm, by simpa using hc⟩

/-- a checked entry of a table of negative powers, as an approximation of `10^-(2^i)` -/
theorem neg_entry_close {f : Fmt} {tbl : List Nat} {i : Nat} (h : i < tbl.length)
    (hok : entryOK f (tbl.getD i 0) 1 (10 ^ 2 ^ i) = true) :
    ∃ (m : Nat) (e : Int), decode f tbl[i] = .fin false m e ∧ m ≠ 0 ∧
      Close (uro f) (qv m e) ((1 / 10 : ℚ) ^ (2 ^ i)) := by
  rw [getD_getElem tbl i h] at hok
  obtain ⟨m, e, hd, hm, hc⟩ := entry_close hok (by decide) (by positivity)
  refine ⟨m, e, hd, hm, ?_⟩
  have : ((1 : Nat) : ℚ) / ((10 ^ 2 ^ i : Nat) : ℚ) = (1 / 10 : ℚ) ^ (2 ^ i) := by
    push_cast; rw [one_div, one_div, inv_pow]
  rw [← this]; exact hc

theorem pos64_close : ∀ i (h : i < pos64.length), ∃ (m : Nat) (e : Int), decode b64 pos64[i] = .fin false m e ∧ m ≠ 0 ∧
    Close (uro b64) (qv m e) ((10 : ℚ) ^ (2 ^ i)) :=
  fun i h => pos_entry_close h (tables64_ok.2.2 i (by rw [← len_pos64]; exact h)).2.1

theorem neg64_close : ∀ i (h : i < neg64.length), ∃ (m : Nat) (e : Int), decode b64 neg64[i] = .fin false m e ∧ m ≠ 0 ∧
    Close (uro b64) (qv m e) ((1 / 10 : ℚ) ^ (2 ^ i)) :=
  fun i h => neg_entry_close h (tables64_ok.2.2 i (by rw [← len_neg64]; exact h)).2.2.1

theorem pos32_close : ∀ i (h : i < pos32.length), ∃ (m : Nat) (e : Int), decode b32 pos32[i] = .fin false m e ∧ m ≠ 0 ∧
    Close (uro b32) (qv m e) ((10 : ℚ) ^ (2 ^ i)) :=
  fun i h => pos_entry_close h (tables32_ok.2.2 i (by rw [← len_pos32]; exact h)).2.1

theorem neg32_close : ∀ i (h : i < neg32.length), ∃ (m : Nat) (e : Int), decode b32 neg32[i] = .fin false m e ∧ m ≠ 0 ∧
    Close (uro b32) (qv m e) ((1 / 10 : ℚ) ^ (2 ^ i)) :=
  fun i h => neg_entry_close h (tables32_ok.2.2 i (by rw [← len_neg32]; exact h)).2.2.1

/-- `10^e` for an integer `e`, through `|e|` -/
theorem ten_zpow_pos_exp (e : Int) (h : 0 < e) : (10 : ℚ) ^ e = (10 : ℚ) ^ e.natAbs := by
  have : e = (e.natAbs : Int) := by omega
  conv_lhs => rw [this]
  rw [zpow_natCast]
theorem ten_zpow_neg_exp (e : Int) (h : e ≤ 0) : (10 : ℚ) ^ e = (1 / 10 : ℚ) ^ e.natAbs := by
  have : e = -(e.natAbs : Int) := by omega
  conv_lhs => rw [this]
  rw [zpow_neg, zpow_natCast, one_div, inv_pow]

/-- A format with its two tables of powers of ten, and a binary range `[2^L, 2^H]` inside which `make_float` neither
    leaves the normal numbers nor reaches the top binade. -/
structure TableFmt (f : Fmt) (tp tn : List Nat) (L H : Int) : Prop where
  emax_pos : 0 < f.emax
  bias_pos : 1 ≤ f.bias
  exact_fits : f.mbits + f.bias < f.emax
  len_eq : tp.length = tn.length
  len_le : tp.length ≤ 64
  pos : ∀ i (h : i < tp.length), ∃ (m : Nat) (e : Int), decode f tp[i] = .fin false m e ∧ m ≠ 0 ∧
    Close (uro f) (qv m e) ((10 : ℚ) ^ (2 ^ i))
  neg : ∀ i (h : i < tn.length), ∃ (m : Nat) (e : Int), decode f tn[i] = .fin false m e ∧ m ≠ 0 ∧
    Close (uro f) (qv m e) ((1 / 10 : ℚ) ^ (2 ^ i))
  budget : 5 / 2 * uro f * (tp.length : ℚ) ≤ 1 / 8
  L_nonpos : L ≤ 0
  L_normal : emin f + f.mbits + 1 ≤ L
  H_mant : ((f.mbits + 1 : Nat) : Int) ≤ H
  H_top : H + 1 < (f.emax : Int) - f.bias - 1

theorem fmt64 : TableFmt b64 pos64 neg64 (-1000) 1000 where
  emax_pos := by decide
  bias_pos := by decide
  exact_fits := by decide
  len_eq := by rw [len_pos64, len_neg64]
  len_le := by rw [len_pos64]; decide
  pos := pos64_close
  neg := neg64_close
  budget := by rw [len_pos64, show uro b64 = 1 / 2 ^ 53 from rfl]; norm_num
  L_nonpos := by decide
  L_normal := by decide
  H_mant := by decide
  H_top := by decide

theorem fmt32 : TableFmt b32 pos32 neg32 (-125) 125 where
  emax_pos := by decide
  bias_pos := by decide
  exact_fits := by decide
  len_eq := by rw [len_pos32, len_neg32]
  len_le := by rw [len_pos32]; decide
  pos := pos32_close
  neg := neg32_close
  budget := by rw [len_pos32, show uro b32 = 1 / 2 ^ 24 from rfl]; norm_num
  L_nonpos := by decide
  L_normal := by decide
  H_mant := by decide
  H_top := by decide

namespace TableFmt
variable {f : Fmt} {tp tn : List Nat} {L H : Int}

/-- The loop over either table (`T = 10` or `1/10`) from the exactly converted mantissa `mant < 2^(mbits+1)` towards
    `mant·T^eb ≥ 2^L`: a finite positive datum within `5/2·u` per table entry of the target, or `+inf`, and then `mant`
    or the target is in the top binade or above. -/
theorem go (F : TableFmt f tp tn L H) {tbl : List Nat} {T : ℚ} (hT : 0 < T) (hmono : 1 ≤ T ∨ T ≤ 1)
    (hlen : tbl.length = tp.length)
    (htbl : ∀ i (h : i < tbl.length), ∃ (m : Nat) (e : Int), decode f tbl[i] = .fin false m e ∧ m ≠ 0 ∧
      Close (uro f) (qv m e) (T ^ (2 ^ i)))
    (fuel eb mant : Nat) (hm : mant ≠ 0) (hlt : mant < 2 ^ (f.mbits + 1)) (hfuel : tp.length ≤ fuel)
    (heb : eb < 2 ^ tp.length) (h3 : (2 : ℚ) ^ L ≤ (mant : ℚ) * T ^ eb) :
    ∃ (r : Nat), makeFloat.go f tbl fuel (ofNat f mant) eb 0 = some r ∧
      ((decode f r = .inf false ∧ ((2 : ℚ) ^ ((f.emax : Int) - f.bias - 1) ≤ 2 * (mant : ℚ) ∨
          (2 : ℚ) ^ ((f.emax : Int) - f.bias - 1) ≤ 2 * ((mant : ℚ) * T ^ eb))) ∨
        ∃ (m : Nat) (ex : Int), decode f r = .fin false m ex ∧ m ≠ 0 ∧
          Close (5 / 2 * uro f * (tp.length : ℚ)) (qv m ex) ((mant : ℚ) * T ^ eb)) := by
  obtain ⟨ma, ea, hacc, hma, hval⟩ := ofNat_exactQ f mant hm hlt F.bias_pos F.exact_fits
  have hc0 : Close 0 (qv ma ea) (mant : ℚ) := by rw [hval]; exact Close.refl _
  have hlo : (2 : ℚ) ^ (emin f + f.mbits) ≤ (2 : ℚ) ^ L / 2 := by
    rw [le_div_iff₀ (by norm_num), ← zpow_add_one₀ (by norm_num)]
    exact zpow_le_zpow_right₀ (by norm_num) F.L_normal
  have h1 : (2 : ℚ) ^ L ≤ (mant : ℚ) :=
    le_trans (zpow_le_one_of_nonpos₀ (by norm_num) F.L_nonpos) (by exact_mod_cast Nat.pos_of_ne_zero hm)
  have := go_run f tbl T ((2 : ℚ) ^ L) F.emax_pos hT hmono htbl (two_zpow_pos L) hlo
    fuel tp.length (ofNat f mant) eb 0 0 mant ma ea hacc hma hc0 (le_refl _) (by rw [Nat.zero_add, hlen]) hfuel heb
    (by rw [zero_add]; exact F.budget) h1 (by rw [pow_zero, mul_one]; exact h3)
  rw [pow_zero, mul_one, zero_add] at this
  exact this

/-- nothing up to `2^H` overflows: `2·2^H` is below the top binade -/
theorem below_top (F : TableFmt f tp tn L H) {x : ℚ} (h : x ≤ (2 : ℚ) ^ H) :
    ¬ (2 : ℚ) ^ ((f.emax : Int) - f.bias - 1) ≤ 2 * x := by
  have : 2 * (2 : ℚ) ^ H < (2 : ℚ) ^ ((f.emax : Int) - f.bias - 1) := by
    rw [mul_comm, ← zpow_add_one₀ (by norm_num)]
    exact zpow_lt_zpow_right₀ (by norm_num) F.H_top
  intro hc; linarith

theorem mant_le (F : TableFmt f tp tn L H) {mant : Nat} (hlt : mant < 2 ^ (f.mbits + 1)) : (mant : ℚ) ≤ (2 : ℚ) ^ H := by
  have : (mant : ℚ) ≤ (2 : ℚ) ^ ((f.mbits + 1 : Nat) : Int) := by rw [zpow_natCast]; exact_mod_cast hlt.le
  exact this.trans (zpow_le_zpow_right₀ (by norm_num) F.H_mant)

/-- `make_float` from the exactly converted mantissa towards `mant·10^e ≥ 2^L` -/
theorem run (F : TableFmt f tp tn L H) (mant : Nat) (e : Int) (hm : mant ≠ 0) (hlt : mant < 2 ^ (f.mbits + 1))
    (he : e.natAbs < 2 ^ tp.length) (h3 : (2 : ℚ) ^ L ≤ (mant : ℚ) * (10 : ℚ) ^ e) :
    ∃ (r : Nat), makeFloat f tp tn (ofNat f mant) e = some r ∧
      ((decode f r = .inf false ∧ ((2 : ℚ) ^ ((f.emax : Int) - f.bias - 1) ≤ 2 * (mant : ℚ) ∨
          (2 : ℚ) ^ ((f.emax : Int) - f.bias - 1) ≤ 2 * ((mant : ℚ) * (10 : ℚ) ^ e))) ∨
        ∃ (m : Nat) (ex : Int), decode f r = .fin false m ex ∧ m ≠ 0 ∧
          Close (5 / 2 * uro f * (tp.length : ℚ)) (qv m ex) ((mant : ℚ) * (10 : ℚ) ^ e)) := by
  simp only [makeFloat]
  by_cases hpos : e > 0
  · rw [if_pos hpos]
    rw [ten_zpow_pos_exp e hpos] at h3 ⊢
    exact F.go (by norm_num) (Or.inl (by norm_num)) rfl F.pos 64 e.natAbs mant hm hlt F.len_le he h3
  · rw [if_neg hpos]
    rw [ten_zpow_neg_exp e (by omega)] at h3 ⊢
    exact F.go (by norm_num) (Or.inr (by norm_num)) F.len_eq.symm F.neg 64 e.natAbs mant hm hlt F.len_le he h3

/-- overflow allowed: only a lower bound on the magnitude -/
theorem close_or_inf (F : TableFmt f tp tn L H) (mant : Nat) (e : Int) (hm : mant ≠ 0) (hlt : mant < 2 ^ (f.mbits + 1))
    (he : e.natAbs < 2 ^ tp.length) (h3 : (2 : ℚ) ^ L ≤ (mant : ℚ) * (10 : ℚ) ^ e) :
    ∃ (r : Nat), makeFloat f tp tn (ofNat f mant) e = some r ∧
      AccOK f r (5 / 2 * uro f * (tp.length : ℚ)) ((mant : ℚ) * (10 : ℚ) ^ e) := by
  obtain ⟨r, hr, h⟩ := F.run mant e hm hlt he h3
  exact ⟨r, hr, h.imp And.left id⟩

/-- with `mant·10^e ≤ 2^H` as well there is no overflow -/
theorem close (F : TableFmt f tp tn L H) (mant : Nat) (e : Int) (hm : mant ≠ 0) (hlt : mant < 2 ^ (f.mbits + 1))
    (he : e.natAbs < 2 ^ tp.length) (h3 : (2 : ℚ) ^ L ≤ (mant : ℚ) * (10 : ℚ) ^ e)
    (h4 : (mant : ℚ) * (10 : ℚ) ^ e ≤ (2 : ℚ) ^ H) :
    ∃ (r m : Nat) (ex : Int), makeFloat f tp tn (ofNat f mant) e = some r ∧ decode f r = .fin false m ex ∧ m ≠ 0 ∧
      Close (5 / 2 * uro f * (tp.length : ℚ)) (qv m ex) ((mant : ℚ) * (10 : ℚ) ^ e) := by
  obtain ⟨r, hr, ⟨_, hb⟩ | ⟨m, ex, h⟩⟩ := F.run mant e hm hlt he h3
  · exact absurd hb (not_or.mpr ⟨F.below_top (F.mant_le hlt), F.below_top h4⟩)
  · exact ⟨r, m, ex, hr, h⟩

end TableFmt

theorem budget64 : 5 / 2 * uro b64 * (pos64.length : ℚ) = 45 / 2 ^ 54 := by
  rw [len_pos64, show uro b64 = 1 / 2 ^ 53 from rfl]; norm_num
theorem budget32 : 5 / 2 * uro b32 * (pos32.length : ℚ) = 15 / 2 ^ 24 := by
  rw [len_pos32, show uro b32 = 1 / 2 ^ 24 from rfl]; norm_num

/-- binary64 `make_float`: `mant < 2^53` converts exactly; if `mant·10^e ∈ [2^-1000, 2^1000]` (that contains
    `[5e-301, 1e301]`) the result is a finite positive datum within `22.5·2^-53 < 2.5e-15` of `mant·10^e`. -/
theorem makeFloat64_close (mant : Nat) (e : Int) (hm : mant ≠ 0) (hlt : mant < 2 ^ 53) (he : e.natAbs < 512)
    (h3 : (2 : ℚ) ^ (-1000 : Int) ≤ (mant : ℚ) * (10 : ℚ) ^ e) (h4 : (mant : ℚ) * (10 : ℚ) ^ e ≤ (2 : ℚ) ^ (1000 : Int)) :
    ∃ (r m : Nat) (ex : Int), makeFloat b64 pos64 neg64 (ofNat b64 mant) e = some r ∧ decode b64 r = .fin false m ex ∧
      m ≠ 0 ∧ Close (45 / 2 ^ 54) (qv m ex) ((mant : ℚ) * (10 : ℚ) ^ e) := by
  have := fmt64.close mant e hm hlt (by rw [len_pos64]; exact he) h3 h4
  rw [budget64] at this
  exact this

/-- binary32 `make_float`: `mant < 2^24` converts exactly; if `mant·10^e ∈ [2^-125, 2^125]` (that contains
    `[2.4e-38, 4.2e37]`) the result is a finite positive datum within `15·2^-24 < 8.95e-7` of `mant·10^e`. -/
theorem makeFloat32_close (mant : Nat) (e : Int) (hm : mant ≠ 0) (hlt : mant < 2 ^ 24) (he : e.natAbs < 64)
    (h3 : (2 : ℚ) ^ (-125 : Int) ≤ (mant : ℚ) * (10 : ℚ) ^ e) (h4 : (mant : ℚ) * (10 : ℚ) ^ e ≤ (2 : ℚ) ^ (125 : Int)) :
    ∃ (r m : Nat) (ex : Int), makeFloat b32 pos32 neg32 (ofNat b32 mant) e = some r ∧ decode b32 r = .fin false m ex ∧
      m ≠ 0 ∧ Close (15 / 2 ^ 24) (qv m ex) ((mant : ℚ) * (10 : ℚ) ^ e) := by
  have := fmt32.close mant e hm hlt (by rw [len_pos32]; exact he) h3 h4
  rw [budget32] at this
  exact this

/-- binary64 `make_float`, overflow allowed: `mant·10^e ≥ 2^-1000` gives `+inf` or a finite positive datum within
    `22.5·2^-53` of `mant·10^e` -/
theorem makeFloat64_close_or_inf (mant : Nat) (e : Int) (hm : mant ≠ 0) (hlt : mant < 2 ^ 53) (he : e.natAbs < 512)
    (h3 : (2 : ℚ) ^ (-1000 : Int) ≤ (mant : ℚ) * (10 : ℚ) ^ e) :
    ∃ (r : Nat), makeFloat b64 pos64 neg64 (ofNat b64 mant) e = some r ∧
      AccOK b64 r (45 / 2 ^ 54) ((mant : ℚ) * (10 : ℚ) ^ e) := by
  have := fmt64.close_or_inf mant e hm hlt (by rw [len_pos64]; exact he) h3
  rw [budget64] at this
  exact this

/-- binary32 `make_float`, overflow allowed: `mant·10^e ≥ 2^-125` gives `+inf` or a finite positive datum within
    `15·2^-24` of `mant·10^e` -/
theorem makeFloat32_close_or_inf (mant : Nat) (e : Int) (hm : mant ≠ 0) (hlt : mant < 2 ^ 24) (he : e.natAbs < 64)
    (h3 : (2 : ℚ) ^ (-125 : Int) ≤ (mant : ℚ) * (10 : ℚ) ^ e) :
    ∃ (r : Nat), makeFloat b32 pos32 neg32 (ofNat b32 mant) e = some r ∧
      AccOK b32 r (15 / 2 ^ 24) ((mant : ℚ) * (10 : ℚ) ^ e) := by
  have := fmt32.close_or_inf mant e hm hlt (by rw [len_pos32]; exact he) h3
  rw [budget32] at this
  exact this

end C12
