/- What the slot-level MessagePack deserializers do to the READER: a property of readers that taking input keeps (`MD.RKeep`)
   is kept by `MDDF.parseVariant / readArray / readObject` for every filter, destination, document and allocator schedule
   (`MDDF.keep_all`), hence by the unfiltered routines (`MDD.keep_all`, through `MDDF.slot_all`). Instance: the reader stays
   inside the input (`MemQ`), so that no run consumes more bytes than the input has. -/
import AJ.Lemmas.MddBase
import AJ.Lemmas.MddStep
import AJ.Lemmas.MDPos
namespace MD
open JD (Byte)

/-- a property of readers that taking input keeps -/
structure RKeep (P : R → Prop) : Prop where
  read : ∀ r, P r → P r.read.2
  readBytes : ∀ r n, P r → P (r.readBytes n).2
  skipBytes : ∀ r n, P r → P (r.skipBytes n).2

/-- the reader after the size bytes, for the headers that carry one -/
def Hdr.rest : Hdr → Option R
  | .inc r | .arr _ r | .map _ r | .str _ r | .bin _ _ _ _ r => some r
  | _ => none

/-- the reader a classified header carries is the one `hdrOf_d4` leaves -/
theorem classify_rest (code : Byte) (r0 : R) :
    (classify code r0).rest = none ∨ (classify code r0).rest = some (hdrOf_d4 code.toNat r0).2 := by
  unfold classify dispatch
  simp only []
  iterate 7 refine of_ite (Q := fun h : Hdr => h.rest = none ∨ h.rest = some _) (fun _ => Or.inl rfl) (fun _ => ?_)
  generalize hdrOf_d4 code.toNat r0 = q
  obtain ⟨_ | ⟨hb, size⟩, r⟩ := q
  · exact Or.inr rfl
  simp only
  iterate 3 refine of_ite (Q := fun h : Hdr => h.rest = none ∨ h.rest = some _) (fun _ => Or.inr rfl) (fun _ => ?_)
  exact Or.inr rfl

theorem mem_readBytes_some {r r1 : R} {n : Nat} {bs : List Byte} (e : r.readBytes n = (some bs, r1)) :
    bs.length = n ∧ r1.pos = r.pos + n := by
  unfold R.readBytes at e
  split at e
  · rename_i h
    simp only [Prod.mk.injEq, Option.some.injEq] at e
    obtain ⟨rfl, rfl⟩ := e
    exact ⟨by simp only [List.length_take]; omega, rfl⟩
  · simp at e

/-- the size bytes of a header were consumed -/
theorem mem_hdr {c : Nat} {r0 r : R} {hb : List Byte} {size : Nat} (e : hdrOf_d4 c r0 = (some (hb, size), r)) :
    r0.pos + hb.length ≤ r.pos := by
  unfold hdrOf_d4 at e
  split at e
  · split at e
    · rename_i bs r' heq
      obtain ⟨hl, hp⟩ := mem_readBytes_some heq
      cases e
      omega
    · cases e
  · cases e
    exact Nat.le_refl _

/-- what `classify` guarantees besides the reader: an integer has a payload, a fixint is the header byte, the size bytes
    `hb` that a binary value is stored with were consumed -/
def Hdr.OK (code : Byte) (r0 : R) : Hdr → Prop
  | .int w _ => 1 ≤ w
  | .fix c => c = code.toNat
  | .bin _ _ hb _ r => r0.pos + hb.length ≤ r.pos
  | _ => True

theorem classify_ok (code : Byte) (r0 : R) : (classify code r0).OK code r0 := by
  unfold classify dispatch
  simp only []
  refine of_ite (Q := Hdr.OK code r0) (fun _ => Nat.one_le_two_pow) (fun _ => ?_)
  iterate 5 refine of_ite (Q := Hdr.OK code r0) (fun _ => trivial) (fun _ => ?_)
  refine of_ite (Q := Hdr.OK code r0) (fun _ => rfl) (fun _ => ?_)
  have hh := @mem_hdr code.toNat r0
  generalize hdrOf_d4 code.toNat r0 = q at hh
  obtain ⟨_ | ⟨hb, size⟩, r⟩ := q
  · trivial
  simp only
  iterate 3 refine of_ite (Q := Hdr.OK code r0) (fun _ => trivial) (fun _ => ?_)
  exact hh rfl

theorem RKeep.hdr {P : R → Prop} (hP : RKeep P) (c : Nat) {r0 : R} (h0 : P r0) : P (hdrOf_d4 c r0).2 := by
  unfold hdrOf_d4
  split
  · have := hP.readBytes r0 (szBytes c) h0
    generalize r0.readBytes (szBytes c) = q at this
    obtain ⟨_ | bs, r⟩ := q <;> exact this
  · exact h0

theorem RKeep.classify {P : R → Prop} (hP : RKeep P) (code : Byte) {r0 r : R} (h0 : P r0)
    (h : (classify code r0).rest = some r) : P r := by
  rcases classify_rest code r0 with e | e
  · rw [e] at h; cases h
  · rw [e] at h; cases h; exact hP.hdr _ h0

theorem RKeep.keyLen {P : R → Prop} (hP : RKeep P) (code : Byte) {r0 : R} (h0 : P r0) : P (keyLenOf_d3 code r0).2 := by
  unfold keyLenOf_d3
  simp only []
  split
  · exact h0
  · split
    · have := hP.readBytes r0 (2 ^ (code.toNat - 0xd9)) h0
      generalize r0.readBytes (2 ^ (code.toNat - 0xd9)) = q at this
      obtain ⟨_ | bs, r⟩ := q <;> exact this
    · exact h0

end MD

namespace MDD
open DL
open JD (Byte Code)
open MD (R Env Hdr RKeep)

variable {P : R → Prop}

theorem keep_readString (hP : RKeep P) (env : Env) (x : S) (n : Nat) (h0 : P x.r) : P (readString env x n).2.2.r := by
  unfold readString
  have h1 : P (reserve env.maxStrLen x n).2.r := by rw [(mp_reserve_spec _ x _).1.r]; exact h0
  generalize reserve env.maxStrLen x n = q at h1
  obtain ⟨_ | _, x1⟩ := q
  · exact h1
  · simp only
    have := hP.readBytes x1.r n h1
    generalize x1.r.readBytes n = q at this
    obtain ⟨_ | bs, r⟩ := q <;> exact this

theorem keep_leafInt (hP : RKeep P) (l : Loc) (w c : Nat) (x : S) (h0 : P x.r) : P (leafInt l w c x).2.1.r := by
  unfold leafInt
  have := hP.readBytes x.r w h0
  generalize x.r.readBytes w = q at this
  obtain ⟨_ | bs, r⟩ := q
  · exact this
  · simp only; split <;> exact this

theorem keep_leafF32 (hP : RKeep P) (l : Loc) (x : S) (h0 : P x.r) : P (leafF32 l x).2.1.r := by
  unfold leafF32
  have := hP.readBytes x.r 4 h0
  generalize x.r.readBytes 4 = q at this
  obtain ⟨_ | bs, r⟩ := q <;> exact this

theorem keep_leafF64 (hP : RKeep P) (l : Loc) (x : S) (h0 : P x.r) : P (leafF64 l x).2.1.r := by
  unfold leafF64
  have := hP.readBytes x.r 8 h0
  generalize x.r.readBytes 8 = q at this
  obtain ⟨_ | bs, r⟩ := q <;> exact this

theorem keep_leafStr (hP : RKeep P) (env : Env) (l : Loc) (size : Nat) (x : S) (h0 : P x.r) :
    P (leafStr env l size x).2.1.r := by
  unfold leafStr
  have := keep_readString hP env x size h0
  generalize readString env x size = q at this
  obtain ⟨c, bs, x1⟩ := q
  cases c <;> first | exact this | (show P (saveSet l .owned x1 bs).r; rw [saveSet_r, save_r]; exact this)

theorem keep_leafBin (hP : RKeep P) (env : Env) (l : Loc) (code : Byte) (sb : Nat) (ie : Bool) (hb : List Byte) (size : Nat)
    (x : S) (h0 : P x.r) : P (leafBin env l code sb ie hb size x).2.1.r := by
  unfold leafBin
  have h1 : P (reserve env.maxStrLen x (1 + sb + MD.binSize ie size)).2.r := by rw [(mp_reserve_spec _ x _).1.r]; exact h0
  generalize reserve env.maxStrLen x (1 + sb + MD.binSize ie size) = q at h1
  obtain ⟨_ | _, x1⟩ := q
  · exact h1
  · simp only
    have := hP.readBytes x1.r (MD.binSize ie size) h1
    generalize x1.r.readBytes (MD.binSize ie size) = q at this
    obtain ⟨_ | bs, r⟩ := q
    · exact this
    · show P (saveSet l .raw { x1 with r := r } (code :: hb ++ bs)).r
      rw [saveSet_r, save_r]; exact this

end MDD

namespace MDDF
open DL
open JD (Byte Code Flt)
open MD (R Env Hdr RKeep)
open MDD (S reserve save readString store fin)

variable {P : R → Prop}

theorem keep_skipN (hP : RKeep P) (x : S) (n : Nat) (h0 : P x.r) : P (skipN x n).2.r := by
  unfold skipN
  have := hP.skipBytes x.r n h0
  generalize x.r.skipBytes n = q at this
  obtain ⟨_ | _, r⟩ := q <;> exact this

theorem keep_elemSlot (ea : Option Loc) (x : S) (h0 : P x.r) : P (elemSlot ea x).2.r := by
  unfold elemSlot
  cases ea with
  | none => exact h0
  | some l => simp only; split <;> exact h0

theorem keep_memSlot (oa : Option Loc) (x : S) (key : List Byte) (h0 : P x.r) : P (memSlot oa x key).2.r := by
  unfold memSlot
  cases oa with
  | none => exact h0
  | some l => simp only; split <;> (show P (save x key).2.r; rw [MDD.save_r]; exact h0)

/-- the reader through the three filtered routines -/
theorem keep_all (hP : RKeep P) (env : Env) : ∀ fuel,
    (∀ limit flt dst x, P x.r → P (parseVariant env fuel limit flt dst x).2.1.r) ∧
    (∀ limit flt arr n x, P x.r → P (readArray env fuel limit flt arr n x).2.r) ∧
    (∀ limit flt obj n x, P x.r → P (readObject env fuel limit flt obj n x).2.r) := by
  intro fuel
  induction fuel with
  | zero =>
    exact ⟨fun _ _ _ _ h => by simp only [parseVariant]; exact h, fun _ _ _ _ _ h => by simp only [readArray]; exact h,
      fun _ _ _ _ _ h => by simp only [readObject]; exact h⟩
  | succ f ih =>
    obtain ⟨ihV, ihA, ihO⟩ := ih
    refine ⟨?_, ?_, ?_⟩
    · intro limit flt dst x h0
      rw [parseVariant_step]
      have h1 := hP.read x.r h0
      generalize x.r.read = rd at h1
      obtain ⟨_ | code, r0⟩ := rd
      · exact h1
      simp only at h1 ⊢
      have hr := fun r => hP.classify code (r := r) h1
      generalize gate flt.allowValue dst = av
      generalize MD.classify code r0 = hd at hr ⊢
      cases hd with
      | int w c =>
        cases av with
        | none => exact keep_skipN hP { x with r := r0 } w h1
        | some l => exact MDD.keep_leafInt hP l w c { x with r := r0 } h1
      | nil => exact h1
      | invalid => exact h1
      | bool c => cases av <;> exact h1
      | f32 =>
        cases av with
        | none => exact keep_skipN hP { x with r := r0 } 4 h1
        | some l => exact MDD.keep_leafF32 hP l { x with r := r0 } h1
      | f64 =>
        cases av with
        | none => exact keep_skipN hP { x with r := r0 } 8 h1
        | some l => exact MDD.keep_leafF64 hP l { x with r := r0 } h1
      | fix c => cases av <;> exact h1
      | inc r => exact hr r rfl
      | arr size r =>
        simp only [leaf, leafArr]
        cases limit with
        | zero => exact hr r rfl
        | succ limit' =>
          simp only
          cases gate flt.allowArray dst with
          | none => exact ihA limit' _ none size { x with r := r } (hr r rfl)
          | some l => exact ihA limit' _ (some l) size _ (hr r rfl)
      | map size r =>
        simp only [leaf, leafMap]
        cases limit with
        | zero => exact hr r rfl
        | succ limit' =>
          simp only
          cases gate flt.allowObject dst with
          | none => exact ihO limit' _ none size { x with r := r } (hr r rfl)
          | some l => exact ihO limit' _ (some l) size _ (hr r rfl)
      | str size r =>
        cases av with
        | none => exact keep_skipN hP { x with r := r } size (hr r rfl)
        | some l => exact MDD.keep_leafStr hP env l size { x with r := r } (hr r rfl)
      | bin sb ie hb size r =>
        cases av with
        | none => exact keep_skipN hP { x with r := r } _ (hr r rfl)
        | some l => exact MDD.keep_leafBin hP env l code sb ie hb size { x with r := r } (hr r rfl)
    · intro limit ef arr n x h0
      rw [readArray_succ]
      split
      · exact h0
      have h1 := keep_elemSlot (P := P) (gate ef.allow arr) x h0
      generalize elemSlot (gate ef.allow arr) x = q at h1
      obtain ⟨_ | dst, x1⟩ := q
      · exact h1
      simp only
      have h2 := ihV limit ef dst x1 h1
      generalize parseVariant env f limit ef dst x1 = q at h2
      obtain ⟨c, x2, fd⟩ := q
      cases c <;> first | exact h2 | exact ihA limit ef arr (n - 1) x2 h2
    · intro limit flt obj n x h0
      rw [readObject_succ]
      split
      · exact h0
      have h1 := hP.read x.r h0
      generalize x.r.read = rd at h1
      obtain ⟨_ | code, r0⟩ := rd
      · exact h1
      simp only at h1 ⊢
      have h2 := hP.keyLen code h1
      generalize MD.keyLenOf_d3 code r0 = kl at h2
      obtain ⟨_ | _ | len, r1⟩ := kl
      · exact h2
      · exact h2
      simp only [roKey]
      have h3 := MDD.keep_readString hP env { x with r := r1 } len h2
      generalize readString env { x with r := r1 } len = q at h3
      obtain ⟨c, key, x1⟩ := q
      cases c <;> try exact h3
      simp only
      have h4 := keep_memSlot (P := P) (gate (flt.subKey key).allow obj) x1 key h3
      generalize memSlot (gate (flt.subKey key).allow obj) x1 key = q at h4
      obtain ⟨_ | dst, x2⟩ := q
      · exact h4
      simp only [roVal]
      have h5 := ihV limit (flt.subKey key) dst x2 h4
      generalize parseVariant env f limit (flt.subKey key) dst x2 = q at h5
      obtain ⟨c, x3, fd⟩ := q
      cases c <;> first | exact h5 | exact ihO limit flt obj (n - 1) x3 h5

end MDDF

namespace MDD
open MD (R Env RKeep)

/-- the reader through the three unfiltered routines -/
theorem keep_all {P : R → Prop} (hP : RKeep P) (env : Env) (fuel : Nat) :
    (∀ limit l x, P x.r → P (parseVariant env fuel limit l x).2.1.r) ∧
    (∀ limit l n x, P x.r → P (readArray env fuel limit l n x).2.r) ∧
    (∀ limit l n x, P x.r → P (readObject env fuel limit l n x).2.r) := by
  obtain ⟨e1, e2, e3⟩ := MDDF.slot_all env fuel
  obtain ⟨k1, k2, k3⟩ := MDDF.keep_all hP env fuel
  exact ⟨fun limit l x h => by rw [e1]; exact k1 limit .all (some l) x h,
    fun limit l n x h => by rw [e2]; exact k2 limit .all (some l) n x h,
    fun limit l n x h => by rw [e3]; exact k3 limit .all (some l) n x h⟩

/-! ## The reader stays inside the input -/

/-- consumed + unread = length of the input -/
def MemQ (n : Nat) (r : R) : Prop := r.pos + r.unread.length = n

theorem memQ_keep (n : Nat) : RKeep (MemQ n) where
  read := fun r h => by
    unfold MD.R.read
    unfold MemQ at *
    split
    · exact h
    · rename_i c cs hu
      simp only [hu, List.length_cons] at h ⊢
      omega
  readBytes := fun r m h => (MD.q_readBytes (n := n) (k := n) m ⟨h, by unfold MemQ at h; omega⟩).1
  skipBytes := fun r m h => (MD.q_skipBytes (n := n) (k := n) m ⟨h, by unfold MemQ at h; omega⟩).1

end MDD
