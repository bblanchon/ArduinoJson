/- The pool list below its limits: while slot ids are left and the allocator does not refuse, `PL.allocSlot` hands out a
   slot (`PL.allocSlot_succeeds`), provided every pool owns a block of its nominal capacity (`PL.Nominal`); the ids handed
   out so far are then `0 … usage − 1` (`PL.allocatedIds_eq_range`).
   Used by AJ/Props/C19.lean, AJ/Lemmas/HistCorNominal.lean and AJ/Props/C19Geo.lean. -/
import AJ.Lemmas.PoolInv

namespace PL

/-- every pool owns a block of its nominal capacity -/
def Nominal (g : Geo) (s : St) : Prop :=
  ∀ i p, s.pools[i]? = some p → p.hasBlock = true ∧ p.cap = g.nomCap i

theorem failsAt_alloc (s : St) (n m : Nat) : (s.alloc n).2.failsAt m = s.failsAt m := rfl
theorem failsAt_realloc (s : St) (n m : Nat) (b : Bool) : (s.realloc n b).2.failsAt m = s.failsAt m := rfl

/-- the pool table can be grown when the oracle lets the next call through -/
theorem increaseCapacity_succeeds {g : Geo} {s : St} (hlt : s.tableCap < g.maxPools)
    (ho : s.failsAt (s.calls + 1) = false) :
    ∃ s1, increaseCapacity g s = (true, s1) ∧ s1.pools = s.pools ∧ s1.free = s.free ∧ s1.calls = s.calls + 1 ∧
      (∀ m, s1.failsAt m = s.failsAt m) := by
  unfold increaseCapacity
  rw [if_neg (by omega)]
  dsimp only
  -- only the success of the one allocator call matters, not the size asked for
  generalize (if (decide (g.wrap (s.tableCap * 2) > g.maxPools) || decide (g.wrap (s.tableCap * 2) < s.tableCap)) = true
    then g.maxPools else g.wrap (s.tableCap * 2)) = newCap
  have ha : (s.alloc (newCap * g.poolSize)).1 = true := by rw [alloc_fst, ho]; rfl
  have hr : (s.realloc (newCap * g.poolSize) true).1 = true := by rw [realloc_fst, ho]; rfl
  cases s.tableHeap with
  | false => rw [ha]; exact ⟨_, rfl, rfl, rfl, rfl, fun m => rfl⟩
  | true => rw [hr]; exact ⟨_, rfl, rfl, rfl, rfl, fun m => rfl⟩

/-- a new pool can be added below `maxPools` when the oracle lets the next two calls through: it owns a block of its
    nominal capacity -/
theorem addPool_succeeds {g : Geo} {s : St} (hlt : s.pools.length < g.maxPools)
    (ho1 : s.failsAt (s.calls + 1) = false) (ho2 : s.failsAt (s.calls + 2) = false) :
    ∃ s2, addPool g s = (true, s2) ∧ s2.pools = s.pools ++ [⟨g.nomCap s.pools.length, 0, true⟩] ∧ s2.free = s.free ∧
      (s.calls ≤ s2.calls ∧ s2.calls ≤ s.calls + 2) ∧ (∀ m, s2.failsAt m = s.failsAt m) := by
  have htab : ∃ s1, (if (s.pools.length == s.tableCap) = true then increaseCapacity g s else (true, s)) = (true, s1) ∧
      s1.pools = s.pools ∧ s1.free = s.free ∧ (s1.calls = s.calls ∨ s1.calls = s.calls + 1) ∧
      (∀ m, s1.failsAt m = s.failsAt m) := by
    split
    · rename_i he
      have he' : s.pools.length = s.tableCap := by simpa using he
      obtain ⟨s1, a, b, c, d, e⟩ := increaseCapacity_succeeds (g := g) (s := s) (by omega) ho1
      exact ⟨s1, a, b, c, Or.inr d, e⟩
    · exact ⟨s, rfl, rfl, rfl, Or.inl rfl, fun _ => rfl⟩
  obtain ⟨s1, hr, t1, t2, t3, t4⟩ := htab
  have hgot : (s1.alloc (g.nomCap s.pools.length * g.slotSize)).1 = true := by
    rw [alloc_fst, t4]
    rcases t3 with h | h <;> rw [h]
    · rw [ho1]; rfl
    · rw [ho2]; rfl
  rw [addPool_eq hlt hr t1, hgot]
  refine ⟨_, rfl, rfl, t2, ?_, fun m => t4 m⟩
  show s.calls ≤ s1.calls + 1 ∧ s1.calls + 1 ≤ s.calls + 2
  rcases t3 with h | h <;> omega

/-- every pool but the last is full and has `poolCap` slots: only the pool that reaches `maxPools` has another nominal
    capacity -/
theorem Nominal.inner_usage {g : Geo} {s : St} (hN : Nominal g s) (hI : Inv g s) :
    ∀ q ∈ s.pools.dropLast, q.usage = g.poolCap := by
  intro q hq
  obtain ⟨i, hi⟩ := List.mem_iff_getElem?.1 hq
  rw [List.getElem?_dropLast] at hi
  split at hi
  · rename_i hil
    have hlen := hI.len_max
    rw [hI.full_init q hq, (hN i q hi).2]
    unfold Geo.nomCap; rw [if_neg (by omega)]
  · cases hi

/-- pools of `c` slots that are full, except perhaps the last one, have handed out an interval of ids -/
theorem allocFrom_full {c : Nat} : ∀ (ps : List Pool) (i : Nat), (∀ q ∈ ps.dropLast, q.usage = c) →
    ∃ n, allocFrom c i ps = List.range' (i * c) n
  | [], _, _ => ⟨0, rfl⟩
  | [p], _, _ => ⟨p.usage, List.append_nil _⟩
  | p :: q :: ps, i, h => by
    obtain ⟨n, hn⟩ := allocFrom_full (q :: ps) (i + 1) (fun r hr => h r (List.mem_cons_of_mem _ hr))
    refine ⟨c + n, ?_⟩
    show List.range' (i * c) p.usage ++ allocFrom c (i + 1) (q :: ps) = _
    rw [hn, h p List.mem_cons_self, Nat.succ_mul, List.range'_append_1]

/-- while every pool has its nominal capacity, the ids handed out are `0 … usage − 1` -/
theorem allocatedIds_eq_range {g : Geo} {s : St} (hI : Inv g s) (hN : Nominal g s) :
    allocatedIds g s = List.range (usage s) := by
  obtain ⟨n, hn⟩ := allocFrom_full (c := g.poolCap) s.pools 0 (hN.inner_usage hI)
  have hl := length_allocatedIds g s
  unfold allocatedIds at hl ⊢
  rw [hn, List.length_range'] at hl
  rw [hn, hl, Nat.zero_mul, List.range_eq_range']

theorem foldl_usage_const (c : Nat) : ∀ (ps : List Pool) (a : Nat), (∀ q ∈ ps, q.usage = c) →
    ps.foldl (fun a p => a + p.usage) a = a + ps.length * c
  | [], a, _ => by simp
  | p :: ps, a, h => by
    simp only [List.foldl_cons, List.length_cons]
    rw [foldl_usage_const c ps _ (fun q hq => h q (List.mem_cons_of_mem _ hq)), h p List.mem_cons_self, Nat.add_mul]
    omega

/-- when every pool is full and owns a block of its nominal capacity: the slot count is `nullSlot` once `maxPools`
    pools exist, and `count · poolCap` before -/
theorem full_nominal_usage {g : Geo} {s : St} (hI : Inv g s) (hN : Nominal g s)
    (hfull : ∀ q ∈ s.pools, q.usage = q.cap) :
    (s.pools.length = g.maxPools → 1 ≤ g.maxPools → usage s = g.nullSlot) ∧
    (s.pools.length < g.maxPools → usage s = s.pools.length * g.poolCap) := by
  rcases List.eq_nil_or_concat s.pools with hp | ⟨ps, p, hp⟩
  · constructor
    · intro h1 h2; rw [hp] at h1; simp only [List.length_nil] at h1; omega
    · intro _; unfold usage; rw [hp]; simp
  · rw [List.concat_eq_append] at hp
    have hinner : ∀ q ∈ ps, q.usage = g.poolCap := by
      have := hN.inner_usage hI
      rw [hp, List.dropLast_concat] at this
      exact this
    have hlast : s.pools[ps.length]? = some p := by rw [hp]; exact List.getElem?_concat_length
    have hpu : p.usage = g.nomCap ps.length := by
      rw [hfull p (by rw [hp]; simp), (hN _ p hlast).2]
    have hu : usage s = ps.length * g.poolCap + p.usage := by
      unfold usage
      rw [hp, List.foldl_append, foldl_usage_const g.poolCap ps 0 hinner]; simp
    have hfit := (hI.pools_ok ps.length p hlast).2.2
    have hcap : p.cap = g.nomCap ps.length := (hN _ p hlast).2
    rw [hp, List.length_append, List.length_singleton]
    constructor
    · intro h1 _
      rw [hu, hpu]; rw [hcap] at hfit
      unfold Geo.nomCap at hfit ⊢
      rw [if_pos h1] at hfit ⊢
      have : g.maxPools - 1 = ps.length := by omega
      rw [this] at hfit ⊢
      omega
    · intro h1
      rw [hu, hpu]; unfold Geo.nomCap; rw [if_neg (by omega), Nat.add_mul]; omega

theorem Nominal.snoc {g : Geo} {ps : List Pool} {q : Pool}
    (h : ∀ i p, ps[i]? = some p → p.hasBlock = true ∧ p.cap = g.nomCap i)
    (hq : q.hasBlock = true ∧ q.cap = g.nomCap ps.length) :
    ∀ i p, (ps ++ [q])[i]? = some p → p.hasBlock = true ∧ p.cap = g.nomCap i := by
  intro i p hp
  rcases (getElem?_snoc ps q p i).1 hp with h1 | ⟨h1, h2⟩
  · exact h i p h1
  · subst h1 h2; exact hq

/-- a slot taken from the last pool leaves the capacities and blocks as they are -/
theorem allocFromLastPool_nominal {g : Geo} {s s' : St} {id : Nat} (hN : Nominal g s)
    (h : allocFromLastPool g s = (some id, s')) : Nominal g s' := by
  obtain ⟨ps, p, hs, _, _, _, rfl⟩ := allocFromLastPool_some h
  have hN' : ∀ i q, (ps ++ [p])[i]? = some q → q.hasBlock = true ∧ q.cap = g.nomCap i := hs ▸ hN
  exact Nominal.snoc (fun i q hq => hN' i q ((getElem?_snoc ps p q i).2 (Or.inl hq)))
    (hN' ps.length p List.getElem?_concat_length)

/-- BELOW THE LIMIT, `allocSlot` SUCCEEDS. Invariant `Inv`; every pool owns a block of nominal capacity (`Nominal`: no
    block allocation failed before, no `shrink`); the geometry allows at least one pool; fewer than `nullSlot` slots are
    live; the allocator oracle lets the next two calls through (at most two are made: pool table, pool block). Then
    `allocSlot` returns a slot, and `Nominal` is kept. -/
theorem allocSlot_succeeds {g : Geo} {s : St} (gok : GeoOK g) (hI : Inv g s) (hN : Nominal g s) (hM : 1 ≤ g.maxPools)
    (hlim : (liveIds g s).length < g.nullSlot) (ho1 : s.failsAt (s.calls + 1) = false)
    (ho2 : s.failsAt (s.calls + 2) = false) :
    ∃ id s', allocSlot g s = (some id, s') ∧ Nominal g s' ∧ (s.calls ≤ s'.calls ∧ s'.calls ≤ s.calls + 2) ∧
      (∀ m, s'.failsAt m = s.failsAt m) := by
  refine allocSlot_cases (Q := fun r => ∃ id s', r = (some id, s') ∧ Nominal g s' ∧
    (s.calls ≤ s'.calls ∧ s'.calls ≤ s.calls + 2) ∧ ∀ m, s'.failsAt m = s.failsAt m) ?_ ?_ ?_
  · intro id rest _
    exact ⟨id, _, rfl, hN, ⟨Nat.le_refl _, Nat.le_add_right _ _⟩, fun _ => rfl⟩
  · intro id s1 _ hr1
    have hN1 := allocFromLastPool_nominal hN hr1
    obtain ⟨_, _, _, _, _, _, rfl⟩ := allocFromLastPool_some hr1
    exact ⟨id, _, rfl, hN1, ⟨Nat.le_refl _, Nat.le_add_right _ _⟩, fun _ => rfl⟩
  · intro ok s2 hf hfull hr2
    have hu : usage s < g.nullSlot := by
      have := hI.liveIds_length; rw [hf] at this; simp only [List.length_nil] at this; omega
    obtain ⟨hA, hB⟩ := full_nominal_usage hI hN (hI.all_full hfull)
    have hlt : s.pools.length < g.maxPools := by
      rcases Nat.lt_or_ge s.pools.length g.maxPools with h | h
      · exact h
      · have := hA (Nat.le_antisymm hI.len_max h) hM; omega
    have hun := hB hlt
    obtain ⟨s2', ha, hp2, hf2, hc2, ho⟩ := addPool_succeeds hlt ho1 ho2
    cases ha.symm.trans hr2
    have hpos : 0 < g.nomCap s.pools.length := by
      unfold Geo.nomCap
      split
      · rename_i he
        have : g.maxPools - 1 = s.pools.length := by omega
        rw [this]; omega
      · exact gok.pool_pos
    unfold allocFromLastPool
    rw [hp2]
    simp only [List.getLast?_append, List.getLast?_singleton, Option.some_or, Bool.not_true, Bool.false_eq_true,
      if_false, ge_iff_le, Nat.le_zero_eq, Nat.ne_of_gt hpos, List.dropLast_concat]
    exact ⟨_, _, rfl, Nominal.snoc hN ⟨rfl, rfl⟩, hc2, ho⟩

/-- a successful allocation makes exactly one more slot live -/
theorem liveIds_length_alloc {g : Geo} {s s' : St} {id : Nat} (gok : GeoOK g) (hI : Inv g s)
    (h : allocSlot g s = (some id, s')) : (liveIds g s').length = (liveIds g s).length + 1 := by
  obtain ⟨_, hnl, hlv, hI'⟩ := allocSlot_some gok hI h
  have hnd : (id :: liveIds g s).Nodup := List.nodup_cons.2 ⟨fun m => hnl ((mem_liveIds g s id).1 m), hI.liveIds_nodup⟩
  have hp : List.Perm (liveIds g s') (id :: liveIds g s) := by
    rw [List.perm_ext_iff_of_nodup hI'.liveIds_nodup hnd]
    intro x
    rw [mem_liveIds, hlv, List.mem_cons, mem_liveIds]
    exact Or.comm
  rw [hp.length_eq]; rfl

theorem Nominal_of_no_pools {g : Geo} {s : St} (h : s.pools = []) : Nominal g s := by
  intro i p hp; rw [h] at hp; cases hp

end PL
