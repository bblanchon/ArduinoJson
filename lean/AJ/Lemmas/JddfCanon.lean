/- Canonical storage of the documents left by the slot-level deserializers `JDDF.run` (filtered, AJ/Model/JDDF.lean) and,
   through the allow-all filter (`.all`), `JDD.run`.  These are the side conditions of the memory comparison of AJ/Props/C11Mem.lean:
   * `Kept c d` (cell-global, every path, failures included, any start document): every integer stored inline fits 32 bits
     (`AllV inlineSmallV`), no string is linked (`AllV notLinkedV`: the parser copies every string), and the per-node overhead
     `strOverhead` is the one of the start document.  Pushed through `parseVariant / parseElems / parseMembers` by an induction
     on the fuel that only looks at the document (`st_all` of AJ/Lemmas/JddfDStep.lean), like `BytesNodup` in
     AJ/Lemmas/JddfExact.lean.
   * `ExtBig d F'` (an extension slot is spent only on an integer that needs one) is NOT cell-global (it reads the payload
     of the extension slot a value refers to, so it needs to know that this slot is not reused or released behind its back):
     its step relation `ES` is closed under the builder's operations (`fstep_extBig`), and the `Built`-based induction
     `parse_all` of AJ/Lemmas/JddfInv.lean is taken at the conjunction of `TS` (for `Tight`, AJ/Lemmas/JddfExact.lean) and
     `ES`, so that both hold FOR THE SAME LAYOUT of the result (`run_canon`).  `ES` is unconditional (no hypothesis on the
     allocator: a failed allocation stores nothing), `TS` needs "no allocation failed". -/
import AJ.Lemmas.JddfExact
import AJ.Lemmas.DocSize
import AJ.Lemmas.DocAlloc
namespace JDDF
open DL JDD
open JD (Byte Code Cfg Flt cur mv skipSpaces skipKeyword skipVariant skipElems skipMembers skipQuoted skipNumeric)
open DocSize (AllV PColl inlineSmallV notLinkedV extBigV extBigV_ext ExtBig InlineSmall NoLinked pcoll_inlineSmall pcoll_notLinked)

/-! ## Part 1: the cell-global facts -/

/-- what holds of every cell of a document under deserialization, and of its string overhead `c` -/
structure Kept (c : Nat) (d : Doc) : Prop where
  small : AllV inlineSmallV d
  nolink : AllV notLinkedV d
  ovh : d.strOverhead = c

theorem Kept.of_cells {c : Nat} {d d' : Doc} (hc : d'.cells = d.cells) (hr : d'.root = d.root)
    (ho : d'.strOverhead = d.strOverhead) (k : Kept c d) : Kept c d' :=
  ⟨k.small.of_cells hc hr, k.nolink.of_cells hc hr, ho.trans k.ovh⟩

theorem Kept.pleq {c : Nat} {d d' : Doc} (h : PlEq d d') (k : Kept c d) : Kept c d' := k.of_cells h.cells h.root h.ovh

theorem Kept.set {c : Nat} {d : Doc} (k : Kept c d) (l : Loc) {v : VData} (h1 : inlineSmallV v = true)
    (h2 : notLinkedV v = true) : Kept c (d.set l v) :=
  ⟨k.small.set l h1, k.nolink.set l h2, (set_strOverhead _ _ _).trans k.ovh⟩

theorem Kept.save {c : Nat} {x : S} (k : Kept c x.d) (bytes : List Byte) : Kept c (save x bytes).2.d :=
  k.of_cells (save_spec x bytes).cells (save_spec x bytes).root (save_spec x bytes).ovh

theorem Kept.addElement {c : Nat} {d : Doc} (k : Kept c d) (l : Loc) : Kept c (d.addElement l).2 :=
  ⟨k.small.addElement pcoll_inlineSmall l, k.nolink.addElement pcoll_notLinked l, (sameId_addElement d l).2.1.trans k.ovh⟩

theorem Kept.clearV {c : Nat} {d : Doc} (k : Kept c d) (l : Loc) : Kept c (d.clearV l) :=
  ⟨k.small.clearV pcoll_inlineSmall l, k.nolink.clearV pcoll_notLinked l, (sameId_clearV d l).2.1.trans k.ovh⟩

theorem Kept.allocVariant {c : Nat} {d : Doc} (k : Kept c d) : Kept c d.allocVariant.2 :=
  ⟨k.small.allocVariant pcoll_inlineSmall, k.nolink.allocVariant pcoll_notLinked, (sameId_allocVariant d).2.1.trans k.ovh⟩

theorem Kept.appendPair {c : Nat} {d : Doc} (k : Kept c d) (l : Loc) (a b : Nat) : Kept c (d.appendPair l a b) :=
  ⟨k.small.appendPair pcoll_inlineSmall l a b, k.nolink.appendPair pcoll_notLinked l a b,
    (sameId_appendPair d l a b).2.1.trans k.ovh⟩

theorem Kept.addMemberNode {c : Nat} {d : Doc} (k : Kept c d) (l : Loc) (node : Nat) : Kept c (addMemberNode d l node).2 := by
  rcases addMemberNode_cases d l node with ⟨d1, hal1, e⟩ | ⟨a, d1, d2, hal1, hal2, e⟩ | ⟨a, d1, v, d2, hal1, hal2, e⟩
  · rw [e]; have := k.allocVariant; rw [hal1] at this; exact this
  · rw [e]
    have h1 := k.allocVariant; rw [hal1] at h1
    have h2 := h1.allocVariant; rw [hal2] at h2
    exact h2
  · rw [e]
    have h1 := k.allocVariant; rw [hal1] at h1
    have h2 := h1.allocVariant; rw [hal2] at h2
    exact (h2.set (.slot a) (v := .owned node) rfl rfl).appendPair l a v

theorem Kept.setArg_num {c : Nat} {d : Doc} (k : Kept c d) (l : Loc) {a : Arg} (ha : isNum a) : Kept c (d.setArg l a).2 :=
  ⟨k.small.setArg_inlineSmall l a, k.nolink.setArg_notLinked l a (fun s e => by subst e; exact ha),
    (sameId_setArg d l a).2.1.trans k.ovh⟩

/-- the step `d → d'` keeps `Kept` -/
def KS (c : Nat) (d d' : Doc) : Prop := Kept c d → Kept c d'

theorem dstep_kept (c : Nat) : DStep (KS c) where
  refl := fun _ h => h
  trans := fun h1 h2 h => h2 (h1 h)
  pleq := fun h k => k.pleq h
  set_bool := fun _ l _ k => k.set l rfl rfl
  set_owned := fun _ l _ k => k.set l rfl rfl
  set_arr := fun _ l _ _ k => k.set l rfl rfl
  set_obj := fun _ l _ _ k => k.set l rfl rfl
  setArg := fun _ l _ ha k => k.setArg_num l ha
  save := fun _ bytes k => k.save bytes
  addElement := fun _ l k => k.addElement l
  addMemberNode := fun _ l node k => k.addMemberNode l node
  clearV := fun _ l k => k.clearV l

theorem clearAll_kept (d : Doc) : Kept d.strOverhead d.clearAll :=
  ⟨AllV.clearAll pcoll_inlineSmall d, AllV.clearAll pcoll_notLinked d, rfl⟩

/-- EVERY run, from any document, under any filter and allocator schedule: the document left stores every inline integer in
    32 bits, holds no linked string, and has the string overhead of the start document -/
theorem run_kept (cfg : Cfg) (limit : Nat) (flt : Flt) (d : Doc) (input : List Byte) :
    Kept d.strOverhead (run cfg limit flt d input).2.1 := by
  have h := (st_all (dstep_kept d.strOverhead) cfg (2 * input.length + 4)).1 limit flt .root (start d input) (clearAll_kept d)
  have h1 : Kept d.strOverhead (stop cfg limit flt d input).2.d := h
  have h2 := h1.pleq (preShrink_pleq cfg limit flt d input).1
  rw [run_eq]
  exact Kept.of_cells (d := preShrink cfg limit flt d input) rfl rfl rfl h2

/-! ## Part 2: `ExtBig` along the document operations of the deserializer -/

theorem extBigV_cells {d d' : Doc} {v : VData} (h : ∀ e ∈ extOfV v, d'.cell e = d.cell e) : extBigV d' v = extBigV d v :=
  extBigV_ext (fun e he => extOf_of_cell (h e he))

/-- … hence only the scalar read in the cell -/
theorem extBigV_scalar {d d' : Doc} {v : VData} (h : d'.scalar v = d.scalar v) : extBigV d' v = extBigV d v := by
  cases v <;> first | rfl | skip
  case i64 s =>
    simp only [Doc.scalar, JD.Val.num.injEq, JD.Num.sint.injEq] at h
    simp only [extBigV, h]
  case u64 s =>
    simp only [Doc.scalar, JD.Val.num.injEq, JD.Num.uint.injEq] at h
    simp only [extBigV, h]

theorem extBigV_coll {d : Doc} {v : VData} (h : isColl v) : extBigV d v = true := by
  cases v <;> first | rfl | exact h.elim

/-- the general step: every holder of the new layout is an old holder that reads the same, or is canonical anyway -/
theorem ExtBig.transfer {d d' : Doc} {G G' : Forest}
    (h : ∀ l ∈ holders G', (l ∈ holders G ∧ d'.get l = d.get l ∧ extBigV d' (d.get l) = extBigV d (d.get l)) ∨
      extBigV d' (d'.get l) = true) (e : ExtBig d G) : ExtBig d' G' := by
  intro l hl
  rcases h l hl with ⟨h1, h2, h3⟩ | h1
  · rw [h2, h3]; exact e l h1
  · exact h1

/-- allocator traffic is not seen -/
theorem ExtBig.pleq {d d' : Doc} {G : Forest} (h : PlEq d d') (e : ExtBig d G) : ExtBig d' G :=
  ExtBig.transfer (fun l hl => Or.inl ⟨hl, h.get l, extBigV_cells (fun x _ => h.cell x)⟩) e

/-- nor is a change of the pools that keeps the cells -/
theorem ExtBig.of_cells {d d' : Doc} {G : Forest} (hc : d'.cells = d.cells) (hr : d'.root = d.root) (e : ExtBig d G) :
    ExtBig d' G :=
  ExtBig.transfer (fun l hl => Or.inl ⟨hl, DocSize.get_of_cells hc hr l,
    extBigV_cells (fun x _ => by simp only [Doc.cell, hc])⟩) e

/-- the pool grew (or an allocation failed): the live cells are the same -/
theorem ExtBig.grow {d d' : Doc} {G : Forest} (w : WFG d G) (h : Grow d d') (e : ExtBig d G) : ExtBig d' G := by
  refine ExtBig.transfer (fun l hl => Or.inl ⟨hl, ?_, extBigV_cells (fun x hx => h.cells x (w.ext l hl x hx).2.1)⟩) e
  rcases mem_holders.1 hl with e' | ⟨x, hx, e'⟩
  · subst e'; exact h.root
  · subst e'; exact get_of_cell (h.cells x (w.live x hx))

/-- the root of a document that has slots is a collection -/
theorem root_isColl {d : Doc} {G : Forest} (w : WFG d G) {i : Nat} (hi : i ∈ G.ids) : isColl d.root := by
  have hne : G ≠ .nil := by intro e; subst e; cases hi
  obtain ⟨_, _, _, hc⟩ := VOK_coll_of_ne_nil w.root hne
  exact hc

/-- storing `v` at the location `l`, possibly after allocator traffic / an allocation (`d → d1`) that keeps what the
    other holders read -/
theorem ExtBig.set_gen {d d1 : Doc} {G : Forest} {l : Loc} {v : VData} (w : WFG d G) (hl : isLoc G l)
    (hget : ∀ l0 ∈ holders G, l0 ≠ l → d1.get l0 = d.get l0)
    (hsc : ∀ l0 ∈ holders G, l0 ≠ l → ∀ x ∈ extOfV (d.get l0), d1.cell x = d.cell x)
    (hv : extBigV (d1.set l v) v = true) (e : ExtBig d G) : ExtBig (d1.set l v) G := by
  refine ExtBig.transfer (fun l0 h0 => ?_) e
  by_cases e' : l0 = l
  · subst e'; exact Or.inr (by rw [get_set_self]; exact hv)
  · refine Or.inl ⟨h0, by rw [get_set_ne e']; exact hget l0 h0 e', extBigV_cells (fun x hx => ?_)⟩
    have hxl : Loc.slot x ≠ l := by
      intro e2
      obtain ⟨⟨p, hp⟩, _, _⟩ := w.ext l0 h0 x hx
      exact ext_ne_var hp (w.isVar x (isLoc_ids (e2 ▸ hl))) rfl
    rw [cell_set_ne hxl]; exact hsc l0 h0 e' x hx

/-- a value without extension slot -/
theorem ExtBig.set_plain {d : Doc} {G : Forest} {l : Loc} {v : VData} (w : WFG d G) (hl : isLoc G l)
    (hv : extOfV v = []) (e : ExtBig d G) : ExtBig (d.set l v) G :=
  ExtBig.set_gen w hl (fun _ _ _ => rfl) (fun _ _ _ _ _ => rfl)
    (by cases v <;> first | rfl | (simp [extOfV] at hv)) e

/-- a string value: `save`, then the node is stored -/
theorem ExtBig.save_set {x : S} {G : Forest} {l : Loc} (bytes : List Byte) (w : WFG x.d G) (hl : isLoc G l)
    (e : ExtBig x.d G) : ExtBig ((save x bytes).2.d.set l (.owned (save x bytes).1)) G := by
  have sv := save_spec x bytes
  exact ExtBig.set_gen w hl (fun l0 _ _ => DocSize.get_of_cells sv.cells sv.root l0)
    (fun _ _ _ y _ => by simp only [Doc.cell, sv.cells]) rfl e

theorem ExtBig.save {x : S} {G : Forest} (bytes : List Byte) (e : ExtBig x.d G) : ExtBig (save x bytes).2.d G :=
  ExtBig.of_cells (save_spec x bytes).cells (save_spec x bytes).root e

/-- `parseNumericValue`'s store: an extension slot is allocated only for an integer outside the 32-bit range (or for a
    double), and a failed allocation stores nothing -/
theorem ExtBig.setArg_num {d : Doc} {G : Forest} {l : Loc} {a : Arg} (w : WFG d G) (hl : isLoc G l)
    (gok : PL.GeoOK d.g) (ha : isNum a) (e : ExtBig d G) : ExtBig (d.setArg l a).2 G := by
  have inplace : ∀ v, extOfV v = [] → ExtBig (d.set l v) G := fun v hv => ExtBig.set_plain w hl hv e
  have ext : ∀ (p : Int) (k : Nat → VData), (∀ (d' : Doc) (s : Nat), d'.extOf s = p → extBigV d' (k s) = true) →
      ExtBig (match d.allocExt p with | (some s, d) => (true, d.set l (k s)) | (none, d) => (false, d)).2 G := by
    intro p k hk
    generalize hal : d.allocExt p = r
    obtain ⟨m, d1⟩ := r
    cases m with
    | none => exact ExtBig.grow w (allocExt_none gok w.pool hal).1 e
    | some s =>
      obtain ⟨hg, _, hc, hnl, _⟩ := allocExt_some gok w.pool hal
      refine ExtBig.set_gen w hl (fun l0 h0 _ => ?_) (fun l0 h0 _ y hy => hg.cells y (w.ext l0 h0 y hy).2.1) ?_ e
      · rcases mem_holders.1 h0 with e' | ⟨y, hy, e'⟩
        · subst e'; exact hg.root
        · subst e'; exact get_of_cell (hg.cells y (w.live y hy))
      · refine hk _ s ?_
        have hsl : Loc.slot s ≠ l := fun e2 => hnl (w.live s (isLoc_ids (e2 ▸ hl)))
        simp only [Doc.extOf, cell_set_ne hsl, hc]
  cases a with
  | uint v =>
    simp only [Doc.setArg]
    split
    · exact inplace _ rfl
    · rename_i hc
      refine ext v .u64 (fun d' s hs => ?_)
      simp only [extBigV, hs, Int.toNat_natCast, Bool.not_eq_true', decide_eq_false_iff_not]
      exact hc
  | sint v =>
    simp only [Doc.setArg]
    split
    · exact inplace _ rfl
    · rename_i hc
      refine ext v .i64 (fun d' s hs => ?_)
      simp only [extBigV, hs, Bool.not_eq_true', decide_eq_false_iff_not]
      exact hc
  | f32 b => exact inplace _ rfl
  | f64 b =>
    simp only [Doc.setArg]
    split
    · exact inplace _ rfl
    · exact ext b .f64 (fun _ _ _ => rfl)
  | null => exact absurd ha (fun h => h)
  | bool _ => exact absurd ha (fun h => h)
  | strLinked _ => exact absurd ha (fun h => h)
  | strCopied _ => exact absurd ha (fun h => h)
  | raw _ => exact absurd ha (fun h => h)

/-! ### steps inside the collection being built at `l` -/

/-- the general step inside the collection at `l`: the slots of the new layout of `l` are old ones that read the same, or
    canonical anyway; so is `l` -/
theorem ExtBig.built_step {d0 d d' : Doc} {F : Forest} {l : Loc} {s s' : Forest} (C : Ctx d0 F l) (B : Built d0 F l d s)
    (B' : Built d0 F l d' s')
    (hs : ∀ j ∈ s'.ids, (j ∈ s.ids ∧ d'.get (.slot j) = d.get (.slot j) ∧
        d'.scalar (d.get (.slot j)) = d.scalar (d.get (.slot j))) ∨ extBigV d' (d'.get (.slot j)) = true)
    (hl : extBigV d' (d'.get l) = true) (e : ExtBig d (replaceAt F l s)) : ExtBig d' (replaceAt F l s') := by
  refine ExtBig.transfer (fun l0 h0 => ?_) e
  by_cases e' : l0 = l
  · subst e'; exact Or.inr hl
  · rcases mem_holders.1 h0 with e1 | ⟨x, hx, e1⟩
    · subst e1
      -- the root, when `l` is a slot: a collection
      right
      cases l with
      | root => exact absurd rfl e'
      | slot i =>
        have hi : i ∈ (replaceAt F (.slot i) s').ids := (C.mem_ids s' i).2 (Or.inl (isLoc_ids C.loc))
        exact extBigV_coll (root_isColl B'.wf hi)
    · subst e1
      rcases (C.mem_ids s' x).1 hx with hF | hS
      · refine Or.inl ⟨mem_holders.2 (Or.inr ⟨x, (C.mem_ids s x).2 (Or.inl hF), rfl⟩), ?_, extBigV_scalar ?_⟩
        · exact get_of_cell ((B'.cells x hF e').trans (B.cells x hF e').symm)
        · rw [B.get_old hF e', B'.scal x hF e', B.scal x hF e']
      · rcases hs x hS with ⟨h1, h2, h3⟩ | h1
        · exact Or.inl ⟨mem_holders.2 (Or.inr ⟨x, (C.mem_ids s x).2 (Or.inr h1), rfl⟩), h2, extBigV_scalar h3⟩
        · exact Or.inr h1

/-- a null element appended to the array being built at `l` -/
theorem ExtBig.addElement {d0 d d1 : Doc} {F : Forest} {l : Loc} {s : Forest} {h t id : Nat} (C : Ctx d0 F l)
    (B : Built d0 F l d s) (hv : d.get l = .arr h t) (he : d.addElement l = (some id, d1))
    (e : ExtBig d (replaceAt F l s)) : ExtBig d1 (replaceAt F l (s.snoc none id)) := by
  obtain ⟨B1, hgn, ⟨h', hgl⟩, _, _, _, _, _, hsame⟩ := B.addElement_some C hv he
  refine ExtBig.built_step C B B1 (fun j hj => ?_) (by rw [hgl]; rfl) e
  rw [Forest.ids_snoc] at hj
  simp only [Forest.keyL, List.nil_append, List.mem_append, List.mem_singleton] at hj
  rcases hj with hj | hj
  · exact Or.inl ⟨hj, (hsame j hj).1, (hsame j hj).2⟩
  · subst hj; exact Or.inr (by rw [hgn]; rfl)

theorem addElement_none_grow {d d1 : Doc} {l : Loc} (gok : PL.GeoOK d.g) (hp : PL.Inv d.g d.pl)
    (h : d.addElement l = (none, d1)) : Grow d d1 := by
  simp only [Doc.addElement] at h
  generalize hal : d.allocVariant = r at h
  obtain ⟨m, da⟩ := r
  cases m with
  | some id => simp at h
  | none =>
    simp only [Prod.mk.injEq, true_and] at h; subst h
    exact (allocVariant_none gok hp hal).1

theorem addMemberNode_none_grow {d : Doc} {l : Loc} {node : Nat} (gok : PL.GeoOK d.g) (hp : PL.Inv d.g d.pl)
    (h : (addMemberNode d l node).1 = none) : Grow d (addMemberNode d l node).2 := by
  rcases addMemberNode_cases d l node with ⟨d1, hal1, e⟩ | ⟨k, d1, d2, hal1, hal2, e⟩ | ⟨k, d1, v, d2, hal1, hal2, e⟩
  · rw [e]; exact (allocVariant_none gok hp hal1).1
  · rw [e]
    obtain ⟨hg1, _⟩ := allocVariant_some gok hp hal1
    have gok1 : PL.GeoOK d1.g := by rw [hg1.g]; exact gok
    exact hg1.trans (allocVariant_none gok1 hg1.pool hal2).1
  · rw [e] at h; cases h

/-- the member `(key, null)` appended to the object being built at `l`: from the state after `save` to the state after
    `addMember` succeeded -/
theorem ExtBig.addMemberNode {d0 d d2 : Doc} {F : Forest} {l : Loc} {s : Forest} {v k0 node : Nat} (C : Ctx d0 F l)
    (B : Built d0 F l d s) (B2 : Built d0 F l d2 (s.snoc (some k0) v)) (hgv : d2.get (.slot v) = .null)
    (hgl : ∃ h', d2.get l = .obj h' v) (hsame : SameV d d2 s.ids) (hgk : d2.get (.slot k0) = .owned node)
    (e : ExtBig d (replaceAt F l s)) : ExtBig d2 (replaceAt F l (s.snoc (some k0) v)) := by
  obtain ⟨h', hgl⟩ := hgl
  refine ExtBig.built_step C B B2 (fun j hj => ?_) (by rw [hgl]; rfl) e
  rw [Forest.ids_snoc] at hj
  simp only [Forest.keyL, List.cons_append, List.nil_append, List.mem_append, List.mem_cons, List.not_mem_nil,
    or_false] at hj
  rcases hj with hj | hj | hj
  · exact Or.inl ⟨hj, (hsame j hj).1, (hsame j hj).2⟩
  · subst hj; exact Or.inr (by rw [hgk]; rfl)
  · subst hj; exact Or.inr (by rw [hgv]; rfl)

/-! ### `clearV` (an existing member is cleared before it is parsed again) -/

theorem ExtBig.clearV {d : Doc} {G : Forest} {l : Loc} (w : WFG d G) (hs : StrOK d (d.strRefs G)) (hl : isLoc G l)
    (e : ExtBig d G) : ExtBig (d.clearV l) (replaceAt G l .nil) := by
  obtain ⟨gn, _, gr, gc, _⟩ := clearV_good w hs hl
  obtain ⟨w', _, _, _⟩ := clearV_spec w hs hl
  refine ExtBig.transfer (fun l0 h0 => ?_) e
  by_cases e' : l0 = l
  · subst e'; exact Or.inr (by rw [gn]; rfl)
  · rcases mem_holders.1 h0 with e1 | ⟨x, hx, e1⟩
    · subst e1
      right
      cases l with
      | root => exact absurd rfl e'
      | slot i =>
        have hi : i ∈ (replaceAt G (.slot i) .nil).ids :=
          (mem_ids_cleared w.nodup hl i).2 ⟨isLoc_ids hl, self_notin_layoutAt w.nodup i⟩
        exact extBigV_coll (root_isColl w' hi)
    · subst e1
      obtain ⟨hxG, hxs⟩ := (mem_ids_cleared w.nodup hl x).1 hx
      have hg := gc x hxG e' hxs
      exact Or.inl ⟨mem_holders.2 (Or.inr ⟨x, hxG, rfl⟩), get_of_cell hg.1, extBigV_scalar hg.2⟩

/-- clearing the member value slot `v` of the object being built at `l` -/
theorem ExtBig.clear_member {d0 d : Doc} {F : Forest} {l : Loc} {s : Forest} {v : Nat} (C : Ctx d0 F l)
    (B : Built d0 F l d s) (hv : v ∈ s.locs) (e : ExtBig d (replaceAt F l s)) :
    ExtBig (d.clearV (.slot v)) (replaceAt F l (s.replaceSub v .nil)) := by
  have hvF : v ∉ F.ids := B.fresh v (s.locs_sub_ids v hv)
  have hlv : isLoc (replaceAt F l s) (.slot v) := isLoc_replaceAt_new C.loc hv
  have := ExtBig.clearV B.wf B.str hlv e
  rw [replaceAt_nest s .nil hvF] at this
  exact this

theorem clearAll_extBig (d : Doc) : ExtBig d.clearAll .nil := by
  intro l hl
  have : l = .root := by simpa [holders, Forest.ids] using hl
  subst this; rfl

/-! ## Part 3: `Tight` and `ExtBig` for the same layout -/

/-- the step `(d, G) → (d', G')` keeps `ExtBig` - unconditionally -/
def ES (d : Doc) (G : Forest) (d' : Doc) (G' : Forest) : Prop := ExtBig d G → ExtBig d' G'

theorem fstep_extBig : FStep ES where
  refl := fun _ _ e => e
  trans := fun h1 h2 _ e => h2 (h1 e)
  pleq := fun _ h e => ExtBig.pleq h e
  set_plain := fun w hl _ _ he e => ExtBig.set_plain w hl he e
  save_set := fun bytes w _ hl _ e => ExtBig.save_set bytes w hl e
  setArg_num := fun w _ hl _ gok ha _ e => ExtBig.setArg_num w hl gok ha e
  addElement := fun C B hv he e => ExtBig.addElement C B hv he e
  addElement_none := fun C B he _ e => ExtBig.grow B.wf (addElement_none_grow (B.gok C) B.wf.pool he) e
  clear_member := fun C B hv e => ExtBig.clear_member C B hv e
  addMember := fun {_ _ _ _ x _ _ _ _ _} key C B _ _ B2 hgv hgl hs hgk _ _ _ e =>
    ExtBig.addMemberNode C (B.save C (save_spec x key)).1 B2 hgv hgl hs hgk (ExtBig.save key e)
  addMember_none := fun {_ _ _ _ x} key C B hn _ e =>
    have B' := (B.save C (save_spec x key)).1
    ExtBig.grow B'.wf (addMemberNode_none_grow (B'.gok C) B'.wf.pool hn) (ExtBig.save key e)

/-! ### `run` -/

/-- MAIN: for every input, filter, start document and allocator schedule the document `run` leaves has a layout `F'` for
    which it is well-formed and `ExtBig` (no extension slot is spent on an integer that fits 32 bits); when no allocation
    failed it is `Tight` for the same layout (exact reference counts, no leaked slot) -/
theorem run_canon (cfg : Cfg) (limit : Nat) (flt : Flt) {d : Doc} (input : List Byte) (gok : PL.GeoOK d.g)
    (hp : PL.Inv d.g d.pl) :
    ∃ F', WFG (run cfg limit flt d input).2.1 F' ∧
      StrOK (run cfg limit flt d input).2.1 ((run cfg limit flt d input).2.1.strRefs F') ∧
      ExtBig (run cfg limit flt d input).2.1 F' ∧
      ((run cfg limit flt d input).2.1.overflowed = false → Tight (run cfg limit flt d input).2.1 F') := by
  obtain ⟨w, hs, hg, _, hr⟩ := clearAll_wf gok hp
  have C : Ctx d.clearAll .nil .root := ⟨List.nodup_nil, trivial, rfl, by rw [hg]; exact gok⟩
  have R := (parse_all (fstep_tight.and fstep_extBig) cfg (2 * input.length + 4)).1 limit flt .root (start d input) d.clearAll .nil C (built_start w hs C) hr
  obtain ⟨s, B, ts, es⟩ := R.built
  have e1 : ExtBig (stop cfg limit flt d input).2.d (replaceAt .nil .root s) :=
    es (by rw [C.replace_nil]; exact clearAll_extBig d)
  obtain ⟨w1, s1, _⟩ := (preShrink_pleq cfg limit flt d input).1.wfg B.wf B.str
  have e2 := ExtBig.pleq (preShrink_pleq cfg limit flt d input).1 e1
  rw [run_overflowed, run_eq]
  obtain ⟨w2, s2⟩ := shrink_wf w1 s1
  refine ⟨_, w2, s2, ExtBig.of_cells (d := preShrink cfg limit flt d input) rfl rfl e2, fun hov => ?_⟩
  have t1 : Tight (stop cfg limit flt d input).2.d (replaceAt .nil .root s) :=
    ts hov (by rw [C.replace_nil]; exact clearAll_tight d)
  exact (t1.pleq (preShrink_pleq cfg limit flt d input).1).shrink w1.pool

end JDDF
