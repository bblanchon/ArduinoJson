/- What the skipping routines of the filtered JSON deserializer need from the fuel, measured on the run itself:
   a routine that went from `s` to `s1` has consumed `rem s - rem s1` bytes, and the skipping counterpart needs
   about that much fuel, whatever follows in the input. Here the lexers: white space, strings, numbers, keys. -/
import AJ.Lemmas.Fuel
import AJ.Lemmas.LatchClosed
import AJ.Lemmas.JDLexPieces
import AJ.Lemmas.Bits
namespace JD

/-! ## `rem` never grows -/

theorem skipBlock_rem_le {F w s e Y} (h : skipBlock F w s = (e, Y)) : rem Y ≤ rem s := by
  have := kept_skipBlock (rem_latch (rem s)) F w s (Nat.le_refl _)
  rw [h] at this; exact this

theorem skipLine_rem_le {F s Y} (h : skipLine F s = (.ok, Y)) : rem Y ≤ rem (mv s) := by
  cases F with
  | zero => simp only [skipLine] at h; cases h
  | succ n =>
    have := kept_skipLine (rem_latch (rem (mv s))) (n + 1) (mv s) (Nat.le_refl _)
    have e : skipLine (n + 1) (mv s) = skipLine (n + 1) s := by simp only [skipLine]; rfl
    rw [e, h] at this; exact this

theorem skipSpaces_rem_le {cfg F s e Y} (h : skipSpaces cfg F s = (e, Y)) : rem Y ≤ rem s := by
  have := kept_skipSpaces (rem_latch (rem s)) (cfg := cfg) F s (Nat.le_refl _)
  rw [h] at this; exact this

theorem parseQuoted_rem_le {cfg stop F acc hi s e r s1} (h : parseQuoted cfg stop F acc hi s = (e, r, s1)) :
    rem s1 ≤ rem s := by
  have := kept_parseQuoted (rem_latch (rem s)) (cfg := cfg) (stop := stop) F acc hi s (Nat.le_refl _)
  rw [h] at this; exact this

theorem parseVariant_rem_le {cfg F L s e v s1} (h : parseVariant cfg F L s = (e, v, s1)) : rem s1 ≤ rem s := by
  have := (kept_mutual (rem_latch (rem s)) (cfg := cfg) F).1 L s (Nat.le_refl _)
  rw [h] at this; exact this

theorem parseElems_rem_le {cfg F L s acc e v s1} (h : parseElems cfg F L s acc = (e, v, s1)) : rem s1 ≤ rem s := by
  have := (kept_mutual (rem_latch (rem s)) (cfg := cfg) F).2.1 L s acc (Nat.le_refl _)
  rw [h] at this; exact this

theorem parseMembers_rem_le {cfg F L s ms e v s1} (h : parseMembers cfg F L s ms = (e, v, s1)) : rem s1 ≤ rem s := by
  have := (kept_mutual (rem_latch (rem s)) (cfg := cfg) F).2.2 L s ms (Nat.le_refl _)
  rw [h] at this; exact this

/-! ## white space: the fuel can be lowered to what was consumed -/

theorem skipBlock_lower : ∀ F w s Y G, skipBlock F w s = (.ok, Y) → rem s ≤ rem Y + G → skipBlock G w s = (.ok, Y) := by
  intro F
  induction F with
  | zero => intro w s Y G h; simp only [skipBlock] at h; cases h
  | succ n ih =>
    intro w s Y G h hG
    simp only [skipBlock] at h
    split at h
    · cases h
    · rename_i h0
      have r1 := rem_mv_cur s (nz_of_not h0)
      split at h
      · rename_i h1
        cases h
        obtain ⟨m, rfl⟩ : ∃ m, G = m + 1 := ⟨G - 1, by omega⟩
        simp only [skipBlock, h0, h1, Bool.false_eq_true, ↓reduceIte]
      · rename_i h1
        have r2 := skipBlock_rem_le h
        obtain ⟨m, rfl⟩ : ∃ m, G = m + 1 := ⟨G - 1, by omega⟩
        simp only [skipBlock, h0, h1, Bool.false_eq_true, ↓reduceIte]
        exact ih _ _ Y m h (by omega)

theorem skipLine_lower : ∀ F s Y G, skipLine F s = (.ok, Y) → rem (mv s) < rem Y + G → skipLine G s = (.ok, Y) := by
  intro F
  induction F with
  | zero => intro s Y G h; simp only [skipLine] at h; cases h
  | succ n ih =>
    intro s Y G h hG
    have r0 := skipLine_rem_le h
    obtain ⟨m, rfl⟩ : ∃ m, G = m + 1 := ⟨G - 1, by omega⟩
    simp only [skipLine] at h
    split at h
    · cases h
    · rename_i h0
      have r1 := rem_mv_cur (mv s) (nz_of_not h0)
      split at h
      · rename_i h1
        cases h
        simp only [skipLine, h0, h1, Bool.false_eq_true, ↓reduceIte]
      · rename_i h1
        have r2 := skipLine_rem_le h
        simp only [skipLine, h0, h1, Bool.false_eq_true, ↓reduceIte]
        exact ih _ Y m h (by omega)

theorem skipSpaces_lower {cfg : Cfg} : ∀ F s Y G, skipSpaces cfg F s = (.ok, Y) → rem s < rem Y + G →
    skipSpaces cfg G s = (.ok, Y) := by
  intro F
  induction F with
  | zero => intro s Y G h; simp only [skipSpaces] at h; cases h
  | succ n ih =>
    intro s Y G h hG
    have r0 := skipSpaces_rem_le h
    obtain ⟨m, rfl⟩ : ∃ m, G = m + 1 := ⟨G - 1, by omega⟩
    rw [skipSpaces_succ] at h ⊢
    by_cases h0 : ((cur s).1 == 0) = true
    · rw [if_pos h0] at h; split at h <;> cases h
    rw [if_neg h0] at h ⊢
    have r1 := rem_mv_cur s (nz_of_not h0)
    by_cases hw : isWs (cur s).1 = true
    · rw [if_pos hw] at h ⊢
      have r2 := skipSpaces_rem_le h
      exact ih _ Y m h (by omega)
    rw [if_neg hw] at h ⊢
    by_cases hcm : (cfg.comments && (cur s).1 == 0x2F) = true
    · rw [if_pos hcm] at h ⊢
      -- a comment: its opening `/*` or `//` is two bytes, and the body is skipped with fuel for its length
      simp only [ssCmt] at h ⊢
      by_cases hd : ((cur (mv (cur s).2)).1 == 0x2A) = true
      · rw [if_pos hd] at h ⊢
        have r3 := rem_mv_cur (mv (cur s).2) (nz_of_beq hd (by decide))
        generalize hb : skipBlock n false (mv (cur (mv (cur s).2)).2) = q at h
        obtain ⟨e, s4⟩ := q
        have r4 := skipBlock_rem_le hb
        cases e <;> try (cases h; done)
        have r5 := skipSpaces_rem_le h
        rw [skipBlock_lower n false _ s4 m hb (by omega)]
        exact ih s4 Y m h (by omega)
      rw [if_neg hd] at h ⊢
      by_cases hd2 : ((cur (mv (cur s).2)).1 == 0x2F) = true
      · rw [if_pos hd2] at h ⊢
        have r3 := rem_mv_cur (mv (cur s).2) (nz_of_beq hd2 (by decide))
        generalize hb : skipLine n (cur (mv (cur s).2)).2 = q at h
        obtain ⟨e, s4⟩ := q
        cases e <;> try (cases h; done)
        have r4 := skipLine_rem_le hb
        have r5 := skipSpaces_rem_le h
        rw [skipLine_lower n _ s4 m hb (by omega)]
        exact ih s4 Y m h (by omega)
      · rw [if_neg hd2] at h; cases h
    · rw [if_neg hcm] at h ⊢; exact h

/-! ## strings -/

/-- a byte that is neither the closing quote, the end of the input nor a backslash is passed over -/
theorem skipQuoted_plain {stop : Byte} {s : St} (h1 : (cur s).1 ≠ stop) (h2 : (cur s).1 ≠ 0) (h3 : (cur s).1 ≠ 0x5C)
    (f : Nat) : skipQuoted stop (f+1) s = skipQuoted stop f (mv (cur s).2) := by
  rw [skipQuoted_succ, if_neg (by simpa using h1), if_neg (by simpa using h2), if_neg (by simpa using h3)]

/-- the closing quotes of the library: no hexadecimal digit, not the backslash, not `u` -/
def StopOk (stop : Byte) : Prop := decodeHex stop > 0x0F ∧ stop ≠ 0x5C ∧ stop ≠ 0x75

theorem stopOk_of_quote {c : Byte} (h : (c == 0x22 || c == 0x27) = true) : StopOk c := by
  simp only [Bool.or_eq_true, beq_iff_eq] at h
  rcases h with rfl | rfl <;> exact ⟨by decide, by decide, by decide⟩

/-- hexadecimal digits are ordinary bytes for `skipQuoted` -/
theorem skipQuoted_hex {stop : Byte} (hs : StopOk stop) : ∀ m a t cu s3 G, parseHex4 m a t = (.ok, cu, s3) →
    skipQuoted stop (G + m) t = skipQuoted stop G s3 ∧ rem s3 + m ≤ rem t := by
  intro m
  induction m with
  | zero => intro a t cu s3 G h; cases h; exact ⟨rfl, Nat.le_refl _⟩
  | succ m ih =>
    intro a t cu s3 G h
    simp only [parseHex4] at h
    split at h
    · cases h
    · rename_i h0
      split at h
      · cases h
      · rename_i hv
        obtain ⟨i1, i2⟩ := ih _ _ _ _ G h
        have hr := rem_mv_cur t (nz_of_not h0)
        refine ⟨?_, by omega⟩
        rw [← i1]
        exact skipQuoted_plain (fun e => hv (e ▸ hs.1)) (nz_of_not h0) (fun e => hv (e ▸ (by decide))) (G + m)

section
variable {cfg : Cfg} {stop : Byte} (hs : StopOk stop) {m : Nat}

/-- `skipQuoted` follows every successful run of `parseQuoted` with fuel `m`, given fuel for the bytes consumed -/
def SQ (cfg : Cfg) (stop : Byte) (m : Nat) : Prop :=
  ∀ acc hi s r s1 F, parseQuoted cfg stop m acc hi s = (.ok, r, s1) → rem s < rem s1 + F → skipQuoted stop F s = (.ok, s1)

include hs

theorem sq_hex (ih : SQ cfg stop m) {acc : List Byte} {hi : Nat} {t : St} {r : List Byte} {s1 : St} {G : Nat}
    (h : pqHex cfg stop m acc hi (parseHex4 4 0 t) = (.ok, r, s1)) (hG : rem t < rem s1 + G) :
    skipQuoted stop G t = (.ok, s1) := by
  generalize hp : parseHex4 4 0 t = q at h
  obtain ⟨e, cu, s3⟩ := q
  by_cases he : e = .ok
  · subst he
    obtain ⟨acc', hi', hq⟩ := pqHex_ok cfg stop m acc hi cu
    rw [hq] at h
    have r3 := parseQuoted_rem_le h
    obtain ⟨e1, e2⟩ := skipQuoted_hex hs 4 0 t cu s3 (G - 4) hp
    rw [show G = (G - 4) + 4 by omega, e1]
    exact ih _ _ _ _ _ _ h (by omega)
  · rw [pqHex_err _ _ _ _ _ _ _ he] at h
    exact absurd (congrArg Prod.fst h) he

theorem sq_esc (ih : SQ cfg stop m) {acc : List Byte} {hi : Nat} {t : St} {r : List Byte} {s1 : St} {G : Nat}
    (h : pqEsc cfg stop m acc hi t = (.ok, r, s1)) (hG : rem t < rem s1 + G) : sqEsc stop G t = (.ok, s1) := by
  rw [pqEsc_eq] at h
  by_cases h0 : ((cur t).1 == 0) = true
  · rw [if_pos h0] at h; cases h
  rw [if_neg h0] at h
  have r1 := rem_mv_cur t (nz_of_not h0)
  have r0 := rem_cur_le t
  rw [sqEsc, if_pos (by simpa using h0)]
  by_cases hu : ((cur t).1 == 0x75) = true
  · rw [if_pos hu] at h
    by_cases hd : cfg.decodeUnicode = true
    · rw [if_pos hd] at h; exact sq_hex hs ih h (by omega)
    · -- the parser goes on AT the `u`, which it then takes for an ordinary byte: one round of `skipQuoted` more
      rw [if_neg hd] at h
      have r3 := parseQuoted_rem_le h
      have e := ih _ _ _ _ _ (G + 1) h (by omega)
      have hc : (cur (cur t).2).1 = 0x75 := by rw [cur_cur]; simpa using hu
      rw [skipQuoted_plain (hc ▸ Ne.symm hs.2.2) (hc ▸ by decide) (hc ▸ by decide), cur_cur] at e
      exact e
  · rw [if_neg hu] at h
    by_cases hz : (unescapeChar (cur t).1 == 0) = true
    · rw [if_pos hz] at h; cases h
    · rw [if_neg hz] at h
      have r3 := parseQuoted_rem_le h
      exact ih _ _ _ _ _ _ h (by omega)

theorem sq_succ (ih : SQ cfg stop m) : SQ cfg stop (m + 1) := by
  intro acc hi s r s1 F h hF
  have r0 := parseQuoted_rem_le h
  obtain ⟨G, rfl⟩ : ∃ G, F = G + 1 := ⟨F - 1, by omega⟩
  rw [parseQuoted_succ] at h
  rw [skipQuoted_succ]
  by_cases hst : ((cur s).1 == stop) = true
  · rw [if_pos hst] at h ⊢
    exact congrArg (Prod.mk Code.ok) (congrArg (fun x => x.2.2) h)
  rw [if_neg hst] at h ⊢
  by_cases h0 : ((cur s).1 == 0) = true
  · rw [if_pos h0] at h; cases h
  rw [if_neg h0] at h ⊢
  have r1 := rem_mv_cur s (nz_of_not h0)
  by_cases hb : ((cur s).1 == 0x5C) = true
  · rw [if_pos hb] at h ⊢
    exact sq_esc hs ih h (by omega)
  · rw [if_neg hb] at h ⊢
    exact ih _ _ _ _ _ _ h (by omega)

/-- **strings**: whenever `parseQuoted` succeeds, `skipQuoted` (with fuel for the bytes consumed) succeeds and
    ends in the same state — escapes, `\uXXXX` with or without decoding, surrogates, either quote -/
theorem skipQuoted_of_parse : ∀ m, SQ cfg stop m := by
  intro m
  induction m with
  | zero => intro acc hi s r s1 F h; cases h
  | succ m ih => exact sq_succ hs ih

end

/-! ## numbers -/

/-- a byte that can be in a number is a token byte, and not a structural one -/
theorem inNumber_facts (cfg : Cfg) (c : Byte) (h : inNumber cfg c = true) :
    (c == 0) = false ∧ isWs c = false ∧ (c == 0x2F) = false ∧ (c == 0x5D) = false ∧ (c == 0x2C) = false ∧
    (c == 0x7D) = false := by
  have key : ∀ (b : Bool) (c : UInt8), ((!((0x30 ≤ c && c ≤ 0x39) || c == 0x2B || c == 0x2D || c == 0x2E ||
      (if b then (0x41 ≤ c && c ≤ 0x5A) || (0x61 ≤ c && c ≤ 0x7A) else c == 0x65 || c == 0x45))) ||
      (c != 0 && (!isWs c && (c != 0x2F && (c != 0x5D && (c != 0x2C && c != 0x7D)))))) = true := by
    intro b
    cases b <;> (apply Bits.all_bytes; decide +kernel)
  have hk := key (cfg.nan || cfg.inf) c
  unfold inNumber at h
  rw [h] at hk
  simpa using hk

/-- `skipNumeric` ends where `scanNumber` ends, provided the scanner stopped on a delimiter (and not on its
    63-byte limit) -/
theorem skipNumeric_scan {cfg : Cfg} : ∀ n acc s F, inNumber cfg (cur (scanNumber cfg n acc s).2).1 = false →
    rem s < rem (scanNumber cfg n acc s).2 + F → skipNumeric cfg F s = (scanNumber cfg n acc s).2 := by
  intro n
  induction n with
  | zero =>
    intro acc s F hd hF
    have r0 := kept_scanNumber (rem_latch _) (cfg := cfg) 0 acc s (Nat.le_refl _)
    obtain ⟨m, rfl⟩ : ∃ m, F = m + 1 := ⟨F - 1, by omega⟩
    simp only [scanNumber] at hd ⊢
    rw [cur_cur] at hd
    simp only [skipNumeric, hd, Bool.false_eq_true, ↓reduceIte]
  | succ n ih =>
    intro acc s F hd hF
    have r0 := kept_scanNumber (rem_latch _) (cfg := cfg) (n + 1) acc s (Nat.le_refl _)
    obtain ⟨m, rfl⟩ : ∃ m, F = m + 1 := ⟨F - 1, by omega⟩
    simp only [scanNumber] at hd hF ⊢
    simp only [skipNumeric]
    cases hi : inNumber cfg (cur s).1
    · simp only [Bool.false_eq_true, ↓reduceIte]
    · simp only [hi, ↓reduceIte] at hd hF ⊢
      have r1 := rem_mv_cur s (nz_of_inNumber hi)
      exact ih _ _ m hd (by omega)

theorem parseNumeric_ok_form {cfg : Cfg} {s : St} {v : Val} {s1 : St} (h : parseNumeric cfg s = (.ok, v, s1)) :
    (∃ n, v = .num n) ∧ s1 = (scanNumber cfg 63 [] s).2 := by
  have e : Gen.number_buffer - 1 = 63 := rfl
  simp only [parseNumeric, e] at h
  generalize scanNumber cfg 63 [] s = q at h
  obtain ⟨buf, X⟩ := q
  simp only at h
  split at h <;> first | (cases h; exact ⟨⟨_, rfl⟩, rfl⟩) | (cases h; done)

/-! ## keys -/

theorem skipUnquoted_parse : ∀ n acc s, skipUnquoted n s = (parseUnquoted n acc s).2 := by
  intro n
  induction n with
  | zero => intro acc s; rfl
  | succ n ih =>
    intro acc s
    simp only [skipUnquoted, parseUnquoted]
    split
    · exact ih _ _
    · rfl

/-- the key of a member is skipped like it is parsed -/
theorem smKey_of_pmKey {cfg : Cfg} {f : Nat} {s : St} {key : List Byte} {q : St} (h : pmKey cfg f s = (.ok, key, q))
    (hr : rem s < rem q + (f + 2)) : smKey f s = (.ok, q) := by
  simp only [pmKey] at h
  simp only [smKey]
  by_cases hq : ((cur s).1 == 0x22 || (cur s).1 == 0x27) = true
  · rw [if_pos hq] at h ⊢
    have r1 := rem_mv_cur s (nz_of_quote hq)
    exact skipQuoted_of_parse (stopOk_of_quote hq) _ _ _ _ _ _ _ h (by omega)
  · rw [if_neg hq] at h ⊢
    by_cases hu : inUnquoted (cur s).1 = true
    · rw [if_pos hu] at h
      rw [skipUnquoted_parse (f + 1) [] (cur s).2, ← (Prod.mk.inj (Prod.mk.inj h).2).2]
    · rw [if_neg hu] at h; cases h

end JD
