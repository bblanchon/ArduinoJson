/- Completeness for the dialect, by recursion on derivations. Each case collects what the called routines return on
   the pieces of the text and rewrites with the equation of AJ/Lemmas/TokenStep.lean for that path.
   Fuel: `parseVariant` needs one unit more than the number of bytes it reads (white space included),
   `parseElems` / `parseMembers` two more than the bytes up to the closing bracket. -/
import AJ.Lemmas.DialectComplete
set_option linter.unusedVariables false
namespace JD
open Spec.Dialect

theorem len_member {α : Type} (p : Nat) (w1 kt w2 w3 t w4 : List α) (c : α) :
    p + w1.length + kt.length + w2.length + 1 + w3.length + t.length + w4.length =
      p + (w1 ++ kt ++ w2 ++ c :: w3 ++ t ++ w4).length := by
  simp only [List.length_cons, List.length_append]; omega

/-- the three statements of the recursion: what completeness says of a value text, of the elements of an array
    (from the state after `[`), of the members of an object (from the state after `{`) -/
def ValueOk (cfg : Cfg) (L : Nat) (t : List Byte) (v : Val) : Prop :=
  ∀ (fuel : Nat) (w rest : List Byte) (s : St) (p : Nat) (f : Bool),
    DWs cfg w → Pos s (w ++ (t ++ rest)) p f → w.length + t.length + 1 ≤ fuel → (isNumberVal v = true → Delim cfg rest) →
    ∃ s', parseVariant cfg fuel L s = (.ok, v, s') ∧ Post s' rest (p + w.length + t.length) (isNumberVal v)

def ElemsOk (cfg : Cfg) (L : Nat) (body : List Byte) (xs : List Val) : Prop :=
  ∀ (fuel : Nat) (rest : List Byte) (s : St) (p : Nat) (f : Bool) (acc : List Val),
    Pos s (body ++ 0x5D :: rest) p f → body.length + 2 ≤ fuel →
    ∃ s', parseElems cfg fuel L s acc = (.ok, .arr (acc.reverse ++ xs), s') ∧ At s' rest (p + body.length + 1) true

def MembersOk (cfg : Cfg) (L : Nat) (body : List Byte) (ms : List (List Byte × Val)) : Prop :=
  ∀ (fuel : Nat) (rest : List Byte) (s : St) (p : Nat) (f : Bool) (acc : List (List Byte × Val)),
    Pos s (body ++ 0x7D :: rest) p f → body.length + 2 ≤ fuel →
    ∃ X s' kc, skipSpaces cfg (fuel + 1) s = (.ok, X) ∧ cur X = (kc, X) ∧ (kc == 0x7D) = false ∧
      parseMembers cfg fuel L X acc = (.ok, .obj (foldMembers acc ms), s') ∧ At s' rest (p + body.length + 1) true

/-! ### one lemma per production; the hypotheses `ih…` are the statements for the parts -/

theorem dc_keyword {cfg : Cfg} (L : Nat) {k : Byte} {ks : List Byte} {v : Val} (hk : (k, ks, v) ∈ keywords)
    (hv : isNumberVal v = false) : ValueOk cfg L (k :: ks) v := by
  intro fuel w rest s p f hw hs hf hd
  obtain ⟨s', h1, h2⟩ := pvd_keyword cfg (L := L) (fuel := fuel) hw hk hs (by omega)
  exact ⟨s', h1, by rw [hv]; exact h2⟩

theorem dc_num {cfg : Cfg} (L : Nat) {lit : List Byte} {v : Val} (hn : NumTok cfg lit v) : ValueOk cfg L lit v := by
  intro fuel w rest s p f hw hs hf hd
  obtain ⟨s', h1, h2, h3⟩ := pvd_num cfg (L := L) (fuel := fuel) hn (hd (numDen_isNumber hn.2.2.2)) hw hs (by omega)
  exact ⟨s', h1, by rw [h3]; exact h2⟩

theorem dc_str {cfg : Cfg} (L : Nat) {q : Byte} {body sv : List Byte} (hq : IsQuote q)
    (hb : decodeBody cfg q 0 body = some sv) (hl : sv.length ≤ cfg.maxStrLen) :
    ValueOk cfg L (q :: body ++ [q]) (.str sv) := by
  intro fuel w rest s p f hw hs hf hd
  simp only [List.length_cons, List.length_append, List.length_nil] at hf
  exact pvd_str cfg hq hb hl hw (by simpa using hs) (by omega)

theorem dc_arrEmpty {cfg : Cfg} (l : Nat) {w1 : List Byte} (hw1 : DWs cfg w1) :
    ValueOk cfg (l + 1) (0x5B :: w1 ++ [0x5D]) (.arr []) := by
  intro fuel w rest s p f hw hs hf hd
  obtain ⟨n, rfl⟩ : ∃ n, fuel = n + 1 := ⟨fuel - 1, by omega⟩
  simp only [List.length_cons, List.length_append, List.length_nil] at hf
  obtain ⟨X, hS, hX⟩ := skipSpaces_dws cfg (r := w1 ++ 0x5D :: rest) (by decide : Tok 0x5B) w hw s p f (by simpa using hs)
  obtain ⟨Y, hSY, hY⟩ := skipSpaces_dws cfg (r := rest) (by decide : Tok 0x5D) w1 hw1 (mv X) _ true hS.mv.pos
  refine ⟨mv Y, ?_, ?_⟩
  · rw [parseVariant_on_arr (hX (n + 1) (by omega)) hS.cur_cons (hY (n + 1) (by omega)) hSY.cur_cons]; rfl
  · show At (mv Y) rest _ true
    rw [← len_bracket]; exact hSY.mv

theorem dc_arr {cfg : Cfg} {l : Nat} {body : List Byte} {xs : List Val} (he : Elements cfg l body xs)
    (ih : ElemsOk cfg l body xs) : ValueOk cfg (l + 1) (0x5B :: body ++ [0x5D]) (.arr xs) := by
  intro fuel w rest s p f hw hs hf hd
  obtain ⟨n, rfl⟩ : ∃ n, fuel = n + 1 := ⟨fuel - 1, by omega⟩
  simp only [List.length_cons, List.length_append, List.length_nil] at hf
  obtain ⟨X, hS, hX⟩ := skipSpaces_dws cfg (r := body ++ 0x5D :: rest) (by decide : Tok 0x5B) w hw s p f (by simpa using hs)
  obtain ⟨w1, c1, r1, rfl, hw1, tok1, hc1⟩ := elements_head_d he
  simp only [List.length_cons, List.length_append] at hf
  obtain ⟨Y, hSY, hY, _, hPE⟩ := parseVariant_skip_d cfg (r := r1 ++ 0x5D :: rest) tok1 hw1 (s := mv X)
    (by simpa using hS.mv.pos)
  obtain ⟨s', h1, h2⟩ := ih n rest (mv X) _ true [] hS.mv.pos
    (by simp only [List.length_cons, List.length_append]; omega)
  have e1 : (c1 == 0x5D) = false := by simpa using hc1
  refine ⟨s', ?_, ?_⟩
  · rw [parseVariant_on_arr (hX (n + 1) (by omega)) hS.cur_cons (hY (n + 1) (by omega)) hSY.cur_cons, e1,
      hPE n l [] (by omega), h1]; rfl
  · show At s' rest _ true
    rw [← len_bracket]; exact h2

theorem dc_objEmpty {cfg : Cfg} (l : Nat) {w1 : List Byte} (hw1 : DWs cfg w1) :
    ValueOk cfg (l + 1) (0x7B :: w1 ++ [0x7D]) (.obj []) := by
  intro fuel w rest s p f hw hs hf hd
  obtain ⟨n, rfl⟩ : ∃ n, fuel = n + 1 := ⟨fuel - 1, by omega⟩
  simp only [List.length_cons, List.length_append, List.length_nil] at hf
  obtain ⟨X, hS, hX⟩ := skipSpaces_dws cfg (r := w1 ++ 0x7D :: rest) (by decide : Tok 0x7B) w hw s p f (by simpa using hs)
  obtain ⟨Y, hSY, hY⟩ := skipSpaces_dws cfg (r := rest) (by decide : Tok 0x7D) w1 hw1 (mv X) _ true hS.mv.pos
  refine ⟨mv Y, ?_, ?_⟩
  · rw [parseVariant_on_obj (hX (n + 1) (by omega)) hS.cur_cons (hY (n + 1) (by omega)) hSY.cur_cons]; rfl
  · show At (mv Y) rest _ true
    rw [← len_bracket]; exact hSY.mv

theorem dc_obj {cfg : Cfg} {l : Nat} {body : List Byte} {ms : List (List Byte × Val)} (ih : MembersOk cfg l body ms) :
    ValueOk cfg (l + 1) (0x7B :: body ++ [0x7D]) (.obj (lastWins ms)) := by
  intro fuel w rest s p f hw hs hf hd
  obtain ⟨n, rfl⟩ : ∃ n, fuel = n + 1 := ⟨fuel - 1, by omega⟩
  simp only [List.length_cons, List.length_append, List.length_nil] at hf
  obtain ⟨X, hS, hX⟩ := skipSpaces_dws cfg (r := body ++ 0x7D :: rest) (by decide : Tok 0x7B) w hw s p f (by simpa using hs)
  obtain ⟨Y, s', kc, hY, hcY, k2, h1, h2⟩ := ih n rest (mv X) _ true [] hS.mv.pos (by omega)
  refine ⟨s', ?_, ?_⟩
  · rw [parseVariant_on_obj (hX (n + 1) (by omega)) hS.cur_cons hY hcY, k2, h1]; rfl
  · show At s' rest _ true
    rw [← len_bracket]; exact h2

theorem dc_elems_one {cfg : Cfg} {L : Nat} {w1 t w2 : List Byte} {v : Val} (hw1 : DWs cfg w1) (hw2 : DWs cfg w2)
    (ihv : ValueOk cfg L t v) : ElemsOk cfg L (w1 ++ t ++ w2) [v] := by
  intro fuel rest s p f acc hs hf
  obtain ⟨n, rfl⟩ : ∃ n, fuel = n + 1 := ⟨fuel - 1, by omega⟩
  simp only [List.length_append] at hf
  obtain ⟨s1, h1, hpost⟩ := ihv n w1 (w2 ++ 0x5D :: rest) s p f hw1 (by simpa using hs)
    (by omega) (fun _ => (delim_dws cfg hw2 (Or.inr (Or.inl rfl)) rest).1)
  obtain ⟨X, hS, hX⟩ := skipSpaces_dws cfg (r := rest) (by decide : Tok 0x5D) w2 hw2 s1 _ true hpost.pos
  refine ⟨mv X, ?_, ?_⟩
  · rw [parseElems_on h1 (hX (n + 1) (by omega)) hS.cur_cons]
    simp only [beq_self_eq_true, ↓reduceIte, List.reverse_cons]
  · rw [← len_app3]; exact hS.mv

theorem dc_elems_cons {cfg : Cfg} {L : Nat} {w1 t w2 more : List Byte} {v : Val} {vs : List Val} (hw1 : DWs cfg w1)
    (hw2 : DWs cfg w2) (ihv : ValueOk cfg L t v) (ihr : ElemsOk cfg L more vs) :
    ElemsOk cfg L (w1 ++ t ++ w2 ++ 0x2C :: more) (v :: vs) := by
  intro fuel rest s p f acc hs hf
  obtain ⟨n, rfl⟩ : ∃ n, fuel = n + 1 := ⟨fuel - 1, by omega⟩
  simp only [List.length_cons, List.length_append] at hf
  obtain ⟨s1, h1, hpost⟩ := ihv n w1 (w2 ++ 0x2C :: (more ++ 0x5D :: rest)) s p f hw1
    (by simpa using hs) (by omega) (fun _ => (delim_dws cfg hw2 (Or.inl rfl) _).1)
  obtain ⟨X, hS, hX⟩ := skipSpaces_dws cfg (r := more ++ 0x5D :: rest) (by decide : Tok 0x2C) w2 hw2 s1 _ true hpost.pos
  obtain ⟨s', h2, h3⟩ := ihr n rest (mv X) _ true (v :: acc) hS.mv.pos (by omega)
  have k1 : ((0x2C : UInt8) == 0x5D) = false := by decide
  refine ⟨s', ?_, ?_⟩
  · rw [parseElems_on h1 (hX (n + 1) (by omega)) hS.cur_cons, k1, h2]
    simp only [beq_self_eq_true, Bool.false_eq_true, ↓reduceIte, List.reverse_cons, List.append_assoc,
      List.singleton_append]
  · rw [← len_sep, ← len_app3]; exact h3

theorem dc_members_one {cfg : Cfg} {L : Nat} {w1 kt k w2 w3 t w4 : List Byte} {v : Val} (hw1 : DWs cfg w1)
    (hkt : Key cfg kt k) (hw2 : DWs cfg w2) (hw3 : DWs cfg w3) (hw4 : DWs cfg w4) (ihv : ValueOk cfg L t v) :
    MembersOk cfg L (w1 ++ kt ++ w2 ++ 0x3A :: w3 ++ t ++ w4) [(k, v)] := by
  intro fuel rest s p f acc hs hf
  obtain ⟨n, rfl⟩ : ∃ n, fuel = n + 1 := ⟨fuel - 1, by omega⟩
  obtain ⟨kc, kr, rfl, tokk, hk7⟩ := key_head hkt
  simp only [List.length_cons, List.length_append] at hf
  obtain ⟨X, hS, hX⟩ := skipSpaces_dws cfg (r := kr ++ (w2 ++ 0x3A :: (w3 ++ (t ++ (w4 ++ 0x7D :: rest)))))
    tokk w1 hw1 s p f (by simpa using hs)
  obtain ⟨q, hq, hk⟩ := key_complete cfg hkt (after := w2 ++ 0x3A :: (w3 ++ (t ++ (w4 ++ 0x7D :: rest))))
    (delim_dws cfg hw2 (Or.inr (Or.inr (Or.inr rfl))) _).2 hS n (by omega)
  obtain ⟨Y, hSY, hY⟩ := skipSpaces_dws cfg (r := w3 ++ (t ++ (w4 ++ 0x7D :: rest))) (by decide : Tok 0x3A) w2 hw2 q _ true hq
  obtain ⟨s1, h1, hpost⟩ := ihv n w3 (w4 ++ 0x7D :: rest) (mv Y) _ true hw3 hSY.mv.pos
    (by omega) (fun _ => (delim_dws cfg hw4 (Or.inr (Or.inr (Or.inl rfl))) rest).1)
  obtain ⟨Z, hSZ, hZ⟩ := skipSpaces_dws cfg (r := rest) (by decide : Tok 0x7D) w4 hw4 s1 _ true hpost.pos
  refine ⟨X, mv Z, kc, hX (n + 2) (by omega), hS.cur_cons, hk7, ?_, ?_⟩
  · rw [parseMembers_on hS.cur_cons hk (hY (n + 1) (by omega)) hSY.cur_cons h1 (hZ (n + 1) (by omega)) hSZ.cur_cons]
    rfl
  · rw [← len_member]; exact hSZ.mv

theorem dc_members_cons {cfg : Cfg} {L : Nat} {w1 kt k w2 w3 t w4 more : List Byte} {v : Val}
    {ms' : List (List Byte × Val)} (hw1 : DWs cfg w1) (hkt : Key cfg kt k) (hw2 : DWs cfg w2) (hw3 : DWs cfg w3)
    (hw4 : DWs cfg w4) (ihv : ValueOk cfg L t v) (ihr : MembersOk cfg L more ms') :
    MembersOk cfg L (w1 ++ kt ++ w2 ++ 0x3A :: w3 ++ t ++ w4 ++ 0x2C :: more) ((k, v) :: ms') := by
  intro fuel rest s p f acc hs hf
  obtain ⟨n, rfl⟩ : ∃ n, fuel = n + 1 := ⟨fuel - 1, by omega⟩
  obtain ⟨kc, kr, rfl, tokk, hk7⟩ := key_head hkt
  simp only [List.length_cons, List.length_append] at hf
  obtain ⟨X, hS, hX⟩ := skipSpaces_dws cfg
    (r := kr ++ (w2 ++ 0x3A :: (w3 ++ (t ++ (w4 ++ 0x2C :: (more ++ 0x7D :: rest))))))
    tokk w1 hw1 s p f (by simpa using hs)
  obtain ⟨q, hq, hk⟩ := key_complete cfg hkt
    (after := w2 ++ 0x3A :: (w3 ++ (t ++ (w4 ++ 0x2C :: (more ++ 0x7D :: rest)))))
    (delim_dws cfg hw2 (Or.inr (Or.inr (Or.inr rfl))) _).2 hS n (by omega)
  obtain ⟨Y, hSY, hY⟩ := skipSpaces_dws cfg (r := w3 ++ (t ++ (w4 ++ 0x2C :: (more ++ 0x7D :: rest))))
    (by decide : Tok 0x3A) w2 hw2 q _ true hq
  obtain ⟨s1, h1, hpost⟩ := ihv n w3 (w4 ++ 0x2C :: (more ++ 0x7D :: rest)) (mv Y) _ true hw3
    hSY.mv.pos (by omega) (fun _ => (delim_dws cfg hw4 (Or.inl rfl) _).1)
  obtain ⟨Z, hSZ, hZ⟩ := skipSpaces_dws cfg (r := more ++ 0x7D :: rest) (by decide : Tok 0x2C) w4 hw4 s1 _ true hpost.pos
  obtain ⟨X2, s', kc2, hX2, hcX2, _, h2, h3⟩ := ihr n rest (mv Z) _ true (setMember acc k v) hSZ.mv.pos
    (by omega)
  have k1 : ((0x2C : UInt8) == 0x7D) = false := by decide
  refine ⟨X, s', kc, hX (n + 2) (by omega), hS.cur_cons, hk7, ?_, ?_⟩
  · rw [parseMembers_on hS.cur_cons hk (hY (n + 1) (by omega)) hSY.cur_cons h1 (hZ (n + 1) (by omega)) hSZ.cur_cons,
      k1, hX2]
    simp only [beq_self_eq_true, Bool.false_eq_true, ↓reduceIte, h2]
    rfl
  · rw [← len_sep, ← len_member]; exact h3

mutual
theorem dcomplete_value {cfg : Cfg} {L : Nat} {t : List Byte} {v : Val} (h : Value cfg L t v) :
    ∀ (fuel : Nat) (w rest : List Byte) (s : St) (p : Nat) (f : Bool),
      DWs cfg w → Pos s (w ++ (t ++ rest)) p f → w.length + t.length + 1 ≤ fuel → (isNumberVal v = true → Delim cfg rest) →
      ∃ s', parseVariant cfg fuel L s = (.ok, v, s') ∧ Post s' rest (p + w.length + t.length) (isNumberVal v) :=
  match h with
  | .null _ => dc_keyword L (ks := [0x75, 0x6C, 0x6C]) (by simp [keywords]) rfl
  | .true _ => dc_keyword L (ks := [0x72, 0x75, 0x65]) (by simp [keywords]) rfl
  | .false _ => dc_keyword L (ks := [0x61, 0x6C, 0x73, 0x65]) (by simp [keywords]) rfl
  | .num _ _ _ hn => dc_num L hn
  | .str _ _ _ _ hq hb hl => dc_str L hq hb hl
  | .arrEmpty l _ hw1 => dc_arrEmpty l hw1
  | .arr _ _ _ he => dc_arr he (dcomplete_elems he)
  | .objEmpty l _ hw1 => dc_objEmpty l hw1
  | .obj _ _ _ hm => dc_obj (dcomplete_members hm)
theorem dcomplete_elems {cfg : Cfg} {L : Nat} {body : List Byte} {xs : List Val}
    (h : Elements cfg L body xs) :
    ∀ (fuel : Nat) (rest : List Byte) (s : St) (p : Nat) (f : Bool) (acc : List Val),
      Pos s (body ++ 0x5D :: rest) p f → body.length + 2 ≤ fuel →
      ∃ s', parseElems cfg fuel L s acc = (.ok, .arr (acc.reverse ++ xs), s') ∧ At s' rest (p + body.length + 1) true :=
  match h with
  | .one _ _ _ _ _ hw1 hv hw2 => dc_elems_one hw1 hw2 (dcomplete_value hv)
  | .cons _ _ _ _ _ _ _ hw1 hv hw2 hr => dc_elems_cons hw1 hw2 (dcomplete_value hv) (dcomplete_elems hr)
theorem dcomplete_members {cfg : Cfg} {L : Nat} {body : List Byte}
    {ms : List (List Byte × Val)} (h : Members cfg L body ms) :
    ∀ (fuel : Nat) (rest : List Byte) (s : St) (p : Nat) (f : Bool) (acc : List (List Byte × Val)),
      Pos s (body ++ 0x7D :: rest) p f → body.length + 2 ≤ fuel →
      ∃ X s' kc, skipSpaces cfg (fuel + 1) s = (.ok, X) ∧ cur X = (kc, X) ∧ (kc == 0x7D) = false ∧
        parseMembers cfg fuel L X acc = (.ok, .obj (foldMembers acc ms), s') ∧ At s' rest (p + body.length + 1) true :=
  match h with
  | .one _ _ _ _ _ _ _ _ _ hw1 hkt hw2 hw3 hv hw4 => dc_members_one hw1 hkt hw2 hw3 hw4 (dcomplete_value hv)
  | .cons _ _ _ _ _ _ _ _ _ _ _ hw1 hkt hw2 hw3 hv hw4 hr =>
    dc_members_cons hw1 hkt hw2 hw3 hw4 (dcomplete_value hv) (dcomplete_members hr)
end

end JD
