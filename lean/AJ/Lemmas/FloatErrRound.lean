/- C12 (floating-point clauses), part 2 (integer level): one rounding of the softfloat has relative error at most
   `2^-(mbits+1)` as long as the exact value is in the normal range; hence one multiplication and `ofNat`. Core Lean only. -/
import AJ.Model.JD
import AJ.Lemmas.ConvLemmas
namespace SF

/-- `|R·2^k − m| ≤ 2^(k-1)` for `R = rneShift m k` -/
theorem rneShift_err (m k : Nat) (hk : 0 < k) :
    (((rneShift m k * 2 ^ k : Nat) : Int) - (m : Int)).natAbs ≤ 2 ^ (k - 1) := by
  have hdm := Nat.div_add_mod m (2 ^ k)
  have hr := Nat.mod_lt m (Nat.two_pow_pos k)
  have hK : 2 ^ k = 2 * 2 ^ (k - 1) := by
    obtain ⟨d, rfl⟩ : ∃ d, k = d + 1 := ⟨k - 1, by omega⟩
    rw [Nat.pow_succ, Nat.mul_comm]; rfl
  rcases rneShift_cases m k hk with ⟨c, e⟩ | ⟨c, e⟩
  · rw [e]
    have : m / 2 ^ k * 2 ^ k = 2 ^ k * (m / 2 ^ k) := Nat.mul_comm _ _
    omega
  · rw [e]
    have : (m / 2 ^ k + 1) * 2 ^ k = 2 ^ k * (m / 2 ^ k) + 2 ^ k := by rw [Nat.add_mul, Nat.mul_comm]; omega
    omega

theorem half_pow_mul (k p : Nat) (hk : 0 < k) : 2 ^ (k - 1) * 2 ^ (p + 1) = 2 ^ (p + k) := by
  rw [← Nat.pow_add]
  congr 1
  omega

/-- ONE ROUNDING, overflow allowed. If the exact value `m·2^e` is at least the smallest normal number
    (`2^(emin+mbits) ≤ 2^(e+len-1)`, `len` = bit length of `m`), then `roundPos` returns either the infinity of the requested
    sign (only possible when `2^(e+len) ≥ 2^(emax-bias)`), or a finite NORMAL datum `m''·2^e''` of the requested sign with
    `|m''·2^e'' − m·2^e| ≤ 2^-(mbits+1) · m·2^e`  (both sides scaled by `2^-E`, `E` a common lower exponent). -/
theorem roundPos_rel_or_inf (f : Fmt) (n : Bool) (m : Nat) (e : Int) (hm : m ≠ 0) (hf : 0 < f.emax)
    (hlo : emin f + f.mbits + 1 ≤ e + ((Nat.log2 m + 1 : Nat) : Int)) :
    (decode f (roundPos f n m e) = .inf n ∧ (f.emax : Int) ≤ e + ((Nat.log2 m + 1 : Nat) : Int) + f.bias) ∨
    ∃ (m'' : Nat) (e'' E : Int), decode f (roundPos f n m e) = .fin n m'' e'' ∧
      2 ^ f.mbits ≤ m'' ∧ m'' < 2 ^ (f.mbits + 1) ∧ E ≤ e ∧ E ≤ e'' ∧
      (((m'' * 2 ^ (e'' - E).toNat : Nat) : Int) - ((m * 2 ^ (e - E).toNat : Nat) : Int)).natAbs * 2 ^ (f.mbits + 1)
        ≤ m * 2 ^ (e - E).toNat := by
  have hL1 := Nat.log2_self_le hm
  have hE : rpExp f m e = e + (Nat.log2 m : Int) - f.mbits := by rw [rpExp_eq]; push_cast at hlo; omega
  obtain ⟨hres, hexact, hround⟩ := roundPos_spec f n m e hm hf
  rcases hres with ⟨hi1, hinf⟩ | ⟨m'', e'', hd, hle, hval⟩
  · left; exact ⟨hi1, by push_cast; omega⟩
  right
  have hb := decode_fin_facts hd
  -- the rounded mantissa is full, so the result is normal even at the subnormal exponent
  have hnormal : 2 ^ f.mbits ≤ rpMant m e (rpExp f m e) → 2 ^ f.mbits ≤ m'' := by
    intro hmr
    by_cases hc : emin f < e''
    · exact hb.2.2.1 hc
    · have : (e'' - rpExp f m e).toNat = 0 := by have := rpExp_ge f m e; omega
      rw [this, Nat.pow_zero, Nat.mul_one] at hval
      rw [hval]; exact hmr
  by_cases h : rpExp f m e ≤ e
  · refine ⟨m'', e'', rpExp f m e, hd, hnormal ?_, hb.2.1, h, hle, ?_⟩
    · rw [hexact h]
      have hd : (e - rpExp f m e).toNat + Nat.log2 m = f.mbits := by omega
      rw [← hd, Nat.pow_add, Nat.mul_comm]
      exact Nat.mul_le_mul_right _ hL1
    · rw [hval, hexact h]; simp
  · have hlt : e < rpExp f m e := Int.not_le.1 h
    obtain ⟨hk, hM, _⟩ := hround hlt
    have hmk : 2 ^ (f.mbits + (rpExp f m e - e).toNat) ≤ m := by
      have : f.mbits + (rpExp f m e - e).toNat = Nat.log2 m := by omega
      rw [this]; exact hL1
    refine ⟨m'', e'', e, hd, hnormal ?_, hb.2.1, Int.le_refl _, by omega, ?_⟩
    · rw [hM]
      have : 2 ^ f.mbits ≤ m / 2 ^ (rpExp f m e - e).toNat := by
        rw [Nat.le_div_iff_mul_le (Nat.two_pow_pos _), ← Nat.pow_add]; exact hmk
      rcases rneShift_cases m _ hk with ⟨_, c⟩ | ⟨_, c⟩ <;> omega
    · rw [toNat_sub_add e'' (rpExp f m e) e (Int.le_of_lt hlt) hle, Nat.pow_add, ← Nat.mul_assoc, hval, hM,
        Int.sub_self, Int.toNat_zero, Nat.pow_zero, Nat.mul_one]
      -- the rounding error `2^(k-1)`, times `2^(mbits+1)`, is `2^(mbits+k) ≤ m`
      calc _ ≤ 2 ^ ((rpExp f m e - e).toNat - 1) * 2 ^ (f.mbits + 1) := Nat.mul_le_mul_right _ (rneShift_err m _ hk)
        _ = 2 ^ (f.mbits + (rpExp f m e - e).toNat) := half_pow_mul _ f.mbits hk
        _ ≤ m := hmk
/-- ONE ROUNDING. If the exact value `m·2^e` lies in the normal range of the format
    (`2^(emin+mbits) ≤ 2^(e+len-1)` below, `2^(e+len) ≤ 2^(emax-bias-1)` above, `len` = bit length of `m`), then
    `roundPos` returns a finite NORMAL datum `m''·2^e''` of the requested sign with
    `|m''·2^e'' − m·2^e| ≤ 2^-(mbits+1) · m·2^e`  (both sides scaled by `2^-E`, `E` a common lower exponent). -/
theorem roundPos_rel (f : Fmt) (n : Bool) (m : Nat) (e : Int) (hm : m ≠ 0) (hf : 0 < f.emax)
    (hlo : emin f + f.mbits + 1 ≤ e + ((Nat.log2 m + 1 : Nat) : Int))
    (hhi : e + ((Nat.log2 m + 1 : Nat) : Int) + f.bias < f.emax) :
    ∃ (m'' : Nat) (e'' E : Int), decode f (roundPos f n m e) = .fin n m'' e'' ∧
      2 ^ f.mbits ≤ m'' ∧ m'' < 2 ^ (f.mbits + 1) ∧ E ≤ e ∧ E ≤ e'' ∧
      (((m'' * 2 ^ (e'' - E).toNat : Nat) : Int) - ((m * 2 ^ (e - E).toNat : Nat) : Int)).natAbs * 2 ^ (f.mbits + 1)
        ≤ m * 2 ^ (e - E).toNat := by
  rcases roundPos_rel_or_inf f n m e hm hf hlo with ⟨_, h⟩ | h
  · exfalso; omega
  · exact h

/-- `inf × finite non-zero = inf`, sign = xor -/
theorem mul_inf_fin (f : Fmt) (a b : Nat) (n1 n2 : Bool) (m : Nat) (e : Int)
    (ha : decode f a = .inf n1) (hb : decode f b = .fin n2 m e) (hm : m ≠ 0) :
    decode f (SF.mul f a b) = .inf (n1 != n2) := by
  unfold SF.mul; rw [ha, hb]; simp only [if_neg hm]; exact decode_inf f _
end SF
