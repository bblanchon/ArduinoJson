/- `clearV` on a collection: induction over `walkFree`/`clearVF` along the ghost forest. Used by AJ/Props/C04.lean. -/
import AJ.Lemmas.DocOps2
namespace DL
open JD (Byte Val)

/-! ## Effects: slots released, string references dropped -/

/-- `Eff d d' fp keep`: `d'` is `d` after the slots `fp` were released to the pool and some string references were
    dropped, `keep` being the references that remain -/
structure Eff (d d' : Doc) (fp keep : List Nat) : Prop where
  g : d'.g = d.g
  root : d'.root = d.root
  cells : ∀ j, j ∉ fp → d'.cell j = d.cell j
  pool : PL.Inv d'.g d'.pl
  live : ∀ x, PL.live d'.g d'.pl x ↔ PL.live d.g d.pl x ∧ x ∉ fp
  str : StrOK d' keep
  bytes : ∀ n ∈ keep, d'.strBytes n = d.strBytes n

theorem Eff.refl {d : Doc} {keep : List Nat} (hp : PL.Inv d.g d.pl) (hs : StrOK d keep) : Eff d d [] keep :=
  ⟨rfl, rfl, fun _ _ => rfl, hp, fun x => by simp, hs, fun _ _ => rfl⟩

theorem Eff.trans {d d1 d2 : Doc} {fp1 fp2 keep1 keep : List Nat} (h1 : Eff d d1 fp1 keep1) (h2 : Eff d1 d2 fp2 keep)
    (hk : ∀ n ∈ keep, n ∈ keep1) : Eff d d2 (fp1 ++ fp2) keep := by
  refine ⟨by rw [h2.g, h1.g], by rw [h2.root, h1.root], ?_, h2.pool, ?_, h2.str, ?_⟩
  · intro j hj
    simp only [List.mem_append, not_or] at hj
    rw [h2.cells j hj.2, h1.cells j hj.1]
  · intro x
    rw [h2.live x, h1.live x]
    simp only [List.mem_append, not_or, and_assoc]
  · intro n hn
    rw [h2.bytes n hn, h1.bytes n (hk n hn)]

theorem Eff.null {d d' : Doc} {fp keep : List Nat} (h : Eff d d' fp keep) : d'.null = d.null := by
  simp only [Doc.null, h.g]

theorem Eff.of_rel {d d1 : Doc} {v : VData} {keep : List Nat} (h : RelSpec d d1 v keep) : Eff d d1 (extOfV v) keep :=
  ⟨h.1, h.2.1, h.2.2.1, h.2.2.2.1, h.2.2.2.2.1, h.2.2.2.2.2.1, h.2.2.2.2.2.2⟩

/-- after the effect, setting slot `id` and releasing it -/
theorem Eff.set_free {d dm : Doc} {fp keep : List Nat} {id : Nat} {v : VData} (h : Eff d dm fp keep)
    (hl : PL.live d.g d.pl id) (hid : id ∉ fp) :
    Eff d ((dm.set (.slot id) v).freeCell id) (fp ++ [id]) keep := by
  have hlm : PL.live dm.g dm.pl id := (h.live id).2 ⟨hl, hid⟩
  obtain ⟨b1, b2⟩ := PL.freeSlot_ok h.pool hlm
  refine ⟨h.g, h.root, ?_, b1, ?_, StrOK_congr (d := dm) rfl rfl h.str, fun n hn => h.bytes n hn⟩
  · intro j hj
    simp only [List.mem_append, List.mem_singleton, not_or] at hj
    rw [cell_freeCell, if_neg (Ne.symm hj.2), cell_set_slot, if_neg (Ne.symm hj.2), h.cells j hj.1]
  · intro x
    show PL.live dm.g (PL.freeSlot dm.pl id) x ↔ _
    rw [b2 x, h.live x]
    simp only [List.mem_append, List.mem_singleton, not_or, and_assoc]

/-! ## Footprint of a sub-layout -/

/-- slots released when the chain laid out as `F` is cleared, in the order in which `walkFree` releases them -/
def fpF (d : Doc) : Forest → List Nat
  | .nil => []
  | .cons key i s r =>
    (match key with | none => [] | some k => (extOfV (d.get (.slot k)) ++ []) ++ [k]) ++
      ((extOfV (d.get (.slot i)) ++ fpF d s) ++ [i]) ++ fpF d r

def keyFp (d : Doc) : Option Nat → List Nat
  | none => []
  | some k => (extOfV (d.get (.slot k)) ++ []) ++ [k]
theorem fpF_cons (d : Doc) (key : Option Nat) (i : Nat) (s r : Forest) :
    fpF d (.cons key i s r) = keyFp d key ++ ((extOfV (d.get (.slot i)) ++ fpF d s) ++ [i]) ++ fpF d r := by
  cases key <;> rfl

theorem fpF_congr {d d' : Doc} (F : Forest) (hg : ∀ j ∈ F.ids, d'.get (.slot j) = d.get (.slot j)) : fpF d' F = fpF d F := by
  induction F with
  | nil => rfl
  | cons key i s r ihs ihr =>
    have hi := hg i (by simp [Forest.ids])
    have hs := ihs (fun j hj => hg j (by simp [Forest.ids, hj]))
    have hr := ihr (fun j hj => hg j (by simp [Forest.ids, hj]))
    cases key with
    | none => simp only [fpF, hi, hs, hr]
    | some k =>
      have hk := hg k (by simp [Forest.ids, Forest.keyL])
      simp only [fpF, hi, hs, hr, hk]

theorem goneF_congr {d d' : Doc} (F : Forest) (hg : ∀ j ∈ F.ids, d'.get (.slot j) = d.get (.slot j)) :
    goneF d' F = goneF d F :=
  flatMap_congr' _ (fun j hj => by rw [hg j hj])

theorem ids_sub_fpF (d : Doc) (F : Forest) : ∀ x ∈ F.ids, x ∈ fpF d F := by
  induction F with
  | nil => intro x h; cases h
  | cons key i s r ihs ihr =>
    intro x hx
    simp only [Forest.ids, List.mem_append, List.mem_cons] at hx
    simp only [fpF, List.mem_append, List.mem_singleton]
    rcases hx with hx | hx | hx | hx
    · cases key with
      | none => cases hx
      | some k =>
        simp only [Forest.keyL, List.mem_singleton] at hx
        simp [hx]
    · exact Or.inl (Or.inr (Or.inr hx))
    · exact Or.inl (Or.inr (Or.inl (Or.inr (ihs x hx))))
    · exact Or.inr (ihr x hx)

theorem goneF_cons (d : Doc) (key : Option Nat) (i : Nat) (s r : Forest) :
    goneF d (.cons key i s r) =
      (Forest.keyL key).flatMap (fun j => strOfV (d.get (.slot j))) ++
        (strOfV (d.get (.slot i)) ++ (goneF d s ++ goneF d r)) := by
  simp only [goneF, Forest.ids, List.flatMap_append, List.flatMap_cons]

/-! ## Unfolding `clearVF` -/

theorem clearVF_arr {d : Doc} {l : Loc} {f h t : Nat} (hv : d.get l = .arr h t) :
    Doc.clearVF (f+1) d l =
      (walkFree (fun d id => (Doc.clearVF f d (.slot id)).freeCell id) d.fuel d h).set l .null := by
  simp only [Doc.clearVF, hv]
theorem clearVF_obj {d : Doc} {l : Loc} {f h t : Nat} (hv : d.get l = .obj h t) :
    Doc.clearVF (f+1) d l =
      (walkFree (fun d id => (Doc.clearVF f d (.slot id)).freeCell id) d.fuel d h).set l .null := by
  simp only [Doc.clearVF, hv]
theorem clearVF_scalar {d : Doc} {l : Loc} {f : Nat} (h : ¬ isColl (d.get l)) :
    Doc.clearVF (f+1) d l = (releaseV d (d.get l)).set l .null := by
  simp only [Doc.clearVF]
  cases hv : d.get l <;> first | rfl | (rw [hv] at h; exact absurd trivial h)

theorem walkFree_null (free1 : Doc → Nat → Doc) (w : Nat) (d : Doc) : walkFree free1 w d d.null = d := by
  cases w <;> simp [walkFree]
theorem walkFree_succ (free1 : Doc → Nat → Doc) (w : Nat) (d : Doc) {id : Nat} (h : id ≠ d.null) :
    walkFree free1 (w+1) d id = walkFree free1 w (free1 d id) (d.nextOf id) := by
  simp only [walkFree, if_neg h]

/-! ## The induction -/

/-- the slot-releasing step of `CollectionData::clear` at descent fuel `f` -/
def free1 (f : Nat) : Doc → Nat → Doc := fun d id => (Doc.clearVF f d (.slot id)).freeCell id

/-- `ClearRel E`: `E d d' fp gone keep` describes what releasing the slots `fp` and dropping the string references
    `gone` did to `d`, says at least `Eff d d' fp keep`, and is kept by the steps `clear` is made of. The induction
    over `walkFree` / `clearVF` below is carried out once for any such description. -/
structure ClearRel (E : Doc → Doc → List Nat → List Nat → List Nat → Prop) : Prop where
  eff : ∀ {d d' : Doc} {fp gone keep : List Nat}, E d d' fp gone keep → Eff d d' fp keep
  refl : ∀ {d : Doc} {keep : List Nat}, PL.Inv d.g d.pl → StrOK d keep → E d d [] [] keep
  trans : ∀ {d d1 d2 : Doc} {fp1 fp2 gone1 gone2 keep : List Nat}, E d d1 fp1 gone1 (gone2 ++ keep) →
    E d1 d2 fp2 gone2 keep → E d d2 (fp1 ++ fp2) (gone1 ++ gone2) keep
  release : ∀ {d : Doc} {v : VData} {keep : List Nat}, PL.Inv d.g d.pl → StrOK d (strOfV v ++ keep) →
    (∀ e ∈ extOfV v, PL.live d.g d.pl e) → E d (releaseV d v) (extOfV v) (strOfV v) keep
  set_free : ∀ {d dm : Doc} {fp gone keep : List Nat} {id : Nat} {v : VData}, E d dm fp gone keep →
    PL.live d.g d.pl id → id ∉ fp → E d ((dm.set (.slot id) v).freeCell id) (fp ++ [id]) gone keep

/-- `Eff` itself is such a description (the references dropped are not recorded) -/
theorem Eff.clearRel : ClearRel (fun d d' fp _ keep => Eff d d' fp keep) :=
  ⟨fun h => h, Eff.refl, fun h1 h2 => h1.trans h2 (fun _ hn => List.mem_append_right _ hn),
    fun hp hs hext => Eff.of_rel (releaseV_spec hp hs hext), fun h hl hid => h.set_free hl hid⟩

/-- Statement for a chain laid out as `s`, with an accumulator: `d0` is the document before anything was released, `d`
    the document after the slots `fpk` were released and the references `gk` dropped, none of which belongs to the chain.
    Footprint and references are those of `d0`; what is needed of `d` follows from `E d0 d fpk gk _`. -/
def PCsA (E : Doc → Doc → List Nat → List Nat → List Nat → Prop) (s : Forest) : Prop :=
  ∀ (f w : Nat) (d0 d : Doc) (b : Bool) (start : Nat) (fpk gk keep : List Nat),
    Lk d0 b start s → s.depth ≤ f → s.top.length ≤ w → s.ids.length ≤ d0.fuel →
    E d0 d fpk gk (goneF d0 s ++ keep) → (∀ x ∈ fpF d0 s, x ∉ fpk) →
    (∀ x ∈ fpF d0 s, PL.live d0.g d0.pl x) → (fpF d0 s).Nodup →
    E d0 (walkFree (free1 f) w d start) (fpk ++ fpF d0 s) (gk ++ goneF d0 s) keep

theorem PCsA_nil {E : Doc → Doc → List Nat → List Nat → List Nat → Prop} (R : ClearRel E) : PCsA E .nil := by
  intro f w d0 d b start fpk gk keep hl _ _ _ hacc _ _ _
  rw [Lk_nil] at hl; subst hl
  rw [← (R.eff hacc).null, walkFree_null]
  simpa only [fpF, goneF, Forest.ids, List.flatMap_nil, List.append_nil, List.nil_append] using hacc

/-- clearing the value at `l` laid out as `s`, given the statement for its chain -/
theorem PV_A {E : Doc → Doc → List Nat → List Nat → List Nat → Prop} (R : ClearRel E) {s : Forest} (hpc : PCsA E s) {f : Nat} {d0 d : Doc} {l : Loc} {fpk gk keep : List Nat}
    (hv : VOK d0 (d0.get l) s) (hd : s.depth < f) (hfu : s.ids.length ≤ d0.fuel) (hget : d.get l = d0.get l)
    (hacc : E d0 d fpk gk (strOfV (d0.get l) ++ (goneF d0 s ++ keep)))
    (hdis : ∀ x ∈ extOfV (d0.get l) ++ fpF d0 s, x ∉ fpk)
    (hlive : ∀ x ∈ extOfV (d0.get l) ++ fpF d0 s, PL.live d0.g d0.pl x)
    (hnd : (extOfV (d0.get l) ++ fpF d0 s).Nodup) :
    ∃ dm, Doc.clearVF f d l = dm.set l .null ∧
      E d0 dm (fpk ++ (extOfV (d0.get l) ++ fpF d0 s)) (gk ++ (strOfV (d0.get l) ++ goneF d0 s)) keep := by
  obtain ⟨f', rfl⟩ : ∃ f', f = f' + 1 := ⟨f - 1, by omega⟩
  have eff := R.eff hacc
  have htop : s.top.length ≤ d0.fuel := Nat.le_trans s.top_length_le hfu
  have hfk : d.fuel = d0.fuel := by simp only [Doc.fuel, eff.g]
  by_cases hc : isColl (d0.get l)
  · cases hg : d0.get l <;> rw [hg] at hc hv hlive hnd hacc hdis hget <;> try exact absurd hc (fun h => h)
    · rename_i h t
      obtain ⟨hlk, _⟩ := (VOK_arr _ _ _ _).1 hv
      exact ⟨_, clearVF_arr hget, hfk ▸ hpc f' d0.fuel d0 d false h fpk gk keep hlk (by omega) htop hfu hacc hdis hlive hnd⟩
    · rename_i h t
      obtain ⟨hlk, _⟩ := (VOK_obj _ _ _ _).1 hv
      exact ⟨_, clearVF_obj hget, hfk ▸ hpc f' d0.fuel d0 d true h fpk gk keep hlk (by omega) htop hfu hacc hdis hlive hnd⟩
  · have hnil : s = .nil := (VOK_scalar hc _).1 hv
    subst hnil
    refine ⟨_, clearVF_scalar (hget ▸ hc), ?_⟩
    simp only [fpF, goneF, Forest.ids, List.flatMap_nil, List.append_nil, List.nil_append] at hlive hdis hacc ⊢
    rw [hget]
    exact R.trans hacc (R.release eff.pool eff.str (fun e he => (eff.live e).2 ⟨hlive e he, hdis e he⟩))

/-- one step of the walk: the value in slot `i` (laid out as `s`) is cleared and the slot released -/
theorem step_A {E : Doc → Doc → List Nat → List Nat → List Nat → Prop} (R : ClearRel E) {s : Forest} (hpc : PCsA E s) {f : Nat} {d0 d : Doc} {i : Nat} {fpk gk keep : List Nat}
    (hv : VOK d0 (d0.get (.slot i)) s) (hd : s.depth < f) (hfu : s.ids.length ≤ d0.fuel)
    (hacc : E d0 d fpk gk (strOfV (d0.get (.slot i)) ++ (goneF d0 s ++ keep)))
    (hdis : ∀ x ∈ (extOfV (d0.get (.slot i)) ++ fpF d0 s) ++ [i], x ∉ fpk)
    (hlive : ∀ x ∈ (extOfV (d0.get (.slot i)) ++ fpF d0 s) ++ [i], PL.live d0.g d0.pl x)
    (hnd : ((extOfV (d0.get (.slot i)) ++ fpF d0 s) ++ [i]).Nodup) :
    E d0 (free1 f d i) (fpk ++ ((extOfV (d0.get (.slot i)) ++ fpF d0 s) ++ [i]))
      (gk ++ (strOfV (d0.get (.slot i)) ++ goneF d0 s)) keep := by
  obtain ⟨hnd1, _, hdisj⟩ := List.nodup_append.1 hnd
  have hii : i ∈ (extOfV (d0.get (.slot i)) ++ fpF d0 s) ++ [i] := by simp
  obtain ⟨dm, hdm, he⟩ := PV_A R hpc (l := .slot i) hv hd hfu (get_of_cell ((R.eff hacc).cells i (hdis i hii))) hacc
    (fun x hx => hdis x (List.mem_append_left _ hx)) (fun x hx => hlive x (List.mem_append_left _ hx)) hnd1
  simp only [free1, hdm]
  rw [← List.append_assoc]
  refine R.set_free he (hlive i hii) (fun m => ?_)
  rcases List.mem_append.1 m with m | m
  · exact hdis i hii m
  · exact hdisj i m i (by simp) rfl

theorem PCsA_all {E : Doc → Doc → List Nat → List Nat → List Nat → Prop} (R : ClearRel E) (F : Forest) : PCsA E F := by
  induction F with
  | nil => exact PCsA_nil R
  | cons key i s r ihs ihr =>
    intro f w d0 d b start fpk gk keep hl hd hw hfu hacc hdis hlive hnd
    rw [Lk_cons] at hl
    obtain ⟨h1, h2, h3, h4, h5⟩ := hl
    simp only [Forest.depth] at hd
    simp only [Forest.ids, List.length_append, List.length_cons] at hfu
    rw [goneF_cons] at hacc ⊢
    simp only [List.append_assoc] at hacc
    rw [fpF_cons] at hdis hlive hnd ⊢
    -- after the key part (`dk`): slot `i`, then the rest of the chain
    have cont : ∀ (dk : Doc) (fpk' gk' : List Nat) (w' : Nat),
        E d0 dk fpk' gk' (strOfV (d0.get (.slot i)) ++ (goneF d0 s ++ (goneF d0 r ++ keep))) →
        (∀ x ∈ ((extOfV (d0.get (.slot i)) ++ fpF d0 s) ++ [i]) ++ fpF d0 r, x ∉ fpk') →
        (∀ x ∈ ((extOfV (d0.get (.slot i)) ++ fpF d0 s) ++ [i]) ++ fpF d0 r, PL.live d0.g d0.pl x) →
        (((extOfV (d0.get (.slot i)) ++ fpF d0 s) ++ [i]) ++ fpF d0 r).Nodup → r.top.length ≤ w' →
        E d0 (walkFree (free1 f) (w'+1) dk i) (fpk' ++ (((extOfV (d0.get (.slot i)) ++ fpF d0 s) ++ [i]) ++ fpF d0 r))
          (gk' ++ (strOfV (d0.get (.slot i)) ++ (goneF d0 s ++ goneF d0 r))) keep := by
      intro dk fpk' gk' w' hk hdk hlv hnd12 hw'
      have eff := R.eff hk
      obtain ⟨hndi, hndr, hdir⟩ := List.nodup_append.1 hnd12
      have hci : dk.cell i = d0.cell i := eff.cells i (hdk i (by simp))
      rw [walkFree_succ _ _ _ (by rw [eff.null]; exact h2), nextOf_of_cell hci eff.null]
      have e1 := step_A R ihs (f := f) (keep := goneF d0 r ++ keep) h5 (by omega) (by omega) hk
        (fun x hx => hdk x (List.mem_append_left _ hx)) (fun x hx => hlv x (List.mem_append_left _ hx)) hndi
      have e3 := ihr f w' d0 (free1 f dk i) b (d0.nextOf i) _ _ keep h4 (by omega) hw' (by omega)
        e1
        (fun x hx m => by
          rcases List.mem_append.1 m with m | m
          · exact hdk x (List.mem_append_right _ hx) m
          · exact hdir x m x hx rfl)
        (fun x hx => hlv x (List.mem_append_right _ hx)) hndr
      simpa only [List.append_assoc] using e3
    cases b <;> cases key <;> simp only [KeyOK] at h1
    · -- array element
      subst h1
      simp only [Forest.top, Forest.keyL, List.nil_append, List.length_cons] at hw
      simp only [keyFp, List.nil_append, Forest.keyL, List.flatMap_nil] at hdis hlive hnd hacc ⊢
      obtain ⟨w', rfl⟩ : ∃ w', w = w' + 1 := ⟨w - 1, by omega⟩
      exact cont d fpk gk w' hacc hdis hlive hnd (by omega)
    · -- object member: key slot first
      rename_i k
      obtain ⟨rfl, hk2, hk3, hk4, hk5⟩ := h1
      simp only [Forest.top, Forest.keyL, List.cons_append, List.nil_append, List.length_cons] at hw
      simp only [keyFp, Forest.keyL, List.flatMap_cons, List.flatMap_nil, List.append_nil] at hdis hlive hnd hacc ⊢
      obtain ⟨w', rfl⟩ : ∃ w', w = w' + 2 := ⟨w - 2, by omega⟩
      have eff := R.eff hacc
      obtain ⟨hnd1, hndr, hd1r⟩ := List.nodup_append.1 hnd
      obtain ⟨hndk, hndi, hdki⟩ := List.nodup_append.1 hnd1
      have hkcoll : ¬ isColl (d0.get (.slot start)) := by
        intro hc; cases hv : d0.get (.slot start) <;> rw [hv] at hc hk4 <;> first | exact hc | exact hk4
      have hkm : ∀ x ∈ extOfV (d0.get (.slot start)) ++ [start],
          x ∈ ((extOfV (d0.get (.slot start)) ++ [start]) ++ ((extOfV (d0.get (.slot i)) ++ fpF d0 s) ++ [i])) ++ fpF d0 r :=
        fun x hx => List.mem_append_left _ (List.mem_append_left _ hx)
      have ek := step_A R (PCsA_nil R) (f := f) (i := start) (d := d)
        (keep := strOfV (d0.get (.slot i)) ++ (goneF d0 s ++ (goneF d0 r ++ keep)))
        ((VOK_scalar hkcoll _).2 rfl) (by simp only [Forest.depth]; omega) (by simp [Forest.ids])
        (by simpa only [goneF, Forest.ids, List.flatMap_nil, List.nil_append, List.append_assoc] using hacc)
        (by simp only [fpF, List.append_nil]; exact fun x hx => hdis x (hkm x hx))
        (by simp only [fpF, List.append_nil]; exact fun x hx => hlive x (hkm x hx))
        (by simp only [fpF, List.append_nil]; exact hndk)
      simp only [fpF, goneF, Forest.ids, List.flatMap_nil, List.append_nil] at ek
      rw [walkFree_succ _ _ _ (by rw [eff.null]; exact hk2),
        nextOf_of_cell (eff.cells start (hdis start (hkm start (by simp)))) eff.null, hk5]
      have := cont (free1 f d start) _ _ w' ek
        (fun x hx m => by
          rcases List.mem_append.1 m with m | m
          · rcases List.mem_append.1 hx with hx | hx
            · exact hdis x (List.mem_append_left _ (List.mem_append_right _ hx)) m
            · exact hdis x (List.mem_append_right _ hx) m
          · rcases List.mem_append.1 hx with hx | hx
            · exact hdki x m x hx rfl
            · exact hd1r x (List.mem_append_left _ m) x hx rfl)
        (fun x hx => by
          rcases List.mem_append.1 hx with hx | hx
          · exact hlive x (List.mem_append_left _ (List.mem_append_right _ hx))
          · exact hlive x (List.mem_append_right _ hx))
        (List.nodup_append.2 ⟨hndi, hndr, fun a ha b hb => hd1r a (List.mem_append_right _ ha) b hb⟩) (by omega)
      simpa only [List.append_assoc] using this

/-- `PCsA` at `Eff` with nothing released before: the chain laid out as `s` is released whole -/
def PCs (s : Forest) : Prop :=
  ∀ (f w : Nat) (d : Doc) (b : Bool) (start : Nat) (keep : List Nat),
    Lk d b start s → s.depth ≤ f → s.top.length ≤ w → s.ids.length ≤ d.fuel → PL.Inv d.g d.pl →
    (∀ x ∈ fpF d s, PL.live d.g d.pl x) → (fpF d s).Nodup → StrOK d (goneF d s ++ keep) →
    Eff d (walkFree (free1 f) w d start) (fpF d s) keep

/-- `step_A` with nothing released before -/
theorem step_slot {s : Forest} {f : Nat} {d : Doc} {i : Nat} {keep : List Nat}
    (hv : VOK d (d.get (.slot i)) s) (hd : s.depth < f) (hfu : s.ids.length ≤ d.fuel) (hp : PL.Inv d.g d.pl)
    (hlive : ∀ x ∈ (extOfV (d.get (.slot i)) ++ fpF d s) ++ [i], PL.live d.g d.pl x)
    (hnd : ((extOfV (d.get (.slot i)) ++ fpF d s) ++ [i]).Nodup)
    (hs : StrOK d (strOfV (d.get (.slot i)) ++ (goneF d s ++ keep))) :
    Eff d (free1 f d i) ((extOfV (d.get (.slot i)) ++ fpF d s) ++ [i]) keep :=
  step_A Eff.clearRel (PCsA_all Eff.clearRel s) (fpk := []) (gk := []) hv hd hfu (Eff.refl hp hs)
    (fun _ _ m => nomatch m) hlive hnd

/-! ## The footprint has no repetition -/


/-- territory of the slots `js`: the slots themselves and the extension slots their values reference -/
def Terr (d : Doc) (js : List Nat) (x : Nat) : Prop := x ∈ js ∨ ∃ j ∈ js, x ∈ extOfV (d.get (.slot j))

structure ExtH (d : Doc) (L : List Nat) : Prop where
  notid : ∀ j ∈ L, ∀ e ∈ extOfV (d.get (.slot j)), e ∉ L
  uniq : ∀ j ∈ L, ∀ j' ∈ L, ∀ e, e ∈ extOfV (d.get (.slot j)) → e ∈ extOfV (d.get (.slot j')) → j = j'

theorem terr_disjoint {d : Doc} {L js1 js2 : List Nat} {x : Nat} (H : ExtH d L) (h1 : ∀ j ∈ js1, j ∈ L)
    (h2 : ∀ j ∈ js2, j ∈ L) (hd : ∀ j ∈ js1, j ∉ js2) : Terr d js1 x → Terr d js2 x → False := by
  rintro (a | ⟨j1, hj1, e1⟩) (b | ⟨j2, hj2, e2⟩)
  · exact hd x a b
  · exact H.notid j2 (h2 j2 hj2) x e2 (h1 x a)
  · exact H.notid j1 (h1 j1 hj1) x e1 (h2 x b)
  · have := H.uniq j1 (h1 j1 hj1) j2 (h2 j2 hj2) x e1 e2
    subst this; exact hd j1 hj1 hj2

theorem Terr.mono {d : Doc} {js ks : List Nat} {x : Nat} (h : Terr d js x) (hs : ∀ j ∈ js, j ∈ ks) : Terr d ks x := by
  rcases h with a | ⟨j, hj, e⟩
  · exact Or.inl (hs x a)
  · exact Or.inr ⟨j, hs j hj, e⟩

theorem extOfV_nodup (v : VData) : (extOfV v).Nodup := by cases v <;> simp [extOfV]

/-- footprint of one slot -/
theorem slot_piece {d : Doc} {L js X : List Nat} {i : Nat} (H : ExtH d L) (hX : X.Nodup) (hXt : ∀ x ∈ X, Terr d js x)
    (hi : i ∈ L) (hjs : ∀ j ∈ js, j ∈ L) (hij : i ∉ js) :
    ((extOfV (d.get (.slot i)) ++ X) ++ [i]).Nodup ∧ ∀ x ∈ (extOfV (d.get (.slot i)) ++ X) ++ [i], Terr d (i :: js) x := by
  have hti : ∀ x ∈ extOfV (d.get (.slot i)), Terr d [i] x := fun x hx => Or.inr ⟨i, by simp, hx⟩
  have hL1 : ∀ j ∈ [i], j ∈ L := fun j hj => by simp at hj; exact hj ▸ hi
  have hd1 : ∀ j ∈ [i], j ∉ js := fun j hj => by simp at hj; exact hj ▸ hij
  constructor
  · refine List.nodup_append.2 ⟨List.nodup_append.2 ⟨extOfV_nodup _, hX, ?_⟩, by simp, ?_⟩
    · intro a ha b hb e; subst e
      exact terr_disjoint H hL1 hjs hd1 (hti a ha) (hXt a hb)
    · intro a ha b hb e; subst e
      simp only [List.mem_singleton] at hb; subst hb
      rcases List.mem_append.1 ha with m | m
      · exact H.notid a hi a m hi
      · exact terr_disjoint H hL1 hjs hd1 (Or.inl (by simp)) (hXt a m)
  · intro x hx
    simp only [List.mem_append, List.mem_singleton] at hx
    rcases hx with (m | m) | m
    · exact (hti x m).mono (by simp)
    · exact (hXt x m).mono (fun j hj => List.mem_cons_of_mem _ hj)
    · exact Or.inl (by simp [m])

theorem fpF_terr_nodup {d : Doc} {L : List Nat} (H : ExtH d L) :
    ∀ (F : Forest), (∀ j ∈ F.ids, j ∈ L) → F.ids.Nodup → (fpF d F).Nodup ∧ ∀ x ∈ fpF d F, Terr d F.ids x := by
  intro F
  induction F with
  | nil => intro _ _; exact ⟨List.nodup_nil, fun x hx => by cases hx⟩
  | cons key i s r ihs ihr =>
    intro hL hnd
    obtain ⟨nds, ndr, njs, njr, nsr, nk⟩ := Forest.nodup_cons hnd
    have hLs : ∀ j ∈ s.ids, j ∈ L := fun j hj => hL j (by simp [Forest.ids, hj])
    have hLr : ∀ j ∈ r.ids, j ∈ L := fun j hj => hL j (by simp [Forest.ids, hj])
    have hLi : i ∈ L := hL i (by simp [Forest.ids])
    obtain ⟨s1, s2⟩ := ihs hLs nds
    obtain ⟨r1, r2⟩ := ihr hLr ndr
    obtain ⟨i1, i2⟩ := slot_piece H s1 s2 hLi hLs njs
    have hLis : ∀ j ∈ i :: s.ids, j ∈ L := fun j hj => by
      rcases List.mem_cons.1 hj with e | m
      · exact e ▸ hLi
      · exact hLs j m
    have hdir : ∀ j ∈ i :: s.ids, j ∉ r.ids := fun j hj => by
      rcases List.mem_cons.1 hj with e | m
      · exact e ▸ njr
      · exact nsr j m
    -- key piece
    have hk : (keyFp d key).Nodup ∧ ∀ x ∈ keyFp d key, Terr d (Forest.keyL key) x := by
      cases key with
      | none => exact ⟨List.nodup_nil, fun x hx => by cases hx⟩
      | some k =>
        have := slot_piece (js := []) (X := []) (i := k) H List.nodup_nil (fun x hx => by cases hx)
          (hL k (by simp [Forest.ids, Forest.keyL])) (fun j hj => by cases hj) (by simp)
        exact this
    have hLk : ∀ j ∈ Forest.keyL key, j ∈ L := fun j hj => hL j (by simp [Forest.ids, hj])
    have hdk1 : ∀ j ∈ Forest.keyL key, j ∉ i :: s.ids := fun j hj m => by
      rcases List.mem_cons.1 m with e | m
      · exact (nk j hj).1 e
      · exact (nk j hj).2.1 m
    have hdk2 : ∀ j ∈ Forest.keyL key, j ∉ r.ids := fun j hj => (nk j hj).2.2
    rw [fpF_cons]
    constructor
    · refine List.nodup_append.2 ⟨List.nodup_append.2 ⟨hk.1, i1, ?_⟩, r1, ?_⟩
      · intro a ha b hb e; subst e
        exact terr_disjoint H hLk hLis hdk1 (hk.2 a ha) (i2 a hb)
      · intro a ha b hb e; subst e
        rcases List.mem_append.1 ha with m | m
        · exact terr_disjoint H hLk hLr hdk2 (hk.2 a m) (r2 a hb)
        · exact terr_disjoint H hLis hLr hdir (i2 a m) (r2 a hb)
    · intro x hx
      rcases List.mem_append.1 hx with m | m
      · rcases List.mem_append.1 m with m | m
        · exact (hk.2 x m).mono (fun j hj => by simp [Forest.ids, hj])
        · refine (i2 x m).mono (fun j hj => ?_)
          rcases List.mem_cons.1 hj with e | m'
          · simp [Forest.ids, e]
          · simp [Forest.ids, m']
      · exact (r2 x m).mono (fun j hj => by simp [Forest.ids, hj])

/-! ## `clearV` at any location of a well-formed document -/

theorem WFG.extH {d : Doc} {F : Forest} (w : WFG d F) : ExtH d F.ids := by
  constructor
  · intro j hj e he hm
    obtain ⟨⟨p, hp⟩, _, _⟩ := w.ext (.slot j) (mem_holders.2 (Or.inr ⟨j, hj, rfl⟩)) e he
    exact ext_ne_var hp (w.isVar e hm) rfl
  · intro j hj j' hj' e he he'
    have := (w.ext (.slot j) (mem_holders.2 (Or.inr ⟨j, hj, rfl⟩)) e he).2.2 (.slot j')
      (mem_holders.2 (Or.inr ⟨j', hj', rfl⟩)) he'
    cases this; rfl

/-- `VariantData::clear` on any reachable location `l` (scalar, string or collection) of a well-formed document, for any
    description `E` of the releases. With `dm` the document just before the final store of null: the slots of the
    subtree and the extension slots its values reference were released, each once, all of them live before; the string
    references of the subtree were dropped and the table is consistent for the survivors. -/
theorem clearV_rel {E : Doc → Doc → List Nat → List Nat → List Nat → Prop} (R : ClearRel E) {d : Doc} {F : Forest}
    {l : Loc} (w : WFG d F) (hs : StrOK d (d.strRefs F)) (hl : isLoc F l) :
    ∃ dm, d.clearV l = dm.set l .null ∧
      E d dm (extOfV (d.get l) ++ fpF d (layoutAt F l)) (strOfV (d.get l) ++ goneF d (layoutAt F l)) (keepL d F l) ∧
      (extOfV (d.get l) ++ fpF d (layoutAt F l)).Nodup ∧
      (∀ x ∈ extOfV (d.get l) ++ fpF d (layoutAt F l), PL.live d.g d.pl x) ∧
      (∀ x ∈ extOfV (d.get l) ++ fpF d (layoutAt F l), x ∈ extOfV (d.get l) ∨ Terr d (layoutAt F l).ids x) ∧
      (∀ x ∈ (layoutAt F l).ids, x ∈ extOfV (d.get l) ++ fpF d (layoutAt F l)) := by
  have hv := VOK_at w hl
  have hsF := layoutAt_ids_sub F l
  have hsnd := layoutAt_nodup w.nodup hl
  have hlen : (layoutAt F l).ids.length ≤ F.ids.length := List.Nodup.length_le_of_subset hsnd (fun x hx => hsF x hx)
  have hfu := w.fuel_ok
  obtain ⟨t1, t2⟩ := fpF_terr_nodup w.extH (layoutAt F l) hsF hsnd
  have hmem : ∀ x ∈ extOfV (d.get l) ++ fpF d (layoutAt F l), x ∈ extOfV (d.get l) ∨ Terr d (layoutAt F l).ids x := by
    intro x hx
    rcases List.mem_append.1 hx with m | m
    · exact Or.inl m
    · exact Or.inr (t2 x m)
  have hlive : ∀ x ∈ extOfV (d.get l) ++ fpF d (layoutAt F l), PL.live d.g d.pl x := by
    intro x hx
    rcases hmem x hx with m | m | ⟨j, hj, e⟩
    · exact (w.ext l (loc_mem_holders hl) x m).2.1
    · exact w.live x (hsF x m)
    · exact (w.ext (.slot j) (mem_holders.2 (Or.inr ⟨j, hsF j hj, rfl⟩)) x e).2.1
  have hnd : (extOfV (d.get l) ++ fpF d (layoutAt F l)).Nodup := by
    by_cases hc : isColl (d.get l)
    · have : extOfV (d.get l) = [] := by
        cases hg : d.get l <;> rw [hg] at hc <;> first | rfl | exact absurd hc (fun h => h)
      rw [this]; exact t1
    · have hnil : layoutAt F l = .nil := (VOK_scalar hc _).1 hv
      rw [hnil]; simp only [fpF, List.append_nil]; exact extOfV_nodup _
  obtain ⟨dm, hdm, he⟩ := PV_A R (PCsA_all R (layoutAt F l)) (f := d.fuel) (d := d) (l := l) (fpk := []) (gk := [])
    (keep := keepL d F l) hv (Nat.lt_of_le_of_lt (layoutAt F l).depth_le (by omega)) (by omega) rfl
    (R.refl w.pool (StrOK_perm (strRefs_split w.nodup hl) hs)) (fun _ _ m => nomatch m) hlive hnd
  exact ⟨dm, hdm, he, hnd, hlive, hmem, fun x hx => List.mem_append_right _ (ids_sub_fpF d _ x hx)⟩

/-- slots released by a `clearV l` are no slots of the layout outside the subtree below `l`, and no extension slots of
    values held outside it -/
theorem fp_outside {d : Doc} {F : Forest} {l : Loc} (w : WFG d F) (hl : isLoc F l) {fp : List Nat}
    (h4 : ∀ x ∈ fp, x ∈ extOfV (d.get l) ∨ Terr d (layoutAt F l).ids x) :
    (∀ x ∈ F.ids, x ∉ (layoutAt F l).ids → x ∉ fp) ∧
    (∀ l0 ∈ holders F, l0 ≠ l → (∀ j ∈ (layoutAt F l).ids, l0 ≠ .slot j) → ∀ e ∈ extOfV (d.get l0), e ∉ fp) := by
  have hsF := layoutAt_ids_sub F l
  have H := w.extH
  constructor
  · intro x hx hxs m
    rcases h4 x m with m | m | ⟨j, hj, e⟩
    · obtain ⟨⟨p, hp⟩, _, _⟩ := w.ext l (loc_mem_holders hl) x m
      exact ext_ne_var hp (w.isVar x hx) rfl
    · exact hxs m
    · exact H.notid j (hsF j hj) x e hx
  · intro l0 h0 hne hns e he m
    obtain ⟨⟨p, hp⟩, _, hu⟩ := w.ext l0 h0 e he
    rcases h4 e m with m | m | ⟨j, hj, e'⟩
    · exact hne (hu l (loc_mem_holders hl) m).symm
    · exact ext_ne_var hp (w.isVar e (hsF e m)) rfl
    · exact hns j hj (hu (.slot j) (mem_holders.2 (Or.inr ⟨j, hsF j hj, rfl⟩)) e').symm

/-- what survives a `clearV l`: facts shared by the refinement and the frame theorem -/
theorem clearV_survivors {d : Doc} {F : Forest} {l : Loc} (w : WFG d F) (hs : StrOK d (d.strRefs F)) (hl : isLoc F l) :
    ∃ dm fp, d.clearV l = dm.set l .null ∧ Eff d dm fp (keepL d F l) ∧ (∀ x ∈ (layoutAt F l).ids, x ∈ fp) ∧
      (∀ x ∈ F.ids, x ∉ (layoutAt F l).ids → x ∉ fp) ∧
      (∀ l0 ∈ holders F, l0 ≠ l → (∀ j ∈ (layoutAt F l).ids, l0 ≠ .slot j) → ∀ e ∈ extOfV (d.get l0), e ∉ fp) := by
  obtain ⟨dm, h1, h2, _, _, h4, h3⟩ := clearV_rel Eff.clearRel w hs hl
  exact ⟨dm, _, h1, h2, h3, fp_outside w hl h4⟩

/-- what `clearV l` keeps: up to the final store of null, everything outside the subtree below `l` -/
theorem clearV_kept {d : Doc} {F : Forest} {l : Loc} (w : WFG d F) (hs : StrOK d (d.strRefs F)) (hl : isLoc F l) :
    ∃ dm, d.clearV l = dm.set l .null ∧ Kept d dm F l ∧ StrOK dm (keepL d F l) ∧
      ∀ x ∈ (layoutAt F l).ids, ¬ PL.live dm.g dm.pl x := by
  obtain ⟨dm, fp, hdm, he, hin, hout, hexts⟩ := clearV_survivors w hs hl
  have hmem := mem_ids_cleared w.nodup hl
  refine ⟨dm, hdm, ⟨he.g, he.root, ?_, ?_, ?_, he.pool, ?_⟩, he.str, ?_⟩
  · intro j hj
    obtain ⟨hjF, hjs⟩ := (hmem j).1 hj
    exact he.cells j (hout j hjF hjs)
  · intro l0 h0 hne e hee
    obtain ⟨h0F, hns⟩ := (mem_holders_cleared w.nodup hl).1 h0
    have hnfp : e ∉ fp := hexts l0 h0F hne hns e hee
    exact ⟨he.cells e hnfp, (he.live e).2 ⟨(w.ext l0 h0F e hee).2.1, hnfp⟩⟩
  · intro l0 h0 hne n hn
    refine he.bytes n ?_
    simp only [keepL, List.mem_flatMap]
    exact ⟨l0, h0, by rw [if_neg hne]; exact hn⟩
  · intro j hj
    obtain ⟨hjF, hjs⟩ := (hmem j).1 hj
    exact (he.live j).2 ⟨w.live j hjF, hout j hjF hjs⟩
  · intro x hx hlv
    exact ((he.live x).1 hlv).2 (hin x hx)

/-- `VariantData::clear` on any reachable location (scalar, string or collection) -/
theorem clearV_spec {d : Doc} {F : Forest} {l : Loc} (w : WFG d F) (hs : StrOK d (d.strRefs F)) (hl : isLoc F l) :
    WFG (d.clearV l) (replaceAt F l .nil) ∧
    StrOK (d.clearV l) ((d.clearV l).strRefs (replaceAt F l .nil)) ∧
    abs (d.clearV l) = absWith d F l .null ∧
    (∀ x ∈ (layoutAt F l).ids, ¬ PL.live (d.clearV l).g (d.clearV l).pl x) := by
  obtain ⟨dm, hdm, k, hstr, hdead⟩ := clearV_kept w hs hl
  obtain ⟨w', habs, hp⟩ := wfg_set_kept (v' := .null) w hl k (fun h => h) (fun e he => by cases he)
  rw [hdm]
  refine ⟨w', StrOK_congr (set_strings _ _ _) (set_nextNode _ _ _) (StrOK_perm hp.symm hstr), by rw [habs]; rfl, ?_⟩
  intro x hx
  rw [set_pl, set_g]; exact hdead x hx

/-- FRAME for `clearV`: a location `l'` that is not `l`, not inside the cleared subtree, and whose own subtree
    contains neither `l` nor anything of the cleared subtree, designates exactly the same value afterwards. -/
theorem clearV_frame_spec {d : Doc} {F : Forest} {l l' : Loc} (w : WFG d F) (hs : StrOK d (d.strRefs F))
    (hl : isLoc F l) (hl' : isLoc F l') (hne : l' ≠ l)
    (hout' : ∀ j, l' = .slot j → j ∉ (layoutAt F l).ids)
    (hdisj : ∀ x ∈ (layoutAt F l').ids, x ∉ (layoutAt F l).ids ∧ Loc.slot x ≠ l) :
    (d.clearV l).toVal ((d.clearV l).get l') = d.toVal (d.get l') := by
  obtain ⟨dm, hdm, k, _, _⟩ := clearV_kept w hs hl
  rw [hdm]
  exact (k.outside w hl .null).toVal w hl hl' hne hout' hdisj

/-! ## Clearing a location that holds a scalar or a string: the layout does not change -/

/-- `clearV` on a location that holds a scalar or a string: the location becomes null, its extension slot / string
    reference is released, and nothing else changes (in particular every other string keeps its bytes). -/
theorem clearV_scalar_spec {d : Doc} {F : Forest} {l : Loc} (w : WFG d F) (hs : StrOK d (d.strRefs F))
    (hl : isLoc F l) (hsc : ¬ isColl (d.get l)) :
    WFG (d.clearV l) F ∧ StrOK (d.clearV l) ((d.clearV l).strRefs F) ∧ abs (d.clearV l) = absWith d F l .null := by
  have hrep : replaceAt F l .nil = F := by
    rw [← layoutAt_nil_of_scalar w hl hsc]; exact replaceAt_self w.nodup hl
  have h := clearV_spec w hs hl
  rw [hrep] at h
  exact ⟨h.1, h.2.1, h.2.2.1⟩

/-- after `clearV` of a scalar/string location `l`, every other location `l'` whose value does not contain `l` still
    designates exactly the same value -/
theorem clearV_scalar_frame {d : Doc} {F : Forest} {l l' : Loc} (w : WFG d F) (hs : StrOK d (d.strRefs F))
    (hl : isLoc F l) (hsc : ¬ isColl (d.get l)) (hl' : isLoc F l') (hne : l' ≠ l)
    (hnotin : ∀ i, l = .slot i → i ∉ (layoutAt F l').ids) :
    (d.clearV l).toVal ((d.clearV l).get l') = d.toVal (d.get l') := by
  have hnil := layoutAt_nil_of_scalar w hl hsc
  have hempty : ∀ x, x ∉ (layoutAt F l).ids := fun x m => by rw [hnil] at m; cases m
  exact clearV_frame_spec w hs hl hl' hne (fun j _ => hempty j) (fun x hx => ⟨hempty x, fun e => hnotin x e.symm hx⟩)

end DL
