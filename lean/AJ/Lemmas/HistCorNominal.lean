/- `PL.Nominal` (every pool owns a block of its nominal capacity) is kept by every step of a history whose allocations
   succeed (`C04.step_nominal`). Used by AJ/Props/C19Geo.lean. -/
import AJ.Lemmas.HistCorFlag
import AJ.Lemmas.HistCorPool

namespace PL

theorem Nominal.congr {g : Geo} {s s' : St} (h : s'.pools = s.pools) (hN : Nominal g s) : Nominal g s' := by
  unfold Nominal; rw [h]; exact hN

/-- the pool appended by a successful `addPool`: nominal capacity when its block could be allocated, no block and
    capacity 0 otherwise -/
theorem addPool_new_pool {g : Geo} {s s2 : St} (hI : Inv g s) (h : addPool g s = (true, s2)) :
    ∃ got : Bool, s2.pools = s.pools ++ [⟨if got then g.nomCap s.pools.length else 0, 0, got⟩] := by
  rcases Nat.lt_or_ge s.pools.length g.maxPools with hlt | hge
  · generalize hr : (if (s.pools.length == s.tableCap) = true then increaseCapacity g s else (true, s)) = r
    obtain ⟨ok1, s1⟩ := r
    rw [addPool_eq hlt hr (addPool_table hI hr).1] at h
    cases ok1 with
    | false => cases h
    | true => cases h; exact ⟨_, rfl⟩
  · unfold addPool at h; rw [if_pos hge] at h; cases h

/-- a successful `allocSlot` keeps `Nominal`: a slot never comes out of a pool without block -/
theorem allocSlot_some_nominal {g : Geo} {s s' : St} {id : Nat} (hI : Inv g s) (hN : Nominal g s)
    (h : allocSlot g s = (some id, s')) : Nominal g s' := by
  refine allocSlot_cases (Q := fun r => r = (some id, s') → _) ?_ ?_ ?_ h
  · intro id0 rest _ h; cases h; exact hN
  · intro id1 s1 _ hr1 h; cases h; exact allocFromLastPool_nominal hN hr1
  · intro ok s2 _ _ hr2 h
    cases ok with
    | false => simp at h
    | true =>
      simp only [Bool.not_true, Bool.false_eq_true, if_false] at h
      obtain ⟨got, hp2⟩ := addPool_new_pool hI hr2
      obtain ⟨ps, p, hs, hb, _, _, _⟩ := allocFromLastPool_some h
      rw [hp2] at hs
      obtain ⟨e1, e2⟩ := List.append_inj' hs rfl
      have hgot : got = true := by
        have := (List.singleton_inj.1 e2); rw [← this] at hb; exact hb
      subst hgot
      refine allocFromLastPool_nominal ?_ h
      unfold Nominal; rw [hp2]
      exact Nominal.snoc hN ⟨rfl, rfl⟩
end PL

namespace DL
open JD (Byte Val)

/-- relinking and releasing leave the pools alone (a released slot goes to the free list) -/
theorem pools_linking : Linking (fun _ => True) (fun d d' => d'.pl.pools = d.pl.pools) where
  refl _ := rfl
  trans h1 h2 := h2.trans h1
  null := trivial
  arr _ _ := trivial
  obj _ _ := trivial
  set d l _ _ := by rw [set_pl]
  setNext d i n := by rw [setNext_pl]
  freeCell _ _ := rfl
  derefString d n := by
    simp only [Doc.derefString]
    split
    · rfl
    · split <;> rfl

theorem saveString_pools (d : Doc) (s : List Byte) : (d.saveString s).2.pl.pools = d.pl.pools := by
  simp only [Doc.saveString]
  split
  · rfl
  · split
    · rfl
    generalize hq : d.pl.alloc (s.length + d.strOverhead) = q
    obtain ⟨ok, pl⟩ := q
    have : pl.pools = d.pl.pools := by
      have := PL.alloc_pools d.pl (s.length + d.strOverhead); rw [hq] at this; exact this
    cases ok <;> exact this

theorem allocVariant_some_eq {d d1 : Doc} {k : Nat} (h : d.allocVariant = (some k, d1)) :
    PL.allocSlot d.g d.pl = (some k, d1.pl) ∧ d1.g = d.g := by
  simp only [Doc.allocVariant] at h
  split at h
  · rename_i id pl heq
    simp only [Prod.mk.injEq, Option.some.injEq] at h
    obtain ⟨rfl, rfl⟩ := h
    exact ⟨heq, rfl⟩
  · simp at h

theorem allocExt_some_eq {d d1 : Doc} {p : Int} {k : Nat} (h : d.allocExt p = (some k, d1)) :
    PL.allocSlot d.g d.pl = (some k, d1.pl) ∧ d1.g = d.g := by
  simp only [Doc.allocExt] at h
  split at h
  · rename_i id pl heq
    simp only [Prod.mk.injEq, Option.some.injEq] at h
    obtain ⟨rfl, rfl⟩ := h
    exact ⟨heq, rfl⟩
  · simp at h

/-- `setArg` that reports success keeps `Nominal`: of its outcomes (`setArg_shape`) only a successful `allocExt` touches
    the pools -/
theorem setArg_nominal {d : Doc} {l : Loc} {a : Arg} (hI : PL.Inv d.g d.pl) (hN : PL.Nominal d.g d.pl)
    (hok : (d.setArg l a).1 = true) : PL.Nominal d.g (d.setArg l a).2.pl := by
  have hsave : ∀ s, PL.Nominal d.g (d.saveString s).2.pl := fun s => PL.Nominal.congr (saveString_pools d s) hN
  have key := setArg_shape d l a
  generalize d.setArg l a = r at key hok
  cases key with
  | noop => exact hN
  | plain => rw [set_pl]; exact hN
  | extOk hal => rw [set_pl]; exact PL.allocSlot_some_nominal hI hN (allocExt_some_eq hal).1
  | extFail => cases hok
  | @strOk s _ _ _ _ hal => have := hsave s; rw [hal] at this; rw [set_pl]; exact this
  | @strFail s _ hal => have := hsave s; rw [hal] at this; exact this

/-- `addMember` that returns a slot keeps `Nominal` -/
theorem addMember_nominal {d : Doc} {l : Loc} {key : List Byte} {linked : Bool} (gok : PL.GeoOK d.g)
    (hI : PL.Inv d.g d.pl) (hN : PL.Nominal d.g d.pl) (hok : (d.addMember l key linked).1 ≠ none) :
    PL.Nominal d.g (d.addMember l key linked).2.pl := by
  simp only [Doc.addMember] at hok ⊢
  generalize h1 : d.allocVariant = r1 at hok ⊢
  obtain ⟨m1, d1⟩ := r1
  cases m1 with
  | none => exact absurd rfl hok
  | some k =>
    obtain ⟨a1, g1⟩ := allocVariant_some_eq h1
    have N1 : PL.Nominal d1.g d1.pl := by rw [g1]; exact PL.allocSlot_some_nominal hI hN a1
    have I1 : PL.Inv d1.g d1.pl := by rw [g1]; exact (PL.allocSlot_some gok hI a1).2.2.2
    simp only at hok ⊢
    generalize h2 : d1.allocVariant = r2 at hok ⊢
    obtain ⟨m2, d2⟩ := r2
    cases m2 with
    | none => exact absurd rfl hok
    | some v =>
      obtain ⟨a2, g2⟩ := allocVariant_some_eq h2
      have N2 : PL.Nominal d.g d2.pl := by rw [← g1]; exact PL.allocSlot_some_nominal I1 N1 a2
      simp only at hok ⊢
      cases linked with
      | true => simp only [if_true, appendPair_pl, set_pl]; exact N2
      | false =>
        simp only [Bool.false_eq_true, if_false] at hok ⊢
        have hy := saveString_pools d2 key
        generalize d2.saveString key = r3 at hok hy ⊢
        obtain ⟨m3, d3⟩ := r3
        cases m3 with
        | none => exact absurd rfl hok
        | some n => simp only [appendPair_pl, set_pl]; exact PL.Nominal.congr hy N2

end DL

namespace C04
open DL
open JD (Byte Val)

/-- a valid step whose allocations succeed keeps `PL.Nominal`: no pool without block is ever created -/
theorem step_nominal {d : Doc} {F : Forest} {op : Op2} (w : WFG d F) (hs : StrOK d (d.strRefs F)) (gok : PL.GeoOK d.g)
    (hv : op.Valid d F) (hok : op.Succ d) (hN : PL.Nominal d.g d.pl) : PL.Nominal (op.run d).g (op.run d).pl := by
  rw [(step_refines2 w hs gok hv).2.2.1]
  cases op with
  | base op =>
    cases op with
    | add l =>
      show PL.Nominal d.g (d.addElement l).2.pl
      have hok' : (d.addElement l).1 ≠ none := hok
      generalize hal : d.allocVariant = r
      obtain ⟨m, d1⟩ := r
      cases m with
      | none => exact absurd (by simp only [Doc.addElement, hal]) hok'
      | some id =>
        simp only [Doc.addElement, hal, appendOne_pl]
        exact PL.allocSlot_some_nominal w.pool hN (allocVariant_some_eq hal).1
    | clear l => exact PL.Nominal.congr (pools_linking.clearV d l) hN
    | put l a => exact setArg_nominal w.pool hN hv.2.2
  | removeElem l k =>
    simp only [Op2.run]
    split
    · split
      · exact PL.Nominal.congr (pools_linking.removeOne _ _ _) hN
      · exact hN
    · exact hN
  | removeMember l key =>
    simp only [Op2.run]
    split
    · exact PL.Nominal.congr (pools_linking.removePair _ _ _ _) hN
    · exact hN
  | member l key linked =>
    have hok' : (d.getOrAddMember l key linked).1 ≠ none := hok
    show PL.Nominal d.g (d.getOrAddMember l key linked).2.pl
    rw [getOrAddMember_eq] at hok' ⊢
    have hg' : (toObj d l).g = d.g := by simp only [toObj]; split <;> first | exact set_g _ _ _ | rfl
    have hp' : (toObj d l).pl = d.pl := by simp only [toObj]; split <;> first | exact set_pl _ _ _ | rfl
    have hg : ∃ h t, (toObj d l).get l = .obj h t := by
      rcases hv.2 with hn | ⟨h, t, hg⟩
      · exact ⟨d.null, d.null, by simp only [toObj, hn, get_set_self]⟩
      · exact ⟨h, t, by simp only [toObj, hg]⟩
    obtain ⟨h, t, hg⟩ := hg
    simp only [hg] at hok' ⊢
    cases hf : (toObj d l).findKey l key with
    | some p => simp only [hp']; exact hN
    | none =>
      rw [hf] at hok'
      have := addMember_nominal (d := toObj d l) (l := l) (key := key) (linked := linked) (by rw [hg']; exact gok)
        (by rw [hg', hp']; exact w.pool) (by rw [hg', hp']; exact hN) hok'
      rw [hg'] at this; exact this

/-- … hence every history whose allocations succeed -/
theorem history_nominal {d d' : Doc} {F F' : Forest} {as : List AOp} (h : HistA d F as d' F') :
    WFG d F → StrOK d (d.strRefs F) → PL.GeoOK d.g → PL.Nominal d.g d.pl → PL.Nominal d'.g d'.pl := by
  induction h with
  | nil d F => intro _ _ _ h; exact h
  | cons op hv hok _ ih =>
    intro w hs gok hN
    obtain ⟨a, b, c, _⟩ := step_refines2 w hs gok hv
    exact ih a b (by rw [c]; exact gok) (step_nominal w hs gok hv hok hN)
end C04
