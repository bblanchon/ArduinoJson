/- The mutual blocks of the slot-level JSON deserializers `JDD` and `JDDF` cut into pieces, with one equation per routine
   saying how a round with fuel `f+1` is put together from the pieces and the routines at fuel `f`. Pieces that do not
   mention a filter are shared; the continuations are parameters, so the pieces do not mention the recursion either.
   With a transparent filter the filtered block is the unfiltered one (`JDDF.parse_transparent`). -/
import AJ.Model.JDDF
import AJ.Lemmas.FilterId
namespace JDD
open DL
open JD (Byte Code Cfg cur mv skipSpaces skipKeyword inUnquoted)

/-- the reader moved, the document and the builder did not -/
def rd (x : S) (r : Code × JD.St) : Code × S := (r.1, { x with s := r.2 })

/-- after an opening bracket: the closing one at once, or the contents -/
def afterOpen (cfg : Cfg) (f : Nat) (close : Byte) (k : S → Code × S) (x : S) : Code × S :=
  match skipSpaces cfg (f+1) (mv x.s) with
  | (.ok, s) => if (cur s).1 == close then (.ok, { x with s := mv (cur s).2 }) else k { x with s := (cur s).2 }
  | (e, s) => (e, { x with s := s })

/-- a container value: the variant becomes the empty container `v`, then the nesting limit, then the contents -/
def openAt (cfg : Cfg) (f limit : Nat) (close : Byte) (v : VData) (l : Loc) (k : Nat → S → Code × S) (x : S) : Code × S :=
  match limit with
  | 0 => (.tooDeep, { x with d := x.d.set l v })
  | limit'+1 => afterOpen cfg f close (k limit') { x with d := x.d.set l v }

/-- a string value: the token through the builder, saved, stored as an owned string -/
def stringAt (cfg : Cfg) (f : Nat) (c : Byte) (l : Loc) (x : S) : Code × S :=
  match quoted cfg (f+1) c { x with s := mv x.s } with
  | (.ok, bytes, x) => (.ok, { (save x bytes).2 with d := (save x bytes).2.d.set l (.owned (save x bytes).1) })
  | (e, _, x) => (e, x)

/-- what follows an element: `]`, or `,` and the next round `k` -/
def elemsTail (cfg : Cfg) (f : Nat) (k : S → Code × S) (x : S) : Code × S :=
  match skipSpaces cfg (f+1) x.s with
  | (.ok, s) =>
    if (cur s).1 == 0x5D then (.ok, { x with s := mv (cur s).2 })
    else if (cur s).1 == 0x2C then k { x with s := mv (cur s).2 }
    else (.invalid, { x with s := (cur s).2 })
  | (e, s) => (e, { x with s := s })

/-- what follows a member: `}`, or `,` and the next round `k` -/
def membersTail (cfg : Cfg) (f : Nat) (k : S → Code × S) (x : S) : Code × S :=
  match skipSpaces cfg (f+1) x.s with
  | (.ok, s) =>
    if (cur s).1 == 0x7D then (.ok, { x with s := mv (cur s).2 })
    else if (cur s).1 == 0x2C then
      match skipSpaces cfg (f+1) (mv (cur s).2) with
      | (.ok, s) => k { x with s := s }
      | (e, s) => (e, { x with s := s })
    else (.invalid, { x with s := (cur s).2 })
  | (e, s) => (e, { x with s := s })

/-- a round that went well is followed by `tail` -/
def andThen (r : Code × S) (tail : S → Code × S) : Code × S :=
  match r with
  | (.ok, x) => tail x
  | r => r

/-- the key token, through the builder whatever becomes of the member -/
def keyToken (cfg : Cfg) (f : Nat) (c : Byte) (x : S) : Code × List Byte × S :=
  if c == 0x22 || c == 0x27 then quoted cfg (f+1) c { x with s := mv x.s }
  else if inUnquoted c then unquoted cfg (f+1) x
  else (.invalid, [], startString x)

/-- `object.getMember(key)` / `addMember`: the value slot the member's value is parsed into -/
def memberSlot (x : S) (l : Loc) (key : List Byte) : Option Nat × S :=
  match x.d.findKey l key with
  | some (_, v) => (some v, { x with d := x.d.clearV (.slot v) })
  | none =>
    let (node, x) := save x key
    match addMemberNode x.d l node with
    | (some v, d) => (some v, { x with d := d })
    | (none, d) => (none, { x with d := d })

/-- the value of a member that is kept: its slot, then the value `k` -/
def memberAt (l : Loc) (key : List Byte) (k : Nat → S → Code × S) (x : S) : Code × S :=
  match memberSlot x l key with
  | (none, x) => (.noMemory, x)
  | (some v, x) => k v x

/-- a member after its key: the colon, then the value `val` and what follows it -/
def memberRest (cfg : Cfg) (f : Nat) (val : S → Code × S) (x : S) : Code × S :=
  match skipSpaces cfg (f+1) x.s with
  | (.ok, s) =>
    if (cur s).1 != 0x3A then (.invalid, { x with s := (cur s).2 }) else val { x with s := mv (cur s).2 }
  | (e, s) => (e, { x with s := s })

/-- a value by its first byte -/
def valueAt (cfg : Cfg) (f limit : Nat) (l : Loc) (c : Byte) (x : S) : Code × S :=
  if c == 0x5B then openAt cfg f limit 0x5D (.arr x.d.null x.d.null) l (fun li => parseElems cfg f li l) x
  else if c == 0x7B then openAt cfg f limit 0x7D (.obj x.d.null x.d.null) l (fun li => parseMembers cfg f li l) x
  else if c == 0x22 || c == 0x27 then stringAt cfg f c l x
  else if c == 0x74 then rd { x with d := x.d.set l (.bool true) } (skipKeyword "true".toUTF8.toList x.s)
  else if c == 0x66 then rd { x with d := x.d.set l (.bool false) } (skipKeyword "false".toUTF8.toList x.s)
  else if c == 0x6E then rd x (skipKeyword "null".toUTF8.toList x.s)
  else numeric cfg l x

theorem ite_cases {α : Type} {P : α → Prop} {c : Prop} [Decidable c] {a b : α} (ha : P a) (hb : P b) :
    P (if c then a else b) := by
  split
  · exact ha
  · exact hb

/-- the cases of a value: one fact per kind of value proves it of `valueAt` -/
theorem valueAt_cases {P : Code × S → Prop} (cfg : Cfg) (f limit : Nat) (l : Loc) (c : Byte) (x : S)
    (arr : P (openAt cfg f limit 0x5D (.arr x.d.null x.d.null) l (fun li => parseElems cfg f li l) x))
    (obj : P (openAt cfg f limit 0x7D (.obj x.d.null x.d.null) l (fun li => parseMembers cfg f li l) x))
    (str : P (stringAt cfg f c l x))
    (tt : P (rd { x with d := x.d.set l (.bool true) } (skipKeyword "true".toUTF8.toList x.s)))
    (ff : P (rd { x with d := x.d.set l (.bool false) } (skipKeyword "false".toUTF8.toList x.s)))
    (null : P (rd x (skipKeyword "null".toUTF8.toList x.s)))
    (num : P (numeric cfg l x)) : P (valueAt cfg f limit l c x) :=
  ite_cases arr (ite_cases obj (ite_cases str (ite_cases tt (ite_cases ff (ite_cases null num)))))

theorem parseVariant_succ (cfg : Cfg) (f limit : Nat) (l : Loc) (x : S) :
    parseVariant cfg (f+1) limit l x =
      match skipSpaces cfg (f+1) x.s with
      | (.ok, s) => valueAt cfg f limit l (cur s).1 { x with s := (cur s).2 }
      | (e, s) => (e, { x with s := s }) := by
  simp only [parseVariant, valueAt, openAt, afterOpen, stringAt, rd]
  rfl

theorem parseElems_succ (cfg : Cfg) (f limit : Nat) (l : Loc) (x : S) :
    parseElems cfg (f+1) limit l x =
      match x.d.addElement l with
      | (none, d) => (.noMemory, { x with d := d })
      | (some id, d) =>
        andThen (parseVariant cfg f limit (.slot id) { x with d := d }) (elemsTail cfg f (parseElems cfg f limit l)) := by
  simp only [parseElems, andThen, elemsTail]
  rfl

theorem parseMembers_succ (cfg : Cfg) (f limit : Nat) (l : Loc) (x : S) :
    parseMembers cfg (f+1) limit l x =
      match keyToken cfg f (cur x.s).1 { x with s := (cur x.s).2 } with
      | (.ok, key, x) =>
        memberRest cfg f (memberAt l key fun v x =>
          andThen (parseVariant cfg f limit (.slot v) x) (membersTail cfg f (parseMembers cfg f limit l))) x
      | (e, _, x) => (e, x) := by
  simp only [parseMembers, keyToken, memberRest, memberAt, memberSlot, andThen, membersTail]
  rfl

end JDD

namespace JDDF
open DL JDD
open JD (Byte Code Cfg Flt Transparent cur mv skipSpaces skipKeyword skipVariant skipElems skipMembers skipQuoted skipNumeric)

/-- a container value that is not kept: the nesting limit counts all the same -/
def skipAt (limit : Nat) (k : Nat → S → Code × S) (x : S) : Code × S :=
  match limit with
  | 0 => (.tooDeep, x)
  | limit'+1 => k limit' x

/-- `true` or `false`, stored if the filter allows a value here -/
def boolAt (allow b : Bool) (l : Loc) (x : S) : S := if allow then { x with d := x.d.set l (.bool b) } else x

/-- a value by its first byte -/
def valueAt (cfg : Cfg) (f limit : Nat) (flt : Flt) (l : Loc) (c : Byte) (x : S) : Code × S :=
  if c == 0x5B then
    if flt.allowArray then
      openAt cfg f limit 0x5D (.arr x.d.null x.d.null) l (fun li => parseElems cfg f li flt.subIdx l) x
    else skipAt limit (fun li x => rd x (skipElems cfg f li (mv x.s))) x
  else if c == 0x7B then
    if flt.allowObject then
      openAt cfg f limit 0x7D (.obj x.d.null x.d.null) l (fun li => parseMembers cfg f li flt l) x
    else skipAt limit (fun li => afterOpen cfg f 0x7D (fun x => rd x (skipMembers cfg f li x.s))) x
  else if c == 0x22 || c == 0x27 then
    if flt.allowValue then stringAt cfg f c l x else rd x (skipQuoted c (f+1) (mv x.s))
  else if c == 0x74 then
    rd (boolAt flt.allowValue true l x) (skipKeyword "true".toUTF8.toList (boolAt flt.allowValue true l x).s)
  else if c == 0x66 then
    rd (boolAt flt.allowValue false l x) (skipKeyword "false".toUTF8.toList (boolAt flt.allowValue false l x).s)
  else if c == 0x6E then rd x (skipKeyword "null".toUTF8.toList x.s)
  else if flt.allowValue then numeric cfg l x
  else (.ok, { x with s := skipNumeric cfg (f+1) x.s })

/-- the cases of a value, kept or skipped: one fact per case proves it of `valueAt` -/
theorem valueAt_cases {P : Code × S → Prop} (cfg : Cfg) (f limit : Nat) (flt : Flt) (l : Loc) (c : Byte) (x : S)
    (arr : P (openAt cfg f limit 0x5D (.arr x.d.null x.d.null) l (fun li => parseElems cfg f li flt.subIdx l) x))
    (arrSkip : P (skipAt limit (fun li x => rd x (skipElems cfg f li (mv x.s))) x))
    (obj : P (openAt cfg f limit 0x7D (.obj x.d.null x.d.null) l (fun li => parseMembers cfg f li flt l) x))
    (objSkip : P (skipAt limit (fun li => afterOpen cfg f 0x7D (fun x => rd x (skipMembers cfg f li x.s))) x))
    (str : P (stringAt cfg f c l x))
    (strSkip : P (rd x (skipQuoted c (f+1) (mv x.s))))
    (tt : P (rd (boolAt flt.allowValue true l x) (skipKeyword "true".toUTF8.toList (boolAt flt.allowValue true l x).s)))
    (ff : P (rd (boolAt flt.allowValue false l x) (skipKeyword "false".toUTF8.toList (boolAt flt.allowValue false l x).s)))
    (null : P (rd x (skipKeyword "null".toUTF8.toList x.s)))
    (num : P (numeric cfg l x))
    (numSkip : P (.ok, { x with s := skipNumeric cfg (f+1) x.s })) : P (valueAt cfg f limit flt l c x) :=
  ite_cases (ite_cases arr arrSkip) (ite_cases (ite_cases obj objSkip) (ite_cases (ite_cases str strSkip)
    (ite_cases tt (ite_cases ff (ite_cases null (ite_cases num numSkip))))))

theorem parseVariant_succ (cfg : Cfg) (f limit : Nat) (flt : Flt) (l : Loc) (x : S) :
    parseVariant cfg (f+1) limit flt l x =
      match skipSpaces cfg (f+1) x.s with
      | (.ok, s) => valueAt cfg f limit flt l (cur s).1 { x with s := (cur s).2 }
      | (e, s) => (e, { x with s := s }) := by
  simp only [parseVariant, valueAt, openAt, afterOpen, stringAt, skipAt, boolAt, rd]
  rfl

/-- an element: a fresh slot and the value in it, or the value skipped -/
def elemHead (cfg : Cfg) (f limit : Nat) (ef : Flt) (l : Loc) (x : S) : Code × S :=
  if ef.allow then
    match x.d.addElement l with
    | (none, d) => (.noMemory, { x with d := d })
    | (some id, d) => parseVariant cfg f limit ef (.slot id) { x with d := d }
  else rd x (skipVariant cfg f limit x.s)

theorem parseElems_succ (cfg : Cfg) (f limit : Nat) (ef : Flt) (l : Loc) (x : S) :
    parseElems cfg (f+1) limit ef l x =
      andThen (elemHead cfg f limit ef l x) (elemsTail cfg f (parseElems cfg f limit ef l)) := by
  simp only [parseElems, andThen, elemHead, elemsTail, rd]
  rfl

/-- the value of a member: built in the slot `getMember` provides, or skipped -/
def memberHead (cfg : Cfg) (f limit : Nat) (mf : Flt) (l : Loc) (key : List Byte) (x : S) : Code × S :=
  if mf.allow then memberAt l key (fun v => parseVariant cfg f limit mf (.slot v)) x
  else rd x (skipVariant cfg f limit x.s)

theorem parseMembers_succ (cfg : Cfg) (f limit : Nat) (flt : Flt) (l : Loc) (x : S) :
    parseMembers cfg (f+1) limit flt l x =
      match keyToken cfg f (cur x.s).1 { x with s := (cur x.s).2 } with
      | (.ok, key, x) =>
        memberRest cfg f (fun x => andThen (memberHead cfg f limit (flt.subKey key) l key x)
          (membersTail cfg f (parseMembers cfg f limit flt l))) x
      | (e, _, x) => (e, x) := by
  simp only [parseMembers, keyToken, memberRest, memberHead, memberAt, memberSlot, andThen, membersTail, rd]
  rfl

theorem andThen_memberAt (l : Loc) (key : List Byte) (k : Nat → S → Code × S) (tail : S → Code × S) (x : S) :
    andThen (memberAt l key k x) tail = memberAt l key (fun v x => andThen (k v x) tail) x := by
  unfold memberAt
  generalize memberSlot x l key = r
  obtain ⟨o, y⟩ := r
  cases o <;> rfl

/-- with a transparent filter every `allow…` is true and `subIdx`, `subKey` are transparent again: the filtered routines
    are the unfiltered ones -/
theorem parse_transparent {cfg : Cfg} : ∀ fuel,
    (∀ limit f l x, Transparent f → parseVariant cfg fuel limit f l x = JDD.parseVariant cfg fuel limit l x) ∧
    (∀ limit f l x, Transparent f → parseElems cfg fuel limit f l x = JDD.parseElems cfg fuel limit l x) ∧
    (∀ limit f l x, Transparent f → parseMembers cfg fuel limit f l x = JDD.parseMembers cfg fuel limit l x) := by
  intro fuel
  induction fuel with
  | zero =>
    refine ⟨?_, ?_, ?_⟩ <;> intro limit f l x _
    · simp only [parseVariant, JDD.parseVariant]
    · simp only [parseElems, JDD.parseElems]
    · simp only [parseMembers, JDD.parseMembers]
  | succ n ih =>
    obtain ⟨ihV, ihE, ihM⟩ := ih
    refine ⟨?_, ?_, ?_⟩
    · intro limit f l x h
      have hE : (fun li => parseElems cfg n li f.subIdx l) = fun li => JDD.parseElems cfg n li l :=
        funext fun li => funext fun x => ihE li _ l x h.subIdx
      have hM : (fun li => parseMembers cfg n li f l) = fun li => JDD.parseMembers cfg n li l :=
        funext fun li => funext fun x => ihM li _ l x h
      have hv : ∀ c y, valueAt cfg n limit f l c y = JDD.valueAt cfg n limit l c y := fun c y => by
        simp only [valueAt, JDD.valueAt, boolAt, h.allowArray, h.allowObject, h.allowValue, if_true, hE, hM]
      rw [parseVariant_succ, JDD.parseVariant_succ]
      simp only [hv]
    · intro limit f l x h
      have hE : parseElems cfg n limit f l = JDD.parseElems cfg n limit l := funext fun x => ihE limit f l x h
      rw [parseElems_succ, JDD.parseElems_succ, hE]
      simp only [elemHead, h.allow, if_true, ihV limit f _ _ h]
      generalize x.d.addElement l = r
      obtain ⟨o, d1⟩ := r
      cases o <;> rfl
    · intro limit f l x h
      have hM : parseMembers cfg n limit f l = JDD.parseMembers cfg n limit l := funext fun x => ihM limit f l x h
      have hV : ∀ key v, parseVariant cfg n limit (f.subKey key) (.slot v) = JDD.parseVariant cfg n limit (.slot v) :=
        fun key v => funext fun x => ihV limit _ _ x (h.subKey key)
      rw [parseMembers_succ, JDD.parseMembers_succ, hM]
      simp only [memberHead, (h.subKey _).allow, if_true, andThen_memberAt, hV]

end JDDF
