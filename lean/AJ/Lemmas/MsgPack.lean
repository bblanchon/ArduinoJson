/- Helper lemmas for C08: the byte-level pieces of the MessagePack serializer model (`MD.encUInt`, `MD.encInt`,
   `MD.strHdr`, `MD.arrHdr`, `MD.mapHdr`, `MD.encF32`, `MD.encF64`) are read back by the independent
   specification decoder `MSpec.decode`: the branch of one decoder step for each range of the header byte, then the
   pieces. For the floats: the integer shortcut of `encF32` stays within int64, binary32 → binary64 is exact
   (`widen_exact`), and `f32MV` / `f64MV` name the object written. Last, the length of each piece (shortest header). -/
import AJ.Lemmas.MpRoundTrip
import AJ.Lemmas.SFWidth
import AJ.Spec.MSpec
namespace MsgPack
open MSpec MD

/-! ## big-endian: `MSpec.be` is `MD.beNat` -/
theorem be_beN (k n : Nat) : be (beN k n) = n % 256^k := beNat_beN k n
theorem be_beN4 (n : Nat) (h : n < 4294967296) : be (beN 4 n) = n := beNat_beN4 n h
theorem be_beN8 (n : Nat) (h : n < 18446744073709551616) : be (beN 8 n) = n := beNat_beN8 n h

theorem take?_append (n : Nat) (l r : List UInt8) (h : l.length = n) : take? n (l ++ r) = some (l, r) := by
  subst h; simp [take?]

theorem take?_one (t : UInt8) (r : List UInt8) : take? 1 (t :: r) = some ([t], r) := take?_append 1 [t] r rfl

theorem take?_beN (k n : Nat) (r : List UInt8) : take? k (beN k n ++ r) = some (beN k n, r) :=
  take?_append _ _ _ (beN_length k n)

/-- `MSpec.signed` on a payload is its two's complement reading `MD.twos` -/
theorem signed_beN (k : Nat) (hk : 0 < k) (v : Int) (h1 : -(2:Int)^(8*k-1) ≤ v) (h2 : v < 0) :
    signed k (be (beN k (v + (2:Int)^(8*k)).toNat)) = v := by
  have := twos_beN k hk v h1 h2
  unfold twos at this
  rwa [beN_length] at this

/-! ## one step of the specification decoder -/
theorem decode_step (f : Nat) (c : UInt8) (r : List UInt8) :
  decode (f+1) (c :: r) =
    (let c := c.toNat
    if c ≤ 0x7f then some (.int c, r)
    else if c ≤ 0x8f then decodeMap f (c - 0x80) r []
    else if c ≤ 0x9f then decodeArr f (c - 0x90) r []
    else if c ≤ 0xbf then (take? (c - 0xa0) r).map (fun (s, r) => (.str s, r))
    else if c == 0xc0 then some (.nil, r)
    else if c == 0xc1 then none
    else if c == 0xc2 then some (.bool false, r)
    else if c == 0xc3 then some (.bool true, r)
    else if c == 0xc4 || c == 0xc5 || c == 0xc6 then
      let w := 2^(c - 0xc4)
      (take? w r).bind (fun (l, r) => (take? (be l) r).map (fun (s, r) => (.bin s, r)))
    else if c == 0xc7 || c == 0xc8 || c == 0xc9 then
      let w := 2^(c - 0xc7)
      (take? w r).bind (fun (l, r) => (take? 1 r).bind (fun (t, r) => (take? (be l) r).map (fun (s, r) => (.ext (be t) s, r))))
    else if c == 0xca then (take? 4 r).map (fun (b, r) => (.f32 (be b), r))
    else if c == 0xcb then (take? 8 r).map (fun (b, r) => (.f64 (be b), r))
    else if 0xcc ≤ c && c ≤ 0xcf then let w := 2^(c - 0xcc); (take? w r).map (fun (b, r) => (.int (be b), r))
    else if 0xd0 ≤ c && c ≤ 0xd3 then let w := 2^(c - 0xd0); (take? w r).map (fun (b, r) => (.int (signed w (be b)), r))
    else if 0xd4 ≤ c && c ≤ 0xd8 then
      let n := 2^(c - 0xd4)
      (take? 1 r).bind (fun (t, r) => (take? n r).map (fun (s, r) => (.ext (be t) s, r)))
    else if c == 0xd9 || c == 0xda || c == 0xdb then
      let w := 2^(c - 0xd9)
      (take? w r).bind (fun (l, r) => (take? (be l) r).map (fun (s, r) => (.str s, r)))
    else if c == 0xdc || c == 0xdd then let w := 2 * 2^(c - 0xdc); (take? w r).bind (fun (l, r) => decodeArr f (be l) r [])
    else if c == 0xde || c == 0xdf then let w := 2 * 2^(c - 0xde); (take? w r).bind (fun (l, r) => decodeMap f (be l) r [])
    else some (.int (Int.ofNat c - 256), r)) := by
  rw [decode]

/-! The branch of `decode_step` taken for each range of the header byte. For the four `fix` ranges the byte is a variable and
   the conditions before the branch are refuted one by one; a code of a sized family (`base + j`) is one of at most five
   bytes, and for a given byte the ladder evaluates. -/
theorem decode_fixint (f : Nat) (c : UInt8) (r : List UInt8) (h : c.toNat ≤ 0x7f) :
    decode (f+1) (c :: r) = some (.int c.toNat, r) := by
  rw [decode_step]; dsimp only
  rw [if_pos h]
theorem decode_fixmap (f : Nat) (c : UInt8) (r : List UInt8) (h1 : 0x80 ≤ c.toNat) (h2 : c.toNat ≤ 0x8f) :
    decode (f+1) (c :: r) = decodeMap f (c.toNat - 0x80) r [] := by
  rw [decode_step]; dsimp only
  rw [if_neg (by omega), if_pos h2]
theorem decode_fixarr (f : Nat) (c : UInt8) (r : List UInt8) (h1 : 0x90 ≤ c.toNat) (h2 : c.toNat ≤ 0x9f) :
    decode (f+1) (c :: r) = decodeArr f (c.toNat - 0x90) r [] := by
  rw [decode_step]; dsimp only
  rw [if_neg (by omega), if_neg (by omega), if_pos h2]
theorem decode_fixstr (f : Nat) (c : UInt8) (r : List UInt8) (h1 : 0xa0 ≤ c.toNat) (h2 : c.toNat ≤ 0xbf) :
    decode (f+1) (c :: r) = (take? (c.toNat - 0xa0) r).map (fun (s, r) => (.str s, r)) := by
  rw [decode_step]; dsimp only
  rw [if_neg (by omega), if_neg (by omega), if_neg (by omega), if_pos h2]
/-- the last branch: every condition of the ladder fails -/
theorem decode_negfix (f : Nat) (c : UInt8) (r : List UInt8) (h : 0xe0 ≤ c.toNat) :
    decode (f+1) (c :: r) = some (.int (Int.ofNat c.toNat - 256), r) := by
  rw [decode_step]
  simp only [beq_iff_eq, Bool.or_eq_true, Bool.and_eq_true, decide_eq_true_eq]
  repeat rw [if_neg (by omega)]

theorem decode_c0 (f : Nat) (r : List UInt8) : decode (f+1) (0xc0 :: r) = some (.nil, r) := by
  rw [decode_step]; rfl
theorem decode_c2 (f : Nat) (r : List UInt8) : decode (f+1) (0xc2 :: r) = some (.bool false, r) := by
  rw [decode_step]; rfl
theorem decode_c3 (f : Nat) (r : List UInt8) : decode (f+1) (0xc3 :: r) = some (.bool true, r) := by
  rw [decode_step]; rfl
theorem decode_ca (f : Nat) (r : List UInt8) :
    decode (f+1) (0xca :: r) = (take? 4 r).map (fun (b, r) => (.f32 (be b), r)) := by
  rw [decode_step]; rfl
theorem decode_cb (f : Nat) (r : List UInt8) :
    decode (f+1) (0xcb :: r) = (take? 8 r).map (fun (b, r) => (.f64 (be b), r)) := by
  rw [decode_step]; rfl

theorem byte_eq {c : UInt8} {n : Nat} (h : c.toNat = n) (hn : n < 256) : c = UInt8.ofNat n :=
  UInt8.toNat_inj.mp (h.trans (ofNat_toNat n hn).symm)

/-- bin 8 / 16 / 32 -/
theorem decode_binN (f : Nat) (code : UInt8) (j : Nat) (r : List UInt8) (hj : j < 3) (hc : code.toNat = 0xc4 + j) :
    decode (f+1) (code :: r) =
      (take? (2^j) r).bind (fun (l, r) => (take? (be l) r).map (fun (s, r) => (.bin s, r))) := by
  obtain rfl := byte_eq hc (by omega)
  obtain rfl | rfl | rfl : j = 0 ∨ j = 1 ∨ j = 2 := by omega
  all_goals rw [decode_step]; rfl
/-- ext 8 / 16 / 32 -/
theorem decode_extN (f : Nat) (code : UInt8) (j : Nat) (r : List UInt8) (hj : j < 3) (hc : code.toNat = 0xc7 + j) :
    decode (f+1) (code :: r) =
      (take? (2^j) r).bind (fun (l, r) => (take? 1 r).bind (fun (t, r) =>
        (take? (be l) r).map (fun (s, r) => (.ext (be t) s, r)))) := by
  obtain rfl := byte_eq hc (by omega)
  obtain rfl | rfl | rfl : j = 0 ∨ j = 1 ∨ j = 2 := by omega
  all_goals rw [decode_step]; rfl
/-- uint 8 .. 64 -/
theorem decode_uint (f : Nat) (code : UInt8) (j : Nat) (r : List UInt8) (hj : j < 4) (hc : code.toNat = 0xcc + j) :
    decode (f+1) (code :: r) = (take? (2^j) r).map (fun (b, r) => (.int (be b), r)) := by
  obtain rfl := byte_eq hc (by omega)
  obtain rfl | rfl | rfl | rfl : j = 0 ∨ j = 1 ∨ j = 2 ∨ j = 3 := by omega
  all_goals rw [decode_step]; rfl
/-- int 8 .. 64 -/
theorem decode_sint (f : Nat) (code : UInt8) (j : Nat) (r : List UInt8) (hj : j < 4) (hc : code.toNat = 0xd0 + j) :
    decode (f+1) (code :: r) = (take? (2^j) r).map (fun (b, r) => (.int (signed (2^j) (be b)), r)) := by
  obtain rfl := byte_eq hc (by omega)
  obtain rfl | rfl | rfl | rfl : j = 0 ∨ j = 1 ∨ j = 2 ∨ j = 3 := by omega
  all_goals rw [decode_step]; rfl
/-- fixext 1 / 2 / 4 / 8 / 16 -/
theorem decode_fixext (f : Nat) (code : UInt8) (j : Nat) (r : List UInt8) (hj : j < 5) (hc : code.toNat = 0xd4 + j) :
    decode (f+1) (code :: r) =
      (take? 1 r).bind (fun (t, r) => (take? (2^j) r).map (fun (s, r) => (.ext (be t) s, r))) := by
  obtain rfl := byte_eq hc (by omega)
  obtain rfl | rfl | rfl | rfl | rfl : j = 0 ∨ j = 1 ∨ j = 2 ∨ j = 3 ∨ j = 4 := by omega
  all_goals rw [decode_step]; rfl
/-- str 8 / 16 / 32 -/
theorem decode_strN (f : Nat) (code : UInt8) (j : Nat) (r : List UInt8) (hj : j < 3) (hc : code.toNat = 0xd9 + j) :
    decode (f+1) (code :: r) =
      (take? (2^j) r).bind (fun (l, r) => (take? (be l) r).map (fun (s, r) => (.str s, r))) := by
  obtain rfl := byte_eq hc (by omega)
  obtain rfl | rfl | rfl : j = 0 ∨ j = 1 ∨ j = 2 := by omega
  all_goals rw [decode_step]; rfl
theorem decode_dc (f : Nat) (r : List UInt8) :
    decode (f+1) (0xdc :: r) = (take? 2 r).bind (fun (l, r) => decodeArr f (be l) r []) := by
  rw [decode_step]; rfl
theorem decode_dd (f : Nat) (r : List UInt8) :
    decode (f+1) (0xdd :: r) = (take? 4 r).bind (fun (l, r) => decodeArr f (be l) r []) := by
  rw [decode_step]; rfl
theorem decode_de (f : Nat) (r : List UInt8) :
    decode (f+1) (0xde :: r) = (take? 2 r).bind (fun (l, r) => decodeMap f (be l) r []) := by
  rw [decode_step]; rfl
theorem decode_df (f : Nat) (r : List UInt8) :
    decode (f+1) (0xdf :: r) = (take? 4 r).bind (fun (l, r) => decodeMap f (be l) r []) := by
  rw [decode_step]; rfl

/-! ## integers -/
theorem decode_encUInt (f n : Nat) (h : n < 2^64) (rest : List UInt8) :
    decode (f+1) (encUInt n ++ rest) = some (.int n, rest) := by
  obtain ⟨h7, e⟩ | ⟨code, j, _, hj, hc, hb, e⟩ := encUInt_shape n
  · have e' : (UInt8.ofNat n).toNat = n := ofNat_toNat _ (by omega)
    rw [e, List.singleton_append, decode_fixint _ _ _ (by rw [e']; exact h7), e']
  · rw [e, List.cons_append, decode_uint f code j _ hj hc, take?_beN]
    simp only [Option.map_some]
    rw [be_beN, Nat.mod_eq_of_lt (hb h)]

theorem decode_encInt (f : Nat) (v : Int) (h1 : -2^63 ≤ v) (h2 : v < 2^63) (rest : List UInt8) :
    decode (f+1) (encInt v ++ rest) = some (.int v, rest) := by
  obtain ⟨h0, e⟩ | ⟨h0, h5, e⟩ | ⟨code, j, h5, hj, hc, hb, e⟩ := encInt_shape v
  · rw [e, decode_encUInt _ _ (by omega), Int.toNat_of_nonneg (by omega)]
  · rw [e, List.singleton_append]
    by_cases hz : v = 0
    · subst hz; rw [decode_fixint _ _ _ (by decide)]; rfl
    · have e' : (UInt8.ofNat ((v + 256).toNat % 256)).toNat = (v + 256).toNat := by
        rw [ofNat_toNat _ (by omega)]; omega
      rw [decode_negfix _ _ _ (by rw [e']; omega), e']
      congr 3; simp only [Int.ofNat_eq_natCast]; omega
  · rw [e, List.cons_append, decode_sint f code j _ hj hc, take?_beN]
    simp only [Option.map_some]
    rw [signed_beN _ (Nat.two_pow_pos j) v (hb h1) (by omega)]

/-! ## string / array / map headers -/
theorem decode_str (f : Nat) (s : List UInt8) (h : s.length < 2^32) (rest : List UInt8) :
    decode (f+1) (strHdr s.length ++ s ++ rest) = some (.str s, rest) := by
  obtain ⟨h5, e⟩ | ⟨code, j, hj, hc, hb, e⟩ := strHdr_shape s.length h
  · have e' : (UInt8.ofNat (0xA0 + s.length)).toNat = 0xA0 + s.length := ofNat_toNat _ (by omega)
    rw [e, List.singleton_append, List.cons_append,
      decode_fixstr _ _ _ (by rw [e']; omega) (by rw [e']; omega), e', take?_append _ s rest (by omega)]
    rfl
  · rw [e, List.append_assoc, List.cons_append, decode_strN f code j _ hj hc, take?_beN]
    simp only [Option.bind_some]
    rw [be_beN, Nat.mod_eq_of_lt hb, take?_append _ s rest rfl]
    rfl

theorem decode_arrHdr (f n : Nat) (h : n < 2^32) (body : List UInt8) :
    decode (f+1) (arrHdr n ++ body) = decodeArr f n body [] := by
  unfold arrHdr
  split
  · have e : (UInt8.ofNat (0x90 + n)).toNat = 0x90 + n := ofNat_toNat _ (by omega)
    rw [List.singleton_append, decode_fixarr _ _ _ (by rw [e]; omega) (by rw [e]; omega), e,
      Nat.add_sub_cancel_left]
  · split
    · rw [List.cons_append, decode_dc, take?_beN]
      simp only [Option.bind_some]; rw [be_beN, Nat.mod_eq_of_lt (by omega)]
    · rw [List.cons_append, decode_dd, take?_beN]
      simp only [Option.bind_some]; rw [be_beN4 _ (by omega)]

theorem decode_mapHdr (f n : Nat) (h : n < 2^32) (body : List UInt8) :
    decode (f+1) (mapHdr n ++ body) = decodeMap f n body [] := by
  unfold mapHdr
  split
  · have e : (UInt8.ofNat (0x80 + n)).toNat = 0x80 + n := ofNat_toNat _ (by omega)
    rw [List.singleton_append, decode_fixmap _ _ _ (by rw [e]; omega) (by rw [e]; omega), e,
      Nat.add_sub_cancel_left]
  · split
    · rw [List.cons_append, decode_de, take?_beN]
      simp only [Option.bind_some]; rw [be_beN, Nat.mod_eq_of_lt (by omega)]
    · rw [List.cons_append, decode_df, take?_beN]
      simp only [Option.bind_some]; rw [be_beN4 _ (by omega)]


/-! ## softfloat facts needed for the float32/float64 encoders -/
section floats
open SF

theorem cvt32_lt (bits : Nat) : JD.cvt b64 b32 bits < 2^32 := JD.cvt_lt b64 b32 bits

theorem decode_fin_lt (f : Fmt) (bits : Nat) (neg : Bool) (m : Nat) (e : Int)
    (h : SF.decode f bits = .fin neg m e) : m < 2^(f.mbits+1) := by
  have hp : 0 < 2^f.mbits := Nat.two_pow_pos _
  have hmod : bits % 2^f.mbits < 2^f.mbits := Nat.mod_lt _ hp
  have hs : 2^(f.mbits+1) = 2 * 2^f.mbits := by rw [Nat.pow_succ, Nat.mul_comm]
  simp only [SF.decode] at h
  split at h
  · split at h <;> cases h
  · split at h
    · injection h with _ hm _; omega
    · injection h with _ hm _; omega

theorem decode32_fin (bits : Nat) (neg : Bool) (m : Nat) (e : Int)
    (h : SF.decode b32 bits = .fin neg m e) : m < 2^24 := decode_fin_lt b32 bits neg m e h

theorem dec_lo : SF.decode b32 0xDF000000 = .fin true 8388608 40 := by decide +kernel
theorem dec_hi : SF.decode b32 0x5EFFFFFF = .fin false 16777215 39 := by decide +kernel

theorem ge_lo_iff (bits : Nat) (neg : Bool) (m : Nat) (e : Int) (h : SF.decode b32 bits = .fin neg m e) :
    ge b32 bits 0xDF000000 = true ↔
      ¬ ((if neg then -1 else 1) * ((m * 2^((e - min e 40).toNat) : Nat) : Int)
          < (-1) * ((8388608 * 2^((40 - min e 40).toNat) : Nat) : Int)) := by
  simp [ge, le, lt, h, dec_lo]

theorem le_hi_iff (bits : Nat) (neg : Bool) (m : Nat) (e : Int) (h : SF.decode b32 bits = .fin neg m e) :
    le b32 bits 0x5EFFFFFF = true ↔
      ¬ ((1 : Int) * ((16777215 * 2^((39 - min 39 e).toNat) : Nat) : Int)
          < (if neg then -1 else 1) * ((m * 2^((e - min 39 e).toNat) : Nat) : Int)) := by
  simp [le, lt, h, dec_hi]

/-- magnitude (truncated) of a finite value m * 2^e -/
def magOf (m : Nat) (e : Int) : Nat := if e ≥ 0 then m * 2^e.toNat else m / 2^((-e).toNat)

theorem lo_nat (bits : Nat) (m : Nat) (e : Int) (h : SF.decode b32 bits = .fin true m e)
    (hlo : ge b32 bits 0xDF000000 = true) (he : 40 ≤ e) : m * 2^((e - 40).toNat) ≤ 8388608 := by
  have h1 := (ge_lo_iff bits true m e h).1 hlo
  have e1 : min e 40 = 40 := by omega
  simp only [e1, Int.sub_self, Int.toNat_zero, Nat.pow_zero, Nat.mul_one, ↓reduceIte] at h1
  generalize m * 2^((e - 40).toNat) = X at h1 ⊢
  omega

theorem hi_nat (bits : Nat) (m : Nat) (e : Int) (h : SF.decode b32 bits = .fin false m e)
    (hhi : le b32 bits 0x5EFFFFFF = true) (he : 39 ≤ e) : m * 2^((e - 39).toNat) ≤ 16777215 := by
  have h1 := (le_hi_iff bits false m e h).1 hhi
  have e1 : min 39 e = 39 := by omega
  simp only [e1, Int.sub_self, Int.toNat_zero, Nat.pow_zero, Nat.mul_one, Bool.false_eq_true, ↓reduceIte] at h1
  generalize m * 2^((e - 39).toNat) = X at h1 ⊢
  omega

theorem mag_small (m : Nat) (e : Int) (hm : m < 2^24) (he : e < 40) : magOf m e < 2^63 := by
  unfold magOf
  split
  · have h1 : 2^e.toNat ≤ 2^39 := Nat.pow_le_pow_right (by decide) (by omega)
    have h2 : m * 2^e.toNat ≤ m * 2^39 := Nat.mul_le_mul_left _ h1
    omega
  · have : m / 2^((-e).toNat) ≤ m := Nat.div_le_self _ _
    omega

theorem mag_split (m : Nat) (e : Int) (c : Nat) (he : (c : Int) ≤ e) :
    magOf m e = m * 2^((e - c).toNat) * 2^c := by
  unfold magOf
  rw [if_pos (by omega), Nat.mul_assoc, ← Nat.pow_add]
  congr 2; omega

theorem shortcut_range (bits : Nat) (neg : Bool) (m : Nat) (e : Int) (h : SF.decode b32 bits = .fin neg m e)
    (hlo : ge b32 bits 0xDF000000 = true) (hhi : le b32 bits 0x5EFFFFFF = true) :
    -2^63 ≤ (if neg then -(magOf m e : Int) else (magOf m e : Int)) ∧
      (if neg then -(magOf m e : Int) else (magOf m e : Int)) < 2^63 := by
  have hm := decode32_fin bits neg m e h
  cases neg with
  | true =>
    simp only [↓reduceIte]
    by_cases he : 40 ≤ e
    · have h1 := lo_nat bits m e h hlo he
      have h2 := mag_split m e 40 he
      generalize m * 2^((e - (40:Nat)).toNat) = X at h1 h2
      omega
    · have := mag_small m e hm (by omega); omega
  | false =>
    simp only [Bool.false_eq_true, ↓reduceIte]
    by_cases he : 39 ≤ e
    · have h1 := hi_nat bits m e h hhi he
      have h2 := mag_split m e 39 he
      generalize m * 2^((e - (39:Nat)).toNat) = X at h1 h2
      omega
    · have := mag_small m e hm (by omega); omega

/-- the MessagePack value written for a binary32 bit pattern: the integer of the same value when the serializer
    takes its integer shortcut, the bit-identical float32 otherwise -/
def f32MV (bits : Nat) : MV :=
  match SF.decode b32 bits with
  | .fin neg m e =>
    if (ge b32 bits 0xDF000000 && le b32 bits 0x5EFFFFFF) && (e ≥ 0 || m % 2^((-e).toNat) == 0) then
      .int (if neg then -(magOf m e : Int) else (magOf m e : Int))
    else .f32 bits
  | _ => .f32 bits

theorem decode_f32raw (f bits : Nat) (h : bits < 2^32) (rest : List UInt8) :
    MSpec.decode (f+1) ((0xCA :: beN 4 bits) ++ rest) = some (.f32 bits, rest) := by
  rw [List.cons_append, decode_ca, take?_beN]; simp only [Option.map_some]; rw [be_beN4 _ (by omega)]

theorem decode_f64raw (f bits : Nat) (h : bits < 2^64) (rest : List UInt8) :
    MSpec.decode (f+1) ((0xCB :: beN 8 bits) ++ rest) = some (.f64 bits, rest) := by
  rw [List.cons_append, decode_cb, take?_beN]; simp only [Option.map_some]; rw [be_beN8 _ (by omega)]

theorem decode_encF32 (f bits : Nat) (h : bits < 2^32) (rest : List UInt8) :
    MSpec.decode (f+1) (encF32 bits ++ rest) = some (f32MV bits, rest) := by
  cases hd : SF.decode b32 bits with
  | nan => simp only [encF32, f32MV, hd]; exact decode_f32raw f bits h rest
  | inf n => simp only [encF32, f32MV, hd]; exact decode_f32raw f bits h rest
  | fin neg m e =>
    simp only [encF32, f32MV, hd, magOf]
    split
    · rename_i hc
      simp only [Bool.and_eq_true] at hc
      have hr := shortcut_range bits neg m e hd hc.1.1 hc.1.2
      simp only [magOf] at hr
      exact decode_encInt f _ hr.1 hr.2 rest
    · exact decode_f32raw f bits h rest

/-! ### binary32 → binary64 is exact -/
theorem decode32_fin_range (bits : Nat) (neg : Bool) (m : Nat) (e : Int)
    (h : SF.decode b32 bits = .fin neg m e) : -149 ≤ e ∧ e ≤ 104 := by
  dsimp only [SF.decode, b32, Fmt.emax, Fmt.bias, Fmt.signBit] at h
  simp only [Nat.reducePow, Nat.reduceAdd, Nat.reduceSub] at h
  split at h
  · split at h <;> cases h
  · rename_i h1
    split at h
    · injection h with _ _ he; omega
    · rename_i h2
      simp only [beq_iff_eq] at h1 h2
      injection h with _ _ he; omega

theorem decode64_normal (neg : Bool) (ex X : Nat) (h1 : 0 < ex) (h2 : ex < 2047)
    (h3 : 4503599627370496 ≤ X) (h4 : X < 9007199254740992) :
    SF.decode b64 ((if neg then 9223372036854775808 else 0) + ex * 4503599627370496 + (X - 4503599627370496))
      = .fin neg X ((ex : Int) - 1023 - 52) := by
  dsimp only [SF.decode, b64, Fmt.emax, Fmt.bias, Fmt.signBit]
  simp only [Nat.reducePow, Nat.reduceAdd, Nat.reduceSub]
  generalize hs : (if neg = true then 9223372036854775808 else 0) = s
  have hs' : s = 0 ∧ neg = false ∨ s = 9223372036854775808 ∧ neg = true := by
    cases neg
    · exact .inl ⟨hs.symm, rfl⟩
    · exact .inr ⟨hs.symm, rfl⟩
  generalize hb : s + ex * 4503599627370496 + (X - 4503599627370496) = b
  have e1 : b / 4503599627370496 % 2048 = ex := by omega
  have e2 : b % 4503599627370496 + 4503599627370496 = X := by omega
  -- the sign bit is the quotient by `2^63`
  have e3 : (b / 9223372036854775808 % 2 == 1) = neg := by
    rcases hs' with ⟨rfl, rfl⟩ | ⟨rfl, rfl⟩
    · exact beq_false_of_ne (by omega)
    · exact beq_iff_eq.mpr (by omega)
  rw [e1, e2, e3]
  rw [if_neg (by simp; omega), if_neg (by simp; omega)]
  rfl

theorem log2_bounds (m : Nat) (hm0 : m ≠ 0) (hm : m < 2^24) :
    Nat.log2 m + 1 ≤ 24 ∧ 2^(Nat.log2 m) ≤ m ∧ m < 2^(Nat.log2 m + 1) :=
  ⟨by have := (Nat.log2_lt hm0).2 hm; omega, Nat.log2_self_le hm0, Nat.lt_log2_self⟩

theorem widen_mr (m : Nat) (hm0 : m ≠ 0) (hm : m < 2^24) :
    4503599627370496 ≤ m * 2^(53 - (Nat.log2 m + 1)) ∧ m * 2^(53 - (Nat.log2 m + 1)) < 9007199254740992 := by
  obtain ⟨hL, hlo, hhi⟩ := log2_bounds m hm0 hm
  have a : 2^(Nat.log2 m) * 2^(53 - (Nat.log2 m + 1)) = 4503599627370496 := by
    rw [← Nat.pow_add]; have : Nat.log2 m + (53 - (Nat.log2 m + 1)) = 52 := by omega
    rw [this]
  have b : 2^(Nat.log2 m + 1) * 2^(53 - (Nat.log2 m + 1)) = 9007199254740992 := by
    rw [← Nat.pow_add]; have : Nat.log2 m + 1 + (53 - (Nat.log2 m + 1)) = 53 := by omega
    rw [this]
  have c := Nat.mul_le_mul_right (2^(53 - (Nat.log2 m + 1))) hlo
  have d := Nat.mul_lt_mul_of_pos_right hhi (Nat.two_pow_pos (53 - (Nat.log2 m + 1)))
  omega

theorem roundPos64_small (neg : Bool) (m : Nat) (e : Int) (hm0 : m ≠ 0) (hm : m < 2^24)
    (he1 : -149 ≤ e) (he2 : e ≤ 104) :
    roundPos b64 neg m e =
      (if neg then 9223372036854775808 else 0)
        + (e + ((Nat.log2 m + 1 : Nat) : Int) + 1022).toNat * 4503599627370496
        + (m * 2^(53 - (Nat.log2 m + 1)) - 4503599627370496) := by
  obtain ⟨hL, _, _⟩ := log2_bounds m hm0 hm
  obtain ⟨hx1, hx2⟩ := widen_mr m hm0 hm
  dsimp only [roundPos, b64, Fmt.signBit, Fmt.bias, Fmt.emax, infBits]
  rw [if_neg hm0]
  generalize hE : max (e + ((Nat.log2 m + 1 : Nat) : Int) - ((52 : Nat) + 1)) (1 - ((2^(11-1) - 1 : Nat) : Int) - (52 : Nat)) = E
  have hE' : E = e + ((Nat.log2 m + 1 : Nat) : Int) - 53 := by
    simp only [Nat.reducePow, Nat.reduceSub] at hE; omega
  have hd : (e - E).toNat = 53 - (Nat.log2 m + 1) := by omega
  rw [if_neg (by omega : ¬ E ≥ e), hd]
  generalize m * 2^(53 - (Nat.log2 m + 1)) = X at hx1 hx2 ⊢
  simp only [Nat.reducePow, Nat.reduceAdd, Nat.reduceSub, Nat.reduceMul]
  simp only [if_neg (by omega : ¬ X ≥ 9007199254740992)]
  rw [if_neg (by omega : ¬ X < 4503599627370496)]
  rw [if_neg (by omega)]
  have : (E + ((1023 : Nat) : Int) + ((52 : Nat) : Int)).toNat = (e + ((Nat.log2 m + 1 : Nat) : Int) + 1022).toNat := by omega
  rw [this]

/-- binary32 → binary64 is exact: the double has the same sign and the same value `m * 2^e`
    (mantissa scaled by `2^j`, exponent lowered by `j`) -/
theorem widen_exact (f : Nat) (neg : Bool) (m : Nat) (e : Int) (h : SF.decode b32 f = .fin neg m e) (hm0 : m ≠ 0) :
    SF.decode b64 (JD.cvt b32 b64 f)
      = .fin neg (m * 2^(53 - (Nat.log2 m + 1))) (e - ((53 - (Nat.log2 m + 1) : Nat) : Int)) := by
  have hm := decode32_fin f neg m e h
  obtain ⟨he1, he2⟩ := decode32_fin_range f neg m e h
  obtain ⟨hL, _, _⟩ := log2_bounds m hm0 hm
  obtain ⟨hx1, hx2⟩ := widen_mr m hm0 hm
  unfold JD.cvt; rw [h]; simp only []
  rw [roundPos64_small neg m e hm0 hm he1 he2]
  rw [decode64_normal neg _ _ (by omega) (by omega) hx1 hx2]
  congr 1; omega

/-- ±0 widens to ±0 -/
theorem widen_zero (f : Nat) (neg : Bool) (e : Int) (h : SF.decode b32 f = .fin neg 0 e) :
    SF.decode b64 (JD.cvt b32 b64 f) = .fin neg 0 (-1074) := by
  have hz : roundPos b64 neg 0 e = if neg then b64.signBit else 0 := by simp [roundPos]
  unfold JD.cvt; rw [h]; simp only []
  rw [hz]
  cases neg <;> decide +kernel

theorem decode64_nanBits : SF.decode b64 (nanBits b64) = .nan := by decide +kernel
theorem decode64_infBits (n : Bool) : SF.decode b64 (infBits b64 n) = .inf n := by cases n <;> decide +kernel

/-- `MD.encF64` narrows to float32 exactly when this holds (the `same` flag of the model) -/
def narrows (bits : Nat) : Bool :=
  match SF.decode b64 bits with
  | .nan => false
  | _ => JD.cvt b32 b64 (JD.cvt b64 b32 bits) == bits ||
      (match SF.decode b64 bits, SF.decode b32 (JD.cvt b64 b32 bits) with
        | .fin _ 0 _, .fin _ 0 _ => true | _, _ => false)

theorem encF64_eq (bits : Nat) :
    encF64 bits = if narrows bits then encF32 (JD.cvt b64 b32 bits) else 0xCB :: beN 8 bits := rfl

/-- the MessagePack value written for a binary64 bit pattern -/
def f64MV (bits : Nat) : MV :=
  if narrows bits then f32MV (JD.cvt b64 b32 bits) else .f64 bits

theorem narrows_spec (bits : Nat) (hn : narrows bits = true) :
    SF.decode b64 bits ≠ .nan ∧
      (JD.cvt b32 b64 (JD.cvt b64 b32 bits) = bits ∨
        ∃ n e n' e', SF.decode b64 bits = .fin n 0 e ∧ SF.decode b32 (JD.cvt b64 b32 bits) = .fin n' 0 e') := by
  refine ⟨?_, ?_⟩
  · intro h; simp [narrows, h] at hn
  · unfold narrows at hn
    split at hn
    · cases hn
    · simp only [Bool.or_eq_true, beq_iff_eq] at hn
      rcases hn with h | h
      · exact Or.inl h
      · right
        split at h
        · rename_i n e n' e' h1 h2; exact ⟨n, e, n', e', h1, h2⟩
        · cases h

theorem decode_encF64 (f bits : Nat) (h : bits < 2^64) (rest : List UInt8) :
    MSpec.decode (f+1) (encF64 bits ++ rest) = some (f64MV bits, rest) := by
  rw [encF64_eq]; unfold f64MV
  split
  · exact decode_encF32 f _ (cvt32_lt bits) rest
  · exact decode_f64raw f bits h rest

theorem cvt_nan (src dst : Fmt) (x : Nat) (h : SF.decode src x = .nan) : JD.cvt src dst x = nanBits dst := by
  unfold JD.cvt; rw [h]
theorem cvt_inf (src dst : Fmt) (x : Nat) (n : Bool) (h : SF.decode src x = .inf n) :
    JD.cvt src dst x = infBits dst n := by
  unfold JD.cvt; rw [h]

end floats

/-! ## lengths (shortest header) -/
theorem length_cons_beN (c : UInt8) (k n : Nat) : (c :: beN k n).length = k + 1 := by
  rw [List.length_cons, beN_length]

theorem strHdr_length (n : Nat) :
    (strHdr n).length = if n < 32 then 1 else if n < 256 then 2 else if n < 65536 then 3 else 5 := by
  unfold strHdr; repeat' split
  all_goals first | rfl | exact length_cons_beN _ _ _
theorem arrHdr_length (n : Nat) :
    (arrHdr n).length = if n < 16 then 1 else if n < 65536 then 3 else 5 := by
  unfold arrHdr; repeat' split
  all_goals first | rfl | exact length_cons_beN _ _ _
theorem mapHdr_length (n : Nat) :
    (mapHdr n).length = if n < 16 then 1 else if n < 65536 then 3 else 5 := by
  unfold mapHdr; repeat' split
  all_goals first | rfl | exact length_cons_beN _ _ _
theorem encUInt_length (n : Nat) :
    (encUInt n).length =
      if n ≤ 127 then 1 else if n ≤ 255 then 2 else if n ≤ 65535 then 3 else if n ≤ 4294967295 then 5 else 9 := by
  unfold encUInt; repeat' split
  all_goals first | rfl | exact length_cons_beN _ _ _
theorem encInt_length (v : Int) :
    (encInt v).length =
      if v > 0 then (encUInt v.toNat).length
      else if v ≥ -32 then 1 else if v ≥ -128 then 2 else if v ≥ -32768 then 3
      else if v ≥ -2147483648 then 5 else 9 := by
  unfold encInt; repeat' split
  all_goals first | rfl | exact beN_length _ _ | exact length_cons_beN _ _ _

/-! every piece has at least its format byte -/
theorem strHdr_pos (n : Nat) : 1 ≤ (strHdr n).length := by
  unfold strHdr; repeat' split
  all_goals exact Nat.le_add_left 1 _
theorem arrHdr_pos (n : Nat) : 1 ≤ (arrHdr n).length := by
  unfold arrHdr; repeat' split
  all_goals exact Nat.le_add_left 1 _
theorem mapHdr_pos (n : Nat) : 1 ≤ (mapHdr n).length := by
  unfold mapHdr; repeat' split
  all_goals exact Nat.le_add_left 1 _
theorem encUInt_pos (n : Nat) : 1 ≤ (encUInt n).length := by
  obtain ⟨_, e⟩ | ⟨_, _, _, _, _, _, e⟩ := encUInt_shape n <;> rw [e] <;> exact Nat.le_add_left 1 _
theorem encInt_pos (v : Int) : 1 ≤ (encInt v).length := by
  obtain ⟨_, e⟩ | ⟨_, _, e⟩ | ⟨_, _, _, _, _, _, e⟩ := encInt_shape v <;> rw [e]
  · exact encUInt_pos _
  all_goals exact Nat.le_add_left 1 _
theorem encF32_pos (bits : Nat) : 1 ≤ (encF32 bits).length := by
  unfold encF32
  split
  · simp only []
    split
    · exact encInt_pos _
    · exact Nat.le_add_left 1 _
  · exact Nat.le_add_left 1 _
theorem encF64_pos (bits : Nat) : 1 ≤ (encF64 bits).length := by
  rw [encF64_eq]; split
  · exact encF32_pos _
  · exact Nat.le_add_left 1 _

end MsgPack
