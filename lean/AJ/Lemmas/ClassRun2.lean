/- Where `run` stops on an input whose first NUL is `t[n]`. -/
import AJ.Lemmas.ClassGhost2
import AJ.Lemmas.ClassRun
import AJ.Lemmas.DialectSound2
set_option linter.unusedSimpArgs false
set_option linter.unusedVariables false
namespace JD

/-- the facts about the number of bytes taken, by code -/
def StopFacts (cfg : Cfg) (t : List Byte) (n : Nat) (r : Code × Val × Nat) : Prop :=
  r.2.2 ≤ n + 1 ∧
  (r.1 = .incomplete ∨ r.1 = .empty → r.2.2 = n + 1) ∧
  (r.1 = .invalid →
    (1 ≤ r.2.2 ∧ r.2.2 ≤ n ∧ ∃ c, t[r.2.2 - 1]? = some c ∧ c ≠ 0) ∨ (r.2.2 = n + 1 ∧ Dang cfg t n)) ∧
  (r.1 = .tooDeep → r.2.2 ≤ n) ∧
  (r.1 = .noMemory → r.2.2 ≤ n ∨ (r.2.2 = n + 1 ∧ LongTail cfg (t.take n)))

theorem Lv.pos_le {t : List Byte} {n : Nat} {s : St} (h : Lv t n s) : s.l.pos ≤ n + 1 := by
  cases hl : s.l.loaded
  · have := h.2.2 hl; omega
  · exact (h.2.1 hl).2.1

theorem run_stop {cfg : Cfg} {t : List Byte} {n : Nat} (hN : NulAt t n) (L : Nat) : StopFacts cfg t n (run cfg L t) := by
  have hnf := run_ne_fuel cfg L t
  have h0 : Lv t n ({ l := { unread := t } } : St) := by
    refine ⟨rfl, ?_, fun _ => Nat.zero_le _⟩
    intro h; cases h
  have hg := (gh_mutual (cfg := cfg) hN (2 * t.length + 4)).1 L _ h0
  have hs := (sound_all cfg (2 * t.length + 4)).1 L ({ l := { unread := t } } : St) t
  rw [run_eq] at hnf ⊢
  generalize parseVariant cfg (2 * t.length + 4) L { l := { unread := t } } = o at hg hs hnf ⊢
  obtain ⟨c, v, s⟩ := o
  cases c
  case ok =>
    have hl : Lv t n s := hg
    rw [finishRun_ok]
    split
    · rename_i hc
      simp only [Bool.and_eq_true, bne_iff_ne, ne_eq, Bool.not_eq_true'] at hc
      obtain ⟨_, _, _, _, _, _, _, hld⟩ := hs v s (Rem.un rfl) rfl
      have htk : Tk t n s := ⟨⟨hl, hld hc.2⟩, hc.1.1⟩
      obtain ⟨b1, b2⟩ := Ld_d0.byte htk.1
      refine ⟨hl.pos_le, (fun h => by rcases h with h | h <;> cases h), fun _ => ?_, (fun h => by cases h), (fun h => by cases h)⟩
      exact Or.inl ⟨b1, Tk.pos_le hN htk, _, b2, hc.1.1⟩
    · exact ⟨hl.pos_le, (fun h => by rcases h with h | h <;> cases h), (fun h => by cases h),
        (fun h => by cases h), (fun h => by cases h)⟩
  case empty =>
    have hp : s.l.pos = n + 1 := hg
    exact ⟨Nat.le_of_eq hp, fun _ => hp, (fun h => by cases h), (fun h => by cases h), (fun h => by cases h)⟩
  case incomplete =>
    have hp : s.l.pos = n + 1 := hg
    exact ⟨Nat.le_of_eq hp, fun _ => hp, (fun h => by cases h), (fun h => by cases h), (fun h => by cases h)⟩
  case invalid =>
    have hi : Ld_d0 t n s ∧ (s.l.cur = 0 → Dang cfg t n) := hg
    refine ⟨hi.1.1.pos_le, (fun h => by rcases h with h | h <;> cases h), fun _ => ?_, (fun h => by cases h), (fun h => by cases h)⟩
    by_cases hz : s.l.cur = 0
    · exact Or.inr ⟨Ld_d0.pos_zero hN hi.1 hz, hi.2 hz⟩
    · obtain ⟨b1, b2⟩ := Ld_d0.byte hi.1
      exact Or.inl ⟨b1, Tk.pos_le hN ⟨hi.1, hz⟩, _, b2, hz⟩
  case noMemory =>
    have hm : Lv t n s ∧ (s.l.loaded = true → LongKey cfg t s) := hg
    refine ⟨hm.1.pos_le, (fun h => by rcases h with h | h <;> cases h), (fun h => by cases h), (fun h => by cases h), fun _ => ?_⟩
    cases hl : s.l.loaded with
    | false => exact Or.inl (hm.1.2.2 hl)
    | true =>
      by_cases hz : s.l.cur = 0
      · have hp := Ld_d0.pos_zero hN ⟨hm.1, hl⟩ hz
        have hk := hm.2 hl
        unfold LongKey at hk
        rw [hp] at hk
        exact Or.inr ⟨hp, by simpa using hk⟩
      · exact Or.inl (Tk.pos_le hN ⟨⟨hm.1, hl⟩, hz⟩)
  case tooDeep =>
    have ht : Tk t n s := hg
    have := Tk.pos_le hN ht
    exact ⟨by show s.l.pos ≤ n + 1; omega, (fun h => by rcases h with h | h <;> cases h), (fun h => by cases h), (fun _ => this),
      (fun h => by cases h)⟩
  case fuel => exact absurd rfl hnf

end JD
