/- On a text of the RFC 8259 grammar `Spec.Json` the three value routines of the filtered JSON deserializer
   (`parseVariant`, `skipVariant`, `fparseVariant` under any filter) succeed and end in literally the same state.
   `complete_value` (AJ/Lemmas/JsonComplete.lean) says where the parser ends; the simulation of
   AJ/Lemmas/ProjectAll.lean carries that over to the other two, the grammar giving the number of bytes consumed.
   Only objects need a recursion on derivations of their own: the members the simulation reads are known to it only
   through their merge. -/
import AJ.Lemmas.JsonComplete
import AJ.Lemmas.ProjectAll
set_option linter.unusedSimpArgs false
namespace JD
open Spec.Json Spec.Filter

/-- the projection commutes with the "last value wins, first position kept" merge of repeated keys -/
theorem projectMembers_lastWins (f : Flt) (ms : List (List Byte × Val)) :
    projectMembers f (Spec.Json.lastWins ms) = Spec.Json.lastWins (projectMembers f ms) :=
  projectMembers_foldMembers f ms []

/-! ## what a position says about the bytes left -/

theorem rem_cur_nz (s : St) (h : (cur s).1 ≠ 0) : rem (cur s).2 = rem s := by
  obtain ⟨⟨u, c, ld, p⟩, fd⟩ := s
  simp only [cur, Latch.current, rem] at h ⊢
  cases ld
  · cases u
    · simp at h
    · simp at h ⊢; simp [h]
  · simp

theorem At.rem {s u p f} (h : At s u p f) : rem s = u.length := by
  simp [JD.rem, h.1, h.2.1]

theorem Pos.rem_le {s c r p f} (h : Pos s (c :: r) p f) (hc : c ≠ 0) : rem s ≤ r.length + 1 := by
  obtain ⟨s0, h0, he⟩ := h
  rw [h0.cur] at he
  have h1 : (cur s).1 ≠ 0 := by rw [he]; exact hc
  rw [← rem_cur_nz s h1, he]
  simp [JD.rem, hc]

theorem Pos.rem_le_ws {s w c r p f} (hw : Ws w) (hc : c ≠ 0) (h : Pos s (w ++ c :: r) p f) :
    rem s ≤ w.length + r.length + 1 := by
  cases w with
  | nil => simpa using Pos.rem_le h hc
  | cons a w' =>
    have := Pos.rem_le (c := a) (r := w' ++ c :: r) h (ws_head hw).1
    simp at this ⊢; omega

theorem St.ext' {a b : St} (h1 : a.l.loaded = b.l.loaded) (h2 : a.l.unread = b.l.unread) (h3 : a.l.pos = b.l.pos)
    (h4 : a.found = b.found) (h5 : a.l.cur = b.l.cur) : a = b := by
  obtain ⟨⟨u, c, ld, p⟩, f⟩ := a
  obtain ⟨⟨u', c', ld', p'⟩, f'⟩ := b
  simp only at h1 h2 h3 h4 h5
  subst h1 h2 h3 h4 h5
  rfl

/-- a state that has looked ahead is determined by what it stands on -/
theorem Seen.eq {a b u p f} (ha : Seen a u p f) (hb : Seen b u p f) : a = b := by
  obtain ⟨a1, a2, a3, a4, a5⟩ := ha.fields
  obtain ⟨b1, b2, b3, b4, b5⟩ := hb.fields
  exact St.ext' (by rw [a1, b1]) (by rw [a3, b3]) (by rw [a4, b4]) (by rw [a5, b5]) (by rw [a2, b2])

/-! ## numbers

After a number the look-ahead byte is latched; when it is a NUL it no longer counts in `rem`, so the bytes
consumed are not read off the states: the literal of the grammar bounds them instead. -/

/-- `skipNumeric` stops on the delimiter that follows the literal and leaves it latched — like `scanNumber` -/
theorem skipNumeric_lit (cfg : Cfg) {rest : List Byte} (hd : Delim cfg rest) (lit : List Byte)
    (hl : ∀ c ∈ lit, inNumber cfg c = true) :
    ∀ (n : Nat) (s : St) (p : Nat) (f : Bool), Pos s (lit ++ rest) p f → lit.length < n →
      Seen (skipNumeric cfg n s) rest (p + lit.length) f := by
  induction lit with
  | nil =>
    intro n s p f h hn
    obtain ⟨m, rfl⟩ : ∃ m, n = m + 1 := ⟨n - 1, by simp at hn; omega⟩
    have h' : Pos s rest p f := by simpa using h
    cases rest with
    | nil =>
      obtain ⟨X, hX, hS⟩ := Pos.cur_nil h'
      simp only [skipNumeric, hX, inNumber_zero, Bool.false_eq_true, ↓reduceIte]
      simpa using hS
    | cons c r =>
      obtain ⟨X, hX, hS⟩ := Pos.cur_cons h'
      simp only [skipNumeric, hX, hd c r rfl, Bool.false_eq_true, ↓reduceIte]
      simpa using hS
  | cons a lit ih =>
    intro n s p f h hn
    obtain ⟨m, rfl⟩ : ∃ m, n = m + 1 := ⟨n - 1, by simp at hn; omega⟩
    obtain ⟨X, hX, hS⟩ := Pos.cur_cons (by simpa using h)
    have := ih (fun c hc => hl c (List.mem_cons_of_mem _ hc)) m (mv X) (p + 1) f hS.mv.pos (by simp at hn; omega)
    simp only [skipNumeric, hX, hl a (List.mem_cons_self ..), ↓reduceIte]
    have e : p + 1 + lit.length = p + (a :: lit).length := by simp; omega
    rw [← e]; exact this

/-- on a number literal the three routines hand over to the scanners in the same state -/
theorem num_tok (cfg : Cfg) {fuel L : Nat} {w lit rest : List Byte} {s : St} {p : Nat} {f : Bool}
    (hn : NumLit lit) (hw : Ws w) (h : Pos s (w ++ (lit ++ rest)) p f) (hf : w.length < fuel) :
    ∃ X, Pos X (lit ++ rest) (p + w.length) true ∧ parseVariant cfg fuel L s = parseNumeric cfg X ∧
      skipVariant cfg fuel L s = (.ok, skipNumeric cfg fuel X) ∧
      ∀ flt, fparseVariant cfg fuel L flt s =
        if flt.allowValue then parseNumeric cfg X else (.ok, .null, skipNumeric cfg fuel X) := by
  obtain ⟨n, rfl⟩ : ∃ n, fuel = n + 1 := ⟨fuel - 1, by omega⟩
  obtain ⟨c, cs, rfl, hc⟩ := numLit_head hn
  obtain ⟨tok, k1, k2, k3, k4, k5, k6, k7, _, _⟩ := numStart_facts hc
  obtain ⟨X, hS, hX⟩ := skipSpaces_ws cfg (r := cs ++ rest) tok w hw s p f (by simpa using h)
  refine ⟨X, by simpa using hS.pos, ?_, ?_, ?_⟩
  · simp only [parseVariant, hX (n + 1) hf, hS.cur_cons, k1, k2, k3, k4, k5, k6, k7, Bool.or_self, Bool.false_eq_true,
      ↓reduceIte]
  · simp only [skipVariant, hX (n + 1) hf, hS.cur_cons, k1, k2, k3, k4, k5, k6, k7, Bool.or_self, Bool.false_eq_true,
      ↓reduceIte]
  · intro flt
    simp only [fparseVariant, hX (n + 1) hf, hS.cur_cons, k1, k2, k3, k4, k5, k6, k7, Bool.or_self, Bool.false_eq_true,
      ↓reduceIte]

/-! ## values -/

/-- **Parsing, skipping and filtering a value of the grammar end in the same state**, from any parser position
    standing on `w ++ t ++ rest` (white space, the value, anything); the filtered parser returns the projection. -/
theorem sim_value {cfg : Cfg} (hu : cfg.decodeUnicode = true) {L : Nat} {t : List Byte} {v : Val} (h : Value cfg L t v)
    (fuel : Nat) (w rest : List Byte) (s : St) (p : Nat) (f : Bool)
    (hw : Ws w) (hs : Pos s (w ++ (t ++ rest)) p f) (hf : w.length + t.length + 1 ≤ fuel)
    (hd : NumLit t → Delim cfg rest) :
    ∃ s', parseVariant cfg fuel L s = (.ok, v, s') ∧ skipVariant cfg fuel L s = (.ok, s') ∧
      (∀ flt, fparseVariant cfg fuel L flt s = (.ok, project flt v, s')) ∧
      Post s' rest (p + w.length + t.length) (isNumberVal v) := by
  cases hn : isNumberVal v
  · obtain ⟨s1, hp, hpost⟩ := complete_value hu h fuel w rest s p f hw hs hf hd
    have hat : At s1 rest (p + w.length + t.length) true := by
      simpa only [Post, hn, Bool.false_eq_true, ↓reduceIte] using hpost
    obtain ⟨c0, cs, ht, tok, _, _⟩ := value_head h
    have r1 : rem s ≤ w.length + (cs ++ rest).length + 1 := Pos.rem_le_ws hw tok.1 (by rw [ht] at hs; exact hs)
    have r2 := hat.rem
    obtain ⟨hsk, hfp⟩ := (sim_all (cfg := cfg) fuel).1 L s v s1 hp
      (by rw [ht] at hf; simp at r1 hf; omega) (fun hn' => by rw [hn] at hn'; cases hn')
    rw [hn] at hpost
    exact ⟨s1, hp, hsk, hfp, hpost⟩
  · cases h with
    | num _ _ hl =>
      obtain ⟨X, hXp, e1, e2, e3⟩ := num_tok cfg (fuel := fuel) (L := L) hl hw hs (by omega)
      obtain ⟨s1, hp, hseen, hnum⟩ := pv_num cfg (L := L) (fuel := fuel) hl (hd hl) hw hs (by omega)
      have hY := skipNumeric_lit cfg (hd hl) t (fun x hx => inNumber_numCh cfg (numLit_chars hl x hx)) fuel X _ true hXp
        (by omega)
      have e : skipNumeric cfg fuel X = s1 := hY.eq hseen
      refine ⟨s1, hp, by rw [e2, e], ?_, by simpa only [Post, hnum, ↓reduceIte] using hseen⟩
      intro flt
      rw [e3, ← e1, hp, e]
      obtain ⟨n, hv⟩ : ∃ n, numVal cfg t = .num n := by
        cases hq : numVal cfg t <;> first | exact ⟨_, rfl⟩ | (rw [hq] at hnum; cases hnum)
      rw [hv]
      simp only [project]
      split <;> rfl
    | _ => cases hn

/-! ## arrays -/

theorem sim_elems {cfg : Cfg} (hu : cfg.decodeUnicode = true) {L : Nat} {body : List Byte} {xs : List Val}
    (h : Elements cfg L body xs) (fuel : Nat) (rest : List Byte) (s : St) (p : Nat) (f : Bool) (acc : List Val)
    (hs : Pos s (body ++ 0x5D :: rest) p f) (hf : body.length + 2 ≤ fuel) :
    ∃ s', parseElems cfg fuel L s acc = (.ok, .arr (acc.reverse ++ xs), s') ∧ skipElems cfg fuel L s = (.ok, s') ∧
      (∀ ef acc', fparseElems cfg fuel L ef s acc' = (.ok, .arr (acc'.reverse ++ projectElems ef xs), s')) ∧
      At s' rest (p + body.length + 1) true := by
  obtain ⟨s', hp, hat⟩ := complete_elems hu h fuel rest s p f acc hs hf
  obtain ⟨w1, c1, r1, hb, hw1, tok1, _⟩ := elements_head h
  have r1 : rem s ≤ w1.length + (r1 ++ 0x5D :: rest).length + 1 :=
    Pos.rem_le_ws hw1 tok1.1 (by rw [hb] at hs; simpa using hs)
  have r2 := hat.rem
  obtain ⟨xs', hv, _, hsk, hfp⟩ := (sim_all (cfg := cfg) fuel).2.1 L s acc _ s' hp
    (by rw [hb] at hf; simp at r1 hf; omega)
  have : xs = xs' := List.append_cancel_left (Val.arr.inj hv)
  subst this
  exact ⟨s', hp, hsk, hfp, hat⟩

/-! ## objects -/

/-- One member `w1 "kb" w2 : w3 t w4` followed by a delimiter `d` (`}` or `,`): started on the opening quote, the
    skipping and the filtered members routines have read it alike and stand on `d`. -/
theorem sim_member {cfg : Cfg} (hu : cfg.decodeUnicode = true) {L : Nat} {w1 kb k w2 w3 t w4 : List Byte} {v : Val}
    (hw1 : Ws w1) (hkb : Body 0x22 kb k) (hkl : k.length ≤ cfg.maxStrLen) (hw2 : Ws w2) (hw3 : Ws w3)
    (hv : Value cfg L t v) (hw4 : Ws w4) {d : Byte} (hd : Tok d) (hdn : inNumber cfg d = false) (tail : List Byte)
    (n : Nat) (s : St) (p : Nat) (f : Bool)
    (hs : Pos s (w1 ++ 0x22 :: kb ++ 0x22 :: w2 ++ 0x3A :: w3 ++ t ++ w4 ++ d :: tail) p f)
    (hf : (w1 ++ 0x22 :: kb ++ 0x22 :: w2 ++ 0x3A :: w3 ++ t ++ w4).length ≤ n) :
    ∃ X Z, (∀ m, w1.length < m → skipSpaces cfg m s = (.ok, X)) ∧ cur X = (0x22, X) ∧
      Seen Z (d :: tail) (p + (w1 ++ 0x22 :: kb ++ 0x22 :: w2 ++ 0x3A :: w3 ++ t ++ w4).length) true ∧
      skipMembers cfg (n + 1) L X = smK3 cfg n L (.ok, Z) ∧
      ∀ flt acc, fparseMembers cfg (n + 1) L flt X acc =
        fmK3 cfg n L flt (foldMembers acc (projectMembers flt [(k, v)])) (.ok, Z) := by
  -- the text as the routines read it, piece after piece
  have hpos : p + (w1 ++ 0x22 :: kb ++ 0x22 :: w2 ++ 0x3A :: w3 ++ t ++ w4).length =
      p + w1.length + 1 + kb.length + 1 + w2.length + 1 + w3.length + t.length + w4.length := by
    simp only [List.length_append, List.length_cons]; omega
  rw [hpos]
  simp only [List.append_assoc, List.cons_append, List.length_append, List.length_cons] at hs hf
  obtain ⟨X, hS, hX⟩ := skipSpaces_ws cfg (r := kb ++ 0x22 :: (w2 ++ 0x3A :: (w3 ++ (t ++ (w4 ++ d :: tail)))))
    (by decide : Tok 0x22) w1 hw1 s p f hs
  obtain ⟨q, hq, hk⟩ := C17.body_decodes_gen (cfg := cfg) (stop := 0x22) (by decide) hu hkb (n + 1) [] 0 (mv X) _ _ true
    (by omega) (by simpa using hkl) hS.mv
  have hpk : pmKey cfg n X = (.ok, k, q) := by
    simp only [pmKey, hS.cur_cons, beq_self_eq_true, Bool.true_or, ↓reduceIte]
    simpa using hk
  have hks : smKey n X = (.ok, q) := by
    have r1 := Pos.rem_le hS.pos (by decide)
    have r2 := hq.rem
    simp only [List.length_append, List.length_cons] at r1 r2
    exact smKey_of_pmKey hpk (by omega)
  obtain ⟨Y, hSY, hY⟩ := skipSpaces_ws cfg (r := w3 ++ (t ++ (w4 ++ d :: tail))) (by decide : Tok 0x3A) w2 hw2 q _ true hq.pos
  obtain ⟨s1, _, hsk1, hfp1, hpost⟩ := sim_value hu hv n w3 (w4 ++ d :: tail) (mv Y) _ true hw3 hSY.mv.pos
    (by omega) (fun _ => delim_ws cfg hw4 hdn tail)
  obtain ⟨Z, hSZ, hZ⟩ := skipSpaces_ws cfg (r := tail) hd w4 hw4 s1 _ true hpost.pos
  refine ⟨X, Z, hX, hS.cur_cons, hSZ, ?_, ?_⟩
  · rw [skipMembers_succ, hks]
    simp (config := { decide := true }) only [smK0, smK1, smK2, hY (n + 1) (by omega), hSY.cur_cons, hsk1,
      hZ (n + 1) (by omega), ↓reduceIte, Bool.false_eq_true]
  · intro flt acc
    rw [fparseMembers_succ, hpk]
    cases ha : (flt.subKey k).allow
    · simp (config := { decide := true }) only [fmK0, fmK1, fmK2, fmVal, hY (n + 1) (by omega), hSY.cur_cons, ha, hsk1,
        hZ (n + 1) (by omega), projectMembers, foldMembers, List.foldl_nil, ↓reduceIte, Bool.false_eq_true]
    · simp (config := { decide := true }) only [fmK0, fmK1, fmK2, fmVal, hY (n + 1) (by omega), hSY.cur_cons, ha, hfp1,
        hZ (n + 1) (by omega), projectMembers, foldMembers, List.foldl_nil, List.foldl_cons, ↓reduceIte, Bool.false_eq_true]

theorem sim_members {cfg : Cfg} (hu : cfg.decodeUnicode = true) {L : Nat} {body : List Byte}
    {ms : List (List Byte × Val)} (h : Members cfg L body ms) :
    ∀ (fuel : Nat) (rest : List Byte) (s : St) (p : Nat) (f : Bool),
      Pos s (body ++ 0x7D :: rest) p f → body.length + 2 ≤ fuel →
      ∃ X s', skipSpaces cfg (fuel + 1) s = (.ok, X) ∧ cur X = (0x22, X) ∧
        skipMembers cfg fuel L X = (.ok, s') ∧
        (∀ flt acc, fparseMembers cfg fuel L flt X acc = (.ok, .obj (foldMembers acc (projectMembers flt ms)), s')) ∧
        At s' rest (p + body.length + 1) true := by
  -- recursion on the derivation, as an induction on the length of the text
  suffices H : ∀ N L body ms, body.length ≤ N → Members cfg L body ms →
      ∀ (fuel : Nat) (rest : List Byte) (s : St) (p : Nat) (f : Bool),
        Pos s (body ++ 0x7D :: rest) p f → body.length + 2 ≤ fuel →
        ∃ X s', skipSpaces cfg (fuel + 1) s = (.ok, X) ∧ cur X = (0x22, X) ∧
          skipMembers cfg fuel L X = (.ok, s') ∧
          (∀ flt acc, fparseMembers cfg fuel L flt X acc = (.ok, .obj (foldMembers acc (projectMembers flt ms)), s')) ∧
          At s' rest (p + body.length + 1) true from H body.length L body ms (Nat.le_refl _) h
  intro N
  induction N with
  | zero => intro L body ms hN h; cases h <;> simp at hN
  | succ N ih =>
  intro L body ms hN h fuel rest s p f hs hf
  obtain ⟨n, rfl⟩ : ∃ n, fuel = n + 1 := ⟨fuel - 1, by omega⟩
  obtain ⟨d0, _, d2, _⟩ := inNumber_delims cfg
  cases h with
  | one _ w1 kb k w2 w3 t v w4 hw1 hkb hkl hw2 hw3 hv hw4 =>
    obtain ⟨X, Z, hX, hcX, hSZ, hsk, hfp⟩ := sim_member hu hw1 hkb hkl hw2 hw3 hv hw4 (by decide : Tok 0x7D) d2 rest n s p f
      hs (by omega)
    refine ⟨X, mv Z, hX (n + 2) (by simp only [List.length_append] at hf; omega), hcX, ?_, ?_, hSZ.mv⟩
    · rw [hsk]; simp only [smK3, hSZ.cur_cons, beq_self_eq_true, ↓reduceIte]
    · intro flt acc; rw [hfp]; simp only [fmK3, hSZ.cur_cons, beq_self_eq_true, ↓reduceIte]
  | cons _ w1 kb k w2 w3 t v w4 more ms' hw1 hkb hkl hw2 hw3 hv hw4 hr =>
    rw [List.append_assoc _ (0x2C :: more), List.cons_append] at hs
    rw [List.length_append (bs := 0x2C :: more), List.length_cons] at hf hN ⊢
    obtain ⟨X, Z, hX, hcX, hSZ, hsk, hfp⟩ := sim_member hu hw1 hkb hkl hw2 hw3 hv hw4 (by decide : Tok 0x2C) d0
      (more ++ 0x7D :: rest) n s p f hs (by omega)
    obtain ⟨X2, s', hX2, hcX2, h2, h3, h4⟩ := ih L more ms' (by omega) hr n rest (mv Z) _ true hSZ.mv.pos (by omega)
    rw [← Nat.add_assoc, ← Nat.add_assoc, Nat.add_right_comm _ more.length 1]
    refine ⟨X, s', hX (n + 2) (by simp only [List.length_append] at hf; omega), hcX, ?_, ?_, h4⟩
    · rw [hsk]
      simp (config := { decide := true }) only [smK3, smK4, hSZ.cur_cons, hX2, h2, ↓reduceIte, Bool.false_eq_true]
    · intro flt acc
      rw [hfp]
      simp (config := { decide := true }) only [fmK3, fmK4, hSZ.cur_cons, hX2, h3, ↓reduceIte, Bool.false_eq_true]
      cases ha : (flt.subKey k).allow <;>
        simp only [projectMembers, ha, foldMembers, List.foldl_cons, List.foldl_nil, ↓reduceIte, Bool.false_eq_true]

/-! ## the skipping routines alone

They do not look at `decodeUnicode`, and neither does the shape of a text of the grammar: the statements above,
read at the configuration that decodes, give the skipping side for every configuration. -/

section
variable {cfg cfg' : Cfg} (hc : cfg'.comments = cfg.comments) (hn : cfg'.nan = cfg.nan) (hi : cfg'.inf = cfg.inf)
include hc in
theorem skipSpaces_cfg : ∀ n s, skipSpaces cfg' n s = skipSpaces cfg n s := by
  intro n
  induction n with
  | zero => intro s; rfl
  | succ n ih => intro s; simp only [skipSpaces, hc, ih]

include hn hi in
theorem skipNumeric_cfg : ∀ n s, skipNumeric cfg' n s = skipNumeric cfg n s := by
  intro n
  induction n with
  | zero => intro s; rfl
  | succ n ih =>
    intro s
    have e : ∀ c, inNumber cfg' c = inNumber cfg c := fun c => by simp only [inNumber, hn, hi]
    simp only [skipNumeric, e, ih]

include hc hn hi in
theorem skip_cfg : ∀ f, (∀ L s, skipVariant cfg' f L s = skipVariant cfg f L s) ∧
    (∀ L s, skipElems cfg' f L s = skipElems cfg f L s) ∧ (∀ L s, skipMembers cfg' f L s = skipMembers cfg f L s) := by
  intro f
  induction f with
  | zero => exact ⟨fun _ _ => rfl, fun _ _ => rfl, fun _ _ => rfl⟩
  | succ f ih =>
    obtain ⟨iv, ie, im⟩ := ih
    refine ⟨fun L s => ?_, fun L s => ?_, fun L s => ?_⟩
    · simp only [skipVariant, skipSpaces_cfg hc, skipNumeric_cfg hn hi, ie, im]
    · simp only [skipElems, skipSpaces_cfg hc, iv, ie]
    · simp only [skipMembers, skipSpaces_cfg hc, iv, im]
end

/-- the grammar looks at the configuration for the string limit and the value of numbers only; by induction on
    the length of the text -/
theorem grammar_cfg {cfg : Cfg} (cfg' : Cfg) (hm : cfg'.maxStrLen = cfg.maxStrLen) : ∀ N,
    (∀ L t v, t.length ≤ N → Value cfg L t v → ∃ v', Value cfg' L t v') ∧
    (∀ L body xs, body.length ≤ N → Elements cfg L body xs → ∃ xs', Elements cfg' L body xs') ∧
    (∀ L body ms, body.length ≤ N → Members cfg L body ms → ∃ ms', Members cfg' L body ms') := by
  intro N
  induction N with
  | zero =>
    refine ⟨?_, ?_, ?_⟩
    · intro L t v hN h; obtain ⟨c, cs, rfl, _⟩ := value_head h; simp at hN
    · intro L body xs hN h; obtain ⟨w1, c1, r1, rfl, _⟩ := elements_head h; simp at hN
    · intro L body ms hN h; cases h <;> simp at hN
  | succ N ih =>
    obtain ⟨_, ihE, ihM⟩ := ih
    have ihV : ∀ L t v, t.length ≤ N + 1 → Value cfg L t v → ∃ v', Value cfg' L t v' := by
      intro L t v hN h
      cases h with
      | null => exact ⟨_, .null L⟩
      | «true» => exact ⟨_, .true L⟩
      | «false» => exact ⟨_, .false L⟩
      | num _ _ hl => exact ⟨_, .num L t hl⟩
      | str _ body sv hb hl => exact ⟨_, .str _ body sv hb (by rw [hm]; exact hl)⟩
      | arrEmpty l w1 hw1 => exact ⟨_, .arrEmpty l w1 hw1⟩
      | arr l body xs he =>
        obtain ⟨xs', he'⟩ := ihE l body xs (by simp at hN; omega) he
        exact ⟨_, .arr l body xs' he'⟩
      | objEmpty l w1 hw1 => exact ⟨_, .objEmpty l w1 hw1⟩
      | obj l body ms hb =>
        obtain ⟨ms', hb'⟩ := ihM l body ms (by simp at hN; omega) hb
        exact ⟨_, .obj l body ms' hb'⟩
    refine ⟨ihV, ?_, ?_⟩
    · intro L body xs hN h
      cases h with
      | one _ w1 t v w2 hw1 hv hw2 =>
        obtain ⟨v', hv'⟩ := ihV L t v (by simp at hN; omega) hv
        exact ⟨_, .one _ w1 t v' w2 hw1 hv' hw2⟩
      | cons _ w1 t v w2 more vs hw1 hv hw2 hr =>
        obtain ⟨v', hv'⟩ := ihV L t v (by simp at hN; omega) hv
        obtain ⟨vs', hr'⟩ := ihE L more vs (by simp at hN; omega) hr
        exact ⟨_, .cons _ w1 t v' w2 more vs' hw1 hv' hw2 hr'⟩
    · intro L body ms hN h
      cases h with
      | one _ w1 kb k w2 w3 t v w4 hw1 hkb hkl hw2 hw3 hv hw4 =>
        obtain ⟨v', hv'⟩ := ihV L t v (by simp at hN; omega) hv
        exact ⟨_, .one _ w1 kb k w2 w3 t v' w4 hw1 hkb (by rw [hm]; exact hkl) hw2 hw3 hv' hw4⟩
      | cons _ w1 kb k w2 w3 t v w4 more ms' hw1 hkb hkl hw2 hw3 hv hw4 hr =>
        obtain ⟨v', hv'⟩ := ihV L t v (by simp at hN; omega) hv
        obtain ⟨ms'', hr'⟩ := ihM L more ms' (by simp at hN; omega) hr
        exact ⟨_, .cons _ w1 kb k w2 w3 t v' w4 more ms'' hw1 hkb (by rw [hm]; exact hkl) hw2 hw3 hv' hw4 hr'⟩

theorem skip_elems {cfg : Cfg} {L : Nat} {body : List Byte} {xs : List Val} (h : Elements cfg L body xs) :
    ∀ (fuel : Nat) (rest : List Byte) (s : St) (p : Nat) (f : Bool),
      Pos s (body ++ 0x5D :: rest) p f → body.length + 2 ≤ fuel →
      ∃ s', skipElems cfg fuel L s = (.ok, s') ∧ At s' rest (p + body.length + 1) true := by
  intro fuel rest s p f hs hf
  obtain ⟨xs', h'⟩ := (grammar_cfg (cfg := cfg) { cfg with decodeUnicode := true } rfl _).2.1 L body xs (Nat.le_refl _) h
  obtain ⟨s', _, hsk, _, hat⟩ := sim_elems rfl h' fuel rest s p f [] hs hf
  rw [(skip_cfg (cfg := cfg) (cfg' := { cfg with decodeUnicode := true }) rfl rfl rfl fuel).2.1] at hsk
  exact ⟨s', hsk, hat⟩

theorem skip_members {cfg : Cfg} {L : Nat} {body : List Byte}
    {ms : List (List Byte × Val)} (h : Members cfg L body ms) :
    ∀ (fuel : Nat) (rest : List Byte) (s : St) (p : Nat) (f : Bool),
      Pos s (body ++ 0x7D :: rest) p f → body.length + 2 ≤ fuel →
      ∃ X s', skipSpaces cfg (fuel + 1) s = (.ok, X) ∧ cur X = (0x22, X) ∧
        skipMembers cfg fuel L X = (.ok, s') ∧ At s' rest (p + body.length + 1) true := by
  intro fuel rest s p f hs hf
  obtain ⟨ms', h'⟩ := (grammar_cfg (cfg := cfg) { cfg with decodeUnicode := true } rfl _).2.2 L body ms (Nat.le_refl _) h
  obtain ⟨X, s', hX, hc, hsk, _, hat⟩ := sim_members rfl h' fuel rest s p f hs hf
  rw [skipSpaces_cfg (cfg := cfg) (cfg' := { cfg with decodeUnicode := true }) rfl] at hX
  rw [(skip_cfg (cfg := cfg) (cfg' := { cfg with decodeUnicode := true }) rfl rfl rfl fuel).2.2] at hsk
  exact ⟨X, s', hX, hc, hsk, hat⟩

end JD
