/- The string parser: its two byte tables (`encodeCodepoint`, `decodeHex`) against their specification, the one-step
   behaviour of `parseQuoted` / `parseHex4` on an unloaded latch by kind of the next input bytes, and the string bodies
   of RFC 8259 (`Body`) read back by `parseQuoted`. -/
import AJ.Lemmas.Latch
import AJ.Lemmas.Bits
import AJ.Lemmas.JDPieces
import AJ.Model.JSer
import AJ.Spec.Unicode
namespace JD

/-! ### the two byte tables the string parser reads, against their specification -/

/-- `Utf8::encodeCodepoint` (reverse buffer, 16-bit intermediate) is UTF-8, for every Unicode code point -/
theorem encodeCodepoint_utf8 (cp : Nat) (h : cp < 0x110000) : encodeCodepoint cp = Spec.utf8 cp := by
  unfold encodeCodepoint Spec.utf8 contByte
  simp only [Nat.shiftRight_eq_div_pow, Bits.cont_eq]
  have m (x : Nat) : (128 + x % 64) % 256 = 128 + x % 64 := by omega
  by_cases h1 : cp < 0x80
  · simp [h1]
  · simp only [h1, ↓reduceIte, m]
    have e6 : cp / 2 ^ 6 % 65536 = cp / 64 := by omega
    rw [e6]
    by_cases h2 : cp < 0x800
    · have lt : cp / 64 < 0x20 := by omega
      have e : (192 + cp / 64) % 256 = 192 + cp / 64 := by omega
      simp only [lt, h2, ↓reduceIte, Bits.or_C0 _ lt, e]
    · have n2 : ¬ cp / 64 < 0x20 := by omega
      simp only [n2, h2, ↓reduceIte]
      have e12 : cp / 64 / 2 ^ 6 = cp / 4096 := by omega
      rw [e12]
      by_cases h3 : cp < 0x10000
      · have lt : cp / 4096 < 0x10 := by omega
        have e : (224 + cp / 4096) % 256 = 224 + cp / 4096 := by omega
        simp only [lt, h3, ↓reduceIte, Bits.or_E0 _ lt, e]
      · have n3 : ¬ cp / 4096 < 0x10 := by omega
        simp only [n3, h3, ↓reduceIte]
        have e18 : cp / 4096 / 2 ^ 6 = cp / 262144 := by omega
        have lt : cp / 262144 < 0x10 := by omega
        have e : (240 + cp / 262144) % 256 = 240 + cp / 262144 := by omega
        rw [e18, Bits.or_F0 _ lt, e]

/-- `decodeHex` sends the hexadecimal digits, in either case, to their values and every other byte above 15 -/
theorem hexVal_eq (c : Byte) : Spec.hexVal c = if decodeHex c ≤ 0x0F then some (decodeHex c) else none := by
  have key : ∀ c : UInt8, (Spec.hexVal c == if decodeHex c ≤ 0x0F then some (decodeHex c) else none) = true := by
    apply Bits.all_bytes; decide +kernel
  exact beq_iff_eq.mp (key c)

theorem hexVal_some {c : Byte} {v : Nat} (h : Spec.hexVal c = some v) : decodeHex c = v ∧ v ≤ 15 := by
  rw [hexVal_eq] at h
  split at h
  · rename_i hle
    injection h with h
    exact ⟨h, h ▸ hle⟩
  · cases h

theorem hexVal_le (c : UInt8) (v : Nat) (h : Spec.hexVal c = some v) : v ≤ 15 := (hexVal_some h).2

theorem hexVal_of_decodeHex {c : Byte} (h : ¬ decodeHex c > 0x0F) : Spec.hexVal c = some (decodeHex c) := by
  rw [hexVal_eq, if_pos (Nat.le_of_not_gt h)]

/-- the closing quote ends the string -/
theorem pq_stop {cfg : Cfg} {stop : Byte} {fuel : Nat} {acc : List Byte} {hi : Nat} {s : St} {rest : List Byte}
    (h1 : s.l.loaded = false) (h2 : s.l.unread = stop :: rest) :
    parseQuoted cfg stop (fuel + 1) acc hi s =
      ((if acc.length > cfg.maxStrLen then .noMemory else .ok), acc.reverse, adv s stop rest) := by
  rw [parseQuoted_succ, cur_cons h1 h2, mv_ld, if_pos (beq_self_eq_true stop)]

/-- a byte that is not the quote, the backslash or NUL is copied -/
theorem pq_plain {cfg : Cfg} {stop : Byte} {fuel : Nat} {acc : List Byte} {hi : Nat} {s : St} {c : Byte} {rest : List Byte}
    (h1 : s.l.loaded = false) (h2 : s.l.unread = c :: rest) (hs : c ≠ stop) (h0 : c ≠ 0) (hb : c ≠ 0x5C) :
    parseQuoted cfg stop (fuel + 1) acc hi s = parseQuoted cfg stop fuel (c :: acc) hi (adv s c rest) := by
  have e1 : (c == stop) = false := by simpa using hs
  have e2 : (c == 0) = false := by simpa using h0
  have e3 : (c == 0x5C) = false := by simpa using hb
  rw [parseQuoted_succ, cur_cons h1 h2, mv_ld, if_neg (ne_true_of_eq_false e1), if_neg (ne_true_of_eq_false e2),
    if_neg (ne_true_of_eq_false e3)]

/-- backslash + letter (not `u`) -/
theorem pq_esc {cfg : Cfg} {stop : Byte} {fuel : Nat} {acc : List Byte} {hi : Nat} {s : St} {d : Byte} {rest : List Byte}
    (h1 : s.l.loaded = false) (h2 : s.l.unread = 0x5C :: d :: rest) (hs : stop ≠ 0x5C)
    (h0 : d ≠ 0) (hu : d ≠ 0x75) (hne : unescapeChar d ≠ 0) :
    parseQuoted cfg stop (fuel + 1) acc hi s =
      parseQuoted cfg stop fuel (unescapeChar d :: acc) hi (adv (adv s 0x5C (d :: rest)) d rest) := by
  have e1 : ((0x5C : Byte) == stop) = false := by simpa using (fun h => hs h.symm)
  have e2 : (d == 0) = false := by simpa using h0
  have e3 : (d == 0x75) = false := by simpa using hu
  have e4 : (unescapeChar d == 0) = false := by simpa using hne
  have hc : cur (adv s 0x5C (d :: rest)) = (d, ld (adv s 0x5C (d :: rest)) d rest) := cur_cons rfl rfl
  rw [parseQuoted_succ, cur_cons h1 h2, mv_ld, if_neg (ne_true_of_eq_false e1), if_neg (show ¬ ((0x5C : Byte) == 0) = true by decide),
    if_pos (beq_self_eq_true _), pqEsc, hc]
  simp only [mv_ld, e2, e3, e4, Bool.false_eq_true, ↓reduceIte]

theorem decodeHex_le_ne_zero {c : Byte} (h : decodeHex c ≤ 0x0F) : c ≠ 0 := by
  intro hc; subst hc
  have : decodeHex 0 = 208 := by decide
  omega

/-- one hexadecimal digit -/
theorem parseHex4_cons {n acc : Nat} {s : St} {c : Byte} {rest : List Byte}
    (h1 : s.l.loaded = false) (h2 : s.l.unread = c :: rest) (hv : decodeHex c ≤ 0x0F) :
    parseHex4 (n + 1) acc s = parseHex4 n ((acc * 16 + decodeHex c) % 65536) (adv s c rest) := by
  have e1 : (c == 0) = false := by simpa using decodeHex_le_ne_zero hv
  have e2 : ¬ decodeHex c > 0x0F := by omega
  simp only [parseHex4, cur_cons h1 h2, mv_ld, e1, e2, Bool.false_eq_true, ↓reduceIte]

/-- four hexadecimal digits: the 16-bit code unit -/
theorem parseHex4_four {s : St} {a b c d : Byte} {rest : List Byte}
    (h1 : s.l.loaded = false) (h2 : s.l.unread = a :: b :: c :: d :: rest)
    (ha : decodeHex a ≤ 0x0F) (hb : decodeHex b ≤ 0x0F) (hc : decodeHex c ≤ 0x0F) (hd : decodeHex d ≤ 0x0F) :
    parseHex4 4 0 s = (.ok, decodeHex a * 4096 + decodeHex b * 256 + decodeHex c * 16 + decodeHex d,
      adv (adv (adv (adv s a (b :: c :: d :: rest)) b (c :: d :: rest)) c (d :: rest)) d rest) := by
  rw [parseHex4_cons h1 h2 ha, parseHex4_cons rfl rfl hb, parseHex4_cons rfl rfl hc, parseHex4_cons rfl rfl hd]
  simp only [parseHex4]
  congr 2
  omega

/-- `\uXXXX` with unicode decoding on: what happens after the four digits, by kind of code unit -/
theorem pq_u {cfg : Cfg} {stop : Byte} {fuel : Nat} {acc : List Byte} {hi : Nat} {s : St} {a b c d : Byte} {rest : List Byte}
    (h1 : s.l.loaded = false) (h2 : s.l.unread = 0x5C :: 0x75 :: a :: b :: c :: d :: rest) (hs : stop ≠ 0x5C)
    (hcfg : cfg.decodeUnicode = true)
    (ha : decodeHex a ≤ 0x0F) (hb : decodeHex b ≤ 0x0F) (hc : decodeHex c ≤ 0x0F) (hd : decodeHex d ≤ 0x0F) :
    ∃ s', At s' rest (s.l.pos + 6) s.found ∧
      parseQuoted cfg stop (fuel + 1) acc hi s =
        (let cu := decodeHex a * 4096 + decodeHex b * 256 + decodeHex c * 16 + decodeHex d
         if 0xD800 ≤ cu && cu < 0xDC00 then parseQuoted cfg stop fuel acc (cu % 1024) s'
         else if 0xDC00 ≤ cu && cu < 0xE000 then
           parseQuoted cfg stop fuel ((encodeCodepoint (0x10000 + (hi * 1024 + cu % 1024))).reverse ++ acc) hi s'
         else parseQuoted cfg stop fuel ((encodeCodepoint cu).reverse ++ acc) hi s') := by
  have e1 : ((0x5C : Byte) == stop) = false := by simpa using (fun h => hs h.symm)
  have hcur : cur (adv s 0x5C (0x75 :: a :: b :: c :: d :: rest)) =
      (0x75, ld (adv s 0x5C (0x75 :: a :: b :: c :: d :: rest)) 0x75 (a :: b :: c :: d :: rest)) := cur_cons rfl rfl
  have hx := parseHex4_four (s := adv (adv s 0x5C (0x75 :: a :: b :: c :: d :: rest)) 0x75 (a :: b :: c :: d :: rest))
    (rest := rest) rfl rfl ha hb hc hd
  refine ⟨adv (adv (adv (adv (adv (adv s 0x5C (0x75 :: a :: b :: c :: d :: rest)) 0x75 (a :: b :: c :: d :: rest)) a
      (b :: c :: d :: rest)) b (c :: d :: rest)) c (d :: rest)) d rest, ⟨rfl, rfl, by simp, by simp⟩, ?_⟩
  have l1 : ((0x5C : Byte) == 0) = false := by decide
  have l2 : ((0x75 : Byte) == 0) = false := by decide
  rw [parseQuoted_succ, cur_cons h1 h2, mv_ld, if_neg (ne_true_of_eq_false e1), if_neg (ne_true_of_eq_false l1),
    if_pos (beq_self_eq_true _), pqEsc, hcur]
  simp only [mv_ld, hcfg, hx, pqHex, l2, beq_self_eq_true, Bool.false_eq_true, ↓reduceIte]

/-- the closing quote, on a summarised state -/
theorem pq_close {cfg : Cfg} {stop : Byte} {fuel : Nat} {acc : List Byte} {hi : Nat} {s : St} {rest : List Byte}
    {p : Nat} {f : Bool} (h : At s (stop :: rest) p f) (hl : acc.length ≤ cfg.maxStrLen) :
    ∃ s', At s' rest (p + 1) f ∧ parseQuoted cfg stop (fuel + 1) acc hi s = (.ok, acc.reverse, s') := by
  refine ⟨adv s stop rest, h.adv, ?_⟩
  rw [pq_stop h.1 h.2.1]
  have : ¬ acc.length > cfg.maxStrLen := by omega
  simp only [this, ↓reduceIte]

/-- a byte that the string parser copies verbatim -/
def Plain (stop c : Byte) : Prop := c ≠ stop ∧ c ≠ 0 ∧ c ≠ 0x5C

instance (stop c : Byte) : Decidable (Plain stop c) := by unfold Plain; infer_instance

/-- plain bytes are appended one by one: one round of the loop each, wherever they are in the string -/
theorem parseQuoted_plain_prefix {cfg : Cfg} {stop : Byte} (pre : List Byte) (hp : ∀ c ∈ pre, Plain stop c) :
    ∀ (fuel : Nat) (acc : List Byte) (hi : Nat) (s : St) (tail : List Byte) (p : Nat) (f : Bool),
      At s (pre ++ tail) p f →
      ∃ s', At s' tail (p + pre.length) f ∧
        parseQuoted cfg stop (pre.length + fuel) acc hi s = parseQuoted cfg stop fuel (pre.reverse ++ acc) hi s' := by
  induction pre with
  | nil => intro fuel acc hi s tail p f h; exact ⟨s, by simpa using h, by simp⟩
  | cons c cs ih =>
    intro fuel acc hi s tail p f h
    have hc := hp c (by simp)
    have h' : At s (c :: (cs ++ tail)) p f := by simpa using h
    obtain ⟨s', hs', he⟩ := ih (fun x hx => hp x (by simp [hx])) fuel (c :: acc) hi _ tail _ f h'.adv
    refine ⟨s', ?_, ?_⟩
    · rw [← len_cons p c]; exact hs'
    · have : (c :: cs).length + fuel = (cs.length + fuel) + 1 := by simp; omega
      rw [this, pq_plain h'.1 h'.2.1 hc.1 hc.2.1 hc.2.2, he]
      simp

/-! ### what `writeChar` emits is read back as the source byte -/

/-- the two tables read from `escapeTable`, byte by byte: an escaped byte is unescaped to itself, by a letter other
    than `u`; a byte that is not escaped is neither the quote nor the backslash -/
theorem escapeChar_table (c : Byte) :
    (if JSer.escapeChar c == 0 then c != 0x22 && c != 0x5C
     else unescapeChar (JSer.escapeChar c) == c && JSer.escapeChar c != 0x75 && c != 0) = true := by
  revert c
  apply Bits.all_bytes
  decide +kernel

theorem escape_facts (c : Byte) (h : JSer.escapeChar c ≠ 0) :
    unescapeChar (JSer.escapeChar c) = c ∧ JSer.escapeChar c ≠ 0x75 ∧ c ≠ 0 := by
  have := escapeChar_table c
  rw [if_neg (fun h0 => h (beq_iff_eq.mp h0))] at this
  simp only [Bool.and_eq_true, beq_iff_eq, bne_iff_ne] at this
  exact ⟨this.1.1, this.1.2, this.2⟩

theorem noescape_facts (c : Byte) (h : JSer.escapeChar c = 0) : c ≠ 0x22 ∧ c ≠ 0x5C := by
  have := escapeChar_table c
  rw [if_pos (beq_iff_eq.mpr h)] at this
  simpa only [Bool.and_eq_true, bne_iff_ne] using this

/-- one source byte: whatever `writeChar c` emits costs one round of `parseQuoted` and yields `c` -/
theorem pq_writeChar {cfg : Cfg} (hcfg : cfg.decodeUnicode = true) (c : Byte) (fuel : Nat) (acc : List Byte) (hi : Nat)
    (s : St) (tail : List Byte) (p : Nat) (f : Bool) (h : At s (JSer.writeChar c ++ tail) p f) :
    ∃ s', At s' tail (p + (JSer.writeChar c).length) f ∧
      parseQuoted cfg 0x22 (fuel + 1) acc hi s = parseQuoted cfg 0x22 fuel (c :: acc) hi s' := by
  by_cases he : JSer.escapeChar c = 0
  · by_cases h0 : c = 0
    · subst h0
      have hw : JSer.writeChar 0 = [0x5C, 0x75, 0x30, 0x30, 0x30, 0x30] := by decide
      rw [hw] at h ⊢
      have d0 : decodeHex 0x30 = 0 := by decide
      obtain ⟨s', hs', heq⟩ := pq_u (cfg := cfg) (stop := 0x22) (fuel := fuel) (acc := acc) (hi := hi)
        (rest := tail) h.1 (by simpa using h.2.1) (by decide) hcfg
        (by rw [d0]; decide) (by rw [d0]; decide) (by rw [d0]; decide) (by rw [d0]; decide)
      refine ⟨s', ?_, ?_⟩
      · rw [h.2.2.1, h.2.2.2] at hs'; simpa using hs'
      · rw [heq, d0]
        have : encodeCodepoint 0 = [0] := by decide
        simp [this]
    · have hw : JSer.writeChar c = [c] := by
        simp only [JSer.writeChar, he, bne_self_eq_false, Bool.false_eq_true, ↓reduceIte, bne_iff_ne, ne_eq, h0,
          not_false_eq_true]
      rw [hw] at h ⊢
      obtain ⟨n1, n2⟩ := noescape_facts c he
      have h' : At s (c :: tail) p f := by simpa using h
      exact ⟨adv s c tail, by simpa using h'.adv, pq_plain h'.1 h'.2.1 n1 h0 n2⟩
  · obtain ⟨f1, f2, f3⟩ := escape_facts c he
    have hw : JSer.writeChar c = [0x5C, JSer.escapeChar c] := by
      simp only [JSer.writeChar, bne_iff_ne, ne_eq, he, not_false_eq_true, ↓reduceIte]
    rw [hw] at h ⊢
    have h' : At s (0x5C :: JSer.escapeChar c :: tail) p f := by simpa using h
    refine ⟨adv (adv s 0x5C (JSer.escapeChar c :: tail)) (JSer.escapeChar c) tail, ?_, ?_⟩
    · simpa using h'.adv.adv
    · rw [pq_esc h'.1 h'.2.1 (by decide) he f2 (by rw [f1]; exact f3), f1]

/-! ### The body of a JSON string as specified by RFC 8259 section 7, at byte level

`Body stop t v`: the text `t` (without the delimiters) is a well-formed string body and denotes the bytes `v`.
For `stop = 0x22` this is the grammar of the RFC (`unescaped = %x20-21 / %x23-5B / %x5D-10FFFF` read on UTF-8
bytes; the eight two-character escapes; `\uXXXX` with hex digits in either case, surrogates only in pairs).
`stop = 0x27` is the single-quote dialect of the library. -/

/-- the two-character escapes of RFC 8259: (letter after the backslash, denoted byte) -/
def rfcEscapes : List (Byte × Byte) :=
  [(0x22, 0x22), (0x5C, 0x5C), (0x2F, 0x2F), (0x62, 0x08), (0x66, 0x0C), (0x6E, 0x0A), (0x72, 0x0D), (0x74, 0x09)]

inductive Body (stop : Byte) : List Byte → List Byte → Prop
  | nil : Body stop [] []
  | plain (c : Byte) (t v : List Byte) : 0x20 ≤ c → c ≠ stop → c ≠ 0x5C → Body stop t v → Body stop (c :: t) (c :: v)
  | esc (l x : Byte) (t v : List Byte) : (l, x) ∈ rfcEscapes → Body stop t v → Body stop (0x5C :: l :: t) (x :: v)
  | bmp (h1 h2 h3 h4 : Byte) (d1 d2 d3 d4 : Nat) (t v : List Byte) :
      Spec.hexVal h1 = some d1 → Spec.hexVal h2 = some d2 → Spec.hexVal h3 = some d3 → Spec.hexVal h4 = some d4 →
      Spec.isSurrogate (d1 * 4096 + d2 * 256 + d3 * 16 + d4) = false → Body stop t v →
      Body stop (0x5C :: 0x75 :: h1 :: h2 :: h3 :: h4 :: t) (Spec.utf8 (d1 * 4096 + d2 * 256 + d3 * 16 + d4) ++ v)
  | pair (a1 a2 a3 a4 b1 b2 b3 b4 : Byte) (x1 x2 x3 x4 y1 y2 y3 y4 hiu lou : Nat) (t v : List Byte) :
      Spec.hexVal a1 = some x1 → Spec.hexVal a2 = some x2 → Spec.hexVal a3 = some x3 → Spec.hexVal a4 = some x4 →
      Spec.hexVal b1 = some y1 → Spec.hexVal b2 = some y2 → Spec.hexVal b3 = some y3 → Spec.hexVal b4 = some y4 →
      hiu = x1 * 4096 + x2 * 256 + x3 * 16 + x4 → lou = y1 * 4096 + y2 * 256 + y3 * 16 + y4 →
      (0xD800 ≤ hiu ∧ hiu < 0xDC00) → (0xDC00 ≤ lou ∧ lou < 0xE000) → Body stop t v →
      Body stop (0x5C :: 0x75 :: a1 :: a2 :: a3 :: a4 :: 0x5C :: 0x75 :: b1 :: b2 :: b3 :: b4 :: t)
        (Spec.utf8 (Spec.pairValue hiu lou) ++ v)

theorem rfcEscapes_facts {l x : Byte} (h : (l, x) ∈ rfcEscapes) :
    l ≠ 0 ∧ l ≠ 0x75 ∧ unescapeChar l = x ∧ x ≠ 0 := by
  have key : rfcEscapes.all (fun p => p.1 != 0 && p.1 != 0x75 && unescapeChar p.1 == p.2 && p.2 != 0) = true := by
    decide +kernel
  have := List.all_eq_true.mp key (l, x) h
  simp only [Bool.and_eq_true, bne_iff_ne, beq_iff_eq] at this
  exact ⟨this.1.1.1, this.1.1.2, this.1.2, this.2⟩

theorem ne_zero_of_ge_space {c : Byte} (h : 0x20 ≤ c) : c ≠ 0 := by
  intro hc; subst hc; exact absurd h (by decide)

/-- `skipSpaces` in front of a byte that starts a token -/
theorem skipSpaces_token {cfg : Cfg} {n : Nat} {s : St} {c : Byte} {rest : List Byte}
    (h1 : s.l.loaded = false) (h2 : s.l.unread = c :: rest) (h0 : c ≠ 0) (hw : isWs c = false) (hc : c ≠ 0x2F) :
    skipSpaces cfg (n + 1) s = (.ok, setFound (ld s c rest)) := by
  have e0 : (c == 0) = false := by simpa using h0
  have e1 : (c == 0x2F) = false := by simpa using hc
  simp only [skipSpaces, cur_cons h1 h2, e0, hw, e1, Bool.and_false, Bool.false_eq_true, ↓reduceIte]
  rfl

/-! ### further helpers for the property theorems of C17 / C01 (strings) -/

/-- every source byte becomes at least one output byte -/
theorem writeChar_length_pos (c : UInt8) : 1 ≤ (JSer.writeChar c).length := by
  show 1 ≤ (if (JSer.escapeChar c != 0) = true then [0x5C, JSer.escapeChar c]
    else if (c != 0) = true then [c] else [0x5C, 0x75, 0x30, 0x30, 0x30, 0x30]).length
  split
  · exact Nat.le_add_left 1 1
  · split
    · exact Nat.le_refl 1
    · exact Nat.le_add_left 1 5

theorem length_le_escaped (s : List UInt8) : s.length ≤ (s.flatMap JSer.writeChar).length := by
  induction s with
  | nil => simp
  | cons c cs ih =>
    have := writeChar_length_pos c
    simp only [List.flatMap_cons, List.length_append, List.length_cons]
    omega

/-- a value that starts with `"` is parsed by `parseQuoted` (no leading space, any nesting limit) -/
theorem parseVariant_quote {cfg : Cfg} {fuel limit : Nat} {s : St} {rest : List UInt8}
    (h1 : s.l.loaded = false) (h2 : s.l.unread = 0x22 :: rest) :
    parseVariant cfg (fuel + 1) limit s =
      (match parseQuoted cfg 0x22 (fuel + 1) [] 0 { adv s 0x22 rest with found := true } with
       | (.ok, str, s) => (.ok, .str str, s)
       | (e, _, s) => (e, .null, s)) := by
  have k0 : ((0x22 : UInt8) == 0) = false := by decide
  have k1 : isWs 0x22 = false := by decide
  have k2 : ((0x22 : UInt8) == 0x2F) = false := by decide
  have k3 : ((0x22 : UInt8) == 0x5B) = false := by decide
  have k4 : ((0x22 : UInt8) == 0x7B) = false := by decide
  have hc : cur { ld s 0x22 rest with found := true } = (0x22, { ld s 0x22 rest with found := true }) :=
    cur_loaded rfl
  simp only [parseVariant, skipSpaces, cur_cons h1 h2, k0, k1, k2, k3, k4, hc, Bool.and_false, Bool.false_eq_true,
    ↓reduceIte, beq_self_eq_true, Bool.true_or]
  rfl

/-- `{` followed by a token that is not `}`: the members loop starts on that token -/
theorem parseVariant_obj_open {cfg : Cfg} {fuel limit : Nat} {s : St} {c : UInt8} {rest : List UInt8}
    (h1 : s.l.loaded = false) (h2 : s.l.unread = 0x7B :: c :: rest)
    (h0 : c ≠ 0) (hw : isWs c = false) (hc : c ≠ 0x2F) (hd : c ≠ 0x7D) :
    parseVariant cfg (fuel + 1) (limit + 1) s =
      parseMembers cfg fuel limit (setFound (ld (setFound (adv s 0x7B (c :: rest))) c rest)) [] := by
  have k1 : ((0x7B : UInt8) == 0x5B) = false := by decide
  have e1 : (c == 0x7D) = false := by simpa using hd
  have s1 := skipSpaces_token (cfg := cfg) (n := fuel) h1 h2 (by decide) (by decide) (by decide)
  have s2 := skipSpaces_token (cfg := cfg) (n := fuel) (s := setFound (adv s 0x7B (c :: rest))) (c := c) (rest := rest)
    rfl rfl h0 hw hc
  simp only [parseVariant, s1, cur_setFound_ld, mv_setFound_ld, s2, k1, e1, beq_self_eq_true, Bool.false_eq_true,
    ↓reduceIte]

/-- one member `"key":value}` closing the object -/
theorem parseMembers_single {cfg : Cfg} {fuel limit : Nat} {s0 : St} {r0 : List UInt8}
    {ms : List (List UInt8 × Val)} {key : List UInt8} {q1 : St} {r1 : List UInt8} {v : Val} {q2 : St} {r2 : List UInt8}
    (hk : parseQuoted cfg 0x22 (fuel + 1) [] 0 (setFound (adv s0 0x22 r0)) = (.ok, key, q1))
    (h11 : q1.l.loaded = false) (h12 : q1.l.unread = 0x3A :: r1)
    (hv : parseVariant cfg fuel limit (setFound (adv q1 0x3A r1)) = (.ok, v, q2))
    (h21 : q2.l.loaded = false) (h22 : q2.l.unread = 0x7D :: r2) :
    parseMembers cfg (fuel + 1) limit (setFound (ld s0 0x22 r0)) ms =
      (.ok, .obj (setMember ms key v), setFound (adv q2 0x7D r2)) := by
  have s1 := skipSpaces_token (cfg := cfg) (n := fuel) h11 h12 (by decide) (by decide) (by decide)
  have s2 := skipSpaces_token (cfg := cfg) (n := fuel) h21 h22 (by decide) (by decide) (by decide)
  simp only [parseMembers, cur_setFound_ld, mv_setFound_ld, hk, s1, hv, s2, beq_self_eq_true, Bool.true_or,
    bne_self_eq_false, Bool.false_eq_true, ↓reduceIte]

/-- the tail of a string after some decoded escape: plain bytes, then the closing quote -/
theorem pq_plain_then_close {cfg : Cfg} {stop : UInt8} (post : List UInt8) (hpost : ∀ c ∈ post, Plain stop c)
    (k : Nat) (acc : List UInt8) (hi : Nat) (s : St) (rest : List UInt8) (p : Nat) (f : Bool)
    (h : At s (post ++ stop :: rest) p f) (hl : acc.length + post.length ≤ cfg.maxStrLen) :
    ∃ s', At s' rest (p + post.length + 1) f ∧
      parseQuoted cfg stop (post.length + (k + 1)) acc hi s = (.ok, acc.reverse ++ post, s') := by
  obtain ⟨s1, hs1, he1⟩ := parseQuoted_plain_prefix (cfg := cfg) post hpost (k + 1) acc hi s _ p f h
  obtain ⟨s2, hs2, he2⟩ := pq_close (cfg := cfg) (fuel := k) (acc := post.reverse ++ acc) (hi := hi) hs1
    (by simp; omega)
  exact ⟨s2, hs2, by rw [he1, he2]; simp⟩


end JD

/-! ### `\uXXXX` escapes and well-formed bodies, through `parseQuoted` -/
namespace C17
open JD

theorem hexVal_decode {c : UInt8} {v : Nat} (h : Spec.hexVal c = some v) : decodeHex c = v := (hexVal_some h).1

/-- surrogate recombination as done by `Utf16::Codepoint::append` (10 bits kept from each unit) -/
theorem surrogate_pair (hi lo : Nat) (hh : 0xD800 ≤ hi ∧ hi < 0xDC00) (hl : 0xDC00 ≤ lo ∧ lo < 0xE000) :
    0x10000 + ((hi % 1024) * 1024 + lo % 1024) = Spec.pairValue hi lo := by
  unfold Spec.pairValue; omega

theorem decodeHex_le (c : UInt8) (v : Nat) (h : Spec.hexVal c = some v) : decodeHex c ≤ 0x0F := by
  rw [(hexVal_some h).1]; exact hexVal_le c v h

/-- one `\uXXXX` of a non-surrogate code unit: one round of the loop, appends the UTF-8 encoding -/
theorem pq_u_bmp {cfg : Cfg} {stop : UInt8} (hs : stop ≠ 0x5C) (hcfg : cfg.decodeUnicode = true)
    {h1 h2 h3 h4 : UInt8} {d1 d2 d3 d4 : Nat}
    (e1 : Spec.hexVal h1 = some d1) (e2 : Spec.hexVal h2 = some d2)
    (e3 : Spec.hexVal h3 = some d3) (e4 : Spec.hexVal h4 = some d4)
    (hns : Spec.isSurrogate (d1 * 4096 + d2 * 256 + d3 * 16 + d4) = false)
    (fuel : Nat) (acc : List UInt8) (hi : Nat) (s : St) (rest : List UInt8) (p : Nat) (f : Bool)
    (h : At s (0x5C :: 0x75 :: h1 :: h2 :: h3 :: h4 :: rest) p f) :
    ∃ s', At s' rest (p + 6) f ∧
      parseQuoted cfg stop (fuel + 1) acc hi s =
        parseQuoted cfg stop fuel ((Spec.utf8 (d1 * 4096 + d2 * 256 + d3 * 16 + d4)).reverse ++ acc) hi s' := by
  obtain ⟨s', hs', he⟩ := pq_u (cfg := cfg) (stop := stop) (fuel := fuel) (acc := acc) (hi := hi) h.1 h.2.1 hs hcfg
    (decodeHex_le _ _ e1) (decodeHex_le _ _ e2) (decodeHex_le _ _ e3) (decodeHex_le _ _ e4)
  rw [h.2.2.1, h.2.2.2] at hs'
  refine ⟨s', hs', ?_⟩
  rw [he, hexVal_decode e1, hexVal_decode e2, hexVal_decode e3, hexVal_decode e4]
  have b1 := hexVal_le _ _ e1; have b2 := hexVal_le _ _ e2; have b3 := hexVal_le _ _ e3; have b4 := hexVal_le _ _ e4
  generalize hcu : d1 * 4096 + d2 * 256 + d3 * 16 + d4 = cu at hns ⊢
  have hlt : cu < 0x110000 := by omega
  simp only [Spec.isSurrogate, Bool.and_eq_false_iff, decide_eq_false_iff_not] at hns
  have c1 : (decide (0xD800 ≤ cu) && decide (cu < 0xDC00)) = false := by
    simp only [Bool.and_eq_false_iff, decide_eq_false_iff_not]; omega
  have c2 : (decide (0xDC00 ≤ cu) && decide (cu < 0xE000)) = false := by
    simp only [Bool.and_eq_false_iff, decide_eq_false_iff_not]; omega
  simp only [c1, c2, Bool.false_eq_true, ↓reduceIte, encodeCodepoint_utf8 cu hlt]

/-- a high surrogate escape immediately followed by a low surrogate escape: two rounds of the loop, appends the
    UTF-8 encoding of the code point of the pair (whatever was pending before) -/
theorem pq_u_pair {cfg : Cfg} {stop : UInt8} (hs : stop ≠ 0x5C) (hcfg : cfg.decodeUnicode = true)
    {a1 a2 a3 a4 b1 b2 b3 b4 : UInt8} {x1 x2 x3 x4 y1 y2 y3 y4 hiu lou : Nat}
    (ea1 : Spec.hexVal a1 = some x1) (ea2 : Spec.hexVal a2 = some x2)
    (ea3 : Spec.hexVal a3 = some x3) (ea4 : Spec.hexVal a4 = some x4)
    (eb1 : Spec.hexVal b1 = some y1) (eb2 : Spec.hexVal b2 = some y2)
    (eb3 : Spec.hexVal b3 = some y3) (eb4 : Spec.hexVal b4 = some y4)
    (hhiu : hiu = x1 * 4096 + x2 * 256 + x3 * 16 + x4) (hlou : lou = y1 * 4096 + y2 * 256 + y3 * 16 + y4)
    (hhi : 0xD800 ≤ hiu ∧ hiu < 0xDC00) (hlo : 0xDC00 ≤ lou ∧ lou < 0xE000)
    (fuel : Nat) (acc : List UInt8) (hi0 : Nat) (s : St) (rest : List UInt8) (p : Nat) (f : Bool)
    (h : At s (0x5C :: 0x75 :: a1 :: a2 :: a3 :: a4 :: 0x5C :: 0x75 :: b1 :: b2 :: b3 :: b4 :: rest) p f) :
    ∃ s', At s' rest (p + 12) f ∧
      parseQuoted cfg stop (fuel + 2) acc hi0 s =
        parseQuoted cfg stop fuel ((Spec.utf8 (Spec.pairValue hiu lou)).reverse ++ acc) (hiu % 1024) s' := by
  obtain ⟨s1, hs1, he1⟩ := pq_u (cfg := cfg) (stop := stop) (fuel := fuel + 1) (acc := acc) (hi := hi0) h.1 h.2.1 hs hcfg
    (decodeHex_le _ _ ea1) (decodeHex_le _ _ ea2) (decodeHex_le _ _ ea3) (decodeHex_le _ _ ea4)
  rw [h.2.2.1, h.2.2.2] at hs1
  rw [hexVal_decode ea1, hexVal_decode ea2, hexVal_decode ea3, hexVal_decode ea4, ← hhiu] at he1
  have c1 : (decide (0xD800 ≤ hiu) && decide (hiu < 0xDC00)) = true := by
    simp only [Bool.and_eq_true, decide_eq_true_eq]; exact hhi
  simp only [c1, ↓reduceIte] at he1
  obtain ⟨s2, hs2, he2⟩ := pq_u (cfg := cfg) (stop := stop) (fuel := fuel) (acc := acc) (hi := hiu % 1024)
    hs1.1 hs1.2.1 hs hcfg
    (decodeHex_le _ _ eb1) (decodeHex_le _ _ eb2) (decodeHex_le _ _ eb3) (decodeHex_le _ _ eb4)
  rw [hs1.2.2.1, hs1.2.2.2] at hs2
  rw [hexVal_decode eb1, hexVal_decode eb2, hexVal_decode eb3, hexVal_decode eb4, ← hlou] at he2
  have c2 : (decide (0xD800 ≤ lou) && decide (lou < 0xDC00)) = false := by
    simp only [Bool.and_eq_false_iff, decide_eq_false_iff_not]; omega
  have c3 : (decide (0xDC00 ≤ lou) && decide (lou < 0xE000)) = true := by
    simp only [Bool.and_eq_true, decide_eq_true_eq]; exact hlo
  simp only [c2, c3, Bool.false_eq_true, ↓reduceIte] at he2
  refine ⟨s2, by simpa [Nat.add_assoc] using hs2, ?_⟩
  have hpv : Spec.pairValue hiu lou < 0x110000 := by unfold Spec.pairValue; omega
  rw [show fuel + 2 = (fuel + 1) + 1 from rfl, he1, he2, surrogate_pair hiu lou hhi hlo,
    encodeCodepoint_utf8 _ hpv]

/-- **`parseQuotedString` agrees with the grammar.** If `t` is a well-formed string body denoting `v`
    (`JD.Body`: plain bytes, the eight short escapes, `\uXXXX` of non-surrogates in any hex case, surrogate pairs,
    in any order and at any position), then reading `t` followed by the closing delimiter yields exactly `v`,
    appended to what was accumulated, and leaves the reader just after the delimiter — whatever high surrogate
    was pending. -/
theorem body_decodes_gen {cfg : Cfg} {stop : UInt8} (hs : stop ≠ 0x5C) (hcfg : cfg.decodeUnicode = true)
    {t v : List UInt8} (hb : Body stop t v) :
    ∀ (fuel : Nat) (acc : List UInt8) (hi : Nat) (q : St) (rest : List UInt8) (p : Nat) (f : Bool),
      t.length < fuel → acc.length + v.length ≤ cfg.maxStrLen → At q (t ++ stop :: rest) p f →
      ∃ q', At q' rest (p + t.length + 1) f ∧ parseQuoted cfg stop fuel acc hi q = (.ok, acc.reverse ++ v, q') := by
  induction hb with
  | nil =>
    intro fuel acc hi q rest p f hf hl h
    obtain ⟨n, rfl⟩ : ∃ n, fuel = n + 1 := ⟨fuel - 1, by simp at hf; omega⟩
    have h' : At q (stop :: rest) p f := by simpa using h
    obtain ⟨q', hq', he⟩ := pq_close (cfg := cfg) (fuel := n) (acc := acc) (hi := hi) h' (by simpa using hl)
    exact ⟨q', by simpa using hq', by simpa using he⟩
  | plain c t v h1 h2 h3 _ ih =>
    intro fuel acc hi q rest p f hf hl h
    obtain ⟨n, rfl⟩ : ∃ n, fuel = n + 1 := ⟨fuel - 1, by simp at hf; omega⟩
    have h' : At q (c :: (t ++ stop :: rest)) p f := by simpa using h
    obtain ⟨q', hq', he'⟩ := ih n (c :: acc) hi _ rest _ f (by simp at hf; omega) (by simp at hl ⊢; omega) h'.adv
    refine ⟨q', ?_, ?_⟩
    · rw [← len_cons p c]; exact hq'
    · rw [pq_plain h'.1 h'.2.1 h2 (ne_zero_of_ge_space h1) h3, he']; simp
  | esc l x t v hm _ ih =>
    intro fuel acc hi q rest p f hf hl h
    obtain ⟨n, rfl⟩ : ∃ n, fuel = n + 1 := ⟨fuel - 1, by simp at hf; omega⟩
    obtain ⟨f1, f2, f3, f4⟩ := rfcEscapes_facts hm
    have h' : At q (0x5C :: l :: (t ++ stop :: rest)) p f := by simpa using h
    obtain ⟨q', hq', he'⟩ := ih n (x :: acc) hi _ rest _ f (by simp at hf; omega) (by simp at hl ⊢; omega) h'.adv.adv
    refine ⟨q', ?_, ?_⟩
    · rw [← len_cons p 0x5C, ← len_cons (p + 1) l]; exact hq'
    · rw [pq_esc h'.1 h'.2.1 hs f1 f2 (by rw [f3]; exact f4), f3, he']; simp
  | bmp h1 h2 h3 h4 d1 d2 d3 d4 t v e1 e2 e3 e4 hns _ ih =>
    intro fuel acc hi q rest p f hf hl h
    obtain ⟨n, rfl⟩ : ∃ n, fuel = n + 1 := ⟨fuel - 1, by simp at hf; omega⟩
    have h' : At q (0x5C :: 0x75 :: h1 :: h2 :: h3 :: h4 :: (t ++ stop :: rest)) p f := by simpa using h
    obtain ⟨q1, hq1, he1⟩ := pq_u_bmp (cfg := cfg) hs hcfg e1 e2 e3 e4 hns n acc hi q _ p f h'
    obtain ⟨q', hq', he'⟩ := ih n ((Spec.utf8 (d1 * 4096 + d2 * 256 + d3 * 16 + d4)).reverse ++ acc) hi q1 rest _ f
      (by simp at hf; omega) (by simp at hl ⊢; omega) hq1
    refine ⟨q', ?_, ?_⟩
    · have : p + 6 + t.length + 1 = p + (0x5C :: 0x75 :: h1 :: h2 :: h3 :: h4 :: t).length + 1 := by simp only [List.length_cons]; omega
      rw [← this]; exact hq'
    · rw [he1, he']; simp
  | pair a1 a2 a3 a4 b1 b2 b3 b4 x1 x2 x3 x4 y1 y2 y3 y4 hiu lou t v ea1 ea2 ea3 ea4 eb1 eb2 eb3 eb4
      hhiu hlou hhi hlo _ ih =>
    intro fuel acc hi q rest p f hf hl h
    obtain ⟨n, rfl⟩ : ∃ n, fuel = n + 2 := ⟨fuel - 2, by simp at hf; omega⟩
    have h' : At q (0x5C :: 0x75 :: a1 :: a2 :: a3 :: a4 :: 0x5C :: 0x75 :: b1 :: b2 :: b3 :: b4 ::
        (t ++ stop :: rest)) p f := by simpa using h
    obtain ⟨q1, hq1, he1⟩ := pq_u_pair (cfg := cfg) hs hcfg ea1 ea2 ea3 ea4 eb1 eb2 eb3 eb4 hhiu hlou hhi hlo
      n acc hi q _ p f h'
    obtain ⟨q', hq', he'⟩ := ih n ((Spec.utf8 (Spec.pairValue hiu lou)).reverse ++ acc) (hiu % 1024) q1 rest _ f
      (by simp at hf; omega) (by simp at hl ⊢; omega) hq1
    refine ⟨q', ?_, ?_⟩
    · have : p + 12 + t.length + 1 =
          p + (0x5C :: 0x75 :: a1 :: a2 :: a3 :: a4 :: 0x5C :: 0x75 :: b1 :: b2 :: b3 :: b4 :: t).length + 1 := by
        simp only [List.length_cons]; omega
      rw [← this]; exact hq'
    · rw [he1, he']; simp

end C17
