/- The grammar theorems of AJ/Lemmas/SerGrammarCore.lean stated with the predicates of the round-trip property C07
   (`RawFree`, `IntsInRange`, `StrsWithin`, `NoFloat`, `NoDupKeys`, `readBack`, `normInt`), and the agreement of `denote`
   with `C07.readBack` / `C07.normJ` / `C07.normInt`. Used by AJ/Props/C02.lean. -/
import AJ.Lemmas.SerGrammarCore
import AJ.Lemmas.JsonRoundTrip
import AJ.Lemmas.FloatText
namespace SerG
open JD JS JSer Spec.Json

theorem numVal_of_parse (cfg : Cfg) {lit : List Byte} (h : NumLit lit) : numVal cfg lit = C07.numValue cfg lit :=
  (C07.numValue_numLit cfg h).symm

/-! ## the hypotheses, with the predicates of C07 -/

def PrintableS : Val → Prop
  | .str s => Printable s
  | _ => True

/-- every string value and every key is free of bare control characters -/
def PrintableStrs (v : Val) : Prop := C07.AllV PrintableS Printable v

def FloatOkS (cfg : Cfg) : Val → Prop
  | .num n => NumFloatOk cfg n
  | _ => True
/-- every float is one that the configuration writes as JSON -/
def FloatsOk (cfg : Cfg) (v : Val) : Prop := C07.AllV (FloatOkS cfg) (fun _ => True) v

/-- the hypotheses on a scalar node / on a key, bundled -/
def OkS (cfg : Cfg) (v : Val) : Prop :=
  C07.RawFreeS v ∧ C07.IntOkS v ∧ C07.StrOkS cfg.maxStrLen v ∧ PrintableS v ∧ FloatOkS cfg v
def OkK (cfg : Cfg) (k : List Byte) : Prop := k.length ≤ cfg.maxStrLen ∧ Printable k

open C07 in
mutual
theorem ok_of_allV (cfg : Cfg) : ∀ v, AllV (OkS cfg) (OkK cfg) v → Ok cfg v
  | .arr xs => by simp only [AllV, Ok]; exact okE_of_allE cfg xs
  | .obj ms => by simp only [AllV, Ok]; exact okM_of_allM cfg ms
  | .num n => by
    simp only [AllV, Ok]; intro h
    refine ⟨?_, h.2.2.2.2⟩
    have := h.2.1
    cases n <;> exact this
  | .str s => by simp only [AllV, Ok]; intro h; exact ⟨h.2.2.1, h.2.2.2.1⟩
  | .raw s => by simp only [AllV, Ok]; intro h; exact h.1
  | .null | .bool _ => by simp only [Ok]; intro _; trivial
theorem okE_of_allE (cfg : Cfg) : ∀ xs, AllE (OkS cfg) (OkK cfg) xs → OkE cfg xs
  | [] => by simp only [OkE]; intro _; trivial
  | x :: r => by simp only [AllE, OkE]; intro h; exact ⟨ok_of_allV cfg x h.1, okE_of_allE cfg r h.2⟩
theorem okM_of_allM (cfg : Cfg) : ∀ ms, AllM (OkS cfg) (OkK cfg) ms → OkM cfg ms
  | [] => by simp only [OkM]; intro _; trivial
  | (k, v) :: r => by
    simp only [AllM, OkM]; intro h; exact ⟨h.1, ok_of_allV cfg v h.2.1, okM_of_allM cfg r h.2.2⟩
end

theorem ok_of (cfg : Cfg) (v : Val) (h1 : C07.RawFree v) (h2 : C07.IntsInRange v) (h3 : C07.StrsWithin cfg.maxStrLen v)
    (h4 : PrintableStrs v) (h5 : FloatsOk cfg v) : Ok cfg v := by
  have a := C07.AllV_and v (C07.AllV_and v (C07.AllV_and v (C07.AllV_and v h1 h2) h3) h4) h5
  exact ok_of_allV cfg v
    (C07.AllV_mono (fun v h => ⟨h.1.1.1.1, h.1.1.1.2, h.1.1.2, h.1.2, h.2⟩) (fun k h => ⟨h.1.1.2, h.1.2⟩) v a)

/-- with the `NaN`/`Infinity` options off every float is fine -/
theorem floatsOk_default (cfg : Cfg) (hnan : cfg.nan = false) (hinf : cfg.inf = false) (v : Val) (h : C07.RawFree v) :
    FloatsOk cfg v := by
  refine C07.AllV_mono (fun v _ => ?_) (fun _ _ => trivial) v h
  cases v with
  | num n => cases n <;> first | trivial | exact Or.inl ⟨hnan, hinf⟩
  | _ => trivial

/-! ## agreement with the definitions of the round-trip property (C07) -/

theorem lastWins_eq (ms : List (List Byte × Val)) : Spec.Json.lastWins ms = C07.lastWins ms := rfl

mutual
theorem depth_eq : ∀ v : Val, C07.depth v = Spec.Json.depth v
  | .arr xs => by simp only [C07.depth, depth, depthE_eq xs]
  | .obj ms => by simp only [C07.depth, depth, depthM_eq ms]
  | .null | .bool _ | .num _ | .str _ | .raw _ => by simp only [C07.depth, depth]
theorem depthE_eq : ∀ xs : List Val, C07.depthE xs = depthList xs
  | [] => by simp only [C07.depthE, depthList]
  | x :: r => by simp only [C07.depthE, depthList, depth_eq x, depthE_eq r]
theorem depthM_eq : ∀ ms : List (List Byte × Val), C07.depthM ms = depthMembers ms
  | [] => by simp only [C07.depthM, depthMembers]
  | (k, v) :: r => by simp only [C07.depthM, depthMembers, depth_eq v, depthM_eq r]
end

theorem denoteFloat_eq (cfg : Cfg) (n : Num) (w places : Nat) (hok : FloatOk cfg w)
    (hp : printNum cfg n = writeFloat cfg w places) (hpl : places ≤ 46) : denoteFloat cfg w places = C07.numBack cfg n := by
  unfold denoteFloat C07.numBack
  rw [hp]
  split
  · rename_i h
    rcases hok with ⟨hnan, hinf⟩ | ⟨f1, f2⟩
    · rw [writeFloat_nonfinite cfg w places hnan hinf h]
      simp only [C07.nullText, ↓reduceIte]
    · rw [f1, f2] at h; exact absurd h (by decide)
  · rename_i h
    obtain ⟨h1, h2⟩ := Bool.or_eq_false_iff.mp (Bool.eq_false_iff.mpr h)
    have hl := numLit_writeFloat cfg w places hpl h1 h2
    rw [if_neg (fun e => (C07.numLit_readable cfg hl).1 (by rw [e]; rfl)), numVal_of_parse cfg hl]

theorem denoteNum_eq (cfg : Cfg) (n : Num) (hi : C07.IntOkS (.num n)) (hf : NumFloatOk cfg n) :
    denoteNum cfg n = C07.numBack cfg n := by
  cases n with
  | uint m =>
    rw [(C07.int_readable cfg (.uint m) ⟨trivial, trivial, hi, trivial⟩).2]; simp only [denoteNum, C07.normJ]
  | sint i =>
    rw [(C07.int_readable cfg (.sint i) ⟨trivial, trivial, hi, trivial⟩).2]; simp only [denoteNum, C07.normJ]
  | f32 b => exact denoteFloat_eq cfg _ _ 6 hf rfl (by decide)
  | f64 b => exact denoteFloat_eq cfg _ _ 9 hf rfl (by decide)

/-- integers in range and floats that the configuration writes as JSON -/
def NumS (cfg : Cfg) (v : Val) : Prop := C07.IntOkS v ∧ FloatOkS cfg v

open C07 hiding depth lastWins in
mutual
/-- `denote` is the `readBack` of the round-trip property C07 -/
theorem denote_eq_readBack' (cfg : Cfg) : ∀ v, AllV (NumS cfg) (fun _ => True) v → denote cfg v = readBack cfg v
  | .arr xs => by
    simp only [AllV, denote, readBack]; intro h; rw [denoteE_eq cfg xs h]
  | .obj ms => by
    simp only [AllV, denote, readBack]; intro h; rw [denoteM_eq cfg ms h, lastWins_eq]
  | .num n => by simp only [AllV, denote, readBack]; intro h; exact denoteNum_eq cfg n h.1 h.2
  | .null | .bool _ | .str _ | .raw _ => by simp only [denote, readBack]; intro _; trivial
theorem denoteE_eq (cfg : Cfg) : ∀ xs, AllE (NumS cfg) (fun _ => True) xs → denoteE cfg xs = readBackE cfg xs
  | [] => fun _ => rfl
  | x :: r => by
    simp only [AllE, denoteE, readBackE]; intro h
    rw [denote_eq_readBack' cfg x h.1, denoteE_eq cfg r h.2]
theorem denoteM_eq (cfg : Cfg) : ∀ ms, AllM (NumS cfg) (fun _ => True) ms → denoteM cfg ms = readBackM cfg ms
  | [] => fun _ => rfl
  | (k, v) :: r => by
    simp only [AllM, denoteM, readBackM]; intro h
    rw [denote_eq_readBack' cfg v h.2.1, denoteM_eq cfg r h.2.2]
end

theorem denote_eq_readBack_of (cfg : Cfg) (v : Val) (h1 : C07.IntsInRange v) (h2 : FloatsOk cfg v) :
    denote cfg v = C07.readBack cfg v :=
  denote_eq_readBack' cfg v (C07.AllV_mono (fun _ h => h) (fun _ _ => trivial) v (C07.AllV_and v h1 h2))

theorem denote_eq_readBack (cfg : Cfg) (hnan : cfg.nan = false) (hinf : cfg.inf = false) (v : Val)
    (h0 : C07.RawFree v) (h : C07.IntsInRange v) : denote cfg v = C07.readBack cfg v :=
  denote_eq_readBack_of cfg v h (floatsOk_default cfg hnan hinf v h0)

/-! ## `denote` on documents without floats / without repeated keys -/

theorem denoteM_keys (cfg : Cfg) (ms : List (List Byte × Val)) : (denoteM cfg ms).map (·.1) = ms.map (·.1) := by
  induction ms with
  | nil => rfl
  | cons m r ih => obtain ⟨k, v⟩ := m; simp only [denoteM, List.map_cons, ih]

/-- an object whose keys are distinct denotes its members one for one, in order -/
theorem denote_obj_nodup (cfg : Cfg) (ms : List (List Byte × Val)) (h : (ms.map (·.1)).Nodup) :
    denote cfg (.obj ms) = .obj (denoteM cfg ms) := by
  simp only [denote]
  rw [lastWins_eq, C07.lastWins_nodup _ (by rw [denoteM_keys]; exact h)]

open C07 hiding depth lastWins in
mutual
theorem denote_eq_normJ (cfg : Cfg) : ∀ v, NoFloat v → denote cfg v = normJ v
  | .arr xs => by simp only [NoFloat, AllV, denote, normJ]; intro h; rw [denoteE_eq_norm cfg xs h]
  | .obj ms => by simp only [NoFloat, AllV, denote, normJ]; intro h; rw [denoteM_eq_norm cfg ms h, lastWins_eq]
  | .num (.sint _) | .num (.uint _) => by simp only [denote, denoteNum, normJ]; intro _; trivial
  | .num (.f32 _) | .num (.f64 _) => by simp only [NoFloat, AllV, FloatFreeS]; intro h; exact absurd h id
  | .null | .bool _ | .str _ | .raw _ => by simp only [denote, normJ]; intro _; trivial
theorem denoteE_eq_norm (cfg : Cfg) : ∀ xs, AllE FloatFreeS (fun _ => True) xs → denoteE cfg xs = normElems xs
  | [] => fun _ => rfl
  | x :: r => by
    simp only [AllE, denoteE, normElems]; intro h; rw [denote_eq_normJ cfg x h.1, denoteE_eq_norm cfg r h.2]
theorem denoteM_eq_norm (cfg : Cfg) : ∀ ms, AllM FloatFreeS (fun _ => True) ms → denoteM cfg ms = normMembers ms
  | [] => fun _ => rfl
  | (k, v) :: r => by
    simp only [AllM, denoteM, normMembers]; intro h; rw [denote_eq_normJ cfg v h.2.1, denoteM_eq_norm cfg r h.2.2]
end

/-- without floats and without repeated keys the denoted document is the document itself, up to the tag of
    non-negative signed integers -/
theorem denote_eq_normInt (cfg : Cfg) (v : Val) (h1 : C07.NoFloat v) (h2 : C07.NoDupKeys v) : denote cfg v = C07.normInt v := by
  rw [denote_eq_normJ cfg v h1, C07.normJ_eq_normInt v h2]

end SerG
