/- C07 (floating-point clause of the JSON round trip): print-then-parse of one number.
   * `decompose_sandwich`: the printed parts are RELATIVELY close to the datum whenever `normalize` scaled it (`decompose_spec_rel`;
     the top-level C12 statement only gives `0.51·10^-places·max(1,x)`, absolute below 1), hence `0.49·x ≤ text ≤ 1.51·x` always;
   * `writeFloat_lit`: the printed text as an RFC literal `-? ip frac exp` whose exact value `litVal` is `textVal`;
   * the parse clauses are used on the binary range (`parse_error`, AJ/Lemmas/FloatErrTop.lean): the text of a datum in
     `[1e-300, 1e300]` may lie just outside `[1e-300, 1e300]`;
   * `fpQ`, `numQ`, `pnumQ`, `valQ`: exact rational values; `storeDouble_value`: narrowing a double to a float on storage is exact;
   * `through_core`: what `parseNumber` makes of the text of a finite non-zero datum. -/
import AJ.Props.C12Print
import AJ.Props.C09
namespace C12
open SF JD JS Digits Spec.Json

/-! ## 1. `decompose`: relative closeness when `normalize` scales -/

/-- with at least six places, `max(1,X)·10^-places ≤ X` for a datum printed without exponent (`1e-6 < X`) -/
theorem max_div_le {X N : ℚ} (hN6 : 10 ^ 6 ≤ N) (hX : 1 / 10 ^ 6 < X) : max 1 X / N ≤ X := by
  have hN : 0 < N := lt_of_lt_of_le (by norm_num) hN6
  have hX0 : 0 < X := lt_trans (by norm_num) hX
  rw [div_le_iff₀ hN]
  refine max_le ?_ (le_mul_of_one_le_right hX0.le (le_trans (by norm_num) hN6))
  calc (1 : ℚ) = 1 / 10 ^ 6 * 10 ^ 6 := by norm_num
    _ ≤ X * N := mul_le_mul hX.le hN6 (by norm_num) hX0.le

/-- the parts never denote a value of the wrong magnitude: `0.49·x ≤ parts ≤ 1.51·x` -/
theorem decompose_sandwich (v m : Nat) (e : Int) (hd : decode b64 v = .fin false m e) (hm : m ≠ 0)
    (places : Nat) (hp6 : 6 ≤ places) (hp9 : places ≤ 9) :
    49 / 100 * qv m e ≤ partsVal (decompose v places) ∧ partsVal (decompose v places) ≤ 151 / 100 * qv m e := by
  obtain ⟨_, _, h3⟩ := decompose_spec v m e hd hm places hp6 hp9
  have hN6 : (10 : ℚ) ^ 6 ≤ (10 : ℚ) ^ places := pow_le_pow_right₀ (by norm_num) hp6
  have hrel : |partsVal (decompose v places) - qv m e| ≤ 51 / 100 * qv m e := by
    rcases decompose_spec_rel v m e hd hm places hp6 hp9 with ⟨hlo, _⟩ | hr
    · exact le_trans h3 (mul_le_mul_of_nonneg_left (max_div_le hN6 hlo) (by norm_num))
    · exact le_trans hr (mul_le_mul_of_nonneg_left (div_le_self (qv_nonneg m e) (le_trans (by norm_num) hN6)) (by norm_num))
  obtain ⟨a, b⟩ := abs_le.mp hrel
  constructor
  · linarith only [a]
  · linarith only [b]

/-! ## 2. the printed text as an RFC literal -/

/-- the fraction part written by `writeFloat` -/
def fracOf (P : Parts) : List Byte := if P.decimalPlaces > 0 then 0x2E :: padDigits P.decimal P.decimalPlaces else []
/-- the exponent part written by `writeFloat` -/
def expOf (P : Parts) : List Byte :=
  if (P.exponent != 0) = true then 0x65 :: ((if P.exponent < 0 then [0x2D] else []) ++ digits P.exponent.natAbs) else []

theorem fracOf_fracPart (P : Parts) : FracPart (fracOf P) := by
  unfold fracOf
  by_cases h : P.decimalPlaces > 0
  · rw [if_pos h]
    refine Or.inr ⟨_, ⟨?_, FloatLen.padDigits_allDigits _ _⟩, rfl⟩
    intro hnil
    have := FloatLen.padDigits_length P.decimal P.decimalPlaces
    rw [hnil] at this; simp at this; omega
  · rw [if_neg h]; exact Or.inl rfl

theorem expOf_expPart (P : Parts) : ExpPart (expOf P) := by
  unfold expOf
  by_cases h : (P.exponent != 0) = true
  · rw [if_pos h]
    obtain ⟨h1, _, h3, _⟩ := digits_spec P.exponent.natAbs
    refine Or.inr ⟨0x65, (if P.exponent < 0 then [0x2D] else []), digits P.exponent.natAbs, Or.inl rfl, ?_, ⟨h3, h1⟩, rfl⟩
    by_cases hn : P.exponent < 0
    · rw [if_pos hn]; exact Or.inr (Or.inr rfl)
    · rw [if_neg hn]; exact Or.inl rfl
  · rw [if_neg h]; exact Or.inl rfl

theorem expOf_val (P : Parts) : expVal (expOf P) = P.exponent := expVal_printed P.exponent

/-- the exact value of the literal assembled from the parts is `partsVal` -/
theorem litAbs_parts (P : Parts) (hdec : P.decimal < 10 ^ P.decimalPlaces) :
    litAbs (digits P.integral) (fracOf P) (expOf P) = partsVal P := by
  have := parts_text_val false P hdec
  unfold litVal at this
  simpa [fracOf, expOf] using this

/-- the text of a finite non-zero datum `±m·2^e`, in terms of the parts of its absolute value -/
theorem writeFloat_parts_eq (cfg : Cfg) (b : Nat) (n : Bool) (m : Nat) (e : Int) (h : decode b64 b = .fin n m e) (hm : m ≠ 0)
    (places : Nat) :
    ∃ v, decode b64 v = .fin false m e ∧
      writeFloat cfg b places = (if n then [0x2D] else []) ++ digits (decompose v places).integral ++
        fracOf (decompose v places) ++ expOf (decompose v places) := by
  obtain ⟨hnan, hinf⟩ := not_nan_inf b n m e h
  have hlt := lt_zero_iff b n m e h hm
  have hv : decode b64 (if SF.lt b64 b 0 = true then absBits b64 b else b) = .fin false m e := by
    rw [hlt]
    cases n
    · simpa using h
    · simpa using decode_absBits b64 b true m e h
  refine ⟨_, hv, ?_⟩
  simp only [writeFloat, hnan, hinf, Bool.false_eq_true, if_false, fracOf, expOf]
  rw [hlt]

/-- THE TEXT AS A LITERAL: for a finite non-zero binary64 datum `±m·2^e`, `writeFloat` produces `-? ip frac exp` with `ip`
    the digits of a number below `2^32`, `frac` and `exp` of the RFC shapes, a written exponent of at most 3 digits; the
    literal's exact value `a = litAbs ip frac exp` is what `textVal` reads, and it is the value of the parts of `decompose` -/
theorem writeFloat_lit (cfg : Cfg) (b : Nat) (n : Bool) (m : Nat) (e : Int) (h : decode b64 b = .fin n m e) (hm : m ≠ 0)
    (places : Nat) (hp6 : 6 ≤ places) (hp9 : places ≤ 9) :
    ∃ (ip f ex : List Byte), writeFloat cfg b places = (if n then [0x2D] else []) ++ ip ++ f ++ ex ∧
      (∃ I : Nat, I < 2 ^ 32 ∧ ip = digits I) ∧
      AllDigits ip ∧ ip ≠ [] ∧ FracPart f ∧ ExpPart ex ∧ (expVal ex).natAbs < 100000 ∧
      textVal (writeFloat cfg b places) = litVal n ip f ex ∧
      |litAbs ip f ex - qv m e| ≤ 51 / 100 * (max 1 (qv m e) / (10 : ℚ) ^ places) ∧
      49 / 100 * qv m e ≤ litAbs ip f ex ∧ litAbs ip f ex ≤ 151 / 100 * qv m e := by
  obtain ⟨v, hv, hw⟩ := writeFloat_parts_eq cfg b n m e h hm places
  obtain ⟨d1, _, d3⟩ := decompose_spec v m e hv hm places hp6 hp9
  obtain ⟨s1, s2⟩ := decompose_sandwich v m e hv hm places hp6 hp9
  obtain ⟨hI, _, hexp⟩ := FloatLen.decompose_bounds v places
  generalize decompose v places = P at *
  have hla := litAbs_parts P d1
  refine ⟨digits P.integral, fracOf P, expOf P, hw, ⟨_, hI, rfl⟩, (digits_spec _).1, (digits_spec _).2.2.1, fracOf_fracPart P,
    expOf_expPart P, by rw [expOf_val]; omega, ?_, by rw [hla]; exact d3, by rw [hla]; exact s1, by rw [hla]; exact s2⟩
  rw [hw]
  have hshape := textVal_shape n (digits P.integral) (padDigits P.decimal P.decimalPlaces) (expOf P)
    (decide (P.decimalPlaces > 0)) (digits_spec _).1 (digits_spec _).2.2.1 (FloatLen.padDigits_allDigits _ _)
    (by unfold expOf
        by_cases hx : (P.exponent != 0) = true
        · rw [if_pos hx]; exact Or.inr ⟨_, rfl⟩
        · rw [if_neg hx]; exact Or.inl rfl)
  simp only [decide_eq_true_eq] at hshape
  exact hshape

/-! ## 2b. data whose value is an integer `1 ≤ N < 10^7`: the text is the digits of `N` -/

theorem normalize_mid (v m : Nat) (e : Int) (hd : decode b64 v = .fin false m e) (h1 : 1 ≤ qv m e) (h7 : qv m e < 10 ^ 7) :
    normalize v = (v, 0) := by
  rw [normalize_eq]
  have hge : ¬ SF.ge b64 v tenE7 = true := by
    intro hc
    have := (ge_q b64 v tenE7 m _ e _ hd decode_tenE7).mp hc
    rw [qv_tenE7] at this
    linarith
  have hle : SF.le b64 v tenEm5 = false := by
    by_contra hc
    have hc' : SF.le b64 v tenEm5 = true := by simpa using hc
    have := (le_q b64 v tenEm5 m _ e _ hd decode_tenEm5).mp hc'
    have h5 := qv_tenEm5.2
    have : (1 : ℚ) ≤ 2 / 10 ^ 5 := by linarith
    norm_num at this
  rw [if_neg hge, hle, Bool.and_false, if_neg (by simp)]

theorem zeroLoop_zero : ∀ q : Fin 10, zeroLoop q.val 0 = (0, 0) := by decide +kernel

theorem decPart_zero_rem :
    (toNatTrunc b64 0 % 2 ^ 32 +
      toNatTrunc b64 (SF.mul b64 (SF.sub b64 0 (ofNat b64 (toNatTrunc b64 0 % 2 ^ 32))) 0x4000000000000000) % 2 ^ 32) % 2 ^ 32 = 0 := by
  decide +kernel

/-- the parts of an integer-valued datum below `10^7`: the integer itself, no decimals, no exponent -/
theorem decompose_integer (v m : Nat) (e : Int) (hd : decode b64 v = .fin false m e) (N : Nat) (hN1 : 1 ≤ N) (hN7 : N < 10 ^ 7)
    (hv : qv m e = (N : ℚ)) (places : Nat) (hp6 : 6 ≤ places) (hp9 : places ≤ 9) :
    (decompose v places).integral = N ∧ (decompose v places).decimal = 0 ∧ (decompose v places).exponent = 0 ∧
    (decompose v places).decimalPlaces = 0 := by
  have hq1 : (1 : ℚ) ≤ qv m e := by rw [hv]; exact_mod_cast hN1
  have hq7 : qv m e < 10 ^ 7 := by rw [hv]; exact_mod_cast hN7
  rw [decompose_eq, normalize_mid v m e hd hq1 hq7]
  obtain ⟨f1, f2, _⟩ := toNatTrunc_floor b64 v false m e hd
  have hT : toNatTrunc b64 v = N := by
    rw [hv] at f1 f2
    have a : toNatTrunc b64 v ≤ N := by exact_mod_cast f1
    have b : N < toNatTrunc b64 v + 1 := by exact_mod_cast f2
    omega
  have hT32 : N < 2 ^ 32 := lt_trans hN7 (by decide)
  obtain ⟨j, hj6, hs1, hs2, _⟩ := digLoop_spec places N hp6 hN7
  obtain ⟨q, hq⟩ : ∃ q, q = places - j := ⟨_, rfl⟩
  rw [← hq] at hs1 hs2
  -- the remainder is exactly zero
  obtain ⟨m1, e1, hd1, hv1⟩ := sub_trunc v m e hd (by rw [hT]; exact lt_trans hN7 (by decide))
  rw [hT] at hd1 hv1
  have hm1 : m1 = 0 := by
    rw [hv, sub_self] at hv1
    unfold qv at hv1
    have hp := two_zpow_pos e1
    rcases mul_eq_zero.mp hv1 with h0 | h0
    · exact_mod_cast h0
    · exact absurd h0 hp.ne'
  subst hm1
  have hq9 : 10 ^ q ≤ 10 ^ 9 := Nat.pow_le_pow_right (by decide) (by omega)
  obtain ⟨mq, eq, hdq, _, _⟩ := ofNat_exactQ b64 (10 ^ q) (Nat.pos_iff_ne_zero.mp (Nat.pow_pos (by decide)))
    (lt_of_le_of_lt hq9 (by decide)) (by decide) (by decide)
  have hrem : remBits v N (10 ^ q) = 0 := by
    unfold remBits
    exact mul_zero_left64 _ false mq e1 eq _ hd1 hdq rfl
  have hdec : decPart v N (10 ^ q) = 0 := by
    unfold decPart
    rw [hrem]
    exact decPart_zero_rem
  have hz := zeroLoop_zero ⟨q, by omega⟩
  simp only at hz
  unfold decomposeCore
  simp only [hT, Nat.mod_eq_of_lt hT32, hs1, hs2, hdec]
  have hpos : ¬ (0 ≥ 10 ^ q) := by
    have := Nat.pow_pos (n := q) (by decide : 0 < 10)
    omega
  rw [if_neg hpos]
  simp only [hz]
  exact ⟨trivial, trivial, trivial, trivial⟩

/-- THE TEXT OF AN INTEGER-VALUED DATUM: a finite binary64 datum of value `±N`, `1 ≤ N < 10^7`, prints as the decimal digits of
    `N` (with a minus sign when negative): no point, no exponent -/
theorem writeFloat_integer (cfg : Cfg) (b : Nat) (n : Bool) (m : Nat) (e : Int) (h : decode b64 b = .fin n m e)
    (N : Nat) (hN1 : 1 ≤ N) (hN7 : N < 10 ^ 7) (hv : qv m e = (N : ℚ)) (places : Nat) (hp6 : 6 ≤ places) (hp9 : places ≤ 9) :
    writeFloat cfg b places = (if n then [0x2D] else []) ++ digits N := by
  have hm : m ≠ 0 := by
    rintro rfl
    have h0 : qv 0 e = 0 := by unfold qv; simp
    rw [h0] at hv
    have : (N : ℚ) = 0 := hv.symm
    have : N = 0 := by exact_mod_cast this
    omega
  obtain ⟨v, hdv, hw⟩ := writeFloat_parts_eq cfg b n m e h hm places
  obtain ⟨p1, p2, p3, p4⟩ := decompose_integer v m e hdv N hN1 hN7 hv places hp6 hp9
  rw [hw]
  unfold fracOf expOf
  rw [p1, p3, p4]
  simp

/-! ## 3. exact rational values of stored numbers; storing a double is exact -/

/-- the exact value of a finite bit pattern (`none` for NaN and the infinities) -/
def fpQ (f : Fmt) (b : Nat) : Option ℚ :=
  match decode f b with
  | .fin n m e => some (sval n m e)
  | _ => none

/-- the exact value of a stored number -/
def numQ : Num → Option ℚ
  | .uint k => some (k : ℚ)
  | .sint i => some (i : ℚ)
  | .f32 b => fpQ b32 b
  | .f64 b => fpQ b64 b

/-- the exact value of a result of `parseNumber` -/
def pnumQ : PNum → Option ℚ
  | .uint k => some (k : ℚ)
  | .sint i => some (i : ℚ)
  | .f32 b => fpQ b32 b
  | .f64 b => fpQ b64 b
  | _ => none

/-- the exact value of a number node -/
def valQ : Val → Option ℚ
  | .num n => numQ n
  | _ => none

theorem fpQ_fin {f : Fmt} {b : Nat} {n : Bool} {m : Nat} {e : Int} (h : decode f b = .fin n m e) : fpQ f b = some (sval n m e) := by
  unfold fpQ; rw [h]

/-- `VariantData::setFloat(double)` (narrow to binary32 when that is exact) never changes the value -/
theorem storeDouble_value (b : Nat) (n : Bool) (m : Nat) (e : Int) (h : decode b64 b = .fin n m e) (hm : m ≠ 0) :
    numQ (storeDouble b) = some (sval n m e) := by
  by_cases hs : C09.same64 b = true
  · rw [C09.storeDouble_of_same b hs]
    show fpQ b32 (cvt b64 b32 b) = _
    rcases (MsgPack.narrows_spec b hs).2 with hA | ⟨n0, e0, _, _, hZ, _⟩
    · generalize cvt b64 b32 b = f at hA ⊢
      cases hd : decode b32 f with
      | nan =>
        exfalso
        have : cvt b32 b64 f = nanBits b64 := by unfold cvt; rw [hd]
        rw [this] at hA
        have hn : decode b64 (nanBits b64) = .nan := by decide +kernel
        rw [← hA, hn] at h
        cases h
      | inf n' =>
        exfalso
        have : cvt b32 b64 f = infBits b64 n' := by unfold cvt; rw [hd]
        rw [this] at hA
        rw [← hA, SF.decode_inf] at h
        cases h
      | fin n' m' e' =>
        obtain ⟨m'', e'', hd2, hq, _⟩ := widen_f32 hd
        rw [hA, h] at hd2
        cases hd2
        rw [fpQ_fin hd]
        unfold sval
        rw [hq]
    · rw [h] at hZ
      cases hZ
      exact absurd rfl hm
  · rw [C09.storeDouble_of_not_same b (by simpa using hs)]
    exact fpQ_fin h

/-! ## 4. print, then parse: one number -/

theorem two_m997 : (2 : ℚ) ^ (-997 : Int) = 8 * (2 : ℚ) ^ (-1000 : Int) := by
  rw [show (-997 : Int) = 3 + (-1000) from rfl, zpow_add₀ (by norm_num : (2 : ℚ) ≠ 0)]; norm_num
theorem two_p1000 : (2 : ℚ) ^ (1000 : Int) = 8 * (2 : ℚ) ^ (997 : Int) := by
  rw [show (1000 : Int) = 3 + 997 from rfl, zpow_add₀ (by norm_num : (2 : ℚ) ≠ 0)]; norm_num

theorem abs_litVal_sub_sval (neg : Bool) (m : Nat) (ex : Int) (ip f e : List Byte) :
    |litVal neg ip f e - sval neg m ex| = |litAbs ip f e - qv m ex| := by
  rw [abs_sub_comm, abs_sval_sub, abs_sub_comm]

/-- an unsigned result means no minus sign, a signed result means a minus sign -/
theorem int_result_sign (cfg : Cfg) (neg : Bool) {ip : List Byte} (hip : AllDigits ip) :
    (∀ k, parseNumber cfg ((if neg then [0x2D] else []) ++ ip) = .uint k → neg = false) ∧
    (∀ v, parseNumber cfg ((if neg then [0x2D] else []) ++ ip) = .sint v → neg = true) := by
  cases neg
  · refine ⟨fun _ _ => rfl, ?_⟩
    intro v hv
    exfalso
    simp only [Bool.false_eq_true, if_false, List.nil_append] at hv
    obtain ⟨ds, e, _⟩ := (sint_parse_iff cfg _ v).mp hv
    rw [e] at hip
    exact absurd (AllDigits_cons.mp hip).1 (by decide)
  · refine ⟨?_, fun _ _ => rfl⟩
    intro k hk
    exfalso
    simp only [if_true, List.singleton_append] at hk
    obtain ⟨ds, hs, _, hd, _⟩ := (uint_parse_iff cfg _ k).mp hk
    rcases hs with e | e
    · rw [← e] at hd; exact absurd (AllDigits_cons.mp hd).1 (by decide)
    · exact absurd (List.cons.inj e).1 (by decide)

/-- PRINT THEN PARSE. For a finite non-zero binary64 datum `x = ±m·2^e` with `2^-997 ≤ |x| ≤ 2^997` printed with `6 ≤ places ≤ 9`
    decimal places: the text is an RFC literal `-? ip f ex` of exact value `T` with `|T − x| ≤ 0.51·10^-places·max(1,|x|)` and
    `0.49·|x| ≤ |T| ≤ 1.51·|x|`, and `parseNumber` makes of it
    * the exact integer `T` (unsigned without sign, signed with a sign) when the text has neither fraction nor exponent, or
    * a finite non-zero binary64 datum of the sign of `x` within `1e-13·|T|` of `T`, or
    * a finite non-zero binary32 datum of the sign of `x` within `1e-6·|T|` of `T` — only when the digits of the text write a
      number `≤ 2^23 − 1` (at most seven significant digits). -/
theorem through_core (cfg : Cfg) (b : Nat) (n : Bool) (m : Nat) (e : Int) (h : decode b64 b = .fin n m e) (hm : m ≠ 0)
    (places : Nat) (hp6 : 6 ≤ places) (hp9 : places ≤ 9)
    (hlo : (2 : ℚ) ^ (-997 : Int) ≤ qv m e) (hhi : qv m e ≤ (2 : ℚ) ^ (997 : Int)) :
    ∃ (ip f ex : List Byte), writeFloat cfg b places = (if n then [0x2D] else []) ++ ip ++ f ++ ex ∧
      (∃ I : Nat, I < 2 ^ 32 ∧ ip = digits I) ∧
      AllDigits ip ∧ ip ≠ [] ∧ FracPart f ∧ ExpPart ex ∧
      textVal (writeFloat cfg b places) = litVal n ip f ex ∧
      |litVal n ip f ex - sval n m e| ≤ 51 / 100 * (max 1 |sval n m e| / (10 : ℚ) ^ places) ∧
      49 / 100 * |sval n m e| ≤ |litVal n ip f ex| ∧ |litVal n ip f ex| ≤ 151 / 100 * |sval n m e| ∧
      ((f = [] ∧ ex = [] ∧
          ((n = false ∧ parseNumber cfg (writeFloat cfg b places) = .uint (Digits.decVal ip)) ∨
           (n = true ∧ parseNumber cfg (writeFloat cfg b places) = .sint (-(Digits.decVal ip : Int)))) ∧
          litVal n ip f ex = (if n then -1 else 1) * (Digits.decVal ip : ℚ)) ∨
       (∃ (bits m' : Nat) (e' : Int), parseNumber cfg (writeFloat cfg b places) = .f64 bits ∧
          decode b64 bits = .fin n m' e' ∧ m' ≠ 0 ∧
          |sval n m' e' - litVal n ip f ex| ≤ 1 / 10 ^ 13 * |litVal n ip f ex|) ∨
       (∃ (bits m' : Nat) (e' : Int), parseNumber cfg (writeFloat cfg b places) = .f32 bits ∧
          decode b32 bits = .fin n m' e' ∧ m' ≠ 0 ∧
          |sval n m' e' - litVal n ip f ex| ≤ 1 / 10 ^ 6 * |litVal n ip f ex| ∧
          Digits.decVal (ip ++ f.tail) ≤ 8388607)) := by
  obtain ⟨ip, f, ex, hw, hI, hip, hne, hf, he, hx, htv, hcl, hs1, hs2⟩ := writeFloat_lit cfg b n m e h hm places hp6 hp9
  have hxpos : 0 < qv m e := qv_pos hm e
  have hTlo : 2 * (2 : ℚ) ^ (-1000 : Int) ≤ litAbs ip f ex := by
    rw [two_m997] at hlo
    have hW := two_zpow_pos (-1000)
    generalize (2 : ℚ) ^ (-1000 : Int) = W at *
    linarith only [hlo, hs1, hW]
  have hThi : litAbs ip f ex ≤ (2 : ℚ) ^ (1000 : Int) := by
    rw [two_p1000]
    have hW := two_zpow_pos 997
    generalize (2 : ℚ) ^ (997 : Int) = W at *
    linarith only [hhi, hs2, hW]
  have hTpos : 0 < litAbs ip f ex := lt_of_lt_of_le (mul_pos (by norm_num) hxpos) hs1
  refine ⟨ip, f, ex, hw, hI, hip, hne, hf, he, htv, ?_, ?_, ?_, ?_⟩
  · rw [abs_litVal_sub_sval, abs_sval]; exact hcl
  · rw [abs_litVal n ip f ex hTpos.le, abs_sval]; exact hs1
  · rw [abs_litVal n ip f ex hTpos.le, abs_sval]; exact hs2
  · rw [hw]
    obtain ⟨hk, h64, h32⟩ := parse_error cfg n hip hne hf he hx hTlo
    rcases hk with ⟨h1, h2, h3⟩ | ⟨bits, hb⟩ | ⟨bits, hb⟩
    · left
      refine ⟨h1, h2, ?_, ?_⟩
      · have hsg := int_result_sign cfg n hip
        subst h1; subst h2
        simp only [List.append_nil] at h3 hsg ⊢
        rcases h3 with h3 | h3
        · exact Or.inl ⟨hsg.1 _ h3, h3⟩
        · exact Or.inr ⟨hsg.2 _ h3, h3⟩
      · unfold litVal litAbs
        rw [h1, h2]; simp [expVal]
    · obtain ⟨m', e', hd, hm', hc⟩ := (h64 bits hb).resolve_left (fun h => absurd hThi (not_le.mpr h.2))
      exact Or.inr (Or.inl ⟨bits, m', e', hb, hd, hm', hc⟩)
    · obtain ⟨m', e', hd, hm', hc⟩ := h32 bits hb
      exact Or.inr (Or.inr ⟨bits, m', e', hb, hd, hm', hc, f32_few_digits cfg n hip hne hf he hx hTlo hThi bits hb⟩)

end C12
