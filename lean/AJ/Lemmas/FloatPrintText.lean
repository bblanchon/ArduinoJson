/- C12 (printing clauses): the exact rational value of a printed number text, and the value of the text `writeFloat` produces
   from the parts computed by `decompose`. -/
import AJ.Lemmas.FloatPrintDec
namespace C12
open SF JD JS Digits

/-! ## the value of a number text, read off the bytes -/

/-- an optional leading minus sign -/
def stripSign (s : List Byte) : Bool × List Byte :=
  match s with
  | 0x2D :: r => (true, r)
  | _ => (false, s)

/-- an optional fraction part `. digits` (returned with its point) and what follows it -/
def fracSplit (r : List Byte) : List Byte × List Byte :=
  match r with
  | 0x2E :: t => (0x2E :: t.takeWhile isDigit, t.dropWhile isDigit)
  | _ => ([], r)

/-- split a text `-? digits (. digits)? rest` into sign, integer digits, fraction part (with its point), rest -/
def textParts (s : List Byte) : Bool × List Byte × List Byte × List Byte :=
  ((stripSign s).1, (stripSign s).2.takeWhile isDigit,
    (fracSplit ((stripSign s).2.dropWhile isDigit)).1, (fracSplit ((stripSign s).2.dropWhile isDigit)).2)

/-- THE EXACT VALUE OF A NUMBER TEXT `-? digits (. digits)? ([eE] [+-]? digits)?`:
    `± N·10^(X − k)`, `N` the number written by all the digits, `k` the number of fraction digits, `X` the written exponent -/
def textVal (s : List Byte) : ℚ :=
  litVal (textParts s).1 (textParts s).2.1 (textParts s).2.2.1 (textParts s).2.2.2

theorem takeWhile_digits (ds rest : List Byte) (hd : AllDigits ds) (hr : isDigit (rest.headD 0) = false) :
    (ds ++ rest).takeWhile isDigit = ds ∧ (ds ++ rest).dropWhile isDigit = rest := by
  have hall : ∀ a ∈ ds, isDigit a = true := fun a ha => isDigit_of_range (hd a ha)
  rw [List.takeWhile_append_of_pos hall, List.dropWhile_append_of_pos hall]
  cases rest with
  | nil => simp
  | cons c cs =>
    have : isDigit c = false := hr
    simp [List.takeWhile_cons, List.dropWhile_cons, this]

theorem stripSign_digit (c : Byte) (t : List Byte) (hc : 0x30 ≤ c ∧ c ≤ 0x39) : stripSign (c :: t) = (false, c :: t) := by
  unfold stripSign
  split
  · rename_i r heq
    have := (List.cons.inj heq).1
    rw [this] at hc; exact absurd hc (by decide)
  · rfl

/-- on a text of the printed shape, `textVal` is `litVal` of its parts -/
theorem textVal_shape (neg : Bool) (ip fd e : List Byte) (hasFrac : Bool) (hip : AllDigits ip) (hne : ip ≠ [])
    (hfd : AllDigits fd) (he : e = [] ∨ ∃ t, e = 0x65 :: t) :
    textVal ((if neg then [0x2D] else []) ++ ip ++ (if hasFrac then 0x2E :: fd else []) ++ e) =
      litVal neg ip (if hasFrac then 0x2E :: fd else []) e := by
  have he0 : isDigit (e.headD 0) = false := by
    rcases he with rfl | ⟨t, rfl⟩
    · decide
    · show isDigit 0x65 = false; decide
  have hrest : isDigit (((if hasFrac then 0x2E :: fd else []) ++ e).headD 0) = false := by
    cases hasFrac
    · simpa using he0
    · show isDigit 0x2E = false; decide
  obtain ⟨t1, t2⟩ := takeWhile_digits ip ((if hasFrac then 0x2E :: fd else []) ++ e) hip hrest
  have hs : stripSign ((if neg then [0x2D] else []) ++ ip ++ (if hasFrac then 0x2E :: fd else []) ++ e) =
      (neg, ip ++ ((if hasFrac then 0x2E :: fd else []) ++ e)) := by
    cases neg
    · simp only [Bool.false_eq_true, if_false, List.nil_append, List.append_assoc]
      cases ip with
      | nil => exact absurd rfl hne
      | cons c cs => exact stripSign_digit c _ (AllDigits_cons.mp hip).1
    · simp only [if_true, List.append_assoc, List.cons_append, List.nil_append]
      rfl
  have hf : fracSplit ((if hasFrac then 0x2E :: fd else []) ++ e) = ((if hasFrac then 0x2E :: fd else []), e) := by
    cases hasFrac
    · simp only [Bool.false_eq_true, if_false, List.nil_append]
      rcases he with rfl | ⟨t, rfl⟩ <;> rfl
    · simp only [if_true, List.cons_append]
      obtain ⟨u1, u2⟩ := takeWhile_digits fd e hfd he0
      show (0x2E :: (fd ++ e).takeWhile isDigit, (fd ++ e).dropWhile isDigit) = _
      rw [u1, u2]
  unfold textVal textParts
  simp only [hs, t1, t2, hf]

/-! ## the text written from the parts -/

theorem decValAux_linear (a : Nat) (ds : List Byte) : decValAux a ds = a * 10 ^ ds.length + decVal ds := by
  induction ds generalizing a with
  | nil => simp [decValAux_nil, decVal]
  | cons d ds ih =>
    have h1 : decVal (d :: ds) = decValAux (0 * 10 + (d.toNat - 48)) ds := by
      unfold decVal; rw [decValAux_cons]
    rw [decValAux_cons, ih, h1, ih (0 * 10 + (d.toNat - 48)), List.length_cons, Nat.pow_succ]
    ring

theorem decVal_append (xs ys : List Byte) : decVal (xs ++ ys) = decVal xs * 10 ^ ys.length + decVal ys := by
  unfold decVal
  rw [decValAux_append, decValAux_linear]; rfl

theorem padDigits_val (dec pl : Nat) (h : dec < 10 ^ pl) : decVal (padDigits dec pl) = dec := by
  cases pl with
  | zero =>
    have : dec = 0 := by simpa using h
    subst this
    decide +kernel
  | succ k =>
  have hlen : (digits dec).length ≤ k + 1 := FloatLen.digits_length_le k dec h
  unfold padDigits
  simp only
  have : (digits dec).length - (k + 1) = 0 := by omega
  rw [this, List.drop_zero, decValAux_zeros]
  exact (digits_spec dec).2.1

theorem expVal_printed (ex : Int) :
    expVal (if (ex != 0) = true then 0x65 :: ((if ex < 0 then [0x2D] else []) ++ digits ex.natAbs) else []) = ex := by
  by_cases h0 : ex = 0
  · subst h0; rfl
  · have hb : (ex != 0) = true := by simpa using h0
    rw [if_pos hb]
    have hv := (digits_spec ex.natAbs).2.1
    by_cases hneg : ex < 0
    · rw [if_pos hneg]
      show -(decVal (digits ex.natAbs) : Int) = ex
      rw [hv]; omega
    · rw [if_neg hneg, List.nil_append]
      obtain ⟨hall, _, hne, _⟩ := digits_spec ex.natAbs
      cases hd : digits ex.natAbs with
      | nil => exact absurd hd hne
      | cons d r =>
        rw [hd] at hall hv
        rw [expVal_nosign 0x65 d r (AllDigits_cons.mp hall).1, hv]; omega

/-- the value of the text that `writeFloat` assembles from the parts -/
theorem parts_text_val (neg : Bool) (P : Parts) (hdec : P.decimal < 10 ^ P.decimalPlaces) :
    litVal neg (digits P.integral) (if P.decimalPlaces > 0 then 0x2E :: padDigits P.decimal P.decimalPlaces else [])
      (if (P.exponent != 0) = true then 0x65 :: ((if P.exponent < 0 then [0x2D] else []) ++ digits P.exponent.natAbs) else []) =
    (if neg then -1 else 1) * partsVal P := by
  unfold litVal litAbs partsVal
  rw [expVal_printed]
  congr 1
  have hI := (digits_spec P.integral).2.1
  by_cases hpl : P.decimalPlaces > 0
  · rw [if_pos hpl, List.tail_cons, decVal_append, hI, padDigits_val _ _ hdec, FloatLen.padDigits_length]
    have h10 : (10 : ℚ) ≠ 0 := by norm_num
    rw [zpow_sub₀ h10, zpow_natCast]
    push_cast
    field_simp
  · rw [if_neg hpl]
    have h0 : P.decimalPlaces = 0 := by omega
    rw [h0] at hdec ⊢
    have hd0 : P.decimal = 0 := by simpa using hdec
    rw [hd0]
    simp [hI]

/-! ## sign handling of `writeFloat` -/

theorem decode_absBits (f : Fmt) (b : Nat) (n : Bool) (m : Nat) (e : Int) (h : decode f b = .fin n m e) :
    decode f (absBits f b) = .fin false m e := by
  rw [decode_absBits_fields]
  exact ofFields_fin_sign _ (decode_eq_ofFields f b ▸ h)

theorem lt_zero_iff (b : Nat) (n : Bool) (m : Nat) (e : Int) (h : decode b64 b = .fin n m e) (hm : m ≠ 0) :
    SF.lt b64 b 0 = n := by
  have h0 := decode_zero b64 (by decide)
  have hiff := lt_fin b64 b 0 n false m 0 e _ h h0
  have hmpos : (0 : Int) < (m : Int) := by exact_mod_cast Nat.pos_of_ne_zero hm
  cases n
  · have : ¬ SF.lt b64 b 0 = true := by
      rw [hiff]; unfold DyLt sv sgnm
      simp only [Bool.false_eq_true, if_false, Int.natCast_zero, Int.zero_mul, not_lt]
      exact Int.mul_nonneg hmpos.le (Int.pow_nonneg (by decide))
    simpa using this
  · rw [hiff]; unfold DyLt sv sgnm
    simp only [if_true, Bool.false_eq_true, if_false, Int.natCast_zero, Int.zero_mul]
    have : (0 : Int) < (m : Int) * 2 ^ (e - min e (emin b64)).toNat := Int.mul_pos hmpos (Int.pow_pos (by decide))
    rw [Int.neg_mul]; omega

theorem not_nan_inf (b : Nat) (n : Bool) (m : Nat) (e : Int) (h : decode b64 b = .fin n m e) :
    isNaN b64 b = false ∧ isInf b64 b = false := by
  unfold isNaN isInf; rw [h]; exact ⟨rfl, rfl⟩

/-- THE PRINTED TEXT of a non-zero finite binary64 datum, `6 ≤ places ≤ 9`: its exact value is within
    `0.51·10^-places·max(1, |x|)` of the datum -/
theorem writeFloat_close (cfg : Cfg) (b : Nat) (n : Bool) (m : Nat) (e : Int) (h : decode b64 b = .fin n m e) (hm : m ≠ 0)
    (places : Nat) (hp6 : 6 ≤ places) (hp9 : places ≤ 9) :
    |textVal (writeFloat cfg b places) - sval n m e| ≤ 51 / 100 * (max 1 (qv m e) / (10 : ℚ) ^ places) := by
  obtain ⟨hnan, hinf⟩ := not_nan_inf b n m e h
  have hlt := lt_zero_iff b n m e h hm
  have hv : decode b64 (if SF.lt b64 b 0 = true then absBits b64 b else b) = .fin false m e := by
    rw [hlt]
    cases n
    · simpa using h
    · simpa using decode_absBits b64 b true m e h
  obtain ⟨d1, d2, d3⟩ := decompose_spec _ m e hv hm places hp6 hp9
  simp only [writeFloat, hnan, hinf, Bool.false_eq_true, if_false]
  generalize decompose (if SF.lt b64 b 0 = true then absBits b64 b else b) places = P at d1 d2 d3
  rw [hlt]
  have hshape := textVal_shape n (digits P.integral) (padDigits P.decimal P.decimalPlaces)
    (if (P.exponent != 0) = true then 0x65 :: ((if P.exponent < 0 then [0x2D] else []) ++ digits P.exponent.natAbs) else [])
    (decide (P.decimalPlaces > 0)) (digits_spec _).1 (digits_spec _).2.2.1 (FloatLen.padDigits_allDigits _ _)
    (by by_cases hx : (P.exponent != 0) = true
        · rw [if_pos hx]; exact Or.inr ⟨_, rfl⟩
        · rw [if_neg hx]; exact Or.inl rfl)
  simp only [decide_eq_true_eq] at hshape
  rw [hshape, parts_text_val n P d1]
  unfold sval
  cases n
  · simpa using d3
  · simp only [if_true]
    have : -1 * partsVal P - -1 * qv m e = -(partsVal P - qv m e) := by ring
    rw [this, abs_neg]; exact d3

end C12
