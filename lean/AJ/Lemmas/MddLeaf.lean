/- The leaves of the slot-level MessagePack `parseVariant` (AJ/Lemmas/MddStep.lean) against the invariant `JDD.Built` of
   AJ/Lemmas/JddOps.lean and the accounting of AJ/Lemmas/JddRes.lean: the result `MRes` of a parsing routine with a
   destination, and one lemma per leaf that stores a value. Used by the induction of AJ/Lemmas/MddfInv.lean. -/
import AJ.Lemmas.MddBase
import AJ.Lemmas.MddStep
namespace MDD
open DL
open JD (Byte Code)
open JDD (PlEq LBd Fx Blk AllB SaveOp nl Ctx Built isNum)

/-! ## The result of a parsing routine -/

/-- result `(c, x')` of a parsing routine started in `x` for the location `l` of the reference document `d0`:
    the invariant, the accounting of AJ/Lemmas/JddRes.lean, and: any code but NoMemory leaves the flag alone -/
structure MRes (d0 : Doc) (F : Forest) (l : Loc) (x : S) (c : Code) (x' : S) : Prop where
  built : ∃ s, Built d0 F l x'.d s
  fx : Fx x.d x.b x'.d x'.b c
  quiet : c ≠ .noMemory → x'.d.overflowed = x.d.overflowed

/-- an exit after silent steps, with a code other than NoMemory -/
theorem MRes.silent {d0 : Doc} {F : Forest} {l : Loc} {x x' : S} {s : Forest} {c : Code} (B : Built d0 F l x'.d s)
    (fx : Fx x.d x.b x'.d x'.b .ok) (hc : c ≠ .noMemory) : MRes d0 F l x c x' :=
  ⟨⟨s, B⟩, fx.code hc, fun _ => fx.ok rfl⟩

/-- an exit with NoMemory -/
theorem MRes.fail {d0 : Doc} {F : Forest} {l : Loc} {x x' : S} {s : Forest} (B : Built d0 F l x'.d s)
    (fx : Fx x.d x.b x'.d x'.b .noMemory) : MRes d0 F l x .noMemory x' :=
  ⟨⟨s, B⟩, fx, fun h => absurd rfl h⟩

/-- the start state matters through its document and buffer only -/
theorem MRes.of_eq {d0 : Doc} {F : Forest} {l : Loc} {x x'' x' : S} {c : Code} (hd : x''.d = x.d) (hb : x''.b = x.b)
    (h : MRes d0 F l x'' c x') : MRes d0 F l x c x' :=
  ⟨h.built, by rw [← hd, ← hb]; exact h.fx, fun hc => by rw [← hd]; exact h.quiet hc⟩

theorem MRes.step {d0 : Doc} {F : Forest} {l : Loc} {x x1 x' : S} {c : Code} (fx : Fx x.d x.b x1.d x1.b .ok)
    (h : MRes d0 F l x1 c x') : MRes d0 F l x c x' :=
  ⟨h.built, fx.trans h.fx, fun hc => (h.quiet hc).trans (fx.ok rfl)⟩

/-! ## The leaves -/

theorem store_eq (x : S) (l : Loc) (a : Arg) :
    store x l a = ((if (x.d.setArg l a).1 = true then Code.ok else Code.noMemory), { x with d := (x.d.setArg l a).2 }) := rfl

/-- `setInteger` / `setFloat` on the empty location -/
theorem store_res {d0 : Doc} {F : Forest} {l : Loc} {x : S} (C : Ctx d0 F l) (B : Built d0 F l x.d .nil)
    (hn : x.d.get l = .null) {a : Arg} (ha : isNum a) : MRes d0 F l x (store x l a).1 (store x l a).2 := by
  rw [store_eq]
  obtain ⟨b1, b2, b3, b4, b5, b6⟩ := B.setArg_num C hn ha
  refine ⟨⟨_, b1⟩, ⟨(fun h => by rw [JDD.LBd_iff] at h ⊢; rw [b2]; exact h), b5, fun e => ?_, fun e => ?_,
    fun h => h.elim b6 (fun o => Or.inr (b5 o))⟩, fun e => ?_⟩
  · cases hh : (x.d.setArg l a).1 with
    | true => exact b3 hh
    | false => rw [hh] at e; simp at e
  · cases hh : (x.d.setArg l a).1 with
    | true => rw [hh] at e; simp at e
    | false => exact b4 hh
  · cases hh : (x.d.setArg l a).1 with
    | true => exact b3 hh
    | false => rw [hh] at e; simp at e

theorem leafInt_res {d0 : Doc} {F : Forest} {l : Loc} {x : S} (C : Ctx d0 F l) (B : Built d0 F l x.d .nil)
    (hn : x.d.get l = .null) (w c : Nat) : MRes d0 F l x (leafInt l w c x).1 (leafInt l w c x).2.1 := by
  unfold leafInt
  generalize x.r.readBytes w = q
  obtain ⟨o, r⟩ := q
  cases o with
  | none => exact MRes.silent B (Fx.refl _ _) (by simp [fin])
  | some bs =>
    simp only
    split
    · rename_i n _
      exact MRes.of_eq (x'' := { x with r := r }) rfl rfl (store_res (x := { x with r := r }) C B hn (a := .uint n) trivial)
    · rename_i n _
      exact MRes.of_eq (x'' := { x with r := r }) rfl rfl (store_res (x := { x with r := r }) C B hn (a := .sint n) trivial)
    · exact MRes.silent B (Fx.refl _ _) (by simp [fin])

theorem leafF32_res {d0 : Doc} {F : Forest} {l : Loc} {x : S} (C : Ctx d0 F l) (B : Built d0 F l x.d .nil)
    (hn : x.d.get l = .null) : MRes d0 F l x (leafF32 l x).1 (leafF32 l x).2.1 := by
  unfold leafF32
  generalize x.r.readBytes 4 = q
  obtain ⟨o, r⟩ := q
  cases o with
  | none => exact MRes.silent B (Fx.refl _ _) (by simp [fin])
  | some bs =>
    exact MRes.silent (B.set_plain C hn (v := .f32 (MD.beNat bs)) (fun h => h) rfl rfl) (Fx.set _ _ _ _) (by simp [fin])

theorem leafF64_res {d0 : Doc} {F : Forest} {l : Loc} {x : S} (C : Ctx d0 F l) (B : Built d0 F l x.d .nil)
    (hn : x.d.get l = .null) : MRes d0 F l x (leafF64 l x).1 (leafF64 l x).2.1 := by
  unfold leafF64
  generalize x.r.readBytes 8 = q
  obtain ⟨o, r⟩ := q
  cases o with
  | none => exact MRes.silent B (Fx.refl _ _) (by simp [fin])
  | some bs =>
    exact MRes.of_eq (x'' := { x with r := r }) rfl rfl (store_res (x := { x with r := r }) C B hn (a := .f64 (MD.beNat bs)) trivial)

/-- the string just saved (`n`) stored on the empty location as a string (`.owned n`) or as a raw value (`.raw n`) -/
theorem built_set_str {d0 : Doc} {F : Forest} {l : Loc} {x x' : JDD.S} {bytes : List Byte} {n : Nat} {v : VData}
    (C : Ctx d0 F l) (B : Built d0 F l x.d .nil) (hnull : x.d.get l = .null) (sv : SaveOp x bytes n x')
    (hv : ¬ isColl v) (hve : extOfV v = []) (hvs : strOfV v = [n]) :
    Built d0 F l (x'.d.set l v) .nil := by
  obtain ⟨w, hs⟩ := B.get_nil C
  have hold : ¬ isColl (x.d.get l) := by rw [hnull]; exact fun h => h
  have hc : ∀ j, x'.d.cell j = x.d.cell j := fun j => by simp only [Doc.cell, sv.cells]
  have hlv : ∀ y, PL.live x'.d.g x'.d.pl y ↔ PL.live x.d.g x.d.pl y := fun y => by
    rw [sv.g]; exact live_congr sv.pools sv.free y
  have a := set_scalar_gen (d1 := x'.d) (v' := v) w C.loc hold hv sv.g sv.root (fun j _ => hc j)
    (fun l0 h0 _ e he => ⟨hc e, (hlv e).2 (w.ext l0 h0 e he).2.1⟩)
    (fun l0 h0 _ m hm => sv.keep _ hs m (by simp only [Doc.strRefs, List.mem_flatMap]; exact ⟨l0, h0, hm⟩))
    (by rw [sv.g]; exact w.pool.congr sv.pools sv.tcap sv.theap sv.free)
    (fun j hj => (hlv j).2 (w.live j hj)) (fun e he => by rw [hve] at he; cases he)
  have c := set_gen_strOK (d1 := x'.d) (v' := v) w C.loc (by rw [hnull]; rfl) sv.root (fun j _ => hc j)
    (by rw [hvs]; exact sv.str _ hs)
  exact B.set_after C sv.g sv.root (fun j _ => hc j) (fun n hn => sv.keep _ hs n hn) (fun _ _ e _ => hc e) a.1 c

/-- `save` of the bytes in the buffer, then the store of the node -/
theorem save_set_res {d0 : Doc} {F : Forest} {l : Loc} {x : S} (C : Ctx d0 F l) (B : Built d0 F l x.d .nil)
    (hn : x.d.get l = .null) (hb : x.b.isSome = true) (bytes : List Byte) (mk : Nat → VData)
    (hv : ∀ n, ¬ isColl (mk n)) (hve : ∀ n, extOfV (mk n) = []) (hvs : ∀ n, strOfV (mk n) = [n]) :
    Built d0 F l ((save x bytes).2.d.set l (mk (save x bytes).1)) .nil ∧
    Fx x.d x.b ((save x bytes).2.d.set l (mk (save x bytes).1)) (save x bytes).2.b .ok := by
  have sv := mp_save_spec x bytes
  exact ⟨built_set_str C (x := J x) B hn sv (hv _) (hve _) (hvs _), Fx.save_set sv hb _ _⟩

theorem leafStr_res {d0 : Doc} {F : Forest} {l : Loc} {x : S} (env : MD.Env) (C : Ctx d0 F l) (B : Built d0 F l x.d .nil)
    (hn : x.d.get l = .null) (size : Nat) : MRes d0 F l x (leafStr env l size x).1 (leafStr env l size x).2.1 := by
  unfold leafStr
  have rs := mp_readString_spec env x size
  split
  · rename_i bs x1 heq
    rw [heq] at rs
    obtain ⟨hpl, fx1, hb1, _, _⟩ := rs
    obtain ⟨B2, fx2⟩ := save_set_res C (B.pleq hpl) ((hpl.get l).trans hn) (hb1 rfl) bs VData.owned
      (fun _ h => h) (fun _ => rfl) (fun _ => rfl)
    exact MRes.silent B2 (fx1.trans fx2) (by simp [fin])
  · rename_i e bs x1 hne heq
    rw [heq] at rs
    obtain ⟨hpl, fx1, _, q1, _⟩ := rs
    exact ⟨⟨_, B.pleq hpl⟩, fx1, q1⟩

theorem leafBin_res {d0 : Doc} {F : Forest} {l : Loc} {x : S} (env : MD.Env) (C : Ctx d0 F l) (B : Built d0 F l x.d .nil)
    (hn : x.d.get l = .null) (code : Byte) (sb : Nat) (ie : Bool) (hb : List Byte) (size : Nat) :
    MRes d0 F l x (leafBin env l code sb ie hb size x).1 (leafBin env l code sb ie hb size x).2.1 := by
  unfold leafBin
  obtain ⟨ro, hok, hfail⟩ := mp_reserve_spec env.maxStrLen x (1 + sb + MD.binSize ie size)
  generalize reserve env.maxStrLen x (1 + sb + MD.binSize ie size) = q at ro hok hfail
  obtain ⟨ok, x1⟩ := q
  simp only at ro hok hfail
  have B1 : Built d0 F l x1.d .nil := B.pleq ro.pleq
  have blk : Blk x.d → Blk x1.d := JDD.Blk.of_pleq ro.pleq.pools ro.ovs
  cases ok with
  | false =>
    obtain ⟨_, ho⟩ := hfail rfl
    exact MRes.fail B1 (Fx.fail ro.bal ho)
  | true =>
    obtain ⟨hb1, ho⟩ := hok rfl
    have fx1 : Fx x.d x.b x1.d x1.b .ok := ⟨ro.bal, ro.ovs, fun _ => ho, (fun h => by cases h), blk⟩
    simp only
    generalize x1.r.readBytes (MD.binSize ie size) = q
    obtain ⟨o, r⟩ := q
    cases o with
    | none => exact MRes.silent B1 fx1 (by simp [fin])
    | some bs =>
      obtain ⟨B2, fx2⟩ := save_set_res (x := { x1 with r := r }) C B1 ((ro.pleq.get l).trans hn) hb1 (code :: hb ++ bs)
        VData.raw (fun _ h => h) (fun _ => rfl) (fun _ => rfl)
      exact MRes.silent B2 (fx1.trans fx2) (by simp [fin])

/-! ## The pieces of `run` that do not depend on the filter -/

/-- the state in which `run` starts parsing -/
def mp_start (d : Doc) (input : List Byte) : S := { r := { unread := input }, d := d.clearAll }

/-- the code `run` reports, from the code of the parser: an input without a single byte is `EmptyInput` -/
def mp_finalCode (c : Code) (found : Bool) : Code := if found then c else .empty

theorem mp_finalCode_ok {c : Code} {b : Bool} (h : mp_finalCode c b = .ok) : c = .ok := by
  cases b with
  | true => exact h
  | false => cases h

theorem mp_finalCode_nomem {c : Code} {b : Bool} (h : mp_finalCode c b = .noMemory) : c = .noMemory := by
  cases b with
  | true => exact h
  | false => cases h

theorem mp_finalCode_ne_nomem {c : Code} {b : Bool} (h : mp_finalCode c b ≠ .noMemory) : c ≠ .noMemory ∨ b = false := by
  cases b with
  | true => exact Or.inl h
  | false => exact Or.inr rfl

end MDD
