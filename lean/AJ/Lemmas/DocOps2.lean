/- The string table under the primitives of `DL` (`saveString`, storing a value, the references split by a location),
   and appending an element to the collection at a location (`append_gen`, an instance of `Outside.wfg`).
   Used by AJ/Props/C04.lean. -/
import AJ.Lemmas.DocOps
namespace DL
open JD (Byte Val)

/-! ## String references after a value was replaced -/

/-- the references of `d'` laid out as `F`, when only the value at `l` (which held no string) was replaced -/
theorem strRefs_set_perm {d d' : Doc} {F : Forest} {l : Loc} (hnd : F.ids.Nodup) (hlh : l ∈ holders F)
    (hother : ∀ l0 ∈ holders F, l0 ≠ l → strOfV (d'.get l0) = strOfV (d.get l0)) (hold : strOfV (d.get l) = []) :
    List.Perm (d'.strRefs F) (strOfV (d'.get l) ++ d.strRefs F) := by
  have h := flatMap_split (fun l0 => strOfV (d'.get l0)) l (holders F) (holders_nodup hnd) hlh
  refine h.trans ?_
  have : (holders F).flatMap (fun x => if x = l then [] else strOfV (d'.get x)) = d.strRefs F := by
    apply flatMap_congr'
    intro x hx
    by_cases e : x = l
    · subst e; rw [if_pos rfl, hold]
    · rw [if_neg e, hother x hx e]
  rw [this]

/-- string references dropped when the chain laid out as `F` is cleared (pre-order) -/
def goneF (d : Doc) (F : Forest) : List Nat := F.ids.flatMap (fun j => strOfV (d.get (.slot j)))

/-- the references of `d` split into those dropped by clearing `l` and those of the survivors -/
theorem strRefs_split {d : Doc} {F : Forest} {l : Loc} (hnd : F.ids.Nodup) (hl : isLoc F l) :
    List.Perm (d.strRefs F) (strOfV (d.get l) ++ (goneF d (layoutAt F l) ++ keepL d F l)) := by
  have hnd' := nodup_cleared hnd hl
  have hsnd := layoutAt_nodup hnd hl
  -- holders
  have hp : List.Perm (holders F) ((layoutAt F l).ids.map Loc.slot ++ holders (replaceAt F l .nil)) := by
    have h1 := ids_layoutAt_perm hnd hl
    have h2 := (h1.map Loc.slot).cons Loc.root
    rw [List.map_append] at h2
    refine h2.trans ?_
    show List.Perm ([Loc.root] ++ (_ ++ _)) (_ ++ ([Loc.root] ++ _))
    rw [← List.append_assoc, ← List.append_assoc]
    exact List.Perm.append_right _ List.perm_append_comm
  have h3 := hp.flatMap_right (fun l0 => strOfV (d.get l0))
  rw [List.flatMap_append, List.flatMap_map] at h3
  have h4 := flatMap_split (fun l0 => strOfV (d.get l0)) l _ (holders_nodup hnd') (loc_mem_cleared hnd hl)
  refine h3.trans ?_
  refine ((List.Perm.refl _).append h4).trans ?_
  show List.Perm (goneF d _ ++ (_ ++ keepL d F l)) _
  rw [← List.append_assoc, ← List.append_assoc]
  exact List.Perm.append_right _ List.perm_append_comm

/-- `saveString` accounts for one more reference to the node it returns -/
theorem saveString_strOK {d d1 : Doc} {s : List Byte} {n : Nat} {rs : List Nat} (hs : StrOK d rs)
    (h : d.saveString s = (some n, d1)) : StrOK d1 (n :: rs) := by
  have hfresh : d.nextNode ∉ d.strings.map (·.id) := fun m => by
    obtain ⟨y, hy, hyid⟩ := List.mem_map.1 m
    exact absurd (hs.ids_lt y hy) (by rw [hyid]; exact Nat.lt_irrefl _)
  rcases saveString_cases d s with ⟨x, hx, _, e⟩ | e | e | e
  · -- an existing node: its count goes up by one, as does the number of references to it
    cases e.symm.trans h
    refine StrOK_bump (· + 1) hs rfl rfl (fun y hy hyn => ?_) (fun m hm => ?_) (fun r hr => ?_)
    · have := hs.refs y hy
      rw [count_cons_id, if_pos rfl]
      rw [hyn] at this
      show _ ≤ y.refs + 1
      omega
    · rw [count_cons_id, if_neg hm]; exact Nat.le_refl _
    · rcases List.mem_cons.1 hr with e | m
      · exact ⟨x, hx, e.symm⟩
      · exact hs.present r m
  · cases e.symm.trans h
  · cases e.symm.trans h
  · -- a new node, referenced once, under an id that nothing referred to
    cases e.symm.trans h
    refine ⟨List.nodup_cons.2 ⟨hfresh, hs.ids_nodup⟩, ?_, ?_, ?_⟩
    · intro y hy
      rcases List.mem_cons.1 hy with e | m
      · subst e; exact Nat.lt_succ_self _
      · exact Nat.lt_succ_of_lt (hs.ids_lt y m)
    · intro y hy
      rw [count_cons_id]
      rcases List.mem_cons.1 hy with e | m
      · subst e
        have : rs.count d.nextNode = 0 := List.count_eq_zero.2 (fun m => by
          obtain ⟨y, hy, hyid⟩ := hs.present _ m
          exact hfresh (hyid ▸ List.mem_map_of_mem hy))
        simp only [this, if_true]; exact Nat.le_refl _
      · have hne : y.id ≠ d.nextNode := Nat.ne_of_lt (hs.ids_lt y m)
        simp only [hne, if_false]; exact hs.refs y m
    · intro r hr
      rcases List.mem_cons.1 hr with e | m
      · exact ⟨_, List.mem_cons_self, e.symm⟩
      · obtain ⟨y, hy, hyid⟩ := hs.present r m
        exact ⟨y, List.mem_cons_of_mem _ hy, hyid⟩

theorem allocExt_str {d d1 : Doc} {p : Int} {e : Nat} (h : d.allocExt p = (some e, d1)) :
    d1.strings = d.strings ∧ d1.nextNode = d.nextNode := by
  simp only [Doc.allocExt] at h
  split at h
  · simp only [Prod.mk.injEq, Option.some.injEq] at h
    obtain ⟨_, rfl⟩ := h; exact ⟨rfl, rfl⟩
  · simp only [Prod.mk.injEq] at h; exact absurd h.1 (by simp)

/-- string table after storing `v'` at a location that held no string (`d1`: after the resource was acquired) -/
theorem set_gen_strOK {d d1 : Doc} {F : Forest} {l : Loc} {v' : VData} (w : WFG d F) (hl : isLoc F l)
    (hold : strOfV (d.get l) = []) (hroot : d1.root = d.root) (hcells : ∀ j ∈ F.ids, d1.cell j = d.cell j)
    (hs1 : StrOK d1 (strOfV v' ++ d.strRefs F)) : StrOK (d1.set l v') ((d1.set l v').strRefs F) := by
  refine StrOK_congr (set_strings _ _ _) (set_nextNode _ _ _) ?_
  have hp := strRefs_set_perm (d := d) (d' := d1.set l v') w.nodup (loc_mem_holders hl) ?_ hold
  · rw [get_set_self] at hp
    exact StrOK_perm hp.symm hs1
  · intro l0 h0 hne
    rw [get_set_ne hne]
    rcases mem_holders.1 h0 with e | ⟨x, hx, e⟩
    · subst e; show strOfV d1.root = _; rw [hroot]; rfl
    · subst e; rw [get_of_cell (hcells x hx)]

/-! ## `appendOne` keeps the string table -/

/-- facts about the tail slot of the collection stored at `l` -/
theorem tail_facts {d : Doc} {F : Forest} {l : Loc} {b : Bool} {h t : Nat} (w : WFG d F) (hl : isLoc F l)
    (hlk : Lk d b h (layoutAt F l)) (ht : t = (layoutAt F l).top.getLast?.getD d.null) :
    (t ≠ d.null → t ∈ (layoutAt F l).top ∧ t ∈ (layoutAt F l).ids ∧ t ∈ F.ids ∧ d.isVar t) ∧ Loc.slot t ≠ l := by
  have hsF := layoutAt_ids_sub F l
  have h1 : t ≠ d.null → t ∈ (layoutAt F l).top ∧ t ∈ (layoutAt F l).ids ∧ t ∈ F.ids ∧ d.isVar t := by
    intro htn
    have hne : layoutAt F l ≠ .nil := fun e => htn (by rw [ht]; exact (last_null_iff hlk).2 e)
    obtain ⟨t', ht', hm⟩ := Forest.top_ne_nil hne
    have : t = t' := by rw [ht, ht']; rfl
    subst this
    exact ⟨hm, (layoutAt F l).top_sub_ids t hm, hsF _ ((layoutAt F l).top_sub_ids t hm), Lk_top_isVar _ hlk t hm⟩
  refine ⟨h1, ?_⟩
  intro e
  subst e
  have h2 := isLoc_ids hl
  by_cases htn : t = d.null
  · exact absurd (w.lt t h2) (by rw [htn]; exact Nat.lt_irrefl _)
  · exact self_notin_layoutAt w.nodup t (h1 htn).2.1

/-- Appending one element to the collection at `l` (array: `key = none`, `first = id`; object: `key = some k`,
    `first = k`). `d'` is `d` with the fresh slots `keyL key ++ [id]` linked behind the tail `t` of the chain and the
    collection value at `l` updated; no other cell of the layout and no extension cell was written. Then `d'` is laid
    out with the new element at the end of the chain of `l`, the abstract value at `l` gained one member with value
    null, and the only new string references are those of the key slot. -/
theorem append_gen {d d' : Doc} {F : Forest} {l : Loc} {b : Bool} {h t id first : Nat} {key : Option Nat}
    (w : WFG d F) (hl : isLoc F l) (hv : d.get l = coll b h t)
    (hnewF : ∀ x ∈ Forest.keyL key ++ [id], x ∉ F.ids ∧ x < d.null ∧ PL.live d.g d.pl x)
    (hnewnd : (Forest.keyL key ++ [id]).Nodup) (hkvar : ∀ q ∈ Forest.keyL key, d.isVar q)
    (hnew : Lk d' b first (.cons key id .nil .nil)) (hcid : d'.cell id = .var .null d.null)
    (hkext : ∀ q ∈ Forest.keyL key, extOfV (d'.get (.slot q)) = [])
    (hn : d'.null = d.null) (hstr : d'.strings = d.strings) (hpl : d'.pl = d.pl) (hg : d'.g = d.g)
    (hget : d'.get l = coll b (if t ≠ d.null then h else first) id)
    (hco : ∀ j, Loc.slot j ≠ l → j ∉ Forest.keyL key → (t ≠ d.null → j ≠ t) → d'.cell j = d.cell j)
    (hct : t ≠ d.null → d.isVar t → d'.cell t = .var (d.get (.slot t)) first)
    (hroot : l ≠ .root → d'.root = d.root)
    (hci : ∀ i, l = .slot i → d'.cell i = .var (coll b (if t ≠ d.null then h else first) id) (d.nextOf i)) :
    WFG d' (replaceAt F l ((layoutAt F l).snoc key id)) ∧
    abs d' = absWith d F l (mkVal d (coll b h t) (vals d noOv (layoutAt F l) ++ [(keyB d' key, .null)])) ∧
    (d'.strRefs (replaceAt F l ((layoutAt F l).snoc key id))).Perm
      ((Forest.keyL key).flatMap (fun q => strOfV (d'.get (.slot q))) ++ d.strRefs F) := by
  have hvs : VOK d (coll b h t) (layoutAt F l) := hv ▸ VOK_at w hl
  obtain ⟨hlk, ht⟩ := (VOK_coll d b h t _).1 hvs
  have hsF := layoutAt_ids_sub F l
  have hsnd := layoutAt_nodup w.nodup hl
  obtain ⟨htf, htl⟩ := tail_facts w hl hlk ht
  have hlns : ∀ i, l = .slot i → i ∉ (layoutAt F l).ids ∧ d.isVar i := by
    intro i e; subst e
    exact ⟨self_notin_layoutAt w.nodup i, w.isVar i (isLoc_ids hl)⟩
  have hkF : ∀ j ∈ F.ids, j ∉ Forest.keyL key := fun j hj m => (hnewF j (List.mem_append_left _ m)).1 hj
  -- an extension cell is not a variant cell, so it is none of the cells written
  have hextcell : ∀ l0 ∈ holders F, ∀ e ∈ extOfV (d.get l0), d'.cell e = d.cell e := by
    intro l0 hl0 e he
    obtain ⟨⟨p, hp⟩, _, _⟩ := w.ext l0 hl0 e he
    refine hco e ?_ ?_ ?_
    · intro e'; exact ext_ne_var hp (hlns e e'.symm).2 rfl
    · intro m; exact ext_ne_var hp (hkvar e m) rfl
    · intro htn; exact ext_ne_var hp (htf htn).2.2.2
  have hext_of : ∀ j ∈ F.ids, ∀ e ∈ extOfV (d.get (.slot j)), d'.cell e = d.cell e := fun j hj =>
    hextcell (.slot j) (mem_holders.2 (Or.inr ⟨j, hj, rfl⟩))
  have hslotsame : ∀ j ∈ F.ids, Loc.slot j ≠ l → j ∉ (layoutAt F l).ids → d'.cell j = d.cell j :=
    fun j hj hjl hjs => hco j hjl (hkF j hj) (fun htn e => hjs (e ▸ (htf htn).2.1))
  have hlay : ∀ j ∈ (layoutAt F l).ids, j ≠ t → d'.cell j = d.cell j :=
    fun j hj hjt => hco j (fun e => (hlns j e.symm).1 hj) (hkF j (hsF j hj)) (fun _ => hjt)
  have hgs : ∀ j ∈ (layoutAt F l).ids, d'.get (.slot j) = d.get (.slot j) := by
    intro j hj
    by_cases hjt : j = t
    · subst hjt
      have htn : j ≠ d.null := fun e => absurd (w.lt j (hsF j hj)) (by rw [e]; exact Nat.lt_irrefl _)
      exact get_of_var (hct htn (htf htn).2.2.2)
    · exact get_of_cell (hlay j hj hjt)
  -- the new chain and its value
  have hvok : VOK d' (coll b (if t ≠ d.null then h else first) id) ((layoutAt F l).snoc key id) := by
    rw [Forest.snoc_eq_snocS]
    exact (VOK_coll ..).2 ⟨append_chainS hn hlk ht hsnd (fun htn => hct htn (htf htn).2.2.2) hlay hnew,
      (top_snocS_last _ key id _ _).symm⟩
  have hsa : SAgree d d' (layoutAt F l).ids := fun j hj =>
    scalar_congr (fun n _ => strBytes_of_strings hstr n) (hext_of j (hsF j hj))
  have hval : d'.valOf (coll b (if t ≠ d.null then h else first) id) ((layoutAt F l).snoc key id) =
      mkVal d (coll b h t) (vals d noOv (layoutAt F l) ++ [(keyB d' key, .null)]) := by
    rw [Doc.valOf, vals_snoc, vals_congr' noOv _ hgs hsa, get_of_var hcid]
    cases b <;> rfl
  have hN : ∀ x, x ∈ ((layoutAt F l).snoc key id).ids ↔ x ∈ (layoutAt F l).ids ∨ x ∈ Forest.keyL key ++ [id] := by
    intro x; rw [Forest.ids_snoc, List.mem_append]
  have hmem := mem_ids_cleared w.nodup hl
  have k : Outside d d' F l := by
    refine ⟨hg, hroot, fun i e => ⟨_, hci i e⟩, ?_, ?_, fun _ _ _ n _ => strBytes_of_strings hstr n,
      by rw [hpl, hg]; exact w.pool, fun j hj => by rw [hpl, hg]; exact w.live j ((hmem j).1 hj).1⟩
    · intro j hj hjl
      obtain ⟨hjF, hjs⟩ := (hmem j).1 hj
      exact hslotsame j hjF hjl hjs
    · intro l0 h0 _ e he
      have h0F := ((mem_holders_cleared w.nodup hl).1 h0).1
      exact ⟨hextcell l0 h0F e he, by rw [hpl, hg]; exact (w.ext l0 h0F e he).2.1⟩
  have hres := k.wfg (s' := (layoutAt F l).snoc key id) w hl (hget ▸ hvok)
    (by
      rw [Forest.ids_snoc]
      refine List.nodup_append.2 ⟨hsnd, hnewnd, ?_⟩
      intro a ha _ hb e; subst e
      exact (hnewF a hb).1 (hsF a ha))
    (fun x hx hxF => ((hN x).1 hx).elim (fun m => m) (fun m => absurd hxF (hnewF x m).1))
    (fun x hx => by
      rw [hpl, hg]
      exact ((hN x).1 hx).elim (fun m => ⟨w.lt x (hsF x m), w.live x (hsF x m)⟩) (fun m => (hnewF x m).2))
    -- the collection at `l` and the new slots hold no extension slot; the slots of the chain hold what they held
    (Outside.ext_kept w hl (fun l1 h1 => by
      rcases List.mem_cons.1 h1 with e1 | m
      · left; rw [e1, hget, extOfV_coll]
      · obtain ⟨x, hx, rfl⟩ := List.mem_map.1 m
        rcases (hN x).1 hx with h' | h'
        · right
          refine ⟨x, h', rfl, hgs x h', fun e he => ⟨hext_of x (hsF x h') e he, ?_⟩⟩
          rw [hpl, hg]; exact (w.ext _ (mem_holders.2 (Or.inr ⟨x, hsF x h', rfl⟩)) e he).2.1
        · left
          rcases List.mem_append.1 h' with m' | m'
          · exact hkext x m'
          · rw [List.mem_singleton.1 m', get_of_var hcid]; rfl))
  rw [hget] at hres
  refine ⟨hres.1, by rw [hres.2.1, hval], ?_⟩
  -- string references: those of the chain are unchanged, the new value slot has none
  have hold : (layoutAt F l).ids.flatMap (fun j => strOfV (d'.get (.slot j))) = goneF d (layoutAt F l) :=
    flatMap_congr' _ (fun j hj => by rw [hgs j hj])
  have hidnil : strOfV (d'.get (.slot id)) = [] := by rw [get_of_var hcid]; rfl
  have hp := hres.2.2
  rw [List.flatMap_cons, hget, strOfV_coll, List.nil_append, List.flatMap_map, Forest.ids_snoc, List.flatMap_append,
    hold, List.flatMap_append, List.flatMap_singleton, hidnil, List.append_nil] at hp
  have hsplit := strRefs_split (d := d) w.nodup hl
  rw [hv, strOfV_coll, List.nil_append] at hsplit
  refine hp.trans (((List.perm_append_comm.append_right _).trans ?_).trans (hsplit.symm.append_left _))
  rw [List.append_assoc]

/-! ## `appendOne` -/

theorem appendOne_nextNode {d : Doc} {l : Loc} {h t id : Nat} (hv : d.get l = .arr h t) :
    (d.appendOne l id).nextNode = d.nextNode := by
  rw [appendOne_get hv]; split
  · rw [set_nextNode, setNext_nextNode]
  · rw [set_nextNode]

theorem appendOne_gen {d : Doc} {F : Forest} {l : Loc} {h t id : Nat} (w : WFG d F) (hl : isLoc F l)
    (hv : d.get l = .arr h t) (hid : d.cell id = .var .null d.null) (hidF : id ∉ F.ids) (hlt : id < d.null)
    (hfree : PL.live d.g d.pl id) :
    WFG (d.appendOne l id) (replaceAt F l ((layoutAt F l).snoc none id)) ∧
    abs (d.appendOne l id) = absWith d F l (.arr ((vals d noOv (layoutAt F l)).map (·.2) ++ [.null])) ∧
    ((d.appendOne l id).strRefs (replaceAt F l ((layoutAt F l).snoc none id))).Perm (d.strRefs F) ∧
    (d.appendOne l id).strings = d.strings := by
  have hvs : VOK d (.arr h t) (layoutAt F l) := hv ▸ VOK_at w hl
  obtain ⟨hlk, ht⟩ := (VOK_arr _ _ _ _).1 hvs
  obtain ⟨htf, htl⟩ := tail_facts w hl hlk ht
  obtain ⟨hn, hstr, hpl, hg, hget, hco, hct, hroot, hci⟩ := appendOne_cells (id := id) hv htl
  generalize d.appendOne l id = d' at *
  have hcid : d'.cell id = .var .null d.null := by
    rw [hco id (fun e => hidF (isLoc_ids (e.symm ▸ hl))) (fun htn e => hidF (e ▸ (htf htn).2.2.1)), hid]
  have hnew : Lk d' false id (.cons none id .nil .nil) := by
    rw [Lk_cons]
    refine ⟨rfl, hn ▸ Nat.ne_of_lt hlt, isVar_of_var hcid, ?_, ?_⟩
    · rw [nextOf_of_var hcid, Lk_nil, hn]
    · rw [get_of_var hcid]; rfl
  obtain ⟨w', habs, hp⟩ := append_gen (b := false) (key := none) (first := id) w hl hv
    (fun x hx => by
      simp only [Forest.keyL, List.nil_append, List.mem_singleton] at hx
      subst hx; exact ⟨hidF, hlt, hfree⟩)
    (by simp [Forest.keyL]) (fun q hq => by cases hq) hnew hcid (fun q hq => by cases hq) hn hstr hpl hg hget
    (fun j hj _ hjt => hco j hj hjt) hct hroot hci
  refine ⟨w', ?_, hp, hstr⟩
  rw [habs]
  simp only [mkVal, coll, keyB, List.map_append, List.map_cons, List.map_nil]

/-- `CollectionData::appendOne` of a fresh slot refines `xs ++ [null]` on the array at `l`; nothing else changes -/
theorem appendOne_spec {d : Doc} {F : Forest} {l : Loc} {h t id : Nat} (w : WFG d F) (hl : isLoc F l)
    (hv : d.get l = .arr h t) (hid : d.cell id = .var .null d.null) (hidF : id ∉ F.ids) (hlt : id < d.null)
    (hfree : PL.live d.g d.pl id) :
    WFG (d.appendOne l id) (replaceAt F l ((layoutAt F l).snoc none id)) ∧
    ∃ xs, d.toVal (d.get l) = .arr xs ∧ abs (d.appendOne l id) = absWith d F l (.arr (xs ++ [.null])) := by
  obtain ⟨w', habs, _⟩ := appendOne_gen w hl hv hid hidF hlt hfree
  exact ⟨w', (vals d noOv (layoutAt F l)).map (·.2), by rw [toVal_at w hl, hv]; rfl, habs⟩

theorem appendOne_strOK {d : Doc} {F : Forest} {l : Loc} {h t id : Nat} (w : WFG d F) (hs : StrOK d (d.strRefs F))
    (hl : isLoc F l) (hv : d.get l = .arr h t) (hid : d.cell id = .var .null d.null) (hidF : id ∉ F.ids)
    (hlt : id < d.null) (hfree : PL.live d.g d.pl id) :
    StrOK (d.appendOne l id) ((d.appendOne l id).strRefs (replaceAt F l ((layoutAt F l).snoc none id))) := by
  obtain ⟨_, _, hp, hstr⟩ := appendOne_gen w hl hv hid hidF hlt hfree
  exact StrOK_congr hstr (appendOne_nextNode hv) (StrOK_perm hp.symm hs)

end DL
