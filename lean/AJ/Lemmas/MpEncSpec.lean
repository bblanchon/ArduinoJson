/- Every legal MessagePack encoding (`MD.EncVal`, AJ/Lemmas/MpEncValue.lean) against the independent decoder written from
   the format specification (`MSpec.decode`, AJ/Spec/MSpec.lean):
   * `Den mv v` : the document value `v` denotes the specification object `mv` (integers by value whatever the kind, floats
     bit-exact (`storeDouble` for float64), strings, raw nodes whose bytes decode to that bin / ext object, arrays, maps with
     str keys in order);
   * `enc_spec` : `EncVal env d e v → ∃ mv, Den mv v ∧ Decodes e mv`;
   * `valOfMV`, `canon`, `den_canon` : for raw-free values, `canon v = valOfMV mv` — up to the signedness tag of non-negative
     integers the stored value is a FUNCTION of the decoded object;
   * `canon_eq_eqBoth` : two documents with the same `canon` compare equal (`Cmp.compare`, both ways). -/
import AJ.Lemmas.MpEncValue
import AJ.Lemmas.MsgPack
import AJ.Lemmas.CrossFormat
namespace MD
open JD MsgPack CrossFormat
open MSpec (MV take?)

theorem be_eq_beNat (bs : List Byte) : MSpec.be bs = beNat bs := rfl

/-! ## denotation -/
mutual
/-- the value `v` of a document denotes the MessagePack object `mv` -/
def Den : MV → Val → Prop
  | .nil, v => v = .null
  | .bool b, v => v = .bool b
  | .int k, v => v = .num (.sint k) ∨ ∃ n : Nat, k = (n : Int) ∧ v = .num (.uint n)
  | .f32 b, v => v = .num (.f32 b)
  | .f64 b, v => v = .num (storeDouble b)
  | .str s, v => v = .str s
  | .bin s, v => ∃ r, v = .raw r ∧ MSpec.decode 1 r = some (.bin s, [])
  | .ext t s, v => ∃ r, v = .raw r ∧ MSpec.decode 1 r = some (.ext t s, [])
  | .arr xs, v => ∃ ys, v = .arr ys ∧ DenL xs ys
  | .map kvs, v => ∃ ms, v = .obj ms ∧ DenM kvs ms
def DenL : List MV → List Val → Prop
  | [], ys => ys = []
  | x :: r, ys => ∃ y s, ys = y :: s ∧ Den x y ∧ DenL r s
def DenM : List (MV × MV) → List (List Byte × Val) → Prop
  | [], ms => ms = []
  | (k, x) :: r, ms => ∃ k' y s, ms = (k', y) :: s ∧ k = .str k' ∧ Den x y ∧ DenM r s
end

theorem denL_append : ∀ (xs : List MV) (ys : List Val) (x : MV) (y : Val), DenL xs ys → Den x y → DenL (xs ++ [x]) (ys ++ [y])
  | [], ys, x, y, h, hd => by
    simp only [DenL] at h; subst h
    simp only [List.nil_append, DenL]
    exact ⟨y, [], rfl, hd, rfl⟩
  | a :: r, ys, x, y, h, hd => by
    simp only [DenL] at h
    obtain ⟨b, s, rfl, h1, h2⟩ := h
    simp only [List.cons_append, DenL]
    exact ⟨b, s ++ [y], rfl, h1, denL_append r s x y h2 hd⟩

/-! ## one object of the specification decoder, whatever follows -/

/-- the specification decoder reads `e ++ rest` as `(mv, rest)` -/
def Decodes (e : List Byte) (mv : MV) : Prop :=
  ∀ fuel rest, 2 * e.length ≤ fuel → MSpec.decode fuel (e ++ rest) = some (mv, rest)

section leaves
variable (f : Nat) (rest : List Byte)

theorem sdec_uint (code : Byte) (bs : List Byte) (h1 : 0xcc ≤ code.toNat) (h2 : code.toNat ≤ 0xcf)
    (h3 : bs.length = 2^(code.toNat - 0xcc)) :
    MSpec.decode (f+1) (code :: bs ++ rest) = some (.int (beNat bs : Nat), rest) := by
  rw [List.cons_append, decode_uint f code (code.toNat - 0xcc) _ (by omega) (by omega), take?_append _ bs rest h3]
  rfl

theorem sdec_sint (code : Byte) (bs : List Byte) (h1 : 0xd0 ≤ code.toNat) (h2 : code.toNat ≤ 0xd3)
    (h3 : bs.length = 2^(code.toNat - 0xd0)) :
    MSpec.decode (f+1) (code :: bs ++ rest) = some (.int (twos bs), rest) := by
  rw [List.cons_append, decode_sint f code (code.toNat - 0xd0) _ (by omega) (by omega), take?_append _ bs rest h3, ← h3]
  rfl

theorem sdec_fixstr (c : Byte) (s : List Byte) (h1 : c.toNat = 0xa0 + s.length) (h2 : s.length < 32) :
    MSpec.decode (f+1) (c :: s ++ rest) = some (.str s, rest) := by
  rw [List.cons_append, decode_fixstr f c _ (by omega) (by omega), take?_append _ s rest (by omega)]
  rfl

theorem sdec_str (code : Byte) (j : Nat) (hb s : List Byte) (hj : j < 3) (hc : code.toNat = 0xd9 + j)
    (h1 : hb.length = 2^j) (h2 : beNat hb = s.length) :
    MSpec.decode (f+1) (code :: (hb ++ s) ++ rest) = some (.str s, rest) := by
  rw [List.cons_append, List.append_assoc, decode_strN f code j _ hj hc, take?_append _ hb _ h1]
  simp only [Option.bind_some, be_eq_beNat, h2]
  rw [take?_append _ s rest rfl]
  rfl

theorem sdec_bin (code : Byte) (j : Nat) (hb s : List Byte) (hj : j < 3) (hc : code.toNat = 0xc4 + j)
    (h1 : hb.length = 2^j) (h2 : beNat hb = s.length) :
    MSpec.decode (f+1) (code :: (hb ++ s) ++ rest) = some (.bin s, rest) := by
  rw [List.cons_append, List.append_assoc, decode_binN f code j _ hj hc, take?_append _ hb _ h1]
  simp only [Option.bind_some, be_eq_beNat, h2]
  rw [take?_append _ s rest rfl]
  rfl

theorem sdec_ext (code : Byte) (j : Nat) (hb : List Byte) (t : Byte) (s : List Byte) (hj : j < 3)
    (hc : code.toNat = 0xc7 + j) (h1 : hb.length = 2^j) (h2 : beNat hb = s.length) :
    MSpec.decode (f+1) (code :: (hb ++ t :: s) ++ rest) = some (.ext t.toNat s, rest) := by
  rw [List.cons_append, List.append_assoc, decode_extN f code j _ hj hc, take?_append _ hb _ h1]
  simp only [Option.bind_some, be_eq_beNat, h2, List.cons_append]
  rw [take?_one]
  simp only [Option.bind_some]
  rw [take?_append _ s rest rfl]
  simp [beNat]

theorem sdec_fixext (code : Byte) (j : Nat) (t : Byte) (s : List Byte) (hj : j < 5)
    (hc : code.toNat = 0xd4 + j) (h1 : s.length = 2^j) :
    MSpec.decode (f+1) (code :: (t :: s) ++ rest) = some (.ext t.toNat s, rest) := by
  rw [List.cons_append, decode_fixext f code j _ hj hc, List.cons_append, take?_one]
  simp only [Option.bind_some]
  rw [take?_append _ s rest h1]
  simp [MSpec.be]

end leaves

theorem den_raw_of_decode {mv : MV} {r : List Byte} (hmv : (∃ s, mv = .bin s) ∨ ∃ t s, mv = .ext t s)
    (h : MSpec.decode 1 (r ++ []) = some (mv, [])) : Den mv (.raw r) := by
  rw [List.append_nil] at h
  rcases hmv with ⟨s, rfl⟩ | ⟨t, s, rfl⟩
  · simp only [Den]; exact ⟨r, rfl, h⟩
  · simp only [Den]; exact ⟨r, rfl, h⟩

theorem key_spec {env : Env} {kb k : List Byte} (h : KeyVal env kb k) (f : Nat) (rest : List Byte) :
    MSpec.decode (f+1) (kb ++ rest) = some (.str k, rest) := by
  cases h with
  | fix c k h1 h2 h3 => exact sdec_fixstr f rest c k h1 h2
  | sized code j hb k h1 h2 h3 h4 h5 => exact sdec_str f rest code j hb k h1 h2 h3 h4

/-- a leaf: the specification decoder reads it (one unit of fuel) as an object that the stored value denotes -/
theorem leaf_spec {env : Env} {e : List Byte} {v : Val} (h : LeafVal env e v) :
    ∃ mv, Den mv v ∧ ∀ f rest, MSpec.decode (f+1) (e ++ rest) = some (mv, rest) := by
  cases h with
  | posfix c hc =>
    refine ⟨.int c.toNat, ?_, fun f rest => decode_fixint f c rest hc⟩
    simp only [Den, true_or]
  | negfix c hc =>
    refine ⟨.int (Int.ofNat c.toNat - 256), ?_, fun f rest => decode_negfix f c rest hc⟩
    simp only [Den, Int.ofNat_eq_natCast, true_or]
  | nil => exact ⟨.nil, by simp only [Den], fun f rest => decode_c0 f rest⟩
  | bool b =>
    refine ⟨.bool b, by simp only [Den], fun f rest => ?_⟩
    cases b
    · exact decode_c2 f rest
    · exact decode_c3 f rest
  | uint code bs h1 h2 h3 =>
    refine ⟨.int (beNat bs : Nat), ?_, fun f rest => sdec_uint f rest code bs h1 h2 h3⟩
    simp only [Den]; exact Or.inr ⟨_, rfl, rfl⟩
  | sint code bs h1 h2 h3 =>
    refine ⟨.int (twos bs), ?_, fun f rest => sdec_sint f rest code bs h1 h2 h3⟩
    simp only [Den, true_or]
  | f32 bs h1 =>
    refine ⟨.f32 (beNat bs), by simp only [Den], fun f rest => ?_⟩
    rw [List.cons_append, decode_ca, take?_append _ bs rest h1]; rfl
  | f64 bs h1 =>
    refine ⟨.f64 (beNat bs), by simp only [Den], fun f rest => ?_⟩
    rw [List.cons_append, decode_cb, take?_append _ bs rest h1]; rfl
  | fixstr c s h1 h2 h3 => exact ⟨.str s, by simp only [Den], key_spec (LeafVal.fixstr c s h1 h2 h3).str_keyVal⟩
  | str8 hb s h1 h2 h3 => exact ⟨.str s, by simp only [Den], key_spec (LeafVal.str8 hb s h1 h2 h3).str_keyVal⟩
  | str16 hb s h1 h2 h3 => exact ⟨.str s, by simp only [Den], key_spec (LeafVal.str16 hb s h1 h2 h3).str_keyVal⟩
  | str32 hb s h1 h2 h3 => exact ⟨.str s, by simp only [Den], key_spec (LeafVal.str32 hb s h1 h2 h3).str_keyVal⟩
  | bin code j hb s h1 h2 h3 h4 h5 =>
    have hd := fun f rest => sdec_bin f rest code j hb s h1 h2 h3 h4
    exact ⟨.bin s, den_raw_of_decode (Or.inl ⟨s, rfl⟩) (hd 0 []), hd⟩
  | ext code j hb pl h1 h2 h3 h4 h5 =>
    cases pl with
    | nil => simp at h4
    | cons t s =>
      have h4' : beNat hb = s.length := by simp only [List.length_cons] at h4; omega
      have hd := fun f rest => sdec_ext f rest code j hb t s h1 h2 h3 h4'
      exact ⟨.ext t.toNat s, den_raw_of_decode (Or.inr ⟨_, s, rfl⟩) (hd 0 []), hd⟩
  | fixext code j pl h1 h2 h3 h4 =>
    cases pl with
    | nil => simp at h3
    | cons t s =>
      have h3' : s.length = 2^j := by simp only [List.length_cons] at h3; omega
      have hd := fun f rest => sdec_fixext f rest code j t s h1 h2 h3'
      exact ⟨.ext t.toNat s, den_raw_of_decode (Or.inr ⟨_, s, rfl⟩) (hd 0 []), hd⟩

theorem arrHdr_spec {hdr : List Byte} {n : Nat} (h : ArrHdr hdr n) (f : Nat) (t : List Byte) :
    MSpec.decode (f+1) (hdr ++ t) = MSpec.decodeArr f n t [] := by
  cases h with
  | fix c n h1 h2 =>
    rw [List.cons_append, List.nil_append, decode_fixarr f c t (by omega) (by omega), show c.toNat - 0x90 = n by omega]
  | a16 hb n h1 h2 =>
    rw [List.cons_append, decode_dc, take?_append _ hb t h1]
    simp only [Option.bind_some, be_eq_beNat, h2]
  | a32 hb n h1 h2 =>
    rw [List.cons_append, decode_dd, take?_append _ hb t h1]
    simp only [Option.bind_some, be_eq_beNat, h2]

theorem mapHdr_spec {hdr : List Byte} {n : Nat} (h : MapHdr hdr n) (f : Nat) (t : List Byte) :
    MSpec.decode (f+1) (hdr ++ t) = MSpec.decodeMap f n t [] := by
  cases h with
  | fix c n h1 h2 =>
    rw [List.cons_append, List.nil_append, decode_fixmap f c t (by omega) (by omega), show c.toNat - 0x80 = n by omega]
  | m16 hb n h1 h2 =>
    rw [List.cons_append, decode_de, take?_append _ hb t h1]
    simp only [Option.bind_some, be_eq_beNat, h2]
  | m32 hb n h1 h2 =>
    rw [List.cons_append, decode_df, take?_append _ hb t h1]
    simp only [Option.bind_some, be_eq_beNat, h2]

/-! ## elements and members -/

theorem spec_elems : ∀ (evs : List (List Byte × Val)),
    (∀ ev ∈ evs, 1 ≤ ev.1.length ∧ ∃ mv, Den mv ev.2 ∧ Decodes ev.1 mv) →
    ∃ mvs, DenL mvs (evs.map (fun ev => ev.2)) ∧ ∀ (g : Nat) (rest : List Byte) (acc : List MV),
      2 * (evs.map (fun ev => ev.1)).flatten.length + 1 ≤ g →
      MSpec.decodeArr g evs.length ((evs.map (fun ev => ev.1)).flatten ++ rest) acc
        = some (.arr (acc.reverse ++ mvs), rest) := by
  intro evs
  induction evs with
  | nil =>
    intro _
    refine ⟨[], by simp only [List.map_nil, DenL], ?_⟩
    intro g rest acc hg
    obtain ⟨g', rfl⟩ : ∃ g', g = g' + 1 := ⟨g - 1, by omega⟩
    simp [MSpec.decodeArr]
  | cons ev r ih =>
    intro hes
    obtain ⟨e, v⟩ := ev
    obtain ⟨he1, mv, hden, hdec'⟩ := hes (e, v) (List.mem_cons_self ..)
    have hdec : Decodes e mv := hdec'
    obtain ⟨mvs, hdl, hrest⟩ := ih (fun e' he' => hes e' (List.mem_cons_of_mem _ he'))
    refine ⟨mv :: mvs, ?_, ?_⟩
    · simp only [List.map_cons, DenL]
      exact ⟨v, _, rfl, hden, hdl⟩
    · intro g rest acc hg
      simp only [List.map_cons, List.flatten_cons, List.length_append] at hg he1
      obtain ⟨g', rfl⟩ : ∃ g', g = g' + 1 := ⟨g - 1, by omega⟩
      rw [MSpec.decodeArr]
      simp only [List.length_cons, Nat.add_one_ne_zero, beq_iff_eq, if_false, List.map_cons, List.flatten_cons,
        List.append_assoc]
      rw [hdec g' _ (by omega)]
      simp only [Option.bind_some, Nat.add_sub_cancel]
      rw [hrest g' rest (mv :: acc) (by omega)]
      simp only [List.reverse_cons, List.append_assoc, List.singleton_append]

theorem spec_members {env : Env} : ∀ (ms : List (List Byte × List Byte × List Byte × Val)),
    (∀ m ∈ ms, KeyVal env m.1 m.2.1) →
    (∀ m ∈ ms, 1 ≤ m.2.2.1.length ∧ ∃ mv, Den mv m.2.2.2 ∧ Decodes m.2.2.1 mv) →
    ∃ kvs, DenM kvs (ms.map (fun m => (m.2.1, m.2.2.2))) ∧ ∀ (g : Nat) (rest : List Byte) (acc : List (MV × MV)),
      2 * (ms.map (fun m => m.1 ++ m.2.2.1)).flatten.length + 1 ≤ g →
      MSpec.decodeMap g ms.length ((ms.map (fun m => m.1 ++ m.2.2.1)).flatten ++ rest) acc
        = some (.map (acc.reverse ++ kvs), rest) := by
  intro ms
  induction ms with
  | nil =>
    intro _ _
    refine ⟨[], by simp only [List.map_nil, DenM], ?_⟩
    intro g rest acc hg
    obtain ⟨g', rfl⟩ : ∃ g', g = g' + 1 := ⟨g - 1, by omega⟩
    simp [MSpec.decodeMap]
  | cons m r ih =>
    intro hks hes
    obtain ⟨kb, k, vb, v⟩ := m
    have hk := hks (kb, k, vb, v) (List.mem_cons_self ..)
    obtain ⟨he1, mv, hden, hdec'⟩ := hes (kb, k, vb, v) (List.mem_cons_self ..)
    have hdec : Decodes vb mv := hdec'
    obtain ⟨kvs, hdl, hrest⟩ := ih (fun m' h' => hks m' (List.mem_cons_of_mem _ h'))
      (fun m' h' => hes m' (List.mem_cons_of_mem _ h'))
    have hk1 := keyEnc_nonempty hk.keyEnc
    refine ⟨(.str k, mv) :: kvs, ?_, ?_⟩
    · simp only [List.map_cons, DenM]
      exact ⟨k, v, _, rfl, rfl, hden, hdl⟩
    · intro g rest acc hg
      simp only [List.map_cons, List.flatten_cons, List.length_append] at hg he1 hk1 hk hdec
      obtain ⟨g', rfl⟩ : ∃ g', g = g' + 1 := ⟨g - 1, by omega⟩
      obtain ⟨g'', rfl⟩ : ∃ g'', g' = g'' + 1 := ⟨g' - 1, by omega⟩
      rw [MSpec.decodeMap]
      simp only [List.length_cons, Nat.add_one_ne_zero, beq_iff_eq, if_false, List.map_cons, List.flatten_cons,
        List.append_assoc]
      rw [key_spec hk g'']
      simp only [Option.bind_some]
      rw [hdec (g''+1) _ (by omega)]
      simp only [Option.bind_some, Nat.add_sub_cancel]
      rw [hrest (g''+1) rest ((.str k, mv) :: acc) (by omega)]
      simp only [List.reverse_cons, List.append_assoc, List.singleton_append]

/-- **agreement with the specification decoder**: every legal encoding (bin / ext / fixext included) is read by the
    independent decoder as exactly one object, and the value the library stores denotes that object -/
theorem enc_spec {env : Env} {d : Nat} {e : List Byte} {v : Val} (h : EncVal env d e v) :
    ∃ mv, Den mv v ∧ Decodes e mv := by
  induction h with
  | @leaf d e v hl =>
    obtain ⟨mv, hden, hdec⟩ := leaf_spec hl
    refine ⟨mv, hden, ?_⟩
    intro fuel rest hf
    have := leaf_nonempty hl.leafEnc
    obtain ⟨f', rfl⟩ : ∃ f', fuel = f' + 1 := ⟨fuel - 1, by omega⟩
    exact hdec f' rest
  | @arr d hdr evs hh hes ih =>
    obtain ⟨mvs, hdl, hdec⟩ := spec_elems evs (fun ev he => ⟨encVal_nonempty (hes ev he), ih ev he⟩)
    refine ⟨.arr mvs, ?_, ?_⟩
    · simp only [Den]; exact ⟨_, rfl, hdl⟩
    · intro fuel rest hf
      have h1 := arrHdr_nonempty hh
      simp only [List.length_append] at hf
      obtain ⟨f', rfl⟩ : ∃ f', fuel = f' + 1 := ⟨fuel - 1, by omega⟩
      rw [List.append_assoc, arrHdr_spec hh, hdec f' rest [] (by omega)]
      simp only [List.reverse_nil, List.nil_append]
  | @map d hdr ms hh hks hes ih =>
    obtain ⟨kvs, hdl, hdec⟩ := spec_members ms hks (fun m he => ⟨encVal_nonempty (hes m he), ih m he⟩)
    refine ⟨.map kvs, ?_, ?_⟩
    · simp only [Den]; exact ⟨_, rfl, hdl⟩
    · intro fuel rest hf
      have h1 := mapHdr_nonempty hh
      simp only [List.length_append] at hf
      obtain ⟨f', rfl⟩ : ∃ f', fuel = f' + 1 := ⟨fuel - 1, by omega⟩
      rw [List.append_assoc, mapHdr_spec hh, hdec f' rest [] (by omega)]
      simp only [List.reverse_nil, List.nil_append]

/-! ## the stored value as a function of the decoded object -/

/-- key of a map member (the reader accepts str keys only) -/
def keyOfMV : MV → List Byte
  | .str s => s
  | _ => []

mutual
/-- the document value of a decoded object, integers in canonical form (non-negative: unsigned), bin / ext as the raw
    node the library's own converters would write (`MD.binRaw`, `MD.extRaw`: smallest width) -/
def valOfMV : MV → Val
  | .nil => .null
  | .bool b => .bool b
  | .int k => .num (if 0 ≤ k then .uint k.toNat else .sint k)
  | .f32 b => .num (.f32 b)
  | .f64 b => .num (storeDouble b)
  | .str s => .str s
  | .bin s => .raw (binRaw s)
  | .ext t s => .raw (extRaw t s)
  | .arr xs => .arr (valOfMVs xs)
  | .map kvs => .obj (valOfMVm kvs)
def valOfMVs : List MV → List Val
  | [] => []
  | x :: r => valOfMV x :: valOfMVs r
def valOfMVm : List (MV × MV) → List (List Byte × Val)
  | [] => []
  | (k, x) :: r => (keyOfMV k, valOfMV x) :: valOfMVm r
end

/-- a document with every non-negative signed integer retagged unsigned (`CrossFormat.normIntNum`); nothing else changes -/
def canon (v : Val) : Val := mapNum normIntNum v

theorem normIntNum_storeDouble (b : Nat) : normIntNum (storeDouble b) = storeDouble b := by
  unfold storeDouble
  simp only []
  repeat' split
  all_goals rfl

mutual
theorem den_canon : ∀ (mv : MV) (v : Val), Den mv v → C09.RawFree v → mapNum normIntNum v = valOfMV mv
  | .nil, v, h, _ => by simp only [Den] at h; subst h; rfl
  | .bool b, v, h, _ => by simp only [Den] at h; subst h; rfl
  | .int k, v, h, _ => by
    simp only [Den] at h
    rcases h with rfl | ⟨n, rfl, rfl⟩
    · simp only [mapNum, normIntNum, valOfMV]
    · simp only [mapNum, normIntNum, valOfMV]
      rw [if_pos (by omega)]; simp
  | .f32 b, v, h, _ => by simp only [Den] at h; subst h; rfl
  | .f64 b, v, h, _ => by
    simp only [Den] at h; subst h
    simp only [mapNum, valOfMV, normIntNum_storeDouble]
  | .str s, v, h, _ => by simp only [Den] at h; subst h; rfl
  | .bin s, v, h, hr => by
    simp only [Den] at h
    obtain ⟨r, rfl, _⟩ := h
    simp only [C09.RawFree] at hr
  | .ext t s, v, h, hr => by
    simp only [Den] at h
    obtain ⟨r, rfl, _⟩ := h
    simp only [C09.RawFree] at hr
  | .arr xs, v, h, hr => by
    simp only [Den] at h
    obtain ⟨ys, rfl, hl⟩ := h
    simp only [C09.RawFree] at hr
    simp only [mapNum, valOfMV, denL_canon xs ys hl hr]
  | .map kvs, v, h, hr => by
    simp only [Den] at h
    obtain ⟨ms, rfl, hl⟩ := h
    simp only [C09.RawFree] at hr
    simp only [mapNum, valOfMV, denM_canon kvs ms hl hr]
theorem denL_canon : ∀ (xs : List MV) (ys : List Val), DenL xs ys → C09.RawFreeElems ys →
    mapNumL normIntNum ys = valOfMVs xs
  | [], ys, h, _ => by simp only [DenL] at h; subst h; rfl
  | x :: r, ys, h, hr => by
    simp only [DenL] at h
    obtain ⟨y, s, rfl, h1, h2⟩ := h
    simp only [C09.RawFreeElems] at hr
    simp only [mapNumL, valOfMVs, den_canon x y h1 hr.1, denL_canon r s h2 hr.2]
theorem denM_canon : ∀ (kvs : List (MV × MV)) (ms : List (List Byte × Val)), DenM kvs ms → C09.RawFreeMembers ms →
    mapNumM normIntNum ms = valOfMVm kvs
  | [], ms, h, _ => by simp only [DenM] at h; subst h; rfl
  | (k, x) :: r, ms, h, hr => by
    simp only [DenM] at h
    obtain ⟨k', y, s, rfl, rfl, h1, h2⟩ := h
    simp only [C09.RawFreeMembers] at hr
    simp only [mapNumM, valOfMVm, keyOfMV, den_canon x y h1 hr.1, denM_canon r s h2 hr.2]
end

mutual
/-- an object denoted by a raw-free value holds no bin / ext: every value denoting it is raw-free -/
theorem den_rawFree : ∀ (mv : MV) (a b : Val), Den mv a → Den mv b → C09.RawFree a → C09.RawFree b
  | .nil, a, b, _, h, _ => by simp only [Den] at h; subst h; simp only [C09.RawFree]
  | .bool _, a, b, _, h, _ => by simp only [Den] at h; subst h; simp only [C09.RawFree]
  | .int k, a, b, _, h, _ => by
    simp only [Den] at h
    rcases h with rfl | ⟨n, _, rfl⟩ <;> simp only [C09.RawFree]
  | .f32 _, a, b, _, h, _ => by simp only [Den] at h; subst h; simp only [C09.RawFree]
  | .f64 _, a, b, _, h, _ => by simp only [Den] at h; subst h; simp only [C09.RawFree]
  | .str _, a, b, _, h, _ => by simp only [Den] at h; subst h; simp only [C09.RawFree]
  | .bin s, a, b, h, _, hr => by
    simp only [Den] at h
    obtain ⟨r, rfl, _⟩ := h
    simp only [C09.RawFree] at hr
  | .ext t s, a, b, h, _, hr => by
    simp only [Den] at h
    obtain ⟨r, rfl, _⟩ := h
    simp only [C09.RawFree] at hr
  | .arr xs, a, b, ha, hb, hr => by
    simp only [Den] at ha hb
    obtain ⟨ys, rfl, hl⟩ := ha
    obtain ⟨zs, rfl, hl'⟩ := hb
    simp only [C09.RawFree] at hr ⊢
    exact denL_rawFree xs ys zs hl hl' hr
  | .map kvs, a, b, ha, hb, hr => by
    simp only [Den] at ha hb
    obtain ⟨ms, rfl, hl⟩ := ha
    obtain ⟨ns, rfl, hl'⟩ := hb
    simp only [C09.RawFree] at hr ⊢
    exact denM_rawFree kvs ms ns hl hl' hr
theorem denL_rawFree : ∀ (xs : List MV) (ys zs : List Val), DenL xs ys → DenL xs zs → C09.RawFreeElems ys →
    C09.RawFreeElems zs
  | [], ys, zs, _, h, _ => by simp only [DenL] at h; subst h; simp only [C09.RawFreeElems]
  | x :: r, ys, zs, ha, hb, hr => by
    simp only [DenL] at ha hb
    obtain ⟨y, s, rfl, h1, h2⟩ := ha
    obtain ⟨z, t, rfl, h1', h2'⟩ := hb
    simp only [C09.RawFreeElems] at hr ⊢
    exact ⟨den_rawFree x y z h1 h1' hr.1, denL_rawFree r s t h2 h2' hr.2⟩
theorem denM_rawFree : ∀ (kvs : List (MV × MV)) (ms ns : List (List Byte × Val)), DenM kvs ms → DenM kvs ns →
    C09.RawFreeMembers ms → C09.RawFreeMembers ns
  | [], ms, ns, _, h, _ => by simp only [DenM] at h; subst h; simp only [C09.RawFreeMembers]
  | (k, x) :: r, ms, ns, ha, hb, hr => by
    simp only [DenM] at ha hb
    obtain ⟨k1, y, s, rfl, _, h1, h2⟩ := ha
    obtain ⟨k2, z, t, rfl, _, h1', h2'⟩ := hb
    simp only [C09.RawFreeMembers] at hr ⊢
    exact ⟨den_rawFree x y z h1 h1' hr.1, denM_rawFree r s t h2 h2' hr.2⟩
end

/-! ## documents with the same canonical form compare equal -/

/-- two numbers with the same canonical form have the same value -/
theorem normIntNum_eq_cmp (n m : Num) (h : normIntNum n = normIntNum m) (hn : NoNaNNum n) :
    Cmp.arith (nv n) (nv m) = .equal := by
  rcases normIntNum_cases n with en | ⟨v, hv, rfl, en⟩ <;> rcases normIntNum_cases m with em | ⟨w, hw, rfl, em⟩ <;>
    rw [en, em] at h
  · subst h; exact arith_self n hn
  · subst h; exact arith_toNat_i hw
  · subst h; exact arith_i_toNat hv
  · have : v = w := by injection h; omega
    subst this; exact arith_self _ hn

/-- two documents with the same canonical form (same structure, strings, keys, floats; integers of the same value whatever
    their signedness tag) compare equal, both ways -/
theorem canon_eq_eqBoth (a b : Val) (h : canon a = canon b) (hn : NoNaN a) (hd : Cmp.NoDupKeys a) : EqBoth a b :=
  mapNum_eqBoth_of_eq normIntNum normIntNum normIntNum_eq_cmp a b h hn hd

end MD
