/- Simulation of the FILTERED slot-level MessagePack deserializer `MDDF` by the value-level filtered deserializer, part 2:
   the runs WITH a destination (`dst = some l` ↔ `hasDst = true`), for every filter, in the outcome relation
   `MDD.mpsim_Sim`/`mpsim_SimF` of the unfiltered development; the induction on the fuel (`MDDF.fsim_all`). A value the filter
   does not allow, an element or member whose filter does not `allow()`, a container the filter refuses: the run goes on
   without destination (AJ/Lemmas/MddfSkip.lean), the place keeps `null`, the collection under construction is framed. -/
import AJ.Lemmas.MddfSkip
set_option linter.unusedSimpArgs false
set_option linter.unusedVariables false
namespace MDDF
open DL MDD
open JD (Byte Val Code Flt)
open MD (R Env Hdr beNat)

def FSimV (env : Env) (fuel : Nat) : Prop :=
  ∀ (limit : Nat) (flt : Flt) (l : Loc) (x : S), Pre x.d l → x.d.overflowed = false → mpsim_BOK env x.b →
    mpsim_SimF env x.d l (parseVariant env fuel limit flt (some l) x) (MD.parseVariant env fuel limit flt true x.r)

def FSimE (env : Env) (fuel : Nat) : Prop :=
  ∀ (limit : Nat) (ef : Flt) (l : Loc) (x : S) (d0 : Doc) (h t : Nat) (sl : Forest) (acc : List Val) (n : Nat),
    Pre d0 l → Post d0 x.d l (.arr h t) sl → (vals x.d noOv sl).map (·.2) = acc.reverse →
    x.d.overflowed = false → mpsim_BOK env x.b →
    mpsim_Sim env d0 l (readArray env fuel limit ef (some l) n x)
      (mpsim_arrOut (MD.readArray env fuel limit ef true n x.r acc))

def FSimM (env : Env) (fuel : Nat) : Prop :=
  ∀ (limit : Nat) (flt : Flt) (l : Loc) (x : S) (d0 : Doc) (h t : Nat) (sl : Forest) (ms : List (List Byte × Val))
    (n : Nat),
    Pre d0 l → Post d0 x.d l (.obj h t) sl → vals x.d noOv sl = ms →
    x.d.overflowed = false → mpsim_BOK env x.b →
    mpsim_Sim env d0 l (readObject env fuel limit flt (some l) n x)
      (mpsim_objOut (MD.readObject env fuel limit flt true n x.r ms))

/-! ## Leaves of `parseVariant` that the filter turns into a skip -/

/-- a run without destination seen from a cleared place `l`: the place keeps `null` -/
theorem sim_of_nrel {env : Env} {x : S} {l : Loc} (P : Pre x.d l) (h0 : x.d.overflowed = false) {p : Code × S}
    {p0 : Code × R} (h : NRel env x.d p p0) : mpsim_Sim env x.d l p (p0.1, .null, p0.2) := by
  obtain ⟨g, hr⟩ := h
  rcases hr with ⟨o, c, ne, r, b⟩ | ⟨o, c⟩
  · have hfr : Fr x.d p.2.d [] := Fr.of_grow g (fun h => by rw [h0] at h; cases h) []
    exact Or.inl ⟨o, c, ne, r, b, JDD.sim_null_post P hfr⟩
  · exact Or.inr ⟨o, c⟩

theorem fsim_skipB (env : Env) {x : S} {l : Loc} (P : Pre x.d l) (h0 : x.d.overflowed = false) (hb : mpsim_BOK env x.b)
    (n : Nat) (o : MD.VOut) (ho : nout o = skip0 x.r n) (hv : o.2.1 = .null) (hf : o.2.2.2 = true) :
    mpsim_SimF env x.d l (fin (skipN x n)) o := by
  obtain ⟨e, v, r, f⟩ := o
  simp only at hv hf
  subst hv hf
  have := sim_of_nrel P h0 (nrel_skipB env x n P.pool h0 hb)
  rw [← ho] at this
  exact mpsim_SimF.fin this

theorem leafFixed_false_val (w : Nat) (mk : List Byte → Val) (r : R) :
    (MD.leafFixed false w mk r).2.1 = .null ∧ (MD.leafFixed false w mk r).2.2.2 = true := by
  unfold MD.leafFixed
  rw [if_neg (by simp)]
  generalize r.skipBytes w = q
  obtain ⟨ok, r'⟩ := q
  cases ok <;> exact ⟨rfl, rfl⟩

theorem leafSized_false_val (tooBig : Prop) [Decidable tooBig] (w : Nat) (mk : List Byte → Val) (r : R) :
    (MD.leafSized false tooBig w mk r).2.1 = .null ∧ (MD.leafSized false tooBig w mk r).2.2.2 = true := by
  unfold MD.leafSized
  rw [if_neg (by simp)]
  generalize r.skipBytes w = q
  obtain ⟨ok, r'⟩ := q
  cases ok <;> exact ⟨rfl, rfl⟩

/-! ## `parseVariant` -/

theorem leafArr_true (env : Env) (fuel limit : Nat) (flt : Flt) (size : Nat) (r : R) :
    MD.leafArr env fuel limit flt true size r =
      match limit with
      | 0 => MD.finV .tooDeep .null r
      | limit'+1 =>
        if flt.allowArray then
          MD.finV (MD.readArray env fuel limit' flt.subIdx true size r []).1
            (.arr (MD.readArray env fuel limit' flt.subIdx true size r []).2.1)
            (MD.readArray env fuel limit' flt.subIdx true size r []).2.2
        else
          MD.finV (MD.readArray env fuel limit' flt.subIdx false size r []).1 .null
            (MD.readArray env fuel limit' flt.subIdx false size r []).2.2 := by
  cases limit with
  | zero => rfl
  | succ limit' => cases hA : flt.allowArray <;> simp only [MD.leafArr, hA] <;> rfl

theorem leafMap_true (env : Env) (fuel limit : Nat) (flt : Flt) (size : Nat) (r : R) :
    MD.leafMap env fuel limit flt true size r =
      match limit with
      | 0 => MD.finV .tooDeep .null r
      | limit'+1 =>
        if flt.allowObject then
          MD.finV (MD.readObject env fuel limit' flt true size r []).1
            (.obj (MD.readObject env fuel limit' flt true size r []).2.1)
            (MD.readObject env fuel limit' flt true size r []).2.2
        else
          MD.finV (MD.readObject env fuel limit' flt false size r []).1 .null
            (MD.readObject env fuel limit' flt false size r []).2.2 := by
  cases limit with
  | zero => rfl
  | succ limit' => cases hO : flt.allowObject <;> simp only [MD.leafMap, hO] <;> rfl

theorem fsim_leafArr (env : Env) (fuel : Nat) (hE : FSimE env fuel) {x : S} {l : Loc} (P : Pre x.d l)
    (h0 : x.d.overflowed = false) (hb : mpsim_BOK env x.b) (limit : Nat) (flt : Flt) (size : Nat) :
    mpsim_SimF env x.d l (leafArr env fuel limit flt (some l) size x) (MD.leafArr env fuel limit flt true size x.r) := by
  rw [leafArr_true]
  unfold leafArr
  cases limit with
  | zero =>
    exact mpsim_SimF.fin (mpsim_Sim.exit rfl hb (JDD.sim_null_post P (Fr.refl P.pool [])) h0 (fun h => by cases h))
  | succ limit' =>
    cases hA : flt.allowArray with
    | true =>
      simp only [gate_true, if_true]
      have hov : (x.d.set l (.arr x.d.null x.d.null)).overflowed = false := by rw [set_overflowed]; exact h0
      exact mpsim_SimF.fin (hE limit' flt.subIdx l { x with d := x.d.set l (.arr x.d.null x.d.null) } x.d _ _ .nil [] size P
        (JDD.sim_post_coll false P).1 rfl hov hb)
    | false =>
      simp only [gate_false, Bool.false_eq_true, if_false]
      exact mpsim_SimF.fin
        (sim_of_nrel P h0 ((nsim_all env fuel).2.1 limit' flt.subIdx x size [] P.pool h0 hb))

theorem fsim_leafMap (env : Env) (fuel : Nat) (hM : FSimM env fuel) {x : S} {l : Loc} (P : Pre x.d l)
    (h0 : x.d.overflowed = false) (hb : mpsim_BOK env x.b) (limit : Nat) (flt : Flt) (size : Nat) :
    mpsim_SimF env x.d l (leafMap env fuel limit flt (some l) size x) (MD.leafMap env fuel limit flt true size x.r) := by
  rw [leafMap_true]
  unfold leafMap
  cases limit with
  | zero =>
    exact mpsim_SimF.fin (mpsim_Sim.exit rfl hb (JDD.sim_null_post P (Fr.refl P.pool [])) h0 (fun h => by cases h))
  | succ limit' =>
    cases hO : flt.allowObject with
    | true =>
      simp only [gate_true, if_true]
      have hov : (x.d.set l (.obj x.d.null x.d.null)).overflowed = false := by rw [set_overflowed]; exact h0
      exact mpsim_SimF.fin (hM limit' flt l { x with d := x.d.set l (.obj x.d.null x.d.null) } x.d _ _ .nil [] size P
        (JDD.sim_post_coll true P).1 rfl hov hb)
    | false =>
      simp only [gate_false, Bool.false_eq_true, if_false]
      exact mpsim_SimF.fin
        (sim_of_nrel P h0 ((nsim_all env fuel).2.2 limit' flt x size [] P.pool h0 hb))

theorem fsim_pv_zero (env : Env) : FSimV env 0 := by
  intro limit flt l x P h0 hb
  simp only [MDDF.parseVariant, MD.parseVariant]
  exact ⟨mpsim_Sim.exit rfl hb (JDD.sim_null_post P (Fr.refl P.pool [])) h0 (fun h => by cases h), fun _ => rfl, fun _ => rfl⟩

theorem fsim_pv_step (env : Env) (fuel : Nat) (hE : FSimE env fuel) (hM : FSimM env fuel) : FSimV env (fuel + 1) := by
  intro limit flt l x P h0 hb
  have hfr0 : Fr x.d x.d [] := Fr.refl P.pool []
  rw [parseVariant_step, MD.parseVariant_step]
  generalize x.r.read = rd
  obtain ⟨_ | code, r0⟩ := rd
  · exact ⟨mpsim_Sim.exit rfl hb (JDD.sim_null_post P hfr0) h0 (fun h => by cases h), fun _ => rfl,
      fun h => absurd (show x.d.overflowed = true from h) (by rw [h0]; simp)⟩
  simp only
  have hnull : mpsim_SimF env x.d l (fin (.ok, { x with r := r0 })) (MD.finV .ok .null r0) :=
    mpsim_SimF.fin (mpsim_Sim.exit rfl hb (JDD.sim_null_post P hfr0) h0 (fun h => by cases h))
  cases hV : flt.allowValue with
  | true =>
    -- scalars are stored: the leaves of the unfiltered development
    rw [gate_true]
    cases MD.classify code r0 with
    | int w c =>
      have := mpsim_leafInt_sim env (x := { x with r := r0 }) P h0 hb w c
      simp only [leaf, leafInt, MD.leafOf, hV]; exact this
    | nil => exact hnull
    | invalid => exact mpsim_SimF.fin (mpsim_Sim.exit rfl hb (JDD.sim_null_post P hfr0) h0 (fun h => by cases h))
    | bool c =>
      obtain ⟨pp, pv⟩ := JDD.sim_post_plain (v' := .bool (c == 0xc3)) P hfr0 (fun h => h) rfl rfl
      simp only [leaf, leafSet, MD.leafOf, hV, Bool.and_self, if_true]
      exact mpsim_SimF.fin (mpsim_Sim.exit (x' := { r := r0, d := x.d.set l (.bool (c == 0xc3)), b := x.b }) rfl hb
        ⟨_, _, pp, pv⟩ (by rw [set_overflowed]; exact h0) (fun h => by cases h))
    | f32 =>
      have := mpsim_leafF32_sim env (x := { x with r := r0 }) P h0 hb
      simp only [leaf, leafF32, MD.leafOf, hV]; exact this
    | f64 =>
      have := mpsim_leafF64_sim env (x := { x with r := r0 }) P h0 hb
      simp only [leaf, leafF64, MD.leafOf, hV]; exact this
    | fix c =>
      obtain ⟨pp, pv⟩ := JDD.sim_post_plain (v' := .i32 (if c ≥ 0x80 then (c : Int) - 256 else c)) P hfr0 (fun h => h) rfl rfl
      simp only [leaf, leafSet, MD.leafOf, hV, Bool.and_self, if_true]
      exact mpsim_SimF.fin (mpsim_Sim.exit
        (x' := { r := r0, d := x.d.set l (.i32 (if c ≥ 0x80 then (c : Int) - 256 else c)), b := x.b }) rfl hb
        ⟨_, _, pp, pv⟩ (by rw [set_overflowed]; exact h0) (fun h => by cases h))
    | inc r => exact mpsim_SimF.fin (mpsim_Sim.exit rfl hb (JDD.sim_null_post P hfr0) h0 (fun h => by cases h))
    | arr size r => exact fsim_leafArr env fuel hE (x := { x with r := r }) P h0 hb limit flt size
    | map size r => exact fsim_leafMap env fuel hM (x := { x with r := r }) P h0 hb limit flt size
    | str size r =>
      have := mpsim_leafStr_sim env (x := { x with r := r }) P h0 hb size
      simp only [leaf, leafStr, MD.leafOf, hV]; exact this
    | bin sizeBytes isExt hdr size r =>
      have := mpsim_leafBin_sim env (x := { x with r := r }) P h0 hb code sizeBytes isExt hdr size
      simp only [leaf, leafBin, MD.leafOf, hV]; exact this
  | false =>
    -- scalars are skipped: the place keeps `null`
    rw [gate_false]
    cases MD.classify code r0 with
    | int w c =>
      simp only [leaf, leafInt, MD.leafOf, hV, Bool.and_false]
      exact fsim_skipB env (x := { x with r := r0 }) P h0 hb w _ (nout_leafFixed_false _ _ _)
        (leafFixed_false_val _ _ _).1 (leafFixed_false_val _ _ _).2
    | nil => exact hnull
    | invalid => exact mpsim_SimF.fin (mpsim_Sim.exit rfl hb (JDD.sim_null_post P hfr0) h0 (fun h => by cases h))
    | bool c =>
      simp only [leaf, leafSet, MD.leafOf, hV, Bool.and_false, Bool.false_eq_true, if_false]
      exact hnull
    | f32 =>
      simp only [leaf, leafF32, MD.leafOf, hV, Bool.and_false]
      exact fsim_skipB env (x := { x with r := r0 }) P h0 hb 4 _ (nout_leafFixed_false _ _ _)
        (leafFixed_false_val _ _ _).1 (leafFixed_false_val _ _ _).2
    | f64 =>
      simp only [leaf, leafF64, MD.leafOf, hV, Bool.and_false]
      exact fsim_skipB env (x := { x with r := r0 }) P h0 hb 8 _ (nout_leafFixed_false _ _ _)
        (leafFixed_false_val _ _ _).1 (leafFixed_false_val _ _ _).2
    | fix c =>
      simp only [leaf, leafSet, MD.leafOf, hV, Bool.and_false, Bool.false_eq_true, if_false]
      exact hnull
    | inc r => exact mpsim_SimF.fin (mpsim_Sim.exit rfl hb (JDD.sim_null_post P hfr0) h0 (fun h => by cases h))
    | arr size r => exact fsim_leafArr env fuel hE (x := { x with r := r }) P h0 hb limit flt size
    | map size r => exact fsim_leafMap env fuel hM (x := { x with r := r }) P h0 hb limit flt size
    | str size r =>
      simp only [leaf, leafStr, MD.leafOf, hV, Bool.and_false]
      exact fsim_skipB env (x := { x with r := r }) P h0 hb size _ (nout_leafSized_false _ _ _ _)
        (leafSized_false_val _ _ _ _).1 (leafSized_false_val _ _ _ _).2
    | bin sizeBytes isExt hdr size r =>
      simp only [leaf, leafBin, MD.leafOf, hV, Bool.and_false]
      exact fsim_skipB env (x := { x with r := r }) P h0 hb (MD.binSize isExt size) _ (nout_leafSized_false _ _ _ _)
        (leafSized_false_val _ _ _ _).1 (leafSized_false_val _ _ _ _).2

/-! ## `readArray` -/

theorem fsim_pe_zero (env : Env) : FSimE env 0 := by
  intro limit ef l x d0 h t sl acc n P0 P hvals h0 hb
  simp only [MDDF.readArray, MD.readArray]
  exact mpsim_Sim.exit rfl hb (JDD.sim_arr_post P hvals) h0 (fun h => by cases h)

/-- the array under construction after a step that only saw allocator traffic -/
theorem post_grow_arr {d0 d d' : Doc} {l : Loc} {h t : Nat} {sl : Forest} (P0 : Pre d0 l) (P : Post d0 d l (.arr h t) sl)
    (g : Grow d d') (h0 : d.overflowed = false) :
    Post d0 d' l (.arr h t) sl ∧ (vals d' noOv sl).map (·.2) = (vals d noOv sl).map (·.2) := by
  have hfr : Fr d d' [] := Fr.of_grow g (fun h => by rw [h0] at h; cases h) []
  obtain ⟨PK, hvK⟩ := P.frame P0 hfr
  have : Val.arr ((vals d' noOv sl).map (·.2)) = Val.arr ((vals d noOv sl).map (·.2)) := hvK
  injection this with this
  exact ⟨PK, this⟩

/-- the object under construction after a step that only saw allocator traffic -/
theorem post_grow_obj {d0 d d' : Doc} {l : Loc} {h t : Nat} {sl : Forest} (P0 : Pre d0 l) (P : Post d0 d l (.obj h t) sl)
    (g : Grow d d') (h0 : d.overflowed = false) :
    Post d0 d' l (.obj h t) sl ∧ vals d' noOv sl = vals d noOv sl := by
  have hfr : Fr d d' [] := Fr.of_grow g (fun h => by rw [h0] at h; cases h) []
  obtain ⟨PK, hvK⟩ := P.frame P0 hfr
  have : Val.obj (vals d' noOv sl) = Val.obj (vals d noOv sl) := hvK
  injection this with this
  exact ⟨PK, this⟩

theorem readArray_keep (env : Env) (fuel limit : Nat) (ef : Flt) (l : Loc) (n : Nat) (x : S) (ha : ef.allow = true) :
    readArray env (fuel+1) limit ef (some l) n x =
      if n == 0 then (.ok, x) else
      match x.d.addElement l with
      | (none, d) => (.noMemory, { x with d := d })
      | (some id, d) =>
        match parseVariant env fuel limit ef (some (.slot id)) { x with d := d } with
        | (.ok, x, _) => readArray env fuel limit ef (some l) (n - 1) x
        | (e, x, _) => (e, x) := by
  rw [readArray_succ, ha, gate_true]
  by_cases hn : (n == 0) = true
  · rw [if_pos hn, if_pos hn]
  rw [if_neg hn, if_neg hn]
  simp only [elemSlot]
  generalize x.d.addElement l = q
  obtain ⟨_ | id, d1⟩ := q <;> rfl

theorem readArray_drop (env : Env) (fuel limit : Nat) (ef : Flt) (l : Loc) (n : Nat) (x : S) (ha : ef.allow = false) :
    readArray env (fuel+1) limit ef (some l) n x =
      if n == 0 then (.ok, x) else
      match parseVariant env fuel limit ef none x with
      | (.ok, x, _) => readArray env fuel limit ef (some l) (n - 1) x
      | (e, x, _) => (e, x) := by
  rw [readArray_succ, ha, gate_false]
  rfl

theorem readArray0_keep (env : Env) (fuel limit : Nat) (ef : Flt) (n : Nat) (r : R) (acc : List Val) (ha : ef.allow = true) :
    MD.readArray env (fuel+1) limit ef true n r acc =
      if n == 0 then (.ok, acc.reverse, r) else
      match MD.parseVariant env fuel limit ef true r with
      | (.ok, v, r, _) => MD.readArray env fuel limit ef true (n - 1) r (v :: acc)
      | (e, v, r, _) => (e, (v :: acc).reverse, r) := by
  rw [readArray0_succ, ha]
  rfl

theorem readArray0_drop (env : Env) (fuel limit : Nat) (ef : Flt) (n : Nat) (r : R) (acc : List Val) (ha : ef.allow = false) :
    MD.readArray env (fuel+1) limit ef true n r acc =
      if n == 0 then (.ok, acc.reverse, r) else
      match MD.parseVariant env fuel limit ef false r with
      | (.ok, _, r, _) => MD.readArray env fuel limit ef true (n - 1) r acc
      | (e, _, r, _) => (e, acc.reverse, r) := by
  rw [readArray0_succ, ha]
  rfl

theorem fsim_pe_step (env : Env) (fuel : Nat) (hV : FSimV env fuel) (hE : FSimE env fuel) : FSimE env (fuel + 1) := by
  intro limit ef l x d0 h t sl acc n P0 P hvals h0 hb
  have gokd : PL.GeoOK x.d.g := by rw [P.fr.g]; exact P0.gok
  cases ha : ef.allow with
  | true =>
    rw [readArray_keep _ _ _ _ _ _ _ ha, readArray0_keep _ _ _ _ _ _ _ ha]
    by_cases hn : (n == 0) = true
    · rw [if_pos hn, if_pos hn]
      exact mpsim_Sim.exit rfl hb (JDD.sim_arr_post P hvals) h0 (fun h => by cases h)
    rw [if_neg hn, if_neg hn]
    generalize hadd : x.d.addElement l = r
    obtain ⟨m, d1⟩ := r
    cases m with
    | none =>
      simp only
      have := (allocVariant_none gokd P.fr.pool (JDD.sim_addElement_none hadd)).2.1
      exact Or.inr ⟨this, rfl⟩
    | some id =>
      simp only
      obtain ⟨pre1, hov1, hstep⟩ := JDD.sim_arr_step P0 P hadd
      have hsim := hV limit ef (.slot id) { r := x.r, d := d1, b := x.b } pre1 (by rw [hov1]; exact h0) hb
      generalize parseVariant env fuel limit ef (some (.slot id)) { r := x.r, d := d1, b := x.b } = rv at hsim
      generalize MD.parseVariant env fuel limit ef true x.r = rv0 at hsim
      obtain ⟨c, x2, f⟩ := rv
      obtain ⟨c0, v0, s0, f0⟩ := rv0
      obtain ⟨hsim, -, -⟩ := hsim
      rcases hsim with ⟨o2, hc, hne, hs2, hb2, ve, se, P2, hval⟩ | ⟨o2, hc⟩
      · simp only at o2 hc hne hs2 hb2 P2 hval
        subst hc hs2
        obtain ⟨Pn, hvn⟩ := hstep x2.d ve se P2
        rw [hval] at hvn
        have hvals' : (vals x2.d noOv (sl.snocS none id se)).map (·.2) = (v0 :: acc).reverse := by
          rw [hvn, List.map_append, hvals]; simp
        cases c
        case ok =>
          simp only
          exact hE limit ef l x2 d0 _ _ _ (v0 :: acc) (n - 1) P0 Pn hvals' o2 hb2
        all_goals exact mpsim_Sim.exit rfl hb2 (JDD.sim_arr_post Pn hvals') o2 hne
      · simp only at o2 hc
        subst hc
        exact Or.inr ⟨o2, rfl⟩
  | false =>
    rw [readArray_drop _ _ _ _ _ _ _ ha, readArray0_drop _ _ _ _ _ _ _ ha]
    by_cases hn : (n == 0) = true
    · rw [if_pos hn, if_pos hn]
      exact mpsim_Sim.exit rfl hb (JDD.sim_arr_post P hvals) h0 (fun h => by cases h)
    rw [if_neg hn, if_neg hn]
    have hsim := (nsim_all env fuel).1 limit ef x P.fr.pool h0 hb
    generalize parseVariant env fuel limit ef none x = rv at hsim
    generalize MD.parseVariant env fuel limit ef false x.r = rv0 at hsim
    obtain ⟨c, x2, f⟩ := rv
    obtain ⟨c0, v0, s0, f0⟩ := rv0
    obtain ⟨g, hr⟩ := hsim
    simp only [vout, nout] at g hr
    rcases hr with ⟨o2, hc, hne, hs2, hb2⟩ | ⟨o2, hc⟩
    · subst hc hs2
      obtain ⟨Pn, hvn⟩ := post_grow_arr P0 P g h0
      have hvals' : (vals x2.d noOv sl).map (·.2) = acc.reverse := by rw [hvn, hvals]
      cases c
      case ok =>
        simp only
        exact hE limit ef l x2 d0 _ _ _ acc (n - 1) P0 Pn hvals' o2 hb2
      all_goals exact mpsim_Sim.exit rfl hb2 (JDD.sim_arr_post Pn hvals') o2 hne
    · subst hc
      exact Or.inr ⟨o2, rfl⟩

/-! ## `readObject` -/

theorem fsim_pm_zero (env : Env) : FSimM env 0 := by
  intro limit flt l x d0 h t sl ms n P0 P hvals h0 hb
  simp only [MDDF.readObject, MD.readObject]
  exact mpsim_Sim.exit rfl hb (JDD.sim_obj_post P hvals) h0 (fun h => by cases h)

/-- the value of a KEPT member (its slot was just added), then the remaining members -/
theorem fsim_roVal_keep (env : Env) (fuel : Nat) (hV : FSimV env fuel) (hM : FSimM env fuel) {limit n : Nat} {flt : Flt}
    {l : Loc} {v : Nat} {x : S} {d0 : Doc} {ms : List (List Byte × Val)} {key : List Byte}
    (ha : (flt.subKey key).allow = true) (P0 : Pre d0 l) (pre : Pre x.d (.slot v))
    (h0 : x.d.overflowed = false) (hb : mpsim_BOK env x.b)
    (hfill : ∀ (d2 : Doc) (ve : VData) (se : Forest), Post x.d d2 (.slot v) ve se →
      ∃ h' t' s', Post d0 d2 l (.obj h' t') s' ∧ vals d2 noOv s' = ms ++ [(key, d2.valOf ve se)]) :
    mpsim_Sim env d0 l (roVal env fuel limit flt (some l) n (flt.subKey key) (some (.slot v)) x)
      (mpsim_objOut (froVal0 env fuel limit flt true n key x.r ms)) := by
  have hsim := hV limit (flt.subKey key) (.slot v) x pre h0 hb
  unfold roVal froVal0
  simp only [ha, Bool.and_self, if_true]
  generalize parseVariant env fuel limit (flt.subKey key) (some (.slot v)) x = rv at hsim
  generalize MD.parseVariant env fuel limit (flt.subKey key) true x.r = rv0 at hsim
  obtain ⟨c, x2, f⟩ := rv
  obtain ⟨c0, v0, s0, f0⟩ := rv0
  obtain ⟨hsim, -, -⟩ := hsim
  rcases hsim with ⟨o2, hc, hne, hs2, hb2, ve, se, P2, hval⟩ | ⟨o2, hc⟩
  · simp only at o2 hc hne hs2 hb2 P2 hval
    subst hc hs2
    obtain ⟨h', t', s', Pn, hvn⟩ := hfill x2.d ve se P2
    rw [hval] at hvn
    cases c
    case ok =>
      simp only
      exact hM limit flt l x2 d0 _ _ _ _ (n - 1) P0 Pn hvn o2 hb2
    all_goals exact mpsim_Sim.exit rfl hb2 (JDD.sim_obj_post Pn hvn) o2 hne
  · simp only at o2 hc
    subst hc
    exact Or.inr ⟨o2, rfl⟩

/-- the value of a DROPPED member (no destination), then the remaining members -/
theorem fsim_roVal_drop (env : Env) (fuel : Nat) (hM : FSimM env fuel) {limit n : Nat} {flt : Flt}
    {l : Loc} {x : S} {d0 : Doc} {h t : Nat} {sl : Forest} {ms : List (List Byte × Val)} {key : List Byte}
    (ha : (flt.subKey key).allow = false) (P0 : Pre d0 l) (P : Post d0 x.d l (.obj h t) sl)
    (hvals : vals x.d noOv sl = ms) (h0 : x.d.overflowed = false) (hb : mpsim_BOK env x.b) :
    mpsim_Sim env d0 l (roVal env fuel limit flt (some l) n (flt.subKey key) none x)
      (mpsim_objOut (froVal0 env fuel limit flt true n key x.r ms)) := by
  have hsim := (nsim_all env fuel).1 limit (flt.subKey key) x P.fr.pool h0 hb
  unfold roVal froVal0
  simp only [ha, Bool.and_false, Bool.false_eq_true, if_false]
  generalize parseVariant env fuel limit (flt.subKey key) none x = rv at hsim
  generalize MD.parseVariant env fuel limit (flt.subKey key) false x.r = rv0 at hsim
  obtain ⟨c, x2, f⟩ := rv
  obtain ⟨c0, v0, s0, f0⟩ := rv0
  obtain ⟨g, hr⟩ := hsim
  simp only [vout, nout] at g hr
  rcases hr with ⟨o2, hc, hne, hs2, hb2⟩ | ⟨o2, hc⟩
  · subst hc hs2
    obtain ⟨Pn, hvn⟩ := post_grow_obj P0 P g h0
    have hvals' : vals x2.d noOv sl = ms := by rw [hvn, hvals]
    cases c
    case ok =>
      simp only
      exact hM limit flt l x2 d0 _ _ _ _ (n - 1) P0 Pn hvals' o2 hb2
    all_goals exact mpsim_Sim.exit rfl hb2 (JDD.sim_obj_post Pn hvals') o2 hne
  · subst hc
    exact Or.inr ⟨o2, rfl⟩

/-- the key string, the new member (or none), its value, the remaining members -/
theorem fsim_roKey (env : Env) (fuel : Nat) (hV : FSimV env fuel) (hM : FSimM env fuel) {limit n len : Nat} {flt : Flt}
    {l : Loc} {x : S} {d0 : Doc} {h t : Nat} {sl : Forest} {ms : List (List Byte × Val)} (P0 : Pre d0 l)
    (P : Post d0 x.d l (.obj h t) sl) (hvals : vals x.d noOv sl = ms) (h0 : x.d.overflowed = false)
    (hb : mpsim_BOK env x.b) :
    mpsim_Sim env d0 l (roKey env fuel limit flt (some l) n len x)
      (mpsim_objOut (froKey0 env fuel limit flt true n len x.r ms)) := by
  obtain ⟨g, hr⟩ := mpsim_readString env x len P.fr.pool hb h0
  unfold roKey froKey0
  generalize readString env x len = q at *
  generalize mpsim_readStr0 env x.r len = q0 at *
  obtain ⟨c, key, y⟩ := q
  obtain ⟨c0, key0, r0⟩ := q0
  simp only at g hr ⊢
  rcases hr with ⟨ov, hc⟩ | ⟨ov, bk, hc, hne, hbs, hrr⟩
  · subst hc
    exact Or.inr ⟨ov, rfl⟩
  · subst hc hbs hrr
    obtain ⟨PK, hvK⟩ := post_grow_obj P0 P g h0
    have hvalsK : vals y.d noOv sl = ms := by rw [hvK, hvals]
    have gokd : PL.GeoOK y.d.g := by rw [PK.fr.g]; exact P0.gok
    obtain ⟨rs0, hrs0⟩ := P0.str
    have hsd := PK.att.str rs0 hrs0
    cases c
    case ok =>
      simp only
      cases ha : (flt.subKey key).allow with
      | false =>
        simp only [gate_false, memSlot]
        exact fsim_roVal_drop env fuel hM ha P0 PK hvalsK ov bk
      | true =>
        simp only [gate_true, memSlot]
        obtain ⟨s1, s2, s3, s4, s5, s6⟩ := mpsim_save env y key PK.fr.pool ⟨_, hsd⟩
        generalize save y key = sv at *
        obtain ⟨node, x1⟩ := sv
        simp only at s1 s2 s3 s4 s5 s6 ⊢
        generalize hadd : JDD.addMemberNode x1.d l node = r
        obtain ⟨m, d1⟩ := r
        cases m with
        | none =>
          simp only
          exact Or.inr ⟨JDD.sim_addMemberNode_none (by rw [s2.g]; exact gokd) s2.pool hadd, rfl⟩
        | some v =>
          simp only
          obtain ⟨k, pre1, hov1, hfill⟩ := JDD.sim_obj_add P0 PK s2 s3 s4 s5 hadd
          have := fsim_roVal_keep env fuel hV hM (limit := limit) (n := n) (flt := flt) (l := l) (v := v)
            (x := { r := x1.r, d := d1, b := x1.b }) (ms := ms) (key := key) ha P0 pre1 (by rw [hov1]; exact ov) (s6 bk)
            (fun d2 ve se P2 => by
              obtain ⟨Pn, hvn⟩ := hfill d2 ve se P2
              exact ⟨_, _, _, Pn, by rw [hvn, hvalsK]⟩)
          rw [← s1]
          exact this
    all_goals exact mpsim_Sim.exit rfl bk (JDD.sim_obj_post PK hvalsK) ov hne

theorem fsim_pm_step (env : Env) (fuel : Nat) (hV : FSimV env fuel) (hM : FSimM env fuel) : FSimM env (fuel + 1) := by
  intro limit flt l x d0 h t sl ms n P0 P hvals h0 hb
  have hP := JDD.sim_obj_post P hvals
  rw [readObject_succ, readObject0_step]
  by_cases hn : (n == 0) = true
  · rw [if_pos hn, if_pos hn]
    exact mpsim_Sim.exit rfl hb hP h0 (fun h => by cases h)
  rw [if_neg hn, if_neg hn]
  generalize x.r.read = rd
  obtain ⟨_ | code, r0⟩ := rd
  · exact mpsim_Sim.exit rfl hb hP h0 (fun h => by cases h)
  simp only
  generalize MD.keyLenOf_d3 code r0 = kl
  obtain ⟨_ | _ | len, r1⟩ := kl
  · exact mpsim_Sim.exit rfl hb hP h0 (fun h => by cases h)
  · exact mpsim_Sim.exit rfl hb hP h0 (fun h => by cases h)
  simp only
  exact fsim_roKey env fuel hV hM (x := { x with r := r1 }) P0 P hvals h0 hb

/-- THE SIMULATION, filtered, with a destination: for every fuel and every filter, the three slot-level routines of `MDDF` are
    simulated by the value-level filtered routines -/
theorem fsim_all (env : Env) : ∀ fuel, FSimV env fuel ∧ FSimE env fuel ∧ FSimM env fuel := by
  intro fuel
  induction fuel with
  | zero => exact ⟨fsim_pv_zero env, fsim_pe_zero env, fsim_pm_zero env⟩
  | succ n ih =>
    obtain ⟨hV, hE, hM⟩ := ih
    exact ⟨fsim_pv_step env n hE hM, fsim_pe_step env n hV hE, fsim_pm_step env n hV hM⟩

end MDDF
