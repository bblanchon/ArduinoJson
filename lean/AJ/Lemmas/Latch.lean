/- The one-character latch of the JSON reader: what `cur` and `mv` do on an unloaded and on a loaded state, and
   `At s u p f`, the summary of an unloaded state (unread bytes, position, found flag) in which the later files speak.
   `view s` = the bytes that the parser will still see (an unloaded state only has its unread bytes, a loaded state
   additionally holds the latched byte: a real input byte, or the end marker 0); only the `view_*` statements of this
   file and `At.view` use it. -/
import AJ.Model.JD
namespace JD

/-- what is still to be seen through the latch -/
def view (s : St) : List Byte := (if s.l.loaded then [s.l.cur] else []) ++ s.l.unread

/-- a loaded byte is either a byte taken from the input, or the end marker 0 with nothing left to read -/
def LoadedOk (s : St) : Prop := s.l.loaded = true → (s.l.pos > 0 ∨ (s.l.cur = 0 ∧ s.l.unread = []))

/-- state after `current()` has latched `c` from the reader (`rest` left in the reader) -/
def ld (s : St) (c : Byte) (rest : List Byte) : St :=
  { s with l := { unread := rest, cur := c, loaded := true, pos := s.l.pos + 1 } }

/-- state after `current(); move()` on the byte `c` -/
def adv (s : St) (c : Byte) (rest : List Byte) : St :=
  { s with l := { unread := rest, cur := c, loaded := false, pos := s.l.pos + 1 } }

/-- state after `current()` at the end of the input -/
def ldEnd (s : St) : St := { s with l := { s.l with cur := 0, loaded := true } }

theorem cur_cons {s : St} {c : Byte} {rest : List Byte} (h1 : s.l.loaded = false) (h2 : s.l.unread = c :: rest) :
    cur s = (c, ld s c rest) := by
  simp only [cur, Latch.current, h1, h2, Bool.false_eq_true, ↓reduceIte, ld]

theorem cur_nil {s : St} (h1 : s.l.loaded = false) (h2 : s.l.unread = []) : cur s = (0, ldEnd s) := by
  simp only [cur, Latch.current, h1, h2, Bool.false_eq_true, ↓reduceIte, ldEnd]

theorem cur_loaded {s : St} (h : s.l.loaded = true) : cur s = (s.l.cur, s) := by
  simp only [cur, Latch.current, h, ↓reduceIte]

@[simp] theorem ld_loaded (s c rest) : (ld s c rest).l.loaded = true := rfl
@[simp] theorem ld_cur (s c rest) : (ld s c rest).l.cur = c := rfl
@[simp] theorem ld_unread (s c rest) : (ld s c rest).l.unread = rest := rfl
@[simp] theorem ld_pos (s c rest) : (ld s c rest).l.pos = s.l.pos + 1 := rfl
@[simp] theorem ld_found (s c rest) : (ld s c rest).found = s.found := rfl

@[simp] theorem adv_loaded (s c rest) : (adv s c rest).l.loaded = false := rfl
@[simp] theorem adv_cur (s c rest) : (adv s c rest).l.cur = c := rfl
@[simp] theorem adv_unread (s c rest) : (adv s c rest).l.unread = rest := rfl
@[simp] theorem adv_pos (s c rest) : (adv s c rest).l.pos = s.l.pos + 1 := rfl
@[simp] theorem adv_found (s c rest) : (adv s c rest).found = s.found := rfl

theorem cur_ld (s : St) (c : Byte) (rest : List Byte) : cur (ld s c rest) = (c, ld s c rest) :=
  cur_loaded (ld_loaded s c rest)

theorem mv_ld (s : St) (c : Byte) (rest : List Byte) : mv (ld s c rest) = adv s c rest := rfl

theorem mv_loaded (s : St) : (mv s).l.loaded = false := rfl
theorem mv_unread (s : St) : (mv s).l.unread = s.l.unread := rfl

/-- `current()` on an unloaded latch shows the next byte and does not change the view -/
theorem view_cur_cons {s : St} {c : Byte} {rest : List Byte} (h1 : s.l.loaded = false) (h2 : s.l.unread = c :: rest) :
    (cur s).1 = c ∧ (cur s).2.l.loaded = true ∧ view (cur s).2 = c :: rest ∧ view s = c :: rest := by
  rw [cur_cons h1 h2]
  simp [view, h1, h2]

/-- `current(); move()` drops exactly one byte of the view -/
theorem view_mv_cur_cons {s : St} {c : Byte} {rest : List Byte} (h1 : s.l.loaded = false) (h2 : s.l.unread = c :: rest) :
    (mv (cur s).2).l.loaded = false ∧ (mv (cur s).2).l.unread = rest ∧ view (mv (cur s).2) = rest := by
  rw [cur_cons h1 h2, mv_ld]
  simp [view]

/-- at the end of the input `current()` yields the end marker 0, and keeps yielding it -/
theorem view_cur_nil {s : St} (h1 : s.l.loaded = false) (h2 : s.l.unread = []) :
    (cur s).1 = 0 ∧ view (cur s).2 = [0] ∧ (cur (cur s).2).1 = 0 := by
  rw [cur_nil h1 h2]
  refine ⟨rfl, ?_, ?_⟩
  · simp [view, ldEnd, h2]
  · rw [cur_loaded (by rfl)]; rfl

/-- `current()` is idempotent, and `view` is what `current()` returns first -/
theorem cur_cur (s : St) : cur (cur s).2 = cur s := by
  cases h : s.l.loaded
  · cases h2 : s.l.unread with
    | nil => rw [cur_nil h h2]; exact cur_loaded rfl
    | cons c rest => rw [cur_cons h h2]; exact cur_ld s c rest
  · rw [cur_loaded h, cur_loaded h]

theorem loadedOk_cur {s : St} (h : LoadedOk s) : LoadedOk (cur s).2 := by
  cases h1 : s.l.loaded
  · cases h2 : s.l.unread with
    | nil => rw [cur_nil h1 h2]; intro _; exact Or.inr ⟨rfl, h2⟩
    | cons c rest => rw [cur_cons h1 h2]; intro _; exact Or.inl (by simp)
  · rw [cur_loaded h1]; exact h

theorem loadedOk_mv (s : St) : LoadedOk (mv s) := by
  intro h; rw [mv_loaded] at h; exact absurd h (by decide)

/-- Position/unread/found summary of an unloaded state. -/
def At (s : St) (u : List Byte) (p : Nat) (f : Bool) : Prop :=
  s.l.loaded = false ∧ s.l.unread = u ∧ s.l.pos = p ∧ s.found = f

theorem At.adv {s : St} {c : Byte} {rest : List Byte} {p : Nat} {f : Bool} (h : At s (c :: rest) p f) :
    At (adv s c rest) rest (p + 1) f := by
  obtain ⟨_, _, h3, h4⟩ := h
  exact ⟨rfl, rfl, by simp [h3], by simp [h4]⟩

theorem At.cur {s : St} {c : Byte} {rest : List Byte} {p : Nat} {f : Bool} (h : At s (c :: rest) p f) :
    cur s = (c, ld s c rest) := cur_cons h.1 h.2.1

theorem At.view {s : St} {u : List Byte} {p : Nat} {f : Bool} (h : At s u p f) : view s = u := by
  simp [JD.view, h.1, h.2.1]

/-- `skipSpaces` marks that a token was found -/
def setFound (s : St) : St := { s with found := true }
@[simp] theorem setFound_l (s : St) : (setFound s).l = s.l := rfl
@[simp] theorem setFound_found (s : St) : (setFound s).found = true := rfl
theorem cur_setFound_ld (s : St) (c : Byte) (rest : List Byte) :
    cur (setFound (ld s c rest)) = (c, setFound (ld s c rest)) := cur_loaded rfl
theorem mv_setFound_ld (s : St) (c : Byte) (rest : List Byte) :
    mv (setFound (ld s c rest)) = setFound (adv s c rest) := rfl

/-! ### positions behind a piece of text, so that no arithmetic goal arises where they are composed -/

/-- the position behind `a :: w`, reached from the position behind `a` -/
theorem len_cons {α : Type} (p : Nat) (a : α) (w : List α) : p + 1 + w.length = p + (a :: w).length :=
  Nat.add_right_comm p 1 w.length

theorem len_bracket {α : Type} (p : Nat) (a b : α) (m : List α) : p + 1 + m.length + 1 = p + (a :: m ++ [b]).length := by
  simp only [List.length_cons, List.length_append, List.length_nil]; omega

theorem len_app3 {α : Type} (p : Nat) (a b c : List α) : p + a.length + b.length + c.length = p + (a ++ b ++ c).length := by
  simp only [List.length_append, Nat.add_assoc]

theorem len_sep {α : Type} (p : Nat) (a : List α) (c : α) (m : List α) :
    p + a.length + 1 + m.length = p + (a ++ c :: m).length := by
  simp only [List.length_cons, List.length_append]; omega

end JD
