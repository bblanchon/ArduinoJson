/- MessagePack reader model on a truncated input (C09, prefix clause): over the pieces of `parseVariant` / `readObject`
   (AJ/Lemmas/MpPieces.lean), a simulation between the run on `⟨q, p⟩` and the run on `⟨q ++ t, p⟩`; then the well-formed
   encodings in any legal width (`Enc`) and the reader on a complete beginning of one; the filter changes neither the
   code nor the bytes consumed (`fi_mutual`). -/
import AJ.Lemmas.MDPos
import AJ.Lemmas.MpRoundTrip
namespace MD
open JD SF

/-! ## the reader a leaf leaves -/
theorem rdLeaf_reader (g : List Byte → Val) (n : Nat) (r : R) : (rdLeaf g n r).2.2.1 = (r.readBytes n).2 := by
  unfold rdLeaf
  generalize r.readBytes n = x
  obtain ⟨o, r'⟩ := x
  cases o <;> rfl
theorem skLeaf_reader (n : Nat) (r : R) : (skLeaf n r).2.2.1 = (r.skipBytes n).2 := by
  unfold skLeaf
  generalize r.skipBytes n = x
  obtain ⟨o, r'⟩ := x
  cases o <;> rfl
theorem hdrOf_reader (sb s2 : Nat) (r : R) (h : sb > 0) : (hdrOf sb s2 r).2 = (r.readBytes sb).2 := by
  unfold hdrOf
  rw [if_pos h]
  generalize r.readBytes sb = x
  obtain ⟨o, r'⟩ := x
  cases o <;> rfl

/-! ## simulation: the same routine on `⟨q, p⟩` (truncated) and on `⟨q ++ t, p⟩` (full), `t ≠ []` -/

/-- the full reader holds the same unread bytes followed by `t`, at the same position -/
def Rel (t : List Byte) (a b : R) : Prop := b.unread = a.unread ++ t ∧ b.pos = a.pos

/-- either the truncated run never looked beyond its input (same code, same value, readers still related),
    or it stopped with IncompleteInput having consumed everything while the full run went on into `t`,
    or it ran out of fuel -/
def SimV (t : List Byte) (a b : Code × Val × R × Bool) : Prop :=
  (a.1 = b.1 ∧ a.2.1 = b.2.1 ∧ Rel t a.2.2.1 b.2.2.1 ∧ a.2.2.2 = b.2.2.2) ∨
  (a.1 = .incomplete ∧ a.2.2.1.unread = [] ∧ b.2.2.1.unread.length < t.length) ∨ a.1 = .fuel

def SimL {α : Type} (t : List Byte) (a b : Code × α × R) : Prop :=
  (a.1 = b.1 ∧ a.2.1 = b.2.1 ∧ Rel t a.2.2 b.2.2) ∨
  (a.1 = .incomplete ∧ a.2.2.unread = [] ∧ b.2.2.unread.length < t.length) ∨ a.1 = .fuel

theorem simV_leaf {t : List Byte} {ra rb : R} (h : Rel t ra rb) (e : Code) (v : Val) (b : Bool) :
    SimV t (e, v, ra, b) (e, v, rb, b) := Or.inl ⟨rfl, rfl, h, rfl⟩

theorem simL_leaf {α : Type} {t : List Byte} {ra rb : R} (h : Rel t ra rb) (e : Code) (x : α) :
    SimL t (e, x, ra) (e, x, rb) := Or.inl ⟨rfl, rfl, h⟩

theorem simV_of_L {α : Type} {t : List Byte} (f : α → Val) {x x' : Code × α × R} (h : SimL t x x') :
    SimV t (x.1, f x.2.1, x.2.2, true) (x'.1, f x'.2.1, x'.2.2, true) := by
  rcases h with ⟨h1, h2, h3⟩ | h | h
  · exact Or.inl ⟨h1, congrArg f h2, h3, rfl⟩
  · exact Or.inr (Or.inl h)
  · exact Or.inr (Or.inr h)

/-- After a value: both runs go on (`K`, `K'`) from related readers, or both stop with the value's code; a truncated run
    that ended inside the value has ended. -/
theorem simL_after {α β : Type} {t : List Byte} {xa xb : Code × Val × R × Bool} (hv : SimV t xa xb)
    {K K' : R → β → Code × α × R} (A : Val → β) (S : Val → α)
    (hK : ∀ ra rb acc, Rel t ra rb → SimL t (K ra acc) (K' rb acc))
    (hle : ∀ r acc, (K' r acc).2.2.unread.length ≤ r.unread.length) :
    SimL t (if xa.1 = .ok then K xa.2.2.1 (A xa.2.1) else (xa.1, S xa.2.1, xa.2.2.1))
      (if xb.1 = .ok then K' xb.2.2.1 (A xb.2.1) else (xb.1, S xb.2.1, xb.2.2.1)) := by
  rcases hv with ⟨h1, h2, h3, _⟩ | ⟨h1, h2, h3⟩ | h1
  · rw [h1, h2]
    exact of_ite₂ (fun _ => hK _ _ _ h3) (fun _ => simL_leaf h3 _ _)
  · rw [h1, if_neg (by decide : ¬ Code.incomplete = Code.ok)]
    refine Or.inr (Or.inl ⟨rfl, h2, ?_⟩)
    exact of_ite (Q := fun y : Code × α × R => y.2.2.unread.length < t.length)
      (fun _ => Nat.lt_of_le_of_lt (hle _ _) h3) (fun _ => h3)
  · rw [h1, if_neg (by decide : ¬ Code.fuel = Code.ok)]
    exact Or.inr (Or.inr rfl)

/-! ### the three reader primitives -/
theorem read_sim {t : List Byte} (ht : t ≠ []) {ra rb : R} (h : Rel t ra rb) :
    (∃ c ra' rb', ra.read = (some c, ra') ∧ rb.read = (some c, rb') ∧ Rel t ra' rb') ∨
    (ra.read = (none, ra) ∧ ra.unread = [] ∧ ∃ c rb', rb.read = (some c, rb') ∧ rb'.unread.length < t.length) := by
  obtain ⟨u, p⟩ := ra
  obtain ⟨u', p'⟩ := rb
  obtain ⟨h1, h2⟩ := h
  simp only at h1 h2
  subst h1; subst h2
  cases u with
  | nil =>
    cases t with
    | nil => exact absurd rfl ht
    | cons c t' => exact Or.inr ⟨rfl, rfl, c, ⟨t', p' + 1⟩, rfl, by simp⟩
  | cons c l => exact Or.inl ⟨c, ⟨l, p' + 1⟩, ⟨l ++ t, p' + 1⟩, rfl, rfl, rfl, rfl⟩

theorem readBytes_sim {t : List Byte} (ht : t ≠ []) {ra rb : R} (h : Rel t ra rb) (n : Nat) :
    (∃ bs ra' rb', ra.readBytes n = (some bs, ra') ∧ rb.readBytes n = (some bs, rb') ∧ Rel t ra' rb') ∨
    (∃ ra', ra.readBytes n = (none, ra') ∧ ra'.unread = [] ∧ (rb.readBytes n).2.unread.length < t.length) := by
  obtain ⟨u, p⟩ := ra
  obtain ⟨u', p'⟩ := rb
  obtain ⟨h1, h2⟩ := h
  simp only at h1 h2
  subst h1; subst h2
  have htl : 0 < t.length := List.length_pos_iff.mpr ht
  by_cases hl : u.length ≥ n
  · left
    refine ⟨u.take n, ⟨u.drop n, p' + n⟩, ⟨u.drop n ++ t, p' + n⟩, ?_, ?_, rfl, rfl⟩
    · simp only [R.readBytes]; rw [if_pos hl]
    · simp only [R.readBytes]
      rw [if_pos (by simp only [List.length_append]; omega), List.take_append_of_le_length hl,
        List.drop_append_of_le_length hl]
  · right
    refine ⟨⟨[], p' + u.length⟩, ?_, rfl, ?_⟩
    · simp only [R.readBytes]; rw [if_neg hl]
    · simp only [R.readBytes]
      split
      · simp only [List.length_drop, List.length_append]; omega
      · exact htl

theorem skipBytes_sim {t : List Byte} (ht : t ≠ []) {ra rb : R} (h : Rel t ra rb) (n : Nat) :
    (∃ ra' rb', ra.skipBytes n = (true, ra') ∧ rb.skipBytes n = (true, rb') ∧ Rel t ra' rb') ∨
    (∃ ra', ra.skipBytes n = (false, ra') ∧ ra'.unread = [] ∧ (rb.skipBytes n).2.unread.length < t.length) := by
  obtain ⟨u, p⟩ := ra
  obtain ⟨u', p'⟩ := rb
  obtain ⟨h1, h2⟩ := h
  simp only at h1 h2
  subst h1; subst h2
  have htl : 0 < t.length := List.length_pos_iff.mpr ht
  by_cases hl : u.length ≥ n
  · left
    refine ⟨⟨u.drop n, p' + n⟩, ⟨u.drop n ++ t, p' + n⟩, ?_, ?_, rfl, rfl⟩
    · simp only [R.skipBytes]; rw [if_pos hl]
    · simp only [R.skipBytes]
      rw [if_pos (by simp only [List.length_append]; omega), List.drop_append_of_le_length hl]
  · right
    refine ⟨⟨[], p' + u.length⟩, ?_, rfl, ?_⟩
    · simp only [R.skipBytes]; rw [if_neg hl]
    · simp only [R.skipBytes]
      split
      · simp only [List.length_drop, List.length_append]; omega
      · exact htl

theorem sim_rdLeaf {t : List Byte} (ht : t ≠ []) {ra rb : R} (h : Rel t ra rb) (g : List Byte → Val) (n : Nat) :
    SimV t (rdLeaf g n ra) (rdLeaf g n rb) := by
  rcases readBytes_sim ht h n with ⟨bs, ra', rb', e1, e2, hr⟩ | ⟨ra', e1, hu, hlt⟩
  · unfold rdLeaf; rw [e1, e2]; exact Or.inl ⟨rfl, rfl, hr, rfl⟩
  · refine Or.inr (Or.inl ⟨?_, ?_, ?_⟩)
    · unfold rdLeaf; rw [e1]
    · unfold rdLeaf; rw [e1]; exact hu
    · rw [rdLeaf_reader]; exact hlt

theorem sim_skLeaf {t : List Byte} (ht : t ≠ []) {ra rb : R} (h : Rel t ra rb) (n : Nat) :
    SimV t (skLeaf n ra) (skLeaf n rb) := by
  rcases skipBytes_sim ht h n with ⟨ra', rb', e1, e2, hr⟩ | ⟨ra', e1, hu, hlt⟩
  · unfold skLeaf; rw [e1, e2]; exact Or.inl ⟨rfl, rfl, hr, rfl⟩
  · refine Or.inr (Or.inl ⟨?_, ?_, ?_⟩)
    · unfold skLeaf; rw [e1]
    · unfold skLeaf; rw [e1]; exact hu
    · rw [skLeaf_reader]; exact hlt

theorem hdr_sim {t : List Byte} (ht : t ≠ []) {ra rb : R} (h : Rel t ra rb) (sb s2 : Nat) :
    (∃ x ra' rb', hdrOf sb s2 ra = (some x, ra') ∧ hdrOf sb s2 rb = (some x, rb') ∧ Rel t ra' rb') ∨
    (∃ ra', hdrOf sb s2 ra = (none, ra') ∧ ra'.unread = [] ∧ (hdrOf sb s2 rb).2.unread.length < t.length) := by
  by_cases hs : sb > 0
  · rcases readBytes_sim ht h sb with ⟨bs, ra', rb', e1, e2, hr⟩ | ⟨ra', e1, hu, hlt⟩
    · unfold hdrOf; rw [if_pos hs, if_pos hs, e1, e2]; exact Or.inl ⟨_, ra', rb', rfl, rfl, hr⟩
    · refine Or.inr ⟨ra', ?_, hu, ?_⟩
      · unfold hdrOf; rw [if_pos hs, e1]
      · rw [hdrOf_reader sb s2 rb hs]; exact hlt
  · unfold hdrOf; rw [if_neg hs, if_neg hs]
    exact Or.inl ⟨_, ra, rb, rfl, rfl, h⟩

/-! ### `parseVariant` after the format byte -/
section steps
variable {t : List Byte} {env : Env} {RA RA' : RAfun} {RO RO' : ROfun} {g : Nat}

theorem sim_pvTail (ht : t ≠ [])
    (hA : ∀ l ef ha n ra rb acc, Rel t ra rb → SimL t (RA l ef ha n ra acc) (RA' l ef ha n rb acc))
    (hO : ∀ l fl ho n ra rb ms, Rel t ra rb → SimL t (RO l fl ho n ra ms) (RO' l fl ho n rb ms))
    (limit : Nat) (flt : Flt) (hd : Bool) (code : Byte) (x : List Byte × Nat) (ra rb : R) (h : Rel t ra rb) :
    SimV t (pvTail env RA RO limit flt hd code (some x, ra)) (pvTail env RA' RO' limit flt hd code (some x, rb)) := by
  obtain ⟨hb, size⟩ := x
  simp only [pvTail]
  refine of_ite₂ (fun _ => ?_) (fun _ => ?_)
  · cases limit with
    | zero => exact simV_leaf h _ _ _
    | succ l =>
      simp only
      refine of_ite₂ (fun _ => ?_) (fun _ => ?_)
      · exact simV_of_L (fun vs => Val.arr vs) (hA l flt.subIdx true size ra rb [] h)
      · exact simV_of_L (fun _ => Val.null) (hA l flt.subIdx false size ra rb [] h)
  refine of_ite₂ (fun _ => ?_) (fun _ => ?_)
  · cases limit with
    | zero => exact simV_leaf h _ _ _
    | succ l =>
      simp only
      refine of_ite₂ (fun _ => ?_) (fun _ => ?_)
      · exact simV_of_L (fun ms => Val.obj ms) (hO l flt true size ra rb [] h)
      · exact simV_of_L (fun _ => Val.null) (hO l flt false size ra rb [] h)
  refine of_ite₂ (fun _ => ?_) (fun _ => ?_)
  · refine of_ite₂ (fun _ => ?_) (fun _ => sim_skLeaf ht h _)
    exact of_ite₂ (fun _ => simV_leaf h _ _ _) (fun _ => sim_rdLeaf ht h _ _)
  · refine of_ite₂ (fun _ => ?_) (fun _ => sim_skLeaf ht h _)
    exact of_ite₂ (fun _ => simV_leaf h _ _ _) (fun _ => sim_rdLeaf ht h _ _)

theorem sim_pvAfter (ht : t ≠ [])
    (hA : ∀ l ef ha n ra rb acc, Rel t ra rb → SimL t (RA l ef ha n ra acc) (RA' l ef ha n rb acc))
    (hO : ∀ l fl ho n ra rb ms, Rel t ra rb → SimL t (RO l fl ho n ra ms) (RO' l fl ho n rb ms))
    (hA' : ∀ l ef ha n r acc, TookL g r (RA' l ef ha n r acc)) (hO' : ∀ l fl ho n r ms, TookL g r (RO' l fl ho n r ms))
    (limit : Nat) (flt : Flt) (hd : Bool) (code : Byte) (ra rb : R) (h : Rel t ra rb) :
    SimV t (pvAfter env RA RO limit flt hd code ra) (pvAfter env RA' RO' limit flt hd code rb) := by
  simp only [pvAfter]
  refine of_ite₂ (fun _ => ?_) (fun _ => ?_)
  · exact of_ite₂ (fun _ => sim_rdLeaf ht h _ _) (fun _ => sim_skLeaf ht h _)
  refine of_ite₂ (fun _ => simV_leaf h _ _ _) (fun _ => ?_)
  refine of_ite₂ (fun _ => simV_leaf h _ _ _) (fun _ => ?_)
  refine of_ite₂ (fun _ => simV_leaf h _ _ _) (fun _ => ?_)
  refine of_ite₂ (fun _ => ?_) (fun _ => ?_)
  · exact of_ite₂ (fun _ => sim_rdLeaf ht h _ _) (fun _ => sim_skLeaf ht h _)
  refine of_ite₂ (fun _ => ?_) (fun _ => ?_)
  · exact of_ite₂ (fun _ => sim_rdLeaf ht h _ _) (fun _ => sim_skLeaf ht h _)
  refine of_ite₂ (fun _ => simV_leaf h _ _ _) (fun _ => ?_)
  rcases hdr_sim ht h (szBytes code.toNat) (sz2 code.toNat) with ⟨x, ra', rb', e1, e2, hr⟩ | ⟨ra', e1, hu, hlt⟩
  · rw [e1, e2]; exact sim_pvTail ht hA hO limit flt hd code x ra' rb' hr
  · rw [e1]
    exact Or.inr (Or.inl ⟨rfl, hu, Nat.lt_of_le_of_lt
      (pvTail_took hA' hO' limit flt hd code _ (hdrOf_adv _ _ rb).2).1.adv.le hlt⟩)

theorem sim_roTail {PV PV' : PVfun} (ht : t ≠ [])
    (hV : ∀ l fl b ra rb, Rel t ra rb → SimV t (PV l fl b ra) (PV' l fl b rb))
    (hO : ∀ l fl ho n ra rb ms, Rel t ra rb → SimL t (RO l fl ho n ra ms) (RO' l fl ho n rb ms))
    (hV' : ∀ l fl b r, TookV g r (PV' l fl b r)) (hO' : ∀ l fl ho n r ms, TookL g r (RO' l fl ho n r ms))
    (limit : Nat) (flt : Flt) (ho : Bool) (n : Nat) (ms : List (List Byte × Val)) (x : Option (Option Nat))
    (ra rb : R) (h : Rel t ra rb) :
    SimL t (roTail env PV RO limit flt ho n ms (x, ra)) (roTail env PV' RO' limit flt ho n ms (x, rb)) := by
  cases x with
  | none => exact simL_leaf h _ _
  | some y =>
    cases y with
    | none =>
      simp only [roTail]
      exact simL_leaf h _ _
    | some len =>
      simp only [roTail]
      refine of_ite₂ (fun _ => simL_leaf h _ _) (fun _ => ?_)
      rcases readBytes_sim ht h len with ⟨key, ra', rb', e1, e2, hr⟩ | ⟨ra', e1, hu, hlt⟩
      · rw [e1, e2]
        simp only []
        rw [roVal_eq, roVal_eq]
        exact simL_after (hV limit (flt.subKey key) (ho && (flt.subKey key).allow) ra' rb' hr)
          (K := fun r acc => RO limit flt ho (n - 1) r acc) (K' := fun r acc => RO' limit flt ho (n - 1) r acc)
          (fun v => if ho && (flt.subKey key).allow then ms ++ [(key, v)] else ms)
          (fun v => if ho && (flt.subKey key).allow then ms ++ [(key, v)] else ms)
          (fun ra rb acc h => hO _ _ _ _ ra rb acc h) (fun r acc => (hO' limit flt ho (n - 1) r acc).adv.le)
      · rw [e1]
        refine Or.inr (Or.inl ⟨rfl, hu, ?_⟩)
        generalize rb.readBytes len = z at hlt
        obtain ⟨o2, r2⟩ := z
        cases o2 with
        | none => exact hlt
        | some key => exact Nat.lt_of_le_of_lt (roVal_took hV' hO' limit flt ho n ms key r2).adv.le hlt

end steps

theorem keyLen_sim {t : List Byte} (ht : t ≠ []) {ra rb : R} (h : Rel t ra rb) (c : Nat) :
    (∃ x ra' rb', keyLenOf c ra = (x, ra') ∧ keyLenOf c rb = (x, rb') ∧ Rel t ra' rb' ∧ x ≠ some none) ∨
    (∃ ra', keyLenOf c ra = (some none, ra') ∧ ra'.unread = [] ∧ (keyLenOf c rb).2.unread.length < t.length) := by
  unfold keyLenOf
  by_cases h1 : (c / 32 == 5) = true
  · rw [if_pos h1, if_pos h1]; exact Or.inl ⟨_, ra, rb, rfl, rfl, h, by simp⟩
  · rw [if_neg h1, if_neg h1]
    by_cases h2 : (decide (0xd9 ≤ c) && decide (c ≤ 0xdb)) = true
    · rw [if_pos h2, if_pos h2]
      rcases readBytes_sim ht h (2^(c - 0xd9)) with ⟨bs, ra', rb', e1, e2, hr⟩ | ⟨ra', e1, hu, hlt⟩
      · rw [e1, e2]; exact Or.inl ⟨_, ra', rb', rfl, rfl, hr, by simp⟩
      · rw [e1]
        refine Or.inr ⟨ra', rfl, hu, ?_⟩
        generalize rb.readBytes (2^(c - 0xd9)) = z at hlt
        obtain ⟨o2, r2⟩ := z
        cases o2 <;> exact hlt
    · rw [if_neg h2, if_neg h2]; exact Or.inl ⟨_, ra, rb, rfl, rfl, h, by simp⟩

/-- the simulation, for the three routines of the mutual block; the full run may have `d` more units of fuel -/
theorem sim_mutual (env : Env) (t : List Byte) (ht : t ≠ []) (d : Nat) : ∀ f,
    (∀ limit flt hd ra rb, Rel t ra rb →
      SimV t (parseVariant env f limit flt hd ra) (parseVariant env (f+d) limit flt hd rb)) ∧
    (∀ limit ef ha n ra rb acc, Rel t ra rb →
      SimL t (readArray env f limit ef ha n ra acc) (readArray env (f+d) limit ef ha n rb acc)) ∧
    (∀ limit flt ho n ra rb ms, Rel t ra rb →
      SimL t (readObject env f limit flt ho n ra ms) (readObject env (f+d) limit flt ho n rb ms)) := by
  intro f
  induction f with
  | zero =>
    refine ⟨?_, ?_, ?_⟩
    · intro limit flt hd ra rb _; simp only [parseVariant]; exact Or.inr (Or.inr rfl)
    · intro limit ef ha n ra rb acc _; simp only [readArray]; exact Or.inr (Or.inr rfl)
    · intro limit flt ho n ra rb ms _; simp only [readObject]; exact Or.inr (Or.inr rfl)
  | succ f ih =>
    obtain ⟨ihV, ihA, ihO⟩ := ih
    have efd : f + 1 + d = (f + d) + 1 := by omega
    have hk := md_took env (f + d)
    refine ⟨?_, ?_, ?_⟩
    · intro limit flt hd ra rb h
      rw [efd, pv_succ, pv_succ]
      rcases read_sim ht h with ⟨c, ra', rb', e1, e2, hr⟩ | ⟨e1, hu, c, rb', e2, hlt⟩
      · rw [e1, e2]
        exact sim_pvAfter ht ihA ihO hk.2.1 hk.2.2 limit flt hd c ra' rb' hr
      · rw [e1, e2]
        exact Or.inr (Or.inl ⟨rfl, hu, Nat.lt_of_le_of_lt
          (pvAfter_took (env := env) hk.2.1 hk.2.2 limit flt hd c rb').1.adv.le hlt⟩)
    · intro limit ef ha n ra rb acc h
      rw [efd, ra_succ_if, ra_succ_if]
      refine of_ite₂ (fun _ => simL_leaf h _ _) (fun _ => ?_)
      exact simL_after (ihV limit ef (ha && ef.allow) ra rb h)
        (K := fun r acc => readArray env f limit ef ha (n - 1) r acc)
        (K' := fun r acc => readArray env (f + d) limit ef ha (n - 1) r acc)
        (fun v => if ha && ef.allow then v :: acc else acc) (fun v => (if ha && ef.allow then v :: acc else acc).reverse)
        (fun ra rb acc h => ihA _ _ _ _ ra rb acc h) (fun r acc => (hk.2.1 limit ef ha (n - 1) r acc).adv.le)
    · intro limit flt ho n ra rb ms h
      rw [efd, ro_succ_eq, ro_succ_eq]
      refine of_ite₂ (fun _ => simL_leaf h _ _) (fun _ => ?_)
      rcases read_sim ht h with ⟨c, ra', rb', e1, e2, hr⟩ | ⟨e1, hu, c, rb', e2, hlt⟩
      · rw [e1, e2]
        simp only
        rcases keyLen_sim ht hr c.toNat with ⟨x, ra2, rb2, e3, e4, hr2, _⟩ | ⟨ra2, e3, hu2, hlt2⟩
        · rw [e3, e4]
          exact sim_roTail ht ihV ihO hk.1 hk.2.2 limit flt ho n ms x ra2 rb2 hr2
        · rw [e3]
          exact Or.inr (Or.inl ⟨rfl, hu2, Nat.lt_of_le_of_lt
            (roTail_took (env := env) hk.1 hk.2.2 limit flt ho n ms _ (keyLenOf_adv _ rb').2).adv.le hlt2⟩)
      · rw [e1, e2]
        refine Or.inr (Or.inl ⟨rfl, hu, ?_⟩)
        exact Nat.lt_of_le_of_lt (Nat.le_trans
          (roTail_took (env := env) hk.1 hk.2.2 limit flt ho n ms _ (keyLenOf_adv _ rb').2).adv.le
          (keyLenOf_adv _ rb').1.le) hlt

/-! ## the filter changes neither the code nor the bytes consumed (unless the unfiltered run is NoMemory) -/

def CRv (x : Code × Val × R × Bool) : Code × R × Bool := (x.1, x.2.2.1, x.2.2.2)
def CRl {α : Type} (x : Code × α × R) : Code × R := (x.1, x.2.2)

/-- `a`: the run with a filter / without destination, `b`: the run with `.all` and a destination -/
def FIv (a b : Code × Val × R × Bool) : Prop := b.1 = .noMemory ∨ CRv a = CRv b
def FIl {α β : Type} (a : Code × α × R) (b : Code × β × R) : Prop := b.1 = .noMemory ∨ CRl a = CRl b

theorem fiv_leaf (e : Code) (v v' : Val) (r : R) (b : Bool) : FIv (e, v, r, b) (e, v', r, b) := Or.inr rfl
theorem fil_leaf {α β : Type} (e : Code) (x : α) (y : β) (r : R) : FIl (e, x, r) (e, y, r) := Or.inr rfl

/-- the left condition is free, the right one holds -/
theorem fiv_ite2 {c c' : Prop} [Decidable c] [Decidable c'] {a a' b b' : Code × Val × R × Bool} (hc' : c')
    (h1 : c → FIv a b) (h2 : ¬ c → FIv a' b) : FIv (if c then a else a') (if c' then b else b') := by
  rw [if_pos hc']
  by_cases h : c
  · rw [if_pos h]; exact h1 h
  · rw [if_neg h]; exact h2 h

theorem crv_rd_sk (g : List Byte → Val) (n : Nat) (r : R) : CRv (rdLeaf g n r) = CRv (skLeaf n r) := by
  unfold rdLeaf skLeaf R.readBytes R.skipBytes
  by_cases hl : r.unread.length ≥ n
  · rw [if_pos hl, if_pos hl]; rfl
  · rw [if_neg hl, if_neg hl]

theorem fiv_rd_rd (g g' : List Byte → Val) (n : Nat) (r : R) : FIv (rdLeaf g n r) (rdLeaf g' n r) :=
  Or.inr ((crv_rd_sk g n r).trans (crv_rd_sk g' n r).symm)
theorem fiv_sk_rd (g' : List Byte → Val) (n : Nat) (r : R) : FIv (skLeaf n r) (rdLeaf g' n r) :=
  Or.inr (crv_rd_sk g' n r).symm

theorem fiv_of_l {α β : Type} (f : α → Val) (f' : β → Val) {x : Code × α × R} {x' : Code × β × R} (h : FIl x x') :
    FIv (x.1, f x.2.1, x.2.2, true) (x'.1, f' x'.2.1, x'.2.2, true) := by
  rcases h with h | h
  · exact Or.inl h
  · have h1 : x.1 = x'.1 := congrArg (fun y : Code × R => y.1) h
    have h2 : x.2.2 = x'.2.2 := congrArg (fun y : Code × R => y.2) h
    exact Or.inr (show (x.1, x.2.2, true) = (x'.1, x'.2.2, true) by rw [h1, h2])

/-- After a value under the two filters: both runs go on from the same reader, or both stop with the same code. -/
theorem fil_after {α α' β β' : Type} {xa xb : Code × Val × R × Bool} (hv : FIv xa xb)
    {K : R → β → Code × α × R} {K' : R → β' → Code × α' × R} (A : Val → β) (S : Val → α) (A' : Val → β') (S' : Val → α')
    (hK : ∀ r acc acc', FIl (K r acc) (K' r acc')) :
    FIl (if xa.1 = .ok then K xa.2.2.1 (A xa.2.1) else (xa.1, S xa.2.1, xa.2.2.1))
      (if xb.1 = .ok then K' xb.2.2.1 (A' xb.2.1) else (xb.1, S' xb.2.1, xb.2.2.1)) := by
  rcases hv with h | h
  · rw [h, if_neg (by decide : ¬ Code.noMemory = Code.ok)]
    exact Or.inl rfl
  · have h1 : xa.1 = xb.1 := congrArg (fun y : Code × R × Bool => y.1) h
    have h2 : xa.2.2.1 = xb.2.2.1 := congrArg (fun y : Code × R × Bool => y.2.1) h
    rw [h1, h2]
    exact of_ite₂ (fun _ => hK _ _ _) (fun _ => fil_leaf _ _ _ _)

section fi
variable {env : Env} {RA : RAfun} {RO : ROfun}

theorem all_aa : (true && Flt.all.allowArray) = true := rfl
theorem all_ao : (true && Flt.all.allowObject) = true := rfl

theorem fi_pvTail
    (hA : ∀ l ef ha n r acc acc', FIl (RA l ef ha n r acc) (RA l .all true n r acc'))
    (hO : ∀ l fl ho n r ms ms', FIl (RO l fl ho n r ms) (RO l .all true n r ms'))
    (limit : Nat) (flt : Flt) (hd : Bool) (code : Byte) (x : Option (List Byte × Nat) × R) :
    FIv (pvTail env RA RO limit flt hd code x) (pvTail env RA RO limit .all true code x) := by
  obtain ⟨o, r⟩ := x
  cases o with
  | none => exact fiv_leaf _ _ _ _ _
  | some y =>
    obtain ⟨hb, size⟩ := y
    simp only [pvTail, show Flt.all.subIdx = Flt.all from rfl]
    refine of_ite₂ (fun _ => ?_) (fun _ => ?_)
    · cases limit with
      | zero => exact fiv_leaf _ _ _ _ _
      | succ l =>
        simp only
        refine fiv_ite2 all_aa (fun _ => ?_) (fun _ => ?_)
        · exact fiv_of_l (fun vs => Val.arr vs) (fun vs => Val.arr vs) (hA l flt.subIdx true size r [] [])
        · exact fiv_of_l (fun _ => Val.null) (fun vs => Val.arr vs) (hA l flt.subIdx false size r [] [])
    refine of_ite₂ (fun _ => ?_) (fun _ => ?_)
    · cases limit with
      | zero => exact fiv_leaf _ _ _ _ _
      | succ l =>
        simp only
        refine fiv_ite2 all_ao (fun _ => ?_) (fun _ => ?_)
        · exact fiv_of_l (fun ms => Val.obj ms) (fun ms => Val.obj ms) (hO l flt true size r [] [])
        · exact fiv_of_l (fun _ => Val.null) (fun ms => Val.obj ms) (hO l flt false size r [] [])
    refine of_ite₂ (fun _ => ?_) (fun _ => ?_)
    · refine fiv_ite2 all_av (fun _ => ?_) (fun _ => ?_)
      · exact of_ite₂ (fun _ => fiv_leaf _ _ _ _ _) (fun _ => fiv_rd_rd _ _ _ _)
      · by_cases hs : size > env.maxStrLen
        · rw [if_pos hs]; exact Or.inl rfl
        · rw [if_neg hs]; exact fiv_sk_rd _ _ _
    · generalize (if (szPair code.toNat).2 = true then size + 1 else size) = sz
      refine fiv_ite2 all_av (fun _ => ?_) (fun _ => ?_)
      · exact of_ite₂ (fun _ => fiv_leaf _ _ _ _ _) (fun _ => fiv_rd_rd _ _ _ _)
      · by_cases hs : 1 + szBytes code.toNat + sz > env.maxStrLen
        · rw [if_pos hs]; exact Or.inl rfl
        · rw [if_neg hs]; exact fiv_sk_rd _ _ _

theorem fi_pvAfter
    (hA : ∀ l ef ha n r acc acc', FIl (RA l ef ha n r acc) (RA l .all true n r acc'))
    (hO : ∀ l fl ho n r ms ms', FIl (RO l fl ho n r ms) (RO l .all true n r ms'))
    (limit : Nat) (flt : Flt) (hd : Bool) (code : Byte) (r : R) :
    FIv (pvAfter env RA RO limit flt hd code r) (pvAfter env RA RO limit .all true code r) := by
  simp only [pvAfter]
  refine of_ite₂ (fun _ => ?_) (fun _ => ?_)
  · exact fiv_ite2 all_av (fun _ => fiv_rd_rd _ _ _ _) (fun _ => fiv_sk_rd _ _ _)
  refine of_ite₂ (fun _ => fiv_leaf _ _ _ _ _) (fun _ => ?_)
  refine of_ite₂ (fun _ => fiv_leaf _ _ _ _ _) (fun _ => ?_)
  refine of_ite₂ (fun _ => fiv_leaf _ _ _ _ _) (fun _ => ?_)
  refine of_ite₂ (fun _ => ?_) (fun _ => ?_)
  · exact fiv_ite2 all_av (fun _ => fiv_rd_rd _ _ _ _) (fun _ => fiv_sk_rd _ _ _)
  refine of_ite₂ (fun _ => ?_) (fun _ => ?_)
  · exact fiv_ite2 all_av (fun _ => fiv_rd_rd _ _ _ _) (fun _ => fiv_sk_rd _ _ _)
  refine of_ite₂ (fun _ => fiv_leaf _ _ _ _ _) (fun _ => ?_)
  exact fi_pvTail hA hO limit flt hd code _

theorem fi_roTail {PV : PVfun}
    (hV : ∀ l fl b r, FIv (PV l fl b r) (PV l .all true r))
    (hO : ∀ l fl ho n r ms ms', FIl (RO l fl ho n r ms) (RO l .all true n r ms'))
    (limit : Nat) (flt : Flt) (ho : Bool) (n : Nat) (ms ms' : List (List Byte × Val)) (x : Option (Option Nat) × R) :
    FIl (roTail env PV RO limit flt ho n ms x) (roTail env PV RO limit .all true n ms' x) := by
  obtain ⟨o, r⟩ := x
  cases o with
  | none => exact fil_leaf _ _ _ _
  | some y =>
    cases y with
    | none => exact fil_leaf _ _ _ _
    | some len =>
      simp only [roTail]
      refine of_ite₂ (fun _ => fil_leaf _ _ _ _) (fun _ => ?_)
      generalize r.readBytes len = z
      obtain ⟨o2, r2⟩ := z
      cases o2 with
      | none => exact fil_leaf _ _ _ _
      | some key =>
        simp only []
        rw [roVal_eq, roVal_eq]
        exact fil_after (hV limit (flt.subKey key) (ho && (flt.subKey key).allow) r2)
          (K := fun r acc => RO limit flt ho (n - 1) r acc) (K' := fun r acc => RO limit .all true (n - 1) r acc)
          (fun v => if ho && (flt.subKey key).allow then ms ++ [(key, v)] else ms)
          (fun v => if ho && (flt.subKey key).allow then ms ++ [(key, v)] else ms)
          (fun v => if true && (Flt.all.subKey key).allow then ms' ++ [(key, v)] else ms')
          (fun v => if true && (Flt.all.subKey key).allow then ms' ++ [(key, v)] else ms')
          (fun r acc acc' => hO _ _ _ _ r acc acc')

end fi

theorem fi_mutual (env : Env) : ∀ f,
    (∀ limit flt hd r, FIv (parseVariant env f limit flt hd r) (parseVariant env f limit .all true r)) ∧
    (∀ limit ef ha n r acc acc', FIl (readArray env f limit ef ha n r acc) (readArray env f limit .all true n r acc')) ∧
    (∀ limit flt ho n r ms ms', FIl (readObject env f limit flt ho n r ms) (readObject env f limit .all true n r ms')) := by
  intro f
  induction f with
  | zero =>
    refine ⟨?_, ?_, ?_⟩
    · intro limit flt hd r; simp only [parseVariant]; exact Or.inr rfl
    · intro limit ef ha n r acc acc'; simp only [readArray]; exact Or.inr rfl
    · intro limit flt ho n r ms ms'; simp only [readObject]; exact Or.inr rfl
  | succ f ih =>
    obtain ⟨ihV, ihA, ihO⟩ := ih
    refine ⟨?_, ?_, ?_⟩
    · intro limit flt hd r
      rw [pv_succ, pv_succ]
      generalize r.read = x
      obtain ⟨o, r1⟩ := x
      cases o with
      | none => exact Or.inr rfl
      | some c => exact fi_pvAfter ihA ihO limit flt hd c r1
    · intro limit ef ha n r acc acc'
      rw [ra_succ_if, ra_succ_if]
      refine of_ite₂ (fun _ => fil_leaf _ _ _ _) (fun _ => ?_)
      exact fil_after (ihV limit ef (ha && ef.allow) r)
        (K := fun r acc => readArray env f limit ef ha (n - 1) r acc)
        (K' := fun r acc => readArray env f limit .all true (n - 1) r acc)
        (fun v => if ha && ef.allow then v :: acc else acc) (fun v => (if ha && ef.allow then v :: acc else acc).reverse)
        (fun v => if true && Flt.all.allow then v :: acc' else acc')
        (fun v => (if true && Flt.all.allow then v :: acc' else acc').reverse)
        (fun r acc acc' => ihA _ _ _ _ r acc acc')
    · intro limit flt ho n r ms ms'
      rw [ro_succ_eq, ro_succ_eq]
      refine of_ite₂ (fun _ => fil_leaf _ _ _ _) (fun _ => ?_)
      generalize r.read = x
      obtain ⟨o, r1⟩ := x
      cases o with
      | none => exact fil_leaf _ _ _ _
      | some c => exact fi_roTail ihV ihO limit flt ho n ms ms' _

/-! ## well-formed encodings in any legal width (str / bin / ext / fixext / containers), accepted by the reader -/

/-- one value without children, in any legal width, within the limits of the reader -/
inductive LeafEnc (env : Env) : List Byte → Prop
  | posfix (c : Byte) : c.toNat ≤ 0x7f → LeafEnc env [c]
  | negfix (c : Byte) : 0xe0 ≤ c.toNat → LeafEnc env [c]
  | nil : LeafEnc env [0xC0]
  | bool (b : Bool) : LeafEnc env [if b then 0xC3 else 0xC2]
  | int (code : Byte) (bs : List Byte) : 0xcc ≤ code.toNat → code.toNat ≤ 0xd3 →
      bs.length = 2^((code.toNat - 0xcc) % 4) → LeafEnc env (code :: bs)
  | f32 (bs : List Byte) : bs.length = 4 → LeafEnc env (0xCA :: bs)
  | f64 (bs : List Byte) : bs.length = 8 → LeafEnc env (0xCB :: bs)
  | fixstr (c : Byte) (s : List Byte) : c.toNat = 0xa0 + s.length → s.length < 32 → s.length ≤ env.maxStrLen →
      LeafEnc env (c :: s)
  | str8 (hb s : List Byte) : hb.length = 1 → beNat hb = s.length → s.length ≤ env.maxStrLen →
      LeafEnc env (0xD9 :: (hb ++ s))
  | str16 (hb s : List Byte) : hb.length = 2 → beNat hb = s.length → s.length ≤ env.maxStrLen →
      LeafEnc env (0xDA :: (hb ++ s))
  | str32 (hb s : List Byte) : hb.length = 4 → beNat hb = s.length → s.length ≤ env.maxStrLen →
      LeafEnc env (0xDB :: (hb ++ s))
  | bin (code : Byte) (j : Nat) (hb s : List Byte) : j < 3 → code.toNat = 0xc4 + j → hb.length = 2^j →
      beNat hb = s.length → 1 + 2^j + s.length ≤ env.maxStrLen → LeafEnc env (code :: (hb ++ s))
  | ext (code : Byte) (j : Nat) (hb pl : List Byte) : j < 3 → code.toNat = 0xc7 + j → hb.length = 2^j →
      pl.length = beNat hb + 1 → 1 + 2^j + pl.length ≤ env.maxStrLen → LeafEnc env (code :: (hb ++ pl))
  | fixext (code : Byte) (j : Nat) (pl : List Byte) : j < 5 → code.toNat = 0xd4 + j →
      pl.length = 2^j + 1 → 1 + pl.length ≤ env.maxStrLen → LeafEnc env (code :: pl)

inductive ArrHdr : List Byte → Nat → Prop
  | fix (c : Byte) (n : Nat) : c.toNat = 0x90 + n → n < 16 → ArrHdr [c] n
  | a16 (hb : List Byte) (n : Nat) : hb.length = 2 → beNat hb = n → ArrHdr (0xDC :: hb) n
  | a32 (hb : List Byte) (n : Nat) : hb.length = 4 → beNat hb = n → ArrHdr (0xDD :: hb) n

inductive MapHdr : List Byte → Nat → Prop
  | fix (c : Byte) (n : Nat) : c.toNat = 0x80 + n → n < 16 → MapHdr [c] n
  | m16 (hb : List Byte) (n : Nat) : hb.length = 2 → beNat hb = n → MapHdr (0xDE :: hb) n
  | m32 (hb : List Byte) (n : Nat) : hb.length = 4 → beNat hb = n → MapHdr (0xDF :: hb) n

/-- a map key: fixstr or str 8 / 16 / 32 -/
inductive KeyEnc (env : Env) : List Byte → Prop
  | fix (c : Byte) (k : List Byte) : c.toNat = 0xa0 + k.length → k.length < 32 → k.length ≤ env.maxStrLen →
      KeyEnc env (c :: k)
  | sized (code : Byte) (j : Nat) (hb k : List Byte) : j < 3 → code.toNat = 0xd9 + j → hb.length = 2^j →
      beNat hb = k.length → k.length ≤ env.maxStrLen → KeyEnc env (code :: (hb ++ k))

/-- `Enc env d e`: `e` is the MessagePack encoding of one value, any legal width at every place, at most `d` containers deep,
    strings / binaries / keys within `env.maxStrLen` -/
inductive Enc (env : Env) : Nat → List Byte → Prop
  | leaf {d : Nat} {e : List Byte} : LeafEnc env e → Enc env d e
  | arr {d : Nat} (hdr : List Byte) (es : List (List Byte)) : ArrHdr hdr es.length → (∀ e ∈ es, Enc env d e) →
      Enc env (d + 1) (hdr ++ es.flatten)
  | map {d : Nat} (hdr : List Byte) (kvs : List (List Byte × List Byte)) : MapHdr hdr kvs.length →
      (∀ kv ∈ kvs, KeyEnc env kv.1) → (∀ kv ∈ kvs, Enc env d kv.2) →
      Enc env (d + 1) (hdr ++ (kvs.map (fun kv => kv.1 ++ kv.2)).flatten)

theorem leaf_nonempty {env : Env} {e : List Byte} (h : LeafEnc env e) : 1 ≤ e.length := by
  cases h <;> exact Nat.le_add_left 1 _

theorem arrHdr_accept {hdr : List Byte} {n : Nat} (h : ArrHdr hdr n) (env : Env) (fuel limit : Nat) (t : List Byte)
    (p : Nat) :
    parseVariant env (fuel+1) (limit+1) .all true ⟨hdr ++ t, p⟩
      = arrResult (readArray env fuel limit .all true n ⟨t, p + hdr.length⟩ []) := by
  cases h with
  | fix c n h1 h2 => exact pv_fixarr env fuel limit p c n t h1 h2
  | a16 hb n h1 h2 =>
    rw [List.cons_append, pv_arr_sized env fuel limit p 0xDC 0 (by omega) rfl hb t n h1 h2]
    simp only [List.length_cons, h1]
  | a32 hb n h1 h2 =>
    rw [List.cons_append, pv_arr_sized env fuel limit p 0xDD 1 (by omega) rfl hb t n h1 h2]
    simp only [List.length_cons, h1]

theorem mapHdr_accept {hdr : List Byte} {n : Nat} (h : MapHdr hdr n) (env : Env) (fuel limit : Nat) (t : List Byte)
    (p : Nat) :
    parseVariant env (fuel+1) (limit+1) .all true ⟨hdr ++ t, p⟩
      = objResult (readObject env fuel limit .all true n ⟨t, p + hdr.length⟩ []) := by
  cases h with
  | fix c n h1 h2 => exact pv_fixmap env fuel limit p c n t h1 h2
  | m16 hb n h1 h2 =>
    rw [List.cons_append, pv_map_sized env fuel limit p 0xDE 0 (by omega) rfl hb t n h1 h2]
    simp only [List.length_cons, h1]
  | m32 hb n h1 h2 =>
    rw [List.cons_append, pv_map_sized env fuel limit p 0xDF 1 (by omega) rfl hb t n h1 h2]
    simp only [List.length_cons, h1]

theorem arrHdr_nonempty {hdr : List Byte} {n : Nat} (h : ArrHdr hdr n) : 1 ≤ hdr.length := by
  cases h <;> exact Nat.le_add_left 1 _
theorem mapHdr_nonempty {hdr : List Byte} {n : Nat} (h : MapHdr hdr n) : 1 ≤ hdr.length := by
  cases h <;> exact Nat.le_add_left 1 _

/-! the container headers the serializer writes -/
theorem arrHdr_ok (n : Nat) (h : n < 2^32) : ArrHdr (arrHdr n) n := by
  unfold arrHdr
  split
  · exact .fix _ n (ofNat_toNat _ (by omega)) ‹_›
  · split
    · exact .a16 _ n (beN_length _ _) (beNat_beN2 _ (by omega))
    · exact .a32 _ n (beN_length _ _) (beNat_beN4 _ (by omega))

theorem mapHdr_ok (n : Nat) (h : n < 2^32) : MapHdr (mapHdr n) n := by
  unfold mapHdr
  split
  · exact .fix _ n (ofNat_toNat _ (by omega)) ‹_›
  · split
    · exact .m16 _ n (beN_length _ _) (beNat_beN2 _ (by omega))
    · exact .m32 _ n (beN_length _ _) (beNat_beN4 _ (by omega))

theorem pv_arr (env : Env) (fuel limit p k : Nat) (t : List Byte) (h32 : k < 2^32) :
    parseVariant env (fuel+1) (limit+1) .all true ⟨arrHdr k ++ t, p⟩
      = arrResult (readArray env fuel limit .all true k ⟨t, p + (arrHdr k).length⟩ []) :=
  arrHdr_accept (arrHdr_ok k h32) env fuel limit t p

theorem pv_map (env : Env) (fuel limit p k : Nat) (t : List Byte) (h32 : k < 2^32) :
    parseVariant env (fuel+1) (limit+1) .all true ⟨mapHdr k ++ t, p⟩
      = objResult (readObject env fuel limit .all true k ⟨t, p + (mapHdr k).length⟩ []) :=
  mapHdr_accept (mapHdr_ok k h32) env fuel limit t p

/-- reading a key in any legal width, whatever the value parser then does -/
theorem ro_key_enc {env : Env} {kb : List Byte} (hk : KeyEnc env kb) (fuel limit p n : Nat) (t : List Byte)
    (ms : List (List Byte × Val)) :
    ∃ k, readObject env (fuel+1) limit .all true (n+1) ⟨kb ++ t, p⟩ ms
      = roVal (parseVariant env fuel) (readObject env fuel) limit .all true (n+1) ms k ⟨t, p + kb.length⟩ := by
  cases hk with
  | fix c k h1 h2 h3 =>
    refine ⟨k, ?_⟩
    rw [List.cons_append, ro_key_fix_eq env fuel limit p .all true n c k t ms h1 h2 h3, List.length_cons,
      Nat.add_right_comm, Nat.add_assoc p]
  | sized code j hb k h1 h2 h3 h4 h5 =>
    refine ⟨k, ?_⟩
    rw [List.cons_append, List.append_assoc, ro_key_sized_eq env fuel limit p .all true n code j h1 h2 hb k t ms h3 h4 h5]
    simp only [List.length_cons, List.length_append, h3]
    congr 2; omega

/-- reading a key in any legal width, the value being accepted -/
theorem ro_key_any {env : Env} {kb : List Byte} (hk : KeyEnc env kb) (fuel limit p n : Nat) (t : List Byte)
    (ms : List (List Byte × Val)) (v : Val) (r' : R) (b : Bool)
    (h : parseVariant env fuel limit .all true ⟨t, p + kb.length⟩ = (.ok, v, r', b)) :
    ∃ k, readObject env (fuel+1) limit .all true (n+1) ⟨kb ++ t, p⟩ ms
      = readObject env fuel limit .all true n r' (ms ++ [(k, v)]) := by
  obtain ⟨k, hk⟩ := ro_key_enc hk fuel limit p n t ms
  exact ⟨k, by rw [hk, roVal_ok limit h]; rfl⟩

theorem keyEnc_nonempty {env : Env} {kb : List Byte} (h : KeyEnc env kb) : 1 ≤ kb.length := by
  cases h <;> exact Nat.le_add_left 1 _

theorem enc_nonempty {env : Env} {d : Nat} {e : List Byte} (h : Enc env d e) : 1 ≤ e.length := by
  cases h with
  | leaf hl => exact leaf_nonempty hl
  | arr hdr es hh _ => have := arrHdr_nonempty hh; simp only [List.length_append]; omega
  | map hdr kvs hh _ _ => have := mapHdr_nonempty hh; simp only [List.length_append]; omega

/-- the acceptance statement for one encoding -/
def Accepted (env : Env) (d : Nat) (e : List Byte) : Prop :=
  ∀ fuel limit rest p, d ≤ limit → 2 * e.length ≤ fuel →
    ∃ v, parseVariant env fuel limit .all true ⟨e ++ rest, p⟩ = (.ok, v, ⟨rest, p + e.length⟩, true)

/-- `readArray` over complete elements (any legal width), something else following -/
theorem ra_prefix_enc (env : Env) (d l : Nat) (hdl : d ≤ l) (tail : List Byte) : ∀ (es : List (List Byte)),
    (∀ e ∈ es, 1 ≤ e.length ∧ Accepted env d e) → ∀ (g n q : Nat) (acc : List Val), 2 * es.flatten.length + 1 ≤ g →
    es.length ≤ n →
    ∃ acc', readArray env g l .all true n ⟨es.flatten ++ tail, q⟩ acc
      = readArray env (g - es.length) l .all true (n - es.length) ⟨tail, q + es.flatten.length⟩ acc' := by
  intro es
  induction es with
  | nil => intro _ g n q acc _ _; exact ⟨acc, by simp⟩
  | cons e r ih =>
    intro hes g n q acc hg hn
    obtain ⟨he1, heA⟩ := hes e (List.mem_cons_self ..)
    simp only [List.flatten_cons, List.length_append, List.length_cons] at hg hn
    obtain ⟨g', rfl⟩ : ∃ g', g = g' + 1 := ⟨g - 1, by omega⟩
    obtain ⟨n', rfl⟩ : ∃ n', n = n' + 1 := ⟨n - 1, by omega⟩
    obtain ⟨v, hv⟩ := heA g' l (r.flatten ++ tail) q hdl (by omega)
    obtain ⟨acc', hacc⟩ := ih (fun e' he' => hes e' (List.mem_cons_of_mem _ he')) g' n' (q + e.length) (v :: acc)
      (by omega) (by omega)
    refine ⟨acc', ?_⟩
    simp only [List.flatten_cons, List.length_cons, List.append_assoc, List.length_append]
    rw [ra_succ env g' l n' _ _ acc _ _ hv, hacc, Nat.add_assoc, Nat.add_sub_add_right, Nat.add_sub_add_right]

/-- `readObject` over complete members (any legal width), something else following -/
theorem ro_prefix_enc (env : Env) (d l : Nat) (hdl : d ≤ l) (tail : List Byte) :
    ∀ (kvs : List (List Byte × List Byte)),
    (∀ kv ∈ kvs, KeyEnc env kv.1) → (∀ kv ∈ kvs, 1 ≤ kv.2.length ∧ Accepted env d kv.2) →
    ∀ (g n q : Nat) (acc : List (List Byte × Val)), 2 * (kvs.map (fun kv => kv.1 ++ kv.2)).flatten.length + 1 ≤ g →
    kvs.length ≤ n →
    ∃ acc', readObject env g l .all true n ⟨(kvs.map (fun kv => kv.1 ++ kv.2)).flatten ++ tail, q⟩ acc
      = readObject env (g - kvs.length) l .all true (n - kvs.length)
          ⟨tail, q + (kvs.map (fun kv => kv.1 ++ kv.2)).flatten.length⟩ acc' := by
  intro kvs
  induction kvs with
  | nil => intro _ _ g n q acc _ _; exact ⟨acc, by simp⟩
  | cons kv r ih =>
    intro hks hvs g n q acc hg hn
    obtain ⟨kb, vb⟩ := kv
    have hk := hks (kb, vb) (List.mem_cons_self ..)
    obtain ⟨he1, heA⟩ := hvs (kb, vb) (List.mem_cons_self ..)
    have hk1 := keyEnc_nonempty hk
    simp only [List.map_cons, List.flatten_cons, List.length_append, List.length_cons] at hg hn he1 heA
    obtain ⟨g', rfl⟩ : ∃ g', g = g' + 1 := ⟨g - 1, by omega⟩
    obtain ⟨n', rfl⟩ : ∃ n', n = n' + 1 := ⟨n - 1, by omega⟩
    obtain ⟨v, hv⟩ := heA g' l ((r.map (fun kv => kv.1 ++ kv.2)).flatten ++ tail) (q + kb.length) hdl (by omega)
    obtain ⟨k, hkk⟩ := ro_key_any hk g' l q n' (vb ++ ((r.map (fun kv => kv.1 ++ kv.2)).flatten ++ tail)) acc v _ _ hv
    obtain ⟨acc', hacc⟩ := ih (fun kv' h' => hks kv' (List.mem_cons_of_mem _ h'))
      (fun kv' h' => hvs kv' (List.mem_cons_of_mem _ h')) g' n' (q + kb.length + vb.length) (acc ++ [(k, v)])
      (by omega) (by omega)
    refine ⟨acc', ?_⟩
    simp only [List.map_cons, List.flatten_cons, List.length_cons, List.append_assoc, List.length_append]
    rw [hkk, hacc]
    simp only [Nat.add_assoc, Nat.add_sub_add_right]

theorem flatten_length_ge (es : List (List Byte)) (h : ∀ e ∈ es, 1 ≤ e.length) : es.length ≤ es.flatten.length := by
  induction es with
  | nil => exact Nat.le_refl 0
  | cons e r ih =>
    have h1 := h e (List.mem_cons_self ..)
    have h2 := ih (fun e' he' => h e' (List.mem_cons_of_mem _ he'))
    simp only [List.flatten_cons, List.length_append, List.length_cons]; omega

end MD
