/- The document and the builder never feed back into the reader: a property of the reader that `current()`, `move()` and
   setting `found` keep (`JD.LatchClosed`, AJ/Lemmas/LatchClosed.lean) is kept by the FILTERED slot-level JSON deserializer
   `JDDF.parseVariant / parseElems / parseMembers`, for every filter, document and allocator schedule (`JDDF.keep_all`).
   With the position invariant `JD.Inv n s` (`pos + |unread| = n`, AJ/Lemmas/JDPos.lean): the filtered slot-level run never
   takes more bytes than the input has (`JDDF.pos_run_le`). No hypothesis (allocation failures stop the run earlier, never
   later). Used by AJ/Props/SlotCor2.lean. -/
import AJ.Lemmas.JddfInv
import AJ.Lemmas.JDPosF
namespace JDDF
open DL JDD
open JD (Byte Code Cfg Flt LatchClosed cur mv skipSpaces skipKeyword skipVariant skipElems skipMembers skipQuoted skipNumeric)

theorem memberSlot_s (x : S) (l : Loc) (key : List Byte) : (memberSlot x l key).2.s = x.s := by
  unfold memberSlot
  cases x.d.findKey l key with
  | some p => rfl
  | none =>
    simp only
    have := (save_spec x key).s
    generalize addMemberNode (save x key).2.d l (save x key).1 = r
    obtain ⟨o, d2⟩ := r
    cases o <;> exact this

theorem boolAt_s (allow b : Bool) (l : Loc) (x : S) : (boolAt allow b l x).s = x.s := by
  unfold boolAt
  split <;> rfl

section
variable {P : JD.St → Prop} (hP : LatchClosed P)
include hP

/-! ## the tokens that go through the builder -/

theorem keep_quoted (cfg : Cfg) (fuel : Nat) (stop : Byte) (x : S) (h : P x.s) : P (quoted cfg fuel stop x).2.2.s := by
  have hq := JD.kept_parseQuoted hP (cfg := cfg) (stop := stop) fuel [] 0 (startString x).s
    (by rw [(startString_spec x).2.1]; exact h)
  unfold quoted
  simp only
  generalize JD.parseQuoted cfg stop fuel [] 0 (startString x).s = r at hq
  obtain ⟨c, bytes, s⟩ := r
  simp only at hq ⊢
  rw [(appendN_spec _ _ _ _).s]; exact hq

theorem keep_unquoted (cfg : Cfg) (fuel : Nat) (x : S) (h : P x.s) : P (unquoted cfg fuel x).2.2.s := by
  have hq := JD.kept_parseUnquoted hP fuel [] (startString x).s (by rw [(startString_spec x).2.1]; exact h)
  unfold unquoted
  simp only
  generalize JD.parseUnquoted fuel [] (startString x).s = r at hq
  obtain ⟨bytes, s⟩ := r
  simp only at hq ⊢
  rw [(appendN_spec _ _ _ _).s]; exact hq

theorem keep_numeric (cfg : Cfg) (l : Loc) (x : S) (h : P x.s) : P (numeric cfg l x).2.s := by
  have hq := JD.kept_scanNumber hP (cfg := cfg) (Gen.number_buffer - 1) [] x.s h
  unfold numeric
  simp only
  generalize JD.scanNumber cfg (Gen.number_buffer - 1) [] x.s = r at hq
  obtain ⟨buf, s⟩ := r
  simp only at hq ⊢
  split <;> exact hq

theorem keep_keyToken (cfg : Cfg) (f : Nat) (c : Byte) (x : S) (h : P x.s) : P (keyToken cfg f c x).2.2.s := by
  unfold keyToken
  split
  · exact keep_quoted hP cfg _ c { x with s := mv x.s } (hP.mv h)
  · split
    · exact keep_unquoted hP cfg _ x h
    · show P (startString x).s
      rw [(startString_spec x).2.1]; exact h

theorem keep_stringAt (cfg : Cfg) (f : Nat) (c : Byte) (l : Loc) (x : S) (h : P x.s) : P (stringAt cfg f c l x).2.s := by
  have hq := keep_quoted hP cfg (f+1) c { x with s := mv x.s } (hP.mv h)
  unfold stringAt
  split
  · rename_i bytes x1 heq
    rw [heq] at hq
    show P (save x1 bytes).2.s
    rw [(save_spec x1 bytes).s]; exact hq
  · rename_i heq; rw [heq] at hq; exact hq

/-! ## the pieces of a round (AJ/Lemmas/JddfStep.lean) -/

theorem keep_afterOpen (cfg : Cfg) (f : Nat) (close : Byte) {k : S → Code × S} (x : S) (h : P x.s)
    (hk : ∀ y, P y.s → P (k y).2.s) : P (afterOpen cfg f close k x).2.s := by
  have h1 := JD.kept_skipSpaces hP (cfg := cfg) (f+1) _ (hP.mv h)
  unfold afterOpen
  split
  · rename_i s heq
    rw [heq] at h1
    split
    · exact hP.mv (hP.cur h1)
    · exact hk _ (hP.cur h1)
  · rename_i heq; rw [heq] at h1; exact h1

theorem keep_openAt (cfg : Cfg) (f limit : Nat) (close : Byte) (v : VData) (l : Loc) {k : Nat → S → Code × S} (x : S)
    (h : P x.s) (hk : ∀ li y, P y.s → P (k li y).2.s) : P (openAt cfg f limit close v l k x).2.s := by
  unfold openAt
  split
  · exact h
  · exact keep_afterOpen hP cfg f close { x with d := x.d.set l v } h (hk _)

omit hP in
theorem keep_skipAt (limit : Nat) {k : Nat → S → Code × S} (x : S) (h : P x.s) (hk : ∀ li, P (k li x).2.s) :
    P (skipAt limit k x).2.s := by
  unfold skipAt
  split
  · exact h
  · exact hk _

theorem keep_elemsTail (cfg : Cfg) (f : Nat) {k : S → Code × S} (x : S) (h : P x.s) (hk : ∀ y, P y.s → P (k y).2.s) :
    P (elemsTail cfg f k x).2.s := by
  have h1 := JD.kept_skipSpaces hP (cfg := cfg) (f+1) _ h
  unfold elemsTail
  split
  · rename_i s heq
    rw [heq] at h1
    split
    · exact hP.mv (hP.cur h1)
    · split
      · exact hk _ (hP.mv (hP.cur h1))
      · exact hP.cur h1
  · rename_i heq; rw [heq] at h1; exact h1

theorem keep_membersTail (cfg : Cfg) (f : Nat) {k : S → Code × S} (x : S) (h : P x.s) (hk : ∀ y, P y.s → P (k y).2.s) :
    P (membersTail cfg f k x).2.s := by
  have h1 := JD.kept_skipSpaces hP (cfg := cfg) (f+1) _ h
  unfold membersTail
  split
  · rename_i s heq
    rw [heq] at h1
    split
    · exact hP.mv (hP.cur h1)
    · split
      · have h2 := JD.kept_skipSpaces hP (cfg := cfg) (f+1) _ (hP.mv (hP.cur h1))
        split
        · rename_i heq2; rw [heq2] at h2; exact hk _ h2
        · rename_i heq2; rw [heq2] at h2; exact h2
      · exact hP.cur h1
  · rename_i heq; rw [heq] at h1; exact h1

omit hP in
theorem keep_andThen {r : Code × S} {tail : S → Code × S} (hr : P r.2.s) (ht : ∀ y, P y.s → P (tail y).2.s) :
    P (andThen r tail).2.s := by
  unfold andThen
  split
  · exact ht _ hr
  · exact hr

omit hP in
theorem keep_memberAt (l : Loc) (key : List Byte) {k : Nat → S → Code × S} (x : S) (h : P x.s)
    (hk : ∀ v y, P y.s → P (k v y).2.s) : P (memberAt l key k x).2.s := by
  unfold memberAt
  have hs := memberSlot_s x l key
  generalize memberSlot x l key = r at hs
  obtain ⟨o, y⟩ := r
  cases o
  · show P y.s; rw [hs]; exact h
  · exact hk _ _ (by rw [hs]; exact h)

theorem keep_memberRest (cfg : Cfg) (f : Nat) {val : S → Code × S} (x : S) (h : P x.s)
    (hv : ∀ y, P y.s → P (val y).2.s) : P (memberRest cfg f val x).2.s := by
  have h1 := JD.kept_skipSpaces hP (cfg := cfg) (f+1) _ h
  unfold memberRest
  split
  · rename_i s heq
    rw [heq] at h1
    split
    · exact hP.cur h1
    · exact hv _ (hP.mv (hP.cur h1))
  · rename_i heq; rw [heq] at h1; exact h1

/-! ## the three routines -/

/-- the three routines with fuel `f` keep `P` -/
def Keeps (P : JD.St → Prop) (cfg : Cfg) (f : Nat) : Prop :=
  (∀ limit flt l x, P x.s → P (parseVariant cfg f limit flt l x).2.s) ∧
  (∀ limit flt l x, P x.s → P (parseElems cfg f limit flt l x).2.s) ∧
  (∀ limit flt l x, P x.s → P (parseMembers cfg f limit flt l x).2.s)

theorem keep_valueAt {cfg : Cfg} {f : Nat} (ih : Keeps P cfg f) (limit : Nat) (flt : Flt) (l : Loc) (c : Byte) (x : S)
    (h : P x.s) : P (valueAt cfg f limit flt l c x).2.s := by
  have sk := JD.kept_skip_mutual hP (cfg := cfg) f
  have hb : ∀ b, P (boolAt flt.allowValue b l x).s := fun b => by rw [boolAt_s]; exact h
  refine valueAt_cases (P := fun r => P r.2.s) cfg f limit flt l c x ?_ ?_ ?_ ?_ ?_ ?_ ?_ ?_ ?_ ?_ ?_
  · exact keep_openAt hP cfg f limit _ _ l x h (fun li y hy => ih.2.1 li _ l y hy)
  · exact keep_skipAt limit x h (fun li => sk.2.1 li _ (hP.mv h))
  · exact keep_openAt hP cfg f limit _ _ l x h (fun li y hy => ih.2.2 li _ l y hy)
  · exact keep_skipAt limit x h (fun li => keep_afterOpen hP cfg f _ x h (fun y hy => sk.2.2 li _ hy))
  · exact keep_stringAt hP cfg f c l x h
  · exact JD.kept_skipQuoted hP _ _ (hP.mv h)
  · exact JD.kept_skipKeyword hP _ _ (hb true)
  · exact JD.kept_skipKeyword hP _ _ (hb false)
  · exact JD.kept_skipKeyword hP _ _ h
  · exact keep_numeric hP cfg l x h
  · exact JD.kept_skipNumeric hP _ _ h

/-- a reader property kept by the latch is kept by each of the three routines, on every path -/
theorem keep_all (cfg : Cfg) : ∀ fuel, Keeps P cfg fuel := by
  intro fuel
  induction fuel with
  | zero => exact ⟨fun _ _ _ _ h => h, fun _ _ _ _ h => h, fun _ _ _ _ h => h⟩
  | succ f ih =>
    have sk := JD.kept_skip_mutual hP (cfg := cfg) f
    refine ⟨fun limit flt l x h => ?_, fun limit ef l x h => ?_, fun limit flt l x h => ?_⟩
    · have h1 := JD.kept_skipSpaces hP (cfg := cfg) (f+1) _ h
      rw [parseVariant_succ]
      split
      · rename_i s heq
        rw [heq] at h1
        exact keep_valueAt hP ih limit flt l (cur s).1 ⟨(cur s).2, x.d, x.b⟩ (hP.cur h1)
      · rename_i heq; rw [heq] at h1; exact h1
    · rw [parseElems_succ]
      refine keep_andThen ?_ (fun y hy => keep_elemsTail hP cfg f y hy (fun z hz => ih.2.1 limit ef l z hz))
      unfold elemHead
      split
      · generalize x.d.addElement l = r
        obtain ⟨o, d1⟩ := r
        cases o
        · exact h
        · exact ih.1 limit ef _ { x with d := d1 } h
      · exact sk.1 limit _ h
    · have hk := keep_keyToken hP cfg f (cur x.s).1 { x with s := (cur x.s).2 } (hP.cur h)
      rw [parseMembers_succ]
      split
      · rename_i key x1 heq
        rw [heq] at hk
        refine keep_memberRest hP cfg f x1 hk (fun y hy => ?_)
        refine keep_andThen ?_ (fun z hz => keep_membersTail hP cfg f z hz (fun w hw => ih.2.2 limit flt l w hw))
        unfold memberHead
        split
        · exact keep_memberAt l key y hy (fun v z hz => ih.1 limit _ _ z hz)
        · exact sk.1 limit _ hy
      · rename_i heq; rw [heq] at hk; exact hk

end

/-- the filtered slot-level JSON run never consumes more bytes than the input has — every filter, document, allocator
    schedule -/
theorem pos_run_le (cfg : Cfg) (limit : Nat) (flt : Flt) (d : Doc) (input : List Byte) :
    (run cfg limit flt d input).2.2 ≤ input.length := by
  have h : JD.Inv input.length (stop cfg limit flt d input).2.s :=
    (keep_all (JD.inv_closed input.length) cfg _).1 limit flt .root (start d input) (JD.inv_start input)
  rw [run_eq]
  exact Nat.le.intro h

end JDDF
