/- C20: footprints of the commands of `DH.step`, end: the observers `obsx`, `obs`, `ledger`; the typed command `Cmd` with
   its text (`Cmd.render`), its footprint (`Cmd.fp`) and `Cmd.local`: the interpreter's step on the text of a command has
   that footprint. Not covered, because they are global by construction (see AJ/Props/C20Hist.lean): `copydoc` (moves the
   allocator logs of ALL documents into the world log), `liveq` (writes the ghost table `dead`), `reset`, `geo`. -/
import AJ.Lemmas.HistFrameCmd3
namespace C20
open DL
open DH (W Ref unhex)
open JD (Byte Val)

/-! ## Observers -/

/-- what `obsx` prints about a value: its conversions and type tests -/
def obsxOut (v : Val) : String :=
  let gi (t : Conv.IT) : String := match Conv.asInt {} v t with | some z => toString z | none => "UB"
  let f := match Conv.asFloatBits {} v SF.b32 with | some b => hexNat b 8 | none => "UB"
  let dd := match Conv.asFloatBits {} v SF.b64 with | some b => hexNat b 16 | none => "UB"
  let asBool : Bool := match v with
    | .null => false | .bool b => b
    | .num (.uint n) => n != 0 | .num (.sint z) => z != 0
    | .num (.f32 b) => b % 2^31 != 0 | .num (.f64 b) => b % 2^63 != 0
    | _ => true
  let b (x : Bool) := if x then "1" else "0"
  let isStr := match v with | .str _ => true | _ => false
  let isb := b (Conv.isIntV v Conv.i64) ++ b (Conv.isFloatV v) ++ b (match v with | .bool _ => true | _ => false) ++ b isStr ++ b isStr ++
             b (match v with | .arr _ => true | _ => false) ++ b (match v with | .obj _ => true | _ => false) ++ b (match v with | .null => true | _ => false)
  let str := match v with | .str x => "S" ++ hexBytes x | _ => "null"
  s!"i64={gi Conv.i64} u64={gi Conv.u64} i8={gi Conv.i8} f={f} d={dd} b={b asBool} is={isb} str={str}"

/-- the value a reference designates (and whether it is bound) -/
def valAt (s : Ref) (docs : Array Doc) : Val × Bool :=
  match s.doc, s.loc with
  | some di, some l => ((docs[di]!).toVal ((docs[di]!).get l), true)
  | _, _ => (Val.null, false)

theorem obsx_eq (w : W) (r : String) : DH.step w ["obsx", r] = (obsxOut (valAt (w.refs[r.toNat!]!) w.docs).1, w) := by
  rfl

/-- any function of the value a reference designates -/
theorem obsVal_local {O : Type} (k : Val → O) (r : Nat) :
    Local (fun w => (k (valAt (w.refs[r]!) w.docs).1, w)) (fpRead r) := by
  refine Local.viaRef r (fun s w => (k (valAt s w.docs).1, w)) (fun _ => none') none' (one r) none' rfl (none_sub _)
    (fun _ _ h => h.elim) (fun o sl ok => ?_)
  cases o with
  | none => exact Local.leafPure (k Val.null) ok
  | some di =>
    cases sl with
    | none => exact Local.leafPure (k Val.null) ok
    | some l => exact Local.obsDocIn di (fun d => k (d.toVal (d.get l))) ok (Or.inl rfl)

theorem obsx_local (r : String) : Local (fun w => DH.step w ["obsx", r]) (fpRead r.toNat!) :=
  Local.of_eq (fun w => obsx_eq w r) (obsVal_local obsxOut r.toNat!)

/-- an observer of the whole world: reads every document and every reference, writes nothing -/
def fpAll : FP := FP.static none' (fun _ => True) (fun _ => True) none'

theorem Local.readAll {O : Type} (k : Array Doc → Array Ref → O) : Local (fun w => (k w.docs w.refs, w)) fpAll :=
  Local.of_static ⟨fun _ h => h.elim, fun _ h => h.elim⟩ (fun _ _ _ => rfl) (fun _ _ _ => rfl) (fun _ => ⟨rfl, rfl, rfl, rfl, rfl⟩)
    (fun w w' hd hr => by
      have e1 : w.docs = w'.docs := Array.ext_getElem? (fun j => hd j trivial)
      have e2 : w.refs = w'.refs := Array.ext_getElem? (fun j => hr j trivial)
      exact ⟨by show k w.docs w.refs = k w'.docs w'.refs; rw [e1, e2], fun _ h => h.elim, fun _ h => h.elim⟩)

/-- what `obs` prints: every document (text, nesting, size, overflow flag), then the listed references -/
def obsOut (docs : Array Doc) (refs : Array Ref) (rs : List String) : String :=
  let ds := (docs.toList.map (fun (d : Doc) => s!"{d.show d.root} n={d.nesting d.root} z={d.size d.root} o={if d.overflowed then 1 else 0} ; "))
  let rs := rs.map (fun r =>
    let s := refs[r.toNat!]!
    match s.doc, s.loc with
    | some di, some l => let d : Doc := docs[di]!; s!"r{r}={d.show (d.get l)} z={d.size (d.get l)} n={d.nesting (d.get l)} "
    | _, _ => s!"r{r}=? z=0 n=0 ")
  String.join ds ++ String.join rs

theorem obs_eq (w : W) (rs : List String) : DH.step w ("obs" :: rs) = (obsOut w.docs w.refs rs, w) := by rfl

/-- what `ledger` prints: live blocks per allocator -/
def ledgerOut (docs : Array Doc) : String :=
  let count (a : Nat) : Nat := docs.toList.foldl (fun acc (d : Doc) =>
    if d.alloc == a then acc + (d.pl.pools.filter (·.hasBlock)).length + (if d.pl.tableHeap then 1 else 0) + d.strings.length else acc) 0
  s!"L0={count 0} L1={count 1} L2={count 2} "
theorem ledger_eq (w : W) : DH.step w ["ledger"] = (ledgerOut w.docs, w) := by rfl

theorem obs_local (rs : List String) : Local (fun w => DH.step w ("obs" :: rs)) fpAll :=
  Local.of_eq (fun w => obs_eq w rs) (Local.readAll (fun d r => obsOut d r rs))
theorem ledger_local : Local (fun w => DH.step w ["ledger"]) fpAll :=
  Local.of_eq ledger_eq (Local.readAll (fun d _ => ledgerOut d))

/-! ## The typed commands -/

/-- a kind of `set`/`setm`/`sete`/`add` that is not a deep copy -/
abbrev ScalarKind (kind : String) : Prop := (kind == "ref" || kind == "doc") = false

/-- The commands of the history interpreter, typed; the fields are the words of the text command (indices of references
    and documents are decimal numerals, read with `String.toNat!`; keys, strings, inputs are hexadecimal). -/
inductive Cmd
  /-- bind reference `r` to the root of document `d` -/
  | root (r d : String)
  /-- `r = r2[key]` (lookup only) -/
  | mem (r r2 k : String) (kk : List String)
  /-- `r = r2[i]` (lookup only) -/
  | elem (r r2 i : String)
  /-- `r = r2[key]`, created if absent -/
  | memw (r r2 k : String) (kk : List String)
  /-- `r = r2[i]`, created if absent -/
  | elemw (r r2 i : String)
  /-- `r = r2.add()` -/
  | addv (r r2 : String)
  /-- `r = r2.to<JsonArray>()` -/
  | toarr (r r2 : String)
  /-- `r = r2.to<JsonObject>()` -/
  | toobj (r r2 : String)
  /-- `r.clear()` -/
  | clear (r : String)
  /-- `r.remove(i)` -/
  | remi (r i : String)
  /-- `r.remove(key)` -/
  | remk (r k : String)
  /-- `deserializeJson(r, input)` -/
  | deserj (r lim hex : String)
  /-- `deserializeMsgPack(r, input)` -/
  | deserm (r lim hex : String)
  /-- `r.set(scalar or string)` -/
  | set (r kind arg : String) (hk : ScalarKind kind)
  /-- `r.set(document k)`: deep copy -/
  | setDoc (r k : String)
  /-- `r.set(r2)`: deep copy of what `r2` designates -/
  | setRef (r r2 : String)
  /-- `r[key] = scalar or string` -/
  | setm (r key kind arg : String) (kk : List String) (hk : ScalarKind kind)
  | setmDoc (r key k : String) (kk : List String)
  | setmRef (r key r2 : String) (kk : List String)
  /-- `r[i] = scalar or string` -/
  | sete (r i kind arg : String) (hk : ScalarKind kind)
  | seteDoc (r i k : String)
  | seteRef (r i r2 : String)
  /-- `r.add(scalar or string)` -/
  | add (r kind arg : String) (hk : ScalarKind kind)
  | addDoc (r k : String)
  | addRef (r r2 : String)
  /-- `document.clear()` -/
  | cleardoc (d : String)
  /-- `document.shrinkToFit()` -/
  | shrink (d : String)
  /-- test harness: the allocator of document `d` fails at / from its k-th next call, never -/
  | failat (d k : String)
  | failfrom (d k : String)
  | nofail (d : String)
  /-- `swap(document d, document e)` -/
  | swapdoc (d e : String)
  /-- read through two chained subscripts -/
  | rd2 (r t1 a1 t2 a2 : String)
  /-- serialize document `d` (JSON and MessagePack) -/
  | hser (d : String)
  /-- conversions and type tests of what `r` designates -/
  | obsx (r : String)
  /-- print every document and the listed references -/
  | obs (rs : List String)
  /-- live blocks per allocator -/
  | ledger

/-- the text of a command, as `DH.step` reads it -/
def Cmd.render : Cmd → List String
  | .root r d => ["root", r, d]
  | .mem r r2 k kk => "mem" :: r :: r2 :: k :: kk
  | .elem r r2 i => ["elem", r, r2, i]
  | .memw r r2 k kk => "memw" :: r :: r2 :: k :: kk
  | .elemw r r2 i => ["elemw", r, r2, i]
  | .addv r r2 => ["addv", r, r2]
  | .toarr r r2 => ["toarr", r, r2]
  | .toobj r r2 => ["toobj", r, r2]
  | .clear r => ["clear", r]
  | .remi r i => ["remi", r, i]
  | .remk r k => ["remk", r, k]
  | .deserj r lim hex => ["deserj", r, lim, hex]
  | .deserm r lim hex => ["deserm", r, lim, hex]
  | .set r kind arg _ => ["set", r, kind, arg]
  | .setDoc r k => ["set", r, "doc", k]
  | .setRef r r2 => ["set", r, "ref", r2]
  | .setm r key kind arg kk _ => "setm" :: r :: key :: kind :: arg :: kk
  | .setmDoc r key k kk => "setm" :: r :: key :: "doc" :: k :: kk
  | .setmRef r key r2 kk => "setm" :: r :: key :: "ref" :: r2 :: kk
  | .sete r i kind arg _ => ["sete", r, i, kind, arg]
  | .seteDoc r i k => ["sete", r, i, "doc", k]
  | .seteRef r i r2 => ["sete", r, i, "ref", r2]
  | .add r kind arg _ => ["add", r, kind, arg]
  | .addDoc r k => ["add", r, "doc", k]
  | .addRef r r2 => ["add", r, "ref", r2]
  | .cleardoc d => ["cleardoc", d]
  | .shrink d => ["shrink", d]
  | .failat d k => ["failat", d, k]
  | .failfrom d k => ["failfrom", d, k]
  | .nofail d => ["nofail", d]
  | .swapdoc d e => ["swapdoc", d, e]
  | .rd2 r t1 a1 t2 a2 => ["rd2", r, t1, a1, t2, a2]
  | .hser d => ["hser", d]
  | .obsx r => ["obsx", r]
  | .obs rs => "obs" :: rs
  | .ledger => ["ledger"]

/-- **The footprint of a command**: documents written / read (through the current binding of its references),
    references used / rebound. -/
def Cmd.fp : Cmd → FP
  | .root r _ => FP.static none' none' (one r.toNat!) (one r.toNat!)
  | .mem r r2 _ _ | .elem r r2 _ => fpNav r.toNat! r2.toNat!
  | .memw r r2 _ _ | .elemw r r2 _ | .addv r r2 | .toarr r r2 | .toobj r r2 => fpNavW r.toNat! r2.toNat!
  | .clear r | .remi r _ | .remk r _ | .deserj r _ _ | .deserm r _ _ => fpMut r.toNat!
  | .set r _ _ _ | .setm r _ _ _ _ _ | .sete r _ _ _ _ | .add r _ _ _ => fpMut r.toNat!
  | .setDoc r k | .setmDoc r _ k _ | .seteDoc r _ k | .addDoc r k => fpCopyDoc r.toNat! k.toNat!
  | .setRef r r2 | .setmRef r _ r2 _ | .seteRef r _ r2 | .addRef r r2 => fpCopyRef r.toNat! r2.toNat!
  | .cleardoc d | .shrink d | .failat d _ | .failfrom d _ | .nofail d => fpDoc d.toNat!
  | .swapdoc d e => FP.static (two d.toNat! e.toNat!) (two d.toNat! e.toNat!) none' none'
  | .rd2 r _ _ _ _ | .obsx r => fpRead r.toNat!
  | .hser d => fpDocRO d.toNat!
  | .obs _ | .ledger => fpAll

/-- the interpreter's step on a command -/
def Cmd.step (c : Cmd) : Step String := fun w => DH.step w c.render

/-- **Every command has its footprint.** -/
theorem Cmd.local (c : Cmd) : Local c.step c.fp := by
  cases c with
  | root r d => exact root_local r d
  | mem r r2 k kk => exact (mem_nav r r2 k kk).local
  | elem r r2 i => exact (elem_nav r r2 i).local
  | memw r r2 k kk => exact (memw_nav r r2 k kk).local
  | elemw r r2 i => exact (elemw_nav r r2 i).local
  | addv r r2 => exact (addv_nav r r2).local
  | toarr r r2 => exact (toarr_nav r r2).local
  | toobj r r2 => exact (toobj_nav r r2).local
  | clear r => exact clear_local r
  | remi r i => exact remi_local r i
  | remk r k => exact remk_local r k
  | deserj r lim hex => exact deserj_local r lim hex
  | deserm r lim hex => exact deserm_local r lim hex
  | set r kind arg hk => exact set_local r kind arg hk
  | setDoc r k => exact setDoc_local r k
  | setRef r r2 => exact setRef_local r r2
  | setm r key kind arg kk hk => exact setm_local r key kind arg kk hk
  | setmDoc r key k kk => exact setmDoc_local r key k kk
  | setmRef r key r2 kk => exact setmRef_local r key r2 kk
  | sete r i kind arg hk => exact sete_local r i kind arg hk
  | seteDoc r i k => exact seteDoc_local r i k
  | seteRef r i r2 => exact seteRef_local r i r2
  | add r kind arg hk => exact add_local r kind arg hk
  | addDoc r k => exact addDoc_local r k
  | addRef r r2 => exact addRef_local r r2
  | cleardoc d => exact cleardoc_local d
  | shrink d => exact shrink_local d
  | failat d k => exact failat_local d k
  | failfrom d k => exact failfrom_local d k
  | nofail d => exact nofail_local d
  | swapdoc d e => exact swapdoc_local d e
  | rd2 r t1 a1 t2 a2 => exact rd2_local r t1 a1 t2 a2
  | hser d => exact hser_local d
  | obsx r => exact obsx_local r
  | obs rs => exact obs_local rs
  | ledger => exact ledger_local

/-- a command as a step packaged with its footprint -/
def Cmd.lstep (c : Cmd) : LStep String := ⟨c.step, c.fp, c.local⟩

end C20
