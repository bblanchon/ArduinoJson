/- Stronger invariants of the slot-level deserializers `JDDF.run` (filtered, AJ/Model/JDDF.lean) and, through the `AllowAll`
   filter, `JDD.run`:
   * (b) `run_bytes_nodup`: no two nodes of the string table hold the same bytes (on every path, failures included);
   * (a) `run_exact`: when no allocation failed, every stored string's reference count is the number of references to it, and ≥ 1;
   * (c) `run_no_leak`: when no allocation failed, every slot that is live in the pools belongs to the layout of the document or
     is an extension slot of one of its values.
   The first goes through the document-only induction of AJ/Lemmas/JddfDStep.lean; the other two are the invariant `Tight`, whose
   step relation `TS` is closed under the builder's operations (`fstep_tight`) and so rides through `parse_all` of
   AJ/Lemmas/JddfInv.lean. -/
import AJ.Lemmas.JddfInv
import AJ.Lemmas.JddfDStep
import AJ.Lemmas.JddMem
import AJ.Lemmas.DocReuse
namespace JDDF
open DL JDD
open JD (Byte Code Cfg Flt cur mv skipSpaces skipKeyword skipVariant skipElems skipMembers skipQuoted skipNumeric)

/-! ## (b) distinct nodes hold distinct byte strings -/

/-- the step `d → d'` keeps "no two string nodes with the same bytes" -/
def BN (d d' : Doc) : Prop := BytesNodup d → BytesNodup d'

theorem BN.refl (d : Doc) : BN d d := fun h => h
theorem BN.trans {d d1 d2 : Doc} (h1 : BN d d1) (h2 : BN d1 d2) : BN d d2 := fun h => h2 (h1 h)

theorem BN.of_strings {d d' : Doc} (h : d'.strings = d.strings) : BN d d' := fun hb => by
  unfold BytesNodup at *; rw [h]; exact hb

theorem BN.of_sub {d d' : Doc} (h : (d'.strings.map (·.bytes)).Sublist (d.strings.map (·.bytes))) : BN d d' :=
  fun hb => List.Nodup.sublist h hb

theorem BN.set (d : Doc) (l : Loc) (v : VData) : BN d (d.set l v) := BN.of_strings (set_strings _ _ _)
theorem BN.pleq {d d' : Doc} (h : PlEq d d') : BN d d' := BN.of_strings h.strings

theorem BN.save (x : S) (bytes : List Byte) : BN x.d (save x bytes).2.d := by
  intro h
  have h' : BytesNodup (calm x.d bytes.length) := h
  have := saveString_bytesNodup (s := bytes) h'
  cases hf : x.d.strings.find? (·.bytes == bytes) with
  | some y =>
    have hf' : (calm x.d bytes.length).strings.find? (·.bytes == bytes) = some y := hf
    rw [saveString_found hf'] at this
    rw [save_eq_found hf]; exact this
  | none =>
    have hf' : (calm x.d bytes.length).strings.find? (·.bytes == bytes) = none := hf
    rw [saveString_short hf' (Nat.le_refl _), calm_failsAt] at this
    simp only [Bool.false_eq_true, if_false] at this
    rw [save_eq_new hf]; exact this

theorem addMemberNode_strings (d : Doc) (l : Loc) (node : Nat) : (addMemberNode d l node).2.strings = d.strings := by
  rcases addMemberNode_cases d l node with ⟨d1, hal1, e⟩ | ⟨k, d1, d2, hal1, hal2, e⟩ | ⟨k, d1, v, d2, hal1, hal2, e⟩
  · rw [e]; have := (allocVariant_pl_s d).2; rw [hal1] at this; exact this
  · rw [e]
    have h1 := (allocVariant_pl_s d).2; rw [hal1] at h1
    have h2 := (allocVariant_pl_s d1).2; rw [hal2] at h2
    exact h2.trans h1
  · rw [e]
    have h1 := (allocVariant_pl_s d).2; rw [hal1] at h1
    have h2 := (allocVariant_pl_s d1).2; rw [hal2] at h2
    rw [appendPair_strings, set_strings]
    exact h2.trans h1

theorem dstep_bn : DStep BN where
  refl := BN.refl
  trans := BN.trans
  pleq := BN.pleq
  set_bool := fun d l _ => BN.set d l _
  set_owned := fun d l _ => BN.set d l _
  set_arr := fun d l _ _ => BN.set d l _
  set_obj := fun d l _ _ => BN.set d l _
  setArg := fun _ l a _ h => setArg_bytesNodup l a h
  save := BN.save
  addElement := fun _ l h => addElement_bytesNodup l h
  addMemberNode := fun d l node => BN.of_strings (addMemberNode_strings d l node)
  clearV := fun _ _ => BN.of_sub (DL.mem_P_clearV _ _).strs

/-- (b) for EVERY run (failures included): no two entries of the string table of the result have the same bytes -/
theorem run_bytes_nodup (cfg : Cfg) (limit : Nat) (flt : Flt) (d : Doc) (input : List Byte) :
    ((run cfg limit flt d input).2.1.strings.map (·.bytes)).Nodup := by
  have h := (st_all dstep_bn cfg (2 * input.length + 4)).1 limit flt .root (start d input)
  have h0 : BytesNodup (start d input).d := by
    show (d.clearAll.strings.map (·.bytes)).Nodup
    rw [(clearAll_spec d).2.2.2.2.2.1]; exact List.nodup_nil
  have h1 : BytesNodup (stop cfg limit flt d input).2.d := h h0
  rw [run_eq]
  show ((preShrink cfg limit flt d input).strings.map (·.bytes)).Nodup
  rw [(preShrink_pleq cfg limit flt d input).1.strings]
  exact h1

/-! ## (a), (c): exact reference counts, no leaked slot - the invariant `Tight` -/

/-- every slot that is live in the pools belongs to the layout, or is an extension slot of a value of the document -/
def NoLeak (d : Doc) (G : Forest) : Prop :=
  ∀ i, PL.live d.g d.pl i → i ∈ G.ids ∨ ∃ l0 ∈ holders G, i ∈ extOfV (d.get l0)

/-- the string table holds exactly the strings in use, with exact counters; no slot is leaked -/
structure Tight (d : Doc) (G : Forest) : Prop where
  exact : Exact d (d.strRefs G)
  noleak : NoLeak d G

/-- the general step: the references grow by `extra`, the new live slots are accounted for, the old ones stay so -/
theorem Tight.transfer {d d' : Doc} {G G' : Forest} {extra : List Nat}
    (hstr : Exact d (d.strRefs G) → Exact d' (extra ++ d.strRefs G))
    (hperm : List.Perm (d'.strRefs G') (extra ++ d.strRefs G))
    (hlive : ∀ x, PL.live d'.g d'.pl x →
      PL.live d.g d.pl x ∨ x ∈ G'.ids ∨ ∃ l0 ∈ holders G', x ∈ extOfV (d'.get l0))
    (hids : ∀ x ∈ G.ids, x ∈ G'.ids)
    (hext : ∀ l0 ∈ holders G, ∀ e ∈ extOfV (d.get l0), ∃ l1 ∈ holders G', e ∈ extOfV (d'.get l1))
    (t : Tight d G) : Tight d' G' := by
  refine ⟨Exact_perm hperm.symm (hstr t.exact), fun i hi => ?_⟩
  rcases hlive i hi with h | h | h
  · rcases t.noleak i h with h1 | ⟨l0, h0, he⟩
    · exact Or.inl (hids i h1)
    · exact Or.inr (hext l0 h0 i he)
  · exact Or.inl h
  · exact Or.inr h

/-- allocator traffic is not seen -/
theorem Tight.pleq {d d' : Doc} {G : Forest} (h : PlEq d d') (t : Tight d G) : Tight d' G := by
  refine ⟨?_, fun i hi => ?_⟩
  · rw [h.strRefs]; exact Exact_congr h.strings t.exact
  · rcases t.noleak i ((h.live i).1 hi) with h1 | ⟨l0, h0, he⟩
    · exact Or.inl h1
    · exact Or.inr ⟨l0, h0, by rw [h.get]; exact he⟩

/-- storing a value without resources on an empty location -/
theorem Tight.set_plain {d : Doc} {G : Forest} {l : Loc} {v : VData} (w : WFG d G) (hl : isLoc G l)
    (hnull : d.get l = .null) (hst : strOfV v = []) (t : Tight d G) : Tight (d.set l v) G := by
  refine ⟨?_, fun i hi => ?_⟩
  · exact set_gen_exact (d1 := d) w hl (by rw [hnull]; rfl) rfl (fun _ _ => rfl) (by rw [hst]; exact t.exact)
  · rw [set_g, set_pl] at hi
    rcases t.noleak i hi with h1 | ⟨l0, h0, he⟩
    · exact Or.inl h1
    · by_cases e : l0 = l
      · subst e; rw [hnull] at he; cases he
      · exact Or.inr ⟨l0, h0, by rw [get_set_ne e]; exact he⟩

/-- `save` keeps exact counts exact, with one more reference to the node it returns -/
theorem save_exact (x : S) (bytes : List Byte) {rs : List Nat} (hs : StrOK x.d rs) (he : Exact x.d rs) :
    Exact (save x bytes).2.d ((save x bytes).1 :: rs) := by
  have hs' : StrOK (calm x.d bytes.length) rs := StrOK_congr (d := x.d) (d' := calm x.d bytes.length) rfl rfl hs
  have he' : Exact (calm x.d bytes.length) rs := he
  cases hf : x.d.strings.find? (·.bytes == bytes) with
  | some y =>
    have hf' : (calm x.d bytes.length).strings.find? (·.bytes == bytes) = some y := hf
    have := saveString_exact hs' he' (saveString_found hf')
    rw [save_eq_found hf]; exact this
  | none =>
    have hf' : (calm x.d bytes.length).strings.find? (·.bytes == bytes) = none := hf
    have hsv := saveString_short hf' (Nat.le_refl _)
    rw [calm_failsAt] at hsv
    simp only [Bool.false_eq_true, if_false] at hsv
    have := saveString_exact hs' he' hsv
    rw [save_eq_new hf]; exact this

/-- a string value: `save`, then the node is stored on the empty location -/
theorem Tight.save_set {x : S} {G : Forest} {l : Loc} (bytes : List Byte) (w : WFG x.d G)
    (hs : StrOK x.d (x.d.strRefs G)) (hl : isLoc G l) (hnull : x.d.get l = .null) (t : Tight x.d G) :
    Tight ((save x bytes).2.d.set l (.owned (save x bytes).1)) G := by
  have sv := save_spec x bytes
  have hc : ∀ j, (save x bytes).2.d.cell j = x.d.cell j := fun j => by simp only [Doc.cell, sv.cells]
  refine ⟨?_, fun i hi => ?_⟩
  · exact set_gen_exact (d1 := (save x bytes).2.d) w hl (by rw [hnull]; rfl) sv.root (fun j _ => hc j)
      (save_exact x bytes hs t.exact)
  · rw [set_g, set_pl, sv.g] at hi
    have hi' : PL.live x.d.g x.d.pl i := (live_congr sv.pools sv.free i).1 hi
    rcases t.noleak i hi' with h1 | ⟨l0, h0, he⟩
    · exact Or.inl h1
    · by_cases e : l0 = l
      · subst e; rw [hnull] at he; cases he
      · refine Or.inr ⟨l0, h0, ?_⟩
        rw [get_set_ne e]
        cases l0 with
        | root => show i ∈ extOfV (save x bytes).2.d.root; rw [sv.root]; exact he
        | slot j => rw [get_of_cell (hc j)]; exact he

/-! ### numbers -/

theorem allocExt_live {d d1 : Doc} {p : Int} {e : Nat} (gok : PL.GeoOK d.g) (hp : PL.Inv d.g d.pl)
    (h : d.allocExt p = (some e, d1)) : ∀ x, PL.live d1.g d1.pl x ↔ PL.live d.g d.pl x ∨ x = e := by
  simp only [Doc.allocExt] at h
  split at h
  · rename_i id' pl heq
    simp only [Prod.mk.injEq, Option.some.injEq] at h
    obtain ⟨rfl, rfl⟩ := h
    exact (PL.allocSlot_some gok hp heq).2.2.1
  · simp only [Prod.mk.injEq] at h; exact absurd h.1 (by simp)

/-- a successful `setArg` of a number: the document is `d1.set l v` where `d1` is `d` or `d` after one extension slot was
    handed out, which `v` references -/
theorem setArg_num_cases (d : Doc) (l : Loc) {a : Arg} (ha : isNum a) (gok : PL.GeoOK d.g) (hp : PL.Inv d.g d.pl)
    (hok : (d.setArg l a).1 = true) :
    ∃ d1 v, (d.setArg l a).2 = d1.set l v ∧ Grow d d1 ∧
      (∀ x, PL.live d1.g d1.pl x → PL.live d.g d.pl x ∨ x ∈ extOfV v) := by
  have inplace : ∀ v, ∃ d1 v', d.set l v = d1.set l v' ∧ Grow d d1 ∧
      (∀ x, PL.live d1.g d1.pl x → PL.live d.g d.pl x ∨ x ∈ extOfV v') :=
    fun v => ⟨d, v, rfl, Grow.refl hp, fun x hx => Or.inl hx⟩
  have ext : ∀ (p : Int) (k : Nat → VData), (∀ e, extOfV (k e) = [e]) →
      (match d.allocExt p with | (some s, d) => (true, d.set l (k s)) | (none, d) => (false, d)).1 = true →
      ∃ d1 v, (match d.allocExt p with | (some s, d) => (true, d.set l (k s)) | (none, d) => (false, d)).2 = d1.set l v ∧
        Grow d d1 ∧ (∀ x, PL.live d1.g d1.pl x → PL.live d.g d.pl x ∨ x ∈ extOfV v) := by
    intro p k hk hok'
    generalize hal : d.allocExt p = r at hok' ⊢
    obtain ⟨m, d1⟩ := r
    cases m with
    | none => simp at hok'
    | some e =>
      refine ⟨d1, k e, rfl, (allocExt_some gok hp hal).1, fun x hx => ?_⟩
      rcases (allocExt_live gok hp hal x).1 hx with h | h
      · exact Or.inl h
      · exact Or.inr (by rw [hk e, h]; exact List.mem_singleton.2 rfl)
  cases a with
  | uint v =>
    simp only [Doc.setArg] at hok ⊢
    split
    · exact inplace _
    · rename_i hc; rw [if_neg hc] at hok; exact ext v .u64 (fun _ => rfl) hok
  | sint v =>
    simp only [Doc.setArg] at hok ⊢
    split
    · exact inplace _
    · rename_i hc; rw [if_neg hc] at hok; exact ext v .i64 (fun _ => rfl) hok
  | f32 b => exact inplace _
  | f64 b =>
    simp only [Doc.setArg] at hok ⊢
    split
    · exact inplace _
    · rename_i hc
      split at hok
      · rename_i f hf; exact absurd hf (hc f)
      · exact ext b .f64 (fun _ => rfl) hok
  | null => exact absurd ha (fun h => h)
  | bool _ => exact absurd ha (fun h => h)
  | strLinked _ => exact absurd ha (fun h => h)
  | strCopied _ => exact absurd ha (fun h => h)
  | raw _ => exact absurd ha (fun h => h)

/-- `parseNumericValue`'s store, when it succeeds -/
theorem Tight.setArg_num {d : Doc} {G : Forest} {l : Loc} {a : Arg} (w : WFG d G) (hs : StrOK d (d.strRefs G))
    (hl : isLoc G l) (hnull : d.get l = .null) (gok : PL.GeoOK d.g) (ha : isNum a) (hok : (d.setArg l a).1 = true)
    (t : Tight d G) : Tight (d.setArg l a).2 G := by
  refine ⟨setArg_exact w hs t.exact hl hnull gok hok, fun i hi => ?_⟩
  obtain ⟨d1, v, e, hg, hlv⟩ := setArg_num_cases d l ha gok w.pool hok
  rw [e] at hi ⊢
  rw [set_g, set_pl] at hi
  have hget : ∀ l0 ∈ holders G, l0 ≠ l → (d1.set l v).get l0 = d.get l0 := by
    intro l0 h0 hne
    rw [get_set_ne hne]
    rcases mem_holders.1 h0 with e' | ⟨x, hx, e'⟩
    · subst e'; exact hg.root
    · subst e'; exact get_of_cell (hg.cells x (w.live x hx))
  rcases hlv i hi with h | h
  · rcases t.noleak i h with h1 | ⟨l0, h0, he⟩
    · exact Or.inl h1
    · by_cases e' : l0 = l
      · subst e'; rw [hnull] at he; cases he
      · exact Or.inr ⟨l0, h0, by rw [hget l0 h0 e']; exact he⟩
  · exact Or.inr ⟨l, loc_mem_holders hl, by rw [get_set_self]; exact h⟩

/-! ### steps inside the collection being built at `l` (vocabulary of AJ/Lemmas/JddOps.lean) -/

/-- the values held outside `l` are the same in two documents built from the same reference point -/
theorem built_same {d0 d d' : Doc} {F : Forest} {l : Loc} {s s' : Forest} (C : Ctx d0 F l) (B : Built d0 F l d s)
    (B' : Built d0 F l d' s') (hs : ∀ j ∈ s.ids, d'.get (.slot j) = d.get (.slot j)) :
    ∀ l0 ∈ holders (replaceAt F l s), l0 ≠ l → d'.get l0 = d.get l0 := by
  intro l0 h0 hne
  rcases mem_holders.1 h0 with e | ⟨x, hx, e⟩
  · subst e
    show d'.root = d.root
    rw [B'.root (Ne.symm hne), B.root (Ne.symm hne)]
  · subst e
    rcases (C.mem_ids s x).1 hx with hF | hS
    · exact get_of_cell ((B'.cells x hF hne).trans (B.cells x hF hne).symm)
    · exact hs x hS

/-- the slots of the layout after new slots `new` were linked into the collection at `l` -/
theorem built_ids_perm {d0 d d' : Doc} {F : Forest} {l : Loc} {s s' : Forest} (C : Ctx d0 F l) (B : Built d0 F l d s)
    (B' : Built d0 F l d' s') {new : List Nat} (hnd : new.Nodup) (hmem : ∀ x, x ∈ s'.ids ↔ x ∈ s.ids ∨ x ∈ new)
    (hdis : ∀ x ∈ new, x ∉ s.ids) :
    List.Perm (replaceAt F l s').ids (new ++ (replaceAt F l s).ids) := by
  have hdisj : ∀ x ∈ new, x ∉ (replaceAt F l s).ids := by
    intro x hx m
    rcases (C.mem_ids s x).1 m with hF | hS
    · exact B'.fresh x ((hmem x).2 (Or.inr hx)) hF
    · exact hdis x hx hS
  refine (List.perm_ext_iff_of_nodup B'.wf.nodup ?_).2 ?_
  · exact List.nodup_append.2 ⟨hnd, B.wf.nodup, fun a ha b hb e => hdisj a ha (e ▸ hb)⟩
  · intro x
    rw [C.mem_ids s' x, hmem x, List.mem_append, C.mem_ids s x]
    constructor
    · rintro (h | h | h)
      · exact Or.inr (Or.inl h)
      · exact Or.inr (Or.inr h)
      · exact Or.inl h
    · rintro (h | h | h)
      · exact Or.inr (Or.inr h)
      · exact Or.inl h
      · exact Or.inr (Or.inl h)

theorem holders_perm_app {G G' : Forest} {new : List Nat} (hp : List.Perm G'.ids (new ++ G.ids)) :
    List.Perm (holders G') (new.map Loc.slot ++ holders G) := by
  have h1 : List.Perm (holders G') (Loc.root :: (new.map Loc.slot ++ G.ids.map Loc.slot)) :=
    List.Perm.cons _ (by simpa using hp.map Loc.slot)
  exact h1.trans List.perm_middle.symm

/-- the references after new slots `new` were linked into the collection at `l` -/
theorem built_strRefs_perm {d0 d d' : Doc} {F : Forest} {l : Loc} {s s' : Forest} (C : Ctx d0 F l) (B : Built d0 F l d s)
    (B' : Built d0 F l d' s') (hs : ∀ j ∈ s.ids, d'.get (.slot j) = d.get (.slot j))
    {new : List Nat} (hnd : new.Nodup) (hmem : ∀ x, x ∈ s'.ids ↔ x ∈ s.ids ∨ x ∈ new)
    (hdis : ∀ x ∈ new, x ∉ s.ids) (hl : strOfV (d'.get l) = strOfV (d.get l)) :
    List.Perm (d'.strRefs (replaceAt F l s'))
      (new.flatMap (fun j => strOfV (d'.get (.slot j))) ++ d.strRefs (replaceAt F l s)) := by
  have hp := (holders_perm_app (built_ids_perm C B B' hnd hmem hdis)).flatMap_right (fun l0 => strOfV (d'.get l0))
  have e1 : (new.map Loc.slot ++ holders (replaceAt F l s)).flatMap (fun l0 => strOfV (d'.get l0)) =
      new.flatMap (fun j => strOfV (d'.get (.slot j))) ++ d.strRefs (replaceAt F l s) := by
    rw [List.flatMap_append, List.flatMap_map]
    congr 1
    refine flatMap_congr' _ (fun l0 h0 => ?_)
    by_cases e : l0 = l
    · subst e; exact hl
    · rw [built_same C B B' hs l0 h0 e]
  rw [e1] at hp
  exact hp

/-- the general step inside the collection at `l` (which holds no resource itself) -/
theorem Tight.built_step {d0 d d' : Doc} {F : Forest} {l : Loc} {s s' : Forest} (C : Ctx d0 F l) (B : Built d0 F l d s)
    (B' : Built d0 F l d' s') (hs : ∀ j ∈ s.ids, d'.get (.slot j) = d.get (.slot j))
    {new : List Nat} (hnd : new.Nodup) (hmem : ∀ x, x ∈ s'.ids ↔ x ∈ s.ids ∨ x ∈ new)
    (hdis : ∀ x ∈ new, x ∉ s.ids) (hl : strOfV (d'.get l) = strOfV (d.get l)) (hle : extOfV (d.get l) = [])
    {extra : List Nat} (hextra : new.flatMap (fun j => strOfV (d'.get (.slot j))) = extra)
    (t : Tight d (replaceAt F l s))
    (hstr : Exact d' (extra ++ d.strRefs (replaceAt F l s)))
    (hlive : ∀ x, PL.live d'.g d'.pl x → PL.live d.g d.pl x ∨ x ∈ new) :
    Tight d' (replaceAt F l s') := by
  have hids : ∀ x ∈ (replaceAt F l s).ids, x ∈ (replaceAt F l s').ids := by
    intro x hx
    rcases (C.mem_ids s x).1 hx with h | h
    · exact (C.mem_ids s' x).2 (Or.inl h)
    · exact (C.mem_ids s' x).2 (Or.inr ((hmem x).2 (Or.inl h)))
  refine Tight.transfer (extra := extra) (fun _ => hstr) ?_ ?_ hids ?_ t
  · rw [← hextra]; exact built_strRefs_perm C B B' hs hnd hmem hdis hl
  · intro x hx
    rcases hlive x hx with h | h
    · exact Or.inl h
    · exact Or.inr (Or.inl ((C.mem_ids s' x).2 (Or.inr ((hmem x).2 (Or.inr h)))))
  · intro l0 h0 e he
    by_cases e' : l0 = l
    · subst e'; rw [hle] at he; cases he
    · refine ⟨l0, ?_, by rw [built_same C B B' hs l0 h0 e']; exact he⟩
      rcases mem_holders.1 h0 with e1 | ⟨x, hx, e1⟩
      · exact mem_holders.2 (Or.inl e1)
      · exact mem_holders.2 (Or.inr ⟨x, hids x hx, e1⟩)

/-! ### `clearV` (an existing member is cleared before it is parsed again) -/

theorem Tight.clearV {d : Doc} {G : Forest} {l : Loc} (w : WFG d G) (hs : StrOK d (d.strRefs G)) (hl : isLoc G l)
    (t : Tight d G) : Tight (d.clearV l) (replaceAt G l .nil) := by
  refine ⟨(clearV_exact w hs hl).2.2.2.2 t.exact, fun i hi => ?_⟩
  obtain ⟨dm, hdm, hex, _, hin, _⟩ := clearV_x w hs hl
  obtain ⟨_, _, gr, gc, _⟩ := clearV_good w hs hl
  have hi' : PL.live d.g d.pl i ∧ i ∉ relSlots d G l := by
    rw [hdm, set_g, set_pl] at hi
    exact (hex.eff.live i).1 hi
  obtain ⟨hlive, hnot⟩ := hi'
  have hsub : ∀ j ∈ (layoutAt G l).ids, ∀ e ∈ extOfV (d.get (.slot j)), e ∈ relSlots d G l := by
    intro j hj e he
    exact List.mem_append.2 (Or.inr ((mem_fpF d _ e).2 (Or.inr ⟨j, hj, he⟩)))
  rcases t.noleak i hlive with h1 | ⟨l0, h0, he⟩
  · by_cases hin' : i ∈ (layoutAt G l).ids
    · exact absurd (hin i hin') hnot
    · exact Or.inl ((mem_ids_cleared w.nodup hl i).2 ⟨h1, hin'⟩)
  · by_cases e' : l0 = l
    · subst e'
      exact absurd (List.mem_append.2 (Or.inl he)) hnot
    · rcases mem_holders.1 h0 with e1 | ⟨x, hx, e1⟩
      · subst e1
        refine Or.inr ⟨.root, mem_holders.2 (Or.inl rfl), ?_⟩
        cases l with
        | root => exact absurd rfl e'
        | slot j =>
          show i ∈ extOfV (d.clearV (.slot j)).root
          rw [(gr j rfl).2]; exact he
      · subst e1
        by_cases hxin : x ∈ (layoutAt G l).ids
        · exact absurd (hsub x hxin i he) hnot
        · refine Or.inr ⟨.slot x, mem_holders.2 (Or.inr ⟨x, (mem_ids_cleared w.nodup hl x).2 ⟨hx, hxin⟩, rfl⟩), ?_⟩
          rw [get_of_cell (gc x hx e' hxin).1]; exact he

/-- clearing the member value slot `v` of the object being built at `l` -/
theorem Tight.clear_member {d0 d : Doc} {F : Forest} {l : Loc} {s : Forest} {v : Nat} (C : Ctx d0 F l)
    (B : Built d0 F l d s) (hv : v ∈ s.locs) (t : Tight d (replaceAt F l s)) :
    Tight (d.clearV (.slot v)) (replaceAt F l (s.replaceSub v .nil)) := by
  have hvF : v ∉ F.ids := B.fresh v (s.locs_sub_ids v hv)
  have hlv : isLoc (replaceAt F l s) (.slot v) := isLoc_replaceAt_new C.loc hv
  have := Tight.clearV B.wf B.str hlv t
  rw [replaceAt_nest s .nil hvF] at this
  exact this

/-! ### `addElement` -/

theorem addElement_live {d d1 : Doc} {l : Loc} {id : Nat} (gok : PL.GeoOK d.g) (hp : PL.Inv d.g d.pl)
    (h : d.addElement l = (some id, d1)) : ∀ x, PL.live d1.g d1.pl x ↔ PL.live d.g d.pl x ∨ x = id := by
  simp only [Doc.addElement] at h
  generalize hal : d.allocVariant = r at h
  obtain ⟨m, da⟩ := r
  cases m with
  | none => simp at h
  | some j =>
    simp only [Prod.mk.injEq, Option.some.injEq] at h
    obtain ⟨rfl, rfl⟩ := h
    rw [appendOne_g, DL.appendOne_pl]
    exact (allocVariant_some gok hp hal).2.2.2.2.2.2

/-- a null element appended to the array being built at `l` -/
theorem Tight.addElement {d0 d d1 : Doc} {F : Forest} {l : Loc} {s : Forest} {h t id : Nat} (C : Ctx d0 F l)
    (B : Built d0 F l d s) (hv : d.get l = .arr h t) (he : d.addElement l = (some id, d1))
    (t' : Tight d (replaceAt F l s)) : Tight d1 (replaceAt F l (s.snoc none id)) := by
  obtain ⟨B1, hgn, ⟨h', hgl⟩, _, _, _, hids, _, hsame⟩ := B.addElement_some C hv he
  have hstrings : d1.strings = d.strings := by
    have := (addElement_strRefs B.wf B.str (B.gok C) (C.loc' s) hv).1
    rw [he] at this; exact this
  refine Tight.built_step C B B1 (fun j hj => (hsame j hj).1) (new := [id]) (by simp) ?_ ?_ ?_ ?_
    (extra := []) ?_ t' (Exact_congr hstrings t'.exact) ?_
  · intro x
    rw [Forest.ids_snoc]
    simp only [Forest.keyL, List.nil_append, List.mem_append, List.mem_singleton]
  · intro x hx; rw [List.mem_singleton.1 hx]; exact hids
  · rw [hgl, hv]; rfl
  · rw [hv]; rfl
  · simp only [List.flatMap_cons, List.flatMap_nil, hgn, strOfV, List.append_nil]
  · intro x hx
    rcases (addElement_live (B.gok C) B.wf.pool he x).1 hx with h1 | h1
    · exact Or.inl h1
    · exact Or.inr (List.mem_singleton.2 h1)

/-! ### a new member: `save` the key, then `addMember(StringNode*)` -/

theorem addMemberNode_live {d d' : Doc} {l : Loc} {node v : Nat} (gok : PL.GeoOK d.g) (hp : PL.Inv d.g d.pl)
    (h : addMemberNode d l node = (some v, d')) :
    ∃ k, k ≠ v ∧ ∀ x, PL.live d.g d'.pl x ↔ PL.live d.g d.pl x ∨ x = k ∨ x = v := by
  rcases addMemberNode_cases d l node with ⟨d1, _, e⟩ | ⟨k, d1, d2, _, _, e⟩ | ⟨k, d1, v', d2, hal1, hal2, e⟩
  · rw [e] at h; simp at h
  · rw [e] at h; simp at h
  · rw [e] at h
    simp only [Prod.mk.injEq, Option.some.injEq] at h
    obtain ⟨rfl, rfl⟩ := h
    obtain ⟨hg1, _, _, _, _, _, hlv1⟩ := allocVariant_some gok hp hal1
    have gok1 : PL.GeoOK d1.g := by rw [hg1.g]; exact gok
    obtain ⟨hg2, _, _, _, hnv, _, hlv2⟩ := allocVariant_some gok1 hg1.pool hal2
    refine ⟨k, fun e' => hnv (e' ▸ (hlv1 k).2 (Or.inr rfl)), fun x => ?_⟩
    rw [DL.appendPair_pl, set_pl]
    have h2 := hlv2 x
    have h1 := hlv1 x
    rw [hg2.g, hg1.g] at h2
    rw [hg1.g] at h1
    rw [h2, h1, or_assoc]

/-- the member `(key, null)` appended to the object being built at `l`: from the state before `save` to the state after
    `addMember` succeeded -/
theorem Tight.addMember {d0 : Doc} {F : Forest} {l : Loc} {s : Forest} {x : S} {h t v k0 : Nat} {d2 : Doc}
    (key : List Byte) (C : Ctx d0 F l) (B : Built d0 F l x.d s) (hv : x.d.get l = .obj h t)
    (ham : addMemberNode (save x key).2.d l (save x key).1 = (some v, d2))
    (B2 : Built d0 F l d2 (s.snoc (some k0) v)) (hgv : d2.get (.slot v) = .null) (hgl : ∃ h', d2.get l = .obj h' v)
    (hsame : SameV (save x key).2.d d2 s.ids) (hgk : d2.get (.slot k0) = .owned (save x key).1)
    (hstr : d2.strings = (save x key).2.d.strings) (hk0 : k0 ∉ s.ids) (hv0 : v ∉ s.ids)
    (t' : Tight x.d (replaceAt F l s)) : Tight d2 (replaceAt F l (s.snoc (some k0) v)) := by
  have sv := save_spec x key
  obtain ⟨B', _, hget⟩ := B.save C sv
  obtain ⟨h', hgl⟩ := hgl
  have hs : ∀ j ∈ s.ids, d2.get (.slot j) = x.d.get (.slot j) := fun j hj => (hsame j hj).1.trans (hget (.slot j))
  have hmem : ∀ y, y ∈ (s.snoc (some k0) v).ids ↔ y ∈ s.ids ∨ y ∈ [k0, v] := by
    intro y
    rw [Forest.ids_snoc]
    simp only [Forest.keyL, List.cons_append, List.nil_append, List.mem_append, List.mem_cons, List.not_mem_nil, or_false]
  have hnd2 : (s.snoc (some k0) v).ids.Nodup := by
    have := layoutAt_nodup B2.wf.nodup (C.loc' (s.snoc (some k0) v)); rw [C.lay] at this; exact this
  have hk0v : k0 ≠ v := by
    rw [Forest.ids_snoc] at hnd2
    have := (List.nodup_append.1 hnd2).2.1
    simp only [Forest.keyL, List.cons_append, List.nil_append, List.nodup_cons, List.mem_singleton] at this
    exact this.1
  have hle : extOfV (x.d.get l) = [] := by rw [hv]; rfl
  have hk0G2 : k0 ∈ (replaceAt F l (s.snoc (some k0) v)).ids :=
    (C.mem_ids _ k0).2 (Or.inr ((hmem k0).2 (Or.inr (by simp))))
  -- the allocator: two new live slots
  have gS : (save x key).2.d.g = x.d.g := sv.g
  have g2 : d2.g = x.d.g := B2.g.trans B.g.symm
  obtain ⟨k, hkv, hlv⟩ := addMemberNode_live (B'.gok C) B'.wf.pool ham
  have hlv' : ∀ y, PL.live d2.g d2.pl y ↔ PL.live x.d.g x.d.pl y ∨ y = k ∨ y = v := by
    intro y
    have := hlv y
    rw [gS] at this
    rw [g2, this, live_congr sv.pools sv.free y]
  -- the key slot of the layout is the first of them
  have hkk : k0 = k := by
    rcases (hlv' k0).1 (B2.wf.live k0 hk0G2) with h1 | h1 | h1
    · exfalso
      rcases t'.noleak k0 h1 with h2 | ⟨l0, h0, he⟩
      · rcases (C.mem_ids s k0).1 h2 with h3 | h3
        · exact B2.fresh k0 ((hmem k0).2 (Or.inr (by simp))) h3
        · exact hk0 h3
      · by_cases e' : l0 = l
        · subst e'; rw [hle] at he; cases he
        · have hg0 := built_same C B B2 hs l0 h0 e'
          have h0' : l0 ∈ holders (replaceAt F l (s.snoc (some k0) v)) := by
            rcases mem_holders.1 h0 with e1 | ⟨y, hy, e1⟩
            · exact mem_holders.2 (Or.inl e1)
            · refine mem_holders.2 (Or.inr ⟨y, ?_, e1⟩)
              rcases (C.mem_ids s y).1 hy with h3 | h3
              · exact (C.mem_ids _ y).2 (Or.inl h3)
              · exact (C.mem_ids _ y).2 (Or.inr ((hmem y).2 (Or.inl h3)))
          obtain ⟨⟨p, hp⟩, _, _⟩ := B2.wf.ext l0 h0' k0 (by rw [hg0]; exact he)
          exact ext_ne_var hp (B2.wf.isVar k0 hk0G2) rfl
    · exact h1
    · exact absurd h1 hk0v
  refine Tight.built_step C B B2 hs (new := [k0, v]) ?_ hmem ?_ ?_ hle (extra := [(save x key).1]) ?_ t'
    (Exact_congr hstr (save_exact x key B.str t'.exact)) ?_
  · simp [hk0v]
  · intro y hy
    simp only [List.mem_cons, List.not_mem_nil, or_false] at hy
    rcases hy with rfl | rfl
    · exact hk0
    · exact hv0
  · rw [hgl, hv]; rfl
  · simp only [List.flatMap_cons, List.flatMap_nil, hgk, hgv, strOfV, List.append_nil]
  · intro y hy
    rcases (hlv' y).1 hy with h1 | h1 | h1
    · exact Or.inl h1
    · exact Or.inr (by rw [h1, ← hkk]; simp)
    · exact Or.inr (by rw [h1]; simp)

/-! ### the step relation of `Tight` -/

/-- the step `(d, G) → (d', G')` keeps `Tight`, provided no allocation failed up to `d'` -/
def TS (d : Doc) (G : Forest) (d' : Doc) (G' : Forest) : Prop := d'.overflowed = false → Tight d G → Tight d' G'

theorem TS.refl (d : Doc) (G : Forest) : TS d G d G := fun _ t => t

theorem TS.of_ov {d d' : Doc} {G G' : Forest} (h : d'.overflowed = true) : TS d G d' G' :=
  fun ho => by rw [h] at ho; cases ho

theorem TS.trans {d d1 d2 : Doc} {G G1 G2 : Forest} (h1 : TS d G d1 G1) (h2 : TS d1 G1 d2 G2)
    (ovs : d1.overflowed = true → d2.overflowed = true) : TS d G d2 G2 := by
  intro ho t
  have h1o : d1.overflowed = false := by
    cases hx : d1.overflowed with
    | false => rfl
    | true => rw [ovs hx] at ho; cases ho
  exact h2 ho (h1 h1o t)

theorem fstep_tight : FStep TS where
  refl := TS.refl
  trans := TS.trans
  pleq := fun _ h _ t => t.pleq h
  set_plain := fun w hl hn hs _ _ t => t.set_plain w hl hn hs
  save_set := fun bytes w hs hl hn _ t => Tight.save_set bytes w hs hl hn t
  setArg_num := fun {d _ l a} w hs hl hn gok ha hf ho t => by
    -- the flag is clear after the store, so the store succeeded
    have hok : (d.setArg l a).1 = true := by
      cases hh : (d.setArg l a).1 with
      | true => rfl
      | false => rw [hf hh] at ho; cases ho
    exact Tight.setArg_num w hs hl hn gok ha hok t
  addElement := fun C B hv he _ t => Tight.addElement C B hv he t
  addElement_none := fun _ _ _ ho => TS.of_ov ho
  clear_member := fun C B hv _ t => Tight.clear_member C B hv t
  addMember := fun key C B hv ham B2 hgv hgl hs hgk hst hk hv0 _ t =>
    Tight.addMember key C B hv ham B2 hgv hgl hs hgk hst hk hv0 t
  addMember_none := fun _ _ _ _ ho => TS.of_ov ho

/-! ### `run` -/

/-- the cleared document owns nothing: it is tight -/
theorem clearAll_tight (d : Doc) : Tight d.clearAll .nil := by
  obtain ⟨_, _, hpools, _, _, hstr, _⟩ := clearAll_spec d
  refine ⟨(fun n hn => by rw [hstr] at hn; cases hn), fun i hi => ?_⟩
  obtain ⟨⟨j, p, hj, _⟩, _⟩ := hi
  rw [hpools] at hj
  simp at hj

/-- shrinking the pools is not seen -/
theorem Tight.shrink {d : Doc} {G : Forest} (hp : PL.Inv d.g d.pl) (t : Tight d G) :
    Tight { d with pl := PL.shrink d.g d.pl } G := by
  refine ⟨t.exact, fun i hi => ?_⟩
  exact t.noleak i (((PL.shrink_ok hp).2.1 i).1 hi)

/-- (a)+(c) with the well-formedness, for one and the same layout: when no allocation failed, the document `run` returns is
    well-formed, its reference counts are exact and none of its slots is leaked -/
theorem run_tight (cfg : Cfg) (limit : Nat) (flt : Flt) {d : Doc} (input : List Byte) (gok : PL.GeoOK d.g)
    (hp : PL.Inv d.g d.pl) (hov : (run cfg limit flt d input).2.1.overflowed = false) :
    ∃ F', WFG (run cfg limit flt d input).2.1 F' ∧
      StrOK (run cfg limit flt d input).2.1 ((run cfg limit flt d input).2.1.strRefs F') ∧
      Tight (run cfg limit flt d input).2.1 F' := by
  obtain ⟨w, hs, hg, _, hr⟩ := clearAll_wf gok hp
  have C : Ctx d.clearAll .nil .root := ⟨List.nodup_nil, trivial, rfl, by rw [hg]; exact gok⟩
  have R := (parse_all fstep_tight cfg (2 * input.length + 4)).1 limit flt .root (start d input) d.clearAll .nil C (built_start w hs C) hr
  obtain ⟨s, B, ts⟩ := R.built
  rw [run_overflowed] at hov
  have t1 : Tight (stop cfg limit flt d input).2.d (replaceAt .nil .root s) := ts hov (by rw [C.replace_nil]; exact clearAll_tight d)
  obtain ⟨w1, s1, _⟩ := (preShrink_pleq cfg limit flt d input).1.wfg B.wf B.str
  have t2 := t1.pleq (preShrink_pleq cfg limit flt d input).1
  rw [run_eq]
  obtain ⟨w2, s2⟩ := shrink_wf w1 s1
  exact ⟨_, w2, s2, t2.shrink w1.pool⟩

/-- (a) runs without allocation failure: every stored string's reference count is the number of references to it, and ≥ 1 -/
theorem run_exact (cfg : Cfg) (limit : Nat) (flt : Flt) {d : Doc} (input : List Byte) (gok : PL.GeoOK d.g)
    (hp : PL.Inv d.g d.pl) (hov : (run cfg limit flt d input).2.1.overflowed = false) :
    ∃ F', WFG (run cfg limit flt d input).2.1 F' ∧
      StrOK (run cfg limit flt d input).2.1 ((run cfg limit flt d input).2.1.strRefs F') ∧
      Exact (run cfg limit flt d input).2.1 ((run cfg limit flt d input).2.1.strRefs F') := by
  obtain ⟨F', a, b, c⟩ := run_tight cfg limit flt input gok hp hov
  exact ⟨F', a, b, c.exact⟩

/-- (c) runs without allocation failure: no leaked slot - every slot that is live in the pools is a slot of the layout of the
    document, or an extension slot (64-bit integer / double payload) of one of its values -/
theorem run_no_leak (cfg : Cfg) (limit : Nat) (flt : Flt) {d : Doc} (input : List Byte) (gok : PL.GeoOK d.g)
    (hp : PL.Inv d.g d.pl) (hov : (run cfg limit flt d input).2.1.overflowed = false) :
    ∃ F', WFG (run cfg limit flt d input).2.1 F' ∧
      ∀ i, PL.live (run cfg limit flt d input).2.1.g (run cfg limit flt d input).2.1.pl i →
        i ∈ F'.ids ∨ ∃ l0 ∈ holders F', i ∈ extOfV ((run cfg limit flt d input).2.1.get l0) := by
  obtain ⟨F', a, _, c⟩ := run_tight cfg limit flt input gok hp hov
  exact ⟨F', a, c.noleak⟩

/-- a consequence of (a): a string node exists exactly when some value or key of the document references it -/
theorem run_node_iff_referenced (cfg : Cfg) (limit : Nat) (flt : Flt) {d : Doc} (input : List Byte) (gok : PL.GeoOK d.g)
    (hp : PL.Inv d.g d.pl) (hov : (run cfg limit flt d input).2.1.overflowed = false) :
    ∃ F', WFG (run cfg limit flt d input).2.1 F' ∧ ∀ m,
      (∃ n ∈ (run cfg limit flt d input).2.1.strings, n.id = m) ↔ m ∈ (run cfg limit flt d input).2.1.strRefs F' := by
  obtain ⟨F', a, b, c⟩ := run_tight cfg limit flt input gok hp hov
  exact ⟨F', a, fun m => node_iff_referenced b c.exact m⟩

end JDDF
