/- What `clearV` does to the pool, the allocator log and the string table, exactly (`EffX`: `Eff` of
   AJ/Lemmas/DocClear.lean together with the free list, the log, the length of the string table and exact reference
   counts; the induction of that file is carried out for it), and reuse of released slots by `allocVariant` /
   `addElement`.
   Used by AJ/Props/C06Doc.lean and AJ/Props/C19Str.lean. -/
import AJ.Lemmas.DocStr
import AJ.Lemmas.DocSetArg
namespace DL
open JD (Byte Val)

/-! ## Exact effects -/

/-- `EffX d d' fp gone keep`: `Eff d d' fp keep`, and moreover: the overflow flag is kept; the pool of `d'` is the pool
    of `d` with the slots `fp` pushed on the free list in this order (so the last one released is handed out first) and
    one `D` logged per string node that disappeared — no allocator call, no pool touched; the byte strings stored are a
    sub-list of the old ones; if the counters of `d` were exact for the references `gone ++ keep`, those of `d'` are
    exact for `keep`. -/
structure EffX (d d' : Doc) (fp gone keep : List Nat) : Prop where
  eff : Eff d d' fp keep
  ov : d'.overflowed = d.overflowed
  len : d'.strings.length ≤ d.strings.length
  pl : d'.pl = d.pl.rel fp.reverse (d.strings.length - d'.strings.length)
  bytes : (d'.strings.map (·.bytes)).Sublist (d.strings.map (·.bytes))
  exact : Exact d (gone ++ keep) → Exact d' keep

theorem EffX.refl {d : Doc} {keep : List Nat} (hp : PL.Inv d.g d.pl) (hs : StrOK d keep) : EffX d d [] [] keep :=
  ⟨Eff.refl hp hs, rfl, Nat.le_refl _, by rw [Nat.sub_self]; rfl, List.Sublist.refl _, fun h => h⟩

theorem EffX.trans {d d1 d2 : Doc} {fp1 fp2 gone1 gone2 keep1 keep : List Nat} (h1 : EffX d d1 fp1 gone1 keep1)
    (h2 : EffX d1 d2 fp2 gone2 keep) (hk : keep1 = gone2 ++ keep) : EffX d d2 (fp1 ++ fp2) (gone1 ++ gone2) keep := by
  subst hk
  refine ⟨h1.eff.trans h2.eff (fun n hn => List.mem_append_right _ hn), by rw [h2.ov, h1.ov],
    Nat.le_trans h2.len h1.len, ?_, h2.bytes.trans h1.bytes, ?_⟩
  · rw [h2.pl, h1.pl, rel_rel, List.reverse_append]
    have h1l := h1.len
    have h2l := h2.len
    congr 1; omega
  · intro h
    exact h2.exact (h1.exact (by rwa [List.append_assoc] at h))

theorem releaseV_owned (d : Doc) (n : Nat) : releaseV d (.owned n) = d.derefString n := rfl
theorem releaseV_raw (d : Doc) (n : Nat) : releaseV d (.raw n) = d.derefString n := rfl

/-- releasing the resources of a non-collection value -/
theorem releaseV_x {d : Doc} {v : VData} {keep : List Nat} (hp : PL.Inv d.g d.pl)
    (hs : StrOK d (strOfV v ++ keep)) (hext : ∀ e ∈ extOfV v, PL.live d.g d.pl e) :
    EffX d (releaseV d v) (extOfV v) (strOfV v) keep := by
  have he := Eff.of_rel (releaseV_spec hp hs hext)
  have plain : releaseV d v = d → extOfV v = [] → strOfV v = [] → EffX d (releaseV d v) (extOfV v) (strOfV v) keep := by
    intro h1 h2 h3
    rw [h1] at he ⊢; rw [h2] at he ⊢; rw [h3]
    exact ⟨he, rfl, Nat.le_refl _, by rw [Nat.sub_self]; rfl, List.Sublist.refl _, fun h => h⟩
  have str : ∀ n, releaseV d v = d.derefString n → extOfV v = [] → strOfV v = [n] →
      EffX d (releaseV d v) (extOfV v) (strOfV v) keep := by
    intro n h1 h2 h3
    rw [h1] at he ⊢; rw [h2] at he ⊢; rw [h3] at hs ⊢
    obtain ⟨a, b, c, e, f⟩ := derefString_facts (keep := keep) hs
    exact ⟨he, a, b, c, e, f⟩
  have ext : ∀ e, releaseV d v = d.freeCell e → extOfV v = [e] → strOfV v = [] →
      EffX d (releaseV d v) (extOfV v) (strOfV v) keep := by
    intro e h1 h2 h3
    rw [h1] at he ⊢; rw [h2] at he ⊢; rw [h3]
    refine ⟨he, rfl, Nat.le_refl _, ?_, List.Sublist.refl _, fun h => h⟩
    show PL.freeSlot d.pl e = d.pl.rel [e] (d.strings.length - d.strings.length)
    rw [Nat.sub_self]; rfl
  cases v
  case owned n => exact str n rfl rfl rfl
  case raw n => exact str n rfl rfl rfl
  case i64 e => exact ext e rfl rfl rfl
  case u64 e => exact ext e rfl rfl rfl
  case f64 e => exact ext e rfl rfl rfl
  all_goals exact plain rfl rfl rfl

/-- after the effect, setting slot `id` and releasing it -/
theorem EffX.set_free {d dm : Doc} {fp gone keep : List Nat} {id : Nat} {v : VData} (h : EffX d dm fp gone keep)
    (hl : PL.live d.g d.pl id) (hid : id ∉ fp) :
    EffX d ((dm.set (.slot id) v).freeCell id) (fp ++ [id]) gone keep := by
  refine ⟨h.eff.set_free hl hid, ?_, ?_, ?_, ?_, ?_⟩
  · show (dm.set (.slot id) v).overflowed = _; rw [set_overflowed]; exact h.ov
  · rw [freeCell_strings, set_strings]; exact h.len
  · rw [freeCell_strings, set_strings]
    show PL.freeSlot (dm.set (.slot id) v).pl id = _
    rw [set_pl, h.pl, freeSlot_rel, List.reverse_append]; rfl
  · rw [freeCell_strings, set_strings]; exact h.bytes
  · intro he
    have := h.exact he
    exact Exact_congr (d := dm) (by rw [freeCell_strings, set_strings]) this

theorem goneF_nil (d : Doc) : goneF d .nil = [] := rfl

/-- `EffX` is kept by the steps `clear` is made of, so the induction of AJ/Lemmas/DocClear.lean applies to it -/
theorem EffX.clearRel : ClearRel EffX :=
  ⟨fun h => h.eff, EffX.refl, fun h1 h2 => h1.trans h2 rfl, releaseV_x, fun h hl hid => h.set_free hl hid⟩

/-! ## `clearV` at any location of a well-formed document, exactly -/

/-- slots released by `clearV l`, in the order of release: the extension slot of a 64-bit scalar, or the slots of the
    subtree (each one after its own subtree and extension slot) -/
def relSlots (d : Doc) (F : Forest) (l : Loc) : List Nat := extOfV (d.get l) ++ fpF d (layoutAt F l)
/-- string references dropped by `clearV l` (with multiplicity), in the order in which they are dropped -/
def relStrs (d : Doc) (F : Forest) (l : Loc) : List Nat := strOfV (d.get l) ++ goneF d (layoutAt F l)

theorem clearV_x {d : Doc} {F : Forest} {l : Loc} (w : WFG d F) (hs : StrOK d (d.strRefs F)) (hl : isLoc F l) :
    ∃ dm, d.clearV l = dm.set l .null ∧ EffX d dm (relSlots d F l) (relStrs d F l) (keepL d F l) ∧
      (d.clearV l).strRefs (replaceAt F l .nil) = keepL d F l ∧
      (∀ x ∈ (layoutAt F l).ids, x ∈ relSlots d F l) ∧
      (∀ x ∈ relSlots d F l, x ∈ extOfV (d.get l) ∨ Terr d (layoutAt F l).ids x) ∧ (relSlots d F l).Nodup ∧
      (∀ x ∈ relSlots d F l, PL.live d.g d.pl x) := by
  obtain ⟨dm, hdm, hex, hnd, hlive, hmem, hin⟩ := clearV_rel EffX.clearRel w hs hl
  have he := hex.eff
  have hout := (fp_outside w hl hmem).1
  refine ⟨dm, hdm, hex, ?_, hin, hmem, hnd, hlive⟩
  rw [hdm]
  have hget : ∀ x ∈ F.ids, x ∉ (layoutAt F l).ids → Loc.slot x ≠ l → (dm.set l .null).get (.slot x) = d.get (.slot x) :=
    fun x hx hxs hxl => by rw [get_set_ne hxl]; exact get_of_cell (he.cells x (hout x hx hxs))
  apply flatMap_congr'
  intro l0 h0
  by_cases hll : l0 = l
  · subst hll; rw [get_set_self, if_pos rfl]; rfl
  · rw [if_neg hll]
    rcases mem_holders.1 h0 with e | ⟨x, hx, e⟩
    · subst e; rw [get_set_ne hll]; show strOfV dm.root = _; rw [he.root]; rfl
    · subst e
      obtain ⟨hxF, hxs⟩ := (mem_ids_cleared w.nodup hl x).1 hx
      rw [hget x hxF hxs hll]

/-- the references of `d` are those dropped by `clearV l` plus those of the document that remains -/
theorem strRefs_clearV_perm {d : Doc} {F : Forest} {l : Loc} (w : WFG d F) (hs : StrOK d (d.strRefs F)) (hl : isLoc F l) :
    List.Perm (d.strRefs F) (relStrs d F l ++ (d.clearV l).strRefs (replaceAt F l .nil)) := by
  obtain ⟨dm, _, _, h, _⟩ := clearV_x w hs hl
  rw [h]
  have := strRefs_split (d := d) w.nodup hl
  simpa only [relStrs, List.append_assoc] using this

/-- `clearV l`, exactly: pool, log, overflow flag, string table.
    * the pool is the old one with the released slots pushed on the free list (last released first) and one `D` per
      string node that disappeared: no allocator call, no pool touched;
    * the table never grows, its byte strings are a sub-list of the old ones;
    * exact reference counts stay exact. -/
theorem clearV_exact {d : Doc} {F : Forest} {l : Loc} (w : WFG d F) (hs : StrOK d (d.strRefs F)) (hl : isLoc F l) :
    (d.clearV l).pl = d.pl.rel (relSlots d F l).reverse (d.strings.length - (d.clearV l).strings.length) ∧
    (d.clearV l).strings.length ≤ d.strings.length ∧
    (d.clearV l).overflowed = d.overflowed ∧
    ((d.clearV l).strings.map (·.bytes)).Sublist (d.strings.map (·.bytes)) ∧
    (Exact d (d.strRefs F) → Exact (d.clearV l) ((d.clearV l).strRefs (replaceAt F l .nil))) := by
  obtain ⟨dm, hdm, hex, h, _⟩ := clearV_x w hs hl
  rw [h, hdm, set_pl, set_strings, set_overflowed]
  refine ⟨hex.pl, hex.len, hex.ov, hex.bytes, fun he => ?_⟩
  have h1 : Exact d (relStrs d F l ++ keepL d F l) := by
    refine Exact_perm ?_ he
    have := strRefs_split (d := d) w.nodup hl
    simpa only [relStrs, List.append_assoc] using this
  exact Exact_congr (d := dm) (set_strings _ _ _) (hex.exact h1)

/-! ## Reuse of released slots -/

theorem appendOne_strings (d : Doc) (l : Loc) (id : Nat) : (d.appendOne l id).strings = d.strings := by
  simp only [Doc.appendOne]
  split
  · split
    · rw [set_strings, setNext_strings]
    · rw [set_strings]
  · rfl

theorem appendOne_overflowed (d : Doc) (l : Loc) (id : Nat) : (d.appendOne l id).overflowed = d.overflowed := by
  simp only [Doc.appendOne]
  split
  · split
    · rw [set_overflowed]; simp only [Doc.setNext]; split <;> rfl
    · rw [set_overflowed]
  · rfl

/-- with a non-empty free list `allocVariant` hands out its head: the allocator is not called, no pool is touched -/
theorem allocVariant_reuse {d : Doc} {id : Nat} {rest : List Nat} (hf : d.pl.free = id :: rest) :
    d.allocVariant =
      (some id, { d with pl := { d.pl with free := rest }, cells := d.cells.insert id (.var .null d.null) }) := by
  simp only [Doc.allocVariant, PL.allocSlot_cons hf]

theorem addElement_reuse {d : Doc} {id : Nat} {rest : List Nat} (hf : d.pl.free = id :: rest) (l : Loc) :
    (d.addElement l).1 = some id ∧ (d.addElement l).2.pl = { d.pl with free := rest } ∧
    (d.addElement l).2.overflowed = d.overflowed ∧ (d.addElement l).2.strings = d.strings := by
  have h : d.addElement l = (some id, (d.allocVariant.2).appendOne l id) := by
    simp only [Doc.addElement, allocVariant_reuse hf]
  rw [h, allocVariant_reuse hf]
  exact ⟨rfl, appendOne_pl _ _ _, appendOne_overflowed _ _ _, appendOne_strings _ _ _⟩

/-- a sequence of `array.add()` at the locations `ls`: results and final document -/
def addAll : List Loc → Doc → List (Option Nat) × Doc
  | [], d => ([], d)
  | l :: ls, d => ((d.addElement l).1 :: (addAll ls (d.addElement l).2).1, (addAll ls (d.addElement l).2).2)

/-- as long as the free list lasts, insertions take their slots from it, in order, and the pool state changes in
    nothing but the free list: no allocator call (`calls`, `log` unchanged), no pool touched -/
theorem addAll_reuse : ∀ (ls : List Loc) (d : Doc), ls.length ≤ d.pl.free.length →
    (addAll ls d).1 = (d.pl.free.take ls.length).map some ∧
    (addAll ls d).2.pl = { d.pl with free := d.pl.free.drop ls.length } ∧
    (addAll ls d).2.overflowed = d.overflowed ∧ (addAll ls d).2.strings = d.strings := by
  intro ls
  induction ls with
  | nil => intro d _; exact ⟨rfl, rfl, rfl, rfl⟩
  | cons l ls ih =>
    intro d hlen
    cases hf : d.pl.free with
    | nil => rw [hf] at hlen; simp at hlen
    | cons id rest =>
      obtain ⟨a, b, c, e⟩ := addElement_reuse hf l
      rw [hf] at hlen
      simp only [List.length_cons] at hlen
      obtain ⟨x, y, z, u⟩ := ih (d.addElement l).2 (by rw [b]; show ls.length ≤ rest.length; omega)
      simp only [addAll, a, x, y, z, u, b, c, e, List.length_cons, List.take_succ_cons, List.map_cons,
        List.drop_succ_cons, and_self]

/-! ## The references of a document after `appendOne`, `addElement`, `setArg` -/

/-- `appendOne` of a fresh null slot leaves the references (as a multiset) unchanged -/
theorem appendOne_strRefs_perm {d : Doc} {F : Forest} {l : Loc} {h t id : Nat} (w : WFG d F)
    (hl : isLoc F l) (hv : d.get l = .arr h t) (hid : d.cell id = .var .null d.null) (hidF : id ∉ F.ids)
    (hlt : id < d.null) (hfree : PL.live d.g d.pl id) :
    List.Perm ((d.appendOne l id).strRefs (replaceAt F l ((layoutAt F l).snoc none id))) (d.strRefs F) :=
  (appendOne_gen w hl hv hid hidF hlt hfree).2.2.1

/-- a document whose pool only grew has the same references -/
theorem strRefs_of_grow {d d' : Doc} {F : Forest} (w : WFG d F) (h : Grow d d') : d'.strRefs F = d.strRefs F := by
  apply flatMap_congr'
  intro l0 h0
  rcases mem_holders.1 h0 with e | ⟨x, hx, e⟩
  · subst e; show strOfV d'.root = strOfV d.root; rw [h.root]
  · subst e; rw [get_of_cell (h.cells x (w.live x hx))]

/-- ghost layout after `addElement l` -/
def addLayout (d : Doc) (F : Forest) (l : Loc) : Forest :=
  match (d.addElement l).1 with
  | some id => replaceAt F l ((layoutAt F l).snoc none id)
  | none => F

/-- `addElement` on an array location: the string table is not touched and the references are the same multiset -/
theorem addElement_strRefs {d : Doc} {F : Forest} {l : Loc} {h t : Nat} (w : WFG d F) (hs : StrOK d (d.strRefs F))
    (gok : PL.GeoOK d.g) (hl : isLoc F l) (hv : d.get l = .arr h t) :
    (d.addElement l).2.strings = d.strings ∧
    List.Perm ((d.addElement l).2.strRefs (addLayout d F l)) (d.strRefs F) := by
  simp only [addLayout, Doc.addElement]
  generalize hal : d.allocVariant = r
  obtain ⟨m, d1⟩ := r
  cases m with
  | none =>
    obtain ⟨hg, _, _⟩ := allocVariant_none gok w.pool hal
    simp only
    exact ⟨hg.strings, by rw [strRefs_of_grow w hg]⟩
  | some id =>
    obtain ⟨hg, _, hc, _, hnl, hlt, hlv⟩ := allocVariant_some gok w.pool hal
    obtain ⟨w1, _, _⟩ := wfg_of_grow w hs hg
    obtain ⟨o1, _, _⟩ := grow_obs w hs hg hl
    have hn : d1.null = d.null := by simp only [Doc.null, hg.g]
    have hp := appendOne_strRefs_perm (d := d1) (id := id) w1 hl (by rw [o1]; exact hv) (by rw [hn]; exact hc)
      (fun m => hnl (w.live id m)) (by rw [hn]; exact hlt) ((hlv id).2 (Or.inr rfl))
    simp only
    refine ⟨by rw [appendOne_strings, hg.strings], ?_⟩
    rw [strRefs_of_grow w hg] at hp
    exact hp

/-- exact counts after storing `v'` at a location that held no string (`d1`: after the resource was acquired) -/
theorem set_gen_exact {d d1 : Doc} {F : Forest} {l : Loc} {v' : VData} (w : WFG d F) (hl : isLoc F l)
    (hold : strOfV (d.get l) = []) (hroot : d1.root = d.root) (hcells : ∀ j ∈ F.ids, d1.cell j = d.cell j)
    (he1 : Exact d1 (strOfV v' ++ d.strRefs F)) : Exact (d1.set l v') ((d1.set l v').strRefs F) := by
  refine Exact_congr (d := d1) (set_strings _ _ _) ?_
  have hp := strRefs_set_perm (d := d) (d' := d1.set l v') w.nodup (loc_mem_holders hl) ?_ hold
  · rw [get_set_self] at hp
    exact Exact_perm hp.symm he1
  · intro l0 h0 hne
    rw [get_set_ne hne]
    rcases mem_holders.1 h0 with e | ⟨x, hx, e⟩
    · subst e; show strOfV d1.root = _; rw [hroot]; rfl
    · subst e; rw [get_of_cell (hcells x hx)]

/-- `setArg` on a cleared location that reports success keeps exact counts exact -/
theorem setArg_exact {d : Doc} {F : Forest} {l : Loc} {a : Arg} (w : WFG d F) (hs : StrOK d (d.strRefs F))
    (he : Exact d (d.strRefs F)) (hl : isLoc F l) (hnull : d.get l = .null) (gok : PL.GeoOK d.g)
    (hok : (d.setArg l a).1 = true) : Exact (d.setArg l a).2 ((d.setArg l a).2.strRefs F) := by
  have hold : strOfV (d.get l) = [] := by rw [hnull]; rfl
  have sh := setArg_shape d l a
  generalize d.setArg l a = q at hok sh ⊢
  cases sh with
  | noop => exact he
  | plain _ _ _ hv' => exact set_gen_exact w hl hold rfl (fun _ _ => rfl) (by rw [hv']; exact he)
  | extOk hal _ _ hv' =>
    obtain ⟨_, hroot, _, _, hco, _, _, hnl, _⟩ := allocExt_spec w gok hal
    obtain ⟨h1, _⟩ := allocExt_str hal
    exact set_gen_exact w hl hold hroot (fun j hj => hco j (fun e' => hnl (e' ▸ w.live j hj)))
      (by rw [hv']; exact Exact_congr h1 he)
  | extFail => cases hok
  | strOk hal _ _ _ hv' =>
    obtain ⟨_, hroot, hcells, _⟩ := saveString_spec hs.ids_nodup hs.ids_lt hal
    exact set_gen_exact w hl hold hroot (fun j _ => by simp only [Doc.cell, hcells])
      (by rw [hv']; exact saveString_exact hs he hal)
  | strFail hal =>
    obtain ⟨_, ho, _⟩ := saveString_none w.pool hal
    simp only [ho] at hok
    cases hok

/-! ## Balance of the allocator log, stored-once invariant: `addElement`, `clearV` -/

theorem addElement_pl_s (d : Doc) (l : Loc) :
    (d.addElement l).2.pl = d.allocVariant.2.pl ∧ (d.addElement l).2.strings = d.strings := by
  have hs := (allocVariant_pl_s d).2
  simp only [Doc.addElement]
  generalize d.allocVariant = r at hs ⊢
  obtain ⟨m, d1⟩ := r
  cases m
  · exact ⟨rfl, hs⟩
  · exact ⟨appendOne_pl _ _ _, by rw [appendOne_strings]; exact hs⟩

theorem addElement_bal {d : Doc} (l : Loc) (h : Bal d) : Bal (d.addElement l).2 :=
  Bal_of (by rw [(addElement_pl_s d l).1, (allocVariant_pl_s d).1, PL.allocSlot_net]) (by rw [(addElement_pl_s d l).2]) h

theorem addElement_bytesNodup {d : Doc} (l : Loc) (h : BytesNodup d) : BytesNodup (d.addElement l).2 := by
  unfold BytesNodup at *; rw [(addElement_pl_s d l).2]; exact h

theorem clearV_bal {d : Doc} {F : Forest} {l : Loc} (w : WFG d F) (hs : StrOK d (d.strRefs F)) (hl : isLoc F l)
    (h : Bal d) : Bal (d.clearV l) := by
  obtain ⟨a, b, _⟩ := clearV_exact w hs hl
  unfold Bal at *
  rw [a, net_rel, h]; omega

theorem clearV_bytesNodup {d : Doc} {F : Forest} {l : Loc} (w : WFG d F) (hs : StrOK d (d.strRefs F)) (hl : isLoc F l)
    (h : BytesNodup d) : BytesNodup (d.clearV l) :=
  List.Nodup.sublist (clearV_exact w hs hl).2.2.2.1 h

/-! ## Small equations used to instantiate the theorems on concrete documents
    (`Std.HashMap` with a key other than 0 does not evaluate in the kernel: `USize`) -/

theorem setArg_sint_big {d d1 : Doc} {l : Loc} {v : Int} {e : Nat} (hv : ¬ (-2^31 ≤ v ∧ v < 2^31))
    (hal : d.allocExt v = (some e, d1)) : d.setArg l (.sint v) = (true, d1.set l (.i64 e)) := by
  simp only [Doc.setArg, if_neg hv, hal]

theorem setArg_copied_found {d : Doc} {l : Loc} {s : List Byte} {x : StrNode}
    (hf : d.strings.find? (·.bytes == s) = some x) :
    d.setArg l (.strCopied s) = (!d.overflowed, (d.saveString s).2.set l (.owned x.id)) := by
  simp only [Doc.setArg, saveString_found hf, set_overflowed]

theorem allocExt_root (d : Doc) (p : Int) : (d.allocExt p).2.root = d.root := by
  simp only [Doc.allocExt]; split <;> rfl

theorem allocVariant_overflowed_some {d d1 : Doc} {id : Nat} (h : d.allocVariant = (some id, d1)) :
    d1.overflowed = d.overflowed := by
  simp only [Doc.allocVariant] at h
  split at h
  · simp only [Prod.mk.injEq] at h; obtain ⟨_, rfl⟩ := h; rfl
  · simp at h

theorem addElement_overflowed_some {d : Doc} {l : Loc} {id : Nat} (h : (d.addElement l).1 = some id) :
    (d.addElement l).2.overflowed = d.overflowed := by
  generalize hal : d.allocVariant = r
  obtain ⟨m, d1⟩ := r
  simp only [Doc.addElement, hal] at h ⊢
  cases m with
  | none => simp at h
  | some j =>
    show (d1.appendOne l j).overflowed = _
    rw [appendOne_overflowed, allocVariant_overflowed_some hal]

/-- clearing a slot location leaves the root value in place -/
theorem clearV_slot_root {d : Doc} {F : Forest} {i : Nat} (w : WFG d F) (hs : StrOK d (d.strRefs F))
    (hl : isLoc F (.slot i)) : (d.clearV (.slot i)).root = d.root := by
  obtain ⟨dm, hdm, hex, _⟩ := clearV_x w hs hl
  rw [hdm, root_set_slot, hex.eff.root]

/-- the element added by `addElement` holds null -/
theorem addElement_get_new {d : Doc} {F : Forest} {l : Loc} {h t id : Nat} (w : WFG d F) (hs : StrOK d (d.strRefs F))
    (gok : PL.GeoOK d.g) (hl : isLoc F l) (hv : d.get l = .arr h t) (h1 : (d.addElement l).1 = some id) :
    (d.addElement l).2.get (.slot id) = .null := by
  generalize hal : d.allocVariant = r
  obtain ⟨m, d1⟩ := r
  have hm : m = some id := by
    have : (d.addElement l).1 = m := by simp only [Doc.addElement, hal]; cases m <;> rfl
    rw [← this, h1]
  subst hm
  have heq : d.addElement l = (some id, d1.appendOne l id) := by simp only [Doc.addElement, hal]
  rw [heq]
  obtain ⟨hg, _, hc, _, hnl, hlt, hlv⟩ := allocVariant_some gok w.pool hal
  obtain ⟨w1, _, _⟩ := wfg_of_grow w hs hg
  obtain ⟨o1, _, _⟩ := grow_obs w hs hg hl
  have hn : d1.null = d.null := by simp only [Doc.null, hg.g]
  have hv1 : d1.get l = .arr h t := by rw [o1]; exact hv
  have hidF : id ∉ F.ids := fun m => hnl (w.live id m)
  have hvs : VOK d1 (.arr h t) (layoutAt F l) := hv1 ▸ VOK_at w1 hl
  obtain ⟨hlk, ht⟩ := (VOK_arr _ _ _ _).1 hvs
  obtain ⟨htf, htl⟩ := tail_facts w1 hl hlk ht
  obtain ⟨_, _, _, _, _, hco, _, _, _⟩ := appendOne_cells (id := id) hv1 htl
  refine get_of_var (v := .null) (n := d.null) ?_
  show (d1.appendOne l id).cell id = _
  rw [hco id ?_ ?_, hc]
  · intro e
    exact hidF (isLoc_ids (e ▸ hl))
  · intro htn e; exact hidF (e ▸ (htf htn).2.2.1)

end DL
