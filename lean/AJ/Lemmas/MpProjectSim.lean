/- MessagePack: whenever the unfiltered deserializer succeeds from a reader state, the filtered deserializer
   (any filter, destination present or not) succeeds from that state, ends in the same reader state, and has
   built the projection of the unfiltered value (nothing when there is no destination).
   Induction on the fuel over the mutual block `parseVariant / readArray / readObject`, leaf by leaf
   (`MD.parseVariant_step`). -/
import AJ.Lemmas.MpProject
namespace MD
open JD Spec.Filter

/-- what a destination receives: the projection when there is one, nothing otherwise -/
def projDst (flt : Flt) (hasDst : Bool) (v : Val) : Val := if hasDst then project flt v else .null

theorem projDst_true (flt : Flt) (v : Val) : projDst flt true v = project flt v := rfl
theorem projDst_false (flt : Flt) (v : Val) : projDst flt false v = .null := rfl

/-- a destination receives `w` or nothing when the projection is `w` or nothing -/
theorem projDst_ite {flt : Flt} {v w : Val} {c : Bool} (h : project flt v = if c then w else .null) (hasDst : Bool) :
    projDst flt hasDst v = if hasDst && c then w else .null := by
  unfold projDst
  rw [h]
  cases hasDst <;> rfl

theorem projDst_scalar (flt : Flt) (hasDst : Bool) (v : Val) (h1 : v.isArr = false) (h2 : v.isObj = false) :
    projDst flt hasDst v = if hasDst && flt.allowValue then v else .null :=
  projDst_ite (project_scalar flt v h1 h2) hasDst

theorem projDst_arr (flt : Flt) (hasDst : Bool) (xs : List Val) :
    projDst flt hasDst (.arr xs) = if hasDst && flt.allowArray then .arr (projectElems flt.subIdx xs) else .null :=
  projDst_ite (by rw [project]) hasDst

theorem projDst_obj (flt : Flt) (hasDst : Bool) (ms : List (List Byte × Val)) :
    projDst flt hasDst (.obj ms) = if hasDst && flt.allowObject then .obj (projectMembers flt ms) else .null :=
  projDst_ite (by rw [project]) hasDst

theorem projDst_null (flt : Flt) (hasDst : Bool) : projDst flt hasDst .null = .null := by
  unfold projDst; rw [project_null]; cases hasDst <;> rfl

/-! ## scalar leaves -/

/-- skipping takes what reading takes -/
theorem skip_of_read {r : R} {n : Nat} {bs : List Byte} {r' : R} (h : r.readBytes n = (some bs, r')) :
    r.skipBytes n = (true, r') := by
  unfold R.readBytes at h
  unfold R.skipBytes
  by_cases hc : r.unread.length ≥ n
  · rw [if_pos hc] at h ⊢
    cases h; rfl
  · rw [if_neg hc] at h
    cases h

/-- a leaf that reads `w` bytes into a scalar when values are allowed, and skips them otherwise -/
theorem leafSized_sim {tooBig : Prop} [Decidable tooBig] {w : Nat} {mk : List Byte → Val} {r : R} {v : Val} {r1 : R}
    {fnd : Bool} (h : leafSized true tooBig w mk r = (.ok, v, r1, fnd))
    (hmk : ∀ bs, (mk bs).isArr = false ∧ (mk bs).isObj = false) :
    fnd = true ∧ ∀ flt hasDst,
      leafSized (hasDst && flt.allowValue) tooBig w mk r = (.ok, projDst flt hasDst v, r1, true) := by
  unfold leafSized at h
  rw [if_pos rfl] at h
  by_cases hb : tooBig
  · rw [if_pos hb] at h; cases h
  rw [if_neg hb] at h
  generalize hrd : r.readBytes w = rd at h
  obtain ⟨_ | bs, r2⟩ := rd
  · cases h
  cases h
  refine ⟨rfl, fun flt hasDst => ?_⟩
  rw [projDst_scalar flt hasDst _ (hmk bs).1 (hmk bs).2]
  unfold leafSized
  cases hasDst && flt.allowValue
  · rw [if_neg Bool.false_ne_true, skip_of_read hrd]; rfl
  · rw [if_pos rfl, if_neg hb, hrd]; rfl

theorem leafFixed_eq (aV : Bool) (w : Nat) (mk : List Byte → Val) (r : R) :
    leafFixed aV w mk r = leafSized aV False w mk r := by rfl

theorem leafFixed_sim {w : Nat} {mk : List Byte → Val} {r : R} {v : Val} {r1 : R} {fnd : Bool}
    (h : leafFixed true w mk r = (.ok, v, r1, fnd)) (hmk : ∀ bs, (mk bs).isArr = false ∧ (mk bs).isObj = false) :
    fnd = true ∧ ∀ flt hasDst, leafFixed (hasDst && flt.allowValue) w mk r = (.ok, projDst flt hasDst v, r1, true) := by
  simp only [leafFixed_eq] at h ⊢
  exact leafSized_sim h hmk

/-- a leaf whose value `c` is in the header byte -/
theorem finV_sim {c : Val} {r0 : R} {v : Val} {r1 : R} {fnd : Bool} (h : finV .ok c r0 = (.ok, v, r1, fnd))
    (h1 : c.isArr = false) (h2 : c.isObj = false) :
    fnd = true ∧ ∀ flt hasDst,
      finV .ok (if hasDst && flt.allowValue then c else .null) r0 = (.ok, projDst flt hasDst v, r1, true) := by
  cases h
  exact ⟨rfl, fun flt hasDst => by rw [projDst_scalar flt hasDst c h1 h2]; rfl⟩

theorem readInteger_scalar (bs : List Byte) (s : Bool) :
    (readInteger bs s).isArr = false ∧ (readInteger bs s).isObj = false := by
  unfold readInteger
  cases s <;> exact ⟨rfl, rfl⟩

/-! ## the simulation -/

/-- the three statements, for one amount of fuel -/
def SimV_d5 (env : Env) (fuel : Nat) : Prop :=
  ∀ limit r v r1 fnd, parseVariant env fuel limit .all true r = (.ok, v, r1, fnd) →
    fnd = true ∧ ∀ flt hasDst, parseVariant env fuel limit flt hasDst r = (.ok, projDst flt hasDst v, r1, true)

def SimA (env : Env) (fuel : Nat) : Prop :=
  ∀ limit n r acc vs r1, readArray env fuel limit .all true n r acc = (.ok, vs, r1) →
    ∃ xs, vs = acc.reverse ++ xs ∧ ∀ ef hasArr acc',
      readArray env fuel limit ef hasArr n r acc' =
        (.ok, acc'.reverse ++ (if hasArr then projectElems ef xs else []), r1)

def SimO (env : Env) (fuel : Nat) : Prop :=
  ∀ limit n r ms out r1, readObject env fuel limit .all true n r ms = (.ok, out, r1) →
    ∃ xs, out = ms ++ xs ∧ ∀ flt hasObj ms',
      readObject env fuel limit flt hasObj n r ms' =
        (.ok, ms' ++ (if hasObj then projectMembers flt xs else []), r1)

theorem leafArr_sim {env : Env} {fuel : Nat} (ihA : SimA env fuel) {limit size : Nat} {r : R} {v : Val} {r1 : R}
    {fnd : Bool} (h : leafArr env fuel limit .all true size r = (.ok, v, r1, fnd)) :
    fnd = true ∧ ∀ flt hasDst, leafArr env fuel limit flt hasDst size r = (.ok, projDst flt hasDst v, r1, true) := by
  cases limit with
  | zero => cases h
  | succ l =>
    simp only [leafArr, Flt.allowArray, Flt.subIdx, Bool.and_self, if_true] at h
    generalize hra : readArray env fuel l .all true size r [] = ra at h
    obtain ⟨e, vs, r2⟩ := ra
    cases h
    obtain ⟨xs, hxs, hall⟩ := ihA _ _ _ _ _ _ hra
    cases hxs
    refine ⟨rfl, fun flt hasDst => ?_⟩
    rw [projDst_arr]
    simp only [leafArr]
    rw [hall, hall]
    cases hasDst && flt.allowArray <;> rfl

theorem leafMap_sim {env : Env} {fuel : Nat} (ihO : SimO env fuel) {limit size : Nat} {r : R} {v : Val} {r1 : R}
    {fnd : Bool} (h : leafMap env fuel limit .all true size r = (.ok, v, r1, fnd)) :
    fnd = true ∧ ∀ flt hasDst, leafMap env fuel limit flt hasDst size r = (.ok, projDst flt hasDst v, r1, true) := by
  cases limit with
  | zero => cases h
  | succ l =>
    simp only [leafMap, Flt.allowObject, Bool.and_self, if_true] at h
    generalize hra : readObject env fuel l .all true size r [] = ra at h
    obtain ⟨e, ms, r2⟩ := ra
    cases h
    obtain ⟨xs, hxs, hall⟩ := ihO _ _ _ _ _ _ hra
    cases hxs
    refine ⟨rfl, fun flt hasDst => ?_⟩
    rw [projDst_obj]
    simp only [leafMap]
    rw [hall, hall]
    cases hasDst && flt.allowObject <;> rfl

/-- every leaf: what the filtered run does after the header is the projection of what the unfiltered run does -/
theorem leafOf_sim {env : Env} {fuel : Nat} (ihA : SimA env fuel) (ihO : SimO env fuel) {limit : Nat} {code : Byte}
    {r0 : R} (tok : Hdr) {v : Val} {r1 : R} {fnd : Bool}
    (h : leafOf env fuel limit .all true code r0 tok = (.ok, v, r1, fnd)) :
    fnd = true ∧ ∀ flt hasDst,
      leafOf env fuel limit flt hasDst code r0 tok = (.ok, projDst flt hasDst v, r1, true) := by
  cases tok with
  | int w c => exact leafFixed_sim h (fun bs => readInteger_scalar bs _)
  | nil =>
    cases h
    exact ⟨rfl, fun flt hasDst => by rw [projDst_null]; rfl⟩
  | invalid => cases h
  | bool c => exact finV_sim h rfl rfl
  | f32 => exact leafFixed_sim h (fun _ => ⟨rfl, rfl⟩)
  | f64 => exact leafFixed_sim h (fun _ => ⟨rfl, rfl⟩)
  | fix c => exact finV_sim h rfl rfl
  | inc r2 => cases h
  | arr size r2 => exact leafArr_sim ihA h
  | map size r2 => exact leafMap_sim ihO h
  | str size r2 => exact leafSized_sim h (fun _ => ⟨rfl, rfl⟩)
  | bin sb ie hb size r2 => exact leafSized_sim h (fun _ => ⟨rfl, rfl⟩)

theorem simV_zero (env : Env) : SimV_d5 env 0 := by
  intro limit r v r1 fnd h
  simp only [parseVariant] at h
  cases h

theorem simA_zero (env : Env) : SimA env 0 := by
  intro limit n r acc vs r1 h
  simp only [readArray] at h
  cases h

theorem simO_zero (env : Env) : SimO env 0 := by
  intro limit n r ms out r1 h
  simp only [readObject] at h
  cases h

theorem simV_succ {env : Env} {fuel : Nat} (ihA : SimA env fuel) (ihO : SimO env fuel) : SimV_d5 env (fuel+1) := by
  intro limit r v r1 fnd h
  rw [parseVariant_step] at h
  simp only [parseVariant_step]
  generalize r.read = rd at h ⊢
  obtain ⟨_ | code, r0⟩ := rd
  · cases h
  · exact leafOf_sim ihA ihO _ h

theorem simA_succ {env : Env} {fuel : Nat} (ihV : SimV_d5 env fuel) (ihA : SimA env fuel) : SimA env (fuel+1) := by
  intro limit n r acc vs r1 h
  simp only [readArray, Flt.allow, Bool.and_self, if_true] at h
  by_cases hn : (n == 0) = true
  · rw [if_pos hn] at h
    cases h
    refine ⟨[], (List.append_nil _).symm, ?_⟩
    intro ef hasArr acc'
    simp only [readArray, hn, if_true, projectElems, ite_self, List.append_nil]
  · rw [if_neg hn] at h
    generalize hpv : parseVariant env fuel limit .all true r = pv at h
    obtain ⟨e, v, r2, f2⟩ := pv
    cases e with
    | ok =>
      obtain ⟨-, hV⟩ := ihV _ _ _ _ _ hpv
      obtain ⟨xs, hxs, hall⟩ := ihA _ _ _ _ _ _ h
      refine ⟨v :: xs, by rw [hxs, List.reverse_cons, List.append_assoc]; rfl, fun ef hasArr acc' => ?_⟩
      simp only [readArray, hn, Bool.false_eq_true, if_false]
      rw [hV ef (hasArr && ef.allow)]
      simp only []
      rw [hall]
      cases hasArr
      · rfl
      rw [projectElems]
      cases ef.allow
      · rfl
      · show (Code.ok, (project ef v :: acc').reverse ++ _, r1) = _
        rw [List.reverse_cons, List.append_assoc]; rfl
    | _ => cases h

/-- The next map key, which every run reads whatever the filter says: the loop stops with a code (`ok` when no
    member remains) or goes on with the key. -/
def nextKey (env : Env) (n : Nat) (r : R) : Except (Code × R) (List Byte × R) :=
  if n == 0 then .error (.ok, r) else
  match r.read with
  | (none, r) => .error (.incomplete, r)
  | (some code, r) =>
    match keyLenOf_d3 code r with
    | (none, r) => .error (.invalid, r)
    | (some none, r) => .error (.incomplete, r)
    | (some (some len), r) =>
      if len > env.maxStrLen then .error (.noMemory, r) else
      match r.readBytes len with
      | (none, r) => .error (.incomplete, r)
      | (some key, r) => .ok (key, r)

theorem readObject_nextKey (env : Env) (fuel limit : Nat) (flt : Flt) (hasObj : Bool) (n : Nat) (r : R)
    (ms : List (List Byte × Val)) :
    readObject env (fuel+1) limit flt hasObj n r ms =
      match nextKey env n r with
      | .error (e, r) => (e, ms, r)
      | .ok (key, r) =>
        match parseVariant env fuel limit (flt.subKey key) (hasObj && (flt.subKey key).allow) r with
        | (.ok, v, r, _) =>
          readObject env fuel limit flt hasObj (n - 1) r
            (if hasObj && (flt.subKey key).allow then ms ++ [(key, v)] else ms)
        | (e, v, r, _) => (e, (if hasObj && (flt.subKey key).allow then ms ++ [(key, v)] else ms), r) := by
  rw [readObject_step]
  unfold nextKey
  by_cases hn : (n == 0) = true
  · rw [if_pos hn, if_pos hn]
  rw [if_neg hn, if_neg hn]
  generalize r.read = rd
  obtain ⟨_ | code, r0⟩ := rd
  · rfl
  simp only []
  generalize keyLenOf_d3 code r0 = kl
  obtain ⟨_ | _ | len, r2⟩ := kl
  · rfl
  · rfl
  simp only []
  by_cases hbig : len > env.maxStrLen
  · rw [if_pos hbig, if_pos hbig]
  rw [if_neg hbig, if_neg hbig]
  generalize r2.readBytes len = rk
  obtain ⟨_ | key, r3⟩ := rk
  · rfl
  · rfl

theorem simO_succ {env : Env} {fuel : Nat} (ihV : SimV_d5 env fuel) (ihO : SimO env fuel) : SimO env (fuel+1) := by
  intro limit n r ms out r1 h
  rw [readObject_nextKey] at h
  simp only [readObject_nextKey]
  generalize nextKey env n r = nk at h ⊢
  obtain ⟨e, r2⟩ | ⟨key, r3⟩ := nk
  · cases h
    refine ⟨[], (List.append_nil _).symm, fun flt hasObj ms' => ?_⟩
    rw [projectMembers, ite_self, List.append_nil]
  simp only [Flt.subKey, Flt.allow, Bool.and_self, if_true] at h
  generalize hpv : parseVariant env fuel limit .all true r3 = pv at h
  obtain ⟨e, v, r4, f4⟩ := pv
  cases e with
  | ok =>
    obtain ⟨-, hV⟩ := ihV _ _ _ _ _ hpv
    obtain ⟨xs, hxs, hall⟩ := ihO _ _ _ _ _ _ h
    refine ⟨(key, v) :: xs, by rw [hxs, List.append_assoc]; rfl, fun flt hasObj ms' => ?_⟩
    simp only []
    rw [hV (flt.subKey key) (hasObj && (flt.subKey key).allow)]
    simp only []
    rw [hall]
    cases hasObj
    · rfl
    rw [projectMembers]
    cases (flt.subKey key).allow
    · rfl
    · show (Code.ok, (ms' ++ [(key, project _ v)]) ++ _, r1) = _
      rw [List.append_assoc]; rfl
  | _ => cases h

/-- **The simulation**, all three routines, every amount of fuel. -/
theorem sim_all_mp (env : Env) : ∀ fuel, SimV_d5 env fuel ∧ SimA env fuel ∧ SimO env fuel := by
  intro fuel
  induction fuel with
  | zero => exact ⟨simV_zero env, simA_zero env, simO_zero env⟩
  | succ k ih =>
    obtain ⟨ihV, ihA, ihO⟩ := ih
    exact ⟨simV_succ ihA ihO, simA_succ ihV ihA, simO_succ ihV ihO⟩

end MD
