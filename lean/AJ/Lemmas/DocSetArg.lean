/- What `Doc.setArg` does, said once: whatever the argument, the result is one of six outcomes (nothing stored, a value
   that needs no resource, a value over a new extension slot or that slot refused, a value over a string copy or that
   copy refused). Theorems about `setArg` go through the outcomes and the lemmas of `allocExt` / `saveString` / `set`. -/
import AJ.Lemmas.DocFrame

namespace C04
open DL
open JD (Byte Val)

/-- the abstract value an argument of `set` stands for -/
def argVal : Arg → Val
  | .null => .null
  | .bool b => .bool b
  | .sint v => .num (.sint v)
  | .uint v => .num (.uint v)
  | .f32 b => .num (.f32 b)
  | .f64 b => match JD.storeDouble b with | .f32 f => .num (.f32 f) | _ => .num (.f64 b)
  | .strLinked s => .str s
  | .strCopied s => .str s
  | .raw s => .raw s

end C04

namespace DL
open JD (Byte Val)

/-- The outcomes of `d.setArg l a`, as a pair (reported success, document); `x` is the abstract value of the argument.
    The reported success of the outcomes that store something is `true` at least when `d` had not overflowed.
    `v'` is the stored value: a scalar that refers to nothing (`plain`), to the new extension slot `e` holding `p`
    (`extOk`), or to the string node `n` holding a copy of `s` (`strOk`). -/
inductive SetArgShape (d : Doc) (l : Loc) (x : Val) : Bool × Doc → Prop
  | noop {b : Bool} (hb : d.overflowed = false → b = true) (hx : x = .null) : SetArgShape d l x (b, d)
  | plain {b : Bool} {v' : VData} (hb : d.overflowed = false → b = true) (hc : ¬ isColl v') (he : extOfV v' = [])
      (hs : strOfV v' = []) (hx : ∀ d' : Doc, d'.scalar v' = x) : SetArgShape d l x (b, d.set l v')
  | extOk {p : Int} {e : Nat} {d1 : Doc} {v' : VData} (hal : d.allocExt p = (some e, d1)) (hc : ¬ isColl v')
      (he : extOfV v' = [e]) (hs : strOfV v' = []) (hx : ∀ d' : Doc, d'.extOf e = p → d'.scalar v' = x) :
      SetArgShape d l x (true, d1.set l v')
  | extFail {p : Int} {d1 : Doc} (hal : d.allocExt p = (none, d1)) : SetArgShape d l x (false, d1)
  | strOk {s : List Byte} {n : Nat} {d1 : Doc} {b : Bool} {v' : VData} (hal : d.saveString s = (some n, d1))
      (hb : d.overflowed = false → b = true) (hc : ¬ isColl v') (he : extOfV v' = []) (hs : strOfV v' = [n])
      (hx : ∀ d' : Doc, d'.strBytes n = s → d'.scalar v' = x) : SetArgShape d l x (b, d1.set l v')
  | strFail {s : List Byte} {d1 : Doc} (hal : d.saveString s = (none, d1)) : SetArgShape d l x (!d1.overflowed, d1)

theorem SetArgShape.of_allocExt {d : Doc} {l : Loc} {x : Val} (p : Int) (k : Nat → VData) (hc : ∀ e, ¬ isColl (k e))
    (he : ∀ e, extOfV (k e) = [e]) (hs : ∀ e, strOfV (k e) = [])
    (hx : ∀ (d' : Doc) e, d'.extOf e = p → d'.scalar (k e) = x) :
    SetArgShape d l x (match d.allocExt p with | (some e, d1) => (true, d1.set l (k e)) | (none, d1) => (false, d1)) := by
  rcases hal : d.allocExt p with ⟨_ | e, d1⟩
  · exact .extFail hal
  · exact .extOk hal (hc e) (he e) (hs e) (fun d' => hx d' e)

theorem SetArgShape.of_saveString {d : Doc} {l : Loc} {x : Val} (s : List Byte) (k : Nat → VData)
    (hc : ∀ n, ¬ isColl (k n)) (he : ∀ n, extOfV (k n) = []) (hs : ∀ n, strOfV (k n) = [n])
    (hx : ∀ (d' : Doc) n, d'.strBytes n = s → d'.scalar (k n) = x) :
    SetArgShape d l x (match d.saveString s with
      | (some n, d1) => (let d2 := d1.set l (k n); (!d2.overflowed, d2)) | (none, d1) => (!d1.overflowed, d1)) := by
  rcases hal : d.saveString s with ⟨_ | n, d1⟩
  · exact .strFail hal
  · refine .strOk hal (fun h => ?_) (hc n) (he n) (hs n) (fun d' => hx d' n)
    rw [set_overflowed, saveString_overflowed hal, h]; rfl

theorem setArg_shape (d : Doc) (l : Loc) (a : Arg) : SetArgShape d l (C04.argVal a) (d.setArg l a) := by
  have nov : d.overflowed = false → (!d.overflowed) = true := fun h => by rw [h]; rfl
  cases a with
  | null => exact .noop nov rfl
  | bool b => exact .plain (fun _ => rfl) id rfl rfl (fun _ => rfl)
  | f32 b => exact .plain (fun _ => rfl) id rfl rfl (fun _ => rfl)
  | strLinked s => exact .plain (fun h => by rw [set_overflowed, h]; rfl) id rfl rfl (fun _ => rfl)
  | sint v =>
    simp only [Doc.setArg]
    split
    · exact .plain (fun _ => rfl) id rfl rfl (fun _ => rfl)
    · exact .of_allocExt v .i64 (fun _ => id) (fun _ => rfl) (fun _ => rfl)
        (fun d' e h => by simp only [Doc.scalar, h, C04.argVal])
  | uint v =>
    simp only [Doc.setArg]
    split
    · exact .plain (fun _ => rfl) id rfl rfl (fun _ => rfl)
    · exact .of_allocExt v .u64 (fun _ => id) (fun _ => rfl) (fun _ => rfl)
        (fun d' e h => by simp only [Doc.scalar, h, C04.argVal, Int.toNat_natCast])
  | f64 b =>
    simp only [Doc.setArg, C04.argVal]
    split
    · rename_i f heq
      simp only [heq]
      exact .plain (fun _ => rfl) id rfl rfl (fun _ => rfl)
    · rename_i hne
      split
      · rename_i f heq; exact absurd heq (hne f)
      · exact .of_allocExt b .f64 (fun _ => id) (fun _ => rfl) (fun _ => rfl)
          (fun d' e h => by simp only [Doc.scalar, h, Int.toNat_natCast])
  | strCopied s =>
    exact .of_saveString s .owned (fun _ => id) (fun _ => rfl) (fun _ => rfl)
      (fun d' n h => by simp only [Doc.scalar, h, C04.argVal])
  | raw s =>
    exact .of_saveString s .raw (fun _ => id) (fun _ => rfl) (fun _ => rfl)
      (fun d' n h => by simp only [Doc.scalar, h, C04.argVal])

theorem setArg_g (d : Doc) (l : Loc) (a : Arg) : (d.setArg l a).2.g = d.g := (sameId_setArg d l a).g

end DL
