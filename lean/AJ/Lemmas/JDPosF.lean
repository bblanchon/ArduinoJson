/- The invariant `consumed + unread = length` (AJ/Lemmas/JDPos.lean) through the skipping routines and the filtered
   JSON parser: `frun` never takes more bytes than the input has. -/
import AJ.Lemmas.JDPos
namespace JD

theorem inv_fparse_mutual {n cfg} : ∀ fuel,
    (∀ limit flt s, Inv n s → Inv n (fparseVariant cfg fuel limit flt s).2.2) ∧
    (∀ limit flt s acc, Inv n s → Inv n (fparseElems cfg fuel limit flt s acc).2.2) ∧
    (∀ limit flt s ms, Inv n s → Inv n (fparseMembers cfg fuel limit flt s ms).2.2) :=
  kept_fparse_mutual (inv_closed n)

theorem frun_pos_le (cfg : Cfg) (limit : Nat) (flt : Flt) (input : List Byte) :
    (frun cfg limit flt input).2.2 ≤ input.length :=
  finishRun_pos_le ((inv_fparse_mutual _).1 limit flt _ (inv_start input))
end JD
