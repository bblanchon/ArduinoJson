/- Towards C11 at full strength: for EVERY input on which the unfiltered JSON deserializer succeeds (library
   dialect included: single quotes, unquoted keys, comments, NaN/Infinity, `decodeUnicode = false`, trailing
   bytes after the document), the filtered one succeeds, returns the projection and ends in the same state.
   By induction on the fuel, one lemma per piece of the routines (AJ/Lemmas/JDPieces.lean) and per kind of first
   byte of a value. The skipping routines loop where the parsing ones call a sub-routine (`\uXXXX`, the 63-byte
   number buffer), so they need fuel for the bytes the parse has consumed, `rem s - rem s1`
   (AJ/Lemmas/ProjectStep.lean): nothing is assumed about what follows in the input. -/
import AJ.Lemmas.ProjectAlg
import AJ.Lemmas.ProjectStep
import AJ.Lemmas.DialectClass
set_option linter.unusedSimpArgs false
namespace JD
open Spec.Filter

/-- on the state where `skipSpaces` stops with `Ok` a byte other than the end marker is latched -/
theorem skipSpaces_ok_cur {cfg : Cfg} {F : Nat} {s X : St} (h : skipSpaces cfg F s = (.ok, X)) :
    cur X = (X.l.cur, X) ∧ (cur X).1 ≠ 0 := by
  obtain ⟨h1, _, h3, _⟩ := skipSpaces_ok_shape cfg _ _ _ h
  have hc := cur_loaded h1
  exact ⟨hc, by rw [hc]; simpa using h3⟩

/-- after a number the parser has latched the byte that follows; it must be a delimiter (it always is when the
    surrounding routine goes on successfully) -/
def NumOk (cfg : Cfg) (v : Val) (s1 : St) : Prop := isNumberVal v = true → inNumber cfg (cur s1).1 = false

theorem delim_after {cfg : Cfg} {F : Nat} {s' s'' : St} (h : skipSpaces cfg (F + 1) s' = (.ok, s''))
    (hd : inNumber cfg s''.l.cur = false) : inNumber cfg (cur s').1 = false := by
  cases hc : inNumber cfg (cur s').1
  · rfl
  · -- a byte of a number is no white space: `skipSpaces` has stopped on it
    obtain ⟨e0, e1, e2, _⟩ := inNumber_facts cfg _ hc
    simp only [skipSpaces_succ, e0, e1, e2, Bool.and_false, Bool.false_eq_true, ↓reduceIte] at h
    cases h
    exact absurd ((cur_snd_loaded s').2 ▸ hd) (by rw [hc]; decide)

/- The fuel must exceed the number of bytes the parse has consumed, `rem s - rem s1` (`skipElems` sees `]` after `[`
   only through one more level than `parseVariant`). Elements end by consuming their closing bracket. -/
def VS (cfg : Cfg) (f : Nat) : Prop :=
  ∀ L s v s1, parseVariant cfg f L s = (.ok, v, s1) → rem s < rem s1 + f → NumOk cfg v s1 →
    skipVariant cfg f L s = (.ok, s1) ∧ ∀ flt, fparseVariant cfg f L flt s = (.ok, project flt v, s1)
def ES (cfg : Cfg) (f : Nat) : Prop :=
  ∀ L s acc v s1, parseElems cfg f L s acc = (.ok, v, s1) → rem s < rem s1 + f →
    ∃ xs, v = .arr (acc.reverse ++ xs) ∧ rem s1 + 1 ≤ rem s ∧ skipElems cfg f L s = (.ok, s1) ∧
      ∀ ef acc', fparseElems cfg f L ef s acc' = (.ok, .arr (acc'.reverse ++ projectElems ef xs), s1)
def MS (cfg : Cfg) (f : Nat) : Prop :=
  ∀ L s ms v s1, parseMembers cfg f L s ms = (.ok, v, s1) → rem s < rem s1 + f →
    ∃ kvs, v = .obj (foldMembers ms kvs) ∧ skipMembers cfg f L s = (.ok, s1) ∧
      ∀ flt ms', fparseMembers cfg f L flt s ms' = (.ok, .obj (foldMembers ms' (projectMembers flt kvs)), s1)

section
variable {cfg : Cfg} {f : Nat}

/-! ### elements -/

/-- after an element: `]`, or `,` and the elements that follow -/
theorem elems_tail (ihE : ES cfg f) {L : Nat} {s' : St} {acc : List Val} {v : Val} {s1 : St}
    (h : peK2 cfg f L acc (skipSpaces cfg (f+1) s') = (.ok, v, s1)) (hr : rem s' < rem s1 + (f + 1)) :
    inNumber cfg (cur s').1 = false ∧ rem s1 + 1 ≤ rem s' ∧ ∃ xs, v = .arr (acc.reverse ++ xs) ∧
      seK2 cfg f L (skipSpaces cfg (f+1) s') = (.ok, s1) ∧
      ∀ ef vs, feK2 cfg f L ef vs (skipSpaces cfg (f+1) s') = (.ok, .arr (vs.reverse ++ projectElems ef xs), s1) := by
  generalize hS : skipSpaces cfg (f+1) s' = q at h
  obtain ⟨e, s''⟩ := q
  cases e <;> try (cases h; done)
  have r2 := skipSpaces_rem_le hS
  obtain ⟨hY, hnz⟩ := skipSpaces_ok_cur hS
  have r3 := rem_mv_cur s'' hnz
  simp only [peK2, seK2, feK2, hY] at h r3 ⊢
  by_cases hc : (s''.l.cur == 0x5D) = true
  · rw [if_pos hc] at h; cases h
    refine ⟨delim_after hS (eq_of_beq hc ▸ (inNumber_delims cfg).2.1), by omega, [], by rw [List.append_nil], ?_, ?_⟩
    · rw [if_pos hc]
    · intro ef vs; rw [if_pos hc, projectElems, List.append_nil]
  · rw [if_neg hc] at h
    by_cases hc2 : (s''.l.cur == 0x2C) = true
    · rw [if_pos hc2] at h
      obtain ⟨xs, hv, r4, hskE, hfpE⟩ := ihE L _ acc v s1 h (by omega)
      refine ⟨delim_after hS (eq_of_beq hc2 ▸ (inNumber_delims cfg).1), by omega, xs, hv, ?_, ?_⟩
      · rw [if_neg hc, if_pos hc2]; exact hskE
      · intro ef vs; rw [if_neg hc, if_pos hc2]; exact hfpE ef vs
    · rw [if_neg hc2] at h; cases h

theorem step_E (ihV : VS cfg f) (ihE : ES cfg f) : ES cfg (f + 1) := by
  intro L s acc v s1 h hr
  rw [parseElems_succ] at h
  generalize hp : parseVariant cfg f L s = q at h
  obtain ⟨e, v0, s'⟩ := q
  cases e <;> try (cases h; done)
  have r1 := parseVariant_rem_le hp
  obtain ⟨hd, r2, xs, hv, hse, hfe⟩ := elems_tail ihE h (by omega)
  obtain ⟨hsk, hfp⟩ := ihV L s v0 s' hp (by omega) (fun _ => hd)
  refine ⟨v0 :: xs, by rw [hv, List.reverse_cons, List.append_assoc]; rfl, by omega, ?_, ?_⟩
  · rw [skipElems_succ, hsk]; exact hse
  · intro ef acc'
    rw [fparseElems_succ, feElem, projectElems]
    cases ha : ef.allow
    · rw [if_neg (by decide), if_neg (by decide), hsk]; exact hfe ef acc'
    · rw [if_pos rfl, if_pos rfl, hfp ef]
      have := hfe ef (project ef v0 :: acc')
      rw [List.reverse_cons, List.append_assoc] at this
      exact this

/-! ### members -/

/-- after a member: `}`, or `,`, white space and the members that follow -/
theorem members_tail (ihM : MS cfg f) {L : Nat} {s' : St} {ms : List (List Byte × Val)} {v : Val} {s1 : St}
    (h : pmK3 cfg f L ms (skipSpaces cfg (f+1) s') = (.ok, v, s1)) (hr : rem s' < rem s1 + (f + 1)) :
    inNumber cfg (cur s').1 = false ∧ rem s1 + 1 ≤ rem s' ∧ ∃ kvs, v = .obj (foldMembers ms kvs) ∧
      smK3 cfg f L (skipSpaces cfg (f+1) s') = (.ok, s1) ∧
      ∀ flt ms', fmK3 cfg f L flt ms' (skipSpaces cfg (f+1) s') = (.ok, .obj (foldMembers ms' (projectMembers flt kvs)), s1) := by
  generalize hS : skipSpaces cfg (f+1) s' = q at h
  obtain ⟨e, s''⟩ := q
  cases e <;> try (cases h; done)
  have r2 := skipSpaces_rem_le hS
  obtain ⟨hY, hnz⟩ := skipSpaces_ok_cur hS
  have r3 := rem_mv_cur s'' hnz
  simp only [pmK3, smK3, fmK3, hY] at h r3 ⊢
  by_cases hc : (s''.l.cur == 0x7D) = true
  · rw [if_pos hc] at h; cases h
    refine ⟨delim_after hS (eq_of_beq hc ▸ (inNumber_delims cfg).2.2.1), by omega, [], rfl, ?_, ?_⟩
    · rw [if_pos hc]
    · intro flt ms'; rw [if_pos hc, projectMembers]; rfl
  · rw [if_neg hc] at h
    by_cases hc2 : (s''.l.cur == 0x2C) = true
    · rw [if_pos hc2] at h
      generalize hS3 : skipSpaces cfg (f+1) (mv s'') = q at h
      obtain ⟨e, s3⟩ := q
      cases e <;> try (cases h; done)
      have r4 := skipSpaces_rem_le hS3
      have r5 := parseMembers_rem_le h
      obtain ⟨kvs, hv, hskM, hfpM⟩ := ihM L s3 ms v s1 h (by omega)
      refine ⟨delim_after hS (eq_of_beq hc2 ▸ (inNumber_delims cfg).1), by omega, kvs, hv, ?_, ?_⟩
      · rw [if_neg hc, if_pos hc2]; exact hskM
      · intro flt ms'; rw [if_neg hc, if_pos hc2]; exact hfpM flt ms'
    · rw [if_neg hc2] at h; cases h

theorem step_M (ihV : VS cfg f) (ihM : MS cfg f) : MS cfg (f + 1) := by
  intro L s ms v s1 h hr
  rw [parseMembers_succ] at h
  generalize hk : pmKey cfg f s = q at h
  obtain ⟨e, key, q⟩ := q
  cases e <;> try (cases h; done)
  have rq : rem q ≤ rem s := by
    have := kept_pmKey (rem_latch (rem s)) (cfg := cfg) (f := f) s (Nat.le_refl _)
    rw [hk] at this; exact this
  simp only [pmK0] at h
  generalize hS1 : skipSpaces cfg (f+1) q = r at h
  obtain ⟨e, q2⟩ := r
  cases e <;> try (cases h; done)
  have rq2 := skipSpaces_rem_le hS1
  obtain ⟨hq2, hnz⟩ := skipSpaces_ok_cur hS1
  have r3 := rem_mv_cur q2 hnz
  simp only [pmK1, hq2] at h r3
  by_cases hcol : (q2.l.cur != 0x3A) = true
  · rw [if_pos hcol] at h; cases h
  rw [if_neg hcol] at h
  generalize hp : parseVariant cfg f L (mv q2) = r at h
  obtain ⟨e, v0, s'⟩ := r
  cases e <;> try (cases h; done)
  have r4 := parseVariant_rem_le hp
  simp only [pmK2] at h
  obtain ⟨hd, r5, kvs, hv, hsm, hfm⟩ := members_tail ihM h (by omega)
  obtain ⟨hsk, hfp⟩ := ihV L _ v0 s' hp (by omega) (fun _ => hd)
  refine ⟨(key, v0) :: kvs, hv, ?_, ?_⟩
  · rw [skipMembers_succ, smKey_of_pmKey hk (by omega)]
    simp (config := { decide := true }) only [smK0, smK1, smK2, hS1, hq2, hcol, hsk, ↓reduceIte, Bool.false_eq_true]
    exact hsm
  · intro flt ms'
    rw [fparseMembers_succ, hk]
    cases ha : (flt.subKey key).allow
    · simp only [fmK0, fmK1, fmK2, fmVal, hS1, hq2, hcol, ha, hsk, projectMembers, ↓reduceIte, Bool.false_eq_true]
      exact hfm flt ms'
    · simp only [fmK0, fmK1, fmK2, fmVal, hS1, hq2, hcol, ha, hfp, projectMembers, ↓reduceIte]
      exact hfm flt _

/-! ### values -/

/-- from the first byte of a value, latched in `X`: the skipping routine ends where the parser has ended, and the
    filtered parser returns the projection there -/
def TokSim (cfg : Cfg) (f L : Nat) (X : St) (v : Val) (s1 : St) : Prop :=
  svTok cfg f L X = (.ok, s1) ∧ ∀ flt, fvTok cfg f L flt X = (.ok, project flt v, s1)

variable {L : Nat} {X : St} {v : Val} {s1 : St}

/-- the three routines skip a keyword alike; its value is fixed by the first byte -/
theorem tok_kw (hc : (cur X).1 = 0x74 ∨ (cur X).1 = 0x66 ∨ (cur X).1 = 0x6E) (h : pvTok cfg f L X = (.ok, v, s1)) :
    TokSim cfg f L X v s1 := by
  have key : ∃ (kw : List Byte) (w : Val),
      pvTok cfg f L X = ((skipKeyword kw (cur X).2).1, w, (skipKeyword kw (cur X).2).2) ∧
      svTok cfg f L X = skipKeyword kw (cur X).2 ∧
      ∀ flt, fvTok cfg f L flt X = ((skipKeyword kw (cur X).2).1, project flt w, (skipKeyword kw (cur X).2).2) := by
    rcases hc with hc | hc | hc
    · exact ⟨_, .bool true, by rw [pvTok_eq, hc]; rfl, by rw [svTok_eq, hc]; rfl, fun flt => by rw [fvTok_eq, hc]; rfl⟩
    · exact ⟨_, .bool false, by rw [pvTok_eq, hc]; rfl, by rw [svTok_eq, hc]; rfl, fun flt => by rw [fvTok_eq, hc]; rfl⟩
    · exact ⟨_, .null, by rw [pvTok_eq, hc]; rfl, by rw [svTok_eq, hc]; rfl, fun flt => by rw [fvTok_eq, hc]; rfl⟩
  obtain ⟨kw, w, e1, e2, e3⟩ := key
  rw [e1] at h
  obtain ⟨h1, h2, h3⟩ : _ ∧ w = v ∧ _ := ⟨(Prod.mk.inj h).1, (Prod.mk.inj (Prod.mk.inj h).2).1, (Prod.mk.inj (Prod.mk.inj h).2).2⟩
  exact ⟨e2.trans (Prod.ext h1 h3), fun flt => by rw [e3, h1, h2, h3]⟩

theorem tok_num (hc : (cur X).1 ≠ 0x5B ∧ (cur X).1 ≠ 0x7B ∧ (cur X).1 ≠ 0x22 ∧ (cur X).1 ≠ 0x27 ∧ (cur X).1 ≠ 0x74 ∧
    (cur X).1 ≠ 0x66 ∧ (cur X).1 ≠ 0x6E) (h : pvTok cfg f L X = (.ok, v, s1)) (hr : rem X < rem s1 + (f + 1))
    (nok : NumOk cfg v s1) : TokSim cfg f L X v s1 := by
  rw [pvTok_num hc] at h
  obtain ⟨⟨n, rfl⟩, hs1⟩ := parseNumeric_ok_form h
  have r0 := rem_cur_le X
  have hsn : skipNumeric cfg (f + 1) (cur X).2 = s1 := by
    rw [hs1]
    exact skipNumeric_scan 63 [] _ (f + 1) (hs1 ▸ nok rfl) (by rw [← hs1]; omega)
  refine ⟨by rw [svTok_num hc, hsn], fun flt => ?_⟩
  rw [fvTok_num hc, hsn, h, project]
  split <;> rfl

theorem tok_str (hc : (cur X).1 = 0x22 ∨ (cur X).1 = 0x27) (h : pvTok cfg f L X = (.ok, v, s1))
    (hr : rem X < rem s1 + (f + 1)) : TokSim cfg f L X v s1 := by
  rw [pvTok_str hc] at h
  have hq : ((cur X).1 == 0x22 || (cur X).1 == 0x27) = true := by rcases hc with hc | hc <;> rw [hc] <;> rfl
  have e3 := fun flt => fvTok_str (cfg := cfg) (f := f) (L := L) (flt := flt) hc
  generalize hp : parseQuoted cfg (cur X).1 (f+1) [] 0 (mv (cur X).2) = q at h e3
  obtain ⟨e, str, s'⟩ := q
  cases e <;> try (cases h; done)
  cases h
  have r1 := rem_mv_cur X (nz_of_quote hq)
  have hsq := skipQuoted_of_parse (stopOk_of_quote hq) _ _ _ _ _ _ (f + 1) hp (by omega)
  refine ⟨(svTok_str hc).trans hsq, fun flt => ?_⟩
  rw [e3, hsq, project]
  split <;> rfl

theorem tok_obj (ihM : MS cfg f) (hc : (cur X).1 = 0x7B) (h : pvTok cfg f L X = (.ok, v, s1))
    (hr : rem X < rem s1 + (f + 1)) : TokSim cfg f L X v s1 := by
  cases L with
  | zero => rw [pvTok_obj0 hc] at h; cases h
  | succ l =>
    rw [pvTok_obj hc] at h
    have e2 := svTok_obj (cfg := cfg) (f := f) (L' := l) hc
    have e3 := fun flt => fvTok_obj (cfg := cfg) (f := f) (L' := l) (flt := flt) hc
    have r1 := rem_mv_cur X (hc ▸ by decide)
    generalize hS : skipSpaces cfg (f+1) (mv (cur X).2) = q at h e2 e3
    obtain ⟨e, Y⟩ := q
    cases e <;> try (cases h; done)
    obtain ⟨hY, _⟩ := skipSpaces_ok_cur hS
    have rY := skipSpaces_rem_le hS
    simp only [pvObj, hY] at h
    simp only [svObj, fvObj, fvObjSkip, hY] at e2 e3
    by_cases hd : (Y.l.cur == 0x7D) = true
    · rw [if_pos hd] at h; cases h
      refine ⟨by rw [e2, if_pos hd], fun flt => ?_⟩
      rw [e3, if_pos hd, if_pos hd, project, projectMembers]
      split <;> rfl
    · rw [if_neg hd] at h
      have r9 := parseMembers_rem_le h
      obtain ⟨kvs, hv, hskM, hfpM⟩ := ihM l Y [] v s1 h (by omega)
      subst hv
      refine ⟨by rw [e2, if_neg hd]; exact hskM, fun flt => ?_⟩
      rw [e3, if_neg hd, if_neg hd, hskM, hfpM, project, projectMembers_foldMembers, projectMembers]
      split <;> rfl

/-- the white space before the first element is skipped by `skipVariant` -/
theorem skipElems_absorb {F g l : Nat} {s Y : St} (hS : skipSpaces cfg F s = (.ok, Y)) (hr : rem s < rem Y + (g + 1)) :
    skipElems cfg (g + 2) l s = skipElems cfg (g + 2) l Y := by
  rw [skipElems_succ, skipElems_succ, skipVariant_succ, skipVariant_succ, skipSpaces_lower F s Y (g + 1) hS hr,
    skipSpaces_idem cfg hS g]

/-- `skipElems` on the closing bracket of an empty array: `skipVariant` takes `]` for a number without bytes -/
theorem skipElems_close {F g l : Nat} {s Y : St} (hS : skipSpaces cfg F s = (.ok, Y)) (hd : Y.l.cur = 0x5D) :
    skipElems cfg (g + 2) l Y = (.ok, mv Y) := by
  obtain ⟨hY, _⟩ := skipSpaces_ok_cur hS
  have hv1 : skipVariant cfg (g + 1) l Y = (.ok, Y) := by
    rw [skipVariant_succ, skipSpaces_idem cfg hS g]
    simp (config := { decide := true }) only [svK, svTok, hY, hd, skipNumeric, (inNumber_delims cfg).2.1, ↓reduceIte,
      Bool.false_eq_true, Bool.or_self]
  rw [skipElems_succ, hv1]
  simp only [seK1, seK2, skipSpaces_idem cfg hS (g + 1), hY, hd, beq_self_eq_true, ↓reduceIte]

theorem tok_arr (ihE : ES cfg f) (hc : (cur X).1 = 0x5B) (h : pvTok cfg f L X = (.ok, v, s1))
    (hr : rem X < rem s1 + (f + 1)) : TokSim cfg f L X v s1 := by
  cases L with
  | zero => rw [pvTok_arr0 hc] at h; cases h
  | succ l =>
    rw [pvTok_arr hc] at h
    have e2 := svTok_arr (cfg := cfg) (f := f) (L' := l) hc
    have e3 := fun flt => fvTok_arr (cfg := cfg) (f := f) (L' := l) (flt := flt) hc
    have r1 := rem_mv_cur X (hc ▸ by decide)
    generalize hS : skipSpaces cfg (f+1) (mv (cur X).2) = q at h e3
    obtain ⟨e, Y⟩ := q
    cases e <;> try (cases h; done)
    obtain ⟨hY, hnz⟩ := skipSpaces_ok_cur hS
    have rY := skipSpaces_rem_le hS
    have rmY := rem_mv_cur Y hnz
    simp only [pvArr, hY] at h rmY
    simp only [fvArr, hY] at e3
    -- on the skipping side the white space after `[` is left to `skipVariant`, two levels of fuel further down
    by_cases hd : (Y.l.cur == 0x5D) = true
    · rw [if_pos hd] at h; cases h
      obtain ⟨g, rfl⟩ : ∃ g, f = g + 2 := ⟨f - 2, by omega⟩
      have hse : skipElems cfg (g + 2) l (mv (cur X).2) = (.ok, mv Y) := by
        rw [skipElems_absorb hS (by omega), skipElems_close hS (eq_of_beq hd)]
      refine ⟨e2.trans hse, fun flt => ?_⟩
      rw [e3, if_pos hd, hse, project, projectElems]
      split <;> rfl
    · rw [if_neg hd] at h
      have r9 := parseElems_rem_le h
      obtain ⟨xs, hv, r10, hskE, hfpE⟩ := ihE l Y [] v s1 h (by omega)
      obtain ⟨g, rfl⟩ : ∃ g, f = g + 2 := ⟨f - 2, by omega⟩
      have hse : skipElems cfg (g + 2) l (mv (cur X).2) = (.ok, s1) := by
        rw [skipElems_absorb hS (by omega)]; exact hskE
      subst hv
      refine ⟨e2.trans hse, fun flt => ?_⟩
      rw [e3, if_neg hd, hse, hfpE, project]
      split <;> rfl

theorem step_V (ihE : ES cfg f) (ihM : MS cfg f) : VS cfg (f + 1) := by
  intro L s v s1 h hr nok
  rw [parseVariant_succ] at h
  rw [skipVariant_succ]
  simp only [fparseVariant_succ]
  generalize hS : skipSpaces cfg (f+1) s = q at h ⊢
  obtain ⟨e, X⟩ := q
  cases e <;> try (cases h; done)
  have rX := skipSpaces_rem_le hS
  change pvTok cfg f L X = _ at h
  show TokSim cfg f L X v s1
  rcases tok_cases (cur X).1 with hc | hc | hc | hc | hc
  · exact tok_arr ihE hc h (by omega)
  · exact tok_obj ihM hc h (by omega)
  · exact tok_str hc h (by omega)
  · exact tok_kw hc h
  · exact tok_num hc h (by omega) nok

end

/-- **the simulation**: a successful unfiltered parse is simulated, state included, by the skipping routine and
    by the filtered parser under every filter (which returns the projection) -/
theorem sim_all {cfg : Cfg} : ∀ f, VS cfg f ∧ ES cfg f ∧ MS cfg f := by
  intro f
  induction f with
  | zero =>
    refine ⟨?_, ?_, ?_⟩
    · intro L s v s1 h; cases h
    · intro L s acc v s1 h; cases h
    · intro L s ms v s1 h; cases h
  | succ f ih =>
    obtain ⟨ihV, ihE, ihM⟩ := ih
    exact ⟨step_V ihE ihM, step_E ihV ihE, step_M ihV ihM⟩

theorem scanNumber_loaded {cfg : Cfg} : ∀ n acc s, (scanNumber cfg n acc s).2.l.loaded = true := by
  intro n
  induction n with
  | zero => intro acc s; exact (cur_snd_loaded s).1
  | succ n ih =>
    intro acc s
    simp only [scanNumber]
    split
    · exact ih _ _
    · exact (cur_snd_loaded s).1

/-- a successful parse that yields a number ends with the look-ahead byte latched -/
theorem parseVariant_num_loaded {cfg : Cfg} {fuel L : Nat} {s : St} {v : Val} {s1 : St}
    (h : parseVariant cfg fuel L s = (.ok, v, s1)) (hn : isNumberVal v = true) : s1.l.loaded = true := by
  cases fuel with
  | zero => cases h
  | succ f =>
    rw [parseVariant_succ] at h
    generalize skipSpaces cfg (f+1) s = q at h
    obtain ⟨e, X⟩ := q
    cases e <;> try (cases h; done)
    change pvTok cfg f L X = _ at h
    obtain ⟨n, rfl⟩ : ∃ n, v = .num n := by cases v <;> first | exact ⟨_, rfl⟩ | cases hn
    -- only the last kind of first byte yields a number
    have hs := pvTok_shape (cfg := cfg) (f := f) (L := L) X
    rw [h] at hs
    rcases tok_cases (cur X).1 with hc | hc | hc | hc | hc
    · rw [hc] at hs; exact Bool.noConfusion hs.1
    · rw [hc] at hs; exact Bool.noConfusion hs.2
    · rw [pvTok_str hc] at h
      generalize parseQuoted cfg (cur X).1 (f+1) [] 0 (mv (cur X).2) = q at h
      obtain ⟨e, str, s'⟩ := q
      cases e <;> cases h
    · obtain ⟨ks, kv, hkv, hp⟩ := pvTok_kw hc
      rw [hp cfg f L X rfl] at h
      have hv := (Prod.mk.inj (Prod.mk.inj h).2).1
      rcases keywords_cases hkv with ⟨_, _, rfl⟩ | ⟨_, _, rfl⟩ | ⟨_, _, rfl⟩ <;> cases hv
    · rw [pvTok_num hc] at h
      rw [(parseNumeric_ok_form h).2]; exact scanNumber_loaded _ _ _

theorem isNumberVal_project (flt : Flt) (v : Val) (h : isNumberVal (project flt v) = true) : isNumberVal v = true := by
  cases v with
  | num n => rfl
  | arr xs => simp only [project] at h; split at h <;> exact Bool.noConfusion h
  | obj ms => simp only [project] at h; split at h <;> exact Bool.noConfusion h
  | null => simp only [project] at h; exact Bool.noConfusion h
  | _ => simp only [project] at h; split at h <;> exact Bool.noConfusion h

theorem rem_init (input : List Byte) : rem ({ l := { unread := input } } : St) = input.length := by
  simp [rem]

/-- `frun` on every input accepted by `run` -/
theorem frun_of_run (cfg : Cfg) (L : Nat) (flt : Flt) (input : List Byte) (h : (run cfg L input).1 = .ok) :
    frun cfg L flt input = (.ok, project flt (run cfg L input).2.1, (run cfg L input).2.2) := by
  rw [run_eq] at h ⊢
  rw [frun_eq]
  generalize hp : parseVariant cfg (2 * input.length + 4) L { l := { unread := input } } = r at h ⊢
  obtain ⟨e, v, s1⟩ := r
  cases e <;> try (cases h; done)
  simp only [finishRun] at h ⊢
  by_cases hc : (s1.l.cur != 0 && !isWs s1.l.cur && isNumberVal v) = true
  · rw [if_pos hc] at h; cases h
  · rw [if_neg hc]
    -- `run` has accepted the byte after a number: the end marker or white space, which cannot continue it
    have nok : NumOk cfg v s1 := by
      intro hn
      rw [cur_loaded (parseVariant_num_loaded hp hn)]
      simp only [hn, Bool.and_true, Bool.and_eq_true, bne_iff_ne, ne_eq, Bool.not_eq_true', not_and, Bool.not_eq_false] at hc
      by_cases h0 : s1.l.cur = 0
      · rw [h0]; exact inNumber_zero cfg
      · cases hi : inNumber cfg s1.l.cur
        · rfl
        · rw [(inNumber_facts cfg _ hi).2.1] at hc; cases hc h0
    obtain ⟨_, hfp⟩ := (sim_all (cfg := cfg) (2 * input.length + 4)).1 L _ v s1 hp (by rw [rem_init]; omega) nok
    rw [hfp flt]
    have hc' : ¬ (s1.l.cur != 0 && !isWs s1.l.cur && isNumberVal (project flt v)) = true := by
      intro hq
      apply hc
      simp only [Bool.and_eq_true] at hq ⊢
      exact ⟨hq.1, isNumberVal_project flt v hq.2⟩
    simp only [finishRun, hc', ↓reduceIte, Bool.false_eq_true]

end JD
