/- Without the NaN option the JSON parser never produces a NaN: `make_float` multiplies a non-negative finite value by powers
   of ten that are finite and non-zero, so its result is a non-negative finite value or +infinity (never `inf * 0`);
   `negBits` only flips the sign; `storeDouble` converts a non-NaN double to a non-NaN float.
   Used by AJ/Props/C07Cross.lean (`cross_format_no_nan_option`). -/
import AJ.Lemmas.CrossFormat
import AJ.Lemmas.FloatErrFinish
namespace CrossFormat
open JD SF

/-- a non-negative finite datum, or +infinity -/
def PosOrInf (f : Fmt) (r : Nat) : Prop := (∃ m e, decode f r = .fin false m e) ∨ decode f r = .inf false

theorem roundPos_zero (f : Fmt) (n : Bool) (e : Int) : roundPos f n 0 e = (if n then f.signBit else 0) + 0 := by
  simp [roundPos]

/-- `roundPos` never produces a NaN: a finite datum or an infinity of the requested sign -/
theorem roundPos_fin_or_inf (f : Fmt) (hf : 0 < f.emax) (n : Bool) (m : Nat) (e : Int) :
    (∃ m' e', decode f (roundPos f n m e) = .fin n m' e') ∨ decode f (roundPos f n m e) = .inf n := by
  by_cases hm : m = 0
  · subst hm
    rw [roundPos_zero]
    exact Or.inl ⟨_, _, decode_sub f n 0 (Nat.two_pow_pos _) hf⟩
  · rcases roundPos_nearest f n m e hm hf with ⟨h, _⟩ | ⟨m'', e'', h, _⟩
    · exact Or.inr h
    · exact Or.inl ⟨_, _, h⟩

theorem roundPos_notNaN (f : Fmt) (hf : 0 < f.emax) (n : Bool) (m : Nat) (e : Int) : isNaN f (roundPos f n m e) = false := by
  rcases roundPos_fin_or_inf f hf n m e with ⟨m', e', h⟩ | h
  · exact isNaN_of_fin h
  · unfold isNaN; rw [h]; rfl

theorem mul_posOrInf (f : Fmt) (hf : 0 < f.emax) (a t : Nat) (ha : PosOrInf f a)
    (ht : ∃ m e, decode f t = .fin false m e ∧ m ≠ 0) : PosOrInf f (mul f a t) := by
  obtain ⟨mt, et, ht, hne⟩ := ht
  unfold mul
  rcases ha with ⟨ma, ea, ha⟩ | ha
  · rw [ha, ht]
    exact roundPos_fin_or_inf f hf false _ _
  · rw [ha, ht]
    simp only [hne, if_false]
    exact Or.inr (decode_inf f false)

def tableOk (f : Fmt) (tbl : List Nat) : Bool :=
  tbl.all (fun t => match decode f t with | .fin false m _ => m != 0 | _ => false)

theorem tableOk_spec {f : Fmt} {tbl : List Nat} (h : tableOk f tbl = true) :
    ∀ t ∈ tbl, ∃ m e, decode f t = .fin false m e ∧ m ≠ 0 := by
  intro t ht
  have := List.all_eq_true.mp h t ht
  split at this
  · rename_i m e hd; exact ⟨m, e, hd, by simpa using this⟩
  · cases this

theorem pos64_ok : tableOk b64 pos64 = true := by decide +kernel
theorem neg64_ok : tableOk b64 neg64 = true := by decide +kernel
theorem pos32_ok : tableOk b32 pos32 = true := by decide +kernel
theorem neg32_ok : tableOk b32 neg32 = true := by decide +kernel

theorem makeFloat_go_posOrInf (f : Fmt) (hf : 0 < f.emax) (tbl : List Nat)
    (htbl : ∀ t ∈ tbl, ∃ m e, decode f t = .fin false m e ∧ m ≠ 0) :
    ∀ fuel acc e idx r, PosOrInf f acc → makeFloat.go f tbl fuel acc e idx = some r → PosOrInf f r := by
  intro fuel
  induction fuel with
  | zero => intro acc e idx r ha h; simp only [makeFloat.go] at h; cases h; exact ha
  | succ n ih =>
    intro acc e idx r ha h
    simp only [makeFloat.go] at h
    split at h
    · cases h; exact ha
    · split at h
      · split at h
        · cases h
        · rename_i t ht
          exact ih _ _ _ _ (mul_posOrInf f hf _ _ ha (htbl t (List.mem_of_getElem? ht))) h
      · exact ih _ _ _ _ ha h

theorem makeFloat_posOrInf (f : Fmt) (hf : 0 < f.emax) (tp tn : List Nat) (hp : tableOk f tp = true)
    (hn : tableOk f tn = true) (m : Nat) (e : Int) (r : Nat) (hm : PosOrInf f m)
    (h : makeFloat f tp tn m e = some r) : PosOrInf f r := by
  unfold makeFloat at h
  refine makeFloat_go_posOrInf f hf _ ?_ _ _ _ _ _ hm h
  split
  · exact tableOk_spec hp
  · exact tableOk_spec hn

theorem negBits_notNaN (f : Fmt) (neg : Bool) (r : Nat) (h : PosOrInf f r) : isNaN f (negBits f neg r) = false := by
  rcases h with ⟨m, e, h⟩ | h
  · exact isNaN_of_fin (C12.negBits_decode f neg r m e h)
  · unfold isNaN; rw [C12.negBits_decode_inf f neg r h]; rfl

theorem ofNat_posOrInf (f : Fmt) (hf : 0 < f.emax) (m : Nat) : PosOrInf f (ofNat f m) :=
  roundPos_fin_or_inf f hf false m 0

theorem zero32_posOrInf : PosOrInf b32 0 := Or.inl ⟨0, -149, by decide +kernel⟩

theorem isNaN_infBits (f : Fmt) (n : Bool) : isNaN f (infBits f n) = false := by
  unfold isNaN; rw [decode_inf]; rfl

theorem cvt64_32_notNaN {b : Nat} (h : isNaN b64 b = false) : isNaN b32 (cvt b64 b32 b) = false := by
  unfold cvt
  cases hd : decode b64 b with
  | nan => unfold isNaN at h; rw [hd] at h; cases h
  | inf n => exact isNaN_infBits b32 n
  | fin n m e => exact roundPos_notNaN b32 (by decide) n m e

theorem storeDouble_noNaN (b : Nat) (h : isNaN b64 b = false) : NoNaNNum (storeDouble b) := by
  rcases storeDouble_cases b with e | e <;> rw [e]
  · exact h
  · exact cvt64_32_notNaN h

/-- without the NaN option no answer of `parseNumber` is a NaN -/
theorem parseNumber_noNaN (cfg : Cfg) (buf : List Byte) :
    PNumP (fun n => cfg.nan = false → NoNaNNum n) (parseNumber cfg buf) := by
  refine parseNumber_cases cfg trivial trivial (fun h h' => absurd (h.symm.trans h') (by decide)) (fun neg _ => ?_)
    (fun _ _ _ => trivial) (fun _ _ _ => trivial) (fun neg _ => ?_) (fun neg m e r h _ => ?_) (fun neg m e r h _ => ?_) buf
  · exact storeDouble_noNaN _ (isNaN_infBits b64 neg)
  · exact negBits_notNaN b32 neg 0 zero32_posOrInf
  · exact storeDouble_noNaN _ (negBits_notNaN b64 neg r
      (makeFloat_posOrInf b64 (by decide) _ _ pos64_ok neg64_ok _ _ _ (ofNat_posOrInf b64 (by decide) m) h))
  · exact negBits_notNaN b32 neg r
      (makeFloat_posOrInf b32 (by decide) _ _ pos32_ok neg32_ok _ _ _ (ofNat_posOrInf b32 (by decide) m) h)

/-- what the JSON parser guarantees of a number node: within its storage, and not a NaN unless the NaN option is set -/
def NumGood (cfg : Cfg) (n : Num) : Prop := C09.NumOk n ∧ (cfg.nan = false → NoNaNNum n)

theorem parseNumber_numGood (cfg : Cfg) (buf : List Byte) : PNumP (NumGood cfg) (parseNumber cfg buf) :=
  (parseNumber_numOk cfg buf).and (parseNumber_noNaN cfg buf)

/-- the result of `JD.run`, any code: `JOk` with the number predicate `NumGood`, and the size bound -/
theorem run_good (cfg : Cfg) (L : Nat) (t : List Byte) :
    JOk (NumGood cfg) cfg.maxStrLen (JD.run cfg L t).2.1 ∧ size (JD.run cfg L t).2.1 ≤ (JD.run cfg L t).2.2 :=
  run_jok cfg (NumGood cfg) (parseNumber_numGood cfg) L t

mutual
theorem noNaN_of_jok {P : Num → Prop} {m : Nat} (hP : ∀ n, P n → NoNaNNum n) : ∀ v, JOk P m v → NoNaN v
  | .num n, h => by simp only [JOk] at h; simp only [NoNaN]; exact hP n h
  | .arr xs, h => by simp only [JOk] at h; simp only [NoNaN]; exact noNaNL_of_jok hP xs h
  | .obj ms, h => by simp only [JOk] at h; simp only [NoNaN]; exact noNaNM_of_jok hP ms h.2
  | .null, _ | .bool _, _ | .str _, _ | .raw _, _ => by simp only [NoNaN]
theorem noNaNL_of_jok {P : Num → Prop} {m : Nat} (hP : ∀ n, P n → NoNaNNum n) : ∀ xs, JOkL P m xs → NoNaNL xs
  | [], _ => by simp only [NoNaNL]
  | x :: r, h => by
    simp only [JOkL] at h; simp only [NoNaNL]
    exact ⟨noNaN_of_jok hP x h.1, noNaNL_of_jok hP r h.2⟩
theorem noNaNM_of_jok {P : Num → Prop} {m : Nat} (hP : ∀ n, P n → NoNaNNum n) : ∀ ms, JOkM P m ms → NoNaNM ms
  | [], _ => by simp only [NoNaNM]
  | (k, v) :: r, h => by
    simp only [JOkM] at h; simp only [NoNaNM]
    exact ⟨noNaN_of_jok hP v h.2.1, noNaNM_of_jok hP r h.2.2⟩
end

end CrossFormat
