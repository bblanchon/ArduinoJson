/- Simulation of the FILTERED slot-level deserializer `JDDF` by the value-level filtered parser, part 3: the run
   (`JDDF.run` against `JD.frun`), and the runs under a filter that allows nothing (the parse is `JD.skipVariant` on the
   reader, the document is the cleared one). -/
import AJ.Lemmas.JddfSimAll
import AJ.Lemmas.JddfInv
set_option linter.unusedSimpArgs false
set_option linter.unusedVariables false
namespace JDD
open DL
open JD (Byte Val Cfg Code St)

/-- the cleared document is a fresh place for the root -/
theorem sim_clearAll_pre {d : Doc} (gok : PL.GeoOK d.g) (hp : PL.Inv d.g d.pl) : Pre d.clearAll .root := by
  have hpl : d.clearAll.pl = (PL.clear d.g d.pl).rel [] d.strings.length := foldl_dealloc _ _
  have hI : PL.Inv d.clearAll.g d.clearAll.pl := by
    rw [hpl]
    exact (PL.clear_inv gok hp).congr rfl rfl rfl rfl
  exact ⟨gok, hI, rfl, fun i e => (by cases e), ⟨[], ⟨List.nodup_nil, fun n hn => (by cases hn),
    fun n hn => (by cases hn), fun r hr => (by cases hr)⟩⟩⟩

theorem sim_rootIsNumber (d : Doc) (v : VData) (s : Forest) (hv : d.root = v) :
    JD.isNumberVal (d.valOf v s) = rootIsNumber d := by
  unfold rootIsNumber
  rw [hv]
  cases v <;> rfl

/-- the value built at the root reads back from a document that differs in its allocator state only -/
theorem sim_final_toVal {d0 d dF : Doc} {v : VData} {s : Forest} (P : Post d0 d .root v s) (hg : dF.g = d.g)
    (hc : dF.cells = d.cells) (hs : dF.strings = d.strings) (hr : dF.root = d.root) :
    dF.toVal dF.root = d.valOf v s := by
  have hroot : d.root = v := P.att.get
  have hn : dF.null = d.null := by simp only [Doc.null, hg]
  have hcell : ∀ j, dF.cell j = d.cell j := fun j => by simp only [Doc.cell, hc]
  have ag : Agree d dF s.ids := ⟨hn, fun j _ => hcell j⟩
  have hsc : ∀ w, dF.scalar w = d.scalar w := fun w =>
    scalar_congr (fun n _ => strBytes_of_strings hs n) (fun e _ => hcell e)
  have sa : SAgree d dF s.ids := fun j _ => hsc _
  have hfu : dF.fuel = d.fuel := by simp only [Doc.fuel, hg]
  rw [hr, hroot, toVal_eq (VOK_congr ag P.att.vok) (by rw [hfu]; exact P.ids_lt_fuel)]
  simp only [Doc.valOf]
  rw [vals_congr noOv s ag sa, mkVal_congr (hsc v)]

end JDD

namespace JDDF
open DL JDD
open JD (Byte Val Cfg Code St Flt skipSpaces cur mv skipKeyword skipVariant skipElems skipMembers skipQuoted skipNumeric)

/-- the document `JDDF.run` leaves differs from the one the parse left in its allocator state only (builder released,
    pools shrunk) -/
theorem run_doc (cfg : Cfg) (limit : Nat) (flt : Flt) (d : Doc) (input : List Byte) :
    (run cfg limit flt d input).2.1.g = (stop cfg limit flt d input).2.d.g ∧
    (run cfg limit flt d input).2.1.cells = (stop cfg limit flt d input).2.d.cells ∧
    (run cfg limit flt d input).2.1.strings = (stop cfg limit flt d input).2.d.strings ∧
    (run cfg limit flt d input).2.1.root = (stop cfg limit flt d input).2.d.root ∧
    (run cfg limit flt d input).2.1.overflowed = (stop cfg limit flt d input).2.d.overflowed ∧
    (run cfg limit flt d input).2.1.nextNode = (stop cfg limit flt d input).2.d.nextNode ∧
    (PL.Inv (stop cfg limit flt d input).2.d.g (stop cfg limit flt d input).2.d.pl →
      PL.Inv (run cfg limit flt d input).2.1.g (run cfg limit flt d input).2.1.pl ∧
      ∀ y, PL.live (run cfg limit flt d input).2.1.g (run cfg limit flt d input).2.1.pl y ↔
        PL.live (stop cfg limit flt d input).2.d.g (stop cfg limit flt d input).2.d.pl y) := by
  obtain ⟨pe, ho⟩ := preShrink_pleq cfg limit flt d input
  rw [run_eq]
  refine ⟨pe.g, pe.cells, pe.strings, pe.root, ho, pe.nextNode, fun hI => ?_⟩
  obtain ⟨a, b, _⟩ := PL.shrink_ok (pe.inv hI)
  exact ⟨a, fun y => (b y).trans (pe.live y)⟩

/-- the two outcomes of a filtered run: no allocation failed and everything agrees with the value-level filtered run, or
    one failed and the code is not `Ok` -/
theorem run_core (cfg : Cfg) (limit : Nat) (flt : Flt) (d : Doc) (input : List Byte) (gok : PL.GeoOK d.g)
    (hp : PL.Inv d.g d.pl) (h31 : 31 ≤ cfg.maxStrLen) :
    ((JDDF.run cfg limit flt d input).2.1.overflowed = false ∧
      (JDDF.run cfg limit flt d input).1 = (JD.frun cfg limit flt input).1 ∧
      (JDDF.run cfg limit flt d input).2.2 = (JD.frun cfg limit flt input).2.2 ∧
      (JDDF.run cfg limit flt d input).2.1.toVal (JDDF.run cfg limit flt d input).2.1.root =
        (JD.frun cfg limit flt input).2.1 ∧
      WF (JDDF.run cfg limit flt d input).2.1) ∨
    ((JDDF.run cfg limit flt d input).2.1.overflowed = true ∧ (JDDF.run cfg limit flt d input).1 ≠ .ok ∧
      ((JDDF.run cfg limit flt d input).1 = .noMemory ∨
        ((JDDF.run cfg limit flt d input).1 = (JD.frun cfg limit flt input).1 ∧
         (JDDF.run cfg limit flt d input).2.2 = (JD.frun cfg limit flt input).2.2))) := by
  have pre0 := sim_clearAll_pre gok hp
  have hsim : Sim cfg d.clearAll .root (stop cfg limit flt d input)
      (JD.fparseVariant cfg (2 * input.length + 4) limit flt { l := { unread := input } }) :=
    (JDDF.sim_all cfg h31 (2 * input.length + 4)).1 limit flt .root (start d input) pre0 rfl (sim_BOK_none cfg)
  obtain ⟨hg, hc, hs, hr, ho, hnn, hpl⟩ := run_doc cfg limit flt d input
  have e1 : (run cfg limit flt d input).1 = finalCode (stop cfg limit flt d input).1 (stop cfg limit flt d input).2 := by
    rw [run_eq]
  have e2 : (run cfg limit flt d input).2.2 = (stop cfg limit flt d input).2.s.l.pos := by rw [run_eq]
  rw [e1, e2, JD.frun_eq, JD.finishRun_val, JD.finishRun_pos]
  generalize (run cfg limit flt d input).2.1 = dF at *
  generalize stop cfg limit flt d input = rv at *
  generalize JD.fparseVariant cfg (2 * input.length + 4) limit flt { l := { unread := input } } = rv0 at *
  obtain ⟨c, x⟩ := rv
  obtain ⟨c0, v0, s0⟩ := rv0
  simp only at hsim hg hc hs hr ho hnn hpl ⊢
  rcases hsim with ⟨o2, e1, e2, _, v, s, P, hval⟩ | ⟨o2, e⟩
  · simp only at o2 e1 e2 P hval
    subst e1 e2
    have hnum : JD.isNumberVal v0 = rootIsNumber x.d := by
      rw [← hval]; exact sim_rootIsNumber x.d v s P.att.get
    have htv : dF.toVal dF.root = v0 := by rw [sim_final_toVal P hg hc hs hr, hval]
    have main : finalCode c x = (JD.finishRun (c, v0, x.s)).1 := by
      cases c
      case ok =>
        simp only [finalCode, JD.finishRun, hnum]
        split <;> rfl
      all_goals rfl
    have hwf : WF dF := by
      have w0 : WFG d.clearAll .nil := by
        refine ⟨rfl, List.nodup_nil, fun i hi => (by cases hi), pre0.pool, fun i hi => (by cases hi), ?_⟩
        intro l hl e he
        rcases mem_holders.1 hl with h | ⟨j, hj, _⟩
        · subst h; cases he
        · cases hj
      have s0 : StrOK d.clearAll (d.clearAll.strRefs .nil) :=
        ⟨List.nodup_nil, fun n hn => (by cases hn), fun n hn => (by cases hn), fun r hr => (by cases hr)⟩
      obtain ⟨w1, s1, _⟩ := post_assemble w0 s0 (l := .root) trivial rfl P
      obtain ⟨hI, hlv⟩ := hpl P.fr.pool
      have hcell : ∀ j, dF.cell j = x.d.cell j := fun j => by simp only [Doc.cell, hc]
      obtain ⟨w2, s2, _⟩ := wfg_frame (d' := dF) w1 hg hr (fun j _ => hcell j)
        (fun l0 h0 e he => ⟨hcell e, (hlv e).2 (w1.ext l0 h0 e he).2.1⟩) hI
        (fun j hj => (hlv j).2 (w1.live j hj)) (StrOK_congr hs hnn s1) (fun n _ => strBytes_of_strings hs n)
      exact ⟨_, w2, s2⟩
    exact Or.inl ⟨by rw [ho]; exact o2, main, rfl, htv, hwf⟩
  · simp only at o2 e
    have hoF : dF.overflowed = true := by rw [ho]; exact o2
    refine Or.inr ⟨hoF, ?_, ?_⟩
    · rcases e with e | ⟨e1, e2, e3⟩
      · subst e; intro h; cases h
      · cases c
        case ok => exact absurd rfl e2
        all_goals (intro h; cases h)
    · rcases e with e | ⟨e1, e2, e3⟩
      · subst e
        exact Or.inl rfl
      · subst e1 e3
        right
        cases c
        case ok => exact absurd rfl e2
        all_goals exact ⟨rfl, rfl⟩

/-! ## A filter that allows nothing: the parse is the skipping routine on the reader -/

/-- under a filter that allows neither arrays, objects nor values (`Filter` on an unbound/null/false variant),
    `parseVariant` is `JD.skipVariant` on the reader; the document and the StringBuilder are not touched -/
theorem parseVariant_allow_nothing (cfg : Cfg) {flt : Flt} (hA : flt.allowArray = false) (hO : flt.allowObject = false)
    (hV : flt.allowValue = false) (fuel limit : Nat) (l : Loc) (x : S) :
    JDDF.parseVariant cfg fuel limit flt l x =
      ((skipVariant cfg fuel limit x.s).1, { x with s := (skipVariant cfg fuel limit x.s).2 }) := by
  cases fuel with
  | zero => rfl
  | succ fuel =>
    simp only [JDDF.parseVariant, JD.skipVariant, hA, hO, hV, Bool.false_eq_true, ↓reduceIte]
    generalize skipSpaces cfg (fuel + 1) x.s = r
    obtain ⟨c, s⟩ := r
    cases c
    case ok =>
      simp only
      generalize cur s = r2
      obtain ⟨c, s1⟩ := r2
      simp only
      by_cases h5B : (c == 0x5B) = true
      · simp only [h5B, Bool.false_eq_true, ↓reduceIte]
        cases limit <;> rfl
      · simp only [h5B, Bool.false_eq_true, ↓reduceIte]
        by_cases h7B : (c == 0x7B) = true
        · simp only [h7B, Bool.false_eq_true, ↓reduceIte]
          cases limit with
          | zero => rfl
          | succ limit' =>
            simp only
            generalize skipSpaces cfg (fuel + 1) (mv s1) = r3
            obtain ⟨c2, s2⟩ := r3
            cases c2
            case ok =>
              simp only
              by_cases h7D : ((cur s2).1 == 0x7D) = true
              · simp only [h7D, Bool.false_eq_true, ↓reduceIte]
              · simp only [h7D, Bool.false_eq_true, ↓reduceIte]
            all_goals rfl
        · simp only [h7B, Bool.false_eq_true, ↓reduceIte]
          by_cases hq : (c == 0x22 || c == 0x27) = true
          · simp only [hq, Bool.false_eq_true, ↓reduceIte]
          · simp only [hq, Bool.false_eq_true, ↓reduceIte]
            by_cases h74 : (c == 0x74) = true
            · simp only [h74, Bool.false_eq_true, ↓reduceIte]
            · simp only [h74, Bool.false_eq_true, ↓reduceIte]
              by_cases h66 : (c == 0x66) = true
              · simp only [h66, Bool.false_eq_true, ↓reduceIte]
              · simp only [h66, Bool.false_eq_true, ↓reduceIte]
                by_cases h6E : (c == 0x6E) = true
                · simp only [h6E, Bool.false_eq_true, ↓reduceIte]
                · simp only [h6E, Bool.false_eq_true, ↓reduceIte]
    all_goals rfl

theorem foldl_dealloc_pools {α : Type} (ss : List α) (p : PL.St) :
    (ss.foldl (fun pl _ => pl.dealloc) p).pools = p.pools ∧
    (ss.foldl (fun pl _ => pl.dealloc) p).tableHeap = p.tableHeap := by
  induction ss generalizing p with
  | nil => exact ⟨rfl, rfl⟩
  | cons a ss ih => rw [List.foldl_cons]; exact ih p.dealloc

theorem clear_pools (g : PL.Geo) (s : PL.St) : (PL.clear g s).pools = [] ∧ (PL.clear g s).tableHeap = false := by
  unfold PL.clear
  simp only
  split
  · exact ⟨rfl, rfl⟩
  · rename_i h
    exact ⟨rfl, by simpa using h⟩

/-- the pools of a cleared document: none, and the pool table is the inline one -/
theorem clearAll_pools (d : Doc) : d.clearAll.pl.pools = [] ∧ d.clearAll.pl.tableHeap = false := by
  obtain ⟨a, b⟩ := foldl_dealloc_pools d.strings (PL.clear d.g d.pl)
  obtain ⟨c, e⟩ := clear_pools d.g d.pl
  exact ⟨a.trans c, b.trans e⟩

theorem shrink_no_pools (g : PL.Geo) (s : PL.St) (h1 : s.pools = []) (h2 : s.tableHeap = false) : PL.shrink g s = s := by
  unfold PL.shrink
  simp only [h1, List.getLast?_nil, h2, Bool.false_and, Bool.false_eq_true, ↓reduceIte]

/-- the run under a filter that allows nothing: the code and the consumption are those of `JD.skipVariant`, the document
    left IS the cleared document (no slot, no string, and no allocator call beyond those of the clear) -/
theorem run_allow_nothing (cfg : Cfg) (limit : Nat) {flt : Flt} (hA : flt.allowArray = false)
    (hO : flt.allowObject = false) (hV : flt.allowValue = false) (d : Doc) (input : List Byte) :
    JDDF.run cfg limit flt d input =
      ((skipVariant cfg (2 * input.length + 4) limit { l := { unread := input } }).1, d.clearAll,
       (skipVariant cfg (2 * input.length + 4) limit { l := { unread := input } }).2.l.pos) := by
  obtain ⟨p1, p2⟩ := clearAll_pools d
  have hsh : PL.shrink d.clearAll.g d.clearAll.pl = d.clearAll.pl := shrink_no_pools _ _ p1 p2
  simp only [JDDF.run, parseVariant_allow_nothing cfg hA hO hV]
  have hroot : rootIsNumber d.clearAll = false := rfl
  simp only [hroot, Bool.and_false, Bool.false_eq_true, ↓reduceIte, hsh]
  generalize (skipVariant cfg (2 * input.length + 4) limit { l := { unread := input } }) = r
  obtain ⟨c, s⟩ := r
  cases c <;> rfl

end JDDF
