/- What `JSer.compact` writes is a text of the dialect that `deserializeJson` accepts (`Spec.Dialect.Value`) and it
   denotes `readBack`: every byte string is a string body of the dialect (bare control characters included, which
   RFC 8259 refuses), every readable number text is a number token. With the completeness of the deserializer for the
   dialect (`C10.complete`) this is the round trip of AJ/Props/C07.lean. -/
import AJ.Lemmas.JsonRoundTrip
import AJ.Lemmas.SerGrammarCore
import AJ.Props.C10
namespace C07
open JD JSer
open Spec.Dialect (Value Elements Members DWs Key NumTok numDen decodeBody hex4 escapes)

/-! ## strings -/

theorem escapes_of_rfc {l x : Byte} (h : (l, x) ∈ rfcEscapes) : escapes.lookup l = some x ∧ l ≠ 0x75 := by
  have key : rfcEscapes.all (fun p => escapes.lookup p.1 == some p.2 && p.1 != 0x75) = true := by decide
  have := List.all_eq_true.mp key (l, x) h
  simp only [Bool.and_eq_true, beq_iff_eq, bne_iff_ne] at this
  exact this

/-- what `writeChar c` wrote is read as the one byte `c` -/
theorem decodeBody_writeChar {cfg : Cfg} (hu : cfg.decodeUnicode = true) (c : Byte) (hi : Nat) (t : List Byte) :
    decodeBody cfg 0x22 hi (writeChar c ++ t) = (decodeBody cfg 0x22 hi t).map (c :: ·) := by
  have bs : ¬ ((0x5C : Byte) = 0x22 ∨ (0x5C : Byte) = 0) := by decide
  rcases SerG.writeChar_cases c with ⟨_, hw, hm⟩ | ⟨rfl, hw⟩ | ⟨_, h0, hw, n1, n2, _⟩
  · obtain ⟨hl, h75⟩ := escapes_of_rfc hm
    rw [hw, decodeBody.eq_def]
    simp only [List.cons_append, List.nil_append, bs, h75, hl, ↓reduceIte, ne_eq, not_true_eq_false]
  · have hx : hex4 0x30 0x30 0x30 0x30 = some 0 := by decide
    have u0 : Spec.utf8 0 = [0] := by decide
    rw [hw, decodeBody.eq_def]
    simp only [List.cons_append, List.nil_append, bs, hu, hx, u0, ↓reduceIte, ne_eq, not_true_eq_false]
    simp
  · rw [hw, decodeBody.eq_def]
    simp only [List.cons_append, List.nil_append, n1, h0, n2, or_self, ↓reduceIte, ne_eq, not_false_eq_true]

/-- the text between the quotes denotes exactly the source bytes, whatever they are -/
theorem decodeBody_escaped {cfg : Cfg} (hu : cfg.decodeUnicode = true) (s : List Byte) (hi : Nat) :
    decodeBody cfg 0x22 hi (s.flatMap writeChar) = some s := by
  induction s with
  | nil => rw [List.flatMap_nil, decodeBody.eq_def]
  | cons c cs ih => rw [List.flatMap_cons, decodeBody_writeChar hu, ih]; rfl

theorem key_writeString {cfg : Cfg} (hu : cfg.decodeUnicode = true) (k : List Byte) (hl : k.length ≤ cfg.maxStrLen) :
    Key cfg (writeString k) k :=
  Key.quoted 0x22 _ k (Or.inl rfl) (decodeBody_escaped hu k 0) hl

/-! ## numbers -/

theorem numTok_of (cfg : Cfg) (T : List Byte) (hh : T.head? ≠ some 0x6E) (hin : ∀ x ∈ T, inNumber cfg x = true)
    (hlen : T.length ≤ 63) (hni : parseNumber cfg T ≠ .invalid) (hnf : parseNumber cfg T ≠ .fault) :
    NumTok cfg T (numValue cfg T) := by
  refine ⟨hlen, hin, hh, ?_⟩
  unfold numDen numValue
  cases hp : parseNumber cfg T with
  | invalid => exact absurd hp hni
  | fault => exact absurd hp hnf
  | _ => rfl

/-- a readable number node: its text is a value of the dialect and denotes `numBack` -/
theorem value_num (cfg : Cfg) (L : Nat) (n : Num) (h : NumReadable cfg n) :
    Value cfg L (JS.printNum cfg n) (numBack cfg n) := by
  unfold numBack
  rcases h with e | ⟨hh, hin, hlen, hni, hnf⟩
  · rw [if_pos e, e]; exact Value.null L
  · rw [if_neg (fun e => hh (by rw [e]; rfl))]
    exact Value.num L _ _ (numTok_of cfg _ hh hin hlen hni hnf)

theorem value_str {cfg : Cfg} (hu : cfg.decodeUnicode = true) (L : Nat) (s : List Byte) (hl : s.length ≤ cfg.maxStrLen) :
    Value cfg L (writeString s) (.str s) :=
  Value.str L 0x22 _ s (Or.inl rfl) (decodeBody_escaped hu s 0) hl

/-! ## one production at a time, the texts of the parts being variables -/

theorem value_null (cfg : Cfg) (L : Nat) : Value cfg L "null".toUTF8.toList .null := by
  rw [kw_null]; exact Value.null L

theorem value_true (cfg : Cfg) (L : Nat) : Value cfg L "true".toUTF8.toList (.bool true) := by
  rw [kw_true]; exact Value.true L

theorem value_false (cfg : Cfg) (L : Nat) : Value cfg L "false".toUTF8.toList (.bool false) := by
  rw [kw_false]; exact Value.false L

theorem value_arrEmpty {cfg : Cfg} {L : Nat} (hL : 1 ≤ L) : Value cfg L [0x5B, 0x5D] (.arr []) := by
  obtain ⟨L', rfl⟩ : ∃ L', L = L' + 1 := ⟨L - 1, by omega⟩
  exact Value.arrEmpty L' [] DWs.nil

theorem value_objEmpty {cfg : Cfg} {L : Nat} (hL : 1 ≤ L) : Value cfg L [0x7B, 0x7D] (.obj []) := by
  obtain ⟨L', rfl⟩ : ∃ L', L = L' + 1 := ⟨L - 1, by omega⟩
  exact Value.objEmpty L' [] DWs.nil

theorem value_arr {cfg : Cfg} {d L : Nat} {body : List Byte} {xs : List Val} (hL : d + 1 ≤ L)
    (h : ∀ L', d ≤ L' → Elements cfg L' body xs) : Value cfg L (0x5B :: body ++ [0x5D]) (.arr xs) := by
  obtain ⟨L', rfl⟩ : ∃ L', L = L' + 1 := ⟨L - 1, by omega⟩
  exact Value.arr L' body xs (h L' (by omega))

theorem value_obj {cfg : Cfg} {d L : Nat} {body : List Byte} {ms : List (List Byte × Val)} (hL : d + 1 ≤ L)
    (h : ∀ L', d ≤ L' → Members cfg L' body ms) : Value cfg L (0x7B :: body ++ [0x7D]) (.obj (lastWins ms)) := by
  obtain ⟨L', rfl⟩ : ∃ L', L = L' + 1 := ⟨L - 1, by omega⟩
  exact Value.obj L' body ms (h L' (by omega))

section productions
variable {cfg : Cfg} {L : Nat} {t rest k : List Byte} {v : Val} {vs : List Val} {ms : List (List Byte × Val)}

theorem elems_one (hv : Value cfg L t v) : Elements cfg L t [v] := by
  simpa using Elements.one L [] t v [] DWs.nil hv DWs.nil

theorem elems_cons (hv : Value cfg L t v) (hr : Elements cfg L rest vs) :
    Elements cfg L (t ++ 0x2C :: rest) (v :: vs) := by
  simpa using Elements.cons L [] t v [] rest vs DWs.nil hv DWs.nil hr

theorem members_one (hu : cfg.decodeUnicode = true) (hk : k.length ≤ cfg.maxStrLen) (hv : Value cfg L t v) :
    Members cfg L (writeString k ++ 0x3A :: t) [(k, v)] := by
  simpa using Members.one L [] _ k [] [] t v [] DWs.nil (key_writeString hu k hk) DWs.nil DWs.nil hv DWs.nil

theorem members_cons (hu : cfg.decodeUnicode = true) (hk : k.length ≤ cfg.maxStrLen) (hv : Value cfg L t v)
    (hr : Members cfg L rest ms) : Members cfg L (writeString k ++ 0x3A :: t ++ 0x2C :: rest) ((k, v) :: ms) := by
  simpa using
    Members.cons L [] _ k [] [] t v [] rest ms DWs.nil (key_writeString hu k hk) DWs.nil DWs.nil hv DWs.nil hr

end productions

/-! ## `serializeJson`: the compact text -/

mutual
theorem compact_dialect (cfg : Cfg) (hu : cfg.decodeUnicode = true) :
    ∀ (v : Val) (L : Nat), GoodG cfg v → depth v ≤ L → Value cfg L (compact cfg v) (readBack cfg v)
  | .arr [], _, _, hd => value_arrEmpty hd
  | .arr (x :: xs), _, h, hd =>
    value_arr hd fun L' hd' => compact_dialectE cfg hu (x :: xs) L' (List.cons_ne_nil x xs) h hd'
  | .obj [], _, _, hd => value_objEmpty hd
  | .obj (m :: ms), _, h, hd =>
    value_obj hd fun L' hd' => compact_dialectM cfg hu (m :: ms) L' (List.cons_ne_nil m ms) h hd'
  | .null, L, _, _ => value_null cfg L
  | .bool true, L, _, _ => value_true cfg L
  | .bool false, L, _, _ => value_false cfg L
  | .num n, L, h, _ => value_num cfg L n h.2.1
  | .str s, L, h, _ => value_str hu L s h.2.2
  | .raw _, _, h, _ => h.1.elim
theorem compact_dialectE (cfg : Cfg) (hu : cfg.decodeUnicode = true) :
    ∀ (xs : List Val) (L : Nat), xs ≠ [] → AllE (ScalarOkG cfg) (fun k => k.length ≤ cfg.maxStrLen) xs → depthE xs ≤ L →
      Elements cfg L (compactElems cfg xs) (readBackE cfg xs)
  | [], _, hne, _, _ => absurd rfl hne
  | [x], L, _, h, hd => elems_one (compact_dialect cfg hu x L h.1 (Nat.max_le.mp hd).1)
  | x :: y :: r, L, _, h, hd =>
    elems_cons (compact_dialect cfg hu x L h.1 (Nat.max_le.mp hd).1)
      (compact_dialectE cfg hu (y :: r) L (List.cons_ne_nil y r) h.2 (Nat.max_le.mp hd).2)
theorem compact_dialectM (cfg : Cfg) (hu : cfg.decodeUnicode = true) :
    ∀ (ms : List (List Byte × Val)) (L : Nat), ms ≠ [] →
      AllM (ScalarOkG cfg) (fun k => k.length ≤ cfg.maxStrLen) ms → depthM ms ≤ L →
      Members cfg L (compactMembers cfg ms) (readBackM cfg ms)
  | [], _, hne, _, _ => absurd rfl hne
  | [(_, v)], L, _, h, hd => members_one hu h.1 (compact_dialect cfg hu v L h.2.1 (Nat.max_le.mp hd).1)
  | (_, v) :: (k2, v2) :: r, L, _, h, hd =>
    members_cons hu h.1 (compact_dialect cfg hu v L h.2.1 (Nat.max_le.mp hd).1)
      (compact_dialectM cfg hu ((k2, v2) :: r) L (List.cons_ne_nil _ r) h.2.2 (Nat.max_le.mp hd).2)
end

/-- the compact text of a good document is read back entirely, as `readBack` -/
theorem run_compact (cfg : Cfg) (hu : cfg.decodeUnicode = true) (L : Nat) (v : Val) (hg : GoodG cfg v) (hd : depth v ≤ L) :
    JD.run cfg L (compact cfg v) = (.ok, readBack cfg v, (compact cfg v).length) := by
  obtain ⟨s', hpv, _, hs'⟩ := C10.complete cfg (compact_dialect cfg hu v L hg hd) (2 * (compact cfg v).length + 4) [] []
    { l := { unread := compact cfg v } } DWs.nil rfl (by simp) (by simp only [List.length_nil]; omega)
    (fun _ => fun c r e => nomatch e)
  simp only [JD.run, hpv]
  cases hn : isNumberVal (readBack cfg v)
  · rw [hn] at hs'; simp [hs'.2.2]
  · rw [hn] at hs'; simp [hs'.2.1, hs'.2.2.2]

end C07
