/- MessagePack: the filtered deserializer computes the projection of what the unfiltered deserializer computes.
   This file: the format byte with its size bytes classified (`MD.classify`, an `MD.Hdr`) and one leaf of
   `parseVariant` per class (`MD.leafOf`), so that the filtered and the unfiltered run can be compared leaf by leaf.
   `MD.dispatch` is the chain of tests on the format byte with the leaves abstracted (the slot-level models repeat that
   chain); `parseVariant_step` is `pv_succ` of AJ/Lemmas/MpPieces.lean read through `pvAfter_eq`. -/
import AJ.Model.MD
import AJ.Spec.Filter
import AJ.Lemmas.ProjectAlg
import AJ.Lemmas.MpPieces
set_option linter.unusedSimpArgs false
namespace MD
open JD Spec.Filter

/-- the size bytes after the header byte (`hdrOf` with the two sizes the header byte `c` announces) -/
def hdrOf_d4 (c : Nat) (r : R) : Option (List Byte × Nat) × R :=
  if szBytes c > 0 then
    match r.readBytes (szBytes c) with
    | (some bs, r) => (some (bs, beNat bs), r)
    | (none, r) => (none, r)
  else (some ([], sz2 c), r)


/-- the header-byte dispatch of `parseVariant`, with the filter-dependent leaves abstracted -/
def dispatch {α : Type} (code : Byte) (r : R)
    (kInt : Nat → Nat → α) (kNil kInvalid : α) (kBool : Nat → α) (kF32 kF64 : α) (kFix : Nat → α)
    (kInc : R → α) (kArr kMap kStr : Nat → R → α) (kBin : Nat → Bool → List Byte → Nat → R → α) : α :=
  let c := code.toNat
  if 0xcc ≤ c && c ≤ 0xd3 then kInt (2^((c - 0xcc) % 4)) c
  else if c == 0xc0 then kNil
  else if c == 0xc1 then kInvalid
  else if c == 0xc2 || c == 0xc3 then kBool c
  else if c == 0xca then kF32
  else if c == 0xcb then kF64
  else if c ≤ 0x7f || c ≥ 0xe0 then kFix c
  else
    match hdrOf_d4 c r with
    | (none, r) => kInc r
    | (some (hb, size), r) =>
      if c == 0xdc || c == 0xdd || c / 16 == 9 then kArr size r
      else if c == 0xde || c == 0xdf || c / 16 == 8 then kMap size r
      else if c == 0xd9 || c == 0xda || c == 0xdb || c / 32 == 5 then kStr size r
      else kBin (szBytes c) (szPair c).2 hb size r

abbrev VOut := Code × Val × R × Bool
def finV (e : Code) (v : Val) (r : R) : VOut := (e, v, r, true)

def leafFixed (aV : Bool) (w : Nat) (mk : List Byte → Val) (r : R) : VOut :=
  if aV then
    match r.readBytes w with
    | (some bs, r) => finV .ok (mk bs) r
    | (none, r) => finV .incomplete .null r
  else
    match r.skipBytes w with
    | (true, r) => finV .ok .null r
    | (false, r) => finV .incomplete .null r

/-- what the header byte (and the size bytes after it) announce -/
inductive Hdr
  | int (w c : Nat) | nil | invalid | bool (c : Nat) | f32 | f64 | fix (c : Nat)
  | inc (r : R) | arr (size : Nat) (r : R) | map (size : Nat) (r : R) | str (size : Nat) (r : R)
  | bin (sizeBytes : Nat) (isExt : Bool) (hb : List Byte) (size : Nat) (r : R)

def classify (code : Byte) (r : R) : Hdr :=
  dispatch code r .int .nil .invalid .bool .f32 .f64 .fix .inc .arr .map .str .bin

/-- `dispatch` commutes with whatever is done to its answer -/
theorem dispatch_comp {α β : Type} (f : α → β) (code : Byte) (r : R)
    (kInt : Nat → Nat → α) (kNil kInvalid : α) (kBool : Nat → α) (kF32 kF64 : α) (kFix : Nat → α)
    (kInc : R → α) (kArr kMap kStr : Nat → R → α) (kBin : Nat → Bool → List Byte → Nat → R → α) :
    f (dispatch code r kInt kNil kInvalid kBool kF32 kF64 kFix kInc kArr kMap kStr kBin) =
      dispatch code r (fun w c => f (kInt w c)) (f kNil) (f kInvalid) (fun c => f (kBool c)) (f kF32) (f kF64)
        (fun c => f (kFix c)) (fun r => f (kInc r)) (fun n r => f (kArr n r)) (fun n r => f (kMap n r))
        (fun n r => f (kStr n r)) (fun sb ie hb n r => f (kBin sb ie hb n r)) := by
  unfold dispatch
  simp only [apply_ite f]
  generalize hdrOf_d4 code.toNat r = h
  obtain ⟨_ | ⟨hb, size⟩, r'⟩ := h
  · rfl
  · simp only [apply_ite f]

theorem dispatch_eq {α : Type} (code : Byte) (r : R)
    (kInt : Nat → Nat → α) (kNil kInvalid : α) (kBool : Nat → α) (kF32 kF64 : α) (kFix : Nat → α)
    (kInc : R → α) (kArr kMap kStr : Nat → R → α) (kBin : Nat → Bool → List Byte → Nat → R → α) :
    dispatch code r kInt kNil kInvalid kBool kF32 kF64 kFix kInc kArr kMap kStr kBin =
      match classify code r with
      | .int w c => kInt w c | .nil => kNil | .invalid => kInvalid | .bool c => kBool c | .f32 => kF32 | .f64 => kF64
      | .fix c => kFix c | .inc r => kInc r | .arr n r => kArr n r | .map n r => kMap n r | .str n r => kStr n r
      | .bin sb ie hb n r => kBin sb ie hb n r :=
  (dispatch_comp (fun h : Hdr => match h with
      | .int w c => kInt w c | .nil => kNil | .invalid => kInvalid | .bool c => kBool c | .f32 => kF32 | .f64 => kF64
      | .fix c => kFix c | .inc r => kInc r | .arr n r => kArr n r | .map n r => kMap n r | .str n r => kStr n r
      | .bin sb ie hb n r => kBin sb ie hb n r)
    code r .int .nil .invalid .bool .f32 .f64 .fix .inc .arr .map .str .bin).symm

/-! ## the leaves, named -/

def leafSized (aV : Bool) (tooBig : Prop) [Decidable tooBig] (w : Nat) (mk : List Byte → Val) (r : R) : VOut :=
  if aV then
    if tooBig then finV .noMemory .null r else
    match r.readBytes w with
    | (some bs, r) => finV .ok (mk bs) r
    | (none, r) => finV .incomplete .null r
  else
    match r.skipBytes w with
    | (true, r) => finV .ok .null r
    | (false, r) => finV .incomplete .null r

def leafArr (env : Env) (fuel limit : Nat) (flt : Flt) (hasDst : Bool) (size : Nat) (r : R) : VOut :=
  match limit with
  | 0 => finV .tooDeep .null r
  | limit'+1 =>
    if hasDst && flt.allowArray then
      match readArray env fuel limit' flt.subIdx true size r [] with
      | (e, vs, r) => finV e (.arr vs) r
    else
      match readArray env fuel limit' flt.subIdx false size r [] with
      | (e, _, r) => finV e .null r

def leafMap (env : Env) (fuel limit : Nat) (flt : Flt) (hasDst : Bool) (size : Nat) (r : R) : VOut :=
  match limit with
  | 0 => finV .tooDeep .null r
  | limit'+1 =>
    if hasDst && flt.allowObject then
      match readObject env fuel limit' flt true size r [] with
      | (e, ms, r) => finV e (.obj ms) r
    else
      match readObject env fuel limit' flt false size r [] with
      | (e, _, r) => finV e .null r

/-- size of the payload of a bin/ext value: ext carries one more byte (the type) -/
def binSize (isExt : Bool) (size : Nat) : Nat := if isExt then size + 1 else size

theorem leafFixed_rd (aV : Bool) (w : Nat) (mk : List Byte → Val) (r : R) :
    leafFixed aV w mk r = if aV then rdLeaf mk w r else skLeaf w r := rfl

theorem leafSized_rd (aV : Bool) (tooBig : Prop) [Decidable tooBig] (w : Nat) (mk : List Byte → Val) (r : R) :
    leafSized aV tooBig w mk r =
      if aV then (if tooBig then (.noMemory, .null, r, true) else rdLeaf mk w r) else skLeaf w r := rfl

/-- what `parseVariant` does once the header is classified; `r0` is the reader after the header byte, the
    readers inside the token are after the size bytes -/
def leafOf (env : Env) (fuel limit : Nat) (flt : Flt) (hasDst : Bool) (code : Byte) (r0 : R) : Hdr → VOut
  | .int w c => leafFixed (hasDst && flt.allowValue) w (fun bs => readInteger bs (c ≥ 0xd0)) r0
  | .nil => finV .ok .null r0
  | .invalid => finV .invalid .null r0
  | .bool c => finV .ok (if hasDst && flt.allowValue then .bool (c == 0xc3) else .null) r0
  | .f32 => leafFixed (hasDst && flt.allowValue) 4 (fun bs => .num (.f32 (beNat bs))) r0
  | .f64 => leafFixed (hasDst && flt.allowValue) 8 (fun bs => .num (storeDouble (beNat bs))) r0
  | .fix c =>
    finV .ok (if hasDst && flt.allowValue then .num (.sint (if c ≥ 0x80 then (c : Int) - 256 else c)) else .null) r0
  | .inc r => finV .incomplete .null r
  | .arr size r => leafArr env fuel limit flt hasDst size r
  | .map size r => leafMap env fuel limit flt hasDst size r
  | .str size r => leafSized (hasDst && flt.allowValue) (size > env.maxStrLen) size (fun bs => .str bs) r
  | .bin sizeBytes isExt hb size r =>
    leafSized (hasDst && flt.allowValue) (1 + sizeBytes + binSize isExt size > env.maxStrLen) (binSize isExt size)
      (fun bs => .raw (code :: hb ++ bs)) r

/-- the pieces of AJ/Lemmas/MpPieces.lean and the leaves are the same routine -/
theorem pvAfter_eq (env : Env) (fuel limit : Nat) (flt : Flt) (hd : Bool) (code : Byte) (r : R) :
    pvAfter env (readArray env fuel) (readObject env fuel) limit flt hd code r =
      leafOf env fuel limit flt hd code r (classify code r) := by
  refine Eq.trans ?_ (dispatch_comp (leafOf env fuel limit flt hd code r) code r
    .int .nil .invalid .bool .f32 .f64 .fix .inc .arr .map .str .bin).symm
  unfold pvAfter dispatch
  simp only []
  refine of_ite₂ (Q := Eq) (fun _ => (leafFixed_rd ..).symm) (fun _ => ?_)
  iterate 3 refine of_ite₂ (Q := Eq) (fun _ => rfl) (fun _ => ?_)
  iterate 2 refine of_ite₂ (Q := Eq) (fun _ => (leafFixed_rd ..).symm) (fun _ => ?_)
  refine of_ite₂ (Q := Eq) (fun _ => rfl) (fun _ => ?_)
  change pvTail _ _ _ _ _ _ _ (hdrOf_d4 code.toNat r) = _
  generalize hdrOf_d4 code.toNat r = h
  obtain ⟨_ | ⟨hb, size⟩, r'⟩ := h
  · rfl
  unfold pvTail
  simp only []
  iterate 2 refine of_ite₂ (Q := Eq) (fun _ => rfl) (fun _ => ?_)
  exact of_ite₂ (Q := Eq) (fun _ => (leafSized_rd ..).symm) (fun _ => (leafSized_rd ..).symm)

/-- **One step of `parseVariant`**: read the header byte, classify, run the leafOf. -/
theorem parseVariant_step (env : Env) (fuel limit : Nat) (flt : Flt) (hasDst : Bool) (r : R) :
    parseVariant env (fuel+1) limit flt hasDst r =
      match r.read with
      | (none, r) => (.incomplete, .null, r, false)
      | (some code, r) => leafOf env fuel limit flt hasDst code r (classify code r) := by
  rw [pv_succ]
  generalize r.read = rd
  obtain ⟨_ | code, r0⟩ := rd
  · rfl
  · exact pvAfter_eq ..

/-! ## one step of `readObject` -/

/-- the length of a map key: `none` = not a string (InvalidInput), `some none` = size bytes missing -/
def keyLenOf_d3 (code : Byte) (r : R) : Option (Option Nat) × R :=
  let c := code.toNat
  if c / 32 == 5 then (some (some (c % 32)), r)
  else if 0xd9 ≤ c && c ≤ 0xdb then
    match r.readBytes (2^(c - 0xd9)) with
    | (some bs, r) => (some (some (beNat bs)), r)
    | (none, r) => (some none, r)
  else (none, r)

set_option maxRecDepth 8000 in
theorem readObject_step (env : Env) (fuel limit : Nat) (flt : Flt) (hasObj : Bool) (n : Nat) (r : R)
    (ms : List (List Byte × Val)) :
    readObject env (fuel+1) limit flt hasObj n r ms =
      if n == 0 then (.ok, ms, r) else
      match r.read with
      | (none, r) => (.incomplete, ms, r)
      | (some code, r) =>
        match keyLenOf_d3 code r with
        | (none, r) => (.invalid, ms, r)
        | (some none, r) => (.incomplete, ms, r)
        | (some (some len), r) =>
          if len > env.maxStrLen then (.noMemory, ms, r) else
          match r.readBytes len with
          | (none, r) => (.incomplete, ms, r)
          | (some key, r) =>
            match parseVariant env fuel limit (flt.subKey key) (hasObj && (flt.subKey key).allow) r with
            | (.ok, v, r, _) =>
              readObject env fuel limit flt hasObj (n - 1) r
                (if hasObj && (flt.subKey key).allow then ms ++ [(key, v)] else ms)
            | (e, v, r, _) => (e, (if hasObj && (flt.subKey key).allow then ms ++ [(key, v)] else ms), r) := by
  simp only [readObject, keyLenOf_d3]
  rfl

end MD
