/- Reading back what `JSer.compact` wrote: the documents, their normal forms through JSON text (`normJ`, `readBack`), the
   hypotheses of the round trip, and the scalars (integers are RFC number literals, read back exactly). The logical
   position `Vw` of a reader state, loaded or not, is a position in the sense of AJ/Lemmas/JsonComplete.lean.
   The round trip itself is in AJ/Lemmas/CompactDialect.lean; used by AJ/Props/C07.lean. -/
import AJ.Lemmas.JsonComplete
import AJ.Lemmas.SerGrammarCore
namespace JD

/- `Vw s u p`: the parser in state `s` will see exactly the bytes `u` (then the end marker), and `p` bytes of the
    input are logically consumed (a latched look-ahead byte is counted in `pos` but not yet consumed). -/
def Vw (s : St) (u : List Byte) (p : Nat) : Prop :=
  (s.l.loaded = false ∧ s.l.unread = u ∧ s.l.pos = p) ∨
  (s.l.loaded = true ∧ u = s.l.cur :: s.l.unread ∧ s.l.pos = p + 1) ∨
  (s.l.loaded = true ∧ u = [] ∧ s.l.cur = 0 ∧ s.l.unread = [] ∧ s.l.pos = p)

/-- under `current()` a loaded state is the unloaded state that has not yet taken its latched byte -/
theorem Vw.pos {s : St} {u : List Byte} {p : Nat} (h : Vw s u p) : Pos s u p s.found := by
  obtain ⟨⟨un, c, ld, ps⟩, fd⟩ := s
  rcases h with ⟨h1, h2, h3⟩ | ⟨h1, e, h3⟩ | ⟨h1, e, h2, h3, h4⟩
  · exact At.pos ⟨h1, h2, h3, rfl⟩
  · simp only at h1 e h3
    subst h1 e h3
    exact ⟨⟨⟨c :: un, 0, false, p⟩, fd⟩, ⟨rfl, rfl, rfl, rfl⟩, by simp [cur, Latch.current]⟩
  · simp only at h1 e h2 h3 h4
    subst h1 e h2 h3 h4
    exact ⟨⟨⟨[], 0, false, ps⟩, fd⟩, ⟨rfl, rfl, rfl, rfl⟩, by simp [cur, Latch.current]⟩

theorem Seen.vw {X : St} {u : List Byte} {p : Nat} {f : Bool} (h : Seen X u p f) : Vw X u p ∧ X.l.loaded = true := by
  obtain ⟨h1, h2, h3, h4, _⟩ := h.fields
  cases u with
  | nil => exact ⟨Or.inr (Or.inr ⟨h1, rfl, h2, h3, by simpa using h4⟩), h1⟩
  | cons c r => exact ⟨Or.inr (Or.inl ⟨h1, by rw [h2, h3]; rfl, by simpa using h4⟩), h1⟩

/-- what follows a number must not look like a number byte (inside a container it is `,` `]` `}`, at top level the end) -/
def Delim_rt (cfg : Cfg) (rest : List Byte) : Prop := inNumber cfg (rest.headD 0) = false

theorem Delim_rt.delim {cfg : Cfg} {rest : List Byte} (h : Delim_rt cfg rest) : Delim cfg rest := by
  intro c r e; subst e; exact h

/-- `scanNumber` takes exactly the number bytes when a delimiter follows and the buffer is large enough;
    the look-ahead stays latched -/
theorem scanNumber_exact (cfg : Cfg) : ∀ (ds : List Byte) (n : Nat) (acc : List Byte) (s : St) (rest : List Byte) (p : Nat),
    (∀ c ∈ ds, inNumber cfg c = true) → ds.length ≤ n → Delim_rt cfg rest → Vw s (ds ++ rest) p →
    ∃ s', scanNumber cfg n acc s = (acc.reverse ++ ds, s') ∧ Vw s' rest (p + ds.length) ∧ s'.l.loaded = true := by
  intro ds n acc s rest p hin hlen hd h
  obtain ⟨X, hX, hS⟩ := scanNumber_lit cfg hd.delim ds hin n acc s p s.found h.pos hlen
  exact ⟨X, hX, hS.vw.1, hS.vw.2⟩

theorem inNumber_digit (cfg : Cfg) {c : Byte} (h : 0x30 ≤ c ∧ c ≤ 0x39) : inNumber cfg c = true :=
  inNumber_numCh cfg (Or.inl h)

theorem inNumber_minus (cfg : Cfg) : inNumber cfg 0x2D = true := inNumber_numCh cfg (Or.inr (Or.inr (Or.inl rfl)))

end JD

/-! ## documents, their normal form through JSON, and the hypotheses of the round trip -/
namespace C07
open JD JSer

/- `AllV P K v`: every scalar node of `v` satisfies `P`, every object key satisfies `K` -/
mutual
def AllV (P : Val → Prop) (K : List Byte → Prop) : Val → Prop
  | .arr xs => AllE P K xs
  | .obj ms => AllM P K ms
  | .null => P .null
  | .bool b => P (.bool b)
  | .num n => P (.num n)
  | .str s => P (.str s)
  | .raw s => P (.raw s)
def AllE (P : Val → Prop) (K : List Byte → Prop) : List Val → Prop
  | [] => True
  | x :: r => AllV P K x ∧ AllE P K r
def AllM (P : Val → Prop) (K : List Byte → Prop) : List (List Byte × Val) → Prop
  | [] => True
  | (k, v) :: r => K k ∧ AllV P K v ∧ AllM P K r
end

def FloatFreeS : Val → Prop
  | .num (.f32 _) => False
  | .num (.f64 _) => False
  | _ => True
def RawFreeS : Val → Prop
  | .raw _ => False
  | _ => True
def IntOkS : Val → Prop
  | .num (.uint n) => n < 2 ^ 64
  | .num (.sint i) => -(2 ^ 63 : Int) ≤ i ∧ i < 2 ^ 64
  | _ => True
def StrOkS (m : Nat) : Val → Prop
  | .str s => s.length ≤ m
  | _ => True

/-- no `.f32` / `.f64` node anywhere -/
def NoFloat (v : Val) : Prop := AllV FloatFreeS (fun _ => True) v
/-- no raw (pre-serialized) node anywhere -/
def RawFree (v : Val) : Prop := AllV RawFreeS (fun _ => True) v
/-- every integer node is within [-2^63, 2^64) (unsigned ones within [0, 2^64)) -/
def IntsInRange (v : Val) : Prop := AllV IntOkS (fun _ => True) v
/-- every string value and every key has at most `m` bytes -/
def StrsWithin (m : Nat) (v : Val) : Prop := AllV (StrOkS m) (fun k => k.length ≤ m) v

def ScalarOk (cfg : Cfg) (v : Val) : Prop := FloatFreeS v ∧ RawFreeS v ∧ IntOkS v ∧ StrOkS cfg.maxStrLen v
/-- all four hypotheses together -/
def Good (cfg : Cfg) (v : Val) : Prop := AllV (ScalarOk cfg) (fun k => k.length ≤ cfg.maxStrLen) v

mutual
theorem AllV_and {P P' : Val → Prop} {K K' : List Byte → Prop} :
    ∀ v, AllV P K v → AllV P' K' v → AllV (fun v => P v ∧ P' v) (fun k => K k ∧ K' k) v
  | .arr xs => by simp only [AllV]; exact AllE_and xs
  | .obj ms => by simp only [AllV]; exact AllM_and ms
  | .null | .bool _ | .num _ | .str _ | .raw _ => by simp only [AllV]; exact fun a b => ⟨a, b⟩
theorem AllE_and {P P' : Val → Prop} {K K' : List Byte → Prop} :
    ∀ xs, AllE P K xs → AllE P' K' xs → AllE (fun v => P v ∧ P' v) (fun k => K k ∧ K' k) xs
  | [] => by simp only [AllE]; exact fun _ _ => trivial
  | x :: r => by simp only [AllE]; exact fun a b => ⟨AllV_and x a.1 b.1, AllE_and r a.2 b.2⟩
theorem AllM_and {P P' : Val → Prop} {K K' : List Byte → Prop} :
    ∀ ms, AllM P K ms → AllM P' K' ms → AllM (fun v => P v ∧ P' v) (fun k => K k ∧ K' k) ms
  | [] => by simp only [AllM]; exact fun _ _ => trivial
  | (k, v) :: r => by
    simp only [AllM]; exact fun a b => ⟨⟨a.1, b.1⟩, AllV_and v a.2.1 b.2.1, AllM_and r a.2.2 b.2.2⟩
end

mutual
theorem AllV_mono {P P' : Val → Prop} {K K' : List Byte → Prop} (hP : ∀ v, P v → P' v) (hK : ∀ k, K k → K' k) :
    ∀ v, AllV P K v → AllV P' K' v
  | .arr xs => by simp only [AllV]; exact AllE_mono hP hK xs
  | .obj ms => by simp only [AllV]; exact AllM_mono hP hK ms
  | .null | .bool _ | .num _ | .str _ | .raw _ => by simp only [AllV]; exact hP _
theorem AllE_mono {P P' : Val → Prop} {K K' : List Byte → Prop} (hP : ∀ v, P v → P' v) (hK : ∀ k, K k → K' k) :
    ∀ xs, AllE P K xs → AllE P' K' xs
  | [] => by simp only [AllE]; exact fun _ => trivial
  | x :: r => by simp only [AllE]; exact fun a => ⟨AllV_mono hP hK x a.1, AllE_mono hP hK r a.2⟩
theorem AllM_mono {P P' : Val → Prop} {K K' : List Byte → Prop} (hP : ∀ v, P v → P' v) (hK : ∀ k, K k → K' k) :
    ∀ ms, AllM P K ms → AllM P' K' ms
  | [] => by simp only [AllM]; exact fun _ => trivial
  | (k, v) :: r => by
    simp only [AllM]; exact fun a => ⟨hK k a.1, AllV_mono hP hK v a.2.1, AllM_mono hP hK r a.2.2⟩
end

theorem good_of (cfg : Cfg) (v : Val) (h1 : NoFloat v) (h2 : RawFree v) (h3 : IntsInRange v)
    (h4 : StrsWithin cfg.maxStrLen v) : Good cfg v := by
  have a := AllV_and v (AllV_and v (AllV_and v h1 h2) h3) h4
  exact AllV_mono (fun v h => ⟨h.1.1.1, h.1.1.2, h.1.2, h.2⟩) (fun k h => h.2) v a

/- nesting depth as counted by the deserializer: a scalar needs no level, each container one more than its content -/
mutual
def depth : Val → Nat
  | .arr xs => depthE xs + 1
  | .obj ms => depthM ms + 1
  | _ => 0
def depthE : List Val → Nat
  | [] => 0
  | x :: r => max (depth x) (depthE r)
def depthM : List (List Byte × Val) → Nat
  | [] => 0
  | (_, v) :: r => max (depth v) (depthM r)
end

/-- members inserted one after the other with `setMember`, as `parseObject` does: a repeated key keeps its first
    position and takes the last value -/
def insertAll (acc ms : List (List Byte × Val)) : List (List Byte × Val) :=
  ms.foldl (fun a kv => setMember a kv.1 kv.2) acc

def lastWins (ms : List (List Byte × Val)) : List (List Byte × Val) := insertAll [] ms

/- what a float-free, raw-free document becomes through JSON text: a non-negative signed integer comes back
    as the unsigned integer of the same value; members with a repeated key are merged (`lastWins`) -/
mutual
def normJ : Val → Val
  | .arr xs => .arr (normElems xs)
  | .obj ms => .obj (lastWins (normMembers ms))
  | .num (.sint v) => if 0 ≤ v then .num (.uint v.toNat) else .num (.sint v)
  | .num n => .num n
  | .null => .null
  | .bool b => .bool b
  | .str s => .str s
  | .raw s => .raw s
def normElems : List Val → List Val
  | [] => []
  | x :: r => normJ x :: normElems r
def normMembers : List (List Byte × Val) → List (List Byte × Val)
  | [] => []
  | (k, v) :: r => (k, normJ v) :: normMembers r
end


/-! ## number nodes: what the text of a node is read back as -/

def nullText : List Byte := [0x6E, 0x75, 0x6C, 0x6C]

/-- the value that `parseNumeric` stores for the number text `T` -/
def numValue (cfg : Cfg) (T : List Byte) : Val :=
  match parseNumber cfg T with
  | .uint n => .num (.uint n)
  | .sint n => .num (.sint n)
  | .f32 b => .num (.f32 b)
  | .f64 b => .num (storeDouble b)
  | _ => .null

/-- what a number node is read back as: `null` when it was printed as `null` (NaN/Infinity without the options),
    otherwise whatever `parseNumber` makes of its text -/
def numBack (cfg : Cfg) (n : Num) : Val :=
  if JS.printNum cfg n = nullText then .null else numValue cfg (JS.printNum cfg n)

/-- the text of the node can be read back: it is `null`, or it does not start with `n` (which would make it the keyword),
    consists of number bytes, fits the 63-byte buffer of `parseNumeric`, and `parseNumber` neither rejects it nor runs
    out of its powers-of-ten table -/
def NumReadable (cfg : Cfg) (n : Num) : Prop :=
  JS.printNum cfg n = nullText ∨
  ((JS.printNum cfg n).head? ≠ some 0x6E ∧ (∀ x ∈ JS.printNum cfg n, inNumber cfg x = true) ∧
    (JS.printNum cfg n).length ≤ 63 ∧ parseNumber cfg (JS.printNum cfg n) ≠ .invalid ∧
    parseNumber cfg (JS.printNum cfg n) ≠ .fault)

open Spec.Json (NumLit numVal) in
/-- for a number literal of the RFC, `parseNumeric` stores the value that the specification assigns -/
theorem numValue_numLit (cfg : Cfg) {T : List Byte} (h : NumLit T) : numValue cfg T = numVal cfg T := by
  rw [numVal_eq cfg h]
  unfold numValue
  cases parseNumber cfg T <;> rfl

open Spec.Json (NumLit) in
/-- a number literal of the RFC is readable text -/
theorem numLit_readable (cfg : Cfg) {T : List Byte} (h : NumLit T) :
    T.head? ≠ some 0x6E ∧ (∀ x ∈ T, inNumber cfg x = true) ∧ T.length ≤ 63 ∧ parseNumber cfg T ≠ .invalid ∧
      parseNumber cfg T ≠ .fault := by
  obtain ⟨g1, g2⟩ := numLit_good cfg h
  refine ⟨?_, fun x hx => inNumber_numCh cfg (numLit_chars h x hx), h.1, g1, g2⟩
  obtain ⟨c, cs, rfl, hc⟩ := numLit_head h
  intro e
  have : c = 0x6E := by simpa using e
  subst this
  rcases hc with hc | hc
  · exact absurd hc (by decide)
  · exact absurd hc.2 (by decide)

/-! ## integers -/

open Spec.Json (NumLit numVal) in
/-- the text of an in-range integer is a number literal of the RFC, whose value is the normal form of the node -/
theorem int_numLit (cfg : Cfg) (n : Num) (hg : ScalarOk cfg (.num n)) :
    NumLit (JS.printNum cfg n) ∧ numVal cfg (JS.printNum cfg n) = normJ (.num n) := by
  obtain ⟨hf, _, hi, _⟩ := hg
  cases n with
  | f32 b => exact False.elim hf
  | f64 b => exact False.elim hf
  | uint m => exact ⟨SerG.numLit_uint cfg m hi, by rw [SerG.numVal_uint cfg m hi]; simp only [normJ]⟩
  | sint i =>
    have hr : -(2 ^ 63 : Int) ≤ i ∧ i < 2 ^ 64 := hi
    refine ⟨SerG.numLit_sint cfg i (by omega) hr.2, ?_⟩
    simp only [normJ]
    split
    · rename_i h0; exact SerG.numVal_sint_nonneg cfg i h0 hr.2
    · rename_i h0; exact SerG.numVal_sint_neg cfg i hr.1 (by omega)

/-- an in-range integer followed by a delimiter is read back; the look-ahead byte stays latched -/
theorem pv_number (cfg : Cfg) {f L : Nat} (n : Num) (hg : ScalarOk cfg (.num n)) (s : St) (rest : List Byte) (p : Nat)
    (hd : Delim_rt cfg rest) (h : Vw s (JS.printNum cfg n ++ rest) p) :
    ∃ s', parseVariant cfg (f + 1) L s = (.ok, normJ (.num n), s') ∧
      Vw s' rest (p + (JS.printNum cfg n).length) ∧ s'.l.loaded = true := by
  obtain ⟨hl, hv⟩ := int_numLit cfg n hg
  obtain ⟨s', h1, h2, _⟩ := pv_num cfg (fuel := f + 1) (L := L) (w := []) hl hd.delim ws_nil h.pos (Nat.succ_pos f)
  rw [hv] at h1
  exact ⟨s', h1, by simpa using h2.vw.1, h2.vw.2⟩

/- the document read back: every number node replaced by `numBack`, members merged by `lastWins` -/
mutual
def readBack (cfg : Cfg) : Val → Val
  | .arr xs => .arr (readBackE cfg xs)
  | .obj ms => .obj (lastWins (readBackM cfg ms))
  | .num n => numBack cfg n
  | .null => .null
  | .bool b => .bool b
  | .str s => .str s
  | .raw s => .raw s
def readBackE (cfg : Cfg) : List Val → List Val
  | [] => []
  | x :: r => readBack cfg x :: readBackE cfg r
def readBackM (cfg : Cfg) : List (List Byte × Val) → List (List Byte × Val)
  | [] => []
  | (k, v) :: r => (k, readBack cfg v) :: readBackM cfg r
end

def NumOkS (cfg : Cfg) : Val → Prop
  | .num n => NumReadable cfg n
  | _ => True

/-- every number node is readable -/
def NumsReadable (cfg : Cfg) (v : Val) : Prop := AllV (NumOkS cfg) (fun _ => True) v

def ScalarOkG (cfg : Cfg) (v : Val) : Prop := RawFreeS v ∧ NumOkS cfg v ∧ StrOkS cfg.maxStrLen v
def GoodG (cfg : Cfg) (v : Val) : Prop := AllV (ScalarOkG cfg) (fun k => k.length ≤ cfg.maxStrLen) v

theorem goodG_of (cfg : Cfg) (v : Val) (h2 : RawFree v) (h3 : NumsReadable cfg v)
    (h4 : StrsWithin cfg.maxStrLen v) : GoodG cfg v := by
  have a := AllV_and v (AllV_and v h2 h3) h4
  exact AllV_mono (fun v h => ⟨h.1.1, h.1.2, h.2⟩) (fun k h => h.2) v a

/-- an in-range integer node is readable, and is read back as its normal form -/
theorem int_readable (cfg : Cfg) (n : Num) (hg : ScalarOk cfg (.num n)) :
    NumReadable cfg n ∧ numBack cfg n = normJ (.num n) := by
  obtain ⟨hl, hv⟩ := int_numLit cfg n hg
  obtain ⟨hh, hrest⟩ := numLit_readable cfg hl
  refine ⟨Or.inr ⟨hh, hrest⟩, ?_⟩
  unfold numBack
  rw [if_neg (fun e => hh (by rw [e]; rfl)), numValue_numLit cfg hl, hv]

theorem scalarOkG_of (cfg : Cfg) (v : Val) (h : ScalarOk cfg v) : ScalarOkG cfg v := by
  refine ⟨h.2.1, ?_, h.2.2.2⟩
  cases v with
  | num n => exact (int_readable cfg n h).1
  | _ => trivial

theorem goodG_of_good (cfg : Cfg) (v : Val) (h : Good cfg v) : GoodG cfg v :=
  AllV_mono (scalarOkG_of cfg) (fun _ h => h) v h

mutual
theorem readBack_eq_normJ (cfg : Cfg) : ∀ v, Good cfg v → readBack cfg v = normJ v
  | .arr xs => by simp only [Good, AllV, readBack, normJ]; intro h; rw [readBackE_eq cfg xs h]
  | .obj ms => by simp only [Good, AllV, readBack, normJ]; intro h; rw [readBackM_eq cfg ms h]
  | .num n => by simp only [Good, AllV, readBack]; intro h; exact (int_readable cfg n h).2
  | .null | .bool _ | .str _ | .raw _ => by simp only [readBack, normJ]; intro _; trivial
theorem readBackE_eq (cfg : Cfg) : ∀ xs, AllE (ScalarOk cfg) (fun k => k.length ≤ cfg.maxStrLen) xs →
    readBackE cfg xs = normElems xs
  | [] => fun _ => rfl
  | x :: r => by
    simp only [AllE, readBackE, normElems]; intro h; rw [readBack_eq_normJ cfg x h.1, readBackE_eq cfg r h.2]
theorem readBackM_eq (cfg : Cfg) : ∀ ms, AllM (ScalarOk cfg) (fun k => k.length ≤ cfg.maxStrLen) ms →
    readBackM cfg ms = normMembers ms
  | [] => fun _ => rfl
  | (k, v) :: r => by
    simp only [AllM, readBackM, normMembers]; intro h
    rw [readBack_eq_normJ cfg v h.2.1, readBackM_eq cfg r h.2.2]
end

/-! ## documents without repeated keys: `lastWins` is the identity -/

/- no object of the document has two members with the same key -/
mutual
def NoDupKeys : Val → Prop
  | .arr xs => NoDupE xs
  | .obj ms => (ms.map (·.1)).Nodup ∧ NoDupM ms
  | _ => True
def NoDupE : List Val → Prop
  | [] => True
  | x :: r => NoDupKeys x ∧ NoDupE r
def NoDupM : List (List Byte × Val) → Prop
  | [] => True
  | (_, v) :: r => NoDupKeys v ∧ NoDupM r
end

/- the integer normalisation alone: containers keep their shape, members their order and keys -/
mutual
def normInt : Val → Val
  | .arr xs => .arr (normIntE xs)
  | .obj ms => .obj (normIntM ms)
  | .num (.sint v) => if 0 ≤ v then .num (.uint v.toNat) else .num (.sint v)
  | .num n => .num n
  | .null => .null
  | .bool b => .bool b
  | .str s => .str s
  | .raw s => .raw s
def normIntE : List Val → List Val
  | [] => []
  | x :: r => normInt x :: normIntE r
def normIntM : List (List Byte × Val) → List (List Byte × Val)
  | [] => []
  | (k, v) :: r => (k, normInt v) :: normIntM r
end

theorem setMember_new (acc : List (List Byte × Val)) (k : List Byte) (v : Val) (h : k ∉ acc.map (·.1)) :
    setMember acc k v = acc ++ [(k, v)] := by
  induction acc with
  | nil => rfl
  | cons a r ih =>
    obtain ⟨k', v'⟩ := a
    have h1 : k' ≠ k := by intro e; exact h (by simp [e])
    have h2 : k ∉ r.map (·.1) := by intro e; exact h (by simp [e])
    have e : (k' == k) = false := by simpa using h1
    simp only [setMember, e, Bool.false_eq_true, ↓reduceIte, ih h2, List.cons_append]

theorem insertAll_nodup (ms acc : List (List Byte × Val)) (h : ((acc ++ ms).map (·.1)).Nodup) :
    insertAll acc ms = acc ++ ms := by
  induction ms generalizing acc with
  | nil => simp [insertAll]
  | cons m r ih =>
    obtain ⟨k, v⟩ := m
    have hk : k ∉ acc.map (·.1) := by
      simp only [List.map_append, List.map_cons, List.nodup_append, List.nodup_cons] at h
      intro hm
      exact h.2.2 k hm k (by simp) rfl
    have h' : (((acc ++ [(k, v)]) ++ r).map (·.1)).Nodup := by simpa using h
    have := ih (acc ++ [(k, v)]) h'
    simp only [insertAll, List.foldl_cons] at this ⊢
    rw [setMember_new acc k v hk, this]; simp

theorem lastWins_nodup (ms : List (List Byte × Val)) (h : (ms.map (·.1)).Nodup) : lastWins ms = ms := by
  have := insertAll_nodup ms [] (by simpa using h)
  simpa [lastWins] using this

theorem normIntM_keys (ms : List (List Byte × Val)) : (normIntM ms).map (·.1) = ms.map (·.1) := by
  induction ms with
  | nil => rfl
  | cons m r ih => obtain ⟨k, v⟩ := m; simp only [normIntM, List.map_cons, ih]

mutual
theorem normJ_eq_normInt : ∀ v, NoDupKeys v → normJ v = normInt v
  | .arr xs => by simp only [NoDupKeys, normJ, normInt]; intro h; rw [normElems_eq xs h]
  | .obj ms => by
    simp only [NoDupKeys, normJ, normInt]; intro h
    rw [normMembers_eq ms h.2, lastWins_nodup _ (by rw [normIntM_keys]; exact h.1)]
  | .num (.sint _) | .num (.uint _) | .num (.f32 _) | .num (.f64 _) | .null | .bool _ | .str _ | .raw _ => by
    simp only [normJ, normInt]; intro _; trivial
theorem normElems_eq : ∀ xs, NoDupE xs → normElems xs = normIntE xs
  | [] => fun _ => rfl
  | x :: r => by
    simp only [NoDupE, normElems, normIntE]; intro h; rw [normJ_eq_normInt x h.1, normElems_eq r h.2]
theorem normMembers_eq : ∀ ms, NoDupM ms → normMembers ms = normIntM ms
  | [] => fun _ => rfl
  | (k, v) :: r => by
    simp only [NoDupM, normMembers, normIntM]; intro h; rw [normJ_eq_normInt v h.1, normMembers_eq r h.2]
end

theorem isNumberVal_normJ (v : Val) : isNumberVal (normJ v) = isNumberVal v := by
  cases v with
  | num n =>
    cases n with
    | sint i => simp only [normJ]; split <;> rfl
    | _ => simp only [normJ]
  | _ => simp only [normJ, isNumberVal]

end C07
