/- The MessagePack reader model cut into named pieces (`pvAfter`, `pvTail`, `hdrOf`, `rdLeaf`, `skLeaf`, `keyLenOf`, `roVal`,
   `roTail`), definitionally equal to the model (`pv_succ`, `ra_succ_eq`, `ro_succ_eq`), and what each piece does on each
   class of format byte. Every later fact about `parseVariant` / `readObject` goes through these pieces. -/
import AJ.Model.MD
import AJ.Lemmas.SFWidth
namespace MD
open JD SF

theorem dT {p : Prop} [Decidable p] (h : p) : decide p = true := decide_eq_true h
theorem dF {p : Prop} [Decidable p] (h : ¬ p) : decide p = false := decide_eq_false h

/-- a condition of the `if` ladders (`&&`, `||` of comparisons of the format byte) read as a proposition and left to `omega` -/
macro "byte_cond" : tactic =>
  `(tactic| (simp only [Bool.or_eq_true, Bool.and_eq_true, beq_iff_eq, decide_eq_true_eq, ge_iff_le]; omega))

/-! ## big-endian -/
theorem beN_length (k n : Nat) : (beN k n).length = k := by simp [beN]

theorem ofNat_toNat (n : Nat) (h : n < 256) : (UInt8.ofNat n).toNat = n :=
  UInt8.toNat_ofNat_of_lt' (by simp [UInt8.size]; omega)

theorem beN_succ (k n : Nat) : beN (k+1) n = UInt8.ofNat (n / 256^k % 256) :: beN k n := by
  simp only [beN, List.range_succ, List.reverse_append, List.reverse_cons, List.reverse_nil, List.nil_append,
    List.singleton_append, List.map_cons]

theorem beN1_eq (n : Nat) : beN 1 n = [UInt8.ofNat (n % 256)] := by simp [beN]

theorem foldl_be (l : List Byte) (a : Nat) :
    l.foldl (fun a b => a * 256 + b.toNat) a = a * 256^l.length + beNat l := by
  induction l generalizing a with
  | nil => simp only [List.foldl_nil, List.length_nil, Nat.pow_zero, Nat.mul_one, beNat, Nat.add_zero]
  | cons c t ih =>
    simp only [beNat, List.foldl_cons, List.length_cons]
    rw [ih, ih (0 * 256 + c.toNat), Nat.pow_succ]
    simp only [Nat.add_mul, Nat.zero_mul, Nat.zero_add, Nat.mul_assoc, Nat.mul_comm 256, Nat.add_assoc]

theorem beNat_cons (c : Byte) (l : List Byte) : beNat (c :: l) = c.toNat * 256^l.length + beNat l := by
  rw [beNat, List.foldl_cons, foldl_be, Nat.zero_mul, Nat.zero_add]

/-- `beN k` writes the `k` low base-256 digits, most significant first, and `beNat` reads them back -/
theorem beNat_beN (k n : Nat) : beNat (beN k n) = n % 256^k := by
  induction k with
  | zero => rw [Nat.pow_zero, Nat.mod_one]; rfl
  | succ k ih =>
    rw [beN_succ, beNat_cons, ih, beN_length, ofNat_toNat _ (Nat.mod_lt _ (by decide)), Nat.mod_pow_succ,
      Nat.mul_comm, Nat.add_comm]

theorem beNat_beN2 (n : Nat) (h : n < 65536) : beNat (beN 2 n) = n := by rw [beNat_beN, Nat.mod_eq_of_lt h]
theorem beNat_beN4 (n : Nat) (h : n < 4294967296) : beNat (beN 4 n) = n := by rw [beNat_beN, Nat.mod_eq_of_lt h]
theorem beNat_beN8 (n : Nat) (h : n < 18446744073709551616) : beNat (beN 8 n) = n := by
  rw [beNat_beN, Nat.mod_eq_of_lt h]

/-! ## reader -/
theorem readBytes_app (a b : List Byte) (p k : Nat) (h : a.length = k) :
    R.readBytes ⟨a ++ b, p⟩ k = (some a, ⟨b, p + k⟩) := by
  subst h
  simp [R.readBytes]

theorem read_cons (c : Byte) (l : List Byte) (p : Nat) : R.read ⟨c :: l, p⟩ = (some c, ⟨l, p + 1⟩) := rfl


abbrev RAfun := Nat → Flt → Bool → Nat → R → List Val → Code × List Val × R
abbrev ROfun := Nat → Flt → Bool → Nat → R → List (List Byte × Val) → Code × List (List Byte × Val) × R
abbrev PVfun := Nat → Flt → Bool → R → Code × Val × R × Bool

def rdLeaf (g : List Byte → Val) (n : Nat) (r : R) : Code × Val × R × Bool :=
  match r.readBytes n with
  | (some bs, r) => (.ok, g bs, r, true)
  | (none, r) => (.incomplete, .null, r, true)

def skLeaf (n : Nat) (r : R) : Code × Val × R × Bool :=
  match r.skipBytes n with
  | (true, r) => (.ok, .null, r, true)
  | (false, r) => (.incomplete, .null, r, true)

def szBytes (c : Nat) : Nat :=
  if c == 0xc4 || c == 0xc7 || c == 0xd9 then 1
  else if c == 0xc5 || c == 0xc8 || c == 0xda || c == 0xdc || c == 0xde then 2
  else if c == 0xc6 || c == 0xc9 || c == 0xdb || c == 0xdd || c == 0xdf then 4
  else 0

def szPair (c : Nat) : Nat × Bool :=
  if 0xd4 ≤ c && c ≤ 0xd8 then (2^(c - 0xd4), true) else (0, 0xc7 ≤ c && c ≤ 0xc9)

def sz2 (c : Nat) : Nat :=
  if c / 32 == 5 then c % 32 else if c / 16 == 9 || c / 16 == 8 then c % 16 else (szPair c).1

def hdrOf (sb s2 : Nat) (r : R) : Option (List Byte × Nat) × R :=
  if sb > 0 then
    match r.readBytes sb with
    | (some bs, r) => (some (bs, beNat bs), r)
    | (none, r) => (none, r)
  else (some ([], s2), r)

def pvTail (env : Env) (RA : RAfun) (RO : ROfun) (limit : Nat) (flt : Flt) (hasDst : Bool) (code : Byte) :
    Option (List Byte × Nat) × R → Code × Val × R × Bool
  | (none, r) => (.incomplete, .null, r, true)
  | (some (hb, size), r) =>
    let c := code.toNat
    let allowValue := hasDst && flt.allowValue
    if c == 0xdc || c == 0xdd || c / 16 == 9 then
      match limit with
      | 0 => (.tooDeep, .null, r, true)
      | limit'+1 =>
        if hasDst && flt.allowArray then
          match RA limit' flt.subIdx true size r [] with
          | (e, vs, r) => (e, .arr vs, r, true)
        else
          match RA limit' flt.subIdx false size r [] with
          | (e, _, r) => (e, .null, r, true)
    else if c == 0xde || c == 0xdf || c / 16 == 8 then
      match limit with
      | 0 => (.tooDeep, .null, r, true)
      | limit'+1 =>
        if hasDst && flt.allowObject then
          match RO limit' flt true size r [] with
          | (e, ms, r) => (e, .obj ms, r, true)
        else
          match RO limit' flt false size r [] with
          | (e, _, r) => (e, .null, r, true)
    else if c == 0xd9 || c == 0xda || c == 0xdb || c / 32 == 5 then
      if allowValue then
        if size > env.maxStrLen then (.noMemory, .null, r, true) else rdLeaf (fun bs => .str bs) size r
      else skLeaf size r
    else
      let size := if (szPair c).2 then size + 1 else size
      if allowValue then
        if 1 + szBytes c + size > env.maxStrLen then (.noMemory, .null, r, true)
        else rdLeaf (fun bs => .raw (code :: hb ++ bs)) size r
      else skLeaf size r

def pvAfter (env : Env) (RA : RAfun) (RO : ROfun) (limit : Nat) (flt : Flt) (hasDst : Bool) (code : Byte) (r : R) :
    Code × Val × R × Bool :=
  let allowValue := hasDst && flt.allowValue
  let c := code.toNat
  if 0xcc ≤ c && c ≤ 0xd3 then
    if allowValue then rdLeaf (fun bs => readInteger bs (c ≥ 0xd0)) (2^((c - 0xcc) % 4)) r
    else skLeaf (2^((c - 0xcc) % 4)) r
  else if c == 0xc0 then (.ok, .null, r, true)
  else if c == 0xc1 then (.invalid, .null, r, true)
  else if c == 0xc2 || c == 0xc3 then (.ok, (if allowValue then .bool (c == 0xc3) else .null), r, true)
  else if c == 0xca then
    if allowValue then rdLeaf (fun bs => .num (.f32 (beNat bs))) 4 r else skLeaf 4 r
  else if c == 0xcb then
    if allowValue then rdLeaf (fun bs => .num (storeDouble (beNat bs))) 8 r else skLeaf 8 r
  else if c ≤ 0x7f || c ≥ 0xe0 then
    (.ok, (if allowValue then .num (.sint (if c ≥ 0x80 then (c : Int) - 256 else c)) else .null), r, true)
  else pvTail env RA RO limit flt hasDst code (hdrOf (szBytes c) (sz2 c) r)

set_option maxRecDepth 8000 in
theorem pv_succ (env : Env) (fuel limit : Nat) (flt : Flt) (hd : Bool) (r : R) :
    parseVariant env (fuel+1) limit flt hd r =
      match r.read with
      | (none, r) => (.incomplete, .null, r, false)
      | (some code, r) => pvAfter env (readArray env fuel) (readObject env fuel) limit flt hd code r := by
  rw [parseVariant]
  rfl

def keyLenOf (c : Nat) (r : R) : Option (Option Nat) × R :=
  if c / 32 == 5 then (some (some (c % 32)), r)
  else if 0xd9 ≤ c && c ≤ 0xdb then
    match r.readBytes (2^(c - 0xd9)) with
    | (some bs, r) => (some (some (beNat bs)), r)
    | (none, r) => (some none, r)
  else (none, r)

def roVal (PV : PVfun) (RO : ROfun) (limit : Nat) (flt : Flt) (hasObj : Bool) (n : Nat)
    (ms : List (List Byte × Val)) (key : List Byte) (r : R) : Code × List (List Byte × Val) × R :=
  match PV limit (flt.subKey key) (hasObj && (flt.subKey key).allow) r with
  | (.ok, v, r, _) => RO limit flt hasObj (n - 1) r (if hasObj && (flt.subKey key).allow then ms ++ [(key, v)] else ms)
  | (e, v, r, _) => (e, (if hasObj && (flt.subKey key).allow then ms ++ [(key, v)] else ms), r)

def roTail (env : Env) (PV : PVfun) (RO : ROfun) (limit : Nat) (flt : Flt) (hasObj : Bool) (n : Nat)
    (ms : List (List Byte × Val)) : Option (Option Nat) × R → Code × List (List Byte × Val) × R
  | (none, r) => (.invalid, ms, r)
  | (some none, r) => (.incomplete, ms, r)
  | (some (some len), r) =>
    if len > env.maxStrLen then (.noMemory, ms, r) else
    match r.readBytes len with
    | (none, r) => (.incomplete, ms, r)
    | (some key, r) => roVal PV RO limit flt hasObj n ms key r

set_option maxRecDepth 8000 in
theorem ro_succ_eq (env : Env) (fuel limit : Nat) (flt : Flt) (ho : Bool) (n : Nat) (r : R) (ms : List (List Byte × Val)) :
    readObject env (fuel+1) limit flt ho n r ms =
      if n == 0 then (.ok, ms, r) else
      match r.read with
      | (none, r) => (.incomplete, ms, r)
      | (some code, r) =>
        roTail env (parseVariant env fuel) (readObject env fuel) limit flt ho n ms (keyLenOf code.toNat r) := by
  rw [readObject]
  rfl

theorem ra_succ_eq (env : Env) (fuel limit : Nat) (ef : Flt) (ha : Bool) (n : Nat) (r : R) (acc : List Val) :
    readArray env (fuel+1) limit ef ha n r acc =
      if n == 0 then (.ok, acc.reverse, r) else
      match parseVariant env fuel limit ef (ha && ef.allow) r with
      | (.ok, v, r, _) => readArray env fuel limit ef ha (n - 1) r (if ha && ef.allow then v :: acc else acc)
      | (e, v, r, _) => (e, (if ha && ef.allow then v :: acc else acc).reverse, r) := by
  rw [readArray]
  rfl

/-! ## after a value: go on if it was accepted, else stop with its code -/

theorem roVal_eq (PV : PVfun) (RO : ROfun) (limit : Nat) (flt : Flt) (ho : Bool) (n : Nat) (ms : List (List Byte × Val))
    (key : List Byte) (r : R) :
    roVal PV RO limit flt ho n ms key r =
      if (PV limit (flt.subKey key) (ho && (flt.subKey key).allow) r).1 = .ok then
        RO limit flt ho (n - 1) (PV limit (flt.subKey key) (ho && (flt.subKey key).allow) r).2.2.1
          (if ho && (flt.subKey key).allow then
            ms ++ [(key, (PV limit (flt.subKey key) (ho && (flt.subKey key).allow) r).2.1)] else ms)
      else ((PV limit (flt.subKey key) (ho && (flt.subKey key).allow) r).1,
        (if ho && (flt.subKey key).allow then
          ms ++ [(key, (PV limit (flt.subKey key) (ho && (flt.subKey key).allow) r).2.1)] else ms),
        (PV limit (flt.subKey key) (ho && (flt.subKey key).allow) r).2.2.1) := by
  unfold roVal
  generalize PV limit (flt.subKey key) (ho && (flt.subKey key).allow) r = x
  obtain ⟨e, v, r', b⟩ := x
  cases e <;> rfl

theorem ra_succ_if (env : Env) (fuel limit : Nat) (ef : Flt) (ha : Bool) (n : Nat) (r : R) (acc : List Val) :
    readArray env (fuel+1) limit ef ha n r acc =
      if n == 0 then (.ok, acc.reverse, r) else
      if (parseVariant env fuel limit ef (ha && ef.allow) r).1 = .ok then
        readArray env fuel limit ef ha (n - 1) (parseVariant env fuel limit ef (ha && ef.allow) r).2.2.1
          (if ha && ef.allow then (parseVariant env fuel limit ef (ha && ef.allow) r).2.1 :: acc else acc)
      else ((parseVariant env fuel limit ef (ha && ef.allow) r).1,
        (if ha && ef.allow then (parseVariant env fuel limit ef (ha && ef.allow) r).2.1 :: acc else acc).reverse,
        (parseVariant env fuel limit ef (ha && ef.allow) r).2.2.1) := by
  rw [ra_succ_eq]
  generalize parseVariant env fuel limit ef (ha && ef.allow) r = x
  obtain ⟨e, v, r', b⟩ := x
  cases e <;> rfl

/-! ## the pieces on an input that holds what they ask for, or less -/

theorem pv_cons (env : Env) (fuel limit : Nat) (flt : Flt) (hd : Bool) (c : Byte) (t : List Byte) (p : Nat) :
    parseVariant env (fuel+1) limit flt hd ⟨c :: t, p⟩ =
      pvAfter env (readArray env fuel) (readObject env fuel) limit flt hd c ⟨t, p + 1⟩ := pv_succ ..

theorem readBytes_short (l : List Byte) (p k : Nat) (h : l.length < k) :
    R.readBytes ⟨l, p⟩ k = (none, ⟨[], p + l.length⟩) := by
  simp only [R.readBytes]
  rw [if_neg (by omega)]

theorem rdLeaf_app (g : List Byte → Val) (a b : List Byte) (p k : Nat) (h : a.length = k) :
    rdLeaf g k ⟨a ++ b, p⟩ = (.ok, g a, ⟨b, p + k⟩, true) := by
  rw [rdLeaf, readBytes_app a b p k h]

theorem hdrOf_app (hb t : List Byte) (p sb s2 : Nat) (hl : hb.length = sb) (h0 : 0 < sb) :
    hdrOf sb s2 ⟨hb ++ t, p⟩ = (some (hb, beNat hb), ⟨t, p + sb⟩) := by
  rw [hdrOf, if_pos h0, readBytes_app hb t p sb hl]

theorem hdrOf_zero (s2 : Nat) (r : R) : hdrOf 0 s2 r = (some ([], s2), r) := rfl

/-! ## the size bytes and the fix sizes of each class of format byte -/

/-- bin, ext, str 8 / 16 / 32 carry `1, 2, 4` size bytes -/
theorem szBytes_sized (c j : Nat) (hj : j < 3) (h : c = 0xc4 + j ∨ c = 0xc7 + j ∨ c = 0xd9 + j) : szBytes c = 2^j := by
  obtain rfl | rfl | rfl : j = 0 ∨ j = 1 ∨ j = 2 := by omega
  all_goals obtain rfl | rfl | rfl := h <;> rfl

/-- array, map 16 / 32 carry `2, 4` size bytes -/
theorem szBytes_count (c j : Nat) (hj : j < 2) (h : c = 0xdc + j ∨ c = 0xde + j) : szBytes c = 2 * 2^j := by
  obtain rfl | rfl : j = 0 ∨ j = 1 := by omega
  all_goals obtain rfl | rfl := h <;> rfl

theorem szBytes_fix (c : Nat) (h : c < 0xc4 ∨ (0xd4 ≤ c ∧ c ≤ 0xd8)) : szBytes c = 0 := by
  unfold szBytes
  rw [if_neg (by byte_cond), if_neg (by byte_cond), if_neg (by byte_cond)]

theorem sz2_fixstr (c : Nat) (h1 : 0xa0 ≤ c) (h2 : c ≤ 0xbf) : sz2 c = c - 0xa0 := by
  unfold sz2
  rw [if_pos (by byte_cond)]
  omega

theorem sz2_fixcount (c : Nat) (h1 : 0x80 ≤ c) (h2 : c ≤ 0x9f) : sz2 c = c % 16 := by
  unfold sz2
  rw [if_neg (by byte_cond), if_pos (by byte_cond)]

theorem sz2_fixext (c j : Nat) (hj : j < 5) (h : c = 0xd4 + j) : sz2 c = 2^j := by
  unfold sz2 szPair
  rw [if_neg (by byte_cond), if_neg (by byte_cond), if_pos (by byte_cond), show c - 0xd4 = j by omega]

theorem szPair_ext (c : Nat) (h1 : 0xc7 ≤ c) (h2 : c ≤ 0xc9 ∨ (0xd4 ≤ c ∧ c ≤ 0xd8)) : (szPair c).2 = true := by
  unfold szPair
  refine of_ite (Q := fun x : Nat × Bool => x.2 = true) (fun _ => rfl) (fun h => ?_)
  show (decide (0xc7 ≤ c) && decide (c ≤ 0xc9)) = true
  revert h
  byte_cond

theorem szPair_bin (c : Nat) (h1 : 0xc4 ≤ c) (h2 : c ≤ 0xc6) : (szPair c).2 = false := by
  unfold szPair
  rw [if_neg (by byte_cond)]
  show (decide (0xc7 ≤ c) && decide (c ≤ 0xc9)) = false
  rw [dF (show ¬ 0xc7 ≤ c by omega)]
  rfl

/-! ## `pvAfter` by class of format byte -/

section after
variable {env : Env} {RA : RAfun} {RO : ROfun} {limit : Nat} {flt : Flt} {hd : Bool} (code : Byte) {r : R}

/-- positive and negative fixint -/
theorem pvAfter_fixint (h : code.toNat ≤ 0x7f ∨ 0xe0 ≤ code.toNat) :
    pvAfter env RA RO limit flt hd code r =
      (.ok, (if hd && flt.allowValue then
        .num (.sint (if code.toNat ≥ 0x80 then (code.toNat : Int) - 256 else code.toNat)) else .null), r, true) := by
  unfold pvAfter
  generalize code.toNat = n at *
  simp only []
  rw [if_neg (by byte_cond), if_neg (by byte_cond), if_neg (by byte_cond), if_neg (by byte_cond), if_neg (by byte_cond),
    if_neg (by byte_cond), if_pos (by byte_cond)]

/-- uint 8 .. 64, int 8 .. 64 -/
theorem pvAfter_int (h1 : 0xcc ≤ code.toNat) (h2 : code.toNat ≤ 0xd3) :
    pvAfter env RA RO limit flt hd code r =
      if hd && flt.allowValue then
        rdLeaf (fun bs => readInteger bs (code.toNat ≥ 0xd0)) (2^((code.toNat - 0xcc) % 4)) r
      else skLeaf (2^((code.toNat - 0xcc) % 4)) r := by
  unfold pvAfter
  generalize code.toNat = n at *
  simp only []
  rw [if_pos (by byte_cond)]

/-- the classes that carry a size: fixmap, fixarray, fixstr, bin, ext, fixext, str, array, map -/
theorem pvAfter_sized (h1 : 0x80 ≤ code.toNat)
    (h2 : code.toNat ≤ 0xbf ∨ (0xc4 ≤ code.toNat ∧ code.toNat ≤ 0xc9) ∨ (0xd4 ≤ code.toNat ∧ code.toNat ≤ 0xdf)) :
    pvAfter env RA RO limit flt hd code r =
      pvTail env RA RO limit flt hd code (hdrOf (szBytes code.toNat) (sz2 code.toNat) r) := by
  unfold pvAfter
  generalize code.toNat = n at *
  simp only []
  rw [if_neg (by byte_cond), if_neg (by byte_cond), if_neg (by byte_cond), if_neg (by byte_cond), if_neg (by byte_cond),
    if_neg (by byte_cond), if_neg (by byte_cond)]

end after

/-! ## `pvTail` by class, the size known -/

def arrResult (q : Code × List Val × R) : Code × Val × R × Bool := (q.1, .arr q.2.1, q.2.2, true)
def objResult (q : Code × List (List Byte × Val) × R) : Code × Val × R × Bool := (q.1, .obj q.2.1, q.2.2, true)

section tail
variable {env : Env} {RA : RAfun} {RO : ROfun} {limit : Nat} {flt : Flt} {hd : Bool} (code : Byte) {hb : List Byte}
  {size : Nat} {r : R}

theorem pvTail_arr (h : code.toNat = 0xdc ∨ code.toNat = 0xdd ∨ code.toNat / 16 = 9) :
    pvTail env RA RO (limit+1) flt hd code (some (hb, size), r) =
      if hd && flt.allowArray then arrResult (RA limit flt.subIdx true size r [])
      else ((RA limit flt.subIdx false size r []).1, .null, (RA limit flt.subIdx false size r []).2.2, true) := by
  unfold pvTail
  generalize code.toNat = n at *
  simp only []
  rw [if_pos (by byte_cond)]
  rfl

theorem pvTail_map (h : code.toNat = 0xde ∨ code.toNat = 0xdf ∨ code.toNat / 16 = 8) :
    pvTail env RA RO (limit+1) flt hd code (some (hb, size), r) =
      if hd && flt.allowObject then objResult (RO limit flt true size r [])
      else ((RO limit flt false size r []).1, .null, (RO limit flt false size r []).2.2, true) := by
  unfold pvTail
  generalize code.toNat = n at *
  simp only []
  rw [if_neg (by byte_cond), if_pos (by byte_cond)]
  rfl

theorem pvTail_str (h : (0xd9 ≤ code.toNat ∧ code.toNat ≤ 0xdb) ∨ code.toNat / 32 = 5) :
    pvTail env RA RO limit flt hd code (some (hb, size), r) =
      if hd && flt.allowValue then
        if size > env.maxStrLen then (.noMemory, .null, r, true) else rdLeaf (fun bs => .str bs) size r
      else skLeaf size r := by
  unfold pvTail
  generalize code.toNat = n at *
  simp only []
  rw [if_neg (by byte_cond), if_neg (by byte_cond), if_pos (by byte_cond)]

/-- bin, ext, fixext: the raw node keeps the format byte, the size bytes and the payload -/
theorem pvTail_raw (h : (0xc4 ≤ code.toNat ∧ code.toNat ≤ 0xc9) ∨ (0xd4 ≤ code.toNat ∧ code.toNat ≤ 0xd8)) :
    pvTail env RA RO limit flt hd code (some (hb, size), r) =
      if hd && flt.allowValue then
        if 1 + szBytes code.toNat + (if (szPair code.toNat).2 then size + 1 else size) > env.maxStrLen then
          (.noMemory, .null, r, true)
        else rdLeaf (fun bs => .raw (code :: hb ++ bs)) (if (szPair code.toNat).2 then size + 1 else size) r
      else skLeaf (if (szPair code.toNat).2 then size + 1 else size) r := by
  unfold pvTail
  simp only []
  rw [if_neg (by byte_cond), if_neg (by byte_cond), if_neg (by byte_cond)]

end tail

/-! ## the key of a member -/
theorem keyLenOf_fix (c : Nat) (r : R) (h1 : 0xa0 ≤ c) (h2 : c ≤ 0xbf) :
    keyLenOf c r = (some (some (c - 0xa0)), r) := by
  unfold keyLenOf
  rw [if_pos (by byte_cond), show c % 32 = c - 0xa0 by omega]

theorem keyLenOf_sized (c j : Nat) (hb t : List Byte) (p : Nat) (hc : c = 0xd9 + j) (hj : j < 3)
    (hl : hb.length = 2^j) : keyLenOf c ⟨hb ++ t, p⟩ = (some (some (beNat hb)), ⟨t, p + 2^j⟩) := by
  unfold keyLenOf
  rw [if_neg (by byte_cond), if_pos (by byte_cond), show c - 0xd9 = j by omega, readBytes_app hb t p _ hl]

theorem keyLenOf_other (c : Nat) (r : R) (h1 : ¬ (0xa0 ≤ c ∧ c ≤ 0xbf)) (h2 : ¬ (0xd9 ≤ c ∧ c ≤ 0xdb)) :
    keyLenOf c r = (none, r) := by
  unfold keyLenOf
  rw [if_neg (by byte_cond), if_neg (by byte_cond)]

/-- a byte that does not start a str where a key is expected: InvalidInput after that byte (any filter, any limit) -/
theorem ro_bad_key (env : Env) (fuel limit : Nat) (flt : Flt) (ho : Bool) (n : Nat) (c : Byte) (rest : List Byte) (p : Nat)
    (ms : List (List Byte × Val)) (h1 : ¬ (0xa0 ≤ c.toNat ∧ c.toNat ≤ 0xbf)) (h2 : ¬ (0xd9 ≤ c.toNat ∧ c.toNat ≤ 0xdb)) :
    readObject env (fuel+1) limit flt ho (n+1) ⟨c :: rest, p⟩ ms = (.invalid, ms, ⟨rest, p+1⟩) := by
  rw [ro_succ_eq, if_neg (by simp), read_cons]
  simp only
  rw [keyLenOf_other _ _ h1 h2]
  rfl

end MD
