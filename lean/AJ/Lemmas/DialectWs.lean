/- Completeness of `skipSpaces` over the white space of the dialect (comments included), in the `At/Seen/Pos`
   vocabulary of AJ/Lemmas/LatchPos.lean. -/
import AJ.Spec.Dialect
import AJ.Lemmas.LatchPos
set_option linter.unusedSimpArgs false
set_option linter.unusedVariables false
namespace JD
open Spec.Dialect

theorem block_no_nul {star : Bool} {b : List Byte} (h : Block star b) : ∀ c ∈ b, c ≠ 0 := by
  induction h with
  | close => intro c hc; simp at hc; subst hc; decide
  | step star c b h0 _ _ ih =>
    intro x hx
    rcases List.mem_cons.mp hx with rfl | hx
    · exact h0
    · exact ih x hx

theorem dws_no_nul {cfg : Cfg} {w : List Byte} (h : DWs cfg w) : ∀ c ∈ w, c ≠ 0 := by
  induction h with
  | nil => intro c hc; cases hc
  | ws c w hc _ ih =>
    intro x hx
    rcases List.mem_cons.mp hx with rfl | hx
    · rcases hc with rfl | rfl | rfl | rfl <;> decide
    · exact ih x hx
  | block b w _ hb _ ih =>
    intro x hx
    simp only [List.cons_append, List.mem_cons, List.mem_append] at hx
    rcases hx with rfl | rfl | hx | hx
    · decide
    · decide
    · exact block_no_nul hb x hx
    · exact ih x hx
  | line y w _ hy _ ih =>
    intro x hx
    simp only [List.cons_append, List.mem_cons, List.mem_append] at hx
    rcases hx with rfl | rfl | hx | rfl | hx
    · decide
    · decide
    · exact (hy x hx).1
    · decide
    · exact ih x hx

/-- a block comment is skipped: one unit of fuel per byte -/
theorem skipBlock_complete {star : Bool} {b : List Byte} (h : Block star b) :
    ∀ (s : St) (rest : List Byte) (p : Nat) (f : Bool), At s (b ++ rest) p f →
      ∃ s', At s' rest (p + b.length) f ∧ ∀ m, b.length ≤ m → skipBlock m star s = (.ok, s') := by
  induction h with
  | close =>
    intro s rest p f hs
    have hs' : At s (0x2F :: rest) p f := by simpa using hs
    refine ⟨adv s 0x2F rest, by simpa using hs'.adv, ?_⟩
    intro m hm
    obtain ⟨k, rfl⟩ : ∃ k, m = k + 1 := ⟨m - 1, by simp at hm; omega⟩
    have e0 : ((0x2F : Byte) == 0) = false := by decide
    simp only [skipBlock, hs'.cur, e0, beq_self_eq_true, Bool.and_self, Bool.false_eq_true, ↓reduceIte, mv_ld]
  | step star c b h0 hn _ ih =>
    intro s rest p f hs
    have hs' : At s (c :: (b ++ rest)) p f := by simpa using hs
    obtain ⟨s', h2, h1⟩ := ih (adv s c (b ++ rest)) rest (p + 1) f hs'.adv
    refine ⟨s', ?_, ?_⟩
    · have : p + 1 + b.length = p + (c :: b).length := by simp; omega
      rw [← this]; exact h2
    · intro m hm
      obtain ⟨k, rfl⟩ : ∃ k, m = k + 1 := ⟨m - 1, by simp at hm; omega⟩
      have e0 : (c == 0) = false := by simpa using h0
      have e1 : (c == 0x2F && star) = false := by
        cases hb : (c == 0x2F && star) with
        | false => rfl
        | true =>
          simp only [Bool.and_eq_true, beq_iff_eq] at hb
          exact absurd hb hn
      simp only [skipBlock, hs'.cur, e0, e1, Bool.false_eq_true, ↓reduceIte, mv_ld, h1 k (by simp at hm; omega)]

/-- a line comment is skipped up to its LF, which stays latched. `X` is latched on the byte before `x` (the second `/`
    at first). -/
theorem skipLine_complete (x : List Byte) (hx : ∀ c ∈ x, c ≠ 0 ∧ c ≠ 0x0A) :
    ∀ (X : St) (d : Byte) (rest : List Byte) (p : Nat) (f : Bool), Seen X (d :: (x ++ 0x0A :: rest)) p f →
      ∃ Y, Seen Y (0x0A :: rest) (p + 1 + x.length) f ∧ ∀ m, x.length < m → skipLine m X = (.ok, Y) := by
  induction x with
  | nil =>
    intro X d rest p f hX
    have hm' : At (mv X) (0x0A :: rest) (p + 1) f := by simpa using hX.mv
    refine ⟨(cur (mv X)).2, ⟨mv X, by simpa using hm', rfl⟩, ?_⟩
    intro m hm
    obtain ⟨k, rfl⟩ : ∃ k, m = k + 1 := ⟨m - 1, by omega⟩
    have e0 : ((0x0A : Byte) == 0) = false := by decide
    simp only [skipLine, hm'.cur, e0, beq_self_eq_true, Bool.false_eq_true, ↓reduceIte]
  | cons c x ih =>
    intro X d rest p f hX
    have hm' : At (mv X) (c :: (x ++ 0x0A :: rest)) (p + 1) f := by simpa using hX.mv
    have hS : Seen (cur (mv X)).2 (c :: (x ++ 0x0A :: rest)) (p + 1) f := ⟨mv X, hm', rfl⟩
    obtain ⟨Y, h2, h1⟩ := ih (fun y hy => hx y (List.mem_cons_of_mem _ hy)) _ c rest (p + 1) f hS
    obtain ⟨c0, c1⟩ := hx c (List.mem_cons_self ..)
    refine ⟨Y, ?_, ?_⟩
    · have : p + 1 + 1 + x.length = p + 1 + (c :: x).length := by simp; omega
      rw [← this]; exact h2
    · intro m hm
      obtain ⟨k, rfl⟩ : ∃ k, m = k + 1 := ⟨m - 1, by omega⟩
      have e0 : (c == 0) = false := by simpa using c0
      have e1 : (c == 0x0A) = false := by simpa using c1
      have hc : (cur (mv X)) = (c, (cur (mv X)).2) := by rw [hm'.cur]
      rw [← h1 k (by simp at hm; omega)]
      simp only [skipLine]
      rw [hc]
      simp only [e0, e1, Bool.false_eq_true, ↓reduceIte]

/-- `skipSpaces` over dialect white space `w`: it continues, with some fuel left, in front of what follows `w` -/
theorem skipSpaces_dws_gen (cfg : Cfg) {w : List Byte} (hw : DWs cfg w) :
    ∀ (s : St) (rest : List Byte) (p : Nat) (f : Bool), Pos s (w ++ rest) p f →
      ∃ X, Pos X rest (p + w.length) f ∧ ∀ n, w.length < n → ∃ m, 0 < m ∧ skipSpaces cfg n s = skipSpaces cfg m X := by
  induction hw with
  | nil =>
    intro s rest p f h
    exact ⟨s, by simpa using h, fun n hn => ⟨n, by omega, rfl⟩⟩
  | ws a w ha _ ih =>
    intro s rest p f h
    obtain ⟨X, hX, hS⟩ := Pos.cur_cons (by simpa using h)
    obtain ⟨a0, aw⟩ := ws_byte (show a = 0x20 ∨ a = 0x09 ∨ a = 0x0A ∨ a = 0x0D from ha)
    have e0 : (a == 0) = false := by simpa using a0
    obtain ⟨Y, hY, hn⟩ := ih (mv X) rest (p + 1) f hS.mv.pos
    refine ⟨Y, ?_, ?_⟩
    · have : p + 1 + w.length = p + (a :: w).length := by simp; omega
      rw [← this]; exact hY
    · intro n hlt
      obtain ⟨k, rfl⟩ : ∃ k, n = k + 1 := ⟨n - 1, by simp at hlt; omega⟩
      obtain ⟨m, hm0, hm⟩ := hn k (by simp at hlt; omega)
      refine ⟨m, hm0, ?_⟩
      simp only [skipSpaces, hX, e0, aw, Bool.false_eq_true, ↓reduceIte, hm]
  | block b w hc hb _ ih =>
    intro s rest p f h
    have h' : Pos s (0x2F :: 0x2A :: (b ++ (w ++ rest))) p f := by simpa using h
    obtain ⟨X, hX, hS⟩ := Pos.cur_cons h'
    have hA := hS.mv
    obtain ⟨s1, hb2, hb1⟩ := skipBlock_complete hb (adv (mv X) 0x2A (b ++ (w ++ rest))) (w ++ rest) (p + 1 + 1) f hA.adv
    obtain ⟨Y, hY, hn⟩ := ih s1 rest _ f hb2.pos
    refine ⟨Y, ?_, ?_⟩
    · have : p + 1 + 1 + b.length + w.length = p + (0x2F :: 0x2A :: b ++ w).length := by simp; omega
      rw [← this]; exact hY
    · intro n hlt
      obtain ⟨k, rfl⟩ : ∃ k, n = k + 1 := ⟨n - 1, by simp at hlt; omega⟩
      obtain ⟨m, hm0, hm⟩ := hn k (by simp at hlt; omega)
      refine ⟨m, hm0, ?_⟩
      have e0 : ((0x2F : Byte) == 0) = false := by decide
      have e1 : isWs (0x2F : Byte) = false := by decide
      simp only [skipSpaces, hX, e0, e1, hc, beq_self_eq_true, Bool.and_self, Bool.false_eq_true, ↓reduceIte, hA.cur,
        ld_cur, mv_ld, hb1 k (by simp at hlt; omega), hm]
  | line x w hc hx _ ih =>
    intro s rest p f h
    have h' : Pos s (0x2F :: 0x2F :: (x ++ 0x0A :: (w ++ rest))) p f := by simpa using h
    obtain ⟨X, hX, hS⟩ := Pos.cur_cons h'
    have hA := hS.mv
    have hS2 : Seen (cur (mv X)).2 (0x2F :: (x ++ 0x0A :: (w ++ rest))) (p + 1) f := ⟨mv X, hA, rfl⟩
    obtain ⟨Y, hY2, hY1⟩ := skipLine_complete x hx _ 0x2F (w ++ rest) (p + 1) f hS2
    obtain ⟨Z, hZ, hn⟩ := ih (mv Y) rest _ f hY2.mv.pos
    refine ⟨Z, ?_, ?_⟩
    · have : p + 1 + 1 + x.length + 1 + w.length = p + (0x2F :: 0x2F :: x ++ 0x0A :: w).length := by simp; omega
      rw [← this]; exact hZ
    · intro n hlt
      obtain ⟨k, rfl⟩ : ∃ k, n = k + 1 := ⟨n - 1, by simp at hlt; omega⟩
      obtain ⟨j, rfl⟩ : ∃ j, k = j + 1 := ⟨k - 1, by simp at hlt; omega⟩
      obtain ⟨m, hm0, hm⟩ := hn j (by simp at hlt; omega)
      refine ⟨m, hm0, ?_⟩
      have e0 : ((0x2F : Byte) == 0) = false := by decide
      have e1 : isWs (0x2F : Byte) = false := by decide
      have e2 : ((0x2F : Byte) == 0x2A) = false := by decide
      have e3 : ((0x0A : Byte) == 0) = false := by decide
      have e4 : isWs (0x0A : Byte) = true := by decide
      have hcm : cur (mv X) = (0x2F, (cur (mv X)).2) := by rw [hA.cur]
      rw [skipSpaces]
      simp only [hX, e0, e1, hc, beq_self_eq_true, Bool.and_self, Bool.false_eq_true, ↓reduceIte]
      rw [hcm]
      simp only [e2, beq_self_eq_true, Bool.false_eq_true, ↓reduceIte, hY1 (j + 1) (by simp at hlt; omega)]
      rw [skipSpaces]
      simp only [hY2.cur_cons, e3, e4, Bool.false_eq_true, ↓reduceIte, hm]

/-- `skipSpaces` over dialect white space stops on the next token, which it latches (same interface as
    `skipSpaces_ws`) -/
theorem skipSpaces_dws (cfg : Cfg) {c : Byte} {r : List Byte} (hc : Tok c) (w : List Byte) (hw : DWs cfg w) :
    ∀ (s : St) (p : Nat) (f : Bool), Pos s (w ++ c :: r) p f →
      ∃ X, Seen X (c :: r) (p + w.length) true ∧ ∀ n, w.length < n → skipSpaces cfg n s = (.ok, X) := by
  intro s p f h
  obtain ⟨Y, hY, hn⟩ := skipSpaces_dws_gen cfg hw s (c :: r) p f h
  obtain ⟨X, hX, hS⟩ := Pos.cur_cons hY
  have e0 : (c == 0) = false := by simpa using hc.1
  have e1 : (c == 0x2F) = false := by simpa using hc.2.2
  refine ⟨setFound X, hS.setFound, ?_⟩
  intro n hlt
  obtain ⟨m, hm0, hm⟩ := hn n hlt
  obtain ⟨k, rfl⟩ : ∃ k, m = k + 1 := ⟨m - 1, by omega⟩
  rw [hm]
  simp only [skipSpaces, hX, e0, hc.2.1, e1, Bool.and_false, Bool.false_eq_true, ↓reduceIte]
  rfl

/-- only white space up to the end of the text (the end of the input or a NUL): `EmptyInput` if no token was seen
    before, `IncompleteInput` otherwise -/
theorem skipSpaces_dws_end (cfg : Cfg) (w : List Byte) (hw : DWs cfg w) (s : St) (rest : List Byte) (p : Nat) (f : Bool)
    (h : Pos s (w ++ rest) p f) (hr : rest.headD 0 = 0) (n : Nat) (hn : w.length < n) :
    (skipSpaces cfg n s).1 = (if f then .incomplete else .empty) := by
  obtain ⟨Y, hY, hg⟩ := skipSpaces_dws_gen cfg hw s rest p f h
  obtain ⟨m, hm0, hm⟩ := hg n hn
  obtain ⟨k, rfl⟩ : ∃ k, m = k + 1 := ⟨m - 1, by omega⟩
  rw [hm]
  cases rest with
  | nil =>
    obtain ⟨X, hX, hS⟩ := Pos.cur_nil hY
    simp only [skipSpaces, hX, beq_self_eq_true, ↓reduceIte, hS.found]
  | cons c r =>
    have : c = 0 := hr
    subst this
    obtain ⟨X, hX, hS⟩ := Pos.cur_cons hY
    simp only [skipSpaces, hX, beq_self_eq_true, ↓reduceIte, hS.found]

end JD
