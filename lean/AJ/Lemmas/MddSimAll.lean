/- Simulation of the slot-level MessagePack deserializer `MDD` by the value-level one `MD`: the unfiltered routines are the
   filtered ones under `AllowAllFilter` (`MDDF.slot_all`), so this is the filtered simulation (`MDDF.fsim_all`) at that
   filter. -/
import AJ.Lemmas.MddfSim
namespace MDD
open DL
open JD (Byte Val Code Flt)
open MD (R Env)

def mpsim_SimV (env : Env) (fuel : Nat) : Prop :=
  ∀ (limit : Nat) (l : Loc) (x : S), Pre x.d l → x.d.overflowed = false → mpsim_BOK env x.b →
    mpsim_SimF env x.d l (MDD.parseVariant env fuel limit l x) (MD.parseVariant env fuel limit .all true x.r)

def mpsim_SimE (env : Env) (fuel : Nat) : Prop :=
  ∀ (limit : Nat) (l : Loc) (x : S) (d0 : Doc) (h t : Nat) (sl : Forest) (acc : List Val) (n : Nat),
    Pre d0 l → Post d0 x.d l (.arr h t) sl → (vals x.d noOv sl).map (·.2) = acc.reverse →
    x.d.overflowed = false → mpsim_BOK env x.b →
    mpsim_Sim env d0 l (MDD.readArray env fuel limit l n x) (mpsim_arrOut (MD.readArray env fuel limit .all true n x.r acc))

def mpsim_SimM (env : Env) (fuel : Nat) : Prop :=
  ∀ (limit : Nat) (l : Loc) (x : S) (d0 : Doc) (h t : Nat) (sl : Forest) (ms : List (List Byte × Val)) (n : Nat),
    Pre d0 l → Post d0 x.d l (.obj h t) sl → vals x.d noOv sl = ms →
    x.d.overflowed = false → mpsim_BOK env x.b →
    mpsim_Sim env d0 l (MDD.readObject env fuel limit l n x) (mpsim_objOut (MD.readObject env fuel limit .all true n x.r ms))

/-- THE SIMULATION: for every fuel, the three slot-level routines are simulated by their abstract twins -/
theorem mpsim_all (env : Env) : ∀ fuel, mpsim_SimV env fuel ∧ mpsim_SimE env fuel ∧ mpsim_SimM env fuel := by
  intro fuel
  obtain ⟨eV, eA, eO⟩ := MDDF.slot_all env fuel
  obtain ⟨hV, hE, hM⟩ := MDDF.fsim_all env fuel
  refine ⟨fun limit l x => ?_, fun limit l x => ?_, fun limit l x d0 h t sl ms n => ?_⟩
  · rw [eV]; exact hV limit .all l x
  · intro d0 h t sl acc n; rw [eA]; exact hE limit .all l x d0 h t sl acc n
  · rw [eO]; exact hM limit .all l x d0 h t sl ms n

end MDD
