/- The fuel given by `JD.run` (`2 * length + 4`) is never exhausted: a remaining-input measure `rem` bounds the fuel each
   routine of the JSON parser model needs. Together with `parseNumber_ne_fault` this shows `run` never reports `Code.fuel`. -/
import AJ.Lemmas.NumFault
import AJ.Lemmas.LatchClosed
import AJ.Lemmas.SFWidth
namespace JD

/-- bytes not yet consumed: the unread ones, plus the latched one when it is a real (non-NUL, non-EOF) byte -/
def rem (s : St) : Nat := s.l.unread.length + (if s.l.loaded && s.l.cur != 0 then 1 else 0)

theorem rem_cur_le (s : St) : rem (cur s).2 ≤ rem s := by
  obtain ⟨⟨u, c, ld, p⟩, fd⟩ := s
  simp only [cur, Latch.current, rem]
  cases ld
  · cases u
    · simp
    · simp; split <;> omega
  · simp

theorem rem_mv_le (s : St) : rem (mv s) ≤ rem s := by
  simp only [mv, Latch.move, rem]
  simp

theorem rem_mv_cur (s : St) (hc : (cur s).1 ≠ 0) : rem (mv (cur s).2) + 1 ≤ rem s := by
  obtain ⟨⟨u, c, ld, p⟩, fd⟩ := s
  simp only [cur, Latch.current, rem, mv, Latch.move] at hc ⊢
  cases ld
  · cases u
    · simp at hc
    · simp
  · simp only [if_true] at hc ⊢
    simp [hc]

theorem rem_found (s : St) (b : Bool) : rem { s with found := b } = rem s := rfl

/-- consuming a real byte: the bound drops by one -/
theorem step {s : St} {k : Nat} (h : rem s ≤ k) (hc : (cur s).1 ≠ 0) : 1 ≤ k ∧ rem (mv (cur s).2) ≤ k - 1 := by
  have := rem_mv_cur s hc; omega

theorem look {s : St} {k : Nat} (h : rem s ≤ k) : rem (cur s).2 ≤ k := Nat.le_trans (rem_cur_le s) h
theorem skip {s : St} {k : Nat} (h : rem s ≤ k) : rem (mv s) ≤ k := Nat.le_trans (rem_mv_le s) h

/-- no routine hands back more input than it was given -/
theorem rem_latch (k : Nat) : LatchClosed (fun s => rem s ≤ k) := ⟨look, skip, fun h => h⟩

/-- the runs of one routine on two amounts of fuel return the same, and did not run out of fuel -/
def Agree {α : Type} (a b : Code × α) : Prop := a = b ∧ b.1 ≠ .fuel

theorem Agree.refl {α : Type} {a : Code × α} (h : a.1 ≠ .fuel) : Agree a a := ⟨rfl, h⟩
theorem fst_ne_fuel {α : Type} {e : Code} {x : α} (he : e ≠ .fuel) : (e, x).1 ≠ .fuel := he
theorem Agree.done {α : Type} {e : Code} {x : α} (he : e ≠ .fuel) : Agree (e, x) (e, x) := ⟨rfl, he⟩

/-- a sub-call whose runs agree, followed by continuations that agree on every result with the property `R`
    (the bound on the input left) that the sub-call's result has -/
theorem Agree.bind {α β : Type} {R : Code × α → Prop} {a b : Code × α} {F G : Code × α → Code × β}
    (h : Agree a b) (hk : ∀ r, R r → r.1 ≠ .fuel → Agree (F r) (G r)) (hb : R b) : Agree (F a) (G b) := by
  obtain ⟨rfl, hf⟩ := h; exact hk _ hb hf

/- Each loop below consumes a non-NUL byte per round, so `rem s + 1` rounds of fuel suffice: with that much the
   result does not depend on the fuel and is not `Code.fuel`. What a routine leaves of the input is bounded by
   `kept_* (rem_latch k)`. -/

theorem skipBlock_agree : ∀ f g w s k, rem s ≤ k → k + 1 ≤ f → k + 1 ≤ g → Agree (skipBlock f w s) (skipBlock g w s) := by
  intro f
  induction f with
  | zero => intro g w s k _ hf; omega
  | succ f ih =>
    intro g w s k h hf hg
    obtain ⟨g, rfl⟩ : ∃ g', g = g' + 1 := ⟨g - 1, by omega⟩
    simp only [skipBlock]
    refine of_ite₂ (fun _ => .done (by decide)) fun hc => ?_
    obtain ⟨hk, h1⟩ := step h (nz_of_not hc)
    exact of_ite₂ (fun _ => .done (by decide)) fun _ => ih _ _ _ _ h1 (by omega) (by omega)

theorem skipLine_agree : ∀ f g s k, rem (mv s) ≤ k → k + 1 ≤ f → k + 1 ≤ g → Agree (skipLine f s) (skipLine g s) := by
  intro f
  induction f with
  | zero => intro g s k _ hf; omega
  | succ f ih =>
    intro g s k h hf hg
    obtain ⟨g, rfl⟩ : ∃ g', g = g' + 1 := ⟨g - 1, by omega⟩
    simp only [skipLine]
    refine of_ite₂ (fun _ => .done (by decide)) fun hc => ?_
    obtain ⟨hk, h1⟩ := step h (nz_of_not hc)
    exact of_ite₂ (fun _ => .done (by decide)) fun _ => ih _ _ _ h1 (by omega) (by omega)

/-- after a comment: on `ok` the white space goes on, any other code is the result -/
theorem skipSpaces_agree_cont {cfg : Cfg} {f g k : Nat}
    (ih : ∀ s, rem s ≤ k → Agree (skipSpaces cfg f s) (skipSpaces cfg g s)) (r : Code × St) (hr : rem r.2 ≤ k)
    (h : r.1 ≠ .fuel) :
    Agree (match (generalizing := false) r with | (.ok, s) => skipSpaces cfg f s | r => r)
      (match (generalizing := false) r with | (.ok, s) => skipSpaces cfg g s | r => r) := by
  obtain ⟨c, s⟩ := r
  cases c <;> first | exact ih s hr | exact .refl h

theorem skipSpaces_agree {cfg : Cfg} : ∀ f g s k, rem s ≤ k → k + 1 ≤ f → k + 1 ≤ g →
    Agree (skipSpaces cfg f s) (skipSpaces cfg g s) := by
  intro f
  induction f with
  | zero => intro g s k _ hf; omega
  | succ f ih =>
    intro g s k h hf hg
    obtain ⟨g, rfl⟩ : ∃ g', g = g' + 1 := ⟨g - 1, by omega⟩
    simp only [skipSpaces]
    refine of_ite₂ (fun _ => .done (by split <;> decide)) fun hc => ?_
    obtain ⟨hk, h1⟩ := step h (nz_of_not hc)
    have ihk : ∀ s, rem s ≤ k - 1 → Agree (skipSpaces cfg f s) (skipSpaces cfg g s) :=
      fun s hs => ih _ _ _ hs (by omega) (by omega)
    refine of_ite₂ (fun _ => ihk _ h1) fun _ => ?_
    refine of_ite₂ (fun _ => ?_) fun _ => .done (by decide)
    refine of_ite₂ (fun hd => ?_) fun _ => of_ite₂ (fun hd => ?_) fun _ => .done (by decide)
    · obtain ⟨hk2, h3⟩ := step h1 (nz_of_beq hd (by decide))
      have h4 : rem (mv (cur (mv (cur s).2)).2) ≤ k - 1 := Nat.le_trans h3 (Nat.sub_le _ _)
      exact (skipBlock_agree f g false _ (k - 1) h4 (by omega) (by omega)).bind
        (skipSpaces_agree_cont ihk) (kept_skipBlock (rem_latch _) _ _ _ h4)
    · obtain ⟨hk2, h3⟩ := step h1 (nz_of_beq hd (by decide))
      have h4 : rem (mv (cur (mv (cur s).2)).2) ≤ k - 1 := Nat.le_trans h3 (Nat.sub_le _ _)
      exact (skipLine_agree f g _ (k - 1) h4 (by omega) (by omega)).bind
        (skipSpaces_agree_cont ihk) (kept_skipLine (rem_latch _) _ _ (look h1))

theorem skipKeyword_ne_fuel : ∀ ks s, (skipKeyword ks s).1 ≠ .fuel := by
  intro ks
  induction ks with
  | nil => intro s; exact fst_ne_fuel (by decide)
  | cons c ks ih =>
    intro s
    simp only [skipKeyword]
    split
    · exact fst_ne_fuel (by decide)
    · split
      · exact fst_ne_fuel (by decide)
      · exact ih _

theorem parseHex4_ne_fuel : ∀ m acc s, (parseHex4 m acc s).1 ≠ .fuel := by
  intro m
  induction m with
  | zero => intro acc s; exact fst_ne_fuel (by decide)
  | succ m ih =>
    intro acc s
    simp only [parseHex4]
    split
    · exact fst_ne_fuel (by decide)
    · split
      · exact fst_ne_fuel (by decide)
      · exact ih _ _

/-- after the four hex digits of `\u`: on `ok` the string goes on with `next cu s`, any other code ends it -/
theorem parseQuoted_agree_hex {k : Nat} {out : List Byte} {next next' : Nat → St → Code × List Byte × St}
    (ih : ∀ cu s, rem s ≤ k → Agree (next cu s) (next' cu s)) (r : Code × Nat × St) (hr : rem r.2.2 ≤ k)
    (h : r.1 ≠ .fuel) :
    Agree (match (generalizing := false) r with | (.ok, cu, s) => next cu s | (e, _, s) => (e, out, s))
      (match (generalizing := false) r with | (.ok, cu, s) => next' cu s | (e, _, s) => (e, out, s)) := by
  obtain ⟨c, cu, s⟩ := r
  cases c <;> first | exact ih cu s hr | exact .refl h

theorem parseQuoted_agree {cfg : Cfg} {stop : Byte} : ∀ f g acc hi s k, rem s ≤ k → k + 1 ≤ f → k + 1 ≤ g →
    Agree (parseQuoted cfg stop f acc hi s) (parseQuoted cfg stop g acc hi s) := by
  intro f
  induction f with
  | zero => intro g acc hi s k _ hf; omega
  | succ f ih =>
    intro g acc hi s k h hf hg
    obtain ⟨g, rfl⟩ : ∃ g', g = g' + 1 := ⟨g - 1, by omega⟩
    simp only [parseQuoted]
    refine of_ite₂ (fun _ => .done (by split <;> decide)) fun _ => ?_
    refine of_ite₂ (fun _ => .done (by decide)) fun hc => ?_
    obtain ⟨hk, h1⟩ := step h (nz_of_not hc)
    have ihk : ∀ acc hi s, rem s ≤ k - 1 → Agree (parseQuoted cfg stop f acc hi s) (parseQuoted cfg stop g acc hi s) :=
      fun acc hi s hs => ih _ _ _ _ _ hs (by omega) (by omega)
    refine of_ite₂ (fun _ => ?_) fun _ => ihk _ _ _ h1
    have h2 := look h1
    refine of_ite₂ (fun _ => .done (by decide)) fun _ => ?_
    refine of_ite₂ (fun _ => ?_) fun _ => ?_
    · refine of_ite₂ (fun _ => ?_) fun _ => ihk _ _ _ h2
      refine parseQuoted_agree_hex (fun cu s hs => ?_) _ (kept_parseHex4 (rem_latch _) 4 0 _ (skip h2))
        (parseHex4_ne_fuel 4 0 _)
      exact of_ite₂ (fun _ => ihk _ _ _ hs) fun _ => of_ite₂ (fun _ => ihk _ _ _ hs) fun _ => ihk _ _ _ hs
    · exact of_ite₂ (fun _ => .done (by decide)) fun _ => ihk _ _ _ (skip h2)

/-- `parseUnquoted` stops silently when the fuel is out, so only the bound on the input makes it independent of it -/
theorem parseUnquoted_fuel : ∀ f g acc s k, rem s ≤ k → k + 1 ≤ f → k + 1 ≤ g →
    parseUnquoted f acc s = parseUnquoted g acc s := by
  intro f
  induction f with
  | zero => intro g acc s k _ hf; omega
  | succ f ih =>
    intro g acc s k h hf hg
    obtain ⟨g, rfl⟩ : ∃ g', g = g' + 1 := ⟨g - 1, by omega⟩
    simp only [parseUnquoted]
    split
    · rename_i hu
      obtain ⟨hk, h1⟩ := step h (nz_of_inUnquoted hu)
      exact ih _ _ _ _ h1 (by omega) (by omega)
    · rfl

theorem parseNumeric_ne_fuel {cfg} (s : St) : (parseNumeric cfg s).1 ≠ .fuel := by
  unfold parseNumeric
  generalize scanNumber cfg (Gen.number_buffer - 1) [] s = r
  obtain ⟨buf, s'⟩ := r
  have hn := parseNumber_ne_fault cfg buf
  simp only
  split
  · exact fst_ne_fuel (by decide)
  · exact fst_ne_fuel (by decide)
  · exact fst_ne_fuel (by decide)
  · exact fst_ne_fuel (by decide)
  · exact fst_ne_fuel (by decide)
  · rename_i heq; exact absurd heq hn

/-! ## the lexers of the skipping routines, and the key of a member -/

theorem skipQuoted_agree {stop : Byte} : ∀ f g s k, rem s ≤ k → k + 1 ≤ f → k + 1 ≤ g →
    Agree (skipQuoted stop f s) (skipQuoted stop g s) := by
  intro f
  induction f with
  | zero => intro g s k _ hf; omega
  | succ f ih =>
    intro g s k h hf hg
    obtain ⟨g, rfl⟩ : ∃ g', g = g' + 1 := ⟨g - 1, by omega⟩
    simp only [skipQuoted]
    refine of_ite₂ (fun _ => .done (by decide)) fun _ => ?_
    refine of_ite₂ (fun _ => .done (by decide)) fun hc => ?_
    obtain ⟨hk, h1⟩ := step h (nz_of_not hc)
    have ihk : ∀ s, rem s ≤ k - 1 → Agree (skipQuoted stop f s) (skipQuoted stop g s) :=
      fun s hs => ih _ _ _ hs (by omega) (by omega)
    exact of_ite₂ (fun _ => of_ite₂ (fun _ => ihk _ (skip (look h1))) fun _ => ihk _ (look h1)) fun _ => ihk _ h1

theorem skipUnquoted_fuel : ∀ f g s k, rem s ≤ k → k + 1 ≤ f → k + 1 ≤ g → skipUnquoted f s = skipUnquoted g s := by
  intro f
  induction f with
  | zero => intro g s k _ hf; omega
  | succ f ih =>
    intro g s k h hf hg
    obtain ⟨g, rfl⟩ : ∃ g', g = g' + 1 := ⟨g - 1, by omega⟩
    simp only [skipUnquoted]
    split
    · rename_i hu
      obtain ⟨hk, h1⟩ := step h (nz_of_inUnquoted hu)
      exact ih _ _ _ h1 (by omega) (by omega)
    · rfl

theorem skipNumeric_fuel {cfg : Cfg} : ∀ f g s k, rem s ≤ k → k + 1 ≤ f → k + 1 ≤ g →
    skipNumeric cfg f s = skipNumeric cfg g s := by
  intro f
  induction f with
  | zero => intro g s k _ hf; omega
  | succ f ih =>
    intro g s k h hf hg
    obtain ⟨g, rfl⟩ : ∃ g', g = g' + 1 := ⟨g - 1, by omega⟩
    simp only [skipNumeric]
    split
    · rename_i hu
      obtain ⟨hk, h1⟩ := step h (nz_of_inNumber hu)
      exact ih _ _ _ h1 (by omega) (by omega)
    · rfl

theorem pmKey_agree {cfg : Cfg} {f g : Nat} (s : St) (k : Nat) (h : rem s ≤ k) (hf : k ≤ f) (hg : k ≤ g) :
    Agree (pmKey cfg f s) (pmKey cfg g s) := by
  simp only [pmKey]
  refine of_ite₂ (fun hq => ?_) fun _ => of_ite₂ (fun _ => ?_) fun _ => .done (by decide)
  · obtain ⟨hk, h1⟩ := step h (nz_of_quote hq)
    exact parseQuoted_agree (f+1) (g+1) _ _ _ _ h1 (by omega) (by omega)
  · rw [parseUnquoted_fuel (f+1) (g+1) [] _ _ (look h) (by omega) (by omega)]
    exact .done (by split <;> decide)

theorem smKey_agree {f g : Nat} (s : St) (k : Nat) (h : rem s ≤ k) (hf : k ≤ f) (hg : k ≤ g) :
    Agree (smKey f s) (smKey g s) := by
  simp only [smKey]
  refine of_ite₂ (fun hq => ?_) fun _ => ?_
  · obtain ⟨hk, h1⟩ := step h (nz_of_quote hq)
    exact skipQuoted_agree (f+1) (g+1) _ _ h1 (by omega) (by omega)
  · rw [skipUnquoted_fuel (f+1) (g+1) _ _ (look h) (by omega) (by omega)]
    exact .done (by decide)

theorem Agree.dropVal {a b : Code × St} (h : Agree a b) : Agree (dropVal a) (dropVal b) :=
  h.bind (R := fun _ => True) (fun _ _ hr => .refl hr) trivial

theorem Agree.pvStr {a b : Code × List Byte × St} (h : Agree a b) : Agree (pvStr a) (pvStr b) := by
  refine h.bind (R := fun _ => True) (fun r _ hr => .refl ?_) trivial
  obtain ⟨c, str, s⟩ := r
  cases c <;> exact hr

end JD
