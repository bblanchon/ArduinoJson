/- C20: the commands of the history interpreter `DH.step` (AJ/Model/DH.lean) have footprints.
   Every command that goes through a reference `r` writes (at most) the document `r` is bound to; a deep copy also reads
   the source document; a navigation (`mem`, `elem`) reads a document and rebinds a reference; document-level commands
   have a fixed target. For each command: the body of `DH.step` restated (`… = … := by rfl`, so the restatement is the
   interpreter's own code) - for a command that goes through a reference in the shape `refDoc G E`: what it does on the
   document of a bound reference, what it does through an unbound one - and `Local` for it by `Local.refDoc` and the
   rules of AJ/Lemmas/HistFrameRules.lean. -/
import AJ.Lemmas.HistFrameRules
namespace C20
open DL
open DH (W Ref unhex)
open JD (Byte)

/-! ## Vocabulary -/

/-- the document a reference is bound to (if any) -/
def docOf (s : Ref) : Nat → Prop := fun j => s.doc = some j

/-- the document `o` (if any), as a set: `docOf s = docIs s.doc` -/
def docIs (o : Option Nat) : Nat → Prop := fun j => o = some j

/-- footprint of a mutation through reference `r`: writes the document `r` is bound to; `X`: other documents read -/
def fpRef (r : Nat) (X U B : Nat → Prop) : FP :=
  ⟨fun w => docOf (w.refs[r]!), fun w j => docOf (w.refs[r]!) j ∨ X j, U, B⟩
/-- footprint of a read through reference `r` -/
def fpRefRO (r : Nat) (X U B : Nat → Prop) : FP :=
  ⟨fun _ => none', fun w j => docOf (w.refs[r]!) j ∨ X j, U, B⟩

/-- **a step that dispatches on reference `r`**: if, for every document `o` the reference may be bound to, it stays in the
    static footprint "writes `Dw o` (a part of `o`), reads `o` and `X`", then it has that footprint at the current binding
    of `r`. `Dw := docIs` gives `fpRef`, `Dw := fun _ => none'` gives `fpRefRO`. The side conditions of the inner
    footprints are handed to the branches. -/
theorem Local.viaRef {O : Type} (r : Nat) (F : Ref → Step O) (Dw : Option Nat → Nat → Prop) (X U B : Nat → Prop)
    (hr : U r) (hB : ∀ x, B x → U x) (hD : ∀ o j, Dw o j → docIs o j)
    (h : ∀ o sl, SOK (Dw o) (fun j => docIs o j ∨ X j) U B →
      Local (F ⟨o, sl⟩) (FP.static (Dw o) (fun j => docIs o j ∨ X j) U B)) :
    Local (fun w => F (w.refs[r]!) w) ⟨fun w => Dw (w.refs[r]!).doc, fun w j => docOf (w.refs[r]!) j ∨ X j, U, B⟩ :=
  Local.ofRef r F (fun s _ => Dw s.doc) (fun s _ j => docOf s j ∨ X j) U B hr
    (fun s => h s.doc s.loc ⟨fun j hj => Or.inl (hD _ j hj), hB⟩)

/-! ## Leaves: the elementary steps, inside any static footprint that contains what they touch -/

theorem one_sub {D : Nat → Prop} {i : Nat} (hi : D i) (j : Nat) (h : one i j) : D j := h ▸ hi
theorem none_sub (D : Nat → Prop) (j : Nat) (h : none' j) : D j := h.elim

/-- a step that changes nothing -/
theorem Local.leafPure {O : Type} (o : O) {D R U B : Nat → Prop} (ok : SOK D R U B) :
    Local (fun w => (o, w)) (FP.static D R U B) :=
  (Local.pure o).mono_static (none_sub D) (none_sub R) (none_sub U) (none_sub B) ok

/-- a single-document operation on a document of the write set -/
theorem Local.modDocIn {O : Type} (i : Nat) (k : Doc → O × Doc) {D R U B : Nat → Prop} (ok : SOK D R U B) (hi : D i) :
    Local (C20.modDoc i k) (FP.static D R U B) :=
  (Local.modDoc i k).mono_static (one_sub hi) (one_sub (ok.dr i hi)) (none_sub U) (none_sub B) ok

/-- overwrite a document of the write set, with an output -/
theorem Local.putDocIn {O : Type} (i : Nat) (o : O) (d : Doc) {D R U B : Nat → Prop} (ok : SOK D R U B) (hi : D i) :
    Local (fun w => (o, { w with docs := w.docs.set! i d })) (FP.static D R U B) :=
  Local.modDocIn i (fun _ => (o, d)) ok hi

/-- a read-only operation on a document of the read set -/
theorem Local.obsDocIn {O : Type} (i : Nat) (k : Doc → O) {D R U B : Nat → Prop} (ok : SOK D R U B) (hi : R i) :
    Local (C20.obsDoc i k) (FP.static D R U B) :=
  (Local.obsDoc i k).mono_static (none_sub D) (one_sub hi) (none_sub U) (none_sub B) ok

/-- an operation on a document of the write set that also reads a document of the read set -/
theorem Local.modDocFromIn {O : Type} (i src : Nat) (k : Doc → Doc → O × Doc) {D R U B : Nat → Prop} (ok : SOK D R U B)
    (hi : D i) (hs : R src) : Local (C20.modDocFrom i src k) (FP.static D R U B) :=
  (Local.modDocFrom i src k).mono_static (one_sub hi) (fun j h => h.elim (one_sub (ok.dr i hi) j) (one_sub hs j))
    (none_sub U) (none_sub B) ok

/-- rebind a reference of the bind set, with an output -/
theorem Local.setRefIn {O : Type} (rb : Nat) (o : O) (x : Ref) {D R U B : Nat → Prop} (ok : SOK D R U B) (hb : B rb) :
    Local (fun w => (o, { w with refs := w.refs.set! rb x })) (FP.static D R U B) :=
  ((Local.writeRef rb x).map (fun _ => o)).mono_static (none_sub D) (none_sub R) (one_sub (ok.bu rb hb)) (one_sub hb) ok

/-- **sequencing after a write**: run a step after overwriting a document of the write set -/
theorem Local.after_write {O : Type} {f : Step O} {D R U B : Nat → Prop} (i : Nat) (d : Doc) (hi : D i)
    (hf : Local f (FP.static D R U B)) : Local (fun w => f { w with docs := w.docs.set! i d }) (FP.static D R U B) :=
  Local.bind (f := fun w => ((), { w with docs := w.docs.set! i d })) (g := fun _ => f)
    (Local.putDocIn i () d ⟨hf.wr_rd DH.W.init, hf.bind_use⟩ hi) (fun _ => hf)

/-- write a document of the write set and rebind a reference of the bind set -/
theorem Local.putDocRefIn {O : Type} (i rb : Nat) (o : O) (d : Doc) (x : Ref) {D R U B : Nat → Prop} (ok : SOK D R U B)
    (hi : D i) (hb : B rb) :
    Local (fun w => (o, { w with docs := w.docs.set! i d, refs := w.refs.set! rb x })) (FP.static D R U B) :=
  Local.after_write (f := fun w => (o, { w with refs := w.refs.set! rb x })) i d hi (Local.setRefIn rb o x ok hb)

/-- continue with a function of a document of the read set -/
theorem Local.withDoc {O : Type} (i : Nat) (G : Doc → Step O) {D R U B : Nat → Prop} (hi : R i)
    (ok : SOK D R U B) (h : ∀ d, Local (G d) (FP.static D R U B)) :
    Local (fun w => G (w.docs[i]!) w) (FP.static D R U B) :=
  Local.bind (f := fun w => (w.docs[i]!, w)) (g := G)
    ((Local.readDoc i).mono_static (none_sub D) (one_sub hi) (none_sub U) (none_sub B) ok) h

/-- a step that is pointwise equal to a local step -/
theorem Local.of_eq {O : Type} {f g : Step O} {p : FP} (h : ∀ w, f w = g w) (hg : Local g p) : Local f p := by
  have : f = g := funext h
  rw [this]; exact hg

/-! ## Commands that go through a reference -/

/-- the shape of a command that goes through a reference `s`: bound to location `l` of document `di` it runs `G di l` on
    that document; unbound, it runs `E di`, where `di` is the document the reference remembers (if any) -/
def refDoc {O : Type} (G : Nat → Loc → Doc → Step O) (E : Option Nat → Step O) (s : Ref) : Step O := fun w =>
  match s.doc, s.loc with
  | some di, some l => G di l (w.docs[di]!) w
  | di, _ => E di w

/-- `Local.viaRef` for such a command: every `G di l d` stays in document `di`, every `E o` in document `o` -/
theorem Local.refDoc {O : Type} (r : Nat) (G : Nat → Loc → Doc → Step O) (E : Option Nat → Step O)
    (Dw : Option Nat → Nat → Prop) (X U B : Nat → Prop) (hr : U r) (hB : ∀ x, B x → U x) (hD : ∀ o j, Dw o j → docIs o j)
    (hG : ∀ di l d, SOK (Dw (some di)) (fun j => docIs (some di) j ∨ X j) U B →
      Local (G di l d) (FP.static (Dw (some di)) (fun j => docIs (some di) j ∨ X j) U B))
    (hE : ∀ o, SOK (Dw o) (fun j => docIs o j ∨ X j) U B → Local (E o) (FP.static (Dw o) (fun j => docIs o j ∨ X j) U B)) :
    Local (fun w => C20.refDoc G E (w.refs[r]!) w)
      ⟨fun w => Dw (w.refs[r]!).doc, fun w j => docOf (w.refs[r]!) j ∨ X j, U, B⟩ := by
  refine Local.viaRef r (C20.refDoc G E) Dw X U B hr hB hD (fun o sl ok => ?_)
  cases o with
  | none => exact hE none ok
  | some di =>
    cases sl with
    | none => exact hE (some di) ok
    | some l => exact Local.withDoc di (G di l) (Or.inl rfl) ok (fun d => hG di l d ok)

/-! ## Document-level commands (fixed target) -/

theorem cleardoc_eq (w : W) (d : String) : DH.step w ["cleardoc", d] = modDoc d.toNat! (fun x => ("", x.clearAll)) w := by
  rfl
theorem shrink_eq (w : W) (d : String) :
    DH.step w ["shrink", d] = modDoc d.toNat! (fun x => ("", { x with pl := PL.shrink x.g x.pl })) w := by rfl
theorem nofail_eq (w : W) (d : String) :
    DH.step w ["nofail", d] = modDoc d.toNat! (fun x => ("", { x with pl := { x.pl with failAt := [], failFrom := none } })) w := by
  rfl
theorem failat_eq (w : W) (d k : String) :
    DH.step w ["failat", d, k] =
      modDoc d.toNat! (fun x => ("", { x with pl := { x.pl with failAt := (x.pl.calls + k.toNat!) :: x.pl.failAt } })) w := by
  rfl
theorem failfrom_eq (w : W) (d k : String) :
    DH.step w ["failfrom", d, k] =
      modDoc d.toNat! (fun x => ("", { x with pl := { x.pl with failFrom := some (x.pl.calls + k.toNat!) } })) w := by rfl

/-- `hser d`: serialize document `d` in both formats (read-only) -/
theorem hser_eq (w : W) (d : String) :
    DH.step w ["hser", d] = obsDoc d.toNat! (fun doc =>
      let v := doc.toVal doc.root
      let j := JSer.compact {} v; let m := MD.ser v
      s!"{if j.isEmpty then "-" else hexBytes j} {if m.isEmpty then "-" else hexBytes m}") w := by rfl

/-- footprint of a document-level command -/
def fpDoc (i : Nat) : FP := FP.static (one i) (one i) none' none'
/-- footprint of a read-only document-level command -/
def fpDocRO (i : Nat) : FP := FP.static none' (one i) none' none'

theorem cleardoc_local (d : String) : Local (fun w => DH.step w ["cleardoc", d]) (fpDoc d.toNat!) :=
  Local.of_eq (fun w => cleardoc_eq w d) (Local.modDoc _ _)
theorem shrink_local (d : String) : Local (fun w => DH.step w ["shrink", d]) (fpDoc d.toNat!) :=
  Local.of_eq (fun w => shrink_eq w d) (Local.modDoc _ _)
theorem nofail_local (d : String) : Local (fun w => DH.step w ["nofail", d]) (fpDoc d.toNat!) :=
  Local.of_eq (fun w => nofail_eq w d) (Local.modDoc _ _)
theorem failat_local (d k : String) : Local (fun w => DH.step w ["failat", d, k]) (fpDoc d.toNat!) :=
  Local.of_eq (fun w => failat_eq w d k) (Local.modDoc _ _)
theorem failfrom_local (d k : String) : Local (fun w => DH.step w ["failfrom", d, k]) (fpDoc d.toNat!) :=
  Local.of_eq (fun w => failfrom_eq w d k) (Local.modDoc _ _)
theorem hser_local (d : String) : Local (fun w => DH.step w ["hser", d]) (fpDocRO d.toNat!) :=
  Local.of_eq (fun w => hser_eq w d) (Local.obsDoc _ _)

theorem swapdoc_eq (w : W) (d e : String) : DH.step w ["swapdoc", d, e] =
    ("", { w with docs := (w.docs.set! d.toNat! (w.docs[e.toNat!]!)).set! e.toNat! (w.docs[d.toNat!]!) }) := by rfl

/-- `swapdoc d e` exchanges two documents: both are written -/
theorem swapdoc_local (d e : String) :
    Local (fun w => DH.step w ["swapdoc", d, e]) (FP.static (two d.toNat! e.toNat!) (two d.toNat! e.toNat!) none' none') := by
  have ok : SOK (two d.toNat! e.toNat!) (two d.toNat! e.toNat!) none' none' := ⟨fun _ h => h, fun _ h => h⟩
  refine Local.of_eq (fun w => swapdoc_eq w d e) ?_
  refine Local.withDoc d.toNat! (fun a w => ("", { w with docs := (w.docs.set! d.toNat! (w.docs[e.toNat!]!)).set! e.toNat! a }))
    (Or.inl rfl) ok (fun a => ?_)
  refine Local.withDoc e.toNat! (fun b w => ("", { w with docs := (w.docs.set! d.toNat! b).set! e.toNat! a }))
    (Or.inr rfl) ok (fun b => ?_)
  exact Local.after_write (f := fun w => ("", { w with docs := w.docs.set! e.toNat! a })) d.toNat! b (Or.inl rfl)
    (Local.putDocIn e.toNat! "" a ok (Or.inr rfl))

/-- `root r d`: bind reference `r` to the root of document `d` -/
theorem root_local (r d : String) :
    Local (fun w => DH.step w ["root", r, d]) (FP.static none' none' (one r.toNat!) (one r.toNat!)) :=
  Local.setRefIn r.toNat! "" _ ⟨fun _ h => h, fun _ h => h⟩ rfl

/-! ## Mutations through a reference -/

/-- footprint of `clear`, `remi`, `remk`, `deserj`, `deserm`, `set` (scalar) … through reference `r` -/
def fpMut (r : Nat) : FP := fpRef r none' (one r) none'

/-- a mutation through reference `r` that answers `o` and does nothing when `r` is unbound -/
theorem Local.mutRef {O : Type} (r : Nat) (G : Nat → Loc → Doc → Step O) (o : O)
    (hG : ∀ di l d, SOK (docIs (some di)) (fun j => docIs (some di) j ∨ none' j) (one r) none' →
      Local (G di l d) (FP.static (docIs (some di)) (fun j => docIs (some di) j ∨ none' j) (one r) none')) :
    Local (fun w => C20.refDoc G (fun _ w => (o, w)) (w.refs[r]!) w) (fpMut r) :=
  Local.refDoc r G _ docIs none' (one r) none' rfl (none_sub _) (fun _ _ h => h) hG (fun _ ok => Local.leafPure o ok)

theorem clear_eq (w : W) (r : String) : DH.step w ["clear", r] =
    refDoc (fun di l d w => ("", { w with docs := w.docs.set! di (d.clearV l) })) (fun _ w => ("", w)) (w.refs[r.toNat!]!) w := by
  rfl

theorem clear_local (r : String) : Local (fun w => DH.step w ["clear", r]) (fpMut r.toNat!) :=
  Local.of_eq (fun w => clear_eq w r)
    (Local.mutRef _ _ _ (fun di l d ok => Local.putDocIn di "" (d.clearV l) ok rfl))

theorem remi_eq (w : W) (r i : String) : DH.step w ["remi", r, i] =
    refDoc (fun di l d w => match d.get l with
      | .arr h _ =>
        match (d.chain h)[i.toNat!]? with
        | some id => ("", { w with docs := w.docs.set! di (d.removeOne l id) })
        | none => ("", w)
      | _ => ("", w)) (fun _ w => ("", w)) (w.refs[r.toNat!]!) w := by rfl

theorem remi_local (r i : String) : Local (fun w => DH.step w ["remi", r, i]) (fpMut r.toNat!) := by
  refine Local.of_eq (fun w => remi_eq w r i) (Local.mutRef _ _ _ (fun di l d ok => ?_))
  generalize d.get l = x
  cases x with
  | arr h t =>
    show Local (fun w => match (d.chain h)[i.toNat!]? with
        | some id => ("", { w with docs := w.docs.set! di (d.removeOne l id) })
        | none => ("", w)) _
    generalize (d.chain h)[i.toNat!]? = y
    cases y with
    | none => exact Local.leafPure _ ok
    | some id => exact Local.putDocIn di "" _ ok rfl
  | _ => exact Local.leafPure _ ok

theorem remk_eq (w : W) (r k : String) : DH.step w ["remk", r, k] =
    refDoc (fun di l d w => match d.findKey l (unhex k) with
      | some (kk, v) => ("", { w with docs := w.docs.set! di (d.removePair l kk v) })
      | none => ("", w)) (fun _ w => ("", w)) (w.refs[r.toNat!]!) w := by rfl

theorem remk_local (r k : String) : Local (fun w => DH.step w ["remk", r, k]) (fpMut r.toNat!) := by
  refine Local.of_eq (fun w => remk_eq w r k) (Local.mutRef _ _ _ (fun di l d ok => ?_))
  generalize d.findKey l (unhex k) = x
  cases x with
  | none => exact Local.leafPure _ ok
  | some p => exact Local.putDocIn di "" _ ok rfl

/-- name of a deserialization code, as the interpreter prints it -/
def codeName (c : JD.Code) : String := match c with
  | .ok => "Ok" | .empty => "EmptyInput" | .incomplete => "IncompleteInput" | .invalid => "InvalidInput"
  | .noMemory => "NoMemory" | .tooDeep => "TooDeep" | .fuel => "FAULT"

/-- `deserializeJson` / `deserializeMsgPack` into location `l` of a document: the code printed and the new document -/
def deserK (json : Bool) (lim hex : String) (l : Loc) (d : Doc) : String × Doc :=
  let (c, d', _) := if json then JDD.runAt {} lim.toNat! d l (unhex hex)
                    else MDD.runAt { maxStrLen := Gen.string_max_length } lim.toNat! d l (unhex hex)
  (codeName c, d')

theorem deserInto_eq (w : W) (json : Bool) (r lim hex : String) :
    DH.deserInto w json r lim hex =
      refDoc (fun di l _ => modDoc di (deserK json lim hex l)) (fun _ w => ("NoMemory", w)) (w.refs[r.toNat!]!) w := by rfl

theorem deserInto_local (json : Bool) (r lim hex : String) :
    Local (fun w => DH.deserInto w json r lim hex) (fpMut r.toNat!) :=
  Local.of_eq (fun w => deserInto_eq w json r lim hex)
    (Local.mutRef _ _ _ (fun di _ _ ok => Local.modDocIn di _ ok rfl))

theorem deserj_local (r lim hex : String) : Local (fun w => DH.step w ["deserj", r, lim, hex]) (fpMut r.toNat!) :=
  deserInto_local true r lim hex
theorem deserm_local (r lim hex : String) : Local (fun w => DH.step w ["deserm", r, lim, hex]) (fpMut r.toNat!) :=
  deserInto_local false r lim hex

end C20
