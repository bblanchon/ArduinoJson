/- MessagePack reader model: what every routine does to the reader. The reader it returns is the one it was given after some
   bytes were taken (`Adv`), it answers IncompleteInput only with nothing left, and with fuel `2 * unread + 2` it never
   answers `fuel` (`md_took`, over the pieces of AJ/Lemmas/MpPieces.lean). Positions, "the unread part never grows",
   `foundSomething` and the run-level facts are read off this one statement. -/
import AJ.Lemmas.MpCases
namespace MD
open JD

/-! ### a reader inside an input of length `n` (used at the slot level) -/

/-- `n` = length of the whole input, `k` = an upper bound of what is still unread -/
def Q (n k : Nat) (r : R) : Prop := r.pos + r.unread.length = n ∧ r.unread.length ≤ k

theorem Adv.q {n k : Nat} {a b : R} (h : Adv a b) (hq : Q n k a) : Q n k b :=
  ⟨h.total.trans hq.1, Nat.le_trans h.le hq.2⟩

theorem q_read_none {r r1 : R} (e : r.read = (none, r1)) : r1 = r := by
  unfold R.read at e
  split at e
  · exact (congrArg Prod.snd e).symm
  · cases e

theorem q_readBytes {n k} {r : R} (m : Nat) (h : Q n k r) : Q n k (r.readBytes m).2 := (adv_readBytes r m).1.q h
theorem q_skipBytes {n k} {r : R} (m : Nat) (h : Q n k r) : Q n k (r.skipBytes m).2 := (adv_skipBytes r m).1.q h

/-! ## the one invariant -/

/-- A routine started on `r` with fuel `f` answered `e` and left `r'`: `r'` is `r` advanced, IncompleteInput means that nothing
    is left, and `fuel` is not answered when `f` covers twice the unread bytes plus the slack `s` (one unit of fuel per
    value and one per container loop). -/
structure Took (f s : Nat) (r : R) (e : Code) (r' : R) : Prop where
  adv : Adv r r'
  inc : e = .incomplete → r'.unread = []
  fuel : 2 * r.unread.length + s ≤ f → e ≠ .fuel

theorem Took.leaf {f s : Nat} {r r' : R} {e : Code} (h : Adv r r') (hi : e ≠ .incomplete) (hf : e ≠ .fuel) :
    Took f s r e r' := ⟨h, fun h' => absurd h' hi, fun _ => hf⟩

/-- the routine ran after `r0` had advanced to `r`, possibly with less fuel -/
theorem Took.from {f f' s s' : Nat} {r0 r r' : R} {e : Code} (h0 : Adv r0 r) (h : Took f' s' r e r')
    (hf : 2 * r0.unread.length + s ≤ f → 2 * r.unread.length + s' ≤ f') : Took f s r0 e r' :=
  ⟨h0.trans h.adv, h.inc, fun h' => h.fuel (hf h')⟩

/-- results of `readArray` / `readObject` -/
def TookL {α : Type} (f : Nat) (r : R) (y : Code × α × R) : Prop := Took f 2 r y.1 y.2.2

/-- results of the pieces of `parseVariant` that run after the format byte, which sets `foundSomething` -/
def TookA (f : Nat) (r : R) (y : Code × Val × R × Bool) : Prop := Took f 2 r y.1 y.2.2.1 ∧ y.2.2.2 = true

/-- results of `parseVariant`: a value accepted has taken at least its format byte; `foundSomething` unless nothing is there -/
def TookV (f : Nat) (r : R) (y : Code × Val × R × Bool) : Prop :=
  Took f 1 r y.1 y.2.2.1 ∧ (y.1 = .ok → y.2.2.1.unread.length < r.unread.length) ∧ (r.unread ≠ [] → y.2.2.2 = true)

theorem Leaf.took {env : Env} {f : Nat} {r : R} {y : Code × Val × R × Bool} (h : Leaf env r y) : TookA f r y :=
  ⟨⟨h.adv, h.inc, fun _ => h.fuel⟩, h.found⟩

theorem TookA.from {f : Nat} {r0 r : R} {y : Code × Val × R × Bool} (h0 : Adv r0 r) (h : TookA f r y) : TookA f r0 y :=
  ⟨h.1.from h0 (fun hf => Nat.le_trans (Nat.add_le_add_right (Nat.mul_le_mul_left 2 h0.le) 2) hf), h.2⟩

theorem TookL.from {α : Type} {f : Nat} {r0 r : R} {y : Code × α × R} (h0 : Adv r0 r) (h : TookL f r y) : TookL f r0 y :=
  Took.from h0 h (fun hf => Nat.le_trans (Nat.add_le_add_right (Nat.mul_le_mul_left 2 h0.le) 2) hf)

theorem keyLenOf_adv (c : Nat) (r : R) :
    Adv r (keyLenOf c r).2 ∧ ((keyLenOf c r).1 = some none → (keyLenOf c r).2.unread = []) := by
  unfold keyLenOf
  refine of_ite (Q := fun x : Option (Option Nat) × R => Adv r x.2 ∧ (x.1 = some none → x.2.unread = []))
    (fun _ => ⟨.refl r, fun h => nomatch h⟩) (fun _ => ?_)
  refine of_ite (Q := fun x : Option (Option Nat) × R => Adv r x.2 ∧ (x.1 = some none → x.2.unread = []))
    (fun _ => ?_) (fun _ => ⟨.refl r, fun h => nomatch h⟩)
  have h := adv_readBytes r (2^(c - 0xd9))
  generalize r.readBytes (2^(c - 0xd9)) = x at h
  obtain ⟨_ | bs, r'⟩ := x
  · exact ⟨h.1, fun _ => h.2 rfl⟩
  · exact ⟨h.1, fun h => nomatch h⟩

section pieces
variable {env : Env} {RA : RAfun} {RO : ROfun} {PV : PVfun} {f : Nat}

theorem pvTail_took
    (hA : ∀ l ef ha n r acc, TookL f r (RA l ef ha n r acc)) (hO : ∀ l fl ho n r ms, TookL f r (RO l fl ho n r ms))
    (limit : Nat) (flt : Flt) (hd : Bool) (code : Byte) (x : Option (List Byte × Nat) × R)
    (hx : x.1 = none → x.2.unread = []) : TookA f x.2 (pvTail env RA RO limit flt hd code x) :=
  pvTail_cases x hx (fun _ h => h.took) (fun _ _ _ => ⟨hA .., rfl⟩) (fun _ _ _ => ⟨hA .., rfl⟩)
    (fun _ _ _ => ⟨hO .., rfl⟩) (fun _ _ _ => ⟨hO .., rfl⟩)

theorem pvAfter_took
    (hA : ∀ l ef ha n r acc, TookL f r (RA l ef ha n r acc)) (hO : ∀ l fl ho n r ms, TookL f r (RO l fl ho n r ms))
    (limit : Nat) (flt : Flt) (hd : Bool) (code : Byte) (r : R) :
    TookA f r (pvAfter env RA RO limit flt hd code r) :=
  pvAfter_cases (fun _ h => h.took) (fun _ _ _ _ h1 => TookA.from h1 ⟨hA .., rfl⟩)
    (fun _ _ _ _ h1 => TookA.from h1 ⟨hA .., rfl⟩) (fun _ _ _ _ h1 => TookA.from h1 ⟨hO .., rfl⟩)
    (fun _ _ _ _ h1 => TookA.from h1 ⟨hO .., rfl⟩)

theorem roVal_took
    (hV : ∀ l fl b r, TookV f r (PV l fl b r)) (hO : ∀ l fl ho n r ms, TookL f r (RO l fl ho n r ms))
    (limit : Nat) (flt : Flt) (ho : Bool) (n : Nat) (ms : List (List Byte × Val)) (key : List Byte) (r : R) :
    TookL f r (roVal PV RO limit flt ho n ms key r) := by
  have hv := (hV limit (flt.subKey key) (ho && (flt.subKey key).allow) r).1
  rw [roVal_eq]
  refine of_ite (Q := TookL f r) (fun _ => (hO ..).from hv.adv) (fun _ => ?_)
  exact ⟨hv.adv, hv.inc, fun hf => hv.fuel (Nat.le_trans (Nat.le_succ _) hf)⟩

theorem roTail_took
    (hV : ∀ l fl b r, TookV f r (PV l fl b r)) (hO : ∀ l fl ho n r ms, TookL f r (RO l fl ho n r ms))
    (limit : Nat) (flt : Flt) (ho : Bool) (n : Nat) (ms : List (List Byte × Val)) (x : Option (Option Nat) × R)
    (hx : x.1 = some none → x.2.unread = []) : TookL f x.2 (roTail env PV RO limit flt ho n ms x) := by
  obtain ⟨_ | _ | len, r⟩ := x
  · exact Took.leaf (e := .invalid) (.refl r) Code.noConfusion Code.noConfusion
  · exact ⟨.refl r, fun _ => hx rfl, fun _ => Code.noConfusion⟩
  simp only [roTail]
  refine of_ite (Q := TookL f r) (fun _ => Took.leaf (e := .noMemory) (.refl r) Code.noConfusion Code.noConfusion)
    (fun _ => ?_)
  have h := adv_readBytes r len
  generalize r.readBytes len = z at h
  obtain ⟨_ | key, r2⟩ := z
  · exact ⟨h.1, fun _ => h.2 rfl, fun _ => Code.noConfusion⟩
  · exact (roVal_took hV hO limit flt ho n ms key r2).from h.1

end pieces

/-- a byte less to read is worth the unit of fuel spent and one more -/
theorem fuel_step {f s k k' : Nat} (hk : k' + 1 ≤ k) (h : 2 * k + s ≤ f + 1) : 2 * k' + (s + 1) ≤ f := by omega

theorem md_took (env : Env) : ∀ f,
    (∀ limit flt hd r, TookV f r (parseVariant env f limit flt hd r)) ∧
    (∀ limit ef ha n r acc, TookL f r (readArray env f limit ef ha n r acc)) ∧
    (∀ limit flt ho n r ms, TookL f r (readObject env f limit flt ho n r ms)) := by
  intro f
  induction f with
  | zero =>
    have z : ∀ {α : Type} (r : R) (x : α), TookL 0 r (Code.fuel, x, r) := fun r _ =>
      ⟨.refl r, Code.noConfusion, fun h => nomatch h⟩
    refine ⟨fun _ _ _ r => ?_, fun _ _ _ _ r acc => ?_, fun _ _ _ _ r ms => ?_⟩
    · rw [parseVariant]
      exact ⟨⟨.refl r, Code.noConfusion, fun h => nomatch h⟩, Code.noConfusion, fun _ => rfl⟩
    · rw [readArray]; exact z r _
    · rw [readObject]; exact z r _
  | succ f ih =>
    obtain ⟨ihV, ihA, ihO⟩ := ih
    refine ⟨fun limit flt hd r => ?_, fun limit ef ha n r acc => ?_, fun limit flt ho n r ms => ?_⟩
    · rw [pv_succ]
      cases hu : r.unread with
      | nil =>
        rw [read_nil hu]
        exact ⟨⟨.refl r, fun _ => hu, fun _ => Code.noConfusion⟩, Code.noConfusion, fun h => absurd hu h⟩
      | cons c l =>
        rw [read_cons' hu]
        have h := pvAfter_took (env := env) ihA ihO limit flt hd c ⟨l, r.pos + 1⟩
        refine ⟨h.1.from (adv_cons hu) (fun hf => ?_), fun _ => ?_, fun _ => h.2⟩
        · rw [hu] at hf
          exact fuel_step (Nat.le_refl _) hf
        · rw [hu]
          exact Nat.lt_succ_of_le h.1.adv.le
    · rw [ra_succ_if]
      refine of_ite (Q := TookL (f+1) r) (fun _ => Took.leaf (e := .ok) (.refl r) Code.noConfusion Code.noConfusion)
        (fun _ => ?_)
      obtain ⟨hv, hlt, _⟩ := ihV limit ef (ha && ef.allow) r
      refine of_ite (Q := TookL (f+1) r) (fun hok => ?_) (fun _ => ?_)
      · exact Took.from hv.adv (ihA ..) (fun hf => fuel_step (hlt hok) (Nat.le_of_succ_le hf))
      · exact ⟨hv.adv, hv.inc, fun hf => hv.fuel (Nat.le_of_succ_le_succ hf)⟩
    · rw [ro_succ_eq]
      refine of_ite (Q := TookL (f+1) r) (fun _ => Took.leaf (e := .ok) (.refl r) Code.noConfusion Code.noConfusion)
        (fun _ => ?_)
      cases hu : r.unread with
      | nil =>
        rw [read_nil hu]
        exact ⟨.refl r, fun _ => hu, fun _ => Code.noConfusion⟩
      | cons c l =>
        rw [read_cons' hu]
        have hk := keyLenOf_adv c.toNat ⟨l, r.pos + 1⟩
        refine Took.from ((adv_cons hu).trans hk.1)
          (roTail_took (env := env) ihV ihO limit flt ho n ms _ hk.2) (fun hf => ?_)
        rw [hu] at hf
        exact Nat.le_of_succ_le (fuel_step (Nat.succ_le_succ hk.1.le) hf)

theorem pv_unread_le (env : Env) (f limit : Nat) (flt : Flt) (hd : Bool) (r : R) :
    (parseVariant env f limit flt hd r).2.2.1.unread.length ≤ r.unread.length :=
  ((md_took env f).1 limit flt hd r).1.adv.le
theorem ra_unread_le (env : Env) (f limit : Nat) (ef : Flt) (ha : Bool) (n : Nat) (r : R) (acc : List Val) :
    (readArray env f limit ef ha n r acc).2.2.unread.length ≤ r.unread.length :=
  ((md_took env f).2.1 limit ef ha n r acc).adv.le
theorem ro_unread_le (env : Env) (f limit : Nat) (flt : Flt) (ho : Bool) (n : Nat) (r : R)
    (ms : List (List Byte × Val)) :
    (readObject env f limit flt ho n r ms).2.2.unread.length ≤ r.unread.length :=
  ((md_took env f).2.2 limit flt ho n r ms).adv.le

theorem pv_found_cons (env : Env) (fuel limit : Nat) (flt : Flt) (hd : Bool) (c : Byte) (l : List Byte) (p : Nat) :
    (parseVariant env fuel limit flt hd ⟨c :: l, p⟩).2.2.2 = true :=
  ((md_took env fuel).1 limit flt hd ⟨c :: l, p⟩).2.2 (List.cons_ne_nil c l)

/-! ## `run` -/
theorem run_proj (env : Env) (L : Nat) (flt : Flt) (q : List Byte) :
    run env L flt q =
      ((if (parseVariant env (2 * q.length + 4) L flt true ⟨q, 0⟩).2.2.2 then
          (parseVariant env (2 * q.length + 4) L flt true ⟨q, 0⟩).1 else .empty),
       (parseVariant env (2 * q.length + 4) L flt true ⟨q, 0⟩).2.1,
       (parseVariant env (2 * q.length + 4) L flt true ⟨q, 0⟩).2.2.1.pos) := by
  simp only [run]

/-- the fuel `2 * length + 4` of `run` is enough -/
theorem run_facts (env : Env) (limit : Nat) (flt : Flt) (input : List Byte) :
    Took (2 * input.length + 4) 1 ⟨input, 0⟩ (parseVariant env (2 * input.length + 4) limit flt true ⟨input, 0⟩).1
      (parseVariant env (2 * input.length + 4) limit flt true ⟨input, 0⟩).2.2.1 :=
  ((md_took env (2 * input.length + 4)).1 limit flt true ⟨input, 0⟩).1

theorem run_pos_le (env : Env) (limit : Nat) (flt : Flt) (input : List Byte) :
    (run env limit flt input).2.2 ≤ input.length := by
  have h := (run_facts env limit flt input).adv.total
  rw [run_proj]
  exact Nat.le.intro (h.trans (Nat.zero_add _))

theorem run_ne_fuel (env : Env) (limit : Nat) (flt : Flt) (input : List Byte) :
    (run env limit flt input).1 ≠ .fuel := by
  have h := (run_facts env limit flt input).fuel (by show 2 * input.length + 1 ≤ _; omega)
  rw [run_proj]
  exact of_ite (Q := fun e : Code => e ≠ .fuel) (fun _ => h) (fun _ => by decide)

/-- **`IncompleteInput` means that the input ended**: every byte of the input was consumed (any filter, any input). -/
theorem run_incomplete_all (env : Env) (L : Nat) (flt : Flt) (inp : List Byte) (h : (run env L flt inp).1 = .incomplete) :
    (run env L flt inp).2.2 = inp.length := by
  have hf := run_facts env L flt inp
  rw [run_proj] at h ⊢
  have he : (parseVariant env (2 * inp.length + 4) L flt true ⟨inp, 0⟩).1 = .incomplete := by
    revert h
    exact of_ite (Q := fun e : Code => e = .incomplete → _) (fun _ h => h) (fun _ h => nomatch h)
  have ht := hf.adv.total
  rw [hf.inc he] at ht
  exact ht.trans (Nat.zero_add _)

end MD
