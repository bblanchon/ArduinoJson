/- Invariant `consumed + unread = length` through every routine of the JsonDeserializer model:
   the reader never takes more bytes than the input has. -/
import AJ.Lemmas.LatchClosed
namespace JD

def Inv (n : Nat) (s : St) : Prop := s.l.pos + s.l.unread.length = n

theorem latch_current_inv (l : Latch) :
    (l.current).2.pos + (l.current).2.unread.length = l.pos + l.unread.length := by
  unfold Latch.current
  split
  · rfl
  · split
    · rename_i h; simp [h]
    · rename_i c cs h; simp [h]; omega

theorem inv_cur {n s} (h : Inv n s) : Inv n (cur s).2 := by
  have := latch_current_inv s.l
  unfold Inv at *
  simp only [cur]
  omega

theorem inv_mv {n s} (h : Inv n s) : Inv n (mv s) := h

theorem inv_closed (n : Nat) : LatchClosed (Inv n) := ⟨inv_cur, inv_mv, fun h => h⟩

theorem inv_mutual {n cfg} : ∀ fuel,
    (∀ limit s, Inv n s → Inv n (parseVariant cfg fuel limit s).2.2) ∧
    (∀ limit s acc, Inv n s → Inv n (parseElems cfg fuel limit s acc).2.2) ∧
    (∀ limit s ms, Inv n s → Inv n (parseMembers cfg fuel limit s ms).2.2) :=
  kept_mutual (inv_closed n)

/-- the position reported by `finishRun` when the parser was started on `input` -/
theorem finishRun_pos_le {input : List Byte} {o : Code × Val × St} (h : Inv input.length o.2.2) :
    (finishRun o).2.2 ≤ input.length := by
  rw [finishRun_pos]
  unfold Inv at h
  omega

theorem inv_start (input : List Byte) : Inv input.length ({ l := { unread := input } } : St) :=
  Nat.zero_add _

theorem run_pos_le (cfg : Cfg) (limit : Nat) (input : List Byte) :
    (run cfg limit input).2.2 ≤ input.length :=
  finishRun_pos_le ((inv_mutual _).1 limit _ (inv_start input))
end JD
