/- The mutually recursive routines of the JSON deserializer model (unfiltered, skipping, filtered) and `parseQuoted`
   cut at every sub-call: each piece takes the result of the previous sub-call and runs up to the next one, and one
   step of a routine is its first piece applied to its first sub-call. Proofs then go one sub-call at a time, over
   small terms, and a property of an intermediate state can be carried to the end (two-run simulations). -/
import AJ.Model.JD
namespace JD

/-! ## parseQuoted -/

/-- after `\u` and its four hex digits -/
def pqHex (cfg : Cfg) (stop : Byte) (f : Nat) (acc : List Byte) (hi : Nat) (r : Code × Nat × St) :
    Code × List Byte × St :=
  match r with
  | (.ok, cu, s) =>
    if 0xD800 ≤ cu && cu < 0xDC00 then parseQuoted cfg stop f acc (cu % 1024) s
    else if 0xDC00 ≤ cu && cu < 0xE000 then
      parseQuoted cfg stop f ((encodeCodepoint (0x10000 + (hi * 1024 + cu % 1024))).reverse ++ acc) hi s
    else parseQuoted cfg stop f ((encodeCodepoint cu).reverse ++ acc) hi s
  | (e, _, s) => (e, acc.reverse, s)

/-- after a backslash -/
def pqEsc (cfg : Cfg) (stop : Byte) (f : Nat) (acc : List Byte) (hi : Nat) (s : St) : Code × List Byte × St :=
  let (d, s) := cur s
  if d == 0 then (.incomplete, acc.reverse, s)
  else if d == 0x75 then
    if cfg.decodeUnicode then pqHex cfg stop f acc hi (parseHex4 4 0 (mv s))
    else parseQuoted cfg stop f (0x5C :: acc) hi s
  else
    let u := unescapeChar d
    if u == 0 then (.invalid, acc.reverse, s) else parseQuoted cfg stop f (u :: acc) hi (mv s)

theorem parseQuoted_succ (cfg : Cfg) (stop : Byte) (f : Nat) (acc : List Byte) (hi : Nat) (s : St) :
    parseQuoted cfg stop (f+1) acc hi s =
      if (cur s).1 == stop then ((if acc.length > cfg.maxStrLen then .noMemory else .ok), acc.reverse, mv (cur s).2)
      else if (cur s).1 == 0 then (.incomplete, acc.reverse, mv (cur s).2)
      else if (cur s).1 == 0x5C then pqEsc cfg stop f acc hi (mv (cur s).2)
      else parseQuoted cfg stop f ((cur s).1 :: acc) hi (mv (cur s).2) := by
  rfl

/-- the only Ok answer of `parseQuoted` is the one at the closing quote, given under the length test -/
theorem parseQuoted_ok_len (cfg : Cfg) (stop : Byte) (fuel : Nat) (acc : List Byte) (hi : Nat) (s : St) :
    (parseQuoted cfg stop fuel acc hi s).1 = .ok → (parseQuoted cfg stop fuel acc hi s).2.1.length ≤ cfg.maxStrLen := by
  fun_induction parseQuoted cfg stop fuel acc hi s
  case case2 =>
    split
    · intro h; cases h
    · intro _; simp only [List.length_reverse]; omega
  case case8 hne _ => intro h; exact absurd h hne
  -- a recursive call, or a literal error code
  all_goals first | assumption | (intro h; cases h)

/-! ## skipQuoted -/

/-- after a backslash: the byte that follows is passed over, unless the input ends there -/
def sqEsc (stop : Byte) (f : Nat) (s : St) : Code × St :=
  if (cur s).1 != 0 then skipQuoted stop f (mv (cur s).2) else skipQuoted stop f (cur s).2

theorem skipQuoted_succ (stop : Byte) (f : Nat) (s : St) :
    skipQuoted stop (f+1) s =
      if (cur s).1 == stop then (.ok, mv (cur s).2)
      else if (cur s).1 == 0 then (.incomplete, mv (cur s).2)
      else if (cur s).1 == 0x5C then sqEsc stop f (mv (cur s).2)
      else skipQuoted stop f (mv (cur s).2) := by
  rfl

/-! ## parseVariant -/

/-- after `[` and the white space that follows it -/
def pvArr (cfg : Cfg) (f L' : Nat) (r : Code × St) : Code × Val × St :=
  match r with
  | (.ok, s) =>
    let (d, s) := cur s
    if d == 0x5D then (.ok, .arr [], mv s) else parseElems cfg f L' s []
  | (e, s) => (e, .arr [], s)

/-- after `{` and the white space that follows it -/
def pvObj (cfg : Cfg) (f L' : Nat) (r : Code × St) : Code × Val × St :=
  match r with
  | (.ok, s) =>
    let (d, s) := cur s
    if d == 0x7D then (.ok, .obj [], mv s) else parseMembers cfg f L' s []
  | (e, s) => (e, .obj [], s)

/-- the result of a quoted string as a value -/
def pvStr (r : Code × List Byte × St) : Code × Val × St :=
  match r with
  | (.ok, str, s) => (.ok, .str str, s)
  | (e, _, s) => (e, .null, s)

/-- dispatch on the first byte of a value (the state is latched on it) -/
def pvTok (cfg : Cfg) (f L : Nat) (s : St) : Code × Val × St :=
  let (c, s) := cur s
  if c == 0x5B then
    match L with
    | 0 => (.tooDeep, .arr [], s)
    | L'+1 => pvArr cfg f L' (skipSpaces cfg (f+1) (mv s))
  else if c == 0x7B then
    match L with
    | 0 => (.tooDeep, .obj [], s)
    | L'+1 => pvObj cfg f L' (skipSpaces cfg (f+1) (mv s))
  else if c == 0x22 || c == 0x27 then pvStr (parseQuoted cfg c (f+1) [] 0 (mv s))
  else if c == 0x74 then
    match skipKeyword "true".toUTF8.toList s with | (e, s) => (e, .bool true, s)
  else if c == 0x66 then
    match skipKeyword "false".toUTF8.toList s with | (e, s) => (e, .bool false, s)
  else if c == 0x6E then
    match skipKeyword "null".toUTF8.toList s with | (e, s) => (e, .null, s)
  else parseNumeric cfg s

/-- after the leading white space of a value -/
def pvK (cfg : Cfg) (f L : Nat) (r : Code × St) : Code × Val × St :=
  match r with
  | (.ok, s) => pvTok cfg f L s
  | (e, s) => (e, .null, s)

theorem parseVariant_succ (cfg : Cfg) (f L : Nat) (s : St) :
    parseVariant cfg (f+1) L s = pvK cfg f L (skipSpaces cfg (f+1) s) := by
  rfl

/-! ## parseElems -/

/-- after the white space that follows an element (`acc` contains it) -/
def peK2 (cfg : Cfg) (f L : Nat) (acc : List Val) (r : Code × St) : Code × Val × St :=
  match r with
  | (.ok, s) =>
    let (c, s) := cur s
    if c == 0x5D then (.ok, .arr acc.reverse, mv s)
    else if c == 0x2C then parseElems cfg f L (mv s) acc
    else (.invalid, .arr acc.reverse, s)
  | (e, s) => (e, .arr acc.reverse, s)

/-- after an element -/
def peK1 (cfg : Cfg) (f L : Nat) (acc : List Val) (r : Code × Val × St) : Code × Val × St :=
  match r with
  | (.ok, v, s) => peK2 cfg f L (v :: acc) (skipSpaces cfg (f+1) s)
  | (e, v, s) => (e, .arr (v :: acc).reverse, s)

theorem parseElems_succ (cfg : Cfg) (f L : Nat) (s : St) (acc : List Val) :
    parseElems cfg (f+1) L s acc = peK1 cfg f L acc (parseVariant cfg f L s) := by
  rfl

/-! ## parseMembers -/

/-- the key of a member -/
def pmKey (cfg : Cfg) (f : Nat) (s : St) : Code × List Byte × St :=
  let (c, s) := cur s
  if c == 0x22 || c == 0x27 then parseQuoted cfg c (f+1) [] 0 (mv s)
  else if inUnquoted c then let (k, s) := parseUnquoted (f+1) [] s; ((if k.length > cfg.maxStrLen then .noMemory else .ok), k, s)
  else (.invalid, [], s)

/-- after the white space that follows `,` -/
def pmK4 (cfg : Cfg) (f L : Nat) (ms : List (List Byte × Val)) (r : Code × St) : Code × Val × St :=
  match r with
  | (.ok, s) => parseMembers cfg f L s ms
  | (e, s) => (e, .obj ms, s)

/-- after the white space that follows a member value (`ms` contains the member) -/
def pmK3 (cfg : Cfg) (f L : Nat) (ms : List (List Byte × Val)) (r : Code × St) : Code × Val × St :=
  match r with
  | (.ok, s) =>
    let (c, s) := cur s
    if c == 0x7D then (.ok, .obj ms, mv s)
    else if c == 0x2C then pmK4 cfg f L ms (skipSpaces cfg (f+1) (mv s))
    else (.invalid, .obj ms, s)
  | (e, s) => (e, .obj ms, s)

/-- after a member value -/
def pmK2 (cfg : Cfg) (f L : Nat) (ms : List (List Byte × Val)) (key : List Byte) (r : Code × Val × St) :
    Code × Val × St :=
  match r with
  | (.ok, v, s) => pmK3 cfg f L (setMember ms key v) (skipSpaces cfg (f+1) s)
  | (e, v, s) => (e, .obj (setMember ms key v), s)

/-- after the white space that follows a key -/
def pmK1 (cfg : Cfg) (f L : Nat) (ms : List (List Byte × Val)) (key : List Byte) (r : Code × St) : Code × Val × St :=
  match r with
  | (.ok, s) =>
    let (c, s) := cur s
    if c != 0x3A then (.invalid, .obj ms, s) else pmK2 cfg f L ms key (parseVariant cfg f L (mv s))
  | (e, s) => (e, .obj ms, s)

/-- after a key -/
def pmK0 (cfg : Cfg) (f L : Nat) (ms : List (List Byte × Val)) (r : Code × List Byte × St) : Code × Val × St :=
  match r with
  | (.ok, key, s) => pmK1 cfg f L ms key (skipSpaces cfg (f+1) s)
  | (e, _, s) => (e, .obj ms, s)

theorem parseMembers_succ (cfg : Cfg) (f L : Nat) (s : St) (ms : List (List Byte × Val)) :
    parseMembers cfg (f+1) L s ms = pmK0 cfg f L ms (pmKey cfg f s) := by
  rfl

/-! ## a code other than `Ok` passes through the pieces of the unfiltered routines -/

theorem pvArr_err (cfg : Cfg) (f L' : Nat) (c : Code) (s : St) (h : c ≠ .ok) :
    pvArr cfg f L' (c, s) = (c, .arr [], s) := by
  cases c <;> first | exact absurd rfl h | rfl

theorem pvObj_err (cfg : Cfg) (f L' : Nat) (c : Code) (s : St) (h : c ≠ .ok) :
    pvObj cfg f L' (c, s) = (c, .obj [], s) := by
  cases c <;> first | exact absurd rfl h | rfl

theorem pvK_err (cfg : Cfg) (f L : Nat) (c : Code) (s : St) (h : c ≠ .ok) :
    pvK cfg f L (c, s) = (c, .null, s) := by
  cases c <;> first | exact absurd rfl h | rfl

theorem peK2_err (cfg : Cfg) (f L : Nat) (acc : List Val) (c : Code) (s : St) (h : c ≠ .ok) :
    peK2 cfg f L acc (c, s) = (c, .arr acc.reverse, s) := by
  cases c <;> first | exact absurd rfl h | rfl

theorem pmK4_err (cfg : Cfg) (f L : Nat) (ms : List (List Byte × Val)) (c : Code) (s : St) (h : c ≠ .ok) :
    pmK4 cfg f L ms (c, s) = (c, .obj ms, s) := by
  cases c <;> first | exact absurd rfl h | rfl

theorem pmK3_err (cfg : Cfg) (f L : Nat) (ms : List (List Byte × Val)) (c : Code) (s : St) (h : c ≠ .ok) :
    pmK3 cfg f L ms (c, s) = (c, .obj ms, s) := by
  cases c <;> first | exact absurd rfl h | rfl

theorem pmK1_err (cfg : Cfg) (f L : Nat) (ms : List (List Byte × Val)) (key : List Byte) (c : Code) (s : St) (h : c ≠ .ok) :
    pmK1 cfg f L ms key (c, s) = (c, .obj ms, s) := by
  cases c <;> first | exact absurd rfl h | rfl

theorem pvStr_err (c : Code) (v : List Byte) (s : St) (h : c ≠ .ok) :
    pvStr (c, v, s) = (c, .null, s) := by
  cases c <;> first | exact absurd rfl h | rfl

theorem peK1_err (cfg : Cfg) (f L : Nat) (acc : List Val) (c : Code) (v : Val) (s : St) (h : c ≠ .ok) :
    peK1 cfg f L acc (c, v, s) = (c, .arr (v :: acc).reverse, s) := by
  cases c <;> first | exact absurd rfl h | rfl

theorem pmK2_err (cfg : Cfg) (f L : Nat) (ms : List (List Byte × Val)) (key : List Byte) (c : Code) (v : Val) (s : St) (h : c ≠ .ok) :
    pmK2 cfg f L ms key (c, v, s) = (c, .obj (setMember ms key v), s) := by
  cases c <;> first | exact absurd rfl h | rfl

theorem pmK0_err (cfg : Cfg) (f L : Nat) (ms : List (List Byte × Val)) (c : Code) (v : List Byte) (s : St) (h : c ≠ .ok) :
    pmK0 cfg f L ms (c, v, s) = (c, .obj ms, s) := by
  cases c <;> first | exact absurd rfl h | rfl

/-! ## skipVariant -/

/-- after `{` and the white space that follows it -/
def svObj (cfg : Cfg) (f L' : Nat) (r : Code × St) : Code × St :=
  match r with
  | (.ok, s) =>
    let (d, s) := cur s
    if d == 0x7D then (.ok, mv s) else skipMembers cfg f L' s
  | r => r

/-- dispatch on the first byte of a skipped value -/
def svTok (cfg : Cfg) (f L : Nat) (s : St) : Code × St :=
  let (c, s) := cur s
  if c == 0x5B then
    match L with
    | 0 => (.tooDeep, s)
    | L'+1 => skipElems cfg f L' (mv s)
  else if c == 0x7B then
    match L with
    | 0 => (.tooDeep, s)
    | L'+1 => svObj cfg f L' (skipSpaces cfg (f+1) (mv s))
  else if c == 0x22 || c == 0x27 then skipQuoted c (f+1) (mv s)
  else if c == 0x74 then skipKeyword "true".toUTF8.toList s
  else if c == 0x66 then skipKeyword "false".toUTF8.toList s
  else if c == 0x6E then skipKeyword "null".toUTF8.toList s
  else (.ok, skipNumeric cfg (f+1) s)

/-- after the leading white space of a skipped value -/
def svK (cfg : Cfg) (f L : Nat) (r : Code × St) : Code × St :=
  match r with
  | (.ok, s) => svTok cfg f L s
  | r => r

theorem skipVariant_succ (cfg : Cfg) (f L : Nat) (s : St) :
    skipVariant cfg (f+1) L s = svK cfg f L (skipSpaces cfg (f+1) s) := by
  rfl

/-! ## skipElems -/

/-- after the white space that follows a skipped element -/
def seK2 (cfg : Cfg) (f L : Nat) (r : Code × St) : Code × St :=
  match r with
  | (.ok, s) =>
    let (c, s) := cur s
    if c == 0x5D then (.ok, mv s)
    else if c == 0x2C then skipElems cfg f L (mv s)
    else (.invalid, s)
  | r => r

/-- after a skipped element -/
def seK1 (cfg : Cfg) (f L : Nat) (r : Code × St) : Code × St :=
  match r with
  | (.ok, s) => seK2 cfg f L (skipSpaces cfg (f+1) s)
  | r => r

theorem skipElems_succ (cfg : Cfg) (f L : Nat) (s : St) :
    skipElems cfg (f+1) L s = seK1 cfg f L (skipVariant cfg f L s) := by
  rfl

/-! ## skipMembers -/

/-- the key of a skipped member -/
def smKey (f : Nat) (s : St) : Code × St :=
  let (c, s) := cur s
  if c == 0x22 || c == 0x27 then skipQuoted c (f+1) (mv s) else (Code.ok, skipUnquoted (f+1) s)

/-- after the white space that follows `,` -/
def smK4 (cfg : Cfg) (f L : Nat) (r : Code × St) : Code × St :=
  match r with
  | (.ok, s) => skipMembers cfg f L s
  | r => r

/-- after the white space that follows a skipped member value -/
def smK3 (cfg : Cfg) (f L : Nat) (r : Code × St) : Code × St :=
  match r with
  | (.ok, s) =>
    let (c, s) := cur s
    if c == 0x7D then (.ok, mv s)
    else if c == 0x2C then smK4 cfg f L (skipSpaces cfg (f+1) (mv s))
    else (.invalid, s)
  | r => r

/-- after a skipped member value -/
def smK2 (cfg : Cfg) (f L : Nat) (r : Code × St) : Code × St :=
  match r with
  | (.ok, s) => smK3 cfg f L (skipSpaces cfg (f+1) s)
  | r => r

/-- after the white space that follows a skipped key -/
def smK1 (cfg : Cfg) (f L : Nat) (r : Code × St) : Code × St :=
  match r with
  | (.ok, s) =>
    let (c, s) := cur s
    if c != 0x3A then (.invalid, s) else smK2 cfg f L (skipVariant cfg f L (mv s))
  | r => r

/-- after a skipped key -/
def smK0 (cfg : Cfg) (f L : Nat) (r : Code × St) : Code × St :=
  if r.1 != .ok then r else smK1 cfg f L (skipSpaces cfg (f+1) r.2)

theorem skipMembers_succ (cfg : Cfg) (f L : Nat) (s : St) :
    skipMembers cfg (f+1) L s = smK0 cfg f L (smKey f s) := by
  rfl

/-! ## fparseVariant -/

/-- a skipped value leaves `null` in the result -/
def dropVal (r : Code × St) : Code × Val × St := (r.1, .null, r.2)

/-- after `[` and the white space that follows it, array allowed (`ef` filters the elements) -/
def fvArr (cfg : Cfg) (f L' : Nat) (ef : Flt) (r : Code × St) : Code × Val × St :=
  match r with
  | (.ok, s) =>
    let (d, s) := cur s
    if d == 0x5D then (.ok, .arr [], mv s) else fparseElems cfg f L' ef s []
  | (e, s) => (e, .arr [], s)

/-- after `{` and the white space that follows it, object allowed -/
def fvObj (cfg : Cfg) (f L' : Nat) (flt : Flt) (r : Code × St) : Code × Val × St :=
  match r with
  | (.ok, s) =>
    let (d, s) := cur s
    if d == 0x7D then (.ok, .obj [], mv s) else fparseMembers cfg f L' flt s []
  | (e, s) => (e, .obj [], s)

/-- after `{` and the white space that follows it, object not allowed -/
def fvObjSkip (cfg : Cfg) (f L' : Nat) (r : Code × St) : Code × Val × St :=
  match r with
  | (.ok, s) =>
    let (d, s) := cur s
    if d == 0x7D then (.ok, .null, mv s) else dropVal (skipMembers cfg f L' s)
  | (e, s) => (e, .null, s)

/-- dispatch on the first byte of a filtered value -/
def fvTok (cfg : Cfg) (f L : Nat) (flt : Flt) (s : St) : Code × Val × St :=
  let (c, s) := cur s
  if c == 0x5B then
    if flt.allowArray then
      match L with
      | 0 => (.tooDeep, .arr [], s)
      | L'+1 => fvArr cfg f L' flt.subIdx (skipSpaces cfg (f+1) (mv s))
    else
      match L with
      | 0 => (.tooDeep, .null, s)
      | L'+1 => dropVal (skipElems cfg f L' (mv s))
  else if c == 0x7B then
    if flt.allowObject then
      match L with
      | 0 => (.tooDeep, .obj [], s)
      | L'+1 => fvObj cfg f L' flt (skipSpaces cfg (f+1) (mv s))
    else
      match L with
      | 0 => (.tooDeep, .null, s)
      | L'+1 => fvObjSkip cfg f L' (skipSpaces cfg (f+1) (mv s))
  else if c == 0x22 || c == 0x27 then
    if flt.allowValue then pvStr (parseQuoted cfg c (f+1) [] 0 (mv s))
    else dropVal (skipQuoted c (f+1) (mv s))
  else if c == 0x74 then
    match skipKeyword "true".toUTF8.toList s with | (e, s) => (e, (if flt.allowValue then .bool true else .null), s)
  else if c == 0x66 then
    match skipKeyword "false".toUTF8.toList s with | (e, s) => (e, (if flt.allowValue then .bool false else .null), s)
  else if c == 0x6E then
    match skipKeyword "null".toUTF8.toList s with | (e, s) => (e, .null, s)
  else if flt.allowValue then parseNumeric cfg s
  else (.ok, .null, skipNumeric cfg (f+1) s)

/-- after the leading white space of a filtered value -/
def fvK (cfg : Cfg) (f L : Nat) (flt : Flt) (r : Code × St) : Code × Val × St :=
  match r with
  | (.ok, s) => fvTok cfg f L flt s
  | (e, s) => (e, .null, s)

theorem fparseVariant_succ (cfg : Cfg) (f L : Nat) (flt : Flt) (s : St) :
    fparseVariant cfg (f+1) L flt s = fvK cfg f L flt (skipSpaces cfg (f+1) s) := by
  rfl

/-! ## fparseElems -/

/-- one element: parsed into `acc` if the element filter allows it, skipped otherwise -/
def feElem (cfg : Cfg) (f L : Nat) (ef : Flt) (s : St) (acc : List Val) : Code × List Val × St :=
  if ef.allow then
    match fparseVariant cfg f L ef s with
    | (e, v, s) => (e, v :: acc, s)
  else
    match skipVariant cfg f L s with
    | (e, s) => (e, acc, s)

/-- after the white space that follows an element (`vs` = the elements kept so far) -/
def feK2 (cfg : Cfg) (f L : Nat) (ef : Flt) (vs : List Val) (r : Code × St) : Code × Val × St :=
  match r with
  | (.ok, s) =>
    let (c, s) := cur s
    if c == 0x5D then (.ok, .arr vs.reverse, mv s)
    else if c == 0x2C then fparseElems cfg f L ef (mv s) vs
    else (.invalid, .arr vs.reverse, s)
  | (e, s) => (e, .arr vs.reverse, s)

/-- after an element -/
def feK1 (cfg : Cfg) (f L : Nat) (ef : Flt) (r : Code × List Val × St) : Code × Val × St :=
  let (e, vs, s) := r
  match e with
  | .ok => feK2 cfg f L ef vs (skipSpaces cfg (f+1) s)
  | e => (e, .arr vs.reverse, s)

theorem fparseElems_succ (cfg : Cfg) (f L : Nat) (ef : Flt) (s : St) (acc : List Val) :
    fparseElems cfg (f+1) L ef s acc = feK1 cfg f L ef (feElem cfg f L ef s acc) := by
  rfl

/-! ## fparseMembers -/

/-- one member value: stored under `key` if the member filter `mf` allows it, skipped otherwise -/
def fmVal (cfg : Cfg) (f L : Nat) (mf : Flt) (ms : List (List Byte × Val)) (key : List Byte) (s : St) :
    Code × List (List Byte × Val) × St :=
  if mf.allow then
    match fparseVariant cfg f L mf s with
    | (e, v, s) => (e, setMember ms key v, s)
  else
    match skipVariant cfg f L s with
    | (e, s) => (e, ms, s)

/-- after the white space that follows `,` -/
def fmK4 (cfg : Cfg) (f L : Nat) (flt : Flt) (ms : List (List Byte × Val)) (r : Code × St) : Code × Val × St :=
  match r with
  | (.ok, s) => fparseMembers cfg f L flt s ms
  | (e, s) => (e, .obj ms, s)

/-- after the white space that follows a member value -/
def fmK3 (cfg : Cfg) (f L : Nat) (flt : Flt) (ms : List (List Byte × Val)) (r : Code × St) : Code × Val × St :=
  match r with
  | (.ok, s) =>
    let (c, s) := cur s
    if c == 0x7D then (.ok, .obj ms, mv s)
    else if c == 0x2C then fmK4 cfg f L flt ms (skipSpaces cfg (f+1) (mv s))
    else (.invalid, .obj ms, s)
  | (e, s) => (e, .obj ms, s)

/-- after a member value (`r` carries the members kept so far) -/
def fmK2 (cfg : Cfg) (f L : Nat) (flt : Flt) (r : Code × List (List Byte × Val) × St) : Code × Val × St :=
  let (e, ms, s) := r
  match e with
  | .ok => fmK3 cfg f L flt ms (skipSpaces cfg (f+1) s)
  | e => (e, .obj ms, s)

/-- after the white space that follows a key -/
def fmK1 (cfg : Cfg) (f L : Nat) (flt : Flt) (ms : List (List Byte × Val)) (key : List Byte) (r : Code × St) :
    Code × Val × St :=
  match r with
  | (.ok, s) =>
    let (c, s) := cur s
    if c != 0x3A then (.invalid, .obj ms, s) else fmK2 cfg f L flt (fmVal cfg f L (flt.subKey key) ms key (mv s))
  | (e, s) => (e, .obj ms, s)

/-- after a key -/
def fmK0 (cfg : Cfg) (f L : Nat) (flt : Flt) (ms : List (List Byte × Val)) (r : Code × List Byte × St) :
    Code × Val × St :=
  match r with
  | (.ok, key, s) => fmK1 cfg f L flt ms key (skipSpaces cfg (f+1) s)
  | (e, _, s) => (e, .obj ms, s)

theorem fparseMembers_succ (cfg : Cfg) (f L : Nat) (flt : Flt) (s : St) (ms : List (List Byte × Val)) :
    fparseMembers cfg (f+1) L flt s ms = fmK0 cfg f L flt ms (pmKey cfg f s) := by
  rfl

/-! ## run, frun -/

/-- what `run` and `frun` make of the parser's result: a number followed by a byte that cannot end it is refused -/
def finishRun (o : Code × Val × St) : Code × Val × Nat :=
  match o with
  | (.ok, v, s) =>
    if s.l.cur != 0 && !isWs s.l.cur && isNumberVal v then (.invalid, v, s.l.pos) else (.ok, v, s.l.pos)
  | (e, v, s) => (e, v, s.l.pos)

theorem run_eq (cfg : Cfg) (L : Nat) (t : List Byte) :
    run cfg L t = finishRun (parseVariant cfg (2 * t.length + 4) L { l := { unread := t } }) := rfl

theorem frun_eq (cfg : Cfg) (L : Nat) (flt : Flt) (t : List Byte) :
    frun cfg L flt t = finishRun (fparseVariant cfg (2 * t.length + 4) L flt { l := { unread := t } }) := rfl

theorem finishRun_ok (v : Val) (s : St) : finishRun (.ok, v, s) =
    ((if s.l.cur != 0 && !isWs s.l.cur && isNumberVal v then .invalid else .ok), v, s.l.pos) := by
  simp only [finishRun]
  split <;> rfl

theorem finishRun_err {e : Code} (h : e ≠ .ok) (v : Val) (s : St) : finishRun (e, v, s) = (e, v, s.l.pos) := by
  cases e <;> first | exact absurd rfl h | rfl

/-- `finishRun` changes the code only from `ok` to `invalid` -/
theorem finishRun_code {o : Code × Val × St} {c : Code} (h : (finishRun o).1 = c) (hc : c ≠ .invalid) : o.1 = c := by
  obtain ⟨e, v, s⟩ := o
  by_cases he : e = .ok
  · subst he
    rw [finishRun_ok] at h
    split at h
    · exact absurd h.symm hc
    · exact h
  · rwa [finishRun_err he] at h

theorem finishRun_code_of {o : Code × Val × St} (h : o.1 ≠ .ok) : (finishRun o).1 = o.1 := by
  rw [show o = (o.1, o.2.1, o.2.2) from rfl, finishRun_err h]

theorem finishRun_code_iff {o : Code × Val × St} {c : Code} (hi : c ≠ .invalid) (hk : c ≠ .ok) :
    (finishRun o).1 = c ↔ o.1 = c :=
  ⟨fun h => finishRun_code h hi, fun h => by rw [finishRun_code_of (h ▸ hk), h]⟩

/-- code and value of the result depend on the final state only through the latched byte -/
theorem finishRun_congr {o1 o2 : Code × Val × St} (h1 : o1.1 = o2.1) (h2 : o1.2.1 = o2.2.1)
    (h3 : o1.2.2.l.cur = o2.2.2.l.cur) :
    (finishRun o1).1 = (finishRun o2).1 ∧ (finishRun o1).2.1 = (finishRun o2).2.1 := by
  obtain ⟨e, v, s1⟩ := o1
  obtain ⟨e', v', s2⟩ := o2
  cases h1; cases h2
  by_cases he : e = .ok
  · subst he
    rw [finishRun_ok, finishRun_ok, show s1.l.cur = s2.l.cur from h3]
    exact ⟨rfl, rfl⟩
  · rw [finishRun_err he, finishRun_err he]
    exact ⟨rfl, rfl⟩

theorem finishRun_val (o : Code × Val × St) : (finishRun o).2.1 = o.2.1 := by
  obtain ⟨e, v, s⟩ := o
  by_cases he : e = .ok
  · rw [he, finishRun_ok]
  · rw [finishRun_err he]

theorem finishRun_pos (o : Code × Val × St) : (finishRun o).2.2 = o.2.2.l.pos := by
  obtain ⟨e, v, s⟩ := o
  by_cases he : e = .ok
  · rw [he, finishRun_ok]
  · rw [finishRun_err he]

end JD
