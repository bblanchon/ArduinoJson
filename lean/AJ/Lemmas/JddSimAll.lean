/- Simulation of the slot-level deserializer `JDD` by the abstract one `JD`, part 6: the unfiltered routines are the
   filtered ones under the allow-all filter, on both sides. -/
import AJ.Lemmas.JddfSimAll
namespace JDD
open DL
open JD (Cfg)

/-- THE SIMULATION: for every fuel, the three slot-level routines are simulated by their abstract twins -/
theorem sim_all (cfg : Cfg) (h31 : 31 ≤ cfg.maxStrLen) : ∀ fuel, SimV cfg fuel ∧ SimE cfg fuel ∧ SimM cfg fuel := by
  intro fuel
  obtain ⟨hV, hE, hM⟩ := JDDF.sim_all cfg h31 fuel
  obtain ⟨eV, eE, eM⟩ := JDDF.parse_transparent (cfg := cfg) fuel
  obtain ⟨vV, vE, vM⟩ := JD.fparse_eq_parse (cfg := cfg) fuel
  refine ⟨fun limit l x => ?_, fun limit l x d0 h t sl acc => ?_, fun limit l x d0 h t sl ms => ?_⟩
  · rw [← eV limit .all l x JD.transparent_all, ← vV limit .all x.s JD.transparent_all]
    exact hV limit .all l x
  · rw [← eE limit .all l x JD.transparent_all, ← vE limit .all x.s acc JD.transparent_all]
    exact hE limit .all l x d0 h t sl acc
  · rw [← eM limit .all l x JD.transparent_all, ← vM limit .all x.s ms JD.transparent_all]
    exact hM limit .all l x d0 h t sl ms

end JDD
