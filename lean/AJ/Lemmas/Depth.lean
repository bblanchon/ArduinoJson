/- Nesting depth of a parsed value, and the invariant "a value returned with Ok has depth ≤ limit"
   through every routine of the JSON (unfiltered and filtered) and MessagePack deserializer models; TooDeep is reported
   as soon as the (limit+1)-th array is opened. -/
import AJ.Model.JD
import AJ.Model.MD
import AJ.Lemmas.JDPos
import AJ.Lemmas.FilterId
import AJ.Lemmas.JDPieces
import AJ.Lemmas.MDPos
import AJ.Lemmas.MpPieces
import AJ.Lemmas.SFWidth
namespace C15
open JD

/-! ## depth (= `nesting()`): 0 for scalars, 1 + max over the children for arrays and objects -/
mutual
def depth : Val → Nat
  | .arr xs => depthList xs + 1
  | .obj ms => depthMembers ms + 1
  | _ => 0
def depthList : List Val → Nat
  | [] => 0
  | x :: xs => max (depth x) (depthList xs)
def depthMembers : List (List Byte × Val) → Nat
  | [] => 0
  | p :: r => max (depth p.2) (depthMembers r)
end

theorem depthList_le {n : Nat} : ∀ xs : List Val, depthList xs ≤ n ↔ ∀ x ∈ xs, depth x ≤ n := by
  intro xs
  induction xs with
  | nil => simp [depthList]
  | cons x xs ih => simp only [depthList, Nat.max_le, ih, List.mem_cons, forall_eq_or_imp]

theorem depthMembers_le {n : Nat} : ∀ ms : List (List Byte × Val), depthMembers ms ≤ n ↔ ∀ p ∈ ms, depth p.2 ≤ n := by
  intro ms
  induction ms with
  | nil => simp [depthMembers]
  | cons p ms ih => simp only [depthMembers, Nat.max_le, ih, List.mem_cons, forall_eq_or_imp]

theorem depthList_reverse_le {n : Nat} {xs : List Val} (h : depthList xs ≤ n) : depthList xs.reverse ≤ n := by
  rw [depthList_le] at h ⊢
  intro x hx; exact h x (List.mem_reverse.mp hx)

theorem depthList_cons_le {n : Nat} {x : Val} {xs : List Val} (hx : depth x ≤ n) (h : depthList xs ≤ n) :
    depthList (x :: xs) ≤ n := by
  simp only [depthList, Nat.max_le]; exact ⟨hx, h⟩

theorem depthMembers_setMember_le {n : Nat} {k : List Byte} {v : Val} (hv : depth v ≤ n) :
    ∀ ms, depthMembers ms ≤ n → depthMembers (setMember ms k v) ≤ n := by
  intro ms
  induction ms with
  | nil => intro _; simp only [setMember, depthMembers, Nat.max_le]; exact ⟨hv, Nat.zero_le _⟩
  | cons p ms ih =>
    intro h
    obtain ⟨k', v'⟩ := p
    simp only [depthMembers, Nat.max_le] at h
    simp only [setMember]
    split
    · simp only [depthMembers, Nat.max_le]; exact ⟨hv, h.2⟩
    · simp only [depthMembers, Nat.max_le]; exact ⟨h.1, ih h.2⟩

theorem depthMembers_append_le {n : Nat} {k : List Byte} {v : Val} (hv : depth v ≤ n) :
    ∀ ms, depthMembers ms ≤ n → depthMembers (ms ++ [(k, v)]) ≤ n := by
  intro ms h
  rw [depthMembers_le] at h ⊢
  intro p hp
  rcases List.mem_append.mp hp with hp | hp
  · exact h p hp
  · simp only [List.mem_singleton] at hp; subst hp; exact hv

@[simp] theorem depth_null : depth .null = 0 := by simp [depth]
@[simp] theorem depth_bool (b) : depth (.bool b) = 0 := by simp [depth]
@[simp] theorem depth_num (x) : depth (.num x) = 0 := by simp [depth]
@[simp] theorem depth_str (x) : depth (.str x) = 0 := by simp [depth]
@[simp] theorem depth_raw (x) : depth (.raw x) = 0 := by simp [depth]
theorem depth_arr (xs) : depth (.arr xs) = depthList xs + 1 := by simp [depth]
theorem depth_obj (ms) : depth (.obj ms) = depthMembers ms + 1 := by simp [depth]
@[simp] theorem depthList_nil : depthList [] = 0 := by simp [depthList]
@[simp] theorem depthMembers_nil : depthMembers [] = 0 := by simp [depthMembers]

end C15

namespace C15
open JD

/-! ## JSON -/

/-- "if the routine reports Ok, the value it produced has depth ≤ n" -/
def OkD (n : Nat) (r : Code × Val × St) : Prop := r.1 = .ok → depth r.2.1 ≤ n

theorem okd_le {n e v} {s : St} (h : depth v ≤ n) : OkD n (e, v, s) := fun _ => h
theorem okd_ne {n e v} {s : St} (h : e ≠ .ok) : OkD n (e, v, s) := fun h' => absurd h' h
theorem okd_mono {n m r} (h : OkD n r) (hnm : n ≤ m) : OkD m r := fun h' => Nat.le_trans (h h') hnm

theorem depth_parseNumeric (cfg : Cfg) (s : St) : depth (parseNumeric cfg s).2.1 = 0 := by
  unfold parseNumeric
  generalize scanNumber cfg (Gen.number_buffer - 1) [] s = r
  obtain ⟨buf, s'⟩ := r
  simp only
  split <;> simp

theorem depth_arr_reverse_le {n : Nat} {vs : List Val} (h : depthList vs ≤ n) : depth (.arr vs.reverse) ≤ n + 1 := by
  rw [depth_arr]; exact Nat.succ_le_succ (depthList_reverse_le h)

theorem depth_obj_le {n : Nat} {ms : List (List Byte × Val)} (h : depthMembers ms ≤ n) : depth (.obj ms) ≤ n + 1 := by
  rw [depth_obj]; exact Nat.succ_le_succ h

theorem okd_pvStr {n : Nat} (r : Code × List Byte × St) : OkD n (pvStr r) := by
  obtain ⟨c, str, s⟩ := r
  cases c <;> exact okd_le (by simp)

/-! The filtered parser, one sub-call at a time (the pieces of AJ/Lemmas/JDPieces.lean): a container routine entered
    with limit `L` collects values of depth ≤ `L` and returns a container of depth ≤ `L + 1`. -/

def OkdV (cfg : Cfg) (f : Nat) : Prop := ∀ L flt s, OkD L (fparseVariant cfg f L flt s)
def OkdE (cfg : Cfg) (f : Nat) : Prop :=
  ∀ L ef s acc, depthList acc ≤ L → OkD (L + 1) (fparseElems cfg f L ef s acc)
def OkdM (cfg : Cfg) (f : Nat) : Prop :=
  ∀ L flt s ms, depthMembers ms ≤ L → OkD (L + 1) (fparseMembers cfg f L flt s ms)

section fokd
variable {cfg : Cfg} {f L : Nat}

theorem fvArr_okd {ef : Flt} (hE : OkdE cfg f) (r : Code × St) : OkD (L + 1) (fvArr cfg f L ef r) := by
  obtain ⟨c, s⟩ := r
  cases c <;> try exact okd_ne (by decide)
  simp only [fvArr]
  exact of_ite (fun _ => okd_le (by simp [depth_arr])) fun _ => hE _ _ _ _ (by simp)

theorem fvObj_okd {flt : Flt} (hM : OkdM cfg f) (r : Code × St) : OkD (L + 1) (fvObj cfg f L flt r) := by
  obtain ⟨c, s⟩ := r
  cases c <;> try exact okd_ne (by decide)
  simp only [fvObj]
  exact of_ite (fun _ => okd_le (by simp [depth_obj])) fun _ => hM _ _ _ _ (by simp)

theorem fvObjSkip_okd {n : Nat} (r : Code × St) : OkD n (fvObjSkip cfg f L r) := by
  obtain ⟨c, s⟩ := r
  cases c
  case ok =>
    simp only [fvObjSkip]
    exact of_ite (fun _ => okd_le (by simp)) fun _ => okd_le (by simp)
  all_goals exact okd_le (by simp)

theorem fvTok_okd {flt : Flt} (hE : OkdE cfg f) (hM : OkdM cfg f) (s : St) : OkD L (fvTok cfg f L flt s) := by
  have hkw : ∀ ks (v : Val), depth v = 0 → OkD L (match skipKeyword ks (cur s).2 with | (e, s) => (e, v, s)) :=
    fun ks v hv => okd_le (by rw [hv]; exact Nat.zero_le _)
  simp only [fvTok]
  refine of_ite (fun _ => ?_) fun _ => of_ite (fun _ => ?_) fun _ => of_ite (fun _ => ?_) fun _ => ?_
  · refine of_ite (fun _ => ?_) fun _ => ?_
    · cases L with
      | zero => exact okd_ne (by decide)
      | succ L' => exact fvArr_okd hE _
    · cases L with
      | zero => exact okd_ne (by decide)
      | succ L' => exact okd_le (by simp)
  · refine of_ite (fun _ => ?_) fun _ => ?_
    · cases L with
      | zero => exact okd_ne (by decide)
      | succ L' => exact fvObj_okd hM _
    · cases L with
      | zero => exact okd_ne (by decide)
      | succ L' => exact fvObjSkip_okd _
  · exact of_ite (fun _ => okd_pvStr _) fun _ => okd_le (by simp)
  · refine of_ite (fun _ => hkw _ _ (by split <;> simp)) fun _ => of_ite (fun _ => hkw _ _ (by split <;> simp))
      fun _ => of_ite (fun _ => hkw _ _ (by simp)) fun _ => of_ite (fun _ _ => ?_) fun _ => okd_le (by simp)
    rw [depth_parseNumeric]; exact Nat.zero_le _

theorem fvK_okd {flt : Flt} (hE : OkdE cfg f) (hM : OkdM cfg f) (r : Code × St) : OkD L (fvK cfg f L flt r) := by
  obtain ⟨c, s⟩ := r
  cases c
  case ok => exact fvTok_okd hE hM s
  all_goals exact okd_le (by simp)

theorem feElem_okd {ef : Flt} {s : St} {acc : List Val} (hV : OkdV cfg f) (hacc : depthList acc ≤ L)
    (he : (feElem cfg f L ef s acc).1 = .ok) : depthList (feElem cfg f L ef s acc).2.1 ≤ L := by
  revert he
  simp only [feElem]
  exact of_ite (Q := fun r : Code × List Val × St => r.1 = .ok → depthList r.2.1 ≤ L)
    (fun _ he => depthList_cons_le (hV L ef s he) hacc) fun _ _ => hacc

theorem feK2_okd {ef : Flt} {vs : List Val} (hE : OkdE cfg f) (hvs : depthList vs ≤ L) (r : Code × St) :
    OkD (L + 1) (feK2 cfg f L ef vs r) := by
  obtain ⟨c, s⟩ := r
  cases c <;> try exact okd_ne (by decide)
  simp only [feK2]
  exact of_ite (fun _ => okd_le (depth_arr_reverse_le hvs)) fun _ =>
    of_ite (fun _ => hE _ _ _ _ hvs) fun _ => okd_ne (by decide)

theorem feK1_okd {ef : Flt} (hE : OkdE cfg f) (r : Code × List Val × St) (h : r.1 = .ok → depthList r.2.1 ≤ L) :
    OkD (L + 1) (feK1 cfg f L ef r) := by
  obtain ⟨c, vs, s⟩ := r
  cases c <;> try exact okd_ne (by decide)
  exact feK2_okd hE (h rfl) _

theorem fmVal_okd {mf : Flt} {ms : List (List Byte × Val)} {key : List Byte} {s : St} (hV : OkdV cfg f)
    (hms : depthMembers ms ≤ L) (he : (fmVal cfg f L mf ms key s).1 = .ok) :
    depthMembers (fmVal cfg f L mf ms key s).2.1 ≤ L := by
  revert he
  simp only [fmVal]
  exact of_ite (Q := fun r : Code × List (List Byte × Val) × St => r.1 = .ok → depthMembers r.2.1 ≤ L)
    (fun _ he => depthMembers_setMember_le (hV L mf s he) ms hms) fun _ _ => hms

theorem fmK4_okd {flt : Flt} {ms : List (List Byte × Val)} (hM : OkdM cfg f) (hms : depthMembers ms ≤ L)
    (r : Code × St) : OkD (L + 1) (fmK4 cfg f L flt ms r) := by
  obtain ⟨c, s⟩ := r
  cases c <;> try exact okd_ne (by decide)
  exact hM _ _ _ _ hms

theorem fmK3_okd {flt : Flt} {ms : List (List Byte × Val)} (hM : OkdM cfg f) (hms : depthMembers ms ≤ L)
    (r : Code × St) : OkD (L + 1) (fmK3 cfg f L flt ms r) := by
  obtain ⟨c, s⟩ := r
  cases c <;> try exact okd_ne (by decide)
  simp only [fmK3]
  exact of_ite (fun _ => okd_le (depth_obj_le hms)) fun _ =>
    of_ite (fun _ => fmK4_okd hM hms _) fun _ => okd_ne (by decide)

theorem fmK2_okd {flt : Flt} (hM : OkdM cfg f) (r : Code × List (List Byte × Val) × St)
    (h : r.1 = .ok → depthMembers r.2.1 ≤ L) : OkD (L + 1) (fmK2 cfg f L flt r) := by
  obtain ⟨c, ms, s⟩ := r
  cases c <;> try exact okd_ne (by decide)
  exact fmK3_okd hM (h rfl) _

theorem fmK1_okd {flt : Flt} {ms : List (List Byte × Val)} {key : List Byte} (hV : OkdV cfg f) (hM : OkdM cfg f)
    (hms : depthMembers ms ≤ L) (r : Code × St) : OkD (L + 1) (fmK1 cfg f L flt ms key r) := by
  obtain ⟨c, s⟩ := r
  cases c <;> try exact okd_ne (by decide)
  simp only [fmK1]
  exact of_ite (fun _ => okd_ne (by decide)) fun _ => fmK2_okd hM _ (fmVal_okd hV hms)

theorem fmK0_okd {flt : Flt} {ms : List (List Byte × Val)} (hV : OkdV cfg f) (hM : OkdM cfg f)
    (hms : depthMembers ms ≤ L) (r : Code × List Byte × St) : OkD (L + 1) (fmK0 cfg f L flt ms r) := by
  obtain ⟨c, key, s⟩ := r
  cases c <;> try exact okd_ne (by decide)
  exact fmK1_okd hV hM hms _

end fokd

theorem fokd_mutual {cfg} : ∀ fuel,
    (∀ limit flt s, OkD limit (fparseVariant cfg fuel limit flt s)) ∧
    (∀ limit ef s acc, depthList acc ≤ limit → OkD (limit + 1) (fparseElems cfg fuel limit ef s acc)) ∧
    (∀ limit flt s ms, depthMembers ms ≤ limit → OkD (limit + 1) (fparseMembers cfg fuel limit flt s ms)) := by
  intro fuel
  induction fuel with
  | zero =>
    refine ⟨?_, ?_, ?_⟩
    · intro limit flt s; simp only [fparseVariant]; exact okd_ne (by decide)
    · intro limit flt s acc _; simp only [fparseElems]; exact okd_ne (by decide)
    · intro limit flt s ms _; simp only [fparseMembers]; exact okd_ne (by decide)
  | succ f ih =>
    obtain ⟨ihV, ihE, ihM⟩ := ih
    refine ⟨fun L flt s => ?_, fun L ef s acc hacc => ?_, fun L flt s ms hms => ?_⟩
    · rw [fparseVariant_succ]; exact fvK_okd ihE ihM _
    · rw [fparseElems_succ]; exact feK1_okd ihE _ (feElem_okd ihV hacc)
    · rw [fparseMembers_succ]; exact fmK0_okd ihV ihM hms _

theorem okd_mutual {cfg} : ∀ fuel,
    (∀ limit s, OkD limit (parseVariant cfg fuel limit s)) ∧
    (∀ limit s acc, depthList acc ≤ limit → OkD (limit + 1) (parseElems cfg fuel limit s acc)) ∧
    (∀ limit s ms, depthMembers ms ≤ limit → OkD (limit + 1) (parseMembers cfg fuel limit s ms)) := by
  intro fuel
  obtain ⟨hV, hE, hM⟩ := fokd_mutual (cfg := cfg) fuel
  refine ⟨fun L s => ?_, fun L s acc => ?_, fun L s ms => ?_⟩
  · rw [parseVariant_all]; exact hV L .all s
  · rw [parseElems_all]; exact hE L .all s acc
  · rw [parseMembers_all]; exact hM L .all s ms
end C15

namespace C15
open JD MD

/-! ## MessagePack -/
def OkM (n : Nat) (r : Code × Val × R × Bool) : Prop := r.1 = .ok → depth r.2.1 ≤ n
def OkA (n : Nat) (x : Code × List Val × R) : Prop := x.1 = .ok → depthList x.2.1 ≤ n
def OkO (n : Nat) (x : Code × List (List Byte × Val) × R) : Prop := x.1 = .ok → depthMembers x.2.1 ≤ n

theorem okm_le {n e v} {s : R} {b : Bool} (h : depth v ≤ n) : OkM n (e, v, s, b) := fun _ => h
theorem okm_ne {n e v} {s : R} {b : Bool} (h : e ≠ .ok) : OkM n (e, v, s, b) := fun h' => absurd h' h
theorem oka_ne {n e v} {s : R} (h : e ≠ .ok) : OkA n (e, v, s) := fun h' => absurd h' h
theorem oko_ne {n e v} {s : R} (h : e ≠ .ok) : OkO n (e, v, s) := fun h' => absurd h' h
theorem oko_le {n e v} {s : R} (h : depthMembers v ≤ n) : OkO n (e, v, s) := fun _ => h

theorem depth_readInteger (bs : List Byte) (sg : Bool) : depth (readInteger bs sg) = 0 := by
  unfold readInteger
  simp only
  split <;> simp

/-- What `parseVariant` returns after the format byte: a scalar (or an error with a scalar in the value slot), or the
    result of `readArray` / `readObject` one level down wrapped into an array / object. The last component is `true`. -/
theorem pvAfter_cases {env : Env} {RA : RAfun} {RO : ROfun} {limit : Nat} {flt : Flt} {hd : Bool} {code : Byte} {r : R}
    {Q : Code × Val × R × Bool → Prop} (lit : ∀ e v r, depth v = 0 → Q (e, v, r, true))
    (arr : ∀ l n r, limit = l + 1 → Q (arrResult (RA l flt.subIdx true n r [])))
    (obj : ∀ l n r, limit = l + 1 → Q (objResult (RO l flt true n r []))) :
    Q (pvAfter env RA RO limit flt hd code r) := by
  have rd : ∀ (g : List Byte → Val) k r, (∀ bs, depth (g bs) = 0) → Q (rdLeaf g k r) := by
    intro g k r hg
    unfold rdLeaf
    split
    · exact lit _ _ _ (hg _)
    · exact lit _ _ _ depth_null
  have sk : ∀ k r, Q (skLeaf k r) := by
    intro k r
    unfold skLeaf
    split <;> exact lit _ _ _ depth_null
  have rs : ∀ (a : Bool) (g : List Byte → Val) k r, (∀ bs, depth (g bs) = 0) → Q (if a then rdLeaf g k r else skLeaf k r) :=
    fun a g k r hg => of_ite (fun _ => rd g k r hg) fun _ => sk k r
  simp only [pvAfter]
  refine of_ite (fun _ => rs _ _ _ _ fun _ => depth_readInteger _ _) fun _ => ?_
  refine of_ite (fun _ => lit _ _ _ depth_null) fun _ => of_ite (fun _ => lit _ _ _ depth_null) fun _ => ?_
  refine of_ite (fun _ => lit _ _ _ (by split <;> simp)) fun _ => ?_
  refine of_ite (fun _ => rs _ _ _ _ fun _ => depth_num _) fun _ => ?_
  refine of_ite (fun _ => rs _ _ _ _ fun _ => depth_num _) fun _ => ?_
  refine of_ite (fun _ => lit _ _ _ (by split <;> simp)) fun _ => ?_
  generalize hdrOf (szBytes code.toNat) (sz2 code.toNat) r = h
  obtain ⟨_ | ⟨hb, size⟩, r1⟩ := h
  · exact lit _ _ _ depth_null
  simp only [pvTail]
  refine of_ite (fun _ => ?_) fun _ => of_ite (fun _ => ?_) fun _ => ?_
  · cases limit with
    | zero => exact lit _ _ _ depth_null
    | succ l => exact of_ite (fun _ => arr l _ _ rfl) fun _ => lit _ _ _ depth_null
  · cases limit with
    | zero => exact lit _ _ _ depth_null
    | succ l => exact of_ite (fun _ => obj l _ _ rfl) fun _ => lit _ _ _ depth_null
  · refine of_ite (fun _ => of_ite (fun _ => of_ite (fun _ => lit _ _ _ depth_null) fun _ => rd _ _ _ fun _ => depth_str _)
      fun _ => sk _ _) fun _ => ?_
    exact of_ite (fun _ => of_ite (fun _ => lit _ _ _ depth_null) fun _ => rd _ _ _ fun _ => depth_raw _) fun _ => sk _ _

theorem okm_variant_step {env f}
    (ihA : ∀ limit ef hasArr n r acc, depthList acc ≤ limit → OkA limit (readArray env f limit ef hasArr n r acc))
    (ihO : ∀ limit flt hasObj n r ms, depthMembers ms ≤ limit → OkO limit (readObject env f limit flt hasObj n r ms))
    (limit : Nat) (flt : Flt) (b : Bool) (r : R) : OkM limit (MD.parseVariant env (f+1) limit flt b r) := by
  rw [pv_succ]
  split
  · exact okm_ne (by decide)
  · refine pvAfter_cases (fun _ _ _ hv => okm_le (hv ▸ Nat.zero_le _)) (fun l n r hl he => ?_) (fun l n r hl he => ?_)
    · rw [hl]; exact depth_arr _ ▸ Nat.succ_le_succ (ihA l _ true n r [] (Nat.zero_le _) he)
    · rw [hl]; exact depth_obj _ ▸ Nat.succ_le_succ (ihO l _ true n r [] (Nat.zero_le _) he)

theorem okm_array_step {env f}
    (ihV : ∀ limit flt b r, OkM limit (MD.parseVariant env f limit flt b r))
    (ihA : ∀ limit ef hasArr n r acc, depthList acc ≤ limit → OkA limit (readArray env f limit ef hasArr n r acc))
    (limit : Nat) (ef : Flt) (hasArr : Bool) (n : Nat) (r : R) (acc : List Val) (hacc : depthList acc ≤ limit) :
    OkA limit (readArray env (f+1) limit ef hasArr n r acc) := by
  rw [readArray]
  split
  · intro _; exact depthList_reverse_le hacc
  · extract_lets keep
    have h0 := ihV limit ef keep r
    split
    · rename_i v r1 b1 heq; rw [heq] at h0
      refine ihA _ _ _ _ _ _ ?_
      split
      · exact depthList_cons_le (h0 rfl) hacc
      · exact hacc
    · rename_i e v r1 b1 hne heq
      exact oka_ne hne

theorem okm_object_step {env f}
    (ihV : ∀ limit flt b r, OkM limit (MD.parseVariant env f limit flt b r))
    (ihO : ∀ limit flt hasObj n r ms, depthMembers ms ≤ limit → OkO limit (readObject env f limit flt hasObj n r ms))
    (limit : Nat) (flt : Flt) (hasObj : Bool) (n : Nat) (r : R) (ms : List (List Byte × Val)) (hms : depthMembers ms ≤ limit) :
    OkO limit (readObject env (f+1) limit flt hasObj n r ms) := by
  rw [readObject]
  split
  · exact oko_le hms
  · split
    · exact oko_ne (by decide)
    · extract_lets c w keyLen
      generalize keyLen = kl
      split
      · exact oko_ne (by decide)
      · exact oko_ne (by decide)
      · split
        · exact oko_ne (by decide)
        · split
          · exact oko_ne (by decide)
          · extract_lets mf keep
            rename_i key r3 _
            have h0 := ihV limit mf keep r3
            split
            · rename_i v r4 b1 heq; rw [heq] at h0
              refine ihO _ _ _ _ _ _ ?_
              split
              · exact depthMembers_append_le (h0 rfl) ms hms
              · exact hms
            · rename_i e v r4 b1 hne heq
              exact oko_ne hne

theorem okm_mutual {env} : ∀ fuel,
    (∀ limit flt b r, OkM limit (MD.parseVariant env fuel limit flt b r)) ∧
    (∀ limit ef hasArr n r acc, depthList acc ≤ limit → OkA limit (readArray env fuel limit ef hasArr n r acc)) ∧
    (∀ limit flt hasObj n r ms, depthMembers ms ≤ limit → OkO limit (readObject env fuel limit flt hasObj n r ms)) := by
  intro fuel
  induction fuel with
  | zero =>
    refine ⟨?_, ?_, ?_⟩
    · intro limit flt b r; rw [MD.parseVariant]; exact okm_ne (by decide)
    · intro limit ef hasArr n r acc _; rw [readArray]; exact oka_ne (by decide)
    · intro limit flt hasObj n r ms _; rw [readObject]; exact oko_ne (by decide)
  | succ f ih =>
    obtain ⟨ihV, ihA, ihO⟩ := ih
    exact ⟨okm_variant_step ihA ihO, okm_array_step ihV ihA, okm_object_step ihV ihO⟩
end C15

namespace C15
open JD

/-! ## TooDeep as soon as the (L+1)-th `[` is seen -/

/-- the bytes the parser will see next (the latched byte, if any, first) -/
def stream (s : St) : List Byte := if s.l.loaded then s.l.cur :: s.l.unread else s.l.unread

/-- the latch holds `c`, and `t` follows in the reader -/
def At (s : St) (c : Byte) (t : List Byte) : Prop := s.l.loaded = true ∧ s.l.cur = c ∧ s.l.unread = t

theorem cur_at {s : St} {c t} (h : stream s = c :: t) : (cur s).1 = c ∧ At (cur s).2 c t := by
  obtain ⟨⟨unread, cu, loaded, pos⟩, found⟩ := s
  cases loaded
  · simp only [stream] at h
    simp only [Bool.false_eq_true, ↓reduceIte] at h
    subst h
    simp [cur, Latch.current, At]
  · simp only [stream, ↓reduceIte, List.cons.injEq] at h
    obtain ⟨h1, h2⟩ := h
    subst h1 h2
    simp [cur, Latch.current, At]

theorem cur_of_at {s : St} {c t} (h : At s c t) : cur s = (c, s) := by
  obtain ⟨⟨unread, cu, loaded, pos⟩, found⟩ := s
  obtain ⟨h1, h2, h3⟩ := h
  simp only at h1 h2 h3
  subst h1 h2 h3
  simp [cur, Latch.current]

theorem stream_mv {s : St} {c t} (h : At s c t) : stream (mv s) = t := by
  obtain ⟨_, _, h3⟩ := h
  simp [stream, mv, Latch.move, h3]

theorem at_found {s : St} {c t b} (h : At s c t) : At { s with found := b } c t := h

theorem isWs_ne_zero {c : Byte} (h : isWs c = true) : (c == 0) = false := by
  simp only [isWs, Bool.or_eq_true, beq_iff_eq] at h
  rcases h with ((h | h) | h) | h <;> subst h <;> decide

/-- skipping whitespace `w` in front of a `[` stops on that `[` -/
theorem skipSpaces_open {cfg} : ∀ (w : List Byte) (f : Nat) (s : St) (t : List Byte),
    (∀ c ∈ w, isWs c = true) → w.length ≤ f → stream s = w ++ 0x5B :: t →
    ∃ s', skipSpaces cfg (f+1) s = (.ok, s') ∧ At s' 0x5B t := by
  intro w
  induction w with
  | nil =>
    intro f s t _ _ hs
    obtain ⟨h1, h2⟩ := cur_at (s := s) hs
    refine ⟨{ (cur s).2 with found := true }, ?_, at_found h2⟩
    simp only [skipSpaces, h1]
    have e1 : ((0x5B : Byte) == 0) = false := by decide
    have e2 : isWs (0x5B : Byte) = false := by decide
    have e3 : ((0x5B : Byte) == 0x2F) = false := by decide
    simp [e1, e2, e3]
  | cons c w ih =>
    intro f s t hw hf hs
    obtain ⟨h1, h2⟩ := cur_at (s := s) (c := c) (t := w ++ 0x5B :: t) hs
    have hc : isWs c = true := hw c (List.mem_cons_self)
    have hc0 := isWs_ne_zero hc
    cases f with
    | zero => simp at hf
    | succ f =>
      have := ih f (mv (cur s).2) t (fun c' h' => hw c' (List.mem_cons_of_mem _ h')) (by simpa using hf) (stream_mv h2)
      obtain ⟨s', hs', hat⟩ := this
      refine ⟨s', ?_, hat⟩
      rw [skipSpaces]
      simp only [h1, hc0, hc, Bool.false_eq_true, ↓reduceIte]
      exact hs'

/-- `w₀ [ w₁ [ … wₙ [` -/
def opens : List (List Byte) → List Byte
  | [] => []
  | w :: ws => w ++ 0x5B :: opens ws

theorem opens_length_cons (w : List Byte) (ws) : (opens (w :: ws)).length = w.length + 1 + (opens ws).length := by
  simp [opens]; omega

theorem opens_length_ge : ∀ ws, ws.length ≤ (opens ws).length := by
  intro ws
  induction ws with
  | nil => simp [opens]
  | cons w ws ih => rw [opens_length_cons]; simp only [List.length_cons]; omega

theorem opens_replicate_nil : ∀ n, opens (List.replicate n []) = List.replicate n 0x5B := by
  intro n
  induction n with
  | zero => rfl
  | succ n ih => simp [List.replicate_succ, opens, ih]

def AllWs (wss : List (List Byte)) : Prop := ∀ w ∈ wss, ∀ c ∈ w, isWs c = true

theorem sv_toodeep {cfg} : ∀ (L : Nat) (wss : List (List Byte)) (fuel : Nat) (s : St) (rest : List Byte),
    wss.length = L + 1 → AllWs wss → 2 * (opens wss).length ≤ fuel + 1 → stream s = opens wss ++ rest →
    ∃ s', skipVariant cfg fuel L s = (.tooDeep, s') ∧ At s' 0x5B rest := by
  intro L
  induction L with
  | zero =>
    intro wss fuel s rest hlen hws hfuel hs
    match wss, hlen with
    | [w], _ =>
      simp only [opens, List.append_assoc, List.cons_append] at hs hfuel
      cases fuel with
      | zero => simp at hfuel; omega
      | succ f =>
        obtain ⟨s1, hs1, hat⟩ := skipSpaces_open (cfg := cfg) w f s rest (hws w (by simp)) (by simp at hfuel; omega) (by simpa using hs)
        refine ⟨s1, ?_, hat⟩
        rw [skipVariant]
        simp only [hs1, cur_of_at hat]
        simp
  | succ L ih =>
    intro wss fuel s rest hlen hws hfuel hs
    match wss, hlen with
    | w :: w' :: wss', hlen =>
      have hlen' : (w' :: wss').length = L + 1 := by simpa using hlen
      rw [opens_length_cons] at hfuel
      have hl2 := opens_length_cons w' wss'
      cases fuel with
      | zero => omega
      | succ f =>
        cases f with
        | zero => omega
        | succ f' =>
        obtain ⟨s1, hs1, hat1⟩ := skipSpaces_open (cfg := cfg) w (f'+1) s (opens (w' :: wss') ++ rest)
          (hws w (by simp)) (by omega) (by simpa [opens] using hs)
        have hmv := stream_mv hat1
        have hws2 : AllWs (w' :: wss') := fun x hx => hws x (List.mem_cons_of_mem _ hx)
        obtain ⟨s3, hsv, hat3⟩ := ih (w' :: wss') f' (mv s1) rest hlen' hws2 (by omega) hmv
        refine ⟨s3, ?_, hat3⟩
        rw [skipVariant]
        simp only [hs1, cur_of_at hat1]
        simp only [beq_self_eq_true, ↓reduceIte]
        rw [skipElems]
        simp only [hsv]

theorem fpv_toodeep {cfg} : ∀ (L : Nat) (wss : List (List Byte)) (fuel : Nat) (flt : Flt) (s : St) (rest : List Byte),
    wss.length = L + 1 → AllWs wss → 2 * (opens wss).length ≤ fuel + 1 → stream s = opens wss ++ rest →
    ∃ v s', fparseVariant cfg fuel L flt s = (.tooDeep, v, s') ∧ At s' 0x5B rest := by
  intro L
  induction L with
  | zero =>
    intro wss fuel flt s rest hlen hws hfuel hs
    match wss, hlen with
    | [w], _ =>
      simp only [opens, List.append_assoc, List.cons_append] at hs hfuel
      cases fuel with
      | zero => simp at hfuel; omega
      | succ f =>
        obtain ⟨s1, hs1, hat⟩ := skipSpaces_open (cfg := cfg) w f s rest (hws w (by simp)) (by simp at hfuel; omega) (by simpa using hs)
        cases ha : flt.allowArray
        · refine ⟨.null, s1, ?_, hat⟩
          rw [fparseVariant]
          simp only [hs1, cur_of_at hat, ha]
          simp
        · refine ⟨.arr [], s1, ?_, hat⟩
          rw [fparseVariant]
          simp only [hs1, cur_of_at hat, ha]
          simp
  | succ L ih =>
    intro wss fuel flt s rest hlen hws hfuel hs
    match wss, hlen with
    | w :: w' :: wss', hlen =>
      have hlen' : (w' :: wss').length = L + 1 := by simpa using hlen
      rw [opens_length_cons] at hfuel
      have hl2 := opens_length_cons w' wss'
      cases fuel with
      | zero => omega
      | succ f =>
        cases f with
        | zero => omega
        | succ f' =>
        obtain ⟨s1, hs1, hat1⟩ := skipSpaces_open (cfg := cfg) w (f'+1) s (opens (w' :: wss') ++ rest)
          (hws w (by simp)) (by omega) (by simpa [opens] using hs)
        have hmv := stream_mv hat1
        cases ha : flt.allowArray
        · -- the array is discarded by the filter: skipElems
          have hws2 : AllWs (w' :: wss') := fun x hx => hws x (List.mem_cons_of_mem _ hx)
          obtain ⟨s3, hsv, hat3⟩ := sv_toodeep (cfg := cfg) L (w' :: wss') f' (mv s1) rest hlen' hws2 (by omega) hmv
          refine ⟨.null, s3, ?_, hat3⟩
          rw [fparseVariant]
          simp only [hs1, cur_of_at hat1, ha]
          simp only [beq_self_eq_true, ↓reduceIte, Bool.false_eq_true]
          rw [skipElems]
          simp only [hsv]
        · obtain ⟨s2, hs2, hat2⟩ := skipSpaces_open (cfg := cfg) w' (f'+1) (mv s1) (opens wss' ++ rest)
            (hws w' (by simp)) (by omega) (by simpa [opens] using hmv)
          have hws2 : AllWs ([] :: wss') := by
            intro x hx
            rcases List.mem_cons.mp hx with rfl | hx
            · intro c hc; cases hc
            · exact hws x (by simp [hx])
          have hst2 : stream s2 = opens ([] :: wss') ++ rest := by
            simp only [opens, List.nil_append, List.cons_append]
            obtain ⟨a, b, c⟩ := hat2
            simp [stream, a, b, c]
          have hf2 : 2 * (opens ([] :: wss')).length ≤ f' + 1 := by
            rw [opens_length_cons]; simp only [List.length_nil]; omega
          have e : ((0x5B : Byte) == 0x5D) = false := by decide
          cases hal : flt.subIdx.allow
          · obtain ⟨s3, hsv, hat3⟩ := sv_toodeep (cfg := cfg) L ([] :: wss') f' s2 rest (by simpa using hlen') hws2 hf2 hst2
            refine ⟨.arr [], s3, ?_, hat3⟩
            rw [fparseVariant]
            simp only [hs1, cur_of_at hat1, ha]
            simp only [beq_self_eq_true, ↓reduceIte, hs2, cur_of_at hat2, e, Bool.false_eq_true]
            rw [fparseElems]
            simp only [hal, hsv, Bool.false_eq_true, ↓reduceIte, List.reverse_nil]
          · obtain ⟨v, s3, hpv, hat3⟩ := ih ([] :: wss') f' flt.subIdx s2 rest (by simpa using hlen') hws2 hf2 hst2
            refine ⟨.arr [v].reverse, s3, ?_, hat3⟩
            rw [fparseVariant]
            simp only [hs1, cur_of_at hat1, ha]
            simp only [beq_self_eq_true, ↓reduceIte, hs2, cur_of_at hat2, e, Bool.false_eq_true]
            rw [fparseElems]
            simp only [hal, hpv, ↓reduceIte]
end C15

namespace C15
open JD MD

/-! ## MessagePack: TooDeep as soon as the (L+1)-th array header is read -/

theorem mp_open_step {env f} (limit : Nat) (flt : Flt) (b : Bool) (r : R) (t : List Byte) (h : r.unread = 0x91 :: t) :
    MD.parseVariant env (f+1) limit flt b r =
      match limit with
      | 0 => (.tooDeep, .null, { unread := t, pos := r.pos + 1 }, true)
      | l+1 =>
        if (b && flt.allowArray) = true then
          match readArray env f l flt.subIdx true 1 { unread := t, pos := r.pos + 1 } [] with
          | (e, vs, r) => (e, .arr vs, r, true)
        else
          match readArray env f l flt.subIdx false 1 { unread := t, pos := r.pos + 1 } [] with
          | (e, _, r) => (e, .null, r, true) := by
  obtain ⟨u, p⟩ := r
  cases h
  rw [pv_cons, pvAfter_sized 0x91 (by decide) (by decide)]
  cases limit with
  | zero => rfl
  | succ l => exact pvTail_arr 0x91 (Or.inr (Or.inr rfl))

theorem mp_toodeep {env} : ∀ (L fuel : Nat) (flt : Flt) (b : Bool) (r : R) (rest : List Byte),
    2 * L + 1 ≤ fuel → r.unread = List.replicate (L+1) 0x91 ++ rest →
    ∃ v r', MD.parseVariant env fuel L flt b r = (.tooDeep, v, r', true) ∧ r'.unread = rest ∧ r'.pos = r.pos + (L+1) := by
  intro L
  induction L with
  | zero =>
    intro fuel flt b r rest hf hr
    cases fuel with
    | zero => omega
    | succ f =>
      refine ⟨.null, { unread := rest, pos := r.pos + 1 }, ?_, rfl, rfl⟩
      rw [mp_open_step 0 flt b r rest (by simpa using hr)]
  | succ L ih =>
    intro fuel flt b r rest hf hr
    cases fuel with
    | zero => omega
    | succ f =>
      cases f with
      | zero => omega
      | succ f' =>
        have hr' : r.unread = 0x91 :: (List.replicate (L+1) 0x91 ++ rest) := by
          rw [hr, List.replicate_succ]; rfl
        rw [mp_open_step (L+1) flt b r _ hr']
        simp only
        by_cases hb : (b && flt.allowArray) = true
        · obtain ⟨v, r', hv, hu, hp⟩ := ih f' flt.subIdx (true && flt.subIdx.allow) { unread := List.replicate (L+1) 0x91 ++ rest, pos := r.pos + 1 } rest (by omega) rfl
          refine ⟨.arr (if (true && flt.subIdx.allow) = true then [v] else []).reverse, r', ?_, hu, by rw [hp]; simp only; omega⟩
          rw [if_pos hb, readArray]
          simp only [hv]
          simp
        · obtain ⟨v, r', hv, hu, hp⟩ := ih f' flt.subIdx (false && flt.subIdx.allow) { unread := List.replicate (L+1) 0x91 ++ rest, pos := r.pos + 1 } rest (by omega) rfl
          refine ⟨.null, r', ?_, hu, by rw [hp]; simp only; omega⟩
          rw [if_neg hb, readArray]
          simp only [hv]
          simp
end C15
