/- Simulation of the slot-level deserializer `JDD` by the abstract one `JD`, part 1: the StringBuilder model
   (`startString`, `appendN`, `save`, `quoted`, `unquoted`) as steps of the local specification
   `Pre`/`Post`/`Fr` of AJ/Lemmas/DocCopy.lean. -/
import AJ.Lemmas.JddBase
import AJ.Lemmas.DocCopy
import AJ.Lemmas.DocStr
import AJ.Lemmas.JDPieces
namespace JDD
open DL
open JD (Byte Val Cfg Code St parseQuoted parseHex4 parseUnquoted cur mv)

/-- capacity of the kept StringBuilder node never exceeds the maximal string length -/
def sim_BOK (cfg : Cfg) (b : Option Nat) : Prop := ∀ cap, b = some cap → cap ≤ cfg.maxStrLen

theorem sim_BOK_none (cfg : Cfg) : sim_BOK cfg none := fun _ h => by cases h

/-! ## Steps that only talk to the allocator -/

theorem sim_grow_pl {d : Doc} (hp : PL.Inv d.g d.pl) (pl' : PL.St) (o : Bool) (h1 : pl'.pools = d.pl.pools)
    (h2 : pl'.tableCap = d.pl.tableCap) (h3 : pl'.tableHeap = d.pl.tableHeap) (h4 : pl'.free = d.pl.free) :
    Grow d { d with pl := pl', overflowed := o } :=
  ⟨rfl, rfl, rfl, rfl, fun _ _ => rfl, hp.congr h1 h2 h3 h4, fun x hx => (live_congr h1 h4 x).2 hx⟩

theorem sim_pre_of_fr {d d' : Doc} {l : Loc} (P : Pre d l) (hf : Fr d d' []) : Pre d' l := by
  refine ⟨by rw [hf.g]; exact P.gok, hf.pool, ?_, ?_, ?_⟩
  · cases l with
    | root => show d'.root = .null; rw [hf.root (by simp)]; exact P.null
    | slot i => rw [get_of_cell (hf.cells i (P.slot i rfl).1 (by simp))]; exact P.null
  · intro i e
    have hc := hf.cells i (P.slot i e).1 (by simp)
    exact ⟨hf.live i (P.slot i e).1, isVar_congr hc hf.null (P.slot i e).2⟩
  · obtain ⟨rs, hs⟩ := P.str
    exact ⟨rs, hf.strok rs hs⟩

/-! ## Equations of the builder -/

theorem sim_startString_some {x : S} {c : Nat} (hb : x.b = some c) : startString x = x := by
  unfold startString; rw [hb]

theorem sim_startString_none {x : S} (hb : x.b = none) : startString x =
    if (x.d.pl.alloc (31 + x.d.strOverhead)).1 then
      { x with d := { x.d with pl := (x.d.pl.alloc (31 + x.d.strOverhead)).2 }, b := some 31 }
    else { x with d := { x.d with pl := (x.d.pl.alloc (31 + x.d.strOverhead)).2, overflowed := true } } := by
  unfold startString; rw [hb]

theorem sim_appendN_none (m k size : Nat) {x : S} (hb : x.b = none) : appendN m k size x = x := by
  cases k with
  | zero => rfl
  | succ k => unfold appendN; rw [hb]

theorem sim_appendN_succ (m k size : Nat) {x : S} {cap : Nat} (hb : x.b = some cap) : appendN m (k+1) size x =
      if size == cap then
        if size * 2 + 1 > m then
          appendN m k size { x with d := { x.d with pl := x.d.pl.dealloc, overflowed := true }, b := none }
        else
          if (x.d.pl.realloc (size * 2 + 1 + x.d.strOverhead) true).1 then
            appendN m k (size + 1) { x with d := { x.d with pl := (x.d.pl.realloc (size * 2 + 1 + x.d.strOverhead) true).2 }, b := some (size * 2 + 1) }
          else appendN m k size { x with d := { x.d with pl := (x.d.pl.realloc (size * 2 + 1 + x.d.strOverhead) true).2.dealloc, overflowed := true }, b := none }
      else appendN m k (size + 1) x := by
  rw [appendN]; rw [hb]

theorem sim_startString (cfg : Cfg) (x : S) (hp : PL.Inv x.d.g x.d.pl) :
    (startString x).s = x.s ∧ Grow x.d (startString x).d ∧
    (x.d.overflowed = true → (startString x).d.overflowed = true) ∧
    (sim_BOK cfg x.b → 31 ≤ cfg.maxStrLen → sim_BOK cfg (startString x).b) ∧
    ((startString x).b = none → (startString x).d.overflowed = true) ∧
    (x.d.overflowed = false → (startString x).d.overflowed = true → (startString x).b = none) := by
  cases hb : x.b with
  | some c =>
    rw [sim_startString_some hb]
    exact ⟨rfl, Grow.refl hp, fun h => h, fun h _ => (by rw [hb]; exact h), fun h => (by rw [hb] at h; cases h),
      fun h0 h1 => (by rw [h0] at h1; cases h1)⟩
  | none =>
    rw [sim_startString_none hb]
    cases hok : (x.d.pl.alloc (31 + x.d.strOverhead)).1 with
    | true =>
      rw [if_pos rfl]
      refine ⟨rfl, sim_grow_pl hp _ x.d.overflowed rfl rfl rfl rfl, fun h => h, ?_, fun h => (by cases h),
        fun h0 h1 => (by rw [h0] at h1; cases h1)⟩
      intro _ h31 cap hc
      simp only [Option.some.injEq] at hc
      omega
    | false =>
      rw [if_neg (by simp)]
      exact ⟨rfl, sim_grow_pl hp _ true rfl rfl rfl rfl, fun _ => rfl,
        fun _ _ => (by intro c hc; rw [hb] at hc; cases hc), fun _ => rfl, fun _ _ => hb⟩

theorem sim_appendN (maxLen : Nat) : ∀ (k size : Nat) (x : S), PL.Inv x.d.g x.d.pl →
    (∀ cap, x.b = some cap → size ≤ cap ∧ cap ≤ maxLen) →
    (appendN maxLen k size x).s = x.s ∧ Grow x.d (appendN maxLen k size x).d ∧
    (x.d.overflowed = true → (appendN maxLen k size x).d.overflowed = true) ∧
    (∀ cap, (appendN maxLen k size x).b = some cap → size + k ≤ cap ∧ cap ≤ maxLen) ∧
    ((appendN maxLen k size x).d.overflowed = x.d.overflowed ∨
      ((appendN maxLen k size x).d.overflowed = true ∧ (appendN maxLen k size x).b = none)) ∧
    ((appendN maxLen k size x).b = none → x.b = none ∨ (appendN maxLen k size x).d.overflowed = true) := by
  intro k
  induction k with
  | zero =>
    intro size x hp hb
    show x.s = x.s ∧ Grow x.d x.d ∧ _ ∧ (∀ cap, x.b = some cap → _) ∧ (x.d.overflowed = x.d.overflowed ∨ _) ∧
      (x.b = none → _)
    exact ⟨rfl, Grow.refl hp, fun h => h, fun cap hc => (by have := hb cap hc; omega), Or.inl rfl, fun h => Or.inl h⟩
  | succ k ih =>
    intro size x hp hb
    cases hxb : x.b with
    | none =>
      rw [sim_appendN_none _ _ _ hxb]
      exact ⟨rfl, Grow.refl hp, fun h => h, fun cap hc => (by rw [hxb] at hc; cases hc), Or.inl rfl, fun _ => Or.inl rfl⟩
    | some cap0 =>
      rw [sim_appendN_succ _ _ _ hxb]
      obtain ⟨hsz, hcap⟩ := hb cap0 hxb
      by_cases hfull : (size == cap0) = true
      · rw [if_pos hfull]
        have hsc : size = cap0 := by simpa using hfull
        by_cases hbig : size * 2 + 1 > maxLen
        · rw [if_pos hbig, sim_appendN_none _ _ _ rfl]
          exact ⟨rfl, sim_grow_pl hp x.d.pl.dealloc true rfl rfl rfl rfl, fun _ => rfl, fun cap hc => (by cases hc),
            Or.inr ⟨rfl, rfl⟩, fun _ => Or.inr rfl⟩
        · rw [if_neg hbig]
          cases hok : (x.d.pl.realloc (size * 2 + 1 + x.d.strOverhead) true).1 with
          | true =>
            rw [if_pos rfl]
            have hg := sim_grow_pl hp (x.d.pl.realloc (size * 2 + 1 + x.d.strOverhead) true).2 x.d.overflowed
              rfl rfl rfl rfl
            obtain ⟨a1, a2, a3, a4, a6, a7⟩ := ih (size + 1)
              { x with d := { x.d with pl := (x.d.pl.realloc (size * 2 + 1 + x.d.strOverhead) true).2 },
                       b := some (size * 2 + 1) } hg.pool
              (fun cap hc => by simp only [Option.some.injEq] at hc; omega)
            refine ⟨a1, hg.trans a2, a3, fun cap hc => (by have := a4 cap hc; omega), a6, fun h => ?_⟩
            rcases a7 h with e | e
            · cases e
            · exact Or.inr e
          | false =>
            rw [if_neg (by simp), sim_appendN_none _ _ _ rfl]
            exact ⟨rfl, sim_grow_pl hp (x.d.pl.realloc (size * 2 + 1 + x.d.strOverhead) true).2.dealloc true
              rfl rfl rfl rfl, fun _ => rfl, fun cap hc => (by cases hc), Or.inr ⟨rfl, rfl⟩, fun _ => Or.inr rfl⟩
      · rw [if_neg hfull]
        have hne : size ≠ cap0 := by simpa using hfull
        obtain ⟨a1, a2, a3, a4, a6, a7⟩ := ih (size + 1) x hp
          (fun cap hc => by rw [hxb] at hc; simp only [Option.some.injEq] at hc; omega)
        refine ⟨a1, a2, a3, fun cap hc => (by have := a4 cap hc; omega), a6, fun h => ?_⟩
        rcases a7 h with e | e
        · rw [hxb] at e; cases e
        · exact Or.inr e


/-! ## The lexer of quoted strings reports `NoMemory` only for a string longer than the limit -/

theorem sim_hex4_code : ∀ (n acc : Nat) (s : St), (parseHex4 n acc s).1 ≠ .noMemory := by
  intro n
  induction n with
  | zero => intro acc s h; simp only [parseHex4] at h; cases h
  | succ n ih =>
    intro acc s
    simp only [parseHex4]
    generalize cur s = r
    obtain ⟨c, s1⟩ := r
    simp only
    split
    · intro h; cases h
    · split
      · intro h; cases h
      · exact ih _ _

/-- a string token reported as too long is longer than the limit -/
def sim_pqLong (cfg : Cfg) (r : Code × List Byte × St) : Prop := r.1 = .noMemory → cfg.maxStrLen < r.2.1.length

theorem sim_pqLong_of_ne {cfg : Cfg} {e : Code} (acc : List Byte) (s : St) (h : e ≠ .noMemory) :
    sim_pqLong cfg (e, acc, s) := fun h' => absurd h' h

theorem sim_pqLong_all (cfg : Cfg) (stop : Byte) (fuel : Nat) (acc : List Byte) (hi : Nat) (s : St) :
    sim_pqLong cfg (parseQuoted cfg stop fuel acc hi s) := by
  fun_induction parseQuoted cfg stop fuel acc hi s
  case case2 =>
    split
    · intro _; simp only [List.length_reverse]; omega
    · exact sim_pqLong_of_ne _ _ (by decide)
  case case8 e cu s3 hne heq =>
    have h : (e, cu, s3).1 ≠ .noMemory := heq ▸ sim_hex4_code 4 0 _
    exact sim_pqLong_of_ne _ _ h
  -- a round that goes on is the induction hypothesis; every other exit carries a code of the lexer
  all_goals first | assumption | exact sim_pqLong_of_ne _ _ (by decide)

theorem sim_pq_noMemory (cfg : Cfg) (stop : Byte) : ∀ (fuel : Nat) (acc : List Byte) (hi : Nat) (s : St),
    (parseQuoted cfg stop fuel acc hi s).1 = .noMemory →
    cfg.maxStrLen < (parseQuoted cfg stop fuel acc hi s).2.1.length :=
  sim_pqLong_all cfg stop

/-! ## `save` -/

/-- `save` is `saveString` on the never-failing twin, up to the allocator state -/
theorem sim_save_eq (x : S) (bytes : List Byte) :
    ∃ d1, (calm x.d bytes.length).saveString bytes = (some (save x bytes).1, d1) ∧
      (save x bytes).2.d.strings = d1.strings ∧ (save x bytes).2.d.nextNode = d1.nextNode ∧
      (save x bytes).2.d.g = x.d.g ∧ (save x bytes).2.d.root = x.d.root ∧ (save x bytes).2.d.cells = x.d.cells ∧
      (save x bytes).2.d.overflowed = x.d.overflowed ∧
      (save x bytes).2.d.pl.pools = x.d.pl.pools ∧ (save x bytes).2.d.pl.free = x.d.pl.free ∧
      (save x bytes).2.d.pl.tableCap = x.d.pl.tableCap ∧ (save x bytes).2.d.pl.tableHeap = x.d.pl.tableHeap ∧
      (save x bytes).2.s = x.s ∧ ((save x bytes).2.b = x.b ∨ (save x bytes).2.b = none) := by
  cases hf : x.d.strings.find? (·.bytes == bytes) with
  | some n =>
    have e : save x bytes = (n.id, { x with d := { x.d with strings := (x.d.strings.map (fun y => if y.id == n.id then { y with refs := y.refs + 1 } else y)) } }) := by
      unfold save; rw [hf]
    rw [e]
    exact ⟨_, saveString_found (d := calm x.d bytes.length) hf, rfl, rfl, rfl, rfl, rfl, rfl, rfl, rfl, rfl, rfl, rfl, Or.inl rfl⟩
  | none =>
    have e : save x bytes = (x.d.nextNode, { x with d := { x.d with
        pl := (x.d.pl.realloc (bytes.length + x.d.strOverhead) false).2,
        strings := ⟨x.d.nextNode, bytes, 1⟩ :: x.d.strings, nextNode := x.d.nextNode + 1 }, b := none }) := by
      unfold save; rw [hf]
    rw [e]
    have hs := saveString_short (d := calm x.d bytes.length) hf (Nat.le_refl _)
    rw [calm_failsAt, if_neg (by simp)] at hs
    exact ⟨_, hs, rfl, rfl, rfl, rfl, rfl, rfl, rfl, rfl, rfl, rfl, rfl, Or.inr rfl⟩

/-- `StringBuilder::save`: the node returned holds the bytes, it gained one reference, nothing else changed -/
theorem sim_save (cfg : Cfg) (x : S) (bytes : List Byte) (hp : PL.Inv x.d.g x.d.pl) (hs0 : ∃ rs, StrOK x.d rs) :
    (save x bytes).2.s = x.s ∧ Fr x.d (save x bytes).2.d [] ∧ (save x bytes).2.d.strBytes (save x bytes).1 = bytes ∧
    (∀ rs, StrOK x.d rs → StrOK (save x bytes).2.d ((save x bytes).1 :: rs)) ∧
    (save x bytes).2.d.overflowed = x.d.overflowed ∧ (sim_BOK cfg x.b → sim_BOK cfg (save x bytes).2.b) := by
  obtain ⟨d1, h, e1, e2, e3, e4, e5, e6, e7, e8, e9, e10, e11, e12⟩ := sim_save_eq x bytes
  obtain ⟨rs0, hrs0⟩ := hs0
  have hN : ∀ rs, StrOK x.d rs → StrOK (calm x.d bytes.length) rs := fun rs hs => StrOK_congr (d := x.d) rfl rfl hs
  obtain ⟨_, _, _, hb, hkeep, _⟩ := saveString_spec (hN _ hrs0).ids_nodup (hN _ hrs0).ids_lt h
  have hc : ∀ j, (save x bytes).2.d.cell j = x.d.cell j := fun j => by simp only [Doc.cell, e5]
  have hstr : ∀ rs, StrOK x.d rs → StrOK (save x bytes).2.d ((save x bytes).1 :: rs) := fun rs hs =>
    StrOK_congr e1 e2 (saveString_strOK (hN rs hs) h)
  have hbytes : ∀ m, (∃ y ∈ x.d.strings, y.id = m) → (save x bytes).2.d.strBytes m = x.d.strBytes m := by
    intro m hm
    rw [strBytes_of_strings e1, hkeep m hm]
    exact strBytes_of_strings (d := x.d) (d' := calm x.d bytes.length) rfl m
  refine ⟨e11, ⟨e3, fun _ => e4, fun j _ _ => hc j, by rw [e3]; exact hp.congr e7 e9 e10 e8,
    fun j hj => by rw [e3, live_congr e7 e8]; exact hj,
    fun rs hs => ⟨StrOK_weaken (a := [(save x bytes).1]) (hstr rs hs), strBytes_of_present hbytes hs⟩,
    fun ho => by rw [e6]; exact ho⟩, by rw [strBytes_of_strings e1]; exact hb, hstr, e6, ?_⟩
  intro hb' cap hc'
  rcases e12 with e | e
  · exact hb' cap (by rw [← e]; exact hc')
  · rw [e] at hc'; cases hc'


/-! ## A string token through the builder -/

theorem sim_quoted_eq (cfg : Cfg) (fuel : Nat) (stop : Byte) (x : S) :
    quoted cfg fuel stop x =
      ((if (parseQuoted cfg stop fuel [] 0 (startString x).s).1 == .ok ||
            (parseQuoted cfg stop fuel [] 0 (startString x).s).1 == .noMemory then
          (if (appendN cfg.maxStrLen (parseQuoted cfg stop fuel [] 0 (startString x).s).2.1.length 0
                { startString x with s := (parseQuoted cfg stop fuel [] 0 (startString x).s).2.2 }).b.isSome
           then .ok else .noMemory)
        else (parseQuoted cfg stop fuel [] 0 (startString x).s).1),
       (parseQuoted cfg stop fuel [] 0 (startString x).s).2.1,
       appendN cfg.maxStrLen (parseQuoted cfg stop fuel [] 0 (startString x).s).2.1.length 0
         { startString x with s := (parseQuoted cfg stop fuel [] 0 (startString x).s).2.2 }) := rfl

theorem sim_unquoted_eq (cfg : Cfg) (fuel : Nat) (x : S) :
    unquoted cfg fuel x =
      ((if (appendN cfg.maxStrLen (parseUnquoted fuel [] (startString x).s).1.length 0
                { startString x with s := (parseUnquoted fuel [] (startString x).s).2 }).b.isSome
           then .ok else .noMemory),
       (parseUnquoted fuel [] (startString x).s).1,
       appendN cfg.maxStrLen (parseUnquoted fuel [] (startString x).s).1.length 0
         { startString x with s := (parseUnquoted fuel [] (startString x).s).2 }) := rfl

/-- what the builder does to the state while `n` bytes, lexed up to the reader state `s'`, go through it: without an
    allocation failure it keeps a node and `n` is within the limit; with one it has no node -/
theorem sim_builder (cfg : Cfg) (x : S) (s' : St) (n : Nat) (hp : PL.Inv x.d.g x.d.pl) (hb : sim_BOK cfg x.b)
    (h31 : 31 ≤ cfg.maxStrLen) (h0 : x.d.overflowed = false) :
    (appendN cfg.maxStrLen n 0 { startString x with s := s' }).s = s' ∧
    Grow x.d (appendN cfg.maxStrLen n 0 { startString x with s := s' }).d ∧
    sim_BOK cfg (appendN cfg.maxStrLen n 0 { startString x with s := s' }).b ∧
    ((appendN cfg.maxStrLen n 0 { startString x with s := s' }).d.overflowed = false →
      (appendN cfg.maxStrLen n 0 { startString x with s := s' }).b.isSome = true ∧ n ≤ cfg.maxStrLen) ∧
    ((appendN cfg.maxStrLen n 0 { startString x with s := s' }).d.overflowed = true →
      (appendN cfg.maxStrLen n 0 { startString x with s := s' }).b = none) := by
  obtain ⟨_, g1, o1, b1, n1, l1⟩ := sim_startString cfg x hp
  have hb1 := b1 hb h31
  obtain ⟨a1, a2, a3, a4, a6, a7⟩ := sim_appendN cfg.maxStrLen n 0 { startString x with s := s' } g1.pool
    (fun cap hc => ⟨Nat.zero_le _, hb1 cap hc⟩)
  have a5 : (startString x).b = none → appendN cfg.maxStrLen n 0 { startString x with s := s' } =
      { startString x with s := s' } := fun h => sim_appendN_none _ _ _ h
  refine ⟨a1, g1.trans a2, fun cap hc => (a4 cap hc).2, ?_, ?_⟩
  · intro hy
    cases hyb : (appendN cfg.maxStrLen n 0 { startString x with s := s' }).b with
    | some cap => exact ⟨rfl, by have := a4 cap hyb; omega⟩
    | none =>
      exfalso
      rcases a7 hyb with e | e
      · have h1 : (startString x).d.overflowed = true := n1 e
        have h2 := a3 h1
        rw [hy] at h2; cases h2
      · rw [hy] at e; cases e
  · intro hy
    rcases a6 with e | ⟨_, e⟩
    · rw [hy] at e
      have hs1 : (startString x).d.overflowed = true := e.symm
      have hsb := l1 h0 hs1
      rw [a5 hsb]; exact hsb
    · exact e

/-- a quoted string token: lexing as `JD.parseQuoted`, same bytes, same reader; without an allocation failure the same
    code, with one `NoMemory` unless the lexer reported an error of its own -/
theorem sim_quoted (cfg : Cfg) (fuel : Nat) (stop : Byte) (x : S) (hp : PL.Inv x.d.g x.d.pl) (hb : sim_BOK cfg x.b)
    (h31 : 31 ≤ cfg.maxStrLen) (h0 : x.d.overflowed = false) :
    (quoted cfg fuel stop x).2.1 = (parseQuoted cfg stop fuel [] 0 x.s).2.1 ∧
    (quoted cfg fuel stop x).2.2.s = (parseQuoted cfg stop fuel [] 0 x.s).2.2 ∧
    Grow x.d (quoted cfg fuel stop x).2.2.d ∧ sim_BOK cfg (quoted cfg fuel stop x).2.2.b ∧
    ((quoted cfg fuel stop x).2.2.d.overflowed = false →
      (quoted cfg fuel stop x).1 = (parseQuoted cfg stop fuel [] 0 x.s).1) ∧
    ((quoted cfg fuel stop x).2.2.d.overflowed = true →
      (quoted cfg fuel stop x).1 = .noMemory ∨
        ((quoted cfg fuel stop x).1 = (parseQuoted cfg stop fuel [] 0 x.s).1 ∧ (quoted cfg fuel stop x).1 ≠ .ok)) := by
  have hs : (startString x).s = x.s := (sim_startString cfg x hp).1
  rw [sim_quoted_eq, hs]
  obtain ⟨c1, c2, c3, c4, c5⟩ := sim_builder cfg x (parseQuoted cfg stop fuel [] 0 x.s).2.2
    (parseQuoted cfg stop fuel [] 0 x.s).2.1.length hp hb h31 h0
  have hnm := sim_pq_noMemory cfg stop fuel [] 0 x.s
  generalize parseQuoted cfg stop fuel [] 0 x.s = r at *
  obtain ⟨c, bytes, s'⟩ := r
  simp only at c1 c2 c3 c4 c5 hnm ⊢
  generalize appendN cfg.maxStrLen bytes.length 0 { startString x with s := s' } = y at *
  refine ⟨trivial, c1, c2, c3, ?_, ?_⟩
  · intro hy
    obtain ⟨hsome, hlen⟩ := c4 hy
    rw [hsome]
    cases c <;> first | rfl | (exfalso; have := hnm rfl; omega)
  · intro hy
    have hnone := c5 hy
    rw [hnone]
    cases c <;> first | exact Or.inl rfl | exact Or.inr ⟨rfl, by intro h; cases h⟩

/-- an unquoted key token -/
theorem sim_unquoted (cfg : Cfg) (fuel : Nat) (x : S) (hp : PL.Inv x.d.g x.d.pl) (hb : sim_BOK cfg x.b)
    (h31 : 31 ≤ cfg.maxStrLen) (h0 : x.d.overflowed = false) :
    (unquoted cfg fuel x).2.1 = (parseUnquoted fuel [] x.s).1 ∧
    (unquoted cfg fuel x).2.2.s = (parseUnquoted fuel [] x.s).2 ∧
    Grow x.d (unquoted cfg fuel x).2.2.d ∧ sim_BOK cfg (unquoted cfg fuel x).2.2.b ∧
    ((unquoted cfg fuel x).2.2.d.overflowed = false → (unquoted cfg fuel x).1 = .ok) ∧
    ((unquoted cfg fuel x).2.2.d.overflowed = true → (unquoted cfg fuel x).1 = .noMemory) := by
  have hs : (startString x).s = x.s := (sim_startString cfg x hp).1
  rw [sim_unquoted_eq, hs]
  obtain ⟨c1, c2, c3, c4, c5⟩ := sim_builder cfg x (parseUnquoted fuel [] x.s).2
    (parseUnquoted fuel [] x.s).1.length hp hb h31 h0
  generalize appendN cfg.maxStrLen (parseUnquoted fuel [] x.s).1.length 0
    { startString x with s := (parseUnquoted fuel [] x.s).2 } = y at *
  refine ⟨rfl, c1, c2, c3, ?_, ?_⟩
  · intro hy; simp only [(c4 hy).1, if_true]
  · intro hy; simp only [c5 hy, Option.isSome_none, Bool.false_eq_true, if_false]

/-- without an allocation failure the unquoted key is within the length limit (the builder kept its node) -/
theorem sim_unquoted_len (cfg : Cfg) (fuel : Nat) (x : S) (hp : PL.Inv x.d.g x.d.pl) (hb : sim_BOK cfg x.b)
    (h31 : 31 ≤ cfg.maxStrLen) (h0 : x.d.overflowed = false)
    (hy : (unquoted cfg fuel x).2.2.d.overflowed = false) : (parseUnquoted fuel [] x.s).1.length ≤ cfg.maxStrLen := by
  have hs : (startString x).s = x.s := (sim_startString cfg x hp).1
  rw [sim_unquoted_eq, hs] at hy
  exact ((sim_builder cfg x (parseUnquoted fuel [] x.s).2 (parseUnquoted fuel [] x.s).1.length hp hb h31 h0).2.2.2.1 hy).2

end JDD
