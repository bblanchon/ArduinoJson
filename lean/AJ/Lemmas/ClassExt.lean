/- An `IncompleteInput` text can be completed: leaf routines.
   `Ends r a`: the remaining input `r` is `a` followed by the end of the input or by a NUL. When a routine answers
   `IncompleteInput`, the part `a` it has read can be extended (`a ++ x`) to a phrase of the dialect. -/
import AJ.Lemmas.DialectSound2
import AJ.Lemmas.DialectClass
import AJ.Lemmas.JDLexPieces
set_option linter.unusedSimpArgs false
set_option linter.unusedVariables false
namespace JD
open Spec.Dialect

/-- `r` is `a`, then the end of the input or a NUL -/
def Ends (r a : List Byte) : Prop := ∃ z, r = a ++ z ∧ z.headD 0 = 0

theorem Ends.nil {r : List Byte} (h : r.headD 0 = 0) : Ends r [] := ⟨r, rfl, h⟩
theorem Ends.cons {c : Byte} {r a : List Byte} (h : Ends r a) : Ends (c :: r) (c :: a) := by
  obtain ⟨z, rfl, hz⟩ := h; exact ⟨z, rfl, hz⟩
theorem Ends.prepend {r a : List Byte} (w : List Byte) (h : Ends r a) : Ends (w ++ r) (w ++ a) := by
  obtain ⟨z, rfl, hz⟩ := h; exact ⟨z, by simp, hz⟩
theorem Ends.length_le {r a : List Byte} (h : Ends r a) : a.length ≤ r.length := by
  obtain ⟨z, rfl, _⟩ := h; simp
/-- a remaining input that starts with a non-NUL byte: so does what is left of the text -/
theorem Ends.head {c : Byte} {r a : List Byte} (h : Ends (c :: r) a) (hc : c ≠ 0) : ∃ a', a = c :: a' ∧ Ends r a' := by
  obtain ⟨z, he, hz⟩ := h
  cases a with
  | nil =>
    simp only [List.nil_append] at he
    rw [← he] at hz
    exact absurd hz hc
  | cons b a' =>
    simp only [List.cons_append, List.cons.injEq] at he
    exact ⟨a', by rw [he.1], z, he.2, hz⟩

theorem Rem.head_zero {s : St} {r : List Byte} (h : Rem s r) (hc : (cur s).1 = 0) : r.headD 0 = 0 := by
  rw [← h.look.2.2.1]; exact hc

theorem beq_true_eq {a b : Byte} (h : (a == b) = true) : a = b := by simpa using h

/-! ## comments and white space -/

theorem skipBlock_inc : ∀ (fuel : Nat) (star : Bool) (s : St) (r : List Byte) (s' : St), Rem s r →
    skipBlock fuel star s = (.incomplete, s') → ∃ a, Ends r a ∧ Block star (a ++ [0x2A, 0x2F]) := by
  intro fuel
  induction fuel with
  | zero => intro star s r s' _ h; simp [skipBlock] at h
  | succ n ih =>
    intro star s r s' hr h
    simp only [skipBlock] at h
    split at h
    · rename_i h0
      refine ⟨[], Ends.nil (hr.head_zero (beq_true_eq h0)), ?_⟩
      exact Block.step star 0x2A [0x2F] (by decide) (by intro hh; exact absurd hh.1 (by decide)) Block.close
    · rename_i h0
      obtain ⟨t, rfl, e2⟩ := hr.step (not_beq_ne h0)
      split at h
      · cases h
      · rename_i h1
        obtain ⟨a, ha, hb⟩ := ih _ _ _ _ e2 h
        refine ⟨(cur s).1 :: a, ha.cons, ?_⟩
        refine Block.step _ _ _ (not_beq_ne h0) ?_ hb
        intro hc
        apply h1
        simp [hc.1, hc.2]

theorem skipLine_inc : ∀ (fuel : Nat) (s : St) (c : Byte) (rest : List Byte) (s' : St), Rem s (c :: rest) →
    s.l.loaded = true → skipLine fuel s = (.incomplete, s') →
    ∃ a, Ends rest a ∧ (∀ c ∈ a, c ≠ 0 ∧ c ≠ 0x0A) := by
  intro fuel
  induction fuel with
  | zero => intro s c rest s' _ _ h; simp [skipLine] at h
  | succ n ih =>
    intro s c rest s' hr hl h
    simp only [skipLine] at h
    have hm := hr.move hl
    obtain ⟨c1, c2, c3, _, _⟩ := hm.look
    split at h
    · rename_i h0
      exact ⟨[], Ends.nil (hm.head_zero (beq_true_eq h0)), fun c hc => by cases hc⟩
    · rename_i h0
      have h0' := not_beq_ne h0
      have hrest : rest = (cur (mv s)).1 :: rest.tail := by
        cases rest with
        | nil => exact absurd c3 h0'
        | cons d t => have : (cur (mv s)).1 = d := c3; rw [this]; rfl
      split at h
      · cases h
      · rename_i h1
        rw [hrest] at c1
        obtain ⟨a, ha, hx⟩ := ih _ _ _ _ c1 c2 h
        refine ⟨(cur (mv s)).1 :: a, ?_, ?_⟩
        · rw [hrest]; exact ha.cons
        · intro d hd
          rcases List.mem_cons.mp hd with rfl | hd
          · exact ⟨h0', not_beq_ne h1⟩
          · exact hx d hd

theorem dws_lf_tail {cfg : Cfg} {w : List Byte} (h : DWs cfg (0x0A :: w)) : DWs cfg w := by
  generalize hg : (0x0A : Byte) :: w = g at h
  cases h with
  | nil => cases hg
  | ws c w0 _ hw0 => cases hg; exact hw0
  | block b w0 _ _ _ => simp at hg
  | line x w0 _ _ _ => simp at hg

/-- `skipSpaces` answered `IncompleteInput` (or `EmptyInput`): what it read is the beginning of dialect white space;
    the completion is empty, `*/` or a line feed -/
theorem skipSpaces_inc (cfg : Cfg) : ∀ (fuel : Nat) (s : St) (r : List Byte) (e : Code) (s' : St), Rem s r →
    skipSpaces cfg fuel s = (e, s') → (e = .incomplete ∨ e = .empty) → ∃ a x, Ends r a ∧ DWs cfg (a ++ x) := by
  intro fuel
  induction fuel with
  | zero =>
    intro s r e s' _ h he
    simp only [skipSpaces] at h
    injection h with h1 _
    subst h1
    rcases he with he | he <;> cases he
  | succ n ih =>
    intro s r e s' hr h he
    rw [skipSpaces_succ] at h
    split at h
    · rename_i h0
      exact ⟨[], [], Ends.nil (hr.head_zero (beq_true_eq h0)), DWs.nil⟩
    · rename_i h0
      have h0' := not_beq_ne h0
      obtain ⟨t, rfl, e2⟩ := hr.step h0'
      split at h
      · rename_i hw
        obtain ⟨a, x, ha, hd⟩ := ih _ _ _ _ e2 h he
        exact ⟨(cur s).1 :: a, x, ha.cons, DWs.ws _ _ (isWs_byte hw) hd⟩
      · split at h
        · rename_i hcm
          simp only [Bool.and_eq_true, beq_iff_eq] at hcm
          obtain ⟨d1, d2, d3, _, _⟩ := e2.look
          simp only [ssCmt] at h
          split at h
          · rename_i hd
            have hd' : (cur (mv (cur s).2)).1 = 0x2A := by simpa using hd
            obtain ⟨t2, rfl, f2⟩ := e2.step (by rw [hd']; decide)
            generalize hx : skipBlock n false (mv (cur (mv (cur s).2)).2) = rx at h
            obtain ⟨c, s1⟩ := rx
            by_cases hc : c = .ok
            · subst hc
              rw [ssK_ok] at h
              obtain ⟨b, r1, rfl, hb2, hb3⟩ := skipBlock_sound _ _ _ _ _ f2 hx
              obtain ⟨a, x, ha, hdw⟩ := ih _ _ _ _ hb3 h he
              refine ⟨0x2F :: 0x2A :: b ++ a, x, ?_, ?_⟩
              · rw [hcm.2, hd']
                have := (ha.prepend b).cons (c := 0x2A) |>.cons (c := 0x2F)
                simpa using this
              · have := DWs.block b (a ++ x) hcm.1 hb2 hdw
                simpa using this
            · -- the block comment is not closed
              rw [ssK_err _ _ _ hc] at h
              cases h
              have hne := ne_skipBlock n false (mv (cur (mv (cur s).2)).2)
              rw [hx] at hne
              obtain rfl : e = .incomplete := he.resolve_right hne
              obtain ⟨a, ha, hb⟩ := skipBlock_inc _ _ _ _ _ f2 hx
              refine ⟨0x2F :: 0x2A :: a, [0x2A, 0x2F], ?_, ?_⟩
              · rw [hcm.2, hd']; exact ha.cons.cons
              · have := DWs.block (a ++ [0x2A, 0x2F]) [] hcm.1 hb DWs.nil
                simpa using this
          · split at h
            · rename_i hd2
              have hd' : (cur (mv (cur s).2)).1 = 0x2F := by simpa using hd2
              obtain ⟨t2, ht2, _⟩ := e2.step (by rw [hd']; decide)
              rw [hd'] at ht2
              subst ht2
              generalize hx : skipLine n (cur (mv (cur s).2)).2 = rx at h
              obtain ⟨c, s1⟩ := rx
              by_cases hc : c = .ok
              · subst hc
                rw [ssK_ok] at h
                obtain ⟨x1, r1, rfl, hx2, hx3, hx4⟩ := skipLine_sound _ _ _ _ _ d1 d2 hx
                obtain ⟨a, x, ha, hdw⟩ := ih _ _ _ _ hx3 h he
                obtain ⟨a', rfl, ha'⟩ := ha.head (by decide)
                refine ⟨0x2F :: 0x2F :: x1 ++ 0x0A :: a', x, ?_, ?_⟩
                · rw [hcm.2]
                  have := ((ha'.cons (c := 0x0A)).prepend x1).cons (c := 0x2F) |>.cons (c := 0x2F)
                  simpa using this
                · have := DWs.line x1 (a' ++ x) hcm.1 hx2 (dws_lf_tail hdw)
                  simpa using this
              · rw [ssK_err _ _ _ hc] at h
                cases h
                have hne := ne_skipLine n (cur (mv (cur s).2)).2
                rw [hx] at hne
                obtain rfl : e = .incomplete := he.resolve_right hne
                obtain ⟨a, ha, hx⟩ := skipLine_inc _ _ _ _ _ d1 d2 hx
                refine ⟨0x2F :: 0x2F :: a, [0x0A], ?_, ?_⟩
                · rw [hcm.2]; exact ha.cons.cons
                · have := DWs.line a [] hcm.1 hx DWs.nil
                  simpa using this
            · injection h with h1 _
              subst h1
              rcases he with he | he <;> cases he
        · injection h with h1 _
          subst h1
          rcases he with he | he <;> cases he

/-! ## keywords -/

theorem skipKeyword_inc : ∀ (ks : List Byte) (s : St) (r : List Byte) (s' : St), Rem s r →
    skipKeyword ks s = (.incomplete, s') → ∃ a x, Ends r a ∧ a ++ x = ks := by
  intro ks
  induction ks with
  | nil => intro s r s' _ h; simp [skipKeyword] at h
  | cons k ks ih =>
    intro s r s' hr h
    simp only [skipKeyword] at h
    split at h
    · rename_i h0
      exact ⟨[], k :: ks, Ends.nil (hr.head_zero (beq_true_eq h0)), rfl⟩
    · rename_i h0
      obtain ⟨t, rfl, e2⟩ := hr.step (not_beq_ne h0)
      split at h
      · cases h
      · rename_i hk
        have hk' : (cur s).1 = k := by simpa using hk
        obtain ⟨a, x, ha, hx⟩ := ih _ _ _ e2 h
        exact ⟨k :: a, x, by rw [hk']; exact ha.cons, by rw [List.cons_append, hx]⟩

/-! ## strings -/

theorem parseHex4_inc : ∀ (n acc : Nat) (s : St) (r : List Byte) (v : Nat) (s' : St), Rem s r →
    parseHex4 n acc s = (.incomplete, v, s') →
    ∃ ds, Ends r ds ∧ ds.length < n ∧ ∀ c ∈ ds, Spec.hexVal c = some (decodeHex c) := by
  intro n
  induction n with
  | zero => intro acc s r v s' _ h; simp [parseHex4] at h
  | succ n ih =>
    intro acc s r v s' hr h
    simp only [parseHex4] at h
    split at h
    · rename_i h0
      exact ⟨[], Ends.nil (hr.head_zero (beq_true_eq h0)), by simp, fun c hc => by cases hc⟩
    · rename_i h0
      obtain ⟨t, rfl, e2⟩ := hr.step (not_beq_ne h0)
      split at h
      · cases h
      · rename_i hv
        obtain ⟨ds, h1, h2, h3⟩ := ih _ _ _ _ _ e2 h
        refine ⟨(cur s).1 :: ds, h1.cons, by simp; omega, ?_⟩
        intro c hc
        rcases List.mem_cons.mp hc with rfl | hc
        · exact hexVal_of_decodeHex hv
        · exact h3 c hc

theorem hexVal_zero_digit : Spec.hexVal 0x30 = some 0 := by decide

theorem hex4_of_hexVal {a b c d : Byte} {x1 x2 x3 x4 : Nat} (ha : Spec.hexVal a = some x1) (hb : Spec.hexVal b = some x2)
    (hc : Spec.hexVal c = some x3) (hd : Spec.hexVal d = some x4) : ∃ cu, hex4 a b c d = some cu :=
  ⟨x1 * 4096 + x2 * 256 + x3 * 16 + x4, by simp only [hex4, ha, hb, hc, hd]⟩

theorem decodeBody_nil (cfg : Cfg) (stop : Byte) (hi : Nat) : decodeBody cfg stop hi [] = some [] := by
  rw [decodeBody.eq_def]

/-- a complete `\uXXXX` at the end of a body -/
theorem decodeBody_u_last {cfg : Cfg} {stop a b c d : Byte} {hi cu : Nat} (h1 : stop ≠ 0x5C)
    (hu : cfg.decodeUnicode = true) (hx : hex4 a b c d = some cu) :
    (decodeBody cfg stop hi [0x5C, 0x75, a, b, c, d]).isSome = true := by
  rw [decodeBody_u_on h1 hu, hx]
  simp only [decodeBody_nil]
  split
  · rfl
  · split <;> rfl

/-- `parseQuoted` answered `IncompleteInput`: what it read is the beginning of a string body; the completion is at
    most four bytes (a backslash after `\`, zeros after an unfinished `\uXXXX`) -/
theorem parseQuoted_inc {cfg : Cfg} {stop : Byte} (hq : IsQuote stop) :
    ∀ (fuel : Nat) (acc : List Byte) (hi : Nat) (s : St) (r : List Byte) (out : List Byte) (s' : St),
      Rem s r → parseQuoted cfg stop fuel acc hi s = (.incomplete, out, s') →
      ∃ a x, Ends r a ∧ x.length ≤ 4 ∧ ∀ hi', (decodeBody cfg stop hi' (a ++ x)).isSome = true := by
  obtain ⟨q0, q1, q2⟩ := isQuote_facts hq
  intro fuel
  induction fuel with
  | zero => intro acc hi s r out s' _ h; simp [parseQuoted] at h
  | succ n ih =>
    intro acc hi s r out s' hr h
    rw [parseQuoted_succ] at h
    split at h
    · split at h <;> cases h
    · rename_i hs
      have hs' := not_beq_ne hs
      split at h
      · rename_i h0
        exact ⟨[], [], Ends.nil (hr.head_zero (beq_true_eq h0)), by simp, fun _ => by simp [decodeBody_nil]⟩
      · rename_i h0
        have h0' := not_beq_ne h0
        obtain ⟨t, rfl, e2⟩ := hr.step h0'
        split at h
        · rename_i hb
          have hb' : (cur s).1 = 0x5C := by simpa using hb
          simp only [pqEsc] at h
          split at h
          · rename_i hd0
            refine ⟨[0x5C], [0x5C], ?_, by simp, fun hi' => ?_⟩
            · rw [hb']; exact (Ends.nil (e2.head_zero (beq_true_eq hd0))).cons
            · show (decodeBody cfg stop hi' [0x5C, 0x5C]).isSome = true
              rw [decodeBody_esc q1 (by decide)]
              have : escapes.lookup (0x5C : Byte) = some 0x5C := by decide
              simp only [this, decodeBody_nil]
              rfl
          · rename_i hd0
            have hd0' := not_beq_ne hd0
            obtain ⟨t2, rfl, f2⟩ := e2.step hd0'
            split at h
            · rename_i hdu
              have hdu' : (cur (mv (cur s).2)).1 = 0x75 := by simpa using hdu
              split at h
              · rename_i hcfg
                generalize hx : parseHex4 4 0 (mv (cur (mv (cur s).2)).2) = rx at h
                obtain ⟨e, cu, s1⟩ := rx
                by_cases he : e = .ok
                · subst he
                  obtain ⟨acc', hi', eq⟩ := pqHex_ok cfg stop n acc hi cu
                  rw [eq] at h
                  obtain ⟨a, b, c, d, r4, rfl, g2, g3, g4⟩ := parseHex4_four_sound f2 hx
                  obtain ⟨a', x, i1, i2, i3⟩ := ih _ _ _ _ _ _ g3 h
                  refine ⟨0x5C :: 0x75 :: a :: b :: c :: d :: a', x, ?_, i2, fun hi' => ?_⟩
                  · rw [hb', hdu']; exact i1.cons.cons.cons.cons.cons.cons
                  · show (decodeBody cfg stop hi' (0x5C :: 0x75 :: a :: b :: c :: d :: (a' ++ x))).isSome = true
                    rw [decodeBody_u_on q1 hcfg, g2]
                    simp only
                    split
                    · exact i3 _
                    · split
                      · rw [Option.isSome_map]; exact i3 hi'
                      · rw [Option.isSome_map]; exact i3 hi'
                · rw [pqHex_err _ _ _ _ _ _ _ he] at h
                  injection h with h1 _
                  subst h1
                  obtain ⟨ds, j1, j2, j3⟩ := parseHex4_inc _ _ _ _ _ _ f2 hx
                  have hz := hexVal_zero_digit
                  -- complete the four digits with zeros
                  have key : ∃ x, x.length ≤ 4 ∧ ∃ a b c d, ds ++ x = [a, b, c, d] ∧ ∃ cu, hex4 a b c d = some cu := by
                    match ds, j2, j3 with
                    | [], _, _ => exact ⟨[0x30, 0x30, 0x30, 0x30], by simp, _, _, _, _, rfl, hex4_of_hexVal hz hz hz hz⟩
                    | [a], _, j3 =>
                      exact ⟨[0x30, 0x30, 0x30], by simp, _, _, _, _, rfl, hex4_of_hexVal (j3 a (by simp)) hz hz hz⟩
                    | [a, b], _, j3 =>
                      exact ⟨[0x30, 0x30], by simp, _, _, _, _, rfl, hex4_of_hexVal (j3 a (by simp)) (j3 b (by simp)) hz hz⟩
                    | [a, b, c], _, j3 =>
                      exact ⟨[0x30], by simp, _, _, _, _, rfl,
                        hex4_of_hexVal (j3 a (by simp)) (j3 b (by simp)) (j3 c (by simp)) hz⟩
                    | _ :: _ :: _ :: _ :: _, j2, _ => simp at j2; omega
                  obtain ⟨x, hx1, a, b, c, d, hx2, cu, hx3⟩ := key
                  refine ⟨0x5C :: 0x75 :: ds, x, ?_, hx1, fun hi' => ?_⟩
                  · rw [hb', hdu']; exact j1.cons.cons
                  · show (decodeBody cfg stop hi' (0x5C :: 0x75 :: (ds ++ x))).isSome = true
                    rw [hx2]
                    exact decodeBody_u_last q1 hcfg hx3
              · rename_i hcfg
                have hcfg' : cfg.decodeUnicode = false := by simpa using hcfg
                obtain ⟨k1, _, _, _, _⟩ := e2.look
                obtain ⟨a', x, i1, i2, i3⟩ := ih _ _ _ _ _ _ k1 h
                rw [hdu'] at i1
                obtain ⟨a'', rfl, i1'⟩ := i1.head (by decide)
                refine ⟨0x5C :: 0x75 :: a'', x, ?_, i2, fun hi' => ?_⟩
                · rw [hb', hdu']; exact i1'.cons.cons
                · show (decodeBody cfg stop hi' (0x5C :: 0x75 :: (a'' ++ x))).isSome = true
                  have := i3 hi'
                  rw [show 0x75 :: a'' ++ x = 0x75 :: (a'' ++ x) by rfl,
                    decodeBody_plain (Ne.symm q2) (by decide) (by decide), Option.isSome_map] at this
                  rw [decodeBody_u_off q1 hcfg', Option.isSome_map]
                  exact this
            · rename_i hdu
              have hdu' := not_beq_ne hdu
              split at h
              · cases h
              · rename_i hun
                have hun' := not_beq_ne hun
                obtain ⟨a', x, i1, i2, i3⟩ := ih _ _ _ _ _ _ f2 h
                refine ⟨0x5C :: (cur (mv (cur s).2)).1 :: a', x, ?_, i2, fun hi' => ?_⟩
                · rw [hb']; exact i1.cons.cons
                · show (decodeBody cfg stop hi' (0x5C :: (cur (mv (cur s).2)).1 :: (a' ++ x))).isSome = true
                  rw [decodeBody_esc q1 hdu', escapes_lookup hun']
                  simp only [Option.isSome_map]
                  exact i3 hi'
        · rename_i hb
          have hb' := not_beq_ne hb
          obtain ⟨a', x, i1, i2, i3⟩ := ih _ _ _ _ _ _ e2 h
          refine ⟨(cur s).1 :: a', x, i1.cons, i2, fun hi' => ?_⟩
          show (decodeBody cfg stop hi' ((cur s).1 :: (a' ++ x))).isSome = true
          rw [decodeBody_plain hs' h0' hb', Option.isSome_map]
          exact i3 hi'

end JD
