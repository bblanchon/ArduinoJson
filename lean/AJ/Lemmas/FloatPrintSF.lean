/- C12 (printing clauses): softfloat facts over ℚ used by the printer analysis: comparisons, truncation, exact roundings
   (a value that is representable is returned exactly), exact subtraction of the integral part, doubling. -/
import AJ.Lemmas.FloatErrTop
namespace C12
open SF JD

/-! ## comparisons of non-negative finite data are comparisons of their exact values -/

theorem qv_lt_iff_scaled (ma mb : Nat) (ea eb E : Int) (h1 : E ≤ ea) (h2 : E ≤ eb) :
    qv ma ea < qv mb eb ↔ ma * 2 ^ (ea - E).toNat < mb * 2 ^ (eb - E).toNat := by
  rw [← qv_scaled ma ea E h1, ← qv_scaled mb eb E h2]
  unfold qv
  have hp := two_zpow_pos E
  constructor
  · intro h
    have := lt_of_mul_lt_mul_right h hp.le
    exact_mod_cast this
  · intro h
    have : ((ma * 2 ^ (ea - E).toNat : Nat) : ℚ) < ((mb * 2 ^ (eb - E).toNat : Nat) : ℚ) := by exact_mod_cast h
    exact mul_lt_mul_of_pos_right this hp

theorem lt_q (f : Fmt) (a b : Nat) (ma mb : Nat) (ea eb : Int)
    (ha : decode f a = .fin false ma ea) (hb : decode f b = .fin false mb eb) :
    SF.lt f a b = true ↔ qv ma ea < qv mb eb := by
  rw [lt_fin f a b false false ma mb ea eb ha hb, qv_lt_iff_scaled ma mb ea eb (min ea eb) (by omega) (by omega)]
  unfold DyLt sv sgnm
  simp only [Bool.false_eq_true, if_false]
  constructor
  · intro h; exact_mod_cast h
  · intro h; exact_mod_cast h

theorem lt_q_false (f : Fmt) (a b : Nat) (ma mb : Nat) (ea eb : Int)
    (ha : decode f a = .fin false ma ea) (hb : decode f b = .fin false mb eb) :
    SF.lt f a b = false ↔ qv mb eb ≤ qv ma ea := by
  rw [← not_lt, ← lt_q f a b ma mb ea eb ha hb]; simp

theorem le_q (f : Fmt) (a b : Nat) (ma mb : Nat) (ea eb : Int)
    (ha : decode f a = .fin false ma ea) (hb : decode f b = .fin false mb eb) :
    SF.le f a b = true ↔ qv ma ea ≤ qv mb eb := by
  have h := lt_q_false f b a mb ma eb ea hb ha
  unfold SF.le
  rw [ha, hb]
  simp only [Bool.not_eq_true']
  exact h

theorem ge_q (f : Fmt) (a b : Nat) (ma mb : Nat) (ea eb : Int)
    (ha : decode f a = .fin false ma ea) (hb : decode f b = .fin false mb eb) :
    SF.ge f a b = true ↔ qv mb eb ≤ qv ma ea := by
  unfold SF.ge; exact le_q f b a mb ma eb ea hb ha

theorem gt_q (f : Fmt) (a b : Nat) (ma mb : Nat) (ea eb : Int)
    (ha : decode f a = .fin false ma ea) (hb : decode f b = .fin false mb eb) :
    SF.gt f a b = true ↔ qv mb eb < qv ma ea := by
  unfold SF.gt; exact lt_q f b a mb ma eb ea hb ha

/-! ## truncation -/

theorem toNatTrunc_fin (f : Fmt) (a : Nat) (n : Bool) (m : Nat) (e : Int) (h : decode f a = .fin n m e) :
    toNatTrunc f a = if e ≥ 0 then m * 2 ^ e.toNat else m / 2 ^ (-e).toNat := by
  unfold toNatTrunc; rw [h]

/-- `toNatTrunc` is the floor of the exact value, and the fractional part is the datum `(m mod 2^-e)·2^e` -/
theorem toNatTrunc_floor (f : Fmt) (a : Nat) (n : Bool) (m : Nat) (e : Int) (h : decode f a = .fin n m e) :
    ((toNatTrunc f a : Nat) : ℚ) ≤ qv m e ∧ qv m e < ((toNatTrunc f a : Nat) : ℚ) + 1 ∧
    ∃ r : Nat, r ≤ m ∧ qv m e - ((toNatTrunc f a : Nat) : ℚ) = qv r e ∧ (0 ≤ e → r = 0) := by
  rw [toNatTrunc_fin f a n m e h]
  by_cases he : e ≥ 0
  · rw [if_pos he]
    have : qv m e = ((m * 2 ^ e.toNat : Nat) : ℚ) := by
      unfold qv
      conv_lhs => rw [← Int.toNat_of_nonneg he, zpow_natCast]
      push_cast; ring
    rw [this]
    refine ⟨le_refl _, by linarith, 0, Nat.zero_le _, ?_, fun _ => rfl⟩
    unfold qv; simp
  · rw [if_neg he]
    have hk : e = -(((-e).toNat : Nat) : Int) := by omega
    generalize (-e).toNat = k at hk
    have hK : (0 : ℚ) < (2 : ℚ) ^ k := by positivity
    have hq : qv m e = (m : ℚ) / (2 : ℚ) ^ k := by
      unfold qv; rw [hk, zpow_neg, zpow_natCast]; ring
    have hdm := Nat.div_add_mod m (2 ^ k)
    have hr := Nat.mod_lt m (Nat.two_pow_pos k)
    have hmq : (m : ℚ) = (2 : ℚ) ^ k * ((m / 2 ^ k : Nat) : ℚ) + ((m % 2 ^ k : Nat) : ℚ) := by
      have : ((2 ^ k * (m / 2 ^ k) + m % 2 ^ k : Nat) : ℚ) = (m : ℚ) := by rw [hdm]
      rw [← this]; push_cast; ring
    have hrq : ((m % 2 ^ k : Nat) : ℚ) < (2 : ℚ) ^ k := by
      have : ((m % 2 ^ k : Nat) : ℚ) < ((2 ^ k : Nat) : ℚ) := by exact_mod_cast hr
      simpa using this
    have hr0 : (0 : ℚ) ≤ ((m % 2 ^ k : Nat) : ℚ) := by positivity
    have hfr : qv (m % 2 ^ k) e = ((m % 2 ^ k : Nat) : ℚ) / (2 : ℚ) ^ k := by
      unfold qv; rw [hk, zpow_neg, zpow_natCast]; ring
    generalize ((m / 2 ^ k : Nat) : ℚ) = Q at *
    generalize ((m % 2 ^ k : Nat) : ℚ) = R at *
    refine ⟨?_, ?_, m % 2 ^ k, Nat.mod_le _ _, ?_, fun h0 => absurd h0 he⟩
    · rw [hq, le_div_iff₀ hK]; nlinarith
    · rw [hq, div_lt_iff₀ hK]; nlinarith
    · rw [hfr, hq, hmq]
      field_simp
      ring

/-! ## a representable value is returned exactly -/

theorem rneShift_mul_pow (q k : Nat) : rneShift (q * 2 ^ k) k = q := by
  unfold rneShift
  by_cases hk : k = 0
  · subst hk; simp
  · rw [if_neg hk]
    have h1 : q * 2 ^ k / 2 ^ k = q := Nat.mul_div_cancel _ (Nat.two_pow_pos k)
    have h2 : q * 2 ^ k % 2 ^ k = 0 := Nat.mul_mod_left _ _
    simp only [h1, h2]
    have : 0 < 2 ^ (k - 1) := Nat.two_pow_pos _
    rw [if_neg (by omega), if_pos (by omega)]

theorem log2_mul_pow (m k : Nat) (hm : m ≠ 0) : Nat.log2 (m * 2 ^ k) = Nat.log2 m + k := by
  have h0 : m * 2 ^ k ≠ 0 := Nat.mul_ne_zero hm (Nat.pos_iff_ne_zero.mp (Nat.two_pow_pos k))
  rw [Nat.log2_eq_iff h0]
  constructor
  · rw [Nat.pow_add]; exact Nat.mul_le_mul_right _ (Nat.log2_self_le hm)
  · rw [show Nat.log2 m + k + 1 = (Nat.log2 m + 1) + k by omega, Nat.pow_add]
    exact Nat.mul_lt_mul_of_pos_right Nat.lt_log2_self (Nat.two_pow_pos k)

/-- EXACT ROUNDING: the value `m'·2^e'` with `m' < 2^(mbits+1)`, `e' ≥ emin` (a datum of the format), presented to `roundPos` as
    `(m'·2^k)·2^(e'-k)`, is returned exactly -/
theorem roundPos_scaled_exact (f : Fmt) (n : Bool) (m' : Nat) (e' : Int) (k : Nat) (hm' : m' ≠ 0)
    (hlt : m' < 2 ^ (f.mbits + 1)) (he' : emin f ≤ e') (hf : 0 < f.emax) (htop : e' + 1 + f.bias + f.mbits < f.emax) :
    ∃ (m'' : Nat) (e'' : Int), decode f (roundPos f n (m' * 2 ^ k) (e' - k)) = .fin n m'' e'' ∧ qv m'' e'' = qv m' e' := by
  have hm : m' * 2 ^ k ≠ 0 := Nat.mul_ne_zero hm' (Nat.pos_iff_ne_zero.mp (Nat.two_pow_pos k))
  have hL : Nat.log2 m' ≤ f.mbits := by
    have := (Nat.log2_lt hm').2 hlt; omega
  have hE : rpExp f (m' * 2 ^ k) (e' - k) = max (e' + (Nat.log2 m' : Int) - f.mbits) (emin f) := by
    rw [rpExp_eq, log2_mul_pow m' k hm']; push_cast; omega
  have hle : rpExp f (m' * 2 ^ k) (e' - k) ≤ e' := by rw [hE]; omega
  obtain ⟨hres, hexact, hround⟩ := roundPos_spec f n (m' * 2 ^ k) (e' - k) hm hf
  generalize rpExp f (m' * 2 ^ k) (e' - k) = e1 at *
  -- the rounded mantissa is `m'` shifted to the exponent `e1 ≤ e'`: a shift to the right only drops zeros
  have hM : rpMant (m' * 2 ^ k) (e' - k) e1 = m' * 2 ^ (e' - e1).toNat := by
    by_cases hc : e1 ≤ e' - k
    · rw [hexact hc]
      have hj : (e' - e1).toNat = k + (e' - k - e1).toNat := by omega
      rw [hj, Nat.pow_add, Nat.mul_assoc]
    · rw [(hround (by omega)).2.1]
      obtain ⟨i, hi⟩ : ∃ i, i = (e' - e1).toNat := ⟨_, rfl⟩
      obtain ⟨j, hj⟩ : ∃ j, j = (e1 - (e' - k)).toNat := ⟨_, rfl⟩
      rw [← hi, ← hj]
      have hk : k = i + j := by omega
      rw [hk, Nat.pow_add, ← Nat.mul_assoc]
      exact rneShift_mul_pow _ _
  rcases hres with ⟨_, hinf⟩ | ⟨m'', e'', hd, hle2, hval⟩
  · exfalso; omega
  · refine ⟨m'', e'', hd, ?_⟩
    rw [← qv_scaled m'' e'' e1 hle2, hval, hM, qv_scaled m' e' e1 hle]

theorem decode_zero (f : Fmt) (hf : 0 < f.emax) : decode f 0 = .fin false 0 (emin f) := by
  have := decode_sub f false 0 (Nat.two_pow_pos _) hf
  simpa using this

/-- EXACT SUBTRACTION: if the exact difference `a − b ≥ 0` of two non-negative data is a datum `m'·2^e'` of the format
    (with `e'` not below the smaller exponent), `sub` returns it exactly -/
theorem sub_exactQ (f : Fmt) (a b ma mb : Nat) (ea eb : Int) (ha : decode f a = .fin false ma ea)
    (hb : decode f b = .fin false mb eb) (m' : Nat) (e' : Int) (hlt : m' < 2 ^ (f.mbits + 1)) (he' : emin f ≤ e')
    (hmin : min ea eb ≤ e') (hval : qv ma ea - qv mb eb = qv m' e') (hf : 0 < f.emax)
    (htop : m' ≠ 0 → e' + 1 + f.bias + f.mbits < f.emax) :
    ∃ (m'' : Nat) (e'' : Int), decode f (SF.sub f a b) = .fin false m'' e'' ∧ qv m'' e'' = qv m' e' := by
  obtain ⟨e, hee⟩ : ∃ e, e = min ea eb := ⟨_, rfl⟩
  have h1 : e ≤ ea := by omega
  have h2 : e ≤ eb := by omega
  have h3 : e ≤ e' := by omega
  -- the three scaled naturals
  have hnat : ma * 2 ^ (ea - e).toNat = mb * 2 ^ (eb - e).toNat + m' * 2 ^ (e' - e).toNat := by
    rw [← qv_scaled ma ea e h1, ← qv_scaled mb eb e h2, ← qv_scaled m' e' e h3] at hval
    unfold qv at hval
    have hp := two_zpow_pos e
    have : ((ma * 2 ^ (ea - e).toNat : Nat) : ℚ) = ((mb * 2 ^ (eb - e).toNat : Nat) : ℚ) + ((m' * 2 ^ (e' - e).toNat : Nat) : ℚ) := by
      have h4 : (((ma * 2 ^ (ea - e).toNat : Nat) : ℚ) - ((mb * 2 ^ (eb - e).toNat : Nat) : ℚ) - ((m' * 2 ^ (e' - e).toNat : Nat) : ℚ)) * 2 ^ e = 0 := by
        linarith
      rcases mul_eq_zero.mp h4 with h5 | h5
      · linarith
      · exact absurd h5 hp.ne'
    exact_mod_cast this
  unfold SF.sub
  rw [ha, hb]
  simp only [Bool.false_eq_true, if_false, Int.one_mul, ← hee]
  by_cases hm0 : m' = 0
  · subst hm0
    have hd : ((ma * 2 ^ (ea - e).toNat : Nat) : Int) - ((mb * 2 ^ (eb - e).toNat : Nat) : Int) = 0 := by
      rw [hnat]; push_cast; simp
    rw [if_pos hd]
    exact ⟨0, emin f, decode_zero f hf, by unfold qv; simp⟩
  · have hC : 0 < m' * 2 ^ (e' - e).toNat := Nat.mul_pos (Nat.pos_of_ne_zero hm0) (Nat.two_pow_pos _)
    have hd : ((ma * 2 ^ (ea - e).toNat : Nat) : Int) - ((mb * 2 ^ (eb - e).toNat : Nat) : Int) = ((m' * 2 ^ (e' - e).toNat : Nat) : Int) := by
      rw [hnat]; push_cast; ring
    rw [hd, if_neg (by exact_mod_cast hC.ne')]
    have hneg : decide (((m' * 2 ^ (e' - e).toNat : Nat) : Int) < 0) = false := by
      simp only [decide_eq_false_iff_not, not_lt]; exact Int.natCast_nonneg _
    rw [hneg, Int.natAbs_natCast]
    have hee' : e = e' - ((e' - e).toNat : Int) := by omega
    conv => enter [1, m'', 1, e'', 1, 1, 2, 4]; rw [hee']
    exact roundPos_scaled_exact f false m' e' _ hm0 hlt he' hf (htop hm0)

theorem ofNat_zero (f : Fmt) : ofNat f 0 = 0 := by simp [ofNat, roundPos]

/-- a non-negative binary64 datum minus its integral part (below `2^53`): exact -/
theorem sub_trunc (a ma : Nat) (ea : Int) (ha : decode b64 a = .fin false ma ea) (hT : toNatTrunc b64 a < 2 ^ 53) :
    ∃ (m'' : Nat) (e'' : Int), decode b64 (SF.sub b64 a (ofNat b64 (toNatTrunc b64 a))) = .fin false m'' e'' ∧
      qv m'' e'' = qv ma ea - ((toNatTrunc b64 a : Nat) : ℚ) := by
  obtain ⟨_, _, r, hr, hfr, hr0⟩ := toNatTrunc_floor b64 a false ma ea ha
  obtain ⟨hb1, hb2⟩ := decode_fin_bounds b64 a false ma ea ha
  have hemin : emin b64 = -1074 := by decide
  have htop : r ≠ 0 → ea + 1 + (b64.bias : Int) + (b64.mbits : Int) < (b64.emax : Int) := by
    intro hr1
    have : ea < 0 := by
      by_contra hc
      exact hr1 (hr0 (by omega))
    show ea + 1 + (1023 : Int) + (52 : Int) < (2047 : Int)
    omega
  have key : ∀ (mb : Nat) (eb : Int), decode b64 (ofNat b64 (toNatTrunc b64 a)) = .fin false mb eb →
      qv mb eb = ((toNatTrunc b64 a : Nat) : ℚ) →
      ∃ (m'' : Nat) (e'' : Int), decode b64 (SF.sub b64 a (ofNat b64 (toNatTrunc b64 a))) = .fin false m'' e'' ∧
        qv m'' e'' = qv ma ea - ((toNatTrunc b64 a : Nat) : ℚ) := by
    intro mb eb hdb hvb
    have := sub_exactQ b64 a _ ma mb ea eb ha hdb r ea (lt_of_le_of_lt hr hb2) hb1 (by omega)
      (by rw [hvb]; exact hfr) (by decide) htop
    rw [hfr]; exact this
  by_cases h0 : toNatTrunc b64 a = 0
  · refine key 0 (emin b64) ?_ ?_
    · rw [h0, ofNat_zero]; exact decode_zero b64 (by decide)
    · rw [h0]; unfold qv; simp
  · obtain ⟨mb, eb, hdb, _, hvb⟩ := ofNat_exactQ b64 _ h0 hT (by decide) (by decide)
    exact key mb eb hdb hvb

theorem decode_two64 : decode b64 0x4000000000000000 = .fin false (2 ^ 52) (-51) := by decide +kernel

theorem exp_neg_of_lt_one {m : Nat} {e : Int} (hm : m ≠ 0) (h : qv m e < 1) : e < 0 := by
  by_contra hc
  have h1 : (1 : ℚ) ≤ (m : ℚ) := by exact_mod_cast Nat.pos_of_ne_zero hm
  have h2 : (1 : ℚ) ≤ (2 : ℚ) ^ e := one_le_zpow₀ (by norm_num) (by omega)
  unfold qv at h
  nlinarith

/-- doubling a non-negative binary64 datum below 1 is exact -/
theorem mul_two_exact (a ma : Nat) (ea : Int) (ha : decode b64 a = .fin false ma ea) (h1 : qv ma ea < 1) :
    ∃ (m'' : Nat) (e'' : Int), decode b64 (SF.mul b64 a 0x4000000000000000) = .fin false m'' e'' ∧
      qv m'' e'' = 2 * qv ma ea := by
  obtain ⟨hb1, hb2⟩ := decode_fin_bounds b64 a false ma ea ha
  rw [mul_fin b64 a _ false false ma (2 ^ 52) ea (-51) ha decode_two64]
  have hx : (false != false) = false := rfl
  rw [hx]
  by_cases hm : ma = 0
  · subst hm
    refine ⟨0, emin b64, ?_, by unfold qv; simp⟩
    have : roundPos b64 false (0 * 2 ^ 52) (ea + -51) = 0 := by simp [roundPos]
    rw [this]; exact decode_zero b64 (by decide)
  · have hneg := exp_neg_of_lt_one hm h1
    have he : ea + -51 = (ea + 1) - ((52 : Nat) : Int) := by push_cast; ring
    rw [he]
    obtain ⟨m'', e'', hd, hv⟩ := roundPos_scaled_exact b64 false ma (ea + 1) 52 hm hb2 (by omega) (by decide)
      (by show ea + 1 + 1 + (1023 : Int) + (52 : Int) < (2047 : Int); omega)
    refine ⟨m'', e'', hd, ?_⟩
    rw [hv]; unfold qv
    rw [zpow_add₀ (by norm_num : (2 : ℚ) ≠ 0)]; ring

/-- the printer's rounding of the decimal part: `trunc(r) + trunc(2·(r − trunc(r)))` is `r` rounded half up -/
theorem round_half_up (rem mR : Nat) (eR : Int) (h : decode b64 rem = .fin false mR eR) (hT : toNatTrunc b64 rem < 2 ^ 53) :
    (((toNatTrunc b64 rem + toNatTrunc b64 (SF.mul b64 (SF.sub b64 rem (ofNat b64 (toNatTrunc b64 rem))) 0x4000000000000000) : Nat) : ℚ)
        - 1 / 2 ≤ qv mR eR) ∧
    qv mR eR < ((toNatTrunc b64 rem + toNatTrunc b64 (SF.mul b64 (SF.sub b64 rem (ofNat b64 (toNatTrunc b64 rem))) 0x4000000000000000) : Nat) : ℚ)
        + 1 / 2 := by
  obtain ⟨f1, f2, _⟩ := toNatTrunc_floor b64 rem false mR eR h
  obtain ⟨m1, e1, hd1, hv1⟩ := sub_trunc rem mR eR h hT
  obtain ⟨m2, e2, hd2, hv2⟩ := mul_two_exact _ m1 e1 hd1 (by rw [hv1]; linarith)
  obtain ⟨g1, g2, _⟩ := toNatTrunc_floor b64 _ false m2 e2 hd2
  rw [hv2, hv1] at g1 g2
  generalize toNatTrunc b64 (SF.mul b64 (SF.sub b64 rem (ofNat b64 (toNatTrunc b64 rem))) 0x4000000000000000) = T2 at *
  generalize toNatTrunc b64 rem = T at *
  have hT2 : T2 < 2 := by
    have : (T2 : ℚ) < 2 := by linarith
    exact_mod_cast this
  push_cast
  have : T2 = 0 ∨ T2 = 1 := by omega
  rcases this with rfl | rfl
  · push_cast at g1 g2 ⊢; constructor <;> linarith
  · push_cast at g1 g2 ⊢; constructor <;> linarith

end C12
