/- C20: the rules by which a step of the history interpreter is shown to have a footprint (`C20.Local`, AJ/Lemmas/HistFrame.lean).
   Static footprints (`FP.static D R U B`: fixed sets of documents written / read, references used / rebound):
   `Local.pure`, `readDoc`, `writeDoc`, `readRef`, `writeRef`, `Local.bind` (sequencing), `Local.mono_static` (a larger
   footprint is a footprint) and the derived `modDoc`, `modDocFrom`, `obsDoc`.
   Footprints that depend on the world: `Local.ofRef` - a step that first looks a reference up and then behaves, for each
   value of the reference, as a step with its own footprint. -/
import AJ.Lemmas.HistFrame
namespace C20
open DL
open DH (W Ref)

/-! ## Static footprints -/

/-- side conditions of a static footprint: what is written is read, what is rebound is used -/
structure SOK (D R U B : Nat → Prop) : Prop where
  dr : ∀ j, D j → R j
  bu : ∀ r, B r → U r

/-- what has to be checked for a step with a static footprint -/
theorem Local.of_static {O : Type} {f : Step O} {D R U B : Nat → Prop} (ok : SOK D R U B)
    (fd : ∀ w j, ¬ D j → (f w).2.docs[j]? = w.docs[j]?) (fr : ∀ w r, ¬ B r → (f w).2.refs[r]? = w.refs[r]?)
    (rest : ∀ w, (f w).2.log = w.log ∧ (f w).2.dead = w.dead ∧ (f w).2.geo = w.geo ∧ (f w).2.strOverhead = w.strOverhead ∧
      (f w).2.maxStrLen = w.maxStrLen)
    (loc : ∀ w w', (∀ j, R j → w.docs[j]? = w'.docs[j]?) → (∀ r, U r → w.refs[r]? = w'.refs[r]?) →
      (f w).1 = (f w').1 ∧ (∀ j, D j → (f w).2.docs[j]? = (f w').2.docs[j]?) ∧
      (∀ r, B r → (f w).2.refs[r]? = (f w').2.refs[r]?)) :
    Local f (FP.static D R U B) :=
  ⟨fd, fr, rest, fun _ => ok.dr, ok.bu, fun w w' h =>
    let ⟨a, b, c⟩ := loc w w' h.1 h.2
    ⟨a, b, c, fun _ => Iff.rfl, fun _ => Iff.rfl⟩⟩

/-- a larger static footprint is a footprint -/
theorem Local.mono_static {O : Type} {f : Step O} {D R U B D' R' U' B' : Nat → Prop}
    (h : Local f (FP.static D R U B)) (hD : ∀ j, D j → D' j) (hR : ∀ j, R j → R' j) (hU : ∀ r, U r → U' r)
    (hB : ∀ r, B r → B' r) (ok : SOK D' R' U' B') : Local f (FP.static D' R' U' B') := by
  refine Local.of_static ok (fun w j hj => h.frame_docs w j (fun x => hj (hD j x)))
    (fun w r hr => h.frame_refs w r (fun x => hr (hB r x))) h.frame_rest (fun w w' hd hr => ?_)
  obtain ⟨a, b, c, _, _⟩ := h.loc w w' ⟨fun j hj => hd j (hR j hj), fun r x => hr r (hU r x)⟩
  refine ⟨a, fun j hj => ?_, fun r x => ?_⟩
  · by_cases hh : D j
    · exact b j hh
    · rw [h.frame_docs w j hh, h.frame_docs w' j hh]; exact hd j (ok.dr j hj)
  · by_cases hh : B r
    · exact c r hh
    · rw [h.frame_refs w r hh, h.frame_refs w' r hh]; exact hr r (ok.bu r x)

def none' : Nat → Prop := fun _ => False
def one (i : Nat) : Nat → Prop := fun j => j = i
def two (i k : Nat) : Nat → Prop := fun j => j = i ∨ j = k

theorem sok_none : SOK none' none' none' none' := ⟨fun _ h => h, fun _ h => h⟩

/-- a step that does nothing -/
theorem Local.pure {O : Type} (o : O) : Local (fun w => (o, w)) (FP.static none' none' none' none') :=
  Local.of_static sok_none (fun _ _ _ => rfl) (fun _ _ _ => rfl) (fun _ => ⟨rfl, rfl, rfl, rfl, rfl⟩)
    (fun _ _ _ _ => ⟨rfl, fun _ h => h.elim, fun _ h => h.elim⟩)

theorem docs_bang_congr {w w' : W} {i : Nat} (h : w.docs[i]? = w'.docs[i]?) : w.docs[i]! = w'.docs[i]! := by
  rw [getElem!_eq_getD?, getElem!_eq_getD?, h]
theorem refs_bang_congr {w w' : W} {i : Nat} (h : w.refs[i]? = w'.refs[i]?) : w.refs[i]! = w'.refs[i]! := by
  rw [getElem!_eq_getD?, getElem!_eq_getD?, h]

theorem Local.readDoc (i : Nat) : Local (fun w => (w.docs[i]!, w)) (FP.static none' (one i) none' none') :=
  Local.of_static ⟨fun _ h => h.elim, fun _ h => h⟩ (fun _ _ _ => rfl) (fun _ _ _ => rfl) (fun _ => ⟨rfl, rfl, rfl, rfl, rfl⟩)
    (fun _ _ hd _ => ⟨docs_bang_congr (hd i rfl), fun _ h => h.elim, fun _ h => h.elim⟩)

theorem Local.readRef (r : Nat) : Local (fun w => (w.refs[r]!, w)) (FP.static none' none' (one r) none') :=
  Local.of_static ⟨fun _ h => h, fun _ h => h.elim⟩ (fun _ _ _ => rfl) (fun _ _ _ => rfl) (fun _ => ⟨rfl, rfl, rfl, rfl, rfl⟩)
    (fun _ _ _ hr => ⟨refs_bang_congr (hr r rfl), fun _ h => h.elim, fun _ h => h.elim⟩)

theorem Local.writeDoc (i : Nat) (d : Doc) :
    Local (fun w => ((), { w with docs := w.docs.set! i d })) (FP.static (one i) (one i) none' none') :=
  Local.of_static ⟨fun _ h => h, fun _ h => h⟩
    (fun w j hj => getElem?_set!_ne _ _ (fun h => hj h.symm)) (fun _ _ _ => rfl) (fun _ => ⟨rfl, rfl, rfl, rfl, rfl⟩)
    (fun w w' hd _ => ⟨rfl, fun j hj => by
      show (w.docs.set! i d)[j]? = (w'.docs.set! i d)[j]?
      rw [getElem?_set!, getElem?_set!, hd j hj], fun _ h => h.elim⟩)

theorem Local.writeRef (r : Nat) (x : Ref) :
    Local (fun w => ((), { w with refs := w.refs.set! r x })) (FP.static none' none' (one r) (one r)) :=
  Local.of_static ⟨fun _ h => h, fun _ h => h⟩ (fun _ _ _ => rfl)
    (fun w j hj => getElem?_set!_ne _ _ (fun h => hj h.symm)) (fun _ => ⟨rfl, rfl, rfl, rfl, rfl⟩)
    (fun w w' _ hr => ⟨rfl, fun _ h => h.elim, fun j hj => by
      show (w.refs.set! r x)[j]? = (w'.refs.set! r x)[j]?
      rw [getElem?_set!, getElem?_set!, hr j hj]⟩)

/-- **sequencing**: `g` runs on the output and the world of `f`; both inside the same static footprint -/
theorem Local.bind {O O' : Type} {f : Step O} {g : O → Step O'} {D R U B : Nat → Prop}
    (hf : Local f (FP.static D R U B)) (hg : ∀ o, Local (g o) (FP.static D R U B)) :
    Local (fun w => g (f w).1 (f w).2) (FP.static D R U B) := by
  refine Local.of_static ⟨hf.wr_rd DH.W.init, hf.bind_use⟩ (fun w j hj => ?_) (fun w r hr => ?_) (fun w => ?_)
    (fun w w' hd hr => ?_)
  · exact ((hg _).frame_docs _ j hj).trans (hf.frame_docs w j hj)
  · exact ((hg _).frame_refs _ r hr).trans (hf.frame_refs w r hr)
  · exact ((hg (f w).1).rest (f w).2).trans (hf.rest w)
  · obtain ⟨o, dd, rr, _, _⟩ := hf.loc w w' ⟨hd, hr⟩
    have hd1 : ∀ j, R j → (f w).2.docs[j]? = (f w').2.docs[j]? := fun j hj => by
      by_cases h : D j
      · exact dd j h
      · rw [hf.frame_docs w j h, hf.frame_docs w' j h]; exact hd j hj
    have hr1 : ∀ r, U r → (f w).2.refs[r]? = (f w').2.refs[r]? := fun r hx => by
      by_cases h : B r
      · exact rr r h
      · rw [hf.frame_refs w r h, hf.frame_refs w' r h]; exact hr r hx
    obtain ⟨o2, dd2, rr2, _, _⟩ := (hg (f w).1).loc (f w).2 (f w').2 ⟨hd1, hr1⟩
    rw [← o]
    exact ⟨o2, dd2, rr2⟩

/-- change the output -/
theorem Local.map {O O' : Type} {f : Step O} {p : FP} (hf : Local f p) (k : O → O') :
    Local (fun w => (k (f w).1, (f w).2)) p :=
  ⟨hf.frame_docs, hf.frame_refs, hf.frame_rest, hf.wr_rd, hf.bind_use, fun w w' h =>
    let ⟨a, b⟩ := hf.loc w w' h
    ⟨congrArg k a, b⟩⟩

/-- a single-document operation on document `i`: output and new document are functions of the old document -/
def modDoc {O : Type} (i : Nat) (k : Doc → O × Doc) : Step O :=
  fun w => ((k (w.docs[i]!)).1, { w with docs := w.docs.set! i (k (w.docs[i]!)).2 })

theorem sok_one (i : Nat) : SOK (one i) (one i) none' none' := ⟨fun _ h => h, fun _ h => h⟩

theorem Local.modDoc {O : Type} (i : Nat) (k : Doc → O × Doc) : Local (C20.modDoc i k) (FP.static (one i) (one i) none' none') := by
  have h1 : Local (fun w => (w.docs[i]!, w)) (FP.static (one i) (one i) none' none') :=
    (Local.readDoc i).mono_static (fun _ h => h.elim) (fun _ h => h) (fun _ h => h) (fun _ h => h) (sok_one i)
  exact Local.bind h1 (fun d => (Local.writeDoc i (k d).2).map (fun _ => (k d).1))

/-- an operation on document `i` that also reads document `src` (a deep copy from `src` into `i`) -/
def modDocFrom {O : Type} (i src : Nat) (k : Doc → Doc → O × Doc) : Step O :=
  fun w => ((k (w.docs[i]!) (w.docs[src]!)).1, { w with docs := w.docs.set! i (k (w.docs[i]!) (w.docs[src]!)).2 })

theorem sok_two (i k : Nat) : SOK (one i) (two i k) none' none' := ⟨fun _ h => Or.inl h, fun _ h => h⟩

theorem Local.modDocFrom {O : Type} (i src : Nat) (k : Doc → Doc → O × Doc) :
    Local (C20.modDocFrom i src k) (FP.static (one i) (two i src) none' none') := by
  have h1 : Local (fun w => (w.docs[src]!, w)) (FP.static (one i) (two i src) none' none') :=
    (Local.readDoc src).mono_static (fun _ h => h.elim) (fun _ h => Or.inr h) (fun _ h => h) (fun _ h => h) (sok_two i src)
  exact Local.bind h1 (fun s => (Local.modDoc i (fun d => k d s)).mono_static (fun _ h => h) (fun _ h => Or.inl h)
    (fun _ h => h) (fun _ h => h) (sok_two i src))

/-- a read-only operation on document `i` -/
def obsDoc {O : Type} (i : Nat) (k : Doc → O) : Step O := fun w => (k (w.docs[i]!), w)

theorem Local.obsDoc {O : Type} (i : Nat) (k : Doc → O) : Local (C20.obsDoc i k) (FP.static none' (one i) none' none') :=
  (Local.readDoc i).map k

/-! ## Footprints that depend on a reference -/

/-- **dispatch on a reference**: a step that looks reference `r` up and, for each value `s` of it, is a step with the
    footprint `⟨wr s, rd s, U, B⟩`, has the footprint evaluated at the current value of the reference -/
theorem Local.ofRef {O : Type} (r : Nat) (F : Ref → Step O) (wr rd : Ref → W → Nat → Prop) (U B : Nat → Prop) (hr : U r)
    (h : ∀ s, Local (F s) ⟨wr s, rd s, U, B⟩) :
    Local (fun w => F (w.refs[r]!) w) ⟨fun w => wr (w.refs[r]!) w, fun w => rd (w.refs[r]!) w, U, B⟩ := by
  refine ⟨fun w j hj => (h _).frame_docs w j hj, fun w x hx => (h _).frame_refs w x hx, fun w => (h _).frame_rest w,
    fun w j hj => (h _).wr_rd w j hj, (h default).bind_use, fun w w' hag => ?_⟩
  have e : w'.refs[r]! = w.refs[r]! := (refs_bang_congr (hag.2 r hr)).symm
  show _ ∧ _ ∧ _ ∧ (∀ j, wr (w.refs[r]!) w j ↔ wr (w'.refs[r]!) w' j) ∧ (∀ j, rd (w.refs[r]!) w j ↔ rd (w'.refs[r]!) w' j)
  rw [e]
  exact (h (w.refs[r]!)).loc w w' hag

/-- the same for a step that is only KNOWN to coincide, on the worlds where the reference has the value `s`, with a step
    `F s` (no syntactic form required) -/
theorem Local.ofRef' {O : Type} (r : Nat) (f : Step O) (F : Ref → Step O) (wr rd : Ref → W → Nat → Prop) (U B : Nat → Prop)
    (hr : U r) (he : ∀ w, f w = F (w.refs[r]!) w) (h : ∀ s, Local (F s) ⟨wr s, rd s, U, B⟩) :
    Local f ⟨fun w => wr (w.refs[r]!) w, fun w => rd (w.refs[r]!) w, U, B⟩ := by
  have : f = fun w => F (w.refs[r]!) w := funext he
  rw [this]
  exact Local.ofRef r F wr rd U B hr h

end C20
