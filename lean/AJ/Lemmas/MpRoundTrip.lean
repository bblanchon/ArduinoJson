/- Lemmas for the MessagePack round trip (C07/C09/C16): one lemma per first-byte class of `MD.parseVariant` (filter `.all`,
   destination present), the shapes of what the serializer writes (`encUInt_shape`, `encInt_shape`, `strHdr_shape`),
   reading a map key. -/
import AJ.Lemmas.MpPieces
namespace MD
open JD SF

/-! ## integers: two's complement of a big-endian payload -/

/-- the signed reading of a big-endian payload of `bs.length` bytes -/
def twos (bs : List Byte) : Int :=
  if beNat bs ≥ 2^(8*bs.length-1) then Int.ofNat (beNat bs) - Int.ofNat (2^(8*bs.length)) else Int.ofNat (beNat bs)

/-- the `k` bytes `beN` writes for `v + 2^(8k)`, `v` negative and within the width, read back as `v` -/
theorem twos_beN (k : Nat) (hk : 0 < k) (v : Int) (h1 : -(2:Int)^(8*k-1) ≤ v) (h2 : v < 0) :
    twos (beN k (v + (2:Int)^(8*k)).toNat) = v := by
  have hF : (256:Nat)^k = 2^(8*k) := by rw [Nat.pow_mul]
  have c1 : (2:Int)^(8*k) = ((2^(8*k) : Nat) : Int) := (Int.natCast_pow 2 (8*k)).symm
  have c2 : (2:Int)^(8*k-1) = ((2^(8*k-1) : Nat) : Int) := (Int.natCast_pow 2 (8*k-1)).symm
  have hH : 2^(8*k) = 2 * 2^(8*k-1) := by rw [← Nat.pow_succ']; congr 1; omega
  rw [c1] at *
  rw [c2] at h1
  unfold twos
  rw [beNat_beN, beN_length, hF]
  generalize 2^(8*k) = F at *
  generalize 2^(8*k-1) = H at *
  rw [Nat.mod_eq_of_lt (by omega)]
  simp only [Int.ofNat_eq_natCast]
  split <;> omega

theorem readInteger_unsigned (bs : List Byte) : readInteger bs false = .num (.uint (beNat bs)) := rfl
theorem readInteger_signed (bs : List Byte) : readInteger bs true = .num (.sint (twos bs)) := rfl

/-! ## `parseVariant`, one lemma per class of first byte (filter `.all`, destination present) -/
section cases
variable (env : Env) (fuel limit : Nat) (rest : List Byte) (p : Nat)

theorem all_av : (true && Flt.all.allowValue) = true := rfl

theorem pv_posfix (c : Byte) (h : c.toNat ≤ 0x7f) :
    parseVariant env (fuel+1) limit .all true ⟨c :: rest, p⟩ = (.ok, .num (.sint c.toNat), ⟨rest, p+1⟩, true) := by
  rw [pv_cons, pvAfter_fixint c (.inl h), if_pos all_av, if_neg (by omega)]

theorem pv_negfix (c : Byte) (h : 0xe0 ≤ c.toNat) :
    parseVariant env (fuel+1) limit .all true ⟨c :: rest, p⟩ = (.ok, .num (.sint ((c.toNat : Int) - 256)), ⟨rest, p+1⟩, true) := by
  rw [pv_cons, pvAfter_fixint c (.inr h), if_pos all_av, if_pos (by omega)]

theorem pv_null :
    parseVariant env (fuel+1) limit .all true ⟨0xC0 :: rest, p⟩ = (.ok, .null, ⟨rest, p+1⟩, true) := by
  rw [pv_cons]
  rfl

theorem pv_bool (b : Bool) :
    parseVariant env (fuel+1) limit .all true ⟨(if b then 0xC3 else 0xC2) :: rest, p⟩ = (.ok, .bool b, ⟨rest, p+1⟩, true) := by
  rw [pv_cons]
  cases b <;> rfl

theorem pv_int (code : Byte) (c : Nat) (hc : code.toNat = c) (sg : Bool) (bs : List Byte) (h1 : 0xcc ≤ c) (h2 : c ≤ 0xd3)
    (hs : sg = decide (c ≥ 0xd0)) (hl : bs.length = 2^((c - 0xcc) % 4)) :
    parseVariant env (fuel+1) limit .all true ⟨code :: (bs ++ rest), p⟩
      = (.ok, readInteger bs sg, ⟨rest, p + 1 + bs.length⟩, true) := by
  subst hc hs
  rw [pv_cons, pvAfter_int code h1 h2, if_pos all_av, rdLeaf_app _ bs rest _ _ hl, hl]

theorem pv_f32 (bs : List Byte) (hl : bs.length = 4) :
    parseVariant env (fuel+1) limit .all true ⟨0xCA :: (bs ++ rest), p⟩
      = (.ok, .num (.f32 (beNat bs)), ⟨rest, p + 5⟩, true) := by
  rw [pv_cons]
  exact rdLeaf_app _ bs rest _ _ hl

theorem pv_f64 (bs : List Byte) (hl : bs.length = 8) :
    parseVariant env (fuel+1) limit .all true ⟨0xCB :: (bs ++ rest), p⟩
      = (.ok, .num (storeDouble (beNat bs)), ⟨rest, p + 9⟩, true) := by
  rw [pv_cons]
  exact rdLeaf_app _ bs rest _ _ hl

theorem pv_fixstr (c : Byte) (s : List Byte) (hc : c.toNat = 0xa0 + s.length) (hk : s.length < 32)
    (hm : s.length ≤ env.maxStrLen) :
    parseVariant env (fuel+1) limit .all true ⟨c :: (s ++ rest), p⟩ = (.ok, .str s, ⟨rest, p + 1 + s.length⟩, true) := by
  rw [pv_cons, pvAfter_sized c (by omega) (.inl (by omega)), szBytes_fix _ (.inl (by omega)), hdrOf_zero,
    pvTail_str c (.inr (by omega)), sz2_fixstr _ (by omega) (by omega), if_pos all_av, if_neg (by omega),
    rdLeaf_app _ s rest _ _ (by omega), hc, Nat.add_sub_cancel_left]

/-- str 8 / 16 / 32 -/
theorem pv_str_sized (code : Byte) (j : Nat) (hj : j < 3) (hc : code.toNat = 0xd9 + j) (hb s : List Byte)
    (hl : hb.length = 2^j) (hn : beNat hb = s.length) (hm : s.length ≤ env.maxStrLen) :
    parseVariant env (fuel+1) limit .all true ⟨code :: (hb ++ (s ++ rest)), p⟩
      = (.ok, .str s, ⟨rest, p + 1 + 2^j + s.length⟩, true) := by
  rw [pv_cons, pvAfter_sized code (by omega) (.inr (.inr (by omega))), szBytes_sized _ j hj (.inr (.inr hc)),
    hdrOf_app hb _ _ _ _ hl (Nat.two_pow_pos j), pvTail_str code (.inl (by omega)), hn, if_pos all_av, if_neg (by omega),
    rdLeaf_app _ s rest _ _ rfl]

/-- bin 8 / 16 / 32 -/
theorem pv_bin (code : Byte) (j : Nat) (hj : j < 3) (hcode : code.toNat = 0xc4 + j) (hb s : List Byte)
    (hl : hb.length = 2^j) (hn : beNat hb = s.length) (hm : 1 + 2^j + s.length ≤ env.maxStrLen) :
    parseVariant env (fuel+1) limit .all true ⟨code :: (hb ++ (s ++ rest)), p⟩
      = (.ok, .raw (code :: hb ++ s), ⟨rest, p + 1 + 2^j + s.length⟩, true) := by
  rw [pv_cons, pvAfter_sized code (by omega) (.inr (.inl (by omega))), szBytes_sized _ j hj (.inl hcode),
    hdrOf_app hb _ _ _ _ hl (Nat.two_pow_pos j), pvTail_raw code (.inl (by omega)),
    szPair_bin _ (by omega) (by omega), szBytes_sized _ j hj (.inl hcode), hn]
  simp only [Bool.false_eq_true, if_false]
  rw [if_pos all_av, if_neg (by omega), rdLeaf_app _ s rest _ _ rfl]

/-- ext 8 / 16 / 32: the payload `pl` is the type byte followed by the data -/
theorem pv_ext (code : Byte) (j : Nat) (hj : j < 3) (hcode : code.toNat = 0xc7 + j) (hb pl : List Byte)
    (hl : hb.length = 2^j) (hn : pl.length = beNat hb + 1) (hm : 1 + 2^j + pl.length ≤ env.maxStrLen) :
    parseVariant env (fuel+1) limit .all true ⟨code :: (hb ++ (pl ++ rest)), p⟩
      = (.ok, .raw (code :: hb ++ pl), ⟨rest, p + 1 + 2^j + pl.length⟩, true) := by
  rw [pv_cons, pvAfter_sized code (by omega) (.inr (.inl (by omega))), szBytes_sized _ j hj (.inr (.inl hcode)),
    hdrOf_app hb _ _ _ _ hl (Nat.two_pow_pos j), pvTail_raw code (.inl (by omega)),
    szPair_ext _ (by omega) (.inl (by omega)), szBytes_sized _ j hj (.inr (.inl hcode)), ← hn]
  simp only [if_true]
  rw [if_pos all_av, if_neg (by omega), rdLeaf_app _ pl rest _ _ rfl]

/-- fixext 1 / 2 / 4 / 8 / 16 -/
theorem pv_fixext (code : Byte) (j : Nat) (hj : j < 5) (hcode : code.toNat = 0xd4 + j) (pl : List Byte)
    (hn : pl.length = 2^j + 1) (hm : 1 + pl.length ≤ env.maxStrLen) :
    parseVariant env (fuel+1) limit .all true ⟨code :: (pl ++ rest), p⟩
      = (.ok, .raw (code :: pl), ⟨rest, p + 1 + pl.length⟩, true) := by
  rw [pv_cons, pvAfter_sized code (by omega) (.inr (.inr (by omega))), szBytes_fix _ (.inr (by omega)), hdrOf_zero,
    pvTail_raw code (.inr (by omega)), szPair_ext _ (by omega) (.inr (by omega)), szBytes_fix _ (.inr (by omega)),
    sz2_fixext _ j hj hcode, ← hn]
  simp only [if_true]
  rw [if_pos all_av, if_neg (by omega), rdLeaf_app _ pl rest _ _ rfl]
  rfl

/-! arrays and maps: the header dispatches to `readArray` / `readObject` -/

theorem pv_fixarr (c : Byte) (k : Nat) (t : List Byte) (hc : c.toNat = 0x90 + k) (hk : k < 16) :
    parseVariant env (fuel+1) (limit+1) .all true ⟨c :: t, p⟩
      = arrResult (readArray env fuel limit .all true k ⟨t, p+1⟩ []) := by
  rw [pv_cons, pvAfter_sized c (by omega) (.inl (by omega)), szBytes_fix _ (.inl (by omega)), hdrOf_zero,
    pvTail_arr c (.inr (.inr (by omega))), sz2_fixcount _ (by omega) (by omega), show c.toNat % 16 = k by omega]
  rfl

/-- array 16 / 32 -/
theorem pv_arr_sized (code : Byte) (j : Nat) (hj : j < 2) (hc : code.toNat = 0xdc + j) (hb t : List Byte) (k : Nat)
    (hl : hb.length = 2 * 2^j) (hn : beNat hb = k) :
    parseVariant env (fuel+1) (limit+1) .all true ⟨code :: (hb ++ t), p⟩
      = arrResult (readArray env fuel limit .all true k ⟨t, p + 1 + 2 * 2^j⟩ []) := by
  rw [pv_cons, pvAfter_sized code (by omega) (.inr (.inr (by omega))), szBytes_count _ j hj (.inl hc),
    hdrOf_app hb t _ _ _ hl (Nat.mul_pos (by decide) (Nat.two_pow_pos j)), pvTail_arr code (by omega), hn]
  rfl

theorem pv_fixmap (c : Byte) (k : Nat) (t : List Byte) (hc : c.toNat = 0x80 + k) (hk : k < 16) :
    parseVariant env (fuel+1) (limit+1) .all true ⟨c :: t, p⟩
      = objResult (readObject env fuel limit .all true k ⟨t, p+1⟩ []) := by
  rw [pv_cons, pvAfter_sized c (by omega) (.inl (by omega)), szBytes_fix _ (.inl (by omega)), hdrOf_zero,
    pvTail_map c (.inr (.inr (by omega))), sz2_fixcount _ (by omega) (by omega), show c.toNat % 16 = k by omega]
  rfl

/-- map 16 / 32 -/
theorem pv_map_sized (code : Byte) (j : Nat) (hj : j < 2) (hc : code.toNat = 0xde + j) (hb t : List Byte) (k : Nat)
    (hl : hb.length = 2 * 2^j) (hn : beNat hb = k) :
    parseVariant env (fuel+1) (limit+1) .all true ⟨code :: (hb ++ t), p⟩
      = objResult (readObject env fuel limit .all true k ⟨t, p + 1 + 2 * 2^j⟩ []) := by
  rw [pv_cons, pvAfter_sized code (by omega) (.inr (.inr (by omega))), szBytes_count _ j hj (.inr hc),
    hdrOf_app hb t _ _ _ hl (Nat.mul_pos (by decide) (Nat.two_pow_pos j)), pvTail_map code (by omega), hn]
  rfl

end cases

section sized
variable (env : Env) (fuel limit : Nat) (rest : List Byte) (p : Nat)

/-- what the reader makes of an integer written by `encInt`/`encUInt` -/
def normInt (k : Int) : Num := if k > 0x7f then .uint k.toNat else .sint k

theorem normInt_small (n : Nat) (h : n ≤ 0x7f) : normInt (n : Int) = .sint n := by
  unfold normInt; rw [if_neg (by omega)]
theorem normInt_big (n : Nat) (h : ¬ n ≤ 0x7f) : normInt (n : Int) = .uint n := by
  unfold normInt; rw [if_pos (by omega)]; simp

/-! ## what the serializer writes, by format family: the ladders of `encUInt`, `encInt`, `strHdr` walked once -/

/-- a positive fixint, or `cc..cf` followed by `2^j` bytes that hold `n` -/
theorem encUInt_shape (n : Nat) :
    (n ≤ 0x7f ∧ encUInt n = [UInt8.ofNat n]) ∨
    ∃ (code : Byte) (j : Nat), 0x7f < n ∧ j < 4 ∧ code.toNat = 0xcc + j ∧ (n < 2^64 → n < 256^(2^j)) ∧
      encUInt n = code :: beN (2^j) n := by
  unfold encUInt
  split
  · exact .inl ⟨‹_›, rfl⟩
  · refine .inr ?_
    split
    · exact ⟨0xCC, 0, by omega, by omega, rfl, fun _ => by omega, rfl⟩
    · split
      · exact ⟨0xCD, 1, by omega, by omega, rfl, fun _ => by omega, rfl⟩
      · split
        · exact ⟨0xCE, 2, by omega, by omega, rfl, fun _ => by omega, rfl⟩
        · exact ⟨0xCF, 3, by omega, by omega, rfl, fun h => h, rfl⟩

/-- positive: as `encUInt`; `-32..0`: one fixint byte; below: `d0..d3` followed by `2^j` bytes, two's complement -/
theorem encInt_shape (v : Int) :
    (0 < v ∧ encInt v = encUInt v.toNat) ∨
    (v ≤ 0 ∧ -0x20 ≤ v ∧ encInt v = [UInt8.ofNat ((v + 256).toNat % 256)]) ∨
    ∃ (code : Byte) (j : Nat), v < -0x20 ∧ j < 4 ∧ code.toNat = 0xd0 + j ∧ (-2^63 ≤ v → -(2:Int)^(8 * 2^j - 1) ≤ v) ∧
      encInt v = code :: beN (2^j) (v + (2:Int)^(8 * 2^j)).toNat := by
  unfold encInt
  split
  · exact .inl ⟨‹_›, rfl⟩
  · refine .inr ?_
    split
    · exact .inl ⟨by omega, ‹_›, beN1_eq _⟩
    · refine .inr ?_
      split
      · exact ⟨0xD0, 0, by omega, by omega, rfl, fun _ => by omega, rfl⟩
      · split
        · exact ⟨0xD1, 1, by omega, by omega, rfl, fun _ => by omega, rfl⟩
        · split
          · exact ⟨0xD2, 2, by omega, by omega, rfl, fun _ => by omega, rfl⟩
          · exact ⟨0xD3, 3, by omega, by omega, rfl, fun h => h, rfl⟩

/-- a fixstr byte, or `d9..db` followed by `2^j` bytes that hold `n` -/
theorem strHdr_shape (n : Nat) (h : n < 2^32) :
    (n < 32 ∧ strHdr n = [UInt8.ofNat (0xA0 + n)]) ∨
    ∃ (code : Byte) (j : Nat), j < 3 ∧ code.toNat = 0xd9 + j ∧ n < 256^(2^j) ∧ strHdr n = code :: beN (2^j) n := by
  unfold strHdr
  split
  · exact .inl ⟨‹_›, rfl⟩
  · refine .inr ?_
    split
    · exact ⟨0xD9, 0, by omega, rfl, by omega, rfl⟩
    · split
      · exact ⟨0xDA, 1, by omega, rfl, by omega, rfl⟩
      · exact ⟨0xDB, 2, by omega, rfl, by omega, rfl⟩

/-! ## steps of `readArray` / `readObject` -/
theorem ra_zero (r : R) (acc : List Val) :
    readArray env (fuel+1) limit .all true 0 r acc = (.ok, acc.reverse, r) := by
  rw [ra_succ_eq]; rfl

theorem ra_succ (n : Nat) (r r' : R) (acc : List Val) (v : Val) (b : Bool)
    (h : parseVariant env fuel limit .all true r = (.ok, v, r', b)) :
    readArray env (fuel+1) limit .all true (n+1) r acc = readArray env fuel limit .all true n r' (v :: acc) := by
  rw [ra_succ_eq, if_neg (by simp), show (true && Flt.all.allow) = true from rfl, h]
  rfl

theorem ro_zero (r : R) (ms : List (List Byte × Val)) :
    readObject env (fuel+1) limit .all true 0 r ms = (.ok, ms, r) := by
  rw [ro_succ_eq]; rfl

end sized

section keys
variable (env : Env) (fuel limit : Nat) (p : Nat)

/-- a fixstr key is read; what follows is `roVal`, the value parser on the rest -/
theorem ro_key_fix_eq (flt : Flt) (ho : Bool) (n : Nat) (c : Byte) (k t : List Byte) (ms : List (List Byte × Val))
    (hc : c.toNat = 0xa0 + k.length) (hk : k.length < 32) (hm : k.length ≤ env.maxStrLen) :
    readObject env (fuel+1) limit flt ho (n+1) ⟨c :: (k ++ t), p⟩ ms
      = roVal (parseVariant env fuel) (readObject env fuel) limit flt ho (n+1) ms k ⟨t, p + 1 + k.length⟩ := by
  rw [ro_succ_eq, if_neg (by simp), read_cons]
  simp only
  rw [keyLenOf_fix c.toNat _ (by omega) (by omega)]
  simp only [roTail]
  rw [if_neg (by omega), readBytes_app k t _ _ (by omega), hc, Nat.add_sub_cancel_left]

/-- a str 8 / 16 / 32 key is read -/
theorem ro_key_sized_eq (flt : Flt) (ho : Bool) (n : Nat) (code : Byte) (j : Nat) (hj : j < 3) (hc : code.toNat = 0xd9 + j)
    (hb k t : List Byte) (ms : List (List Byte × Val)) (hl : hb.length = 2^j) (hn : beNat hb = k.length)
    (hm : k.length ≤ env.maxStrLen) :
    readObject env (fuel+1) limit flt ho (n+1) ⟨code :: (hb ++ (k ++ t)), p⟩ ms
      = roVal (parseVariant env fuel) (readObject env fuel) limit flt ho (n+1) ms k ⟨t, p + 1 + 2^j + k.length⟩ := by
  rw [ro_succ_eq, if_neg (by simp), read_cons]
  simp only
  rw [keyLenOf_sized code.toNat j hb (k ++ t) (p+1) hc hj hl, hn]
  simp only [roTail]
  rw [if_neg (by omega), readBytes_app k t _ _ rfl]

/-- the value of a member is accepted: the member is appended and the loop goes on -/
theorem roVal_ok {PV : PVfun} {RO : ROfun} {flt : Flt} {ho : Bool} {n : Nat} {ms : List (List Byte × Val)}
    {key : List Byte} {r r' : R} {v : Val} {b : Bool}
    (h : PV limit (flt.subKey key) (ho && (flt.subKey key).allow) r = (.ok, v, r', b)) :
    roVal PV RO limit flt ho n ms key r
      = RO limit flt ho (n - 1) r' (if ho && (flt.subKey key).allow then ms ++ [(key, v)] else ms) := by
  simp only [roVal, h]

end keys

end MD
