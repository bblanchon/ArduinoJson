/- Simulation of the slot-level MessagePack deserializer `MDD` by the value-level one `MD`, part 2: the outcome relation
   `mpsim_Sim` and the simulation of every leaf of `parseVariant`. -/
import AJ.Lemmas.MddSimBase
import AJ.Lemmas.MddStep
import AJ.Lemmas.JddSim
set_option linter.unusedSimpArgs false
set_option linter.unusedVariables false
namespace MDD
open DL
open JD (Byte Val Code Flt)
open MD (R Env Hdr beNat)

abbrev mpsim_VOut := Code × S × Bool
def mpsim_fin (p : Code × S) : mpsim_VOut := (p.1, p.2, true)

/-- outcome relation between a slot-level routine and its abstract twin, started from the document `d0` at the place `l`:
    without an allocation failure the code (which is not `NoMemory`), the reader and the value built agree; with one the
    answer is `NoMemory` -/
def mpsim_Sim (env : Env) (d0 : Doc) (l : Loc) (r : Code × S) (r0 : Code × Val × R) : Prop :=
  (r.2.d.overflowed = false ∧ r.1 = r0.1 ∧ r.1 ≠ .noMemory ∧ r.2.r = r0.2.2 ∧ mpsim_BOK env r.2.b ∧
     ∃ v s, Post d0 r.2.d l v s ∧ r.2.d.valOf v s = r0.2.1) ∨
  (r.2.d.overflowed = true ∧ r.1 = .noMemory)

/-- the same for `parseVariant`, which also reports whether it found something -/
def mpsim_SimF (env : Env) (d0 : Doc) (l : Loc) (r : mpsim_VOut) (r0 : MD.VOut) : Prop :=
  mpsim_Sim env d0 l (r.1, r.2.1) (r0.1, r0.2.1, r0.2.2.1) ∧
  (r.2.1.d.overflowed = false → r.2.2 = r0.2.2.2) ∧ (r.2.1.d.overflowed = true → r.2.2 = true)

theorem mpsim_Sim.exit {env : Env} {d0 : Doc} {l : Loc} {e : Code} {x' : S} {val : Val} {r' : R} (hs : x'.r = r')
    (hb : mpsim_BOK env x'.b) (hP : ∃ v s, Post d0 x'.d l v s ∧ x'.d.valOf v s = val)
    (h0 : x'.d.overflowed = false) (he : e ≠ .noMemory) : mpsim_Sim env d0 l (e, x') (e, val, r') :=
  Or.inl ⟨h0, rfl, he, hs, hb, hP⟩

theorem mpsim_SimF.fin {env : Env} {d0 : Doc} {l : Loc} {p : Code × S} {e : Code} {v : Val} {r : R}
    (h : mpsim_Sim env d0 l p (e, v, r)) : mpsim_SimF env d0 l (fin p) (MD.finV e v r) :=
  ⟨h, fun _ => rfl, fun _ => rfl⟩

theorem mpsim_SimF.ov {env : Env} {d0 : Doc} {l : Loc} (p : Code × S) (r0 : MD.VOut) (h : p.2.d.overflowed = true)
    (hc : p.1 = .noMemory) : mpsim_SimF env d0 l (MDD.fin p) r0 :=
  ⟨Or.inr ⟨h, hc⟩, (fun h' => by rw [show (MDD.fin p).2.1.d.overflowed = p.2.d.overflowed from rfl, h] at h'; cases h'),
    fun _ => rfl⟩

/-! ## Numbers -/

theorem mpsim_store_eq (x : S) (l : Loc) (a : Arg) :
    store x l a = ((if (x.d.setArg l a).1 then .ok else .noMemory), { x with d := (x.d.setArg l a).2 }) := rfl

/-- storing a number -/
theorem mpsim_store (env : Env) {x : S} {l : Loc} (P : Pre x.d l) (h0 : x.d.overflowed = false) (hb : mpsim_BOK env x.b)
    (a : Arg) (ha : (∃ n, a = .uint n) ∨ (∃ n, a = .sint n) ∨ (∃ b, a = .f32 b) ∨ (∃ b, a = .f64 b)) :
    mpsim_Sim env x.d l (store x l a) (.ok, argV a, x.r) := by
  rw [mpsim_store_eq]
  obtain ⟨v, s, hP, _, hcomp, _, _⟩ := setArg_res P a
  obtain ⟨g1, g2⟩ := JDD.sim_setArg_num l h0 ha
  cases ho : (x.d.setArg l a).2.overflowed with
  | false =>
    refine Or.inl ⟨ho, ?_, ?_, rfl, hb, v, s, hP, hcomp ho⟩
    · simp only [g1 ho, if_true]
    · simp only [g1 ho, if_true]; intro h; cases h
  | true =>
    refine Or.inr ⟨ho, ?_⟩
    simp only [g2 ho, Bool.false_eq_true, if_false]

theorem mpsim_readInteger_cases (bs : List Byte) (sg : Bool) :
    (∃ n, MD.readInteger bs sg = .num (.uint n)) ∨ (∃ n, MD.readInteger bs sg = .num (.sint n)) := by
  unfold MD.readInteger
  cases sg
  · exact Or.inl ⟨_, rfl⟩
  · exact Or.inr ⟨_, rfl⟩

theorem mpsim_leafFixed_all (w : Nat) (mk : List Byte → Val) (r : R) :
    MD.leafFixed (true && Flt.all.allowValue) w mk r =
      match r.readBytes w with
      | (some bs, r) => MD.finV .ok (mk bs) r
      | (none, r) => MD.finV .incomplete .null r := rfl

theorem mpsim_leafInt_sim (env : Env) {x : S} {l : Loc} (P : Pre x.d l) (h0 : x.d.overflowed = false)
    (hb : mpsim_BOK env x.b) (w c : Nat) :
    mpsim_SimF env x.d l (leafInt l w c x)
      (MD.leafFixed (true && Flt.all.allowValue) w (fun bs => MD.readInteger bs (c ≥ 0xd0)) x.r) := by
  rw [mpsim_leafFixed_all]
  unfold leafInt
  generalize x.r.readBytes w = rb
  obtain ⟨m, r'⟩ := rb
  cases m with
  | none =>
    exact mpsim_SimF.fin (mpsim_Sim.exit rfl hb (JDD.sim_null_post P (Fr.refl P.pool [])) h0 (fun h => by cases h))
  | some bs =>
    simp only
    rcases mpsim_readInteger_cases bs (decide (c ≥ 0xd0)) with ⟨n, e⟩ | ⟨n, e⟩
    · rw [e]
      exact mpsim_SimF.fin (mpsim_store env (x := { x with r := r' }) P h0 hb (.uint n) (Or.inl ⟨_, rfl⟩))
    · rw [e]
      exact mpsim_SimF.fin (mpsim_store env (x := { x with r := r' }) P h0 hb (.sint n) (Or.inr (Or.inl ⟨_, rfl⟩)))

theorem mpsim_leafF32_sim (env : Env) {x : S} {l : Loc} (P : Pre x.d l) (h0 : x.d.overflowed = false)
    (hb : mpsim_BOK env x.b) :
    mpsim_SimF env x.d l (leafF32 l x)
      (MD.leafFixed (true && Flt.all.allowValue) 4 (fun bs => .num (.f32 (beNat bs))) x.r) := by
  rw [mpsim_leafFixed_all]
  unfold leafF32
  generalize x.r.readBytes 4 = rb
  obtain ⟨m, r'⟩ := rb
  cases m with
  | none =>
    exact mpsim_SimF.fin (mpsim_Sim.exit rfl hb (JDD.sim_null_post P (Fr.refl P.pool [])) h0 (fun h => by cases h))
  | some bs =>
    obtain ⟨pp, pv⟩ := JDD.sim_post_plain (v' := .f32 (beNat bs)) P (Fr.refl P.pool []) (fun h => h) rfl rfl
    exact mpsim_SimF.fin (mpsim_Sim.exit rfl hb ⟨_, _, pp, pv⟩ (by rw [set_overflowed]; exact h0) (fun h => by cases h))

theorem mpsim_leafF64_sim (env : Env) {x : S} {l : Loc} (P : Pre x.d l) (h0 : x.d.overflowed = false)
    (hb : mpsim_BOK env x.b) :
    mpsim_SimF env x.d l (leafF64 l x)
      (MD.leafFixed (true && Flt.all.allowValue) 8 (fun bs => .num (JD.storeDouble (beNat bs))) x.r) := by
  rw [mpsim_leafFixed_all]
  unfold leafF64
  generalize x.r.readBytes 8 = rb
  obtain ⟨m, r'⟩ := rb
  cases m with
  | none =>
    exact mpsim_SimF.fin (mpsim_Sim.exit rfl hb (JDD.sim_null_post P (Fr.refl P.pool [])) h0 (fun h => by cases h))
  | some bs =>
    have := mpsim_store env (x := { x with r := r' }) P h0 hb (.f64 (beNat bs)) (Or.inr (Or.inr (Or.inr ⟨_, rfl⟩)))
    rw [show argV (.f64 (beNat bs)) = normF64 (beNat bs) from rfl, JDD.sim_normF64] at this
    exact mpsim_SimF.fin this

/-! ## Strings and binary values -/

theorem mpsim_leafSized_all (env : Env) (size : Nat) (mk : List Byte → Val) (r : R) :
    MD.leafSized (true && Flt.all.allowValue) (size > env.maxStrLen) size mk r =
      match mpsim_readStr0 env r size with
      | (.ok, bs, r) => MD.finV .ok (mk bs) r
      | (e, _, r) => MD.finV e .null r := by
  unfold MD.leafSized mpsim_readStr0
  rw [if_pos (show (true && Flt.all.allowValue) = true from rfl)]
  by_cases hbig : size > env.maxStrLen
  · rw [if_pos hbig, if_pos hbig]
  · rw [if_neg hbig, if_neg hbig]
    generalize r.readBytes size = rb
    obtain ⟨m, r'⟩ := rb
    cases m <;> rfl

theorem mpsim_leafStr_sim (env : Env) {x : S} {l : Loc} (P : Pre x.d l) (h0 : x.d.overflowed = false)
    (hb : mpsim_BOK env x.b) (size : Nat) :
    mpsim_SimF env x.d l (leafStr env l size x)
      (MD.leafSized (true && Flt.all.allowValue) (size > env.maxStrLen) size (fun bs => .str bs) x.r) := by
  rw [mpsim_leafSized_all]
  obtain ⟨g, hr⟩ := mpsim_readString env x size P.pool hb h0
  unfold leafStr
  generalize readString env x size = q at *
  generalize mpsim_readStr0 env x.r size = q0 at *
  obtain ⟨c, bs, y⟩ := q
  obtain ⟨c0, bs0, r0⟩ := q0
  simp only at g hr ⊢
  rcases hr with ⟨ov, hc⟩ | ⟨ov, bk, hc, hne, hbs, hrr⟩
  · subst hc
    exact mpsim_SimF.ov (Code.noMemory, y) _ ov rfl
  · subst hc hbs hrr
    have hfr : Fr x.d y.d [] := Fr.of_grow g (fun h => by rw [h0] at h; cases h) []
    have P2 : Pre y.d l := JDD.sim_pre_of_fr P hfr
    cases c
    case ok =>
      simp only
      obtain ⟨s1, s2, s3, s4, s5, s6⟩ := mpsim_save env y bs P2.pool P2.str
      obtain ⟨pp, pv⟩ := JDD.sim_post_owned P (Fr.trans hfr s2 (fun _ h => by cases h)) s3
        (fun rs hs => s4 rs (hfr.strok rs hs))
      exact mpsim_SimF.fin (Or.inl ⟨by simp only [saveSet_d, set_overflowed, s5, ov], rfl, (fun h => by cases h), s1, s6 bk, _, _, pp, pv⟩)
    all_goals exact mpsim_SimF.fin (mpsim_Sim.exit rfl bk (JDD.sim_null_post P hfr) ov hne)

theorem mpsim_leafBin_all (env : Env) (sizeBytes : Nat) (isExt : Bool) (size : Nat) (mk : List Byte → Val) (r : R) :
    MD.leafSized (true && Flt.all.allowValue) (1 + sizeBytes + MD.binSize isExt size > env.maxStrLen)
        (MD.binSize isExt size) mk r =
      if 1 + sizeBytes + MD.binSize isExt size > env.maxStrLen then MD.finV .noMemory .null r else
      match r.readBytes (MD.binSize isExt size) with
      | (some bs, r) => MD.finV .ok (mk bs) r
      | (none, r) => MD.finV .incomplete .null r := rfl

theorem mpsim_leafBin_sim (env : Env) {x : S} {l : Loc} (P : Pre x.d l) (h0 : x.d.overflowed = false)
    (hb : mpsim_BOK env x.b) (code : Byte) (sizeBytes : Nat) (isExt : Bool) (hdr : List Byte) (size : Nat) :
    mpsim_SimF env x.d l (leafBin env l code sizeBytes isExt hdr size x)
      (MD.leafSized (true && Flt.all.allowValue) (1 + sizeBytes + MD.binSize isExt size > env.maxStrLen)
        (MD.binSize isExt size) (fun bs => .raw (code :: hdr ++ bs)) x.r) := by
  rw [mpsim_leafBin_all]
  unfold leafBin
  show mpsim_SimF env x.d l
    (match reserve env.maxStrLen x (1 + sizeBytes + MD.binSize isExt size) with
      | (false, x) => fin (.noMemory, x)
      | (true, x) =>
        match x.r.readBytes (MD.binSize isExt size) with
        | (some bs, r) =>
          fin (.ok, { (save { x with r := r } (code :: hdr ++ bs)).2 with
            d := (save { x with r := r } (code :: hdr ++ bs)).2.d.set l (.raw (save { x with r := r } (code :: hdr ++ bs)).1) })
        | (none, r) => fin (.incomplete, { x with r := r })) _
  obtain ⟨r1, r2, r3, r4⟩ := mpsim_reserve env x (1 + sizeBytes + MD.binSize isExt size) P.pool hb h0
  generalize reserve env.maxStrLen x (1 + sizeBytes + MD.binSize isExt size) = q at *
  obtain ⟨ok, y⟩ := q
  simp only at r1 r2 r3 r4 ⊢
  cases ok with
  | false => exact mpsim_SimF.ov (Code.noMemory, y) _ (r4 rfl) rfl
  | true =>
    obtain ⟨hle, ov, bk⟩ := r3 rfl
    simp only
    rw [if_neg (by omega), r1]
    have hfr : Fr x.d y.d [] := Fr.of_grow r2 (fun h => by rw [h0] at h; cases h) []
    have P2 : Pre y.d l := JDD.sim_pre_of_fr P hfr
    generalize x.r.readBytes (MD.binSize isExt size) = rb
    obtain ⟨m, r'⟩ := rb
    cases m with
    | none =>
      exact mpsim_SimF.fin (mpsim_Sim.exit rfl bk (JDD.sim_null_post P hfr) ov (fun h => by cases h))
    | some bs =>
      simp only
      obtain ⟨s1, s2, s3, s4, s5, s6⟩ := mpsim_save env { y with r := r' } (code :: hdr ++ bs) P2.pool P2.str
      obtain ⟨pp, pv⟩ := mpsim_post_raw P (Fr.trans hfr s2 (fun _ h => by cases h)) s3
        (fun rs hs => s4 rs (hfr.strok rs hs))
      exact mpsim_SimF.fin (Or.inl ⟨by simp only [saveSet_d, set_overflowed, s5]; exact ov, rfl, (fun h => by cases h), s1, s6 bk, _, _, pp, pv⟩)

/-- result of the abstract `readArray` as a value -/
def mpsim_arrOut (p : Code × List Val × R) : Code × Val × R := (p.1, .arr p.2.1, p.2.2)
/-- result of the abstract `readObject` as a value -/
def mpsim_objOut (p : Code × List (List Byte × Val) × R) : Code × Val × R := (p.1, .obj p.2.1, p.2.2)

end MDD
