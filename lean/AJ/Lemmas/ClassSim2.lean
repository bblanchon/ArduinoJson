/- Generic two-run simulation, part 2: the pieces of `parseVariant` / `parseElems` / `parseMembers`, and the
   mutual induction. -/
import AJ.Lemmas.ClassSim
set_option linter.unusedSimpArgs false
set_option linter.unusedVariables false
namespace JD

section
variable {Q : St → St → Prop} {Bad : St → Prop} (T : Twin Q Bad)
include T

/-- the statement for the three routines at one fuel -/
def TwV (cfg : Cfg) (f : Nat) : Prop :=
  ∀ L s1 s2, Q s1 s2 → R3 Q Bad (parseVariant cfg f L s1) (parseVariant cfg f L s2)
def TwE (cfg : Cfg) (f : Nat) : Prop :=
  ∀ L s1 s2 acc, Q s1 s2 → R3 Q Bad (parseElems cfg f L s1 acc) (parseElems cfg f L s2 acc)
def TwM (cfg : Cfg) (f : Nat) : Prop :=
  ∀ L s1 s2 ms, Q s1 s2 → R3 Q Bad (parseMembers cfg f L s1 ms) (parseMembers cfg f L s2 ms)

theorem tw_pvArr {cfg : Cfg} {f L' : Nat} (hE : TwE (Q := Q) (Bad := Bad) cfg f) (r1 r2 : Code × St)
    (h : R2 Q Bad r1 r2) : R3 Q Bad (pvArr cfg f L' r1) (pvArr cfg f L' r2) := by
  refine h.elim (fun c b1 b2 hq => ?_) (fun hb => Or.inr (kept_pvArr T.bad r1 hb))
  cases c <;> try exact Or.inl ⟨rfl, rfl, hq⟩
  rcases T.cur hq with ⟨hc, hq2⟩ | hb
  · simp only [pvArr]
    rw [← hc]
    split
    · exact Or.inl ⟨rfl, rfl, T.mv hq2⟩
    · exact hE _ _ _ _ hq2
  · right
    simp only [pvArr]
    split
    · exact T.bad.mv hb
    · exact (kept_mutual T.bad f).2.1 _ _ _ hb

theorem tw_pvObj {cfg : Cfg} {f L' : Nat} (hM : TwM (Q := Q) (Bad := Bad) cfg f) (r1 r2 : Code × St)
    (h : R2 Q Bad r1 r2) : R3 Q Bad (pvObj cfg f L' r1) (pvObj cfg f L' r2) := by
  refine h.elim (fun c b1 b2 hq => ?_) (fun hb => Or.inr (kept_pvObj T.bad r1 hb))
  cases c <;> try exact Or.inl ⟨rfl, rfl, hq⟩
  rcases T.cur hq with ⟨hc, hq2⟩ | hb
  · simp only [pvObj]
    rw [← hc]
    split
    · exact Or.inl ⟨rfl, rfl, T.mv hq2⟩
    · exact hM _ _ _ _ hq2
  · right
    simp only [pvObj]
    split
    · exact T.bad.mv hb
    · exact (kept_mutual T.bad f).2.2 _ _ _ hb

omit T in
theorem tw_pvStr (r1 r2 : Code × List Byte × St) (h : R3 Q Bad r1 r2) : R3 Q Bad (pvStr r1) (pvStr r2) := by
  refine h.elim (fun c v b1 b2 hq => ?_) (fun hb => Or.inr (kept_pvStr r1 hb))
  cases c <;> exact Or.inl ⟨rfl, rfl, hq⟩

theorem tw_pvTok {cfg : Cfg} {f L : Nat} (hE : TwE (Q := Q) (Bad := Bad) cfg f) (hM : TwM (Q := Q) (Bad := Bad) cfg f)
    (s1 s2 : St) (h : Q s1 s2) : R3 Q Bad (pvTok cfg f L s1) (pvTok cfg f L s2) := by
  rcases T.cur h with ⟨hc, hq⟩ | hb
  · rcases tok_cases (cur s1).1 with c | c | c | c | c
    · cases L with
      | zero => rw [pvTok_arr0 c, pvTok_arr0 (hc ▸ c)]; exact Or.inl ⟨rfl, rfl, hq⟩
      | succ L' =>
        rw [pvTok_arr c, pvTok_arr (hc ▸ c)]
        exact tw_pvArr T hE _ _ (tw_skipSpaces T _ _ _ (T.mv hq))
    · cases L with
      | zero => rw [pvTok_obj0 c, pvTok_obj0 (hc ▸ c)]; exact Or.inl ⟨rfl, rfl, hq⟩
      | succ L' =>
        rw [pvTok_obj c, pvTok_obj (hc ▸ c)]
        exact tw_pvObj T hM _ _ (tw_skipSpaces T _ _ _ (T.mv hq))
    · rw [pvTok_str c, pvTok_str (hc ▸ c), ← hc]
      exact tw_pvStr _ _ (tw_parseQuoted T _ _ _ _ _ (T.mv hq))
    · obtain ⟨ks, v, _, e⟩ := pvTok_kw c
      rw [e _ _ _ _ rfl, e _ _ _ _ hc.symm]
      exact (tw_skipKeyword T _ _ _ hq).imp (fun k => ⟨k.1, rfl, k.2⟩) id
    · rw [pvTok_num c, pvTok_num (hc ▸ c)]
      exact tw_parseNumeric T _ _ hq
  · right
    rw [← pvTok_cur]
    exact kept_pvTok T.bad _ hb

theorem tw_pvK {cfg : Cfg} {f L : Nat} (hE : TwE (Q := Q) (Bad := Bad) cfg f) (hM : TwM (Q := Q) (Bad := Bad) cfg f)
    (r1 r2 : Code × St) (h : R2 Q Bad r1 r2) : R3 Q Bad (pvK cfg f L r1) (pvK cfg f L r2) := by
  refine h.elim (fun c b1 b2 hq => ?_) (fun hb => Or.inr (kept_pvK T.bad r1 hb))
  cases c <;> try exact Or.inl ⟨rfl, rfl, hq⟩
  exact tw_pvTok T hE hM _ _ hq

theorem tw_peK2 {cfg : Cfg} {f L : Nat} {acc : List Val} (hE : TwE (Q := Q) (Bad := Bad) cfg f) (r1 r2 : Code × St)
    (h : R2 Q Bad r1 r2) : R3 Q Bad (peK2 cfg f L acc r1) (peK2 cfg f L acc r2) := by
  refine h.elim (fun c b1 b2 hq => ?_) (fun hb => Or.inr (kept_peK2 T.bad r1 hb))
  cases c <;> try exact Or.inl ⟨rfl, rfl, hq⟩
  rcases T.cur hq with ⟨hc, hq2⟩ | hb
  · simp only [peK2]
    rw [← hc]
    split
    · exact Or.inl ⟨rfl, rfl, T.mv hq2⟩
    · split
      · exact hE _ _ _ _ (T.mv hq2)
      · exact Or.inl ⟨rfl, rfl, hq2⟩
  · right
    simp only [peK2]
    split
    · exact T.bad.mv hb
    · split
      · exact (kept_mutual T.bad f).2.1 _ _ _ (T.bad.mv hb)
      · exact hb

theorem tw_peK1 {cfg : Cfg} {f L : Nat} {acc : List Val} (hE : TwE (Q := Q) (Bad := Bad) cfg f) (r1 r2 : Code × Val × St)
    (h : R3 Q Bad r1 r2) : R3 Q Bad (peK1 cfg f L acc r1) (peK1 cfg f L acc r2) := by
  refine h.elim (fun c v b1 b2 hq => ?_) (fun hb => Or.inr (kept_peK1 T.bad r1 hb))
  cases c <;> try exact Or.inl ⟨rfl, rfl, hq⟩
  exact tw_peK2 T hE _ _ (tw_skipSpaces T _ _ _ hq)

theorem tw_pmKey {cfg : Cfg} {f : Nat} (s1 s2 : St) (h : Q s1 s2) : R3 Q Bad (pmKey cfg f s1) (pmKey cfg f s2) := by
  rcases T.cur h with ⟨hc, hq⟩ | hb
  · simp only [pmKey]
    rw [← hc]
    split
    · exact tw_parseQuoted T _ _ _ _ _ (T.mv hq)
    · split
      · rcases tw_parseUnquoted T (f+1) [] _ _ hq with ⟨e1, e2⟩ | hb
        · rw [← e1]; exact Or.inl ⟨rfl, rfl, e2⟩
        · exact Or.inr hb
      · exact Or.inl ⟨rfl, rfl, hq⟩
  · right
    rw [← pmKey_cur]
    exact kept_pmKey T.bad _ hb

theorem tw_pmK4 {cfg : Cfg} {f L : Nat} {ms : List (List Byte × Val)} (hM : TwM (Q := Q) (Bad := Bad) cfg f)
    (r1 r2 : Code × St) (h : R2 Q Bad r1 r2) : R3 Q Bad (pmK4 cfg f L ms r1) (pmK4 cfg f L ms r2) := by
  refine h.elim (fun c b1 b2 hq => ?_) (fun hb => Or.inr (kept_pmK4 T.bad r1 hb))
  cases c <;> try exact Or.inl ⟨rfl, rfl, hq⟩
  exact hM _ _ _ _ hq

theorem tw_pmK3 {cfg : Cfg} {f L : Nat} {ms : List (List Byte × Val)} (hM : TwM (Q := Q) (Bad := Bad) cfg f)
    (r1 r2 : Code × St) (h : R2 Q Bad r1 r2) : R3 Q Bad (pmK3 cfg f L ms r1) (pmK3 cfg f L ms r2) := by
  refine h.elim (fun c b1 b2 hq => ?_) (fun hb => Or.inr (kept_pmK3 T.bad r1 hb))
  cases c <;> try exact Or.inl ⟨rfl, rfl, hq⟩
  rcases T.cur hq with ⟨hc, hq2⟩ | hb
  · simp only [pmK3]
    rw [← hc]
    split
    · exact Or.inl ⟨rfl, rfl, T.mv hq2⟩
    · split
      · exact tw_pmK4 T hM _ _ (tw_skipSpaces T _ _ _ (T.mv hq2))
      · exact Or.inl ⟨rfl, rfl, hq2⟩
  · right
    simp only [pmK3]
    split
    · exact T.bad.mv hb
    · split
      · exact kept_pmK4 T.bad _ (kept_skipSpaces T.bad _ _ (T.bad.mv hb))
      · exact hb

theorem tw_pmK2 {cfg : Cfg} {f L : Nat} {ms : List (List Byte × Val)} {key : List Byte}
    (hM : TwM (Q := Q) (Bad := Bad) cfg f) (r1 r2 : Code × Val × St) (h : R3 Q Bad r1 r2) :
    R3 Q Bad (pmK2 cfg f L ms key r1) (pmK2 cfg f L ms key r2) := by
  refine h.elim (fun c v b1 b2 hq => ?_) (fun hb => Or.inr (kept_pmK2 T.bad r1 hb))
  cases c <;> try exact Or.inl ⟨rfl, rfl, hq⟩
  exact tw_pmK3 T hM _ _ (tw_skipSpaces T _ _ _ hq)

theorem tw_pmK1 {cfg : Cfg} {f L : Nat} {ms : List (List Byte × Val)} {key : List Byte}
    (hV : TwV (Q := Q) (Bad := Bad) cfg f) (hM : TwM (Q := Q) (Bad := Bad) cfg f) (r1 r2 : Code × St)
    (h : R2 Q Bad r1 r2) : R3 Q Bad (pmK1 cfg f L ms key r1) (pmK1 cfg f L ms key r2) := by
  refine h.elim (fun c b1 b2 hq => ?_) (fun hb => Or.inr (kept_pmK1 T.bad r1 hb))
  cases c <;> try exact Or.inl ⟨rfl, rfl, hq⟩
  rcases T.cur hq with ⟨hc, hq2⟩ | hb
  · simp only [pmK1]
    rw [← hc]
    split
    · exact Or.inl ⟨rfl, rfl, hq2⟩
    · exact tw_pmK2 T hM _ _ (hV _ _ _ (T.mv hq2))
  · right
    simp only [pmK1]
    split
    · exact hb
    · exact kept_pmK2 T.bad _ ((kept_mutual T.bad f).1 _ _ (T.bad.mv hb))

theorem tw_pmK0 {cfg : Cfg} {f L : Nat} {ms : List (List Byte × Val)}
    (hV : TwV (Q := Q) (Bad := Bad) cfg f) (hM : TwM (Q := Q) (Bad := Bad) cfg f) (r1 r2 : Code × List Byte × St)
    (h : R3 Q Bad r1 r2) : R3 Q Bad (pmK0 cfg f L ms r1) (pmK0 cfg f L ms r2) := by
  refine h.elim (fun c k b1 b2 hq => ?_) (fun hb => Or.inr (kept_pmK0 T.bad r1 hb))
  cases c <;> try exact Or.inl ⟨rfl, rfl, hq⟩
  exact tw_pmK1 T hV hM _ _ (tw_skipSpaces T _ _ _ hq)

/-- **generic two-run simulation** of the three mutually recursive routines -/
theorem tw_mutual {cfg : Cfg} : ∀ f, TwV (Q := Q) (Bad := Bad) cfg f ∧ TwE (Q := Q) (Bad := Bad) cfg f ∧
    TwM (Q := Q) (Bad := Bad) cfg f := by
  intro f
  induction f with
  | zero =>
    refine ⟨?_, ?_, ?_⟩
    · intro L s1 s2 h; exact Or.inl ⟨rfl, rfl, h⟩
    · intro L s1 s2 acc h; exact Or.inl ⟨rfl, rfl, h⟩
    · intro L s1 s2 ms h; exact Or.inl ⟨rfl, rfl, h⟩
  | succ f ih =>
    obtain ⟨ihV, ihE, ihM⟩ := ih
    refine ⟨?_, ?_, ?_⟩
    · intro L s1 s2 h
      rw [parseVariant_succ, parseVariant_succ]
      exact tw_pvK T ihE ihM _ _ (tw_skipSpaces T _ _ _ h)
    · intro L s1 s2 acc h
      rw [parseElems_succ, parseElems_succ]
      exact tw_peK1 T ihE _ _ (ihV _ _ _ h)
    · intro L s1 s2 ms h
      rw [parseMembers_succ, parseMembers_succ]
      exact tw_pmK0 T ihV ihM _ _ (tw_pmKey T _ _ h)

end
end JD
