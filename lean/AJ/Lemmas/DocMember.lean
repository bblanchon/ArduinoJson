/- `addMember` / `getOrAddMember` (key absent): two slot allocations, the key stored in the key slot (linked, or copied
   into the string table), then `appendPair`. Also the string-table half of `appendPair` and the conversion of a null
   location into an empty collection. Used by AJ/Props/C04Rem.lean. -/
import AJ.Lemmas.DocRemove
namespace DL
open JD (Byte Val)

/-! ## `appendPair`: cells, string table -/

/-- cells of the document after `appendPair`, with `nextNode` -/
theorem appendPair_cells {d : Doc} {l : Loc} {h t k v nk : Nat} {kv : VData} (hv : d.get l = .obj h t)
    (hk : d.cell k = .var kv nk) (hkl : Loc.slot k ≠ l) (htl : Loc.slot t ≠ l) (hkt : t ≠ d.null → k ≠ t)
    (htvar : t ≠ d.null → d.isVar t) :
    (d.appendPair l k v).null = d.null ∧ (d.appendPair l k v).strings = d.strings ∧
    (d.appendPair l k v).nextNode = d.nextNode ∧ (d.appendPair l k v).pl = d.pl ∧ (d.appendPair l k v).g = d.g ∧
    (d.appendPair l k v).get l = .obj (if t ≠ d.null then h else k) v ∧
    (d.appendPair l k v).cell k = .var kv v ∧
    (∀ j, Loc.slot j ≠ l → j ≠ k → (t ≠ d.null → j ≠ t) → (d.appendPair l k v).cell j = d.cell j) ∧
    (t ≠ d.null → (d.appendPair l k v).cell t = .var (d.get (.slot t)) k) ∧
    (l ≠ .root → (d.appendPair l k v).root = d.root) := by
  obtain ⟨a1, a2, a3, a4, a5, _, a7, a8, a9, a10, a11, _⟩ := appendPair_cells_gen (v := v) hv hk hkl htl hkt htvar
  exact ⟨a1, a2, a5, a3, a4, a7, a8, a9, a10, a11⟩

/-- string-table half of `appendPair_spec`: the key slot accounts for the reference of its (copied) key -/
theorem appendPair_strOK {d : Doc} {F : Forest} {l : Loc} {h t k v nk : Nat} {kv : VData} (w : WFG d F)
    (hs : StrOK d (strOfV kv ++ d.strRefs F)) (hl : isLoc F l)
    (hv : d.get l = .obj h t) (hk : d.cell k = .var kv nk) (hkey : isKey kv) (hvc : d.cell v = .var .null d.null)
    (hkv : k ≠ v) (hkF : k ∉ F.ids) (hvF : v ∉ F.ids) (hklt : k < d.null) (hvlt : v < d.null)
    (hklive : PL.live d.g d.pl k) (hvlive : PL.live d.g d.pl v) :
    StrOK (d.appendPair l k v)
      ((d.appendPair l k v).strRefs (replaceAt F l ((layoutAt F l).snoc (some k) v))) := by
  obtain ⟨_, _, hperm, hstr, hnn⟩ := appendPair_full w hl hv hk hkey hvc hkv hkF hvF hklt hvlt hklive hvlive
  exact StrOK_congr hstr hnn (StrOK_perm hperm.symm hs)

/-! ## `addMember` -/

/-- last step of `addMember`: `dS` is `d2` (two fresh slots `k`, `v` allocated) in which the key was stored in slot `k`
    (possibly after a string node was acquired); then `appendPair` -/
theorem addMember_tail {d2 dS : Doc} {F : Forest} {l : Loc} {h t k v nk : Nat} {kv : VData} {key : List Byte}
    (w2 : WFG d2 F) (hl : isLoc F l) (hv2 : d2.get l = .obj h t)
    (hg : dS.g = d2.g) (hroot : dS.root = d2.root) (hcells : ∀ x, x ≠ k → dS.cell x = d2.cell x)
    (hpools : dS.pl.pools = d2.pl.pools) (hfree : dS.pl.free = d2.pl.free) (hcap : dS.pl.tableCap = d2.pl.tableCap)
    (hheap : dS.pl.tableHeap = d2.pl.tableHeap)
    (hstr : StrOK dS (strOfV kv ++ d2.strRefs F)) (hbytes : ∀ n ∈ d2.strRefs F, dS.strBytes n = d2.strBytes n)
    (hk : dS.cell k = .var kv nk) (hkey : isKey kv) (hkb : keyOfV dS kv = key)
    (hk2c : d2.cell k = .var .null d2.null) (hvc : d2.cell v = .var .null d2.null) (hkv : k ≠ v)
    (hkF : k ∉ F.ids) (hvF : v ∉ F.ids) (hklt : k < d2.null) (hvlt : v < d2.null)
    (hklive : PL.live d2.g d2.pl k) (hvlive : PL.live d2.g d2.pl v) :
    WFG (dS.appendPair l k v) (replaceAt F l ((layoutAt F l).snoc (some k) v)) ∧
    StrOK (dS.appendPair l k v) ((dS.appendPair l k v).strRefs (replaceAt F l ((layoutAt F l).snoc (some k) v))) ∧
    (∃ ms, d2.toVal (d2.get l) = .obj ms ∧ abs (dS.appendPair l k v) = absWith d2 F l (.obj (ms ++ [(key, .null)]))) ∧
    (dS.appendPair l k v).g = d2.g ∧ (dS.appendPair l k v).get (.slot v) = .null ∧
    (∀ x, PL.live (dS.appendPair l k v).g (dS.appendPair l k v).pl x ↔ PL.live d2.g d2.pl x) := by
  have hn : dS.null = d2.null := by simp only [Doc.null, hg]
  have hlv : ∀ x, PL.live dS.g dS.pl x ↔ PL.live d2.g d2.pl x := fun x => by rw [hg]; exact live_congr hpools hfree x
  have hkne : ∀ l0 ∈ holders F, ∀ e ∈ extOfV (d2.get l0), e ≠ k := by
    intro l0 h0 e he e'
    obtain ⟨⟨p, hp⟩, _, _⟩ := w2.ext l0 h0 e he
    rw [e', hk2c] at hp; cases hp
  have hfc : ∀ x ∈ F.ids, dS.cell x = d2.cell x := fun x hx => hcells x (fun e => hkF (e ▸ hx))
  have hfe : ∀ l0 ∈ holders F, ∀ e ∈ extOfV (d2.get l0), dS.cell e = d2.cell e ∧ PL.live dS.g dS.pl e :=
    fun l0 h0 e he => ⟨hcells e (hkne l0 h0 e he), (hlv e).2 (w2.ext l0 h0 e he).2.1⟩
  have hfp : PL.Inv dS.g dS.pl := by rw [hg]; exact w2.pool.congr hpools hcap hheap hfree
  have hfl : ∀ x ∈ F.ids, PL.live dS.g dS.pl x := fun x hx => (hlv x).2 (w2.live x hx)
  obtain ⟨wS, hsS, _⟩ := wfg_frame w2 hg hroot hfc hfe hfp hfl (StrOK_weaken hstr) hbytes
  obtain ⟨o1, o2, o3⟩ := frame_obs w2 hg hroot hfc hfe hfp hfl (StrOK_weaken hstr) hbytes hl
  have hrefs : dS.strRefs F = d2.strRefs F := by
    apply flatMap_congr'
    intro l0 h0
    rcases mem_holders.1 h0 with e | ⟨x, hx, e⟩
    · subst e; show strOfV dS.root = strOfV d2.root; rw [hroot]
    · subst e; rw [get_of_cell (hfc x hx)]
  have hvS : dS.get l = .obj h t := by rw [o1]; exact hv2
  have hvcS : dS.cell v = .var .null dS.null := by rw [hcells v (Ne.symm hkv), hn]; exact hvc
  have a := appendPair_spec (d := dS) wS hl hvS hk hkey hvcS hkv hkF hvF (hn ▸ hklt) (hn ▸ hvlt)
    ((hlv k).2 hklive) ((hlv v).2 hvlive)
  have b := appendPair_strOK (d := dS) wS (by rw [hrefs]; exact hstr) hl hvS hk hkey hvcS hkv hkF hvF
    (hn ▸ hklt) (hn ▸ hvlt) ((hlv k).2 hklive) ((hlv v).2 hvlive)
  -- cells of the result
  have hvs : VOK dS (.obj h t) (layoutAt F l) := hvS ▸ VOK_at wS hl
  obtain ⟨hlk, ht⟩ := (VOK_obj _ _ _ _).1 hvs
  obtain ⟨htf, htl⟩ := tail_facts wS hl hlk ht
  have hkl : Loc.slot k ≠ l := fun e => hkF (isLoc_ids (e ▸ hl))
  have hvl : Loc.slot v ≠ l := fun e => hvF (isLoc_ids (e ▸ hl))
  have hkt : t ≠ dS.null → k ≠ t := fun htn e => hkF (e ▸ (htf htn).2.2.1)
  have hvt : t ≠ dS.null → v ≠ t := fun htn e => hvF (e ▸ (htf htn).2.2.1)
  obtain ⟨_, _, _, cpl, cg, _, _, cco, _, _⟩ :=
    appendPair_cells (v := v) hvS hk hkl htl hkt (fun htn => (htf htn).2.2.2)
  obtain ⟨ms, hms, habs⟩ := a.2
  refine ⟨a.1, b, ⟨ms, by rw [← o2]; exact hms, by rw [habs, o3, hkb]⟩, by rw [cg, hg], ?_, ?_⟩
  · refine get_of_var (v := .null) (n := dS.null) ?_
    rw [cco v hvl (Ne.symm hkv) hvt]; exact hvcS
  · intro x; rw [cpl, cg]; exact hlv x

/-! ## A null location becomes an empty collection -/

/-- `absWith` at slot `i` does not read the value stored in slot `i` (nor what is below it) -/
theorem vals_ov_indep {d d' : Doc} {i : Nat} (x : Val) : ∀ (F : Forest), F.ids.Nodup → (i ∈ F.locs ∨ i ∉ F.ids) →
    (∀ j ∈ F.ids, j ≠ i → Good d d' j) → vals d' (ov1 i x) F = vals d (ov1 i x) F := by
  intro F
  induction F with
  | nil => intros; rfl
  | cons k j s r ihs ihr =>
    intro hnd hi hgood
    obtain ⟨nds, ndr, njs, njr, nsr, nk⟩ := Forest.nodup_cons hnd
    have hs' : i ∈ s.locs ∨ i ∉ s.ids := by
      rcases hi with hi | hi
      · simp only [Forest.locs, List.mem_cons, List.mem_append] at hi
        rcases hi with e | m | m
        · exact Or.inr (e ▸ njs)
        · exact Or.inl m
        · exact Or.inr (fun m' => nsr i m' (r.locs_sub_ids i m))
      · exact Or.inr (fun m => hi (by simp [Forest.ids, m]))
    have hr' : i ∈ r.locs ∨ i ∉ r.ids := by
      rcases hi with hi | hi
      · simp only [Forest.locs, List.mem_cons, List.mem_append] at hi
        rcases hi with e | m | m
        · exact Or.inr (e ▸ njr)
        · exact Or.inr (fun m' => nsr i (s.locs_sub_ids i m) m')
        · exact Or.inl m
      · exact Or.inr (fun m => hi (by simp [Forest.ids, m]))
    have hk : ∀ q ∈ Forest.keyL k, Good d d' q := by
      intro q hq
      refine hgood q (by simp [Forest.ids, hq]) ?_
      intro e; subst e
      rcases hi with hi | hi
      · simp only [Forest.locs, List.mem_cons, List.mem_append] at hi
        rcases hi with e | m | m
        · exact (nk q hq).1 e
        · exact (nk q hq).2.1 (s.locs_sub_ids q m)
        · exact (nk q hq).2.2 (r.locs_sub_ids q m)
      · exact hi (by simp [Forest.ids, hq])
    simp only [vals]
    rw [ihs nds hs' (fun q hq => hgood q (by simp [Forest.ids, hq])),
      ihr ndr hr' (fun q hq => hgood q (by simp [Forest.ids, hq])), keyB_good hk]
    by_cases hji : j = i
    · simp only [ov1, if_pos hji, Option.getD_some]
    · have hg := hgood j (by simp [Forest.ids]) hji
      simp only [ov1, if_neg hji, Option.getD_none, get_of_cell hg.1]
      rw [mkVal_congr hg.2]

/-- storing an empty array/object at a location that holds null: nothing else changes -/
theorem set_empty_coll {d : Doc} {F : Forest} {l : Loc} (w : WFG d F) (hs : StrOK d (d.strRefs F)) (hl : isLoc F l)
    (hnull : d.get l = .null) (b : Bool) :
    WFG (d.set l (mkC b d.null d.null)) F ∧
    StrOK (d.set l (mkC b d.null d.null)) ((d.set l (mkC b d.null d.null)).strRefs F) ∧
    abs (d.set l (mkC b d.null d.null)) = absWith d F l (mkVal d (mkC b d.null d.null) []) ∧
    (d.set l (mkC b d.null d.null)).toVal ((d.set l (mkC b d.null d.null)).get l) = mkVal d (mkC b d.null d.null) [] ∧
    (∀ x, absWith (d.set l (mkC b d.null d.null)) F l x = absWith d F l x) := by
  have hold : ¬ isColl (d.get l) := by rw [hnull]; exact fun h => h
  have hnil := layoutAt_nil_of_scalar w hl hold
  have hrep : replaceAt F l .nil = F := by rw [← hnil]; exact replaceAt_self w.nodup hl
  have k := (Kept.refl w hl).outside w hl (mkC b d.null d.null)
  have hres := k.wfg (s' := .nil) w hl (by rw [get_set_self, VOK_mkC, Lk_nil, set_null]; exact ⟨rfl, rfl⟩)
    List.nodup_nil (fun x hx => by cases hx) (fun x hx => by cases hx)
    (Outside.ext_kept w hl (fun l1 h1 => Or.inl (by rw [List.mem_singleton.1 h1, get_set_self, mkC_ext])))
  rw [hrep, get_set_self] at hres
  have hval : (d.set l (mkC b d.null d.null)).valOf (mkC b d.null d.null) .nil = mkVal d (mkC b d.null d.null) [] := by
    simp only [Doc.valOf, vals]
    exact mkVal_mkC _ _ _ _ _ _ _ _
  refine ⟨hres.1, ?_, by rw [hres.2.1, hval], ?_, ?_⟩
  · exact set_gen_strOK w hl (by rw [hnull]; rfl) rfl (fun _ _ => rfl) (by rw [mkC_str]; exact hs)
  · rw [toVal_at hres.1 hl, hnil, get_set_self]; exact hval
  · intro x
    cases l with
    | root => rfl
    | slot i =>
      simp only [absWith]
      rw [vals_ov_indep x F w.nodup (Or.inl hl)
        (fun j hj hji => k.good w hl hj (fun e => hji (by cases e; rfl)) (by rw [hnil]; exact fun m => by cases m)),
        root_set_slot]
      exact mkVal_congr (k.scalar (mem_holders.2 (Or.inl rfl)) (fun e => by cases e)) _

/-- a document whose root is an empty array/object is well-formed with the empty layout -/
theorem wfg_empty_coll {d : Doc} (b : Bool) (hr : d.root = mkC b d.null d.null) (hp : PL.Inv d.g d.pl) : WFG d .nil :=
  wfg_nil (by rw [hr, VOK_mkC, Lk_nil]; exact ⟨rfl, rfl⟩) (by rw [hr]; exact mkC_ext _ _ _) hp

/-! ## `getOrAddMember` -/

/-- the members of the object designated by `l` (none when `l` holds null or anything that is not an object) -/
def membersAt (d : Doc) (l : Loc) : List (List Byte × Val) :=
  match d.toVal (d.get l) with | .obj ms => ms | _ => []

theorem membersAt_of_toVal {d : Doc} {l : Loc} {ms : List (List Byte × Val)} (h : d.toVal (d.get l) = .obj ms) :
    membersAt d l = ms := by
  simp only [membersAt, h]

/-- a location that holds an object reads as the object of its members -/
theorem toVal_obj_at {d : Doc} {F : Forest} {l : Loc} {h t : Nat} (w : WFG d F) (hl : isLoc F l)
    (hv : d.get l = .obj h t) : d.toVal (d.get l) = .obj (membersAt d l) := by
  have : d.toVal (d.get l) = .obj (vals d noOv (layoutAt F l)) := by rw [toVal_at w hl, hv]; rfl
  simp only [membersAt, this]

/-- `VariantData::toObject` on a null variant; identity otherwise (first step of `getOrAddMember`) -/
def toObj (d : Doc) (l : Loc) : Doc :=
  match d.get l with | .null => d.set l (.obj d.null d.null) | _ => d

theorem getOrAddMember_eq (d : Doc) (l : Loc) (key : List Byte) (linked : Bool) :
    d.getOrAddMember l key linked =
      match (toObj d l).get l with
      | .obj _ _ =>
        match (toObj d l).findKey l key with
        | some (_, v) => (some v, toObj d l)
        | none => (toObj d l).addMember l key linked
      | _ => (none, toObj d l) := rfl

theorem toVal_null (d : Doc) : d.toVal .null = .null := rfl

theorem toObj_spec {d : Doc} {F : Forest} {l : Loc} (w : WFG d F) (hs : StrOK d (d.strRefs F)) (hl : isLoc F l)
    (hobj : d.get l = .null ∨ ∃ h t, d.get l = .obj h t) :
    WFG (toObj d l) F ∧ StrOK (toObj d l) ((toObj d l).strRefs F) ∧ (∃ h t, (toObj d l).get l = .obj h t) ∧
    abs (toObj d l) = absWith d F l (.obj (membersAt d l)) ∧
    (toObj d l).toVal ((toObj d l).get l) = .obj (membersAt d l) ∧
    (∀ x, absWith (toObj d l) F l x = absWith d F l x) ∧ (toObj d l).g = d.g ∧ (toObj d l).pl = d.pl ∧
    (toObj d l).overflowed = d.overflowed := by
  rcases hobj with hnull | ⟨h, t, hv⟩
  · obtain ⟨a, b, c, e, f⟩ := set_empty_coll w hs hl hnull true
    have hm : membersAt d l = [] := by simp only [membersAt, hnull, toVal_null]
    have ht : toObj d l = d.set l (mkC true d.null d.null) := by simp only [toObj, hnull]; rfl
    rw [ht, hm]
    exact ⟨a, b, ⟨_, _, get_set_self _ _ _⟩, c, e, f, set_g _ _ _, set_pl _ _ _, set_overflowed _ _ _⟩
  · have ht : toObj d l = d := by simp only [toObj, hv]
    have hm := toVal_obj_at w hl hv
    rw [ht]
    exact ⟨w, hs, ⟨h, t, hv⟩, by rw [← hm]; exact (absWith_self w hl).symm, hm, fun _ => rfl, rfl, rfl, rfl⟩

theorem allocVariant_fst_congr {d d' : Doc} (hg : d'.g = d.g) (hpl : d'.pl = d.pl) :
    d'.allocVariant.1 = d.allocVariant.1 := by
  simp only [Doc.allocVariant, hg, hpl]
  split <;> rfl

/-- when no member has the key, `getOrAddMember` is `addMember` on the (possibly just created) object -/
theorem getOrAddMember_absent_eq {d : Doc} {F : Forest} {l : Loc} {key : List Byte} {linked : Bool}
    (w : WFG d F) (hs : StrOK d (d.strRefs F)) (hl : isLoc F l)
    (hobj : d.get l = .null ∨ ∃ h t, d.get l = .obj h t)
    (habsent : (membersAt d l).find? (fun m => m.1 == key) = none) :
    d.getOrAddMember l key linked = (toObj d l).addMember l key linked := by
  obtain ⟨w0, _, ⟨h, t, hv0⟩, _, htv0, _, _, _, _⟩ := toObj_spec w hs hl hobj
  obtain ⟨ms, hms, hfk⟩ := findKey_spec w0 hl hv0 key
  have hmm : ms = membersAt d l := by rw [htv0] at hms; injection hms with e; exact e.symm
  rw [hmm, habsent] at hfk
  have hnone : (toObj d l).findKey l key = none := by
    cases hf : (toObj d l).findKey l key with
    | none => rfl
    | some p => rw [hf] at hfk; cases hfk
  rw [getOrAddMember_eq]; simp only [hv0, hnone]

/-! ## Projection lemmas (used to instantiate the theorems on concrete documents: `Std.HashMap` lookups of non-zero
   keys do not reduce in the kernel, the pool does) -/

theorem toVal_arr_inv {d : Doc} {v : VData} {xs : List Val} (h : d.toVal v = .arr xs) : ∃ hd t, v = .arr hd t := by
  cases v <;> simp [Doc.toVal, Doc.fuel, Doc.toValF] at h ⊢
theorem toVal_obj_inv {d : Doc} {v : VData} {ms : List (List Byte × Val)} (h : d.toVal v = .obj ms) : ∃ hd t, v = .obj hd t := by
  cases v <;> simp [Doc.toVal, Doc.fuel, Doc.toValF] at h ⊢

theorem allocVariant_fst (d : Doc) : d.allocVariant.1 = (PL.allocSlot d.g d.pl).1 := by
  simp only [Doc.allocVariant]; split <;> rename_i heq <;> rw [heq]
theorem allocVariant_pl (d : Doc) : d.allocVariant.2.pl = (PL.allocSlot d.g d.pl).2 := by
  simp only [Doc.allocVariant]; split <;> rename_i heq <;> rw [heq]
theorem addElement_fst (d : Doc) (l : Loc) : (d.addElement l).1 = (PL.allocSlot d.g d.pl).1 := by
  rw [← allocVariant_fst]
  simp only [Doc.addElement]; split <;> rename_i heq <;> rw [heq]
theorem addElement_pl (d : Doc) (l : Loc) : (d.addElement l).2.pl = (PL.allocSlot d.g d.pl).2 := by
  rw [← allocVariant_pl]
  simp only [Doc.addElement]; split <;> rename_i heq <;> rw [heq]
  exact appendOne_pl _ _ _
theorem addElement_g (d : Doc) (l : Loc) : (d.addElement l).2.g = d.g := (sameId_addElement d l).g
theorem appendPair_pl (d : Doc) (l : Loc) (k v : Nat) : (d.appendPair l k v).pl = d.pl := by
  simp only [Doc.appendPair]
  split
  · split
    · rw [set_pl, setNext_pl, setNext_pl]
    · rw [set_pl, setNext_pl]
  · rw [setNext_pl]
theorem appendPair_strings (d : Doc) (l : Loc) (k v : Nat) : (d.appendPair l k v).strings = d.strings := by
  simp only [Doc.appendPair]
  split
  · split
    · rw [set_strings, setNext_strings, setNext_strings]
    · rw [set_strings, setNext_strings]
  · rw [setNext_strings]
theorem appendPair_overflowed (d : Doc) (l : Loc) (k v : Nat) : (d.appendPair l k v).overflowed = d.overflowed :=
  overflowed_linking.appendPair d l k v
/-- `addMember` with a linked key: success and the slot returned depend on the pool only -/
theorem addMember_linked_fst (d : Doc) (l : Loc) (key : List Byte) :
    (d.addMember l key true).1 =
      match PL.allocSlot d.g d.pl with
      | (some _, p1) => (PL.allocSlot d.g p1).1
      | (none, _) => none := by
  simp only [Doc.addMember, Doc.allocVariant]
  generalize PL.allocSlot d.g d.pl = r1
  obtain ⟨m1, p1⟩ := r1
  cases m1 with
  | none => rfl
  | some k =>
    simp only
    generalize PL.allocSlot d.g p1 = r2
    obtain ⟨m2, p2⟩ := r2
    cases m2 <;> rfl
theorem addMember_linked_pl (d : Doc) (l : Loc) (key : List Byte) :
    (d.addMember l key true).2.pl =
      match PL.allocSlot d.g d.pl with
      | (some _, p1) => (PL.allocSlot d.g p1).2
      | (none, p1) => p1 := by
  simp only [Doc.addMember, Doc.allocVariant]
  generalize PL.allocSlot d.g d.pl = r1
  obtain ⟨m1, p1⟩ := r1
  cases m1 with
  | none => rfl
  | some k =>
    simp only
    generalize PL.allocSlot d.g p1 = r2
    obtain ⟨m2, p2⟩ := r2
    cases m2 with
    | none => rfl
    | some v => simp only [if_true, appendPair_pl, set_pl]

/-- the chain of a laid-out array is the list of the top-level value slots of its layout -/
theorem chain_of_layout {d : Doc} {F : Forest} {l : Loc} {h t : Nat} (w : WFG d F) (hl : isLoc F l)
    (hv : d.get l = .arr h t) : d.chain h = (layoutAt F l).tl := by
  have hvs : VOK d (.arr h t) (layoutAt F l) := hv ▸ VOK_at w hl
  obtain ⟨hlk, _⟩ := (VOK_arr _ _ _ _).1 hvs
  have hlen : (layoutAt F l).ids.length ≤ d.fuel :=
    Nat.le_trans (List.Nodup.length_le_of_subset (layoutAt_nodup w.nodup hl) (fun x hx => layoutAt_ids_sub F l x hx))
      (Nat.le_of_lt w.fuel_ok)
  rw [chain_eq hlk hlen, tl_eq_top_arr _ hlk]

/-! ## A kernel-evaluable equality test on `JD.Val` (for concrete instances: `decide +kernel`) -/

mutual
def valEqb : Val → Val → Bool
  | .null, .null => true
  | .bool a, .bool b => a == b
  | .num a, .num b => decide (a = b)
  | .str a, .str b => decide (a = b)
  | .raw a, .raw b => decide (a = b)
  | .arr a, .arr b => valEqbL a b
  | .obj a, .obj b => valEqbM a b
  | _, _ => false
def valEqbL : List Val → List Val → Bool
  | [], [] => true
  | x :: xs, y :: ys => valEqb x y && valEqbL xs ys
  | _, _ => false
def valEqbM : List (List Byte × Val) → List (List Byte × Val) → Bool
  | [], [] => true
  | (k, x) :: xs, (k', y) :: ys => decide (k = k') && valEqb x y && valEqbM xs ys
  | _, _ => false
end

mutual
theorem valEqb_sound : ∀ (a b : Val), valEqb a b = true → a = b
  | .null, b, h => by cases b <;> simp_all [valEqb]
  | .bool x, b, h => by cases b <;> simp_all [valEqb]
  | .num x, b, h => by cases b <;> simp_all [valEqb]
  | .str x, b, h => by cases b <;> simp_all [valEqb]
  | .raw x, b, h => by cases b <;> simp_all [valEqb]
  | .arr x, b, h => by
    cases b with
    | arr y => simp only [valEqb] at h; rw [valEqbL_sound _ _ h]
    | _ => simp [valEqb] at h
  | .obj x, b, h => by
    cases b with
    | obj y => simp only [valEqb] at h; rw [valEqbM_sound _ _ h]
    | _ => simp [valEqb] at h
theorem valEqbL_sound : ∀ (a b : List Val), valEqbL a b = true → a = b
  | [], b, h => by cases b <;> simp_all [valEqbL]
  | x :: xs, b, h => by
    cases b with
    | nil => simp [valEqbL] at h
    | cons y ys =>
      simp only [valEqbL, Bool.and_eq_true] at h
      rw [valEqb_sound _ _ h.1, valEqbL_sound _ _ h.2]
theorem valEqbM_sound : ∀ (a b : List (List Byte × Val)), valEqbM a b = true → a = b
  | [], b, h => by cases b <;> simp_all [valEqbM]
  | (k, x) :: xs, b, h => by
    cases b with
    | nil => simp [valEqbM] at h
    | cons y ys =>
      obtain ⟨k', y⟩ := y
      simp only [valEqbM, Bool.and_eq_true, decide_eq_true_eq] at h
      rw [h.1.1, valEqb_sound _ _ h.1.2, valEqbM_sound _ _ h.2]
end

end DL
