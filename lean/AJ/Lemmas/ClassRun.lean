/- Two instances of the generic two-run simulation, at the level of `run`:
   * locality: the result depends only on the bytes that were taken from the reader (`run_local`);
   * the end of the input and a NUL byte are the same thing to the deserializer (`run_nul_end`). -/
import AJ.Lemmas.ClassSim2
import AJ.Lemmas.ClassFuel
import AJ.Lemmas.JDPos
set_option linter.unusedSimpArgs false
set_option linter.unusedVariables false
namespace JD

/-! ## locality -/

/-- two runs over `p ++ x` and `p ++ y` that have not left `p` yet -/
def Live (p x y : List Byte) (s1 s2 : St) : Prop :=
  s1.found = s2.found ∧ s1.l.loaded = s2.l.loaded ∧ s1.l.cur = s2.l.cur ∧ s1.l.pos = s2.l.pos ∧
    ∃ u, s1.l.unread = u ++ x ∧ s2.l.unread = u ++ y ∧ s1.l.pos + u.length = p.length

theorem over_closed (n : Nat) : LatchClosed (fun s : St => n < s.l.pos) := by
  refine ⟨?_, ?_, ?_⟩
  · intro s h
    obtain ⟨⟨u, c, ld, p⟩, fd⟩ := s
    simp only [cur, Latch.current]
    cases ld
    · cases u <;> simp at h ⊢ <;> omega
    · simpa using h
  · intro s h; exact h
  · intro s h; exact h

theorem live_twin (p x y : List Byte) (hx : x ≠ []) : Twin (Live p x y) (fun s => p.length < s.l.pos) := by
  refine ⟨over_closed _, ?_, ?_, ?_, ?_, ?_⟩
  · intro s1 s2 h
    obtain ⟨⟨u1, c1, ld1, p1⟩, f1⟩ := s1
    obtain ⟨⟨u2, c2, ld2, p2⟩, f2⟩ := s2
    obtain ⟨h1, h2, h3, h4, u, h5, h6, h7⟩ := h
    simp only at h1 h2 h3 h4 h5 h6 h7
    subst h1; subst h2; subst h3; subst h4; subst h5; subst h6
    cases ld1
    · cases u with
      | nil =>
        right
        obtain ⟨a, x', rfl⟩ : ∃ a x', x = a :: x' := by
          cases x with
          | nil => exact absurd rfl hx
          | cons a x' => exact ⟨a, x', rfl⟩
        simp only [cur, Latch.current, List.nil_append, Bool.false_eq_true, ↓reduceIte]
        simp at h7; omega
      | cons c u' =>
        left
        simp only [cur, Latch.current, List.cons_append, Bool.false_eq_true, ↓reduceIte, true_and]
        refine ⟨rfl, rfl, rfl, rfl, u', rfl, rfl, ?_⟩
        simp at h7 ⊢; omega
    · left
      simp only [cur, Latch.current, ↓reduceIte, true_and]
      exact ⟨rfl, rfl, rfl, rfl, u, rfl, rfl, h7⟩
  · intro s1 s2 h
    obtain ⟨h1, h2, h3, h4, u, h5, h6, h7⟩ := h
    exact ⟨h1, rfl, h3, h4, u, h5, h6, h7⟩
  · intro s1 s2 b h
    obtain ⟨h1, h2, h3, h4, u, h5, h6, h7⟩ := h
    exact ⟨rfl, h2, h3, h4, u, h5, h6, h7⟩
  · intro s1 s2 h; exact h.1
  · intro s1 s2 h; exact h.2.2.1

theorem runF_pos (cfg : Cfg) (L fuel : Nat) (t : List Byte) :
    (runF cfg L fuel t).2.2 = (parseVariant cfg fuel L { l := { unread := t } }).2.2.l.pos := by
  rw [runF_eq, finishRun_pos]

/-- **Locality.** If the run over `p ++ x` (`x` not empty) took no byte of `x` from the reader, the result — code,
    document and number of bytes taken — is the same whatever follows `p`. -/
theorem run_local (cfg : Cfg) (L : Nat) (p x y : List Byte) (hx : x ≠ [])
    (h : (run cfg L (p ++ x)).2.2 ≤ p.length) : run cfg L (p ++ y) = run cfg L (p ++ x) := by
  have hF1 := run_eq_runF cfg L (2 * (p.length + x.length + y.length) + 4) (p ++ x) (by simp; omega)
  have hF2 := run_eq_runF cfg L (2 * (p.length + x.length + y.length) + 4) (p ++ y) (by simp; omega)
  rw [hF1] at h ⊢
  rw [hF2]
  generalize 2 * (p.length + x.length + y.length) + 4 = fuel at *
  have h0 : Live p x y ({ l := { unread := p ++ x } } : St) ({ l := { unread := p ++ y } } : St) :=
    ⟨rfl, rfl, rfl, rfl, p, rfl, rfl, by simp⟩
  rw [runF_pos] at h
  rcases (tw_mutual (live_twin p x y hx) (cfg := cfg) fuel).1 L _ _ h0 with ⟨e1, e2, e3⟩ | hb
  · obtain ⟨g1, g2⟩ := finishRun_congr e1 e2 e3.2.2.1
    have g3 : (runF cfg L fuel (p ++ x)).2.2 = (runF cfg L fuel (p ++ y)).2.2 := by
      rw [runF_pos, runF_pos]; exact e3.2.2.2.1
    apply Prod.ext g1.symm
    exact Prod.ext g2.symm g3.symm
  · exact absurd hb (Nat.not_lt.mpr h)

/-! ## the end of the input is a NUL -/

/-- a run over `t` and a run over `t ++ [0]`: either both are inside `t`, or the first one is at the end of `t` and
    the second one took the NUL -/
def NulEnd (s1 s2 : St) : Prop :=
  s2 = { s1 with l := { s1.l with unread := s1.l.unread ++ [0] } } ∨
  (s1.l.unread = [] ∧ s2 = { s1 with l := { s1.l with pos := s1.l.pos + 1 } })

theorem false_closed : LatchClosed (fun _ : St => False) := ⟨fun h => h, fun h => h, fun h => h⟩

theorem nulEnd_twin : Twin NulEnd (fun _ => False) := by
  refine ⟨false_closed, ?_, ?_, ?_, ?_, ?_⟩
  · intro s1 s2 h
    left
    obtain ⟨⟨u1, c1, ld1, p1⟩, f1⟩ := s1
    rcases h with rfl | ⟨hu, rfl⟩
    · cases ld1
      · cases u1 with
        | nil =>
          simp only [cur, Latch.current, List.nil_append, Bool.false_eq_true, ↓reduceIte, true_and]
          exact Or.inr ⟨rfl, rfl⟩
        | cons c u' =>
          simp only [cur, Latch.current, List.cons_append, Bool.false_eq_true, ↓reduceIte, true_and]
          exact Or.inl rfl
      · simp only [cur, Latch.current, ↓reduceIte, true_and]
        exact Or.inl rfl
    · simp only at hu; subst hu
      cases ld1
      · simp only [cur, Latch.current, Bool.false_eq_true, ↓reduceIte, true_and]
        exact Or.inr ⟨rfl, rfl⟩
      · simp only [cur, Latch.current, ↓reduceIte, true_and]
        exact Or.inr ⟨rfl, rfl⟩
  · intro s1 s2 h
    rcases h with rfl | ⟨hu, rfl⟩
    · exact Or.inl rfl
    · exact Or.inr ⟨hu, rfl⟩
  · intro s1 s2 b h
    rcases h with rfl | ⟨hu, rfl⟩
    · exact Or.inl rfl
    · exact Or.inr ⟨hu, rfl⟩
  · intro s1 s2 h
    rcases h with rfl | ⟨hu, rfl⟩ <;> rfl
  · intro s1 s2 h
    rcases h with rfl | ⟨hu, rfl⟩ <;> rfl

/-- **End of input = NUL.** Appending a NUL terminator changes neither the code nor the document; the number of bytes
    taken from the reader can only grow by one (the terminator). -/
theorem run_nul_end (cfg : Cfg) (L : Nat) (t : List Byte) :
    (run cfg L (t ++ [0])).1 = (run cfg L t).1 ∧ (run cfg L (t ++ [0])).2.1 = (run cfg L t).2.1 ∧
      (run cfg L t).2.2 = min (run cfg L (t ++ [0])).2.2 t.length := by
  have hle := run_pos_le cfg L t
  have hF1 := run_eq_runF cfg L (2 * (t.length + 1) + 4) t (by omega)
  have hF2 := run_eq_runF cfg L (2 * (t.length + 1) + 4) (t ++ [0]) (by simp only [List.length_append, List.length_cons, List.length_nil]; omega)
  rw [hF1] at hle ⊢
  rw [hF2]
  generalize 2 * (t.length + 1) + 4 = fuel at *
  have h0 : NulEnd ({ l := { unread := t } } : St) ({ l := { unread := t ++ [0] } } : St) := Or.inl rfl
  have hinv := (inv_mutual (n := t.length) (cfg := cfg) fuel).1 L ({ l := { unread := t } } : St) (by simp [Inv])
  rw [runF_pos] at hle
  rcases (tw_mutual nulEnd_twin (cfg := cfg) fuel).1 L _ _ h0 with ⟨e1, e2, e3⟩ | hb
  · have e4 : (parseVariant cfg fuel L { l := { unread := t } }).2.2.l.cur =
        (parseVariant cfg fuel L { l := { unread := t ++ [0] } }).2.2.l.cur := by
      rcases e3 with e | ⟨_, e⟩ <;> rw [e]
    obtain ⟨g1, g2⟩ := finishRun_congr e1 e2 e4
    refine ⟨g1.symm, g2.symm, ?_⟩
    rw [runF_pos, runF_pos]
    rcases e3 with e | ⟨hu, e⟩
    · rw [e]; simp only; omega
    · rw [e]; simp only
      unfold Inv at hinv
      rw [hu] at hinv
      simp at hinv
      omega
  · exact hb.elim

end JD
