/- Successive calls of a deserializer on one stream of bytes (property C16): the generic part.

   `C16.stream f k t`: at most `k` calls of `f`, each on the bytes the previous call left (`t.drop consumed`), recording
   (code, document) of every call, stopping after the first call that does not answer `Ok` and when nothing is left.
   It is the `streamLoop` of the driver (Main.lean) — the function the correspondence suite `stream` compares with the real
   library on counting readers, `std::istream` and block-buffered streams — minus the printing.

   Nothing here depends on the deserializer: `f` is any function `bytes → code × document × consumed`. -/
import AJ.Model.JD
import AJ.Lemmas.MpProjectEq
namespace C16
open JD

/-- at most `k` successive calls on one stream; the result of each call, in order -/
def stream (f : List Byte → Code × Val × Nat) : Nat → List Byte → List (Code × Val)
  | 0, _ => []
  | k + 1, t =>
    ((f t).1, (f t).2.1) ::
      (if (f t).1 = .ok then (if t.drop (f t).2.2 = [] then [] else stream f k (t.drop (f t).2.2)) else [])

/-- what the loop does after an `Ok` call: stop if nothing is left, else go on -/
def cont (f : List Byte → Code × Val × Nat) (k : Nat) (t : List Byte) : List (Code × Val) :=
  if t = [] then [] else stream f k t

theorem stream_zero (f : List Byte → Code × Val × Nat) (t : List Byte) : stream f 0 t = [] := rfl

theorem cont_zero (f : List Byte → Code × Val × Nat) (t : List Byte) : cont f 0 t = [] := by
  unfold cont; split <;> rfl

theorem cont_nil (f : List Byte → Code × Val × Nat) (k : Nat) : cont f k [] = [] := by
  unfold cont; rw [if_pos rfl]

theorem cont_of_ne (f : List Byte → Code × Val × Nat) (k : Nat) {t : List Byte} (h : t ≠ []) :
    cont f k t = stream f k t := by
  unfold cont; rw [if_neg h]

/-- a call that answers `Ok`: its document is recorded and the loop goes on with what the call left -/
theorem stream_ok (f : List Byte → Code × Val × Nat) (k : Nat) {t : List Byte} {v : Val} {n : Nat}
    (h : f t = (.ok, v, n)) : stream f (k + 1) t = (.ok, v) :: cont f k (t.drop n) := by
  simp only [stream, cont, h, ↓reduceIte]

/-- a call that does not answer `Ok` is the last one -/
theorem stream_stop (f : List Byte → Code × Val × Nat) (k : Nat) {t : List Byte} (h : (f t).1 ≠ .ok) :
    stream f (k + 1) t = [((f t).1, (f t).2.1)] := by
  simp only [stream, h, ↓reduceIte]

/-- fewer calls: a prefix of the results -/
theorem stream_take (f : List Byte → Code × Val × Nat) : ∀ (k j : Nat) (t : List Byte),
    stream f k t = (stream f (k + j) t).take k := by
  intro k
  induction k with
  | zero => intro j t; rfl
  | succ k ih =>
    intro j t
    have e : k + 1 + j = (k + j) + 1 := by omega
    rw [e]
    simp only [stream, List.take_succ_cons]
    congr 1
    by_cases h1 : (f t).1 = .ok
    · rw [if_pos h1, if_pos h1]
      by_cases h2 : t.drop (f t).2.2 = []
      · rw [if_pos h2, if_pos h2, List.take_nil]
      · rw [if_neg h2, if_neg h2]; exact ih j _
    · rw [if_neg h1, if_neg h1, List.take_nil]

theorem stream_length_le (f : List Byte → Code × Val × Nat) : ∀ (k : Nat) (t : List Byte), (stream f k t).length ≤ k := by
  intro k
  induction k with
  | zero => intro t; exact Nat.le_refl _
  | succ k ih =>
    intro t
    simp only [stream, List.length_cons]
    by_cases h1 : (f t).1 = .ok
    · rw [if_pos h1]
      by_cases h2 : t.drop (f t).2.2 = []
      · rw [if_pos h2]; exact Nat.succ_le_succ (Nat.zero_le k)
      · rw [if_neg h2]; exact Nat.succ_le_succ (ih _)
    · rw [if_neg h1]; exact Nat.succ_le_succ (Nat.zero_le k)

/-- the bytes left after `k` calls (each on what the previous one left) -/
def leftover (f : List Byte → Code × Val × Nat) : Nat → List Byte → List Byte
  | 0, t => t
  | k + 1, t => leftover f k (t.drop (f t).2.2)

/-- once `m` calls, and any larger number of calls, return `r`, `k` calls return the first `k` entries of `r` -/
theorem stream_take_of_stable {f : List Byte → Code × Val × Nat} {t : List Byte} {m : Nat} {r : List (Code × Val)}
    (h : ∀ j, stream f (m + j) t = r) (k : Nat) : stream f k t = r.take k := by
  have h0 : stream f m t = r := h 0
  by_cases hk : k ≤ m
  · obtain ⟨j, rfl⟩ := Nat.exists_eq_add_of_le hk
    rw [stream_take f k j, h0]
  · obtain ⟨j, rfl⟩ := Nat.exists_eq_add_of_le (Nat.le_of_not_le hk)
    rw [h j, List.take_of_length_le]
    rw [← h0]
    exact Nat.le_trans (stream_length_le f m t) (Nat.le_add_right m j)

/-! ## calls that answer `Ok` one after the other -/

/-- successive calls, the first on `t`, none on an empty stream, answer `Ok` with the documents `vs` and leave `t'` -/
inductive Chain (f : List Byte → Code × Val × Nat) : List Byte → List Val → List Byte → Prop
  | nil (t : List Byte) : Chain f t [] t
  | cons {t t' : List Byte} {v : Val} {n : Nat} {vs : List Val} :
      t ≠ [] → f t = (.ok, v, n) → Chain f (t.drop n) vs t' → Chain f t (v :: vs) t'

section chain
variable {f : List Byte → Code × Val × Nat} {t t' : List Byte} {vs : List Val}

theorem cont_chain (h : Chain f t vs t') (j : Nat) :
    cont f (vs.length + j) t = vs.map (fun v => (Code.ok, v)) ++ cont f j t' := by
  induction h with
  | nil t => rw [List.length_nil, Nat.zero_add]; rfl
  | cons hne hf _ ih => rw [cont_of_ne f _ hne, List.length_cons, Nat.add_right_comm, stream_ok f _ hf, ih]; rfl

theorem leftover_chain (h : Chain f t vs t') : leftover f vs.length t = t' := by
  induction h with
  | nil t => rfl
  | cons _ hf _ ih => rw [List.length_cons, leftover, hf]; exact ih

/-- the documents given as `xs.map doc`, as all the sequence theorems state them -/
theorem stream_chain {ι : Type} {doc : ι → Val} {xs : List ι} (hne : xs ≠ []) (h : Chain f t (xs.map doc) t') (j : Nat) :
    stream f (xs.length + j) t = xs.map (fun x => (Code.ok, doc x)) ++ cont f j t' := by
  have hc := cont_chain h j
  have ht : t ≠ [] := by
    cases xs with
    | nil => exact absurd rfl hne
    | cons x xs => cases h with | cons ht _ _ => exact ht
  rw [List.length_map, List.map_map, cont_of_ne f _ ht] at hc
  exact hc

end chain

/-- a segment that `f` accepts as exactly one document, whatever follows it -/
def Exact (f : List Byte → Code × Val × Nat) (e : List Byte) (v : Val) : Prop :=
  e ≠ [] ∧ ∀ rest, f (e ++ rest) = (.ok, v, e.length)

section exact
variable {ι : Type} (f : List Byte → Code × Val × Nat) (enc : ι → List Byte) (doc : ι → Val)

/-- **Back-to-back segments, generic.** If every segment `enc x` is accepted as exactly the document `doc x` whatever
    follows, the calls on the concatenation return the documents one after the other and leave `rest`. -/
theorem chain_exact (rest : List Byte) : ∀ xs : List ι, (∀ x ∈ xs, Exact f (enc x) (doc x)) →
    Chain f ((xs.map enc).flatten ++ rest) (xs.map doc) rest
  | [], _ => Chain.nil rest
  | x :: xs, h => by
    obtain ⟨hne, hex⟩ := h x (List.mem_cons_self ..)
    rw [List.map_cons, List.flatten_cons, List.append_assoc, List.map_cons]
    refine Chain.cons (fun h0 => hne (List.append_eq_nil_iff.mp h0).1) (hex _) ?_
    rw [List.drop_left]
    exact chain_exact rest xs (fun y hy => h y (List.mem_cons_of_mem _ hy))

theorem stream_exact (rest : List Byte) (j : Nat) (xs : List ι) (hne : xs ≠ []) (h : ∀ x ∈ xs, Exact f (enc x) (doc x)) :
    stream f (xs.length + j) ((xs.map enc).flatten ++ rest) = xs.map (fun x => (Code.ok, doc x)) ++ cont f j rest :=
  stream_chain hne (chain_exact f enc doc rest xs h) j

/-- the same with nothing after the last segment, for any number `k` of calls: the first `k` documents -/
theorem stream_exact_take (xs : List ι) (hne : xs ≠ []) (h : ∀ x ∈ xs, Exact f (enc x) (doc x)) (k : Nat) :
    stream f k (xs.map enc).flatten = (xs.map (fun x => (Code.ok, doc x))).take k := by
  refine stream_take_of_stable (m := xs.length) (fun j => ?_) k
  have := stream_exact f enc doc [] j xs hne h
  rwa [List.append_nil, cont_nil, List.append_nil] at this

theorem leftover_exact (rest : List Byte) (xs : List ι) (h : ∀ x ∈ xs, Exact f (enc x) (doc x)) :
    leftover f xs.length ((xs.map enc).flatten ++ rest) = rest := by
  have := leftover_chain (chain_exact f enc doc rest xs h)
  rwa [List.length_map] at this

end exact

/-- **Locality, for two arbitrary inputs.** Let a call that took no byte of `x ≠ []` answer the same on every input that
    starts with `p`. Then a call on `t` that left at least one byte answers the same on every `t'` with the same bytes
    taken. -/
theorem independent_of_rest {f : List Byte → Code × Val × Nat}
    (hloc : ∀ p x y : List Byte, x ≠ [] → (f (p ++ x)).2.2 ≤ p.length → f (p ++ y) = f (p ++ x))
    (t t' : List Byte) (h : (f t).2.2 < t.length) (hp : t'.take (f t).2.2 = t.take (f t).2.2) : f t' = f t := by
  generalize hn : (f t).2.2 = n at h hp
  have ht : t.take n ++ t.drop n = t := List.take_append_drop n t
  have ht' : t.take n ++ t'.drop n = t' := by rw [← hp]; exact List.take_append_drop n t'
  have hx : t.drop n ≠ [] := by
    intro h0
    have := congrArg List.length h0
    rw [List.length_drop, List.length_nil] at this
    omega
  have := hloc (t.take n) (t.drop n) (t'.drop n) hx (by rw [ht, hn, List.length_take]; omega)
  rwa [ht, ht'] at this

/-! ## a boolean test for lists of results (for kernel-evaluated examples; `JD.Val` has no `DecidableEq`) -/

def resEqb : List (Code × Val) → List (Code × Val) → Bool
  | [], [] => true
  | (c, v) :: xs, (c', v') :: ys => decide (c = c') && Val.eqb v v' && resEqb xs ys
  | _, _ => false

theorem resEqb_sound : ∀ a b, resEqb a b = true → a = b
  | [], [], _ => rfl
  | [], _ :: _, h => by simp only [resEqb] at h; cases h
  | _ :: _, [], h => by simp only [resEqb] at h; cases h
  | (c, v) :: xs, (c', v') :: ys, h => by
    simp only [resEqb, Bool.and_eq_true, decide_eq_true_eq] at h
    rw [h.1.1, Val.eqb_sound v v' h.1.2, resEqb_sound xs ys h.2]

end C16
