/- C12 (floating-point clauses): the exact rational value of a literal, the truncation error of the scan over ℚ, and the
   accuracy of `parseNumber` for literals with `2^-999 ≤ |v|` (the decimal ranges of the property are corollaries). -/
import AJ.Lemmas.FloatErrFinish
namespace C12
open SF JD Digits

/-- `|v|` for the literal with integer digits `ip`, fraction part `f` (`[]` or `'.' :: digits`) and exponent part `e`:
    `N·10^(X − |fd|)`, `N` the number written by all digits, `X` the written exponent -/
def litAbs (ip f e : List Byte) : ℚ :=
  (Digits.decVal (ip ++ f.tail) : ℚ) * (10 : ℚ) ^ (expVal e - (f.tail.length : Int))

/-- the exact rational value of the literal -/
def litVal (neg : Bool) (ip f e : List Byte) : ℚ := (if neg then -1 else 1) * litAbs ip f e

/-- the exact rational value of a finite datum -/
def sval (n : Bool) (m : Nat) (e : Int) : ℚ := (if n then -1 else 1) * qv m e

theorem ten_zpow_pos (e : Int) : (0 : ℚ) < (10 : ℚ) ^ e := zpow_pos (by norm_num) e

theorem scan_exp (X : Int) (L p : Nat) :
    (10 : ℚ) ^ (X - (L : Int) + (p : Int)) = ((10 ^ p : Nat) : ℚ) * (10 : ℚ) ^ (X - (L : Int)) := by
  rw [zpow_add₀ (by norm_num : (10 : ℚ) ≠ 0), zpow_natCast]; push_cast; ring

open Spec.Json

/-- the scan over ℚ: truncation bracket `mant·10^E ≤ |v| < (mant+1)·10^E`, and relative error at most
    `1/450359962737049 < 2.23e-15` (zero when nothing was dropped) -/
theorem scan_q {N mant p : Nat} (hs : Scan Gen.mantissa_max64 N mant p) (S : ℚ) (hS : 0 < S) :
    (mant : ℚ) * (((10 ^ p : Nat) : ℚ) * S) ≤ (N : ℚ) * S ∧ (N : ℚ) * S < ((mant : ℚ) + 1) * (((10 ^ p : Nat) : ℚ) * S) ∧
    (0 < N → mant ≠ 0 ∧ Close (1 / 450359962737049) ((mant : ℚ) * (((10 ^ p : Nat) : ℚ) * S)) ((N : ℚ) * S)) := by
  obtain ⟨h1, h2, h3⟩ := hs
  have q1 : ((mant * 10 ^ p : Nat) : ℚ) ≤ (N : ℚ) := by exact_mod_cast h1
  have q2 : (N : ℚ) < (((mant + 1) * 10 ^ p : Nat) : ℚ) := by exact_mod_cast h2
  rw [Nat.cast_mul] at q1 q2
  rw [Nat.cast_add, Nat.cast_one] at q2
  have hP : (0 : ℚ) < ((10 ^ p : Nat) : ℚ) := by positivity
  obtain ⟨P, hPe⟩ : ∃ P : ℚ, P = ((10 ^ p : Nat) : ℚ) := ⟨_, rfl⟩
  rw [← hPe] at q1 q2 hP ⊢
  rw [← mul_assoc, ← mul_assoc]
  refine ⟨mul_le_mul_of_nonneg_right q1 hS.le, mul_lt_mul_of_pos_right q2 hS, ?_⟩
  intro hN
  have hmm : Gen.mantissa_max64 / 10 = 450359962737049 := by decide
  have hm0 : mant ≠ 0 := by
    rintro rfl
    rcases h3 with rfl | h3
    · simp at h2; omega
    · rw [hmm] at h3; omega
  refine ⟨hm0, ?_⟩
  unfold Close
  have e1 : (mant : ℚ) * P * S - (N : ℚ) * S = -(((N : ℚ) - mant * P) * S) := by ring
  have hnn : 0 ≤ (N : ℚ) - mant * P := by linarith
  rw [e1, abs_neg, abs_of_nonneg (mul_nonneg hnn hS.le)]
  rcases h3 with rfl | h3
  · -- nothing dropped: exact
    simp at h1 h2
    have : mant = N := by omega
    subst this
    have hP1 : P = 1 := by simpa using hPe
    rw [hP1, mul_one, sub_self, zero_mul]
    positivity
  · rw [hmm] at h3
    have hmq : (450359962737049 : ℚ) ≤ (mant : ℚ) := by exact_mod_cast h3
    -- N - mant·P < P ≤ mant·P / M0 ≤ N / M0
    have k1 : (N : ℚ) - mant * P ≤ P := by linarith
    have k2 : P * 450359962737049 ≤ (N : ℚ) := by
      rw [mul_comm]; exact le_trans (mul_le_mul_of_nonneg_right hmq hP.le) q1
    have k3 : ((N : ℚ) - mant * P) * S ≤ P * S := mul_le_mul_of_nonneg_right k1 hS.le
    have k4 : P * S * 450359962737049 ≤ (N : ℚ) * S := by
      rw [mul_right_comm]; exact mul_le_mul_of_nonneg_right k2 hS.le
    have : P * S ≤ 1 / 450359962737049 * ((N : ℚ) * S) := by
      rw [one_div, inv_mul_eq_div, le_div_iff₀ (by norm_num)]; exact k4
    linarith

theorem big_num_3 : (10 : ℚ) ^ (300 : Int) ≤ (2 : ℚ) ^ (1000 : Int) := by
  simpa using zpow_le_of_nat (a := 10) (b := 2) (p := 300) (q := 1000) (c := 1) (d := 1) (by decide +kernel)

theorem big_num_4 : 2 * (2 : ℚ) ^ (-1000 : Int) ≤ (10 : ℚ) ^ (-300 : Int) := by
  simpa using zpow_neg_le_of_nat (a := 10) (b := 2) (p := 300) (q := 1000) (c := 2) (d := 1) (by decide) (by decide)
    (by decide +kernel)

theorem big_num_5 : 2 * (2 : ℚ) ^ (1025 : Int) ≤ (10 : ℚ) ^ (309 : Int) := by
  simpa using zpow_le_of_nat (a := 2) (b := 10) (p := 1025) (q := 309) (c := 2) (d := 1) (by decide +kernel)

/-- a scanned pair `M` within `1/450359962737049` of the literal `L` keeps at least half of its magnitude -/
theorem scan_pair_lo {M L W : ℚ} (hcl : Close (1 / 450359962737049) M L) (hL : 0 ≤ L) (hW : 2 * W ≤ L) : W ≤ M := by
  have h1 := hcl.ge
  have h2 := mul_le_mul_of_nonneg_right (by norm_num : (1 / 2 : ℚ) ≤ 1 - 1 / 450359962737049) hL
  linarith

/-- SCAN. For the literal `-? ip f e` whose written exponent is below the saturation threshold (`|X| < 100000`),
    `parseNumber` returns the exact integer (only when there is neither fraction nor exponent), or continues with the last
    stage `finish neg [] mant E` on a pair `(mant, E)` with `mant ≤ 2^52−1` and
    `mant·10^E ≤ |v| < (mant+1)·10^E` (truncation: less than one unit of the last kept digit); digits are dropped only
    once `mant ≥ (2^52−1)/10`, hence the relative truncation error is at most `1/450359962737049 < 2.23e-15`. -/
theorem scan_error (cfg : Cfg) (neg : Bool) {ip f e : List Byte} (hip : AllDigits ip) (hne : ip ≠ [])
    (hf : FracPart f) (he : ExpPart e) (hx : (expVal e).natAbs < 100000) :
    let lit := (if neg then [0x2D] else []) ++ ip ++ f ++ e
    (f = [] ∧ e = [] ∧ (parseNumber cfg lit = .uint (Digits.decVal ip) ∨ parseNumber cfg lit = .sint (-(Digits.decVal ip : Int)))) ∨
    ∃ (mant : Nat) (E : Int), parseNumber cfg lit = finish neg [] mant E ∧ mant ≤ 2 ^ 52 - 1 ∧
      (mant : ℚ) * (10 : ℚ) ^ E ≤ litAbs ip f e ∧ litAbs ip f e < ((mant : ℚ) + 1) * (10 : ℚ) ^ E ∧
      ((mant : ℚ) * (10 : ℚ) ^ E = litAbs ip f e ∨ (2 ^ 52 - 1) / 10 ≤ mant) ∧
      (0 < litAbs ip f e → mant ≠ 0 ∧ Close (1 / 450359962737049) ((mant : ℚ) * (10 : ℚ) ^ E) (litAbs ip f e)) := by
  intro lit
  rcases parse_scan cfg neg hip hne hf he hx with ⟨h1, h2, h3⟩ | ⟨mant, p, h1, h2, h3⟩
  · left
    refine ⟨h1, h2, ?_⟩
    have : Digits.decVal (ip ++ f.tail) = Digits.decVal ip := by rw [h1]; simp
    rw [this] at h3; exact h3
  · right
    refine ⟨mant, expVal e - (f.tail.length : Nat) + (p : Nat), h1, h3, ?_⟩
    have hS := ten_zpow_pos (expVal e - (f.tail.length : Int))
    obtain ⟨q1, q2, q3⟩ := scan_q h2 _ hS
    rw [scan_exp]
    unfold litAbs
    refine ⟨q1, q2, ?_, ?_⟩
    · obtain ⟨s1, s2, s3⟩ := h2
      rcases s3 with rfl | s3
      · left
        simp at s1 s2
        have : mant = Digits.decVal (ip ++ f.tail) := by omega
        rw [this]; simp
      · right; exact s3
    · intro hpos
      apply q3
      have : (0 : ℚ) < (Digits.decVal (ip ++ f.tail) : ℚ) := pos_of_mul_pos_left hpos hS.le
      exact_mod_cast this

theorem abs_sval_sub (neg : Bool) (m : Nat) (ex : Int) (ip f e : List Byte) :
    |sval neg m ex - litVal neg ip f e| = |qv m ex - litAbs ip f e| := by
  unfold sval litVal
  cases neg
  · simp
  · have : (if true = true then (-1 : ℚ) else 1) * qv m ex - (if true = true then (-1 : ℚ) else 1) * litAbs ip f e =
        -(qv m ex - litAbs ip f e) := by simp; ring
    rw [this, abs_neg]

theorem abs_litVal (neg : Bool) (ip f e : List Byte) (h : 0 ≤ litAbs ip f e) : |litVal neg ip f e| = litAbs ip f e := by
  unfold litVal
  cases neg
  · simp [abs_of_nonneg h]
  · simp [abs_of_nonneg h]

/-- the error of the last stage on the scanned pair `M` and the truncation error of the scan, chained -/
theorem close_lit {δ ε M : ℚ} (neg : Bool) (m : Nat) (ex : Int) {ip f e : List Byte} (hc : Close δ (qv m ex) M)
    (hcl : Close (1 / 450359962737049) M (litAbs ip f e)) (hpos : 0 < litAbs ip f e) (hδ : 0 ≤ δ)
    (hε : δ + 1 / 450359962737049 + δ * (1 / 450359962737049) ≤ ε) :
    |sval neg m ex - litVal neg ip f e| ≤ ε * |litVal neg ip f e| := by
  rw [abs_sval_sub, abs_litVal neg ip f e hpos.le]
  exact (hc.trans hcl hpos hδ (by norm_num)).mono hpos.le hε

/-- THE PARSE CLAUSES, on the binary range. For every literal `-? ip f e` (exponent below the saturation threshold) with
    `|v| ≥ 2^-999`, `parseNumber` returns the exact integer (only when there is neither fraction nor exponent), a binary64 or
    a binary32 pattern — never `.invalid`/`.fault`. A binary64 pattern is the infinity of the sign of the literal (only when
    `|v| > 2^1000`) or a FINITE non-zero datum of that sign with `|r − v| ≤ 1e-13·|v|` (actual bound proved: `< 4.8e-15`).
    A binary32 pattern is a FINITE non-zero datum of that sign (never an infinity: an overflowing binary32 computation is
    redone in binary64) with `|r − v| ≤ 1e-6·|v|`. -/
theorem parse_error (cfg : Cfg) (neg : Bool) {ip f e : List Byte} (hip : AllDigits ip) (hne : ip ≠ [])
    (hf : FracPart f) (he : ExpPart e) (hx : (expVal e).natAbs < 100000)
    (hlo : 2 * (2 : ℚ) ^ (-1000 : Int) ≤ litAbs ip f e) :
    let lit := (if neg then [0x2D] else []) ++ ip ++ f ++ e
    ((f = [] ∧ e = [] ∧
        (parseNumber cfg lit = .uint (Digits.decVal ip) ∨ parseNumber cfg lit = .sint (-(Digits.decVal ip : Int)))) ∨
      (∃ bits, parseNumber cfg lit = .f64 bits) ∨ (∃ bits, parseNumber cfg lit = .f32 bits)) ∧
    (∀ bits, parseNumber cfg lit = .f64 bits →
      (decode b64 bits = .inf neg ∧ (2 : ℚ) ^ (1000 : Int) < litAbs ip f e) ∨
      ∃ (m : Nat) (ex : Int), decode b64 bits = .fin neg m ex ∧ m ≠ 0 ∧
        |sval neg m ex - litVal neg ip f e| ≤ 1 / 10 ^ 13 * |litVal neg ip f e|) ∧
    (∀ bits, parseNumber cfg lit = .f32 bits →
      ∃ (m : Nat) (ex : Int), decode b32 bits = .fin neg m ex ∧ m ≠ 0 ∧
        |sval neg m ex - litVal neg ip f e| ≤ 1 / 10 ^ 6 * |litVal neg ip f e|) := by
  intro lit
  have hpos : 0 < litAbs ip f e := lt_of_lt_of_le (mul_pos two_pos (two_zpow_pos _)) hlo
  rcases scan_error cfg neg hip hne hf he hx with ⟨h1, h2, h3⟩ | ⟨mant, E, h1, h2, h3, _, _, h6⟩
  · refine ⟨Or.inl ⟨h1, h2, h3⟩, ?_, ?_⟩
    · intro bits hb
      rcases h3 with h3 | h3 <;> · rw [h3] at hb; cases hb
    · intro bits hb
      rcases h3 with h3 | h3 <;> · rw [h3] at hb; cases hb
  · obtain ⟨hm0, hcl⟩ := h6 hpos
    have hlt : mant < 2 ^ 53 := by omega
    have hmlo : (2 : ℚ) ^ (-1000 : Int) ≤ (mant : ℚ) * (10 : ℚ) ^ E := scan_pair_lo hcl hpos.le hlo
    obtain ⟨hk, h64⟩ := finish_f64_or_inf neg mant E hm0 hlt hmlo
    show (_ ∨ (∃ bits, parseNumber cfg lit = _) ∨ (∃ bits, parseNumber cfg lit = _)) ∧
      (∀ bits, parseNumber cfg lit = _ → _) ∧ (∀ bits, parseNumber cfg lit = _ → _)
    rw [h1]
    refine ⟨Or.inr hk, ?_, ?_⟩
    · intro bits hb
      by_cases hhi : litAbs ip f e ≤ (2 : ℚ) ^ (1000 : Int)
      · -- no overflow below `2^1000`
        obtain ⟨m, ex, hdec, hm, hc⟩ := (finish_f64_close neg mant E hm0 hlt hmlo (le_trans h3 hhi)).2 bits hb
        exact Or.inr ⟨m, ex, hdec, hm, close_lit neg m ex hc hcl hpos (by norm_num) (by norm_num)⟩
      · rcases h64 bits hb with hi | ⟨m, ex, hdec, hm, hc⟩
        · exact Or.inl ⟨hi, lt_of_not_ge hhi⟩
        · exact Or.inr ⟨m, ex, hdec, hm, close_lit neg m ex hc hcl hpos (by norm_num) (by norm_num)⟩
    · intro bits hb
      obtain ⟨m, ex, hdec, hm, hc⟩ := finish_f32_full neg mant E hm0 hlt hmlo bits hb
      exact ⟨m, ex, hdec, hm, close_lit neg m ex hc hcl hpos (by norm_num) (by norm_num)⟩

/-- "more than seven significant digits ⇒ not a binary32": if the number written by all the digits exceeds
    `2^23 − 1 = 8388607` the result is never a binary32 pattern -/
theorem f32_few_digits (cfg : Cfg) (neg : Bool) {ip f e : List Byte} (hip : AllDigits ip) (hne : ip ≠ [])
    (hf : FracPart f) (he : ExpPart e) (hx : (expVal e).natAbs < 100000)
    (hlo : 2 * (2 : ℚ) ^ (-1000 : Int) ≤ litAbs ip f e) (hhi : litAbs ip f e ≤ (2 : ℚ) ^ (1000 : Int))
    (bits : Nat) (hb : parseNumber cfg ((if neg then [0x2D] else []) ++ ip ++ f ++ e) = .f32 bits) :
    Digits.decVal (ip ++ f.tail) ≤ 8388607 := by
  by_contra hN
  have hN : 8388607 < Digits.decVal (ip ++ f.tail) := by omega
  have hpos : 0 < litAbs ip f e := lt_of_lt_of_le (mul_pos two_pos (two_zpow_pos _)) hlo
  rcases parse_scan cfg neg hip hne hf he hx with ⟨_, _, h3⟩ | ⟨mant, p, h1, h2, h3⟩
  · rcases h3 with h3 | h3 <;> · rw [h3] at hb; cases hb
  · have hmant : 8388607 < mant := by
      obtain ⟨s1, s2, s3⟩ := h2
      rcases s3 with rfl | s3
      · simp at s1 s2; omega
      · have : Gen.mantissa_max64 / 10 = 450359962737049 := by decide
        omega
    have hm0 : mant ≠ 0 := by omega
    have hlt : mant < 2 ^ 53 := by
      have : Gen.mantissa_max64 = 4503599627370495 := rfl
      omega
    obtain ⟨q1, _, q3⟩ := scan_q h2 _ (ten_zpow_pos (expVal e - (f.tail.length : Int)))
    rw [← scan_exp] at q1 q3
    have hN0 : 0 < Digits.decVal (ip ++ f.tail) := by omega
    obtain ⟨_, hcl⟩ := q3 hN0
    have e1 := exp_ge_of mant _ hlt (scan_pair_lo hcl hpos.le hlo)
    have e2 := exp_le_of mant _ hm0 (le_trans q1 hhi)
    rw [h1, finish_mid neg mant _ hm0 e1 e2, if_pos (Or.inr (Or.inr hmant))] at hb
    split at hb <;> cases hb

end C12
