/- One step of the slot-level MessagePack deserializers, unfiltered (`MDD`, AJ/Model/MDD.lean) and filtered (`MDDF`,
   AJ/Model/MDDF.lean): `parseVariant (fuel+1)` is the header byte, its classification `MD.classify`
   (AJ/Lemmas/MpProject.lean) and one leaf per kind of token; `readArray` / `readObject (fuel+1)` are the slot of the next
   element / member and the recursive calls. Every induction over the two mutual blocks starts from these equations.
   The filtered leaves with a destination are the unfiltered ones, so that with a transparent filter (AJ/Lemmas/FilterId.lean)
   and a destination the filtered routines ARE the unfiltered ones (`slot_transparent`). -/
import AJ.Model.MDDF
import AJ.Lemmas.MpProject
import AJ.Lemmas.FilterId
namespace MD
open JD (Byte)

/-- `dispatch` with the continuations `f ∘ constructor` is `f` of the classification -/
theorem dispatch_leaf {α : Type} (code : Byte) (r : R) (f : Hdr → α) :
    dispatch code r (fun w c => f (.int w c)) (f .nil) (f .invalid) (fun c => f (.bool c)) (f .f32) (f .f64)
      (fun c => f (.fix c)) (fun r => f (.inc r)) (fun n r => f (.arr n r)) (fun n r => f (.map n r))
      (fun n r => f (.str n r)) (fun sb ie hb n r => f (.bin sb ie hb n r)) = f (classify code r) := by
  rw [dispatch_eq]
  cases classify code r <;> rfl

end MD

namespace MDD
open DL
open JD (Byte Code)
open MD (Env Hdr)

/-! ## `MDD.parseVariant`, one step -/

def fin (p : Code × S) : Code × S × Bool := (p.1, p.2, true)

theorem fin_found (p : Code × S) : (fin p).2.2 = true := rfl

def leafInt (l : Loc) (width c : Nat) (x : S) : Code × S × Bool :=
  match x.r.readBytes width with
  | (some bs, r) =>
    match MD.readInteger bs (c ≥ 0xd0) with
    | .num (.uint n) => fin (store { x with r := r } l (.uint n))
    | .num (.sint n) => fin (store { x with r := r } l (.sint n))
    | _ => fin (.ok, { x with r := r })
  | (none, r) => fin (.incomplete, { x with r := r })

def leafF32 (l : Loc) (x : S) : Code × S × Bool :=
  match x.r.readBytes 4 with
  | (some bs, r) => fin (.ok, { x with r := r, d := x.d.set l (.f32 (MD.beNat bs)) })
  | (none, r) => fin (.incomplete, { x with r := r })

def leafF64 (l : Loc) (x : S) : Code × S × Bool :=
  match x.r.readBytes 8 with
  | (some bs, r) => fin (store { x with r := r } l (.f64 (MD.beNat bs)))
  | (none, r) => fin (.incomplete, { x with r := r })

def leafArr (env : Env) (fuel limit : Nat) (l : Loc) (size : Nat) (x : S) : Code × S × Bool :=
  match limit with
  | 0 => fin (.tooDeep, x)
  | limit'+1 => fin (readArray env fuel limit' l size { x with d := x.d.set l (.arr x.d.null x.d.null) })

def leafMap (env : Env) (fuel limit : Nat) (l : Loc) (size : Nat) (x : S) : Code × S × Bool :=
  match limit with
  | 0 => fin (.tooDeep, x)
  | limit'+1 => fin (readObject env fuel limit' l size { x with d := x.d.set l (.obj x.d.null x.d.null) })

/-- `save` does not move the reader -/
theorem save_r (x : S) (bytes : List Byte) : (save x bytes).2.r = x.r := by
  unfold save
  split <;> rfl

/-- the node `save` returns, stored at `l` as the value `mk node` -/
def saveSet (l : Loc) (mk : Nat → VData) (x : S) (bytes : List Byte) : S :=
  { (save x bytes).2 with d := (save x bytes).2.d.set l (mk (save x bytes).1) }

theorem saveSet_d (l : Loc) (mk : Nat → VData) (x : S) (bytes : List Byte) :
    (saveSet l mk x bytes).d = (save x bytes).2.d.set l (mk (save x bytes).1) := rfl
theorem saveSet_r (l : Loc) (mk : Nat → VData) (x : S) (bytes : List Byte) : (saveSet l mk x bytes).r = (save x bytes).2.r := rfl
theorem saveSet_b (l : Loc) (mk : Nat → VData) (x : S) (bytes : List Byte) : (saveSet l mk x bytes).b = (save x bytes).2.b := rfl

def leafStr (env : Env) (l : Loc) (size : Nat) (x : S) : Code × S × Bool :=
  match readString env x size with
  | (.ok, bs, x) => fin (.ok, saveSet l .owned x bs)
  | (e, _, x) => fin (e, x)

/-- a binary or extension value is stored with its header: `code`, the size bytes `hb`, the payload -/
def leafBin (env : Env) (l : Loc) (code : Byte) (sizeBytes : Nat) (isExt : Bool) (hb : List Byte) (size : Nat) (x : S) :
    Code × S × Bool :=
  match reserve env.maxStrLen x (1 + sizeBytes + MD.binSize isExt size) with
  | (false, x) => fin (.noMemory, x)
  | (true, x) =>
    match x.r.readBytes (MD.binSize isExt size) with
    | (some bs, r) => fin (.ok, saveSet l .raw { x with r := r } (code :: hb ++ bs))
    | (none, r) => fin (.incomplete, { x with r := r })

/-- what `parseVariant` does once the header is classified; `x` holds the reader after the header byte -/
def leaf (env : Env) (fuel limit : Nat) (l : Loc) (code : Byte) (x : S) : Hdr → Code × S × Bool
  | .int w c => leafInt l w c x
  | .nil => fin (.ok, x)
  | .invalid => fin (.invalid, x)
  | .bool c => fin (.ok, { x with d := x.d.set l (.bool (c == 0xc3)) })
  | .f32 => leafF32 l x
  | .f64 => leafF64 l x
  | .fix c => fin (.ok, { x with d := x.d.set l (.i32 (if c ≥ 0x80 then (c : Int) - 256 else c)) })
  | .inc r => fin (.incomplete, { x with r := r })
  | .arr size r => leafArr env fuel limit l size { x with r := r }
  | .map size r => leafMap env fuel limit l size { x with r := r }
  | .str size r => leafStr env l size { x with r := r }
  | .bin sizeBytes isExt hb size r => leafBin env l code sizeBytes isExt hb size { x with r := r }

set_option maxRecDepth 8000 in
/-- one step of `parseVariant`: read the header byte, classify, run the leaf -/
theorem parseVariant_step (env : Env) (fuel limit : Nat) (l : Loc) (x : S) :
    parseVariant env (fuel+1) limit l x =
      match x.r.read with
      | (none, r) => (.incomplete, { x with r := r }, false)
      | (some code, r) => leaf env fuel limit l code { x with r := r } (MD.classify code r) := by
  unfold parseVariant
  generalize x.r.read = rd
  obtain ⟨_ | code, r0⟩ := rd
  · rfl
  -- the model's chain of tests on the header byte is `MD.dispatch`, whose continuations are the constructors' leaves
  refine Eq.trans ?_ (MD.dispatch_leaf code r0 (leaf env fuel limit l code { x with r := r0 }))
  rfl

/-! ## `MDD.readArray`, `MDD.readObject`, one step -/

theorem readArray_succ (env : Env) (fuel limit : Nat) (l : Loc) (n : Nat) (x : S) :
    readArray env (fuel+1) limit l n x =
      if n == 0 then (.ok, x) else
      match x.d.addElement l with
      | (none, d) => (.noMemory, { x with d := d })
      | (some id, d) =>
        match parseVariant env fuel limit (.slot id) { x with d := d } with
        | (.ok, x, _) => readArray env fuel limit l (n - 1) x
        | (e, x, _) => (e, x) := by
  simp only [readArray]
  rfl

/-- the member value, then the remaining members -/
def roVal (env : Env) (fuel limit : Nat) (l : Loc) (n v : Nat) (x : S) : Code × S :=
  match parseVariant env fuel limit (.slot v) x with
  | (.ok, x, _) => readObject env fuel limit l (n - 1) x
  | (e, x, _) => (e, x)

/-- the key string is read; it is saved, the member added and its value parsed -/
def roKey (env : Env) (fuel limit : Nat) (l : Loc) (n len : Nat) (x : S) : Code × S :=
  match readString env x len with
  | (.ok, key, x) =>
    match JDD.addMemberNode (save x key).2.d l (save x key).1 with
    | (none, d) => (.noMemory, { (save x key).2 with d := d })
    | (some v, d) => roVal env fuel limit l n v { (save x key).2 with d := d }
  | (e, _, x) => (e, x)

set_option maxRecDepth 8000 in
theorem readObject_succ (env : Env) (fuel limit : Nat) (l : Loc) (n : Nat) (x : S) :
    readObject env (fuel+1) limit l n x =
      if n == 0 then (.ok, x) else
      match x.r.read with
      | (none, r) => (.incomplete, { x with r := r })
      | (some code, r) =>
        match MD.keyLenOf_d3 code r with
        | (none, r) => (.invalid, { x with r := r })
        | (some none, r) => (.incomplete, { x with r := r })
        | (some (some len), r) => roKey env fuel limit l n len { x with r := r } := by
  unfold readObject
  rfl

end MDD

namespace MDDF
open DL
open JD (Byte Code Flt)
open MD (Env Hdr)
open MDD (S reserve save readString store fin)

/-! ## `MDDF.parseVariant`, one step -/

/-- skipping `n` bytes of a value that is not stored -/
def skipN (x : S) (n : Nat) : Code × S :=
  match x.r.skipBytes n with
  | (true, r) => (.ok, { x with r := r })
  | (false, r) => (.incomplete, { x with r := r })

/-- the destination of a value the filter lets through (`allowValue`, `allowArray`, `allowObject`, `allow`) -/
def gate (b : Bool) (dst : Option Loc) : Option Loc := if b then dst else none

theorem gate_true (dst : Option Loc) : gate true dst = dst := rfl
theorem gate_false (dst : Option Loc) : gate false dst = none := rfl
theorem gate_none (b : Bool) : gate b none = none := by cases b <;> rfl

def leafInt (av : Option Loc) (width c : Nat) (x : S) : Code × S × Bool :=
  match av with
  | some l => MDD.leafInt l width c x
  | none => fin (skipN x width)

/-- a value without payload (`true`, `false`, a fixint) -/
def leafSet (av : Option Loc) (v : VData) (x : S) : Code × S × Bool :=
  match av with
  | some l => fin (.ok, { x with d := x.d.set l v })
  | none => fin (.ok, x)

def leafF32 (av : Option Loc) (x : S) : Code × S × Bool :=
  match av with
  | some l => MDD.leafF32 l x
  | none => fin (skipN x 4)

def leafF64 (av : Option Loc) (x : S) : Code × S × Bool :=
  match av with
  | some l => MDD.leafF64 l x
  | none => fin (skipN x 8)

def leafArr (env : Env) (fuel limit : Nat) (flt : Flt) (dst : Option Loc) (size : Nat) (x : S) : Code × S × Bool :=
  match limit with
  | 0 => fin (.tooDeep, x)
  | limit'+1 =>
    match gate flt.allowArray dst with
    | some l => fin (readArray env fuel limit' flt.subIdx (some l) size { x with d := x.d.set l (.arr x.d.null x.d.null) })
    | none => fin (readArray env fuel limit' flt.subIdx none size x)

def leafMap (env : Env) (fuel limit : Nat) (flt : Flt) (dst : Option Loc) (size : Nat) (x : S) : Code × S × Bool :=
  match limit with
  | 0 => fin (.tooDeep, x)
  | limit'+1 =>
    match gate flt.allowObject dst with
    | some l => fin (readObject env fuel limit' flt (some l) size { x with d := x.d.set l (.obj x.d.null x.d.null) })
    | none => fin (readObject env fuel limit' flt none size x)

def leafStr (env : Env) (av : Option Loc) (size : Nat) (x : S) : Code × S × Bool :=
  match av with
  | some l => MDD.leafStr env l size x
  | none => fin (skipN x size)

def leafBin (env : Env) (av : Option Loc) (code : Byte) (sizeBytes : Nat) (isExt : Bool) (hb : List Byte) (size : Nat)
    (x : S) : Code × S × Bool :=
  match av with
  | some l => MDD.leafBin env l code sizeBytes isExt hb size x
  | none => fin (skipN x (MD.binSize isExt size))

/-- what the filtered `parseVariant` does once the header is classified; `x` holds the reader after the header byte, `av`
    is the destination of a scalar (`gate flt.allowValue dst`) -/
def leaf (env : Env) (fuel limit : Nat) (flt : Flt) (dst av : Option Loc) (code : Byte) (x : S) : Hdr → Code × S × Bool
  | .int w c => leafInt av w c x
  | .nil => fin (.ok, x)
  | .invalid => fin (.invalid, x)
  | .bool c => leafSet av (.bool (c == 0xc3)) x
  | .f32 => leafF32 av x
  | .f64 => leafF64 av x
  | .fix c => leafSet av (.i32 (if c ≥ 0x80 then (c : Int) - 256 else c)) x
  | .inc r => fin (.incomplete, { x with r := r })
  | .arr size r => leafArr env fuel limit flt dst size { x with r := r }
  | .map size r => leafMap env fuel limit flt dst size { x with r := r }
  | .str size r => leafStr env av size { x with r := r }
  | .bin sizeBytes isExt hb size r => leafBin env av code sizeBytes isExt hb size { x with r := r }

set_option maxRecDepth 8000 in
/-- one step of the filtered `parseVariant`: read the header byte, classify, run the leaf -/
theorem parseVariant_step (env : Env) (fuel limit : Nat) (flt : Flt) (dst : Option Loc) (x : S) :
    parseVariant env (fuel+1) limit flt dst x =
      match x.r.read with
      | (none, r) => (.incomplete, { x with r := r }, false)
      | (some code, r) =>
        leaf env fuel limit flt dst (gate flt.allowValue dst) code { x with r := r } (MD.classify code r) := by
  unfold parseVariant
  generalize x.r.read = rd
  obtain ⟨_ | code, r0⟩ := rd
  · rfl
  refine Eq.trans ?_ (MD.dispatch_leaf code r0 (leaf env fuel limit flt dst (gate flt.allowValue dst) code { x with r := r0 }))
  rfl

/-- every branch of every leaf ends in `fin` -/
theorem leaf_found (env : Env) (fuel limit : Nat) (flt : Flt) (dst av : Option Loc) (code : Byte) (x : S) (h : Hdr) :
    (leaf env fuel limit flt dst av code x h).2.2 = true := by
  cases h <;> simp only [leaf, leafInt, leafSet, leafF32, leafF64, leafArr, leafMap, leafStr, leafBin, MDD.leafInt,
    MDD.leafF32, MDD.leafF64, MDD.leafStr, MDD.leafBin] <;> (repeat' split) <;> rfl

/-- `foundSomething` is false only when not a single byte could be read: the code is then IncompleteInput -/
theorem found_false (env : Env) (fuel limit : Nat) (flt : Flt) (dst : Option Loc) (x : S)
    (h : (parseVariant env fuel limit flt dst x).2.2 = false) : (parseVariant env fuel limit flt dst x).1 = .incomplete := by
  cases fuel with
  | zero => simp only [parseVariant] at h; cases h
  | succ f =>
    rw [parseVariant_step] at h ⊢
    generalize x.r.read = rd at h ⊢
    obtain ⟨_ | code, r0⟩ := rd
    · rfl
    · simp only [leaf_found] at h; cases h

/-! ## `MDDF.readArray`, `MDDF.readObject`, one step -/

/-- the slot of the next element: `none` when `addElement` failed, `some none` when the element is not stored -/
def elemSlot (ea : Option Loc) (x : S) : Option (Option Loc) × S :=
  match ea with
  | some l =>
    match x.d.addElement l with
    | (none, d) => (none, { x with d := d })
    | (some id, d) => (some (some (.slot id)), { x with d := d })
  | none => (some none, x)

theorem readArray_succ (env : Env) (fuel limit : Nat) (ef : Flt) (arr : Option Loc) (n : Nat) (x : S) :
    readArray env (fuel+1) limit ef arr n x =
      if n == 0 then (.ok, x) else
      match elemSlot (gate ef.allow arr) x with
      | (none, x) => (.noMemory, x)
      | (some dst, x) =>
        match parseVariant env fuel limit ef dst x with
        | (.ok, x, _) => readArray env fuel limit ef arr (n - 1) x
        | (e, x, _) => (e, x) := by
  simp only [readArray, elemSlot, gate]
  rfl

/-- the slot of the next member's value: the key is saved and the member appended, or nothing is stored -/
def memSlot (oa : Option Loc) (x : S) (key : List Byte) : Option (Option Loc) × S :=
  match oa with
  | some l =>
    match JDD.addMemberNode (save x key).2.d l (save x key).1 with
    | (none, d) => (none, { (save x key).2 with d := d })
    | (some v, d) => (some (some (.slot v)), { (save x key).2 with d := d })
  | none => (some none, x)

/-- the member value, then the remaining members -/
def roVal (env : Env) (fuel limit : Nat) (flt : Flt) (obj : Option Loc) (n : Nat) (mf : Flt) (dst : Option Loc) (x : S) :
    Code × S :=
  match parseVariant env fuel limit mf dst x with
  | (.ok, x, _) => readObject env fuel limit flt obj (n - 1) x
  | (e, x, _) => (e, x)

/-- the key string is read; its slot is provided (or not), the value parsed -/
def roKey (env : Env) (fuel limit : Nat) (flt : Flt) (obj : Option Loc) (n len : Nat) (x : S) : Code × S :=
  match readString env x len with
  | (.ok, key, x) =>
    match memSlot (gate (flt.subKey key).allow obj) x key with
    | (none, x) => (.noMemory, x)
    | (some dst, x) => roVal env fuel limit flt obj n (flt.subKey key) dst x
  | (e, _, x) => (e, x)

set_option maxRecDepth 8000 in
theorem readObject_succ (env : Env) (fuel limit : Nat) (flt : Flt) (obj : Option Loc) (n : Nat) (x : S) :
    readObject env (fuel+1) limit flt obj n x =
      if n == 0 then (.ok, x) else
      match x.r.read with
      | (none, r) => (.incomplete, { x with r := r })
      | (some code, r) =>
        match MD.keyLenOf_d3 code r with
        | (none, r) => (.invalid, { x with r := r })
        | (some none, r) => (.incomplete, { x with r := r })
        | (some (some len), r) => roKey env fuel limit flt obj n len { x with r := r } := by
  unfold readObject
  rfl

/-! ## A transparent filter with a destination -/

/-- with a transparent filter and a destination the three filtered routines are the unfiltered ones: every gate is open, and
    the sub-filters are transparent again -/
theorem slot_transparent (env : Env) : ∀ fuel,
    (∀ (limit : Nat) (flt : Flt) (l : Loc) (x : S), JD.Transparent flt →
      parseVariant env fuel limit flt (some l) x = MDD.parseVariant env fuel limit l x) ∧
    (∀ (limit : Nat) (flt : Flt) (l : Loc) (n : Nat) (x : S), JD.Transparent flt →
      readArray env fuel limit flt (some l) n x = MDD.readArray env fuel limit l n x) ∧
    (∀ (limit : Nat) (flt : Flt) (l : Loc) (n : Nat) (x : S), JD.Transparent flt →
      readObject env fuel limit flt (some l) n x = MDD.readObject env fuel limit l n x) := by
  intro fuel
  induction fuel with
  | zero =>
    exact ⟨fun _ _ _ _ _ => by simp only [parseVariant, MDD.parseVariant],
      fun _ _ _ _ _ _ => by simp only [readArray, MDD.readArray],
      fun _ _ _ _ _ _ => by simp only [readObject, MDD.readObject]⟩
  | succ f ih =>
    obtain ⟨ihV, ihA, ihO⟩ := ih
    refine ⟨?_, ?_, ?_⟩
    · intro limit flt l x h
      rw [parseVariant_step, MDD.parseVariant_step, h.allowValue, gate_true]
      generalize x.r.read = rd
      obtain ⟨_ | code, r0⟩ := rd
      · rfl
      simp only
      cases MD.classify code r0 with
      | arr size r =>
        simp only [leaf, MDD.leaf, leafArr, MDD.leafArr, h.allowArray, gate_true]
        cases limit with
        | zero => rfl
        | succ limit' => simp only; rw [ihA limit' flt.subIdx l size _ h.subIdx]
      | map size r =>
        simp only [leaf, MDD.leaf, leafMap, MDD.leafMap, h.allowObject, gate_true]
        cases limit with
        | zero => rfl
        | succ limit' => simp only; rw [ihO limit' flt l size _ h]
      | _ => rfl
    · intro limit flt l n x h
      rw [readArray_succ, MDD.readArray_succ, h.allow, gate_true]
      by_cases hn : (n == 0) = true
      · rw [if_pos hn, if_pos hn]
      rw [if_neg hn, if_neg hn]
      simp only [elemSlot]
      generalize x.d.addElement l = r
      obtain ⟨_ | id, d1⟩ := r
      · rfl
      simp only
      rw [ihV limit flt (.slot id) _ h]
      generalize MDD.parseVariant env f limit (.slot id) { x with d := d1 } = q
      obtain ⟨c, x2, fd⟩ := q
      cases c <;> first | rfl | exact ihA limit flt l (n - 1) x2 h
    · intro limit flt l n x h
      rw [readObject_succ, MDD.readObject_succ]
      by_cases hn : (n == 0) = true
      · rw [if_pos hn, if_pos hn]
      rw [if_neg hn, if_neg hn]
      generalize x.r.read = rd
      obtain ⟨_ | code, r0⟩ := rd
      · rfl
      simp only
      generalize MD.keyLenOf_d3 code r0 = kl
      obtain ⟨_ | _ | len, r1⟩ := kl
      · rfl
      · rfl
      simp only [roKey, MDD.roKey]
      generalize readString env { x with r := r1 } len = rs
      obtain ⟨c, key, x1⟩ := rs
      cases c <;> try rfl
      simp only
      rw [h.subKey_eq key, h.allow, gate_true]
      simp only [memSlot]
      generalize JDD.addMemberNode (save x1 key).2.d l (save x1 key).1 = r
      obtain ⟨_ | v, d2⟩ := r
      · rfl
      simp only [roVal, MDD.roVal]
      rw [ihV limit flt (.slot v) _ h]
      generalize MDD.parseVariant env f limit (.slot v) { (save x1 key).2 with d := d2 } = q
      obtain ⟨c, x2, fd⟩ := q
      cases c <;> first | rfl | exact ihO limit flt l (n - 1) x2 h

/-- the unfiltered routines are the filtered ones under `AllowAllFilter` -/
theorem slot_all (env : Env) (fuel : Nat) :
    (∀ (limit : Nat) (l : Loc) (x : S),
      MDD.parseVariant env fuel limit l x = parseVariant env fuel limit .all (some l) x) ∧
    (∀ (limit : Nat) (l : Loc) (n : Nat) (x : S),
      MDD.readArray env fuel limit l n x = readArray env fuel limit .all (some l) n x) ∧
    (∀ (limit : Nat) (l : Loc) (n : Nat) (x : S),
      MDD.readObject env fuel limit l n x = readObject env fuel limit .all (some l) n x) :=
  ⟨fun limit l x => ((slot_transparent env fuel).1 limit .all l x JD.transparent_all).symm,
    fun limit l n x => ((slot_transparent env fuel).2.1 limit .all l n x JD.transparent_all).symm,
    fun limit l n x => ((slot_transparent env fuel).2.2 limit .all l n x JD.transparent_all).symm⟩

end MDDF

/-- `foundSomething` is false only when not a single byte could be read: the code is then IncompleteInput -/
theorem MDD.found_false (env : MD.Env) (fuel limit : Nat) (l : DL.Loc) (x : MDD.S)
    (h : (MDD.parseVariant env fuel limit l x).2.2 = false) : (MDD.parseVariant env fuel limit l x).1 = .incomplete := by
  rw [(MDDF.slot_all env fuel).1] at h ⊢
  exact MDDF.found_false env fuel limit .all (some l) x h
