/- Classification lemmas for C10: when the deserializer answers `EmptyInput`, and what it answers on a token that a
   disabled option would have allowed. -/
import AJ.Lemmas.DialectSound
import AJ.Lemmas.DialectWs
import AJ.Lemmas.DialectFound
import AJ.Lemmas.TokenStep
import AJ.Lemmas.Digits
set_option linter.unusedSimpArgs false
set_option linter.unusedVariables false
namespace JD
open Spec.Dialect

theorem cur_snd_loaded (s : St) : (cur s).2.l.loaded = true ∧ (cur s).2.l.cur = (cur s).1 := by
  cases h : s.l.loaded
  · cases h2 : s.l.unread with
    | nil => rw [cur_nil h h2]; exact ⟨rfl, rfl⟩
    | cons c cs => rw [cur_cons h h2]; exact ⟨rfl, rfl⟩
  · rw [cur_loaded h]; exact ⟨h, rfl⟩

/-- shape of the state after a successful `skipSpaces`: latched on a token byte, `found` set -/
theorem skipSpaces_ok_shape (cfg : Cfg) : ∀ (fuel : Nat) (s s1 : St), skipSpaces cfg fuel s = (.ok, s1) →
    s1.l.loaded = true ∧ s1.found = true ∧ (s1.l.cur == 0) = false ∧ isWs s1.l.cur = false ∧
      (cfg.comments && s1.l.cur == 0x2F) = false := by
  intro fuel s s1 h
  obtain ⟨r, hr⟩ := Rem.exists s
  have hs := skipSpaces_spec cfg fuel s r hr
  rw [h] at hs
  obtain ⟨w, r', _, _, h3, h4, _⟩ := hs (Or.inl rfl)
  obtain ⟨g1, g2, g3, g4, g5⟩ := h4 rfl
  rw [g1.loaded_cur g2]
  exact ⟨g2, g3, by simpa using g4, h3, g5⟩

/-- `skipSpaces` is idempotent -/
theorem skipSpaces_idem (cfg : Cfg) {fuel : Nat} {s s1 : St} (h : skipSpaces cfg fuel s = (.ok, s1)) (m : Nat) :
    skipSpaces cfg (m + 1) s1 = (.ok, s1) := by
  obtain ⟨h1, h2, h3, h4, h5⟩ := skipSpaces_ok_shape cfg _ _ _ h
  simp only [skipSpaces, cur_loaded h1, h3, h4, h5, Bool.false_eq_true, ↓reduceIte]
  congr 1
  cases s1
  simp only at h2
  simp [h2]

/-- `EmptyInput` comes from the first `skipSpaces` of the top-level value -/
theorem parseVariant_empty (cfg : Cfg) (n L : Nat) (s : St) (h : (parseVariant cfg (n + 1) L s).1 = .empty) :
    (skipSpaces cfg (n + 1) s).1 = .empty := by
  rw [parseVariant_succ] at h
  generalize hq : skipSpaces cfg (n + 1) s = q at h ⊢
  obtain ⟨e, s1⟩ := q
  by_cases he : e = .ok
  · subst he
    have hne := (ne_mutual (cfg := cfg) (n + 1)).1 L s1 (skipSpaces_ok_shape cfg _ _ _ hq).2.1
    rw [parseVariant_succ, skipSpaces_idem cfg hq n] at hne
    exact absurd h hne
  · have : pvK cfg n L (e, s1) = (e, .null, s1) := by
      cases e <;> first | exact absurd rfl he | rfl
    rw [this] at h
    exact h

theorem text_of_prefix {w r' : List Byte} (hw : ∀ c ∈ w, c ≠ 0) (hr : r'.headD 0 = 0) : text (w ++ r') = w := by
  unfold text
  induction w with
  | nil =>
    cases r' with
    | nil => rfl
    | cons c r => have : c = 0 := hr; subst this; rfl
  | cons a w ih =>
    have ha : (a != 0) = true := by simpa using hw a (List.mem_cons_self ..)
    simp only [List.cons_append, List.takeWhile_cons, ha, ↓reduceIte]
    rw [ih (fun c hc => hw c (List.mem_cons_of_mem _ hc))]

theorem text_split (t : List Byte) : ∃ r', t = text t ++ r' ∧ r'.headD 0 = 0 := by
  unfold text
  induction t with
  | nil => exact ⟨[], rfl, rfl⟩
  | cons a t ih =>
    by_cases ha : a = 0
    · subst ha; exact ⟨0 :: t, by simp, rfl⟩
    · obtain ⟨r', h1, h2⟩ := ih
      have ha' : (a != 0) = true := by simpa using ha
      refine ⟨r', ?_, h2⟩
      simp only [List.takeWhile_cons, ha', ↓reduceIte, List.cons_append]
      rw [← h1]

/-- **`EmptyInput` exactly on white space.** -/
theorem run_empty_iff (cfg : Cfg) (L : Nat) (t : List Byte) : (run cfg L t).1 = .empty ↔ DWs cfg (text t) := by
  have hfuel : 2 * t.length + 4 = (2 * t.length + 3) + 1 := rfl
  constructor
  · intro h
    rw [run_eq] at h
    have hpv := finishRun_code h (fun h => nomatch h)
    rw [hfuel] at hpv
    have hss := parseVariant_empty cfg _ L _ hpv
    cases hq : skipSpaces cfg (2 * t.length + 3 + 1) { l := { unread := t } } with
    | mk e s' =>
      rw [hq] at hss
      simp only at hss
      subst hss
      have hs := skipSpaces_spec cfg (2 * t.length + 3 + 1) _ _ (Rem.un (s := { l := { unread := t } }) rfl)
      rw [hq] at hs
      obtain ⟨w, r', rfl, hw, _, _, hr'⟩ := hs (Or.inr rfl)
      rw [text_of_prefix (dws_no_nul hw) (hr' rfl)]
      exact hw
  · intro h
    obtain ⟨r', ht, hr'⟩ := text_split t
    have hlen : (text t).length ≤ t.length := by
      have := congrArg List.length ht
      simp at this; omega
    have hs : Pos ({ l := { unread := t } } : St) (text t ++ r') 0 false := At.pos ⟨rfl, by rw [← ht], rfl, rfl⟩
    have he := skipSpaces_dws_end cfg (text t) h _ r' 0 false hs hr' (2 * t.length + 3 + 1) (by omega)
    rw [run_eq, hfuel, parseVariant_succ]
    cases hq : skipSpaces cfg (2 * t.length + 3 + 1) { l := { unread := t } } with
    | mk e s' =>
      rw [hq] at he
      simp only [Bool.false_eq_true, ↓reduceIte] at he
      subst he
      rfl

/-! ## tokens that no enabled option allows -/

/-- a byte that cannot start a number: no sign, digit or dot, nor a letter of `NaN` / `Infinity` that is enabled -/
def BadStart (cfg : Cfg) (c : Byte) : Prop :=
  c ≠ 0x2D ∧ c ≠ 0x2B ∧ isDigit c = false ∧ c ≠ 0x2E ∧ (cfg.nan && (c == 0x6E || c == 0x4E)) = false ∧
    (cfg.inf && (c == 0x69 || c == 0x49)) = false

theorem parseNumber_nil (cfg : Cfg) : parseNumber cfg [] = .invalid := by
  have e1 : ((0 : UInt8) == 0x6E || (0 : UInt8) == 0x4E) = false := by decide
  have e2 : ((0 : UInt8) == 0x69 || (0 : UInt8) == 0x49) = false := by decide
  have e3 : (!(isDigit 0) && (0 : UInt8) != 0x2E) = true := by decide
  rw [parseNumber_unsigned cfg [] (fun _ h => nomatch h) (fun _ h => nomatch h)]
  unfold core
  simp only [List.headD_nil, e1, e2, e3, Bool.and_false, Bool.false_eq_true, ↓reduceIte]

theorem parseNumber_badStart {cfg : Cfg} {c : Byte} (h : BadStart cfg c) (l : List Byte) :
    parseNumber cfg (c :: l) = .invalid := by
  obtain ⟨h1, h2, h3, h4, h5, h6⟩ := h
  have e4 : (c != 0x2E) = true := by simpa using h4
  rw [parseNumber_digit cfg c l h1 h2]
  unfold core
  simp only [List.headD_cons, h3, h5, h6, e4, Bool.not_false, Bool.and_self, Bool.false_eq_true, ↓reduceIte]

theorem parseNumeric_badStart {cfg : Cfg} {s : St} {c : Byte} {rest : List Byte} (hr : Rem s (c :: rest))
    (h : BadStart cfg c) : (parseNumeric cfg s).1 = .invalid := by
  have e : Gen.number_buffer - 1 = 63 := rfl
  simp only [parseNumeric, e]
  generalize hq : scanNumber cfg 63 [] s = q
  obtain ⟨buf, X⟩ := q
  obtain ⟨x, r', h1, h2, _⟩ := scanNumber_sound cfg _ _ _ _ _ _ hr hq
  simp only [List.reverse_nil, List.nil_append] at h2
  subst h2
  have : parseNumber cfg buf = .invalid := by
    cases buf with
    | nil => exact parseNumber_nil cfg
    | cons a l =>
      simp only [List.cons_append, List.cons.injEq] at h1
      rw [← h1.1]; exact parseNumber_badStart h l
  simp only [this]

/-- white space, then a token byte that starts no value: `InvalidInput`, whatever follows -/
theorem run_badStart (cfg : Cfg) (L : Nat) (w rest : List Byte) (c : Byte) (hw : DWs cfg w) (h0 : c ≠ 0)
    (hws : isWs c = false) (hcm : (cfg.comments && c == 0x2F) = false)
    (hd : c ∉ [0x5B, 0x7B, 0x22, 0x27, 0x74, 0x66, 0x6E]) (hb : BadStart cfg c) :
    (run cfg L (w ++ c :: rest)).1 = .invalid := by
  have hs : Pos ({ l := { unread := w ++ c :: rest } } : St) (w ++ c :: rest) 0 false := At.pos ⟨rfl, rfl, rfl, rfl⟩
  obtain ⟨Y, hY, hg⟩ := skipSpaces_dws_gen cfg hw _ (c :: rest) 0 false hs
  obtain ⟨m, hm0, hm⟩ := hg (2 * (w ++ c :: rest).length + 3 + 1) (by simp; omega)
  obtain ⟨k, rfl⟩ : ∃ k, m = k + 1 := ⟨m - 1, by omega⟩
  obtain ⟨X, hX, hS⟩ := Pos.cur_cons hY
  have e0 : (c == 0) = false := by simpa using h0
  have hss : skipSpaces cfg (k + 1) Y = (.ok, setFound X) := by
    simp only [skipSpaces, hX, e0, hws, hcm, Bool.false_eq_true, ↓reduceIte]
    rfl
  obtain ⟨f1, f2, f3, _, _⟩ := hS.fields
  have hcur : cur (setFound X) = (c, setFound X) := by
    rw [cur_loaded (by exact f1)]; simp [f2]
  have hrem : Rem (setFound X) (c :: rest) := by
    have := Rem.ld (s := setFound X) f1
    simpa [f2, f3] using this
  simp only [List.mem_cons, List.not_mem_nil, or_false, not_or] at hd
  obtain ⟨d1, d2, d3, d4, d5, d6, d7⟩ := hd
  have hpv : parseVariant cfg (2 * (w ++ c :: rest).length + 3 + 1) L { l := { unread := w ++ c :: rest } } =
      parseNumeric cfg (setFound X) := by
    have g1 : (c == 0x5B) = false := by simpa using d1
    have g2 : (c == 0x7B) = false := by simpa using d2
    have g3 : (c == 0x22) = false := by simpa using d3
    have g4 : (c == 0x27) = false := by simpa using d4
    have g5 : (c == 0x74) = false := by simpa using d5
    have g6 : (c == 0x66) = false := by simpa using d6
    have g7 : (c == 0x6E) = false := by simpa using d7
    exact parseVariant_on_number (hm.trans hss) hcur g1 g2 g3 g4 g5 g6 g7
  have hinv := parseNumeric_badStart hrem hb
  rw [run_eq]
  have hf : 2 * (w ++ c :: rest).length + 4 = 2 * (w ++ c :: rest).length + 3 + 1 := rfl
  rw [hf, hpv]
  generalize parseNumeric cfg (setFound X) = q at hinv ⊢
  obtain ⟨e, v, s⟩ := q
  simp only at hinv
  subst hinv
  rfl

end JD
