/- Simulation of the slot-level deserializer `JDD` by the abstract one `JD`, part 2: the document steps (leaves, one array
   element, one new object member) as steps of the local specification `Pre`/`Post` of AJ/Lemmas/DocCopy.lean. -/
import AJ.Lemmas.JddSimBase
namespace JDD
open DL
open JD (Byte Val Cfg Code St)

/-! ## Leaves -/

/-- a value without resources stored on the cleared place -/
theorem sim_post_plain {d d1 : Doc} {l : Loc} {v' : VData} (P : Pre d l) (hf : Fr d d1 []) (hc : ¬ isColl v')
    (he : extOfV v' = []) (hs : strOfV v' = []) :
    Post d (d1.set l v') l v' .nil ∧ (d1.set l v').valOf v' .nil = d1.scalar v' := by
  refine ⟨post_set P hf ((VOK_scalar hc _).2 rfl) (fun rs h => by rw [hs]; exact hf.strok rs h)
    (by rw [he]; intro e h; cases h), ?_⟩
  rw [Doc.valOf, mkVal_scalar hc, scalar_set_self (by rw [he]; intro e h; cases h)]

/-- `variant.toArray()` / `variant.toObject()` on the cleared place -/
theorem sim_post_coll {d : Doc} {l : Loc} (b : Bool) (P : Pre d l) :
    Post d (d.set l (coll b d.null d.null)) l (coll b d.null d.null) .nil ∧
    vals (d.set l (coll b d.null d.null)) noOv .nil = [] := by
  refine ⟨post_set P (Fr.refl P.pool []) ?_ (fun rs h => by rw [strOfV_coll]; exact h)
    (by rw [extOfV_coll]; intro e h; cases h), rfl⟩
  rw [VOK_coll]
  exact ⟨(Lk_nil _ _ _).2 rfl, rfl⟩

/-- the saved string node stored on the cleared place -/
theorem sim_post_owned {d d1 : Doc} {l : Loc} {node : Nat} {bytes : List Byte} (P : Pre d l) (hf : Fr d d1 [])
    (hb : d1.strBytes node = bytes) (hstr : ∀ rs, StrOK d rs → StrOK d1 (node :: rs)) :
    Post d (d1.set l (.owned node)) l (.owned node) .nil ∧ (d1.set l (.owned node)).valOf (.owned node) .nil = .str bytes := by
  refine ⟨post_set P hf ((VOK_scalar (v := .owned node) (fun h => h) _).2 rfl) (fun rs h => hstr rs h)
    (by intro e h; cases h), ?_⟩
  show Val.str ((d1.set l (.owned node)).strBytes node) = _
  rw [strBytes_set, hb]

/-! ## Numbers -/

theorem sim_allocExt_ov (d : Doc) (p : Int) :
    ((d.allocExt p).1 = none → (d.allocExt p).2.overflowed = true) ∧
    (∀ e, (d.allocExt p).1 = some e → (d.allocExt p).2.overflowed = d.overflowed) := by
  unfold Doc.allocExt
  split
  · exact ⟨fun h => (by cases h), fun _ _ => rfl⟩
  · exact ⟨fun _ => rfl, fun e h => (by cases h)⟩

/-- the success flag of `setArg` on a number is the negation of "an allocation failed" -/
theorem sim_setArg_num {d : Doc} (l : Loc) {a : Arg} (h0 : d.overflowed = false)
    (ha : (∃ n, a = .uint n) ∨ (∃ n, a = .sint n) ∨ (∃ b, a = .f32 b) ∨ (∃ b, a = .f64 b)) :
    ((d.setArg l a).2.overflowed = false → (d.setArg l a).1 = true) ∧
    ((d.setArg l a).2.overflowed = true → (d.setArg l a).1 = false) := by
  have ext : ∀ (p : Int) (k : Nat → VData),
      (((match d.allocExt p with | (some s, d) => (true, d.set l (k s)) | (none, d) => (false, d)) : Bool × Doc).2.overflowed = false →
        ((match d.allocExt p with | (some s, d) => (true, d.set l (k s)) | (none, d) => (false, d)) : Bool × Doc).1 = true) ∧
      (((match d.allocExt p with | (some s, d) => (true, d.set l (k s)) | (none, d) => (false, d)) : Bool × Doc).2.overflowed = true →
        ((match d.allocExt p with | (some s, d) => (true, d.set l (k s)) | (none, d) => (false, d)) : Bool × Doc).1 = false) := by
    intro p k
    obtain ⟨h1, h2⟩ := sim_allocExt_ov d p
    generalize d.allocExt p = r at h1 h2
    obtain ⟨m, d1⟩ := r
    cases m with
    | none => exact ⟨fun h => (by rw [h1 rfl] at h; cases h), fun _ => rfl⟩
    | some e =>
      refine ⟨fun _ => rfl, fun h => ?_⟩
      simp only [set_overflowed] at h
      rw [h2 e rfl, h0] at h; cases h
  rcases ha with ⟨n, rfl⟩ | ⟨n, rfl⟩ | ⟨b, rfl⟩ | ⟨b, rfl⟩
  · simp only [Doc.setArg]
    split
    · exact ⟨fun _ => rfl, fun h => by rw [set_overflowed, h0] at h; cases h⟩
    · exact ext n .u64
  · simp only [Doc.setArg]
    split
    · exact ⟨fun _ => rfl, fun h => by rw [set_overflowed, h0] at h; cases h⟩
    · exact ext n .i64
  · refine ⟨fun _ => rfl, fun h => ?_⟩
    have h' : (d.set l (.f32 b)).overflowed = true := h
    rw [set_overflowed, h0] at h'; cases h'
  · simp only [Doc.setArg]
    split
    · exact ⟨fun _ => rfl, fun h => by rw [set_overflowed, h0] at h; cases h⟩
    · exact ext b .f64

theorem sim_normF64 (b : Nat) : normF64 b = .num (JD.storeDouble b) := by
  unfold normF64
  have : (∃ f, JD.storeDouble b = .f32 f) ∨ JD.storeDouble b = .f64 b := by
    unfold JD.storeDouble
    simp only
    split
    · exact Or.inr rfl
    · split
      · exact Or.inl ⟨_, rfl⟩
      · split
        · exact Or.inl ⟨_, rfl⟩
        · exact Or.inr rfl
  rcases this with ⟨f, e⟩ | e
  · rw [e]
  · rw [e]


/-! ## One array element: the slot is appended first, then filled -/

theorem sim_addElement_some {d d1 : Doc} {l : Loc} {id : Nat} (h : d.addElement l = (some id, d1)) :
    ∃ da, d.allocVariant = (some id, da) ∧ d1 = da.appendOne l id := by
  unfold Doc.addElement at h
  generalize d.allocVariant = r at h
  obtain ⟨m, da⟩ := r
  cases m with
  | none => simp only [Prod.mk.injEq] at h; exact absurd h.1 (by simp)
  | some id' =>
    simp only [Prod.mk.injEq, Option.some.injEq] at h
    obtain ⟨rfl, rfl⟩ := h
    exact ⟨da, rfl, rfl⟩

theorem sim_addElement_none {d d1 : Doc} {l : Loc} (h : d.addElement l = (none, d1)) : d.allocVariant = (none, d1) := by
  unfold Doc.addElement at h
  generalize d.allocVariant = r at h
  obtain ⟨m, da⟩ := r
  cases m with
  | none => simp only [Prod.mk.injEq, true_and] at h; rw [h]
  | some id' => simp only [Prod.mk.injEq] at h; exact absurd h.1 (by simp)

/-- `array.addElement()` handed out the slot `id`, linked behind the tail of the array being built at `l`: the slot is a
    cleared place, and whatever is then built in it (`Post d1 d2 (.slot id) ve se`) is the new last element. -/
theorem sim_arr_step {d0 d d1 : Doc} {l : Loc} {id h t : Nat} {sl : Forest}
    (P0 : Pre d0 l) (P : Post d0 d l (.arr h t) sl) (hadd : d.addElement l = (some id, d1)) :
    Pre d1 (.slot id) ∧ d1.overflowed = d.overflowed ∧
    ∀ (d2 : Doc) (ve : VData) (se : Forest), Post d1 d2 (.slot id) ve se →
      Post d0 d2 l (.arr (if t ≠ d.null then h else id) id) (sl.snocS none id se) ∧
      vals d2 noOv (sl.snocS none id se) = vals d noOv sl ++ [([], d2.valOf ve se)] := by
  obtain ⟨da, hal, rfl⟩ := sim_addElement_some hadd
  have gokd : PL.GeoOK d.g := by rw [P.fr.g]; exact P0.gok
  obtain ⟨rs0, hrs0⟩ := P0.str
  have hsd := P.att.str rs0 hrs0
  obtain ⟨hg, hov, hcid, hco, hnl, hlt, hlv⟩ := allocVariant_some gokd P.fr.pool hal
  have hna : da.null = d.null := by simp only [Doc.null, hg.g]
  have hlida : PL.live da.g da.pl id := (hlv id).2 (Or.inr rfl)
  have Fda : Fr d da [] := Fr.of_grow hg (fun h => by rw [hov]; exact h) []
  obtain ⟨Pda, _⟩ := P.frame P0 Fda
  obtain ⟨htf, htl, _, htne⟩ := Post.tail (b := false) P0 P
  obtain ⟨htfa, _, _, _⟩ := Post.tail (b := false) P0 Pda
  have hll : ∀ i, l = .slot i → PL.live d.g d.pl i := fun i e => P.fr.live i (P0.slot i e).1
  have hlid : Loc.slot id ≠ l := fun e => hnl (hll id e.symm)
  have hidt : t ≠ d.null → id ≠ t := fun htn e' => hnl (e' ▸ (htf htn).2.2)
  obtain ⟨hn3, hstr3, hpl3, hg3, hget3, hco3, hct3, hroot3, hci3⟩ := appendOne_cells (id := id) Pda.att.get htl
  have F13 : Fr da (da.appendOne l id) [l, .slot t] := appendOne_fr Pda.fr.pool Pda.att.get htl
  have hov3 : (da.appendOne l id).overflowed = da.overflowed := appendOne_ov_eq Pda.att.get
  generalize da.appendOne l id = d1 at *
  have hcid1 : d1.cell id = .var .null d.null := by
    rw [hco3 id hlid (fun htn => hidt (by rw [← hna]; exact htn))]; exact hcid
  have hlid1 : PL.live d1.g d1.pl id := F13.live id hlida
  have hs1 : ∀ rs, StrOK d rs → StrOK d1 rs := fun rs hs => F13.strok rs (Fda.strok rs hs)
  have pre1 : Pre d1 (.slot id) :=
    ⟨by rw [hg3, hg.g]; exact gokd, F13.pool, get_of_var hcid1,
      fun i e => by cases e; exact ⟨hlid1, isVar_of_var hcid1⟩, ⟨_, hs1 _ hsd⟩⟩
  refine ⟨pre1, by rw [hov3, hov], ?_⟩
  intro d2 ve se P2
  have hn1 : d1.null = d.null := by rw [hn3, hna]
  have hn2 : d2.null = d.null := by rw [P2.fr.null, hn1]
  have hlive1 : ∀ x, PL.live d.g d.pl x → PL.live d1.g d1.pl x := fun x hx => F13.live x (Fda.live x hx)
  have hc2 : ∀ x, PL.live d1.g d1.pl x → x ≠ id → d2.cell x = d1.cell x := fun x hx hxv =>
    P2.fr.cells x hx (by simp only [List.mem_singleton, Loc.slot.injEq]; exact hxv)
  have hcid2 : d2.cell id = .var ve d.null := by rw [P2.att.slot id rfl, nextOf_of_var hcid1]
  have Fd1 : Fr d d1 [l, .slot t] := Fr.trans (Fda.mono (fun _ h => by cases h)) F13 (fun l' hl' => Or.inl hl')
  have Fd2 : Fr d d2 [l, .slot t] := Fr.trans Fd1 P2.fr
    (fun l' hl' => Or.inr ⟨id, List.mem_singleton.1 hl', hnl⟩)
  have hsn := post_snoc (d0 := d0) (d := d) (d3 := d2) (b := false) (key := none) (id := id) (se := se) P0 P Fd2
    (fun htn => by
      have htna : t ≠ da.null := by rw [hna]; exact htn
      rw [hc2 t (hlive1 t (htf htn).2.2) (Ne.symm (hidt htn)), hct3 htna (htfa htna).2.1,
        get_of_cell (Fda.cells t (htf htn).2.2 (by simp))]; rfl)
    (by
      have : d2.get l = d1.get l := by
        cases l with
        | root => exact P2.fr.root (by simp)
        | slot i => exact get_of_cell (hc2 i (hlive1 i (hll i rfl)) (fun e => hlid (by rw [e])))
      rw [this, hget3, hna]; rfl)
    (fun i e => by
      rw [hc2 i (hlive1 i (hll i e)) (fun e' => hlid (by rw [← e', e])), hci3 i e, hna,
        nextOf_of_cell (Fda.cells i (hll i e) (by simp)) hna]; rfl)
    ((Lk_cons _ _ _ _ _ _ _).2 ⟨rfl, by rw [hn2]; exact Nat.ne_of_lt hlt, isVar_of_var hcid2,
      by rw [nextOf_of_var hcid2, Lk_nil, hn2], by rw [get_of_var hcid2]; exact P2.att.vok⟩)
    (List.nodup_cons.2 ⟨fun m => (P2.att.fresh id m).1 hlid1, P2.att.nodup⟩)
    (fun x hx => by
      rcases List.mem_cons.1 hx with e' | m
      · subst e'; exact ⟨hnl, P2.fr.live _ hlid1⟩
      · exact ⟨fun h0 => (P2.att.fresh x m).1 (hlive1 x h0), (P2.att.fresh x m).2⟩)
    P2.att.ext
    (fun x hx e he h0 => P2.att.extfresh (.slot x) (List.mem_map_of_mem hx) e he (hlive1 e h0))
    (fun rs hs => by
      have := P2.att.str rs (hs1 rs hs)
      have e1 : (Forest.keyL none ++ id :: se.ids).flatMap (fun j => strOfV (d2.get (.slot j))) =
          strOfV ve ++ goneF d2 se := by
        simp only [Forest.keyL, List.nil_append, List.flatMap_cons, P2.att.get, goneF]
      rw [e1]; exact this)
  obtain ⟨Pn, hvals⟩ := hsn
  refine ⟨Pn, ?_⟩
  rw [hvals]
  simp only [keyB, get_of_var hcid2, Doc.valOf]


/-! ## One new object member: key saved, two slots, pair linked, then the value is filled -/

theorem sim_addMemberNode_none {d d' : Doc} {l : Loc} {node : Nat} (gok : PL.GeoOK d.g) (hp : PL.Inv d.g d.pl)
    (h : addMemberNode d l node = (none, d')) : d'.overflowed = true := by
  unfold addMemberNode at h
  generalize hal1 : d.allocVariant = r1 at h
  obtain ⟨m1, d1⟩ := r1
  cases m1 with
  | none =>
    simp only [Prod.mk.injEq, true_and] at h; subst h
    exact (allocVariant_none gok hp hal1).2.1
  | some k =>
    obtain ⟨hg1, _, _, _, _, _, _⟩ := allocVariant_some gok hp hal1
    have gok1 : PL.GeoOK d1.g := by rw [hg1.g]; exact gok
    simp only at h
    generalize hal2 : d1.allocVariant = r2 at h
    obtain ⟨m2, d2⟩ := r2
    cases m2 with
    | none =>
      simp only [Prod.mk.injEq, true_and] at h; subst h
      exact (allocVariant_none gok1 hg1.pool hal2).2.1
    | some v => simp only [Prod.mk.injEq] at h; exact absurd h.1 (by simp)

/-- `addMember(StringNode*)` that succeeds: two fresh slots `k` (holding the saved node) and `v` (holding null) were
    obtained and `appendPair` links them; `dK` is the document just before the linking -/
theorem sim_addMemberNode_some {d d' : Doc} {l : Loc} {node v : Nat} (gok : PL.GeoOK d.g)
    (hp : PL.Inv d.g d.pl) (h : addMemberNode d l node = (some v, d')) :
    ∃ (k : Nat) (dK : Doc) (nk : Nat), d' = dK.appendPair l k v ∧ Fr d dK [] ∧
      dK.overflowed = d.overflowed ∧ dK.cell k = .var (.owned node) nk ∧ dK.cell v = .var .null d.null ∧
      k ≠ v ∧ ¬ PL.live d.g d.pl k ∧ ¬ PL.live d.g d.pl v ∧ PL.live dK.g dK.pl k ∧
      PL.live dK.g dK.pl v ∧ dK.strings = d.strings ∧ dK.nextNode = d.nextNode := by
  unfold addMemberNode at h
  generalize hal1 : d.allocVariant = r1 at h
  obtain ⟨m1, d1⟩ := r1
  cases m1 with
  | none => simp only [Prod.mk.injEq] at h; exact absurd h.1 (by simp)
  | some k =>
    obtain ⟨hg1, hov1, hck, hco1, hnk, hklt, hlv1⟩ := allocVariant_some gok hp hal1
    have gok1 : PL.GeoOK d1.g := by rw [hg1.g]; exact gok
    have hn1 : d1.null = d.null := by simp only [Doc.null, hg1.g]
    simp only at h
    generalize hal2 : d1.allocVariant = r2 at h
    obtain ⟨m2, d2⟩ := r2
    cases m2 with
    | none => simp only [Prod.mk.injEq] at h; exact absurd h.1 (by simp)
    | some v' =>
      obtain ⟨hg2, hov2, hcv, hco2, hnv, hvlt, hlv2⟩ := allocVariant_some gok1 hg1.pool hal2
      have hk1 : PL.live d1.g d1.pl k := (hlv1 k).2 (Or.inr rfl)
      have hkv : k ≠ v' := fun e => hnv (e ▸ hk1)
      have hk2 : PL.live d2.g d2.pl k := (hlv2 k).2 (Or.inl hk1)
      have hv2 : PL.live d2.g d2.pl v' := (hlv2 v').2 (Or.inr rfl)
      have hnv0 : ¬ PL.live d.g d.pl v' := fun hh => hnv ((hlv1 v').2 (Or.inl hh))
      have F2 : Fr d d2 [] := Fr.trans (Fr.of_grow hg1 (fun h => by rw [hov1]; exact h) [])
        (Fr.of_grow hg2 (fun h => by rw [hov2]; exact h) []) (fun _ h => by cases h)
      simp only [Prod.mk.injEq, Option.some.injEq] at h
      obtain ⟨rfl, rfl⟩ := h
      refine ⟨k, d2.set (.slot k) (.owned node), d2.nextOf k, rfl,
        Fr.trans F2 (set_fr hg2.pool _ _) (fun l' hl' => Or.inr ⟨k, List.mem_singleton.1 hl', hnk⟩),
        by rw [set_overflowed, hov2, hov1], by rw [cell_set_slot, if_pos rfl],
        by rw [cell_set_slot, if_neg hkv, hcv, hn1], hkv, hnk, hnv0,
        by rw [set_pl, set_g]; exact hk2, by rw [set_pl, set_g]; exact hv2,
        by rw [set_strings, hg2.strings, hg1.strings], by rw [set_nextNode, hg2.nextNode, hg1.nextNode]⟩

/-- The key was saved (`dS`), `addMember(node)` handed out the key slot and the value slot `v` and linked the pair behind
    the tail of the object being built at `l`: the value slot is a cleared place, and whatever is then built in it is the
    value of the new last member. -/
theorem sim_obj_add {d0 d dS d1 : Doc} {l : Loc} {h t v node : Nat} {sl : Forest} {key : List Byte}
    (P0 : Pre d0 l) (P : Post d0 d l (.obj h t) sl)
    (FS : Fr d dS []) (hbS : dS.strBytes node = key) (hstS : ∀ rs, StrOK d rs → StrOK dS (node :: rs))
    (hovS : dS.overflowed = d.overflowed) (hadd : addMemberNode dS l node = (some v, d1)) :
    ∃ k, Pre d1 (.slot v) ∧ d1.overflowed = d.overflowed ∧
    ∀ (d2 : Doc) (ve : VData) (se : Forest), Post d1 d2 (.slot v) ve se →
      Post d0 d2 l (.obj (if t ≠ d.null then h else k) v) (sl.snocS (some k) v se) ∧
      vals d2 noOv (sl.snocS (some k) v se) = vals d noOv sl ++ [(key, d2.valOf ve se)] := by
  have gokd : PL.GeoOK d.g := by rw [P.fr.g]; exact P0.gok
  obtain ⟨rs0, hrs0⟩ := P0.str
  have hsd := P.att.str rs0 hrs0
  obtain ⟨k, dK, nk, hd', FSK, hovK', hck, hcv, hkv, hnkS, hnvS, hlk', hlv', hstrK, hnnK⟩ :=
    sim_addMemberNode_some (by rw [FS.g]; exact gokd) FS.pool hadd
  subst hd'
  have FK : Fr d dK [] := Fr.trans FS FSK (fun _ h => by cases h)
  have hovK : dK.overflowed = d.overflowed := by rw [hovK', hovS]
  have hnk : ¬ PL.live d.g d.pl k := fun h0 => hnkS (FS.live k h0)
  have hnv : ¬ PL.live d.g d.pl v := fun h0 => hnvS (FS.live v h0)
  have hcv : dK.cell v = .var .null d.null := by rw [hcv, FS.null]
  have hkey : isKey (VData.owned node) := trivial
  have hstK : ∀ rs, StrOK d rs → StrOK dK (strOfV (VData.owned node) ++ rs) := fun rs hs =>
    StrOK_congr hstrK hnnK (hstS rs hs)
  have hkb : keyOfV dK (.owned node) = key := by
    show dK.strBytes node = key
    rw [strBytes_of_strings hstrK]; exact hbS
  obtain ⟨PK, hvK⟩ := P.frame P0 FK
  obtain ⟨htf, _, _, _⟩ := Post.tail (b := true) P0 P
  obtain ⟨htfK, htl, _, htneK⟩ := Post.tail (b := true) P0 PK
  have hnK : dK.null = d.null := FK.null
  have hll : ∀ i, l = .slot i → PL.live d.g d.pl i := fun i e => P.fr.live i (P0.slot i e).1
  have hkl : Loc.slot k ≠ l := fun e => hnk (hll k e.symm)
  have hvl : Loc.slot v ≠ l := fun e => hnv (hll v e.symm)
  have hnotsl : ∀ x, ¬ PL.live d.g d.pl x → x ∉ sl.ids := fun x hx m => hx (P.att.fresh x m).2
  have hkt : k ≠ t := htneK k hlk' (fun h0 => hnk (P.fr.live k h0)) (hnotsl k hnk)
  have hvt : v ≠ t := htneK v hlv' (fun h0 => hnv (P.fr.live v h0)) (hnotsl v hnv)
  obtain ⟨hn', hstr', hpl', hg', hnn', hov', hget', hck', hco', hct', hroot', hci'⟩ :=
    appendPair_cells_gen (v := v) PK.att.get hck hkl htl (fun _ => hkt) (fun htn => (htfK htn).2.1)
  have FKp : Fr dK (dK.appendPair l k v) [l, .slot t, .slot k] := by
    refine fr_of_same PK.fr.pool hg' hpl' hstr' hnn' hov' (fun hr => hroot' (fun e => hr (by simp [e]))) ?_
    intro x hx
    simp only [List.mem_cons, List.not_mem_nil, or_false, Loc.slot.injEq, not_or] at hx
    exact hco' x hx.1 hx.2.2 (fun _ => hx.2.1)
  generalize dK.appendPair l k v = d1 at *
  -- the member's value slot is a cleared place of `d1`
  have hcv1 : d1.cell v = .var .null d.null := by rw [hco' v hvl (Ne.symm hkv) (fun _ => hvt)]; exact hcv
  have hlv1 : PL.live d1.g d1.pl v := FKp.live v hlv'
  have pre1 : Pre d1 (.slot v) :=
    ⟨by rw [hg', FK.g]; exact gokd, FKp.pool, get_of_var hcv1,
      fun i e => by cases e; exact ⟨hlv1, isVar_of_var hcv1⟩, ⟨_, FKp.strok _ (FK.strok _ hsd)⟩⟩
  refine ⟨k, pre1, by rw [hov', hovK], ?_⟩
  intro d2 ve se P2
  have hn2 : d2.null = d.null := by rw [P2.fr.null, hn', hnK]
  have hlive1 : ∀ x, PL.live d.g d.pl x → PL.live d1.g d1.pl x := fun x hx => FKp.live x (FK.live x hx)
  have hc2 : ∀ x, PL.live d1.g d1.pl x → x ≠ v → d2.cell x = d1.cell x := fun x hx hxv =>
    P2.fr.cells x hx (by simp only [List.mem_singleton, Loc.slot.injEq]; exact hxv)
  have hlk1 : PL.live d1.g d1.pl k := FKp.live k hlk'
  have hck2 : d2.cell k = .var (.owned node) v := by rw [hc2 k hlk1 hkv]; exact hck'
  have hcv2 : d2.cell v = .var ve d.null := by rw [P2.att.slot v rfl, nextOf_of_var hcv1]
  have Fd1 : Fr d d1 [l, .slot t] := Fr.trans (FK.mono (fun _ h => by cases h)) FKp (fun l' hl' => by
    simp only [List.mem_cons, List.not_mem_nil, or_false] at hl'
    rcases hl' with e | e | e
    · exact Or.inl (by simp [e])
    · exact Or.inl (by simp [e])
    · exact Or.inr ⟨k, e, hnk⟩)
  have Fd2 : Fr d d2 [l, .slot t] := Fr.trans Fd1 P2.fr
    (fun l' hl' => Or.inr ⟨v, List.mem_singleton.1 hl', hnv⟩)
  have hsn := post_snoc (d0 := d0) (d := d) (d3 := d2) (b := true) (key := some k) (id := v) (se := se) P0 P Fd2
    (fun htn => by
      have htn' : t ≠ dK.null := by rw [hnK]; exact htn
      have htv : t ≠ v := Ne.symm hvt
      rw [hc2 t (hlive1 t (htf htn).2.2) htv, hct' htn', get_of_cell (FK.cells t (htf htn).2.2 (by simp))]; rfl)
    (by
      have : d2.get l = d1.get l := by
        cases l with
        | root => exact P2.fr.root (by simp)
        | slot i => exact get_of_cell (hc2 i (hlive1 i (hll i rfl)) (fun e => hvl (by rw [e])))
      rw [this, hget', hnK]; rfl)
    (fun i e => by
      rw [hc2 i (hlive1 i (hll i e)) (fun e' => hvl (by rw [← e', e])), hci' i e, hnK,
        nextOf_of_cell (FK.cells i (hll i e) (by simp)) hnK]; rfl)
    ((Lk_cons _ _ _ _ _ _ _).2 ⟨⟨rfl, by rw [hn2]; exact Nat.ne_of_lt (hnK ▸ live_lt_null PK.fr.pool hlk'),
        isVar_of_var hck2, by rw [get_of_var hck2]; exact hkey, nextOf_of_var hck2⟩,
      by rw [hn2]; exact Nat.ne_of_lt (hnK ▸ live_lt_null PK.fr.pool hlv'), isVar_of_var hcv2,
      by rw [nextOf_of_var hcv2, Lk_nil, hn2], by rw [get_of_var hcv2]; exact P2.att.vok⟩)
    (by
      show (k :: v :: se.ids).Nodup
      refine List.nodup_cons.2 ⟨?_, List.nodup_cons.2 ⟨fun m => (P2.att.fresh v m).1 hlv1, P2.att.nodup⟩⟩
      intro m
      rcases List.mem_cons.1 m with e | m
      · exact hkv e
      · exact (P2.att.fresh k m).1 hlk1)
    (fun x hx => by
      have hx' : x = k ∨ x = v ∨ x ∈ se.ids := by simpa [Forest.keyL] using hx
      rcases hx' with e | e | m
      · subst e; exact ⟨hnk, P2.fr.live _ hlk1⟩
      · subst e; exact ⟨hnv, P2.fr.live _ hlv1⟩
      · exact ⟨fun h0 => (P2.att.fresh x m).1 (hlive1 x h0), (P2.att.fresh x m).2⟩)
    (by
      show ExtL d2 (Loc.slot k :: Loc.slot v :: se.ids.map Loc.slot)
      exact P2.att.ext.cons_noext (by rw [get_of_var hck2]; exact isKey_ext hkey))
    (fun x hx e he => by
      have hx' : x = k ∨ x = v ∨ x ∈ se.ids := by simpa [Forest.keyL] using hx
      rcases hx' with e' | hx'
      · subst e'; rw [get_of_var hck2, isKey_ext hkey] at he; cases he
      · refine fun h0 => P2.att.extfresh (.slot x) ?_ e he (hlive1 e h0)
        rcases hx' with e' | m
        · subst e'; exact List.mem_cons_self
        · exact List.mem_cons_of_mem _ (List.mem_map_of_mem m))
    (fun rs hs => by
      have h1 := P2.att.str _ (FKp.strok _ (hstK rs hs))
      have e1 : (Forest.keyL (some k) ++ v :: se.ids).flatMap (fun j => strOfV (d2.get (.slot j))) =
          strOfV (VData.owned node) ++ (strOfV ve ++ goneF d2 se) := by
        simp only [Forest.keyL, List.cons_append, List.nil_append, List.flatMap_cons, get_of_var hck2,
          get_of_var hcv2, goneF]
      rw [e1]
      refine StrOK_perm ?_ h1
      rw [List.append_assoc (strOfV (VData.owned node))]
      exact List.perm_append_comm_assoc _ _ _)
  obtain ⟨Pn, hvals⟩ := hsn
  -- the key reads the same
  have hkb2 : keyOfV d2 (.owned node) = key := by
    rw [← hkb]
    refine keyOfV_of_scalar (scalar_congr (fun n hn' => ?_) (by intro e he; cases he))
    rw [P2.fr.bytes (FKp.strok _ (hstK _ hsd)) (List.mem_append_left _ hn'), strBytes_of_strings hstr']
  refine ⟨Pn, ?_⟩
  rw [hvals]
  simp only [keyB, get_of_var hck2, hkb2, get_of_var hcv2, Doc.valOf]

end JDD
