/- The deep copy `copyInto` / `copyIntoF` / `copyElems` / `copyMembers` of AJ/Model/DL.lean (model of
   `JsonVariant::set(JsonVariantConst)`, `JsonArray::set`, `JsonObject::set`) over the layout invariant of
   AJ/Lemmas/DocInv.lean: a local ("separation style") specification `Post` of what the copy builds at its target, proved
   by induction on the layout of the SOURCE value, and its assembly into the document invariant `WFG`.
   The loops stop at the first round that reports failure (`arr_step`, `obj_step`); an array element whose copy failed is
   released again (`free_built`, on top of `DL.step_slot` (AJ/Lemmas/DocClear.lean)); in a document that is already flagged every loop stops
   after its first round (`FlaggedCopy`). Used by AJ/Props/C04Copy.lean and AJ/Props/C05Copy.lean. -/
import AJ.Lemmas.DocPair
import AJ.Lemmas.DocSetArg
import AJ.Lemmas.DocClosure
namespace DL
open JD (Byte Val)

/-! ## What a copy is, abstractly -/

/-- how `setArg (.f64 b)` stores a double: as a float when the float has the same value -/
def normF64 (b : Nat) : Val := match JD.storeDouble b with | .f32 f => .num (.f32 f) | _ => .num (.f64 b)

def normNum : JD.Num → Val
  | .f64 b => normF64 b
  | n => .num n

mutual
/-- the abstract value a COMPLETE copy produces: the same tree, in which a double stored in 8 bytes whose value fits a
    float is re-stored as a float (the copy goes through `setArg`, as every other way of storing a double does) -/
def copyVal : Val → Val
  | .null => .null
  | .bool b => .bool b
  | .num n => normNum n
  | .str s => .str s
  | .raw s => .raw s
  | .arr xs => .arr (copyVals xs)
  | .obj ms => .obj (copyMems ms)
def copyVals : List Val → List Val
  | [] => []
  | x :: xs => copyVal x :: copyVals xs
def copyMems : List (List Byte × Val) → List (List Byte × Val)
  | [] => []
  | (k, v) :: ms => (k, copyVal v) :: copyMems ms
end

mutual
/-- no object of the tree has two members with the same key -/
def NoDupKeys : Val → Prop
  | .arr xs => NoDupKeysL xs
  | .obj ms => (ms.map (·.1)).Nodup ∧ NoDupKeysM ms
  | _ => True
def NoDupKeysL : List Val → Prop
  | [] => True
  | x :: xs => NoDupKeys x ∧ NoDupKeysL xs
def NoDupKeysM : List (List Byte × Val) → Prop
  | [] => True
  | (_, v) :: ms => NoDupKeys v ∧ NoDupKeysM ms
end

/-- values that own no chain: everything but arrays and objects -/
def isScalarVal : Val → Prop
  | .arr _ => False
  | .obj _ => False
  | _ => True

mutual
/-- `PartialCopy x' x`: `x'` is what a copy of `x` interrupted by an allocation failure can leave behind. The copy STOPS at the
    first failure: a scalar or string is copied completely, or left null; an array holds complete copies of a PREFIX of
    the elements (the element at which the copy failed is released again, so there is no partial last element); an
    object holds complete copies of a prefix of the members, possibly followed by ONE more member - with its key -
    whose value is a partial copy (possibly null). There is no other shape: in particular no member without key or value. -/
inductive PartialCopy : Val → Val → Prop
  | done (v : Val) : PartialCopy v v
  | null {v : Val} : isScalarVal v → PartialCopy .null v
  | arr {xs' xs : List Val} : xs' <+: xs → PartialCopy (.arr xs') (.arr xs)
  | obj {ms' ms : List (List Byte × Val)} : PartialM ms' ms → PartialCopy (.obj ms') (.obj ms)
inductive PartialM : List (List Byte × Val) → List (List Byte × Val) → Prop
  | pre {ms' ms : List (List Byte × Val)} : ms' <+: ms → PartialM ms' ms
  | last {p : List (List Byte × Val)} {k : List Byte} {v' v : Val} {rest : List (List Byte × Val)} :
      PartialCopy v' v → PartialM (p ++ [(k, v')]) (p ++ (k, v) :: rest)
end

/-- `FlaggedCopy x' x`: what a copy of `x` leaves in a document that is ALREADY flagged `overflowed`. Every `set` of a value
    reports `!overflowed()`, and the flag is sticky, so every loop stops after its first round: a scalar or string is
    still copied (or left null if its own allocation fails); an array is left EMPTY (its first element is copied into a
    new slot, reported as failed, and released); an object keeps at most its FIRST member, whose value is again a
    flagged copy. -/
inductive FlaggedCopy : Val → Val → Prop
  | scalar {v : Val} : isScalarVal v → FlaggedCopy v v
  | null {v : Val} : isScalarVal v → FlaggedCopy .null v
  | arr (xs : List Val) : FlaggedCopy (.arr []) (.arr xs)
  | objNone (ms : List (List Byte × Val)) : FlaggedCopy (.obj []) (.obj ms)
  | objFirst {k : List Byte} {x v : Val} {rest : List (List Byte × Val)} :
      FlaggedCopy x v → FlaggedCopy (.obj [(k, x)]) (.obj ((k, v) :: rest))

theorem PartialM.cons_head (m : List Byte × Val) :
    ∀ {ms' ms : List (List Byte × Val)}, PartialM ms' ms → PartialM (m :: ms') (m :: ms)
  | _, _, .pre hp => .pre (List.cons_prefix_cons.2 ⟨rfl, hp⟩)
  | _, _, .last (p := p) hq => PartialM.last (p := m :: p) hq

/-- a flagged copy is in particular a partial copy -/
theorem FlaggedCopy.partial : ∀ {x' x : Val}, FlaggedCopy x' x → PartialCopy x' x
  | _, _, .scalar _ => .done _
  | _, _, .null h => .null h
  | _, _, .arr xs => .arr (List.nil_prefix)
  | _, _, .objNone ms => .obj (.pre List.nil_prefix)
  | _, _, .objFirst h => .obj (PartialM.last (p := []) (FlaggedCopy.partial h))

/-! ## Local specification of a value being built -/

theorem live_lt_null {d : Doc} (hp : PL.Inv d.g d.pl) {x : Nat} (h : PL.live d.g d.pl x) : x < d.null :=
  PL.allocP_lt_null hp.pools_ok h.1

/-- extension-slot discipline for a list of holders: each referenced extension slot holds a payload, is live, and is
    referenced by one holder of the list only (`ExtOK d F` is `ExtL d (holders F)`) -/
def ExtL (d : Doc) (hs : List Loc) : Prop :=
  ∀ l ∈ hs, ∀ e ∈ extOfV (d.get l), (∃ p, d.cell e = .ext p) ∧ PL.live d.g d.pl e ∧
    ∀ l' ∈ hs, e ∈ extOfV (d.get l') → l' = l

/-- FRAME of a step `d → d'` with exceptions `ex`: everything live in `d` (but the excepted locations) keeps its cell and
    stays live, string nodes keep their bytes, a consistent string table stays consistent, the overflow flag is not
    reset. Newly allocated slots and string nodes are not constrained. -/
structure Fr (d d' : Doc) (ex : List Loc) : Prop where
  g : d'.g = d.g
  root : Loc.root ∉ ex → d'.root = d.root
  cells : ∀ x, PL.live d.g d.pl x → Loc.slot x ∉ ex → d'.cell x = d.cell x
  pool : PL.Inv d'.g d'.pl
  live : ∀ x, PL.live d.g d.pl x → PL.live d'.g d'.pl x
  /-- a string table that is consistent for the references `rs` stays so, and the referenced nodes keep their bytes -/
  strs : ∀ rs, StrOK d rs → StrOK d' rs ∧ ∀ m ∈ rs, d'.strBytes m = d.strBytes m
  ov : d.overflowed = true → d'.overflowed = true

theorem Fr.null {d d' : Doc} {ex : List Loc} (h : Fr d d' ex) : d'.null = d.null := by simp only [Doc.null, h.g]

theorem Fr.ov_false {d d' : Doc} {ex : List Loc} (h : Fr d d' ex) (h' : d'.overflowed = false) :
    d.overflowed = false := by
  cases h0 : d.overflowed with
  | false => rfl
  | true => rw [h.ov h0] at h'; cases h'

theorem Fr.strok {d d' : Doc} {ex : List Loc} (h : Fr d d' ex) (rs : List Nat) (hs : StrOK d rs) : StrOK d' rs :=
  (h.strs rs hs).1

/-- bytes of a node that some consistent reference list mentions -/
theorem Fr.bytes {d d' : Doc} {ex : List Loc} (h : Fr d d' ex) {rs : List Nat} (hs : StrOK d rs) {m : Nat}
    (hm : m ∈ rs) : d'.strBytes m = d.strBytes m :=
  (h.strs rs hs).2 m hm

theorem Fr.refl {d : Doc} (hp : PL.Inv d.g d.pl) (ex : List Loc) : Fr d d ex :=
  ⟨rfl, fun _ => rfl, fun _ _ _ => rfl, hp, fun _ h => h, fun _ h => ⟨h, fun _ _ => rfl⟩, fun h => h⟩

theorem Fr.mono {d d' : Doc} {ex ex' : List Loc} (h : Fr d d' ex) (hs : ∀ l ∈ ex, l ∈ ex') : Fr d d' ex' :=
  ⟨h.g, fun hr => h.root (fun m => hr (hs _ m)), fun x hx hn => h.cells x hx (fun m => hn (hs _ m)), h.pool, h.live,
    h.strs, h.ov⟩

theorem Fr.trans {d d1 d2 : Doc} {e1 e2 : List Loc} (h1 : Fr d d1 e1) (h2 : Fr d1 d2 e2)
    (he : ∀ l ∈ e2, l ∈ e1 ∨ ∃ i, l = .slot i ∧ ¬ PL.live d.g d.pl i) : Fr d d2 e1 := by
  refine ⟨by rw [h2.g, h1.g], ?_, ?_, h2.pool, fun x hx => h2.live x (h1.live x hx), ?_, fun ho => h2.ov (h1.ov ho)⟩
  · intro hr
    rw [h2.root ?_, h1.root hr]
    intro m
    rcases he _ m with a | ⟨i, e, _⟩
    · exact hr a
    · cases e
  · intro x hx hn
    rw [h2.cells x (h1.live x hx) ?_, h1.cells x hx hn]
    intro m
    rcases he _ m with a | ⟨i, e, hi⟩
    · exact hn a
    · cases e; exact hi hx
  · intro rs hs
    obtain ⟨a1, b1⟩ := h1.strs rs hs
    obtain ⟨a2, b2⟩ := h2.strs rs a1
    exact ⟨a2, fun m hm => by rw [b2 m hm, b1 m hm]⟩

theorem strBytes_of_present {d d' : Doc} (hb : ∀ m, (∃ n ∈ d.strings, n.id = m) → d'.strBytes m = d.strBytes m)
    {rs : List Nat} (hs : StrOK d rs) : ∀ m ∈ rs, d'.strBytes m = d.strBytes m :=
  fun m hm => hb m (hs.present m hm)

theorem Fr.of_grow {d d' : Doc} (h : Grow d d') (ho : d.overflowed = true → d'.overflowed = true) (ex : List Loc) :
    Fr d d' ex :=
  ⟨h.g, fun _ => h.root, fun x hx _ => h.cells x hx, h.pool, h.live,
    fun _ hs => ⟨StrOK_congr h.strings h.nextNode hs, fun m _ => strBytes_of_strings h.strings m⟩, ho⟩

theorem fr_of_same {d d' : Doc} {ex : List Loc} (hp : PL.Inv d.g d.pl) (hg : d'.g = d.g) (hpl : d'.pl = d.pl)
    (hstr : d'.strings = d.strings) (hnn : d'.nextNode = d.nextNode) (hov : d'.overflowed = d.overflowed)
    (hroot : Loc.root ∉ ex → d'.root = d.root) (hcells : ∀ x, Loc.slot x ∉ ex → d'.cell x = d.cell x) : Fr d d' ex :=
  ⟨hg, hroot, fun x _ hn => hcells x hn, by rw [hpl, hg]; exact hp, fun x hx => by rw [hpl, hg]; exact hx,
    fun rs hs => ⟨StrOK_congr hstr hnn hs, fun m _ => strBytes_of_strings hstr m⟩,
    hov.trans⟩

theorem set_fr {d : Doc} (hp : PL.Inv d.g d.pl) (l : Loc) (v : VData) : Fr d (d.set l v) [l] := by
  refine fr_of_same hp (set_g _ _ _) (set_pl _ _ _) (set_strings _ _ _) (set_nextNode _ _ _) (set_overflowed _ _ _) ?_
    (fun x hn => cell_set_ne (fun e => hn (List.mem_singleton.2 e)))
  intro hr
  cases l with
  | root => exact absurd (List.mem_singleton.2 rfl) hr
  | slot i => rfl

/-- what has been built at `l` since `d0`: the value `v` laid out as `s` over slots that were not live in `d0`, with its own
    extension slots and string references accounted for -/
structure Att (d0 d : Doc) (l : Loc) (v : VData) (s : Forest) : Prop where
  str : ∀ rs, StrOK d0 rs → StrOK d ((strOfV v ++ goneF d s) ++ rs)
  get : d.get l = v
  slot : ∀ i, l = .slot i → d.cell i = .var v (d0.nextOf i)
  vok : VOK d v s
  nodup : s.ids.Nodup
  fresh : ∀ x ∈ s.ids, ¬ PL.live d0.g d0.pl x ∧ PL.live d.g d.pl x
  ext : ExtL d (l :: s.ids.map .slot)
  extfresh : ∀ l' ∈ l :: s.ids.map Loc.slot, ∀ e ∈ extOfV (d.get l'), ¬ PL.live d0.g d0.pl e

/-- POST-condition of a copy into `l` started in `d0`: frame + what was built -/
structure Post (d0 d : Doc) (l : Loc) (v : VData) (s : Forest) : Prop where
  fr : Fr d0 d [l]
  att : Att d0 d l v s

/-- PRE-condition: `l` is a cleared place of a document with a consistent pool and string table -/
structure Pre (d : Doc) (l : Loc) : Prop where
  gok : PL.GeoOK d.g
  pool : PL.Inv d.g d.pl
  null : d.get l = .null
  slot : ∀ i, l = .slot i → PL.live d.g d.pl i ∧ d.isVar i
  str : ∃ rs, StrOK d rs

theorem Pre.cell {d : Doc} {l : Loc} (P : Pre d l) {i : Nat} (e : l = .slot i) : d.cell i = .var .null (d.nextOf i) := by
  have h := (P.slot i e).2
  have hn := P.null
  subst e
  rw [Doc.isVar, hn] at h; exact h

/-- while something is being built at `l`, the document keeps the geometry condition and a consistent string table -/
theorem Post.base {d0 d : Doc} {l : Loc} {v : VData} {s : Forest} (P : Post d0 d l v s) (P0 : Pre d0 l) :
    PL.GeoOK d.g ∧ ∃ rs, StrOK d rs := by
  obtain ⟨rs0, hrs0⟩ := P0.str
  exact ⟨by rw [P.fr.g]; exact P0.gok, _, P.att.str rs0 hrs0⟩

/-! ## Scalars and strings -/

theorem post_null {d d1 : Doc} {l : Loc} (P : Pre d l) (hf : Fr d d1 []) : Post d d1 l .null .nil := by
  have hget : d1.get l = .null := by
    cases l with
    | root => show d1.root = .null; rw [hf.root (by simp)]; exact P.null
    | slot i => rw [get_of_cell (hf.cells i (P.slot i rfl).1 (by simp))]; exact P.null
  refine ⟨hf.mono (by simp), ⟨?_, hget, ?_, rfl, List.nodup_nil, (fun x hx => by cases hx), ?_, ?_⟩⟩
  · intro rs hs; exact hf.strok rs hs
  · intro i e; rw [hf.cells i (P.slot i e).1 (by simp), P.cell e]
  all_goals
    intro l' hl' e he
    simp only [Forest.ids, List.map_nil, List.mem_singleton] at hl'
    subst hl'; rw [hget] at he; cases he

/-- storing `v'` (a scalar, a string, or an empty collection) on the cleared place, after its resource was acquired -/
theorem post_set {d d1 : Doc} {l : Loc} {v' : VData} (P : Pre d l) (hf : Fr d d1 [])
    (hv : VOK d1 v' .nil)
    (hstr : ∀ rs, StrOK d rs → StrOK d1 (strOfV v' ++ rs))
    (hext : ∀ e ∈ extOfV v', (∃ p, d1.cell e = .ext p) ∧ PL.live d1.g d1.pl e ∧ ¬ PL.live d.g d.pl e) :
    Post d (d1.set l v') l v' .nil := by
  have hne : ∀ e p, d1.cell e = .ext p → Loc.slot e ≠ l := by
    intro e p hp he
    have hc := hf.cells e (P.slot e he.symm).1 (by simp)
    rw [P.cell he.symm, hp] at hc; cases hc
  refine ⟨Fr.trans (hf.mono (fun _ h => by cases h)) (set_fr hf.pool l v') (fun _ h => Or.inl h), ⟨?_, get_set_self _ _ _, ?_, ?_, List.nodup_nil, (fun x hx => by cases hx), ?_, ?_⟩⟩
  · intro rs hs
    have : goneF (d1.set l v') .nil = [] := rfl
    rw [this, List.append_nil]
    exact StrOK_congr (set_strings _ _ _) (set_nextNode _ _ _) (hstr rs hs)
  · intro i e; subst e
    rw [cell_set_slot, if_pos rfl, nextOf_of_cell (hf.cells i (P.slot i rfl).1 (by simp)) hf.null]
  · exact VOK_congr ⟨set_null _ _ _, fun j hj => by cases hj⟩ hv
  · intro l' hl' e he
    simp only [Forest.ids, List.map_nil, List.mem_singleton] at hl'
    subst hl'; rw [get_set_self] at he
    obtain ⟨⟨p, hp⟩, hlv, _⟩ := hext e he
    refine ⟨⟨p, by rw [cell_set_ne (hne e p hp)]; exact hp⟩, by rw [set_pl, set_g]; exact hlv, ?_⟩
    intro l2 hl2 _
    simp only [Forest.ids, List.map_nil, List.mem_singleton] at hl2
    exact hl2
  · intro l' hl' e he
    simp only [Forest.ids, List.map_nil, List.mem_singleton] at hl'
    subst hl'; rw [get_set_self] at he
    exact (hext e he).2.2

theorem allocExt_some {d d1 : Doc} {p : Int} {e : Nat} (gok : PL.GeoOK d.g) (hp : PL.Inv d.g d.pl)
    (h : d.allocExt p = (some e, d1)) :
    Grow d d1 ∧ d1.overflowed = d.overflowed ∧ d1.cell e = .ext p ∧ ¬ PL.live d.g d.pl e ∧ PL.live d1.g d1.pl e := by
  simp only [Doc.allocExt] at h
  split at h
  · rename_i id' pl heq
    simp only [Prod.mk.injEq, Option.some.injEq] at h
    obtain ⟨rfl, rfl⟩ := h
    obtain ⟨_, b, c, dd⟩ := PL.allocSlot_some gok hp heq
    refine ⟨⟨rfl, rfl, rfl, rfl, ?_, dd, fun x hx => (c x).2 (Or.inl hx)⟩, rfl, ?_, b, (c id').2 (Or.inr rfl)⟩
    · intro x hx; rw [cell_insert, if_neg (show ¬ id' = x from fun e => b (e ▸ hx))]
    · rw [cell_insert, if_pos rfl]
  · simp only [Prod.mk.injEq] at h; exact absurd h.1 (by simp)

theorem saveString_present {d d1 : Doc} {s : List Byte} {r : Option Nat} (h : d.saveString s = (r, d1)) :
    ∀ m, (∃ x ∈ d.strings, x.id = m) → ∃ x ∈ d1.strings, x.id = m := by
  simp only [Doc.saveString] at h
  split at h
  · rename_i x hfind
    simp only [Prod.mk.injEq] at h
    obtain ⟨_, rfl⟩ := h
    rintro m ⟨y, hy, rfl⟩
    refine ⟨_, List.mem_map_of_mem hy, ?_⟩
    split <;> rfl
  · split at h
    · simp only [Prod.mk.injEq] at h; obtain ⟨_, rfl⟩ := h; exact fun m hm => hm
    generalize d.pl.alloc (s.length + d.strOverhead) = q at h
    obtain ⟨ok, pl⟩ := q
    simp only at h
    split at h
    · simp only [Prod.mk.injEq] at h; obtain ⟨_, rfl⟩ := h; exact fun m hm => hm
    · simp only [Prod.mk.injEq] at h; obtain ⟨_, rfl⟩ := h
      rintro m ⟨y, hy, rfl⟩
      exact ⟨y, List.mem_cons_of_mem _ hy, rfl⟩

theorem saveString_fr {d d1 : Doc} {s : List Byte} {n : Nat} (hp : PL.Inv d.g d.pl) (hs0 : ∃ rs, StrOK d rs)
    (h : d.saveString s = (some n, d1)) :
    Fr d d1 [] ∧ d1.strBytes n = s ∧ (∀ rs, StrOK d rs → StrOK d1 (n :: rs)) ∧ d1.overflowed = d.overflowed := by
  obtain ⟨rs0, hs0⟩ := hs0
  obtain ⟨hg, hroot, hcells, hb, hkeep, h1, h2, h3, h4⟩ := saveString_spec hs0.ids_nodup hs0.ids_lt h
  have hc : ∀ j, d1.cell j = d.cell j := fun j => by simp only [Doc.cell, hcells]
  refine ⟨⟨hg, fun _ => hroot, fun x _ _ => hc x, by rw [hg]; exact hp.congr h1 h3 h4 h2,
    fun x hx => by rw [hg, live_congr h1 h2]; exact hx,
    fun rs hs => ⟨StrOK_weaken (a := [n]) (saveString_strOK hs h), strBytes_of_present hkeep hs⟩,
    (saveString_overflowed h).trans⟩,
    hb, fun rs hs => saveString_strOK hs h, saveString_overflowed h⟩

/-- the abstract value an argument of `setArg` stands for (the same function as `C04.argVal`) -/
def argV : Arg → Val
  | .null => .null
  | .bool b => .bool b
  | .sint v => .num (.sint v)
  | .uint v => .num (.uint v)
  | .f32 b => .num (.f32 b)
  | .f64 b => normF64 b
  | .strLinked s => .str s
  | .strCopied s => .str s
  | .raw s => .raw s

end DL
namespace C04
open DL
theorem argV_eq_argVal (a : Arg) : argV a = argVal a := by cases a <;> rfl
end C04
namespace DL
open JD (Byte Val)

/-- outcome of a copy into `l` started in `d`, whose complete result would be `X`: the frame holds, something laid out
    over fresh slots was built at `l`, its value is a partial copy of `X`, it is `X` itself unless the overflow flag is
    set, and it is NOT `X` when the overflow flag was set by this copy -/
def CopyRes (d d' : Doc) (l : Loc) (X : Val) : Prop :=
  ∃ v s, Post d d' l v s ∧ PartialCopy (d'.valOf v s) X ∧ (d'.overflowed = false → d'.valOf v s = X) ∧
    (d.overflowed = false → d'.overflowed = true → d'.valOf v s ≠ X) ∧
    (d.overflowed = true → FlaggedCopy (d'.valOf v s) X)

theorem CopyRes.ok {d d' : Doc} {l : Loc} {X : Val} {v : VData} {s : Forest} (h : Post d d' l v s)
    (hv : d'.valOf v s = X) (hov : d'.overflowed = d.overflowed) (hsc : isScalarVal X) : CopyRes d d' l X :=
  ⟨v, s, h, hv ▸ PartialCopy.done _, fun _ => hv, (fun h0 h1 => by rw [hov, h0] at h1; cases h1),
    fun _ => hv ▸ FlaggedCopy.scalar (hv ▸ hsc)⟩

theorem CopyRes.of_val {d d' : Doc} {l : Loc} {X x : Val} {v : VData} {s : Forest} (h : Post d d' l v s)
    (hv : d'.valOf v s = x) (hp : PartialCopy x X) (hc : d'.overflowed = false → x = X)
    (hi : d.overflowed = false → d'.overflowed = true → x ≠ X) (hf : d.overflowed = true → FlaggedCopy x X) :
    CopyRes d d' l X := by
  subst hv; exact ⟨v, s, h, hp, hc, hi, hf⟩

theorem CopyRes.fail {d d' : Doc} {l : Loc} {X : Val} (h : Post d d' l .null .nil) (ho : d'.overflowed = true)
    (hX : X ≠ .null) (hsc : isScalarVal X) : CopyRes d d' l X :=
  ⟨.null, .nil, h, PartialCopy.null hsc, (fun hf => by rw [ho] at hf; cases hf), (fun _ _ e => hX e.symm),
    fun _ => FlaggedCopy.null hsc⟩

theorem scalar_set_self {d1 : Doc} {l : Loc} {v' : VData}
    (hne : ∀ e ∈ extOfV v', Loc.slot e ≠ l) : (d1.set l v').scalar v' = d1.scalar v' :=
  scalar_congr (fun n _ => strBytes_set d1 l v' n) (fun e he => cell_set_ne (hne e he))

theorem setArg_res {d : Doc} {l : Loc} (P : Pre d l) (a : Arg) : CopyRes d (d.setArg l a).2 l (argV a) := by
  have hfr0 : Fr d d [] := Fr.refl P.pool []
  have hsc : isScalarVal (argV a) := by
    cases a
    case f64 b => show isScalarVal (normF64 b); unfold normF64; split <;> exact True.intro
    all_goals exact True.intro
  by_cases hn : a = .null
  · subst hn; exact CopyRes.ok (v := .null) (s := .nil) (post_null P hfr0) rfl rfl trivial
  have hX : argV a ≠ .null := by
    cases a
    case null => exact absurd rfl hn
    case f64 b => show normF64 b ≠ .null; unfold normF64; split <;> (intro h; cases h)
    all_goals (intro h; cases h)
  have sh := setArg_shape d l a
  rw [← C04.argV_eq_argVal] at sh
  generalize d.setArg l a = q at sh ⊢
  cases sh with
  | noop _ hx => exact absurd hx hX
  | plain _ hc he hs hx =>
    refine CopyRes.ok (s := .nil)
      (post_set P hfr0 ((VOK_scalar hc _).2 rfl) (fun rs h => by rw [hs]; exact h) (by rw [he]; intro e h; cases h)) ?_
      (set_overflowed _ _ _) hsc
    rw [Doc.valOf, mkVal_scalar hc]; exact hx _
  | @extOk p e d1 v' hal hc he hs hx =>
    obtain ⟨hg, ho, hce, hnl, hlv⟩ := allocExt_some P.gok P.pool hal
    have hel : Loc.slot e ≠ l := fun h => hnl (P.slot e h.symm).1
    refine CopyRes.ok (v := v') (s := .nil)
      (post_set P (Fr.of_grow hg (fun h => by rw [ho]; exact h) []) ((VOK_scalar hc _).2 rfl)
        (fun rs h => by rw [hs]; exact StrOK_congr hg.strings hg.nextNode h)
        (by rw [he]; intro e' he'; simp only [List.mem_singleton] at he'; subst he'; exact ⟨⟨p, hce⟩, hlv, hnl⟩)) ?_
      (by rw [set_overflowed, ho]) hsc
    rw [Doc.valOf, mkVal_scalar hc]
    exact hx _ (by simp only [Doc.extOf, cell_set_ne hel, hce])
  | extFail hal =>
    obtain ⟨hg, ho, _⟩ := allocExt_none P.gok P.pool hal
    exact CopyRes.fail (post_null P (Fr.of_grow hg (fun _ => ho) [])) ho hX hsc
  | @strOk s n d1 b v' hal _ hc he hs hx =>
    obtain ⟨hf, hb, hst, hov1⟩ := saveString_fr P.pool P.str hal
    refine CopyRes.ok (v := v') (s := .nil)
      (post_set P hf ((VOK_scalar hc _).2 rfl) (fun rs h => by rw [hs]; exact hst rs h)
        (by rw [he]; intro e h; cases h)) ?_ (by rw [set_overflowed, hov1]) hsc
    rw [Doc.valOf, mkVal_scalar hc]
    exact hx _ (by rw [strBytes_set]; exact hb)
  | strFail hal =>
    obtain ⟨hg, ho, _⟩ := saveString_none P.pool hal
    exact CopyRes.fail (post_null P (Fr.of_grow hg (fun _ => ho) [])) ho hX hsc

/-! ## Appending a built element to the collection being built -/

theorem mem_newH {l l' : Loc} {A B : List Nat} :
    l' ∈ l :: (A ++ B).map Loc.slot ↔ l' = l ∨ (∃ j ∈ A, l' = .slot j) ∨ (∃ j ∈ B, l' = .slot j) := by
  simp only [List.mem_cons, List.mem_map, List.mem_append]
  constructor
  · rintro (h | ⟨j, hj | hj, e⟩)
    · exact Or.inl h
    · exact Or.inr (Or.inl ⟨j, hj, e.symm⟩)
    · exact Or.inr (Or.inr ⟨j, hj, e.symm⟩)
  · rintro (h | ⟨j, hj, e⟩ | ⟨j, hj, e⟩)
    · exact Or.inl h
    · exact Or.inr ⟨j, Or.inl hj, e.symm⟩
    · exact Or.inr ⟨j, Or.inr hj, e.symm⟩

/-- the tail slot of the collection being built -/
theorem Post.tail {d0 d : Doc} {l : Loc} {b : Bool} {h t : Nat} {sl : Forest} (P0 : Pre d0 l)
    (P : Post d0 d l (coll b h t) sl) :
    (t ≠ d.null → t ∈ sl.ids ∧ d.isVar t ∧ PL.live d.g d.pl t) ∧ Loc.slot t ≠ l ∧ ¬ PL.live d0.g d0.pl t ∧
    (∀ x, PL.live d.g d.pl x → ¬ PL.live d0.g d0.pl x → x ∉ sl.ids → x ≠ t) := by
  obtain ⟨hlk, ht⟩ := (VOK_coll _ _ _ _ _).1 P.att.vok
  have hn : d.null = d0.null := P.fr.null
  have htf : t ≠ d.null → t ∈ sl.ids ∧ d.isVar t ∧ PL.live d.g d.pl t := by
    intro htn
    have hne : sl ≠ .nil := fun e => htn (by rw [ht]; exact (last_null_iff hlk).2 e)
    obtain ⟨t', ht', hm⟩ := Forest.top_ne_nil hne
    have : t = t' := by rw [ht, ht']; rfl
    subst this
    exact ⟨sl.top_sub_ids t hm, Lk_top_isVar _ hlk t hm, (P.att.fresh t (sl.top_sub_ids t hm)).2⟩
  have htnotlive : ¬ PL.live d0.g d0.pl t := by
    intro hl
    by_cases htn : t = d.null
    · exact absurd (live_lt_null P0.pool hl) (by rw [htn, hn]; exact Nat.lt_irrefl _)
    · exact (P.att.fresh t (htf htn).1).1 hl
  refine ⟨htf, fun e => htnotlive (P0.slot t e.symm).1, htnotlive, ?_⟩
  intro x hx _ hxs e
  subst e
  by_cases htn : x = d.null
  · exact absurd (live_lt_null P.fr.pool hx) (by rw [htn]; exact Nat.lt_irrefl _)
  · exact hxs (htf htn).1

/-- The collection `coll b h t` built so far at `l` (laid out as `sl`) gets the element `id` (with key slot `key`), itself
    laid out as `se` over fresh slots, linked behind its tail: the local specification is re-established for the layout
    `sl.snocS key id se`, and the abstract members are the old ones followed by the new one. -/
theorem post_snoc {d0 d d3 : Doc} {l : Loc} {b : Bool} {h t : Nat} {sl se : Forest} {key : Option Nat} {id : Nat}
    (P0 : Pre d0 l) (P : Post d0 d l (coll b h t) sl)
    (hfr : Fr d d3 [l, .slot t])
    (hct : t ≠ d.null → d3.cell t = .var (d.get (.slot t)) (key.getD id))
    (hget : d3.get l = coll b (if t ≠ d.null then h else key.getD id) id)
    (hslot : ∀ i, l = .slot i → d3.cell i = .var (coll b (if t ≠ d.null then h else key.getD id) id) (d.nextOf i))
    (hnew : Lk d3 b (key.getD id) (.cons key id se .nil))
    (hnd : (Forest.keyL key ++ id :: se.ids).Nodup)
    (hfresh : ∀ x ∈ Forest.keyL key ++ id :: se.ids, ¬ PL.live d.g d.pl x ∧ PL.live d3.g d3.pl x)
    (hext : ExtL d3 ((Forest.keyL key ++ id :: se.ids).map .slot))
    (hextfresh : ∀ x ∈ Forest.keyL key ++ id :: se.ids, ∀ e ∈ extOfV (d3.get (.slot x)), ¬ PL.live d.g d.pl e)
    (hstr : ∀ rs, StrOK d rs →
      StrOK d3 ((Forest.keyL key ++ id :: se.ids).flatMap (fun j => strOfV (d3.get (.slot j))) ++ rs)) :
    Post d0 d3 l (coll b (if t ≠ d.null then h else key.getD id) id) (sl.snocS key id se) ∧
    vals d3 noOv (sl.snocS key id se) =
      vals d noOv sl ++ [(keyB d3 key, mkVal d3 (d3.get (.slot id)) (vals d3 noOv se))] := by
  generalize hN : Forest.keyL key ++ id :: se.ids = N at hnd hfresh hext hextfresh hstr
  have hn3 : d3.null = d.null := hfr.null
  obtain ⟨hlk, ht⟩ := (VOK_coll _ _ _ _ _).1 P.att.vok
  -- the place `l`
  have hlslot : ∀ i, l = .slot i → PL.live d0.g d0.pl i ∧ d.cell i = .var (coll b h t) (d0.nextOf i) :=
    fun i e => ⟨(P0.slot i e).1, P.att.slot i e⟩
  obtain ⟨htf, _, htnotlive, _⟩ := P.tail P0
  have hslive : ∀ j ∈ sl.ids, PL.live d.g d.pl j := fun j hj => (P.att.fresh j hj).2
  have hsnl : ∀ j ∈ sl.ids, Loc.slot j ≠ l := fun j hj e => (P.att.fresh j hj).1 (hlslot j e.symm).1
  have hcell3 : ∀ x, PL.live d.g d.pl x → Loc.slot x ≠ l → x ≠ t → d3.cell x = d.cell x := by
    intro x hx h1 h2
    refine hfr.cells x hx ?_
    simp only [List.mem_cons, List.not_mem_nil, or_false, Loc.slot.injEq, not_or]
    exact ⟨h1, h2⟩
  have hoth : ∀ j ∈ sl.ids, j ≠ t → d3.cell j = d.cell j := fun j hj hjt => hcell3 j (hslive j hj) (hsnl j hj) hjt
  have hgets : ∀ j ∈ sl.ids, d3.get (.slot j) = d.get (.slot j) := by
    intro j hj
    by_cases hjt : j = t
    · subst hjt
      have htn : j ≠ d.null := Nat.ne_of_lt (live_lt_null P.fr.pool (hslive j hj))
      exact get_of_var (hct htn)
    · exact get_of_cell (hoth j hj hjt)
  -- extension slots referenced from the old layout
  have hextold : ∀ j ∈ sl.ids, ∀ e ∈ extOfV (d.get (.slot j)), PL.live d.g d.pl e ∧ d3.cell e = d.cell e ∧
      ∃ p, d.cell e = .ext p := by
    intro j hj e he
    obtain ⟨⟨p, hp⟩, hlv, _⟩ := P.att.ext (.slot j) (List.mem_cons_of_mem _ (List.mem_map_of_mem hj)) e he
    refine ⟨hlv, hcell3 e hlv ?_ ?_, p, hp⟩
    · intro e'
      rw [(hlslot e e'.symm).2] at hp; cases hp
    · intro e'
      have htn : t ≠ d.null := e' ▸ Nat.ne_of_lt (live_lt_null P.fr.pool hlv)
      have := (htf htn).2.1
      rw [Doc.isVar, ← e', hp] at this; cases this
  obtain ⟨rs0, hrs0⟩ := P0.str
  have hsa : SAgree d d3 sl.ids := by
    intro j hj
    refine scalar_congr (fun n hn' => hfr.bytes (P.att.str rs0 hrs0) ?_) (fun e he => (hextold j hj e he).2.1)
    refine List.mem_append_left _ (List.mem_append_right _ ?_)
    simp only [goneF, List.mem_flatMap]; exact ⟨j, hj, hn'⟩
  have hval : vals d3 noOv (sl.snocS key id se) =
      vals d noOv sl ++ [(keyB d3 key, mkVal d3 (d3.get (.slot id)) (vals d3 noOv se))] := by
    rw [vals_snocS, vals_congr' noOv sl hgets hsa]; rfl
  refine ⟨⟨?_, ⟨?_, hget, ?_, ?_, ?_, ?_, ?_, ?_⟩⟩, hval⟩
  · -- frame
    refine Fr.trans P.fr hfr ?_
    intro l' hl'
    simp only [List.mem_cons, List.not_mem_nil, or_false] at hl'
    rcases hl' with e | e
    · exact Or.inl (by simp [e])
    · exact Or.inr ⟨t, e, htnotlive⟩
  · -- string table
    intro rs hs
    have h1 := hstr _ (P.att.str rs hs)
    have hg3 : goneF d3 (sl.snocS key id se) =
        goneF d sl ++ N.flatMap (fun j => strOfV (d3.get (.slot j))) := by
      simp only [goneF, Forest.ids_snocS, hN, List.flatMap_append]
      rw [flatMap_congr' sl.ids (fun j hj => by rw [hgets j hj])]
    rw [hg3, strOfV_coll]
    rw [strOfV_coll] at h1
    refine StrOK_perm ?_ h1
    simp only [List.nil_append, List.append_assoc]
    exact List.perm_append_comm_assoc _ _ _
  · intro i e
    rw [hslot i e, nextOf_of_var (hlslot i e).2]
  · rw [VOK_coll]
    exact ⟨append_chainS hn3 hlk ht P.att.nodup hct hoth hnew, by rw [top_snocS_last]⟩
  · rw [Forest.ids_snocS, hN]
    refine List.nodup_append.2 ⟨P.att.nodup, hnd, ?_⟩
    intro a ha b' hb' e; subst e
    exact (hfresh a hb').1 (hslive a ha)
  · intro x hx
    rw [Forest.ids_snocS, hN, List.mem_append] at hx
    rcases hx with hx | hx
    · exact ⟨(P.att.fresh x hx).1, hfr.live x (hslive x hx)⟩
    · exact ⟨fun h0 => (hfresh x hx).1 (P.fr.live x h0), (hfresh x hx).2⟩
  · -- extension slots
    rw [Forest.ids_snocS, hN]
    intro l' hl' e he
    rcases mem_newH.1 hl' with e' | ⟨j, hj, e'⟩ | ⟨j, hj, e'⟩
    · subst e'; rw [hget, extOfV_coll] at he; cases he
    · subst e'
      rw [hgets j hj] at he
      obtain ⟨hlv, hc3, p, hp⟩ := hextold j hj e he
      refine ⟨⟨p, by rw [hc3, hp]⟩, hfr.live e hlv, ?_⟩
      intro l2 hl2 he2
      rcases mem_newH.1 hl2 with e2 | ⟨j2, hj2, e2⟩ | ⟨j2, hj2, e2⟩
      · subst e2; rw [hget, extOfV_coll] at he2; cases he2
      · subst e2
        rw [hgets j2 hj2] at he2
        exact (P.att.ext (.slot j) (List.mem_cons_of_mem _ (List.mem_map_of_mem hj)) e he).2.2 (.slot j2)
          (List.mem_cons_of_mem _ (List.mem_map_of_mem hj2)) he2
      · subst e2
        exact absurd hlv (hextfresh j2 hj2 e he2)
    · subst e'
      obtain ⟨hp, hlv, hu⟩ := hext (.slot j) (List.mem_map_of_mem hj) e he
      refine ⟨hp, hlv, ?_⟩
      intro l2 hl2 he2
      rcases mem_newH.1 hl2 with e2 | ⟨j2, hj2, e2⟩ | ⟨j2, hj2, e2⟩
      · subst e2; rw [hget, extOfV_coll] at he2; cases he2
      · subst e2
        rw [hgets j2 hj2] at he2
        exact absurd (hextold j2 hj2 e he2).1 (hextfresh j hj e he)
      · subst e2
        exact hu (.slot j2) (List.mem_map_of_mem hj2) he2
  · rw [Forest.ids_snocS, hN]
    intro l' hl' e he
    rcases mem_newH.1 hl' with e' | ⟨j, hj, e'⟩ | ⟨j, hj, e'⟩
    · subst e'; rw [hget, extOfV_coll] at he; cases he
    · subst e'
      rw [hgets j hj] at he
      exact P.att.extfresh (.slot j) (List.mem_cons_of_mem _ (List.mem_map_of_mem hj)) e he
    · subst e'
      exact fun h0 => hextfresh j hj e he (P.fr.live e h0)

/-! ## What was built survives a step that leaves it alone -/

theorem Att.frame {d0 d d' : Doc} {l : Loc} {v : VData} {s : Forest} {ex : List Loc}
    (A : Att d0 d l v s) (hs0 : ∃ rs, StrOK d0 rs) (hll : ∀ i, l = .slot i → PL.live d.g d.pl i)
    (hf : Fr d d' ex) (hex : ∀ l' ∈ l :: s.ids.map Loc.slot, l' ∉ ex)
    (hexe : ∀ l' ∈ l :: s.ids.map Loc.slot, ∀ e ∈ extOfV (d.get l'), Loc.slot e ∉ ex) :
    Att d0 d' l v s ∧ d'.valOf v s = d.valOf v s := by
  have hgl : d'.get l = d.get l := by
    cases l with
    | root => exact hf.root (hex _ List.mem_cons_self)
    | slot i => exact get_of_cell (hf.cells i (hll i rfl) (hex _ List.mem_cons_self))
  have hcs : ∀ j ∈ s.ids, d'.cell j = d.cell j := fun j hj =>
    hf.cells j (A.fresh j hj).2 (hex _ (List.mem_cons_of_mem _ (List.mem_map_of_mem hj)))
  obtain ⟨rs0, hrs0⟩ := hs0
  have hgs : ∀ j ∈ s.ids, d'.get (.slot j) = d.get (.slot j) := fun j hj => get_of_cell (hcs j hj)
  have hgH : ∀ l' ∈ l :: s.ids.map Loc.slot, d'.get l' = d.get l' := by
    intro l' hl'
    rcases List.mem_cons.1 hl' with e | m
    · rw [e]; exact hgl
    · obtain ⟨j, hj, e⟩ := List.mem_map.1 m
      subst e; exact hgs j hj
  have hextc : ∀ l' ∈ l :: s.ids.map Loc.slot, ∀ e ∈ extOfV (d.get l'), d'.cell e = d.cell e := fun l' hl' e he =>
    hf.cells e (A.ext l' hl' e he).2.1 (hexe l' hl' e he)
  have ag : Agree d d' s.ids := ⟨hf.null, hcs⟩
  have hscal : ∀ l' ∈ l :: s.ids.map Loc.slot, d'.scalar (d.get l') = d.scalar (d.get l') := by
    intro l' hl'
    refine scalar_congr (fun n hn' => hf.bytes (A.str rs0 hrs0) ?_) (hextc l' hl')
    refine List.mem_append_left _ ?_
    rcases List.mem_cons.1 hl' with e | m
    · rw [e, A.get] at hn'; exact List.mem_append_left _ hn'
    · obtain ⟨j, hj, e⟩ := List.mem_map.1 m
      subst e
      refine List.mem_append_right _ ?_
      simp only [goneF, List.mem_flatMap]; exact ⟨j, hj, hn'⟩
  have sa : SAgree d d' s.ids := fun j hj => hscal (.slot j) (List.mem_cons_of_mem _ (List.mem_map_of_mem hj))
  refine ⟨⟨?_, by rw [hgl]; exact A.get, ?_, VOK_congr ag A.vok,
    A.nodup, fun x hx => ⟨(A.fresh x hx).1, hf.live x (A.fresh x hx).2⟩, ?_, ?_⟩, ?_⟩
  · intro rs hs
    rw [goneF_congr s hgs]
    exact hf.strok _ (A.str rs hs)
  · intro i e
    rw [hf.cells i (hll i e) (e ▸ hex _ List.mem_cons_self)]; exact A.slot i e
  · intro l' hl' e he
    rw [hgH l' hl'] at he
    obtain ⟨⟨p, hp⟩, hlv, hu⟩ := A.ext l' hl' e he
    refine ⟨⟨p, by rw [hextc l' hl' e he, hp]⟩, hf.live e hlv, ?_⟩
    intro l2 hl2 he2
    rw [hgH l2 hl2] at he2
    exact hu l2 hl2 he2
  · intro l' hl' e he
    rw [hgH l' hl'] at he
    exact A.extfresh l' hl' e he
  · simp only [Doc.valOf]
    rw [vals_congr noOv s ag sa]
    have := hscal l (List.mem_cons_self)
    rw [A.get] at this
    exact mkVal_congr this _

theorem Post.frame {d0 d d' : Doc} {l : Loc} {v : VData} {s : Forest} (P0 : Pre d0 l) (P : Post d0 d l v s)
    (hf : Fr d d' []) : Post d0 d' l v s ∧ d'.valOf v s = d.valOf v s := by
  obtain ⟨a, b⟩ := P.att.frame P0.str (fun i e => P.fr.live i (P0.slot i e).1) hf (fun _ _ h => by cases h)
    (fun _ _ _ _ h => by cases h)
  exact ⟨⟨Fr.trans P.fr hf (fun l' hl' => by cases hl'), a⟩, b⟩

/-! ## Frames of the primitives -/

theorem setNext_overflowed (d : Doc) (i n : Nat) : (d.setNext i n).overflowed = d.overflowed := by rw [setNext_eq]

theorem derefString_overflowed (d : Doc) (n : Nat) : (d.derefString n).overflowed = d.overflowed := by
  simp only [Doc.derefString]
  split
  · rfl
  · split <;> rfl

/-- relinking and releasing leave the overflow flag alone -/
theorem overflowed_linking : Linking (fun _ => True) (fun d d' => d'.overflowed = d.overflowed) where
  refl _ := rfl
  trans h1 h2 := h2.trans h1
  null := trivial
  arr _ _ := trivial
  obj _ _ := trivial
  set d l _ _ := set_overflowed d l _
  setNext := setNext_overflowed
  freeCell _ _ := rfl
  derefString := derefString_overflowed

theorem appendOne_fr {d : Doc} {l : Loc} {h t id : Nat} (hp : PL.Inv d.g d.pl) (hv : d.get l = .arr h t)
    (htl : Loc.slot t ≠ l) : Fr d (d.appendOne l id) [l, .slot t] := by
  obtain ⟨hn, hstr, hpl, hg, _, hco, _, hroot, _⟩ := appendOne_cells (id := id) hv htl
  have hnn : (d.appendOne l id).nextNode = d.nextNode := by
    rw [appendOne_get hv]; split
    · rw [set_nextNode, setNext_nextNode]
    · exact set_nextNode _ _ _
  refine fr_of_same hp hg hpl hstr hnn (overflowed_linking.appendOne d l id) ?_ ?_
  · intro hr; exact hroot (fun e => hr (by simp [e]))
  · intro x hx
    simp only [List.mem_cons, List.not_mem_nil, or_false, Loc.slot.injEq, not_or] at hx
    exact hco x hx.1 (fun _ => hx.2)

theorem appendOne_ov_eq {d : Doc} {l : Loc} {h t id : Nat} (_hv : d.get l = .arr h t) :
    (d.appendOne l id).overflowed = d.overflowed := overflowed_linking.appendOne d l id

/-! ## The cleared place -/

theorem clearV_null {d : Doc} {l : Loc} (h : d.get l = .null) : d.clearV l = d.set l .null := by
  rw [clearV_scalar_eq (by rw [h]; exact fun h => h), h]; rfl

theorem Pre.cleared {d : Doc} {l : Loc} (P : Pre d l) : Pre (d.set l .null) l := by
  refine ⟨by rw [set_g]; exact P.gok, by rw [set_pl, set_g]; exact P.pool, get_set_self _ _ _, ?_, ?_⟩
  · intro i e; subst e
    refine ⟨by rw [set_pl, set_g]; exact (P.slot i rfl).1, ?_⟩
    exact isVar_of_var (by rw [cell_set_slot, if_pos rfl])
  · obtain ⟨rs, hs⟩ := P.str
    exact ⟨rs, StrOK_congr (set_strings _ _ _) (set_nextNode _ _ _) hs⟩

theorem Post.of_cleared {d0 d : Doc} {l : Loc} {v : VData} {s : Forest} (P0 : Pre d0 l)
    (P : Post (d0.set l .null) d l v s) : Post d0 d l v s := by
  have hf : Fr d0 (d0.set l .null) [l] := set_fr P0.pool l .null
  have hlive : ∀ x, PL.live (d0.set l .null).g (d0.set l .null).pl x ↔ PL.live d0.g d0.pl x := by
    intro x; rw [set_pl, set_g]
  have hso : ∀ rs, StrOK d0 rs → StrOK (d0.set l .null) rs := fun rs hs =>
    StrOK_congr (set_strings _ _ _) (set_nextNode _ _ _) hs
  refine ⟨Fr.trans hf P.fr (fun l' hl' => Or.inl hl'), ⟨fun rs hs => P.att.str rs (hso rs hs), P.att.get, ?_, P.att.vok,
    P.att.nodup, fun x hx => ⟨fun h => (P.att.fresh x hx).1 ((hlive x).2 h), (P.att.fresh x hx).2⟩, P.att.ext,
    fun l' hl' e he h => P.att.extfresh l' hl' e he ((hlive e).2 h)⟩⟩
  intro i e
  rw [P.att.slot i e]
  subst e
  rw [nextOf_of_var (show (d0.set (.slot i) .null).cell i = .var .null (d0.nextOf i) by rw [cell_set_slot, if_pos rfl])]

theorem CopyRes.of_cleared {d0 d : Doc} {l : Loc} {X : Val} (P0 : Pre d0 l) (h : CopyRes (d0.set l .null) d l X) :
    CopyRes d0 d l X := by
  obtain ⟨v, s, P, a, b, c, f⟩ := h
  exact ⟨v, s, P.of_cleared P0, a, b, fun h0 => c (by rw [set_overflowed]; exact h0),
    fun h0 => f (by rw [set_overflowed]; exact h0)⟩

/-! ## `clearV` does not touch the overflow flag -/

theorem clearV_overflowed (d : Doc) (l : Loc) : (d.clearV l).overflowed = d.overflowed := overflowed_linking.clearV d l

theorem freeVariant_overflowed (d : Doc) (id : Nat) : (d.freeVariant id).overflowed = d.overflowed :=
  overflowed_linking.freeVariant d id

/-! ## One element of an array -/

/-- `dst.set(src element)` once the slot `m` exists: the copy function passed to `copyElems` / `copyMembers` -/
def memCopy (f : Nat) (src : Doc) (d : Doc) (m v : Nat) : Doc := copyIntoF f d (.slot m) src (src.get (.slot v))

theorem copyIntoF_arr (f : Nat) (d : Doc) (l : Loc) (src : Doc) (h t : Nat) :
    copyIntoF (f+1) d l src (.arr h t) =
      copyElems l (memCopy f src) ((d.clearV l).set l (.arr (d.clearV l).null (d.clearV l).null)) (src.chain h) := rfl

theorem copyIntoF_obj (f : Nat) (d : Doc) (l : Loc) (src : Doc) (h t : Nat) :
    copyIntoF (f+1) d l src (.obj h t) =
      copyMembers l src (memCopy f src) ((d.clearV l).set l (.obj (d.clearV l).null (d.clearV l).null)) (src.chain h) := rfl

/-- the array being built at `l`: its value so far is `.arr xs` -/
def ArrInv (d0 d : Doc) (l : Loc) (xs : List Val) : Prop :=
  ∃ h t sl, Post d0 d l (.arr h t) sl ∧ d.valOf (.arr h t) sl = .arr xs

/-- the object being built at `l`: its value so far is `.obj ms` -/
def ObjInv (d0 d : Doc) (l : Loc) (ms : List (List Byte × Val)) : Prop :=
  ∃ h t sl, Post d0 d l (.obj h t) sl ∧ d.valOf (.obj h t) sl = .obj ms

/-- the slot `id` just allocated, holding what a copy built in it (`Post d1 d2 (.slot id) ve se`), is appended to the array
    being built at `l` -/
theorem arr_append {d0 d d1 d2 : Doc} {l : Loc} {id h t : Nat} {xs : List Val} {sl se : Forest} {ve : VData}
    (P0 : Pre d0 l) (P : Post d0 d l (.arr h t) sl) (hv : d.valOf (.arr h t) sl = .arr xs)
    (hal : d.allocVariant = (some id, d1)) (P2 : Post d1 d2 (.slot id) ve se) :
    ArrInv d0 (d2.appendOne l id) l (xs ++ [d2.valOf ve se]) ∧ (d2.appendOne l id).overflowed = d2.overflowed := by
  obtain ⟨gokd, _, hsd⟩ := P.base P0
  obtain ⟨hg, hov, hcid, hco, hnl, hlt, hlv⟩ := allocVariant_some gokd P.fr.pool hal
  have hlid1 : PL.live d1.g d1.pl id := (hlv id).2 (Or.inr rfl)
  -- the frame from `d` to `d2`
  have Fd2 : Fr d d2 [] := Fr.trans (Fr.of_grow hg hov.trans []) P2.fr
    (fun l' hl' => Or.inr ⟨id, List.mem_singleton.1 hl', hnl⟩)
  obtain ⟨Pd2, hvd2⟩ := P.frame P0 Fd2
  obtain ⟨htf, htl, _, htne⟩ := Post.tail (b := false) P0 P
  obtain ⟨htf2, _, _, _⟩ := Post.tail (b := false) P0 Pd2
  have hn2 : d2.null = d.null := Fd2.null
  have hll : ∀ i, l = .slot i → PL.live d.g d.pl i := fun i e => P.fr.live i (P0.slot i e).1
  have hlid : Loc.slot id ≠ l := fun e => hnl (hll id e.symm)
  obtain ⟨hn3, hstr3, hpl3, hg3, hget3, hco3, hct3, hroot3, hci3⟩ := appendOne_cells (id := id) Pd2.att.get htl
  have F23 : Fr d2 (d2.appendOne l id) [l, .slot t] := appendOne_fr Pd2.fr.pool Pd2.att.get htl
  have hov3 : (d2.appendOne l id).overflowed = d2.overflowed := appendOne_ov_eq Pd2.att.get
  generalize d2.appendOne l id = d3 at *
  -- what was built at `id` survives the linking
  have hne_t : ∀ j, PL.live d2.g d2.pl j → (t ≠ d.null → j ≠ t) → j ≠ t := by
    intro j hj hh e'
    by_cases htn : t = d.null
    · exact absurd (live_lt_null Pd2.fr.pool hj) (by rw [e', htn, hn2]; exact Nat.lt_irrefl _)
    · exact hh htn e'
  have hlid2 : PL.live d2.g d2.pl id := P2.fr.live id hlid1
  have hidt : id ≠ t := hne_t id hlid2 (fun htn e' => hnl (e' ▸ (htf htn).2.2))
  have hex2 : ∀ l' ∈ Loc.slot id :: se.ids.map Loc.slot, l' ∉ [l, Loc.slot t] := by
    intro l' hl' hm
    simp only [List.mem_cons, List.not_mem_nil, or_false] at hm
    rcases List.mem_cons.1 hl' with e' | m
    · subst e'
      rcases hm with hm | hm
      · exact hlid hm
      · exact hidt (by injection hm)
    · obtain ⟨j, hj, e'⟩ := List.mem_map.1 m
      subst e'
      rcases hm with hm | hm
      · exact (P2.att.fresh j hj).1 (hg.live j (hll j hm.symm))
      · refine hne_t j (P2.att.fresh j hj).2 (fun htn e' => ?_) (by injection hm)
        exact (P2.att.fresh j hj).1 (hg.live j (e' ▸ (htf htn).2.2))
  have hexe2 : ∀ l' ∈ Loc.slot id :: se.ids.map Loc.slot, ∀ e ∈ extOfV (d2.get l'), Loc.slot e ∉ [l, Loc.slot t] := by
    intro l' hl' e he hm
    obtain ⟨⟨p, hp⟩, hlv, _⟩ := P2.att.ext l' hl' e he
    simp only [List.mem_cons, List.not_mem_nil, or_false] at hm
    rcases hm with hm | hm
    · have := Pd2.att.slot e hm.symm
      rw [hp] at this; cases this
    · have hm' : e = t := by injection hm
      refine hne_t e hlv (fun htn e' => ?_) hm'
      have := (htf2 (by rw [hn2]; exact htn)).2.1
      rw [Doc.isVar, ← e', hp] at this; cases this
  obtain ⟨A3, hval3⟩ := P2.att.frame ⟨_, StrOK_congr hg.strings hg.nextNode hsd⟩ (fun i e => by cases e; exact hlid2) F23 hex2 hexe2
  have hcid3 : d3.cell id = .var ve d.null := by rw [A3.slot id rfl, nextOf_of_var hcid]
  have hsn := post_snoc (d0 := d0) (d := d) (d3 := d3) (b := false) (key := none) (id := id) (se := se) P0 P
    (Fr.trans (Fd2.mono (fun _ h => by cases h)) F23 (fun l' hl' => Or.inl hl'))
    (fun htn => by
      rw [hct3 (by rw [hn2]; exact htn) (htf2 (by rw [hn2]; exact htn)).2.1,
        get_of_cell (Fd2.cells t (htf htn).2.2 (by simp))]; rfl)
    (by rw [hget3, hn2]; rfl)
    (fun i e => by
      rw [hci3 i e, hn2, nextOf_of_cell (Fd2.cells i (hll i e) (by simp)) hn2]; rfl)
    ((Lk_cons _ _ _ _ _ _ _).2 ⟨rfl, by rw [hn3, hn2]; exact Nat.ne_of_lt hlt, isVar_of_var hcid3,
      by rw [nextOf_of_var hcid3, Lk_nil, hn3, hn2], by rw [get_of_var hcid3]; exact A3.vok⟩)
    (List.nodup_cons.2 ⟨fun m => (A3.fresh id m).1 hlid1, A3.nodup⟩)
    (fun x hx => by
      rcases List.mem_cons.1 hx with e' | m
      · subst e'; exact ⟨hnl, F23.live _ hlid2⟩
      · exact ⟨fun h0 => (A3.fresh x m).1 (hg.live x h0), (A3.fresh x m).2⟩)
    A3.ext
    (fun x hx e he h0 => A3.extfresh (.slot x) (List.mem_map_of_mem hx) e he (hg.live e h0))
    (fun rs hs => by
      have := A3.str rs (StrOK_congr hg.strings hg.nextNode hs)
      have e1 : (Forest.keyL none ++ id :: se.ids).flatMap (fun j => strOfV (d3.get (.slot j))) =
          strOfV ve ++ goneF d3 se := by
        simp only [Forest.keyL, List.nil_append, List.flatMap_cons, A3.get, goneF]
      rw [e1]; exact this)
  obtain ⟨Pn, hvals⟩ := hsn
  have hxs : (vals d noOv sl).map (·.2) = xs := by
    have := hv
    simp only [Doc.valOf, mkVal] at this
    injection this
  refine ⟨⟨_, id, sl.snocS none id se, Pn, ?_⟩, hov3⟩
  show Val.arr ((vals d3 noOv (sl.snocS none id se)).map (·.2)) = _
  rw [hvals, List.map_append, hxs, ← hval3]
  simp only [List.map_cons, List.map_nil, Doc.valOf, A3.get]

/-! ## Releasing the element whose copy failed -/

theorem Att.isVar {d0 d : Doc} {l : Loc} {v : VData} {s : Forest} (A : Att d0 d l v s) : ∀ x ∈ s.ids, d.isVar x := by
  intro x hx
  have hne : s ≠ .nil := by intro e; subst e; cases hx
  obtain ⟨b, h, hlk, _⟩ := VOK_coll_of_ne_nil A.vok hne
  exact Lk_ids_isVar s hlk x hx

/-- `JsonArray::add` on failure: the slot `id` allocated for the element, and everything the failed copy built in it
    (`Post d1 d2 (.slot id) ve se`), is released by `freeVariant`: relative to the document `d` before the allocation,
    nothing live changed - slots, extension slots and string references of the partial copy are all given back. -/
theorem free_built {d d1 d2 : Doc} {id : Nat} {ve : VData} {se : Forest} (F1 : Fr d d1 [])
    (hnl : ¬ PL.live d.g d.pl id) (hl1 : PL.live d1.g d1.pl id) (hs1 : ∃ rs, StrOK d1 rs)
    (P2 : Post d1 d2 (.slot id) ve se) : Fr d (d2.freeVariant id) [] := by
  have hgid : d2.get (.slot id) = ve := P2.att.get
  have hvar : ∀ x ∈ id :: se.ids, d2.isVar x := by
    intro x hx
    rcases List.mem_cons.1 hx with e | m
    · subst e; exact isVar_of_var (P2.att.slot x rfl)
    · exact P2.att.isVar x m
  have hmemH : ∀ j ∈ id :: se.ids, Loc.slot j ∈ Loc.slot id :: se.ids.map Loc.slot :=
    fun j hj => List.mem_map_of_mem (f := Loc.slot) hj
  have H : ExtH d2 (id :: se.ids) := by
    constructor
    · intro j hj e he hm
      obtain ⟨⟨p, hp⟩, _, _⟩ := P2.att.ext (.slot j) (hmemH j hj) e he
      exact ext_ne_var hp (hvar e hm) rfl
    · intro j hj j' hj' e he he'
      have := (P2.att.ext (.slot j) (hmemH j hj) e he).2.2 (.slot j') (hmemH j' hj') he'
      injection this with this
      exact this.symm
  have hidn : id ∉ se.ids := fun m => (P2.att.fresh id m).1 hl1
  obtain ⟨hX, hXt⟩ := fpF_terr_nodup H se (fun j hj => List.mem_cons_of_mem _ hj) P2.att.nodup
  obtain ⟨hnd, hterr⟩ := slot_piece (i := id) H hX hXt List.mem_cons_self (fun j hj => List.mem_cons_of_mem _ hj) hidn
  -- the footprint is live in `d2` and not live in `d`
  have hfp : ∀ x ∈ (extOfV (d2.get (.slot id)) ++ fpF d2 se) ++ [id], PL.live d2.g d2.pl x ∧ ¬ PL.live d.g d.pl x := by
    intro x hx
    rcases hterr x hx with m | ⟨j, hj, he⟩
    · rcases List.mem_cons.1 m with e | m
      · subst e; exact ⟨P2.fr.live x hl1, hnl⟩
      · exact ⟨(P2.att.fresh x m).2, fun h0 => (P2.att.fresh x m).1 (F1.live x h0)⟩
    · exact ⟨(P2.att.ext (.slot j) (hmemH j hj) x he).2.1,
        fun h0 => P2.att.extfresh (.slot j) (hmemH j hj) x he (F1.live x h0)⟩
  have hlen : se.ids.length < d2.fuel := by
    have := length_le_of_nodup_lt P2.att.nodup (fun x hx => live_lt_null P2.fr.pool (P2.att.fresh x hx).2)
    simp only [Doc.fuel, Doc.null] at *; omega
  have heff : ∀ rs, StrOK d1 rs →
      Eff d2 (d2.freeVariant id) ((extOfV (d2.get (.slot id)) ++ fpF d2 se) ++ [id]) rs := by
    intro rs hs
    have hs2 := P2.att.str rs hs
    rw [List.append_assoc] at hs2
    exact step_slot (s := se) (f := d2.fuel) (d := d2) (i := id) (keep := rs) (by rw [hgid]; exact P2.att.vok)
      (Nat.lt_of_le_of_lt se.depth_le hlen) (Nat.le_of_lt hlen) P2.fr.pool (fun x hx => (hfp x hx).1) hnd
      (by rw [hgid]; exact hs2)
  obtain ⟨rs1, hrs1⟩ := hs1
  have he := heff rs1 hrs1
  refine ⟨by rw [he.g, P2.fr.g, F1.g], fun _ => by rw [he.root, P2.fr.root (by simp), F1.root (by simp)], ?_, he.pool,
    ?_, ?_, fun ho => by rw [freeVariant_overflowed]; exact P2.fr.ov (F1.ov ho)⟩
  · intro x hx _
    have hx1 := F1.live x hx
    rw [he.cells x (fun m => (hfp x m).2 hx),
      P2.fr.cells x hx1 (by simp only [List.mem_singleton, Loc.slot.injEq]; exact fun e => hnl (e ▸ hx)),
      F1.cells x hx (by simp)]
  · intro x hx
    exact (he.live x).2 ⟨P2.fr.live x (F1.live x hx), fun m => (hfp x m).2 hx⟩
  · intro rs hs
    obtain ⟨a1, b1⟩ := F1.strs rs hs
    obtain ⟨_, b2⟩ := P2.fr.strs rs a1
    have he' := heff rs a1
    exact ⟨he'.str, fun m hm => by rw [he'.bytes m hm, b2 m hm, b1 m hm]⟩

/-- ONE ROUND of `JsonArray::set` (`add(element)`): either the round stops the loop - the slot could not be allocated, or
    the copy into it left the document flagged and the slot was released - and the array built so far is unchanged and
    the document flagged; or the element was copied COMPLETELY and appended, the document is not flagged, and the loop
    goes on. -/
theorem arr_step {src d0 d : Doc} {l : Loc} {f e : Nat} {xs : List Val} {X : Val}
    (P0 : Pre d0 l) (hI : ArrInv d0 d l xs)
    (hrec : ∀ d1 id, Pre d1 (.slot id) → CopyRes d1 (memCopy f src d1 id e) (.slot id) X) :
    (∃ dS, (∀ rest, copyElems l (memCopy f src) d (e :: rest) = dS) ∧ ArrInv d0 dS l xs ∧ dS.overflowed = true) ∨
    (∃ dC, (∀ rest, copyElems l (memCopy f src) d (e :: rest) = copyElems l (memCopy f src) dC rest) ∧
      ArrInv d0 dC l (xs ++ [X]) ∧ dC.overflowed = false ∧ d.overflowed = false) := by
  obtain ⟨h, t, sl, P, hv⟩ := hI
  obtain ⟨gokd, _, hsd⟩ := P.base P0
  generalize hal : d.allocVariant = r
  obtain ⟨m, d1⟩ := r
  cases m with
  | none =>
    obtain ⟨hg, ho, _⟩ := allocVariant_none gokd P.fr.pool hal
    obtain ⟨P1, hv1⟩ := P.frame P0 (Fr.of_grow hg (fun _ => ho) [])
    exact Or.inl ⟨d1, fun rest => by simp only [copyElems, hal], ⟨h, t, sl, P1, hv1.trans hv⟩, ho⟩
  | some id =>
    obtain ⟨hg, hov, hcid, hco, hnl, hlt, hlv⟩ := allocVariant_some gokd P.fr.pool hal
    have hlid1 : PL.live d1.g d1.pl id := (hlv id).2 (Or.inr rfl)
    have hs1 : ∃ rs, StrOK d1 rs := ⟨_, StrOK_congr hg.strings hg.nextNode hsd⟩
    have pre1 : Pre d1 (.slot id) :=
      ⟨by rw [hg.g]; exact gokd, hg.pool, get_of_var hcid, fun i e => by cases e; exact ⟨hlid1, isVar_of_var hcid⟩, hs1⟩
    obtain ⟨ve, se, P2, _, hcomp, _, _⟩ := hrec d1 id pre1
    have F1 : Fr d d1 [] := Fr.of_grow hg hov.trans []
    cases h2 : (memCopy f src d1 id e).overflowed with
    | true =>
      have F3 := free_built F1 hnl hlid1 hs1 P2
      obtain ⟨P3, hv3⟩ := P.frame P0 F3
      refine Or.inl ⟨(memCopy f src d1 id e).freeVariant id, fun rest => ?_, ⟨h, t, sl, P3, hv3.trans hv⟩, ?_⟩
      · simp only [copyElems, hal, h2, if_true]
      · rw [freeVariant_overflowed]; exact h2
    | false =>
      obtain ⟨hA, hovA⟩ := arr_append P0 P hv hal P2
      rw [hcomp h2] at hA
      refine Or.inr ⟨(memCopy f src d1 id e).appendOne l id, fun rest => ?_, hA, by rw [hovA]; exact h2,
        by rw [← hov]; exact P2.fr.ov_false h2⟩
      simp only [copyElems, hal, h2, Bool.false_eq_true, if_false]

/-! ## One member of an object -/

theorem addMember_none {d d' : Doc} {l : Loc} {key : List Byte} {linked : Bool} (gok : PL.GeoOK d.g)
    (hp : PL.Inv d.g d.pl) (h : d.addMember l key linked = (none, d')) : Grow d d' ∧ d'.overflowed = true := by
  simp only [Doc.addMember] at h
  generalize hal1 : d.allocVariant = r1 at h
  obtain ⟨m1, d1⟩ := r1
  cases m1 with
  | none =>
    simp only [Prod.mk.injEq, true_and] at h; subst h
    obtain ⟨hg, ho, _⟩ := allocVariant_none gok hp hal1
    exact ⟨hg, ho⟩
  | some k =>
    obtain ⟨hg1, _, _, _, _, _, _⟩ := allocVariant_some gok hp hal1
    have gok1 : PL.GeoOK d1.g := by rw [hg1.g]; exact gok
    simp only at h
    generalize hal2 : d1.allocVariant = r2 at h
    obtain ⟨m2, d2⟩ := r2
    cases m2 with
    | none =>
      simp only [Prod.mk.injEq, true_and] at h; subst h
      obtain ⟨hg2, ho, _⟩ := allocVariant_none gok1 hg1.pool hal2
      exact ⟨hg1.trans hg2, ho⟩
    | some v =>
      obtain ⟨hg2, _, _, _, _, _, _⟩ := allocVariant_some gok1 hg1.pool hal2
      simp only at h
      cases linked with
      | true => simp at h
      | false =>
        simp only [Bool.false_eq_true, if_false] at h
        generalize hal3 : d2.saveString key = r3 at h
        obtain ⟨m3, d3⟩ := r3
        cases m3 with
        | some n => simp at h
        | none =>
          simp only [Prod.mk.injEq, true_and] at h; subst h
          obtain ⟨hg3, ho, _⟩ := saveString_none hg2.pool hal3
          exact ⟨(hg1.trans hg2).trans hg3, ho⟩

/-- `addMember` that succeeds: two fresh slots `k` (holding the key string `kv`) and `v` (holding null) were obtained
    and `appendPair` links them; `dK` is the document just before the linking -/
theorem addMember_some {d d' : Doc} {l : Loc} {key : List Byte} {linked : Bool} {v : Nat} (gok : PL.GeoOK d.g)
    (hp : PL.Inv d.g d.pl) (hs : ∃ rs, StrOK d rs) (h : d.addMember l key linked = (some v, d')) :
    ∃ (k : Nat) (dK : Doc) (kv : VData) (nk : Nat), d' = dK.appendPair l k v ∧ Fr d dK [] ∧
      dK.overflowed = d.overflowed ∧ dK.cell k = .var kv nk ∧ dK.cell v = .var .null d.null ∧ isKey kv ∧
      keyOfV dK kv = key ∧ k ≠ v ∧ ¬ PL.live d.g d.pl k ∧ ¬ PL.live d.g d.pl v ∧ PL.live dK.g dK.pl k ∧
      PL.live dK.g dK.pl v ∧ (∀ rs, StrOK d rs → StrOK dK (strOfV kv ++ rs)) := by
  simp only [Doc.addMember] at h
  generalize hal1 : d.allocVariant = r1 at h
  obtain ⟨m1, d1⟩ := r1
  cases m1 with
  | none => simp at h
  | some k =>
    obtain ⟨hg1, hov1, hck, hco1, hnk, hklt, hlv1⟩ := allocVariant_some gok hp hal1
    have gok1 : PL.GeoOK d1.g := by rw [hg1.g]; exact gok
    have hn1 : d1.null = d.null := by simp only [Doc.null, hg1.g]
    simp only at h
    generalize hal2 : d1.allocVariant = r2 at h
    obtain ⟨m2, d2⟩ := r2
    cases m2 with
    | none => simp at h
    | some v' =>
      obtain ⟨hg2, hov2, hcv, hco2, hnv, hvlt, hlv2⟩ := allocVariant_some gok1 hg1.pool hal2
      have hk1 : PL.live d1.g d1.pl k := (hlv1 k).2 (Or.inr rfl)
      have hkv : k ≠ v' := fun e => hnv (e ▸ hk1)
      have hk2 : PL.live d2.g d2.pl k := (hlv2 k).2 (Or.inl hk1)
      have hv2 : PL.live d2.g d2.pl v' := (hlv2 v').2 (Or.inr rfl)
      have hnv0 : ¬ PL.live d.g d.pl v' := fun hh => hnv ((hlv1 v').2 (Or.inl hh))
      have F2 : Fr d d2 [] := Fr.trans (Fr.of_grow hg1 hov1.trans [])
        (Fr.of_grow hg2 hov2.trans []) (fun _ h => by cases h)
      have hs2 : ∀ rs, StrOK d rs → StrOK d2 rs := fun rs hs =>
        StrOK_congr hg2.strings hg2.nextNode (StrOK_congr hg1.strings hg1.nextNode hs)
      simp only at h
      cases linked with
      | true =>
        simp only [if_true, Prod.mk.injEq, Option.some.injEq] at h
        obtain ⟨rfl, rfl⟩ := h
        refine ⟨k, d2.set (.slot k) (.linked key), .linked key, d2.nextOf k, rfl,
          Fr.trans F2 (set_fr hg2.pool _ _) (fun l' hl' => Or.inr ⟨k, List.mem_singleton.1 hl', hnk⟩),
          by rw [set_overflowed, hov2, hov1], by rw [cell_set_slot, if_pos rfl],
          by rw [cell_set_slot, if_neg hkv, hcv, hn1], trivial, rfl, hkv, hnk, hnv0,
          by rw [set_pl, set_g]; exact hk2, by rw [set_pl, set_g]; exact hv2, ?_⟩
        intro rs hs
        exact StrOK_congr (set_strings _ _ _) (set_nextNode _ _ _) (hs2 rs hs)
      | false =>
        simp only [Bool.false_eq_true, if_false] at h
        generalize hal3 : d2.saveString key = r3 at h
        obtain ⟨m3, d3⟩ := r3
        cases m3 with
        | none => simp at h
        | some n =>
          simp only [Prod.mk.injEq, Option.some.injEq] at h
          obtain ⟨rfl, rfl⟩ := h
          obtain ⟨rs0, hrs0⟩ := hs
          obtain ⟨F3, hb, hst, hov3⟩ := saveString_fr hg2.pool ⟨rs0, hs2 rs0 hrs0⟩ hal3
          have hc3 : ∀ x, PL.live d2.g d2.pl x → d3.cell x = d2.cell x := fun x hx => F3.cells x hx (by simp)
          refine ⟨k, d3.set (.slot k) (.owned n), .owned n, d3.nextOf k, rfl,
            Fr.trans (Fr.trans F2 F3 (fun _ h => by cases h)) (set_fr F3.pool _ _)
              (fun l' hl' => Or.inr ⟨k, List.mem_singleton.1 hl', hnk⟩),
            by rw [set_overflowed, hov3, hov2, hov1], by rw [cell_set_slot, if_pos rfl],
            by rw [cell_set_slot, if_neg hkv, hc3 v' hv2, hcv, hn1], trivial, ?_, hkv, hnk, hnv0,
            by rw [set_pl, set_g]; exact F3.live k hk2, by rw [set_pl, set_g]; exact F3.live v' hv2, ?_⟩
          · show (d3.set (.slot k) (.owned n)).strBytes n = key
            rw [strBytes_set]; exact hb
          · intro rs hs
            exact StrOK_congr (set_strings _ _ _) (set_nextNode _ _ _) (hst rs (hs2 rs hs))

theorem ExtL.cons_noext {d : Doc} {H : List Loc} {l0 : Loc} (h : ExtL d H) (h0 : extOfV (d.get l0) = []) :
    ExtL d (l0 :: H) := by
  intro l' hl' e he
  rcases List.mem_cons.1 hl' with e' | m
  · subst e'; rw [h0] at he; cases he
  · obtain ⟨a, b, c⟩ := h l' m e he
    refine ⟨a, b, ?_⟩
    intro l2 hl2 he2
    rcases List.mem_cons.1 hl2 with e2 | m2
    · subst e2; rw [h0] at he2; cases he2
    · exact c l2 m2 he2

theorem keyOf_fst (src : Doc) (k : Nat) : (src.keyOf k).1 = keyOfV src (src.get (.slot k)) := by
  simp only [Doc.keyOf]
  cases src.get (.slot k) <;> rfl

theorem getOrAddMember_obj {d : Doc} {l : Loc} {h t : Nat} {key : List Byte} {linked : Bool}
    (hv : d.get l = .obj h t) (hf : d.findKey l key = none) :
    d.getOrAddMember l key linked = d.addMember l key linked := by
  simp only [Doc.getOrAddMember, hv, hf]

theorem findKey_none {d : Doc} {l : Loc} {h t : Nat} {sl : Forest} {key : List Byte} (hv : d.get l = .obj h t)
    (hlk : Lk d true h sl) (hf : sl.ids.length < d.fuel) (hk : key ∉ (vals d noOv sl).map (·.1)) :
    d.findKey l key = none := by
  simp only [Doc.findKey, hv, chain_eq hlk (Nat.le_of_lt hf)]
  have h1 := findIn_spec key sl hlk hf
  have h2 : (vals d noOv sl).find? (fun m => m.1 == key) = none := by
    rw [List.find?_eq_none]
    intro x hx hb
    exact hk (List.mem_map.2 ⟨x, hx, by simpa using hb⟩)
  rw [h2] at h1
  cases hfi : d.findIn key sl.top with
  | none => rfl
  | some p => rw [hfi] at h1; cases h1

/-- ONE ROUND of `JsonObject::set` (`dst[key].set(value)`): (1) the member could not be added - the loop stops, the object
    built so far is unchanged, the document is flagged; or (2) the member was added with its key, but the copy of its
    value left the document flagged - the loop stops with this member last, its value a partial copy; or (3) the member
    was added and its value copied COMPLETELY, the document is not flagged, and the loop goes on. -/
theorem obj_step {src d0 d : Doc} {l : Loc} {f ksrc vsrc : Nat} {ms : List (List Byte × Val)} {X : Val}
    (P0 : Pre d0 l) (hI : ObjInv d0 d l ms)
    (hfreshkey : keyOfV src (src.get (.slot ksrc)) ∉ ms.map (·.1))
    (hrec : ∀ d1 id, Pre d1 (.slot id) → CopyRes d1 (memCopy f src d1 id vsrc) (.slot id) X) :
    (∃ dS, (∀ rest, copyMembers l src (memCopy f src) d (ksrc :: vsrc :: rest) = dS) ∧ ObjInv d0 dS l ms ∧
      dS.overflowed = true) ∨
    (∃ dS x, (∀ rest, copyMembers l src (memCopy f src) d (ksrc :: vsrc :: rest) = dS) ∧
      ObjInv d0 dS l (ms ++ [(keyOfV src (src.get (.slot ksrc)), x)]) ∧ dS.overflowed = true ∧ PartialCopy x X ∧
      (d.overflowed = false → x ≠ X) ∧ (d.overflowed = true → FlaggedCopy x X)) ∨
    (∃ dC, (∀ rest, copyMembers l src (memCopy f src) d (ksrc :: vsrc :: rest) =
        copyMembers l src (memCopy f src) dC rest) ∧
      ObjInv d0 dC l (ms ++ [(keyOfV src (src.get (.slot ksrc)), X)]) ∧ dC.overflowed = false ∧
      d.overflowed = false) := by
  obtain ⟨h, t, sl, P, hv⟩ := hI
  obtain ⟨gokd, _, hsd⟩ := P.base P0
  obtain ⟨hlk, ht⟩ := (VOK_obj _ _ _ _).1 P.att.vok
  have hms : vals d noOv sl = ms := by
    have := hv
    simp only [Doc.valOf, mkVal] at this
    injection this
  have hfuel : sl.ids.length < d.fuel := by
    have := length_le_of_nodup_lt P.att.nodup (fun x hx => live_lt_null P.fr.pool (P.att.fresh x hx).2)
    simp only [Doc.fuel, Doc.null] at *; omega
  have hfk : d.findKey l (src.keyOf ksrc).1 = none :=
    findKey_none P.att.get hlk hfuel (by rw [hms, keyOf_fst]; exact hfreshkey)
  have hcm : ∀ rest, copyMembers l src (memCopy f src) d (ksrc :: vsrc :: rest) =
      (match d.addMember l (src.keyOf ksrc).1 (src.keyOf ksrc).2 with
       | (some m, d1) => if (memCopy f src d1 m vsrc).overflowed then memCopy f src d1 m vsrc
                          else copyMembers l src (memCopy f src) (memCopy f src d1 m vsrc) rest
       | (none, d1) => d1) := by
    intro rest
    simp only [copyMembers, getOrAddMember_obj P.att.get hfk]
    first | rfl | (split <;> rename_i heq <;> simp only [heq])
  generalize ham : d.addMember l (src.keyOf ksrc).1 (src.keyOf ksrc).2 = r at hcm
  obtain ⟨m, d'⟩ := r
  cases m with
  | none =>
    obtain ⟨hg, ho⟩ := addMember_none gokd P.fr.pool ham
    obtain ⟨P1, hv1⟩ := P.frame P0 (Fr.of_grow hg (fun _ => ho) [])
    exact Or.inl ⟨d', fun rest => hcm rest, ⟨h, t, sl, P1, hv1.trans hv⟩, ho⟩
  | some v =>
    simp only at hcm
    obtain ⟨k, dK, kv, nk, hd', FK, hovK, hck, hcv, hkey, hkb, hkv, hnk, hnv, hlk', hlv', hstK⟩ :=
      addMember_some gokd P.fr.pool ⟨_, hsd⟩ ham
    subst hd'
    obtain ⟨PK, hvK⟩ := P.frame P0 FK
    obtain ⟨htf, _, _, _⟩ := Post.tail (b := true) P0 P
    obtain ⟨htfK, htl, _, htneK⟩ := Post.tail (b := true) P0 PK
    have hnK : dK.null = d.null := FK.null
    have hll : ∀ i, l = .slot i → PL.live d.g d.pl i := fun i e => P.fr.live i (P0.slot i e).1
    have hkl : Loc.slot k ≠ l := fun e => hnk (hll k e.symm)
    have hvl : Loc.slot v ≠ l := fun e => hnv (hll v e.symm)
    have hnotsl : ∀ x, ¬ PL.live d.g d.pl x → x ∉ sl.ids := fun x hx m => hx (P.att.fresh x m).2
    have hkt : k ≠ t := htneK k hlk' (fun h0 => hnk (P.fr.live k h0)) (hnotsl k hnk)
    have hvt : v ≠ t := htneK v hlv' (fun h0 => hnv (P.fr.live v h0)) (hnotsl v hnv)
    obtain ⟨hn', hstr', hpl', hg', hnn', hov', hget', hck', hco', hct', hroot', hci'⟩ :=
      appendPair_cellsC (v := v) PK.att.get hck hkl htl hkt (fun htn => (htfK htn).2.1)
    have FKp : Fr dK (dK.appendPair l k v) [l, .slot t, .slot k] := by
      refine fr_of_same PK.fr.pool hg' hpl' hstr' hnn' hov' (fun hr => hroot' (fun e => hr (by simp [e]))) ?_
      intro x hx
      simp only [List.mem_cons, List.not_mem_nil, or_false, Loc.slot.injEq, not_or] at hx
      exact hco' x hx.1 hx.2.2 (fun _ => hx.2.1)
    generalize dK.appendPair l k v = d1 at *
    -- the member's value slot is a cleared place of `d1`
    have hcv1 : d1.cell v = .var .null d.null := by rw [hco' v hvl (Ne.symm hkv) (fun _ => hvt)]; exact hcv
    have hlv1 : PL.live d1.g d1.pl v := FKp.live v hlv'
    have pre1 : Pre d1 (.slot v) :=
      ⟨by rw [hg', FK.g]; exact gokd, FKp.pool, get_of_var hcv1,
        fun i e => by cases e; exact ⟨hlv1, isVar_of_var hcv1⟩, ⟨_, FKp.strok _ (FK.strok _ hsd)⟩⟩
    obtain ⟨ve, se, P2, hpc, hcomp, hinc, hflag⟩ := hrec d1 v pre1
    generalize memCopy f src d1 v vsrc = d2 at *
    have hn2 : d2.null = d.null := by rw [P2.fr.null, hn', hnK]
    have hlive1 : ∀ x, PL.live d.g d.pl x → PL.live d1.g d1.pl x := fun x hx => FKp.live x (FK.live x hx)
    have hc2 : ∀ x, PL.live d1.g d1.pl x → x ≠ v → d2.cell x = d1.cell x := fun x hx hxv =>
      P2.fr.cells x hx (by simp only [List.mem_singleton, Loc.slot.injEq]; exact hxv)
    have hlk1 : PL.live d1.g d1.pl k := FKp.live k hlk'
    have hck2 : d2.cell k = .var kv v := by rw [hc2 k hlk1 hkv]; exact hck'
    have hcv2 : d2.cell v = .var ve d.null := by rw [P2.att.slot v rfl, nextOf_of_var hcv1]
    have Fd1 : Fr d d1 [l, .slot t] := Fr.trans (FK.mono (fun _ h => by cases h)) FKp (fun l' hl' => by
      simp only [List.mem_cons, List.not_mem_nil, or_false] at hl'
      rcases hl' with e | e | e
      · exact Or.inl (by simp [e])
      · exact Or.inl (by simp [e])
      · exact Or.inr ⟨k, e, hnk⟩)
    have Fd2 : Fr d d2 [l, .slot t] := Fr.trans Fd1 P2.fr
      (fun l' hl' => Or.inr ⟨v, List.mem_singleton.1 hl', hnv⟩)
    have hsn := post_snoc (d0 := d0) (d := d) (d3 := d2) (b := true) (key := some k) (id := v) (se := se) P0 P Fd2
      (fun htn => by
        have htn' : t ≠ dK.null := by rw [hnK]; exact htn
        have htv : t ≠ v := Ne.symm hvt
        rw [hc2 t (hlive1 t (htf htn).2.2) htv, hct' htn', get_of_cell (FK.cells t (htf htn).2.2 (by simp))]; rfl)
      (by
        have : d2.get l = d1.get l := by
          cases l with
          | root => exact P2.fr.root (by simp)
          | slot i => exact get_of_cell (hc2 i (hlive1 i (hll i rfl)) (fun e => hvl (by rw [e])))
        rw [this, hget', hnK]; rfl)
      (fun i e => by
        rw [hc2 i (hlive1 i (hll i e)) (fun e' => hvl (by rw [← e', e])), hci' i e, hnK,
          nextOf_of_cell (FK.cells i (hll i e) (by simp)) hnK]; rfl)
      ((Lk_cons _ _ _ _ _ _ _).2 ⟨⟨rfl, by rw [hn2]; exact Nat.ne_of_lt (hnK ▸ live_lt_null PK.fr.pool hlk'),
          isVar_of_var hck2, by rw [get_of_var hck2]; exact hkey, nextOf_of_var hck2⟩,
        by rw [hn2]; exact Nat.ne_of_lt (hnK ▸ live_lt_null PK.fr.pool hlv'), isVar_of_var hcv2,
        by rw [nextOf_of_var hcv2, Lk_nil, hn2], by rw [get_of_var hcv2]; exact P2.att.vok⟩)
      (by
        show (k :: v :: se.ids).Nodup
        refine List.nodup_cons.2 ⟨?_, List.nodup_cons.2 ⟨fun m => (P2.att.fresh v m).1 hlv1, P2.att.nodup⟩⟩
        intro m
        rcases List.mem_cons.1 m with e | m
        · exact hkv e
        · exact (P2.att.fresh k m).1 hlk1)
      (fun x hx => by
        have hx' : x = k ∨ x = v ∨ x ∈ se.ids := by simpa [Forest.keyL] using hx
        rcases hx' with e | e | m
        · subst e; exact ⟨hnk, P2.fr.live _ hlk1⟩
        · subst e; exact ⟨hnv, P2.fr.live _ hlv1⟩
        · exact ⟨fun h0 => (P2.att.fresh x m).1 (hlive1 x h0), (P2.att.fresh x m).2⟩)
      (by
        show ExtL d2 (Loc.slot k :: Loc.slot v :: se.ids.map Loc.slot)
        exact P2.att.ext.cons_noext (by rw [get_of_var hck2]; exact isKey_ext hkey))
      (fun x hx e he => by
        have hx' : x = k ∨ x = v ∨ x ∈ se.ids := by simpa [Forest.keyL] using hx
        rcases hx' with e' | hx'
        · subst e'; rw [get_of_var hck2, isKey_ext hkey] at he; cases he
        · refine fun h0 => P2.att.extfresh (.slot x) ?_ e he (hlive1 e h0)
          rcases hx' with e' | m
          · subst e'; exact List.mem_cons_self
          · exact List.mem_cons_of_mem _ (List.mem_map_of_mem m))
      (fun rs hs => by
        have h1 := P2.att.str _ (FKp.strok _ (hstK rs hs))
        have e1 : (Forest.keyL (some k) ++ v :: se.ids).flatMap (fun j => strOfV (d2.get (.slot j))) =
            strOfV kv ++ (strOfV ve ++ goneF d2 se) := by
          simp only [Forest.keyL, List.cons_append, List.nil_append, List.flatMap_cons, get_of_var hck2,
            get_of_var hcv2, goneF]
        rw [e1]
        refine StrOK_perm ?_ h1
        rw [List.append_assoc (strOfV kv)]
        exact List.perm_append_comm_assoc _ _ _)
    obtain ⟨Pn, hvals⟩ := hsn
    -- the key reads the same
    have hkb2 : keyOfV d2 kv = (src.keyOf ksrc).1 := by
      rw [← hkb]
      refine keyOfV_of_scalar (scalar_congr (fun n hn' => ?_) (by rw [isKey_ext hkey]; intro e he; cases he))
      rw [P2.fr.bytes (FKp.strok _ (hstK _ hsd)) (List.mem_append_left _ hn'), strBytes_of_strings hstr']
    have hI2 : ObjInv d0 d2 l (ms ++ [(keyOfV src (src.get (.slot ksrc)), d2.valOf ve se)]) := by
      refine ⟨_, v, sl.snocS (some k) v se, Pn, ?_⟩
      show Val.obj (vals d2 noOv (sl.snocS (some k) v se)) = _
      rw [hvals, hms]
      simp only [keyB, get_of_var hck2, hkb2, keyOf_fst, get_of_var hcv2, Doc.valOf]
    have hov1 : d1.overflowed = d.overflowed := by rw [hov', hovK]
    cases h2 : d2.overflowed with
    | true =>
      exact Or.inr (Or.inl ⟨d2, d2.valOf ve se, fun rest => by rw [hcm rest, h2]; rfl, hI2, h2, hpc,
        fun h0 => hinc (by rw [hov1]; exact h0) h2, fun h0 => hflag (by rw [hov1]; exact h0)⟩)
    | false =>
      rw [hcomp h2] at hI2
      exact Or.inr (Or.inr ⟨d2, fun rest => by rw [hcm rest, h2]; rfl, hI2, h2, by rw [← hov1]; exact P2.fr.ov_false h2⟩)

/-! ## The induction on the layout of the source value -/

/-- statement for a source value laid out as `ss` -/
def CpV (src : Doc) (ss : Forest) : Prop :=
  ∀ (f : Nat) (d : Doc) (l : Loc) (sv : VData), VOK src sv ss → ss.depth < f → ss.ids.length ≤ src.fuel →
    NoDupKeys (src.valOf sv ss) → Pre d l → CopyRes d (copyIntoF f d l src sv) l (copyVal (src.valOf sv ss))

/-- what a copy into an already flagged document leaves of a member list: nothing, or the first member only -/
def FlaggedM (rest full : List (List Byte × Val)) : Prop :=
  rest = [] ∨ ∃ k x v tl, full = (k, v) :: tl ∧ rest = [(k, x)] ∧ FlaggedCopy x v

theorem FlaggedM.flagged {rest full : List (List Byte × Val)} (h : FlaggedM rest full) :
    FlaggedCopy (.obj rest) (.obj full) := by
  rcases h with e | ⟨k, x, v, tl, e1, e2, hf⟩
  · subst e; exact FlaggedCopy.objNone _
  · subst e1 e2; exact FlaggedCopy.objFirst hf

/-- outcome of a copy loop that ran from `d` to `dF` over a source chain whose complete copy is `full` and appended `rest`:
    `rest` is a partial copy (`Part`) of `full`; it is `full` unless `dF` is flagged, and is not `full` when the flag was
    raised by this loop; in a document that was flagged already the loop stopped after its first round (`Flag`) -/
structure LoopRes {α : Type} (Part Flag : List α → List α → Prop) (d dF : Doc) (rest full : List α) : Prop where
  part : Part rest full
  complete : dF.overflowed = false → rest = full
  sticky : d.overflowed = true → dF.overflowed = true
  incomplete : d.overflowed = false → dF.overflowed = true → rest ≠ full
  flagged : d.overflowed = true → Flag rest full

theorem LoopRes.done {α : Type} {Part Flag : List α → List α → Prop} (d : Doc) (hp : Part [] []) (hf : Flag [] []) :
    LoopRes Part Flag d d [] [] :=
  ⟨hp, fun _ => rfl, fun h => h, fun h0 h1 => Bool.noConfusion (h0.symm.trans h1), fun _ => hf⟩

/-- the first round stopped the loop and appended nothing -/
theorem LoopRes.stop {α : Type} {Part Flag : List α → List α → Prop} {d dF : Doc} {x : α} {full : List α}
    (ho : dF.overflowed = true) (hp : Part [] (x :: full)) (hf : Flag [] (x :: full)) :
    LoopRes Part Flag d dF [] (x :: full) :=
  ⟨hp, fun h => Bool.noConfusion (h.symm.trans ho), fun _ => ho, fun _ _ e => (List.cons_ne_nil _ _ e.symm), fun _ => hf⟩

/-- the first round appended the complete copy `x` and left the document `dC` unflagged; the loop went on from there -/
theorem LoopRes.step {α : Type} {Part Flag : List α → List α → Prop} {d dC dF : Doc} {x : α} {rest full : List α}
    (hod : d.overflowed = false) (hoC : dC.overflowed = false) (h : LoopRes Part Flag dC dF rest full)
    (hp : Part (x :: rest) (x :: full)) : LoopRes Part Flag d dF (x :: rest) (x :: full) :=
  ⟨hp, fun hf => congrArg (x :: ·) (h.complete hf), fun h0 => Bool.noConfusion (hod.symm.trans h0),
    fun _ hfin e => h.incomplete hoC hfin (List.cons.inj e).2, fun h0 => Bool.noConfusion (hod.symm.trans h0)⟩

/-- statement for (the rest of) a source array chain laid out as `r`: the loop appends complete copies of a prefix of the
    elements; the whole chain unless the result is flagged; nothing at all if the document was flagged already -/
def CpArr (src : Doc) (r : Forest) : Prop :=
  ∀ (f : Nat) (d0 d : Doc) (l : Loc) (start : Nat) (xs : List Val),
    Lk src false start r → r.depth ≤ f → r.ids.length ≤ src.fuel → NoDupKeysL ((vals src noOv r).map (·.2)) →
    Pre d0 l → ArrInv d0 d l xs →
    ∃ rest, ArrInv d0 (copyElems l (memCopy f src) d r.top) l (xs ++ rest) ∧
      LoopRes (· <+: ·) (fun rest _ => rest = []) d (copyElems l (memCopy f src) d r.top) rest
        (copyVals ((vals src noOv r).map (·.2)))

/-- statement for (the rest of) a source object chain laid out as `r` -/
def CpObj (src : Doc) (r : Forest) : Prop :=
  ∀ (f : Nat) (d0 d : Doc) (l : Loc) (start : Nat) (ms : List (List Byte × Val)),
    Lk src true start r → r.depth ≤ f → r.ids.length ≤ src.fuel → NoDupKeysM (vals src noOv r) →
    (ms.map (·.1) ++ (vals src noOv r).map (·.1)).Nodup →
    Pre d0 l → ObjInv d0 d l ms →
    ∃ rest, ObjInv d0 (copyMembers l src (memCopy f src) d r.top) l (ms ++ rest) ∧
      LoopRes PartialM FlaggedM d (copyMembers l src (memCopy f src) d r.top) rest (copyMems (vals src noOv r))

/-- statement for a source value laid out as `ss`, for ANY destination `d` whose cleared form `d.clearV l` is `dc` (the
    copy starts by clearing its target) -/
def CpVb (src : Doc) (ss : Forest) : Prop :=
  ∀ (f : Nat) (d dc : Doc) (l : Loc) (sv : VData), VOK src sv ss → ss.depth < f → ss.ids.length ≤ src.fuel →
    NoDupKeys (src.valOf sv ss) → Pre dc l → d.clearV l = dc →
    CopyRes dc (copyIntoF f d l src sv) l (copyVal (src.valOf sv ss))

theorem CpVb_of_chain {src : Doc} {ss : Forest} (ha : CpArr src ss) (ho : CpObj src ss) : CpVb src ss := by
  intro f d dc l sv hv hd hfu hnd Pc hcl
  obtain ⟨f', rfl⟩ : ∃ f', f = f' + 1 := ⟨f - 1, by omega⟩
  have scal : ∀ (a : Arg), ¬ isColl sv → copyIntoF (f'+1) d l src sv = ((d.clearV l).setArg l a).2 →
      copyVal (src.scalar sv) = argV a →
      CopyRes dc (copyIntoF (f'+1) d l src sv) l (copyVal (src.valOf sv ss)) := by
    intro a hc he hx
    have := (VOK_scalar hc ss).1 hv
    subst this
    rw [he, hcl, Doc.valOf, mkVal_scalar hc, hx]
    exact setArg_res Pc a
  cases sv with
  | null =>
    have := (VOK_scalar (v := .null) (fun h => h) ss).1 hv
    subst this
    show CopyRes _ (d.clearV l) l _
    rw [hcl]
    exact CopyRes.ok (post_null Pc (Fr.refl Pc.pool [])) rfl rfl True.intro
  | bool b => exact scal (.bool b) (fun h => h) rfl rfl
  | i32 v => exact scal (.sint v) (fun h => h) rfl rfl
  | u32 v => exact scal (.uint v) (fun h => h) rfl rfl
  | f32 b => exact scal (.f32 b) (fun h => h) rfl rfl
  | i64 s => exact scal (.sint (src.extOf s)) (fun h => h) rfl rfl
  | u64 s => exact scal (.uint (src.extOf s).toNat) (fun h => h) rfl rfl
  | f64 s => exact scal (.f64 (src.extOf s).toNat) (fun h => h) rfl rfl
  | linked s => exact scal (.strLinked s) (fun h => h) rfl rfl
  | owned n => exact scal (.strCopied (src.strBytes n)) (fun h => h) rfl rfl
  | raw n => exact scal (.raw (src.strBytes n)) (fun h => h) rfl rfl
  | arr h t =>
    obtain ⟨hlk, _⟩ := (VOK_arr _ _ _ _).1 hv
    rw [copyIntoF_arr, chain_eq hlk hfu, hcl]
    have Pi : Post dc (dc.set l (.arr dc.null dc.null)) l (.arr dc.null dc.null) .nil :=
      post_set Pc (Fr.refl Pc.pool []) ⟨rfl, rfl⟩ (fun rs h => h) (fun e he => by cases he)
    obtain ⟨rest, ⟨h', t', sl, Pf, hvf⟩, R⟩ := ha f' dc _ l h [] hlk (by omega) hfu hnd Pc ⟨_, _, .nil, Pi, rfl⟩
    refine CopyRes.of_val Pf hvf (PartialCopy.arr R.part) (fun hf => by rw [R.complete hf]; rfl) (fun h0 h1 e => ?_)
      (fun h0 => ?_)
    · simp only [Doc.valOf, mkVal, copyVal] at e
      exact R.incomplete (by rw [set_overflowed]; exact h0) h1 (by injection e)
    · rw [R.flagged (by rw [set_overflowed]; exact h0)]
      exact FlaggedCopy.arr _
  | obj h t =>
    obtain ⟨hlk, _⟩ := (VOK_obj _ _ _ _).1 hv
    rw [copyIntoF_obj, chain_eq hlk hfu, hcl]
    have Pi : Post dc (dc.set l (.obj dc.null dc.null)) l (.obj dc.null dc.null) .nil :=
      post_set Pc (Fr.refl Pc.pool []) ⟨rfl, rfl⟩ (fun rs h => h) (fun e he => by cases he)
    obtain ⟨rest, ⟨h', t', sl, Pf, hvf⟩, R⟩ :=
      ho f' dc _ l h [] hlk (by omega) hfu hnd.2 hnd.1 Pc ⟨_, _, .nil, Pi, rfl⟩
    refine CopyRes.of_val Pf hvf (PartialCopy.obj R.part) (fun hf => by rw [R.complete hf]; rfl) (fun h0 h1 e => ?_)
      (fun h0 => (R.flagged (by rw [set_overflowed]; exact h0)).flagged)
    simp only [Doc.valOf, mkVal, copyVal] at e
    exact R.incomplete (by rw [set_overflowed]; exact h0) h1 (by injection e)

theorem CpV_of_chain {src : Doc} {ss : Forest} (ha : CpArr src ss) (ho : CpObj src ss) : CpV src ss := by
  intro f d l sv hv hd hfu hnd P
  exact CopyRes.of_cleared P (CpVb_of_chain ha ho f d _ l sv hv hd hfu hnd P.cleared (clearV_null P.null))

theorem Cp_all (src : Doc) (F : Forest) : CpArr src F ∧ CpObj src F := by
  induction F with
  | nil =>
    constructor
    · intro f d0 d l start xs _ _ _ _ _ hI
      exact ⟨[], by rw [List.append_nil]; exact hI, LoopRes.done d (List.prefix_refl _) rfl⟩
    · intro f d0 d l start ms _ _ _ _ _ _ hI
      exact ⟨[], by rw [List.append_nil]; exact hI, LoopRes.done d (PartialM.pre (List.prefix_refl _)) (Or.inl rfl)⟩
  | cons key i s r ihs ihr =>
    have pvs : CpV src s := CpV_of_chain ihs.1 ihs.2
    constructor
    · intro f d0 d l start xs hl hd hfu hnd P0 hI
      rw [Lk_cons] at hl
      obtain ⟨h1, _, _, h4, h5⟩ := hl
      cases key <;> simp only [KeyOK] at h1
      simp only [Forest.depth] at hd
      simp only [Forest.ids, Forest.keyL, List.nil_append, List.length_cons, List.length_append] at hfu
      simp only [vals, List.map_cons, NoDupKeysL] at hnd
      simp only [Forest.top, Forest.keyL, List.nil_append, vals, List.map_cons, copyVals, noOv, Option.getD_none]
      rcases arr_step (src := src) (f := f) (e := i) P0 hI
        (fun d1 id pre => pvs f d1 (.slot id) (src.get (.slot i)) h5 (by omega) (by omega) hnd.1 pre) with
        ⟨dS, heq, hI1, ho1⟩ | ⟨dC, heq, hI1, hoC, hod⟩
      · rw [heq]
        exact ⟨[], by rw [List.append_nil]; exact hI1, LoopRes.stop ho1 List.nil_prefix rfl⟩
      · rw [heq]
        obtain ⟨rest, hIf, R⟩ := ihr.1 f d0 dC l (src.nextOf i) _ h4 (by omega) (by omega) hnd.2 P0 hI1
        exact ⟨_ :: rest, by rw [List.append_assoc] at hIf; exact hIf,
          R.step hod hoC (List.cons_prefix_cons.2 ⟨rfl, R.part⟩)⟩
    · intro f d0 d l start ms hl hd hfu hnd hkeys P0 hI
      rw [Lk_cons] at hl
      obtain ⟨h1, _, _, h4, h5⟩ := hl
      cases key <;> simp only [KeyOK] at h1
      rename_i k
      simp only [Forest.depth] at hd
      simp only [Forest.ids, Forest.keyL, List.cons_append, List.nil_append, List.length_cons,
        List.length_append] at hfu
      simp only [vals, NoDupKeysM, noOv, Option.getD_none] at hnd
      simp only [vals, List.map_cons, keyB, noOv, Option.getD_none] at hkeys
      simp only [Forest.top, Forest.keyL, List.cons_append, List.nil_append, vals, copyMems, noOv, Option.getD_none,
        keyB]
      have hfreshkey : keyOfV src (src.get (.slot k)) ∉ ms.map (·.1) := by
        intro m
        exact (List.nodup_append.1 hkeys).2.2 _ m _ List.mem_cons_self rfl
      rcases obj_step (src := src) (f := f) (ksrc := k) (vsrc := i) P0 hI hfreshkey
        (fun d1 id pre => pvs f d1 (.slot id) (src.get (.slot i)) h5 (by omega) (by omega) hnd.1 pre) with
        ⟨dS, heq, hI1, ho1⟩ | ⟨dS, x, heq, hI1, ho1, hpc, hne, hfl⟩ | ⟨dC, heq, hI1, hoC, hod⟩
      · rw [heq]
        exact ⟨[], by rw [List.append_nil]; exact hI1, LoopRes.stop ho1 (PartialM.pre List.nil_prefix) (Or.inl rfl)⟩
      · -- the member was added, the copy of its value stopped the loop
        rw [heq]
        refine ⟨[(keyOfV src (src.get (.slot k)), x)], hI1, PartialM.last (p := []) hpc, ?_, fun _ => ho1, ?_,
          fun h0 => Or.inr ⟨_, x, _, _, rfl, rfl, hfl h0⟩⟩
        · intro hf; rw [ho1] at hf; cases hf
        · intro h0 _ e
          injection e with e1 _
          injection e1 with _ e1
          exact hne h0 e1
      · rw [heq]
        obtain ⟨rest, hIf, R⟩ :=
          ihr.2 f d0 dC l (src.nextOf i) _ h4 (by omega) (by omega) hnd.2 (by simpa using hkeys) P0 hI1
        exact ⟨_ :: rest, by rw [List.append_assoc] at hIf; exact hIf, R.step hod hoC (R.part.cons_head _)⟩

/-- LOCAL SPECIFICATION of the deep copy: for a source value `sv` of `src` laid out as `ss` (no object with a duplicate
    key) and a cleared place `l` of `d`, `copyIntoF f d l src sv` (with enough fuel) satisfies the frame, builds at `l`
    a value over fresh slots which is a partial copy of `copyVal (src.valOf sv ss)`, and is that value itself unless the
    overflow flag is set. -/
theorem copyIntoF_local {src : Doc} {ss : Forest} {f : Nat} {d : Doc} {l : Loc} {sv : VData} (hv : VOK src sv ss)
    (hd : ss.depth < f) (hfu : ss.ids.length ≤ src.fuel) (hnd : NoDupKeys (src.valOf sv ss)) (P : Pre d l) :
    CopyRes d (copyIntoF f d l src sv) l (copyVal (src.valOf sv ss)) :=
  CpV_of_chain (Cp_all src ss).1 (Cp_all src ss).2 f d l sv hv hd hfu hnd P

/-- the same for an arbitrary destination `d`: the specification is relative to the cleared document `d.clearV l` -/
theorem copyIntoF_local_gen {src : Doc} {ss : Forest} {f : Nat} {d : Doc} {l : Loc} {sv : VData} (hv : VOK src sv ss)
    (hd : ss.depth < f) (hfu : ss.ids.length ≤ src.fuel) (hnd : NoDupKeys (src.valOf sv ss)) (P : Pre (d.clearV l) l) :
    CopyRes (d.clearV l) (copyIntoF f d l src sv) l (copyVal (src.valOf sv ss)) :=
  CpVb_of_chain (Cp_all src ss).1 (Cp_all src ss).2 f d _ l sv hv hd hfu hnd P rfl

/-! ## From the local specification to the document invariant -/

theorem pre_of_wfg {d : Doc} {F : Forest} {l : Loc} (w : WFG d F) (hs : StrOK d (d.strRefs F)) (gok : PL.GeoOK d.g)
    (hl : isLoc F l) (hnull : d.get l = .null) : Pre d l :=
  ⟨gok, w.pool, hnull, fun i e => by subst e; exact ⟨w.live i (isLoc_ids hl), w.isVar i (isLoc_ids hl)⟩, ⟨_, hs⟩⟩

/-- a document whose root is null, over the empty layout -/
theorem wfg_nil_of_null_root {d : Doc} (hr : d.root = .null) (hp : PL.Inv d.g d.pl) : WFG d .nil :=
  wfg_nil (by rw [hr]; rfl) (by rw [hr]; rfl) hp

theorem strOK_nil_of_no_strings {d : Doc} (h : d.strings = []) : StrOK d [] := by
  refine ⟨by rw [h]; exact List.nodup_nil, ?_, ?_, fun r hr => (by cases hr)⟩
  all_goals intro n hn; rw [h] at hn; cases hn

theorem flatMap_map_slot {β : Type} (g : Loc → List β) (xs : List Nat) :
    (xs.map Loc.slot).flatMap g = xs.flatMap (fun j => g (.slot j)) := by
  induction xs with
  | nil => rfl
  | cons a xs ih => simp only [List.map_cons, List.flatMap_cons, ih]

/-- what a step that touches only `l` and slots that were not live keeps of a well-formed document: the cells of the
    layout, the extension slots, what the holders other than `l` hold, and how every held scalar or string reads -/
theorem Fr.holders {d d' : Doc} {F : Forest} {l : Loc} (hf : Fr d d' [l]) (w : WFG d F) (hs : StrOK d (d.strRefs F))
    (hl : isLoc F l) :
    (∀ j ∈ F.ids, Loc.slot j ≠ l → d'.cell j = d.cell j) ∧
    ∀ l0 ∈ holders F, (∀ e ∈ extOfV (d.get l0), d'.cell e = d.cell e) ∧ (l0 ≠ l → d'.get l0 = d.get l0) ∧
      d'.scalar (d.get l0) = d.scalar (d.get l0) := by
  have hc : ∀ j ∈ F.ids, Loc.slot j ≠ l → d'.cell j = d.cell j := fun j hj hjl =>
    hf.cells j (w.live j hj) (fun m => hjl (List.mem_singleton.1 m))
  refine ⟨hc, fun l0 h0 => ?_⟩
  have he : ∀ e ∈ extOfV (d.get l0), d'.cell e = d.cell e := by
    intro e he
    obtain ⟨⟨p, hp⟩, hlv, _⟩ := w.ext l0 h0 e he
    -- an extension cell is not the (variant) cell of a location
    refine hf.cells e hlv (fun m => ?_)
    exact ext_ne_var hp (w.isVar e (isLoc_ids (List.mem_singleton.1 m ▸ hl))) rfl
  refine ⟨he, fun hne => ?_, scalar_congr (fun n hn' => hf.bytes hs ?_) he⟩
  · rcases mem_holders.1 h0 with e | ⟨x, hx, e⟩
    · subst e; exact hf.root (fun m => hne (List.mem_singleton.1 m))
    · subst e; exact get_of_cell (hc x hx hne)
  · simp only [Doc.strRefs, List.mem_flatMap]; exact ⟨l0, h0, hn'⟩

/-- ASSEMBLY: what a copy built at the cleared location `l` of a well-formed document (local specification `Post`)
    gives a well-formed document whose layout has the new layout `s` at `l`, and which is the old abstract document
    with the value at `l` replaced by the value built. -/
theorem post_assemble {d d' : Doc} {F : Forest} {l : Loc} {v : VData} {s : Forest}
    (w : WFG d F) (hs : StrOK d (d.strRefs F)) (hl : isLoc F l) (hnull : d.get l = .null) (P : Post d d' l v s) :
    WFG d' (replaceAt F l s) ∧ StrOK d' (d'.strRefs (replaceAt F l s)) ∧
    abs d' = absWith d F l (d'.valOf v s) := by
  have hnil : layoutAt F l = .nil := layoutAt_nil_of_scalar w hl (by rw [hnull]; exact fun h => h)
  have hmem := mem_ids_cleared w.nodup hl
  have hsub : ∀ l0 ∈ holders (replaceAt F l .nil), l0 ∈ holders F := fun l0 h0 =>
    ((mem_holders_cleared w.nodup hl).1 h0).1
  obtain ⟨hcF, hH⟩ := P.fr.holders w hs hl
  have k : Outside d d' F l := by
    refine ⟨P.fr.g, fun hlr => P.fr.root (fun m => hlr (List.mem_singleton.1 m).symm), fun i e => ⟨_, P.att.slot i e⟩,
      fun j hj hjl => hcF j ((hmem j).1 hj).1 hjl, ?_, ?_, P.fr.pool,
      fun j hj => P.fr.live j (w.live j ((hmem j).1 hj).1)⟩
    · intro l0 h0 _ e he
      exact ⟨(hH l0 (hsub l0 h0)).1 e he, P.fr.live e (w.ext l0 (hsub l0 h0) e he).2.1⟩
    · intro l0 h0 _ n hn
      refine (P.fr.strs _ hs).2 n ?_
      simp only [Doc.strRefs, List.mem_flatMap]; exact ⟨l0, hsub l0 h0, hn⟩
  -- the slots and extension slots of the copy were not live before, so the survivors do not know them
  have hres := k.wfg (s' := s) w hl (P.att.get ▸ P.att.vok) P.att.nodup
    (fun x hx hxF => absurd (w.live x hxF) (P.att.fresh x hx).1)
    (fun x hx => ⟨by rw [← P.fr.null]; exact live_lt_null P.fr.pool (P.att.fresh x hx).2, (P.att.fresh x hx).2⟩)
    (fun l1 h1 e he => by
      obtain ⟨a, b, c⟩ := P.att.ext l1 h1 e he
      exact ⟨a, b, c, fun l0 h0 _ he0 => P.att.extfresh l1 h1 e he (w.ext l0 (hsub l0 h0) e he0).2.1⟩)
  rw [P.att.get] at hres
  refine ⟨hres.1, ?_, hres.2.1⟩
  -- string table: `l` held no string and had nothing below it, so the survivors hold all the old references
  have hsplit := strRefs_split (d := d) w.nodup hl
  rw [hnull, hnil] at hsplit
  refine StrOK_perm (List.Perm.symm (hres.2.2.trans ?_)) (P.att.str _ hs)
  rw [List.flatMap_cons, P.att.get, flatMap_map_slot]
  exact List.Perm.append_left _ hsplit.symm

/-! ## The layout is determined by the document -/

def layArr (sub : Nat → Forest) : List Nat → Forest
  | [] => .nil
  | e :: rest => .cons none e (sub e) (layArr sub rest)
def layObj (sub : Nat → Forest) : List Nat → Forest
  | k :: v :: rest => .cons (some k) v (sub v) (layObj sub rest)
  | _ => .nil
/-- the layout of the value `v` read off the document (chains followed with the usual fuel) -/
def Doc.layF (d : Doc) : Nat → VData → Forest
  | 0, _ => .nil
  | f+1, v =>
    match v with
    | .arr h _ => layArr (fun e => Doc.layF d f (d.get (.slot e))) (d.chain h)
    | .obj h _ => layObj (fun e => Doc.layF d f (d.get (.slot e))) (d.chain h)
    | _ => .nil
def Doc.lay (d : Doc) (v : VData) : Forest := d.layF d.fuel v

def LaySpec (d : Doc) (F : Forest) : Prop :=
  ∀ (f : Nat) (b : Bool) (h : Nat), Lk d b h F → F.depth ≤ f → F.ids.length ≤ d.fuel →
    (b = false → layArr (fun e => d.layF f (d.get (.slot e))) F.top = F) ∧
    (b = true → layObj (fun e => d.layF f (d.get (.slot e))) F.top = F)

theorem layF_node {d : Doc} {v : VData} {s : Forest} (hs : LaySpec d s) (hv : VOK d v s) {f : Nat}
    (hd : s.depth < f) (hf : s.ids.length ≤ d.fuel) : d.layF f v = s := by
  obtain ⟨f', rfl⟩ : ∃ f', f = f' + 1 := ⟨f - 1, by omega⟩
  cases v
  case arr h t =>
    obtain ⟨hl, _⟩ := (VOK_arr d h t s).mp hv
    simp only [Doc.layF, chain_eq hl hf]
    exact (hs f' false h hl (by omega) hf).1 rfl
  case obj h t =>
    obtain ⟨hl, _⟩ := (VOK_obj d h t s).mp hv
    simp only [Doc.layF, chain_eq hl hf]
    exact (hs f' true h hl (by omega) hf).2 rfl
  all_goals exact hv.symm

theorem laySpec (d : Doc) (F : Forest) : LaySpec d F := by
  induction F with
  | nil => intro f b h _ _ _; exact ⟨fun _ => rfl, fun _ => rfl⟩
  | cons key i s r ihs ihr =>
    intro f b h hl hd hf
    simp only [Forest.depth] at hd
    simp only [Forest.ids, List.length_append, List.length_cons] at hf
    cases b
    · obtain ⟨rfl, rfl, _, _, h5, h4⟩ := Lk_cons_arr hl
      refine ⟨fun _ => ?_, fun e => (by cases e)⟩
      simp only [Forest.top, Forest.keyL, List.nil_append, layArr]
      rw [layF_node ihs h5 (by omega) (by omega), (ihr f false _ h4 (by omega) (by omega)).1 rfl]
    · obtain ⟨k, rfl, rfl, _, _, _, _, _, _, h5, h4⟩ := Lk_cons_obj hl
      refine ⟨fun e => (by cases e), fun _ => ?_⟩
      simp only [Forest.top, Forest.keyL, List.cons_append, List.nil_append, layObj]
      rw [layF_node ihs h5 (by omega) (by omega), (ihr f true _ h4 (by omega) (by omega)).2 rfl]

/-- a value laid out as `s` has no other layout: `s` is the layout read off the document -/
theorem lay_eq {d : Doc} {v : VData} {s : Forest} (hv : VOK d v s) (hf : s.ids.length < d.fuel) : d.lay v = s :=
  layF_node (laySpec d s) hv (Nat.lt_of_le_of_lt s.depth_le hf) (Nat.le_of_lt hf)

theorem Post.ids_lt_fuel {d0 d : Doc} {l : Loc} {v : VData} {s : Forest} (P : Post d0 d l v s) :
    s.ids.length < d.fuel := by
  have := length_le_of_nodup_lt P.att.nodup (fun x hx => live_lt_null P.fr.pool (P.att.fresh x hx).2)
  simp only [Doc.fuel, Doc.null] at *; omega

/-! ## Document-level statements -/

/-- FRAME for any step that only touches `l` and fresh slots: a location `l'` other than `l` whose subtree does not
    contain `l` designates the same value afterwards -/
theorem fr_toVal {d d' : Doc} {F : Forest} {l l' : Loc} (w : WFG d F) (hs : StrOK d (d.strRefs F)) (hf : Fr d d' [l])
    (hl : isLoc F l) (hl' : isLoc F l') (hne : l' ≠ l) (hnotin : ∀ i, l = .slot i → i ∉ (layoutAt F l').ids) :
    d'.get l' = d.get l' ∧ d'.toVal (d'.get l') = d.toVal (d.get l') := by
  obtain ⟨hcF, hH⟩ := hf.holders w hs hl
  obtain ⟨_, hget, hsc⟩ := hH l' (loc_mem_holders hl')
  refine ⟨hget hne, toVal_of_good w hl' hf.null hf.g (fun x hx => ?_) (hget hne) hsc⟩
  have hxF := layoutAt_ids_sub F l' x hx
  exact ⟨hcF x hxF (fun e => hnotin x e.symm hx), (hH _ (mem_holders.2 (Or.inr ⟨x, hxF, rfl⟩))).2.2⟩

/-- The deep copy at the level of the document invariant (success and failure alike). -/
theorem copyInto_doc {d src : Doc} {F ss : Forest} {l : Loc} {sv : VData}
    (w : WFG d F) (hs : StrOK d (d.strRefs F)) (gok : PL.GeoOK d.g) (hl : isLoc F l) (hnull : d.get l = .null)
    (hv : VOK src sv ss) (hfu : ss.ids.length < src.fuel) (hnd : NoDupKeys (src.toVal sv)) :
    WFG (copyInto d l src sv) (replaceAt F l ((copyInto d l src sv).lay ((copyInto d l src sv).get l))) ∧
    StrOK (copyInto d l src sv)
      ((copyInto d l src sv).strRefs (replaceAt F l ((copyInto d l src sv).lay ((copyInto d l src sv).get l)))) ∧
    abs (copyInto d l src sv) = absWith d F l ((copyInto d l src sv).toVal ((copyInto d l src sv).get l)) ∧
    PartialCopy ((copyInto d l src sv).toVal ((copyInto d l src sv).get l)) (copyVal (src.toVal sv)) ∧
    ((copyInto d l src sv).overflowed = false →
      (copyInto d l src sv).toVal ((copyInto d l src sv).get l) = copyVal (src.toVal sv)) ∧
    (d.overflowed = false → (copyInto d l src sv).overflowed = true →
      (copyInto d l src sv).toVal ((copyInto d l src sv).get l) ≠ copyVal (src.toVal sv)) ∧
    (d.overflowed = true →
      FlaggedCopy ((copyInto d l src sv).toVal ((copyInto d l src sv).get l)) (copyVal (src.toVal sv))) ∧
    (∀ x ∈ ((copyInto d l src sv).lay ((copyInto d l src sv).get l)).ids, ¬ PL.live d.g d.pl x) ∧
    Fr d (copyInto d l src sv) [l] := by
  have hsv : src.toVal sv = src.valOf sv ss := toVal_eq hv hfu
  rw [hsv] at hnd ⊢
  obtain ⟨v, s, P, hpc, hcomp, hinc, hflg⟩ := copyIntoF_local (f := src.fuel) hv (Nat.lt_of_le_of_lt ss.depth_le hfu)
    (Nat.le_of_lt hfu) hnd (pre_of_wfg w hs gok hl hnull)
  simp only [copyInto]
  generalize copyIntoF src.fuel d l src sv = d' at *
  rw [P.att.get, lay_eq P.att.vok P.ids_lt_fuel, toVal_eq P.att.vok P.ids_lt_fuel]
  obtain ⟨a, b, c⟩ := post_assemble w hs hl hnull P
  exact ⟨a, b, c, hpc, hcomp, hinc, hflg, fun x hx => (P.att.fresh x hx).1, P.fr⟩

/-! ## A decidable equality test for abstract values (used to evaluate examples in the kernel) -/

mutual
def valEq : Val → Val → Bool
  | .null, .null => true
  | .bool a, .bool b => a == b
  | .num a, .num b => a == b
  | .str a, .str b => a == b
  | .raw a, .raw b => a == b
  | .arr a, .arr b => valsEq a b
  | .obj a, .obj b => memsEq a b
  | _, _ => false
def valsEq : List Val → List Val → Bool
  | [], [] => true
  | x :: xs, y :: ys => valEq x y && valsEq xs ys
  | _, _ => false
def memsEq : List (List Byte × Val) → List (List Byte × Val) → Bool
  | [], [] => true
  | (k, x) :: xs, (k', y) :: ys => k == k' && valEq x y && memsEq xs ys
  | _, _ => false
end

mutual
theorem valEq_sound : ∀ (a b : Val), valEq a b = true → a = b
  | .null, b, h => by cases b <;> first | rfl | (simp only [valEq, Bool.false_eq_true] at h)
  | .bool x, b, h => by cases b <;> simp only [valEq, beq_iff_eq, Bool.false_eq_true] at h; rw [h]
  | .num x, b, h => by cases b <;> simp only [valEq, beq_iff_eq, Bool.false_eq_true] at h; rw [h]
  | .str x, b, h => by cases b <;> simp only [valEq, beq_iff_eq, Bool.false_eq_true] at h; rw [h]
  | .raw x, b, h => by cases b <;> simp only [valEq, beq_iff_eq, Bool.false_eq_true] at h; rw [h]
  | .arr xs, b, h => by
    cases b <;> simp only [valEq, Bool.false_eq_true] at h
    rename_i ys; rw [valsEq_sound xs ys h]
  | .obj xs, b, h => by
    cases b <;> simp only [valEq, Bool.false_eq_true] at h
    rename_i ys; rw [memsEq_sound xs ys h]
theorem valsEq_sound : ∀ (a b : List Val), valsEq a b = true → a = b
  | [], b, h => by cases b <;> first | rfl | (simp only [valsEq, Bool.false_eq_true] at h)
  | x :: xs, b, h => by
    cases b with
    | nil => simp only [valsEq, Bool.false_eq_true] at h
    | cons y ys =>
      simp only [valsEq, Bool.and_eq_true] at h
      rw [valEq_sound x y h.1, valsEq_sound xs ys h.2]
theorem memsEq_sound : ∀ (a b : List (List Byte × Val)), memsEq a b = true → a = b
  | [], b, h => by cases b <;> first | rfl | (simp only [memsEq, Bool.false_eq_true] at h)
  | (k, x) :: xs, b, h => by
    cases b with
    | nil => simp only [memsEq, Bool.false_eq_true] at h
    | cons q ys =>
      obtain ⟨k', y⟩ := q
      simp only [memsEq, Bool.and_eq_true, beq_iff_eq] at h
      rw [h.1.1, valEq_sound x y h.1.2, memsEq_sound xs ys h.2]
end

/-! ## Locations of a layout after a replacement -/

/-- the slot whose layout is replaced, and the value slots of the new layout, are locations afterwards -/
theorem Forest.mem_locs_replaceSub (F : Forest) (i : Nat) (s' : Forest) (h : i ∈ F.locs) {x : Nat}
    (hx : x = i ∨ x ∈ s'.locs) : x ∈ (F.replaceSub i s').locs := by
  induction F with
  | nil => cases h
  | cons k j s r ihs ihr =>
    simp only [Forest.replaceSub]
    split
    · rename_i e
      simp only [Forest.locs, List.mem_cons, List.mem_append]
      rcases hx with hx | hx
      · exact Or.inl (hx.trans e.symm)
      · exact Or.inr (Or.inl hx)
    · rename_i hji
      simp only [Forest.locs, List.mem_cons, List.mem_append] at h ⊢
      rcases h with e | m | m
      · exact absurd e.symm hji
      · exact Or.inr (Or.inl (ihs m))
      · exact Or.inr (Or.inr (ihr m))

theorem Forest.self_mem_locs_replaceSub (F : Forest) (i : Nat) (s' : Forest) (h : i ∈ F.locs) :
    i ∈ (F.replaceSub i s').locs :=
  F.mem_locs_replaceSub i s' h (Or.inl rfl)

/-- the target of a replacement is still a location -/
theorem isLoc_replaceAt_self {F : Forest} {l : Loc} (s' : Forest) (hl : isLoc F l) : isLoc (replaceAt F l s') l := by
  cases l with
  | root => trivial
  | slot i => exact Forest.self_mem_locs_replaceSub F i s' hl

/-- the value slots of the new layout are locations -/
theorem isLoc_replaceAt_new {F : Forest} {l : Loc} {s' : Forest} (hl : isLoc F l) {x : Nat} (hx : x ∈ s'.locs) :
    isLoc (replaceAt F l s') (.slot x) := by
  cases l with
  | root => exact hx
  | slot i => exact F.mem_locs_replaceSub i s' hl (Or.inr hx)

theorem Forest.old_mem_locs_replaceSub (F : Forest) (i : Nat) (s' : Forest) (hnd : F.ids.Nodup) {x : Nat}
    (hx : x ∈ F.locs) (hout : x ∉ (F.subOf i).locs) : x ∈ (F.replaceSub i s').locs := by
  by_cases hi : i ∈ F.locs
  · revert hx hout
    refine Forest.loc_induction (motive := fun F => x ∈ F.locs → x ∉ (F.subOf i).locs → x ∈ (F.replaceSub i s').locs)
      ?_ ?_ ?_ F hnd hi
    · intro k s r _ hx hout
      rw [Forest.subOf_here] at hout
      rw [Forest.replaceSub_here]
      simp only [Forest.locs, List.mem_cons, List.mem_append] at hx ⊢
      exact hx.imp_right (fun m => m.resolve_left hout |> Or.inr)
    · intro k j s r _ hji his hir ih hx hout
      rw [Forest.subOf_below r hji his] at hout
      rw [Forest.replaceSub_below s _ hji hir]
      simp only [Forest.locs, List.mem_cons, List.mem_append] at hx ⊢
      exact hx.imp_right (Or.imp_left (fun m => ih m hout))
    · intro k j s r _ hji his _ ih hx hout
      rw [Forest.subOf_right r hji his] at hout
      rw [Forest.replaceSub_right r _ hji his]
      simp only [Forest.locs, List.mem_cons, List.mem_append] at hx ⊢
      exact hx.imp_right (Or.imp_right (fun m => ih m hout))
  · rw [Forest.replaceSub_of_notin i s' F hi]; exact hx

/-- a location outside the replaced subtree is still a location -/
theorem isLoc_replaceAt_old {F : Forest} {l l' : Loc} (s' : Forest) (hnd : F.ids.Nodup) (hl' : isLoc F l')
    (hout : ∀ x, l' = .slot x → x ∉ (layoutAt F l).locs) (hlr : l = .root → l' = .root) :
    isLoc (replaceAt F l s') l' := by
  cases l' with
  | root => trivial
  | slot x =>
    cases l with
    | root => cases hlr rfl
    | slot i => exact Forest.old_mem_locs_replaceSub F i s' hnd hl' (hout x rfl)

/-! ## Copy onto a location that still holds a value: the copy clears it first -/

theorem Forest.replaceSub_replaceSub (F : Forest) (i : Nat) (s1 s2 : Forest) :
    (F.replaceSub i s1).replaceSub i s2 = F.replaceSub i s2 := by
  induction F with
  | nil => rfl
  | cons k j s r ihs ihr =>
    simp only [Forest.replaceSub]
    split
    · rename_i e; simp only [Forest.replaceSub, if_pos e]
    · rename_i e; simp only [Forest.replaceSub, if_neg e, ihs, ihr]

theorem replaceAt_replaceAt (F : Forest) (l : Loc) (s1 s2 : Forest) :
    replaceAt (replaceAt F l s1) l s2 = replaceAt F l s2 := by
  cases l with
  | root => rfl
  | slot i => exact Forest.replaceSub_replaceSub F i s1 s2

/-- `Keep d d' F l`: everything of the document `d` (laid out as `F`) that lies outside the location `l` and the subtree
    below it is kept in `d'`: same cells, same values, and the scalars / strings stored there read the same -/
structure Keep (d d' : Doc) (F : Forest) (l : Loc) : Prop where
  null : d'.null = d.null
  g : d'.g = d.g
  cells : ∀ j ∈ F.ids, Loc.slot j ≠ l → j ∉ (layoutAt F l).ids → d'.cell j = d.cell j
  hold : ∀ l0 ∈ holders F, l0 ≠ l → (∀ j ∈ (layoutAt F l).ids, l0 ≠ .slot j) →
    d'.get l0 = d.get l0 ∧ d'.scalar (d.get l0) = d.scalar (d.get l0)

theorem Keep.good {d d' : Doc} {F : Forest} {l : Loc} (k : Keep d d' F l) {j : Nat} (hj : j ∈ F.ids)
    (hjl : Loc.slot j ≠ l) (hjs : j ∉ (layoutAt F l).ids) : Good d d' j :=
  ⟨k.cells j hj hjl hjs, (k.hold (.slot j) (mem_holders.2 (Or.inr ⟨j, hj, rfl⟩)) hjl
    (fun x hx e => by cases e; exact hjs hx)).2⟩

/-- a location outside the mutated subtree, whose own subtree does not meet it, designates the same value -/
theorem Keep.toVal {d d' : Doc} {F : Forest} {l l' : Loc} (k : Keep d d' F l) (w : WFG d F) (hl' : isLoc F l')
    (hne : l' ≠ l) (hout' : ∀ j, l' = .slot j → j ∉ (layoutAt F l).ids)
    (hdisj : ∀ x ∈ (layoutAt F l').ids, x ∉ (layoutAt F l).ids ∧ Loc.slot x ≠ l) :
    d'.get l' = d.get l' ∧ d'.toVal (d'.get l') = d.toVal (d.get l') := by
  obtain ⟨hget, hsc⟩ := k.hold l' (loc_mem_holders hl') hne (fun j hj e => hout' j e hj)
  exact ⟨hget, toVal_of_good w hl' k.null k.g
    (fun x hx => k.good (layoutAt_ids_sub F l' x hx) (hdisj x hx).2 (hdisj x hx).1) hget hsc⟩

theorem Outside.keep {d d' : Doc} {F : Forest} {l : Loc} (k : Outside d d' F l) (w : WFG d F) (hl : isLoc F l) :
    Keep d d' F l := by
  refine ⟨k.null, k.g, fun j hj hjl hjs => (k.good w hl hj hjl hjs).1, fun l0 h0 hne hns => ?_⟩
  have h0' := (mem_holders_cleared w.nodup hl).2 ⟨h0, hns⟩
  exact ⟨k.get h0' hne, k.scalar h0' hne⟩

/-- what `clearV l` keeps of a well-formed document -/
theorem clearV_keep {d : Doc} {F : Forest} {l : Loc} (w : WFG d F) (hs : StrOK d (d.strRefs F)) (hl : isLoc F l) :
    Keep d (d.clearV l) F l := by
  obtain ⟨dm, hdm, k, _, _⟩ := clearV_kept w hs hl
  rw [hdm]; exact (k.outside w hl .null).keep w hl

/-- what `clearV l` leaves of a well-formed document, as needed to compose it with a later mutation at `l` -/
theorem clearV_good {d : Doc} {F : Forest} {l : Loc} (w : WFG d F) (hs : StrOK d (d.strRefs F)) (hl : isLoc F l) :
    (d.clearV l).get l = .null ∧ (d.clearV l).null = d.null ∧
    (∀ i, l = .slot i → (d.clearV l).nextOf i = d.nextOf i ∧ (d.clearV l).root = d.root) ∧
    (∀ j ∈ F.ids, Loc.slot j ≠ l → j ∉ (layoutAt F l).ids → Good d (d.clearV l) j) ∧
    (∀ x ∈ F.ids, x ∉ (layoutAt F l).ids → PL.live (d.clearV l).g (d.clearV l).pl x) := by
  obtain ⟨dm, hdm, k, _, _⟩ := clearV_kept w hs hl
  have hmem := mem_ids_cleared w.nodup hl
  have kp := (k.outside w hl .null).keep w hl
  rw [hdm]
  refine ⟨get_set_self _ _ _, kp.null, ?_, fun j hj hjl hjs => kp.good hj hjl hjs, ?_⟩
  · intro i e; subst e
    have hc : dm.cell i = d.cell i := k.cells i ((hmem i).2 ⟨isLoc_ids hl, self_notin_layoutAt w.nodup i⟩)
    refine ⟨?_, by rw [root_set_slot, k.root]⟩
    rw [nextOf_of_var (show (dm.set (.slot i) .null).cell i = .var .null (dm.nextOf i) by rw [cell_set_slot, if_pos rfl]),
      nextOf_of_cell hc k.null]
  · intro x hx hxs
    rw [set_pl, set_g]; exact k.live x ((hmem x).2 ⟨hx, hxs⟩)

/-- what a copy into the location `l` of `d` (laid out as `F`) gives, `X` being the complete copy of the source value:
    the invariant for the layout read off the result at `l`, the abstract document changed at `l` only, a partial copy
    there that is complete exactly when no flag is raised, slots taken only from the subtree cleared at `l`, and the
    rest of `d` kept and live -/
structure CopyDoc (d d' : Doc) (F : Forest) (l : Loc) (X : Val) : Prop where
  wfg : WFG d' (replaceAt F l (d'.lay (d'.get l)))
  str : StrOK d' (d'.strRefs (replaceAt F l (d'.lay (d'.get l))))
  g : d'.g = d.g
  absEq : abs d' = absWith d F l (d'.toVal (d'.get l))
  part : PartialCopy (d'.toVal (d'.get l)) X
  complete : d'.overflowed = false → d'.toVal (d'.get l) = X
  sticky : d.overflowed = true → d'.overflowed = true
  incomplete : d.overflowed = false → d'.overflowed = true → d'.toVal (d'.get l) ≠ X
  flagged : d.overflowed = true → FlaggedCopy (d'.toVal (d'.get l)) X
  recycled : ∀ x ∈ (d'.lay (d'.get l)).ids, x ∈ F.ids → x ∈ (layoutAt F l).ids
  live : ∀ x ∈ F.ids, x ∉ (layoutAt F l).ids → PL.live d'.g d'.pl x
  keep : Keep d d' F l

/-- The deep copy at the level of the document invariant, for a target location `l` holding ANY value (the copy clears it
    first): success and failure alike. -/
theorem copyInto_spec {d src : Doc} {F ss : Forest} {l : Loc} {sv : VData}
    (w : WFG d F) (hs : StrOK d (d.strRefs F)) (gok : PL.GeoOK d.g) (hl : isLoc F l)
    (hv : VOK src sv ss) (hfu : ss.ids.length < src.fuel) (hnd : NoDupKeys (src.toVal sv)) :
    CopyDoc d (copyInto d l src sv) F l (copyVal (src.toVal sv)) := by
  have hsv : src.toVal sv = src.valOf sv ss := toVal_eq hv hfu
  rw [hsv] at hnd ⊢
  obtain ⟨w0, s0, _, _⟩ := clearV_spec w hs hl
  obtain ⟨hnull0, hn0, hsl0, _, hlive0⟩ := clearV_good w hs hl
  have k1 := clearV_keep w hs hl
  have hg0 : (d.clearV l).g = d.g := clearV_g d l
  have hl0 : isLoc (replaceAt F l .nil) l := isLoc_replaceAt_self .nil hl
  have P0 : Pre (d.clearV l) l := pre_of_wfg w0 s0 (by rw [hg0]; exact gok) hl0 hnull0
  obtain ⟨v, s, P, hpc, hcomp, hinc, hflg⟩ := copyIntoF_local_gen (f := src.fuel) (d := d) hv
    (Nat.lt_of_le_of_lt ss.depth_le hfu) (Nat.le_of_lt hfu) hnd P0
  simp only [copyInto]
  generalize copyIntoF src.fuel d l src sv = d' at *
  generalize hdc : d.clearV l = dc at *
  have hov0 : dc.overflowed = d.overflowed := by rw [← hdc, clearV_overflowed]
  obtain ⟨a, b, _⟩ := post_assemble w0 s0 hl0 hnull0 P
  obtain ⟨k2c, k2h⟩ := P.fr.holders w0 s0 hl0
  rw [replaceAt_replaceAt] at a b
  -- what is kept of `d`
  have keep : Keep d d' F l := by
    refine ⟨by rw [P.fr.null, hn0], by rw [P.fr.g, hg0], ?_, ?_⟩
    · intro j hj hjl hjs
      rw [k2c j ((mem_ids_cleared w.nodup hl j).2 ⟨hj, hjs⟩) hjl, k1.cells j hj hjl hjs]
    · intro l0 h0 hne hns
      obtain ⟨g1, c1⟩ := k1.hold l0 h0 hne hns
      obtain ⟨_, g2, c2⟩ := k2h l0 ((mem_holders_cleared w.nodup hl).2 ⟨h0, hns⟩)
      refine ⟨by rw [g2 hne, g1], ?_⟩
      rw [g1] at c2
      rw [c2, c1]
  have hlen := P.ids_lt_fuel
  have hlay : d'.lay (d'.get l) = s := by rw [P.att.get]; exact lay_eq P.att.vok hlen
  have hval : d'.toVal (d'.get l) = d'.valOf v s := by rw [P.att.get]; exact toVal_eq P.att.vok hlen
  have habs : abs d' = absWith d F l (d'.valOf v s) := by
    rw [abs_eq a]
    exact (lift_at (d := d) (d' := d') (v' := v) (s' := s) w hl keep.null P.att.get
      (fun i e => by
        obtain ⟨hnx, hrt⟩ := hsl0 i e
        exact ⟨by rw [P.att.slot i e, hnx], by rw [P.fr.root (by rw [e]; simp), hrt]⟩)
      P.att.vok (fun j hj hjl hjs => keep.good hj hjl hjs)).2
  rw [← hlay] at a b
  rw [← hval] at habs hpc hcomp hinc hflg
  refine ⟨a, b, by rw [P.fr.g, hg0], habs, hpc, hcomp, fun ho => P.fr.ov (hov0.trans ho), fun h0 => hinc (hov0.trans h0),
    fun h0 => hflg (hov0.trans h0), ?_, fun x hx hxs => P.fr.live x (hlive0 x hx hxs), keep⟩
  intro x hx hxF
  rw [hlay] at hx
  by_cases hxs : x ∈ (layoutAt F l).ids
  · exact hxs
  · exact absurd (hlive0 x hxF hxs) (P.att.fresh x hx).1

end DL
