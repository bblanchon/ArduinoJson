/- `parseVariant`, `parseElems`, `parseMembers` and `run`, one round each, given what the routines they call first
   return: the pieces of AJ/Lemmas/JDPieces.lean and the token dispatch of AJ/Lemmas/JDLexPieces.lean put together along one
   path, for proofs that follow a particular input. -/
import AJ.Lemmas.JDLexPieces
namespace JD

/-- `run` after a successful `parseVariant`: a number must not be followed by a byte other than white space -/
theorem run_of_parseVariant {cfg : Cfg} {L : Nat} {t : List Byte} {v : Val} {s : St}
    (h : parseVariant cfg (2 * t.length + 4) L { l := { unread := t } } = (.ok, v, s)) :
    run cfg L t =
      ((if s.l.cur != 0 && !isWs s.l.cur && isNumberVal v then .invalid else .ok), v, s.l.pos) := by
  rw [run_eq, h, finishRun_ok]

/-- what follows a value that is not a number is not looked at -/
theorem run_of_parseVariant_other {cfg : Cfg} {L : Nat} {t : List Byte} {v : Val} {s : St}
    (h : parseVariant cfg (2 * t.length + 4) L { l := { unread := t } } = (.ok, v, s)) (hn : isNumberVal v = false) :
    run cfg L t = (.ok, v, s.l.pos) := by
  rw [run_of_parseVariant h, hn, Bool.and_false]
  rfl

/-! ### `parseVariant`, by the token on which `skipSpaces` stops -/

theorem parseVariant_on_arr {cfg : Cfg} {n L : Nat} {s X Y : St} {d : Byte}
    (h1 : skipSpaces cfg (n + 1) s = (.ok, X)) (h2 : cur X = (0x5B, X))
    (h3 : skipSpaces cfg (n + 1) (mv X) = (.ok, Y)) (h4 : cur Y = (d, Y)) :
    parseVariant cfg (n + 1) (L + 1) s =
      if d == 0x5D then (.ok, .arr [], mv Y) else parseElems cfg n L Y [] := by
  rw [parseVariant_succ, h1, pvK, pvTok_arr (congrArg Prod.fst h2), h2, h3, pvArr, h4]

theorem parseVariant_on_obj {cfg : Cfg} {n L : Nat} {s X Y : St} {d : Byte}
    (h1 : skipSpaces cfg (n + 1) s = (.ok, X)) (h2 : cur X = (0x7B, X))
    (h3 : skipSpaces cfg (n + 1) (mv X) = (.ok, Y)) (h4 : cur Y = (d, Y)) :
    parseVariant cfg (n + 1) (L + 1) s =
      if d == 0x7D then (.ok, .obj [], mv Y) else parseMembers cfg n L Y [] := by
  rw [parseVariant_succ, h1, pvK, pvTok_obj (congrArg Prod.fst h2), h2, h3, pvObj, h4]

theorem parseVariant_on_quote {cfg : Cfg} {n L : Nat} {s X : St} {q : Byte}
    (h1 : skipSpaces cfg (n + 1) s = (.ok, X)) (h2 : cur X = (q, X)) (hq : q = 0x22 ∨ q = 0x27) :
    parseVariant cfg (n + 1) L s =
      (match parseQuoted cfg q (n + 1) [] 0 (mv X) with
       | (.ok, str, s) => (.ok, .str str, s)
       | (e, _, s) => (e, .null, s)) := by
  rw [parseVariant_succ, h1, pvK, pvTok_str (by rw [h2]; exact hq), h2]
  rfl

theorem keywords_facts {k : Byte} {ks : List Byte} {v : Val} (h : (k, ks, v) ∈ keywords) :
    Tok k ∧ ∀ x ∈ k :: ks, x ≠ 0 := by
  rcases keywords_cases h with ⟨rfl, rfl, _⟩ | ⟨rfl, rfl, _⟩ | ⟨rfl, rfl, _⟩ <;> decide

theorem parseVariant_on_keyword {cfg : Cfg} {n L : Nat} {s X : St} {k : Byte} {ks : List Byte} {v : Val}
    (h1 : skipSpaces cfg (n + 1) s = (.ok, X)) (h2 : cur X = (k, X)) (hk : (k, ks, v) ∈ keywords) :
    parseVariant cfg (n + 1) L s = ((skipKeyword (k :: ks) X).1, v, (skipKeyword (k :: ks) X).2) := by
  rw [parseVariant_succ, h1, pvK, pvTok_keyword hk (congrArg Prod.fst h2), h2]

/-- any other token is handed to the number parser -/
theorem parseVariant_on_number {cfg : Cfg} {n L : Nat} {s X : St} {c : Byte}
    (h1 : skipSpaces cfg (n + 1) s = (.ok, X)) (h2 : cur X = (c, X))
    (k1 : (c == 0x5B) = false) (k2 : (c == 0x7B) = false) (k3 : (c == 0x22) = false) (k4 : (c == 0x27) = false)
    (k5 : (c == 0x74) = false) (k6 : (c == 0x66) = false) (k7 : (c == 0x6E) = false) :
    parseVariant cfg (n + 1) L s = parseNumeric cfg X := by
  have hc : (cur X).1 = c := congrArg Prod.fst h2
  rw [parseVariant_succ, h1, pvK, pvTok_num (by rw [hc]; exact ⟨ne_of_beq_false k1, ne_of_beq_false k2,
    ne_of_beq_false k3, ne_of_beq_false k4, ne_of_beq_false k5, ne_of_beq_false k6, ne_of_beq_false k7⟩), h2]

/-! ### the loops, after one element / one member -/

theorem parseElems_on {cfg : Cfg} {n L : Nat} {s s1 X : St} {acc : List Val} {v : Val} {c : Byte}
    (h0 : parseVariant cfg n L s = (.ok, v, s1)) (h1 : skipSpaces cfg (n + 1) s1 = (.ok, X)) (h2 : cur X = (c, X)) :
    parseElems cfg (n + 1) L s acc =
      if c == 0x5D then (.ok, .arr (v :: acc).reverse, mv X)
      else if c == 0x2C then parseElems cfg n L (mv X) (v :: acc)
      else (.invalid, .arr (v :: acc).reverse, X) := by
  rw [parseElems_succ, h0, peK1, h1, peK2, h2]

/-- `keyRes`: the key of a member, read from the state latched on its first byte `c` -/
def keyRes (cfg : Cfg) (n : Nat) (c : Byte) (X : St) : Code × List Byte × St :=
  if (c == 0x22 || c == 0x27) = true then parseQuoted cfg c (n + 1) [] 0 (mv X)
  else if inUnquoted c = true then
    ((if (parseUnquoted (n + 1) [] X).1.length > cfg.maxStrLen then Code.noMemory else Code.ok),
      (parseUnquoted (n + 1) [] X).1, (parseUnquoted (n + 1) [] X).2)
  else (Code.invalid, [], X)

theorem pmKey_eq_keyRes {cfg : Cfg} {n : Nat} {X : St} {kc : Byte} (h0 : cur X = (kc, X)) :
    pmKey cfg n X = keyRes cfg n kc X := by
  rw [pmKey, h0]; rfl

theorem parseMembers_on {cfg : Cfg} {n L : Nat} {X q Y s1 Z : St} {ms : List (List Byte × Val)} {kc c : Byte}
    {key : List Byte} {v : Val}
    (h0 : cur X = (kc, X)) (hk : keyRes cfg n kc X = (.ok, key, q))
    (h1 : skipSpaces cfg (n + 1) q = (.ok, Y)) (h2 : cur Y = (0x3A, Y))
    (h3 : parseVariant cfg n L (mv Y) = (.ok, v, s1))
    (h4 : skipSpaces cfg (n + 1) s1 = (.ok, Z)) (h5 : cur Z = (c, Z)) :
    parseMembers cfg (n + 1) L X ms =
      if c == 0x7D then (.ok, .obj (setMember ms key v), mv Z)
      else if c == 0x2C then
        match skipSpaces cfg (n + 1) (mv Z) with
        | (.ok, s) => parseMembers cfg n L s (setMember ms key v)
        | (e, s) => (e, .obj (setMember ms key v), s)
      else (.invalid, .obj (setMember ms key v), Z) := by
  rw [parseMembers_succ, pmKey_eq_keyRes h0, hk, pmK0, h1, pmK1, h2]
  simp only [bne_self_eq_false, Bool.false_eq_true, if_false]
  rw [h3, pmK2, h4, pmK3, h5]
  rfl

end JD
