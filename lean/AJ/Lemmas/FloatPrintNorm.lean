/- C12 (printing clauses): `JS.normalize` over ℚ. A finite positive binary64 value `x` is either left alone (`1e-6 < x < 1e7`)
   or scaled by table powers of ten into `[1 − 27u, 10·(1 + 27u)]` with relative error at most `22.5u` (`u = 2^-53`). -/
import AJ.Lemmas.FloatPrintSF
import AJ.Lemmas.FloatLen
namespace C12
open SF JD JS

/-! ## the table entries, as `normalize` reads them -/

theorem pos64_bang (k : Nat) (hk : k < 9) : ∃ (m : Nat) (e : Int), decode b64 (pos64[k]!) = .fin false m e ∧ m ≠ 0 ∧
    Close (1 / 2 ^ 53) (qv m e) ((10 : ℚ) ^ (2 ^ k)) := by
  have h : k < pos64.length := by rw [len_pos64]; exact hk
  rw [getElem!_pos pos64 k h]
  exact pos64_close k h

theorem neg64_bang (k : Nat) (hk : k < 9) : ∃ (m : Nat) (e : Int), decode b64 (neg64[k]!) = .fin false m e ∧ m ≠ 0 ∧
    Close (1 / 2 ^ 53) (qv m e) ((1 / 10 : ℚ) ^ (2 ^ k)) := by
  have h : k < neg64.length := by rw [len_neg64]; exact hk
  rw [getElem!_pos neg64 k h]
  exact neg64_close k h

theorem decode_ten64 : decode b64 JS.ten = .fin false 5629499534213120 (-49) := by decide +kernel

theorem qv_ten : qv 5629499534213120 (-49) = 10 := by unfold qv; norm_num [zpow_neg]

theorem ten_pow_ge (k : Nat) : (10 : ℚ) ≤ (10 : ℚ) ^ (2 ^ k) := by
  have : (10 : ℚ) ^ 1 ≤ (10 : ℚ) ^ (2 ^ k) := pow_le_pow_right₀ (by norm_num) (Nat.one_le_two_pow)
  simpa using this

theorem ten_pow_sq (k : Nat) : (10 : ℚ) ^ (2 ^ (k + 1)) = (10 : ℚ) ^ (2 ^ k) * (10 : ℚ) ^ (2 ^ k) := by
  rw [← pow_add]; congr 1; rw [Nat.pow_succ]; omega

theorem tenth_pow (k : Nat) : (1 / 10 : ℚ) ^ (2 ^ k) = 1 / (10 : ℚ) ^ (2 ^ k) := by
  rw [one_div_pow]

theorem low64 : (2 : ℚ) ^ (emin b64 + (b64.mbits : Int)) ≤ 1 / 2 := by
  rw [emin_b64]
  calc (2 : ℚ) ^ (-1022 : Int) ≤ (2 : ℚ) ^ (-1 : Int) := zpow_le_zpow_right₀ (by norm_num) (by norm_num)
    _ = 1 / 2 := by norm_num

theorem fin_lt_top64 (b : Nat) (n : Bool) (m : Nat) (e : Int) (h : decode b64 b = .fin n m e) :
    qv m e < 2 * (2 : ℚ) ^ ((b64.emax : Int) - b64.bias - 1) := by
  have := fin_lt_top b64 b n m e h (by decide)
  have e1 : (b64.emax : Int) - b64.bias = 1 + ((b64.emax : Int) - b64.bias - 1) := by ring
  rw [e1, zpow_add₀ (by norm_num : (2 : ℚ) ≠ 0)] at this
  simpa using this

/-! ## arithmetic of one step, over bare rationals (`u = 2^-53`) -/

/-- a rounding of an approximated product: `x ≈ y` within `δ`, `s ≈ t` within `u`, `r ≈ x·s` within `u` -/
theorem Close.round {δ u x y s t r : ℚ} (hc : Close δ x y) (hs : Close u s t) (hr : Close u r (x * s))
    (hy : 0 < y) (ht : 0 < t) (hδ : 0 ≤ δ) (hu : 0 ≤ u) (hδu : δ + 5 / 2 * u ≤ 1 / 8) :
    Close (δ + 5 / 2 * u) r (y * t) :=
  ((hr.trans (hc.mul hs hy ht hδ hu) (mul_pos hy ht) hu (by positivity)).mono (mul_pos hy ht).le (three_u δ u hδ hu hδu))

theorem u_cube_lo : (1 - 3 / 2 ^ 53 : ℚ) ≤ (1 - 1 / 2 ^ 53) * ((1 - 1 / 2 ^ 53) * (1 - 1 / 2 ^ 53)) := by norm_num

theorem u_quad_hi : ((1 : ℚ) + 1 / 2 ^ 53) * ((1 + 1 / 2 ^ 53) * (1 + 1 / 2 ^ 53) * (1 + 1 / 2 ^ 53)) ≤ 1 + 5 / 2 ^ 53 := by
  norm_num

theorem u_sq_hi (ε : ℚ) (hε2 : ε ≤ 1 / 8) :
    (1 + 1 / 2 ^ 53) * ((1 + ε) * (1 + 1 / 2 ^ 53)) ≤ 1 + (ε + 3 / 2 ^ 53) := by nlinarith

theorem u_sq_lo (ε : ℚ) (hε : 0 ≤ ε) :
    1 - (ε + 3 / 2 ^ 53) ≤ (1 - 1 / 2 ^ 53) * ((1 - ε) * (1 - 1 / 2 ^ 53)) := by nlinarith

/-- the exact quotient of `V ∈ [(1-u)T, T²(1+ε)]` by `T`, the divisor being `S ≈ 1/T` -/
theorem quot_bounds {V S T ε : ℚ} (hT : 0 < T) (hV : 0 ≤ V) (hS : 0 ≤ S) (hε : 0 ≤ ε)
    (hVlo : (1 - 1 / 2 ^ 53) * T ≤ V) (hVhi : V ≤ T * T * (1 + ε))
    (hSlo : (1 - 1 / 2 ^ 53) * (1 / T) ≤ S) (hShi : S ≤ (1 + 1 / 2 ^ 53) * (1 / T)) :
    (1 - 1 / 2 ^ 53) * (1 - 1 / 2 ^ 53) ≤ V * S ∧ V * S ≤ T * ((1 + ε) * (1 + 1 / 2 ^ 53)) := by
  constructor
  · calc (1 - 1 / 2 ^ 53) * (1 - 1 / 2 ^ 53) = (1 - 1 / 2 ^ 53) * T * ((1 - 1 / 2 ^ 53) * (1 / T)) := by field_simp
      _ ≤ V * S := mul_le_mul hVlo hSlo (mul_nonneg (by norm_num) (by positivity)) hV
  · calc V * S ≤ (T * T * (1 + ε)) * ((1 + 1 / 2 ^ 53) * (1 / T)) := mul_le_mul hVhi hShi hS (by positivity)
      _ = T * ((1 + ε) * (1 + 1 / 2 ^ 53)) := by field_simp

/-- the exact product of `V ∈ [10/T²·(1-ε), (1+u)²·10/T]` by `S ≈ T` -/
theorem prod_bounds {V S T ε : ℚ} (hT : 0 < T) (hV : 0 ≤ V) (hS : 0 ≤ S)
    (hVlo : 10 / (T * T) * (1 - ε) ≤ V) (hVhi : V ≤ (1 + 1 / 2 ^ 53) * ((1 + 1 / 2 ^ 53) * (10 / T)))
    (hSlo : (1 - 1 / 2 ^ 53) * T ≤ S) (hShi : S ≤ (1 + 1 / 2 ^ 53) * T) :
    10 / T * ((1 - ε) * (1 - 1 / 2 ^ 53)) ≤ V * S ∧
      V * S ≤ 10 * ((1 + 1 / 2 ^ 53) * (1 + 1 / 2 ^ 53) * (1 + 1 / 2 ^ 53)) := by
  constructor
  · calc 10 / T * ((1 - ε) * (1 - 1 / 2 ^ 53)) = 10 / (T * T) * (1 - ε) * ((1 - 1 / 2 ^ 53) * T) := by field_simp
      _ ≤ V * S := mul_le_mul hVlo hSlo (mul_nonneg (by norm_num) hT.le) hV
  · calc V * S ≤ (1 + 1 / 2 ^ 53) * ((1 + 1 / 2 ^ 53) * (10 / T)) * ((1 + 1 / 2 ^ 53) * T) :=
          mul_le_mul hVhi hShi hS (by positivity)
      _ = _ := by field_simp

/-- one more rounding of a product `P ∈ [cl·a, ch·b]` (`cl`, `ch` scales) keeps it in `[cl·a', ch·b']` -/
theorem round_bounds {R P cl ch a b a' b' : ℚ} (hcl : 0 ≤ cl) (hch : 0 ≤ ch) (hlo : cl * a ≤ P) (hhi : P ≤ ch * b)
    (hRlo : (1 - 1 / 2 ^ 53) * P ≤ R) (hRhi : R ≤ (1 + 1 / 2 ^ 53) * P)
    (ha : a' ≤ (1 - 1 / 2 ^ 53) * a) (hb : (1 + 1 / 2 ^ 53) * b ≤ b') : cl * a' ≤ R ∧ R ≤ ch * b' := by
  constructor
  · calc cl * a' ≤ cl * ((1 - 1 / 2 ^ 53) * a) := mul_le_mul_of_nonneg_left ha hcl
      _ = (1 - 1 / 2 ^ 53) * (cl * a) := mul_left_comm _ _ _
      _ ≤ (1 - 1 / 2 ^ 53) * P := mul_le_mul_of_nonneg_left hlo (by norm_num)
      _ ≤ R := hRlo
  · calc R ≤ (1 + 1 / 2 ^ 53) * P := hRhi
      _ ≤ (1 + 1 / 2 ^ 53) * (ch * b) := mul_le_mul_of_nonneg_left hhi (by norm_num)
      _ = ch * ((1 + 1 / 2 ^ 53) * b) := mul_left_comm _ _ _
      _ ≤ ch * b' := mul_le_mul_of_nonneg_left hb hch

/-! ## one step of the first loop (values `≥ 1e7` are divided by powers of ten) -/

theorem stepA_math (k : Nat) (hk : k < 9) (v m : Nat) (e : Int) (X δ ε : ℚ)
    (hd : decode b64 v = .fin false m e) (hm : m ≠ 0) (hX : 0 < X)
    (hδ : 0 ≤ δ) (hδ2 : δ + 5 / 2 * (1 / 2 ^ 53) ≤ 1 / 8) (hε : 0 ≤ ε) (hε2 : ε ≤ 1 / 8)
    (hc : Close δ (qv m e) X)
    (hhi : qv m e ≤ (10 : ℚ) ^ (2 ^ (k + 1)) * (1 + ε)) :
    (SF.ge b64 v (pos64[k]!) = true →
      ∃ (m' : Nat) (e' : Int), decode b64 (SF.mul b64 v (neg64[k]!)) = .fin false m' e' ∧ m' ≠ 0 ∧
        Close (δ + 5 / 2 * (1 / 2 ^ 53)) (qv m' e') (X * (1 / 10 : ℚ) ^ (2 ^ k)) ∧
        1 - 3 / 2 ^ 53 ≤ qv m' e' ∧ qv m' e' ≤ (10 : ℚ) ^ (2 ^ k) * (1 + (ε + 3 / 2 ^ 53))) ∧
    (SF.ge b64 v (pos64[k]!) = false → qv m e ≤ (10 : ℚ) ^ (2 ^ k) * (1 + (ε + 3 / 2 ^ 53))) := by
  obtain ⟨mp, ep, hdp, hmp, hcp⟩ := pos64_bang k hk
  obtain ⟨mn, en, hdn, hmn, hcn⟩ := neg64_bang k hk
  have hT10 := ten_pow_ge k
  rw [ten_pow_sq] at hhi
  rw [tenth_pow] at hcn ⊢
  generalize (10 : ℚ) ^ (2 ^ k) = T at *
  have hT : 0 < T := lt_of_lt_of_le (by norm_num) hT10
  have hV : 0 < qv m e := qv_pos hm e
  have hu : (0 : ℚ) ≤ 1 / 2 ^ 53 := by norm_num
  constructor
  · intro hge
    have hPV : (1 - 1 / 2 ^ 53) * T ≤ qv m e := hcp.ge.trans ((ge_q b64 v _ m mp e ep hd hdp).mp hge)
    obtain ⟨hprodlo, hprodhi⟩ := quot_bounds hT hV.le (qv_nonneg mn en) hε hPV hhi hcn.ge hcn.le
    -- the exact quotient is in the normal range: at least `(1-u)²`, and a tenth of a finite datum
    have hlo' : (2 : ℚ) ^ (emin b64 + (b64.mbits : Int)) ≤ qv m e * qv mn en :=
      le_trans low64 (le_trans (by norm_num) hprodlo)
    have hhi' : qv m e * qv mn en < (2 : ℚ) ^ ((b64.emax : Int) - b64.bias - 1) := by
      have h1 := fin_lt_top64 v false m e hd
      have h2 : qv mn en ≤ 1 / 2 :=
        hcn.le.trans (le_trans (mul_le_mul_of_nonneg_left (one_div_le_one_div_of_le (by norm_num) hT10) (by norm_num))
          (by norm_num))
      have := mul_le_mul_of_nonneg_left h2 hV.le
      linarith only [h1, this]
    obtain ⟨m', e', hdr, hn1, _, hcr⟩ := mul_relQ b64 v (neg64[k]!) false false m mn e en (by decide) hd hdn hm hmn hlo' hhi'
    have hm' : m' ≠ 0 := by have := Nat.two_pow_pos b64.mbits; omega
    have hb := round_bounds (cl := 1) (ch := T) (a := (1 - 1 / 2 ^ 53) * (1 - 1 / 2 ^ 53)) (b := (1 + ε) * (1 + 1 / 2 ^ 53))
      (a' := 1 - 3 / 2 ^ 53) (b' := 1 + (ε + 3 / 2 ^ 53)) zero_le_one hT.le (by rw [one_mul]; exact hprodlo) hprodhi
      hcr.ge hcr.le u_cube_lo (u_sq_hi ε hε2)
    rw [one_mul] at hb
    exact ⟨m', e', hdr, hm', hc.round hcn hcr hX (by positivity) hδ hu hδ2, hb.1, hb.2⟩
  · intro hge
    have hPV : qv m e < qv mp ep := by
      by_contra h
      rw [(ge_q b64 v _ m mp e ep hd hdp).mpr (not_lt.mp h)] at hge; cases hge
    have h1 := hcp.le
    have h2 := mul_le_mul_of_nonneg_left (by linarith only [hε] : 1 + 1 / 2 ^ 53 ≤ 1 + (ε + 3 / 2 ^ 53)) hT.le
    linarith only [hPV, h1, h2]

/-! ## one step of the second loop (values `≤ 1e-5` are multiplied by powers of ten) -/

theorem big_num_8 : (10 : ℚ) ^ 256 ≤ (2 : ℚ) ^ (1000 : Int) := by
  simpa using zpow_le_of_nat (a := 10) (b := 2) (p := 256) (q := 1000) (c := 1) (d := 1) (by decide +kernel)

theorem ten_pow_le (k : Nat) (hk : k < 9) : (10 : ℚ) ^ (2 ^ k) ≤ (2 : ℚ) ^ (1000 : Int) := by
  have h1 : 2 ^ k ≤ 256 := by
    have : 2 ^ k ≤ 2 ^ 8 := Nat.pow_le_pow_right (by decide) (by omega)
    simpa using this
  exact le_trans (pow_le_pow_right₀ (by norm_num) h1) big_num_8

theorem tenth_pow_sq (k : Nat) : (1 / 10 : ℚ) ^ (2 ^ (k + 1)) = 1 / ((10 : ℚ) ^ (2 ^ k) * (10 : ℚ) ^ (2 ^ k)) := by
  rw [one_div_pow, ten_pow_sq]

/-- the reciprocal of a table power is far above the smallest normal number, and 16 is far below the top binade -/
theorem range64 (k : Nat) (hk : k < 9) :
    (2 : ℚ) ^ (emin b64 + (b64.mbits : Int)) ≤ 1 / (10 : ℚ) ^ (2 ^ k) ∧
      (16 : ℚ) ≤ (2 : ℚ) ^ ((b64.emax : Int) - b64.bias - 1) := by
  constructor
  · have hT : (0 : ℚ) < (10 : ℚ) ^ (2 ^ k) := by positivity
    rw [emin_b64, le_div_iff₀ hT]
    calc (2 : ℚ) ^ (-1022 : Int) * (10 : ℚ) ^ (2 ^ k) ≤ (2 : ℚ) ^ (-1000 : Int) * (2 : ℚ) ^ (1000 : Int) :=
          mul_le_mul (zpow_le_zpow_right₀ (by norm_num) (by norm_num)) (ten_pow_le k hk) hT.le (two_zpow_pos _).le
      _ = 1 := by rw [← zpow_add₀ (by norm_num : (2 : ℚ) ≠ 0)]; norm_num
  · rw [top_b64]
    calc (16 : ℚ) = (2 : ℚ) ^ (4 : Int) := by norm_num
      _ ≤ _ := zpow_le_zpow_right₀ (by norm_num) (by norm_num)

/-- the threshold `fl(neg64[k]·10)` of the second loop is within `(1 ± u)^2` of `10^(1 − 2^k)` -/
theorem thresholdB (k : Nat) (hk : k < 9) :
    ∃ (mt : Nat) (et : Int), decode b64 (SF.mul b64 (neg64[k]!) JS.ten) = .fin false mt et ∧
      (1 - 1 / 2 ^ 53) * ((1 - 1 / 2 ^ 53) * (10 / (10 : ℚ) ^ (2 ^ k))) ≤ qv mt et ∧
      qv mt et ≤ (1 + 1 / 2 ^ 53) * ((1 + 1 / 2 ^ 53) * (10 / (10 : ℚ) ^ (2 ^ k))) := by
  obtain ⟨mn, en, hdn, hmn, hcn⟩ := neg64_bang k hk
  have hT10 := ten_pow_ge k
  obtain ⟨hLow, hTop⟩ := range64 k hk
  rw [tenth_pow] at hcn
  have hmul := fun hlo hhi => mul_relQ b64 (neg64[k]!) JS.ten false false mn 5629499534213120 en (-49) (by decide)
    hdn decode_ten64 hmn (by decide) hlo hhi
  rw [qv_ten, show uro b64 = 1 / 2 ^ 53 from rfl] at hmul
  generalize (2 : ℚ) ^ ((b64.emax : Int) - b64.bias - 1) = Top at *
  generalize (2 : ℚ) ^ (emin b64 + (b64.mbits : Int)) = Low at *
  generalize (10 : ℚ) ^ (2 ^ k) = T at *
  have hT : 0 < T := lt_of_lt_of_le (by norm_num) hT10
  have hNge := hcn.ge
  have hNle := hcn.le
  have hT0 : 0 ≤ 1 / T := by positivity
  have hT1 : 1 / T ≤ 1 / 10 := one_div_le_one_div_of_le (by norm_num) hT10
  obtain ⟨mt, et, hdt, _, _, hct⟩ := hmul (by linarith only [hLow, hNge, hT0]) (by linarith only [hTop, hNle, hT1])
  have h10 : 10 / T = 1 / T * 10 := by ring
  rw [h10]
  refine ⟨mt, et, hdt, ?_, ?_⟩
  · have := mul_le_mul_of_nonneg_left (by linarith only [hNge] : (1 - 1 / 2 ^ 53) * (1 / T * 10) ≤ qv mn en * 10)
      (by norm_num : (0 : ℚ) ≤ 1 - 1 / 2 ^ 53)
    exact this.trans hct.ge
  · have := mul_le_mul_of_nonneg_left (by linarith only [hNle] : qv mn en * 10 ≤ (1 + 1 / 2 ^ 53) * (1 / T * 10))
      (by norm_num : (0 : ℚ) ≤ 1 + 1 / 2 ^ 53)
    exact hct.le.trans this

theorem stepB_math (k : Nat) (hk : k < 9) (v m : Nat) (e : Int) (X δ ε : ℚ)
    (hd : decode b64 v = .fin false m e) (hm : m ≠ 0) (hX : 0 < X)
    (hδ : 0 ≤ δ) (hδ2 : δ + 5 / 2 * (1 / 2 ^ 53) ≤ 1 / 8) (hε : 0 ≤ ε) (hε2 : ε ≤ 1 / 8)
    (hc : Close δ (qv m e) X)
    (hlo : 10 / ((10 : ℚ) ^ (2 ^ k) * (10 : ℚ) ^ (2 ^ k)) * (1 - ε) ≤ qv m e) :
    (SF.lt b64 v (SF.mul b64 (neg64[k]!) JS.ten) = true →
      ∃ (m' : Nat) (e' : Int), decode b64 (SF.mul b64 v (pos64[k]!)) = .fin false m' e' ∧ m' ≠ 0 ∧
        Close (δ + 5 / 2 * (1 / 2 ^ 53)) (qv m' e') (X * (10 : ℚ) ^ (2 ^ k)) ∧
        10 / (10 : ℚ) ^ (2 ^ k) * (1 - (ε + 3 / 2 ^ 53)) ≤ qv m' e' ∧ qv m' e' ≤ 10 * (1 + 5 / 2 ^ 53)) ∧
    (SF.lt b64 v (SF.mul b64 (neg64[k]!) JS.ten) = false →
      10 / (10 : ℚ) ^ (2 ^ k) * (1 - (ε + 3 / 2 ^ 53)) ≤ qv m e) := by
  obtain ⟨mp, ep, hdp, hmp, hcp⟩ := pos64_bang k hk
  obtain ⟨mt, et, hdt, htlo, hthi⟩ := thresholdB k hk
  have hT10 := ten_pow_ge k
  obtain ⟨hLow, hTop⟩ := range64 k hk
  have hmul := fun hlo hhi => mul_relQ b64 v (pos64[k]!) false false m mp e ep (by decide) hd hdp hm hmp hlo hhi
  rw [show uro b64 = 1 / 2 ^ 53 from rfl] at hmul
  generalize (2 : ℚ) ^ ((b64.emax : Int) - b64.bias - 1) = Top at *
  generalize (2 : ℚ) ^ (emin b64 + (b64.mbits : Int)) = Low at *
  generalize (10 : ℚ) ^ (2 ^ k) = T at *
  have hT : 0 < T := lt_of_lt_of_le (by norm_num) hT10
  have hV : 0 < qv m e := qv_pos hm e
  have hu : (0 : ℚ) ≤ 1 / 2 ^ 53 := by norm_num
  have h5 : (0 : ℚ) ≤ 10 / T := by positivity
  constructor
  · intro hlt
    have hVT : qv m e < qv mt et := (lt_q b64 v _ m mt e et hd hdt).mp hlt
    obtain ⟨hprodlo, hprodhi⟩ := prod_bounds hT hV.le (qv_nonneg mp ep) hlo (hVT.le.trans hthi) hcp.ge hcp.le
    -- the exact product is in the normal range: at least `5/T`, at most `10·(1+u)³ < 16`
    have hlo' : Low ≤ qv m e * qv mp ep := by
      have hfac : (1 / 2 : ℚ) ≤ (1 - ε) * (1 - 1 / 2 ^ 53) := by nlinarith only [hε, hε2]
      have := mul_le_mul_of_nonneg_left hfac h5
      have h10 : 10 / T = 10 * (1 / T) := by ring
      linarith only [hLow, this, hprodlo, h10, h5]
    have hhi' : qv m e * qv mp ep < Top := by
      have : (10 : ℚ) * ((1 + 1 / 2 ^ 53) * (1 + 1 / 2 ^ 53) * (1 + 1 / 2 ^ 53)) < 16 := by norm_num
      linarith only [this, hprodhi, hTop]
    obtain ⟨m', e', hdr, hn1, _, hcr⟩ := hmul hlo' hhi'
    have hm' : m' ≠ 0 := by have := Nat.two_pow_pos b64.mbits; omega
    have hb := round_bounds (cl := 10 / T) (ch := 10) (a := (1 - ε) * (1 - 1 / 2 ^ 53)) (a' := 1 - (ε + 3 / 2 ^ 53))
      (b := (1 + 1 / 2 ^ 53) * (1 + 1 / 2 ^ 53) * (1 + 1 / 2 ^ 53)) (b' := 1 + 5 / 2 ^ 53) h5 (by norm_num) hprodlo hprodhi
      hcr.ge hcr.le (u_sq_lo ε hε) u_quad_hi
    exact ⟨m', e', hdr, hm', hc.round hcp hcr hX hT hδ hu hδ2, hb.1, hb.2⟩
  · intro hlt
    have hVT : qv mt et ≤ qv m e := (lt_q_false b64 v _ m mt e et hd hdt).mp hlt
    have h4 : 1 - (ε + 3 / 2 ^ 53) ≤ (1 - 1 / 2 ^ 53) * (1 - 1 / 2 ^ 53) := by linarith only [hε]
    calc 10 / T * (1 - (ε + 3 / 2 ^ 53)) ≤ 10 / T * ((1 - 1 / 2 ^ 53) * (1 - 1 / 2 ^ 53)) :=
          mul_le_mul_of_nonneg_left h4 h5
      _ = (1 - 1 / 2 ^ 53) * ((1 - 1 / 2 ^ 53) * (10 / T)) := by ring
      _ ≤ qv mt et := htlo
      _ ≤ qv m e := hVT

/-! ## the two loops -/

/-- invariant of either loop after `j` iterations, for the exact input value `x`; `B j` bounds the current value -/
def NormInv (B : Nat → ℚ → Prop) (x : ℚ) (j : Nat) (s : NSt) : Prop :=
  s.2.2.1 = 8 - (j : Int) ∧ (j ≤ 8 → s.2.2.2 = 2 ^ (8 - j)) ∧
  ∃ (m : Nat) (e : Int), decode b64 s.1 = .fin false m e ∧ m ≠ 0 ∧
    Close (5 / 2 * (1 / 2 ^ 53) * (j : ℚ)) (qv m e) (x * (10 : ℚ) ^ (-s.2.1)) ∧ B j (qv m e)

/-- the first loop brings the value below `10^(2^(9−j))` and keeps it above `1 − 3u` -/
def BndA (j : Nat) (q : ℚ) : Prop :=
  1 - 3 / 2 ^ 53 ≤ q ∧ q ≤ (10 : ℚ) ^ (2 ^ (9 - j)) * (1 + 3 / 2 ^ 53 * (j : ℚ))

/-- the second loop brings the value above `10^(1 − 2^(9−j))` and keeps it below `10·(1 + 5u)` -/
def BndB (j : Nat) (q : ℚ) : Prop :=
  10 / (10 : ℚ) ^ (2 ^ (9 - j)) * (1 - 3 / 2 ^ 53 * (j : ℚ)) ≤ q ∧ q ≤ 10 * (1 + 5 / 2 ^ 53)

theorem zpow_neg_add_nat (p : Int) (n : Nat) :
    (10 : ℚ) ^ (-(p + ((n : Nat) : Int))) = (10 : ℚ) ^ (-p) * (1 / 10 : ℚ) ^ n := by
  rw [neg_add, zpow_add₀ (by norm_num : (10 : ℚ) ≠ 0), zpow_neg _ (n : Int), zpow_natCast, one_div_pow, one_div]

theorem zpow_neg_sub_nat (p : Int) (n : Nat) :
    (10 : ℚ) ^ (-(p - ((n : Nat) : Int))) = (10 : ℚ) ^ (-p) * (10 : ℚ) ^ n := by
  rw [neg_sub, show ((n : Nat) : Int) - p = -p + (n : Int) by ring, zpow_add₀ (by norm_num : (10 : ℚ) ≠ 0), zpow_natCast]

/-- the counters of either loop after `i < 9` iterations: table index `k = 8 − i`, bit `2^k`; and after one more -/
theorem norm_counters {i : Nat} {idx : Int} {bit : Nat} (hi : i < 9) (hidx : idx = 8 - (i : Int))
    (hbit : i ≤ 8 → bit = 2 ^ (8 - i)) :
    ∃ k, i + k = 8 ∧ idx ≥ 0 ∧ idx.toNat = k ∧ bit = 2 ^ k ∧
      idx - 1 = 8 - ((i + 1 : Nat) : Int) ∧ (i + 1 ≤ 8 → bit / 2 = 2 ^ (8 - (i + 1))) := by
  have hl : i ≤ 8 ∧ i + (8 - i) = 8 ∧ idx ≥ 0 ∧ idx.toNat = 8 - i ∧
      idx - 1 = 8 - ((i + 1 : Nat) : Int) ∧ (i + 1 ≤ 8 → 8 - i = (8 - (i + 1)) + 1) := by omega
  obtain ⟨h8, h1, h4, h5, h6, h7⟩ := hl
  refine ⟨8 - i, h1, h4, h5, hbit h8, h6, fun h => ?_⟩
  rw [hbit h8, h7 h, Nat.pow_succ, Nat.mul_div_cancel _ (by decide : 0 < 2)]

/-- both error budgets grow linearly in the iteration count -/
theorem mul_cast_succ (c : ℚ) (i : Nat) : c * ((i + 1 : Nat) : ℚ) = c * (i : ℚ) + c := by
  push_cast; ring

/-- One iteration of either loop. With the table index `k = idx ≥ 0` the body tests `test v k`, multiplies by `tbl k` (exactly
    `T (2^k)`) and moves the exponent by `bit = 2^k`; `hmath` is what the step does to the bounds `B`. -/
theorem step_inv {B : Nat → ℚ → Prop} {body : Nat → NSt → Id (ForInStep NSt)} (test : Nat → Nat → Bool) (tbl : Nat → Nat)
    (move : Int → Nat → Int) (T : Nat → ℚ)
    (hbody : ∀ (xx v : Nat) (p idx : Int) (bit : Nat), idx ≥ 0 → body xx (v, p, idx, bit) =
      if test v idx.toNat = true then pure (ForInStep.yield (SF.mul b64 v (tbl idx.toNat), move p bit, idx - 1, bit / 2))
      else pure (ForInStep.yield (v, p, idx - 1, bit / 2)))
    (hT : ∀ (p : Int) (n : Nat), (10 : ℚ) ^ (-(move p n)) = (10 : ℚ) ^ (-p) * T n)
    (hmath : ∀ (i k v m : Nat) (e : Int) (X : ℚ), i + k = 8 → decode b64 v = .fin false m e → m ≠ 0 → 0 < X →
      Close (5 / 2 * (1 / 2 ^ 53) * (i : ℚ)) (qv m e) X → B i (qv m e) →
      (test v k = true → ∃ (m' : Nat) (e' : Int), decode b64 (SF.mul b64 v (tbl k)) = .fin false m' e' ∧ m' ≠ 0 ∧
        Close (5 / 2 * (1 / 2 ^ 53) * ((i + 1 : Nat) : ℚ)) (qv m' e') (X * T (2 ^ k)) ∧ B (i + 1) (qv m' e')) ∧
      (test v k = false → B (i + 1) (qv m e)))
    (x : ℚ) (hx : 0 < x) (i xx : Nat) (b : NSt) (hi : i < 9) (h : NormInv B x i b) :
    ∃ b', body xx b = pure (ForInStep.yield b') ∧ NormInv B x (i + 1) b' := by
  obtain ⟨v, p, idx, bit⟩ := b
  obtain ⟨hidx, hbit, m, e, hd, hm, hc, hB⟩ := h
  simp only at hidx hbit hd hc
  obtain ⟨k, hik, hidx0, htn, hbit', hidx', hbitn⟩ := norm_counters hi hidx hbit
  have hX : 0 < x * (10 : ℚ) ^ (-p) := mul_pos hx (ten_zpow_pos _)
  obtain ⟨h1, h2⟩ := hmath i k v m e (x * (10 : ℚ) ^ (-p)) hik hd hm hX hc hB
  rw [hbody xx v p idx bit hidx0, htn]
  by_cases ht : test v k = true
  · rw [if_pos ht]
    obtain ⟨m', e', hd', hm', hc', hB'⟩ := h1 ht
    refine ⟨_, rfl, hidx', hbitn, m', e', hd', hm', ?_, hB'⟩
    show Close _ _ (x * (10 : ℚ) ^ (-(move p bit)))
    rw [hT, hbit', ← mul_assoc]; exact hc'
  · rw [if_neg ht]
    refine ⟨_, rfl, hidx', hbitn, m, e, hd, hm, ?_, h2 (Bool.eq_false_iff.mpr ht)⟩
    rw [mul_cast_succ]; exact hc.mono hX.le (by norm_num)

theorem bodyA_eq (xx v : Nat) (p idx : Int) (bit : Nat) (h : idx ≥ 0) : bodyA xx (v, p, idx, bit) =
    if SF.ge b64 v (pos64[idx.toNat]!) = true then
      pure (ForInStep.yield (SF.mul b64 v (neg64[idx.toNat]!), p + (bit : Int), idx - 1, bit / 2))
    else pure (ForInStep.yield (v, p, idx - 1, bit / 2)) := by
  unfold bodyA; exact if_pos h

theorem bodyB_eq (xx v : Nat) (p idx : Int) (bit : Nat) (h : idx ≥ 0) : bodyB xx (v, p, idx, bit) =
    if SF.lt b64 v (SF.mul b64 (neg64[idx.toNat]!) JS.ten) = true then
      pure (ForInStep.yield (SF.mul b64 v (pos64[idx.toNat]!), p - (bit : Int), idx - 1, bit / 2))
    else pure (ForInStep.yield (v, p, idx - 1, bit / 2)) := by
  unfold bodyB; exact if_pos h

theorem stepA_bnd (i k v m : Nat) (e : Int) (X : ℚ) (hik : i + k = 8) (hd : decode b64 v = .fin false m e) (hm : m ≠ 0)
    (hX : 0 < X) (hc : Close (5 / 2 * (1 / 2 ^ 53) * (i : ℚ)) (qv m e) X) (hB : BndA i (qv m e)) :
    (SF.ge b64 v (pos64[k]!) = true →
      ∃ (m' : Nat) (e' : Int), decode b64 (SF.mul b64 v (neg64[k]!)) = .fin false m' e' ∧ m' ≠ 0 ∧
        Close (5 / 2 * (1 / 2 ^ 53) * ((i + 1 : Nat) : ℚ)) (qv m' e') (X * (1 / 10 : ℚ) ^ (2 ^ k)) ∧ BndA (i + 1) (qv m' e')) ∧
    (SF.ge b64 v (pos64[k]!) = false → BndA (i + 1) (qv m e)) := by
  obtain ⟨hlo, hhi⟩ := hB
  rw [show 9 - i = k + 1 by omega] at hhi
  have hiq : (i : ℚ) ≤ 8 := by exact_mod_cast (by omega : i ≤ 8)
  obtain ⟨h1, h2⟩ := stepA_math k (by omega) v m e X (5 / 2 * (1 / 2 ^ 53) * (i : ℚ)) (3 / 2 ^ 53 * (i : ℚ))
    hd hm hX (by positivity) (by linarith only [hiq]) (by positivity) (by linarith only [hiq]) hc hhi
  unfold BndA
  rw [show 9 - (i + 1) = k by omega, mul_cast_succ, mul_cast_succ]
  exact ⟨h1, fun hge => ⟨hlo, h2 hge⟩⟩

theorem stepB_bnd (i k v m : Nat) (e : Int) (X : ℚ) (hik : i + k = 8) (hd : decode b64 v = .fin false m e) (hm : m ≠ 0)
    (hX : 0 < X) (hc : Close (5 / 2 * (1 / 2 ^ 53) * (i : ℚ)) (qv m e) X) (hB : BndB i (qv m e)) :
    (SF.lt b64 v (SF.mul b64 (neg64[k]!) JS.ten) = true →
      ∃ (m' : Nat) (e' : Int), decode b64 (SF.mul b64 v (pos64[k]!)) = .fin false m' e' ∧ m' ≠ 0 ∧
        Close (5 / 2 * (1 / 2 ^ 53) * ((i + 1 : Nat) : ℚ)) (qv m' e') (X * (10 : ℚ) ^ (2 ^ k)) ∧ BndB (i + 1) (qv m' e')) ∧
    (SF.lt b64 v (SF.mul b64 (neg64[k]!) JS.ten) = false → BndB (i + 1) (qv m e)) := by
  obtain ⟨hlo, hhi⟩ := hB
  rw [show 9 - i = k + 1 by omega, ten_pow_sq] at hlo
  have hiq : (i : ℚ) ≤ 8 := by exact_mod_cast (by omega : i ≤ 8)
  obtain ⟨h1, h2⟩ := stepB_math k (by omega) v m e X (5 / 2 * (1 / 2 ^ 53) * (i : ℚ)) (3 / 2 ^ 53 * (i : ℚ))
    hd hm hX (by positivity) (by linarith only [hiq]) (by positivity) (by linarith only [hiq]) hc hlo
  unfold BndB
  rw [show 9 - (i + 1) = k by omega, mul_cast_succ, mul_cast_succ]
  exact ⟨h1, fun hlt => ⟨h2 hlt, hhi⟩⟩

theorem loopA_spec (x : ℚ) (hx : 0 < x) (s : NSt) (h : NormInv BndA x 0 s) : NormInv BndA x 9 (loopA s) :=
  range_forIn_idx (NormInv BndA x) 9 bodyA s h
    (step_inv (fun v k => SF.ge b64 v (pos64[k]!)) (fun k => neg64[k]!) (fun p n => p + (n : Int)) (fun n => (1 / 10 : ℚ) ^ n)
      bodyA_eq zpow_neg_add_nat stepA_bnd x hx)

theorem loopB_spec (x : ℚ) (hx : 0 < x) (s : NSt) (h : NormInv BndB x 0 s) : NormInv BndB x 9 (loopB s) :=
  range_forIn_idx (NormInv BndB x) 9 bodyB s h
    (step_inv (fun v k => SF.lt b64 v (SF.mul b64 (neg64[k]!) JS.ten)) (fun k => pos64[k]!) (fun p n => p - (n : Int))
      (fun n => (10 : ℚ) ^ n) bodyB_eq zpow_neg_sub_nat stepB_bnd x hx)

/-! ## `normalize` -/

theorem decode_tenE7 : decode b64 tenE7 = .fin false 5368709120000000 (-29) := by decide +kernel
theorem decode_tenEm5 : decode b64 tenEm5 = .fin false 5902958103587057 (-69) := by decide +kernel
theorem qv_tenE7 : qv 5368709120000000 (-29) = 10 ^ 7 := by unfold qv; norm_num [zpow_neg]
theorem qv_tenEm5 : 1 / 10 ^ 6 < qv 5902958103587057 (-69) ∧ qv 5902958103587057 (-69) < 2 / 10 ^ 5 := by
  unfold qv; constructor <;> norm_num [zpow_neg]

theorem big_num_9 : 2 * (2 : ℚ) ^ ((b64.emax : Int) - b64.bias - 1) ≤ (10 : ℚ) ^ (2 ^ 9) := by
  rw [top_b64]
  simpa using zpow_le_of_nat (a := 2) (b := 10) (p := 1023) (q := 512) (c := 2) (d := 1) (by decide +kernel)

theorem big_num_10 : 10 / (10 : ℚ) ^ (2 ^ 9) ≤ (2 : ℚ) ^ (-1074 : Int) := by
  rw [div_eq_mul_inv]
  simpa using zpow_neg_le_of_nat (a := 2) (b := 10) (p := 1074) (q := 512) (c := 10) (d := 1) (by decide) (by decide)
    (by decide +kernel)

/-- every non-zero finite datum is at least `2^emin` -/
theorem fin_ge_bot (f : Fmt) (b : Nat) (n : Bool) (m : Nat) (e : Int) (h : decode f b = .fin n m e) (hm : m ≠ 0) :
    (2 : ℚ) ^ (emin f) ≤ qv m e := by
  have h1 := (decode_fin_bounds f b n m e h).1
  have hmq : (1 : ℚ) ≤ (m : ℚ) := by exact_mod_cast Nat.pos_of_ne_zero hm
  have h2 : (2 : ℚ) ^ (emin f) ≤ (2 : ℚ) ^ e := zpow_le_zpow_right₀ (by norm_num) h1
  have hp := two_zpow_pos e
  unfold qv
  nlinarith

/-- NORMALIZE. A positive finite binary64 datum `x` is returned unchanged with exponent `0` (then `1e-6 < x < 1e7`), or is
    scaled to `y ∈ [1 − 27u, 10·(1 + 27u)]`, `u = 2^-53`, with `|y − x·10^-p| ≤ 22.5u · x·10^-p` for the returned exponent `p`. -/
theorem normalize_spec (v m : Nat) (e : Int) (hd : decode b64 v = .fin false m e) (hm : m ≠ 0) :
    (normalize v = (v, 0) ∧ 1 / 10 ^ 6 < qv m e ∧ qv m e < 10 ^ 7) ∨
    (∃ (my : Nat) (ey : Int), decode b64 (normalize v).1 = .fin false my ey ∧ my ≠ 0 ∧
      Close (45 / 2 ^ 54) (qv my ey) (qv m e * (10 : ℚ) ^ (-(normalize v).2)) ∧
      1 - 27 / 2 ^ 53 ≤ qv my ey ∧ qv my ey ≤ 10 * (1 + 27 / 2 ^ 53)) := by
  have hx : 0 < qv m e := qv_pos hm e
  have hgt0 : SF.gt b64 v 0 = true := (gt_q b64 v 0 m 0 e _ hd (decode_zero b64 (by decide))).mpr (by unfold qv at *; simpa using hx)
  rw [normalize_eq]
  by_cases h7 : SF.ge b64 v tenE7 = true
  · rw [if_pos h7]
    right
    have hx7 : (10 : ℚ) ^ 7 ≤ qv m e := by
      have := (ge_q b64 v tenE7 m _ e _ hd decode_tenE7).mp h7
      rwa [qv_tenE7] at this
    have h0 : NormInv BndA (qv m e) 0 (v, 0, 8, 256) := by
      refine ⟨by simp, fun _ => by norm_num, m, e, hd, hm, ?_, ?_, ?_⟩
      · simp [Close]
      · linarith
      · have := fin_lt_top64 v false m e hd
        have h9 := big_num_9
        simp only [Nat.sub_zero, Nat.cast_zero, mul_zero, add_zero, mul_one]
        generalize (10 : ℚ) ^ (2 ^ 9) = A at *
        generalize (2 : ℚ) ^ ((b64.emax : Int) - b64.bias - 1) = B at *
        linarith
    obtain ⟨_, _, my, ey, hdy, hmy, hcy, hloy, hhiy⟩ := loopA_spec (qv m e) hx _ h0
    have hle : SF.le b64 (loopA (v, 0, 8, 256)).1 tenEm5 = false := by
      by_contra hc
      have hc' : SF.le b64 (loopA (v, 0, 8, 256)).1 tenEm5 = true := by simpa using hc
      have := (le_q b64 _ tenEm5 my _ ey _ hdy decode_tenEm5).mp hc'
      have h5 := qv_tenEm5.2
      have : (1 : ℚ) - 3 / 2 ^ 53 ≤ 2 / 10 ^ 5 := by linarith
      norm_num at this
    rw [hle, Bool.and_false, if_neg (by simp)]
    refine ⟨my, ey, hdy, hmy, ?_, by linarith, ?_⟩
    · have : (5 / 2 * (1 / 2 ^ 53) * ((9 : Nat) : ℚ)) = 45 / 2 ^ 54 := by norm_num
      rw [this] at hcy; exact hcy
    · have : (10 : ℚ) ^ (2 ^ (9 - 9)) * (1 + 3 / 2 ^ 53 * ((9 : Nat) : ℚ)) = 10 * (1 + 27 / 2 ^ 53) := by norm_num
      rw [this] at hhiy; exact hhiy
  · rw [if_neg h7]
    have hx7 : qv m e < (10 : ℚ) ^ 7 := by
      by_contra hc
      have := (ge_q b64 v tenE7 m _ e _ hd decode_tenE7).mpr (by rw [qv_tenE7]; linarith)
      exact h7 this
    by_cases h5 : SF.le b64 v tenEm5 = true
    · rw [hgt0, h5, Bool.and_self, if_pos rfl]
      right
      have hx5 : qv m e ≤ qv 5902958103587057 (-69) := (le_q b64 v tenEm5 m _ e _ hd decode_tenEm5).mp h5
      have h0 : NormInv BndB (qv m e) 0 (v, 0, 8, 256) := by
        refine ⟨by simp, fun _ => by norm_num, m, e, hd, hm, ?_, ?_, ?_⟩
        · simp [Close]
        · have := fin_ge_bot b64 v false m e hd hm
          have h10 := big_num_10
          rw [show emin b64 = -1074 from by decide] at this
          simp only [Nat.sub_zero, Nat.cast_zero, mul_zero, sub_zero, mul_one]
          generalize (10 : ℚ) ^ (2 ^ 9) = A at *
          generalize (2 : ℚ) ^ (-1074 : Int) = B at *
          linarith
        · have := qv_tenEm5.2
          have h2 : (2 / 10 ^ 5 : ℚ) ≤ 10 * (1 + 5 / 2 ^ 53) := by norm_num
          linarith
      obtain ⟨_, _, my, ey, hdy, hmy, hcy, hloy, hhiy⟩ := loopB_spec (qv m e) hx _ h0
      refine ⟨my, ey, hdy, hmy, ?_, ?_, by linarith⟩
      · have : (5 / 2 * (1 / 2 ^ 53) * ((9 : Nat) : ℚ)) = 45 / 2 ^ 54 := by norm_num
        rw [this] at hcy; exact hcy
      · have : 10 / (10 : ℚ) ^ (2 ^ (9 - 9)) * (1 - 3 / 2 ^ 53 * ((9 : Nat) : ℚ)) = 1 - 27 / 2 ^ 53 := by norm_num
        rw [this] at hloy; exact hloy
    · have h5' : SF.le b64 v tenEm5 = false := by simpa using h5
      rw [h5', Bool.and_false, if_neg (by simp)]
      left
      refine ⟨rfl, ?_, hx7⟩
      have : ¬ qv m e ≤ qv 5902958103587057 (-69) := by
        intro h; exact h5 ((le_q b64 v tenEm5 m _ e _ hd decode_tenEm5).mpr h)
      have := qv_tenEm5.1
      linarith

end C12
