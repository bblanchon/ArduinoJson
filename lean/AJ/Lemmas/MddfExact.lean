/- Stronger invariants of the slot-level MessagePack deserializers `MDDF.run` (filtered, AJ/Model/MDDF.lean) and, through the
   allow-all filter (`.all`), `MDD.run` - the twin of AJ/Lemmas/JddfExact.lean for the StringBuffer path (`MDD.reserve` / `MDD.save`),
   raw values (`.raw node`: bin / ext) and objects that keep repeated keys:
   * (b) `run_bytes_nodup`: no two nodes of the string table hold the same bytes (on every path, failures included);
   * (a) `run_exact`: when no allocation failed, every stored string's reference count is the number of references to it, and ≥ 1;
   * (c) `run_no_leak`: when no allocation failed, every slot that is live in the pools belongs to the layout of the document or
     is an extension slot of one of its values;
   * `run_tight_canon`: ... for the same layout, no extension slot is spent on an integer that fits 32 bits (`DocSize.ExtBig`;
     the step predicate `EB` / `ES` rides along in the same induction because the layout is existentially quantified).
   The operation-level lemmas about `JDDF.Tight` of AJ/Lemmas/JddfExact.lean are reused; the ones that mention the JSON
   StringBuilder's `save` are restated for any `JDD.SaveOp` whose string table stays exact (`tight_save_set`, `tight_addMember`).
   Same one-step equations (AJ/Lemmas/MddStep.lean) as AJ/Lemmas/MddfInv.lean; values without a destination only see
   allocator traffic (`MDDF.parse_none`). -/
import AJ.Lemmas.MddfDStep
import AJ.Lemmas.JddfExact
import AJ.Lemmas.DocSize
namespace MDDF
open DL
open JD (Byte Code Flt)
open JDD (PlEq LBd Fx Blk AllB SaveOp nl Ctx Built isNum SameV)
open MDD (S reserve save readString store fin ROp MRes J)
open JDDF (BN Tight NoLeak TS)
open DocSize (extBigV extBigV_ext ExtBig)

/-! ## (b) distinct nodes hold distinct byte strings -/

theorem bn_save (x : S) (bytes : List Byte) : BN x.d (save x bytes).2.d := by
  intro h
  have h' : BytesNodup (JDD.calm x.d bytes.length) := h
  have := saveString_bytesNodup (s := bytes) h'
  cases hf : x.d.strings.find? (·.bytes == bytes) with
  | some y =>
    have hf' : (JDD.calm x.d bytes.length).strings.find? (·.bytes == bytes) = some y := hf
    rw [saveString_found hf'] at this
    rw [MDD.mp_save_eq_found hf]; exact this
  | none =>
    have hf' : (JDD.calm x.d bytes.length).strings.find? (·.bytes == bytes) = none := hf
    rw [saveString_short hf' (Nat.le_refl _), JDD.calm_failsAt] at this
    simp only [Bool.false_eq_true, if_false] at this
    rw [MDD.mp_save_eq_new hf]; exact this

theorem dstep_bn : DStep BN where
  refl := BN.refl
  trans := BN.trans
  pleq := BN.pleq
  set_bool := fun d l _ => BN.set d l _
  set_f32 := fun d l _ => BN.set d l _
  set_i32 := fun d l _ _ => BN.set d l _
  set_owned := fun d l _ => BN.set d l _
  set_raw := fun d l _ => BN.set d l _
  set_arr := fun d l _ _ => BN.set d l _
  set_obj := fun d l _ _ => BN.set d l _
  setArg := fun _ l a _ h => setArg_bytesNodup l a h
  save := bn_save
  addElement := fun _ l h => addElement_bytesNodup l h
  addMemberNode := fun d l node => BN.of_strings (JDDF.addMemberNode_strings d l node)

/-- (b) for EVERY run (failures included): no two entries of the string table of the result have the same bytes -/
theorem run_bytes_nodup (env : MD.Env) (limit : Nat) (flt : Flt) (d : Doc) (input : List Byte) :
    ((run env limit flt d input).2.1.strings.map (·.bytes)).Nodup := by
  refine mp_run_step dstep_bn env limit flt d input (fun _ _ => BN.of_strings rfl) ?_
  show (d.clearAll.strings.map (·.bytes)).Nodup
  rw [(clearAll_spec d).2.2.2.2.2.1]; exact List.nodup_nil

/-! ## (a), (c): exact reference counts, no leaked slot - `JDDF.Tight` through the StringBuffer's `save` -/

/-- `StringBuffer::save` keeps exact counts exact, with one more reference to the node it returns -/
theorem mp_save_exact (x : S) (bytes : List Byte) {rs : List Nat} (hs : StrOK x.d rs) (he : Exact x.d rs) :
    Exact (save x bytes).2.d ((save x bytes).1 :: rs) := by
  have hs' : StrOK (JDD.calm x.d bytes.length) rs := StrOK_congr (d := x.d) (d' := JDD.calm x.d bytes.length) rfl rfl hs
  have he' : Exact (JDD.calm x.d bytes.length) rs := he
  cases hf : x.d.strings.find? (·.bytes == bytes) with
  | some y =>
    have hf' : (JDD.calm x.d bytes.length).strings.find? (·.bytes == bytes) = some y := hf
    have := saveString_exact hs' he' (saveString_found hf')
    rw [MDD.mp_save_eq_found hf]; exact this
  | none =>
    have hf' : (JDD.calm x.d bytes.length).strings.find? (·.bytes == bytes) = none := hf
    have hsv := saveString_short hf' (Nat.le_refl _)
    rw [JDD.calm_failsAt] at hsv
    simp only [Bool.false_eq_true, if_false] at hsv
    have := saveString_exact hs' he' hsv
    rw [MDD.mp_save_eq_new hf]; exact this

/-- a string or raw value: after a save (`SaveOp` that keeps the table exact) the node is stored on the empty location -/
theorem tight_save_set {x x' : JDD.S} {G : Forest} {l : Loc} {bytes : List Byte} {n : Nat} {v : VData}
    (sv : SaveOp x bytes n x') (hex : Exact x'.d (n :: x.d.strRefs G)) (w : WFG x.d G) (hl : isLoc G l)
    (hnull : x.d.get l = .null) (hvs : strOfV v = [n]) (t : Tight x.d G) : Tight (x'.d.set l v) G := by
  have hc : ∀ j, x'.d.cell j = x.d.cell j := fun j => by simp only [Doc.cell, sv.cells]
  refine ⟨?_, fun i hi => ?_⟩
  · exact set_gen_exact (d1 := x'.d) w hl (by rw [hnull]; rfl) sv.root (fun j _ => hc j) (by rw [hvs]; exact hex)
  · rw [set_g, set_pl, sv.g] at hi
    have hi' : PL.live x.d.g x.d.pl i := (live_congr sv.pools sv.free i).1 hi
    rcases t.noleak i hi' with h1 | ⟨l0, h0, he⟩
    · exact Or.inl h1
    · by_cases e : l0 = l
      · subst e; rw [hnull] at he; cases he
      · refine Or.inr ⟨l0, h0, ?_⟩
        rw [get_set_ne e]
        cases l0 with
        | root => show i ∈ extOfV x'.d.root; rw [sv.root]; exact he
        | slot j => rw [get_of_cell (hc j)]; exact he

/-- the member `(key, null)` appended to the object being built at `l`: from the state before the save to the state after
    `addMember` succeeded (`JDDF.Tight.addMember` for any save operation that keeps the table exact) -/
theorem tight_addMember {d0 : Doc} {F : Forest} {l : Loc} {s : Forest} {x x' : JDD.S} {n h t v k0 : Nat} {d2 : Doc}
    (key : List Byte) (C : Ctx d0 F l) (B : Built d0 F l x.d s) (hv : x.d.get l = .obj h t) (sv : SaveOp x key n x')
    (hex : Exact x.d (x.d.strRefs (replaceAt F l s)) → Exact x'.d (n :: x.d.strRefs (replaceAt F l s)))
    (ham : JDD.addMemberNode x'.d l n = (some v, d2))
    (B2 : Built d0 F l d2 (s.snoc (some k0) v)) (hgv : d2.get (.slot v) = .null) (hgl : ∃ h', d2.get l = .obj h' v)
    (hsame : SameV x'.d d2 s.ids) (hgk : d2.get (.slot k0) = .owned n)
    (hstr : d2.strings = x'.d.strings) (hk0 : k0 ∉ s.ids) (hv0 : v ∉ s.ids)
    (t' : Tight x.d (replaceAt F l s)) : Tight d2 (replaceAt F l (s.snoc (some k0) v)) := by
  obtain ⟨B', _, hget⟩ := B.save C sv
  obtain ⟨h', hgl⟩ := hgl
  have hs : ∀ j ∈ s.ids, d2.get (.slot j) = x.d.get (.slot j) := fun j hj => (hsame j hj).1.trans (hget (.slot j))
  have hmem : ∀ y, y ∈ (s.snoc (some k0) v).ids ↔ y ∈ s.ids ∨ y ∈ [k0, v] := by
    intro y
    rw [Forest.ids_snoc]
    simp only [Forest.keyL, List.cons_append, List.nil_append, List.mem_append, List.mem_cons, List.not_mem_nil, or_false]
  have hnd2 : (s.snoc (some k0) v).ids.Nodup := by
    have := layoutAt_nodup B2.wf.nodup (C.loc' (s.snoc (some k0) v)); rw [C.lay] at this; exact this
  have hk0v : k0 ≠ v := by
    rw [Forest.ids_snoc] at hnd2
    have := (List.nodup_append.1 hnd2).2.1
    simp only [Forest.keyL, List.cons_append, List.nil_append, List.nodup_cons, List.mem_singleton] at this
    exact this.1
  have hle : extOfV (x.d.get l) = [] := by rw [hv]; rfl
  have hk0G2 : k0 ∈ (replaceAt F l (s.snoc (some k0) v)).ids :=
    (C.mem_ids _ k0).2 (Or.inr ((hmem k0).2 (Or.inr (by simp))))
  -- the allocator: two new live slots
  have gS : x'.d.g = x.d.g := sv.g
  have g2 : d2.g = x.d.g := B2.g.trans B.g.symm
  obtain ⟨k, hkv, hlv⟩ := JDDF.addMemberNode_live (B'.gok C) B'.wf.pool ham
  have hlv' : ∀ y, PL.live d2.g d2.pl y ↔ PL.live x.d.g x.d.pl y ∨ y = k ∨ y = v := by
    intro y
    have := hlv y
    rw [gS] at this
    rw [g2, this, live_congr sv.pools sv.free y]
  -- the key slot of the layout is the first of them
  have hkk : k0 = k := by
    rcases (hlv' k0).1 (B2.wf.live k0 hk0G2) with h1 | h1 | h1
    · exfalso
      rcases t'.noleak k0 h1 with h2 | ⟨l0, h0, he⟩
      · rcases (C.mem_ids s k0).1 h2 with h3 | h3
        · exact B2.fresh k0 ((hmem k0).2 (Or.inr (by simp))) h3
        · exact hk0 h3
      · by_cases e' : l0 = l
        · subst e'; rw [hle] at he; cases he
        · have hg0 := JDDF.built_same C B B2 hs l0 h0 e'
          have h0' : l0 ∈ holders (replaceAt F l (s.snoc (some k0) v)) := by
            rcases mem_holders.1 h0 with e1 | ⟨y, hy, e1⟩
            · exact mem_holders.2 (Or.inl e1)
            · refine mem_holders.2 (Or.inr ⟨y, ?_, e1⟩)
              rcases (C.mem_ids s y).1 hy with h3 | h3
              · exact (C.mem_ids _ y).2 (Or.inl h3)
              · exact (C.mem_ids _ y).2 (Or.inr ((hmem y).2 (Or.inl h3)))
          obtain ⟨⟨p, hp⟩, _, _⟩ := B2.wf.ext l0 h0' k0 (by rw [hg0]; exact he)
          exact ext_ne_var hp (B2.wf.isVar k0 hk0G2) rfl
    · exact h1
    · exact absurd h1 hk0v
  refine JDDF.Tight.built_step C B B2 hs (new := [k0, v]) ?_ hmem ?_ ?_ hle (extra := [n]) ?_ t'
    (Exact_congr hstr (hex t'.exact)) ?_
  · simp [hk0v]
  · intro y hy
    simp only [List.mem_cons, List.not_mem_nil, or_false] at hy
    rcases hy with rfl | rfl
    · exact hk0
    · exact hv0
  · rw [hgl, hv]; rfl
  · simp only [List.flatMap_cons, List.flatMap_nil, hgk, hgv, strOfV, List.append_nil]
  · intro y hy
    rcases (hlv' y).1 hy with h1 | h1 | h1
    · exact Or.inl h1
    · exact Or.inr (by rw [h1, ← hkk]; simp)
    · exact Or.inr (by rw [h1]; simp)

/-! ### canonical extension slots -/

/-- the value at `l` and the values of the slots built below it spend no extension slot on a 32-bit integer -/
def EB (d : Doc) (l : Loc) (s : Forest) : Prop :=
  extBigV d (d.get l) = true ∧ ∀ j ∈ s.ids, extBigV d (d.get (.slot j)) = true

/-- the step keeps `EB` -/
def ES (d : Doc) (l : Loc) (sin : Forest) (d' : Doc) (s : Forest) : Prop := EB d l sin → EB d' l s

theorem extBigV_congr {d d' : Doc} {v : VData} (hs : d'.scalar v = d.scalar v) : extBigV d' v = extBigV d v := by
  cases v <;> try rfl
  case i64 s =>
    simp only [Doc.scalar, JD.Val.num.injEq, JD.Num.sint.injEq] at hs
    simp only [extBigV, hs]
  case u64 s =>
    simp only [Doc.scalar, JD.Val.num.injEq, JD.Num.uint.injEq] at hs
    simp only [extBigV, hs]

theorem extBigV_cells {d d' : Doc} (hc : ∀ e, d'.cell e = d.cell e) (v : VData) : extBigV d' v = extBigV d v := by
  have he : ∀ e, d'.extOf e = d.extOf e := fun e => by simp only [Doc.extOf, hc]
  cases v <;> try rfl
  all_goals simp only [extBigV, he]

theorem extBigV_coll {v : VData} (hc : isColl v) (d : Doc) : extBigV d v = true := by
  cases v <;> first | rfl | exact hc.elim

theorem extBigV_noExt {v : VData} (he : extOfV v = []) (d : Doc) : extBigV d v = true := by
  cases v <;> first | rfl | (simp [extOfV] at he)

/-- what was built below the slot `j` of the collection at `l` is plugged into the layout of the collection -/
theorem EB.nest {d0 d1 d2 : Doc} {F : Forest} {l : Loc} {s1 s2 : Forest} {j : Nat} (C : Ctx d0 F l)
    (_B1 : Built d0 F l d1 s1) (B2 : Built d1 (replaceAt F l s1) (.slot j) d2 s2)
    (hl : extBigV d2 (d2.get l) = true) (e1 : EB d1 l s1) (e2 : EB d2 (.slot j) s2) : EB d2 l (s1.replaceSub j s2) := by
  refine ⟨hl, fun x hx => ?_⟩
  rcases JDD.ids_replaceSub_sub j s2 s1 x hx with h | h
  · by_cases e : x = j
    · subst e; exact e2.1
    · have hxc : x ∈ (replaceAt F l s1).ids := (C.mem_ids s1 x).2 (Or.inr h)
      have hne : Loc.slot x ≠ Loc.slot j := fun e' => e (by cases e'; rfl)
      rw [get_of_cell (B2.cells x hxc hne), extBigV_congr (B2.scal x hxc hne)]
      exact e1.2 x h
  · exact e2.2 x h

/-- slots handed out (and nothing else): what was built keeps its values and its extension payloads -/
theorem EB.grow {d0 d d' : Doc} {F : Forest} {l : Loc} {s : Forest} (C : Ctx d0 F l) (B : Built d0 F l d s)
    (hg : Grow d d') (e : EB d l s) : EB d' l s := by
  have key : ∀ l0 ∈ holders (replaceAt F l s), extBigV d (d.get l0) = true → extBigV d' (d'.get l0) = true := by
    intro l0 h0 h
    have hget : d'.get l0 = d.get l0 := by
      rcases mem_holders.1 h0 with e1 | ⟨x, hx, e1⟩
      · subst e1; exact hg.root
      · subst e1; exact get_of_cell (hg.cells x (B.wf.live x hx))
    rw [hget, extBigV_ext (d := d)]
    · exact h
    · intro e he
      simp only [Doc.extOf, hg.cells e (B.wf.ext l0 h0 e he).2.1]
  refine ⟨key l (loc_mem_holders (C.loc' s)) e.1, fun j hj => ?_⟩
  exact key (.slot j) (mem_holders.2 (Or.inr ⟨j, (C.mem_ids s j).2 (Or.inr hj), rfl⟩)) (e.2 j hj)

/-- a failed `addMember(StringNode*)` leaves what was built as it is -/
theorem addMemberNode_none_eb {d0 d : Doc} {F : Forest} {l : Loc} {s : Forest} (node : Nat) (C : Ctx d0 F l)
    (B : Built d0 F l d s) (h : (JDD.addMemberNode d l node).1 = none) : ES d l s (JDD.addMemberNode d l node).2 s := by
  have gok := B.gok C
  rcases JDD.addMemberNode_cases d l node with ⟨d1, hal1, e⟩ | ⟨k, d1, d2, hal1, hal2, e⟩ | ⟨k, d1, v, d2, hal1, hal2, e⟩
  · rw [e]
    exact fun eb => eb.grow C B (allocVariant_none gok B.wf.pool hal1).1
  · rw [e]
    obtain ⟨hg1, _⟩ := allocVariant_some gok B.wf.pool hal1
    have gok1 : PL.GeoOK d1.g := by rw [hg1.g]; exact gok
    exact fun eb => eb.grow C B (hg1.trans (allocVariant_none gok1 hg1.pool hal2).1)
  · rw [e] at h; cases h

/-- a failed `addElement` leaves what was built as it is -/
theorem addElement_none_eb {d0 d d1 : Doc} {F : Forest} {l : Loc} {s : Forest} (C : Ctx d0 F l)
    (B : Built d0 F l d s) (h : d.addElement l = (none, d1)) : ES d l s d1 s := by
  simp only [Doc.addElement] at h
  generalize hal : d.allocVariant = q at h
  obtain ⟨m, da⟩ := q
  cases m with
  | some j => simp at h
  | none =>
    simp only [Prod.mk.injEq, true_and] at h
    subst h
    exact fun eb => eb.grow C B (allocVariant_none (B.gok C) B.wf.pool hal).1

theorem EB.cells {d d' : Doc} {l : Loc} {s : Forest} (hget : ∀ l0, d'.get l0 = d.get l0) (hc : ∀ e, d'.cell e = d.cell e)
    (e : EB d l s) : EB d' l s :=
  ⟨by rw [hget, extBigV_cells hc]; exact e.1, fun j hj => by rw [hget, extBigV_cells hc]; exact e.2 j hj⟩

theorem EB.pleq {d d' : Doc} {l : Loc} {s : Forest} (h : PlEq d d') (e : EB d l s) : EB d' l s :=
  e.cells h.get h.cell

theorem EB.sameV {d d' : Doc} {s : Forest} (h : SameV d d' s.ids) (e : ∀ j ∈ s.ids, extBigV d (d.get (.slot j)) = true) :
    ∀ j ∈ s.ids, extBigV d' (d'.get (.slot j)) = true :=
  fun j hj => by rw [(h j hj).1, extBigV_congr (h j hj).2]; exact e j hj

/-- `setInteger` / `setFloat` on an empty location: an extension slot is only spent on a number that needs it -/
theorem setArg_extBig {d : Doc} {F : Forest} {l : Loc} {a : Arg} (w : WFG d F) (gok : PL.GeoOK d.g) (hl : isLoc F l)
    (hn : d.get l = .null) (ha : isNum a) : extBigV (d.setArg l a).2 ((d.setArg l a).2.get l) = true := by
  have plain : ∀ v, (∀ d', extBigV d' v = true) → extBigV (d.set l v) ((d.set l v).get l) = true :=
    fun v hv => by rw [get_set_self]; exact hv _
  have ext : ∀ (p : Int) (k : Nat → VData), (∀ (d' : Doc) e, d'.extOf e = p → extBigV d' (k e) = true) →
      extBigV (match d.allocExt p with | (some s, d) => (true, d.set l (k s)) | (none, d) => (false, d)).2
        ((match d.allocExt p with | (some s, d) => (true, d.set l (k s)) | (none, d) => (false, d)).2.get l) = true := by
    intro p k hk
    generalize hal : d.allocExt p = r
    obtain ⟨m, d1⟩ := r
    cases m with
    | none =>
      simp only
      have : d1.get l = .null := by
        simp only [Doc.allocExt] at hal
        split at hal
        · simp at hal
        · simp only [Prod.mk.injEq] at hal
          obtain ⟨_, rfl⟩ := hal
          rw [← hn]; exact DocSize.get_of_cells rfl rfl l
      rw [this]; rfl
    | some e =>
      simp only
      obtain ⟨_, _, _, hce, _, _, _, hnl, _⟩ := allocExt_spec w gok hal
      rw [get_set_self]
      refine hk _ e ?_
      have hc : (d1.set l (k e)).cell e = .ext p := by
        cases l with
        | root => exact hce
        | slot j =>
          have hj : j ≠ e := fun e' => hnl (e' ▸ w.live j (isLoc_ids hl))
          rw [cell_set_slot, if_neg hj]; exact hce
      simp only [Doc.extOf, hc]
  cases a with
  | uint v =>
    simp only [Doc.setArg]
    split
    · exact plain _ (fun _ => rfl)
    · rename_i hc
      refine ext v .u64 (fun d' e he => ?_)
      simp only [extBigV, he, Int.toNat_natCast, Bool.not_eq_true', decide_eq_false_iff_not]
      exact hc
  | sint v =>
    simp only [Doc.setArg]
    split
    · exact plain _ (fun _ => rfl)
    · rename_i hc
      refine ext v .i64 (fun d' e he => ?_)
      simp only [extBigV, he, Bool.not_eq_true', decide_eq_false_iff_not]
      exact hc
  | f32 b => exact plain _ (fun _ => rfl)
  | f64 b =>
    simp only [Doc.setArg]
    split
    · exact plain _ (fun _ => rfl)
    · exact ext b .f64 (fun _ _ _ => rfl)
  | null => exact absurd ha (fun h => h)
  | bool _ => exact absurd ha (fun h => h)
  | strLinked _ => exact absurd ha (fun h => h)
  | strCopied _ => exact absurd ha (fun h => h)
  | raw _ => exact absurd ha (fun h => h)

/-! ### the result of a parsing routine with a destination -/

/-- result `(c, x')` of a routine started in `x` (where the layout `sin` had been built at `l`): the invariant, the step
    keeps `Tight` unless an allocation failed, the step keeps the extension slots canonical (`EB`), and the accounting -/
structure XRes (d0 : Doc) (F : Forest) (l : Loc) (x : S) (sin : Forest) (c : Code) (x' : S) : Prop where
  built : ∃ s, Built d0 F l x'.d s ∧ TS x.d (replaceAt F l sin) x'.d (replaceAt F l s) ∧ ES x.d l sin x'.d s
  fx : Fx x.d x.b x'.d x'.b c

theorem XRes.exit {d0 : Doc} {F : Forest} {l : Loc} {x x' : S} {sin s : Forest} {c : Code} (B : Built d0 F l x'.d s)
    (fx : Fx x.d x.b x'.d x'.b c) (ts : TS x.d (replaceAt F l sin) x'.d (replaceAt F l s)) (es : ES x.d l sin x'.d s) :
    XRes d0 F l x sin c x' := ⟨⟨s, B, ts, es⟩, fx⟩

theorem XRes.of_eq {d0 : Doc} {F : Forest} {l : Loc} {x x'' x' : S} {sin : Forest} {c : Code} (hd : x''.d = x.d)
    (hb : x''.b = x.b) (h : XRes d0 F l x'' sin c x') : XRes d0 F l x sin c x' :=
  ⟨by rw [← hd]; exact h.built, by rw [← hd, ← hb]; exact h.fx⟩

theorem XRes.step {d0 : Doc} {F : Forest} {l : Loc} {x x1 x' : S} {sin s1 : Forest} {c : Code}
    (fx : Fx x.d x.b x1.d x1.b .ok) (ts : TS x.d (replaceAt F l sin) x1.d (replaceAt F l s1))
    (es : ES x.d l sin x1.d s1) (h : XRes d0 F l x1 s1 c x') : XRes d0 F l x sin c x' := by
  obtain ⟨s, B, ts2, es2⟩ := h.built
  exact ⟨⟨s, B, ts.trans ts2 h.fx.ovs, fun e => es2 (es e)⟩, fx.trans h.fx⟩

/-- allocator traffic only (a value without a destination): what was built is still there, and still tight -/
theorem NRes.liftX {d0 : Doc} {F : Forest} {l : Loc} {x x' : S} {s : Forest} {c : Code} (B : Built d0 F l x.d s)
    (h : NRes x c x') : XRes d0 F l x s c x' :=
  ⟨⟨s, B.pleq h.pleq, fun _ t => t.pleq h.pleq, fun e => e.pleq h.pleq⟩, h.fx⟩

/-- silent allocator traffic, then the routine -/
theorem XRes.after {d0 : Doc} {F : Forest} {l : Loc} {x x1 x' : S} {s : Forest} {c : Code} (h1 : NRes x .ok x1)
    (h2 : XRes d0 F l x1 s c x') : XRes d0 F l x s c x' :=
  XRes.step h1.fx (fun _ t => t.pleq h1.pleq) (fun e => e.pleq h1.pleq) h2

/-! ### the leaves -/

/-- `setInteger` / `setFloat` on the empty location -/
theorem x_store {d0 : Doc} {F : Forest} {l : Loc} {x : S} (C : Ctx d0 F l) (B : Built d0 F l x.d .nil)
    (hn : x.d.get l = .null) {a : Arg} (ha : isNum a) : XRes d0 F l x .nil (store x l a).1 (store x l a).2 := by
  have R := MDD.store_res C B hn ha
  obtain ⟨b1, _, _, b4, _, _⟩ := B.setArg_num C hn ha
  obtain ⟨w, hs⟩ := B.get_nil C
  refine ⟨⟨.nil, b1, ?_, fun _ => ⟨setArg_extBig w (B.gok C) C.loc hn ha, fun j hj => by cases hj⟩⟩, R.fx⟩
  intro ho t
  have hok : (x.d.setArg l a).1 = true := by
    cases hh : (x.d.setArg l a).1 with
    | true => rfl
    | false => have := b4 hh; rw [show (x.d.setArg l a).2.overflowed = false from ho] at this; cases this
  rw [C.replace_nil] at t ⊢
  exact Tight.setArg_num w hs C.loc hn (B.gok C) ha hok t

/-- a value without resources on the empty location -/
theorem x_plain {d0 : Doc} {F : Forest} {l : Loc} {x : S} (C : Ctx d0 F l) (B : Built d0 F l x.d .nil)
    (hn : x.d.get l = .null) {v : VData} (hv : ¬ isColl v) (he : extOfV v = []) (hst : strOfV v = []) (r : MD.R)
    {c : Code} (hc : c ≠ .noMemory) : XRes d0 F l x .nil c { x with r := r, d := x.d.set l v } := by
  obtain ⟨w, hs⟩ := B.get_nil C
  refine XRes.exit (s := .nil) (B.set_plain C hn hv he hst) ((Fx.set _ _ _ _).code hc) ?_ ?_
  · intro _ t
    rw [C.replace_nil] at t ⊢
    exact t.set_plain w C.loc hn hst
  · refine fun _ => ⟨?_, fun j hj => by cases hj⟩
    rw [show ({ x with r := r, d := x.d.set l v } : S).d = x.d.set l v from rfl, get_set_self]
    exact extBigV_noExt he _

/-- nothing happened to the document -/
theorem x_same {d0 : Doc} {F : Forest} {l : Loc} {x x' : S} {s : Forest} {c : Code} (B : Built d0 F l x.d s)
    (hd : x'.d = x.d) (hb : x'.b = x.b) (hc : c ≠ .noMemory) : XRes d0 F l x s c x' :=
  (NRes.same hd hb hc).liftX B

theorem x_leafInt {d0 : Doc} {F : Forest} {l : Loc} {x : S} (C : Ctx d0 F l) (B : Built d0 F l x.d .nil)
    (hn : x.d.get l = .null) (w c : Nat) : XRes d0 F l x .nil (MDD.leafInt l w c x).1 (MDD.leafInt l w c x).2.1 := by
  unfold MDD.leafInt
  generalize x.r.readBytes w = q
  obtain ⟨o, r⟩ := q
  cases o with
  | none => exact x_same B rfl rfl (by simp [fin])
  | some bs =>
    simp only
    split
    · rename_i n _
      exact XRes.of_eq (x'' := { x with r := r }) rfl rfl (x_store (x := { x with r := r }) C B hn (a := .uint n) trivial)
    · rename_i n _
      exact XRes.of_eq (x'' := { x with r := r }) rfl rfl (x_store (x := { x with r := r }) C B hn (a := .sint n) trivial)
    · exact x_same B rfl rfl (by simp [fin])

theorem x_leafF32 {d0 : Doc} {F : Forest} {l : Loc} {x : S} (C : Ctx d0 F l) (B : Built d0 F l x.d .nil)
    (hn : x.d.get l = .null) : XRes d0 F l x .nil (MDD.leafF32 l x).1 (MDD.leafF32 l x).2.1 := by
  unfold MDD.leafF32
  generalize x.r.readBytes 4 = q
  obtain ⟨o, r⟩ := q
  cases o with
  | none => exact x_same B rfl rfl (by simp [fin])
  | some bs => exact x_plain C B hn (v := .f32 (MD.beNat bs)) (fun h => h) rfl rfl r (by simp [fin])

theorem x_leafF64 {d0 : Doc} {F : Forest} {l : Loc} {x : S} (C : Ctx d0 F l) (B : Built d0 F l x.d .nil)
    (hn : x.d.get l = .null) : XRes d0 F l x .nil (MDD.leafF64 l x).1 (MDD.leafF64 l x).2.1 := by
  unfold MDD.leafF64
  generalize x.r.readBytes 8 = q
  obtain ⟨o, r⟩ := q
  cases o with
  | none => exact x_same B rfl rfl (by simp [fin])
  | some bs =>
    exact XRes.of_eq (x'' := { x with r := r }) rfl rfl
      (x_store (x := { x with r := r }) C B hn (a := .f64 (MD.beNat bs)) trivial)

/-- `save` of the bytes in the buffer, then the store of the node (as a string or as a raw value) -/
theorem x_save_set {d0 : Doc} {F : Forest} {l : Loc} {x : S} (C : Ctx d0 F l) (B : Built d0 F l x.d .nil)
    (hn : x.d.get l = .null) (hb : x.b.isSome = true) (bytes : List Byte) (mk : Nat → VData)
    (hv : ∀ n, ¬ isColl (mk n)) (hve : ∀ n, extOfV (mk n) = []) (hvs : ∀ n, strOfV (mk n) = [n]) {c : Code}
    (hc : c ≠ .noMemory) :
    XRes d0 F l x .nil c { (save x bytes).2 with d := (save x bytes).2.d.set l (mk (save x bytes).1) } := by
  obtain ⟨B2, fx2⟩ := MDD.save_set_res C B hn hb bytes mk hv hve hvs
  obtain ⟨w, hs⟩ := B.get_nil C
  refine XRes.exit (s := .nil) B2 (fx2.code hc) ?_ ?_
  · intro _ t
    rw [C.replace_nil] at t ⊢
    exact tight_save_set (x := J x) (MDD.mp_save_spec x bytes) (mp_save_exact x bytes hs t.exact) w C.loc hn (hvs _) t
  · refine fun _ => ⟨?_, fun j hj => by cases hj⟩
    rw [show ({ (save x bytes).2 with d := (save x bytes).2.d.set l (mk (save x bytes).1) } : S).d =
      (save x bytes).2.d.set l (mk (save x bytes).1) from rfl, get_set_self]
    exact extBigV_noExt (hve _) _

theorem x_leafStr {d0 : Doc} {F : Forest} {l : Loc} {x : S} (env : MD.Env) (C : Ctx d0 F l) (B : Built d0 F l x.d .nil)
    (hn : x.d.get l = .null) (size : Nat) :
    XRes d0 F l x .nil (MDD.leafStr env l size x).1 (MDD.leafStr env l size x).2.1 := by
  unfold MDD.leafStr
  obtain ⟨rs, hbs⟩ := readString_res env x size
  split
  · rename_i bs x1 heq
    rw [heq] at rs hbs
    simp only at rs hbs
    exact XRes.after rs (x_save_set C (B.pleq rs.pleq) ((rs.pleq.get l).trans hn) (hbs trivial) bs VData.owned
      (fun _ h => h) (fun _ => rfl) (fun _ => rfl) (by simp [fin]))
  · rename_i e bs x1 hne heq
    rw [heq] at rs
    exact rs.liftX B

theorem x_leafBin {d0 : Doc} {F : Forest} {l : Loc} {x : S} (env : MD.Env) (C : Ctx d0 F l) (B : Built d0 F l x.d .nil)
    (hn : x.d.get l = .null) (code : Byte) (sb : Nat) (ie : Bool) (hb : List Byte) (size : Nat) :
    XRes d0 F l x .nil (MDD.leafBin env l code sb ie hb size x).1 (MDD.leafBin env l code sb ie hb size x).2.1 := by
  unfold MDD.leafBin
  obtain ⟨ro, hok, hfail⟩ := MDD.mp_reserve_spec env.maxStrLen x (1 + sb + MD.binSize ie size)
  generalize reserve env.maxStrLen x (1 + sb + MD.binSize ie size) = q at ro hok hfail
  obtain ⟨ok, x1⟩ := q
  simp only at ro hok hfail
  have B1 : Built d0 F l x1.d .nil := B.pleq ro.pleq
  have blk : Blk x.d → Blk x1.d := JDD.Blk.of_pleq ro.pleq.pools ro.ovs
  have ts1 : TS x.d (replaceAt F l .nil) x1.d (replaceAt F l .nil) := fun _ t => t.pleq ro.pleq
  have es1 : ES x.d l .nil x1.d .nil := fun e => e.pleq ro.pleq
  cases ok with
  | false =>
    obtain ⟨_, ho⟩ := hfail rfl
    exact XRes.exit B1 (Fx.fail ro.bal ho) ts1 es1
  | true =>
    obtain ⟨hb1, ho⟩ := hok rfl
    have fx1 : Fx x.d x.b x1.d x1.b .ok := ⟨ro.bal, ro.ovs, fun _ => ho, (fun h => by cases h), blk⟩
    simp only
    generalize x1.r.readBytes (MD.binSize ie size) = q
    obtain ⟨o, r⟩ := q
    cases o with
    | none => exact XRes.exit B1 (fx1.code (by simp [fin])) ts1 es1
    | some bs =>
      exact XRes.step fx1 ts1 es1 (XRes.of_eq (x'' := { x1 with r := r }) rfl rfl
        (x_save_set (x := { x1 with r := r }) C B1 ((ro.pleq.get l).trans hn) hb1 (code :: hb ++ bs) VData.raw
          (fun _ h => h) (fun _ => rfl) (fun _ => rfl) (by simp [fin])))

/-! ### the statements, by fuel (with a destination; without one: `MDDF.parse_none`) -/

def XVs (env : MD.Env) (fuel : Nat) : Prop := ∀ (limit : Nat) (flt : Flt) (l : Loc) (x : S) (d0 : Doc) (F : Forest),
  Ctx d0 F l → Built d0 F l x.d .nil → x.d.get l = .null →
    XRes d0 F l x .nil (parseVariant env fuel limit flt (some l) x).1 (parseVariant env fuel limit flt (some l) x).2.1

def XAs (env : MD.Env) (fuel : Nat) : Prop := ∀ (limit : Nat) (ef : Flt) (l : Loc) (n : Nat) (x : S) (d0 : Doc)
  (F s : Forest) (h t : Nat), Ctx d0 F l → Built d0 F l x.d s → x.d.get l = .arr h t →
    XRes d0 F l x s (readArray env fuel limit ef (some l) n x).1 (readArray env fuel limit ef (some l) n x).2

def XOs (env : MD.Env) (fuel : Nat) : Prop := ∀ (limit : Nat) (flt : Flt) (l : Loc) (n : Nat) (x : S) (d0 : Doc)
  (F s : Forest) (h t : Nat), Ctx d0 F l → Built d0 F l x.d s → x.d.get l = .obj h t →
    XRes d0 F l x s (readObject env fuel limit flt (some l) n x).1 (readObject env fuel limit flt (some l) n x).2

/-- parsing into the fresh slot `v` of the collection being built at `l` -/
theorem sub_parse_x {env : MD.Env} {f : Nat} (ihV : XVs env f) {d0 : Doc} {F : Forest} {l : Loc} {x : S} {s : Forest}
    {v : Nat} (limit : Nat) (flt : Flt) (C : Ctx d0 F l) (B : Built d0 F l x.d s) (hv : v ∈ s.locs)
    (hn : x.d.get (.slot v) = .null) :
    (∃ s', Built d0 F l (parseVariant env f limit flt (some (.slot v)) x).2.1.d s' ∧
      TS x.d (replaceAt F l s) (parseVariant env f limit flt (some (.slot v)) x).2.1.d (replaceAt F l s') ∧
      (isColl (x.d.get l) → ES x.d l s (parseVariant env f limit flt (some (.slot v)) x).2.1.d s')) ∧
    (parseVariant env f limit flt (some (.slot v)) x).2.1.d.get l = x.d.get l ∧
    Fx x.d x.b (parseVariant env f limit flt (some (.slot v)) x).2.1.d (parseVariant env f limit flt (some (.slot v)) x).2.1.b
      (parseVariant env f limit flt (some (.slot v)) x).1 := by
  have C1 := B.ctx_in C hv hn
  have R := ihV limit flt (.slot v) x x.d (replaceAt F l s) C1 (JDD.built_start B.wf B.str C1) hn
  obtain ⟨s2, B2, ts, es⟩ := R.built
  obtain ⟨a, b⟩ := B.nest C hv B2
  have hvF : v ∉ F.ids := B.fresh v (s.locs_sub_ids v hv)
  rw [C1.replace_nil, JDD.replaceAt_nest s s2 hvF] at ts
  refine ⟨⟨_, a, ts, fun hc e1 => ?_⟩, b, R.fx⟩
  refine EB.nest C B B2 ?_ e1 (es ⟨by rw [hn]; rfl, fun j hj => by cases hj⟩)
  rw [b]
  exact extBigV_coll hc _

theorem xv_zero (env : MD.Env) : XVs env 0 := by
  intro limit flt l x d0 F C B hn
  simp only [parseVariant]
  exact x_same B rfl rfl (by simp)

theorem xa_zero (env : MD.Env) : XAs env 0 := by
  intro limit ef l n x d0 F s h t C B hn
  simp only [readArray]
  exact x_same B rfl rfl (by simp)

theorem xo_zero (env : MD.Env) : XOs env 0 := by
  intro limit flt l n x d0 F s h t C B hn
  simp only [readObject]
  exact x_same B rfl rfl (by simp)

theorem xv_succ (env : MD.Env) (f : Nat) (ihA : XAs env f) (ihO : XOs env f) : XVs env (f+1) := by
  intro limit flt l x d0 F C B hn
  rw [parseVariant_step]
  generalize x.r.read = rd
  obtain ⟨_ | code, r0⟩ := rd
  · exact x_same B rfl rfl (by simp)
  simp only
  cases MD.classify code r0 with
  | int w c =>
    cases flt.allowValue with
    | false => exact XRes.of_eq (x'' := { x with r := r0 }) rfl rfl ((skipN_res { x with r := r0 } w).liftX B)
    | true => exact XRes.of_eq (x'' := { x with r := r0 }) rfl rfl (x_leafInt (x := { x with r := r0 }) C B hn w c)
  | nil => exact x_same B rfl rfl (by simp [leaf, fin])
  | invalid => exact x_same B rfl rfl (by simp [leaf, fin])
  | bool c =>
    cases flt.allowValue with
    | false => exact x_same B rfl rfl (by simp [leaf, leafSet, gate, fin])
    | true => exact x_plain C B hn (v := .bool (c == 0xc3)) (fun h => h) rfl rfl r0 (by simp [leaf, leafSet, gate, fin])
  | f32 =>
    cases flt.allowValue with
    | false => exact XRes.of_eq (x'' := { x with r := r0 }) rfl rfl ((skipN_res { x with r := r0 } 4).liftX B)
    | true => exact XRes.of_eq (x'' := { x with r := r0 }) rfl rfl (x_leafF32 (x := { x with r := r0 }) C B hn)
  | f64 =>
    cases flt.allowValue with
    | false => exact XRes.of_eq (x'' := { x with r := r0 }) rfl rfl ((skipN_res { x with r := r0 } 8).liftX B)
    | true => exact XRes.of_eq (x'' := { x with r := r0 }) rfl rfl (x_leafF64 (x := { x with r := r0 }) C B hn)
  | fix c =>
    cases flt.allowValue with
    | false => exact x_same B rfl rfl (by simp [leaf, leafSet, gate, fin])
    | true =>
      exact x_plain C B hn (v := .i32 (if c ≥ 0x80 then (c : Int) - 256 else c)) (fun h => h) rfl rfl r0
        (by simp [leaf, leafSet, gate, fin])
  | inc r => exact x_same B rfl rfl (by simp [leaf, fin])
  | arr size r =>
    simp only [leaf, leafArr]
    cases limit with
    | zero => exact x_same B rfl rfl (by simp [leaf, fin])
    | succ limit' =>
      simp only
      cases flt.allowArray with
      | false =>
        simp only [gate_false]
        exact XRes.of_eq (x'' := { x with r := r }) rfl rfl
          ((parse_none env f limit' flt.subIdx size { x with r := r }).2.1.liftX B)
      | true =>
        simp only [gate_true]
        obtain ⟨w, hs⟩ := B.get_nil C
        have B' : Built d0 F l (x.d.set l (.arr x.d.null x.d.null)) .nil := B.set_coll C hn false
        have ts' : TS x.d (replaceAt F l .nil) (x.d.set l (.arr x.d.null x.d.null)) (replaceAt F l .nil) := by
          intro _ t
          rw [C.replace_nil] at t ⊢
          exact t.set_plain w C.loc hn rfl
        exact XRes.step (x1 := { x with r := r, d := x.d.set l (.arr x.d.null x.d.null) }) (Fx.set _ _ _ _) ts'
          (fun _ => ⟨by rw [get_set_self]; rfl, fun j hj => by cases hj⟩)
          (ihA limit' flt.subIdx l size _ d0 F .nil _ _ C B' (get_set_self _ _ _))
  | map size r =>
    simp only [leaf, leafMap]
    cases limit with
    | zero => exact x_same B rfl rfl (by simp [leaf, fin])
    | succ limit' =>
      simp only
      cases flt.allowObject with
      | false =>
        simp only [gate_false]
        exact XRes.of_eq (x'' := { x with r := r }) rfl rfl
          ((parse_none env f limit' flt size { x with r := r }).2.2.liftX B)
      | true =>
        simp only [gate_true]
        obtain ⟨w, hs⟩ := B.get_nil C
        have B' : Built d0 F l (x.d.set l (.obj x.d.null x.d.null)) .nil := B.set_coll C hn true
        have ts' : TS x.d (replaceAt F l .nil) (x.d.set l (.obj x.d.null x.d.null)) (replaceAt F l .nil) := by
          intro _ t
          rw [C.replace_nil] at t ⊢
          exact t.set_plain w C.loc hn rfl
        exact XRes.step (x1 := { x with r := r, d := x.d.set l (.obj x.d.null x.d.null) }) (Fx.set _ _ _ _) ts'
          (fun _ => ⟨by rw [get_set_self]; rfl, fun j hj => by cases hj⟩)
          (ihO limit' flt l size _ d0 F .nil _ _ C B' (get_set_self _ _ _))
  | str size r =>
    cases flt.allowValue with
    | false => exact XRes.of_eq (x'' := { x with r := r }) rfl rfl ((skipN_res { x with r := r } size).liftX B)
    | true => exact XRes.of_eq (x'' := { x with r := r }) rfl rfl (x_leafStr (x := { x with r := r }) env C B hn size)
  | bin sb ie hb size r =>
    cases flt.allowValue with
    | false => exact XRes.of_eq (x'' := { x with r := r }) rfl rfl ((skipN_res { x with r := r } _).liftX B)
    | true =>
      exact XRes.of_eq (x'' := { x with r := r }) rfl rfl
        (x_leafBin (x := { x with r := r }) env C B hn code sb ie hb size)

/-- a skipped element, then the elements that follow it -/
theorem xa_skip {env : MD.Env} {f : Nat} (ihA : XAs env f) (limit : Nat) (ef : Flt) (l : Loc) (n : Nat) (x : S)
    {d0 : Doc} {F s : Forest} {h t : Nat} (C : Ctx d0 F l) (B : Built d0 F l x.d s) (hv : x.d.get l = .arr h t) :
    XRes d0 F l x s
      (match parseVariant env f limit ef none x with
        | (.ok, x, _) => readArray env f limit ef (some l) (n - 1) x
        | (e, x, _) => (e, x)).1
      (match parseVariant env f limit ef none x with
        | (.ok, x, _) => readArray env f limit ef (some l) (n - 1) x
        | (e, x, _) => (e, x)).2 := by
  have pv := (parse_none env f limit ef n x).1
  split
  · rename_i x2 fd heq
    rw [heq] at pv
    exact XRes.after pv (ihA limit ef l (n - 1) x2 d0 F s h t C (B.pleq pv.pleq) ((pv.pleq.get l).trans hv))
  · rename_i e x2 fd hne heq
    rw [heq] at pv
    exact pv.liftX B

theorem xa_succ (env : MD.Env) (f : Nat) (ihV : XVs env f) (ihA : XAs env f) : XAs env (f+1) := by
  intro limit ef l n x d0 F s h t C B hv
  rw [readArray_succ]
  split
  · exact x_same B rfl rfl (by simp)
  cases hb : ef.allow with
  | false =>
    simp only [gate_false, elemSlot_none]
    exact xa_skip ihA limit ef l n x C B hv
  | true =>
    simp only [gate_true, elemSlot]
    generalize heq : x.d.addElement l = q
    obtain ⟨o, d1⟩ := q
    cases o with
    | none =>
      obtain ⟨b1, ho, hnl⟩ := B.addElement_none C heq
      exact XRes.exit b1 (Fx.doc_fail _ hnl ho) (TS.of_ov ho) (addElement_none_eb C B heq)
    | some id =>
      simp only
      obtain ⟨B1, hgn, ⟨h', hgl⟩, hov, hnl, _, _, hbk, hsame⟩ := B.addElement_some C hv heq
      have hloc : id ∈ (s.snoc none id).locs := by rw [Forest.locs_snoc]; simp
      have fx01 : Fx x.d x.b d1 x.b .ok := Fx.doc _ hnl hov hbk
      have ts01 : TS x.d (replaceAt F l s) d1 (replaceAt F l (s.snoc none id)) :=
        fun _ t => Tight.addElement C B hv heq t
      have es01 : ES x.d l s d1 (s.snoc none id) := by
        intro e
        refine ⟨by rw [hgl]; rfl, fun j hj => ?_⟩
        rw [Forest.ids_snoc] at hj
        simp only [Forest.keyL, List.nil_append, List.mem_append, List.mem_singleton] at hj
        rcases hj with hj | rfl
        · exact EB.sameV hsame e.2 j hj
        · rw [hgn]; rfl
      have sp := sub_parse_x ihV limit ef C (x := { x with d := d1 }) B1 hloc hgn
      have hcl : isColl (d1.get l) := by rw [hgl]; trivial
      split
      · rename_i x2 fd heq2
        rw [heq2] at sp
        obtain ⟨⟨s2, B2, ts12, es12⟩, hg2, fx2⟩ := sp
        exact XRes.step (x1 := x2) (fx01.trans fx2) (ts01.trans ts12 fx2.ovs) (fun e => es12 hcl (es01 e))
          (ihA limit ef l (n - 1) x2 d0 F s2 _ _ C B2 (hg2.trans hgl))
      · rename_i e x2 fd hne heq2
        rw [heq2] at sp
        obtain ⟨⟨s2, B2, ts12, es12⟩, _, fx2⟩ := sp
        exact ⟨⟨s2, B2, ts01.trans ts12 fx2.ovs, fun e => es12 hcl (es01 e)⟩, fx01.trans fx2⟩

/-- the value of a skipped member, then the members that follow it -/
theorem xo_skip {env : MD.Env} {f : Nat} (ihO : XOs env f) (limit : Nat) (flt mf : Flt) (l : Loc) (n : Nat) (x : S)
    {d0 : Doc} {F s : Forest} {h t : Nat} (C : Ctx d0 F l) (B : Built d0 F l x.d s) (hv : x.d.get l = .obj h t) :
    XRes d0 F l x s (roVal env f limit flt (some l) n mf none x).1 (roVal env f limit flt (some l) n mf none x).2 := by
  have pv := (parse_none env f limit mf n x).1
  unfold roVal
  split
  · rename_i x2 fd heq
    rw [heq] at pv
    exact XRes.after pv (ihO limit flt l (n - 1) x2 d0 F s h t C (B.pleq pv.pleq) ((pv.pleq.get l).trans hv))
  · rename_i e x2 fd hne heq
    rw [heq] at pv
    exact pv.liftX B

theorem xo_succ (env : MD.Env) (f : Nat) (ihV : XVs env f) (ihO : XOs env f) : XOs env (f+1) := by
  intro limit flt l n x d0 F s h t C B hv
  rw [readObject_succ]
  split
  · exact x_same B rfl rfl (by simp)
  generalize x.r.read = rd
  obtain ⟨_ | code, r0⟩ := rd
  · exact x_same B rfl rfl (by simp)
  simp only
  generalize MD.keyLenOf_d3 code r0 = kl
  obtain ⟨_ | _ | len, r1⟩ := kl
  · exact x_same B rfl rfl (by simp)
  · exact x_same B rfl rfl (by simp)
  simp only
  obtain ⟨rs, hbs⟩ := readString_res env { x with r := r1 } len
  unfold roKey
  split
  · rename_i key x1 heq
    rw [heq] at rs hbs
    have hb1 := hbs rfl
    simp only at rs hb1
    have rs' : NRes x .ok x1 := NRes.of_eq (x'' := { x with r := r1 }) rfl rfl rs
    have B1 : Built d0 F l x1.d s := B.pleq rs'.pleq
    have hv1 : x1.d.get l = .obj h t := (rs'.pleq.get l).trans hv
    refine XRes.after rs' ?_
    cases hb : (flt.subKey key).allow with
    | false =>
      simp only [gate_false, memSlot_none]
      exact xo_skip ihO limit flt _ l n x1 C B1 hv1
    | true =>
      simp only [gate_true, memSlot]
      have sv := MDD.mp_save_spec x1 key
      obtain ⟨B', hp, hget⟩ := B1.save (x := J x1) C sv
      have fxs : Fx x1.d x1.b (save x1 key).2.d (save x1 key).2.b .ok := Fx.save sv hb1
      have hv2 : (save x1 key).2.d.get l = .obj h t := (hget l).trans hv1
      simp only [MDD.J_d] at B' hp hget
      obtain ⟨m1, m2, m3, m4⟩ := B'.addMemberNode C hp hv2
      have tam := fun (v k0 : Nat) (d2 : Doc) => tight_addMember (x := J x1) (x' := J (save x1 key).2) (v := v) (k0 := k0)
        (d2 := d2) key C B1 hv1 sv (fun he => mp_save_exact x1 key B1.str he)
      simp only [MDD.J_d] at tam
      have hcS : ∀ e, (save x1 key).2.d.cell e = x1.d.cell e := fun e => by
        have := sv.cells; simp only [MDD.J_d] at this; simp only [Doc.cell, this]
      have esS : ES x1.d l s (save x1 key).2.d s := fun e => e.cells hget hcS
      have esf := addMemberNode_none_eb (save x1 key).1 C B'
      generalize JDD.addMemberNode (save x1 key).2.d l (save x1 key).1 = r at m1 m2 m3 m4 tam esf
      obtain ⟨o, d2⟩ := r
      cases o with
      | none =>
        simp only
        obtain ⟨a1, a2⟩ := m1 rfl
        exact XRes.exit a1 (fxs.trans (Fx.doc_fail _ m3 a2)) (TS.of_ov a2) (fun e => esf rfl (esS e))
      | some v =>
        simp only
        obtain ⟨k, a1, a2, ⟨h', a3⟩, a4, a5, a6, a7, a8, a9⟩ := m2 v rfl
        have fx02 : Fx x1.d x1.b d2 (save x1 key).2.b .ok := fxs.trans (Fx.doc _ m3 a4 m4)
        have ts02 : TS x1.d (replaceAt F l s) d2 (replaceAt F l (s.snoc (some k) v)) :=
          fun _ t' => tam v k d2 rfl a1 a2 ⟨h', a3⟩ a5 a6 a7 a8 a9 t'
        have es02 : ES x1.d l s d2 (s.snoc (some k) v) := by
          intro e
          have e' := esS e
          refine ⟨by rw [a3]; rfl, fun j hj => ?_⟩
          rw [Forest.ids_snoc] at hj
          simp only [Forest.keyL, List.cons_append, List.nil_append, List.mem_append, List.mem_cons, List.not_mem_nil,
            or_false] at hj
          rcases hj with hj | rfl | rfl
          · exact EB.sameV a5 e'.2 j hj
          · rw [a6]; rfl
          · rw [a2]; rfl
        have hvl : v ∈ (s.snoc (some k) v).locs := by rw [Forest.locs_snoc]; simp
        have sp := sub_parse_x ihV limit (flt.subKey key) C (x := { (save x1 key).2 with d := d2 }) a1 hvl a2
        have hcl : isColl (d2.get l) := by rw [a3]; trivial
        unfold roVal
        split
        · rename_i x3 fd heq3
          rw [heq3] at sp
          obtain ⟨⟨s3, B3, ts23, es23⟩, hg3, fx3⟩ := sp
          exact XRes.step (x1 := x3) (fx02.trans fx3) (ts02.trans ts23 fx3.ovs) (fun e => es23 hcl (es02 e))
            (ihO limit flt l (n - 1) x3 d0 F s3 _ _ C B3 (hg3.trans a3))
        · rename_i e x3 fd hne heq3
          rw [heq3] at sp
          obtain ⟨⟨s3, B3, ts23, es23⟩, _, fx3⟩ := sp
          exact ⟨⟨s3, B3, ts02.trans ts23 fx3.ovs, fun e => es23 hcl (es02 e)⟩, fx02.trans fx3⟩
  · rename_i e key x1 hne heq
    rw [heq] at rs
    have rs' : NRes x e x1 := NRes.of_eq (x'' := { x with r := r1 }) rfl rfl rs
    exact rs'.liftX B

/-- the strengthened invariant through the whole mutual block, for every fuel and every filter -/
theorem x_all (env : MD.Env) : ∀ fuel, XVs env fuel ∧ XAs env fuel ∧ XOs env fuel := by
  intro fuel
  induction fuel with
  | zero => exact ⟨xv_zero env, xa_zero env, xo_zero env⟩
  | succ f ih =>
    obtain ⟨ihV, ihA, ihO⟩ := ih
    exact ⟨xv_succ env f ihA ihO, xa_succ env f ihV ihA, xo_succ env f ihV ihO⟩

/-! ### `run` -/

/-- (a)+(c) with the well-formedness and the canonical use of extension slots, for one and the same layout: when no allocation
    failed, the document `run` returns is well-formed, its reference counts are exact, none of its slots is leaked, and no
    extension slot is spent on an integer that fits 32 bits -/
theorem run_tight_canon (env : MD.Env) (limit : Nat) (flt : Flt) {d : Doc} (input : List Byte) (gok : PL.GeoOK d.g)
    (hp : PL.Inv d.g d.pl) (hov : (run env limit flt d input).2.1.overflowed = false) :
    ∃ F', WFG (run env limit flt d input).2.1 F' ∧
      StrOK (run env limit flt d input).2.1 ((run env limit flt d input).2.1.strRefs F') ∧
      Tight (run env limit flt d input).2.1 F' ∧ ExtBig (run env limit flt d input).2.1 F' := by
  obtain ⟨w, hs, hg, _, hr⟩ := JDD.clearAll_wf gok hp
  have C : Ctx d.clearAll .nil .root := ⟨List.nodup_nil, trivial, rfl, by rw [hg]; exact gok⟩
  have R := (x_all env (2 * input.length + 4)).1 limit flt .root (start d input) d.clearAll .nil C
    (JDD.built_start w hs C) hr
  obtain ⟨s, B, ts, es⟩ := R.built
  rw [run_overflowed] at hov
  have t1 : Tight (stop env limit flt d input).2.1.d (replaceAt .nil .root s) :=
    ts hov (by rw [C.replace_nil]; exact JDDF.clearAll_tight d)
  have e1 : EB (stop env limit flt d input).2.1.d .root s := es ⟨by rw [show (start d input).d.get .root = d.clearAll.root from rfl, hr]; rfl, fun j hj => by cases hj⟩
  have x1 : ExtBig (stop env limit flt d input).2.1.d (replaceAt .nil .root s) := by
    intro l0 h0
    rcases mem_holders.1 h0 with e | ⟨j, hj, e⟩
    · subst e; exact e1.1
    · subst e
      rcases (C.mem_ids s j).1 hj with h | h
      · cases h
      · exact e1.2 j h
  have hpl := (preShrink_pleq env limit flt d input).1
  obtain ⟨w1, s1, _⟩ := hpl.wfg B.wf B.str
  have t2 := t1.pleq hpl
  have x2 : ExtBig (preShrink env limit flt d input) (replaceAt .nil .root s) :=
    DocSize.ExtBig.congr (fun l0 _ => hpl.get l0) (fun _ _ e _ => by simp only [Doc.extOf, hpl.cell]) x1
  rw [run_eq]
  obtain ⟨w2, s2⟩ := JDD.shrink_wf w1 s1
  exact ⟨_, w2, s2, t2.shrink w1.pool, DocSize.ExtBig.congr (fun _ _ => rfl) (fun _ _ _ _ => rfl) x2⟩

theorem run_tight (env : MD.Env) (limit : Nat) (flt : Flt) {d : Doc} (input : List Byte) (gok : PL.GeoOK d.g)
    (hp : PL.Inv d.g d.pl) (hov : (run env limit flt d input).2.1.overflowed = false) :
    ∃ F', WFG (run env limit flt d input).2.1 F' ∧
      StrOK (run env limit flt d input).2.1 ((run env limit flt d input).2.1.strRefs F') ∧
      Tight (run env limit flt d input).2.1 F' := by
  obtain ⟨F', a, b, c, _⟩ := run_tight_canon env limit flt input gok hp hov
  exact ⟨F', a, b, c⟩

/-- (a) runs without allocation failure: every stored string's reference count is the number of references to it, and ≥ 1 -/
theorem run_exact (env : MD.Env) (limit : Nat) (flt : Flt) {d : Doc} (input : List Byte) (gok : PL.GeoOK d.g)
    (hp : PL.Inv d.g d.pl) (hov : (run env limit flt d input).2.1.overflowed = false) :
    ∃ F', WFG (run env limit flt d input).2.1 F' ∧
      StrOK (run env limit flt d input).2.1 ((run env limit flt d input).2.1.strRefs F') ∧
      Exact (run env limit flt d input).2.1 ((run env limit flt d input).2.1.strRefs F') := by
  obtain ⟨F', a, b, c⟩ := run_tight env limit flt input gok hp hov
  exact ⟨F', a, b, c.exact⟩

/-- (c) runs without allocation failure: no leaked slot - every slot that is live in the pools is a slot of the layout of the
    document, or an extension slot (64-bit integer / double payload) of one of its values -/
theorem run_no_leak (env : MD.Env) (limit : Nat) (flt : Flt) {d : Doc} (input : List Byte) (gok : PL.GeoOK d.g)
    (hp : PL.Inv d.g d.pl) (hov : (run env limit flt d input).2.1.overflowed = false) :
    ∃ F', WFG (run env limit flt d input).2.1 F' ∧
      ∀ i, PL.live (run env limit flt d input).2.1.g (run env limit flt d input).2.1.pl i →
        i ∈ F'.ids ∨ ∃ l0 ∈ holders F', i ∈ extOfV ((run env limit flt d input).2.1.get l0) := by
  obtain ⟨F', a, _, c⟩ := run_tight env limit flt input gok hp hov
  exact ⟨F', a, c.noleak⟩

/-- a consequence of (a): a string node exists exactly when some value or key of the document references it -/
theorem run_node_iff_referenced (env : MD.Env) (limit : Nat) (flt : Flt) {d : Doc} (input : List Byte)
    (gok : PL.GeoOK d.g) (hp : PL.Inv d.g d.pl) (hov : (run env limit flt d input).2.1.overflowed = false) :
    ∃ F', WFG (run env limit flt d input).2.1 F' ∧ ∀ m,
      (∃ n ∈ (run env limit flt d input).2.1.strings, n.id = m) ↔ m ∈ (run env limit flt d input).2.1.strRefs F' := by
  obtain ⟨F', a, b, c⟩ := run_tight env limit flt input gok hp hov
  exact ⟨F', a, fun m => node_iff_referenced b c.exact m⟩

end MDDF
