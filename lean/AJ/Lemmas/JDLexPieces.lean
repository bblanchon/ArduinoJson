/- One round of the two lexer loops that look at more than one byte, `skipSpaces` and `parseQuoted`, cut where they
   look at the next byte (as AJ/Lemmas/JDPieces.lean does for the three mutually recursive routines): proofs by
   induction on the fuel go through the pieces and never unfold the whole routine.
   The dispatch on the first byte of a value (`pvTok`, `svTok`, `fvTok`): the five kinds of byte (`tok_cases`), one
   equation per routine and kind, and the table of the three keywords. -/
import AJ.Lemmas.LatchPos
import AJ.Lemmas.JDPieces
namespace JD

/-! ## skipSpaces -/

/-- after a comment -/
def ssK (cfg : Cfg) (f : Nat) (r : Code × St) : Code × St :=
  match r with
  | (.ok, s) => skipSpaces cfg f s
  | r => r

/-- after `/` -/
def ssCmt (cfg : Cfg) (f : Nat) (s : St) : Code × St :=
  let (d, s) := cur s
  if d == 0x2A then ssK cfg f (skipBlock f false (mv s))
  else if d == 0x2F then ssK cfg f (skipLine f s)
  else (.invalid, s)

theorem skipSpaces_succ (cfg : Cfg) (f : Nat) (s : St) :
    skipSpaces cfg (f+1) s =
      if (cur s).1 == 0 then ((if (cur s).2.found then .incomplete else .empty), (cur s).2)
      else if isWs (cur s).1 then skipSpaces cfg f (mv (cur s).2)
      else if cfg.comments && (cur s).1 == 0x2F then ssCmt cfg f (mv (cur s).2)
      else (.ok, { (cur s).2 with found := true }) := by
  simp only [skipSpaces, ssCmt, ssK]
  rfl

theorem ssK_ok (cfg : Cfg) (f : Nat) (s : St) : ssK cfg f (.ok, s) = skipSpaces cfg f s := rfl

theorem ssK_err (cfg : Cfg) (f : Nat) {c : Code} (s : St) (h : c ≠ .ok) : ssK cfg f (c, s) = (c, s) := by
  cases c <;> first | exact absurd rfl h | rfl

/-! ## parseQuoted -/

/-- Whatever the code unit, the loop goes on; only the buffer and the pending surrogate depend on it. -/
theorem pqHex_ok (cfg : Cfg) (stop : Byte) (f : Nat) (acc : List Byte) (hi cu : Nat) :
    ∃ acc' hi', ∀ s, pqHex cfg stop f acc hi (.ok, cu, s) = parseQuoted cfg stop f acc' hi' s := by
  by_cases h1 : (0xD800 ≤ cu && cu < 0xDC00) = true
  · exact ⟨_, _, fun _ => if_pos h1⟩
  · by_cases h2 : (0xDC00 ≤ cu && cu < 0xE000) = true
    · exact ⟨_, _, fun _ => (if_neg h1).trans (if_pos h2)⟩
    · exact ⟨_, _, fun _ => (if_neg h1).trans (if_neg h2)⟩

theorem pqHex_err (cfg : Cfg) (stop : Byte) (f : Nat) (acc : List Byte) (hi : Nat) {c : Code} (cu : Nat) (s : St)
    (h : c ≠ .ok) : pqHex cfg stop f acc hi (c, cu, s) = (c, acc.reverse, s) := by
  cases c <;> first | exact absurd rfl h | rfl

theorem pqEsc_eq (cfg : Cfg) (stop : Byte) (f : Nat) (acc : List Byte) (hi : Nat) (s : St) :
    pqEsc cfg stop f acc hi s =
      if (cur s).1 == 0 then (.incomplete, acc.reverse, (cur s).2)
      else if (cur s).1 == 0x75 then
        if cfg.decodeUnicode then pqHex cfg stop f acc hi (parseHex4 4 0 (mv (cur s).2))
        else parseQuoted cfg stop f (0x5C :: acc) hi (cur s).2
      else if unescapeChar (cur s).1 == 0 then (.invalid, acc.reverse, (cur s).2)
      else parseQuoted cfg stop f (unescapeChar (cur s).1 :: acc) hi (mv (cur s).2) := by
  rfl

/-! ## the dispatch on the first byte of a value -/

theorem pvTok_eq (cfg : Cfg) (f L : Nat) (s : St) : pvTok cfg f L s =
    if (cur s).1 == 0x5B then
      match L with
      | 0 => (.tooDeep, .arr [], (cur s).2)
      | L'+1 => pvArr cfg f L' (skipSpaces cfg (f+1) (mv (cur s).2))
    else if (cur s).1 == 0x7B then
      match L with
      | 0 => (.tooDeep, .obj [], (cur s).2)
      | L'+1 => pvObj cfg f L' (skipSpaces cfg (f+1) (mv (cur s).2))
    else if (cur s).1 == 0x22 || (cur s).1 == 0x27 then pvStr (parseQuoted cfg (cur s).1 (f+1) [] 0 (mv (cur s).2))
    else if (cur s).1 == 0x74 then
      match skipKeyword "true".toUTF8.toList (cur s).2 with | (e, s) => (e, .bool true, s)
    else if (cur s).1 == 0x66 then
      match skipKeyword "false".toUTF8.toList (cur s).2 with | (e, s) => (e, .bool false, s)
    else if (cur s).1 == 0x6E then
      match skipKeyword "null".toUTF8.toList (cur s).2 with | (e, s) => (e, .null, s)
    else parseNumeric cfg (cur s).2 := rfl

theorem svTok_eq (cfg : Cfg) (f L : Nat) (s : St) : svTok cfg f L s =
    if (cur s).1 == 0x5B then
      match L with
      | 0 => (.tooDeep, (cur s).2)
      | L'+1 => skipElems cfg f L' (mv (cur s).2)
    else if (cur s).1 == 0x7B then
      match L with
      | 0 => (.tooDeep, (cur s).2)
      | L'+1 => svObj cfg f L' (skipSpaces cfg (f+1) (mv (cur s).2))
    else if (cur s).1 == 0x22 || (cur s).1 == 0x27 then skipQuoted (cur s).1 (f+1) (mv (cur s).2)
    else if (cur s).1 == 0x74 then skipKeyword "true".toUTF8.toList (cur s).2
    else if (cur s).1 == 0x66 then skipKeyword "false".toUTF8.toList (cur s).2
    else if (cur s).1 == 0x6E then skipKeyword "null".toUTF8.toList (cur s).2
    else (.ok, skipNumeric cfg (f+1) (cur s).2) := rfl

theorem fvTok_eq (cfg : Cfg) (f L : Nat) (flt : Flt) (s : St) : fvTok cfg f L flt s =
    if (cur s).1 == 0x5B then
      if flt.allowArray then
        match L with
        | 0 => (.tooDeep, .arr [], (cur s).2)
        | L'+1 => fvArr cfg f L' flt.subIdx (skipSpaces cfg (f+1) (mv (cur s).2))
      else
        match L with
        | 0 => (.tooDeep, .null, (cur s).2)
        | L'+1 => dropVal (skipElems cfg f L' (mv (cur s).2))
    else if (cur s).1 == 0x7B then
      if flt.allowObject then
        match L with
        | 0 => (.tooDeep, .obj [], (cur s).2)
        | L'+1 => fvObj cfg f L' flt (skipSpaces cfg (f+1) (mv (cur s).2))
      else
        match L with
        | 0 => (.tooDeep, .null, (cur s).2)
        | L'+1 => fvObjSkip cfg f L' (skipSpaces cfg (f+1) (mv (cur s).2))
    else if (cur s).1 == 0x22 || (cur s).1 == 0x27 then
      if flt.allowValue then pvStr (parseQuoted cfg (cur s).1 (f+1) [] 0 (mv (cur s).2))
      else dropVal (skipQuoted (cur s).1 (f+1) (mv (cur s).2))
    else if (cur s).1 == 0x74 then
      match skipKeyword "true".toUTF8.toList (cur s).2 with
      | (e, s) => (e, (if flt.allowValue then .bool true else .null), s)
    else if (cur s).1 == 0x66 then
      match skipKeyword "false".toUTF8.toList (cur s).2 with
      | (e, s) => (e, (if flt.allowValue then .bool false else .null), s)
    else if (cur s).1 == 0x6E then
      match skipKeyword "null".toUTF8.toList (cur s).2 with | (e, s) => (e, .null, s)
    else if flt.allowValue then parseNumeric cfg (cur s).2
    else (.ok, .null, skipNumeric cfg (f+1) (cur s).2) := rfl

/-- the five kinds of first byte -/
theorem tok_cases (c : Byte) : c = 0x5B ∨ c = 0x7B ∨ (c = 0x22 ∨ c = 0x27) ∨ (c = 0x74 ∨ c = 0x66 ∨ c = 0x6E) ∨
    (c ≠ 0x5B ∧ c ≠ 0x7B ∧ c ≠ 0x22 ∧ c ≠ 0x27 ∧ c ≠ 0x74 ∧ c ≠ 0x66 ∧ c ≠ 0x6E) := by
  by_cases h1 : c = 0x5B
  · exact .inl h1
  by_cases h2 : c = 0x7B
  · exact .inr (.inl h2)
  by_cases h3 : c = 0x22
  · exact .inr (.inr (.inl (.inl h3)))
  by_cases h4 : c = 0x27
  · exact .inr (.inr (.inl (.inr h4)))
  by_cases h5 : c = 0x74
  · exact .inr (.inr (.inr (.inl (.inl h5))))
  by_cases h6 : c = 0x66
  · exact .inr (.inr (.inr (.inl (.inr (.inl h6)))))
  by_cases h7 : c = 0x6E
  · exact .inr (.inr (.inr (.inl (.inr (.inr h7)))))
  exact .inr (.inr (.inr (.inr ⟨h1, h2, h3, h4, h5, h6, h7⟩)))

section
variable {cfg : Cfg} {f : Nat} {s : St}

theorem pvTok_arr0 (h : (cur s).1 = 0x5B) : pvTok cfg f 0 s = (.tooDeep, .arr [], (cur s).2) := by
  rw [pvTok_eq, h]; rfl
theorem pvTok_arr {L' : Nat} (h : (cur s).1 = 0x5B) :
    pvTok cfg f (L'+1) s = pvArr cfg f L' (skipSpaces cfg (f+1) (mv (cur s).2)) := by
  rw [pvTok_eq, h]; rfl
theorem pvTok_obj0 (h : (cur s).1 = 0x7B) : pvTok cfg f 0 s = (.tooDeep, .obj [], (cur s).2) := by
  rw [pvTok_eq, h]; rfl
theorem pvTok_obj {L' : Nat} (h : (cur s).1 = 0x7B) :
    pvTok cfg f (L'+1) s = pvObj cfg f L' (skipSpaces cfg (f+1) (mv (cur s).2)) := by
  rw [pvTok_eq, h]; rfl
theorem pvTok_str {L : Nat} (h : (cur s).1 = 0x22 ∨ (cur s).1 = 0x27) :
    pvTok cfg f L s = pvStr (parseQuoted cfg (cur s).1 (f+1) [] 0 (mv (cur s).2)) := by
  rcases h with h | h
  · rw [pvTok_eq, h]; rfl
  · rw [pvTok_eq, h]; rfl
theorem pvTok_num {L : Nat} (h : (cur s).1 ≠ 0x5B ∧ (cur s).1 ≠ 0x7B ∧ (cur s).1 ≠ 0x22 ∧ (cur s).1 ≠ 0x27 ∧
    (cur s).1 ≠ 0x74 ∧ (cur s).1 ≠ 0x66 ∧ (cur s).1 ≠ 0x6E) : pvTok cfg f L s = parseNumeric cfg (cur s).2 := by
  obtain ⟨h1, h2, h3, h4, h5, h6, h7⟩ := h
  rw [pvTok_eq]
  simp only [beq_iff_eq, Bool.or_eq_true, h1, h2, h3, h4, h5, h6, h7, or_self, if_false]

/-! the skipping and the filtered dispatch, one equation per kind -/

theorem svTok_arr0 (h : (cur s).1 = 0x5B) : svTok cfg f 0 s = (.tooDeep, (cur s).2) := by
  rw [svTok_eq, h]; rfl
theorem svTok_arr {L' : Nat} (h : (cur s).1 = 0x5B) : svTok cfg f (L'+1) s = skipElems cfg f L' (mv (cur s).2) := by
  rw [svTok_eq, h]; rfl
theorem svTok_obj0 (h : (cur s).1 = 0x7B) : svTok cfg f 0 s = (.tooDeep, (cur s).2) := by
  rw [svTok_eq, h]; rfl
theorem svTok_obj {L' : Nat} (h : (cur s).1 = 0x7B) :
    svTok cfg f (L'+1) s = svObj cfg f L' (skipSpaces cfg (f+1) (mv (cur s).2)) := by
  rw [svTok_eq, h]; rfl
theorem svTok_str {L : Nat} (h : (cur s).1 = 0x22 ∨ (cur s).1 = 0x27) :
    svTok cfg f L s = skipQuoted (cur s).1 (f+1) (mv (cur s).2) := by
  rcases h with h | h
  · rw [svTok_eq, h]; rfl
  · rw [svTok_eq, h]; rfl
theorem svTok_kw {L : Nat} (h : (cur s).1 = 0x74 ∨ (cur s).1 = 0x66 ∨ (cur s).1 = 0x6E) :
    ∃ ks, svTok cfg f L s = skipKeyword ks (cur s).2 := by
  rcases h with h | h | h
  · exact ⟨_, by rw [svTok_eq, h]; rfl⟩
  · exact ⟨_, by rw [svTok_eq, h]; rfl⟩
  · exact ⟨_, by rw [svTok_eq, h]; rfl⟩
theorem svTok_num {L : Nat} (h : (cur s).1 ≠ 0x5B ∧ (cur s).1 ≠ 0x7B ∧ (cur s).1 ≠ 0x22 ∧ (cur s).1 ≠ 0x27 ∧
    (cur s).1 ≠ 0x74 ∧ (cur s).1 ≠ 0x66 ∧ (cur s).1 ≠ 0x6E) :
    svTok cfg f L s = (.ok, skipNumeric cfg (f+1) (cur s).2) := by
  obtain ⟨h1, h2, h3, h4, h5, h6, h7⟩ := h
  rw [svTok_eq]
  simp only [beq_iff_eq, Bool.or_eq_true, h1, h2, h3, h4, h5, h6, h7, or_self, if_false]

variable {flt : Flt}

theorem fvTok_arr0 (h : (cur s).1 = 0x5B) :
    fvTok cfg f 0 flt s = (.tooDeep, (if flt.allowArray then .arr [] else .null), (cur s).2) := by
  rw [fvTok_eq, h]; cases flt.allowArray <;> rfl
theorem fvTok_arr {L' : Nat} (h : (cur s).1 = 0x5B) : fvTok cfg f (L'+1) flt s =
    if flt.allowArray then fvArr cfg f L' flt.subIdx (skipSpaces cfg (f+1) (mv (cur s).2))
    else dropVal (skipElems cfg f L' (mv (cur s).2)) := by
  rw [fvTok_eq, h]; rfl
theorem fvTok_obj0 (h : (cur s).1 = 0x7B) :
    fvTok cfg f 0 flt s = (.tooDeep, (if flt.allowObject then .obj [] else .null), (cur s).2) := by
  rw [fvTok_eq, h]; cases flt.allowObject <;> rfl
theorem fvTok_obj {L' : Nat} (h : (cur s).1 = 0x7B) : fvTok cfg f (L'+1) flt s =
    if flt.allowObject then fvObj cfg f L' flt (skipSpaces cfg (f+1) (mv (cur s).2))
    else fvObjSkip cfg f L' (skipSpaces cfg (f+1) (mv (cur s).2)) := by
  rw [fvTok_eq, h]; rfl
theorem fvTok_str {L : Nat} (h : (cur s).1 = 0x22 ∨ (cur s).1 = 0x27) : fvTok cfg f L flt s =
    if flt.allowValue then pvStr (parseQuoted cfg (cur s).1 (f+1) [] 0 (mv (cur s).2))
    else dropVal (skipQuoted (cur s).1 (f+1) (mv (cur s).2)) := by
  rcases h with h | h
  · rw [fvTok_eq, h]; rfl
  · rw [fvTok_eq, h]; rfl
theorem fvTok_kw {L : Nat} (h : (cur s).1 = 0x74 ∨ (cur s).1 = 0x66 ∨ (cur s).1 = 0x6E) :
    ∃ ks v, fvTok cfg f L flt s = ((skipKeyword ks (cur s).2).1, v, (skipKeyword ks (cur s).2).2) := by
  rcases h with h | h | h
  · exact ⟨_, _, by rw [fvTok_eq, h]; rfl⟩
  · exact ⟨_, _, by rw [fvTok_eq, h]; rfl⟩
  · exact ⟨_, _, by rw [fvTok_eq, h]; rfl⟩
theorem fvTok_num {L : Nat} (h : (cur s).1 ≠ 0x5B ∧ (cur s).1 ≠ 0x7B ∧ (cur s).1 ≠ 0x22 ∧ (cur s).1 ≠ 0x27 ∧
    (cur s).1 ≠ 0x74 ∧ (cur s).1 ≠ 0x66 ∧ (cur s).1 ≠ 0x6E) : fvTok cfg f L flt s =
    if flt.allowValue then parseNumeric cfg (cur s).2 else (.ok, .null, skipNumeric cfg (f+1) (cur s).2) := by
  obtain ⟨h1, h2, h3, h4, h5, h6, h7⟩ := h
  rw [fvTok_eq]
  simp only [beq_iff_eq, Bool.or_eq_true, h1, h2, h3, h4, h5, h6, h7, or_self, if_false]

end

/-- the keywords: first byte, the bytes after it, value -/
def keywords : List (Byte × List Byte × Val) :=
  [(0x74, [0x72, 0x75, 0x65], .bool true), (0x66, [0x61, 0x6C, 0x73, 0x65], .bool false), (0x6E, [0x75, 0x6C, 0x6C], .null)]

theorem keywords_cases {k : Byte} {ks : List Byte} {v : Val} (h : (k, ks, v) ∈ keywords) :
    (k = 0x74 ∧ ks = [0x72, 0x75, 0x65] ∧ v = .bool true) ∨ (k = 0x66 ∧ ks = [0x61, 0x6C, 0x73, 0x65] ∧ v = .bool false) ∨
      (k = 0x6E ∧ ks = [0x75, 0x6C, 0x6C] ∧ v = .null) := by
  simpa only [keywords, List.mem_cons, Prod.mk.injEq, List.not_mem_nil, or_false] using h

/-- The three keywords are handled alike: the keyword is skipped (the state is latched on its first byte), the value
    is fixed by that byte. -/
theorem pvTok_keyword {k : Byte} {ks : List Byte} {v : Val} (hk : (k, ks, v) ∈ keywords) {cfg : Cfg} {f L : Nat} {s : St}
    (h : (cur s).1 = k) : pvTok cfg f L s = ((skipKeyword (k :: ks) (cur s).2).1, v, (skipKeyword (k :: ks) (cur s).2).2) := by
  rcases keywords_cases hk with ⟨rfl, rfl, rfl⟩ | ⟨rfl, rfl, rfl⟩ | ⟨rfl, rfl, rfl⟩
  · rw [pvTok_eq, h, kw_true]; rfl
  · rw [pvTok_eq, h, kw_false]; rfl
  · rw [pvTok_eq, h, kw_null]; rfl

theorem pvTok_kw {c : Byte} (hc : c = 0x74 ∨ c = 0x66 ∨ c = 0x6E) : ∃ ks v, (c, ks, v) ∈ keywords ∧ ∀ cfg f L s,
    (cur s).1 = c → pvTok cfg f L s = ((skipKeyword (c :: ks) (cur s).2).1, v, (skipKeyword (c :: ks) (cur s).2).2) := by
  have : ∃ ks v, (c, ks, v) ∈ keywords := by
    rcases hc with rfl | rfl | rfl
    · exact ⟨_, _, .head _⟩
    · exact ⟨_, _, .tail _ (.head _)⟩
    · exact ⟨_, _, .tail _ (.tail _ (.head _))⟩
  obtain ⟨ks, v, hk⟩ := this
  exact ⟨ks, v, hk, fun _ _ _ _ h => pvTok_keyword hk h⟩

/-! ## a routine that starts with `current()` does not see whether the byte was already latched -/

theorem skipSpaces_cur_d1 (cfg : Cfg) (f : Nat) (s : St) : skipSpaces cfg (f+1) (cur s).2 = skipSpaces cfg (f+1) s := by
  rw [skipSpaces_succ, skipSpaces_succ, cur_cur]
theorem ssCmt_cur (cfg : Cfg) (f : Nat) (s : St) : ssCmt cfg f (cur s).2 = ssCmt cfg f s := by
  simp only [ssCmt, cur_cur]
theorem parseQuoted_cur (cfg : Cfg) (stop : Byte) (f : Nat) (acc : List Byte) (hi : Nat) (s : St) :
    parseQuoted cfg stop (f+1) acc hi (cur s).2 = parseQuoted cfg stop (f+1) acc hi s := by
  rw [parseQuoted_succ, parseQuoted_succ, cur_cur]
theorem pqEsc_cur (cfg : Cfg) (stop : Byte) (f : Nat) (acc : List Byte) (hi : Nat) (s : St) :
    pqEsc cfg stop f acc hi (cur s).2 = pqEsc cfg stop f acc hi s := by
  simp only [pqEsc, cur_cur]
theorem pvTok_cur (cfg : Cfg) (f L : Nat) (s : St) : pvTok cfg f L (cur s).2 = pvTok cfg f L s := by
  rw [pvTok_eq, pvTok_eq, cur_cur]
theorem pmKey_cur (cfg : Cfg) (f : Nat) (s : St) : pmKey cfg f (cur s).2 = pmKey cfg f s := by
  simp only [pmKey, cur_cur]

end JD
