/- Soundness of the JSON deserializer model w.r.t. the dialect specification `Spec.Dialect`:
   whenever a routine returns `Ok`, the bytes it consumed form a phrase of the grammar.

   `Rem s r`: the state `s` stands in front of the remaining text `r` (the latched byte, if it is a real input byte,
   counts as not yet consumed). The relation is used as a ghost: every routine maps `Rem s r` to `Rem s' r'` with
   `r = consumed ++ r'`. -/
import AJ.Spec.Dialect
import AJ.Lemmas.Latch
import AJ.Lemmas.Bits
import AJ.Lemmas.Quoted
import AJ.Lemmas.LatchPos
import AJ.Lemmas.JDLexPieces
import AJ.Lemmas.DialectFound
set_option linter.unusedSimpArgs false
set_option linter.unusedVariables false
namespace JD
open Spec.Dialect

inductive Rem (s : St) : List Byte → Prop
  | un : s.l.loaded = false → Rem s s.l.unread
  | ld : s.l.loaded = true → Rem s (s.l.cur :: s.l.unread)
  | eof : s.l.loaded = true → s.l.cur = 0 → s.l.unread = [] → Rem s []

theorem Rem.look {s : St} {r : List Byte} (h : Rem s r) :
    Rem (cur s).2 r ∧ (cur s).2.l.loaded = true ∧ (cur s).1 = r.headD 0 ∧ (cur s).2.l.cur = r.headD 0 ∧
      (cur s).2.found = s.found := by
  cases h with
  | un h1 =>
    cases h2 : s.l.unread with
    | nil => rw [cur_nil h1 h2]; exact ⟨Rem.eof rfl rfl h2, rfl, rfl, rfl, rfl⟩
    | cons c cs => rw [cur_cons h1 h2]; exact ⟨Rem.ld rfl, rfl, rfl, rfl, rfl⟩
  | ld h1 => rw [cur_loaded h1]; exact ⟨.ld h1, h1, rfl, rfl, rfl⟩
  | eof h1 h2 h3 => rw [cur_loaded h1]; exact ⟨.eof h1 h2 h3, h1, h2, h2, rfl⟩

theorem Rem.move {s : St} {c : Byte} {rest : List Byte} (h : Rem s (c :: rest)) (hl : s.l.loaded = true) :
    Rem (mv s) rest := by
  generalize hr : c :: rest = r at h
  cases h with
  | un h1 => rw [h1] at hl; cases hl
  | ld h1 =>
    have := (List.cons.inj hr).2
    rw [this]
    exact Rem.un rfl
  | eof _ _ _ => cases hr

theorem Rem.setFound {s : St} {r : List Byte} {b : Bool} (h : Rem s r) : Rem { s with found := b } r := by
  cases h with
  | un h1 => exact Rem.un h1
  | ld h1 => exact Rem.ld h1
  | eof h1 h2 h3 => exact Rem.eof h1 h2 h3

/-- `current()` saw a byte that is not the end marker: it is the head of the remaining text; after `move()` the
    tail remains -/
theorem Rem.step {s : St} {r : List Byte} (h : Rem s r) (hc : (cur s).1 ≠ 0) :
    ∃ t, r = (cur s).1 :: t ∧ Rem (mv (cur s).2) t := by
  obtain ⟨h1, h2, h3, _, _⟩ := h.look
  cases r with
  | nil => exact absurd h3 hc
  | cons d rest =>
    have : (cur s).1 = d := h3
    exact ⟨rest, by rw [this], Rem.move h1 h2⟩

theorem Rem.loaded_cur {s : St} {r : List Byte} (h : Rem s r) (hl : s.l.loaded = true) : s.l.cur = r.headD 0 := by
  cases h with
  | un h1 => rw [h1] at hl; cases hl
  | ld _ => rfl
  | eof _ h2 _ => exact h2

theorem Rem.exists (s : St) : ∃ r, Rem s r := by
  cases h : s.l.loaded
  · exact ⟨_, Rem.un h⟩
  · exact ⟨_, Rem.ld h⟩

theorem beq_false_ne {a b : Byte} (h : (a == b) = false) : a ≠ b := by simpa using h
theorem not_beq_ne {a b : Byte} (h : ¬ (a == b) = true) : a ≠ b := by simpa using h

/-! ## comments and white space -/

theorem skipBlock_sound : ∀ (fuel : Nat) (star : Bool) (s : St) (r : List Byte) (s' : St), Rem s r →
    skipBlock fuel star s = (.ok, s') → ∃ b r', r = b ++ r' ∧ Block star b ∧ Rem s' r' := by
  intro fuel
  induction fuel with
  | zero => intro star s r s' _ h; simp [skipBlock] at h
  | succ n ih =>
    intro star s r s' hr h
    simp only [skipBlock] at h
    split at h
    · cases h
    · rename_i h0
      obtain ⟨t, e1, e2⟩ := hr.step (not_beq_ne h0)
      split at h
      · rename_i h1
        simp only [Bool.and_eq_true, beq_iff_eq] at h1
        have hs : s' = mv (cur s).2 := by injection h with _ h; exact h.symm
        subst hs
        refine ⟨[0x2F], t, ?_, ?_, e2⟩
        · rw [← h1.1]; exact e1
        · rw [h1.2]; exact Block.close
      · rename_i h1
        obtain ⟨b, r', hb1, hb2, hb3⟩ := ih _ _ _ _ e2 h
        refine ⟨(cur s).1 :: b, r', ?_, ?_, hb3⟩
        · rw [List.cons_append, ← hb1]; exact e1
        · refine Block.step _ _ _ (not_beq_ne h0) ?_ hb2
          intro hc
          apply h1
          simp [hc.1, hc.2]

theorem skipLine_sound : ∀ (fuel : Nat) (s : St) (c : Byte) (rest : List Byte) (s' : St), Rem s (c :: rest) →
    s.l.loaded = true → skipLine fuel s = (.ok, s') →
    ∃ x r', rest = x ++ 0x0A :: r' ∧ (∀ c ∈ x, c ≠ 0 ∧ c ≠ 0x0A) ∧ Rem s' (0x0A :: r') ∧ s'.l.loaded = true := by
  intro fuel
  induction fuel with
  | zero => intro s c rest s' _ _ h; simp [skipLine] at h
  | succ n ih =>
    intro s c rest s' hr hl h
    simp only [skipLine] at h
    have hm := hr.move hl
    obtain ⟨c1, c2, c3, _, _⟩ := hm.look
    split at h
    · cases h
    · rename_i h0
      have h0' := not_beq_ne h0
      have hrest : rest = (cur (mv s)).1 :: rest.tail := by
        cases rest with
        | nil => exact absurd c3 h0'
        | cons d t => have : (cur (mv s)).1 = d := c3; rw [this]; rfl
      split at h
      · rename_i h1
        have hs : s' = (cur (mv s)).2 := by injection h with _ h; exact h.symm
        subst hs
        have h1' : (cur (mv s)).1 = 0x0A := by simpa using h1
        refine ⟨[], rest.tail, ?_, (fun c hc => by cases hc), ?_, c2⟩
        · rw [← h1']; exact hrest
        · rw [← h1', ← hrest]; exact c1
      · rename_i h1
        rw [hrest] at c1
        obtain ⟨x, r', hx1, hx2, hx3, hx4⟩ := ih _ _ _ _ c1 c2 h
        refine ⟨(cur (mv s)).1 :: x, r', ?_, ?_, hx3, hx4⟩
        · rw [List.cons_append, ← hx1]; exact hrest
        · intro d hd
          rcases List.mem_cons.mp hd with rfl | hd
          · exact ⟨h0', not_beq_ne h1⟩
          · exact hx2 d hd

theorem isWs_byte {c : Byte} (h : isWs c = true) : IsWsByte c := by
  simp only [isWs, Bool.or_eq_true, beq_iff_eq] at h
  unfold IsWsByte
  rcases h with ((h | h) | h) | h
  · exact Or.inl h
  · exact Or.inr (Or.inl h)
  · exact Or.inr (Or.inr (Or.inr h))
  · exact Or.inr (Or.inr (Or.inl h))

theorem dws_lf_inv {cfg : Cfg} {w r1 r' : List Byte} (hw : DWs cfg w) (h : 0x0A :: r1 = w ++ r')
    (hn : isWs (r'.headD 0) = false) : ∃ w0, w = 0x0A :: w0 ∧ DWs cfg w0 ∧ r1 = w0 ++ r' := by
  cases hw with
  | nil =>
    simp only [List.nil_append] at h
    rw [← h] at hn
    have : isWs (0x0A : Byte) = true := by decide
    simp only [List.headD_cons, this] at hn; cases hn
  | ws c w0 hc hw0 =>
    simp only [List.cons_append, List.cons.injEq] at h
    exact ⟨w0, by rw [h.1], hw0, h.2⟩
  | block b w0 _ _ _ => simp at h
  | line x w0 _ _ _ => simp at h

/-- what `skipSpaces` has consumed when it answers `Ok` or `EmptyInput`: white space `w` of the dialect, up to a token
    byte on which the state is then latched, or up to the end of the text -/
def SSpec (cfg : Cfg) (r : List Byte) (res : Code × St) : Prop :=
  res.1 = .ok ∨ res.1 = .empty → ∃ w r', r = w ++ r' ∧ DWs cfg w ∧ isWs (r'.headD 0) = false ∧
    (res.1 = .ok → Rem res.2 r' ∧ res.2.l.loaded = true ∧ res.2.found = true ∧ r'.headD 0 ≠ 0 ∧
      (cfg.comments && r'.headD 0 == 0x2F) = false) ∧
    (res.1 = .empty → r'.headD 0 = 0)

theorem SSpec.of_err {cfg : Cfg} {r : List Byte} {res : Code × St} (h1 : res.1 ≠ .ok) (h2 : res.1 ≠ .empty) :
    SSpec cfg r res := fun h => h.elim (absurd · h1) (absurd · h2)

/-- the loop went on after `chunk`, which is white space together with the white space that follows -/
theorem SSpec.prepend {cfg : Cfg} {r r2 : List Byte} {res : Code × St} (chunk : List Byte) (hr : r = chunk ++ r2)
    (hd : ∀ w r', r2 = w ++ r' → isWs (r'.headD 0) = false → DWs cfg w → DWs cfg (chunk ++ w))
    (h : SSpec cfg r2 res) : SSpec cfg r res := by
  intro hc
  obtain ⟨w, r', h1, h2, h3, h4⟩ := h hc
  exact ⟨chunk ++ w, r', by rw [hr, h1, List.append_assoc], hd w r' h1 h3 h2, h3, h4⟩

section
variable {cfg : Cfg} {f : Nat}

theorem ssK_spec (ih : ∀ s r, Rem s r → SSpec cfg r (skipSpaces cfg f s)) {q : Code × St} {r : List Byte}
    (hne : q.1 ≠ .empty)
    (hq : ∀ s1, q = (.ok, s1) → ∃ chunk r2, r = chunk ++ r2 ∧ Rem s1 r2 ∧
      ∀ w r', r2 = w ++ r' → isWs (r'.headD 0) = false → DWs cfg w → DWs cfg (chunk ++ w)) :
    SSpec cfg r (ssK cfg f q) := by
  obtain ⟨e, s1⟩ := q
  by_cases he : e = .ok
  · subst he
    obtain ⟨chunk, r2, h1, h2, h3⟩ := hq s1 rfl
    exact (ih s1 r2 h2).prepend chunk h1 h3
  · rw [ssK_err cfg f s1 he]
    exact SSpec.of_err he hne

theorem ssCmt_spec (ih : ∀ s r, Rem s r → SSpec cfg r (skipSpaces cfg f s)) (hc : cfg.comments = true) {s : St}
    {t : List Byte} (hr : Rem s t) : SSpec cfg (0x2F :: t) (ssCmt cfg f s) := by
  show SSpec cfg (0x2F :: t)
    (if (cur s).1 == 0x2A then ssK cfg f (skipBlock f false (mv (cur s).2))
     else if (cur s).1 == 0x2F then ssK cfg f (skipLine f (cur s).2)
     else (.invalid, (cur s).2))
  obtain ⟨c1, c2, _⟩ := hr.look
  split
  · rename_i hd
    obtain ⟨u, e1, e2⟩ := hr.step (by rw [beq_iff_eq.mp hd]; decide)
    rw [beq_iff_eq.mp hd] at e1
    refine ssK_spec ih (ne_skipBlock _ _ _) (fun s1 hq => ?_)
    obtain ⟨b, r1, hb1, hb2, hb3⟩ := skipBlock_sound _ _ _ _ _ e2 hq
    exact ⟨0x2F :: 0x2A :: b, r1, by rw [e1, hb1]; rfl, hb3, fun w _ _ _ hw => DWs.block b w hc hb2 hw⟩
  · split
    · rename_i hd
      obtain ⟨u, e1, _⟩ := hr.step (by rw [beq_iff_eq.mp hd]; decide)
      rw [beq_iff_eq.mp hd] at e1
      rw [e1] at c1
      refine ssK_spec ih (ne_skipLine _ _) (fun s1 hq => ?_)
      obtain ⟨x, r1, hx1, hx2, hx3, _⟩ := skipLine_sound _ _ _ _ _ c1 c2 hq
      refine ⟨0x2F :: 0x2F :: x, 0x0A :: r1, by rw [e1, hx1]; rfl, hx3, fun w r' hb hn hw => ?_⟩
      obtain ⟨w0, rfl, hw0, _⟩ := dws_lf_inv hw hb hn
      exact DWs.line x w0 hc hx2 hw0
    · exact SSpec.of_err (fun h => nomatch h) (fun h => nomatch h)

end

theorem skipSpaces_spec (cfg : Cfg) : ∀ (fuel : Nat) (s : St) (r : List Byte), Rem s r →
    SSpec cfg r (skipSpaces cfg fuel s) := by
  intro fuel
  induction fuel with
  | zero => intro s r _; exact SSpec.of_err (fun h => nomatch h) (fun h => nomatch h)
  | succ n ih =>
    intro s r hr
    obtain ⟨c1, c2, c3, _, _⟩ := hr.look
    rw [skipSpaces_succ]
    split
    · rename_i h0
      have hz : r.headD 0 = 0 := by rw [← c3]; exact beq_iff_eq.mp h0
      refine fun _ => ⟨[], r, rfl, DWs.nil, by rw [hz]; decide, fun h => ?_, fun _ => hz⟩
      split at h <;> cases h
    · rename_i h0
      obtain ⟨t, e1, e2⟩ := hr.step (not_beq_ne h0)
      split
      · rename_i hw
        exact (ih _ _ e2).prepend [(cur s).1] e1 (fun w _ _ _ h => DWs.ws _ w (isWs_byte hw) h)
      · rename_i hw
        split
        · rename_i hcm
          obtain ⟨hc, hsl⟩ := Bool.and_eq_true_iff.mp hcm
          rw [e1, beq_iff_eq.mp hsl]
          exact ssCmt_spec ih hc e2
        · rename_i hcm
          refine fun _ => ⟨[], r, rfl, DWs.nil, ?_, fun _ => ⟨c1.setFound, c2, rfl, ?_, ?_⟩, fun h => nomatch h⟩
          · rw [← c3]; exact Bool.eq_false_iff.mpr hw
          · rw [← c3]; exact not_beq_ne h0
          · rw [← c3]; exact Bool.eq_false_iff.mpr hcm

/-- after `skipSpaces` returned `Ok` the state is latched on a token byte -/
theorem skipSpaces_sound (cfg : Cfg) : ∀ (fuel : Nat) (s : St) (r : List Byte) (s' : St), Rem s r →
    skipSpaces cfg fuel s = (.ok, s') →
    ∃ w r', r = w ++ r' ∧ DWs cfg w ∧ Rem s' r' ∧ s'.l.loaded = true ∧ s'.found = true ∧ r'.headD 0 ≠ 0 ∧
      isWs (r'.headD 0) = false := by
  intro fuel s r s' hr h
  have hs := skipSpaces_spec cfg fuel s r hr
  rw [h] at hs
  obtain ⟨w, r', h1, h2, h3, h4, _⟩ := hs (Or.inl rfl)
  obtain ⟨g1, g2, g3, g4, _⟩ := h4 rfl
  exact ⟨w, r', h1, h2, g1, g2, g3, g4, h3⟩

/-! ## keywords -/

theorem skipKeyword_sound : ∀ (ks : List Byte) (s : St) (r : List Byte) (s' : St), Rem s r →
    skipKeyword ks s = (.ok, s') → ∃ r', r = ks ++ r' ∧ Rem s' r' := by
  intro ks
  induction ks with
  | nil =>
    intro s r s' hr h
    simp only [skipKeyword] at h
    have : s' = s := by injection h with _ h; exact h.symm
    subst this
    exact ⟨r, rfl, hr⟩
  | cons k ks ih =>
    intro s r s' hr h
    simp only [skipKeyword] at h
    split at h
    · cases h
    · rename_i h0
      obtain ⟨t, e1, e2⟩ := hr.step (not_beq_ne h0)
      split at h
      · cases h
      · rename_i hk
        have hk' : (cur s).1 = k := by simpa using hk
        obtain ⟨r', h1, h2⟩ := ih _ _ _ e2 h
        refine ⟨r', ?_, h2⟩
        rw [List.cons_append, ← h1, ← hk']; exact e1

/-! ## strings -/

theorem parseHex4_sound : ∀ (n acc : Nat) (s : St) (r : List Byte) (v : Nat) (s' : St), Rem s r →
    parseHex4 n acc s = (.ok, v, s') →
    ∃ ds r', r = ds ++ r' ∧ ds.length = n ∧ Rem s' r' ∧ (∀ c ∈ ds, Spec.hexVal c = some (decodeHex c)) ∧
      v = ds.foldl (fun a c => (a * 16 + decodeHex c) % 65536) acc := by
  intro n
  induction n with
  | zero =>
    intro acc s r v s' hr h
    simp only [parseHex4] at h
    injection h with _ h
    injection h with h1 h2
    subst h1; subst h2
    exact ⟨[], r, rfl, rfl, hr, (fun c hc => by cases hc), rfl⟩
  | succ n ih =>
    intro acc s r v s' hr h
    simp only [parseHex4] at h
    split at h
    · cases h
    · rename_i h0
      obtain ⟨t, e1, e2⟩ := hr.step (not_beq_ne h0)
      split at h
      · cases h
      · rename_i hv
        obtain ⟨ds, r', h1, h2, h3, h4, h5⟩ := ih _ _ _ _ _ e2 h
        refine ⟨(cur s).1 :: ds, r', ?_, by simp [h2], h3, ?_, ?_⟩
        · rw [List.cons_append, ← h1]; exact e1
        · intro c hc
          rcases List.mem_cons.mp hc with rfl | hc
          · exact hexVal_of_decodeHex hv
          · exact h4 c hc
        · rw [h5]; rfl

/-- four digits: the code unit -/
theorem parseHex4_four_sound {s : St} {r : List Byte} {v : Nat} {s' : St} (hr : Rem s r)
    (h : parseHex4 4 0 s = (.ok, v, s')) :
    ∃ a b c d r', r = a :: b :: c :: d :: r' ∧ hex4 a b c d = some v ∧ Rem s' r' ∧ v < 65536 := by
  obtain ⟨ds, r', h1, h2, h3, h4, h5⟩ := parseHex4_sound _ _ _ _ _ _ hr h
  match ds, h2 with
  | [a, b, c, d], _ =>
    have ha := h4 a (by simp)
    have hb := h4 b (by simp)
    have hc := h4 c (by simp)
    have hd := h4 d (by simp)
    have la := hexVal_le _ _ ha
    have lb := hexVal_le _ _ hb
    have lc := hexVal_le _ _ hc
    have ld := hexVal_le _ _ hd
    have hv : v = decodeHex a * 4096 + decodeHex b * 256 + decodeHex c * 16 + decodeHex d := by
      rw [h5]; simp only [List.foldl_cons, List.foldl_nil]; omega
    refine ⟨a, b, c, d, r', by simpa using h1, ?_, h3, by omega⟩
    simp only [hex4, ha, hb, hc, hd, hv]

/-- the escape letters of the specification are those of `unescapeChar` (which answers 0 for every other byte) -/
theorem escapes_lookup_eq (l : Byte) : escapes.lookup l = if unescapeChar l = 0 then none else some (unescapeChar l) := by
  have key : ∀ l : UInt8, (escapes.lookup l == if unescapeChar l = 0 then none else some (unescapeChar l)) = true := by
    apply Bits.all_bytes; decide +kernel
  exact beq_iff_eq.mp (key l)

theorem escapes_lookup {l : Byte} (h : unescapeChar l ≠ 0) : escapes.lookup l = some (unescapeChar l) := by
  rw [escapes_lookup_eq, if_neg h]

/-! ### equations of `decodeBody` -/

theorem decodeBody_plain {cfg : Cfg} {stop c : Byte} {hi : Nat} {t : List Byte} (h1 : c ≠ stop) (h2 : c ≠ 0)
    (h3 : c ≠ 0x5C) : decodeBody cfg stop hi (c :: t) = (decodeBody cfg stop hi t).map (c :: ·) := by
  rw [decodeBody.eq_def]
  simp only [h1, h2, h3, or_self, ↓reduceIte, ne_eq, not_false_eq_true]

theorem decodeBody_esc {cfg : Cfg} {stop l : Byte} {hi : Nat} {t : List Byte} (h1 : stop ≠ 0x5C) (h2 : l ≠ 0x75) :
    decodeBody cfg stop hi (0x5C :: l :: t) =
      (match escapes.lookup l with
       | none => none
       | some x => (decodeBody cfg stop hi t).map (x :: ·)) := by
  have e1 : ¬ ((0x5C : Byte) = stop ∨ (0x5C : Byte) = 0) := by
    intro h; rcases h with h | h
    · exact h1 h.symm
    · exact absurd h (by decide)
  rw [decodeBody.eq_def]
  simp only [e1, h2, ↓reduceIte, ne_eq, not_true_eq_false]
  cases List.lookup l escapes <;> rfl

theorem decodeBody_u_off {cfg : Cfg} {stop : Byte} {hi : Nat} {t : List Byte} (h1 : stop ≠ 0x5C)
    (hu : cfg.decodeUnicode = false) :
    decodeBody cfg stop hi (0x5C :: 0x75 :: t) = (decodeBody cfg stop hi t).map (fun r => 0x5C :: 0x75 :: r) := by
  have e1 : ¬ ((0x5C : Byte) = stop ∨ (0x5C : Byte) = 0) := by
    intro h; rcases h with h | h
    · exact h1 h.symm
    · exact absurd h (by decide)
  rw [decodeBody.eq_def]
  simp only [e1, hu, ↓reduceIte, ne_eq, not_true_eq_false, Bool.false_eq_true]

theorem decodeBody_u_on {cfg : Cfg} {stop a b c d : Byte} {hi : Nat} {t : List Byte} (h1 : stop ≠ 0x5C)
    (hu : cfg.decodeUnicode = true) :
    decodeBody cfg stop hi (0x5C :: 0x75 :: a :: b :: c :: d :: t) =
      (match hex4 a b c d with
       | none => none
       | some cu =>
         if 0xD800 ≤ cu ∧ cu < 0xDC00 then decodeBody cfg stop (cu % 1024) t
         else if 0xDC00 ≤ cu ∧ cu < 0xE000 then
           (decodeBody cfg stop hi t).map (Spec.utf8 (0x10000 + (hi * 1024 + cu % 1024)) ++ ·)
         else (decodeBody cfg stop hi t).map (Spec.utf8 cu ++ ·)) := by
  have e1 : ¬ ((0x5C : Byte) = stop ∨ (0x5C : Byte) = 0) := by
    intro h; rcases h with h | h
    · exact h1 h.symm
    · exact absurd h (by decide)
  rw [decodeBody.eq_def]
  simp only [e1, hu, ↓reduceIte, ne_eq, not_true_eq_false]
  cases hex4 a b c d <;> rfl

/-- what the code unit of a `\uXXXX` escape does: the high surrogate pending afterwards, and the bytes produced -/
def uEsc (hi cu : Nat) : Nat × List Byte :=
  if 0xD800 ≤ cu ∧ cu < 0xDC00 then (cu % 1024, [])
  else if 0xDC00 ≤ cu ∧ cu < 0xE000 then (hi, Spec.utf8 (0x10000 + (hi * 1024 + cu % 1024)))
  else (hi, Spec.utf8 cu)

theorem decodeBody_u_esc {cfg : Cfg} {stop a b c d : Byte} {hi cu : Nat} {t : List Byte} (h1 : stop ≠ 0x5C)
    (hu : cfg.decodeUnicode = true) (hx : hex4 a b c d = some cu) :
    decodeBody cfg stop hi (0x5C :: 0x75 :: a :: b :: c :: d :: t) =
      (decodeBody cfg stop (uEsc hi cu).1 t).map ((uEsc hi cu).2 ++ ·) := by
  rw [decodeBody_u_on h1 hu, hx]
  show (if 0xD800 ≤ cu ∧ cu < 0xDC00 then _ else _) = _
  unfold uEsc
  by_cases c1 : 0xD800 ≤ cu ∧ cu < 0xDC00
  · rw [if_pos c1, if_pos c1]
    exact Option.map_id'.symm
  · rw [if_neg c1, if_neg c1]
    by_cases c2 : 0xDC00 ≤ cu ∧ cu < 0xE000
    · rw [if_pos c2, if_pos c2]
    · rw [if_neg c2, if_neg c2]

/-- the first phrase of a non-empty string body that denotes `y`: an ordinary byte, a two-byte escape, `\u` kept as
    it is, or `\uXXXX` decoded -/
theorem decodeBody_cons_cases {cfg : Cfg} {stop c : Byte} {hi : Nat} {t y : List Byte}
    (h : decodeBody cfg stop hi (c :: t) = some y) :
    c ≠ stop ∧ c ≠ 0 ∧
      ((c ≠ 0x5C ∧ ∃ y', decodeBody cfg stop hi t = some y' ∧ y = c :: y') ∨
       (c = 0x5C ∧ ∃ l t' x y', t = l :: t' ∧ l ≠ 0x75 ∧ escapes.lookup l = some x ∧
          decodeBody cfg stop hi t' = some y' ∧ y = x :: y') ∨
       (c = 0x5C ∧ cfg.decodeUnicode = false ∧ ∃ t' y', t = 0x75 :: t' ∧ decodeBody cfg stop hi t' = some y' ∧
          y = 0x5C :: 0x75 :: y') ∨
       (c = 0x5C ∧ cfg.decodeUnicode = true ∧ ∃ a b c' d t' cu y', t = 0x75 :: a :: b :: c' :: d :: t' ∧
          hex4 a b c' d = some cu ∧ decodeBody cfg stop (uEsc hi cu).1 t' = some y' ∧ y = (uEsc hi cu).2 ++ y')) := by
  by_cases hc : c = stop ∨ c = 0
  · rw [decodeBody.eq_def] at h; simp [hc] at h
  have c1 : c ≠ stop := fun h => hc (Or.inl h)
  have c0 : c ≠ 0 := fun h => hc (Or.inr h)
  refine ⟨c1, c0, ?_⟩
  by_cases hb : c = 0x5C
  · subst hb
    have q1 : stop ≠ 0x5C := Ne.symm c1
    cases t with
    | nil => rw [decodeBody.eq_def] at h; simp [hc] at h
    | cons l t' =>
      by_cases hl : l = 0x75
      · subst hl
        cases hu : cfg.decodeUnicode with
        | false =>
          rw [decodeBody_u_off q1 hu] at h
          obtain ⟨y', hd, rfl⟩ := Option.map_eq_some_iff.mp h
          exact .inr (.inr (.inl ⟨rfl, rfl, t', y', rfl, hd, rfl⟩))
        | true =>
          match t', h with
          | a :: b :: c' :: d :: t'', h =>
            cases hh : hex4 a b c' d with
            | none => rw [decodeBody_u_on q1 hu, hh] at h; cases h
            | some cu =>
              rw [decodeBody_u_esc q1 hu hh] at h
              obtain ⟨y', hd, rfl⟩ := Option.map_eq_some_iff.mp h
              exact .inr (.inr (.inr ⟨rfl, rfl, a, b, c', d, t'', cu, y', rfl, hh, hd, rfl⟩))
          | [], h | [_], h | [_, _], h | [_, _, _], h => rw [decodeBody.eq_def] at h; simp [hu] at h
      · rw [decodeBody_esc q1 hl] at h
        cases hlk : escapes.lookup l with
        | none => rw [hlk] at h; cases h
        | some x =>
          rw [hlk] at h
          obtain ⟨y', hd, rfl⟩ := Option.map_eq_some_iff.mp h
          exact .inr (.inl ⟨rfl, l, t', x, y', rfl, hl, hlk, hd, rfl⟩)
  · rw [decodeBody_plain c1 c0 hb] at h
    obtain ⟨y', hd, rfl⟩ := Option.map_eq_some_iff.mp h
    exact .inl ⟨hb, y', hd, rfl⟩

theorem pqHex_ok_esc (cfg : Cfg) (stop : Byte) (f : Nat) (acc : List Byte) {hi cu : Nat} (s : St) (hhi : hi < 1024)
    (hcu : cu < 65536) :
    pqHex cfg stop f acc hi (.ok, cu, s) = parseQuoted cfg stop f ((uEsc hi cu).2.reverse ++ acc) (uEsc hi cu).1 s ∧
      (uEsc hi cu).1 < 1024 := by
  unfold uEsc
  by_cases h1 : 0xD800 ≤ cu ∧ cu < 0xDC00
  · have e : (decide (0xD800 ≤ cu) && decide (cu < 0xDC00)) = true := by simpa using h1
    rw [if_pos h1]
    exact ⟨if_pos e, Nat.mod_lt _ (by decide)⟩
  · have e : ¬ (decide (0xD800 ≤ cu) && decide (cu < 0xDC00)) = true := by simpa using h1
    rw [if_neg h1]
    by_cases h2 : 0xDC00 ≤ cu ∧ cu < 0xE000
    · have e2 : (decide (0xDC00 ≤ cu) && decide (cu < 0xE000)) = true := by simpa using h2
      rw [if_pos h2, ← encodeCodepoint_utf8 _ (by omega)]
      exact ⟨(if_neg e).trans (if_pos e2), hhi⟩
    · have e2 : ¬ (decide (0xDC00 ≤ cu) && decide (cu < 0xE000)) = true := by simpa using h2
      rw [if_neg h2, ← encodeCodepoint_utf8 _ (by omega)]
      exact ⟨(if_neg e).trans (if_neg e2), hhi⟩

theorem decodeBody_u_off_cons {cfg : Cfg} {stop : Byte} {hi : Nat} {b x : List Byte} (h1 : stop ≠ 0x5C) (h2 : stop ≠ 0x75)
    (hu : cfg.decodeUnicode = false) (h : decodeBody cfg stop hi (0x75 :: b) = some x) :
    decodeBody cfg stop hi (0x5C :: 0x75 :: b) = some (0x5C :: x) := by
  rw [decodeBody_plain (Ne.symm h2) (by decide) (by decide)] at h
  rw [decodeBody_u_off h1 hu]
  cases hb : decodeBody cfg stop hi b with
  | none => rw [hb] at h; cases h
  | some y => rw [hb] at h; cases h; rfl

theorem isQuote_facts {q : Byte} (h : IsQuote q) : q ≠ 0 ∧ q ≠ 0x5C ∧ q ≠ 0x75 := by
  rcases h with rfl | rfl <;> decide

/-- what an `Ok` answer of the string loop means, when it started in front of `r` with `acc` collected and the high
    surrogate `hi` pending -/
def QSound (cfg : Cfg) (stop : Byte) (acc : List Byte) (hi : Nat) (r : List Byte) (res : Code × List Byte × St) : Prop :=
  ∀ out s', res = (.ok, out, s') →
    ∃ body x r', r = body ++ stop :: r' ∧ decodeBody cfg stop hi body = some x ∧ out = acc.reverse ++ x ∧
      out.length ≤ cfg.maxStrLen ∧ Rem s' r'

/-- the loop went on after the bytes `chunk`, which denote `y` -/
theorem QSound.prepend {cfg : Cfg} {stop : Byte} {acc acc' : List Byte} {hi hi' : Nat} {r r2 : List Byte}
    {res : Code × List Byte × St} (chunk y : List Byte) (hr : r = chunk ++ r2) (hacc : acc'.reverse = acc.reverse ++ y)
    (hd : ∀ body x r', r2 = body ++ stop :: r' → decodeBody cfg stop hi' body = some x →
      decodeBody cfg stop hi (chunk ++ body) = some (y ++ x))
    (h : QSound cfg stop acc' hi' r2 res) : QSound cfg stop acc hi r res := by
  intro out s' he
  obtain ⟨body, x, r', i1, i2, i3, i4, i5⟩ := h out s' he
  exact ⟨chunk ++ body, y ++ x, r', by rw [hr, i1, List.append_assoc], hd body x r' i1 i2,
    by rw [i3, hacc, List.append_assoc], i4, i5⟩

theorem QSound.of_err {cfg : Cfg} {stop : Byte} {acc : List Byte} {hi : Nat} {r : List Byte} {e : Code} {o : List Byte}
    {s : St} (h : e ≠ .ok) : QSound cfg stop acc hi r (e, o, s) :=
  fun _ _ he => absurd (Prod.mk.inj he).1 h


section
variable {cfg : Cfg} {stop : Byte} {f : Nat}

theorem pqHex_qsound (q1 : stop ≠ 0x5C) (hcfg : cfg.decodeUnicode = true)
    (ih : ∀ acc hi s r, hi < 1024 → Rem s r → QSound cfg stop acc hi r (parseQuoted cfg stop f acc hi s))
    {acc : List Byte} {hi : Nat} {s : St} {t : List Byte} (hhi : hi < 1024) (hr : Rem s t) :
    QSound cfg stop acc hi (0x5C :: 0x75 :: t) (pqHex cfg stop f acc hi (parseHex4 4 0 s)) := by
  generalize hp : parseHex4 4 0 s = p
  obtain ⟨e, cu, s1⟩ := p
  by_cases he : e = .ok
  · subst he
    obtain ⟨a, b, c, d, r4, g1, g2, g3, g4⟩ := parseHex4_four_sound hr hp
    obtain ⟨k1, k2⟩ := pqHex_ok_esc cfg stop f acc s1 hhi g4
    rw [k1]
    refine (ih _ _ _ _ k2 g3).prepend [0x5C, 0x75, a, b, c, d] (uEsc hi cu).2 (by rw [g1]; rfl)
      (by rw [List.reverse_append, List.reverse_reverse]) ?_
    intro body x _ _ hx
    show decodeBody cfg stop hi (0x5C :: 0x75 :: a :: b :: c :: d :: body) = _
    rw [decodeBody_u_esc q1 hcfg g2, hx]
    rfl
  · rw [pqHex_err cfg stop f acc hi cu s1 he]
    exact QSound.of_err he

theorem pqEsc_qsound (q1 : stop ≠ 0x5C) (q2 : stop ≠ 0x75)
    (ih : ∀ acc hi s r, hi < 1024 → Rem s r → QSound cfg stop acc hi r (parseQuoted cfg stop f acc hi s))
    {acc : List Byte} {hi : Nat} {s : St} {t : List Byte} (hhi : hi < 1024) (hr : Rem s t) :
    QSound cfg stop acc hi (0x5C :: t) (pqEsc cfg stop f acc hi s) := by
  show QSound cfg stop acc hi (0x5C :: t)
    (if (cur s).1 == 0 then (.incomplete, acc.reverse, (cur s).2)
     else if (cur s).1 == 0x75 then
       if cfg.decodeUnicode then pqHex cfg stop f acc hi (parseHex4 4 0 (mv (cur s).2))
       else parseQuoted cfg stop f (0x5C :: acc) hi (cur s).2
     else if unescapeChar (cur s).1 == 0 then (.invalid, acc.reverse, (cur s).2)
     else parseQuoted cfg stop f (unescapeChar (cur s).1 :: acc) hi (mv (cur s).2))
  split
  · exact QSound.of_err (fun h => nomatch h)
  · rename_i h0
    obtain ⟨u, e1, e2⟩ := hr.step (not_beq_ne h0)
    split
    · rename_i hu
      have hu' : (cur s).1 = 0x75 := beq_iff_eq.mp hu
      rw [hu'] at e1
      split
      · rename_i hcfg
        rw [e1]
        exact pqHex_qsound q1 hcfg ih hhi e2
      · rename_i hcfg
        -- the `u` is read again as an ordinary byte
        refine (ih _ _ _ _ hhi hr.look.1).prepend [0x5C] [0x5C] rfl (by simp) ?_
        intro body x r' hb hx
        rw [e1] at hb
        cases body with
        | nil => exact absurd (List.cons.inj hb).1.symm q2
        | cons u body' =>
          rw [← (List.cons.inj hb).1] at hx ⊢
          exact decodeBody_u_off_cons q1 q2 (by simpa using hcfg) hx
    · rename_i hu
      split
      · exact QSound.of_err (fun h => nomatch h)
      · rename_i hun
        refine (ih _ _ _ _ hhi e2).prepend [0x5C, (cur s).1] [unescapeChar (cur s).1] (by rw [e1]; rfl) (by simp) ?_
        intro body x _ _ hx
        show decodeBody cfg stop hi (0x5C :: (cur s).1 :: body) = _
        rw [decodeBody_esc q1 (not_beq_ne hu), escapes_lookup (not_beq_ne hun), hx]
        rfl

end

theorem parseQuoted_qsound {cfg : Cfg} {stop : Byte} (hq : IsQuote stop) :
    ∀ (fuel : Nat) (acc : List Byte) (hi : Nat) (s : St) (r : List Byte), hi < 1024 → Rem s r →
      QSound cfg stop acc hi r (parseQuoted cfg stop fuel acc hi s) := by
  obtain ⟨q0, q1, q2⟩ := isQuote_facts hq
  intro fuel
  induction fuel with
  | zero => intro acc hi s r _ _; exact QSound.of_err (fun h => nomatch h)
  | succ n ih =>
    intro acc hi s r hhi hr
    rw [parseQuoted_succ]
    split
    · rename_i hs
      have hs' : (cur s).1 = stop := beq_iff_eq.mp hs
      obtain ⟨t, e1, e2⟩ := hr.step (by rw [hs']; exact q0)
      intro out s' he
      obtain ⟨h1, h23⟩ := Prod.mk.inj he
      obtain ⟨h2, h3⟩ := Prod.mk.inj h23
      have hl : ¬ acc.length > cfg.maxStrLen := fun hl => by rw [if_pos hl] at h1; cases h1
      refine ⟨[], [], t, by rw [← hs']; exact e1, rfl, by rw [← h2, List.append_nil], ?_, h3 ▸ e2⟩
      rw [← h2, List.length_reverse]
      exact Nat.le_of_not_gt hl
    · rename_i hs
      split
      · exact QSound.of_err (fun h => nomatch h)
      · rename_i h0
        obtain ⟨t, e1, e2⟩ := hr.step (not_beq_ne h0)
        split
        · rename_i hb
          rw [e1, beq_iff_eq.mp hb]
          exact pqEsc_qsound q1 q2 ih hhi e2
        · rename_i hb
          refine (ih _ _ _ _ hhi e2).prepend [(cur s).1] [(cur s).1] e1 (by simp) ?_
          intro body x _ _ hx
          show decodeBody cfg stop hi ((cur s).1 :: body) = _
          rw [decodeBody_plain (not_beq_ne hs) (not_beq_ne h0) (not_beq_ne hb), hx]
          rfl

/-- `parseQuoted` returned `Ok`: it consumed a well-formed body and the closing quote, and produced the bytes the
    body denotes -/
theorem parseQuoted_sound {cfg : Cfg} {stop : Byte} (hq : IsQuote stop) :
    ∀ (fuel : Nat) (acc : List Byte) (hi : Nat) (s : St) (r : List Byte) (out : List Byte) (s' : St),
      hi < 1024 → Rem s r → parseQuoted cfg stop fuel acc hi s = (.ok, out, s') →
      ∃ body x r', r = body ++ stop :: r' ∧ decodeBody cfg stop hi body = some x ∧ out = acc.reverse ++ x ∧
        out.length ≤ cfg.maxStrLen ∧ Rem s' r' := 
  fun fuel acc hi s r out s' hhi hr h => parseQuoted_qsound hq fuel acc hi s r hhi hr out s' h

/-! ## unquoted keys -/

theorem inUnquoted_zero : inUnquoted 0 = false := by decide

theorem parseUnquoted_sound : ∀ (fuel : Nat) (acc : List Byte) (s : St) (r : List Byte) (k : List Byte) (s' : St),
    Rem s r → parseUnquoted fuel acc s = (k, s') →
    ∃ x r', r = x ++ r' ∧ k = acc.reverse ++ x ∧ (∀ c ∈ x, inUnquoted c = true) ∧ Rem s' r' := by
  intro fuel
  induction fuel with
  | zero =>
    intro acc s r k s' hr h
    simp only [parseUnquoted] at h
    injection h with h1 h2
    subst h1; subst h2
    exact ⟨[], r, rfl, by simp, (fun c hc => by cases hc), hr⟩
  | succ n ih =>
    intro acc s r k s' hr h
    simp only [parseUnquoted] at h
    split at h
    · rename_i hu
      have h0 : (cur s).1 ≠ 0 := by
        intro h0; rw [h0, inUnquoted_zero] at hu; cases hu
      obtain ⟨t, e1, e2⟩ := hr.step h0
      obtain ⟨x, r', h1, h2, h3, h4⟩ := ih _ _ _ _ _ e2 h
      refine ⟨(cur s).1 :: x, r', ?_, ?_, ?_, h4⟩
      · rw [List.cons_append, ← h1]; exact e1
      · rw [h2]; simp
      · intro c hc
        rcases List.mem_cons.mp hc with rfl | hc
        · exact hu
        · exact h3 c hc
    · injection h with h1 h2
      subst h1; subst h2
      exact ⟨[], r, rfl, by simp, (fun c hc => by cases hc), hr.look.1⟩

/-! ## numbers -/

theorem scanNumber_sound (cfg : Cfg) : ∀ (n : Nat) (acc : List Byte) (s : St) (r : List Byte) (buf : List Byte) (s' : St),
    Rem s r → scanNumber cfg n acc s = (buf, s') →
    ∃ x r', r = x ++ r' ∧ buf = acc.reverse ++ x ∧ x.length ≤ n ∧ (∀ c ∈ x, inNumber cfg c = true) ∧ Rem s' r' ∧
      s'.l.loaded = true := by
  intro n
  induction n with
  | zero =>
    intro acc s r buf s' hr h
    simp only [scanNumber] at h
    injection h with h1 h2
    subst h1; subst h2
    exact ⟨[], r, rfl, by simp, by simp, (fun c hc => by cases hc), hr.look.1, hr.look.2.1⟩
  | succ n ih =>
    intro acc s r buf s' hr h
    simp only [scanNumber] at h
    split at h
    · rename_i hu
      have h0 : (cur s).1 ≠ 0 := by
        intro h0; rw [h0, inNumber_zero] at hu; cases hu
      obtain ⟨t, e1, e2⟩ := hr.step h0
      obtain ⟨x, r', h1, h2, h3, h4, h5⟩ := ih _ _ _ _ _ e2 h
      refine ⟨(cur s).1 :: x, r', ?_, ?_, ?_, ?_, h5⟩
      · rw [List.cons_append, ← h1]; exact e1
      · rw [h2]; simp
      · simp; omega
      · intro c hc
        rcases List.mem_cons.mp hc with rfl | hc
        · exact hu
        · exact h4 c hc
    · injection h with h1 h2
      subst h1; subst h2
      exact ⟨[], r, rfl, by simp, by simp, (fun c hc => by cases hc), hr.look.1, hr.look.2.1⟩

/-- the value of a token in terms of the outcome of `parseNumeric` -/
theorem numDen_eq (cfg : Cfg) (lit : List Byte) :
    numDen cfg lit =
      if (pnumResult (parseNumber cfg lit)).1 = .ok then some (pnumResult (parseNumber cfg lit)).2 else none := by
  unfold numDen
  cases parseNumber cfg lit <;> rfl

theorem numDen_iff {cfg : Cfg} {lit : List Byte} {v : Val} :
    numDen cfg lit = some v ↔ pnumResult (parseNumber cfg lit) = (.ok, v) ∧ isNumberVal v = true := by
  unfold numDen
  cases parseNumber cfg lit <;> simp [pnumResult] <;> rintro rfl <;> rfl

theorem numDen_some {cfg : Cfg} {lit : List Byte} {v : Val} (h : numDen cfg lit = some v) :
    pnumResult (parseNumber cfg lit) = (.ok, v) ∧ isNumberVal v = true := numDen_iff.mp h

theorem numDen_isNumber {cfg : Cfg} {lit : List Byte} {v : Val} (h : numDen cfg lit = some v) : isNumberVal v = true :=
  (numDen_some h).2

theorem parseNumeric_sound (cfg : Cfg) {s : St} {r : List Byte} {v : Val} {s' : St} (hr : Rem s r)
    (h : parseNumeric cfg s = (.ok, v, s')) :
    ∃ lit r', r = lit ++ r' ∧ lit.length ≤ 63 ∧ (∀ c ∈ lit, inNumber cfg c = true) ∧ numDen cfg lit = some v ∧
      Rem s' r' ∧ s'.l.loaded = true ∧ isNumberVal v = true := by
  rw [parseNumeric_eq] at h
  generalize hq : scanNumber cfg 63 [] s = q at h
  obtain ⟨buf, X⟩ := q
  obtain ⟨x, r', h1, h2, h3, h4, h5, h6⟩ := scanNumber_sound cfg _ _ _ _ _ _ hr hq
  rw [List.reverse_nil, List.nil_append] at h2
  subst h2
  obtain ⟨e1, e23⟩ := Prod.mk.inj h
  obtain ⟨e2, e3⟩ := Prod.mk.inj e23
  have hp : pnumResult (parseNumber cfg buf) = (.ok, v) := Prod.ext e1 e2
  have hn : isNumberVal v = true := by
    cases hb : parseNumber cfg buf <;> rw [hb] at hp <;> cases hp <;> rfl
  exact ⟨buf, r', h1, h3, h4, numDen_iff.mpr ⟨hp, hn⟩, e3 ▸ h5, e3 ▸ h6, hn⟩

end JD
