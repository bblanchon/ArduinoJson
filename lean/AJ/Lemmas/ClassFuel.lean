/- Fuel independence of the JSON deserializer model: with enough fuel (the bounds of AJ/Lemmas/FuelF.lean) every routine
   returns the same result whatever the fuel. Hence `run` — whose fuel depends on the length of the input — can be
   compared on inputs of different lengths. -/
import AJ.Lemmas.FuelF
namespace JD

/-- **fuel independence** of the three mutually recursive routines -/
theorem fm_mutual {cfg : Cfg} (f g : Nat) :
    (∀ L s k, rem s ≤ k → 2 * k + 1 ≤ f → 2 * k + 1 ≤ g → parseVariant cfg f L s = parseVariant cfg g L s) ∧
    (∀ L s acc k, rem s ≤ k → 2 * k + 2 ≤ f → 2 * k + 2 ≤ g → parseElems cfg f L s acc = parseElems cfg g L s acc) ∧
    (∀ L s ms k, rem s ≤ k → 2 * k + 2 ≤ f → 2 * k + 2 ≤ g →
      parseMembers cfg f L s ms = parseMembers cfg g L s ms) := by
  obtain ⟨hV, hE, hM⟩ := fparse_agree_mutual (cfg := cfg) f g
  refine ⟨fun L s k h hf hg => ?_, fun L s acc k h hf hg => ?_, fun L s ms k h hf hg => ?_⟩
  · rw [parseVariant_all, parseVariant_all]; exact (hV L .all s k h hf hg).1
  · rw [parseElems_all, parseElems_all]; exact (hE L .all s acc k h hf hg).1
  · rw [parseMembers_all, parseMembers_all]; exact (hM L .all s ms k h hf hg).1

/-- `run` with any sufficient fuel -/
def runF (cfg : Cfg) (limit fuel : Nat) (input : List Byte) : Code × Val × Nat :=
  let s0 : St := { l := { unread := input } }
  match parseVariant cfg fuel limit s0 with
  | (.ok, v, s) =>
    if s.l.cur != 0 && !isWs s.l.cur && isNumberVal v then (.invalid, v, s.l.pos) else (.ok, v, s.l.pos)
  | (e, v, s) => (e, v, s.l.pos)

theorem runF_eq (cfg : Cfg) (limit fuel : Nat) (input : List Byte) :
    runF cfg limit fuel input = finishRun (parseVariant cfg fuel limit { l := { unread := input } }) := rfl

theorem run_eq_runF (cfg : Cfg) (limit fuel : Nat) (input : List Byte) (hf : 2 * input.length + 1 ≤ fuel) :
    run cfg limit input = runF cfg limit fuel input := by
  have h0 : rem ({ l := { unread := input } } : St) ≤ input.length := by simp [rem]
  rw [run_eq, runF_eq, (fm_mutual (cfg := cfg) (2 * input.length + 4) fuel).1 limit _ _ h0 (by omega) hf]

end JD
