/- Softfloat results fit their width: the bit patterns of a format `f` are the numbers below `2 * f.signBit`
   (`2^32` for `b32`, `2^64` for `b64`, by `rfl`), and every operation of the model (`roundPos`, `mul`, `negBits`, `cvt`,
   `make_float`) answers with one. Also the rules `of_ite`, `of_ite₂` for a predicate of an `if`. -/
import AJ.Model.JD

/-- a predicate holds of an `if` when it holds of both branches; `refine of_ite (fun h => ?_) (fun h => ?_)` where the `if`
    is the last argument of the predicate does what `split` does, without abstracting the goal -/
theorem of_ite {α : Sort _} {Q : α → Prop} {c : Prop} [Decidable c] {a b : α} (ha : c → Q a) (hb : ¬ c → Q b) :
    Q (if c then a else b) := by
  by_cases h : c
  · rw [if_pos h]; exact ha h
  · rw [if_neg h]; exact hb h

/-- the same for a relation between two results that branch on one condition -/
theorem of_ite₂ {α β : Sort _} {Q : α → β → Prop} {c : Prop} [Decidable c] {a a' : α} {b b' : β}
    (h1 : c → Q a b) (h2 : ¬ c → Q a' b') : Q (if c then a else a') (if c then b else b') := by
  by_cases h : c
  · rw [if_pos h, if_pos h]; exact h1 h
  · rw [if_neg h, if_neg h]; exact h2 h

namespace SF

theorem signBit_mul (f : Fmt) : f.signBit = 2 ^ f.mbits * 2 ^ f.ebits := Nat.pow_add ..

/-- the all-ones exponent field over an empty mantissa field, with room for a mantissa field `r` -/
theorem emax_field (f : Fmt) : f.emax * 2 ^ f.mbits + 2 ^ f.mbits = f.signBit := by
  have hB : 0 < 2 ^ f.ebits := Nat.two_pow_pos _
  rw [signBit_mul, Fmt.emax, ← Nat.succ_mul, Nat.succ_eq_add_one, Nat.sub_add_cancel hB, Nat.mul_comm]

theorem infBits_lt (f : Fmt) (n : Bool) : infBits f n < 2 * f.signBit := by
  have hA : 0 < 2 ^ f.mbits := Nat.two_pow_pos _
  have := emax_field f
  unfold infBits
  split <;> omega

theorem nanBits_lt (f : Fmt) : nanBits f < 2 * f.signBit := by
  have hA : 2 ^ (f.mbits - 1) ≤ 2 ^ f.mbits := Nat.pow_le_pow_right (by decide) (Nat.sub_le _ _)
  have hp : 0 < 2 ^ f.mbits := Nat.two_pow_pos _
  have := emax_field f
  unfold nanBits
  omega

/-- a sign bit, an exponent field `ex < B` and a mantissa field `r < A`, with `signBit = A * B` -/
theorem fields_lt {A B s ex r : Nat} (hs : s ≤ A * B) (hex : ex < B) (hr : r < A) : s + ex * A + r < 2 * (A * B) := by
  have h1 : (ex + 1) * A ≤ B * A := Nat.mul_le_mul_right A (by omega)
  rw [Nat.succ_mul, Nat.mul_comm B A] at h1
  omega

theorem rneShift_le (n k : Nat) : rneShift n k ≤ n / 2^k + 1 := by
  by_cases hk : k = 0
  · subst hk; simp [rneShift]
  · simp only [rneShift, if_neg hk]
    repeat' split
    all_goals omega

/-- the mantissa brought to the exponent `e'`, at least `e + (bit length of m) - (t+1)`: at most `t+1` bits, or `2^(t+1)`
    when the rounding carries -/
theorem mr_le (m : Nat) (e e' : Int) (t : Nat)
    (he' : e + ((Nat.log2 m + 1 : Nat) : Int) - ((t : Int) + 1) ≤ e') :
    (if e' ≥ e then rneShift m (e' - e).toNat else m * 2^((e - e').toNat)) ≤ 2^(t+1) := by
  have hlt : m < 2^(Nat.log2 m + 1) := Nat.lt_log2_self
  split
  · have h1 : 2^(Nat.log2 m + 1) ≤ 2^((e' - e).toNat) * 2^(t+1) := by
      rw [← Nat.pow_add]; exact Nat.pow_le_pow_right (by decide) (by omega)
    have h2 : m / 2^((e' - e).toNat) < 2^(t+1) := Nat.div_lt_of_lt_mul (Nat.lt_of_lt_of_le hlt h1)
    have h3 := rneShift_le m (e' - e).toNat
    omega
  · have h1 : m * 2^((e - e').toNat) < 2^(Nat.log2 m + 1) * 2^((e - e').toNat) :=
      Nat.mul_lt_mul_of_pos_right hlt (Nat.two_pow_pos _)
    have h2 : 2^(Nat.log2 m + 1) * 2^((e - e').toNat) ≤ 2^(t+1) := by
      rw [← Nat.pow_add]; exact Nat.pow_le_pow_right (by decide) (by omega)
    omega

theorem roundPos_lt (f : Fmt) (neg : Bool) (m : Nat) (e : Int) : roundPos f neg m e < 2 * f.signBit := by
  have hA : 0 < 2 ^ f.mbits := Nat.two_pow_pos _
  have hB : 0 < 2 ^ f.ebits := Nat.two_pow_pos _
  have hS := signBit_mul f
  have hAS : 2 ^ f.mbits ≤ f.signBit := by rw [hS]; exact Nat.le_mul_of_pos_right _ hB
  have hA2 : 2 ^ (f.mbits + 1) = 2 * 2 ^ f.mbits := by rw [Nat.pow_succ, Nat.mul_comm]
  have hs : (if neg = true then f.signBit else 0) ≤ f.signBit := by split <;> omega
  unfold roundPos
  extract_lets s len emin e' mr
  split
  · omega
  · have hmr : mr ≤ 2 ^ (f.mbits + 1) := mr_le m e e' f.mbits (Int.le_max_left _ _)
    split
    rename_i mr' e'' heq
    -- renormalised, the mantissa has at most `mbits + 1` bits
    have hmr' : mr' < 2 * 2 ^ f.mbits := by
      split at heq <;> injection heq with h1 _ <;> omega
    split
    · omega
    · extract_lets ex
      split
      · exact infBits_lt f neg
      · rw [hS]
        refine fields_lt (by rw [← hS]; exact hs) ?_ (by omega)
        have : f.emax + 1 = 2 ^ f.ebits := by unfold Fmt.emax; omega
        omega

theorem mul_lt (f : Fmt) (a b : Nat) : mul f a b < 2 * f.signBit := by
  unfold mul
  split
  · exact nanBits_lt f
  · exact nanBits_lt f
  · exact infBits_lt f _
  · split
    · exact nanBits_lt f
    · exact infBits_lt f _
  · split
    · exact nanBits_lt f
    · exact infBits_lt f _
  · exact roundPos_lt f _ _ _

end SF

namespace JD
open SF

theorem cvt_lt (f g : Fmt) (bits : Nat) : cvt f g bits < 2 * g.signBit := by
  unfold cvt
  split
  · exact nanBits_lt g
  · exact infBits_lt g _
  · exact roundPos_lt g _ _ _

theorem negBits_lt (f : Fmt) (neg : Bool) (r : Nat) (h : r < 2 * f.signBit) : negBits f neg r < 2 * f.signBit := by
  unfold negBits
  split
  · split <;> omega
  · exact h

/-- `make_float`: the result is the start value or a product -/
theorem makeFloat_go_bound (f : Fmt) (tbl : List Nat) :
    ∀ fuel acc e idx r, acc < 2 * f.signBit → makeFloat.go f tbl fuel acc e idx = some r → r < 2 * f.signBit := by
  intro fuel
  induction fuel with
  | zero => intro acc e idx r ha h; simp only [makeFloat.go] at h; cases h; exact ha
  | succ n ih =>
    intro acc e idx r ha h
    simp only [makeFloat.go] at h
    split at h
    · cases h; exact ha
    · split at h
      · split at h
        · cases h
        · exact ih _ _ _ _ (mul_lt f _ _) h
      · exact ih _ _ _ _ ha h

theorem makeFloat_bound (f : Fmt) (tp tn : List Nat) (m : Nat) (e : Int) (r : Nat)
    (h : makeFloat f tp tn (ofNat f m) e = some r) : r < 2 * f.signBit := by
  unfold makeFloat at h
  exact makeFloat_go_bound f _ _ _ _ _ _ (roundPos_lt f _ _ _) h

end JD
