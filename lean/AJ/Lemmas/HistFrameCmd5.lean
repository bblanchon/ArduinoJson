/- C20: STATIC confinement of the interpreter's commands. A command is `In A S` when the references and documents it names
   in its text lie in region `A` (sources of copies and of reads may lie in the shared read-only region `S`). Under the
   invariant `RefsInto A S` (the references of `A` are bound into documents of `A`, those of `S` into documents of `S`)
   such a command stays within `A` (reading `S`) and keeps the invariant: navigation binds its result into the document
   of the reference it starts from (`Cmd.rebinds`). Hence a whole history of such commands is `Confined`. -/
import AJ.Lemmas.HistFrameCmd4
namespace C20
open DL
open DH (W Ref unhex)
open JD (Byte Val)

/-! ## What a rebound reference is bound to -/

/-- the document the references rebound by a command end up in: the named document (`root`), the document of the
    reference the navigation starts from -/
def Cmd.bindsInto (w : W) : Cmd → Nat → Prop
  | .root _ d => one d.toNat!
  | .mem _ r2 _ _ | .elem _ r2 _ | .memw _ r2 _ _ | .elemw _ r2 _ | .addv _ r2 | .toarr _ r2 | .toobj _ r2 =>
    docOf (w.refs[r2.toNat!]!)
  | _ => none'

/-- **A rebound reference is bound into the expected document.** -/
theorem Cmd.rebinds (c : Cmd) (w : W) (r : Nat) (hb : c.fp.bind r) (j : Nat) (hj : docOf ((c.step w).2.refs[r]!) j) :
    c.bindsInto w j := by
  cases c with
  | root r' d =>
    cases (show r = r'.toNat! from hb)
    exact (Option.some.inj (docOf_set!_self _ _ _ _ hj)).symm
  | mem r' r2 k kk => cases (show r = r'.toNat! from hb); exact (mem_nav r' r2 k kk).rebinds w j hj
  | elem r' r2 i => cases (show r = r'.toNat! from hb); exact (elem_nav r' r2 i).rebinds w j hj
  | memw r' r2 k kk => cases (show r = r'.toNat! from hb); exact (memw_nav r' r2 k kk).rebinds w j hj
  | elemw r' r2 i => cases (show r = r'.toNat! from hb); exact (elemw_nav r' r2 i).rebinds w j hj
  | addv r' r2 => cases (show r = r'.toNat! from hb); exact (addv_nav r' r2).rebinds w j hj
  | toarr r' r2 => cases (show r = r'.toNat! from hb); exact (toarr_nav r' r2).rebinds w j hj
  | toobj r' r2 => cases (show r = r'.toNat! from hb); exact (toobj_nav r' r2).rebinds w j hj
  | _ => exact hb.elim

/-! ## Static confinement -/

/-- the references of `A` are bound into documents of `A`, the references of `S` into documents of `S` -/
def RefsInto (A S : Region) (w : W) : Prop :=
  (∀ r, A.refs r → ∀ j, docOf (w.refs[r]!) j → A.docs j) ∧ (∀ r, S.refs r → ∀ j, docOf (w.refs[r]!) j → S.docs j)

/-- the references and documents named in the text of the command lie in `A`; sources of deep copies and of reads may
    lie in the shared region `S`; the observers of the whole world are in no region -/
def Cmd.In (A S : Region) : Cmd → Prop
  | .root r d => A.refs r.toNat! ∧ A.docs d.toNat!
  | .mem r r2 _ _ | .elem r r2 _ | .memw r r2 _ _ | .elemw r r2 _ | .addv r r2 | .toarr r r2 | .toobj r r2 =>
    A.refs r.toNat! ∧ A.refs r2.toNat!
  | .clear r | .remi r _ | .remk r _ | .deserj r _ _ | .deserm r _ _ => A.refs r.toNat!
  | .set r _ _ _ | .setm r _ _ _ _ _ | .sete r _ _ _ _ | .add r _ _ _ => A.refs r.toNat!
  | .setDoc r k | .setmDoc r _ k _ | .seteDoc r _ k | .addDoc r k => A.refs r.toNat! ∧ (A.docs k.toNat! ∨ S.docs k.toNat!)
  | .setRef r r2 | .setmRef r _ r2 _ | .seteRef r _ r2 | .addRef r r2 =>
    A.refs r.toNat! ∧ (A.refs r2.toNat! ∨ S.refs r2.toNat!)
  | .cleardoc d | .shrink d | .failat d _ | .failfrom d _ | .nofail d => A.docs d.toNat!
  | .swapdoc d e => A.docs d.toNat! ∧ A.docs e.toNat!
  | .rd2 r _ _ _ _ | .obsx r => A.refs r.toNat! ∨ S.refs r.toNat!
  | .hser d => A.docs d.toNat! ∨ S.docs d.toNat!
  | .obs _ | .ledger => False

theorem within_mut {A S : Region} {w : W} {r : Nat} (hi : RefsInto A S w) (hr : A.refs r) : (fpMut r).Within A S w :=
  ⟨fun j h => hi.1 r hr j h, fun j h => h.elim (fun h => Or.inl (hi.1 r hr j h)) (fun h => h.elim),
    fun _ h => Or.inl (h ▸ hr), fun _ h => h.elim⟩

theorem within_copyDoc {A S : Region} {w : W} {r k : Nat} (hi : RefsInto A S w) (hr : A.refs r)
    (hk : A.docs k ∨ S.docs k) : (fpCopyDoc r k).Within A S w :=
  ⟨fun j h => hi.1 r hr j h, fun j h => h.elim (fun h => Or.inl (hi.1 r hr j h)) (fun h => by cases h; exact hk),
    fun x h => Or.inl (h ▸ hr), fun _ h => h.elim⟩

theorem within_copyRef {A S : Region} {w : W} {r r2 : Nat} (hi : RefsInto A S w) (hr : A.refs r)
    (hr2 : A.refs r2 ∨ S.refs r2) : (fpCopyRef r r2).Within A S w :=
  ⟨fun j h => hi.1 r hr j h,
    fun j h => h.elim (fun h => Or.inl (hi.1 r hr j h))
      (fun h => hr2.elim (fun h2 => Or.inl (hi.1 r2 h2 j h)) (fun h2 => Or.inr (hi.2 r2 h2 j h))),
    fun x h => h.elim (fun h => Or.inl (h ▸ hr)) (fun h => by cases h; exact hr2), fun _ h => h.elim⟩

theorem within_navW {A S : Region} {w : W} {r r2 : Nat} (hi : RefsInto A S w) (hr : A.refs r) (hr2 : A.refs r2) :
    (fpNavW r r2).Within A S w :=
  ⟨fun j h => hi.1 r2 hr2 j h, fun j h => h.elim (fun h => Or.inl (hi.1 r2 hr2 j h)) (fun h => h.elim),
    fun _ h => h.elim (fun h => Or.inl (h ▸ hr2)) (fun h => Or.inl (h ▸ hr)), fun _ h => h ▸ hr⟩

theorem within_nav {A S : Region} {w : W} {r r2 : Nat} (hi : RefsInto A S w) (hr : A.refs r) (hr2 : A.refs r2) :
    (fpNav r r2).Within A S w :=
  ⟨fun _ h => h.elim, fun j h => h.elim (fun h => Or.inl (hi.1 r2 hr2 j h)) (fun h => h.elim),
    fun _ h => h.elim (fun h => Or.inl (h ▸ hr2)) (fun h => Or.inl (h ▸ hr)), fun _ h => h ▸ hr⟩

theorem within_read {A S : Region} {w : W} {r : Nat} (hi : RefsInto A S w) (hr : A.refs r ∨ S.refs r) :
    (fpRead r).Within A S w :=
  ⟨fun _ h => h.elim,
    fun j h => h.elim (fun h => hr.elim (fun h2 => Or.inl (hi.1 r h2 j h)) (fun h2 => Or.inr (hi.2 r h2 j h))) (fun h => h.elim),
    fun x h => by cases h; exact hr, fun _ h => h.elim⟩

theorem within_doc {A S : Region} {w : W} {i : Nat} (hi : A.docs i) : (fpDoc i).Within A S w :=
  ⟨fun _ h => h ▸ hi, fun _ h => Or.inl (h ▸ hi), fun _ h => h.elim, fun _ h => h.elim⟩

/-- **a command `In A S` stays within `A` (reading `S`)**, wherever the references of `A` and `S` are bound as they should -/
theorem Cmd.within_of_in {A S : Region} {c : Cmd} {w : W} (hc : c.In A S) (hi : RefsInto A S w) : c.fp.Within A S w := by
  cases c with
  | root r d => exact ⟨fun _ h => h.elim, fun _ h => h.elim, fun x h => Or.inl (h ▸ hc.1), fun x h => h ▸ hc.1⟩
  | mem | elem => exact within_nav hi hc.1 hc.2
  | memw | elemw | addv | toarr | toobj => exact within_navW hi hc.1 hc.2
  | clear | remi | remk | deserj | deserm | set | setm | sete | add => exact within_mut hi hc
  | setDoc | setmDoc | seteDoc | addDoc => exact within_copyDoc hi hc.1 hc.2
  | setRef | setmRef | seteRef | addRef => exact within_copyRef hi hc.1 hc.2
  | cleardoc | shrink | failat | failfrom | nofail => exact within_doc hc
  | swapdoc d e =>
    exact ⟨fun _ h => h.elim (fun h => h ▸ hc.1) (fun h => h ▸ hc.2),
      fun _ h => Or.inl (h.elim (fun h => h ▸ hc.1) (fun h => h ▸ hc.2)), fun _ h => h.elim, fun _ h => h.elim⟩
  | rd2 | obsx => exact within_read hi hc
  | hser d => exact ⟨fun _ h => h.elim, fun _ h => by cases h; exact hc, fun _ h => h.elim, fun _ h => h.elim⟩
  | obs | ledger => exact hc.elim

/-- what a command `In A S` rebinds, it binds into `A` -/
theorem Cmd.bindsInto_in {A S : Region} {c : Cmd} {w : W} (hc : c.In A S) (hi : RefsInto A S w) (j : Nat)
    (h : c.bindsInto w j) : A.docs j := by
  cases c with
  | root r d => cases h; exact hc.2
  | mem | elem | memw | elemw | addv | toarr | toobj => exact hi.1 _ hc.2 j h
  | _ => exact h.elim

/-- **… and keeps the references of `A` bound into `A`, those of `S` bound into `S`** -/
theorem Cmd.refsInto_step {A S : Region} (hAS : A.Disj S) {c : Cmd} {w : W} (hc : c.In A S) (hi : RefsInto A S w) :
    RefsInto A S (c.step w).2 := by
  have hw := Cmd.within_of_in hc hi
  refine ⟨fun r hr j hj => ?_, fun r hr j hj => ?_⟩
  · by_cases hb : c.fp.bind r
    · exact Cmd.bindsInto_in hc hi j (c.rebinds w r hb j hj)
    · have e : (c.step w).2.refs[r]! = w.refs[r]! := refs_bang_congr (c.local.frame_refs w r hb)
      rw [e] at hj; exact hi.1 r hr j hj
  · have hb : ¬ c.fp.bind r := fun h => hAS.2 r (hw.bind r h) hr
    have e : (c.step w).2.refs[r]! = w.refs[r]! := refs_bang_congr (c.local.frame_refs w r hb)
    rw [e] at hj; exact hi.2 r hr j hj

/-- a history of commands `In A S`, from a world where the references are bound as they should, is confined to `A` -/
theorem confined_of_in {A S : Region} (hAS : A.Disj S) : ∀ (h : List Cmd) (w : W), (∀ c ∈ h, c.In A S) → RefsInto A S w →
    Confined A S (h.map Cmd.lstep) w
  | [], _, _, _ => trivial
  | c :: h, _, hc, hi =>
    ⟨Cmd.within_of_in (hc c List.mem_cons_self) hi,
      confined_of_in hAS h _ (fun x hx => hc x (List.mem_cons_of_mem _ hx)) (Cmd.refsInto_step hAS (hc c List.mem_cons_self) hi)⟩

end C20
