/- Generic preservation: a predicate on parser states that is kept by `current()`, `move()` and by setting `found`
   is kept by every routine of the JSON deserializer model: the lexing routines, the skipping routines, the filtered
   parser and, as the filtered parser under the allow-all filter, the unfiltered one. -/
import AJ.Lemmas.JDLexPieces
import AJ.Lemmas.FilterId
namespace JD

/-- `P` is kept by the three things the routines do to a state (the model only ever sets `found` to `true`) -/
structure LatchClosed (P : St → Prop) : Prop where
  cur : ∀ {s}, P s → P (JD.cur s).2
  mv : ∀ {s}, P s → P (JD.mv s)
  found : ∀ {s}, P s → P { s with found := true }

section
variable {P : St → Prop} (hP : LatchClosed P)
include hP

/-! ## lexing routines -/

theorem kept_skipBlock : ∀ fuel w s, P s → P (skipBlock fuel w s).2 := by
  intro fuel
  induction fuel with
  | zero => intro w s h; exact h
  | succ f ih =>
    intro w s h
    simp only [skipBlock]
    have h1 := hP.cur h
    split
    · exact h1
    · split
      · exact hP.mv h1
      · exact ih _ _ (hP.mv h1)

theorem kept_skipLine : ∀ fuel s, P s → P (skipLine fuel s).2 := by
  intro fuel
  induction fuel with
  | zero => intro s h; exact h
  | succ f ih =>
    intro s h
    simp only [skipLine]
    have h1 := hP.cur (hP.mv h)
    split
    · exact h1
    · split
      · exact h1
      · exact ih _ h1

theorem kept_skipSpaces {cfg} : ∀ fuel s, P s → P (skipSpaces cfg fuel s).2 := by
  intro fuel
  induction fuel with
  | zero => intro s h; exact h
  | succ f ih =>
    intro s h
    simp only [skipSpaces]
    have h1 := hP.cur h
    split
    · exact h1
    · split
      · exact ih _ (hP.mv h1)
      · split
        · have h2 := hP.cur (hP.mv h1)
          split
          · have h3 := kept_skipBlock hP f false _ (hP.mv h2)
            split
            · rename_i heq; rw [heq] at h3; exact ih _ h3
            · exact h3
          · split
            · have h3 := kept_skipLine hP f _ h2
              split
              · rename_i heq; rw [heq] at h3; exact ih _ h3
              · exact h3
            · exact h2
        · exact hP.found h1

theorem kept_skipKeyword : ∀ ks s, P s → P (skipKeyword ks s).2 := by
  intro ks
  induction ks with
  | nil => intro s h; exact h
  | cons k ks ih =>
    intro s h
    simp only [skipKeyword]
    have h1 := hP.cur h
    split
    · exact h1
    · split
      · exact h1
      · exact ih _ (hP.mv h1)

theorem kept_parseHex4 : ∀ k acc s, P s → P (parseHex4 k acc s).2.2 := by
  intro k
  induction k with
  | zero => intro acc s h; exact h
  | succ k ih =>
    intro acc s h
    simp only [parseHex4]
    have h1 := hP.cur h
    split
    · exact h1
    · split
      · exact h1
      · exact ih _ _ (hP.mv h1)

omit hP in
theorem kept_pqHex {cfg stop f acc hi} (ih : ∀ acc hi s, P s → P (parseQuoted cfg stop f acc hi s).2.2)
    (r : Code × Nat × St) (h : P r.2.2) : P (pqHex cfg stop f acc hi r).2.2 := by
  obtain ⟨e, cu, s⟩ := r
  cases e <;> try exact h
  simp only [pqHex]
  split
  · exact ih _ _ _ h
  · split <;> exact ih _ _ _ h

theorem kept_pqEsc {cfg stop f acc hi} (ih : ∀ acc hi s, P s → P (parseQuoted cfg stop f acc hi s).2.2)
    (s : St) (h : P s) : P (pqEsc cfg stop f acc hi s).2.2 := by
  have h1 := hP.cur h
  simp only [pqEsc]
  split
  · exact h1
  · split
    · split
      · exact kept_pqHex ih _ (kept_parseHex4 hP _ _ _ (hP.mv h1))
      · exact ih _ _ _ h1
    · split
      · exact h1
      · exact ih _ _ _ (hP.mv h1)

theorem kept_parseQuoted {cfg stop} : ∀ fuel acc hi s, P s → P (parseQuoted cfg stop fuel acc hi s).2.2 := by
  intro fuel
  induction fuel with
  | zero => intro acc hi s h; exact h
  | succ f ih =>
    intro acc hi s h
    have h1 := hP.mv (hP.cur h)
    simp only [parseQuoted_succ]
    split
    · exact h1
    · split
      · exact h1
      · split
        · exact kept_pqEsc hP ih _ h1
        · exact ih _ _ _ h1

theorem kept_parseUnquoted : ∀ fuel acc s, P s → P (parseUnquoted fuel acc s).2 := by
  intro fuel
  induction fuel with
  | zero => intro acc s h; exact h
  | succ f ih =>
    intro acc s h
    simp only [parseUnquoted]
    have h1 := hP.cur h
    split
    · exact ih _ _ (hP.mv h1)
    · exact h1

theorem kept_scanNumber {cfg} : ∀ k acc s, P s → P (scanNumber cfg k acc s).2 := by
  intro k
  induction k with
  | zero => intro acc s h; exact hP.cur h
  | succ k ih =>
    intro acc s h
    simp only [scanNumber]
    have h1 := hP.cur h
    split
    · exact ih _ _ (hP.mv h1)
    · exact h1

theorem kept_parseNumeric {cfg} (s : St) (h : P s) : P (parseNumeric cfg s).2.2 := by
  unfold parseNumeric
  have h1 := kept_scanNumber hP (cfg := cfg) (Gen.number_buffer - 1) [] s h
  generalize scanNumber cfg (Gen.number_buffer - 1) [] s = r at h1 ⊢
  obtain ⟨buf, s'⟩ := r
  simp only
  split <;> exact h1

theorem kept_skipQuoted {stop} : ∀ fuel s, P s → P (skipQuoted stop fuel s).2 := by
  intro fuel
  induction fuel with
  | zero => intro s h; exact h
  | succ f ih =>
    intro s h
    simp only [skipQuoted]
    have h1 := hP.mv (hP.cur h)
    split
    · exact h1
    · split
      · exact h1
      · split
        · have h2 := hP.cur h1
          split
          · exact ih _ (hP.mv h2)
          · exact ih _ h2
        · exact ih _ h1

theorem kept_skipUnquoted : ∀ fuel s, P s → P (skipUnquoted fuel s) := by
  intro fuel
  induction fuel with
  | zero => intro s h; exact h
  | succ f ih =>
    intro s h
    simp only [skipUnquoted]
    have h1 := hP.cur h
    split
    · exact ih _ (hP.mv h1)
    · exact h1

theorem kept_skipNumeric {cfg} : ∀ fuel s, P s → P (skipNumeric cfg fuel s) := by
  intro fuel
  induction fuel with
  | zero => intro s h; exact h
  | succ f ih =>
    intro s h
    simp only [skipNumeric]
    have h1 := hP.cur h
    split
    · exact ih _ (hP.mv h1)
    · exact h1

omit hP in
theorem kept_pvStr (r : Code × List Byte × St) (h : P r.2.2) : P (pvStr r).2.2 := by
  obtain ⟨e, str, s⟩ := r
  cases e <;> exact h

theorem kept_pmKey {cfg f} (s : St) (h : P s) : P (pmKey cfg f s).2.2 := by
  have h1 := hP.cur h
  simp only [pmKey]
  split
  · exact kept_parseQuoted hP _ _ _ _ (hP.mv h1)
  · split
    · exact kept_parseUnquoted hP _ _ _ h1
    · exact h1

theorem kept_smKey {f} (s : St) (h : P s) : P (smKey f s).2 := by
  have h1 := hP.cur h
  simp only [smKey]
  split
  · exact kept_skipQuoted hP _ _ (hP.mv h1)
  · exact kept_skipUnquoted hP _ _ h1

/-! ## the skipping routines, piece by piece (AJ/Lemmas/JDPieces.lean) -/

/-- the three skipping routines with fuel `f` keep `P` -/
def KeptSkip (P : St → Prop) (cfg : Cfg) (f : Nat) : Prop :=
  (∀ limit s, P s → P (skipVariant cfg f limit s).2) ∧
  (∀ limit s, P s → P (skipElems cfg f limit s).2) ∧
  (∀ limit s, P s → P (skipMembers cfg f limit s).2)

section
variable {cfg : Cfg} {f : Nat} (ih : KeptSkip P cfg f)
include ih

theorem kept_svObj {L'} (r : Code × St) (h : P r.2) : P (svObj cfg f L' r).2 := by
  obtain ⟨e, s⟩ := r
  cases e <;> try exact h
  simp only [svObj]
  split
  · exact hP.mv (hP.cur h)
  · exact ih.2.2 _ _ (hP.cur h)

theorem kept_svTok {L} (s : St) (h : P s) : P (svTok cfg f L s).2 := by
  have h1 := hP.cur h
  rcases tok_cases (cur s).1 with hc | hc | hc | hc | hc
  · cases L with
    | zero => rw [svTok_arr0 hc]; exact h1
    | succ L' => rw [svTok_arr hc]; exact ih.2.1 _ _ (hP.mv h1)
  · cases L with
    | zero => rw [svTok_obj0 hc]; exact h1
    | succ L' => rw [svTok_obj hc]; exact kept_svObj hP ih _ (kept_skipSpaces hP _ _ (hP.mv h1))
  · rw [svTok_str hc]; exact kept_skipQuoted hP _ _ (hP.mv h1)
  · obtain ⟨ks, e⟩ := svTok_kw (cfg := cfg) (f := f) (L := L) hc
    rw [e]; exact kept_skipKeyword hP _ _ h1
  · rw [svTok_num hc]; exact kept_skipNumeric hP _ _ h1

theorem kept_svK {L} (r : Code × St) (h : P r.2) : P (svK cfg f L r).2 := by
  obtain ⟨e, s⟩ := r
  cases e
  case ok => exact kept_svTok hP ih _ h
  all_goals exact h

theorem kept_seK2 {L} (r : Code × St) (h : P r.2) : P (seK2 cfg f L r).2 := by
  obtain ⟨e, s⟩ := r
  cases e <;> try exact h
  have h1 := hP.cur h
  simp only [seK2]
  split
  · exact hP.mv h1
  · split
    · exact ih.2.1 _ _ (hP.mv h1)
    · exact h1

theorem kept_seK1 {L} (r : Code × St) (h : P r.2) : P (seK1 cfg f L r).2 := by
  obtain ⟨e, s⟩ := r
  cases e
  case ok => exact kept_seK2 hP ih _ (kept_skipSpaces hP _ _ h)
  all_goals exact h

omit hP in
theorem kept_smK4 {L} (r : Code × St) (h : P r.2) : P (smK4 cfg f L r).2 := by
  obtain ⟨e, s⟩ := r
  cases e
  case ok => exact ih.2.2 _ _ h
  all_goals exact h

theorem kept_smK3 {L} (r : Code × St) (h : P r.2) : P (smK3 cfg f L r).2 := by
  obtain ⟨e, s⟩ := r
  cases e <;> try exact h
  have h1 := hP.cur h
  simp only [smK3]
  split
  · exact hP.mv h1
  · split
    · exact kept_smK4 ih _ (kept_skipSpaces hP _ _ (hP.mv h1))
    · exact h1

theorem kept_smK2 {L} (r : Code × St) (h : P r.2) : P (smK2 cfg f L r).2 := by
  obtain ⟨e, s⟩ := r
  cases e
  case ok => exact kept_smK3 hP ih _ (kept_skipSpaces hP _ _ h)
  all_goals exact h

theorem kept_smK1 {L} (r : Code × St) (h : P r.2) : P (smK1 cfg f L r).2 := by
  obtain ⟨e, s⟩ := r
  cases e <;> try exact h
  have h1 := hP.cur h
  simp only [smK1]
  split
  · exact h1
  · exact kept_smK2 hP ih _ (ih.1 _ _ (hP.mv h1))

theorem kept_smK0 {L} (r : Code × St) (h : P r.2) : P (smK0 cfg f L r).2 := by
  simp only [smK0]
  split
  · exact h
  · exact kept_smK1 hP ih _ (kept_skipSpaces hP _ _ h)

end

theorem kept_skip_mutual {cfg} : ∀ fuel, KeptSkip P cfg fuel := by
  intro fuel
  induction fuel with
  | zero => exact ⟨fun _ _ h => h, fun _ _ h => h, fun _ _ h => h⟩
  | succ f ih =>
    refine ⟨fun L s h => ?_, fun L s h => ?_, fun L s h => ?_⟩
    · rw [skipVariant_succ]; exact kept_svK hP ih _ (kept_skipSpaces hP _ _ h)
    · rw [skipElems_succ]; exact kept_seK1 hP ih _ (ih.1 _ _ h)
    · rw [skipMembers_succ]; exact kept_smK0 hP ih _ (kept_smKey hP _ h)

/-! ## the filtered parser, piece by piece -/

/-- the three routines of the filtered parser with fuel `f` keep `P` -/
def KeptFparse (P : St → Prop) (cfg : Cfg) (f : Nat) : Prop :=
  (∀ limit flt s, P s → P (fparseVariant cfg f limit flt s).2.2) ∧
  (∀ limit flt s acc, P s → P (fparseElems cfg f limit flt s acc).2.2) ∧
  (∀ limit flt s ms, P s → P (fparseMembers cfg f limit flt s ms).2.2)

section
variable {cfg : Cfg} {f : Nat} (ih : KeptFparse P cfg f)
include ih

theorem kept_fvArr {L' ef} (r : Code × St) (h : P r.2) : P (fvArr cfg f L' ef r).2.2 := by
  obtain ⟨e, s⟩ := r
  cases e <;> try exact h
  simp only [fvArr]
  split
  · exact hP.mv (hP.cur h)
  · exact ih.2.1 _ _ _ _ (hP.cur h)

theorem kept_fvObj {L' flt} (r : Code × St) (h : P r.2) : P (fvObj cfg f L' flt r).2.2 := by
  obtain ⟨e, s⟩ := r
  cases e <;> try exact h
  simp only [fvObj]
  split
  · exact hP.mv (hP.cur h)
  · exact ih.2.2 _ _ _ _ (hP.cur h)

omit ih in
theorem kept_fvObjSkip {L'} (r : Code × St) (h : P r.2) : P (fvObjSkip cfg f L' r).2.2 := by
  obtain ⟨e, s⟩ := r
  cases e <;> try exact h
  simp only [fvObjSkip]
  split
  · exact hP.mv (hP.cur h)
  · exact (kept_skip_mutual hP f).2.2 _ _ (hP.cur h)

theorem kept_fvTok {L flt} (s : St) (h : P s) : P (fvTok cfg f L flt s).2.2 := by
  have h1 := hP.cur h
  rcases tok_cases (cur s).1 with hc | hc | hc | hc | hc
  · cases L with
    | zero => rw [fvTok_arr0 hc]; exact h1
    | succ L' =>
      rw [fvTok_arr hc]
      split
      · exact kept_fvArr hP ih _ (kept_skipSpaces hP _ _ (hP.mv h1))
      · exact (kept_skip_mutual hP f).2.1 _ _ (hP.mv h1)
  · cases L with
    | zero => rw [fvTok_obj0 hc]; exact h1
    | succ L' =>
      rw [fvTok_obj hc]
      split
      · exact kept_fvObj hP ih _ (kept_skipSpaces hP _ _ (hP.mv h1))
      · exact kept_fvObjSkip hP _ (kept_skipSpaces hP _ _ (hP.mv h1))
  · rw [fvTok_str hc]
    split
    · exact kept_pvStr _ (kept_parseQuoted hP _ _ _ _ (hP.mv h1))
    · exact kept_skipQuoted hP _ _ (hP.mv h1)
  · obtain ⟨ks, v, e⟩ := fvTok_kw (cfg := cfg) (f := f) (L := L) (flt := flt) hc
    rw [e]; exact kept_skipKeyword hP _ _ h1
  · rw [fvTok_num hc]
    split
    · exact kept_parseNumeric hP _ h1
    · exact kept_skipNumeric hP _ _ h1

theorem kept_fvK {L flt} (r : Code × St) (h : P r.2) : P (fvK cfg f L flt r).2.2 := by
  obtain ⟨e, s⟩ := r
  cases e
  case ok => exact kept_fvTok hP ih _ h
  all_goals exact h

theorem kept_feElem {L ef acc} (s : St) (h : P s) : P (feElem cfg f L ef s acc).2.2 := by
  simp only [feElem]
  split
  · exact ih.1 _ _ _ h
  · exact (kept_skip_mutual hP f).1 _ _ h

theorem kept_feK2 {L ef vs} (r : Code × St) (h : P r.2) : P (feK2 cfg f L ef vs r).2.2 := by
  obtain ⟨e, s⟩ := r
  cases e <;> try exact h
  have h1 := hP.cur h
  simp only [feK2]
  split
  · exact hP.mv h1
  · split
    · exact ih.2.1 _ _ _ _ (hP.mv h1)
    · exact h1

theorem kept_feK1 {L ef} (r : Code × List Val × St) (h : P r.2.2) : P (feK1 cfg f L ef r).2.2 := by
  obtain ⟨e, vs, s⟩ := r
  cases e
  case ok => exact kept_feK2 hP ih _ (kept_skipSpaces hP _ _ h)
  all_goals exact h

theorem kept_fmVal {L mf ms key} (s : St) (h : P s) : P (fmVal cfg f L mf ms key s).2.2 := by
  simp only [fmVal]
  split
  · exact ih.1 _ _ _ h
  · exact (kept_skip_mutual hP f).1 _ _ h

omit hP in
theorem kept_fmK4 {L flt ms} (r : Code × St) (h : P r.2) : P (fmK4 cfg f L flt ms r).2.2 := by
  obtain ⟨e, s⟩ := r
  cases e
  case ok => exact ih.2.2 _ _ _ _ h
  all_goals exact h

theorem kept_fmK3 {L flt ms} (r : Code × St) (h : P r.2) : P (fmK3 cfg f L flt ms r).2.2 := by
  obtain ⟨e, s⟩ := r
  cases e <;> try exact h
  have h1 := hP.cur h
  simp only [fmK3]
  split
  · exact hP.mv h1
  · split
    · exact kept_fmK4 ih _ (kept_skipSpaces hP _ _ (hP.mv h1))
    · exact h1

theorem kept_fmK2 {L flt} (r : Code × List (List Byte × Val) × St) (h : P r.2.2) :
    P (fmK2 cfg f L flt r).2.2 := by
  obtain ⟨e, ms, s⟩ := r
  cases e
  case ok => exact kept_fmK3 hP ih _ (kept_skipSpaces hP _ _ h)
  all_goals exact h

theorem kept_fmK1 {L flt ms key} (r : Code × St) (h : P r.2) : P (fmK1 cfg f L flt ms key r).2.2 := by
  obtain ⟨e, s⟩ := r
  cases e <;> try exact h
  have h1 := hP.cur h
  simp only [fmK1]
  split
  · exact h1
  · exact kept_fmK2 hP ih _ (kept_fmVal hP ih _ (hP.mv h1))

theorem kept_fmK0 {L flt ms} (r : Code × List Byte × St) (h : P r.2.2) : P (fmK0 cfg f L flt ms r).2.2 := by
  obtain ⟨e, key, s⟩ := r
  cases e
  case ok => exact kept_fmK1 hP ih _ (kept_skipSpaces hP _ _ h)
  all_goals exact h

end

theorem kept_fparse_mutual {cfg} : ∀ fuel, KeptFparse P cfg fuel := by
  intro fuel
  induction fuel with
  | zero => exact ⟨fun _ _ _ h => h, fun _ _ _ _ h => h, fun _ _ _ _ h => h⟩
  | succ f ih =>
    refine ⟨fun L flt s h => ?_, fun L flt s acc h => ?_, fun L flt s ms h => ?_⟩
    · rw [fparseVariant_succ]; exact kept_fvK hP ih _ (kept_skipSpaces hP _ _ h)
    · rw [fparseElems_succ]; exact kept_feK1 hP ih _ (kept_feElem hP ih _ h)
    · rw [fparseMembers_succ]; exact kept_fmK0 hP ih _ (kept_pmKey hP _ h)

/-- the unfiltered parser is the filtered one under the allow-all filter -/
theorem kept_mutual {cfg} (fuel : Nat) :
    (∀ limit s, P s → P (parseVariant cfg fuel limit s).2.2) ∧
    (∀ limit s acc, P s → P (parseElems cfg fuel limit s acc).2.2) ∧
    (∀ limit s ms, P s → P (parseMembers cfg fuel limit s ms).2.2) := by
  obtain ⟨hV, hE, hM⟩ := kept_fparse_mutual hP (cfg := cfg) fuel
  obtain ⟨eV, eE, eM⟩ := fparse_eq_parse (cfg := cfg) fuel
  exact ⟨fun L s h => eV L .all s transparent_all ▸ hV L .all s h,
    fun L s acc h => eE L .all s acc transparent_all ▸ hE L .all s acc h,
    fun L s ms h => eM L .all s ms transparent_all ▸ hM L .all s ms h⟩

end

end JD
