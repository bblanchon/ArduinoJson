/- C12 (printing clauses): `JS.decompose` over ℚ: the integral part is the floor, the decimal part is the fraction scaled by
   `10^places'` and rounded half up (one multiplication error), carries and trailing-zero removal are exact. -/
import AJ.Lemmas.FloatPrintNorm
namespace C12
open SF JD JS

/-! ## `decompose` in named pieces -/

def bodyD : Nat → Nat × Nat × Nat → Id (ForInStep (Nat × Nat × Nat)) := fun _ s =>
  if s.2.2 ≥ 10 then pure (ForInStep.yield (s.1 / 10, s.2.1 - 1, s.2.2 / 10))
  else pure (ForInStep.yield (s.1, s.2.1, s.2.2))

def bodyZ : Nat → Nat × Nat → Id (ForInStep (Nat × Nat)) := fun _ s =>
  if (s.2 % 10 == 0 && decide (s.1 > 0)) = true then pure (ForInStep.yield (s.1 - 1, s.2 / 10))
  else pure (ForInStep.yield (s.1, s.2))

/-- (maxDecimalPart, decimalPlaces, tmp) after the digit-counting loop -/
def digLoop (places integral : Nat) : Nat × Nat × Nat := (forIn [:12] (10 ^ places, places, integral) bodyD : Id _).run
/-- (decimalPlaces, decimal) after the removal of trailing zeros -/
def zeroLoop (pl dec : Nat) : Nat × Nat := (forIn [:12] (pl, dec) bodyZ : Id _).run

/-- the remainder `(value − integral)·maxDec` as computed -/
def remBits (value integral maxDec : Nat) : Nat := SF.mul b64 (SF.sub b64 value (ofNat b64 integral)) (ofNat b64 maxDec)

/-- the decimal part: the remainder rounded half up -/
def decPart (value integral maxDec : Nat) : Nat :=
  (toNatTrunc b64 (remBits value integral maxDec) % 2 ^ 32 +
    toNatTrunc b64 (SF.mul b64 (SF.sub b64 (remBits value integral maxDec)
        (ofNat b64 (toNatTrunc b64 (remBits value integral maxDec) % 2 ^ 32))) 0x4000000000000000) % 2 ^ 32) % 2 ^ 32

def decomposeCore (value : Nat) (e0 : Int) (places : Nat) : Parts :=
  let integral := toNatTrunc b64 value % 2 ^ 32
  let s := digLoop places integral
  let dec := decPart value integral s.1
  if dec ≥ s.1 then
    if (e0 != 0 && decide ((integral + 1) % 2 ^ 32 ≥ 10)) = true then
      { integral := 1, decimal := (zeroLoop s.2.1 0).2, exponent := e0 + 1, decimalPlaces := (zeroLoop s.2.1 0).1 }
    else
      { integral := (integral + 1) % 2 ^ 32, decimal := (zeroLoop s.2.1 0).2, exponent := e0, decimalPlaces := (zeroLoop s.2.1 0).1 }
  else
    { integral := integral, decimal := (zeroLoop s.2.1 dec).2, exponent := e0, decimalPlaces := (zeroLoop s.2.1 dec).1 }

theorem decompose_eq (v places : Nat) : decompose v places = decomposeCore (normalize v).1 (normalize v).2 places := by
  unfold decompose
  rfl

/-! ## the digit-counting loop -/

theorem digLoop_spec (places I : Nat) (hp : 6 ≤ places) (hI : I < 10 ^ 7) :
    ∃ j, j ≤ 6 ∧ (digLoop places I).1 = 10 ^ (places - j) ∧ (digLoop places I).2.1 = places - j ∧ (j = 0 ∨ 10 ^ j ≤ I) := by
  have key := range_forIn_idx
    (fun _ (s : Nat × Nat × Nat) => ∃ j, s = (10 ^ (places - j), places - j, I / 10 ^ j) ∧ (j = 0 ∨ 10 ^ j ≤ I))
    12 bodyD (10 ^ places, places, I) ⟨0, by simp, Or.inl rfl⟩ ?_
  · obtain ⟨j, hs, hj⟩ := key
    have hj6 : j ≤ 6 := by
      rcases hj with rfl | hj
      · omega
      · have : 10 ^ j < 10 ^ 7 := lt_of_le_of_lt hj hI
        have := (Nat.pow_lt_pow_iff_right (by decide : 1 < 10)).mp this
        omega
    unfold digLoop
    rw [hs]
    exact ⟨j, hj6, rfl, rfl, hj⟩
  · intro _ x s _ ⟨j, hs, hj⟩
    subst hs
    unfold bodyD
    simp only
    split
    · rename_i hge
      have h10 : 10 ^ (j + 1) ≤ I := by
        have : 10 * 10 ^ j ≤ I := by
          have := (Nat.le_div_iff_mul_le (Nat.pow_pos (by decide : 0 < 10))).mp hge
          omega
        rw [Nat.pow_succ]; omega
      have hj6 : j + 1 ≤ 6 := by
        have : 10 ^ (j + 1) < 10 ^ 7 := lt_of_le_of_lt h10 hI
        have := (Nat.pow_lt_pow_iff_right (by decide : 1 < 10)).mp this
        omega
      refine ⟨_, rfl, j + 1, ?_, Or.inr h10⟩
      have e1 : places - j = (places - (j + 1)) + 1 := by omega
      refine Prod.ext ?_ (Prod.ext ?_ ?_)
      · simp only; rw [e1, Nat.pow_succ, Nat.mul_div_cancel _ (by decide : 0 < 10)]
      · simp only; omega
      · simp only; rw [Nat.div_div_eq_div_mul, ← Nat.pow_succ]
    · exact ⟨_, rfl, j, rfl, hj⟩

/-! ## removal of trailing zeros keeps the value of the decimal part -/

theorem zeroLoop_spec (pl dec : Nat) (h : dec < 10 ^ pl) :
    (zeroLoop pl dec).1 ≤ pl ∧ (zeroLoop pl dec).2 < 10 ^ (zeroLoop pl dec).1 ∧
    ((zeroLoop pl dec).2 : ℚ) / (10 : ℚ) ^ (zeroLoop pl dec).1 = (dec : ℚ) / (10 : ℚ) ^ pl := by
  refine range_forIn_idx
    (fun _ (s : Nat × Nat) => s.1 ≤ pl ∧ s.2 < 10 ^ s.1 ∧ (s.2 : ℚ) / (10 : ℚ) ^ s.1 = (dec : ℚ) / (10 : ℚ) ^ pl)
    12 bodyZ (pl, dec) ⟨Nat.le_refl _, h, rfl⟩ ?_
  intro _ x s _ ⟨h1, h2, h3⟩
  obtain ⟨k, d⟩ := s
  simp only at h1 h2 h3
  unfold bodyZ
  simp only
  split
  · rename_i hc
    simp only [Bool.and_eq_true, beq_iff_eq, decide_eq_true_eq] at hc
    obtain ⟨hd0, hk0⟩ := hc
    obtain ⟨k', rfl⟩ : ∃ k', k = k' + 1 := ⟨k - 1, by omega⟩
    obtain ⟨q, rfl⟩ : ∃ q, d = 10 * q := ⟨d / 10, by omega⟩
    simp only [Nat.add_sub_cancel]
    have hq : 10 * q / 10 = q := by omega
    rw [hq]
    refine ⟨(k', q), rfl, ?_⟩
    simp only
    refine ⟨by omega, ?_, ?_⟩
    · rw [Nat.pow_succ] at h2; omega
    · rw [← h3]; push_cast; rw [pow_succ]; field_simp
  · exact ⟨_, rfl, h1, h2, h3⟩

/-! ## the decimal part -/

theorem frac_lower (value my : Nat) (ey : Int) (hd : decode b64 value = .fin false my ey)
    (hY : (2 : ℚ) ^ (-1022 : Int) ≤ qv my ey) :
    qv my ey - ((toNatTrunc b64 value : Nat) : ℚ) = 0 ∨
    (2 : ℚ) ^ (-1022 : Int) ≤ qv my ey - ((toNatTrunc b64 value : Nat) : ℚ) := by
  obtain ⟨f1, f2, r, hr, hfr, hr0⟩ := toNatTrunc_floor b64 value false my ey hd
  obtain ⟨_, hb2⟩ := decode_fin_bounds b64 value false my ey hd
  by_cases hr1 : r = 0
  · left; rw [hfr, hr1]; unfold qv; simp
  · right
    by_cases hT : toNatTrunc b64 value = 0
    · rw [hT]; simpa using hY
    · have hT1 : (1 : ℚ) ≤ ((toNatTrunc b64 value : Nat) : ℚ) := by exact_mod_cast Nat.pos_of_ne_zero hT
      have hY1 : (1 : ℚ) ≤ qv my ey := le_trans hT1 f1
      have hey : -52 ≤ ey := by
        by_contra hc
        have h1 : (2 : ℚ) ^ ey ≤ (2 : ℚ) ^ (-53 : Int) := zpow_le_zpow_right₀ (by norm_num) (by omega)
        have h2 : (my : ℚ) < 2 ^ 53 := by exact_mod_cast hb2
        have hp := two_zpow_pos ey
        have : qv my ey < 1 := by
          unfold qv
          calc (my : ℚ) * 2 ^ ey < 2 ^ 53 * 2 ^ ey := mul_lt_mul_of_pos_right h2 hp
            _ ≤ 2 ^ 53 * (2 : ℚ) ^ (-53 : Int) := mul_le_mul_of_nonneg_left h1 (by positivity)
            _ = 1 := by norm_num [zpow_neg]
        linarith
      rw [hfr]
      have hrq : (1 : ℚ) ≤ (r : ℚ) := by exact_mod_cast Nat.pos_of_ne_zero hr1
      have hp := two_zpow_pos ey
      calc (2 : ℚ) ^ (-1022 : Int) ≤ (2 : ℚ) ^ ey := zpow_le_zpow_right₀ (by norm_num) (by omega)
        _ ≤ qv r ey := le_mul_of_one_le_left hp.le hrq

theorem mul_zero_left64 (b : Nat) (n2 : Bool) (m2 : Nat) (e1 e2 : Int) (a : Nat)
    (ha : decode b64 a = .fin false 0 e1) (hb : decode b64 b = .fin n2 m2 e2) (hn : n2 = false) :
    SF.mul b64 a b = 0 := by
  subst hn
  rw [mul_fin b64 a b false false 0 m2 e1 e2 ha hb]
  simp [roundPos]

/-- the computed remainder `fl((y − ⌊y⌋)·10^q)` -/
theorem remBits_spec (value my : Nat) (ey : Int) (hd : decode b64 value = .fin false my ey)
    (hY : (2 : ℚ) ^ (-1022 : Int) ≤ qv my ey) (q : Nat) (hq : q ≤ 9) (hT : toNatTrunc b64 value < 2 ^ 32) :
    ∃ (mR : Nat) (eR : Int), decode b64 (remBits value (toNatTrunc b64 value) (10 ^ q)) = .fin false mR eR ∧
      |qv mR eR - (qv my ey - ((toNatTrunc b64 value : Nat) : ℚ)) * (10 : ℚ) ^ q| ≤
        1 / 2 ^ 53 * ((qv my ey - ((toNatTrunc b64 value : Nat) : ℚ)) * (10 : ℚ) ^ q) := by
  obtain ⟨f1, f2, _⟩ := toNatTrunc_floor b64 value false my ey hd
  obtain ⟨m1, e1, hd1, hv1⟩ := sub_trunc value my ey hd (lt_trans hT (by decide))
  have hq9 : 10 ^ q ≤ 10 ^ 9 := Nat.pow_le_pow_right (by decide) hq
  obtain ⟨mq, eq, hdq, hmq, hvq⟩ := ofNat_exactQ b64 (10 ^ q) (Nat.pos_iff_ne_zero.mp (Nat.pow_pos (by decide)))
    (lt_of_le_of_lt hq9 (by decide)) (by decide) (by decide)
  have hvq' : qv mq eq = (10 : ℚ) ^ q := by rw [hvq]; push_cast; rfl
  have hM1 : (1 : ℚ) ≤ (10 : ℚ) ^ q := one_le_pow₀ (by norm_num)
  have hM9 : (10 : ℚ) ^ q ≤ 10 ^ 9 := pow_le_pow_right₀ (by norm_num) hq
  unfold remBits
  rw [← hv1]
  by_cases hm1 : m1 = 0
  · subst hm1
    rw [mul_zero_left64 _ false mq e1 eq _ hd1 hdq rfl]
    refine ⟨0, emin b64, decode_zero b64 (by decide), ?_⟩
    unfold qv; simp
  · have hF0 : 0 < qv m1 e1 := qv_pos hm1 e1
    have hFlo : (2 : ℚ) ^ (-1022 : Int) ≤ qv m1 e1 := by
      rcases frac_lower value my ey hd hY with h | h
      · rw [← hv1] at h; linarith
      · rw [← hv1] at h; exact h
    have hF1 : qv m1 e1 < 1 := by rw [hv1]; linarith
    have hlo : (2 : ℚ) ^ (emin b64 + (b64.mbits : Int)) ≤ qv m1 e1 * qv mq eq := by
      rw [emin_b64, hvq']
      exact hFlo.trans (le_mul_of_one_le_right hF0.le hM1)
    have hhi : qv m1 e1 * qv mq eq < (2 : ℚ) ^ ((b64.emax : Int) - b64.bias - 1) := by
      rw [hvq', top_b64]
      have h30 : (10 : ℚ) ^ 9 ≤ (2 : ℚ) ^ (1023 : Int) := by
        calc (10 : ℚ) ^ 9 ≤ (2 : ℚ) ^ (30 : Int) := by norm_num
          _ ≤ _ := zpow_le_zpow_right₀ (by norm_num) (by norm_num)
      calc qv m1 e1 * (10 : ℚ) ^ q < 1 * (10 : ℚ) ^ q := mul_lt_mul_of_pos_right hF1 (by positivity)
        _ ≤ (2 : ℚ) ^ (1023 : Int) := by rw [one_mul]; exact hM9.trans h30
    obtain ⟨mR, eR, hdR, _, _, hcR⟩ := mul_relQ b64 _ _ false false m1 mq e1 eq (by decide) hd1 hdq hm1 hmq hlo hhi
    refine ⟨mR, eR, by simpa using hdR, ?_⟩
    rw [hvq'] at hcR
    exact hcR

/-- a remainder `R` within `u·F·M` of the scaled fraction `F·M` (`0 ≤ F < 1`, `M ≤ 10^9`) is below `10^9 + 1/2`, and its
    rounding half up `S` is within `1/2 + 2e-7` of `F·M` and below `M + 1` -/
theorem half_up_err {R F M : ℚ} (hF0 : 0 ≤ F) (hF1 : F < 1) (hM0 : 0 ≤ M) (hM9 : M ≤ 10 ^ 9)
    (hR : |R - F * M| ≤ 1 / 2 ^ 53 * (F * M)) :
    R < 10 ^ 9 + 1 / 2 ∧ ∀ S : ℚ, S - 1 / 2 ≤ R → R < S + 1 / 2 → |S - F * M| ≤ 1 / 2 + 2 / 10 ^ 7 ∧ S < M + 1 := by
  have hFM : F * M ≤ M := mul_le_of_le_one_left hM0 hF1.le
  have hu := mul_le_mul_of_nonneg_left (hFM.trans hM9) (by norm_num : (0 : ℚ) ≤ 1 / 2 ^ 53)
  have hsmall : (1 / 2 ^ 53 : ℚ) * 10 ^ 9 ≤ 2 / 10 ^ 7 := by norm_num
  obtain ⟨hR1, hR2⟩ := abs_le.mp hR
  refine ⟨by linarith only [hR2, hu, hsmall, hFM, hM9], fun S r1 r2 => ⟨abs_le.mpr ⟨?_, ?_⟩, ?_⟩⟩
  · linarith only [hR1, hu, hsmall, r2]
  · linarith only [hR2, hu, hsmall, r1]
  · linarith only [hR2, hu, hsmall, r1, hFM]

/-- THE DECIMAL PART: `decPart` is `(y − ⌊y⌋)·10^q` rounded half up, up to the error `2^-53·10^9 < 2e-7` of one
    multiplication; it never exceeds `10^q` -/
theorem decPart_spec (value my : Nat) (ey : Int) (hd : decode b64 value = .fin false my ey)
    (hY : (2 : ℚ) ^ (-1022 : Int) ≤ qv my ey) (q : Nat) (hq : q ≤ 9) (hT : toNatTrunc b64 value < 2 ^ 32) :
    |((decPart value (toNatTrunc b64 value) (10 ^ q) : Nat) : ℚ) -
        (qv my ey - ((toNatTrunc b64 value : Nat) : ℚ)) * (10 : ℚ) ^ q| ≤ 1 / 2 + 2 / 10 ^ 7 ∧
    decPart value (toNatTrunc b64 value) (10 ^ q) ≤ 10 ^ q := by
  obtain ⟨f1, f2, _⟩ := toNatTrunc_floor b64 value false my ey hd
  obtain ⟨mR, eR, hdR, hcR⟩ := remBits_spec value my ey hd hY q hq hT
  obtain ⟨g1, g2, _⟩ := toNatTrunc_floor b64 _ false mR eR hdR
  obtain ⟨hRhi, hS⟩ := half_up_err (sub_nonneg.mpr f1) (by linarith only [f2]) (by positivity)
    (pow_le_pow_right₀ (by norm_num) hq) hcR
  have hTR : toNatTrunc b64 (remBits value (toNatTrunc b64 value) (10 ^ q)) < 2 ^ 32 := by
    have : ((toNatTrunc b64 (remBits value (toNatTrunc b64 value) (10 ^ q)) : Nat) : ℚ) < ((2 ^ 32 : Nat) : ℚ) := by
      push_cast; linarith only [g1, hRhi]
    exact_mod_cast this
  obtain ⟨r1, r2⟩ := round_half_up _ mR eR hdR (lt_trans hTR (by decide))
  obtain ⟨hD, hlt⟩ := hS _ r1 r2
  unfold decPart
  rw [Nat.mod_eq_of_lt hTR]
  generalize toNatTrunc b64 (SF.mul b64 (SF.sub b64 (remBits value (toNatTrunc b64 value) (10 ^ q))
    (ofNat b64 (toNatTrunc b64 (remBits value (toNatTrunc b64 value) (10 ^ q))))) 0x4000000000000000) = T2 at *
  generalize toNatTrunc b64 (remBits value (toNatTrunc b64 value) (10 ^ q)) = TR at *
  have hM9 : (10 : ℚ) ^ q ≤ 10 ^ 9 := pow_le_pow_right₀ (by norm_num) hq
  have hle : TR + T2 < 10 ^ q + 1 := by
    have : ((TR + T2 : Nat) : ℚ) < ((10 ^ q + 1 : Nat) : ℚ) := by push_cast at hlt ⊢; exact hlt
    exact_mod_cast this
  have h9 : 10 ^ q ≤ 10 ^ 9 := Nat.pow_le_pow_right (by decide) hq
  rw [Nat.mod_eq_of_lt (by omega : T2 < 2 ^ 32), Nat.mod_eq_of_lt (by omega : TR + T2 < 2 ^ 32)]
  exact ⟨hD, by omega⟩

/-! ## `decompose` -/

/-- the exact value denoted by the parts: `(integral + decimal/10^decimalPlaces)·10^exponent` -/
def partsVal (p : Parts) : ℚ :=
  ((p.integral : ℚ) + (p.decimal : ℚ) / (10 : ℚ) ^ p.decimalPlaces) * (10 : ℚ) ^ p.exponent

theorem scaled_err {A Y D F M c E K : ℚ} (hM : 0 < M) (hE : 0 < E) (hc : |D - F * M| ≤ c) (hA : A - Y = (D - F * M) / M)
    (hK : 1 / M ≤ K) (hc0 : 0 ≤ c) : |A * E - Y * E| ≤ c * K * E := by
  have h1 : A * E - Y * E = (D - F * M) / M * E := by rw [← hA]; ring
  rw [h1, abs_mul, abs_div, abs_of_pos hM, abs_of_pos hE]
  have h2 : |D - F * M| / M ≤ c * K := by
    rw [div_eq_mul_one_div]
    exact mul_le_mul hc hK (by positivity) hc0
  exact mul_le_mul_of_nonneg_right h2 hE.le

/-- the integral part of a value `≤ 10.5` is at most 10 -/
theorem floor_le_ten {Y : ℚ} {T : Nat} (hfloor : (T : ℚ) ≤ Y) (hY : Y ≤ 21 / 2) : T ≤ 10 := by
  have : (T : ℚ) < ((11 : Nat) : ℚ) := by push_cast; linarith only [hfloor, hY]
  exact Nat.le_of_lt_succ (Nat.cast_lt.mp this)

/-- and it is not 10 when the fraction, scaled by `M ≥ 10^5`, rounds up to `M`: that fraction is at most `1/2` -/
theorem carry_ne_ten {Y M : ℚ} (hY : Y ≤ 21 / 2) (hM : (10 : ℚ) ^ 5 ≤ M)
    (hD : M - (Y - 10) * M ≤ 1 / 2 + 2 / 10 ^ 7) : False := by
  have h12 := mul_le_mul_of_nonneg_right (by linarith only [hY] : (1 / 2 : ℚ) ≤ 1 - (Y - 10))
    (le_trans (by norm_num) hM : (0 : ℚ) ≤ M)
  linarith only [hD, h12, hM]

/-- DECOMPOSE. For a normalized value `y` (`2^-1022 ≤ y < 1e7`; `y ≤ 10.5` when an exponent is used) and `6 ≤ places ≤ 9`, the
    parts denote `y·10^e0` within `(1/2 + 2e-7)·10^-places·max(1,y)·10^e0`; the decimal part fits its places. -/
theorem decomposeCore_spec (value my : Nat) (ey : Int) (hd : decode b64 value = .fin false my ey)
    (hY : (2 : ℚ) ^ (-1022 : Int) ≤ qv my ey) (hY7 : qv my ey < 10 ^ 7) (e0 : Int) (he0 : e0 ≠ 0 → qv my ey ≤ 21 / 2)
    (places : Nat) (hp6 : 6 ≤ places) (hp9 : places ≤ 9) :
    (decomposeCore value e0 places).decimal < 10 ^ (decomposeCore value e0 places).decimalPlaces ∧
    (decomposeCore value e0 places).decimalPlaces ≤ places ∧
    |partsVal (decomposeCore value e0 places) - qv my ey * (10 : ℚ) ^ e0| ≤
      (1 / 2 + 2 / 10 ^ 7) * (max 1 (qv my ey) / (10 : ℚ) ^ places) * (10 : ℚ) ^ e0 := by
  obtain ⟨f1, f2, _⟩ := toNatTrunc_floor b64 value false my ey hd
  have hT7 : toNatTrunc b64 value < 10 ^ 7 := by
    have : ((toNatTrunc b64 value : Nat) : ℚ) < ((10 ^ 7 : Nat) : ℚ) := by push_cast; linarith only [f1, hY7]
    exact_mod_cast this
  have hT32 : toNatTrunc b64 value < 2 ^ 32 := lt_trans hT7 (by decide)
  obtain ⟨j, hj6, hs1, hs2, hj⟩ := digLoop_spec places (toNatTrunc b64 value) hp6 hT7
  obtain ⟨q, hq⟩ : ∃ q, q = places - j := ⟨_, rfl⟩
  rw [← hq] at hs1 hs2
  have hqp : q ≤ places := by rw [hq]; exact Nat.sub_le _ _
  obtain ⟨hD, hDle⟩ := decPart_spec value my ey hd hY q (by omega) hT32
  have hE := ten_zpow_pos e0
  have hM : (0 : ℚ) < (10 : ℚ) ^ q := by positivity
  have hc0 : (0 : ℚ) ≤ 1 / 2 + 2 / 10 ^ 7 := by norm_num
  -- 1/10^q ≤ max 1 y / 10^places
  have hK : 1 / (10 : ℚ) ^ q ≤ max 1 (qv my ey) / (10 : ℚ) ^ places := by
    have hpl : places = q + j := by omega
    rw [hpl, pow_add, div_le_div_iff₀ hM (by positivity)]
    have : (10 : ℚ) ^ j ≤ max 1 (qv my ey) := by
      rcases hj with rfl | hj
      · simp
      · have : ((10 ^ j : Nat) : ℚ) ≤ ((toNatTrunc b64 value : Nat) : ℚ) := by exact_mod_cast hj
        push_cast at this
        exact le_trans (le_trans this f1) (le_max_right _ _)
    calc 1 * ((10 : ℚ) ^ q * (10 : ℚ) ^ j) = (10 : ℚ) ^ j * (10 : ℚ) ^ q := by ring
      _ ≤ max 1 (qv my ey) * (10 : ℚ) ^ q := mul_le_mul_of_nonneg_right this hM.le
  unfold decomposeCore
  simp only [Nat.mod_eq_of_lt hT32, hs1, hs2]
  generalize decPart value (toNatTrunc b64 value) (10 ^ q) = D at *
  generalize toNatTrunc b64 value = T at *
  generalize qv my ey = Y at *
  by_cases hcar : D ≥ 10 ^ q
  · have hDq : D = 10 ^ q := by omega
    obtain ⟨z1, z2, z3⟩ := zeroLoop_spec q 0 (Nat.pow_pos (by decide))
    have hz : ((zeroLoop q 0).2 : ℚ) / (10 : ℚ) ^ (zeroLoop q 0).1 = 0 := by rw [z3]; simp
    rw [if_pos hcar]
    have hT1 : (T + 1) % 2 ^ 32 = T + 1 := Nat.mod_eq_of_lt (by omega)
    rw [hT1]
    have hAY : ((T + 1 : Nat) : ℚ) - Y = ((D : ℚ) - (Y - (T : ℚ)) * (10 : ℚ) ^ q) / (10 : ℚ) ^ q := by
      rw [hDq]; push_cast; field_simp; ring
    by_cases hexp : (e0 != 0 && decide (T + 1 ≥ 10)) = true
    · rw [if_pos hexp]
      simp only [Bool.and_eq_true, bne_iff_ne, ne_eq, decide_eq_true_eq] at hexp
      obtain ⟨hne, hT10⟩ := hexp
      have hY10 := he0 hne
      have hTle : T ≤ 10 := floor_le_ten f1 hY10
      have hT9 : T = 9 := by
        by_contra hne9
        have hT10' : T = 10 := by omega
        subst hT10'
        -- j ≤ 1, so q ≥ 5 and 10^q ≥ 10^5, but 10^q/2 ≤ 1/2 + 2e-7
        have hj1 : j ≤ 1 := by
          rcases hj with rfl | hj
          · omega
          · have : 10 ^ j < 10 ^ 2 := lt_of_le_of_lt hj (by decide)
            have := (Nat.pow_lt_pow_iff_right (by decide : 1 < 10)).mp this
            omega
        have h5q : 5 ≤ q := by rw [hq]; exact Nat.le_sub_of_add_le (le_trans (Nat.add_le_add_left hj1 5) hp6)
        have := (abs_le.mp hD).2
        rw [hDq] at this
        push_cast at this
        exact carry_ne_ten hY10 (pow_le_pow_right₀ (by norm_num) h5q) this
      subst hT9
      refine ⟨z2, le_trans z1 hqp, ?_⟩
      have hv : partsVal { integral := 1, decimal := (zeroLoop q 0).2, exponent := e0 + 1, decimalPlaces := (zeroLoop q 0).1 } =
          ((9 + 1 : Nat) : ℚ) * (10 : ℚ) ^ e0 := by
        unfold partsVal
        simp only [hz]
        rw [zpow_add₀ (by norm_num : (10 : ℚ) ≠ 0)]
        push_cast; ring
      rw [hv]
      exact scaled_err hM hE hD hAY hK hc0
    · rw [if_neg hexp]
      refine ⟨z2, le_trans z1 hqp, ?_⟩
      have hv : partsVal { integral := T + 1, decimal := (zeroLoop q 0).2, exponent := e0, decimalPlaces := (zeroLoop q 0).1 } =
          ((T + 1 : Nat) : ℚ) * (10 : ℚ) ^ e0 := by
        unfold partsVal
        simp only [hz]
        ring
      rw [hv]
      exact scaled_err hM hE hD hAY hK hc0
  · rw [if_neg hcar]
    obtain ⟨z1, z2, z3⟩ := zeroLoop_spec q D (by omega)
    refine ⟨z2, le_trans z1 hqp, ?_⟩
    have hv : partsVal { integral := T, decimal := (zeroLoop q D).2, exponent := e0, decimalPlaces := (zeroLoop q D).1 } =
        ((T : ℚ) + (D : ℚ) / (10 : ℚ) ^ q) * (10 : ℚ) ^ e0 := by
      unfold partsVal
      simp only [z3]
    rw [hv]
    have hAY : ((T : ℚ) + (D : ℚ) / (10 : ℚ) ^ q) - Y = ((D : ℚ) - (Y - (T : ℚ)) * (10 : ℚ) ^ q) / (10 : ℚ) ^ q := by
      field_simp; ring
    exact scaled_err hM hE hD hAY hK hc0

theorem low_1em6 : (2 : ℚ) ^ (-1022 : Int) ≤ 1 / 10 ^ 6 := by
  calc (2 : ℚ) ^ (-1022 : Int) ≤ (2 : ℚ) ^ (-20 : Int) := zpow_le_zpow_right₀ (by norm_num) (by norm_num)
    _ ≤ 1 / 10 ^ 6 := by norm_num [zpow_neg]

/-- The parts `PV` of the scaled value `Y`, scaled back by `E = 10^p`, against the exact `Z·E`: `Y` is within `22.5u` of `Z`
    and at least `1 − 27u`, so `max 1 Y ≤ (1 + 1e-12)·Z`, and `22.5u ≤ 2.5e-15·N/N`. -/
theorem scaled_parts_err {PV Y Z E N : ℚ} (hZ : 0 < Z) (hE : 0 < E) (hN : 0 < N) (hN9 : N ≤ 10 ^ 9)
    (hcl : |Y - Z| ≤ 45 / 2 ^ 54 * Z) (hylo : 1 - 27 / 2 ^ 53 ≤ Y)
    (h3 : |PV - Y * E| ≤ (1 / 2 + 2 / 10 ^ 7) * (max 1 Y / N) * E) :
    |PV - Z * E| ≤ 51 / 100 * (Z * E / N) := by
  have hYle := (abs_le.mp hcl).2
  have hmax : max 1 Y ≤ (1 + 1 / 10 ^ 12) * Z :=
    max_le (by linarith only [hYle, hylo]) (by linarith only [hYle, hZ])
  have hW : 0 ≤ Z * E / N := by positivity
  have hA1 : (1 / 2 + 2 / 10 ^ 7) * (max 1 Y / N) * E ≤ (1 / 2 + 2 / 10 ^ 7) * (1 + 1 / 10 ^ 12) * (Z * E / N) := by
    have h6 : max 1 Y / N ≤ (1 + 1 / 10 ^ 12) * Z / N := div_le_div_of_nonneg_right hmax hN.le
    calc (1 / 2 + 2 / 10 ^ 7) * (max 1 Y / N) * E ≤ (1 / 2 + 2 / 10 ^ 7) * ((1 + 1 / 10 ^ 12) * Z / N) * E :=
          mul_le_mul_of_nonneg_right (mul_le_mul_of_nonneg_left h6 (by norm_num)) hE.le
      _ = _ := by ring
  have hA2 : |Y * E - Z * E| ≤ 45 / 2 ^ 54 * N * (Z * E / N) := by
    rw [← sub_mul, abs_mul, abs_of_pos hE]
    calc |Y - Z| * E ≤ 45 / 2 ^ 54 * Z * E := mul_le_mul_of_nonneg_right hcl hE.le
      _ = _ := by field_simp
  have hN' := mul_le_mul_of_nonneg_right (mul_le_mul_of_nonneg_left hN9 (by norm_num : (0 : ℚ) ≤ 45 / 2 ^ 54)) hW
  have hsum := abs_sub_le PV (Y * E) (Z * E)
  generalize Z * E / N = W at *
  linarith only [hsum, h3, hA1, hA2, hN', hW]

/-- the branch of `decompose` on a value that `normalize` scaled: the parts are within `0.51·10^-places` RELATIVE -/
theorem decompose_scaled (v m : Nat) (e : Int) (hm : m ≠ 0) (places : Nat) (hp6 : 6 ≤ places) (hp9 : places ≤ 9)
    (my : Nat) (ey : Int) (hdy : decode b64 (normalize v).1 = .fin false my ey)
    (hcl : Close (45 / 2 ^ 54) (qv my ey) (qv m e * (10 : ℚ) ^ (-(normalize v).2)))
    (hylo : 1 - 27 / 2 ^ 53 ≤ qv my ey) (hyhi : qv my ey ≤ 10 * (1 + 27 / 2 ^ 53)) :
    (decomposeCore (normalize v).1 (normalize v).2 places).decimal <
        10 ^ (decomposeCore (normalize v).1 (normalize v).2 places).decimalPlaces ∧
    (decomposeCore (normalize v).1 (normalize v).2 places).decimalPlaces ≤ places ∧
    |partsVal (decomposeCore (normalize v).1 (normalize v).2 places) - qv m e| ≤
      51 / 100 * (qv m e / (10 : ℚ) ^ places) := by
  generalize (normalize v).2 = p at *
  have hY2 : (2 : ℚ) ^ (-1022 : Int) ≤ qv my ey :=
    le_trans low_1em6 (le_trans (by norm_num : (1 / 10 ^ 6 : ℚ) ≤ 1 - 27 / 2 ^ 53) hylo)
  obtain ⟨h1, h2, h3⟩ := decomposeCore_spec (normalize v).1 my ey hdy hY2
    (lt_of_le_of_lt hyhi (by norm_num)) p (fun _ => le_trans hyhi (by norm_num)) places hp6 hp9
  refine ⟨h1, h2, ?_⟩
  have hXZ : qv m e = qv m e * (10 : ℚ) ^ (-p) * (10 : ℚ) ^ p := by
    rw [mul_assoc, ← zpow_add₀ (by norm_num : (10 : ℚ) ≠ 0)]; simp
  rw [hXZ]
  exact scaled_parts_err (mul_pos (qv_pos hm e) (ten_zpow_pos _)) (ten_zpow_pos p) (by positivity)
    (pow_le_pow_right₀ (by norm_num) hp9) hcl hylo h3

/-- DECOMPOSE ∘ NORMALIZE: for every positive finite binary64 datum `x` and `6 ≤ places ≤ 9`, the parts computed by `decompose`
    denote `x` within `0.51·10^-places·max(1, x)` (actual bound: `(1/2 + 2e-7)(1 + 1e-12) + 2.5e-15·10^places` units) -/
theorem decompose_spec (v m : Nat) (e : Int) (hd : decode b64 v = .fin false m e) (hm : m ≠ 0)
    (places : Nat) (hp6 : 6 ≤ places) (hp9 : places ≤ 9) :
    (decompose v places).decimal < 10 ^ (decompose v places).decimalPlaces ∧
    (decompose v places).decimalPlaces ≤ places ∧
    |partsVal (decompose v places) - qv m e| ≤ 51 / 100 * (max 1 (qv m e) / (10 : ℚ) ^ places) := by
  rw [decompose_eq]
  have hN : (0 : ℚ) < (10 : ℚ) ^ places := by positivity
  rcases normalize_spec v m e hd hm with ⟨hn, hlo, hhi⟩ | ⟨my, ey, hdy, hmy, hcl, hylo, hyhi⟩
  · rw [hn]
    obtain ⟨h1, h2, h3⟩ := decomposeCore_spec v m e hd (le_trans low_1em6 hlo.le) hhi 0 (fun h => absurd rfl h) places hp6 hp9
    refine ⟨h1, h2, ?_⟩
    simp only [zpow_zero, mul_one] at h3
    refine le_trans h3 (mul_le_mul_of_nonneg_right (by norm_num) ?_)
    have : (0 : ℚ) < max 1 (qv m e) := lt_of_lt_of_le one_pos (le_max_left _ _)
    positivity
  · obtain ⟨h1, h2, h3⟩ := decompose_scaled v m e hm places hp6 hp9 my ey hdy hcl hylo hyhi
    exact ⟨h1, h2, h3.trans (mul_le_mul_of_nonneg_left (div_le_div_of_nonneg_right (le_max_right _ _) hN.le) (by norm_num))⟩

/-- either the datum is printed without exponent (`1e-6 < x < 1e7`), or the parts are within `0.51·10^-places` RELATIVE -/
theorem decompose_spec_rel (v m : Nat) (e : Int) (hd : decode b64 v = .fin false m e) (hm : m ≠ 0)
    (places : Nat) (hp6 : 6 ≤ places) (hp9 : places ≤ 9) :
    (1 / 10 ^ 6 < qv m e ∧ qv m e < 10 ^ 7) ∨
    |partsVal (decompose v places) - qv m e| ≤ 51 / 100 * (qv m e / (10 : ℚ) ^ places) := by
  rw [decompose_eq]
  rcases normalize_spec v m e hd hm with ⟨_, hlo, hhi⟩ | ⟨my, ey, hdy, hmy, hcl, hylo, hyhi⟩
  · exact Or.inl ⟨hlo, hhi⟩
  · exact Or.inr (decompose_scaled v m e hm places hp6 hp9 my ey hdy hcl hylo hyhi).2.2

end C12
