/- Deserialization INTO A VALUE inside a document, as a step of the history machine.
   §1 what a run of `JDD.runAt` / `MDD.runAt` built (`JDD.Built`), read as a step `d → d'` of a well-formed document:
      explicit ghost layout `deserLayout d' F l` (the layout read off the result below `l`), invariant, frame, and the
      slots of the new layout are fresh or recycled from the subtree cleared at `l` (`DeserStep`);
   §2 refinement: when nothing overflowed the slot-level run at the inner location `l` yields the code, the consumption
      and the VALUE of the value-level deserializer (`sim_all` / `mpsim_all` instantiated at `l` after `clearV l`);
   §3 the abstract tree machine `AOpD` = `AOp` + `deserJ` / `deserM`, `ARunD`, its frame;
   §4 forest facts for the stability of paths.
   Used by AJ/Props/C04HistDeser.lean. -/
import AJ.Props.C04Deser
import AJ.Props.C09Doc
import AJ.Props.C14Hist
import AJ.Props.C04Copy
set_option linter.unusedSimpArgs false
set_option linter.unusedVariables false

namespace C04
open DL
open JD (Byte Val Code)
open JDD (Ctx Built Fx PlEq LBd)

/-! ## 1. What a run into the location `l` built -/

/-- ghost layout after a deserialization into `l` that left `d'`: the layout read off `d'` below `l` replaces the old
    layout at `l` -/
def deserLayout (d' : Doc) (F : Forest) (l : Loc) : Forest := replaceAt F l (d'.lay (d'.get l))

/-- the step `d → d'` of a deserialization into `l`, whatever its input and its code: invariant for the explicit layout,
    geometry, frame (`IntoOK`), and no slot of the rest of the document is reused below `l` -/
structure DeserStep (d : Doc) (F : Forest) (l : Loc) (d' : Doc) : Prop where
  wf : WFG d' (deserLayout d' F l)
  str : StrOK d' (d'.strRefs (deserLayout d' F l))
  into : IntoOK d F l d'
  /-- the slots of the new layout are new, or recycled from the subtree that was cleared at `l` -/
  recycled : ∀ x ∈ (d'.lay (d'.get l)).ids, x ∈ F.ids → x ∈ (layoutAt F l).ids

theorem deserStep_of_built {d d' : Doc} {F s : Forest} {l : Loc} (w : WFG d F) (hs : StrOK d (d.strRefs F))
    (hl : isLoc F l) (B : Built (d.clearV l) (replaceAt F l .nil) l d' s) : DeserStep d F l d' := by
  have w' : WFG d' (replaceAt F l s) := by have := B.wf; rwa [replaceAt_replaceAt] at this
  have s' : StrOK d' (d'.strRefs (replaceAt F l s)) := by have := B.str; rwa [replaceAt_replaceAt] at this
  have hl' : isLoc (replaceAt F l s) l := isLoc_replaceAt_self s hl
  have hlay : layoutAt (replaceAt F l s) l = s := JDD.layoutAt_replaceAt s hl
  have hv' : VOK d' (d'.get l) s := by have := VOK_at w' hl'; rwa [hlay] at this
  have hlen : s.ids.length < d'.fuel := by
    have := src_fuel_ok w' hl'
    rwa [hlay] at this
  have hle : d'.lay (d'.get l) = s := lay_eq hv' hlen
  refine ⟨by rw [deserLayout, hle]; exact w', by rw [deserLayout, hle]; exact s', into_of_built w hs hl B, ?_⟩
  rw [hle]
  intro x hx hxF
  by_cases hxs : x ∈ (layoutAt F l).ids
  · exact hxs
  · exact absurd ((mem_ids_cleared w.nodup hl x).2 ⟨hxF, hxs⟩) (B.fresh x hx)

/-- what `JDD.runAt` built -/
theorem runAt_built (cfg : JD.Cfg) (limit : Nat) (d : Doc) (F : Forest) (l : Loc) (input : List Byte)
    (w : WFG d F) (hs : StrOK d (d.strRefs F)) (hl : isLoc F l) (gok : PL.GeoOK d.g) :
    ∃ s, Built (d.clearV l) (replaceAt F l .nil) l (JDD.runAt cfg limit d l input).2.1 s := by
  have R := stopAt_res cfg limit input w hs hl gok
  rw [runAt_doc]
  exact (into_finish w hs hl R.built R.fx).1

/-- what `MDD.runAt` built -/
theorem mp_runAt_built (env : MD.Env) (limit : Nat) (d : Doc) (F : Forest) (l : Loc) (input : List Byte)
    (w : WFG d F) (hs : StrOK d (d.strRefs F)) (hl : isLoc F l) (gok : PL.GeoOK d.g) :
    ∃ s, Built (d.clearV l) (replaceAt F l .nil) l (MDD.runAt env limit d l input).2.1 s := by
  have R := mp_stopAt_res env limit input w hs hl gok
  rw [mp_runAt_doc]
  exact (into_finish w hs hl R.built R.fx).1

theorem runAt_step (cfg : JD.Cfg) (limit : Nat) (d : Doc) (F : Forest) (l : Loc) (input : List Byte)
    (w : WFG d F) (hs : StrOK d (d.strRefs F)) (hl : isLoc F l) (gok : PL.GeoOK d.g) :
    DeserStep d F l (JDD.runAt cfg limit d l input).2.1 := by
  obtain ⟨s, B⟩ := runAt_built cfg limit d F l input w hs hl gok
  exact deserStep_of_built w hs hl B

theorem mp_runAt_step (env : MD.Env) (limit : Nat) (d : Doc) (F : Forest) (l : Loc) (input : List Byte)
    (w : WFG d F) (hs : StrOK d (d.strRefs F)) (hl : isLoc F l) (gok : PL.GeoOK d.g) :
    DeserStep d F l (MDD.runAt env limit d l input).2.1 := by
  obtain ⟨s, B⟩ := mp_runAt_built env limit d F l input w hs hl gok
  exact deserStep_of_built w hs hl B

/-! ## 2. Refinement of the value-level deserializers at an inner location -/

/-- the cleared destination is a fresh place in the sense of the local specification -/
theorem pre_cleared {d : Doc} {F : Forest} {l : Loc} (w : WFG d F) (hs : StrOK d (d.strRefs F)) (hl : isLoc F l)
    (gok : PL.GeoOK d.g) : Pre (d.clearV l) l := by
  obtain ⟨w0, s0, _, _⟩ := clearV_spec w hs hl
  exact pre_of_wfg w0 s0 (by rw [clearV_g]; exact gok) (isLoc_replaceAt_self .nil hl) (clearV_good w hs hl).1

theorem fr_of_pleq {xd d' : Doc} (he : PlEq xd d') (hp : PL.Inv xd.g xd.pl) (ho : d'.overflowed = xd.overflowed) :
    Fr xd d' [] :=
  Fr.of_grow ⟨he.g, he.root, he.strings, he.nextNode, fun x _ => he.cell x, he.inv hp, fun x hx => (he.live x).2 hx⟩
    (fun h => by rw [ho]; exact h) []

/-- the value built at `l` reads back from a document that differs in its allocator state only -/
theorem post_value {d0 xd d' : Doc} {l : Loc} {v : VData} {s : Forest} (P0 : Pre d0 l) (P : Post d0 xd l v s)
    (he : PlEq xd d') (ho : d'.overflowed = xd.overflowed) : d'.toVal (d'.get l) = xd.valOf v s := by
  obtain ⟨P', hval⟩ := P.frame P0 (fr_of_pleq he P.fr.pool ho)
  rw [P'.att.get, toVal_eq P'.att.vok P'.ids_lt_fuel, hval]

theorem sim_locIsNumber (d : Doc) (l : Loc) (v : VData) (s : Forest) (hv : d.get l = v) :
    JD.isNumberVal (d.valOf v s) = JDD.locIsNumber d l := by
  unfold JDD.locIsNumber
  rw [hv]
  cases v <;> rfl

/-- the code reported after the parser stopped with code `c`; `glued`: a number followed by something that is neither
    the end of the input nor white space -/
def finalCode (c : Code) (glued : Bool) : Code :=
  match c with
  | .ok => if glued then .invalid else .ok
  | e => e

/-- `JD.run` from what its parser leaves -/
theorem run_of_parse (cfg : JD.Cfg) (limit : Nat) (input : List Byte) {c : Code} {v : Val} {s : JD.St}
    (h : JD.parseVariant cfg (2 * input.length + 4) limit { l := { unread := input } } = (c, v, s)) :
    JD.run cfg limit input = (finalCode c (s.l.cur != 0 && !JD.isWs s.l.cur && JD.isNumberVal v), v, s.l.pos) := by
  unfold JD.run
  dsimp only
  rw [h]
  cases c
  case ok => dsimp only [finalCode]; split <;> rfl
  all_goals rfl

/-- the two outcomes of `JDD.runAt` into a document whose flag is clear: nothing overflowed and code, consumption and the
    value left at `l` are those of `JD.run`; or the flag is raised and the code is not `Ok` -/
theorem runAt_core (cfg : JD.Cfg) (limit : Nat) (d : Doc) (F : Forest) (l : Loc) (input : List Byte)
    (w : WFG d F) (hs : StrOK d (d.strRefs F)) (hl : isLoc F l) (gok : PL.GeoOK d.g) (h31 : 31 ≤ cfg.maxStrLen)
    (h0 : d.overflowed = false) :
    ((JDD.runAt cfg limit d l input).2.1.overflowed = false ∧
      (JDD.runAt cfg limit d l input).1 = (JD.run cfg limit input).1 ∧
      (JDD.runAt cfg limit d l input).2.2 = (JD.run cfg limit input).2.2 ∧
      (JDD.runAt cfg limit d l input).2.1.toVal ((JDD.runAt cfg limit d l input).2.1.get l) = (JD.run cfg limit input).2.1) ∨
    ((JDD.runAt cfg limit d l input).2.1.overflowed = true ∧ (JDD.runAt cfg limit d l input).1 ≠ .ok ∧
      ((JDD.runAt cfg limit d l input).1 = .noMemory ∨
        ((JDD.runAt cfg limit d l input).1 = (JD.run cfg limit input).1 ∧
         (JDD.runAt cfg limit d l input).2.2 = (JD.run cfg limit input).2.2))) := by
  have P0 := pre_cleared w hs hl gok
  have hsim := (JDD.sim_all cfg h31 (2 * input.length + 4)).1 limit l
    { s := { l := { unread := input } }, d := d.clearV l } P0 (by rw [clearV_overflowed]; exact h0) (JDD.sim_BOK_none cfg)
  rw [runAt_eq]
  unfold stopAt
  generalize JDD.parseVariant cfg (2 * input.length + 4) limit l
    { s := { l := { unread := input } }, d := d.clearV l } = rv at *
  generalize hrv0 : JD.parseVariant cfg (2 * input.length + 4) limit { l := { unread := input } } = rv0 at hsim
  obtain ⟨c, x⟩ := rv
  obtain ⟨c0, v0, s0⟩ := rv0
  rw [run_of_parse cfg limit input hrv0]
  simp only at hsim ⊢
  obtain ⟨hpe, hov⟩ := dropBuf_pleq x.d x.b
  rcases hsim with ⟨o2, e1, e2, _, v, s, P, hval⟩ | ⟨o2, e⟩
  · simp only at o2 e1 e2 P hval
    subst e1 e2
    have hnum : JD.isNumberVal v0 = JDD.locIsNumber x.d l := by
      rw [← hval]; exact sim_locIsNumber x.d l v s P.att.get
    have htv : (dropBuf x.d x.b).toVal ((dropBuf x.d x.b).get l) = v0 := by rw [post_value P0 P hpe hov, hval]
    refine Or.inl ⟨by rw [hov]; exact o2, ?_, rfl, htv⟩
    rw [hnum]
    cases c <;> rfl
  · simp only at o2 e
    refine Or.inr ⟨by rw [hov]; exact o2, ?_, ?_⟩
    · rcases e with e | ⟨e1, e2, e3⟩
      · subst e; intro h; cases h
      · cases c
        case ok => exact absurd rfl e2
        all_goals (intro h; cases h)
    · rcases e with e | ⟨e1, e2, e3⟩
      · subst e
        exact Or.inl rfl
      · subst e1 e3
        right
        cases c
        case ok => exact absurd rfl e2
        all_goals exact ⟨rfl, rfl⟩

/-- the two outcomes of `MDD.runAt` into a document whose flag is clear: nothing overflowed, the answer is not `NoMemory`,
    and code, consumption and the value left at `l` are those of `MD.run … .all`; or the flag is raised and the answer is
    `NoMemory` -/
theorem mp_runAt_core (env : MD.Env) (limit : Nat) (d : Doc) (F : Forest) (l : Loc) (input : List Byte)
    (w : WFG d F) (hs : StrOK d (d.strRefs F)) (hl : isLoc F l) (gok : PL.GeoOK d.g) (h0 : d.overflowed = false) :
    ((MDD.runAt env limit d l input).2.1.overflowed = false ∧
      (MDD.runAt env limit d l input).1 = (MD.run env limit .all input).1 ∧
      (MDD.runAt env limit d l input).1 ≠ .noMemory ∧
      (MDD.runAt env limit d l input).2.2 = (MD.run env limit .all input).2.2 ∧
      (MDD.runAt env limit d l input).2.1.toVal ((MDD.runAt env limit d l input).2.1.get l) =
        (MD.run env limit .all input).2.1) ∨
    ((MDD.runAt env limit d l input).2.1.overflowed = true ∧ (MDD.runAt env limit d l input).1 = .noMemory) := by
  have P0 := pre_cleared w hs hl gok
  have hsim := (MDD.mpsim_all env (2 * input.length + 4)).1 limit l
    { r := { unread := input }, d := d.clearV l } P0 (by rw [clearV_overflowed]; exact h0) (MDD.mpsim_BOK_none env)
  rw [mp_runAt_eq]
  simp only [MD.run]
  unfold mp_stopAt
  generalize MDD.parseVariant env (2 * input.length + 4) limit l
    { r := { unread := input }, d := d.clearV l } = rv at *
  generalize MD.parseVariant env (2 * input.length + 4) limit .all true { unread := input } = rv0 at *
  obtain ⟨c, x, f⟩ := rv
  obtain ⟨c0, v0, r0, f0⟩ := rv0
  simp only at hsim ⊢
  obtain ⟨hpe, hov⟩ := dropBuf_pleq x.d x.b
  obtain ⟨hsim, hf1, hf2⟩ := hsim
  simp only at hsim hf1 hf2
  rcases hsim with ⟨o2, e1, hne, e2, _, v, s, P, hval⟩ | ⟨o2, e⟩
  · simp only at o2 e1 hne e2 P hval
    subst e1 e2
    have hff := hf1 o2
    subst hff
    have htv : (dropBuf x.d x.b).toVal ((dropBuf x.d x.b).get l) = v0 := by rw [post_value P0 P hpe hov, hval]
    refine Or.inl ⟨by rw [hov]; exact o2, rfl, ?_, rfl, htv⟩
    cases f
    · intro h; cases h
    · exact hne
  · simp only at o2 e
    have hff := hf2 o2
    subst hff e
    exact Or.inr ⟨by rw [hov]; exact o2, rfl⟩

end C04

/-! ## 3. The abstract tree machine with deserialization and copy -/
namespace DL
open JD (Byte Val)

/-- operations of the plain ordered tree: those of `AOp`, plus
    * `deserJ p cfg limit input` / `deserM p env limit input`: the value at `p` becomes the value the value-level JSON /
      MessagePack deserializer yields on `input` (complete or partial, whatever the code);
    * `copy p q`: the value at `p` becomes a copy of the value at `q` of the same tree;
    * `copyFrom p v`: the value at `p` becomes a copy of the value `v` (taken from another tree). -/
inductive AOpD
  | base (a : AOp)
  | deserJ (p : Path) (cfg : JD.Cfg) (limit : Nat) (input : List Byte)
  | deserM (p : Path) (env : MD.Env) (limit : Nat) (input : List Byte)
  | copy (p q : Path)
  | copyFrom (p : Path) (v : Val)

def AOpD.path : AOpD → Path
  | .base a => a.path
  | .deserJ p _ _ _ | .deserM p _ _ _ | .copy p _ | .copyFrom p _ => p

/-- what the operation does to the value it targets, in the tree `t` -/
def AOpD.local (t : Val) : AOpD → Val → Val
  | .base a => a.local
  | .deserJ _ cfg limit input => fun _ => (JD.run cfg limit input).2.1
  | .deserM _ env limit input => fun _ => (MD.run env limit .all input).2.1
  | .copy _ q => fun _ => copyVal ((getAt q t).getD .null)
  | .copyFrom _ x => fun _ => copyVal x

/-- one step: the local effect at the path, nothing else -/
def AOpD.step (t : Val) (a : AOpD) : Val := updAt (a.local t) a.path t

/-- the abstract machine on a whole history -/
def ARunD (t : Val) (as : List AOpD) : Val := as.foldl AOpD.step t

theorem ARunD_nil (t : Val) : ARunD t [] = t := rfl
theorem ARunD_cons (t : Val) (a : AOpD) (as : List AOpD) : ARunD t (a :: as) = ARunD (a.step t) as := rfl

theorem AOpD.step_base (t : Val) (a : AOp) : (AOpD.base a).step t = a.step t := rfl

/-- the machine extends `ARun` conservatively -/
theorem ARunD_base : ∀ (as : List AOp) (t : Val), ARunD t (as.map .base) = ARun t as
  | [], _ => rfl
  | a :: as, t => by rw [List.map_cons, ARunD_cons, ARun_cons, AOpD.step_base]; exact ARunD_base as _

/-- FRAME for the abstract machine, whole histories: a path that parts ways with the target of every operation keeps its
    value -/
theorem ARunD_frame (q : Path) : ∀ (as : List AOpD) (t : Val), (∀ a ∈ as, Diverge a.path q) →
    getAt q (ARunD t as) = getAt q t
  | [], _, _ => rfl
  | a :: as, t, h => by
    rw [ARunD_cons, ARunD_frame q as _ (fun b hb => h b (List.mem_cons_of_mem _ hb))]
    exact getAt_updAt_diverge _ _ _ _ (h a (List.mem_cons_self))

/-- the value at the target of the last step -/
theorem getAt_step_self (t : Val) (a : AOpD) : getAt a.path (a.step t) = (getAt a.path t).map (a.local t) :=
  getAt_updAt_self _ _ _

/-! ## 4. Forest facts -/

/-- in a layout without repeated slots, a value slot of the layout that occurs below `i` is a value slot there -/
theorem Forest.locs_of_ids_subOf : ∀ (F : Forest), F.ids.Nodup → ∀ (i x : Nat), x ∈ F.locs → x ∈ (F.subOf i).ids →
    x ∈ (F.subOf i).locs := by
  intro F
  induction F with
  | nil => intro _ i x h; cases h
  | cons k j s r ihs ihr =>
    intro hnd i x hx hsub
    obtain ⟨nds, ndr, njs, njr, nsr, nk⟩ := Forest.nodup_cons hnd
    simp only [Forest.locs, List.mem_cons, List.mem_append] at hx
    simp only [Forest.subOf] at hsub ⊢
    by_cases hji : j = i
    · rw [if_pos hji] at hsub ⊢
      rcases hx with e | m | m
      · exact absurd (e ▸ hsub) njs
      · exact m
      · exact absurd (r.locs_sub_ids x m) (nsr x hsub)
    · rw [if_neg hji] at hsub ⊢
      by_cases his : i ∈ s.locs
      · rw [if_pos his] at hsub ⊢
        have hxs : x ∈ s.ids := s.subOf_ids_sub i x hsub
        rcases hx with e | m | m
        · exact absurd (e ▸ hxs) njs
        · exact ihs nds i x m hsub
        · exact absurd (r.locs_sub_ids x m) (nsr x hxs)
      · rw [if_neg his] at hsub ⊢
        have hxr : x ∈ r.ids := r.subOf_ids_sub i x hsub
        rcases hx with e | m | m
        · exact absurd (e ▸ hxr) njr
        · exact absurd hxr (nsr x (s.locs_sub_ids x m))
        · exact ihr ndr i x m hsub

/-- a new layout below `l` whose slots are new or recycled from the old layout below `l`, in the shape needed by
    `pathOf_replaceAt` -/
theorem recycled_locs {F s : Forest} {l : Loc} (hnd : F.ids.Nodup)
    (h : ∀ x ∈ s.ids, x ∈ F.ids → x ∈ (layoutAt F l).ids) :
    ∀ x ∈ s.locs, x ∈ (layoutAt F l).locs ∨ x ∉ F.locs := by
  intro x hx
  by_cases hxF : x ∈ F.locs
  · left
    have h1 := h x (s.locs_sub_ids x hx) (F.locs_sub_ids x hxF)
    cases l with
    | root => exact hxF
    | slot i => exact Forest.locs_of_ids_subOf F hnd i x hxF h1
  · exact Or.inr hxF

/-- the target keeps its path when the layout below it is replaced -/
theorem Forest.pathTo_replaceSub_self (i : Nat) (s' : Forest) : ∀ (F : Forest), i ∈ F.locs →
    (F.replaceSub i s').pathTo i = F.pathTo i := by
  intro F
  induction F with
  | nil => intro h; cases h
  | cons k j s r ihs ihr =>
    intro hi
    rcases Forest.mem_locs_cons_cases hi with rfl | ⟨hji, his⟩ | ⟨hji, his, hir⟩
    · rw [Forest.replaceSub_here, Forest.pathTo_cons_self, Forest.pathTo_cons_self]
    · rw [Forest.replaceSub_cons_ne hji, Forest.pathTo_cons_sub hji (Forest.self_mem_locs_replaceSub s i s' his),
        Forest.pathTo_cons_sub hji his, ihs his]
    · rw [Forest.replaceSub_cons_ne hji, Forest.replaceSub_of_notin i s' s his, Forest.pathTo_cons_rest hji his,
        Forest.pathTo_cons_rest hji his, ihr hir]

theorem pathOf_replaceAt_self {F : Forest} {l : Loc} (s' : Forest) (hl : isLoc F l) :
    pathOf (replaceAt F l s') l = pathOf F l := by
  cases l with
  | root => rfl
  | slot i => exact Forest.pathTo_replaceSub_self i s' F hl

/-- FRAME in the shape shared by every step of a history: if the abstract document after the step is the old one with
    the value at `l` replaced, a location whose path parts ways with the path of `l` and keeps its path designates the
    same value -/
theorem frame_of_absWith {d d' : Doc} {F F' : Forest} {l l' : Loc} {X : Val} (w : WFG d F) (w' : WFG d' F')
    (hl : isLoc F l) (hl0 : isLoc F l') (hl1 : isLoc F' l') (hp : pathOf F' l' = pathOf F l')
    (habs : abs d' = absWith d F l X) (hdv : Diverge (pathOf F l) (pathOf F l')) :
    d'.toVal (d'.get l') = d.toVal (d.get l') := by
  have e1 := getAt_pathOf w' hl1
  have hu := absWith_updAt w hl (fun _ => X)
  rw [hp, habs, hu, getAt_updAt_diverge _ _ _ _ hdv, getAt_pathOf w hl0] at e1
  exact (Option.some.inj e1).symm

end DL

/-! ## 5. Concrete operations: `Op2` + deserialization into a value + deep copy -/
namespace C04
open DL
open JD (Byte Val Code)

/-- the operations of `C04.Op2`, plus `deserializeJson(doc[l], input)`, `deserializeMsgPack(doc[l], input)` and the deep
    copies `doc[l].set(doc[ls])`, `doc[l].set(src[ls])` -/
inductive OpD
  | base (op : Op2)
  | deserJ (l : Loc) (cfg : JD.Cfg) (limit : Nat) (input : List Byte)
  | deserM (l : Loc) (env : MD.Env) (limit : Nat) (input : List Byte)
  | copy (l ls : Loc)
  | copyFrom (l : Loc) (src : Doc) (Fs : Forest) (ls : Loc)

def OpD.run (d : Doc) : OpD → Doc
  | .base op => op.run d
  | .deserJ l cfg limit input => (JDD.runAt cfg limit d l input).2.1
  | .deserM l env limit input => (MDD.runAt env limit d l input).2.1
  | .copy l ls => copyInto d l d (d.get ls)
  | .copyFrom l src _ ls => copyInto d l src (src.get ls)

/-- the operation designates a reachable location (of the right kind for the operations of `Op2`); a deserialization may
    target ANY location, with any configuration, limit and input; a copy needs a source without repeated keys -/
def OpD.Valid (d : Doc) (F : Forest) : OpD → Prop
  | .base op => op.Valid d F
  | .deserJ l _ _ _ => isLoc F l
  | .deserM l _ _ _ => isLoc F l
  | .copy l ls => isLoc F l ∧ isLoc F ls ∧ NoDupKeys (d.toVal (d.get ls))
  | .copyFrom l src Fs ls => isLoc F l ∧ WFG src Fs ∧ isLoc Fs ls ∧ NoDupKeys (src.toVal (src.get ls))

/-- ghost layout after the operation (explicit: read off the result below the target) -/
def OpD.layout (d : Doc) (F : Forest) : OpD → Forest
  | .base op => op.layout d F
  | .deserJ l cfg limit input => deserLayout (JDD.runAt cfg limit d l input).2.1 F l
  | .deserM l env limit input => deserLayout (MDD.runAt env limit d l input).2.1 F l
  | .copy l ls => copyLayout d F l d (d.get ls)
  | .copyFrom l src _ ls => copyLayout d F l src (src.get ls)

/-- location targeted by the operation -/
def OpD.loc : OpD → Loc
  | .base op => op.loc
  | .deserJ l _ _ _ | .deserM l _ _ _ | .copy l _ | .copyFrom l _ _ _ => l

/-- nothing overflowed: the allocations of the step succeeded. (For JSON the string limit of the configuration must be
    at least the initial capacity of the StringBuilder, as in `C01.slot_level_refines`.) -/
def OpD.Succ (d : Doc) : OpD → Prop
  | .base op => op.Succ d
  | .deserJ l cfg limit input => 31 ≤ cfg.maxStrLen ∧ (JDD.runAt cfg limit d l input).2.1.overflowed = false
  | .deserM l env limit input => (MDD.runAt env limit d l input).2.1.overflowed = false
  | .copy l ls => (copyInto d l d (d.get ls)).overflowed = false
  | .copyFrom l src _ ls => (copyInto d l src (src.get ls)).overflowed = false

/-- the abstract operation a concrete one stands for, in the layout `F` -/
def OpD.toA (F : Forest) : OpD → AOpD
  | .base op => .base (op.toA F)
  | .deserJ l cfg limit input => .deserJ (pathOf F l) cfg limit input
  | .deserM l env limit input => .deserM (pathOf F l) env limit input
  | .copy l ls => .copy (pathOf F l) (pathOf F ls)
  | .copyFrom l src _ ls => .copyFrom (pathOf F l) (src.toVal (src.get ls))

/-- the configuration of a JSON deserialization is a real one -/
def _root_.DL.AOpD.CfgOK : AOpD → Prop
  | .deserJ _ cfg _ _ => 31 ≤ cfg.maxStrLen
  | _ => True

theorem OpD.toA_path (F : Forest) (op : OpD) : (op.toA F).path = pathOf F op.loc := by
  cases op with
  | base op => exact Op2.toA_path F op
  | _ => rfl

theorem OpD.valid_loc {d : Doc} {F : Forest} {op : OpD} (hv : op.Valid d F) : isLoc F op.loc := by
  cases op with
  | base op => exact Op2.valid_loc hv
  | deserJ => exact hv
  | deserM => exact hv
  | copy => exact hv.1
  | copyFrom => exact hv.1

/-- the overflow flag is sticky: down after a step that never lowers it, it was down before -/
theorem flag_was_down {d d' : Doc} (hst : d.overflowed = true → d'.overflowed = true) (hno : d'.overflowed = false) :
    d.overflowed = false := by
  cases h : d.overflowed with
  | false => rfl
  | true => rw [hst h] at hno; cases hno

/-- every outcome of the list-level machine of `Op2` is "the old document with the value at the target replaced" -/
theorem Op2.spec_absWith {d : Doc} {F : Forest} {op : Op2} (w : WFG d F) (hv : op.Valid d F) :
    ∃ X, op.spec d F = absWith d F op.loc X := by
  have hl := Op2.valid_loc hv
  cases op with
  | base op =>
    cases op with
    | add l =>
      simp only [Op2.spec, Op.spec, Op2.loc] at hl ⊢
      split
      · exact ⟨_, rfl⟩
      · exact ⟨_, (absWith_self w hl).symm⟩
    | clear l => exact ⟨_, rfl⟩
    | put l a => exact ⟨_, rfl⟩
  | removeElem l k =>
    simp only [Op2.spec, Op2.loc] at hl ⊢
    split
    · exact ⟨_, rfl⟩
    · exact ⟨_, (absWith_self w hl).symm⟩
  | removeMember l key =>
    simp only [Op2.spec, Op2.loc] at hl ⊢
    split
    · exact ⟨_, rfl⟩
    · exact ⟨_, (absWith_self w hl).symm⟩
  | member l key linked =>
    simp only [Op2.spec, Op2.loc]
    split
    · exact ⟨_, rfl⟩
    · split <;> exact ⟨_, rfl⟩

/-- ONE STEP, whatever happens (any input, any code, any allocation failure): the invariant and the geometry are kept
    and the abstract document is the old one with the value at the target replaced -/
theorem stepD_refines {d : Doc} {F : Forest} {op : OpD} (w : WFG d F) (hs : StrOK d (d.strRefs F))
    (gok : PL.GeoOK d.g) (hv : op.Valid d F) :
    WFG (op.run d) (op.layout d F) ∧ StrOK (op.run d) ((op.run d).strRefs (op.layout d F)) ∧
    (op.run d).g = d.g ∧ ∃ X, abs (op.run d) = absWith d F op.loc X := by
  cases op with
  | base op =>
    obtain ⟨a, b, c, e⟩ := step_refines2 w hs gok hv
    obtain ⟨X, hX⟩ := Op2.spec_absWith w hv
    exact ⟨a, b, c, X, e.trans hX⟩
  | deserJ l cfg limit input =>
    have S := runAt_step cfg limit d F l input w hs hv gok
    exact ⟨S.wf, S.str, S.into.g, _, S.into.abs⟩
  | deserM l env limit input =>
    have S := mp_runAt_step env limit d F l input w hs hv gok
    exact ⟨S.wf, S.str, S.into.g, _, S.into.abs⟩
  | copy l ls =>
    obtain ⟨hl, hls, hnd⟩ := hv
    obtain ⟨a, b, g, e⟩ := copy_step w hs gok hl w hls hnd
    exact ⟨a, b, g, _, e⟩
  | copyFrom l src Fs ls =>
    obtain ⟨hl, ws, hls, hnd⟩ := hv
    obtain ⟨a, b, g, e⟩ := copy_step w hs gok hl ws hls hnd
    exact ⟨a, b, g, _, e⟩

/-- one valid step in which nothing overflowed is one step of the abstract machine -/
theorem stepD_simulates {d : Doc} {F : Forest} {op : OpD} (w : WFG d F) (hs : StrOK d (d.strRefs F))
    (gok : PL.GeoOK d.g) (hv : op.Valid d F) (hok : op.Succ d) :
    abs (op.run d) = (op.toA F).step (abs d) := by
  cases op with
  | base op => exact step_simulates w hs gok hv hok
  | deserJ l cfg limit input =>
    obtain ⟨h31, hno⟩ := hok
    obtain ⟨I, _, _, hst, _⟩ := deser_into_value cfg limit d F l input w hs hv gok
    have h0 := flag_was_down hst hno
    show abs (JDD.runAt cfg limit d l input).2.1 = _
    rcases runAt_core cfg limit d F l input w hs hv gok h31 h0 with ⟨_, _, _, e⟩ | ⟨o, _⟩
    · rw [I.abs, e]
      exact absWith_updAt w hv (fun _ => (JD.run cfg limit input).2.1)
    · rw [o] at hno; cases hno
  | deserM l env limit input =>
    obtain ⟨I, _, _, hst, _⟩ := mp_deser_into_value env limit d F l input w hs hv gok
    have hok : (MDD.runAt env limit d l input).2.1.overflowed = false := hok
    have h0 := flag_was_down hst hok
    show abs (MDD.runAt env limit d l input).2.1 = _
    rcases mp_runAt_core env limit d F l input w hs hv gok h0 with ⟨_, _, _, _, e⟩ | ⟨o, _⟩
    · rw [I.abs, e]
      exact absWith_updAt w hv (fun _ => (MD.run env limit .all input).2.1)
    · rw [o] at hok; cases hok
  | copy l ls =>
    obtain ⟨hl, hls, hnd⟩ := hv
    obtain ⟨_, _, _, _, e, _⟩ := copyInto_refines w hs gok hl w hls hnd hok
    show abs (copyInto d l d (d.get ls)) = updAt (fun _ => copyVal ((getAt (pathOf F ls) (abs d)).getD .null)) (pathOf F l) (abs d)
    rw [e, getAt_pathOf w hls]
    exact absWith_updAt w hl (fun _ => copyVal (d.toVal (d.get ls)))
  | copyFrom l src Fs ls =>
    obtain ⟨hl, ws, hls, hnd⟩ := hv
    obtain ⟨_, _, _, _, e, _⟩ := copyInto_refines w hs gok hl ws hls hnd hok
    show abs (copyInto d l src (src.get ls)) = _
    rw [e]
    exact absWith_updAt w hl (fun _ => copyVal (src.toVal (src.get ls)))

/-- one step, whatever happens: a location whose path parts ways with the path of the target is still a location of
    the new layout, at the same path -/
theorem stepD_keeps_path {d : Doc} {F : Forest} {op : OpD} {l' : Loc} (w : WFG d F) (hs : StrOK d (d.strRefs F))
    (gok : PL.GeoOK d.g) (hv : op.Valid d F) (hl' : isLoc F l') (hdv : Diverge (pathOf F op.loc) (pathOf F l')) :
    isLoc (op.layout d F) l' ∧ pathOf (op.layout d F) l' = pathOf F l' := by
  cases op with
  | base op => exact step_keeps_path w hs gok hv hl' hdv
  | deserJ l cfg limit input =>
    have S := runAt_step cfg limit d F l input w hs hv gok
    exact pathOf_replaceAt _ w.nodup hv hl' hdv (recycled_locs w.nodup S.recycled)
  | deserM l env limit input =>
    have S := mp_runAt_step env limit d F l input w hs hv gok
    exact pathOf_replaceAt _ w.nodup hv hl' hdv (recycled_locs w.nodup S.recycled)
  | copy l ls =>
    obtain ⟨hl, hls, hnd⟩ := hv
    exact pathOf_replaceAt _ w.nodup hl hl' hdv
      (recycled_locs w.nodup (copyInto_spec w hs gok hl (VOK_at w hls) (src_fuel_ok w hls) hnd).recycled)
  | copyFrom l src Fs ls =>
    obtain ⟨hl, ws, hls, hnd⟩ := hv
    exact pathOf_replaceAt _ w.nodup hl hl' hdv
      (recycled_locs w.nodup (copyInto_spec w hs gok hl (VOK_at ws hls) (src_fuel_ok ws hls) hnd).recycled)

/-- ONE STEP CHANGES ONLY ITS TARGET, whatever happens (any input, any code, any allocation failure): a location whose
    path parts ways with the path of the target is still a location, at the same path, and designates the same value -/
theorem stepD_frame {d : Doc} {F : Forest} {op : OpD} {l' : Loc} (w : WFG d F) (hs : StrOK d (d.strRefs F))
    (gok : PL.GeoOK d.g) (hv : op.Valid d F) (hl' : isLoc F l') (hdv : Diverge (pathOf F op.loc) (pathOf F l')) :
    isLoc (op.layout d F) l' ∧ pathOf (op.layout d F) l' = pathOf F l' ∧
    (op.run d).toVal ((op.run d).get l') = d.toVal (d.get l') := by
  obtain ⟨a, _, _, X, hX⟩ := stepD_refines w hs gok hv
  obtain ⟨h1, h2⟩ := stepD_keeps_path w hs gok hv hl' hdv
  exact ⟨h1, h2, frame_of_absWith w a (OpD.valid_loc hv) hl' h1 h2 hX hdv⟩

/-- a deserialization or a copy keeps its own target a location, at the same path (the next operation may address it) -/
theorem deser_keeps_target {F : Forest} {l : Loc} (d' : Doc) (hl : isLoc F l) :
    isLoc (deserLayout d' F l) l ∧ pathOf (deserLayout d' F l) l = pathOf F l :=
  ⟨isLoc_replaceAt_self _ hl, pathOf_replaceAt_self _ hl⟩

/-- the flag after a valid step: the flag before, or something of the step overflowed -/
theorem stepD_overflowed {d : Doc} {F : Forest} {op : OpD} (w : WFG d F) (hs : StrOK d (d.strRefs F))
    (gok : PL.GeoOK d.g) (hv : op.Valid d F) (hc : (op.toA F).CfgOK) (h : (op.run d).overflowed = false) :
    d.overflowed = false ∧ op.Succ d := by
  cases op with
  | base op => exact step_overflowed hv h
  | deserJ l cfg limit input =>
    exact ⟨flag_was_down (deser_into_value cfg limit d F l input w hs hv gok).2.2.2.1 h, hc, h⟩
  | deserM l env limit input =>
    exact ⟨flag_was_down (mp_deser_into_value env limit d F l input w hs hv gok).2.2.2.1 h, h⟩
  | copy l ls =>
    obtain ⟨hl, hls, hnd⟩ := hv
    exact ⟨flag_was_down (copyInto_spec w hs gok hl (VOK_at w hls) (src_fuel_ok w hls) hnd).sticky h, h⟩
  | copyFrom l src Fs ls =>
    obtain ⟨hl, ws, hls, hnd⟩ := hv
    exact ⟨flag_was_down (copyInto_spec w hs gok hl (VOK_at ws hls) (src_fuel_ok ws hls) hnd).sticky h, h⟩

/-! ## 6. Histories -/

/-- `HistDW d F as d' F'`: `d'` (laid out as `F'`) is reached from `d` (laid out as `F`) by a sequence of valid operations
    of `OpD` - WHATEVER their outcome (allocation failures, syntax errors, any code) - standing for the abstract
    operations `as` (each concrete step `op` in the layout `G` of that moment contributes `op.toA G`) -/
inductive HistDW : Doc → Forest → List AOpD → Doc → Forest → Prop
  | nil (d : Doc) (F : Forest) : HistDW d F [] d F
  | cons {d : Doc} {F : Forest} {as : List AOpD} {d' : Doc} {F' : Forest} (op : OpD) :
      op.Valid d F → HistDW (op.run d) (op.layout d F) as d' F' → HistDW d F (op.toA F :: as) d' F'

/-- `HistD d F as d' F'`: the same, and nothing overflowed in any step -/
inductive HistD : Doc → Forest → List AOpD → Doc → Forest → Prop
  | nil (d : Doc) (F : Forest) : HistD d F [] d F
  | cons {d : Doc} {F : Forest} {as : List AOpD} {d' : Doc} {F' : Forest} (op : OpD) :
      op.Valid d F → op.Succ d → HistD (op.run d) (op.layout d F) as d' F' → HistD d F (op.toA F :: as) d' F'

theorem HistD.weak {d d' : Doc} {F F' : Forest} {as : List AOpD} (h : HistD d F as d' F') : HistDW d F as d' F' := by
  induction h with
  | nil d F => exact HistDW.nil d F
  | cons op hv _ _ ih => exact HistDW.cons op hv ih

/-- the histories of `Op2` are histories of `OpD` -/
theorem HistA.toD {d d' : Doc} {F F' : Forest} {as : List AOp} (h : HistA d F as d' F') :
    HistD d F (as.map .base) d' F' := by
  induction h with
  | nil d F => exact HistD.nil d F
  | cons op hv hok _ ih => exact HistD.cons (.base op) hv hok ih

/-- appending one more step at the end -/
theorem HistD.snoc {d d' : Doc} {F F' : Forest} {as : List AOpD} (h : HistD d F as d' F') (op : OpD)
    (hv : op.Valid d' F') (hok : op.Succ d') : HistD d F (as ++ [op.toA F']) (op.run d') (op.layout d' F') := by
  induction h with
  | nil d F => exact HistD.cons op hv hok (HistD.nil _ _)
  | cons op' hv' hok' _ ih => exact HistD.cons op' hv' hok' (ih hv hok)

end C04

