/- A general frame lemma for the document invariant, and its use for allocation failures (C05).
   Used by AJ/Props/C04.lean and AJ/Props/C05Doc.lean. -/
import AJ.Lemmas.DocClear
import AJ.Lemmas.DocAlloc
namespace DL
open JD (Byte Val)

/-- FRAME: if `d'` agrees with `d` on the root, on every slot of the layout and every extension slot it references,
    keeps them live in a consistent pool, and keeps the string table consistent with the same bytes for every referenced
    node, then `d'` is well-formed with the same layout and is the same abstract document — whatever else changed
    (other slots, the allocator state, the overflow flag). -/
theorem wfg_frame {d d' : Doc} {F : Forest} (w : WFG d F)
    (hg : d'.g = d.g) (hroot : d'.root = d.root)
    (hcells : ∀ x ∈ F.ids, d'.cell x = d.cell x)
    (hext : ∀ l0 ∈ holders F, ∀ e ∈ extOfV (d.get l0), d'.cell e = d.cell e ∧ PL.live d'.g d'.pl e)
    (hpool : PL.Inv d'.g d'.pl) (hlive : ∀ x ∈ F.ids, PL.live d'.g d'.pl x)
    (hstr : StrOK d' (d.strRefs F)) (hbytes : ∀ n ∈ d.strRefs F, d'.strBytes n = d.strBytes n) :
    WFG d' F ∧ StrOK d' (d'.strRefs F) ∧ abs d' = abs d := by
  have hn : d'.null = d.null := by simp only [Doc.null, hg]
  have ag : Agree d d' F.ids := ⟨hn, hcells⟩
  have hget : ∀ l0 ∈ holders F, d'.get l0 = d.get l0 := by
    intro l0 h0
    rcases mem_holders.1 h0 with e | ⟨x, hx, e⟩
    · subst e; exact hroot
    · subst e; exact get_of_cell (hcells x hx)
  have hsc : ∀ l0 ∈ holders F, d'.scalar (d.get l0) = d.scalar (d.get l0) := by
    intro l0 h0
    refine scalar_congr (fun n hn' => hbytes n ?_) (fun e he => (hext l0 h0 e he).1)
    simp only [Doc.strRefs, List.mem_flatMap]; exact ⟨l0, h0, hn'⟩
  have w' : WFG d' F := by
    refine ⟨by rw [hroot]; exact VOK_congr ag w.root, w.nodup, fun i hi => by rw [hn]; exact w.lt i hi, hpool, hlive, ?_⟩
    exact ExtOK_of w.ext (fun l0 h0 => Or.inr ⟨h0, hget l0 h0⟩) (fun l0 _ h0 _ e he => hext l0 h0 e he)
  refine ⟨w', ?_, ?_⟩
  · have : d'.strRefs F = d.strRefs F := flatMap_congr' _ (fun l0 h0 => by rw [hget l0 h0])
    rw [this]; exact hstr
  · rw [abs_eq w', abs_eq w, hroot]
    simp only [Doc.valOf]
    have sa : SAgree d d' F.ids := fun j hj => hsc (.slot j) (mem_holders.2 (Or.inr ⟨j, hj, rfl⟩))
    rw [vals_congr noOv F ag sa]
    exact mkVal_congr (hsc .root (mem_holders.2 (Or.inl rfl))) _

/-! ## Documents that only grew their pool (allocations, failed or leaked) -/

/-- `Grow d d'`: `d'` is `d` after allocator traffic only: same root, strings, geometry; every slot live in `d` is
    still live with the same content; the pool is consistent. Newly allocated slots are not constrained. -/
structure Grow (d d' : Doc) : Prop where
  g : d'.g = d.g
  root : d'.root = d.root
  strings : d'.strings = d.strings
  nextNode : d'.nextNode = d.nextNode
  cells : ∀ x, PL.live d.g d.pl x → d'.cell x = d.cell x
  pool : PL.Inv d'.g d'.pl
  live : ∀ x, PL.live d.g d.pl x → PL.live d'.g d'.pl x

theorem Grow.refl {d : Doc} (hp : PL.Inv d.g d.pl) : Grow d d := ⟨rfl, rfl, rfl, rfl, fun _ _ => rfl, hp, fun _ h => h⟩

theorem Grow.trans {d d1 d2 : Doc} (h1 : Grow d d1) (h2 : Grow d1 d2) : Grow d d2 :=
  ⟨by rw [h2.g, h1.g], by rw [h2.root, h1.root], by rw [h2.strings, h1.strings], by rw [h2.nextNode, h1.nextNode],
    fun x hx => by rw [h2.cells x (h1.live x hx), h1.cells x hx], h2.pool, fun x hx => h2.live x (h1.live x hx)⟩

/-- a well-formed document stays well-formed, and the same abstract document, when the pool only grew -/
theorem wfg_of_grow {d d' : Doc} {F : Forest} (w : WFG d F) (hs : StrOK d (d.strRefs F)) (h : Grow d d') :
    WFG d' F ∧ StrOK d' (d'.strRefs F) ∧ abs d' = abs d :=
  wfg_frame w h.g h.root (fun x hx => h.cells x (w.live x hx))
    (fun l0 h0 e he => ⟨h.cells e (w.ext l0 h0 e he).2.1, h.live e (w.ext l0 h0 e he).2.1⟩)
    h.pool (fun x hx => h.live x (w.live x hx)) (StrOK_congr h.strings h.nextNode hs)
    (fun n _ => strBytes_of_strings h.strings n)

theorem allocVariant_none {d d' : Doc} (gok : PL.GeoOK d.g) (hp : PL.Inv d.g d.pl) (h : d.allocVariant = (none, d')) :
    Grow d d' ∧ d'.overflowed = true ∧ (∀ x, PL.live d'.g d'.pl x ↔ PL.live d.g d.pl x) := by
  simp only [Doc.allocVariant] at h
  split at h
  · simp only [Prod.mk.injEq] at h; exact absurd h.1 (by simp)
  · rename_i pl heq
    simp only [Prod.mk.injEq, true_and] at h; subst h
    obtain ⟨a, _, c⟩ := PL.allocSlot_none gok hp heq
    exact ⟨⟨rfl, rfl, rfl, rfl, fun _ _ => rfl, c, fun x hx => (a x).2 hx⟩, rfl, a⟩

theorem allocVariant_some {d d' : Doc} {id : Nat} (gok : PL.GeoOK d.g) (hp : PL.Inv d.g d.pl)
    (h : d.allocVariant = (some id, d')) :
    Grow d d' ∧ d'.overflowed = d.overflowed ∧ d'.cell id = .var .null d.null ∧ (∀ j, j ≠ id → d'.cell j = d.cell j) ∧
    ¬ PL.live d.g d.pl id ∧ id < d.null ∧ (∀ x, PL.live d'.g d'.pl x ↔ PL.live d.g d.pl x ∨ x = id) := by
  simp only [Doc.allocVariant] at h
  split at h
  · rename_i id' pl heq
    simp only [Prod.mk.injEq, Option.some.injEq] at h
    obtain ⟨rfl, rfl⟩ := h
    obtain ⟨a, b, c, dd⟩ := PL.allocSlot_some gok hp heq
    refine ⟨⟨rfl, rfl, rfl, rfl, ?_, dd, fun x hx => (c x).2 (Or.inl hx)⟩, rfl, ?_, ?_, b, a, c⟩
    · intro x hx; rw [cell_insert, if_neg (show ¬ id' = x from fun e => b (e ▸ hx))]
    · rw [cell_insert, if_pos rfl]
    · intro j hj; rw [cell_insert, if_neg (Ne.symm hj)]
  · simp only [Prod.mk.injEq] at h; exact absurd h.1 (by simp)

theorem allocExt_none {d d' : Doc} {p : Int} (gok : PL.GeoOK d.g) (hp : PL.Inv d.g d.pl) (h : d.allocExt p = (none, d')) :
    Grow d d' ∧ d'.overflowed = true ∧ (∀ x, PL.live d'.g d'.pl x ↔ PL.live d.g d.pl x) := by
  simp only [Doc.allocExt] at h
  split at h
  · simp only [Prod.mk.injEq] at h; exact absurd h.1 (by simp)
  · rename_i pl heq
    simp only [Prod.mk.injEq, true_and] at h; subst h
    obtain ⟨a, _, c⟩ := PL.allocSlot_none gok hp heq
    exact ⟨⟨rfl, rfl, rfl, rfl, fun _ _ => rfl, c, fun x hx => (a x).2 hx⟩, rfl, a⟩

theorem saveString_none {d d' : Doc} {s : List Byte} (hp : PL.Inv d.g d.pl) (h : d.saveString s = (none, d')) :
    Grow d d' ∧ d'.overflowed = true ∧ (∀ x, PL.live d'.g d'.pl x ↔ PL.live d.g d.pl x) := by
  rcases saveString_cases d s with ⟨x, _, _, e⟩ | e | e | e
  · cases e.symm.trans h
  · cases e.symm.trans h
    exact ⟨⟨rfl, rfl, rfl, rfl, fun _ _ => rfl, hp, fun x hx => hx⟩, rfl, fun x => Iff.rfl⟩
  · -- the string allocator does not touch the slot pools
    cases e.symm.trans h
    exact ⟨⟨rfl, rfl, rfl, rfl, fun _ _ => rfl, hp.congr rfl rfl rfl rfl, fun x hx => (live_congr rfl rfl x).2 hx⟩, rfl,
      fun x => live_congr rfl rfl x⟩
  · cases e.symm.trans h

theorem saveString_overflowed {d d1 : Doc} {s : List Byte} {n : Nat} (h : d.saveString s = (some n, d1)) :
    d1.overflowed = d.overflowed := by
  rcases saveString_cases d s with ⟨x, _, _, e⟩ | e | e | e
  · cases e.symm.trans h; rfl
  · cases e.symm.trans h
  · cases e.symm.trans h
  · cases e.symm.trans h; rfl

/-! ## Observations are preserved by growth; the geometry is one of the constants of `SameId` -/

/-- under the hypotheses of `wfg_frame`, every location of the layout designates the same value, and `absWith` reads the
    same -/
theorem frame_obs {d d' : Doc} {F : Forest} (w : WFG d F)
    (hg : d'.g = d.g) (hroot : d'.root = d.root)
    (hcells : ∀ x ∈ F.ids, d'.cell x = d.cell x)
    (hext : ∀ l0 ∈ holders F, ∀ e ∈ extOfV (d.get l0), d'.cell e = d.cell e ∧ PL.live d'.g d'.pl e)
    (hpool : PL.Inv d'.g d'.pl) (hlive : ∀ x ∈ F.ids, PL.live d'.g d'.pl x)
    (hstr : StrOK d' (d.strRefs F)) (hbytes : ∀ n ∈ d.strRefs F, d'.strBytes n = d.strBytes n) {l : Loc}
    (hl : isLoc F l) :
    d'.get l = d.get l ∧ d'.toVal (d'.get l) = d.toVal (d.get l) ∧ ∀ x, absWith d' F l x = absWith d F l x := by
  obtain ⟨w', _, _⟩ := wfg_frame w hg hroot hcells hext hpool hlive hstr hbytes
  have hn : d'.null = d.null := by simp only [Doc.null, hg]
  have ag : Agree d d' F.ids := ⟨hn, hcells⟩
  have hget : ∀ l0 ∈ holders F, d'.get l0 = d.get l0 := by
    intro l0 h0
    rcases mem_holders.1 h0 with e | ⟨x, hx, e⟩
    · subst e; exact hroot
    · subst e; exact get_of_cell (ag.cell x hx)
  have hsc : ∀ l0 ∈ holders F, d'.scalar (d.get l0) = d.scalar (d.get l0) := by
    intro l0 h0
    refine scalar_congr (fun n hn' => hbytes n ?_) (fun e he => (hext l0 h0 e he).1)
    simp only [Doc.strRefs, List.mem_flatMap]; exact ⟨l0, h0, hn'⟩
  have sa : SAgree d d' F.ids := fun j hj => hsc (.slot j) (mem_holders.2 (Or.inr ⟨j, hj, rfl⟩))
  have hgl := hget l (loc_mem_holders hl)
  refine ⟨hgl, ?_, ?_⟩
  · rw [toVal_at w' hl, toVal_at w hl, hgl]
    simp only [Doc.valOf]
    have hsub := layoutAt_ids_sub F l
    rw [vals_congr noOv _ (ag.mono hsub) (sa.mono hsub)]
    exact mkVal_congr (hsc l (loc_mem_holders hl)) _
  · intro x
    cases l with
    | root => rfl
    | slot i =>
      simp only [absWith]
      rw [vals_congr _ F ag sa, hroot]
      exact mkVal_congr (hsc .root (mem_holders.2 (Or.inl rfl))) _

theorem grow_obs {d d' : Doc} {F : Forest} (w : WFG d F) (hs : StrOK d (d.strRefs F)) (h : Grow d d') {l : Loc}
    (hl : isLoc F l) :
    d'.get l = d.get l ∧ d'.toVal (d'.get l) = d.toVal (d.get l) ∧ ∀ x, absWith d' F l x = absWith d F l x :=
  frame_obs w h.g h.root (fun x hx => h.cells x (w.live x hx))
    (fun l0 h0 e he => ⟨h.cells e (w.ext l0 h0 e he).2.1, h.live e (w.ext l0 h0 e he).2.1⟩)
    h.pool (fun x hx => h.live x (w.live x hx)) (StrOK_congr h.strings h.nextNode hs)
    (fun n _ => strBytes_of_strings h.strings n) hl

theorem appendOne_g (d : Doc) (l : Loc) (id : Nat) : (d.appendOne l id).g = d.g := (sameId_appendOne d l id).g

theorem appendOne_pl (d : Doc) (l : Loc) (id : Nat) : (d.appendOne l id).pl = d.pl := by
  simp only [Doc.appendOne]
  split
  · split
    · rw [set_pl, setNext_pl]
    · rw [set_pl]
  · rfl

theorem derefString_g (d : Doc) (n : Nat) : (d.derefString n).g = d.g := (sameId_derefString d n).g

theorem saveString_g (d : Doc) (s : List Byte) : (d.saveString s).2.g = d.g := (sameId_saveString d s).g

theorem allocExt_g (d : Doc) (p : Int) : (d.allocExt p).2.g = d.g := (sameId_allocExt d p).g

theorem allocVariant_g (d : Doc) : d.allocVariant.2.g = d.g := (sameId_allocVariant d).g

theorem clearV_g (d : Doc) (l : Loc) : (d.clearV l).g = d.g := (sameId_clearV d l).g

end DL
