/- Helper lemmas for C18 (comparison operators): AJ/Model/Cmp.lean -/
import AJ.Model.Cmp
namespace Cmp
open _root_.SF JD

theorem CR.reverse_reverse (r : CR) : r.reverse.reverse = r := by cases r <;> rfl
theorem CR.reverse_eq_equal (r : CR) : r.reverse = .equal ↔ r = .equal := by cases r <;> decide
theorem CR.reverse_eq_differ (r : CR) : r.reverse = .differ ↔ r = .differ := by cases r <;> decide

/-! ## softfloat order: `lt` is asymmetric (every bit pattern, NaN and infinities included) -/

theorem sf_lt_asymm (f : Fmt) (a c : Nat) : SF.lt f a c = true → SF.lt f c a = false := by
  unfold SF.lt
  generalize decode f a = x
  generalize decode f c = y
  cases x <;> cases y <;> simp only []
  case fin.fin n1 m1 e1 n2 m2 e2 =>
    rw [Int.min_comm e2 e1]
    generalize ((if n1 = true then -1 else 1) * ((m1 * 2 ^ (e1 - min e1 e2).toNat : Nat) : Int)) = p
    generalize ((if n2 = true then -1 else 1) * ((m2 * 2 ^ (e2 - min e1 e2).toNat : Nat) : Int)) = q
    simp only [decide_eq_true_eq, decide_eq_false_iff_not]; omega
  case inf.inf n1 n2 => cases n1 <;> cases n2 <;> decide
  case inf.fin n1 n2 _ _ => cases n1 <;> decide
  case fin.inf _ _ _ n2 => cases n2 <;> decide
  all_goals (intro h; trivial)

/-! ## arithmeticCompare -/
/-- the double branch of `arith` -/
def dcmp (a c : Nat) : CR :=
  if lt b64 a c then .less else if gt b64 a c then .greater
  else if isNaN b64 a || isNaN b64 c then .differ else .equal

theorem dcmp_reverse (a c : Nat) : dcmp c a = (dcmp a c).reverse := by
  unfold dcmp SF.gt
  cases h1 : SF.lt b64 a c <;> cases h2 : SF.lt b64 c a
  · simp only [Bool.false_eq_true, if_false, Bool.or_comm]; split <;> rfl
  · simp [CR.reverse]
  · simp [CR.reverse]
  · rw [sf_lt_asymm _ _ _ h1] at h2; cases h2

theorem arith_d_left (x : Nat) (r : NumV) : arith (.d x) r = dcmp x (toDouble r) := by
  cases r <;> rfl
theorem arith_d_right (l : NumV) (x : Nat) : arith l (.d x) = dcmp (toDouble l) x := by
  cases l <;> rfl

/-! ### operands that are not doubles compare as integers -/

/-- the mathematical three-way comparison -/
def ordCR (x y : Int) : CR := if x < y then .less else if x = y then .equal else .greater

theorem ordCR_reverse (x y : Int) : ordCR y x = (ordCR x y).reverse := by
  unfold ordCR
  by_cases h1 : x < y
  · rw [if_pos h1, if_neg (by omega), if_neg (by omega)]; rfl
  · by_cases h2 : x = y
    · subst h2; rw [if_neg h1, if_pos rfl]; rfl
    · rw [if_neg h1, if_neg h2, if_pos (by omega)]; rfl

theorem ofOrd_int (x y : Int) : ofOrd (decide (x < y)) (decide (x > y)) = ordCR x y := by
  unfold ofOrd ordCR
  by_cases h1 : x < y
  · rw [decide_eq_true h1, if_pos rfl, if_pos h1]
  · rw [decide_eq_false h1, if_neg Bool.false_ne_true, if_neg h1]
    by_cases h2 : x = y
    · subst h2; rw [decide_eq_false h1, if_neg Bool.false_ne_true, if_pos rfl]
    · rw [decide_eq_true (by omega : x > y), if_pos rfl, if_neg h2]

theorem ofOrd_nat (x y : Nat) : ofOrd (decide (x < y)) (decide (x > y)) = ordCR x y := by
  rw [← ofOrd_int]; simp only [Int.ofNat_lt, gt_iff_lt]

/-- the integer that an operand stands for, unless it is a double -/
def ival : NumV → Option Int
  | .i v => some v
  | .u n => some n
  | .b v => some (if v then 1 else 0)
  | .d _ => none

/-- `arithmeticCompare` on operands that are not doubles is the order of ℤ, whatever their types -/
theorem arith_int {l r : NumV} {x y : Int} (hl : ival l = some x) (hr : ival r = some y) : arith l r = ordCR x y := by
  cases l <;> cases r <;> simp only [ival, Option.some.injEq, reduceCtorEq] at hl hr <;> subst hl hr
  case i.i => exact ofOrd_int _ _
  case u.u => exact ofOrd_nat _ _
  case b.b a c => cases a <;> cases c <;> rfl
  case i.u a c =>
    show (if a < 0 then CR.less else ofOrd (decide (a.toNat < c)) (decide (a.toNat > c))) = _
    by_cases h : a < 0
    · rw [if_pos h, ordCR, if_pos (by omega)]
    · rw [if_neg h, ofOrd_nat, Int.toNat_of_nonneg (by omega)]
  case u.i a c =>
    show (if c < 0 then CR.greater else ofOrd (decide (a < c.toNat)) (decide (a > c.toNat))) = _
    by_cases h : c < 0
    · rw [if_pos h, ordCR, if_neg (by omega), if_neg (by omega)]
    · rw [if_neg h, ofOrd_nat, Int.toNat_of_nonneg (by omega)]
  case b.i a c => exact ofOrd_int _ _
  case i.b a c => exact ofOrd_int _ _
  case b.u a c => cases a <;> exact ofOrd_nat _ _
  case u.b a c => cases c <;> exact ofOrd_nat _ _

theorem arith_ii (x y : Int) : arith (.i x) (.i y) = ordCR x y := arith_int rfl rfl
theorem arith_uu (x y : Nat) : arith (.u x) (.u y) = ordCR x y := arith_int rfl rfl
theorem arith_iu (x : Int) (y : Nat) : arith (.i x) (.u y) = ordCR x y := arith_int rfl rfl
theorem arith_ui (x : Nat) (y : Int) : arith (.u x) (.i y) = ordCR x y := arith_int rfl rfl

theorem arith_reverse (l r : NumV) : arith r l = (arith l r).reverse := by
  cases hl : ival l with
  | none => cases l <;> cases hl; rw [arith_d_left, arith_d_right]; exact dcmp_reverse _ _
  | some x =>
    cases hr : ival r with
    | none => cases r <;> cases hr; rw [arith_d_left, arith_d_right]; exact dcmp_reverse _ _
    | some y => rw [arith_int hl hr, arith_int hr hl]; exact ordCR_reverse x y

/-! ## stringCompare / rawCompare -/

theorem schar_inj (a c : Byte) (h : schar a = schar c) : a = c := by
  unfold schar at h
  have ha := a.toNat_lt; have hc := c.toNat_lt
  apply UInt8.toNat_inj.mp
  split at h <;> split at h <;> rename_i h1 h2
  all_goals (simp only [ge_iff_le, UInt8.le_iff_toNat_le, Nat.not_le] at h1 h2; try change (128 ≤ _) at h1; try change (128 ≤ _) at h2)
  all_goals omega

/-- `stringCompare` and `rawCompare` have one shape: the first differing byte decides, by the difference of an injective
    key; a proper prefix is smaller. Such a comparison is antisymmetric and answers 0 exactly on equal lists. -/
theorem lex_spec (key : Byte → Int) (hinj : ∀ a c, key a = key c → a = c) (cmp : List Byte → List Byte → Int)
    (h00 : cmp [] [] = 0) (h01 : ∀ c cs, cmp [] (c :: cs) = -1) (h10 : ∀ a as, cmp (a :: as) [] = 1)
    (hcc : ∀ a as c cs, cmp (a :: as) (c :: cs) = if a != c then key a - key c else cmp as cs) :
    ∀ a b, cmp b a = - cmp a b ∧ (cmp a b = 0 ↔ a = b) := by
  intro a
  induction a with
  | nil =>
    intro b
    cases b with
    | nil => rw [h00]; exact ⟨rfl, Iff.intro (fun _ => rfl) (fun _ => rfl)⟩
    | cons y ys => rw [h01, h10]; exact ⟨rfl, Iff.intro (fun h => absurd h (by decide)) (fun h => nomatch h)⟩
  | cons x xs ih =>
    intro b
    cases b with
    | nil => rw [h01, h10]; exact ⟨rfl, Iff.intro (fun h => absurd h (by decide)) (fun h => nomatch h)⟩
    | cons y ys =>
      rw [hcc, hcc]
      by_cases h : x = y
      · subst h
        have hx : ¬ (x != x) = true := by simp
        rw [if_neg hx, if_neg hx, (ih ys).1, List.cons.injEq, (ih ys).2]
        exact ⟨rfl, Iff.intro (fun e => ⟨rfl, e⟩) (fun e => e.2)⟩
      · have hk : key x ≠ key y := fun e => h (hinj x y e)
        rw [if_pos (bne_iff_ne.mpr h), if_pos (bne_iff_ne.mpr (Ne.symm h)), List.cons.injEq]
        exact ⟨by omega, Iff.intro (fun e => absurd e (by omega)) (fun e => absurd e.1 h)⟩

theorem stringCompare_spec : ∀ a b, stringCompare b a = - stringCompare a b ∧ (stringCompare a b = 0 ↔ a = b) :=
  lex_spec schar schar_inj stringCompare rfl (fun _ _ => rfl) (fun _ _ => rfl) (fun _ _ _ _ => rfl)

theorem rawCompare_spec : ∀ a b, rawCompare b a = - rawCompare a b ∧ (rawCompare a b = 0 ↔ a = b) :=
  lex_spec (fun c => (c.toNat : Int)) (fun _ _ e => UInt8.toNat_inj.mp (Int.ofNat.inj e)) rawCompare rfl
    (fun _ _ => rfl) (fun _ _ => rfl) (fun _ _ _ _ => rfl)

theorem stringCompare_antisym (a b : List Byte) : stringCompare b a = - stringCompare a b := (stringCompare_spec a b).1
theorem stringCompare_eq_zero (a b : List Byte) : stringCompare a b = 0 ↔ a = b := (stringCompare_spec a b).2
theorem rawCompare_antisym (a b : List Byte) : rawCompare b a = - rawCompare a b := (rawCompare_spec a b).1
theorem rawCompare_eq_zero (a b : List Byte) : rawCompare a b = 0 ↔ a = b := (rawCompare_spec a b).2

/-! ## generic forms of the array / object loops, structural form of compareF -/


abbrev Members := List (List Byte × Val)

def arrEqG (f : Val → Val → CR) : List Val → List Val → Bool
  | [], [] => true
  | [], _ :: _ => false
  | _ :: _, [] => false
  | a :: as, c :: cs => if f a c != .equal then false else arrEqG f as cs

def objEqG (f : Val → Val → CR) (n : Nat) : Members → Members → Bool
  | [], rhs => n == rhs.length
  | (k, v) :: rest, rhs =>
    match lookup rhs k with
    | none => false
    | some rv => if f v rv != .equal then false else objEqG f n rest rhs

theorem arrEqF_eq (fuel : Nat) (la lb : List Val) : arrEqF fuel la lb = arrEqG (compareF fuel) la lb := by
  induction la generalizing lb with
  | nil => cases lb <;> simp [arrEqF, arrEqG]
  | cons x xs ih => cases lb with
    | nil => simp [arrEqF, arrEqG]
    | cons y ys => rw [arrEqF, arrEqG, ih]

theorem objEqF_eq (fuel : Nat) (whole rest rhs : Members) :
    objEqF fuel whole rest rhs = objEqG (compareF fuel) whole.length rest rhs := by
  induction rest with
  | nil => simp [objEqF, objEqG]
  | cons p ps ih => obtain ⟨k, v⟩ := p; rw [objEqF, objEqG, ih]; rfl

/-- structurally recursive (kernel-reducible) form of `compareF` -/
def compareS : Nat → Val → Val → CR
  | 0, _, _ => .differ
  | fuel+1, a, b =>
    match a with
    | .arr la => (match b with | .arr lb => if arrEqG (compareS fuel) la lb then .equal else .differ | _ => .differ)
    | .obj ma => (match b with | .obj mb => if objEqG (compareS fuel) mb.length mb ma then .equal else .differ | _ => .differ)
    | .str sa =>
      (match b with
       | .str sb => let i := stringCompare sa sb; (if i < 0 then CR.greater else if i > 0 then .less else .equal).reverse
       | _ => .differ)
    | .raw ra =>
      (match b with
       | .raw rb => let n := rawCompare rb ra; (if n < 0 then CR.less else if n > 0 then .greater else .equal).reverse
       | _ => .differ)
    | .null => (match b with | .null => .equal | _ => .differ)
    | _ =>
      match numOf a, numOf b with
      | some x, some y => (arith y x).reverse
      | _, _ => .differ

theorem compareF_eq_compareS (fuel : Nat) : compareF fuel = compareS fuel := by
  induction fuel with
  | zero => funext a b; rw [compareF, compareS]
  | succ n ih => funext a b; rw [compareF.eq_def, compareS.eq_def]; simp only [arrEqF_eq, objEqF_eq, ih]; rfl


/-! ## lists: pigeonhole, lookup -/
theorem subset_of_nodup_length {α : Type} [DecidableEq α] (l1 l2 : List α)
    (hn : l1.Nodup) (hs : ∀ x ∈ l1, x ∈ l2) (hl : l2.length ≤ l1.length) : ∀ x ∈ l2, x ∈ l1 := by
  induction l1 generalizing l2 with
  | nil =>
    intro x hx
    cases l2 with
    | nil => cases hx
    | cons y ys => simp at hl
  | cons x t ih =>
    have hxt : x ∉ t := (List.nodup_cons.mp hn).1
    have htn : t.Nodup := (List.nodup_cons.mp hn).2
    have hx2 : x ∈ l2 := hs x (List.mem_cons_self)
    have hlen : (l2.erase x).length ≤ t.length := by
      rw [List.length_erase_of_mem hx2]; simp only [List.length_cons] at hl; omega
    have hsub : ∀ y ∈ t, y ∈ l2.erase x := by
      intro y hy
      have hne : y ≠ x := fun e => hxt (e ▸ hy)
      exact (List.mem_erase_of_ne hne).mpr (hs y (List.mem_cons_of_mem _ hy))
    have := ih (l2.erase x) htn hsub hlen
    intro y hy
    by_cases e : y = x
    · subst e; exact List.mem_cons_self
    · exact List.mem_cons_of_mem _ (this y ((List.mem_erase_of_ne e).mpr hy))

def keys (ms : Members) : List (List Byte) := ms.map (·.1)

theorem lookup_nil (k : List Byte) : lookup [] k = none := rfl
theorem lookup_cons (p : List Byte × Val) (ms : Members) (k : List Byte) :
    lookup (p :: ms) k = if p.1 = k then some p.2 else lookup ms k := by
  unfold lookup
  by_cases h : p.1 = k
  · simp [List.find?, h]
  · have hb : (p.1 == k) = false := by simp [h]
    simp [List.find?, hb, h]

theorem lookup_some_mem (ms : Members) (k : List Byte) (v : Val) (h : lookup ms k = some v) : (k, v) ∈ ms := by
  induction ms with
  | nil => cases h
  | cons p ps ih =>
    rw [lookup_cons] at h
    split at h
    · rename_i e; cases h; obtain ⟨a, b⟩ := p; cases e; exact List.mem_cons_self
    · exact List.mem_cons_of_mem _ (ih h)

theorem lookup_of_mem_nodup (ms : Members) (k : List Byte) (v : Val) (hn : (keys ms).Nodup) (h : (k, v) ∈ ms) :
    lookup ms k = some v := by
  induction ms with
  | nil => cases h
  | cons p ps ih =>
    rw [lookup_cons]
    simp only [keys, List.map_cons, List.nodup_cons] at hn
    rcases List.mem_cons.mp h with e | h'
    · subst e; simp
    · have : p.1 ≠ k := by
        intro e; apply hn.1; rw [e]; exact List.mem_map.mpr ⟨(k, v), h', rfl⟩
      simp only [this, if_false]; exact ih hn.2 h'

theorem mem_keys_iff (ms : Members) (k : List Byte) : k ∈ keys ms ↔ ∃ v, (k, v) ∈ ms := by
  simp only [keys, List.mem_map]
  constructor
  · rintro ⟨⟨a, b⟩, h, rfl⟩; exact ⟨b, h⟩
  · rintro ⟨v, h⟩; exact ⟨(k, v), h, rfl⟩

/-! ## characterisations of the loops -/
theorem arrEqG_iff (f : Val → Val → CR) (la lb : List Val) :
    arrEqG f la lb = true ↔ la.length = lb.length ∧ ∀ i (h1 : i < la.length) (h2 : i < lb.length), f la[i] lb[i] = .equal := by
  induction la generalizing lb with
  | nil => cases lb <;> simp [arrEqG]
  | cons x xs ih =>
    cases lb with
    | nil => simp [arrEqG]
    | cons y ys =>
      simp only [arrEqG, bne_iff_ne, ne_eq, ite_not, List.length_cons, Nat.add_right_cancel_iff]
      constructor
      · intro h
        split at h
        · rename_i e
          obtain ⟨hl, hi⟩ := (ih ys).mp h
          refine ⟨hl, ?_⟩
          intro i h1 h2
          cases i with
          | zero => exact e
          | succ j => exact hi j (by simpa using h1) (by simpa using h2)
        · cases h
      · rintro ⟨hl, hi⟩
        have e := hi 0 (by simp) (by simp)
        simp only [List.getElem_cons_zero] at e
        simp only [e, if_true]
        exact (ih ys).mpr ⟨hl, fun i h1 h2 => by
          have := hi (i+1) (by simpa using h1) (by simpa using h2)
          simpa only [List.getElem_cons_succ] using this⟩

theorem objEqG_iff (f : Val → Val → CR) (n : Nat) (rest rhs : Members) :
    objEqG f n rest rhs = true ↔ n = rhs.length ∧ ∀ p ∈ rest, ∃ rv, lookup rhs p.1 = some rv ∧ f p.2 rv = .equal := by
  induction rest with
  | nil => simp [objEqG]
  | cons p ps ih =>
    obtain ⟨k, v⟩ := p
    simp only [objEqG, List.mem_cons, forall_eq_or_imp]
    cases hl : lookup rhs k with
    | none => simp
    | some rv =>
      simp only [bne_iff_ne, ne_eq, ite_not, Option.some.injEq, exists_eq_left']
      by_cases e : f v rv = .equal
      · simp only [e, if_true, ih, true_and]
      · simp [e]

/-! ## swap symmetry of the loops -/
theorem arrEqG_symm (f g : Val → Val → CR) (la lb : List Val)
    (h : ∀ x ∈ la, ∀ y ∈ lb, (g y x = .equal ↔ f x y = .equal)) : arrEqG g lb la = arrEqG f la lb := by
  induction la generalizing lb with
  | nil => cases lb <;> rfl
  | cons x xs ih =>
    cases lb with
    | nil => rfl
    | cons y ys =>
      simp only [arrEqG]
      have e := h x List.mem_cons_self y List.mem_cons_self
      rw [ih ys (fun x' hx y' hy => h x' (List.mem_cons_of_mem _ hx) y' (List.mem_cons_of_mem _ hy))]
      by_cases hf : f x y = .equal
      · simp [hf, e.mpr hf]
      · have hg : ¬ g y x = .equal := fun c => hf (e.mp c)
        simp [hf, hg]

/-- the hard direction: with duplicate-free keys on both sides, "same count and every member of `mb` is matched in `ma`"
    implies the converse (pigeonhole on the keys) -/
theorem objEqG_swap (f g : Val → Val → CR) (ma mb : Members)
    (hna : (keys ma).Nodup) (hnb : (keys mb).Nodup)
    (h : ∀ p ∈ mb, ∀ q ∈ ma, f p.2 q.2 = .equal → g q.2 p.2 = .equal)
    (he : objEqG f mb.length mb ma = true) : objEqG g ma.length ma mb = true := by
  rw [objEqG_iff] at he ⊢
  obtain ⟨hl, hm⟩ := he
  refine ⟨hl.symm, ?_⟩
  -- keys mb ⊆ keys ma
  have hsub : ∀ k ∈ keys mb, k ∈ keys ma := by
    intro k hk
    obtain ⟨v, hv⟩ := (mem_keys_iff mb k).mp hk
    obtain ⟨rv, hr, _⟩ := hm (k, v) hv
    exact (mem_keys_iff ma k).mpr ⟨rv, lookup_some_mem ma k rv hr⟩
  have hsup := subset_of_nodup_length (keys mb) (keys ma) hnb hsub (by simp [keys, hl])
  intro q hq
  obtain ⟨k, v⟩ := q
  have hk : k ∈ keys mb := hsup k ((mem_keys_iff ma k).mpr ⟨v, hq⟩)
  obtain ⟨w, hw⟩ := (mem_keys_iff mb k).mp hk
  refine ⟨w, lookup_of_mem_nodup mb k w hnb hw, ?_⟩
  obtain ⟨rv, hr, hf⟩ := hm (k, w) hw
  have : rv = v := by
    have := lookup_of_mem_nodup ma k v hna hq
    simp only [] at hr; rw [this] at hr; cases hr; rfl
  subst this
  exact h (k, w) hw (k, rv) hq hf

theorem objEqG_symm (f : Val → Val → CR) (ma mb : Members)
    (hna : (keys ma).Nodup) (hnb : (keys mb).Nodup)
    (h : ∀ p ∈ mb, ∀ q ∈ ma, (f p.2 q.2 = .equal ↔ f q.2 p.2 = .equal)) :
    objEqG f ma.length ma mb = objEqG f mb.length mb ma := by
  apply Bool.eq_iff_iff.mpr
  constructor
  · exact objEqG_swap f f mb ma hnb hna (fun p hp q hq => (h q hq p hp).mpr)
  · exact objEqG_swap f f ma mb hna hnb (fun p hp q hq => (h p hp q hq).mp)

/-! ## duplicate-free keys, everywhere in a value -/
def NoDupKeys : Val → Prop
  | .arr xs => ndL xs
  | .obj ms => (keys ms).Nodup ∧ ndM ms
  | _ => True
where
  ndL : List Val → Prop
    | [] => True
    | x :: r => NoDupKeys x ∧ ndL r
  ndM : Members → Prop
    | [] => True
    | (_, x) :: r => NoDupKeys x ∧ ndM r

theorem ndL_mem (xs : List Val) (h : NoDupKeys.ndL xs) : ∀ x ∈ xs, NoDupKeys x := by
  induction xs with
  | nil => intro x hx; cases hx
  | cons y ys ih =>
    intro x hx
    simp only [NoDupKeys.ndL] at h
    rcases List.mem_cons.mp hx with e | hx'
    · exact e ▸ h.1
    · exact ih h.2 x hx'

theorem ndM_mem (ms : Members) (h : NoDupKeys.ndM ms) : ∀ p ∈ ms, NoDupKeys p.2 := by
  induction ms with
  | nil => intro x hx; cases hx
  | cons y ys ih =>
    intro x hx
    obtain ⟨k, v⟩ := y
    simp only [NoDupKeys.ndM] at h
    rcases List.mem_cons.mp hx with e | hx'
    · exact e ▸ h.1
    · exact ih h.2 x hx'

/-! ## `compareF` by the shapes of its operands -/

/-- the three-way answer computed from an integer: negating the integer exchanges the outer answers, and `reverse`
    acts on the answers -/
theorem threeWay_neg (i : Int) (p q : CR) :
    (if -i < 0 then p else if -i > 0 then q else CR.equal) = (if i < 0 then q else if i > 0 then p else .equal) := by
  by_cases h1 : i < 0
  · rw [if_pos h1, if_neg (by omega), if_pos (by omega)]
  · by_cases h2 : i > 0
    · rw [if_neg h1, if_pos h2, if_pos (by omega)]
    · rw [if_neg h1, if_neg h2, if_neg (by omega), if_neg (by omega)]

theorem threeWay_reverse (i : Int) (p q : CR) : (if i < 0 then p else if i > 0 then q else CR.equal).reverse =
    (if i < 0 then p.reverse else if i > 0 then q.reverse else .equal) := by
  rw [apply_ite CR.reverse, apply_ite CR.reverse]; rfl

theorem equalOrDiffer_reverse (c : Bool) : (if c then CR.equal else .differ).reverse = if c then .equal else .differ := by
  cases c <;> rfl

/-- what `compareF` tells apart before it looks inside: null, number-like (booleans included), string, raw, array, object -/
def kind : Val → Nat
  | .null => 0
  | .bool _ => 1
  | .num _ => 1
  | .str _ => 2
  | .raw _ => 3
  | .arr _ => 4
  | .obj _ => 5

theorem compareF_arr (n : Nat) (la lb : List Val) :
    compareF (n+1) (.arr la) (.arr lb) = if arrEqG (compareF n) la lb then .equal else .differ := by
  rw [compareF, arrEqF_eq]

theorem compareF_obj (n : Nat) (ma mb : Members) :
    compareF (n+1) (.obj ma) (.obj mb) = if objEqG (compareF n) mb.length mb ma then .equal else .differ := by
  rw [compareF, objEqF_eq]

theorem compareF_str (n : Nat) (sa sb : List Byte) : compareF (n+1) (.str sa) (.str sb) =
    if stringCompare sa sb < 0 then .less else if stringCompare sa sb > 0 then .greater else .equal := by
  rw [compareF]; exact threeWay_reverse _ _ _

theorem compareF_raw (n : Nat) (ra rb : List Byte) : compareF (n+1) (.raw ra) (.raw rb) =
    if rawCompare ra rb < 0 then .less else if rawCompare ra rb > 0 then .greater else .equal := by
  rw [compareF, rawCompare_antisym ra rb, threeWay_neg, threeWay_reverse]; rfl

theorem compareF_null (n : Nat) : compareF (n+1) .null .null = .equal := by rw [compareF]

theorem compareF_num (n : Nat) {a b : Val} {x y : NumV} (ha : numOf a = some x) (hb : numOf b = some y) :
    compareF (n+1) a b = arith x y := by
  rcases a with _ | _ | (_|_|_|_) | sa | ra | la | ma
  all_goals try (cases ha; done)
  all_goals (simp only [compareF]; rw [ha, hb]; simp only []; rw [arith_reverse x y, CR.reverse_reverse])

theorem compareF_differ (n : Nat) {a b : Val} (h : kind a ≠ kind b) : compareF (n+1) a b = .differ := by
  rcases a with _ | _ | (_|_|_|_) | sa | ra | la | ma <;> cases b <;> first | exact absurd rfl h | simp only [compareF, numOf]

theorem kind_eq_zero {a : Val} : kind a = 0 ↔ a = .null := by
  cases a <;> simp only [kind, reduceCtorEq] <;> decide

theorem numOf_of_kind {a : Val} (h : kind a = 1) : ∃ x, numOf a = some x := by
  rcases a with _ | _ | (_|_|_|_) | sa | ra | la | ma <;> first | exact ⟨_, rfl⟩ | cases h

/-- two values of the same kind are two arrays, two objects, two strings, two raw values, two nulls or two number-like values -/
theorem kind_eq_cases {P : Val → Val → Prop} (arr : ∀ la lb, P (.arr la) (.arr lb)) (obj : ∀ ma mb, P (.obj ma) (.obj mb))
    (str : ∀ sa sb, P (.str sa) (.str sb)) (raw : ∀ ra rb, P (.raw ra) (.raw rb)) (null : P .null .null)
    (num : ∀ a b x y, numOf a = some x → numOf b = some y → P a b) (a b : Val) (h : kind a = kind b) : P a b := by
  by_cases h1 : kind a = 1
  · obtain ⟨x, hx⟩ := numOf_of_kind h1
    obtain ⟨y, hy⟩ := numOf_of_kind (h ▸ h1)
    exact num a b x y hx hy
  · cases a <;> cases b <;> first
      | exact arr _ _ | exact obj _ _ | exact str _ _ | exact raw _ _ | exact null
      | exact absurd rfl h1 | cases h

/-- swap symmetry at every fuel -/
theorem compareF_reverse (fuel : Nat) : ∀ a b, NoDupKeys a → NoDupKeys b → compareF fuel b a = (compareF fuel a b).reverse := by
  induction fuel with
  | zero => intro a b _ _; rw [compareF, compareF]; rfl
  | succ n ih =>
    have sym : ∀ x y, NoDupKeys x → NoDupKeys y → (compareF n y x = .equal ↔ compareF n x y = .equal) := by
      intro x y hx hy; rw [ih x y hx hy, CR.reverse_eq_equal]
    intro a b
    by_cases hk : kind a = kind b
    · refine kind_eq_cases (P := fun a b => NoDupKeys a → NoDupKeys b → compareF (n+1) b a = (compareF (n+1) a b).reverse)
        ?_ ?_ ?_ ?_ ?_ ?_ a b hk
      · intro la lb ha hb
        simp only [NoDupKeys] at ha hb
        rw [compareF_arr, compareF_arr, arrEqG_symm (compareF n) (compareF n) la lb
          (fun x hx y hy => sym x y (ndL_mem la ha x hx) (ndL_mem lb hb y hy))]
        exact (equalOrDiffer_reverse _).symm
      · intro ma mb ha hb
        simp only [NoDupKeys] at ha hb
        rw [compareF_obj, compareF_obj, objEqG_symm (compareF n) ma mb ha.1 hb.1
          (fun p hp q hq => sym q.2 p.2 (ndM_mem ma ha.2 q hq) (ndM_mem mb hb.2 p hp))]
        exact (equalOrDiffer_reverse _).symm
      · intro sa sb _ _
        rw [compareF_str, compareF_str, stringCompare_antisym sa sb, threeWay_neg, threeWay_reverse]; rfl
      · intro ra rb _ _
        rw [compareF_raw, compareF_raw, rawCompare_antisym ra rb, threeWay_neg, threeWay_reverse]; rfl
      · intro _ _; rw [compareF_null]; rfl
      · intro a b x y hx hy _ _
        rw [compareF_num n hy hx, compareF_num n hx hy]; exact arith_reverse x y
    · intro _ _
      rw [compareF_differ n hk, compareF_differ n (Ne.symm hk)]; rfl

/-! ## fuel stability -/
theorem arrEqG_congr (f g : Val → Val → CR) (la lb : List Val)
    (h : ∀ x ∈ la, ∀ y ∈ lb, f x y = g x y) : arrEqG f la lb = arrEqG g la lb := by
  induction la generalizing lb with
  | nil => cases lb <;> rfl
  | cons x xs ih =>
    cases lb with
    | nil => rfl
    | cons y ys =>
      simp only [arrEqG]
      rw [h x List.mem_cons_self y List.mem_cons_self,
        ih ys (fun x' hx y' hy => h x' (List.mem_cons_of_mem _ hx) y' (List.mem_cons_of_mem _ hy))]

theorem objEqG_congr (f g : Val → Val → CR) (n : Nat) (rest rhs : Members)
    (h : ∀ p ∈ rest, ∀ q ∈ rhs, f p.2 q.2 = g p.2 q.2) : objEqG f n rest rhs = objEqG g n rest rhs := by
  induction rest with
  | nil => rfl
  | cons p ps ih =>
    obtain ⟨k, v⟩ := p
    simp only [objEqG]
    rw [ih (fun p hp q hq => h p (List.mem_cons_of_mem _ hp) q hq)]
    cases hl : lookup rhs k with
    | none => rfl
    | some rv =>
      simp only []
      rw [h (k, v) List.mem_cons_self (k, rv) (lookup_some_mem rhs k rv hl)]

theorem depthL_mem (xs : List Val) : ∀ x ∈ xs, depth x ≤ depth.depthL xs := by
  induction xs with
  | nil => intro x hx; cases hx
  | cons y ys ih =>
    intro x hx
    simp only [depth.depthL]
    rcases List.mem_cons.mp hx with e | hx'
    · subst e; omega
    · have := ih x hx'; omega

theorem depthM_mem (ms : Members) : ∀ p ∈ ms, depth p.2 ≤ depth.depthM ms := by
  induction ms with
  | nil => intro x hx; cases hx
  | cons y ys ih =>
    intro x hx
    obtain ⟨k, v⟩ := y
    simp only [depth.depthM]
    rcases List.mem_cons.mp hx with e | hx'
    · subst e; simp only []; omega
    · have := ih x hx'; omega

/-- only two arrays or two objects look at the fuel -/
theorem compareF_stable (f1 : Nat) : ∀ f2 a b, depth a + depth b + 1 ≤ f1 → depth a + depth b + 1 ≤ f2 →
    compareF f1 a b = compareF f2 a b := by
  induction f1 with
  | zero => intro f2 a b h; omega
  | succ n ih =>
    intro f2 a b
    cases f2 with
    | zero => intro _ h; omega
    | succ m =>
      by_cases hk : kind a = kind b
      · refine kind_eq_cases (P := fun a b => depth a + depth b + 1 ≤ n + 1 → depth a + depth b + 1 ≤ m + 1 →
          compareF (n+1) a b = compareF (m+1) a b) ?_ ?_ ?_ ?_ ?_ ?_ a b hk
        · intro la lb h1 h2
          simp only [depth] at h1 h2
          rw [compareF_arr, compareF_arr, arrEqG_congr (compareF n) (compareF m) la lb (fun x hx y hy => by
            have := depthL_mem la x hx; have := depthL_mem lb y hy
            exact ih m x y (by omega) (by omega))]
        · intro ma mb h1 h2
          simp only [depth] at h1 h2
          rw [compareF_obj, compareF_obj, objEqG_congr (compareF n) (compareF m) mb.length mb ma (fun x hx y hy => by
            have := depthM_mem mb x hx; have := depthM_mem ma y hy
            exact ih m x.2 y.2 (by omega) (by omega))]
        · intro sa sb _ _; rw [compareF_str, compareF_str]
        · intro ra rb _ _; rw [compareF_raw, compareF_raw]
        · intro _ _; rw [compareF_null, compareF_null]
        · intro a b x y hx hy _ _; rw [compareF_num n hx hy, compareF_num m hx hy]
      · intro _ _; rw [compareF_differ n hk, compareF_differ m hk]

theorem compareF_eq_compare (f : Nat) (a b : Val) (h : depth a + depth b + 1 ≤ f) : compareF f a b = compare a b :=
  compareF_stable f _ a b h (by omega)

/-! ## NaN -/
theorem lt_nan_left (f : Fmt) (a c : Nat) (h : isNaN f a = true) : SF.lt f a c = false := by
  unfold isNaN at h; unfold SF.lt
  have : decode f a = .nan := by simpa using h
  rw [this]
theorem lt_nan_right (f : Fmt) (a c : Nat) (h : isNaN f c = true) : SF.lt f a c = false := by
  unfold isNaN at h; unfold SF.lt
  have : decode f c = .nan := by simpa using h
  rw [this]; cases decode f a <;> rfl

theorem dcmp_nan (a c : Nat) (h : isNaN b64 a = true ∨ isNaN b64 c = true) : dcmp a c = .differ := by
  unfold dcmp SF.gt
  rcases h with h | h
  · rw [lt_nan_left _ a c h, lt_nan_right _ c a h, h]; rfl
  · rw [lt_nan_right _ a c h, lt_nan_left _ c a h, h, Bool.or_true]; rfl

theorem dcmp_equal_not_nan (a c : Nat) (h : dcmp a c = .equal) : isNaN b64 a = false ∧ isNaN b64 c = false := by
  unfold dcmp at h
  split at h; · cases h
  split at h; · cases h
  split at h; · cases h
  rename_i hn; simpa using hn

/-! ## compare on strings, raw, null -/
theorem compare_eq_succ (a b : Val) : compare a b = compareF ((depth a + depth b + 1) + 1) a b := rfl

theorem compare_str (a b : List Byte) : compare (.str a) (.str b) =
    if stringCompare a b < 0 then .less else if stringCompare a b > 0 then .greater else .equal :=
  compareF_str _ a b

theorem compare_raw (a b : List Byte) : compare (.raw a) (.raw b) =
    if rawCompare a b < 0 then .less else if rawCompare a b > 0 then .greater else .equal :=
  compareF_raw _ a b

theorem compare_null (b : Val) : compare .null b = .equal ↔ b = .null := by
  rw [compare_eq_succ]
  by_cases h : b = .null
  · subst h; rw [compareF_null]; exact iff_of_true rfl rfl
  · rw [compareF_differ _ (fun e => h (kind_eq_zero.mp e.symm))]; exact iff_of_false (by decide) h

theorem compare_null_right (a : Val) : compare a .null = .equal ↔ a = .null := by
  rw [compare_eq_succ]
  by_cases h : a = .null
  · subst h; rw [compareF_null]; exact iff_of_true rfl rfl
  · rw [compareF_differ _ (fun e => h (kind_eq_zero.mp e))]; exact iff_of_false (by decide) h

theorem compare_arr (xs ys : List Val) : compare (.arr xs) (.arr ys) = .equal ↔
    xs.length = ys.length ∧ ∀ i (h1 : i < xs.length) (h2 : i < ys.length), compare xs[i] ys[i] = .equal := by
  rw [compare_eq_succ, compareF_arr]
  rw [arrEqG_congr _ compare xs ys (fun x hx y hy => by
    have := depthL_mem xs x hx; have := depthL_mem ys y hy
    have h1 : depth (.arr xs) = 1 + depth.depthL xs := by simp only [depth]
    have h2 : depth (.arr ys) = 1 + depth.depthL ys := by simp only [depth]
    exact compareF_eq_compare _ x y (by omega))]
  rw [← arrEqG_iff]
  split <;> simp [*]

theorem compare_arr_cases (xs ys : List Val) : compare (.arr xs) (.arr ys) = .equal ∨ compare (.arr xs) (.arr ys) = .differ := by
  rw [compare_eq_succ, compareF_arr]; split <;> simp

theorem compare_obj (ma mb : Members) : compare (.obj ma) (.obj mb) = .equal ↔
    mb.length = ma.length ∧ ∀ p ∈ mb, ∃ rv, lookup ma p.1 = some rv ∧ compare p.2 rv = .equal := by
  rw [compare_eq_succ, compareF_obj]
  rw [objEqG_congr _ compare mb.length mb ma (fun x hx y hy => by
    have := depthM_mem mb x hx; have := depthM_mem ma y hy
    have h1 : depth (.obj ma) = 1 + depth.depthM ma := by simp only [depth]
    have h2 : depth (.obj mb) = 1 + depth.depthM mb := by simp only [depth]
    exact compareF_eq_compare _ x.2 y.2 (by omega))]
  rw [← objEqG_iff]
  split <;> simp [*]

theorem compare_obj_cases (ma mb : Members) : compare (.obj ma) (.obj mb) = .equal ∨ compare (.obj ma) (.obj mb) = .differ := by
  rw [compare_eq_succ, compareF_obj]; split <;> simp

/-! ## numbers at the level of values -/
theorem compare_num (a b : Val) (x y : NumV) (ha : numOf a = some x) (hb : numOf b = some y) :
    compare a b = arith x y := compareF_num _ ha hb

/-! ## objects: the order of the members is irrelevant -/
theorem lookup_none_iff (ms : Members) (k : List Byte) : lookup ms k = none ↔ k ∉ keys ms := by
  induction ms with
  | nil => simp [lookup_nil, keys]
  | cons p ps ih =>
    rw [lookup_cons]
    by_cases h : p.1 = k
    · simp [h, keys]
    · have h' : ¬ k = p.1 := fun e => h e.symm
      simp only [h, if_false, ih, keys, List.map_cons, List.mem_cons, h', false_or]

/-- two answers that are each `equal` or `differ` agree as soon as they are `equal` together -/
theorem CR.eq_of_equal_iff {r s : CR} (hr : r = .equal ∨ r = .differ) (hs : s = .equal ∨ s = .differ)
    (h : r = .equal ↔ s = .equal) : r = s := by
  rcases hr with h1 | h1
  · rw [h1, h.mp h1]
  · rcases hs with h2 | h2
    · rw [h.mpr h2] at h1; cases h1
    · rw [h1, h2]

theorem lookup_perm (ma ma' : Members) (hp : ma.Perm ma') (hn : (keys ma).Nodup) (k : List Byte) :
    lookup ma k = lookup ma' k := by
  have hn' : (keys ma').Nodup := (List.Perm.nodup_iff (List.Perm.map _ hp)).mp hn
  cases h : lookup ma k with
  | none =>
    symm; rw [lookup_none_iff] at h ⊢
    intro c; exact h ((List.Perm.mem_iff (List.Perm.map _ hp)).mpr c)
  | some v =>
    exact (lookup_of_mem_nodup ma' k v hn' ((List.Perm.mem_iff hp).mp (lookup_some_mem ma k v h))).symm

theorem compare_obj_perm_left (ma ma' mb : Members) (hp : ma.Perm ma') (hn : (keys ma).Nodup) :
    compare (.obj ma) (.obj mb) = compare (.obj ma') (.obj mb) := by
  have hiff : compare (.obj ma) (.obj mb) = .equal ↔ compare (.obj ma') (.obj mb) = .equal := by
    rw [compare_obj, compare_obj, hp.length_eq]
    simp only [lookup_perm ma ma' hp hn]
  exact CR.eq_of_equal_iff (compare_obj_cases ma mb) (compare_obj_cases ma' mb) hiff

theorem compare_obj_perm_right (ma mb mb' : Members) (hp : mb.Perm mb') :
    compare (.obj ma) (.obj mb) = compare (.obj ma) (.obj mb') := by
  have hiff : compare (.obj ma) (.obj mb) = .equal ↔ compare (.obj ma) (.obj mb') = .equal := by
    rw [compare_obj, compare_obj, hp.length_eq]
    simp only [List.Perm.mem_iff hp]
  exact CR.eq_of_equal_iff (compare_obj_cases ma mb) (compare_obj_cases ma mb') hiff

end Cmp
