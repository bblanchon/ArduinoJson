/- Grammar facts for the completion of `IncompleteInput` texts: a text of the dialect contains no NUL, a string body is
   at least as long as what it denotes, `0` is a number token under every configuration. -/
import AJ.Lemmas.ClassExt
import AJ.Lemmas.DialectComplete
set_option linter.unusedSimpArgs false
set_option linter.unusedVariables false
namespace JD
open Spec.Dialect

theorem utf8_length_le (cp : Nat) : (Spec.utf8 cp).length ≤ 4 := by
  unfold Spec.utf8
  split
  · simp
  · split
    · simp
    · split <;> simp

theorem uEsc_length_le (hi cu : Nat) : (uEsc hi cu).2.length ≤ 4 := by
  unfold uEsc
  split
  · exact Nat.zero_le _
  · split <;> exact utf8_length_le _

theorem hexVal_nz {c : Byte} {x : Nat} (h : Spec.hexVal c = some x) : c ≠ 0 := by
  intro h0; subst h0
  have : Spec.hexVal 0 = none := by decide
  rw [this] at h; cases h

theorem hex4_nz {a b c d : Byte} {cu : Nat} (h : hex4 a b c d = some cu) : a ≠ 0 ∧ b ≠ 0 ∧ c ≠ 0 ∧ d ≠ 0 := by
  unfold hex4 at h
  cases ha : Spec.hexVal a with
  | none => simp [ha] at h
  | some x1 =>
    cases hb : Spec.hexVal b with
    | none => simp [ha, hb] at h
    | some x2 =>
      cases hc : Spec.hexVal c with
      | none => simp [ha, hb, hc] at h
      | some x3 =>
        cases hd : Spec.hexVal d with
        | none => simp [ha, hb, hc, hd] at h
        | some x4 => exact ⟨hexVal_nz ha, hexVal_nz hb, hexVal_nz hc, hexVal_nz hd⟩

/-- a well-formed string body contains no NUL and is at least as long as the bytes it denotes -/
theorem decodeBody_facts (cfg : Cfg) (stop : Byte) : ∀ (n : Nat) (body : List Byte), body.length ≤ n →
    ∀ (hi : Nat) (y : List Byte), decodeBody cfg stop hi body = some y → y.length ≤ body.length ∧ ∀ c ∈ body, c ≠ 0 := by
  intro n
  induction n with
  | zero =>
    intro body hl hi y h
    have : body = [] := List.eq_nil_of_length_eq_zero (by omega)
    subst this
    rw [decodeBody_nil] at h
    injection h with h; subst h
    exact ⟨by simp, fun c hc => by cases hc⟩
  | succ n ih =>
    intro body hl hi y h
    cases body with
    | nil =>
      rw [decodeBody_nil] at h
      injection h with h; subst h
      exact ⟨by simp, fun c hc => by cases hc⟩
    | cons c t =>
      simp only [List.length_cons] at hl
      obtain ⟨_, c0, hcase⟩ := decodeBody_cons_cases h
      rcases hcase with ⟨_, y', hd, rfl⟩ | ⟨rfl, l, t', x, y', rfl, _, hx, hd, rfl⟩ | ⟨rfl, _, t', y', rfl, hd, rfl⟩ |
        ⟨rfl, _, a, b, c', d, t', cu, y', rfl, hx, hd, rfl⟩
      · obtain ⟨i1, i2⟩ := ih t (by omega) hi y' hd
        exact ⟨Nat.succ_le_succ i1, List.forall_mem_cons.mpr ⟨c0, i2⟩⟩
      · simp only [List.length_cons] at hl
        obtain ⟨i1, i2⟩ := ih t' (by omega) hi y' hd
        exact ⟨by simp only [List.length_cons]; omega,
          List.forall_mem_cons.mpr ⟨c0, List.forall_mem_cons.mpr ⟨(escapes_lookup_some hx).2.2, i2⟩⟩⟩
      · simp only [List.length_cons] at hl
        obtain ⟨i1, i2⟩ := ih t' (by omega) hi y' hd
        exact ⟨by simp only [List.length_cons]; omega,
          List.forall_mem_cons.mpr ⟨c0, List.forall_mem_cons.mpr ⟨by decide, i2⟩⟩⟩
      · simp only [List.length_cons] at hl
        obtain ⟨n1, n2, n3, n4⟩ := hex4_nz hx
        obtain ⟨i1, i2⟩ := ih t' (by omega) _ y' hd
        have := uEsc_length_le hi cu
        refine ⟨by simp only [List.length_append, List.length_cons]; omega, ?_⟩
        intro e he
        simp only [List.mem_cons] at he
        rcases he with rfl | rfl | rfl | rfl | rfl | rfl | he
        · exact c0
        · decide
        · exact n1
        · exact n2
        · exact n3
        · exact n4
        · exact i2 e he

theorem decodeBody_length {cfg : Cfg} {stop : Byte} {hi : Nat} {body y : List Byte}
    (h : decodeBody cfg stop hi body = some y) : y.length ≤ body.length :=
  (decodeBody_facts cfg stop body.length body (Nat.le_refl _) hi y h).1

theorem decodeBody_nz {cfg : Cfg} {stop : Byte} {hi : Nat} {body y : List Byte}
    (h : decodeBody cfg stop hi body = some y) : ∀ c ∈ body, c ≠ 0 :=
  (decodeBody_facts cfg stop body.length body (Nat.le_refl _) hi y h).2

theorem key_nz {cfg : Cfg} {kt k : List Byte} (h : Key cfg kt k) : ∀ c ∈ kt, c ≠ 0 := by
  cases h with
  | quoted q body k hq hb _ =>
    intro c hc
    simp only [List.cons_append, List.mem_cons, List.mem_append, List.not_mem_nil, or_false] at hc
    rcases hc with rfl | hc | rfl
    · exact (isQuote_facts hq).1
    · exact decodeBody_nz hb c hc
    · exact (isQuote_facts hq).1
  | bare k _ hk =>
    intro c hc h0
    have := hk c hc
    rw [h0, inUnquoted_zero] at this
    cases this

theorem mem3 {c a b : Byte} {m : List Byte} (hc : c ∈ a :: m ++ [b]) : c = a ∨ c ∈ m ∨ c = b := by
  simp only [List.cons_append, List.mem_cons, List.mem_append, List.not_mem_nil, or_false] at hc
  exact hc

/-- a text of the dialect contains no NUL -/
theorem dialect_nz (cfg : Cfg) :
    (∀ L t v, Value cfg L t v → ∀ c ∈ t, c ≠ 0) ∧ (∀ L body xs, Elements cfg L body xs → ∀ c ∈ body, c ≠ 0) ∧
    (∀ L body ms, Members cfg L body ms → ∀ c ∈ body, c ≠ 0) := by
  have key : ∀ L t v (h : Value cfg L t v), ∀ c ∈ t, c ≠ 0 := by
    intro L t v h
    refine Value.rec (cfg := cfg)
      (motive_1 := fun L t v _ => ∀ c ∈ t, c ≠ 0)
      (motive_2 := fun L body xs _ => ∀ c ∈ body, c ≠ 0)
      (motive_3 := fun L body ms _ => ∀ c ∈ body, c ≠ 0)
      ?_ ?_ ?_ ?_ ?_ ?_ ?_ ?_ ?_ ?_ ?_ ?_ ?_ h
    · intro _ c hc; simp at hc; rcases hc with rfl | rfl | rfl | rfl <;> decide
    · intro _ c hc; simp at hc; rcases hc with rfl | rfl | rfl | rfl <;> decide
    · intro _ c hc; simp at hc; rcases hc with rfl | rfl | rfl | rfl | rfl <;> decide
    · intro _ lit v hn c hc h0
      have := hn.2.1 c hc
      rw [h0, inNumber_zero] at this
      cases this
    · intro _ q body s hq hb _ c hc
      rcases mem3 hc with rfl | hc | rfl
      · exact (isQuote_facts hq).1
      · exact decodeBody_nz hb c hc
      · exact (isQuote_facts hq).1
    · intro _ w hw c hc
      rcases mem3 hc with rfl | hc | rfl
      · decide
      · exact dws_no_nul hw c hc
      · decide
    · intro _ body xs _ ih c hc
      rcases mem3 hc with rfl | hc | rfl
      · decide
      · exact ih c hc
      · decide
    · intro _ w hw c hc
      rcases mem3 hc with rfl | hc | rfl
      · decide
      · exact dws_no_nul hw c hc
      · decide
    · intro _ body ms _ ih c hc
      rcases mem3 hc with rfl | hc | rfl
      · decide
      · exact ih c hc
      · decide
    · intro _ w1 t v w2 h1 _ h2 ihv c hc
      simp only [List.mem_append] at hc
      rcases hc with (hc | hc) | hc
      · exact dws_no_nul h1 c hc
      · exact ihv c hc
      · exact dws_no_nul h2 c hc
    · intro _ w1 t v w2 rest vs h1 _ h2 _ ihv ihr c hc
      simp only [List.mem_append, List.mem_cons] at hc
      rcases hc with ((hc | hc) | hc) | rfl | hc
      · exact dws_no_nul h1 c hc
      · exact ihv c hc
      · exact dws_no_nul h2 c hc
      · decide
      · exact ihr c hc
    · intro _ w1 kt k w2 w3 t v w4 h1 hk h2 h3 _ h4 ihv c hc
      simp only [List.mem_append, List.mem_cons] at hc
      rcases hc with ((((hc | hc) | hc) | rfl | hc) | hc) | hc
      · exact dws_no_nul h1 c hc
      · exact key_nz hk c hc
      · exact dws_no_nul h2 c hc
      · decide
      · exact dws_no_nul h3 c hc
      · exact ihv c hc
      · exact dws_no_nul h4 c hc
    · intro _ w1 kt k w2 w3 t v w4 rest ms' h1 hk h2 h3 _ h4 _ ihv ihr c hc
      simp only [List.mem_append, List.mem_cons] at hc
      rcases hc with (((((hc | hc) | hc) | rfl | hc) | hc) | hc) | rfl | hc
      · exact dws_no_nul h1 c hc
      · exact key_nz hk c hc
      · exact dws_no_nul h2 c hc
      · decide
      · exact dws_no_nul h3 c hc
      · exact ihv c hc
      · exact dws_no_nul h4 c hc
      · decide
      · exact ihr c hc
  refine ⟨key, ?_, ?_⟩
  · intro L body xs h c hc
    have := key (L + 1) _ _ (Value.arr L body xs h) c (by simp [hc])
    exact this
  · intro L body ms h c hc
    have := key (L + 1) _ _ (Value.obj L body ms h) c (by simp [hc])
    exact this

theorem value_nz {cfg : Cfg} {L : Nat} {t : List Byte} {v : Val} (h : Value cfg L t v) : ∀ c ∈ t, c ≠ 0 :=
  (dialect_nz cfg).1 L t v h

/-- `0` is a number token under every configuration -/
theorem numTok_zero (cfg : Cfg) : NumTok cfg [0x30] (.num (.uint 0)) := by
  refine ⟨by simp, ?_, by simp, ?_⟩
  · intro c hc
    simp only [List.mem_singleton] at hc
    subst hc
    unfold inNumber
    rfl
  · have hp : parseNumber cfg [0x30] = .uint (Digits.decVal [0x30]) :=
      Digits.parse_unsigned cfg [0x30] (by intro c hc; simp at hc; subst hc; decide) (by simp) (by decide)
    have hd : Digits.decVal [0x30] = 0 := by decide
    rw [hd] at hp
    simp only [numDen, hp]

end JD
