/- C20, frames and footprints over the WORLD of the history interpreter (AJ/Model/DH.lean: an array of documents, an array
   of references into them, a world log).

   A step is any `DH.W → O × DH.W`. A FOOTPRINT `FP` names the documents a step may write, the documents it reads, the
   references it reads and the references it may rebind; the first two may depend on the world (a reference-addressed
   operation writes the document its reference is bound to). `Local f p` says that `p` really is a footprint of `f`:
   * frame: documents outside `p.wr`, references outside `p.bind`, the world log, the ghost `dead`, the geometry are
     LITERALLY unchanged;
   * locality: the output, the new contents of the written documents and of the rebound references, and the footprint
     itself are functions of the documents in `p.rd` and the references in `p.use` alone.
   From these two facts alone: steps with disjoint footprints commute (`Local.commute`), and every interleaving of two
   histories confined to disjoint regions (with a shared read-only region) is equivalent to running them one after the
   other (`inter_aux`, `inter_eq`, `inter_seq`).
   The rules by which the steps of the interpreter are shown `Local` are in AJ/Lemmas/HistFrameRules.lean, the commands
   of the interpreter in AJ/Lemmas/HistFrameCmd.lean … HistFrameCmd5.lean, the theorems in AJ/Props/C20Hist.lean. -/
import AJ.Model.DH
namespace C20
open DL
open DH (W Ref)

/-! ## 0. Arrays -/

theorem getElem!_eq_getD? {α : Type} [Inhabited α] (a : Array α) (i : Nat) : a[i]! = (a[i]?).getD default := by
  rw [getElem!_def]; cases a[i]? <;> rfl

theorem getElem?_set! {α : Type} (a : Array α) (i j : Nat) (x : α) :
    (a.set! i x)[j]? = if i = j then (a[j]?).map (fun _ => x) else a[j]? := by
  rw [Array.set!_eq_setIfInBounds, Array.getElem?_setIfInBounds]
  by_cases h : i = j
  · subst h
    rw [if_pos rfl, if_pos rfl]
    by_cases hi : i < a.size
    · rw [if_pos hi, Array.getElem?_eq_getElem hi]; rfl
    · rw [if_neg hi, Array.getElem?_eq_none (Nat.le_of_not_lt hi)]; rfl
  · rw [if_neg h, if_neg h]

theorem getElem?_set!_ne {α : Type} (a : Array α) {i j : Nat} (x : α) (h : i ≠ j) : (a.set! i x)[j]? = a[j]? := by
  rw [getElem?_set!, if_neg h]

theorem getElem?_set!_self {α : Type} (a : Array α) (i : Nat) (x : α) : (a.set! i x)[i]? = (a[i]?).map (fun _ => x) := by
  rw [getElem?_set!, if_pos rfl]

/-- the parts of the world no command with a footprint touches: world log, ghost table, geometry, string parameters -/
def SameRest (a b : W) : Prop :=
  a.log = b.log ∧ a.dead = b.dead ∧ a.geo = b.geo ∧ a.strOverhead = b.strOverhead ∧ a.maxStrLen = b.maxStrLen

theorem SameRest.refl (a : W) : SameRest a a := ⟨rfl, rfl, rfl, rfl, rfl⟩
theorem SameRest.symm {a b : W} (h : SameRest a b) : SameRest b a :=
  ⟨h.1.symm, h.2.1.symm, h.2.2.1.symm, h.2.2.2.1.symm, h.2.2.2.2.symm⟩
theorem SameRest.trans {a b c : W} (h : SameRest a b) (h' : SameRest b c) : SameRest a c :=
  ⟨h.1.trans h'.1, h.2.1.trans h'.2.1, h.2.2.1.trans h'.2.2.1, h.2.2.2.1.trans h'.2.2.2.1, h.2.2.2.2.trans h'.2.2.2.2⟩

/-- two worlds with the same documents and references at every index, and the same log, ghost table, geometry -/
theorem world_ext {a b : W} (h1 : ∀ j : Nat, a.docs[j]? = b.docs[j]?) (h2 : ∀ r : Nat, a.refs[r]? = b.refs[r]?)
    (h : SameRest a b) : a = b := by
  obtain ⟨ad, ar, al, ae, ag, as, am⟩ := a
  obtain ⟨bd, br, bl, be, bg, bs, bm⟩ := b
  have e1 : ad = bd := Array.ext_getElem? h1
  have e2 : ar = br := Array.ext_getElem? h2
  obtain ⟨h3, h4, h5, h6, h7⟩ := h
  simp only at h3 h4 h5 h6 h7
  subst e1 e2 h3 h4 h5 h6 h7
  rfl

/-! ## 1. Steps, footprints -/

/-- a step of the world: an output and a new world -/
abbrev Step (O : Type) := W → O × W

/-- footprint of a step: documents possibly written / read (may depend on the world: on the binding of the references
    the step goes through), references read / possibly rebound -/
structure FP where
  wr : W → Nat → Prop
  rd : W → Nat → Prop
  use : Nat → Prop
  bind : Nat → Prop

/-- a footprint that does not depend on the world -/
def FP.static (D R U B : Nat → Prop) : FP := ⟨fun _ => D, fun _ => R, U, B⟩

/-- `w'` agrees with `w` on everything the footprint (evaluated at `w`) reads -/
def FP.Agree (p : FP) (w w' : W) : Prop :=
  (∀ j, p.rd w j → w.docs[j]? = w'.docs[j]?) ∧ (∀ r, p.use r → w.refs[r]? = w'.refs[r]?)

/-- **`p` is a footprint of `f`.** -/
structure Local {O : Type} (f : Step O) (p : FP) : Prop where
  /-- a document outside the write set is literally unchanged -/
  frame_docs : ∀ w j, ¬ p.wr w j → (f w).2.docs[j]? = w.docs[j]?
  /-- a reference that is not rebound is literally unchanged -/
  frame_refs : ∀ w r, ¬ p.bind r → (f w).2.refs[r]? = w.refs[r]?
  /-- nothing else in the world changes: no log entry, no ghost state, no geometry -/
  frame_rest : ∀ w, (f w).2.log = w.log ∧ (f w).2.dead = w.dead ∧ (f w).2.geo = w.geo ∧
    (f w).2.strOverhead = w.strOverhead ∧ (f w).2.maxStrLen = w.maxStrLen
  /-- what is written is read -/
  wr_rd : ∀ w j, p.wr w j → p.rd w j
  /-- a reference that is rebound counts as used -/
  bind_use : ∀ r, p.bind r → p.use r
  /-- the output, the written documents, the rebound references and the footprint itself depend only on what is read -/
  loc : ∀ w w', p.Agree w w' →
    (f w).1 = (f w').1 ∧ (∀ j, p.wr w j → (f w).2.docs[j]? = (f w').2.docs[j]?) ∧
    (∀ r, p.bind r → (f w).2.refs[r]? = (f w').2.refs[r]?) ∧
    (∀ j, p.wr w j ↔ p.wr w' j) ∧ (∀ j, p.rd w j ↔ p.rd w' j)

/-- footprints disjoint at `w`: neither writes what the other reads (or writes), neither rebinds what the other uses
    (or rebinds) -/
structure FP.Disjoint (p q : FP) (w : W) : Prop where
  wr_rd : ∀ j, p.wr w j → ¬ q.rd w j
  rd_wr : ∀ j, q.wr w j → ¬ p.rd w j
  bind_use : ∀ r, p.bind r → ¬ q.use r
  use_bind : ∀ r, q.bind r → ¬ p.use r

theorem FP.Disjoint.symm {p q : FP} {w : W} (h : p.Disjoint q w) : q.Disjoint p w :=
  ⟨h.rd_wr, h.wr_rd, h.use_bind, h.bind_use⟩

theorem Local.rest {O : Type} {f : Step O} {p : FP} (hf : Local f p) (w : W) : SameRest (f w).2 w := hf.frame_rest w

/-- after a step with a disjoint footprint the world still agrees on everything `q` reads -/
theorem Local.agree_after {O : Type} {f : Step O} {p q : FP} (hf : Local f p) {w : W} (hd : p.Disjoint q w) :
    q.Agree w (f w).2 :=
  ⟨fun j hj => (hf.frame_docs w j (fun h => hd.wr_rd j h hj)).symm,
   fun r hr => (hf.frame_refs w r (fun h => hd.bind_use r h hr)).symm⟩

/-- **Two steps with disjoint footprints commute**: same final world, and each gives the output it gives alone. -/
theorem Local.commute {O O' : Type} {f : Step O} {g : Step O'} {p q : FP} (hf : Local f p) (hg : Local g q) (w : W)
    (hd : p.Disjoint q w) :
    (g (f w).2).2 = (f (g w).2).2 ∧ (g (f w).2).1 = (g w).1 ∧ (f (g w).2).1 = (f w).1 := by
  obtain ⟨go, gd, gr, gw, _⟩ := hg.loc w (f w).2 (hf.agree_after hd)
  obtain ⟨fo, fd, fr, fw, _⟩ := hf.loc w (g w).2 (hg.agree_after hd.symm)
  have pq : ∀ j, p.wr w j → ¬ q.wr w j := fun j h h' => hd.wr_rd j h (hg.wr_rd w j h')
  refine ⟨world_ext (fun j => ?_) (fun r => ?_)
    (((hg.rest _).trans (hf.rest w)).trans ((hf.rest _).trans (hg.rest w)).symm), go.symm, fo.symm⟩
  · by_cases h1 : q.wr w j
    · rw [← gd j h1, hf.frame_docs (g w).2 j (fun h => pq j ((fw j).2 h) h1)]
    · rw [hg.frame_docs (f w).2 j (fun h => h1 ((gw j).2 h))]
      by_cases h2 : p.wr w j
      · rw [← fd j h2]
      · rw [hf.frame_docs w j h2, hf.frame_docs (g w).2 j (fun h => h2 ((fw j).2 h)), hg.frame_docs w j h1]
  · by_cases h1 : q.bind r
    · rw [← gr r h1, hf.frame_refs (g w).2 r (fun h => hd.use_bind r h1 (hf.bind_use r h))]
    · rw [hg.frame_refs (f w).2 r h1]
      by_cases h2 : p.bind r
      · rw [← fr r h2]
      · rw [hf.frame_refs w r h2, hf.frame_refs (g w).2 r h2, hg.frame_refs w r h1]

/-! ## 2. Histories, regions, interleavings -/

/-- a step packaged with a footprint -/
structure LStep (O : Type) where
  f : Step O
  p : FP
  ok : Local f p

/-- sequential run of a history: final world, outputs in order -/
def runHist {O : Type} : List (LStep O) → W → W × List O
  | [], w => (w, [])
  | s :: rest, w => ((runHist rest (s.f w).2).1, (s.f w).1 :: (runHist rest (s.f w).2).2)

/-- run of a schedule: each step carries the name (`true` / `false`) of the history it belongs to -/
def runInter {O : Type} : List (Bool × LStep O) → W → W × List (Bool × O)
  | [], w => (w, [])
  | (b, s) :: rest, w => ((runInter rest (s.f w).2).1, (b, (s.f w).1) :: (runInter rest (s.f w).2).2)

/-- the part of a schedule (or of its outputs) that belongs to history `b`, in order -/
def sideOf {α : Type} (b : Bool) (l : List (Bool × α)) : List α := (l.filter (fun x => x.1 == b)).map (·.2)

theorem sideOf_nil {α : Type} (b : Bool) : sideOf b ([] : List (Bool × α)) = [] := rfl
theorem sideOf_cons_self {α : Type} (b : Bool) (x : α) (l : List (Bool × α)) :
    sideOf b ((b, x) :: l) = x :: sideOf b l := by
  simp only [sideOf, List.filter_cons, beq_self_eq_true, ↓reduceIte, List.map_cons]
theorem sideOf_cons_other {α : Type} (b : Bool) (x : α) (l : List (Bool × α)) :
    sideOf (!b) ((b, x) :: l) = sideOf (!b) l := by
  cases b <;> rfl

/-- a region of the world: a set of documents and a set of references -/
structure Region where
  docs : Nat → Prop
  refs : Nat → Prop

/-- regions without a common document or reference -/
def Region.Disj (A B : Region) : Prop := (∀ j, A.docs j → ¬ B.docs j) ∧ (∀ r, A.refs r → ¬ B.refs r)

/-- at world `w` the footprint stays inside region `A`, except that it may READ the documents and references of `S` -/
structure FP.Within (p : FP) (A S : Region) (w : W) : Prop where
  wr : ∀ j, p.wr w j → A.docs j
  rd : ∀ j, p.rd w j → A.docs j ∨ S.docs j
  use : ∀ r, p.use r → A.refs r ∨ S.refs r
  bind : ∀ r, p.bind r → A.refs r

/-- the history, run ALONE from `w`, stays inside `A` (reading `S`) at every step -/
def Confined {O : Type} (A S : Region) : List (LStep O) → W → Prop
  | [], _ => True
  | s :: rest, w => s.p.Within A S w ∧ Confined A S rest (s.f w).2

/-- the two worlds have the same documents and references in `A` and in `S` -/
def AgreeOn (A S : Region) (w w' : W) : Prop :=
  (∀ j, A.docs j ∨ S.docs j → w.docs[j]? = w'.docs[j]?) ∧ (∀ r, A.refs r ∨ S.refs r → w.refs[r]? = w'.refs[r]?)

theorem AgreeOn.refl (A S : Region) (w : W) : AgreeOn A S w w := ⟨fun _ _ => rfl, fun _ _ => rfl⟩

/-- one step of history `A` inside a world that agrees with `A`'s solo world on `A ∪ S`: same output, the worlds still
    agree on `A ∪ S`, and nothing outside `A` has changed -/
theorem step_own {O : Type} {A S : Region} (s : LStep O) {w wa : W} (ha : AgreeOn A S w wa)
    (hin : s.p.Within A S wa) :
    (s.f w).1 = (s.f wa).1 ∧ AgreeOn A S (s.f w).2 (s.f wa).2 ∧
    (∀ j, ¬ A.docs j → (s.f w).2.docs[j]? = w.docs[j]?) ∧ (∀ r, ¬ A.refs r → (s.f w).2.refs[r]? = w.refs[r]?) := by
  have hag : s.p.Agree wa w :=
    ⟨fun j hj => (ha.1 j (hin.rd j hj)).symm, fun r hr => (ha.2 r (hin.use r hr)).symm⟩
  obtain ⟨o, dd, rr, ww, _⟩ := s.ok.loc wa w hag
  refine ⟨o.symm, ⟨fun j hj => ?_, fun r hr => ?_⟩, fun j hj => ?_, fun r hr => ?_⟩
  · by_cases h : s.p.wr wa j
    · exact (dd j h).symm
    · rw [s.ok.frame_docs wa j h, s.ok.frame_docs w j (fun h' => h ((ww j).2 h')), ha.1 j hj]
  · by_cases h : s.p.bind r
    · exact (rr r h).symm
    · rw [s.ok.frame_refs wa r h, s.ok.frame_refs w r h, ha.2 r hr]
  · exact s.ok.frame_docs w j (fun h => hj (hin.wr j ((ww j).2 h)))
  · exact s.ok.frame_refs w r (fun h => hr (hin.bind r h))

theorem Region.Disj.symm {A B : Region} (h : A.Disj B) : B.Disj A :=
  ⟨fun j hb ha => h.1 j ha hb, fun r hb ha => h.2 r ha hb⟩

/-- a step that changes nothing outside `A` keeps the agreement of a history confined to `B` (reading `S`) -/
theorem AgreeOn.of_frame {A B S : Region} (hAB : A.Disj B) (hAS : A.Disj S) {w w' wb : W} (hb : AgreeOn B S w wb)
    (fd : ∀ j, ¬ A.docs j → w'.docs[j]? = w.docs[j]?) (fr : ∀ r, ¬ A.refs r → w'.refs[r]? = w.refs[r]?) :
    AgreeOn B S w' wb :=
  ⟨fun j hj => (fd j (fun h => hj.elim (hAB.1 j h) (hAS.1 j h))).trans (hb.1 j hj),
   fun r hr => (fr r (fun h => hr.elim (hAB.2 r h) (hAS.2 r h))).trans (hb.2 r hr)⟩

/-- the worlds of the two histories and of the interleaving, step by step: the interleaved world agrees with each
    history's SOLO world on that history's region (and on the shared region), each history gets the outputs of its solo
    run, and nothing outside the two regions changes -/
theorem inter_aux {O : Type} {A B S : Region} (hAB : A.Disj B) (hAS : A.Disj S) (hBS : B.Disj S) :
    ∀ (sched : List (Bool × LStep O)) (w wa wb : W), AgreeOn A S w wa → AgreeOn B S w wb →
      Confined A S (sideOf true sched) wa → Confined B S (sideOf false sched) wb →
      AgreeOn A S (runInter sched w).1 (runHist (sideOf true sched) wa).1 ∧
      AgreeOn B S (runInter sched w).1 (runHist (sideOf false sched) wb).1 ∧
      sideOf true (runInter sched w).2 = (runHist (sideOf true sched) wa).2 ∧
      sideOf false (runInter sched w).2 = (runHist (sideOf false sched) wb).2 ∧
      (∀ j, ¬ A.docs j → ¬ B.docs j → (runInter sched w).1.docs[j]? = w.docs[j]?) ∧
      (∀ r, ¬ A.refs r → ¬ B.refs r → (runInter sched w).1.refs[r]? = w.refs[r]?) ∧
      SameRest (runInter sched w).1 w := by
  intro sched
  induction sched with
  | nil => intro w wa wb ha hb _ _; exact ⟨ha, hb, rfl, rfl, fun _ _ _ => rfl, fun _ _ _ => rfl, SameRest.refl w⟩
  | cons hd rest ih =>
    obtain ⟨b, s⟩ := hd
    intro w wa wb ha hb ca cb
    cases b with
    | true =>
      rw [sideOf_cons_self] at ca
      rw [show sideOf false ((true, s) :: rest) = sideOf false rest from rfl] at cb ⊢
      rw [sideOf_cons_self]
      obtain ⟨hin, ca'⟩ := ca
      obtain ⟨o, ha', fd, fr⟩ := step_own s ha hin
      obtain ⟨i1, i2, i3, i4, i5, i6, i7⟩ := ih (s.f w).2 (s.f wa).2 wb ha' (hb.of_frame hAB hAS fd fr) ca' cb
      refine ⟨i1, i2, ?_, i4, fun j h1 h2 => (i5 j h1 h2).trans (fd j h1), fun r h1 h2 => (i6 r h1 h2).trans (fr r h1),
        i7.trans (s.ok.rest w)⟩
      show sideOf true ((true, (s.f w).1) :: (runInter rest (s.f w).2).2) = (s.f wa).1 :: _
      rw [sideOf_cons_self, i3, o]
    | false =>
      rw [sideOf_cons_self] at cb
      rw [show sideOf true ((false, s) :: rest) = sideOf true rest from rfl] at ca ⊢
      rw [sideOf_cons_self]
      obtain ⟨hin, cb'⟩ := cb
      obtain ⟨o, hb', fd, fr⟩ := step_own s hb hin
      obtain ⟨i1, i2, i3, i4, i5, i6, i7⟩ := ih (s.f w).2 wa (s.f wb).2 (ha.of_frame hAB.symm hBS fd fr) hb' ca cb'
      refine ⟨i1, i2, i3, ?_, fun j h1 h2 => (i5 j h1 h2).trans (fd j h2), fun r h1 h2 => (i6 r h1 h2).trans (fr r h2),
        i7.trans (s.ok.rest w)⟩
      show sideOf false ((false, (s.f w).1) :: (runInter rest (s.f w).2).2) = (s.f wb).1 :: _
      rw [sideOf_cons_self, i4, o]

/-- two schedules of the same two histories end in the same world and give each history the same outputs -/
theorem inter_eq {O : Type} {A B S : Region} (hAB : A.Disj B) (hAS : A.Disj S) (hBS : B.Disj S)
    (s1 s2 : List (Bool × LStep O)) (w : W) (e1 : sideOf true s1 = sideOf true s2)
    (e2 : sideOf false s1 = sideOf false s2) (ca : Confined A S (sideOf true s1) w)
    (cb : Confined B S (sideOf false s1) w) :
    (runInter s1 w).1 = (runInter s2 w).1 ∧ sideOf true (runInter s1 w).2 = sideOf true (runInter s2 w).2 ∧
    sideOf false (runInter s1 w).2 = sideOf false (runInter s2 w).2 := by
  obtain ⟨a1, a2, a3, a4, a5, a6, a7⟩ :=
    inter_aux hAB hAS hBS s1 w w w (AgreeOn.refl _ _ _) (AgreeOn.refl _ _ _) ca cb
  obtain ⟨b1, b2, b3, b4, b5, b6, b7⟩ :=
    inter_aux hAB hAS hBS s2 w w w (AgreeOn.refl _ _ _) (AgreeOn.refl _ _ _) (e1 ▸ ca) (e2 ▸ cb)
  rw [← e1] at b1 b3
  rw [← e2] at b2 b4
  refine ⟨world_ext (fun j => ?_) (fun r => ?_) (a7.trans b7.symm), a3.trans b3.symm, a4.trans b4.symm⟩
  · by_cases h1 : A.docs j
    · exact (a1.1 j (Or.inl h1)).trans (b1.1 j (Or.inl h1)).symm
    · by_cases h2 : B.docs j
      · exact (a2.1 j (Or.inl h2)).trans (b2.1 j (Or.inl h2)).symm
      · exact (a5 j h1 h2).trans (b5 j h1 h2).symm
  · by_cases h1 : A.refs r
    · exact (a1.2 r (Or.inl h1)).trans (b1.2 r (Or.inl h1)).symm
    · by_cases h2 : B.refs r
      · exact (a2.2 r (Or.inl h2)).trans (b2.2 r (Or.inl h2)).symm
      · exact (a6 r h1 h2).trans (b6 r h1 h2).symm

/-! ## 3. "One after the other" is an interleaving -/

theorem sideOf_append {α : Type} (b : Bool) (l1 l2 : List (Bool × α)) : sideOf b (l1 ++ l2) = sideOf b l1 ++ sideOf b l2 := by
  simp only [sideOf, List.filter_append, List.map_append]

theorem sideOf_tag_same {α : Type} (b : Bool) : ∀ (h : List α), sideOf b (h.map (fun x => (b, x))) = h
  | [] => rfl
  | x :: h => by rw [List.map_cons, sideOf_cons_self, sideOf_tag_same b h]

theorem sideOf_tag_other {α : Type} (b : Bool) : ∀ (h : List α), sideOf (!b) (h.map (fun x => (b, x))) = []
  | [] => rfl
  | x :: h => by rw [List.map_cons, sideOf_cons_other, sideOf_tag_other b h]

theorem runInter_append {O : Type} : ∀ (s1 s2 : List (Bool × LStep O)) (w : W),
    (runInter (s1 ++ s2) w).1 = (runInter s2 (runInter s1 w).1).1 ∧
    (runInter (s1 ++ s2) w).2 = (runInter s1 w).2 ++ (runInter s2 (runInter s1 w).1).2
  | [], _, _ => ⟨rfl, rfl⟩
  | (b, s) :: s1, s2, w => by
    obtain ⟨a, c⟩ := runInter_append s1 s2 (s.f w).2
    exact ⟨a, congrArg (fun t => (b, (s.f w).1) :: t) c⟩

theorem runInter_tag {O : Type} (b : Bool) : ∀ (h : List (LStep O)) (w : W),
    (runInter (h.map (fun x => (b, x))) w).1 = (runHist h w).1 ∧
    (runInter (h.map (fun x => (b, x))) w).2 = (runHist h w).2.map (fun o => (b, o))
  | [], _ => ⟨rfl, rfl⟩
  | s :: h, w => by
    obtain ⟨a, c⟩ := runInter_tag b h (s.f w).2
    exact ⟨a, congrArg (fun t => (b, (s.f w).1) :: t) c⟩

/-- the schedule "all of `hA`, then all of `hB`" -/
def seqSched {α : Type} (hA hB : List α) : List (Bool × α) := hA.map (fun x => (true, x)) ++ hB.map (fun x => (false, x))

theorem sideOf_seqSched_true {α : Type} (hA hB : List α) : sideOf true (seqSched hA hB) = hA := by
  rw [seqSched, sideOf_append, sideOf_tag_same, show true = !false from rfl, sideOf_tag_other, List.append_nil]
theorem sideOf_seqSched_false {α : Type} (hA hB : List α) : sideOf false (seqSched hA hB) = hB := by
  rw [seqSched, sideOf_append, sideOf_tag_same, show false = !true from rfl, sideOf_tag_other, List.nil_append]

theorem runInter_seqSched {O : Type} (hA hB : List (LStep O)) (w : W) :
    (runInter (seqSched hA hB) w).1 = (runHist hB (runHist hA w).1).1 ∧
    sideOf true (runInter (seqSched hA hB) w).2 = (runHist hA w).2 ∧
    sideOf false (runInter (seqSched hA hB) w).2 = (runHist hB (runHist hA w).1).2 := by
  obtain ⟨a, c⟩ := runInter_append (hA.map (fun x => (true, x))) (hB.map (fun x => (false, x))) w
  obtain ⟨a1, c1⟩ := runInter_tag true hA w
  obtain ⟨a2, c2⟩ := runInter_tag false hB (runHist hA w).1
  rw [seqSched, a, c, a1, a2, c1, c2]
  refine ⟨rfl, ?_, ?_⟩
  · rw [sideOf_append, sideOf_tag_same, show true = !false from rfl, sideOf_tag_other, List.append_nil]
  · rw [sideOf_append, sideOf_tag_same, show false = !true from rfl, sideOf_tag_other, List.nil_append]

/-- **Every interleaving of two histories confined to disjoint regions (reading a shared region nobody writes) ends in the
    world reached by running one history after the other; each history gets the outputs of its SOLO run - which are also
    its outputs when it runs after the other one.** -/
theorem inter_seq {O : Type} {A B S : Region} (hAB : A.Disj B) (hAS : A.Disj S) (hBS : B.Disj S)
    (sched : List (Bool × LStep O)) (w : W) (ca : Confined A S (sideOf true sched) w)
    (cb : Confined B S (sideOf false sched) w) :
    (runInter sched w).1 = (runHist (sideOf false sched) (runHist (sideOf true sched) w).1).1 ∧
    sideOf true (runInter sched w).2 = (runHist (sideOf true sched) w).2 ∧
    sideOf false (runInter sched w).2 = (runHist (sideOf false sched) w).2 ∧
    (runHist (sideOf false sched) (runHist (sideOf true sched) w).1).2 = (runHist (sideOf false sched) w).2 := by
  obtain ⟨e1, e2, e3⟩ := inter_eq hAB hAS hBS sched (seqSched (sideOf true sched) (sideOf false sched)) w
    (sideOf_seqSched_true _ _).symm (sideOf_seqSched_false _ _).symm ca cb
  obtain ⟨s1, s2, s3⟩ := runInter_seqSched (sideOf true sched) (sideOf false sched) w
  obtain ⟨_, _, a3, a4, _⟩ := inter_aux hAB hAS hBS sched w w w (AgreeOn.refl _ _ _) (AgreeOn.refl _ _ _) ca cb
  exact ⟨e1.trans s1, a3, a4, by rw [← s3, ← e3, a4]⟩

end C20
