/- `found` is never reset: once `skipSpaces` has seen a token, every routine of the JSON parser model keeps
   `found = true`, and `EmptyInput` can no longer be the answer. -/
import AJ.Lemmas.LatchClosed
namespace JD

def Fd (s : St) : Prop := s.found = true

theorem fd_closed : LatchClosed Fd := ⟨fun h => h, fun h => h, fun _ => rfl⟩

/-! ## `EmptyInput` is only ever produced before the first token -/

theorem ne_skipBlock : ∀ fuel w s, (skipBlock fuel w s).1 ≠ .empty := by
  intro fuel
  induction fuel with
  | zero => intro w s; nofun
  | succ f ih =>
    intro w s
    simp only [skipBlock]
    split
    · nofun
    · split
      · nofun
      · exact ih _ _

theorem ne_skipLine : ∀ fuel s, (skipLine fuel s).1 ≠ .empty := by
  intro fuel
  induction fuel with
  | zero => intro s; nofun
  | succ f ih =>
    intro s
    simp only [skipLine]
    split
    · nofun
    · split
      · nofun
      · exact ih _

theorem ne_skipSpaces {cfg} : ∀ fuel s, Fd s → (skipSpaces cfg fuel s).1 ≠ .empty := by
  intro fuel
  induction fuel with
  | zero => intro s _; nofun
  | succ f ih =>
    intro s h
    simp only [skipSpaces]
    have h1 := fd_closed.cur h
    split
    · -- end of input: `incomplete`, because `found` is set
      have : (cur s).2.found = true := h1
      simp [this]
    · split
      · exact ih _ (fd_closed.mv h1)
      · split
        · have h2 := fd_closed.cur (fd_closed.mv h1)
          split
          · have h3 := kept_skipBlock fd_closed f false _ (fd_closed.mv h2)
            split
            · rename_i heq; rw [heq] at h3; exact ih _ h3
            · exact ne_skipBlock _ _ _
          · split
            · have h3 := kept_skipLine fd_closed f _ h2
              split
              · rename_i heq; rw [heq] at h3; exact ih _ h3
              · exact ne_skipLine _ _
            · nofun
        · nofun

theorem ne_skipKeyword : ∀ ks s, (skipKeyword ks s).1 ≠ .empty := by
  intro ks
  induction ks with
  | nil => intro s; nofun
  | cons k ks ih =>
    intro s
    simp only [skipKeyword]
    split
    · nofun
    · split
      · nofun
      · exact ih _

theorem ne_parseHex4 : ∀ k acc s, (parseHex4 k acc s).1 ≠ .empty := by
  intro k
  induction k with
  | zero => intro acc s; nofun
  | succ k ih =>
    intro acc s
    simp only [parseHex4]
    split
    · nofun
    · split
      · nofun
      · exact ih _ _

theorem ne_pqHex {cfg stop f acc hi} (ih : ∀ acc hi s, (parseQuoted cfg stop f acc hi s).1 ≠ .empty)
    (r : Code × Nat × St) (hn : r.1 ≠ .empty) : (pqHex cfg stop f acc hi r).1 ≠ .empty := by
  obtain ⟨e, cu, s⟩ := r
  cases e <;> try exact hn
  simp only [pqHex]
  split
  · exact ih _ _ _
  · split <;> exact ih _ _ _

theorem ne_pqEsc {cfg stop f acc hi} (ih : ∀ acc hi s, (parseQuoted cfg stop f acc hi s).1 ≠ .empty) (s : St) :
    (pqEsc cfg stop f acc hi s).1 ≠ .empty := by
  simp only [pqEsc]
  split
  · nofun
  · split
    · split
      · exact ne_pqHex ih _ (ne_parseHex4 _ _ _)
      · exact ih _ _ _
    · split
      · nofun
      · exact ih _ _ _

theorem ne_parseQuoted {cfg stop} : ∀ fuel acc hi s, (parseQuoted cfg stop fuel acc hi s).1 ≠ .empty := by
  intro fuel
  induction fuel with
  | zero => intro acc hi s; nofun
  | succ f ih =>
    intro acc hi s
    simp only [parseQuoted_succ]
    split
    · split <;> nofun
    · split
      · nofun
      · split
        · exact ne_pqEsc ih _
        · exact ih _ _ _

theorem ne_parseNumeric {cfg} (s : St) : (parseNumeric cfg s).1 ≠ .empty := by
  unfold parseNumeric
  generalize scanNumber cfg (Gen.number_buffer - 1) [] s = r
  obtain ⟨buf, s'⟩ := r
  simp only
  split <;> nofun

theorem ne_pvStr (r : Code × List Byte × St) (hn : r.1 ≠ .empty) : (pvStr r).1 ≠ .empty := by
  obtain ⟨e, str, s⟩ := r
  cases e <;> first | exact hn | nofun

theorem ne_pmKey {cfg f} (s : St) : (pmKey cfg f s).1 ≠ .empty := by
  simp only [pmKey]
  split
  · exact ne_parseQuoted _ _ _ _
  · split
    · split <;> nofun
    · nofun

/-- with fuel `f`, none of the three parser routines, started after the first token, answers `EmptyInput` -/
def NeEmpty (cfg : Cfg) (f : Nat) : Prop :=
  (∀ limit s, Fd s → (parseVariant cfg f limit s).1 ≠ .empty) ∧
  (∀ limit s acc, Fd s → (parseElems cfg f limit s acc).1 ≠ .empty) ∧
  (∀ limit s ms, Fd s → (parseMembers cfg f limit s ms).1 ≠ .empty)

section
variable {cfg : Cfg} {f : Nat} (ih : NeEmpty cfg f)
include ih

theorem ne_pvArr {L'} (r : Code × St) (h : Fd r.2) (hn : r.1 ≠ .empty) : (pvArr cfg f L' r).1 ≠ .empty := by
  obtain ⟨e, s⟩ := r
  cases e <;> try exact hn
  simp only [pvArr]
  split
  · nofun
  · exact ih.2.1 _ _ _ (fd_closed.cur h)

theorem ne_pvObj {L'} (r : Code × St) (h : Fd r.2) (hn : r.1 ≠ .empty) : (pvObj cfg f L' r).1 ≠ .empty := by
  obtain ⟨e, s⟩ := r
  cases e <;> try exact hn
  simp only [pvObj]
  split
  · nofun
  · exact ih.2.2 _ _ _ (fd_closed.cur h)

theorem ne_pvTok {L} (s : St) (h : Fd s) : (pvTok cfg f L s).1 ≠ .empty := by
  have h1 := fd_closed.mv (fd_closed.cur h)
  simp only [pvTok]
  by_cases c1 : ((cur s).1 == 0x5B) = true
  · rw [if_pos c1]
    cases L with
    | zero => nofun
    | succ L' => exact ne_pvArr ih _ (kept_skipSpaces fd_closed _ _ h1) (ne_skipSpaces _ _ h1)
  rw [if_neg c1]
  by_cases c2 : ((cur s).1 == 0x7B) = true
  · rw [if_pos c2]
    cases L with
    | zero => nofun
    | succ L' => exact ne_pvObj ih _ (kept_skipSpaces fd_closed _ _ h1) (ne_skipSpaces _ _ h1)
  rw [if_neg c2]
  split
  · exact ne_pvStr _ (ne_parseQuoted _ _ _ _)
  · split
    · exact ne_skipKeyword _ _
    · split
      · exact ne_skipKeyword _ _
      · split
        · exact ne_skipKeyword _ _
        · exact ne_parseNumeric _

theorem ne_pvK {L} (r : Code × St) (h : Fd r.2) (hn : r.1 ≠ .empty) : (pvK cfg f L r).1 ≠ .empty := by
  obtain ⟨e, s⟩ := r
  cases e
  case ok => exact ne_pvTok ih _ h
  all_goals exact hn

theorem ne_peK2 {L acc} (r : Code × St) (h : Fd r.2) (hn : r.1 ≠ .empty) : (peK2 cfg f L acc r).1 ≠ .empty := by
  obtain ⟨e, s⟩ := r
  cases e <;> try exact hn
  simp only [peK2]
  split
  · nofun
  · split
    · exact ih.2.1 _ _ _ (fd_closed.mv (fd_closed.cur h))
    · nofun

theorem ne_peK1 {L acc} (r : Code × Val × St) (h : Fd r.2.2) (hn : r.1 ≠ .empty) :
    (peK1 cfg f L acc r).1 ≠ .empty := by
  obtain ⟨e, v, s⟩ := r
  cases e
  case ok => exact ne_peK2 ih _ (kept_skipSpaces fd_closed _ _ h) (ne_skipSpaces _ _ h)
  all_goals exact hn

theorem ne_pmK4 {L ms} (r : Code × St) (h : Fd r.2) (hn : r.1 ≠ .empty) : (pmK4 cfg f L ms r).1 ≠ .empty := by
  obtain ⟨e, s⟩ := r
  cases e
  case ok => exact ih.2.2 _ _ _ h
  all_goals exact hn

theorem ne_pmK3 {L ms} (r : Code × St) (h : Fd r.2) (hn : r.1 ≠ .empty) : (pmK3 cfg f L ms r).1 ≠ .empty := by
  obtain ⟨e, s⟩ := r
  cases e <;> try exact hn
  have h1 := fd_closed.mv (fd_closed.cur h)
  simp only [pmK3]
  split
  · nofun
  · split
    · exact ne_pmK4 ih _ (kept_skipSpaces fd_closed _ _ h1) (ne_skipSpaces _ _ h1)
    · nofun

theorem ne_pmK2 {L ms key} (r : Code × Val × St) (h : Fd r.2.2) (hn : r.1 ≠ .empty) :
    (pmK2 cfg f L ms key r).1 ≠ .empty := by
  obtain ⟨e, v, s⟩ := r
  cases e
  case ok => exact ne_pmK3 ih _ (kept_skipSpaces fd_closed _ _ h) (ne_skipSpaces _ _ h)
  all_goals exact hn

theorem ne_pmK1 {L ms key} (r : Code × St) (h : Fd r.2) (hn : r.1 ≠ .empty) :
    (pmK1 cfg f L ms key r).1 ≠ .empty := by
  obtain ⟨e, s⟩ := r
  cases e <;> try exact hn
  have h1 := fd_closed.mv (fd_closed.cur h)
  simp only [pmK1]
  split
  · nofun
  · exact ne_pmK2 ih _ ((kept_mutual fd_closed f).1 _ _ h1) (ih.1 _ _ h1)

theorem ne_pmK0 {L ms} (r : Code × List Byte × St) (h : Fd r.2.2) (hn : r.1 ≠ .empty) :
    (pmK0 cfg f L ms r).1 ≠ .empty := by
  obtain ⟨e, key, s⟩ := r
  cases e
  case ok => exact ne_pmK1 ih _ (kept_skipSpaces fd_closed _ _ h) (ne_skipSpaces _ _ h)
  all_goals exact hn

end

theorem ne_mutual {cfg} : ∀ fuel,
    (∀ limit s, Fd s → (parseVariant cfg fuel limit s).1 ≠ .empty) ∧
    (∀ limit s acc, Fd s → (parseElems cfg fuel limit s acc).1 ≠ .empty) ∧
    (∀ limit s ms, Fd s → (parseMembers cfg fuel limit s ms).1 ≠ .empty) := by
  intro fuel
  induction fuel with
  | zero => exact ⟨fun _ _ _ => nofun, fun _ _ _ _ => nofun, fun _ _ _ _ => nofun⟩
  | succ f ih =>
    refine ⟨fun L s h => ?_, fun L s acc h => ?_, fun L s ms h => ?_⟩
    · rw [parseVariant_succ]
      exact ne_pvK ih _ (kept_skipSpaces fd_closed _ _ h) (ne_skipSpaces _ _ h)
    · rw [parseElems_succ]
      exact ne_peK1 ih _ ((kept_mutual fd_closed f).1 _ _ h) (ih.1 _ _ h)
    · rw [parseMembers_succ]
      exact ne_pmK0 ih _ (kept_pmKey fd_closed _ h) (ne_pmKey _)

end JD
