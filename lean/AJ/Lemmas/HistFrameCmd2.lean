/- C20: footprints of the commands of `DH.step`, continued: navigation (`mem`, `elem`: read a document, rebind a
   reference), navigation that creates (`memw`, `elemw`, `addv`, `toarr`, `toobj`: write the document, rebind a
   reference), reads (`rd2`). A navigation is shown to be one (`IsNav`, `IsNavW`: the body of `DH.step` and the fact that
   every branch binds the reference into the document it starts from) once; its footprint and where it leaves the
   reference both follow from that. -/
import AJ.Lemmas.HistFrameCmd
namespace C20
open DL
open DH (W Ref unhex)
open JD (Byte Val)

/-- footprint of a navigation from reference `r2` that binds `r` and may create the place it binds to -/
def fpNavW (r r2 : Nat) : FP := fpRef r2 none' (two r2 r) (one r)
/-- footprint of a read-only navigation from reference `r2` that binds `r` -/
def fpNav (r r2 : Nat) : FP := fpRefRO r2 none' (two r2 r) (one r)

theorem sok_nav0 (r2 r : Nat) (X : Nat → Prop) : SOK none' (fun j => none' j ∨ X j) (two r2 r) (one r) :=
  ⟨fun _ h => h.elim, fun _ h => Or.inr h⟩

theorem docOf_set!_self (a : Array Ref) (r : Nat) (x : Ref) (j : Nat) (h : docOf ((a.set! r x)[r]!) j) : docOf x j := by
  rw [getElem!_eq_getD?, getElem?_set!_self] at h
  cases hh : a[r]? with
  | none => rw [hh] at h; cases h
  | some y => rw [hh] at h; exact h

/-! ## Lookups: `mem`, `elem` -/

/-- the reference a lookup from reference `s` yields: `G di l d` when `s` is bound to location `l` of document `di` -/
def refVal (G : Nat → Loc → Doc → Ref) (s : Ref) (docs : Array Doc) : Ref :=
  match s.doc, s.loc with
  | some di, some l => G di l (docs[di]!)
  | di, _ => ⟨di, none⟩

/-- `f` binds reference `r` to the result of a lookup from reference `r2`, inside the document `r2` is bound to -/
def IsNav (r r2 : Nat) (f : Step String) : Prop :=
  ∃ G : Nat → Loc → Doc → Ref, (∀ w, f w = ("", { w with refs := w.refs.set! r (refVal G (w.refs[r2]!) w.docs) })) ∧
    ∀ di l d, (G di l d).doc = some di

theorem IsNav.local {r r2 : Nat} {f : Step String} (h : IsNav r r2 f) : Local f (fpNav r r2) := by
  obtain ⟨G, he, _⟩ := h
  refine Local.of_eq he (Local.viaRef r2 (fun s w => ("", { w with refs := w.refs.set! r (refVal G s w.docs) }))
    (fun _ => none') none' (two r2 r) (one r) (Or.inl rfl) (fun _ h => Or.inr h) (fun _ _ h => h.elim) (fun o sl ok => ?_))
  cases o with
  | none => exact Local.setRefIn r "" _ ok rfl
  | some di =>
    cases sl with
    | none => exact Local.setRefIn r "" _ ok rfl
    | some l =>
      exact Local.withDoc di (fun d w => ("", { w with refs := w.refs.set! r (G di l d) })) (Or.inl rfl) ok
        (fun d => Local.setRefIn r "" _ ok rfl)

/-- the rebound reference is bound into the document the lookup starts from -/
theorem IsNav.rebinds {r r2 : Nat} {f : Step String} (h : IsNav r r2 f) (w : W) (j : Nat)
    (hj : docOf ((f w).2.refs[r]!) j) : docOf (w.refs[r2]!) j := by
  obtain ⟨G, he, hG⟩ := h
  rw [he] at hj
  have hx := docOf_set!_self _ _ _ _ hj
  generalize w.refs[r2]! = s at hx ⊢
  obtain ⟨_ | di, _ | l⟩ := s
  · exact hx
  · exact hx
  · exact hx
  · exact (hG di l _).symm.trans hx

theorem mem_nav (r r2 k : String) (kk : List String) :
    IsNav r.toNat! r2.toNat! (fun w => DH.step w ("mem" :: r :: r2 :: k :: kk)) :=
  ⟨fun di l d => ⟨some di, (d.findKey l (unhex k)).map (fun p => Loc.slot p.2)⟩, fun _ => rfl, fun _ _ _ => rfl⟩

theorem elem_nav (r r2 i : String) : IsNav r.toNat! r2.toNat! (fun w => DH.step w ["elem", r, r2, i]) :=
  ⟨fun di l d => match d.get l with
    | .arr h _ => ⟨some di, ((d.chain h)[i.toNat!]?).map Loc.slot⟩
    | _ => ⟨some di, none⟩, fun _ => rfl, fun di l d => by dsimp only; cases d.get l <;> rfl⟩

/-! ## Navigation that may create the place it binds to: `memw`, `elemw`, `addv`, `toarr`, `toobj` -/

/-- through an unbound reference: `r` remembers the document of the reference, at no location -/
def navE (r : Nat) : Option Nat → Step String := fun di w => ("", { w with refs := w.refs.set! r ⟨di, none⟩ })

/-- a step that overwrites document `di` and binds reference `r` into it -/
def NavForm (r di : Nat) (f : Step String) : Prop :=
  ∃ (d' : Doc) (x : Option Loc),
    f = fun w => ("", { w with docs := w.docs.set! di d', refs := w.refs.set! r ⟨some di, x⟩ })

/-- `f` is a navigation from reference `r2` that binds `r`: through a bound reference every branch is a `NavForm` -/
def IsNavW (r r2 : Nat) (f : Step String) : Prop :=
  ∃ G : Nat → Loc → Doc → Step String, (∀ w, f w = refDoc G (navE r) (w.refs[r2]!) w) ∧ ∀ di l d, NavForm r di (G di l d)

theorem IsNavW.local {r r2 : Nat} {f : Step String} (h : IsNavW r r2 f) : Local f (fpNavW r r2) := by
  obtain ⟨G, he, hG⟩ := h
  refine Local.of_eq he (Local.refDoc r2 G (navE r) docIs none' (two r2 r) (one r) (Or.inl rfl) (fun _ h => Or.inr h)
    (fun _ _ h => h) (fun di l d ok => ?_) (fun _ ok => Local.setRefIn r "" _ ok rfl))
  obtain ⟨d', x, e⟩ := hG di l d
  rw [e]
  exact Local.putDocRefIn di r "" d' _ ok rfl rfl

theorem IsNavW.rebinds {r r2 : Nat} {f : Step String} (h : IsNavW r r2 f) (w : W) (j : Nat)
    (hj : docOf ((f w).2.refs[r]!) j) : docOf (w.refs[r2]!) j := by
  obtain ⟨G, he, hG⟩ := h
  rw [he] at hj
  generalize w.refs[r2]! = s at hj ⊢
  obtain ⟨_ | di, _ | l⟩ := s
  · exact (docOf_set!_self _ _ _ _ hj :)
  · exact (docOf_set!_self _ _ _ _ hj :)
  · exact (docOf_set!_self _ _ _ _ hj :)
  · obtain ⟨d', x, e⟩ := hG di l (w.docs[di]!)
    have e' : refDoc G (navE r) ⟨some di, some l⟩ w = G di l (w.docs[di]!) w := rfl
    rw [e', e] at hj
    exact (docOf_set!_self _ _ _ _ hj :)

/-- `r = r2[key]`, `r = r2[i]`, created if absent (`A`: `getOrAddMember` / `getOrAddElement`); the new place is cleared -/
theorem getOrAdd_nav (A : Loc → Doc → Option Nat × Doc) (r r2 : Nat) (f : Step String)
    (he : ∀ w, f w = refDoc (fun di l d0 w => match A l d0 with
      | (m, d) => match m with
        | some id => ("", { w with docs := w.docs.set! di (d.clearV (.slot id)), refs := w.refs.set! r ⟨some di, some (.slot id)⟩ })
        | none => ("", { w with docs := w.docs.set! di d, refs := w.refs.set! r ⟨some di, none⟩ }))
      (navE r) (w.refs[r2]!) w) : IsNavW r r2 f := by
  refine ⟨_, he, fun di l d0 => ?_⟩
  generalize A l d0 = x
  obtain ⟨_ | id, d⟩ := x <;> exact ⟨_, _, rfl⟩

theorem memw_nav (r r2 k : String) (kk : List String) :
    IsNavW r.toNat! r2.toNat! (fun w => DH.step w ("memw" :: r :: r2 :: k :: kk)) :=
  getOrAdd_nav (fun l d => d.getOrAddMember l (unhex k) (kk == ["sjl"])) _ _ _ (fun _ => rfl)

theorem elemw_nav (r r2 i : String) : IsNavW r.toNat! r2.toNat! (fun w => DH.step w ["elemw", r, r2, i]) :=
  getOrAdd_nav (fun l d => d.getOrAddElement l i.toNat!) _ _ _ (fun _ => rfl)

/-- `add` on a null location first turns it into an empty array -/
def toArrayIfNull (l : Loc) (d : Doc) : Doc := match d.get l with | .null => d.set l (.arr d.null d.null) | _ => d

theorem addv_nav (r r2 : String) : IsNavW r.toNat! r2.toNat! (fun w => DH.step w ["addv", r, r2]) := by
  refine ⟨fun di l d0 w => match (toArrayIfNull l d0).get l with
      | .arr _ _ =>
        ("", { w with docs := w.docs.set! di ((toArrayIfNull l d0).addElement l).2,
                      refs := w.refs.set! r.toNat! ⟨some di, ((toArrayIfNull l d0).addElement l).1.map Loc.slot⟩ })
      | _ => ("", { w with docs := w.docs.set! di (toArrayIfNull l d0), refs := w.refs.set! r.toNat! ⟨some di, none⟩ }),
    fun _ => rfl, fun di l d0 => ?_⟩
  dsimp only
  cases (toArrayIfNull l d0).get l <;> exact ⟨_, _, rfl⟩

/-- `r = r2.to<JsonArray>()`, `r = r2.to<JsonObject>()` (`v`: the empty collection stored) -/
theorem to_nav (v : Doc → VData) (r r2 : Nat) (f : Step String)
    (he : ∀ w, f w = refDoc (fun di l d0 w =>
        ("", { w with docs := w.docs.set! di ((d0.clearV l).set l (v (d0.clearV l))), refs := w.refs.set! r ⟨some di, some l⟩ }))
      (navE r) (w.refs[r2]!) w) : IsNavW r r2 f :=
  ⟨_, he, fun _ _ _ => ⟨_, _, rfl⟩⟩

theorem toarr_nav (r r2 : String) : IsNavW r.toNat! r2.toNat! (fun w => DH.step w ["toarr", r, r2]) :=
  to_nav (fun d => .arr d.null d.null) _ _ _ (fun _ => rfl)
theorem toobj_nav (r r2 : String) : IsNavW r.toNat! r2.toNat! (fun w => DH.step w ["toobj", r, r2]) :=
  to_nav (fun d => .obj d.null d.null) _ _ _ (fun _ => rfl)

/-! ## Reads -/

/-- footprint of a read through reference `r` -/
def fpRead (r : Nat) : FP := fpRefRO r none' (one r) none'

/-- one subscript of `rd2`: member `m <hexkey>` or element `e <index>` -/
def rdSub (d : Doc) (l : Loc) (t a : String) : Option Loc :=
  if t == "m" then (d.findKey l (unhex a)).map (fun p => Loc.slot p.2)
  else match d.get l with
    | .arr h _ => ((d.chain h)[a.toNat!]?).map Loc.slot
    | _ => none

theorem rd2_eq (w : W) (r t1 a1 t2 a2 : String) : DH.step w ["rd2", r, t1, a1, t2, a2] =
    refDoc (fun _ l d w => match (rdSub d l t1 a1).bind (fun l1 => rdSub d l1 t2 a2) with
      | some l2 => (d.show (d.get l2), w)
      | none => ("?", w)) (fun _ w => ("?", w)) (w.refs[r.toNat!]!) w := by rfl

theorem rd2_local (r t1 a1 t2 a2 : String) :
    Local (fun w => DH.step w ["rd2", r, t1, a1, t2, a2]) (fpRead r.toNat!) := by
  refine Local.of_eq (fun w => rd2_eq w r t1 a1 t2 a2) (Local.refDoc _ _ _ (fun _ => none') none' _ _ rfl (none_sub _)
    (fun _ _ h => h.elim) (fun di l d ok => ?_) (fun _ ok => Local.leafPure _ ok))
  generalize (rdSub d l t1 a1).bind (fun l1 => rdSub d l1 t2 a2) = x
  cases x <;> exact Local.leafPure _ ok

end C20
