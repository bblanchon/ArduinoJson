/- The FILTERED slot-level MessagePack deserializer `MDDF` without a destination (`dst = none`: below a removed member, a
   removed element or a refused container), or under a filter that allows nothing: the document is UNTOUCHED apart from the
   allocator state and the overflow flag (the keys of skipped maps still go through `StringBuffer::reserve`). No hypothesis
   on the document: `Same` is literal equality of every other field. -/
import AJ.Lemmas.MddSim
set_option linter.unusedSimpArgs false
set_option linter.unusedVariables false
namespace MDDF
open DL MDD
open JD (Byte Val Code Flt)
open MD (R Env Hdr beNat)

/-- `d'` is `d` apart from the allocator state and the overflow flag -/
def Same (d d' : Doc) : Prop :=
  d'.g = d.g ∧ d'.alloc = d.alloc ∧ d'.cells = d.cells ∧ d'.strings = d.strings ∧ d'.nextNode = d.nextNode ∧
  d'.root = d.root ∧ d'.strOverhead = d.strOverhead

theorem Same.refl (d : Doc) : Same d d := ⟨rfl, rfl, rfl, rfl, rfl, rfl, rfl⟩

theorem Same.trans {d d1 d2 : Doc} (h1 : Same d d1) (h2 : Same d1 d2) : Same d d2 := by
  obtain ⟨a1, a2, a3, a4, a5, a6, a7⟩ := h1
  obtain ⟨b1, b2, b3, b4, b5, b6, b7⟩ := h2
  exact ⟨b1.trans a1, b2.trans a2, b3.trans a3, b4.trans a4, b5.trans a5, b6.trans a6, b7.trans a7⟩

theorem reserve_same_none (m : Nat) (x : S) (n : Nat) (hb : x.b = none) : Same x.d (reserve m x n).2.d := by
  rw [mpsim_reserve_none m n hb]
  by_cases h1 : n > m
  · rw [if_pos h1]; exact ⟨rfl, rfl, rfl, rfl, rfl, rfl, rfl⟩
  rw [if_neg h1]
  by_cases h2 : (x.d.pl.alloc (n + x.d.strOverhead)).1 = true
  · rw [if_pos h2]; exact ⟨rfl, rfl, rfl, rfl, rfl, rfl, rfl⟩
  · rw [if_neg h2]; exact ⟨rfl, rfl, rfl, rfl, rfl, rfl, rfl⟩

/-- `StringBuffer::reserve` leaves everything but the allocator state and the overflow flag -/
theorem reserve_same (m : Nat) (x : S) (n : Nat) : Same x.d (reserve m x n).2.d := by
  cases hxb : x.b with
  | none => exact reserve_same_none m x n hxb
  | some cap =>
    by_cases hn : n > cap
    · rw [mpsim_reserve_release m hxb hn]
      exact Same.trans (d1 := { x.d with pl := x.d.pl.dealloc }) ⟨rfl, rfl, rfl, rfl, rfl, rfl, rfl⟩
        (reserve_same_none m { x with d := { x.d with pl := x.d.pl.dealloc }, b := none } n rfl)
    · rw [mpsim_reserve_keep m hxb hn]; exact Same.refl _

theorem readString_same (env : Env) (x : S) (n : Nat) : Same x.d (readString env x n).2.2.d := by
  rw [readString_eq]
  have := reserve_same env.maxStrLen x n
  generalize reserve env.maxStrLen x n = q at *
  obtain ⟨ok, y⟩ := q
  cases ok
  · exact this
  · simp only [if_true]
    generalize y.r.readBytes n = rb
    obtain ⟨_ | bs, r'⟩ := rb <;> exact this

theorem skipB_same (x : S) (n : Nat) : Same x.d (skipN x n).2.d := by
  unfold skipN
  generalize x.r.skipBytes n = q
  obtain ⟨ok, r'⟩ := q
  cases ok <;> exact Same.refl _

/-- "nothing is stored": the destination is null, or the filter allows nothing -/
def Blind (flt : Flt) (dst : Option Loc) : Prop :=
  gate flt.allowValue dst = none ∧ gate flt.allowArray dst = none ∧ gate flt.allowObject dst = none

theorem blind_none (flt : Flt) : Blind flt none := ⟨gate_none _, gate_none _, gate_none _⟩

theorem blind_of_flags {flt : Flt} (hV : flt.allowValue = false) (hA : flt.allowArray = false)
    (hO : flt.allowObject = false) (dst : Option Loc) : Blind flt dst := by
  unfold Blind; rw [hV, hA, hO]; exact ⟨rfl, rfl, rfl⟩

def UV (env : Env) (fuel : Nat) : Prop :=
  ∀ (limit : Nat) (flt : Flt) (dst : Option Loc) (x : S), Blind flt dst →
    Same x.d (parseVariant env fuel limit flt dst x).2.1.d
def UE (env : Env) (fuel : Nat) : Prop :=
  ∀ (limit : Nat) (ef : Flt) (n : Nat) (x : S), Same x.d (readArray env fuel limit ef none n x).2.d
def UM (env : Env) (fuel : Nat) : Prop :=
  ∀ (limit : Nat) (flt : Flt) (n : Nat) (x : S), Same x.d (readObject env fuel limit flt none n x).2.d

theorem uv_step (env : Env) (fuel : Nat) (hE : UE env fuel) (hM : UM env fuel) : UV env (fuel + 1) := by
  intro limit flt dst x hbl
  obtain ⟨b1, b2, b3⟩ := hbl
  rw [parseVariant_step, b1]
  generalize x.r.read = rd
  obtain ⟨_ | code, r0⟩ := rd
  · exact Same.refl _
  simp only
  cases MD.classify code r0 with
  | int w c => exact skipB_same { x with r := r0 } w
  | nil => exact Same.refl _
  | invalid => exact Same.refl _
  | bool c => exact Same.refl _
  | f32 => exact skipB_same { x with r := r0 } 4
  | f64 => exact skipB_same { x with r := r0 } 8
  | fix c => exact Same.refl _
  | inc r => exact Same.refl _
  | arr size r =>
    simp only [leaf, leafArr, b2]
    cases limit with
    | zero => exact Same.refl _
    | succ limit' => exact hE limit' flt.subIdx size { x with r := r }
  | map size r =>
    simp only [leaf, leafMap, b3]
    cases limit with
    | zero => exact Same.refl _
    | succ limit' => exact hM limit' flt size { x with r := r }
  | str size r => exact skipB_same { x with r := r } size
  | bin sizeBytes isExt hdr size r => exact skipB_same { x with r := r } (MD.binSize isExt size)

theorem ue_step (env : Env) (fuel : Nat) (hV : UV env fuel) (hE : UE env fuel) : UE env (fuel + 1) := by
  intro limit ef n x
  rw [readArray_succ, gate_none]
  by_cases hn : (n == 0) = true
  · rw [if_pos hn]; exact Same.refl _
  rw [if_neg hn]
  show Same x.d
    (match parseVariant env fuel limit ef none x with
      | (.ok, x, _) => readArray env fuel limit ef none (n - 1) x
      | (e, x, _) => (e, x)).2.d
  have h1 := hV limit ef none x (blind_none ef)
  generalize parseVariant env fuel limit ef none x = rv at h1
  obtain ⟨c, x2, f⟩ := rv
  cases c
  case ok => exact h1.trans (hE limit ef (n - 1) x2)
  all_goals exact h1

theorem um_step (env : Env) (fuel : Nat) (hV : UV env fuel) (hM : UM env fuel) : UM env (fuel + 1) := by
  intro limit flt n x
  rw [readObject_succ]
  by_cases hn : (n == 0) = true
  · rw [if_pos hn]; exact Same.refl _
  rw [if_neg hn]
  generalize x.r.read = rd
  obtain ⟨_ | code, r0⟩ := rd
  · exact Same.refl _
  simp only
  generalize MD.keyLenOf_d3 code r0 = kl
  obtain ⟨_ | _ | len, r1⟩ := kl
  · exact Same.refl _
  · exact Same.refl _
  simp only
  unfold roKey
  have h1 := readString_same env { x with r := r1 } len
  generalize readString env { x with r := r1 } len = q at h1
  obtain ⟨c, key, y⟩ := q
  cases c
  case ok =>
    simp only [gate_none, memSlot, roVal]
    have h2 := hV limit (flt.subKey key) none y (blind_none _)
    generalize parseVariant env fuel limit (flt.subKey key) none y = rv at h2
    obtain ⟨c2, x2, f⟩ := rv
    cases c2
    case ok => exact h1.trans (h2.trans (hM limit flt (n - 1) x2))
    all_goals exact h1.trans h2
  all_goals exact h1

/-- for every fuel: a run that stores nothing leaves the document untouched -/
theorem untouched_all (env : Env) : ∀ fuel, UV env fuel ∧ UE env fuel ∧ UM env fuel := by
  intro fuel
  induction fuel with
  | zero =>
    refine ⟨fun _ _ _ _ _ => ?_, fun _ _ _ _ => ?_, fun _ _ _ _ => ?_⟩
    · simp only [MDDF.parseVariant]; exact Same.refl _
    · simp only [MDDF.readArray]; exact Same.refl _
    · simp only [MDDF.readObject]; exact Same.refl _
  | succ n ih =>
    obtain ⟨hV, hE, hM⟩ := ih
    exact ⟨uv_step env n hE hM, ue_step env n hV hE, um_step env n hV hM⟩

/-- **no destination: the document is untouched** (apart from the allocator state and the overflow flag), whatever the
    document, the filter and the input -/
theorem none_untouched (env : Env) (fuel limit : Nat) (flt : Flt) (x : S) :
    Same x.d (parseVariant env fuel limit flt none x).2.1.d :=
  (untouched_all env fuel).1 limit flt none x (blind_none flt)

/-- what `MDDF.run` does after its parse keeps `Same` -/
theorem run_same (env : Env) (limit : Nat) (flt : Flt) (d : Doc) (input : List Byte)
    (hV : flt.allowValue = false) (hA : flt.allowArray = false) (hO : flt.allowObject = false) :
    Same d.clearAll (MDDF.run env limit flt d input).2.1 := by
  have h := (untouched_all env (2 * input.length + 4)).1 limit flt (some .root)
    { r := { unread := input }, d := d.clearAll } (blind_of_flags hV hA hO _)
  simp only [MDDF.run]
  generalize parseVariant env (2 * input.length + 4) limit flt (some .root)
    { r := { unread := input }, d := d.clearAll } = rv at h
  obtain ⟨c, x, f⟩ := rv
  simp only at h ⊢
  cases x.b <;> exact h.trans ⟨rfl, rfl, rfl, rfl, rfl, rfl, rfl⟩

end MDDF
