/- The leading white space of a text is determined by the text: `skipSpaces` is a function, and it stops behind any
   white space of the dialect that is followed by a byte starting none. -/
import AJ.Lemmas.DialectWs
import AJ.Lemmas.DialectSound
namespace JD
open Spec.Dialect

/-- a byte that does not start white space -/
def NoWs (c : Byte) : Prop := ¬ IsWsByte c ∧ c ≠ 0x2F

/-- on a byte that starts no white space `skipSpaces` stops, whatever it answers, with that byte latched -/
theorem skipSpaces_noWs_pos (cfg : Cfg) {X : St} {c : Byte} {x : List Byte} {k m : Nat} {f : Bool} (hc : NoWs c)
    (h : Pos X (c :: x) k f) (hm : 0 < m) : (skipSpaces cfg m X).2.l.pos = k + 1 := by
  obtain ⟨j, rfl⟩ : ∃ j, m = j + 1 := ⟨m - 1, by omega⟩
  obtain ⟨Y, hY, hS⟩ := Pos.cur_cons h
  have hw : isWs c = false := Bool.eq_false_iff.mpr (fun hw => hc.1 (isWs_byte hw))
  have hs : (c == 0x2F) = false := beq_eq_false_iff_ne.mpr hc.2
  rw [skipSpaces_succ, hY, hw, hs, Bool.and_false]
  by_cases h0 : c = 0
  · rw [if_pos (beq_iff_eq.mpr h0)]
    exact hS.fields_cons.1
  · rw [if_neg (fun h => h0 (beq_iff_eq.mp h))]
    exact hS.fields_cons.1

theorem dws_prefix_unique {cfg : Cfg} {w : List Byte} (hw : DWs cfg w) :
    ∀ {w' x y : List Byte} {c c' : Byte}, DWs cfg w' → NoWs c → NoWs c' → w ++ c :: x = w' ++ c' :: y →
      w = w' ∧ c = c' ∧ x = y := by
  intro w' x y c c' hw' hc hc' he
  have hs : Pos ({ l := { unread := w ++ c :: x } } : St) (w ++ c :: x) 0 false := At.pos ⟨rfl, rfl, rfl, rfl⟩
  obtain ⟨X, hX, hn⟩ := skipSpaces_dws_gen cfg hw _ (c :: x) 0 false hs
  have hs' : Pos ({ l := { unread := w ++ c :: x } } : St) (w' ++ c' :: y) 0 false := At.pos ⟨rfl, he, rfl, rfl⟩
  obtain ⟨X', hX', hn'⟩ := skipSpaces_dws_gen cfg hw' _ (c' :: y) 0 false hs'
  obtain ⟨m, hm0, hm⟩ := hn (w.length + w'.length + 1) (by omega)
  obtain ⟨m', hm0', hm'⟩ := hn' (w.length + w'.length + 1) (by omega)
  have e1 := skipSpaces_noWs_pos cfg hc hX hm0
  have e2 := skipSpaces_noWs_pos cfg hc' hX' hm0'
  rw [← hm] at e1
  rw [← hm', e1] at e2
  obtain ⟨rfl, h2⟩ := List.append_inj he (by omega)
  cases h2
  exact ⟨rfl, rfl, rfl⟩

end JD
