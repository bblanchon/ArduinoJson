/- Completeness of the JSON deserializer model w.r.t. the dialect specification `Spec.Dialect`: every text of the
   dialect is accepted and yields the value the dialect assigns. Here the leaves (strings, keys, number tokens,
   keywords) and the first bytes of values; the recursion on derivations is in AJ/Lemmas/DialectComplete2.lean. -/
import AJ.Lemmas.DialectWs
import AJ.Lemmas.DialectClass
import AJ.Lemmas.TokenStep
import AJ.Lemmas.Digits
set_option linter.unusedSimpArgs false
set_option linter.unusedVariables false
namespace JD
open Spec.Dialect

/-! ## strings -/

theorem hex4_some {a b c d : Byte} {cu : Nat} (h : hex4 a b c d = some cu) :
    decodeHex a ≤ 0x0F ∧ decodeHex b ≤ 0x0F ∧ decodeHex c ≤ 0x0F ∧ decodeHex d ≤ 0x0F ∧
      cu = decodeHex a * 4096 + decodeHex b * 256 + decodeHex c * 16 + decodeHex d := by
  unfold hex4 at h
  split at h
  · rename_i x1 x2 x3 x4 ha hb hc hd
    obtain ⟨ea, la⟩ := hexVal_some ha
    obtain ⟨eb, lb⟩ := hexVal_some hb
    obtain ⟨ec, lc⟩ := hexVal_some hc
    obtain ⟨ed, ld⟩ := hexVal_some hd
    injection h with h
    rw [ea, eb, ec, ed]
    exact ⟨la, lb, lc, ld, h.symm⟩
  · cases h

/-- `\u` when `\u` escapes are not decoded: two rounds of the loop copy the two bytes -/
theorem pq_u_off {cfg : Cfg} {stop : Byte} {fuel : Nat} {acc : List Byte} {hi : Nat} {s : St} {rest : List Byte}
    (h1 : s.l.loaded = false) (h2 : s.l.unread = 0x5C :: 0x75 :: rest) (hs : stop ≠ 0x5C) (hs2 : stop ≠ 0x75)
    (hcfg : cfg.decodeUnicode = false) :
    parseQuoted cfg stop (fuel + 2) acc hi s =
      parseQuoted cfg stop fuel (0x75 :: 0x5C :: acc) hi (adv (adv s 0x5C (0x75 :: rest)) 0x75 rest) := by
  have e1 : ((0x5C : Byte) == stop) = false := by simpa using (fun h => hs h.symm)
  have e2 : ((0x75 : Byte) == stop) = false := by simpa using (fun h => hs2 h.symm)
  have l1 : ((0x5C : Byte) == 0) = false := by decide
  have l2 : ((0x75 : Byte) == 0) = false := by decide
  have l3 : ((0x75 : Byte) == 0x5C) = false := by decide
  have hcur : cur (adv s 0x5C (0x75 :: rest)) = (0x75, ld (adv s 0x5C (0x75 :: rest)) 0x75 rest) := cur_cons rfl rfl
  rw [parseQuoted]
  simp only [cur_cons h1 h2, mv_ld, e1, l1, hcur, hcfg, beq_self_eq_true, Bool.false_eq_true, ↓reduceIte]
  rw [parseQuoted]
  simp only [cur_ld, mv_ld, e2, l2, l3, Bool.false_eq_true, ↓reduceIte]

theorem escapes_lookup_some {l x : Byte} (h : escapes.lookup l = some x) : unescapeChar l = x ∧ x ≠ 0 ∧ l ≠ 0 := by
  rw [escapes_lookup_eq] at h
  split at h
  · cases h
  · rename_i hne
    injection h with h
    refine ⟨h, h ▸ hne, ?_⟩
    rintro rfl
    exact hne (by decide)

/-- one round of the completeness induction: the loop reads `chunk`, which denotes `y`, in `k` rounds and goes on
    (`ih`) on the rest of the body -/
theorem pqc_step {cfg : Cfg} {stop : Byte} {m k : Nat} {acc acc' : List Byte} {hi hi' : Nat} {s s1 : St}
    {chunk body' y x' rest : List Byte} {p : Nat} {f : Bool}
    (heq : parseQuoted cfg stop (m + k) acc hi s = parseQuoted cfg stop m acc' hi' s1)
    (hacc : acc'.reverse = acc.reverse ++ y) (hk : k ≤ chunk.length) (hfuel : (chunk ++ body').length < m + k)
    (hlen : acc.length + (y ++ x').length ≤ cfg.maxStrLen)
    (ih : body'.length < m → acc'.length + x'.length ≤ cfg.maxStrLen →
      ∃ s', parseQuoted cfg stop m acc' hi' s1 = (.ok, acc'.reverse ++ x', s') ∧
        At s' rest (p + chunk.length + body'.length + 1) f) :
    ∃ s', parseQuoted cfg stop (m + k) acc hi s = (.ok, acc.reverse ++ (y ++ x'), s') ∧
      At s' rest (p + (chunk ++ body').length + 1) f := by
  have hl := congrArg List.length hacc
  simp only [List.length_reverse, List.length_append] at hl hlen hfuel
  obtain ⟨s', g1, g2⟩ := ih (by omega) (by omega)
  exact ⟨s', by rw [heq, g1, hacc, List.append_assoc], by rw [List.length_append, ← Nat.add_assoc]; exact g2⟩

/-- `parseQuoted` decodes every well-formed body: one unit of fuel per byte is enough -/
theorem parseQuoted_complete {cfg : Cfg} {stop : Byte} (q1 : stop ≠ 0x5C) (q2 : cfg.decodeUnicode = false → stop ≠ 0x75) :
    ∀ (fuel : Nat) (body x : List Byte) (acc : List Byte) (hi : Nat) (s : St) (rest : List Byte) (p : Nat) (f : Bool),
      decodeBody cfg stop hi body = some x → hi < 1024 → At s (body ++ stop :: rest) p f → body.length < fuel →
      acc.length + x.length ≤ cfg.maxStrLen →
      ∃ s', parseQuoted cfg stop fuel acc hi s = (.ok, acc.reverse ++ x, s') ∧ At s' rest (p + body.length + 1) f := by
  intro fuel
  induction fuel using Nat.strongRecOn with
  | _ fuel ih =>
    intro body x acc hi s rest p f hdec hhi hs hfuel hlen
    obtain ⟨n, rfl⟩ : ∃ n, fuel = n + 1 := ⟨fuel - 1, by omega⟩
    cases body with
    | nil =>
      cases hdec
      obtain ⟨s', h1, h2⟩ := pq_close (cfg := cfg) (fuel := n) (acc := acc) (hi := hi) hs (by simpa using hlen)
      exact ⟨s', by rw [h2, List.append_nil], h1⟩
    | cons c t =>
      have hs' : At s (c :: (t ++ stop :: rest)) p f := hs
      obtain ⟨c1, c0, hcase⟩ := decodeBody_cons_cases hdec
      rcases hcase with ⟨hb, y, hd, rfl⟩ | ⟨rfl, l, t', x0, y, rfl, hl, hlk, hd, rfl⟩ | ⟨rfl, hu, t', y, rfl, hd, rfl⟩ |
        ⟨rfl, hu, a, b, c', d, t'', cu, y, rfl, hh, hd, rfl⟩
      · exact pqc_step (k := 1) (chunk := [c]) (y := [c]) (pq_plain hs'.1 hs'.2.1 c1 c0 hb) (by simp) (by simp)
          hfuel hlen (ih n (by omega) t y _ hi _ rest _ f hd hhi hs'.adv)
      · obtain ⟨u1, u2, u3⟩ := escapes_lookup_some hlk
        exact pqc_step (k := 1) (chunk := [0x5C, l]) (y := [x0])
          (u1 ▸ pq_esc hs'.1 hs'.2.1 q1 u3 hl (by rw [u1]; exact u2)) (by simp) (by simp) hfuel hlen
          (ih n (by omega) t' y _ hi _ rest _ f hd hhi hs'.adv.adv)
      · obtain ⟨m, rfl⟩ : ∃ m, n = m + 1 := ⟨n - 1, by simp at hfuel; omega⟩
        exact pqc_step (k := 2) (chunk := [0x5C, 0x75]) (y := [0x5C, 0x75])
          (pq_u_off hs'.1 hs'.2.1 q1 (q2 hu) hu) (by simp) (by decide) hfuel hlen
          (ih m (by omega) t' y _ hi _ rest _ f hd hhi hs'.adv.adv)
      · obtain ⟨ha, hb, hc', hd', hcu⟩ := hex4_some hh
        obtain ⟨s1, hs1, heq⟩ := pq_u (cfg := cfg) (stop := stop) (fuel := n) (acc := acc) (hi := hi)
          (rest := t'' ++ stop :: rest) hs'.1 hs'.2.1 q1 hu ha hb hc' hd'
        rw [hs'.2.2.1, hs'.2.2.2] at hs1
        simp only [← hcu] at heq
        obtain ⟨k1, k2⟩ := pqHex_ok_esc cfg stop n acc s1 hhi (show cu < 65536 by omega)
        exact pqc_step (k := 1) (chunk := [0x5C, 0x75, a, b, c', d]) (heq.trans k1) (by simp) (by simp)
          hfuel hlen (ih n (by omega) t'' y _ _ s1 rest _ f hd k2 hs1)

/-! ## unquoted keys -/

theorem parseUnquoted_complete (k : List Byte) (hk : ∀ c ∈ k, inUnquoted c = true) {rest : List Byte}
    (hd : inUnquoted (rest.headD 0) = false) :
    ∀ (n : Nat) (acc : List Byte) (s : St) (p : Nat) (f : Bool), Pos s (k ++ rest) p f → k.length < n →
      ∃ X, parseUnquoted n acc s = (acc.reverse ++ k, X) ∧ Seen X rest (p + k.length) f := by
  induction k with
  | nil =>
    intro n acc s p f h hn
    obtain ⟨m, rfl⟩ : ∃ m, n = m + 1 := ⟨n - 1, by simp at hn; omega⟩
    have h' : Pos s rest p f := by simpa using h
    cases rest with
    | nil =>
      obtain ⟨X, hX, hS⟩ := Pos.cur_nil h'
      refine ⟨X, ?_, by simpa using hS⟩
      simp only [parseUnquoted, hX, inUnquoted_zero, Bool.false_eq_true, ↓reduceIte, List.append_nil]
    | cons c r =>
      obtain ⟨X, hX, hS⟩ := Pos.cur_cons h'
      have hc : inUnquoted c = false := hd
      refine ⟨X, ?_, by simpa using hS⟩
      simp only [parseUnquoted, hX, hc, Bool.false_eq_true, ↓reduceIte, List.append_nil]
  | cons a k ih =>
    intro n acc s p f h hn
    obtain ⟨m, rfl⟩ : ∃ m, n = m + 1 := ⟨n - 1, by simp at hn; omega⟩
    obtain ⟨X, hX, hS⟩ := Pos.cur_cons (by simpa using h)
    obtain ⟨Y, hY, hS'⟩ := ih (fun c hc => hk c (List.mem_cons_of_mem _ hc)) m (a :: acc) (mv X) (p + 1) f hS.mv.pos
      (by simp at hn; omega)
    refine ⟨Y, ?_, ?_⟩
    · simp only [parseUnquoted, hX, hk a (List.mem_cons_self ..), ↓reduceIte, hY]
      simp
    · rw [← len_cons p a]; exact hS'

/-! ## heads -/

/-- what dialect white space starts with -/
theorem dws_head {cfg : Cfg} {w : List Byte} (h : DWs cfg w) : w = [] ∨ ∃ c r, w = c :: r ∧ (isWs c = true ∨ c = 0x2F) := by
  cases h with
  | nil => exact Or.inl rfl
  | ws c w hc _ => exact Or.inr ⟨c, w, rfl, Or.inl (ws_byte hc).2⟩
  | block b w _ _ _ => exact Or.inr ⟨0x2F, _, rfl, Or.inr rfl⟩
  | line x w _ _ _ => exact Or.inr ⟨0x2F, _, rfl, Or.inr rfl⟩

theorem sep_facts (cfg : Cfg) (c : Byte) (h : isWs c = true ∨ c = 0x2F ∨ c = 0x2C ∨ c = 0x5D ∨ c = 0x7D ∨ c = 0x3A) :
    inNumber cfg c = false ∧ inUnquoted c = false := by
  unfold inNumber
  generalize (cfg.nan || cfg.inf) = b
  have hw : isWs c = true → c = 0x20 ∨ c = 0x09 ∨ c = 0x0A ∨ c = 0x0D := fun h => by
    have := isWs_byte h; unfold IsWsByte at this; exact this
  rcases h with h | rfl | rfl | rfl | rfl | rfl
  · rcases hw h with rfl | rfl | rfl | rfl <;> (cases b <;> exact ⟨by decide, by decide⟩)
  all_goals (cases b <;> exact ⟨by decide, by decide⟩)

/-- after dialect white space and a separator no number (and no unquoted key) continues -/
theorem delim_dws (cfg : Cfg) {w : List Byte} (hw : DWs cfg w) {c : Byte}
    (hc : c = 0x2C ∨ c = 0x5D ∨ c = 0x7D ∨ c = 0x3A) (r : List Byte) :
    Delim cfg (w ++ c :: r) ∧ inUnquoted ((w ++ c :: r).headD 0) = false := by
  rcases dws_head hw with rfl | ⟨a, w', rfl, ha⟩
  · have := sep_facts cfg c (Or.inr (Or.inr hc))
    refine ⟨?_, this.2⟩
    intro x y hxy
    simp only [List.nil_append, List.cons.injEq] at hxy
    rw [← hxy.1]; exact this.1
  · have := sep_facts cfg a (by rcases ha with h | h; exact Or.inl h; exact Or.inr (Or.inl h))
    refine ⟨?_, this.2⟩
    intro x y hxy
    simp only [List.cons_append, List.cons.injEq] at hxy
    rw [← hxy.1]; exact this.1

/-- first byte of a number token -/
def NumStartD (c : Byte) : Prop :=
  c = 0x2D ∨ c = 0x2B ∨ isDigit c = true ∨ c = 0x2E ∨ c = 0x4E ∨ c = 0x69 ∨ c = 0x49

theorem numStartD_facts {c : Byte} (h : NumStartD c) :
    Tok c ∧ (c == 0x5B) = false ∧ (c == 0x7B) = false ∧ (c == 0x22) = false ∧ (c == 0x27) = false ∧
    (c == 0x74) = false ∧ (c == 0x66) = false ∧ (c == 0x6E) = false ∧ c ≠ 0x5D ∧ c ≠ 0x7D := by
  have key : ∀ c : UInt8, ((!(c == 0x2D || c == 0x2B || isDigit c || c == 0x2E || c == 0x4E || c == 0x69 || c == 0x49)) ||
      (c != 0 && !isWs c && c != 0x2F && c != 0x5B && c != 0x7B && c != 0x22 && c != 0x27 && c != 0x74 && c != 0x66 &&
        c != 0x6E && c != 0x5D && c != 0x7D)) = true := by
    apply Bits.all_bytes; decide +kernel
  have hk := key c
  have hs : (c == 0x2D || c == 0x2B || isDigit c || c == 0x2E || c == 0x4E || c == 0x69 || c == 0x49) = true := by
    rcases h with rfl | rfl | h | rfl | rfl | rfl | rfl
    · decide
    · decide
    · simp [h]
    all_goals decide
  rw [hs] at hk
  simp only [Bool.not_true, Bool.false_or, Bool.and_eq_true, bne_iff_ne, ne_eq, Bool.not_eq_true'] at hk
  obtain ⟨⟨⟨⟨⟨⟨⟨⟨⟨⟨⟨a1, a2⟩, a3⟩, a4⟩, a5⟩, a6⟩, a7⟩, a8⟩, a9⟩, a10⟩, a11⟩, a12⟩ := hk
  refine ⟨⟨a1, a2, a3⟩, ?_, ?_, ?_, ?_, ?_, ?_, ?_, a11, a12⟩ <;> simpa

theorem numTok_head {cfg : Cfg} {lit : List Byte} {v : Val} (h : NumTok cfg lit v) :
    ∃ c cs, lit = c :: cs ∧ NumStartD c := by
  obtain ⟨_, _, hn, hden⟩ := h
  cases lit with
  | nil => simp only [numDen, parseNumber_nil] at hden; cases hden
  | cons c cs =>
    refine ⟨c, cs, rfl, ?_⟩
    have hc6 : c ≠ 0x6E := by
      intro hc; subst hc; exact hn rfl
    by_cases hb : BadStart cfg c
    · simp only [numDen, parseNumber_badStart hb] at hden; cases hden
    · unfold BadStart at hb
      unfold NumStartD
      by_cases h1 : c = 0x2D
      · exact Or.inl h1
      by_cases h2 : c = 0x2B
      · exact Or.inr (Or.inl h2)
      by_cases h3 : isDigit c = true
      · exact Or.inr (Or.inr (Or.inl h3))
      by_cases h4 : c = 0x2E
      · exact Or.inr (Or.inr (Or.inr (Or.inl h4)))
      have h3' : isDigit c = false := by simpa using h3
      by_cases h5 : (cfg.nan && (c == 0x6E || c == 0x4E)) = false
      · by_cases h6 : (cfg.inf && (c == 0x69 || c == 0x49)) = false
        · exact absurd ⟨h1, h2, h3', h4, h5, h6⟩ hb
        · simp only [Bool.and_eq_false_iff, not_or, Bool.not_eq_false, Bool.or_eq_true, beq_iff_eq] at h6
          rcases h6.2 with h | h
          · exact Or.inr (Or.inr (Or.inr (Or.inr (Or.inr (Or.inl h)))))
          · exact Or.inr (Or.inr (Or.inr (Or.inr (Or.inr (Or.inr h)))))
      · simp only [Bool.and_eq_false_iff, not_or, Bool.not_eq_false, Bool.or_eq_true, beq_iff_eq] at h5
        rcases h5.2 with h | h
        · exact absurd h hc6
        · exact Or.inr (Or.inr (Or.inr (Or.inr (Or.inl h))))

/-! ## scalars through `parseVariant` -/

/-- a keyword, after white space -/
theorem pvd_keyword (cfg : Cfg) {fuel L : Nat} {w rest : List Byte} {s : St} {p : Nat} {f : Bool} (hw : DWs cfg w)
    {k : Byte} {ks : List Byte} {v : Val} (hk : (k, ks, v) ∈ keywords)
    (h : Pos s (w ++ (k :: ks ++ rest)) p f) (hf : w.length < fuel) :
    ∃ s', parseVariant cfg fuel L s = (.ok, v, s') ∧ At s' rest (p + w.length + (k :: ks).length) true := by
  obtain ⟨n, rfl⟩ : ∃ n, fuel = n + 1 := ⟨fuel - 1, by omega⟩
  obtain ⟨tok, hk0⟩ := keywords_facts hk
  obtain ⟨X, hS, hX⟩ := skipSpaces_dws cfg (r := ks ++ rest) tok w hw s p f h
  obtain ⟨s', h1, h2⟩ := skipKeyword_ok (k :: ks) hk0 X rest (p + w.length) true hS.pos (List.cons_ne_nil k ks)
  exact ⟨s', by rw [parseVariant_on_keyword (hX (n + 1) hf) hS.cur_cons hk, h1], h2⟩

theorem isQuote_tok {q : Byte} (h : IsQuote q) :
    Tok q ∧ (q == 0x5B) = false ∧ (q == 0x7B) = false ∧ (q == 0x22 || q == 0x27) = true ∧ q ≠ 0x5D ∧ q ≠ 0x7D := by
  rcases h with rfl | rfl <;> decide

theorem pvd_str (cfg : Cfg) {fuel L : Nat} {w body sv rest : List Byte} {q : Byte} {s : St}
    {p : Nat} {f : Bool} (hq : IsQuote q) (hb : decodeBody cfg q 0 body = some sv) (hl : sv.length ≤ cfg.maxStrLen)
    (hw : DWs cfg w) (h : Pos s (w ++ (q :: (body ++ q :: rest))) p f) (hf : w.length + body.length + 1 < fuel) :
    ∃ s', parseVariant cfg fuel L s = (.ok, .str sv, s') ∧ At s' rest (p + w.length + (q :: body ++ [q]).length) true := by
  obtain ⟨n, rfl⟩ : ∃ n, fuel = n + 1 := ⟨fuel - 1, by omega⟩
  obtain ⟨X, hS, hX⟩ := skipSpaces_dws cfg (r := body ++ q :: rest) (isQuote_tok hq).1 w hw s p f h
  obtain ⟨q', he, hq'⟩ := parseQuoted_complete (cfg := cfg) (isQuote_facts hq).2.1 (fun _ => (isQuote_facts hq).2.2) (n + 1) body sv [] 0 (mv X) rest (p + w.length + 1) true hb
    (by decide) hS.mv (by omega) (by rw [List.length_nil, Nat.zero_add]; exact hl)
  refine ⟨q', ?_, ?_⟩
  · rw [parseVariant_on_quote (hX (n + 1) (by omega)) hS.cur_cons hq, he]; rfl
  · rw [← len_bracket]; exact hq'

theorem pvd_num (cfg : Cfg) {fuel L : Nat} {w lit rest : List Byte} {v : Val} {s : St} {p : Nat} {f : Bool}
    (hn : NumTok cfg lit v) (hd : Delim cfg rest) (hw : DWs cfg w) (h : Pos s (w ++ (lit ++ rest)) p f)
    (hf : w.length < fuel) :
    ∃ s', parseVariant cfg fuel L s = (.ok, v, s') ∧ Seen s' rest (p + w.length + lit.length) true ∧
      isNumberVal v = true := by
  obtain ⟨n, rfl⟩ : ∃ n, fuel = n + 1 := ⟨fuel - 1, by omega⟩
  obtain ⟨c, cs, rfl, hc⟩ := numTok_head hn
  obtain ⟨hlen, hchars, _, hden⟩ := hn
  obtain ⟨tok, k1, k2, k3, k4, k5, k6, k7, _, _⟩ := numStartD_facts hc
  obtain ⟨X, hS, hX⟩ := skipSpaces_dws cfg (r := cs ++ rest) tok w hw s p f h
  obtain ⟨Y, hY, hSY⟩ := scanNumber_lit cfg hd (c :: cs) hchars 63 [] X (p + w.length) true hS.pos hlen
  refine ⟨Y, ?_, hSY, (numDen_some hden).2⟩
  rw [parseVariant_on_number (hX (n + 1) hf) hS.cur_cons k1 k2 k3 k4 k5 k6 k7, parseNumeric_eq, hY]
  exact congrArg (fun r : Code × Val => (r.1, r.2, Y)) (numDen_some hden).1

/-! ## heads of values and keys -/

theorem inUnquoted_facts {c : Byte} (h : inUnquoted c = true) :
    Tok c ∧ (c == 0x7D) = false ∧ (c == 0x22 || c == 0x27) = false := by
  have key : ∀ c : UInt8, (!inUnquoted c || (c != 0 && !isWs c && c != 0x2F && c != 0x7D && c != 0x22 && c != 0x27)) = true := by
    apply Bits.all_bytes; decide +kernel
  have hk := key c
  rw [h] at hk
  simp only [Bool.not_true, Bool.false_or, Bool.and_eq_true, bne_iff_ne, ne_eq, Bool.not_eq_true'] at hk
  obtain ⟨⟨⟨⟨⟨a1, a2⟩, a3⟩, a4⟩, a5⟩, a6⟩ := hk
  refine ⟨⟨a1, a2, a3⟩, by simpa using a4, ?_⟩
  simp [a5, a6]

theorem key_head {cfg : Cfg} {kt k : List Byte} (h : Key cfg kt k) :
    ∃ kc kr, kt = kc :: kr ∧ Tok kc ∧ (kc == 0x7D) = false := by
  cases h with
  | quoted q body _ hq _ _ =>
    obtain ⟨tok, _, _, _, _, h7⟩ := isQuote_tok hq
    exact ⟨q, body ++ [q], by simp, tok, by simpa using h7⟩
  | bare _ hne hall =>
    cases kt with
    | nil => exact absurd rfl hne
    | cons c r =>
      obtain ⟨tok, h7, _⟩ := inUnquoted_facts (hall c (List.mem_cons_self ..))
      exact ⟨c, r, rfl, tok, h7⟩

/-- the key of a member, from the state latched on its first byte -/
theorem key_complete (cfg : Cfg) {kc : Byte} {kr k after : List Byte} (hk : Key cfg (kc :: kr) k)
    (hd : inUnquoted (after.headD 0) = false) {X : St} {p : Nat} (hS : Seen X (kc :: (kr ++ after)) p true) (n : Nat)
    (hn : kr.length < n) :
    ∃ q, Pos q after (p + (kc :: kr).length) true ∧ keyRes cfg n kc X = (.ok, k, q) := by
  unfold keyRes
  generalize hkt : kc :: kr = kt at hk
  cases hk with
  | quoted q body _ hq hb hl =>
    simp only [List.cons_append, List.cons.injEq] at hkt
    obtain ⟨rfl, rfl⟩ := hkt
    obtain ⟨_, _, _, k3, _, _⟩ := isQuote_tok hq
    have hA : At (mv X) (body ++ kc :: after) (p + 1) true := by simpa using hS.mv
    obtain ⟨q', he, hq'⟩ := parseQuoted_complete (cfg := cfg) (isQuote_facts hq).2.1 (fun _ => (isQuote_facts hq).2.2) (n + 1) body k [] 0 (mv X) after (p + 1) true hb
      (by decide) hA (by simp at hn; omega) (by simpa using hl)
    refine ⟨q', ?_, ?_⟩
    · rw [← len_bracket]; exact hq'.pos
    · simp only [k3, ↓reduceIte, he, List.reverse_nil, List.nil_append]
  | bare _ hne hall hlen =>
    subst hkt
    have hc := hall kc (List.mem_cons_self ..)
    obtain ⟨_, _, k3⟩ := inUnquoted_facts hc
    obtain ⟨Y, hY, hSY⟩ := parseUnquoted_complete (kc :: kr) hall hd (n + 1) [] X p true (by simpa using hS.pos)
      (by simp; omega)
    refine ⟨Y, by simpa using hSY.pos, ?_⟩
    simp only [k3, Bool.false_eq_true, ↓reduceIte, hc, hY, List.reverse_nil, List.nil_append]
    rw [if_neg (by omega)]

theorem value_head_d {cfg : Cfg} {L : Nat} {t : List Byte} {v : Val} (h : Value cfg L t v) :
    ∃ c cs, t = c :: cs ∧ Tok c ∧ c ≠ 0x5D ∧ c ≠ 0x7D := by
  cases h with
  | null => exact ⟨_, _, rfl, by decide, by decide, by decide⟩
  | «true» => exact ⟨_, _, rfl, by decide, by decide, by decide⟩
  | «false» => exact ⟨_, _, rfl, by decide, by decide, by decide⟩
  | num _ _ _ hn =>
    obtain ⟨c, cs, rfl, hc⟩ := numTok_head hn
    obtain ⟨tok, _, _, _, _, _, _, _, a, b⟩ := numStartD_facts hc
    exact ⟨c, cs, rfl, tok, a, b⟩
  | str _ q body s hq _ _ =>
    obtain ⟨tok, _, _, _, a, b⟩ := isQuote_tok hq
    exact ⟨q, body ++ [q], by simp, tok, a, b⟩
  | arrEmpty _ w _ => exact ⟨0x5B, w ++ [0x5D], by simp, by decide, by decide, by decide⟩
  | arr _ body xs _ => exact ⟨0x5B, body ++ [0x5D], by simp, by decide, by decide, by decide⟩
  | objEmpty _ w _ => exact ⟨0x7B, w ++ [0x7D], by simp, by decide, by decide, by decide⟩
  | obj _ body ms _ => exact ⟨0x7B, body ++ [0x7D], by simp, by decide, by decide, by decide⟩

theorem elements_head_d {cfg : Cfg} {L : Nat} {body : List Byte} {xs : List Val} (h : Elements cfg L body xs) :
    ∃ w1 c1 r1, body = w1 ++ c1 :: r1 ∧ DWs cfg w1 ∧ Tok c1 ∧ c1 ≠ 0x5D := by
  cases h with
  | one _ w1 t v w2 hw1 hv hw2 =>
    obtain ⟨c, cs, rfl, tok, a, _⟩ := value_head_d hv
    exact ⟨w1, c, cs ++ w2, by simp, hw1, tok, a⟩
  | cons _ w1 t v w2 rest vs hw1 hv hw2 hr =>
    obtain ⟨c, cs, rfl, tok, a, _⟩ := value_head_d hv
    exact ⟨w1, c, cs ++ w2 ++ 0x2C :: rest, by simp, hw1, tok, a⟩

theorem parseVariant_skip_d (cfg : Cfg) {c : Byte} {r w : List Byte} {s : St} {p : Nat} {f : Bool}
    (hc : Tok c) (hw : DWs cfg w) (h : Pos s (w ++ c :: r) p f) :
    ∃ X, Seen X (c :: r) (p + w.length) true ∧ (∀ n, w.length < n → skipSpaces cfg n s = (.ok, X)) ∧
      (∀ n L, w.length < n → parseVariant cfg n L X = parseVariant cfg n L s) ∧
      (∀ n L acc, w.length + 1 < n → parseElems cfg n L X acc = parseElems cfg n L s acc) := by
  obtain ⟨X, hS, hX⟩ := skipSpaces_dws cfg hc w hw s p f h
  have hpv : ∀ n L, w.length < n → parseVariant cfg n L X = parseVariant cfg n L s := by
    intro n L hn
    obtain ⟨m, rfl⟩ : ∃ m, n = m + 1 := ⟨n - 1, by omega⟩
    simp only [parseVariant, hX (m + 1) hn, skipSpaces_seen cfg hc hS m]
  refine ⟨X, hS, hX, hpv, ?_⟩
  intro n L acc hn
  obtain ⟨m, rfl⟩ : ∃ m, n = m + 1 := ⟨n - 1, by omega⟩
  simp only [parseElems, hpv m L (by omega)]

theorem lastWins_eq_d (ms : List (List Byte × Val)) : Spec.Dialect.lastWins ms = foldMembers [] ms := rfl

end JD
