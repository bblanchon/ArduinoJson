/- `appendPair`: appending a (key slot, value slot) pair to an object chain. Used by AJ/Props/C04.lean. -/
import AJ.Lemmas.DocFrame
namespace DL
open JD (Byte Val)

theorem appendPair_get {d : Doc} {l : Loc} {h t k v : Nat} (hv : d.get l = .obj h t) (hkl : Loc.slot k ≠ l) :
    d.appendPair l k v =
      if t ≠ d.null then ((d.setNext k v).setNext t k).set l (.obj h v) else (d.setNext k v).set l (.obj k v) := by
  have hg : (d.setNext k v).get l = d.get l := by
    cases l with
    | root => exact setNext_root d k v
    | slot i => exact get_of_cell (cell_setNext_ne d v (fun (e : k = i) => hkl (by rw [e])))
  simp only [Doc.appendPair, hg, hv, setNext_null]

/-- cells of the document after `appendPair` -/
theorem appendPair_cells_gen {d : Doc} {l : Loc} {h t k v nk : Nat} {kv : VData} (hv : d.get l = .obj h t)
    (hk : d.cell k = .var kv nk) (hkl : Loc.slot k ≠ l) (htl : Loc.slot t ≠ l) (hkt : t ≠ d.null → k ≠ t)
    (htv : t ≠ d.null → d.isVar t) :
    let d' := d.appendPair l k v
    d'.null = d.null ∧ d'.strings = d.strings ∧ d'.pl = d.pl ∧ d'.g = d.g ∧ d'.nextNode = d.nextNode ∧
    d'.overflowed = d.overflowed ∧
    d'.get l = .obj (if t ≠ d.null then h else k) v ∧
    d'.cell k = .var kv v ∧
    (∀ j, Loc.slot j ≠ l → j ≠ k → (t ≠ d.null → j ≠ t) → d'.cell j = d.cell j) ∧
    (t ≠ d.null → d'.cell t = .var (d.get (.slot t)) k) ∧
    (l ≠ .root → d'.root = d.root) ∧
    (∀ i, l = .slot i → d'.cell i = .var (.obj (if t ≠ d.null then h else k) v) (d.nextOf i)) := by
  intro d'
  have hd' : d' = _ := appendPair_get (v := v) hv hkl
  have hk0 : (d.setNext k v).cell k = .var kv v := cell_setNext_var hk v
  have ho0 : ∀ j, j ≠ k → (d.setNext k v).cell j = d.cell j := fun j hj => cell_setNext_ne d v (Ne.symm hj)
  -- `appendPair` links the key slot to the value slot, then appends the key slot as `appendOne` would
  have hc := append_cells (d.setNext k v) true h t k v htl
  simp only [setNext_null, coll] at hc
  rw [hd']
  obtain ⟨a1, a2, a3, a4, a5, a6, a7, a8, a9, a10, a11⟩ := hc
  refine ⟨a1, a2.trans (setNext_strings ..), a3.trans (setNext_pl ..), a4.trans (setNext_g ..),
    a5.trans (setNext_nextNode ..), a6.trans (by rw [setNext_eq]), a7, ?_, ?_, ?_,
    fun hl' => (a10 hl').trans (setNext_root ..), ?_⟩
  · rw [a8 k hkl hkt]; exact hk0
  · intro j hj hjk hjt; rw [a8 j hj hjt]; exact ho0 j hjk
  · intro htn
    have htk : t ≠ k := Ne.symm (hkt htn)
    rw [a9 htn (isVar_congr (ho0 t htk) (setNext_null ..) (htv htn)), get_of_cell (ho0 t htk)]
  · intro i hi
    rw [a11 i hi, nextOf_of_cell (ho0 i (fun e => hkl (by rw [hi, e]))) (setNext_null ..)]

theorem appendPair_cellsC {d : Doc} {l : Loc} {h t k v nk : Nat} {kv : VData} (hv : d.get l = .obj h t)
    (hk : d.cell k = .var kv nk) (hkl : Loc.slot k ≠ l) (htl : Loc.slot t ≠ l) (hkt : k ≠ t)
    (htv : t ≠ d.null → d.isVar t) :
    let d' := d.appendPair l k v
    d'.null = d.null ∧ d'.strings = d.strings ∧ d'.pl = d.pl ∧ d'.g = d.g ∧ d'.nextNode = d.nextNode ∧
    d'.overflowed = d.overflowed ∧
    d'.get l = .obj (if t ≠ d.null then h else k) v ∧
    d'.cell k = .var kv v ∧
    (∀ j, Loc.slot j ≠ l → j ≠ k → (t ≠ d.null → j ≠ t) → d'.cell j = d.cell j) ∧
    (t ≠ d.null → d'.cell t = .var (d.get (.slot t)) k) ∧
    (l ≠ .root → d'.root = d.root) ∧
    (∀ i, l = .slot i → d'.cell i = .var (.obj (if t ≠ d.null then h else k) v) (d.nextOf i)) :=
  appendPair_cells_gen hv hk hkl htl (fun _ => hkt) htv

theorem isKey_not_coll {v : VData} (h : isKey v) : ¬ isColl v := by
  cases v <;> first | exact fun h' => h' | exact absurd h (fun h' => h')
theorem isKey_ext {v : VData} (h : isKey v) : extOfV v = [] := by
  cases v <;> first | rfl | exact absurd h (fun h' => h')

/-- `CollectionData::appendPair` of a fresh key slot `k` (holding a string) and a fresh value slot `v` (holding null)
    to the object at `l`: the member `(key, null)` is appended and the key slot is a new holder; nothing else changes. -/
theorem appendPair_full {d : Doc} {F : Forest} {l : Loc} {h t k v nk : Nat} {kv : VData} (w : WFG d F) (hl : isLoc F l)
    (hv : d.get l = .obj h t) (hk : d.cell k = .var kv nk) (hkey : isKey kv) (hvc : d.cell v = .var .null d.null)
    (hkv : k ≠ v) (hkF : k ∉ F.ids) (hvF : v ∉ F.ids) (hklt : k < d.null) (hvlt : v < d.null)
    (hklive : PL.live d.g d.pl k) (hvlive : PL.live d.g d.pl v) :
    WFG (d.appendPair l k v) (replaceAt F l ((layoutAt F l).snoc (some k) v)) ∧
    abs (d.appendPair l k v) = absWith d F l (.obj (vals d noOv (layoutAt F l) ++ [(keyOfV d kv, .null)])) ∧
    ((d.appendPair l k v).strRefs (replaceAt F l ((layoutAt F l).snoc (some k) v))).Perm (strOfV kv ++ d.strRefs F) ∧
    (d.appendPair l k v).strings = d.strings ∧ (d.appendPair l k v).nextNode = d.nextNode := by
  have hvs : VOK d (.obj h t) (layoutAt F l) := hv ▸ VOK_at w hl
  obtain ⟨hlk, ht⟩ := (VOK_obj _ _ _ _).1 hvs
  obtain ⟨htf, htl⟩ := tail_facts w hl hlk ht
  have hkl : Loc.slot k ≠ l := fun e => hkF (isLoc_ids (e.symm ▸ hl))
  have hvl : Loc.slot v ≠ l := fun e => hvF (isLoc_ids (e.symm ▸ hl))
  have hkt : t ≠ d.null → k ≠ t := fun htn e => hkF (e ▸ (htf htn).2.2.1)
  have hvt : t ≠ d.null → v ≠ t := fun htn e => hvF (e ▸ (htf htn).2.2.1)
  obtain ⟨hn, hstr, hpl, hg, hnn, _, hget, hck, hco, hct, hroot, hci⟩ :=
    appendPair_cells_gen (v := v) hv hk hkl htl hkt (fun htn => (htf htn).2.2.2)
  generalize d.appendPair l k v = d' at *
  have hcv : d'.cell v = .var .null d.null := by
    rw [hco v hvl (Ne.symm hkv) hvt]; exact hvc
  have hnew : Lk d' true k (.cons (some k) v .nil .nil) := by
    rw [Lk_cons]
    refine ⟨⟨rfl, hn ▸ Nat.ne_of_lt hklt, isVar_of_var hck, by rw [get_of_var hck]; exact hkey, nextOf_of_var hck⟩,
      hn ▸ Nat.ne_of_lt hvlt, isVar_of_var hcv, ?_, ?_⟩
    · rw [nextOf_of_var hcv, Lk_nil, hn]
    · rw [get_of_var hcv]; rfl
  have hmemN : ∀ x ∈ Forest.keyL (some k) ++ [v], x = k ∨ x = v := fun x hx => by
    simpa [Forest.keyL] using hx
  obtain ⟨w', habs, hp⟩ := append_gen (b := true) (key := some k) (first := k) w hl hv
    (fun x hx => by
      rcases hmemN x hx with e | e
      · subst e; exact ⟨hkF, hklt, hklive⟩
      · subst e; exact ⟨hvF, hvlt, hvlive⟩)
    (by simp [Forest.keyL, hkv])
    (fun q hq => by rw [List.mem_singleton.1 hq]; exact isVar_of_var hk) hnew hcv
    (fun q hq => by rw [List.mem_singleton.1 hq, get_of_var hck]; exact isKey_ext hkey) hn hstr hpl hg hget
    (fun j hj hjk hjt => hco j hj (fun e => hjk (by rw [e]; exact List.mem_singleton.2 rfl)) hjt)
    (fun htn _ => hct htn) hroot hci
  have hkb : keyB d' (some k) = keyOfV d kv := by
    simp only [keyB, get_of_var hck]
    cases kv <;> first | rfl | simp only [keyOfV, strBytes_of_strings hstr]
  refine ⟨w', by rw [habs, hkb]; rfl, ?_, hstr, hnn⟩
  simpa only [Forest.keyL, List.flatMap_cons, List.flatMap_nil, List.append_nil, get_of_var hck] using hp

theorem appendPair_spec {d : Doc} {F : Forest} {l : Loc} {h t k v nk : Nat} {kv : VData} (w : WFG d F) (hl : isLoc F l)
    (hv : d.get l = .obj h t) (hk : d.cell k = .var kv nk) (hkey : isKey kv) (hvc : d.cell v = .var .null d.null)
    (hkv : k ≠ v) (hkF : k ∉ F.ids) (hvF : v ∉ F.ids) (hklt : k < d.null) (hvlt : v < d.null)
    (hklive : PL.live d.g d.pl k) (hvlive : PL.live d.g d.pl v) :
    WFG (d.appendPair l k v) (replaceAt F l ((layoutAt F l).snoc (some k) v)) ∧
    ∃ ms, d.toVal (d.get l) = .obj ms ∧
      abs (d.appendPair l k v) = absWith d F l (.obj (ms ++ [(keyOfV d kv, .null)])) := by
  obtain ⟨w', habs, _⟩ := appendPair_full w hl hv hk hkey hvc hkv hkF hvF hklt hvlt hklive hvlive
  exact ⟨w', vals d noOv (layoutAt F l), by rw [toVal_at w hl, hv]; rfl, habs⟩

end DL
