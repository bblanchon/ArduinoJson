/- What `JSer.compact` / `JSer.pretty` write is a text of the RFC 8259 grammar (`Spec.Json.Value`), and it denotes
   the document: strings (`Body`), numbers (`NumLit`), then the mutual induction over values / elements / members.
   Used on both sides: AJ/Lemmas/SerGrammar.lean + AJ/Props/C02.lean (with C07), and AJ/Props/C02Parse.lean (with C01). -/
import AJ.Spec.Json
import AJ.Lemmas.NumLit
import AJ.Lemmas.JsonComplete
import AJ.Lemmas.Digits
import AJ.Lemmas.Quoted
import AJ.Lemmas.Bits
import AJ.Lemmas.FloatLen
import AJ.Lemmas.IntText
-- powers of two in the statements below are read with Mathlib's `Monoid.Pow` on ℕ and ℤ, as in the files on numbers that use them
import Mathlib.Algebra.Group.Nat.Defs
import Mathlib.Algebra.Group.Int.Defs
namespace SerG
open JD JS JSer Spec.Json

/-! ## strings -/

/-- a byte that the serializer writes in a form the RFC allows: not a "bare" control character, i.e. not one of
    0x01..0x1F other than the five that have a two-character escape (NUL is written `\u0000`) -/
def PrintableByte (c : Byte) : Prop := c ≥ 0x20 ∨ c ∈ [0x08, 0x09, 0x0A, 0x0C, 0x0D] ∨ c = 0

instance (c : Byte) : Decidable (PrintableByte c) := by unfold PrintableByte; infer_instance

def Printable (s : List Byte) : Prop := ∀ c ∈ s, PrintableByte c

instance (s : List Byte) : Decidable (Printable s) := by unfold Printable; infer_instance

/-- the escape table of the serializer, byte by byte (all 256 by evaluation): a two-character escape is given to the
    quote, the backslash and the five control characters BS HT LF FF CR, with the letter that RFC 8259 assigns -/
theorem escapeChar_cases (c : Byte) :
    (escapeChar c ≠ 0 ∧ (escapeChar c, c) ∈ rfcEscapes ∧ (c = 0x22 ∨ c = 0x5C ∨ c ∈ [0x08, 0x09, 0x0A, 0x0C, 0x0D])) ∨
    (escapeChar c = 0 ∧ c ≠ 0x22 ∧ c ≠ 0x5C ∧ c ∉ [0x08, 0x09, 0x0A, 0x0C, 0x0D]) := by
  have key : ∀ c : UInt8, decide (
      (escapeChar c ≠ 0 ∧ (escapeChar c, c) ∈ rfcEscapes ∧ (c = 0x22 ∨ c = 0x5C ∨ c ∈ [0x08, 0x09, 0x0A, 0x0C, 0x0D])) ∨
      (escapeChar c = 0 ∧ c ≠ 0x22 ∧ c ≠ 0x5C ∧ c ∉ [0x08, 0x09, 0x0A, 0x0C, 0x0D])) = true := by
    apply Bits.all_bytes; decide +kernel
  exact of_decide_eq_true (key c)

/-- the three things `writeChar` does: a two-character escape, `\u0000` for NUL, the byte itself -/
theorem writeChar_cases (c : Byte) :
    (escapeChar c ≠ 0 ∧ writeChar c = [0x5C, escapeChar c] ∧ (escapeChar c, c) ∈ rfcEscapes) ∨
    (c = 0 ∧ writeChar c = [0x5C, 0x75, 0x30, 0x30, 0x30, 0x30]) ∨
    (escapeChar c = 0 ∧ c ≠ 0 ∧ writeChar c = [c] ∧ c ≠ 0x22 ∧ c ≠ 0x5C ∧ (PrintableByte c → 0x20 ≤ c)) := by
  rcases escapeChar_cases c with ⟨hne, hm, _⟩ | ⟨h0, n1, n2, n5⟩
  · refine Or.inl ⟨hne, ?_, hm⟩
    show (if (escapeChar c != 0) = true then _ else _) = _
    rw [if_pos (bne_iff_ne.mpr hne)]
  · have hw : writeChar c = if (c != 0) = true then [c] else [0x5C, 0x75, 0x30, 0x30, 0x30, 0x30] := by
      show (if (escapeChar c != 0) = true then _ else _) = _
      rw [if_neg (by rw [h0]; decide)]
    by_cases hc : c = 0
    · exact Or.inr (Or.inl ⟨hc, by rw [hw, if_neg (by rw [hc]; decide)]⟩)
    · refine Or.inr (Or.inr ⟨h0, hc, by rw [hw, if_pos (bne_iff_ne.mpr hc)], n1, n2, ?_⟩)
      rintro (h | h | h)
      · exact h
      · exact absurd h n5
      · exact absurd h hc

theorem utf8_zero : Spec.utf8 (0 * 4096 + 0 * 256 + 0 * 16 + 0) = [0] := by decide

/-- one source byte in front of a string body -/
theorem body_writeChar (c : Byte) (hp : PrintableByte c) {t v : List Byte} (h : Body 0x22 t v) :
    Body 0x22 (writeChar c ++ t) (c :: v) := by
  rcases writeChar_cases c with ⟨_, hw, hm⟩ | ⟨rfl, hw⟩ | ⟨_, _, hw, n1, n2, hge⟩
  · rw [hw]; exact Body.esc _ _ t v hm h
  · rw [hw]
    have := Body.bmp (stop := 0x22) 0x30 0x30 0x30 0x30 0 0 0 0 t v (by decide) (by decide) (by decide) (by decide)
      (by decide) h
    rw [utf8_zero] at this
    exact this
  · rw [hw]; exact Body.plain c t v (hge hp) n1 n2 h

/-- the text between the quotes is an RFC string body that denotes exactly the source bytes -/
theorem body_escaped (s : List Byte) (hp : Printable s) : Body 0x22 (s.flatMap writeChar) s := by
  induction s with
  | nil => exact Body.nil
  | cons c cs ih =>
    rw [List.flatMap_cons]
    exact body_writeChar c (hp c (by simp)) (ih (fun x hx => hp x (by simp [hx])))

/-- no string body starts with a control character -/
theorem body_no_control {c : Byte} (hc : c < 0x20) (t v : List Byte) : ¬ Body 0x22 (c :: t) v := by
  intro h
  cases h with
  | plain _ _ _ hge => exact absurd hge (by simpa [UInt8.not_le] using hc)
  | esc => exact absurd hc (by decide)
  | bmp => exact absurd hc (by decide)
  | pair => exact absurd hc (by decide)

/-- a bare control character is copied as it is -/
theorem writeChar_control {c : Byte} (h1 : 0x01 ≤ c) (h2 : c ≤ 0x1F) (h3 : c ∉ [0x08, 0x09, 0x0A, 0x0C, 0x0D]) :
    writeChar c = [c] := by
  rcases writeChar_cases c with ⟨hne, _, _⟩ | ⟨rfl, _⟩ | ⟨_, _, hw, _⟩
  · rcases escapeChar_cases c with ⟨_, _, rfl | rfl | h⟩ | ⟨h0, _⟩
    · exact absurd h2 (by decide)
    · exact absurd h2 (by decide)
    · exact absurd h h3
    · exact absurd h0 hne
  · exact absurd h1 (by decide)
  · exact hw

theorem not_printable_iff (c : Byte) :
    ¬ PrintableByte c ↔ (0x01 ≤ c ∧ c ≤ 0x1F ∧ c ∉ [0x08, 0x09, 0x0A, 0x0C, 0x0D]) := by
  have h0 : c = 0 ↔ c.toNat = 0 := ⟨fun e => e ▸ rfl, fun e => UInt8.toNat_inj.mp e⟩
  unfold PrintableByte
  rw [not_or, not_or, h0, ge_iff_le, UInt8.le_iff_toNat_le, UInt8.le_iff_toNat_le, UInt8.le_iff_toNat_le]
  show (¬ 32 ≤ c.toNat ∧ _ ∧ ¬ c.toNat = 0) ↔ (1 ≤ c.toNat ∧ c.toNat ≤ 31 ∧ _)
  constructor
  · rintro ⟨a, b, d⟩; exact ⟨by omega, by omega, b⟩
  · rintro ⟨a, b, d⟩; exact ⟨by omega, d, by omega⟩

/-- inversion: a body that starts with what `writeChar c` wrote continues with a body -/
theorem body_writeChar_inv (c : Byte) {t v : List Byte} (h : Body 0x22 (writeChar c ++ t) v) :
    PrintableByte c ∧ ∃ v', Body 0x22 t v' := by
  rcases writeChar_cases c with ⟨hne, hw, hm⟩ | ⟨rfl, hw⟩ | ⟨_, h0, hw, n1, n2, _⟩
  · have f := escape_facts c hne
    rw [hw] at h
    refine ⟨?_, ?_⟩
    · rcases escapeChar_cases c with ⟨_, _, rfl | rfl | h5⟩ | ⟨h0, _⟩
      · exact Or.inl (by decide)
      · exact Or.inl (by decide)
      · exact Or.inr (Or.inl h5)
      · exact absurd h0 hne
    · generalize he : escapeChar c = e at h f
      cases h with
      | plain _ _ _ _ _ hb => exact absurd rfl hb
      | esc _ _ _ v' _ hb => exact ⟨v', hb⟩
      | bmp => exact absurd rfl f.2.1
      | pair => exact absurd rfl f.2.1
  · refine ⟨Or.inr (Or.inr rfl), ?_⟩
    rw [hw] at h
    cases h with
    | plain _ _ _ _ _ hb => exact absurd rfl hb
    | esc _ _ _ _ hm => exact absurd rfl (rfcEscapes_facts hm).2.1
    | bmp _ _ _ _ _ _ _ _ _ v' _ _ _ _ _ hb => exact ⟨v', hb⟩
    | pair _ _ _ _ _ _ _ _ x1 x2 x3 x4 _ _ _ _ hiu _ _ _ a1 a2 a3 a4 _ _ _ _ ehi _ hr =>
      have e0 : Spec.hexVal 0x30 = some 0 := by decide
      rw [e0] at a1 a2 a3 a4
      cases a1; cases a2; cases a3; cases a4
      omega
  · rw [hw] at h
    have h' : Body 0x22 (c :: t) v := h
    refine ⟨?_, ?_⟩
    · apply Classical.byContradiction
      intro hnp
      have := (not_printable_iff c).mp hnp
      exact body_no_control (c := c) (by
        have : c ≤ 0x1F := this.2.1
        exact UInt8.lt_iff_toNat_lt.mpr (by have := UInt8.le_iff_toNat_le.mp this; simpa using Nat.lt_succ_of_le this)) t v h'
    · cases h' with
      | plain _ _ v' _ _ _ hb => exact ⟨v', hb⟩
      | esc => exact absurd rfl n2
      | bmp => exact absurd rfl n2
      | pair => exact absurd rfl n2

/-- **exactly** the strings without bare control characters are written as RFC string bodies -/
theorem body_escaped_iff (s : List Byte) : (∃ v, Body 0x22 (s.flatMap writeChar) v) ↔ Printable s := by
  constructor
  · induction s with
    | nil => intro _ c hc; cases hc
    | cons c cs ih =>
      rintro ⟨v, h⟩
      rw [List.flatMap_cons] at h
      obtain ⟨hp, v', hb⟩ := body_writeChar_inv c h
      intro x hx
      rcases List.mem_cons.mp hx with rfl | hx
      · exact hp
      · exact ih ⟨v', hb⟩ x hx
  · intro h; exact ⟨s, body_escaped s h⟩

/-! ## numbers -/

theorem digits1_of {ds : List Byte} (h : Digits.AllDigits ds) (hne : ds ≠ []) : Digits1 ds := ⟨hne, h⟩

/-- the decimal digits of a natural number are an RFC `int`: `0`, or digits without a leading zero -/
theorem intPart_digits_nat (n : Nat) : IntPart (digits n) := by
  obtain ⟨h1, _, h3, h4⟩ := Digits.digits_spec n
  by_cases h0 : n = 0
  · subst h0; exact Or.inl (by decide)
  · exact Or.inr ⟨digits1_of h1 h3, h4 h0⟩

/-- an optional minus sign and the digits of a number of at most 62 digits: an RFC number literal -/
theorem numLit_signed_digits (neg : Bool) (n : Nat) (hl : (digits n).length ≤ 62) :
    NumLit ((if neg then [0x2D] else []) ++ digits n) := by
  refine ⟨?_, (if neg then [0x2D] else []), digits n, [], [], ?_, intPart_digits_nat n, Or.inl rfl, Or.inl rfl, by simp⟩
  · cases neg <;> simp <;> omega
  · cases neg <;> simp

theorem numLit_uint (cfg : Cfg) (n : Nat) (h : n < 2 ^ 64) : NumLit (printNum cfg (.uint n)) := by
  have := FloatLen.digits_length_le_20 n h
  have e := numLit_signed_digits false n (by omega)
  rw [Digits.print_uint]
  simpa using e

theorem numLit_sint (cfg : Cfg) (i : Int) (h1 : -(2 ^ 64 : Int) < i) (h2 : i < 2 ^ 64) : NumLit (printNum cfg (.sint i)) := by
  have := FloatLen.digits_length_le_20 i.natAbs (by omega)
  have e := numLit_signed_digits (decide (i < 0)) i.natAbs (by omega)
  rw [Digits.print_sint]
  by_cases hn : i < 0
  · simpa [hn] using e
  · simpa [hn] using e

theorem numVal_uint (cfg : Cfg) (n : Nat) (h : n < 2 ^ 64) : numVal cfg (printNum cfg (.uint n)) = .num (.uint n) := by
  rw [numVal_eq cfg (numLit_uint cfg n h), Digits.roundtrip_uint cfg n h]; rfl

theorem numVal_sint_neg (cfg : Cfg) (i : Int) (h1 : -(2 ^ 63 : Int) ≤ i) (h2 : i < 0) :
    numVal cfg (printNum cfg (.sint i)) = .num (.sint i) := by
  rw [numVal_eq cfg (numLit_sint cfg i (by omega) (by omega)), Digits.roundtrip_sint_neg cfg i h1 h2]; rfl

theorem numVal_sint_nonneg (cfg : Cfg) (i : Int) (h1 : 0 ≤ i) (h2 : i < 2 ^ 64) :
    numVal cfg (printNum cfg (.sint i)) = .num (.uint i.toNat) := by
  rw [numVal_eq cfg (numLit_sint cfg i (by omega) h2), Digits.roundtrip_sint_nonneg cfg i h1 h2]; rfl

/-- **the text of a finite float is an RFC number literal**: the integral part is printed by `digits` (no leading
    zero), a decimal point is followed by `decimalPlaces > 0` digits, the exponent is `e`, an optional `-`, digits;
    at most `17 + places ≤ 63` bytes -/
theorem numLit_writeFloat (cfg : Cfg) (v places : Nat) (hpl : places ≤ 46)
    (h1 : SF.isNaN SF.b64 v = false) (h2 : SF.isInf SF.b64 v = false) : NumLit (writeFloat cfg v places) := by
  have hl := FloatLen.writeFloat_length_le cfg v places
  refine ⟨by omega, ?_⟩
  simp only [writeFloat, h1, h2, Bool.false_eq_true, ↓reduceIte]
  generalize decompose (if SF.lt SF.b64 v 0 = true then SF.absBits SF.b64 v else v) places = p
  refine ⟨_, digits p.integral, _, _, ?_, intPart_digits_nat _, ?_, ?_, rfl⟩
  · split
    · exact Or.inr rfl
    · exact Or.inl rfl
  · split
    · rename_i hp
      refine Or.inr ⟨padDigits p.decimal p.decimalPlaces, digits1_of (FloatLen.padDigits_allDigits _ _) ?_, rfl⟩
      intro e
      have := FloatLen.padDigits_length p.decimal p.decimalPlaces
      rw [e] at this
      simp at this
      omega
    · exact Or.inl rfl
  · split
    · refine Or.inr ⟨0x65, (if p.exponent < 0 then [0x2D] else []), digits p.exponent.natAbs, Or.inl rfl, ?_,
        digits1_of (Digits.digits_spec _).1 (Digits.digits_spec _).2.2.1, rfl⟩
      split
      · exact Or.inr (Or.inr rfl)
      · exact Or.inl rfl
    · exact Or.inl rfl

theorem writeFloat_nonfinite (cfg : Cfg) (v places : Nat) (hnan : cfg.nan = false) (hinf : cfg.inf = false)
    (h : (SF.isNaN SF.b64 v || SF.isInf SF.b64 v) = true) : writeFloat cfg v places = [0x6E, 0x75, 0x6C, 0x6C] := by
  cases h1 : SF.isNaN SF.b64 v
  · have h2 : SF.isInf SF.b64 v = true := by simpa [h1] using h
    simp only [writeFloat, h1, h2, hinf, Bool.false_eq_true, ↓reduceIte, kw_null]
  · simp only [writeFloat, h1, hnan, Bool.false_eq_true, ↓reduceIte, kw_null]

/-! ## the document that the text denotes -/

/-- a float node: `null` when not finite (default configuration), else the value of its own text as a number literal -/
def denoteFloat (cfg : Cfg) (w places : Nat) : Val :=
  if SF.isNaN SF.b64 w || SF.isInf SF.b64 w then .null else numVal cfg (writeFloat cfg w places)

/-- integers exactly (a non-negative signed integer is read as unsigned) -/
def denoteNum (cfg : Cfg) : Num → Val
  | .uint n => .num (.uint n)
  | .sint i => if 0 ≤ i then .num (.uint i.toNat) else .num (.sint i)
  | .f32 b => denoteFloat cfg (cvt SF.b32 SF.b64 b) 6
  | .f64 b => denoteFloat cfg b 9

mutual
/-- the document denoted by the serialized text: same structure and order, strings and keys identical, numbers as above,
    objects with `lastWins` applied to their members (the identity when keys are distinct) -/
def denote (cfg : Cfg) : Val → Val
  | .arr xs => .arr (denoteE cfg xs)
  | .obj ms => .obj (Spec.Json.lastWins (denoteM cfg ms))
  | .num n => denoteNum cfg n
  | .null => .null
  | .bool b => .bool b
  | .str s => .str s
  | .raw s => .raw s
def denoteE (cfg : Cfg) : List Val → List Val
  | [] => []
  | x :: r => denote cfg x :: denoteE cfg r
def denoteM (cfg : Cfg) : List (List Byte × Val) → List (List Byte × Val)
  | [] => []
  | (k, v) :: r => (k, denote cfg v) :: denoteM cfg r
end

/-- a float that the configuration writes as JSON: any float when the `NaN`/`Infinity` options are off (non-finite
    ones are then written `null`), a finite one otherwise -/
def FloatOk (cfg : Cfg) (w : Nat) : Prop :=
  (cfg.nan = false ∧ cfg.inf = false) ∨ (SF.isNaN SF.b64 w = false ∧ SF.isInf SF.b64 w = false)
def NumFloatOk (cfg : Cfg) : Num → Prop
  | .f64 b => FloatOk cfg b
  | .f32 b => FloatOk cfg (cvt SF.b32 SF.b64 b)
  | _ => True
/-- an integer node that fits 64 bits: unsigned below 2^64, signed in [-2^63, 2^64) -/
def IntOk : Num → Prop
  | .uint n => n < 2 ^ 64
  | .sint i => -(2 ^ 63 : Int) ≤ i ∧ i < 2 ^ 64
  | _ => True

mutual
/-- the hypotheses of the theorems, as one recursive predicate: no raw node; integers in range; floats that the
    configuration writes as JSON; strings and keys within `cfg.maxStrLen` and without bare control characters -/
def Ok (cfg : Cfg) : Val → Prop
  | .arr xs => OkE cfg xs
  | .obj ms => OkM cfg ms
  | .num n => IntOk n ∧ NumFloatOk cfg n
  | .str s => s.length ≤ cfg.maxStrLen ∧ Printable s
  | .raw _ => False
  | .null => True
  | .bool _ => True
def OkE (cfg : Cfg) : List Val → Prop
  | [] => True
  | x :: r => Ok cfg x ∧ OkE cfg r
def OkM (cfg : Cfg) : List (List Byte × Val) → Prop
  | [] => True
  | (k, v) :: r => (k.length ≤ cfg.maxStrLen ∧ Printable k) ∧ Ok cfg v ∧ OkM cfg r
end

/-- a number node: its text is a value of the grammar and denotes `denoteNum` -/
theorem value_num (cfg : Cfg) (L : Nat) (n : Num)
    (hi : IntOk n) (hf : NumFloatOk cfg n) : Value cfg L (printNum cfg n) (denoteNum cfg n) := by
  have fl : ∀ w places, places ≤ 46 → FloatOk cfg w → Value cfg L (writeFloat cfg w places) (denoteFloat cfg w places) := by
    intro w places hp hok
    unfold denoteFloat
    split
    · rename_i h
      rcases hok with ⟨hnan, hinf⟩ | ⟨f1, f2⟩
      · rw [writeFloat_nonfinite cfg w places hnan hinf h]; exact Value.null L
      · rw [f1, f2] at h; exact absurd h (by decide)
    · rename_i h
      obtain ⟨h1, h2⟩ := Bool.or_eq_false_iff.mp (Bool.eq_false_iff.mpr h)
      exact Value.num L _ (numLit_writeFloat cfg w places hp h1 h2)
  cases n with
  | uint m =>
    have hm : m < 2 ^ 64 := hi
    have := Value.num (cfg := cfg) L _ (numLit_uint cfg m hm)
    rw [numVal_uint cfg m hm] at this
    exact this
  | sint i =>
    have hr : -(2 ^ 63 : Int) ≤ i ∧ i < 2 ^ 64 := hi
    have := Value.num (cfg := cfg) L _ (numLit_sint cfg i (by omega) hr.2)
    simp only [denoteNum]
    split
    · rename_i h0; rw [numVal_sint_nonneg cfg i h0 hr.2] at this; exact this
    · rename_i h0; rw [numVal_sint_neg cfg i hr.1 (by omega)] at this; exact this
  | f32 b => exact fl _ 6 (by decide) hf
  | f64 b => exact fl _ 9 (by decide) hf

theorem value_str (cfg : Cfg) (L : Nat) (s : List Byte) (hp : Printable s) (hl : s.length ≤ cfg.maxStrLen) :
    Value cfg L (writeString s) (.str s) := Value.str L _ s (body_escaped s hp) hl

/-! ## one production at a time, the texts of the parts being variables -/

theorem value_null (cfg : Cfg) (L : Nat) : Value cfg L "null".toUTF8.toList .null := by
  rw [kw_null]; exact Value.null L

theorem value_true (cfg : Cfg) (L : Nat) : Value cfg L "true".toUTF8.toList (.bool true) := by
  rw [kw_true]; exact Value.true L

theorem value_false (cfg : Cfg) (L : Nat) : Value cfg L "false".toUTF8.toList (.bool false) := by
  rw [kw_false]; exact Value.false L

theorem value_arrEmpty {cfg : Cfg} {L : Nat} (hL : 1 ≤ L) : Value cfg L [0x5B, 0x5D] (.arr []) := by
  obtain ⟨L', rfl⟩ : ∃ L', L = L' + 1 := ⟨L - 1, by omega⟩
  exact Value.arrEmpty L' [] ws_nil

theorem value_objEmpty {cfg : Cfg} {L : Nat} (hL : 1 ≤ L) : Value cfg L [0x7B, 0x7D] (.obj []) := by
  obtain ⟨L', rfl⟩ : ∃ L', L = L' + 1 := ⟨L - 1, by omega⟩
  exact Value.objEmpty L' [] ws_nil

/-- brackets around elements that fit one level less -/
theorem value_arr {cfg : Cfg} {d L : Nat} {body : List Byte} {xs : List Val} (hL : d + 1 ≤ L)
    (h : ∀ L', d ≤ L' → Elements cfg L' body xs) : Value cfg L (0x5B :: body ++ [0x5D]) (.arr xs) := by
  obtain ⟨L', rfl⟩ : ∃ L', L = L' + 1 := ⟨L - 1, by omega⟩
  exact Value.arr L' body xs (h L' (by omega))

/-- braces around members that fit one level less -/
theorem value_obj {cfg : Cfg} {d L : Nat} {body : List Byte} {ms : List (List Byte × Val)} (hL : d + 1 ≤ L)
    (h : ∀ L', d ≤ L' → Members cfg L' body ms) : Value cfg L (0x7B :: body ++ [0x7D]) (.obj (lastWins ms)) := by
  obtain ⟨L', rfl⟩ : ∃ L', L = L' + 1 := ⟨L - 1, by omega⟩
  exact Value.obj L' body ms (h L' (by omega))

section productions
variable {cfg : Cfg} {L : Nat} {t rest w1 w2 i : List Byte} {v : Val} {vs : List Val} {k : List Byte}
  {ms : List (List Byte × Val)}

/-! without whitespace (`compact`) -/

theorem elems_one (hv : Value cfg L t v) : Elements cfg L t [v] := by
  simpa using Elements.one L [] t v [] ws_nil hv ws_nil

theorem elems_cons (hv : Value cfg L t v) (hr : Elements cfg L rest vs) :
    Elements cfg L (t ++ 0x2C :: rest) (v :: vs) := by
  simpa using Elements.cons L [] t v [] rest vs ws_nil hv ws_nil hr

theorem members_one (hk : k.length ≤ cfg.maxStrLen ∧ Printable k) (hv : Value cfg L t v) :
    Members cfg L (writeString k ++ 0x3A :: t) [(k, v)] := by
  simpa [writeString] using
    Members.one L [] _ k [] [] t v [] ws_nil (body_escaped k hk.2) hk.1 ws_nil ws_nil hv ws_nil

theorem members_cons (hk : k.length ≤ cfg.maxStrLen ∧ Printable k) (hv : Value cfg L t v) (hr : Members cfg L rest ms) :
    Members cfg L (writeString k ++ 0x3A :: t ++ 0x2C :: rest) ((k, v) :: ms) := by
  simpa [writeString] using
    Members.cons L [] _ k [] [] t v [] rest ms ws_nil (body_escaped k hk.2) hk.1 ws_nil ws_nil hv ws_nil hr

/-! one item per line (`pretty`): `w1`, `w2` are the whitespace of the enclosing production, `i` the indentation -/

theorem ws_append {a b : List Byte} (ha : Ws a) (hb : Ws b) : Ws (a ++ b) := by
  intro c hc
  rcases List.mem_append.mp hc with h | h
  · exact ha c h
  · exact hb c h

theorem ws_crlf : Ws crlf := by
  intro c hc
  simp only [crlf, List.mem_cons, List.not_mem_nil, or_false] at hc
  rcases hc with rfl | rfl
  · exact Or.inr (Or.inr (Or.inr rfl))
  · exact Or.inr (Or.inr (Or.inl rfl))

/-- whatever the (8-bit, wrapping) nesting counter is, the indentation consists of spaces -/
theorem ws_indent (n : Nat) : Ws (indent n) := by
  intro c hc
  simp only [indent, List.mem_flatten, List.mem_replicate] at hc
  obtain ⟨l, ⟨_, rfl⟩, hc⟩ := hc
  simp only [tab, List.mem_cons, List.not_mem_nil, or_false, or_self] at hc
  exact Or.inl hc

theorem ws_space : Ws [0x20] := by
  intro c hc
  simp only [List.mem_cons, List.not_mem_nil, or_false] at hc
  exact Or.inl hc

theorem elems_line (h1 : Ws w1) (hi : Ws i) (h2 : Ws w2) (hv : Value cfg L t v) :
    Elements cfg L (w1 ++ (i ++ t ++ crlf) ++ w2) [v] := by
  simpa only [List.append_assoc] using
    Elements.one L (w1 ++ i) t v (crlf ++ w2) (ws_append h1 hi) hv (ws_append ws_crlf h2)

theorem elems_lines (h1 : Ws w1) (hi : Ws i) (hv : Value cfg L t v) (hr : Elements cfg L (crlf ++ rest ++ w2) vs) :
    Elements cfg L (w1 ++ (i ++ t ++ 0x2C :: crlf ++ rest) ++ w2) (v :: vs) := by
  simpa only [List.append_assoc, List.cons_append, List.nil_append, List.append_nil] using
    Elements.cons L (w1 ++ i) t v [] _ vs (ws_append h1 hi) hv ws_nil hr

theorem members_line (h1 : Ws w1) (hi : Ws i) (h2 : Ws w2) (hk : k.length ≤ cfg.maxStrLen ∧ Printable k)
    (hv : Value cfg L t v) :
    Members cfg L (w1 ++ (i ++ writeString k ++ [0x3A, 0x20] ++ t ++ crlf) ++ w2) [(k, v)] := by
  simpa only [writeString, List.append_assoc, List.cons_append, List.nil_append, List.append_nil] using
    Members.one L (w1 ++ i) _ k [] [0x20] t v (crlf ++ w2) (ws_append h1 hi) (body_escaped k hk.2) hk.1 ws_nil
      ws_space hv (ws_append ws_crlf h2)

theorem members_lines (h1 : Ws w1) (hi : Ws i) (hk : k.length ≤ cfg.maxStrLen ∧ Printable k)
    (hv : Value cfg L t v) (hr : Members cfg L (crlf ++ rest ++ w2) ms) :
    Members cfg L (w1 ++ (i ++ writeString k ++ [0x3A, 0x20] ++ t ++ 0x2C :: crlf ++ rest) ++ w2) ((k, v) :: ms) := by
  simpa only [writeString, List.append_assoc, List.cons_append, List.nil_append, List.append_nil] using
    Members.cons L (w1 ++ i) _ k [] [0x20] t v [] _ ms (ws_append h1 hi) (body_escaped k hk.2) hk.1 ws_nil
      ws_space hv ws_nil hr

end productions

/-! ## `serializeJson`: the compact text -/

mutual
theorem compact_value (cfg : Cfg) :
    ∀ (v : Val) (L : Nat), Ok cfg v → depth v ≤ L → Value cfg L (compact cfg v) (denote cfg v)
  | .arr [], _, _, hd => value_arrEmpty hd
  | .arr (x :: xs), _, h, hd =>
    value_arr hd fun L' hd' => compact_elems cfg (x :: xs) L' (List.cons_ne_nil x xs) h hd'
  | .obj [], _, _, hd => value_objEmpty hd
  | .obj (m :: ms), _, h, hd =>
    value_obj hd fun L' hd' => compact_members cfg (m :: ms) L' (List.cons_ne_nil m ms) h hd'
  | .null, L, _, _ => value_null cfg L
  | .bool true, L, _, _ => value_true cfg L
  | .bool false, L, _, _ => value_false cfg L
  | .num n, L, h, _ => value_num cfg L n h.1 h.2
  | .str s, L, h, _ => value_str cfg L s h.2 h.1
  | .raw _, _, h, _ => h.elim
theorem compact_elems (cfg : Cfg) :
    ∀ (xs : List Val) (L : Nat), xs ≠ [] → OkE cfg xs → depthList xs ≤ L →
      Elements cfg L (compactElems cfg xs) (denoteE cfg xs)
  | [], _, hne, _, _ => absurd rfl hne
  | [x], L, _, h, hd => elems_one (compact_value cfg x L h.1 (Nat.max_le.mp hd).1)
  | x :: y :: r, L, _, h, hd =>
    elems_cons (compact_value cfg x L h.1 (Nat.max_le.mp hd).1)
      (compact_elems cfg (y :: r) L (List.cons_ne_nil y r) h.2 (Nat.max_le.mp hd).2)
theorem compact_members (cfg : Cfg) :
    ∀ (ms : List (List Byte × Val)) (L : Nat), ms ≠ [] → OkM cfg ms → depthMembers ms ≤ L →
      Members cfg L (compactMembers cfg ms) (denoteM cfg ms)
  | [], _, hne, _, _ => absurd rfl hne
  | [(_, v)], L, _, h, hd => members_one h.1 (compact_value cfg v L h.2.1 (Nat.max_le.mp hd).1)
  | (_, v) :: (k2, v2) :: r, L, _, h, hd =>
    members_cons h.1 (compact_value cfg v L h.2.1 (Nat.max_le.mp hd).1)
      (compact_members cfg ((k2, v2) :: r) L (List.cons_ne_nil _ r) h.2.2 (Nat.max_le.mp hd).2)
end

/-! ## `serializeJsonPretty`: line ends and indentation are insignificant whitespace -/

mutual
theorem pretty_value (cfg : Cfg) :
    ∀ (v : Val) (n L : Nat), Ok cfg v → depth v ≤ L → Value cfg L (pretty cfg n v) (denote cfg v)
  | .arr [], _, _, _, hd => value_arrEmpty hd
  | .arr (x :: xs), n, _, h, hd =>
    value_arr hd fun L' hd' =>
      pretty_elems cfg (x :: xs) (n + 1) L' crlf (indent n) (List.cons_ne_nil x xs) ws_crlf (ws_indent n) h hd'
  | .obj [], _, _, _, hd => value_objEmpty hd
  | .obj (m :: ms), n, _, h, hd =>
    value_obj hd fun L' hd' =>
      pretty_members cfg (m :: ms) (n + 1) L' crlf (indent n) (List.cons_ne_nil m ms) ws_crlf (ws_indent n) h hd'
  | .null, _, L, _, _ => value_null cfg L
  | .bool true, _, L, _, _ => value_true cfg L
  | .bool false, _, L, _, _ => value_false cfg L
  | .num x, _, L, h, _ => value_num cfg L x h.1 h.2
  | .str s, _, L, h, _ => value_str cfg L s h.2 h.1
  | .raw _, _, _, h, _ => h.elim
theorem pretty_elems (cfg : Cfg) :
    ∀ (xs : List Val) (n L : Nat) (w1 w2 : List Byte), xs ≠ [] → Ws w1 → Ws w2 → OkE cfg xs →
      depthList xs ≤ L → Elements cfg L (w1 ++ prettyElems cfg n xs ++ w2) (denoteE cfg xs)
  | [], _, _, _, _, hne, _, _, _, _ => absurd rfl hne
  | [x], n, L, _, _, _, h1, h2, h, hd =>
    elems_line h1 (ws_indent n) h2 (pretty_value cfg x n L h.1 (Nat.max_le.mp hd).1)
  | x :: y :: r, n, L, _, w2, _, h1, h2, h, hd =>
    elems_lines h1 (ws_indent n) (pretty_value cfg x n L h.1 (Nat.max_le.mp hd).1)
      (pretty_elems cfg (y :: r) n L crlf w2 (List.cons_ne_nil y r) ws_crlf h2 h.2 (Nat.max_le.mp hd).2)
theorem pretty_members (cfg : Cfg) :
    ∀ (ms : List (List Byte × Val)) (n L : Nat) (w1 w2 : List Byte), ms ≠ [] → Ws w1 → Ws w2 →
      OkM cfg ms → depthMembers ms ≤ L →
      Members cfg L (w1 ++ prettyMembers cfg n ms ++ w2) (denoteM cfg ms)
  | [], _, _, _, _, hne, _, _, _, _ => absurd rfl hne
  | [(_, v)], n, L, _, _, _, h1, h2, h, hd =>
    members_line h1 (ws_indent n) h2 h.1 (pretty_value cfg v n L h.2.1 (Nat.max_le.mp hd).1)
  | (_, v) :: (k2, v2) :: r, n, L, _, w2, _, h1, h2, h, hd =>
    members_lines h1 (ws_indent n) h.1 (pretty_value cfg v n L h.2.1 (Nat.max_le.mp hd).1)
      (pretty_members cfg ((k2, v2) :: r) n L crlf w2 (List.cons_ne_nil _ r) ws_crlf h2 h.2.2 (Nat.max_le.mp hd).2)
end
/-! ## the finding, at the level of values: a string with a bare control character is NOT written as JSON -/

/-- a value of the grammar that starts with a quote is a string literal -/
theorem value_quote_inv {cfg : Cfg} {L : Nat} {T : List Byte} {d : Val} (h : Value cfg L T d) (t : List Byte)
    (hT : T = 0x22 :: t) : ∃ body s, t = body ++ [0x22] ∧ Body 0x22 body s ∧ d = .str s := by
  cases h with
  | null => cases hT
  | «true» => cases hT
  | «false» => cases hT
  | num _ _ hl =>
    obtain ⟨c, r, e, hc⟩ := numLit_head hl
    rw [e] at hT
    have : c = 0x22 := (List.cons.inj hT).1
    subst this
    rcases hc with hc | hc
    · exact absurd hc (by decide)
    · exact absurd hc (by decide)
  | str _ body s hb _ => exact ⟨body, s, by simpa using hT.symm, hb, rfl⟩
  | arrEmpty => simp at hT
  | arr => simp at hT
  | objEmpty => simp at hT
  | obj => simp at hT

/-- the text of a string node is a value of the grammar only if the string has no bare control character -/
theorem value_writeString_inv {cfg : Cfg} {L : Nat} {s : List Byte} {d : Val} (h : Value cfg L (writeString s) d) :
    Printable s := by
  obtain ⟨body, s', e, hb, _⟩ := value_quote_inv h (s.flatMap writeChar ++ [0x22]) (by simp [writeString])
  have : s.flatMap writeChar = body := List.append_cancel_right e
  exact (body_escaped_iff s).mp ⟨s', by rw [this]; exact hb⟩


end SerG
