/- The filtered JSON parser on a text of the RFC 8259 grammar: elements and members, read off the simulation of
   AJ/Lemmas/ProjectSkip.lean. -/
import AJ.Lemmas.ProjectSkip
namespace JD
open Spec.Json Spec.Filter

theorem fcomplete_elems {cfg : Cfg} (hu : cfg.decodeUnicode = true) {L : Nat} {body : List Byte} {xs : List Val}
    (h : Elements cfg L body xs) :
    ∀ (ef : Flt) (fuel : Nat) (rest : List Byte) (s : St) (p : Nat) (f : Bool) (acc : List Val),
      Pos s (body ++ 0x5D :: rest) p f → body.length + 2 ≤ fuel →
      ∃ s', fparseElems cfg fuel L ef s acc = (.ok, .arr (acc.reverse ++ projectElems ef xs), s') ∧
        At s' rest (p + body.length + 1) true := by
  intro ef fuel rest s p f acc hs hf
  obtain ⟨s', _, _, hfp, hat⟩ := sim_elems hu h fuel rest s p f [] hs hf
  exact ⟨s', hfp ef acc, hat⟩

theorem fcomplete_members {cfg : Cfg} (hu : cfg.decodeUnicode = true) {L : Nat} {body : List Byte}
    {ms : List (List Byte × Val)} (h : Members cfg L body ms) :
    ∀ (flt : Flt) (fuel : Nat) (rest : List Byte) (s : St) (p : Nat) (f : Bool) (acc : List (List Byte × Val)),
      Pos s (body ++ 0x7D :: rest) p f → body.length + 2 ≤ fuel →
      ∃ X s', skipSpaces cfg (fuel + 1) s = (.ok, X) ∧ cur X = (0x22, X) ∧
        fparseMembers cfg fuel L flt X acc = (.ok, .obj (foldMembers acc (projectMembers flt ms)), s') ∧
        At s' rest (p + body.length + 1) true := by
  intro flt fuel rest s p f acc hs hf
  obtain ⟨X, s', hX, hc, _, hfp, hat⟩ := sim_members hu h fuel rest s p f hs hf
  exact ⟨X, s', hX, hc, hfp flt acc, hat⟩

end JD
