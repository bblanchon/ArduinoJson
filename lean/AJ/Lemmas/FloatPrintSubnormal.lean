/- C12 (parse side, the band 1e-325 ≤ |v| < 1e-300): one rounding with ABSOLUTE error in the subnormal range, and `make_float`
   when its last multiplication (by `10^-256`) lands in the subnormal range. -/
import AJ.Lemmas.FloatPrintSF
namespace C12
open SF JD

/-! ## one rounding below the normal range: absolute error at most half the subnormal spacing -/

theorem roundPos_sub_absQ (f : Fmt) (n : Bool) (m : Nat) (e : Int) (hm : m ≠ 0) (hf : 2 < f.emax)
    (hsmall : qv m e < (2 : ℚ) ^ (emin f + f.mbits)) :
    ∃ (m'' : Nat) (e'' : Int), decode f (roundPos f n m e) = .fin n m'' e'' ∧
      |qv m'' e'' - qv m e| ≤ (2 : ℚ) ^ (emin f - 1) := by
  obtain ⟨b1, _⟩ := log2_bounds_q hm e
  have one_lt : (1 : ℚ) < 2 := by norm_num
  have c1 : (Nat.log2 m : Int) + e < emin f + f.mbits :=
    (zpow_lt_zpow_iff_right₀ one_lt).mp (lt_of_le_of_lt b1 hsmall)
  have hE : rpExp f m e = emin f := by rw [rpExp_eq]; omega
  have hpos : (0 : ℚ) ≤ (2 : ℚ) ^ (emin f - 1) := (two_zpow_pos _).le
  obtain ⟨hres, hexact, hround⟩ := roundPos_spec f n m e hm (by omega)
  rw [hE] at hres hexact hround
  rcases hres with ⟨_, hinf⟩ | ⟨m'', e'', hd, hle, hval⟩
  · exfalso; unfold emin at hinf; omega
  refine ⟨m'', e'', hd, ?_⟩
  by_cases hc : emin f ≤ e
  · have : qv m'' e'' = qv m e := by
      rw [← qv_scaled m'' e'' (emin f) hle, hval, hexact hc, qv_scaled m e (emin f) hc]
    rw [this]; simpa using hpos
  · obtain ⟨hk, hM, _⟩ := hround (by omega)
    have herr := rneShift_err m _ hk
    rw [hM] at hval
    obtain ⟨k, hkk⟩ : ∃ k, k = (emin f - e).toNat := ⟨_, rfl⟩
    rw [← hkk] at hval hk herr
    have hq1 : qv m'' e'' = qv (rneShift m k * 2 ^ k) e := by
      rw [← qv_scaled m'' e'' (emin f) hle, hval, hkk, qv_scaled _ (emin f) e (by omega)]
    rw [hq1]
    unfold qv
    have hp := two_zpow_pos e
    have h1 : ((rneShift m k * 2 ^ k : Nat) : ℚ) * 2 ^ e - (m : ℚ) * 2 ^ e =
        (((rneShift m k * 2 ^ k : Nat) : ℚ) - (m : ℚ)) * 2 ^ e := by ring
    rw [h1, abs_mul, abs_of_pos hp]
    have h2 : |((rneShift m k * 2 ^ k : Nat) : ℚ) - (m : ℚ)| ≤ ((2 ^ (k - 1) : Nat) : ℚ) := by
      have : ((((rneShift m k * 2 ^ k : Nat) : Int) - (m : Int)).natAbs : ℚ) ≤ ((2 ^ (k - 1) : Nat) : ℚ) := by
        exact_mod_cast herr
      rw [Nat.cast_natAbs, Int.cast_abs] at this
      push_cast at this ⊢
      exact this
    have h3 : ((2 ^ (k - 1) : Nat) : ℚ) * (2 : ℚ) ^ e = (2 : ℚ) ^ (emin f - 1) := by
      push_cast
      rw [← zpow_natCast, ← zpow_add₀ (by norm_num : (2 : ℚ) ≠ 0)]
      congr 1; omega
    calc _ ≤ ((2 ^ (k - 1) : Nat) : ℚ) * (2 : ℚ) ^ e := mul_le_mul_of_nonneg_right h2 hp.le
      _ = _ := h3

/-- ONE ROUNDING, any magnitude below the top binade: relative error `2^-(mbits+1)` plus absolute error `2^(emin-1)` -/
theorem roundPos_absrelQ (f : Fmt) (n : Bool) (m : Nat) (e : Int) (hm : m ≠ 0) (hf : 2 < f.emax)
    (hhi : qv m e < (2 : ℚ) ^ ((f.emax : Int) - f.bias - 1)) :
    ∃ (m'' : Nat) (e'' : Int), decode f (roundPos f n m e) = .fin n m'' e'' ∧
      |qv m'' e'' - qv m e| ≤ uro f * qv m e + (2 : ℚ) ^ (emin f - 1) := by
  have hpos : (0 : ℚ) ≤ (2 : ℚ) ^ (emin f - 1) := (two_zpow_pos _).le
  have hV := qv_nonneg m e
  have hu := (uro_pos f).le
  by_cases hlo : (2 : ℚ) ^ (emin f + f.mbits) ≤ qv m e
  · obtain ⟨m'', e'', hd, _, _, hc⟩ := roundPos_relQ f n m e hm (by omega) hlo hhi
    refine ⟨m'', e'', hd, ?_⟩
    unfold Close at hc
    generalize (2 : ℚ) ^ (emin f - 1) = W at *
    linarith
  · obtain ⟨m'', e'', hd, hc⟩ := roundPos_sub_absQ f n m e hm hf (lt_of_not_ge hlo)
    refine ⟨m'', e'', hd, ?_⟩
    have : 0 ≤ uro f * qv m e := mul_nonneg hu hV
    generalize (2 : ℚ) ^ (emin f - 1) = W at *
    linarith

/-- ONE MULTIPLICATION with a possibly subnormal result -/
theorem mul_absrelQ (f : Fmt) (a b : Nat) (n1 n2 : Bool) (m1 m2 : Nat) (e1 e2 : Int) (hf : 2 < f.emax)
    (ha : decode f a = .fin n1 m1 e1) (hb : decode f b = .fin n2 m2 e2) (h1 : m1 ≠ 0) (h2 : m2 ≠ 0)
    (hhi : qv m1 e1 * qv m2 e2 < (2 : ℚ) ^ ((f.emax : Int) - f.bias - 1)) :
    ∃ (m : Nat) (e : Int), decode f (SF.mul f a b) = .fin (n1 != n2) m e ∧
      |qv m e - qv m1 e1 * qv m2 e2| ≤ uro f * (qv m1 e1 * qv m2 e2) + (2 : ℚ) ^ (emin f - 1) := by
  rw [mul_fin f a b n1 n2 m1 m2 e1 e2 ha hb, ← qv_mul]
  rw [← qv_mul] at hhi
  exact roundPos_absrelQ f _ _ _ (Nat.mul_ne_zero h1 h2) hf hhi

/-! ## splitting the `make_float` loop after the low `j` bits of the exponent -/

theorem go_zero (f : Fmt) (tbl : List Nat) (F acc idx : Nat) : makeFloat.go f tbl F acc 0 idx = some acc := by
  cases F <;> simp [makeFloat.go]

theorem go_split (f : Fmt) (tbl : List Nat) (h : Nat) (hh : h ≠ 0) :
    ∀ (j a fuel F acc idx : Nat), a < 2 ^ j → j ≤ F →
      makeFloat.go f tbl (fuel + j) acc (a + 2 ^ j * h) idx =
        (makeFloat.go f tbl F acc a idx).bind (fun acc' => makeFloat.go f tbl fuel acc' h (idx + j)) := by
  intro j
  induction j with
  | zero =>
    intro a fuel F acc idx ha _
    have : a = 0 := by simpa using ha
    subst this
    rw [go_zero]
    simp
  | succ j ih =>
    intro a fuel F acc idx ha hF
    obtain ⟨F', rfl⟩ : ∃ F', F = F' + 1 := ⟨F - 1, by omega⟩
    have hne : a + 2 ^ (j + 1) * h ≠ 0 := by
      have : 0 < 2 ^ (j + 1) * h := Nat.mul_pos (Nat.two_pow_pos _) (Nat.pos_of_ne_zero hh)
      omega
    have hhalf : (a + 2 ^ (j + 1) * h) / 2 = a / 2 + 2 ^ j * h := by
      rw [Nat.pow_succ, Nat.mul_comm (2 ^ j) 2, Nat.mul_assoc, Nat.add_mul_div_left _ _ (by decide : 0 < 2)]
    have hpar : (a + 2 ^ (j + 1) * h) % 2 = a % 2 := by
      rw [Nat.pow_succ, Nat.mul_comm (2 ^ j) 2, Nat.mul_assoc, Nat.add_mul_mod_self_left]
    have ha2 : a / 2 < 2 ^ j := by rw [Nat.pow_succ] at ha; omega
    have hidx : idx + (j + 1) = idx + 1 + j := by omega
    rw [show fuel + (j + 1) = (fuel + j) + 1 by omega]
    simp only [makeFloat.go, if_neg hne, hhalf, hpar]
    by_cases ha0 : a = 0
    · subst ha0
      simp only [Nat.zero_mod, Nat.zero_ne_one, if_false, if_true, Nat.zero_div]
      have := ih 0 fuel F' acc (idx + 1) (Nat.two_pow_pos _) (by omega)
      rw [go_zero] at this
      simp only [Nat.zero_add, Option.bind_some] at this ⊢
      rw [this, hidx]
    · rw [if_neg ha0]
      by_cases hodd : a % 2 = 1
      · rw [if_pos hodd, if_pos hodd]
        cases tbl[idx]? with
        | none => simp
        | some t =>
          simp only
          rw [ih (a / 2) fuel F' _ (idx + 1) ha2 (by omega), hidx]
      · rw [if_neg hodd, if_neg hodd]
        rw [ih (a / 2) fuel F' _ (idx + 1) ha2 (by omega), hidx]

theorem go_one (f : Fmt) (tbl : List Nat) (F acc idx : Nat) :
    makeFloat.go f tbl (F + 1) acc 1 idx = (tbl[idx]?).bind (fun t => some (SF.mul f acc t)) := by
  simp only [makeFloat.go, Nat.one_ne_zero, if_false, Nat.one_mod, if_true]
  cases tbl[idx]? with
  | none => rfl
  | some t => simp only [Option.bind_some]; exact go_zero _ _ _ _ _

/-! ## `make_float` when the decimal exponent is in `(-512, -256]`: the last multiplication is by `10^-256` -/

/-- a relative error `d` followed by a rounding with relative error `u` and absolute error `W` -/
theorem abs_rel_chain {R P M W u d c : ℚ} (hu : 0 ≤ u) (hM : 0 ≤ M) (h1 : |R - P| ≤ u * P + W) (h2 : |P - M| ≤ d * M)
    (hc : u * (1 + d) + d ≤ c) : |R - M| ≤ c * M + W := by
  have hP : P ≤ (1 + d) * M := by have := (abs_le.mp h2).2; linarith
  have h3 : |R - M| ≤ |R - P| + |P - M| := by
    have : R - M = (R - P) + (P - M) := by ring
    rw [this]; exact abs_add_le _ _
  have h4 := mul_le_mul_of_nonneg_left hP hu
  have h5 := mul_le_mul_of_nonneg_right hc hM
  linarith

theorem makeFloat64_band (mant : Nat) (E : Int) (hm : mant ≠ 0) (hlt : mant < 2 ^ 53) (hE1 : -512 < E) (hE2 : E ≤ -256)
    (hlo : (2 : ℚ) ^ (-1000 : Int) ≤ (mant : ℚ) * (10 : ℚ) ^ (E + 256)) :
    ∃ (r m : Nat) (ex : Int), makeFloat b64 pos64 neg64 (ofNat b64 mant) E = some r ∧ decode b64 r = .fin false m ex ∧
      |qv m ex - (mant : ℚ) * (10 : ℚ) ^ E| ≤ 25 / 2 ^ 53 * ((mant : ℚ) * (10 : ℚ) ^ E) + (2 : ℚ) ^ (-1075 : Int) := by
  obtain ⟨a, ha⟩ : ∃ a, a = E.natAbs - 256 := ⟨_, rfl⟩
  have ha256 : a < 2 ^ 8 := by omega
  have hEa : E.natAbs = a + 2 ^ 8 * 1 := by omega
  have hmq2 : (mant : ℚ) ≤ 2 ^ 53 := by exact_mod_cast hlt.le
  have hE256 : (10 : ℚ) ^ (E + 256) = (1 / 10 : ℚ) ^ a := by
    rw [ten_zpow_neg_exp (E + 256) (by omega)]; congr 1; omega
  have hEfull : (mant : ℚ) * (10 : ℚ) ^ E = (mant : ℚ) * (1 / 10 : ℚ) ^ a * (1 / 10 : ℚ) ^ (2 ^ 8) := by
    rw [ten_zpow_neg_exp E (by omega), mul_assoc, ← pow_add]; congr 2
  rw [hE256] at hlo
  -- the low eight bits of the exponent: the loop stays in the normal range
  have hT1 : (mant : ℚ) * (1 / 10 : ℚ) ^ a ≤ (mant : ℚ) :=
    mul_le_of_le_one_right (by positivity) (pow_le_one₀ (by norm_num) (by norm_num))
  obtain ⟨r1, hgo1, ⟨_, hb⟩ | ⟨m1, e1, hd1, hm1, hc1⟩⟩ := fmt64.go (T := 1 / 10) (by norm_num) (Or.inr (by norm_num))
    (by rw [len_neg64, len_pos64]) neg64_close 56 a mant hm hlt (by rw [len_pos64]; decide) (by rw [len_pos64]; omega) hlo
  · exact absurd hb (not_or.mpr ⟨fmt64.below_top (fmt64.mant_le hlt), fmt64.below_top (hT1.trans (fmt64.mant_le hlt))⟩)
  rw [budget64] at hc1
  -- the top bit: one multiplication by the last table entry
  have h8 : 8 < neg64.length := by rw [len_neg64]; decide
  obtain ⟨mn, en, hdn, hmn, hcn⟩ := neg64_close 8 h8
  have hmk : makeFloat b64 pos64 neg64 (ofNat b64 mant) E = some (SF.mul b64 r1 neg64[8]) := by
    simp only [makeFloat]
    rw [if_neg (by omega), hEa]
    have := go_split b64 neg64 1 (by decide) 8 a 56 56 (ofNat b64 mant) 0 ha256 (by decide)
    rw [show (56 : Nat) + 8 = 64 from rfl] at this
    rw [this, hgo1]
    simp only [Option.bind_some, Nat.zero_add]
    rw [show (56 : Nat) = 55 + 1 from rfl, go_one, List.getElem?_eq_getElem h8]
    rfl
  have hu : uro b64 = 1 / 2 ^ 53 := rfl
  rw [hu] at hcn
  have hP := hc1.mul hcn (lt_of_lt_of_le (two_zpow_pos _) hlo) (by positivity) (by norm_num) (by norm_num)
  rw [← hEfull] at hP
  have hMpos : 0 < (mant : ℚ) * (10 : ℚ) ^ E := mul_pos (by exact_mod_cast Nat.pos_of_ne_zero hm) (ten_zpow_pos E)
  have hMle : (mant : ℚ) * (10 : ℚ) ^ E ≤ 2 ^ 53 :=
    (mul_le_of_le_one_right (by positivity) (zpow_le_one_of_nonpos₀ (by norm_num) (by omega))).trans hmq2
  -- the exact product is far below the top binade
  have hhi : qv m1 e1 * qv mn en < (2 : ℚ) ^ ((b64.emax : Int) - b64.bias - 1) := by
    rw [top_b64]
    have h60 : (2 : ℚ) ^ (60 : Nat) ≤ (2 : ℚ) ^ (1023 : Int) := by
      rw [← zpow_natCast]; exact zpow_le_zpow_right₀ (by norm_num) (by norm_num)
    have h5 := mul_le_mul_of_nonneg_left hMle
      (by norm_num : (0 : ℚ) ≤ 1 + (45 / 2 ^ 54 + 1 / 2 ^ 53 + 45 / 2 ^ 54 * (1 / 2 ^ 53)))
    have h6 : ((1 : ℚ) + (45 / 2 ^ 54 + 1 / 2 ^ 53 + 45 / 2 ^ 54 * (1 / 2 ^ 53))) * 2 ^ 53 < 2 ^ 60 := by norm_num
    exact lt_of_lt_of_le (lt_of_le_of_lt (le_trans hP.le h5) h6) h60
  obtain ⟨m, ex, hd, hc⟩ := mul_absrelQ b64 r1 neg64[8] false false m1 mn e1 en (by decide) hd1 hdn hm1 hmn hhi
  rw [hu, show emin b64 - 1 = -1075 from by decide] at hc
  exact ⟨_, m, ex, hmk, hd, abs_rel_chain (by norm_num) hMpos.le hc hP (by norm_num)⟩

/-- the last stage of `parseNumber` on a scanned pair with `-325 ≤ E ≤ -256`: a binary64 datum of the literal's sign,
    within `25u` relative plus half the subnormal spacing of `mant·10^E` -/
theorem finish_band (neg : Bool) (mant : Nat) (E : Int) (hm : mant ≠ 0) (hlt : mant < 2 ^ 53) (hE1 : -325 ≤ E) (hE2 : E ≤ -256)
    (hlo : (2 : ℚ) ^ (-1000 : Int) ≤ (mant : ℚ) * (10 : ℚ) ^ (E + 256)) :
    ∃ (bits m : Nat) (ex : Int), Digits.finish neg [] mant E = .f64 bits ∧ decode b64 bits = .fin neg m ex ∧
      |qv m ex - (mant : ℚ) * (10 : ℚ) ^ E| ≤ 25 / 2 ^ 53 * ((mant : ℚ) * (10 : ℚ) ^ E) + (2 : ℚ) ^ (-1075 : Int) := by
  obtain ⟨r, m, ex, hmk, hd, hc⟩ := makeFloat64_band mant E hm hlt (by omega) hE2 hlo
  refine ⟨negBits b64 neg r, m, ex, ?_, negBits_decode b64 neg r m ex hd, hc⟩
  rw [finish_mid neg mant E hm hE1 (by omega), if_pos (Or.inl (by omega)), hmk]

end C12
