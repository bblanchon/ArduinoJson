/- Algebra of the projection `Spec.Filter.project`: the `filterMap` presentations, and how the projection of
   members commutes with `setMember` (the "last value wins, first position kept" merge of repeated keys). -/
import AJ.Spec.Filter
import AJ.Lemmas.FilterId
import AJ.Lemmas.LatchPos
set_option linter.unusedSimpArgs false
namespace JD
open Spec.Filter

/-! ## `filterMap` presentations (the form of the property text) -/

theorem projectElems_eq (ef : Flt) (xs : List Val) :
    projectElems ef xs = xs.filterMap (fun x => if ef.allow then some (project ef x) else none) := by
  induction xs with
  | nil => simp only [projectElems, List.filterMap_nil]
  | cons x xs ih =>
    cases h : ef.allow
    · simp only [projectElems, h, Bool.false_eq_true, ↓reduceIte, List.filterMap_cons, ih]
    · simp only [projectElems, h, ↓reduceIte, List.filterMap_cons, ih]

theorem projectMembers_eq (f : Flt) (ms : List (List Byte × Val)) :
    projectMembers f ms =
      ms.filterMap (fun kv => if (f.subKey kv.1).allow then some (kv.1, project (f.subKey kv.1) kv.2) else none) := by
  induction ms with
  | nil => simp only [projectMembers, List.filterMap_nil]
  | cons kv ms ih =>
    obtain ⟨k, x⟩ := kv
    cases h : (f.subKey k).allow
    · simp only [projectMembers, h, Bool.false_eq_true, ↓reduceIte, List.filterMap_cons, ih]
    · simp only [projectMembers, h, ↓reduceIte, List.filterMap_cons, ih]

theorem project_arr (f : Flt) (xs : List Val) :
    project f (.arr xs) =
      if f.allowArray then .arr (xs.filterMap (fun x => if f.subIdx.allow then some (project f.subIdx x) else none))
      else .null := by
  simp only [project, projectElems_eq]

theorem project_obj (f : Flt) (ms : List (List Byte × Val)) :
    project f (.obj ms) =
      if f.allowObject then
        .obj (ms.filterMap (fun kv => if (f.subKey kv.1).allow then some (kv.1, project (f.subKey kv.1) kv.2) else none))
      else .null := by
  simp only [project, projectMembers_eq]

/-- scalars and strings: kept iff the filter accepts values (`null` stays `null` either way) -/
theorem project_scalar (f : Flt) (v : Val) (h1 : v.isArr = false) (h2 : v.isObj = false) :
    project f v = if f.allowValue then v else .null := by
  cases v with
  | arr xs => exact Bool.noConfusion h1
  | obj ms => exact Bool.noConfusion h2
  | null => simp only [project, ite_self]
  | _ => simp only [project]

theorem project_null (f : Flt) : project f .null = .null := by simp only [project]

theorem projectElems_append (ef : Flt) (xs ys : List Val) :
    projectElems ef (xs ++ ys) = projectElems ef xs ++ projectElems ef ys := by
  simp only [projectElems_eq, List.filterMap_append]

/-! ## repeated keys: projecting commutes with merging -/

theorem projectMembers_setMember (f : Flt) (ms : List (List Byte × Val)) (k : List Byte) (v : Val) :
    projectMembers f (setMember ms k v) =
      if (f.subKey k).allow then setMember (projectMembers f ms) k (project (f.subKey k) v)
      else projectMembers f ms := by
  induction ms with
  | nil =>
    cases h : (f.subKey k).allow
    · simp only [setMember, projectMembers, h, Bool.false_eq_true, ↓reduceIte]
    · simp only [setMember, projectMembers, h, ↓reduceIte]
  | cons kv ms ih =>
    obtain ⟨k', v'⟩ := kv
    by_cases hk : k' = k
    · subst hk
      cases h : (f.subKey k').allow
      · simp only [setMember, projectMembers, h, beq_self_eq_true, Bool.false_eq_true, ↓reduceIte]
      · simp only [setMember, projectMembers, h, beq_self_eq_true, ↓reduceIte]
    · have hb : (k' == k) = false := by simpa using hk
      cases h : (f.subKey k).allow <;> cases h' : (f.subKey k').allow <;>
        simp only [setMember, projectMembers, h, h', hb, ih, Bool.false_eq_true, ↓reduceIte]

/-- the same on the accumulator of `parseMembers` / `fparseMembers`: the members kept by the filter, merged, are the
    merged members, filtered -/
theorem projectMembers_foldMembers (f : Flt) (ms acc : List (List Byte × Val)) :
    projectMembers f (foldMembers acc ms) = foldMembers (projectMembers f acc) (projectMembers f ms) := by
  induction ms generalizing acc with
  | nil => simp only [foldMembers, List.foldl_nil, projectMembers]
  | cons kv ms ih =>
    obtain ⟨k, v⟩ := kv
    have e : ∀ a l, foldMembers a ((k, v) :: l) = foldMembers (setMember a k v) l := fun _ _ => rfl
    rw [e, ih, projectMembers_setMember]
    cases h : (f.subKey k).allow
    · simp only [projectMembers, h, Bool.false_eq_true, ↓reduceIte]
    · simp only [projectMembers, h, ↓reduceIte]; rfl

end JD
