/- The invariant of AJ/Lemmas/JddOps.lean (`JDD.Built`) through `MDD.parseVariant / readArray / readObject` and through
   `MDD.run`: for every input and every allocator failure schedule the document stays well-formed, the ledger balances, and
   the result code tells whether an allocation failed (for MessagePack: `NoMemory` exactly when the overflow flag was raised).
   The unfiltered routines are the filtered ones under `AllowAllFilter` with a destination (`MDDF.slot_all`,
   AJ/Lemmas/MddStep.lean), so every statement here is the one of AJ/Lemmas/MddfInv.lean at `.all`.
   Used by AJ/Props/C03MpDoc.lean, AJ/Props/C05MpDeser.lean, AJ/Props/C04Deser.lean. -/
import AJ.Lemmas.MddfInv
namespace MDD
open DL
open JD (Byte Code)
open JDD (PlEq LBd Fx Blk AllB SaveOp nl Ctx Built isNum)

/-! ## The statements, by fuel -/

def PVs (env : MD.Env) (fuel : Nat) : Prop := ∀ (limit : Nat) (l : Loc) (x : S) (d0 : Doc) (F : Forest),
  Ctx d0 F l → Built d0 F l x.d .nil → x.d.get l = .null →
    MRes d0 F l x (parseVariant env fuel limit l x).1 (parseVariant env fuel limit l x).2.1

def PAs (env : MD.Env) (fuel : Nat) : Prop := ∀ (limit : Nat) (l : Loc) (n : Nat) (x : S) (d0 : Doc) (F s : Forest)
  (h t : Nat), Ctx d0 F l → Built d0 F l x.d s → x.d.get l = .arr h t →
    MRes d0 F l x (readArray env fuel limit l n x).1 (readArray env fuel limit l n x).2

def POs (env : MD.Env) (fuel : Nat) : Prop := ∀ (limit : Nat) (l : Loc) (n : Nat) (x : S) (d0 : Doc) (F s : Forest)
  (h t : Nat), Ctx d0 F l → Built d0 F l x.d s → x.d.get l = .obj h t →
    MRes d0 F l x (readObject env fuel limit l n x).1 (readObject env fuel limit l n x).2

/-- the invariant through the whole mutual block, for every fuel -/
theorem mp_parse_all (env : MD.Env) : ∀ fuel, PVs env fuel ∧ PAs env fuel ∧ POs env fuel := by
  intro fuel
  obtain ⟨e1, e2, e3⟩ := MDDF.slot_all env fuel
  obtain ⟨k1, k2, k3⟩ := MDDF.parse_all env fuel
  exact ⟨fun limit l x d0 F C B hn => by rw [e1]; exact k1 limit .all (some l) x d0 F C B hn,
    fun limit l n x d0 F s h t C B hv => by rw [e2]; exact k2 limit .all (some l) n x d0 F s h t C B hv,
    fun limit l n x d0 F s h t C B hv => by rw [e3]; exact k3 limit .all (some l) n x d0 F s h t C B hv⟩

/-! ## `run` -/

/-- the state in which the parser stops (with the `foundSomething` flag) -/
def mp_stop (env : MD.Env) (limit : Nat) (d : Doc) (input : List Byte) : Code × S × Bool :=
  parseVariant env (2 * input.length + 4) limit .root (mp_start d input)

/-- the document after the deserializer object was destroyed (a kept StringBuffer node is released), before the pools
    are shrunk -/
def mp_preShrink (env : MD.Env) (limit : Nat) (d : Doc) (input : List Byte) : Doc :=
  match (mp_stop env limit d input).2.1.b with
  | some _ => { (mp_stop env limit d input).2.1.d with pl := (mp_stop env limit d input).2.1.d.pl.dealloc }
  | none => (mp_stop env limit d input).2.1.d

theorem mp_run_eq (env : MD.Env) (limit : Nat) (d : Doc) (input : List Byte) :
    run env limit d input =
      (mp_finalCode (mp_stop env limit d input).1 (mp_stop env limit d input).2.2,
        { mp_preShrink env limit d input with
          pl := PL.shrink (mp_preShrink env limit d input).g (mp_preShrink env limit d input).pl },
        (mp_stop env limit d input).2.1.r.pos) := rfl

theorem mp_stop_all (env : MD.Env) (limit : Nat) (d : Doc) (input : List Byte) :
    mp_stop env limit d input = MDDF.stop env limit .all d input :=
  (MDDF.slot_all env _).1 limit .root (mp_start d input)

theorem mp_preShrink_all (env : MD.Env) (limit : Nat) (d : Doc) (input : List Byte) :
    mp_preShrink env limit d input = MDDF.preShrink env limit .all d input := by
  unfold mp_preShrink MDDF.preShrink
  rw [mp_stop_all]
  rfl

theorem run_all (env : MD.Env) (limit : Nat) (d : Doc) (input : List Byte) :
    run env limit d input = MDDF.run env limit .all d input := by
  rw [mp_run_eq, MDDF.run_eq, mp_preShrink_all, mp_stop_all]

theorem mp_preShrink_pleq (env : MD.Env) (limit : Nat) (d : Doc) (input : List Byte) :
    PlEq (mp_stop env limit d input).2.1.d (mp_preShrink env limit d input) ∧
    (mp_preShrink env limit d input).overflowed = (mp_stop env limit d input).2.1.d.overflowed := by
  rw [mp_preShrink_all, mp_stop_all]; exact MDDF.preShrink_pleq env limit .all d input

/-- MAIN: whatever the input and the allocator failure schedule, `run` leaves a well-formed document -/
theorem mp_run_wf (env : MD.Env) (limit : Nat) {d : Doc} (input : List Byte) (gok : PL.GeoOK d.g) (hp : PL.Inv d.g d.pl) :
    ∃ F', WFG (run env limit d input).2.1 F' ∧
      StrOK (run env limit d input).2.1 ((run env limit d input).2.1.strRefs F') := by
  rw [run_all]; exact MDDF.run_wf env limit .all input gok hp

/-- the result code against the overflow flag: `Ok` only without a failed allocation, and the flag is raised exactly
    when the code is `NoMemory` -/
theorem mp_run_code (env : MD.Env) (limit : Nat) {d : Doc} (input : List Byte) (gok : PL.GeoOK d.g)
    (hp : PL.Inv d.g d.pl) :
    ((run env limit d input).1 = .ok → (run env limit d input).2.1.overflowed = false) ∧
    ((run env limit d input).1 = .noMemory ↔ (run env limit d input).2.1.overflowed = true) := by
  rw [run_all]; exact MDDF.run_code env limit .all input gok hp

/-! ## The ledger -/

/-- the ledger balances before the pools are shrunk -/
theorem mp_preShrink_bal (env : MD.Env) (limit : Nat) {d : Doc} (input : List Byte) (gok : PL.GeoOK d.g)
    (hp : PL.Inv d.g d.pl) (hb : Bal d) : Bal (mp_preShrink env limit d input) := by
  rw [mp_preShrink_all]; exact MDDF.preShrink_bal env limit .all input gok hp hb

/-- the ledger of the document `run` returns: balanced up to the block `shrink` gives a block-less last pool -/
theorem mp_run_net (env : MD.Env) (limit : Nat) {d : Doc} (input : List Byte) (gok : PL.GeoOK d.g) (hp : PL.Inv d.g d.pl)
    (hb : Bal d) :
    PL.net (run env limit d input).2.1.pl =
      ((run env limit d input).2.1.strings.length : Int) -
        (if JDD.lastBlockless (mp_preShrink env limit d input).pl then 1 else 0) := by
  rw [run_all, mp_preShrink_all]; exact MDDF.run_net env limit .all input gok hp hb

/-- when no allocation failed, every pool has its block and the ledger of the result balances -/
theorem mp_run_bal (env : MD.Env) (limit : Nat) {d : Doc} (input : List Byte) (gok : PL.GeoOK d.g) (hp : PL.Inv d.g d.pl)
    (hb : Bal d) (hov : (run env limit d input).2.1.overflowed = false) : Bal (run env limit d input).2.1 := by
  rw [run_all] at hov ⊢; exact MDDF.run_bal env limit .all input gok hp hb hov

/-- the geometry is kept -/
theorem mp_run_g (env : MD.Env) (limit : Nat) {d : Doc} (input : List Byte) (gok : PL.GeoOK d.g) (hp : PL.Inv d.g d.pl) :
    (run env limit d input).2.1.g = d.g := by
  rw [run_all]; exact MDDF.run_g env limit .all input gok hp

/-- `clearAll` after `run`: what the ledger says -/
theorem mp_run_clearAll_outstanding (env : MD.Env) (limit : Nat) {d : Doc} (input : List Byte) (gok : PL.GeoOK d.g)
    (hp : PL.Inv d.g d.pl) (hb : Bal d) :
    PL.outstanding (run env limit d input).2.1.clearAll.pl.log =
      - (if JDD.lastBlockless (mp_preShrink env limit d input).pl then 1 else 0) := by
  rw [run_all, mp_preShrink_all]; exact MDDF.run_clearAll_outstanding env limit .all input gok hp hb

end MDD
