/- Simulation of the FILTERED slot-level MessagePack deserializer `MDDF` by the value-level filtered deserializer, part 1:
   the runs WITHOUT a destination (`dst = none`, the C++ null pointer; value level: `hasDst = false`). Such a run only moves
   the reader and the StringBuffer (every map key goes through `reserve`): the document is the one before up to allocator
   traffic (`Grow`; `none_untouched` below: every field but the allocator state and the overflow flag is literally the same),
   the code and the reader are those of the value-level run unless a `reserve` failed (`NoMemory`, flag set). -/
import AJ.Lemmas.MddSim
set_option linter.unusedSimpArgs false
set_option linter.unusedVariables false
namespace MDDF
open DL MDD
open JD (Byte Val Code Flt)
open MD (R Env Hdr beNat)

/-- outcome relation for a routine without destination started from the document `d0`: the document only saw allocator
    traffic; without an allocation failure the code (not `NoMemory`) and the reader agree, with one the answer is `NoMemory` -/
def NRel (env : Env) (d0 : Doc) (r : Code × S) (r0 : Code × R) : Prop :=
  Grow d0 r.2.d ∧
  ((r.2.d.overflowed = false ∧ r.1 = r0.1 ∧ r.1 ≠ .noMemory ∧ r.2.r = r0.2 ∧ mpsim_BOK env r.2.b) ∨
   (r.2.d.overflowed = true ∧ r.1 = .noMemory))

/-- code and state of a `parseVariant` result -/
def vout (r : mpsim_VOut) : Code × S := (r.1, r.2.1)
/-- code and reader of the abstract `parseVariant` -/
def nout (o : MD.VOut) : Code × R := (o.1, o.2.2.1)
/-- code and reader of the abstract loops -/
def lout {α : Type} (p : Code × α × R) : Code × R := (p.1, p.2.2)

theorem vout_fin (p : Code × S) : vout (mpsim_fin p) = p := rfl
theorem nout_finV (e : Code) (v : Val) (r : R) : nout (MD.finV e v r) = (e, r) := rfl

theorem NRel.exit {env : Env} {x : S} {e : Code} {r' : R} (hp : PL.Inv x.d.g x.d.pl) (h0 : x.d.overflowed = false)
    (hb : mpsim_BOK env x.b) (he : e ≠ .noMemory) : NRel env x.d (e, { x with r := r' }) (e, r') :=
  ⟨Grow.refl hp, Or.inl ⟨h0, rfl, he, rfl, hb⟩⟩

/-- skipping bytes on the abstract reader -/
def skip0 (r : R) (n : Nat) : Code × R :=
  match r.skipBytes n with
  | (true, r) => (.ok, r)
  | (false, r) => (.incomplete, r)

theorem nrel_skipB (env : Env) (x : S) (n : Nat) (hp : PL.Inv x.d.g x.d.pl) (h0 : x.d.overflowed = false)
    (hb : mpsim_BOK env x.b) : NRel env x.d (skipN x n) (skip0 x.r n) := by
  unfold skipN skip0
  generalize x.r.skipBytes n = q
  obtain ⟨ok, r'⟩ := q
  cases ok
  · exact NRel.exit hp h0 hb (fun h => by cases h)
  · exact NRel.exit hp h0 hb (fun h => by cases h)

theorem nout_leafFixed_false (w : Nat) (mk : List Byte → Val) (r : R) :
    nout (MD.leafFixed false w mk r) = skip0 r w := by
  unfold MD.leafFixed skip0
  rw [if_neg (by simp)]
  generalize r.skipBytes w = q
  obtain ⟨ok, r'⟩ := q
  cases ok <;> rfl

theorem nout_leafSized_false (tooBig : Prop) [Decidable tooBig] (w : Nat) (mk : List Byte → Val) (r : R) :
    nout (MD.leafSized false tooBig w mk r) = skip0 r w := by
  unfold MD.leafSized skip0
  rw [if_neg (by simp)]
  generalize r.skipBytes w = q
  obtain ⟨ok, r'⟩ := q
  cases ok <;> rfl

theorem leafArr_false (env : Env) (fuel limit : Nat) (flt : Flt) (size : Nat) (r : R) :
    nout (MD.leafArr env fuel limit flt false size r) =
      match limit with
      | 0 => (.tooDeep, r)
      | limit'+1 => lout (MD.readArray env fuel limit' flt.subIdx false size r []) := by
  cases limit <;> rfl

theorem leafMap_false (env : Env) (fuel limit : Nat) (flt : Flt) (size : Nat) (r : R) :
    nout (MD.leafMap env fuel limit flt false size r) =
      match limit with
      | 0 => (.tooDeep, r)
      | limit'+1 => lout (MD.readObject env fuel limit' flt false size r []) := by
  cases limit <;> rfl

/-! ## The three statements -/

def NSimV (env : Env) (fuel : Nat) : Prop :=
  ∀ (limit : Nat) (flt : Flt) (x : S), PL.Inv x.d.g x.d.pl → x.d.overflowed = false → mpsim_BOK env x.b →
    NRel env x.d (vout (parseVariant env fuel limit flt none x)) (nout (MD.parseVariant env fuel limit flt false x.r))

def NSimE (env : Env) (fuel : Nat) : Prop :=
  ∀ (limit : Nat) (ef : Flt) (x : S) (n : Nat) (acc : List Val), PL.Inv x.d.g x.d.pl → x.d.overflowed = false →
    mpsim_BOK env x.b →
    NRel env x.d (readArray env fuel limit ef none n x) (lout (MD.readArray env fuel limit ef false n x.r acc))

def NSimM (env : Env) (fuel : Nat) : Prop :=
  ∀ (limit : Nat) (flt : Flt) (x : S) (n : Nat) (ms : List (List Byte × Val)), PL.Inv x.d.g x.d.pl →
    x.d.overflowed = false → mpsim_BOK env x.b →
    NRel env x.d (readObject env fuel limit flt none n x) (lout (MD.readObject env fuel limit flt false n x.r ms))

/-- continuation: a step related by `NRel`, then a continuation related from the state reached -/
theorem NRel.bind {env : Env} {d0 : Doc} {p : Code × S} {p0 : Code × R} (h : NRel env d0 p p0)
    {k : Code × S} {k0 : Code × R}
    (hk : p.2.d.overflowed = false → p.1 = p0.1 → p.1 ≠ .noMemory → p.2.r = p0.2 → PL.Inv p.2.d.g p.2.d.pl →
      mpsim_BOK env p.2.b → NRel env p.2.d k k0)
    (hov : p.2.d.overflowed = true → p.1 = .noMemory → k = p) : NRel env d0 k k0 := by
  obtain ⟨g, hr⟩ := h
  rcases hr with ⟨o, c, ne, r, b⟩ | ⟨o, c⟩
  · obtain ⟨g2, h2⟩ := hk o c ne r g.pool b
    exact ⟨g.trans g2, h2⟩
  · rw [hov o c]
    exact ⟨g, Or.inr ⟨o, c⟩⟩

/-! ## `parseVariant` -/

theorem nsim_pv_zero (env : Env) : NSimV env 0 := by
  intro limit flt x hp h0 hb
  simp only [MDDF.parseVariant, MD.parseVariant]
  exact ⟨Grow.refl hp, Or.inl ⟨h0, rfl, (fun h => by cases h), rfl, hb⟩⟩

theorem nsim_pv_step (env : Env) (fuel : Nat) (hE : NSimE env fuel) (hM : NSimM env fuel) : NSimV env (fuel + 1) := by
  intro limit flt x hp h0 hb
  rw [parseVariant_step, MD.parseVariant_step, gate_none]
  generalize x.r.read = rd
  obtain ⟨_ | code, r0⟩ := rd
  · exact NRel.exit hp h0 hb (fun h => by cases h)
  simp only
  cases MD.classify code r0 with
  | int w c =>
    show NRel env x.d (skipN { x with r := r0 } w) (nout (MD.leafFixed false w _ r0))
    rw [nout_leafFixed_false]
    exact nrel_skipB env { x with r := r0 } w hp h0 hb
  | nil => exact NRel.exit hp h0 hb (fun h => by cases h)
  | invalid => exact NRel.exit hp h0 hb (fun h => by cases h)
  | bool c => exact NRel.exit hp h0 hb (fun h => by cases h)
  | f32 =>
    show NRel env x.d (skipN { x with r := r0 } 4) (nout (MD.leafFixed false 4 _ r0))
    rw [nout_leafFixed_false]
    exact nrel_skipB env { x with r := r0 } 4 hp h0 hb
  | f64 =>
    show NRel env x.d (skipN { x with r := r0 } 8) (nout (MD.leafFixed false 8 _ r0))
    rw [nout_leafFixed_false]
    exact nrel_skipB env { x with r := r0 } 8 hp h0 hb
  | fix c => exact NRel.exit hp h0 hb (fun h => by cases h)
  | inc r => exact NRel.exit hp h0 hb (fun h => by cases h)
  | arr size r =>
    show NRel env x.d (vout (leafArr env fuel limit flt none size { x with r := r }))
      (nout (MD.leafArr env fuel limit flt false size r))
    rw [leafArr_false]
    unfold leafArr
    cases limit with
    | zero => exact NRel.exit hp h0 hb (fun h => by cases h)
    | succ limit' =>
      simp only [gate_none]
      exact hE limit' flt.subIdx { x with r := r } size [] hp h0 hb
  | map size r =>
    show NRel env x.d (vout (leafMap env fuel limit flt none size { x with r := r }))
      (nout (MD.leafMap env fuel limit flt false size r))
    rw [leafMap_false]
    unfold leafMap
    cases limit with
    | zero => exact NRel.exit hp h0 hb (fun h => by cases h)
    | succ limit' =>
      simp only [gate_none]
      exact hM limit' flt { x with r := r } size [] hp h0 hb
  | str size r =>
    show NRel env x.d (skipN { x with r := r } size) (nout (MD.leafSized false _ size _ r))
    rw [nout_leafSized_false]
    exact nrel_skipB env { x with r := r } size hp h0 hb
  | bin sizeBytes isExt hdr size r =>
    show NRel env x.d (skipN { x with r := r } (MD.binSize isExt size)) (nout (MD.leafSized false _ (MD.binSize isExt size) _ r))
    rw [nout_leafSized_false]
    exact nrel_skipB env { x with r := r } (MD.binSize isExt size) hp h0 hb

/-! ## `readArray` -/

/-- one step of the abstract `readArray`, any filter, with or without an array -/
theorem readArray0_succ (env : Env) (fuel limit : Nat) (ef : Flt) (hasArr : Bool) (n : Nat) (r : R) (acc : List Val) :
    MD.readArray env (fuel+1) limit ef hasArr n r acc =
      if n == 0 then (.ok, acc.reverse, r) else
      match MD.parseVariant env fuel limit ef (hasArr && ef.allow) r with
      | (.ok, v, r, _) => MD.readArray env fuel limit ef hasArr (n - 1) r (if hasArr && ef.allow then v :: acc else acc)
      | (e, v, r, _) => (e, (if hasArr && ef.allow then v :: acc else acc).reverse, r) := by
  simp only [MD.readArray]
  rfl

theorem nsim_pe_zero (env : Env) : NSimE env 0 := by
  intro limit ef x n acc hp h0 hb
  simp only [MDDF.readArray, MD.readArray]
  exact ⟨Grow.refl hp, Or.inl ⟨h0, rfl, (fun h => by cases h), rfl, hb⟩⟩

theorem nsim_pe_step (env : Env) (fuel : Nat) (hV : NSimV env fuel) (hE : NSimE env fuel) : NSimE env (fuel + 1) := by
  intro limit ef x n acc hp h0 hb
  rw [readArray_succ, readArray0_succ, gate_none]
  by_cases hn : (n == 0) = true
  · rw [if_pos hn, if_pos hn]
    exact ⟨Grow.refl hp, Or.inl ⟨h0, rfl, (fun h => by cases h), rfl, hb⟩⟩
  rw [if_neg hn, if_neg hn]
  show NRel env x.d
    (match parseVariant env fuel limit ef none x with
      | (.ok, x, _) => readArray env fuel limit ef none (n - 1) x
      | (e, x, _) => (e, x)) _
  simp only [Bool.false_and, Bool.false_eq_true, if_false]
  have hsim := hV limit ef x hp h0 hb
  generalize parseVariant env fuel limit ef none x = rv at hsim
  generalize MD.parseVariant env fuel limit ef false x.r = rv0 at hsim
  obtain ⟨c, x2, f⟩ := rv
  obtain ⟨c0, v0, s0, f0⟩ := rv0
  refine hsim.bind (fun o2 hc hne hr hp2 hb2 => ?_) (fun o2 hc => ?_)
  · simp only [vout, nout] at o2 hc hr hp2 hb2
    subst hc hr
    cases c
    case ok => exact hE limit ef x2 (n - 1) acc hp2 o2 hb2
    all_goals exact ⟨Grow.refl hp2, Or.inl ⟨o2, rfl, hne, rfl, hb2⟩⟩
  · simp only [vout] at o2 hc
    subst hc
    rfl

/-! ## `readObject` -/

/-- the abstract member value, then the remaining members -/
def froVal0 (env : Env) (fuel limit : Nat) (flt : Flt) (hasObj : Bool) (n : Nat) (key : List Byte) (r : R)
    (ms : List (List Byte × Val)) : Code × List (List Byte × Val) × R :=
  match MD.parseVariant env fuel limit (flt.subKey key) (hasObj && (flt.subKey key).allow) r with
  | (.ok, v, r, _) =>
    MD.readObject env fuel limit flt hasObj (n - 1) r (if hasObj && (flt.subKey key).allow then ms ++ [(key, v)] else ms)
  | (e, v, r, _) => (e, (if hasObj && (flt.subKey key).allow then ms ++ [(key, v)] else ms), r)

def froKey0 (env : Env) (fuel limit : Nat) (flt : Flt) (hasObj : Bool) (n len : Nat) (r : R)
    (ms : List (List Byte × Val)) : Code × List (List Byte × Val) × R :=
  match mpsim_readStr0 env r len with
  | (.ok, key, r) => froVal0 env fuel limit flt hasObj n key r ms
  | (e, _, r) => (e, ms, r)

theorem readObject0_step (env : Env) (fuel limit : Nat) (flt : Flt) (hasObj : Bool) (n : Nat) (r : R)
    (ms : List (List Byte × Val)) :
    MD.readObject env (fuel+1) limit flt hasObj n r ms =
      if n == 0 then (.ok, ms, r) else
      match r.read with
      | (none, r) => (.incomplete, ms, r)
      | (some code, r) =>
        match MD.keyLenOf_d3 code r with
        | (none, r) => (.invalid, ms, r)
        | (some none, r) => (.incomplete, ms, r)
        | (some (some len), r) => froKey0 env fuel limit flt hasObj n len r ms := by
  rw [MD.readObject_step]
  by_cases hn : (n == 0) = true
  · rw [if_pos hn, if_pos hn]
  rw [if_neg hn, if_neg hn]
  generalize r.read = rd
  obtain ⟨_ | code, r0⟩ := rd
  · rfl
  simp only
  generalize MD.keyLenOf_d3 code r0 = kl
  obtain ⟨_ | _ | len, r1⟩ := kl
  · rfl
  · rfl
  simp only
  unfold froKey0 mpsim_readStr0
  by_cases hbig : len > env.maxStrLen
  · rw [if_pos hbig, if_pos hbig]
  rw [if_neg hbig, if_neg hbig]
  generalize r1.readBytes len = rb
  obtain ⟨_ | key, r2⟩ := rb
  · rfl
  · rfl

theorem nsim_pm_zero (env : Env) : NSimM env 0 := by
  intro limit flt x n ms hp h0 hb
  simp only [MDDF.readObject, MD.readObject]
  exact ⟨Grow.refl hp, Or.inl ⟨h0, rfl, (fun h => by cases h), rfl, hb⟩⟩

/-- `readString` as a step of `NRel` -/
theorem nrel_readString (env : Env) (x : S) (n : Nat) (hp : PL.Inv x.d.g x.d.pl) (hb : mpsim_BOK env x.b)
    (h0 : x.d.overflowed = false) :
    NRel env x.d ((readString env x n).1, (readString env x n).2.2)
      ((mpsim_readStr0 env x.r n).1, (mpsim_readStr0 env x.r n).2.2) ∧
    ((readString env x n).2.2.d.overflowed = false → (readString env x n).2.1 = (mpsim_readStr0 env x.r n).2.1) := by
  obtain ⟨g, hr⟩ := mpsim_readString env x n hp hb h0
  rcases hr with ⟨ov, hc⟩ | ⟨ov, bk, hc, hne, hbs, hrr⟩
  · exact ⟨⟨g, Or.inr ⟨ov, hc⟩⟩, fun h => by rw [ov] at h; cases h⟩
  · exact ⟨⟨g, Or.inl ⟨ov, hc, hne, hrr, bk⟩⟩, fun _ => hbs⟩

/-- the value of a member without destination, then the remaining members -/
theorem nsim_roVal (env : Env) (fuel : Nat) (hV : NSimV env fuel) (hM : NSimM env fuel) {limit n : Nat} {flt : Flt}
    {x : S} {ms : List (List Byte × Val)} (key : List Byte) (hp : PL.Inv x.d.g x.d.pl) (h0 : x.d.overflowed = false)
    (hb : mpsim_BOK env x.b) :
    NRel env x.d (roVal env fuel limit flt none n (flt.subKey key) none x)
      (lout (froVal0 env fuel limit flt false n key x.r ms)) := by
  have hsim := hV limit (flt.subKey key) x hp h0 hb
  unfold roVal froVal0
  simp only [Bool.false_and, Bool.false_eq_true, if_false]
  generalize parseVariant env fuel limit (flt.subKey key) none x = rv at hsim
  generalize MD.parseVariant env fuel limit (flt.subKey key) false x.r = rv0 at hsim
  obtain ⟨c, x2, f⟩ := rv
  obtain ⟨c0, v0, s0, f0⟩ := rv0
  refine hsim.bind (fun o2 hc hne hr hp2 hb2 => ?_) (fun o2 hc => ?_)
  · simp only [vout, nout] at o2 hc hr hp2 hb2
    subst hc hr
    cases c
    case ok => exact hM limit flt x2 (n - 1) ms hp2 o2 hb2
    all_goals exact ⟨Grow.refl hp2, Or.inl ⟨o2, rfl, hne, rfl, hb2⟩⟩
  · simp only [vout] at o2 hc
    subst hc
    rfl

theorem nsim_roKey (env : Env) (fuel : Nat) (hV : NSimV env fuel) (hM : NSimM env fuel) {limit n len : Nat} {flt : Flt}
    {x : S} {ms : List (List Byte × Val)} (hp : PL.Inv x.d.g x.d.pl) (h0 : x.d.overflowed = false)
    (hb : mpsim_BOK env x.b) :
    NRel env x.d (roKey env fuel limit flt none n len x) (lout (froKey0 env fuel limit flt false n len x.r ms)) := by
  obtain ⟨hrs, hkey⟩ := nrel_readString env x len hp hb h0
  unfold roKey froKey0
  generalize readString env x len = q at *
  generalize mpsim_readStr0 env x.r len = q0 at *
  obtain ⟨c, key, y⟩ := q
  obtain ⟨c0, key0, r0⟩ := q0
  simp only at hrs hkey
  refine hrs.bind (fun o2 hc hne hr hp2 hb2 => ?_) (fun o2 hc => ?_)
  · simp only at o2 hc hr hp2 hb2
    have hk := hkey o2
    subst hc hr hk
    cases c
    case ok =>
      simp only [gate_none, memSlot]
      exact nsim_roVal env fuel hV hM key hp2 o2 hb2
    all_goals exact ⟨Grow.refl hp2, Or.inl ⟨o2, rfl, hne, rfl, hb2⟩⟩
  · simp only at o2 hc
    subst hc
    rfl

theorem nsim_pm_step (env : Env) (fuel : Nat) (hV : NSimV env fuel) (hM : NSimM env fuel) : NSimM env (fuel + 1) := by
  intro limit flt x n ms hp h0 hb
  rw [readObject_succ, readObject0_step]
  by_cases hn : (n == 0) = true
  · rw [if_pos hn, if_pos hn]
    exact ⟨Grow.refl hp, Or.inl ⟨h0, rfl, (fun h => by cases h), rfl, hb⟩⟩
  rw [if_neg hn, if_neg hn]
  generalize x.r.read = rd
  obtain ⟨_ | code, r0⟩ := rd
  · exact NRel.exit hp h0 hb (fun h => by cases h)
  simp only
  generalize MD.keyLenOf_d3 code r0 = kl
  obtain ⟨_ | _ | len, r1⟩ := kl
  · exact NRel.exit hp h0 hb (fun h => by cases h)
  · exact NRel.exit hp h0 hb (fun h => by cases h)
  simp only
  exact nsim_roKey env fuel hV hM (x := { x with r := r1 }) hp h0 hb

/-- THE SIMULATION WITHOUT DESTINATION: for every fuel and every filter -/
theorem nsim_all (env : Env) : ∀ fuel, NSimV env fuel ∧ NSimE env fuel ∧ NSimM env fuel := by
  intro fuel
  induction fuel with
  | zero => exact ⟨nsim_pv_zero env, nsim_pe_zero env, nsim_pm_zero env⟩
  | succ n ih =>
    obtain ⟨hV, hE, hM⟩ := ih
    exact ⟨nsim_pv_step env n hE hM, nsim_pe_step env n hV hE, nsim_pm_step env n hV hM⟩

end MDDF
