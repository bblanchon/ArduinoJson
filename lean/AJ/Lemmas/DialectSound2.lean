/- Soundness of `parseVariant` / `parseElems` / `parseMembers` w.r.t. `Spec.Dialect` (induction on the fuel). -/
import AJ.Lemmas.DialectSound
import AJ.Lemmas.TokenStep
import AJ.Lemmas.JDPieces
import AJ.Lemmas.SFWidth
namespace JD
open Spec.Dialect

theorem Rem.eat {s : St} {r : List Byte} {c : Byte} (h : Rem s r) (hc : cur s = (c, s)) (h0 : c ≠ 0) :
    ∃ t, r = c :: t ∧ Rem (mv s) t := by
  have := h.step (by rw [hc]; exact h0)
  rwa [hc] at this

theorem skipSpaces_latched {cfg : Cfg} {n : Nat} {s s1 : St} {r : List Byte} (hr : Rem s r)
    (h : skipSpaces cfg n s = (.ok, s1)) :
    ∃ w c r1, r = w ++ r1 ∧ DWs cfg w ∧ Rem s1 r1 ∧ cur s1 = (c, s1) ∧ c = r1.headD 0 := by
  obtain ⟨w, r1, e, hw, hr1, hl, _⟩ := skipSpaces_sound cfg _ _ _ _ hr h
  exact ⟨w, _, r1, e, hw, hr1, cur_loaded hl, hr1.loaded_cur hl⟩

/-! ## grammar facts -/

theorem _root_.Spec.Dialect.DWs.append {cfg : Cfg} {w1 w2 : List Byte} (h1 : DWs cfg w1) (h2 : DWs cfg w2) : DWs cfg (w1 ++ w2) := by
  induction h1 with
  | nil => exact h2
  | ws c w hc _ ih => exact DWs.ws c _ hc ih
  | block b w hc hb _ ih =>
    have : 0x2F :: 0x2A :: b ++ w ++ w2 = 0x2F :: 0x2A :: b ++ (w ++ w2) := by simp
    rw [this]; exact DWs.block b _ hc hb ih
  | line x w hc hx _ ih =>
    have : 0x2F :: 0x2F :: x ++ 0x0A :: w ++ w2 = 0x2F :: 0x2F :: x ++ 0x0A :: (w ++ w2) := by simp
    rw [this]; exact DWs.line x _ hc hx ih

theorem _root_.Spec.Dialect.Elements.prepend {cfg : Cfg} {L : Nat} {w body : List Byte} {xs : List Val} (hw : DWs cfg w)
    (h : Elements cfg L body xs) : Elements cfg L (w ++ body) xs := by
  cases h with
  | one _ w1 t v w2 h1 h2 h3 =>
    have : w ++ (w1 ++ t ++ w2) = (w ++ w1) ++ t ++ w2 := by simp
    rw [this]; exact Elements.one _ _ _ _ _ (hw.append h1) h2 h3
  | cons _ w1 t v w2 rest vs h1 h2 h3 h4 =>
    have : w ++ (w1 ++ t ++ w2 ++ 0x2C :: rest) = (w ++ w1) ++ t ++ w2 ++ 0x2C :: rest := by simp
    rw [this]; exact Elements.cons _ _ _ _ _ _ _ (hw.append h1) h2 h3 h4

theorem _root_.Spec.Dialect.Members.prepend {cfg : Cfg} {L : Nat} {w body : List Byte} {ms : List (List Byte × Val)} (hw : DWs cfg w)
    (h : Members cfg L body ms) : Members cfg L (w ++ body) ms := by
  cases h with
  | one _ w1 kt k w2 w3 t v w4 h1 hk h2 h3 hv h4 =>
    have : w ++ (w1 ++ kt ++ w2 ++ 0x3A :: w3 ++ t ++ w4) = (w ++ w1) ++ kt ++ w2 ++ 0x3A :: w3 ++ t ++ w4 := by simp
    rw [this]; exact Members.one _ _ _ _ _ _ _ _ _ (hw.append h1) hk h2 h3 hv h4
  | cons _ w1 kt k w2 w3 t v w4 rest ms h1 hk h2 h3 hv h4 hr =>
    have : w ++ (w1 ++ kt ++ w2 ++ 0x3A :: w3 ++ t ++ w4 ++ 0x2C :: rest) =
        (w ++ w1) ++ kt ++ w2 ++ 0x3A :: w3 ++ t ++ w4 ++ 0x2C :: rest := by simp
    rw [this]; exact Members.cons _ _ _ _ _ _ _ _ _ _ _ (hw.append h1) hk h2 h3 hv h4 hr

def PVs (cfg : Cfg) (fuel : Nat) : Prop :=
  ∀ (limit : Nat) (s : St) (r : List Byte) (v : Val) (s' : St), Rem s r → parseVariant cfg fuel limit s = (.ok, v, s') →
    ∃ w t r', r = w ++ t ++ r' ∧ DWs cfg w ∧ Value cfg limit t v ∧ Rem s' r' ∧ (isNumberVal v = true → s'.l.loaded = true)

def PEs (cfg : Cfg) (fuel : Nat) : Prop :=
  ∀ (limit : Nat) (s : St) (r : List Byte) (acc : List Val) (v : Val) (s' : St), Rem s r →
    parseElems cfg fuel limit s acc = (.ok, v, s') →
    ∃ body xs r', r = body ++ 0x5D :: r' ∧ Elements cfg limit body xs ∧ v = .arr (acc.reverse ++ xs) ∧ Rem s' r'

def PMs (cfg : Cfg) (fuel : Nat) : Prop :=
  ∀ (limit : Nat) (s : St) (r : List Byte) (acc : List (List Byte × Val)) (v : Val) (s' : St), Rem s r →
    parseMembers cfg fuel limit s acc = (.ok, v, s') →
    ∃ body ms r', r = body ++ 0x7D :: r' ∧ Members cfg limit body ms ∧ v = .obj (foldMembers acc ms) ∧ Rem s' r'

theorem ite_eq_cases {α : Type} {p : Prop} [Decidable p] {a b x : α} (h : (if p then a else b) = x) :
    (p ∧ a = x) ∨ (¬p ∧ b = x) :=
  of_ite (Q := fun y => y = x → (p ∧ a = x) ∨ (¬p ∧ b = x)) (fun hp e => .inl ⟨hp, e⟩) (fun hp e => .inr ⟨hp, e⟩) h

theorem tuple_eq3 {α β : Type} {e e' : Code} {a a' : α} {b b' : β} (h : (e, a, b) = (e', a', b')) :
    e = e' ∧ a = a' ∧ b = b' := by
  injection h with h1 h2; injection h2 with h2 h3; exact ⟨h1, h2, h3⟩

/-! ## the pieces of one round (AJ/Lemmas/JDPieces.lean), each applied to the result of the call before it -/

section pieces
variable {cfg : Cfg} {f L n : Nat} {s s' : St} {r : List Byte} {v : Val}

theorem pvArr_sound (hE : PEs cfg f) (hr : Rem s r) (h : pvArr cfg f L (skipSpaces cfg n s) = (.ok, v, s')) :
    ∃ t r', 0x5B :: r = t ++ r' ∧ Value cfg (L + 1) t v ∧ Rem s' r' ∧ (isNumberVal v = true → s'.l.loaded = true) := by
  unfold pvArr at h
  split at h
  next s1 hs =>
    obtain ⟨w, c, r1, rfl, hw, hr1, hc, _⟩ := skipSpaces_latched hr hs
    rw [hc] at h
    rcases ite_eq_cases h with ⟨hd, h⟩ | ⟨_, h⟩
    · obtain rfl := eq_of_beq hd
      obtain ⟨t, rfl, ht⟩ := hr1.eat hc (by decide)
      obtain ⟨_, rfl, rfl⟩ := tuple_eq3 h
      exact ⟨0x5B :: w ++ [0x5D], t, by simp, Value.arrEmpty _ _ hw, ht, nofun⟩
    · obtain ⟨body, xs, r', rfl, hb, rfl, hr'⟩ := hE _ _ _ _ _ _ hr1 h
      exact ⟨0x5B :: (w ++ body) ++ [0x5D], r', by simp, Value.arr _ _ _ (hb.prepend hw), hr', nofun⟩
  next hne _ => exact (hne (tuple_eq3 h).1).elim

theorem pvObj_sound (hM : PMs cfg f) (hr : Rem s r) (h : pvObj cfg f L (skipSpaces cfg n s) = (.ok, v, s')) :
    ∃ t r', 0x7B :: r = t ++ r' ∧ Value cfg (L + 1) t v ∧ Rem s' r' ∧ (isNumberVal v = true → s'.l.loaded = true) := by
  unfold pvObj at h
  split at h
  next s1 hs =>
    obtain ⟨w, c, r1, rfl, hw, hr1, hc, _⟩ := skipSpaces_latched hr hs
    rw [hc] at h
    rcases ite_eq_cases h with ⟨hd, h⟩ | ⟨_, h⟩
    · obtain rfl := eq_of_beq hd
      obtain ⟨t, rfl, ht⟩ := hr1.eat hc (by decide)
      obtain ⟨_, rfl, rfl⟩ := tuple_eq3 h
      exact ⟨0x7B :: w ++ [0x7D], t, by simp, Value.objEmpty _ _ hw, ht, nofun⟩
    · obtain ⟨body, ms, r', rfl, hb, rfl, hr'⟩ := hM _ _ _ _ _ _ hr1 h
      exact ⟨0x7B :: (w ++ body) ++ [0x7D], r', by simp, Value.obj _ _ _ (hb.prepend hw), hr', nofun⟩
  next hne _ => exact (hne (tuple_eq3 h).1).elim

theorem isQuote_of_beq {c : Byte} (h : (c == 0x22 || c == 0x27) = true) : IsQuote c := by
  simpa [IsQuote] using h

theorem quoted_sound {q : Byte} (hq : IsQuote q) {k : List Byte} (hr : Rem s r)
    (h : parseQuoted cfg q n [] 0 s = (.ok, k, s')) :
    ∃ body r', r = body ++ q :: r' ∧ decodeBody cfg q 0 body = some k ∧ k.length ≤ cfg.maxStrLen ∧ Rem s' r' := by
  obtain ⟨body, x, r', e, hb, rfl, hlen, hr'⟩ := parseQuoted_sound hq _ _ _ _ _ _ _ (by decide) hr h
  exact ⟨body, r', e, hb, hlen, hr'⟩

theorem pvStr_sound {q : Byte} (hq : IsQuote q) (hr : Rem s r) (h : pvStr (parseQuoted cfg q n [] 0 s) = (.ok, v, s')) :
    ∃ t r', q :: r = t ++ r' ∧ Value cfg L t v ∧ Rem s' r' ∧ (isNumberVal v = true → s'.l.loaded = true) := by
  unfold pvStr at h
  split at h
  next str s1 hs =>
    obtain ⟨body, r', rfl, hb, hlen, hr'⟩ := quoted_sound hq hr hs
    obtain ⟨_, rfl, rfl⟩ := tuple_eq3 h
    exact ⟨q :: body ++ [q], r', by simp, Value.str _ _ _ _ hq hb hlen, hr', nofun⟩
  next hne _ => exact (hne (tuple_eq3 h).1).elim

theorem keyword_sound {c : Byte} {ks : List Byte} (h : (c, ks, v) ∈ keywords) :
    Value cfg L (c :: ks) v ∧ isNumberVal v = false := by
  simp only [keywords, List.mem_cons, Prod.mk.injEq, List.not_mem_nil, or_false] at h
  rcases h with ⟨rfl, rfl, rfl⟩ | ⟨rfl, rfl, rfl⟩ | ⟨rfl, rfl, rfl⟩
  · exact ⟨Value.true _, rfl⟩
  · exact ⟨Value.false _, rfl⟩
  · exact ⟨Value.null _, rfl⟩

/-- the ways in which `pvTok` returns `Ok`, by the byte `c` on which the state is latched -/
theorem pvTok_ok_inv {c : Byte} (hc : cur s = (c, s)) (h : pvTok cfg f L s = (.ok, v, s')) :
    (c = 0x5B ∧ ∃ L', L = L' + 1 ∧ pvArr cfg f L' (skipSpaces cfg (f + 1) (mv s)) = (.ok, v, s')) ∨
    (c = 0x7B ∧ ∃ L', L = L' + 1 ∧ pvObj cfg f L' (skipSpaces cfg (f + 1) (mv s)) = (.ok, v, s')) ∨
    (IsQuote c ∧ pvStr (parseQuoted cfg c (f + 1) [] 0 (mv s)) = (.ok, v, s')) ∨
    (∃ ks, (c, ks, v) ∈ keywords ∧ skipKeyword (c :: ks) s = (.ok, s')) ∨
    (c ≠ 0x6E ∧ parseNumeric cfg s = (.ok, v, s')) := by
  unfold pvTok at h
  rw [hc] at h
  rcases ite_eq_cases h with ⟨h1, h⟩ | ⟨_, h⟩
  · obtain rfl := eq_of_beq h1
    cases L with
    | zero => cases h
    | succ L' => exact .inl ⟨rfl, L', rfl, h⟩
  rcases ite_eq_cases h with ⟨h2, h⟩ | ⟨_, h⟩
  · obtain rfl := eq_of_beq h2
    cases L with
    | zero => cases h
    | succ L' => exact .inr (.inl ⟨rfl, L', rfl, h⟩)
  rcases ite_eq_cases h with ⟨h3, h⟩ | ⟨_, h⟩
  · exact .inr (.inr (.inl ⟨isQuote_of_beq h3, h⟩))
  rcases ite_eq_cases h with ⟨h4, h⟩ | ⟨_, h⟩
  · obtain rfl := eq_of_beq h4
    rw [kw_true] at h
    obtain ⟨e, rfl, rfl⟩ := tuple_eq3 h
    exact .inr (.inr (.inr (.inl ⟨_, .head _, Prod.ext e rfl⟩)))
  rcases ite_eq_cases h with ⟨h5, h⟩ | ⟨_, h⟩
  · obtain rfl := eq_of_beq h5
    rw [kw_false] at h
    obtain ⟨e, rfl, rfl⟩ := tuple_eq3 h
    exact .inr (.inr (.inr (.inl ⟨_, .tail _ (.head _), Prod.ext e rfl⟩)))
  rcases ite_eq_cases h with ⟨h6, h⟩ | ⟨h6, h⟩
  · obtain rfl := eq_of_beq h6
    rw [kw_null] at h
    obtain ⟨e, rfl, rfl⟩ := tuple_eq3 h
    exact .inr (.inr (.inr (.inl ⟨_, .tail _ (.tail _ (.head _)), Prod.ext e rfl⟩)))
  · exact .inr (.inr (.inr (.inr ⟨not_beq_ne h6, h⟩)))
theorem pvTok_sound {c : Byte} (hE : PEs cfg f) (hM : PMs cfg f) (hr : Rem s r) (hc : cur s = (c, s))
    (hc0 : c = r.headD 0) (h : pvTok cfg f L s = (.ok, v, s')) :
    ∃ t r', r = t ++ r' ∧ Value cfg L t v ∧ Rem s' r' ∧ (isNumberVal v = true → s'.l.loaded = true) := by
  rcases pvTok_ok_inv hc h with ⟨rfl, L', rfl, k⟩ | ⟨rfl, L', rfl, k⟩ | ⟨hq, k⟩ | ⟨ks, hk, k⟩ | ⟨hn, k⟩
  · obtain ⟨t, rfl, ht⟩ := hr.eat hc (by decide)
    exact pvArr_sound hE ht k
  · obtain ⟨t, rfl, ht⟩ := hr.eat hc (by decide)
    exact pvObj_sound hM ht k
  · obtain ⟨t, rfl, ht⟩ := hr.eat hc (isQuote_facts hq).1
    exact pvStr_sound hq ht k
  · obtain ⟨r', rfl, hr'⟩ := skipKeyword_sound _ _ _ _ hr k
    obtain ⟨hv, hnum⟩ := keyword_sound (cfg := cfg) (L := L) hk
    exact ⟨c :: ks, r', rfl, hv, hr', fun hh => by rw [hnum] at hh; cases hh⟩
  · obtain ⟨lit, r', rfl, g2, g3, g4, g5, g6, _⟩ := parseNumeric_sound cfg hr k
    refine ⟨lit, r', rfl, Value.num _ _ _ ⟨g2, g3, ?_, g4⟩, g5, fun _ => g6⟩
    -- a token that starts with `n` went to the keyword
    intro hh
    cases lit with
    | nil => cases hh
    | cons a l => exact hn (hc0.trans (Option.some.inj hh))

theorem peK2_sound {w1 t : List Byte} {acc : List Val} {x : Val} (hE : PEs cfg f) (hw1 : DWs cfg w1)
    (ht : Value cfg L t x) (hr : Rem s r) (h : peK2 cfg f L (x :: acc) (skipSpaces cfg n s) = (.ok, v, s')) :
    ∃ body xs r', w1 ++ t ++ r = body ++ 0x5D :: r' ∧ Elements cfg L body xs ∧ v = .arr (acc.reverse ++ xs) ∧
      Rem s' r' := by
  unfold peK2 at h
  split at h
  next s1 hs =>
    obtain ⟨w2, c, r1, rfl, hw2, hr1, hc, _⟩ := skipSpaces_latched hr hs
    rw [hc] at h
    rcases ite_eq_cases h with ⟨hd, h⟩ | ⟨_, h⟩
    · obtain rfl := eq_of_beq hd
      obtain ⟨r', rfl, hr'⟩ := hr1.eat hc (by decide)
      obtain ⟨_, rfl, rfl⟩ := tuple_eq3 h
      exact ⟨w1 ++ t ++ w2, [x], r', by simp, Elements.one _ _ _ _ _ hw1 ht hw2, by simp, hr'⟩
    rcases ite_eq_cases h with ⟨hd, h⟩ | ⟨_, h⟩
    · obtain rfl := eq_of_beq hd
      obtain ⟨r2, rfl, hr2⟩ := hr1.eat hc (by decide)
      obtain ⟨body, xs, r', rfl, hb, rfl, hr'⟩ := hE _ _ _ _ _ _ hr2 h
      exact ⟨w1 ++ t ++ w2 ++ 0x2C :: body, x :: xs, r', by simp, Elements.cons _ _ _ _ _ _ _ hw1 ht hw2 hb, by simp, hr'⟩
    · cases h
  next hne _ => exact (hne (tuple_eq3 h).1).elim

theorem parseUnquoted_len : ∀ (n : Nat) (acc : List Byte) (s : St), acc.length ≤ (parseUnquoted n acc s).1.length := by
  intro n
  induction n with
  | zero => intro acc s; simp [parseUnquoted]
  | succ n ih =>
    intro acc s
    simp only [parseUnquoted]
    split
    · have := ih ((cur s).1 :: acc) (mv (cur s).2)
      simp at this; omega
    · simp

theorem parseUnquoted_ne_nil {c : Byte} (hc : cur s = (c, s)) (hu : inUnquoted c = true) :
    (parseUnquoted (f + 1) [] s).1 ≠ [] := by
  intro h
  have e : parseUnquoted (f + 1) [] s = parseUnquoted f [c] (mv s) := by
    simp only [parseUnquoted, hc, hu, ↓reduceIte]
  have := parseUnquoted_len f [c] (mv s)
  rw [← e, h] at this
  exact Nat.not_succ_le_zero _ this

theorem pmKey_sound {s1 : St} {key : List Byte} (hr : Rem s r) (h : pmKey cfg f s = (.ok, key, s1)) :
    ∃ kt r1, r = kt ++ r1 ∧ Key cfg kt key ∧ Rem s1 r1 := by
  have hr0 := hr.look.1
  have hc := cur_cur s
  unfold pmKey at h
  generalize cur s = p at h hr0 hc
  obtain ⟨c, s0⟩ := p
  rcases ite_eq_cases h with ⟨hq, h⟩ | ⟨_, h⟩
  · have hq' := isQuote_of_beq hq
    obtain ⟨t, rfl, ht⟩ := hr0.eat hc (isQuote_facts hq').1
    obtain ⟨body, r', rfl, hb, hlen, hr'⟩ := quoted_sound hq' ht h
    exact ⟨c :: body ++ [c], r', by simp, Key.quoted _ _ _ hq' hb hlen, hr'⟩
  rcases ite_eq_cases h with ⟨hu, h⟩ | ⟨_, h⟩
  · have hne := parseUnquoted_ne_nil (f := f) hc hu
    generalize hp : parseUnquoted (f + 1) [] s0 = p at h hne
    obtain ⟨k, s2⟩ := p
    obtain ⟨hcode, rfl, rfl⟩ := tuple_eq3 h
    obtain ⟨x, r', rfl, rfl, hx, hr'⟩ := parseUnquoted_sound _ _ _ _ _ _ hr0 hp
    refine ⟨k, r', rfl, Key.bare _ hne hx ?_, hr'⟩
    rcases ite_eq_cases hcode with ⟨_, hcode⟩ | ⟨hle, _⟩
    · cases hcode
    · exact Nat.le_of_not_lt hle
  · cases h

variable {acc : List (List Byte × Val)} {kt k : List Byte}

theorem pmK4_sound (hM : PMs cfg f) (hr : Rem s r) (h : pmK4 cfg f L acc (skipSpaces cfg n s) = (.ok, v, s')) :
    ∃ body ms r', r = body ++ 0x7D :: r' ∧ Members cfg L body ms ∧ v = .obj (foldMembers acc ms) ∧ Rem s' r' := by
  unfold pmK4 at h
  split at h
  next s1 hs =>
    obtain ⟨w, r1, rfl, hw, hr1, _⟩ := skipSpaces_sound cfg _ _ _ _ hr hs
    obtain ⟨body, ms, r', rfl, hb, rfl, hr'⟩ := hM _ _ _ _ _ _ hr1 h
    exact ⟨w ++ body, ms, r', by simp, hb.prepend hw, rfl, hr'⟩
  next hne _ => exact (hne (tuple_eq3 h).1).elim

theorem pmK3_sound {w2 w3 t : List Byte} {x : Val} (hM : PMs cfg f) (hk : Key cfg kt k) (hw2 : DWs cfg w2)
    (hw3 : DWs cfg w3) (ht : Value cfg L t x) (hr : Rem s r)
    (h : pmK3 cfg f L (setMember acc k x) (skipSpaces cfg n s) = (.ok, v, s')) :
    ∃ body ms r', kt ++ w2 ++ 0x3A :: w3 ++ t ++ r = body ++ 0x7D :: r' ∧ Members cfg L body ms ∧
      v = .obj (foldMembers acc ms) ∧ Rem s' r' := by
  unfold pmK3 at h
  split at h
  next s1 hs =>
    obtain ⟨w4, c, r1, rfl, hw4, hr1, hc, _⟩ := skipSpaces_latched hr hs
    rw [hc] at h
    rcases ite_eq_cases h with ⟨hd, h⟩ | ⟨_, h⟩
    · obtain rfl := eq_of_beq hd
      obtain ⟨r', rfl, hr'⟩ := hr1.eat hc (by decide)
      obtain ⟨_, rfl, rfl⟩ := tuple_eq3 h
      exact ⟨[] ++ kt ++ w2 ++ 0x3A :: w3 ++ t ++ w4, [(k, x)], r', by simp,
        Members.one _ _ _ _ _ _ _ _ _ DWs.nil hk hw2 hw3 ht hw4, rfl, hr'⟩
    rcases ite_eq_cases h with ⟨hd, h⟩ | ⟨_, h⟩
    · obtain rfl := eq_of_beq hd
      obtain ⟨r2, rfl, hr2⟩ := hr1.eat hc (by decide)
      obtain ⟨body, ms, r', rfl, hb, rfl, hr'⟩ := pmK4_sound hM hr2 h
      exact ⟨[] ++ kt ++ w2 ++ 0x3A :: w3 ++ t ++ w4 ++ 0x2C :: body, (k, x) :: ms, r', by simp,
        Members.cons _ _ _ _ _ _ _ _ _ _ _ DWs.nil hk hw2 hw3 ht hw4 hb, rfl, hr'⟩
    · cases h
  next hne _ => exact (hne (tuple_eq3 h).1).elim

theorem pmK2_sound {w2 : List Byte} (hV : PVs cfg f) (hM : PMs cfg f) (hk : Key cfg kt k) (hw2 : DWs cfg w2)
    (hr : Rem s r) (h : pmK2 cfg f L acc k (parseVariant cfg f L s) = (.ok, v, s')) :
    ∃ body ms r', kt ++ w2 ++ 0x3A :: r = body ++ 0x7D :: r' ∧ Members cfg L body ms ∧
      v = .obj (foldMembers acc ms) ∧ Rem s' r' := by
  unfold pmK2 at h
  split at h
  next x s1 hx =>
    obtain ⟨w3, t, r1, rfl, hw3, ht, hr1, _⟩ := hV _ _ _ _ _ hr hx
    obtain ⟨body, ms, r', e, hb⟩ := pmK3_sound hM hk hw2 hw3 ht hr1 h
    exact ⟨body, ms, r', by rw [← e]; simp, hb⟩
  next hne _ => exact (hne (tuple_eq3 h).1).elim

theorem pmK1_sound (hV : PVs cfg f) (hM : PMs cfg f) (hk : Key cfg kt k) (hr : Rem s r)
    (h : pmK1 cfg f L acc k (skipSpaces cfg n s) = (.ok, v, s')) :
    ∃ body ms r', kt ++ r = body ++ 0x7D :: r' ∧ Members cfg L body ms ∧ v = .obj (foldMembers acc ms) ∧
      Rem s' r' := by
  unfold pmK1 at h
  split at h
  next s1 hs =>
    obtain ⟨w2, c, r1, rfl, hw2, hr1, hc, _⟩ := skipSpaces_latched hr hs
    rw [hc] at h
    rcases ite_eq_cases h with ⟨_, h⟩ | ⟨hd, h⟩
    · cases h
    · obtain rfl : c = 0x3A := by simpa using hd
      obtain ⟨r2, rfl, hr2⟩ := hr1.eat hc (by decide)
      obtain ⟨body, ms, r', e, hb⟩ := pmK2_sound hV hM hk hw2 hr2 h
      exact ⟨body, ms, r', by rw [← e]; simp, hb⟩
  next hne _ => exact (hne (tuple_eq3 h).1).elim

end pieces

theorem pv_step (cfg : Cfg) (fuel : Nat) (hE : PEs cfg fuel) (hM : PMs cfg fuel) : PVs cfg (fuel + 1) := by
  intro L s r v s' hr h
  rw [parseVariant_succ] at h
  unfold pvK at h
  split at h
  next s1 hs =>
    obtain ⟨w, c, r1, rfl, hw, hr1, hc, hc0⟩ := skipSpaces_latched hr hs
    obtain ⟨t, r', rfl, hv, hr', hl⟩ := pvTok_sound hE hM hr1 hc hc0 h
    exact ⟨w, t, r', by simp, hw, hv, hr', hl⟩
  next hne _ => exact (hne (tuple_eq3 h).1).elim

theorem pe_step (cfg : Cfg) (fuel : Nat) (hV : PVs cfg fuel) (hE : PEs cfg fuel) : PEs cfg (fuel + 1) := by
  intro L s r acc v s' hr h
  rw [parseElems_succ] at h
  unfold peK1 at h
  split at h
  next x s1 hx =>
    obtain ⟨w1, t, r1, rfl, hw1, ht, hr1, _⟩ := hV _ _ _ _ _ hr hx
    exact peK2_sound hE hw1 ht hr1 h
  next hne _ => exact (hne (tuple_eq3 h).1).elim

theorem pm_step (cfg : Cfg) (fuel : Nat) (hV : PVs cfg fuel) (hM : PMs cfg fuel) : PMs cfg (fuel + 1) := by
  intro L s r acc v s' hr h
  rw [parseMembers_succ] at h
  unfold pmK0 at h
  split at h
  next key s1 hkey =>
    obtain ⟨kt, r1, rfl, hk, hr1⟩ := pmKey_sound hr hkey
    exact pmK1_sound hV hM hk hr1 h
  next hne _ => exact (hne (tuple_eq3 h).1).elim

/-- soundness of the three mutually recursive routines, for every fuel -/
theorem sound_all (cfg : Cfg) : ∀ fuel, PVs cfg fuel ∧ PEs cfg fuel ∧ PMs cfg fuel := by
  intro fuel
  induction fuel with
  | zero =>
    refine ⟨?_, ?_, ?_⟩
    · intro limit s r v s' _ h; simp [parseVariant] at h
    · intro limit s r acc v s' _ h; simp [parseElems] at h
    · intro limit s r acc v s' _ h; simp [parseMembers] at h
  | succ n ih => exact ⟨pv_step cfg n ih.2.1 ih.2.2, pe_step cfg n ih.1 ih.2.1, pm_step cfg n ih.1 ih.2.2⟩

/-- the run: `Ok` only on a text of the dialect, and then with the value the dialect assigns -/
theorem run_sound (cfg : Cfg) (L : Nat) (t : List Byte) (h : (run cfg L t).1 = .ok) :
    Doc cfg L t (run cfg L t).2.1 := by
  rw [run_eq] at h ⊢
  have hr0 : Rem ({ l := { unread := t } } : St) t := Rem.un rfl
  generalize hp : parseVariant cfg (2 * t.length + 4) L { l := { unread := t } } = p at h ⊢
  obtain ⟨e, v, s⟩ := p
  by_cases he : e = .ok
  · subst he
    rw [finishRun_ok] at h ⊢
    have hc : ¬ (s.l.cur != 0 && !isWs s.l.cur && isNumberVal v) = true := fun hc => by
      rw [if_pos hc] at h
      cases h
    obtain ⟨w, body, r', ht, h2, h3, h4, h5⟩ := (sound_all cfg _).1 _ _ _ _ _ hr0 hp
    refine ⟨w, body, r', ht, h2, h3, ?_⟩
    intro hn
    rw [← h4.loaded_cur (h5 hn)]
    simp only [hn, Bool.and_true, Bool.and_eq_true, bne_iff_ne, ne_eq, Bool.not_eq_true', not_and,
      Bool.not_eq_false] at hc
    by_cases h0 : s.l.cur = 0
    · exact Or.inl h0
    · exact Or.inr (hc h0)
  · rw [finishRun_err he] at h
    exact absurd h he

end JD
