/- String table of the slot-level document `DL.Doc`: exact reference counts (`Exact`), what `saveString` and
   `derefString` do to the table, to the allocator log and to the pool (`PL.St.rel`). Used by AJ/Lemmas/DocReuse.lean,
   AJ/Props/C06Doc.lean and AJ/Props/C19Str.lean. -/
import AJ.Lemmas.DocFrame
import AJ.Lemmas.DocClosure

/-! ## The allocator log as a ledger -/
namespace PL

/-- kind of an allocator log entry: `A<size>` successful allocate, `A<size>!` failed allocate, `R<size>[!]` reallocate,
    `D` deallocate -/
inductive EntryKind | allocOK | allocFail | realloc | dealloc | other
deriving DecidableEq, Repr

def entryKind (e : String) : EntryKind :=
  match e.toList with
  | 'D' :: _ => .dealloc
  | 'A' :: r => if r.getLast? = some '!' then .allocFail else .allocOK
  | 'R' :: _ => .realloc
  | _ => .other

/-- change of the number of blocks outstanding caused by one log entry: a successful allocate hands one out, a
    deallocate takes one back, a reallocate replaces a block by a block (or fails and leaves it) -/
def delta (e : String) : Int :=
  match entryKind e with | .allocOK => 1 | .dealloc => -1 | _ => 0

/-- blocks outstanding according to the allocator log (newest entry first) -/
def outstanding : List String → Int
  | [] => 0
  | e :: log => outstanding log + delta e

theorem delta_D : delta "D" = -1 := by decide

theorem toList_entry (c : String) (n : Nat) (b : Bool) :
    (toString c ++ toString n ++ toString (if b = true then "!" else "")).toList =
      c.toList ++ Nat.toDigits 10 n ++ (if b then ['!'] else []) := by
  rw [String.toList_append, String.toList_append]
  show c.toList ++ (Nat.repr n).toList ++ _ = _
  unfold Nat.repr
  cases b
  · simp; rfl
  · simp; rfl

theorem digits_last (n : Nat) : (Nat.toDigits 10 n).getLast? ≠ some '!' := by
  intro h
  have := Nat.isDigit_of_mem_toDigits (b := 10) (n := n) (by decide) (by decide) (List.mem_of_getLast? h)
  exact absurd this (by decide)

theorem delta_alloc (n : Nat) (fail : Bool) :
    delta (s!"A{n}{if fail then "!" else ""}") = if fail then 0 else 1 := by
  have h := toList_entry "A" n fail
  have hA : "A".toList = ['A'] := by decide
  rw [hA] at h
  unfold delta entryKind
  show (match (match (toString "A" ++ toString n ++ toString (if fail = true then "!" else "")).toList with
    | 'D' :: _ => EntryKind.dealloc
    | 'A' :: r => if r.getLast? = some '!' then .allocFail else .allocOK
    | 'R' :: _ => .realloc
    | _ => .other) with | .allocOK => (1 : Int) | .dealloc => -1 | _ => 0) = _
  rw [h]
  cases fail
  · simp [digits_last]
  · simp

theorem delta_realloc (n : Nat) (fail : Bool) :
    delta (s!"R{n}{if fail then "!" else ""}") = 0 := by
  have h := toList_entry "R" n fail
  have hA : "R".toList = ['R'] := by decide
  rw [hA] at h
  unfold delta entryKind
  show (match (match (toString "R" ++ toString n ++ toString (if fail = true then "!" else "")).toList with
    | 'D' :: _ => EntryKind.dealloc
    | 'A' :: r => if r.getLast? = some '!' then .allocFail else .allocOK
    | 'R' :: _ => .realloc
    | _ => .other) with | .allocOK => (1 : Int) | .dealloc => -1 | _ => 0) = _
  rw [h]
  rfl

theorem outstanding_replicate_D (k : Nat) (log : List String) :
    outstanding (List.replicate k "D" ++ log) = outstanding log - k := by
  induction k with
  | zero => simp
  | succ k ih =>
    rw [List.replicate_succ, List.cons_append]
    simp only [outstanding, ih, delta_D]
    omega

/-- blocks outstanding according to the log, minus the blocks the pool list owns: what is owned elsewhere (by the
    string table) -/
def net (s : St) : Int := outstanding s.log - blocks s

theorem alloc_facts (s : St) (n : Nat) : ∃ ok s1, s.alloc n = (ok, s1) ∧ s1.pools = s.pools ∧ s1.tableHeap = s.tableHeap ∧
    s1.tableCap = s.tableCap ∧ s1.free = s.free ∧
    outstanding s1.log = outstanding s.log + (if ok then 1 else 0) := by
  refine ⟨_, _, rfl, rfl, rfl, rfl, rfl, ?_⟩
  show outstanding (_ :: s.log) = _
  simp only [outstanding]
  have := delta_alloc n (s.failsAt (s.calls + 1))
  show _ + delta (s!"A{n}{if s.failsAt (s.calls + 1) then "!" else ""}") = _ + if (!s.failsAt (s.calls + 1)) = true then 1 else 0
  rw [this]
  cases s.failsAt (s.calls + 1) <;> rfl

theorem realloc_facts (s : St) (n : Nat) (b : Bool) : ∃ ok s1, s.realloc n b = (ok, s1) ∧ s1.pools = s.pools ∧
    s1.tableHeap = s.tableHeap ∧ s1.tableCap = s.tableCap ∧ s1.free = s.free ∧ outstanding s1.log = outstanding s.log := by
  refine ⟨_, _, rfl, rfl, rfl, rfl, rfl, ?_⟩
  show outstanding (_ :: s.log) = _
  simp only [outstanding]
  have := delta_realloc n (b && s.failsAt (s.calls + 1))
  show _ + delta (s!"R{n}{if (b && s.failsAt (s.calls + 1)) then "!" else ""}") = _
  rw [this]; omega

theorem allocFromLastPool_net (g : Geo) (s : St) : net (allocFromLastPool g s).2 = net s := by
  generalize h : allocFromLastPool g s = r
  obtain ⟨o, s'⟩ := r
  cases o with
  | none => rw [(allocFromLastPool_none h).1]
  | some id =>
    obtain ⟨ps, p, hs, _, _, _, rfl⟩ := allocFromLastPool_some h
    simp only [net, blocks, hs, List.countP_append, List.countP_cons, List.countP_nil]

theorem increaseCapacity_net (g : Geo) (s : St) : net (increaseCapacity g s).2 = net s := by
  unfold increaseCapacity
  split
  · rfl
  · simp only
    generalize (if (decide (g.wrap (s.tableCap * 2) > g.maxPools) ||
        decide (g.wrap (s.tableCap * 2) < s.tableCap)) = true then g.maxPools
        else g.wrap (s.tableCap * 2)) = nc
    cases hh : s.tableHeap
    · obtain ⟨ok, s1, h, h1, h2, h3, h4, h5⟩ := alloc_facts s (nc * g.poolSize)
      simp only [Bool.not_false, if_true, h]
      cases ok
      · simp only [Bool.not_false, if_true, net, blocks, h1, h2, h5]; simp
      · simp only [Bool.not_true, Bool.false_eq_true, if_false, net, blocks, h1, h5, hh]; simp; omega
    · obtain ⟨ok, s1, h, h1, h2, h3, h4, h5⟩ := realloc_facts s (nc * g.poolSize) true
      simp only [Bool.not_true, Bool.false_eq_true, if_false, h]
      cases ok
      · simp only [Bool.not_false, if_true, net, blocks, h1, h2, h5]
      · simp only [Bool.not_true, Bool.false_eq_true, if_false, net, blocks, h1, h2, h5]

theorem addPool_net (g : Geo) (s : St) : net (addPool g s).2 = net s := by
  unfold addPool
  split
  · rfl
  · simp only
    have hn : net (if (s.pools.length == s.tableCap) = true then increaseCapacity g s else (true, s)).2 = net s := by
      split
      · exact increaseCapacity_net g s
      · rfl
    generalize (if (s.pools.length == s.tableCap) = true then increaseCapacity g s else (true, s)) = r1 at hn
    obtain ⟨ok, s1⟩ := r1
    cases ok
    · exact hn
    · simp only [Bool.not_true, Bool.false_eq_true, if_false]
      generalize (if (g.wrap (s1.pools.length + 1) == g.maxPools) = true then g.nullSlot - (g.maxPools - 1) * g.poolCap
        else g.poolCap) = cap
      obtain ⟨got, s2, h, h1, h2, h3, h4, h5⟩ := alloc_facts s1 (cap * g.slotSize)
      rw [h]
      simp only at hn ⊢
      rw [← hn]
      cases got
      · simp [net, blocks, h1, h2, h5, List.countP_append]
      · simp [net, blocks, h1, h2, h5, List.countP_append]; omega

/-- `allocSlot` keeps the balance: every block it obtains from the allocator is owned by the pool list afterwards
    (a pool, or the pool table), and it never gives one back -/
theorem allocSlot_net (g : Geo) (s : St) : net (allocSlot g s).2 = net s := by
  refine allocSlot_cases (Q := fun r => net r.2 = net s) ?_ ?_ ?_
  · intro id rest _; rfl
  · intro id s1 _ hr1
    have h1 := allocFromLastPool_net g s
    rw [hr1] at h1; exact h1
  · intro ok s2 _ _ hr2
    have h2 := addPool_net g s
    rw [hr2] at h2
    cases ok
    · exact h2
    · simp only [Bool.not_true, Bool.false_eq_true, if_false]
      rw [allocFromLastPool_net]; exact h2

theorem freeSlot_net (s : St) (id : Nat) : net (freeSlot s id) = net s := rfl

theorem clear_net (g : Geo) (s : St) : outstanding (clear g s).log = net s ∧ blocks (clear g s) = 0 := by
  obtain ⟨a, b, c, _, _, _, h⟩ := clear_spec g s
  refine ⟨?_, by unfold blocks; rw [a, c]; rfl⟩
  rw [h, outstanding_replicate_D]; rfl
end PL

namespace DL
open JD (Byte Val)

/-! ## Pool after releases -/

/-- the pool state `p` after the slots `r` were pushed on the free list (most recent first) and `k` blocks were handed
    back to the allocator (`k` entries `D` in the log); nothing else differs: no allocator call, no pool touched -/
def _root_.PL.St.rel (p : PL.St) (r : List Nat) (k : Nat) : PL.St :=
  { p with free := r ++ p.free, log := List.replicate k "D" ++ p.log }

theorem rel_nil (p : PL.St) : p.rel [] 0 = p := rfl
theorem rel_rel (p : PL.St) (r1 r2 : List Nat) (k1 k2 : Nat) : (p.rel r1 k1).rel r2 k2 = p.rel (r2 ++ r1) (k2 + k1) := by
  simp only [PL.St.rel, List.append_assoc, ← List.replicate_append_replicate]
theorem freeSlot_rel (p : PL.St) (r : List Nat) (k id : Nat) : PL.freeSlot (p.rel r k) id = p.rel (id :: r) k := rfl
theorem dealloc_rel (p : PL.St) (r : List Nat) (k : Nat) : (p.rel r k).dealloc = p.rel r (k + 1) := rfl
@[simp] theorem rel_pools (p : PL.St) (r : List Nat) (k : Nat) : (p.rel r k).pools = p.pools := rfl
@[simp] theorem rel_free (p : PL.St) (r : List Nat) (k : Nat) : (p.rel r k).free = r ++ p.free := rfl
@[simp] theorem rel_log (p : PL.St) (r : List Nat) (k : Nat) : (p.rel r k).log = List.replicate k "D" ++ p.log := rfl
@[simp] theorem rel_calls (p : PL.St) (r : List Nat) (k : Nat) : (p.rel r k).calls = p.calls := rfl
@[simp] theorem rel_failAt (p : PL.St) (r : List Nat) (k : Nat) : (p.rel r k).failAt = p.failAt := rfl
@[simp] theorem rel_failFrom (p : PL.St) (r : List Nat) (k : Nat) : (p.rel r k).failFrom = p.failFrom := rfl
@[simp] theorem rel_tableCap (p : PL.St) (r : List Nat) (k : Nat) : (p.rel r k).tableCap = p.tableCap := rfl
@[simp] theorem rel_tableHeap (p : PL.St) (r : List Nat) (k : Nat) : (p.rel r k).tableHeap = p.tableHeap := rfl

/-! ## Exact reference counts -/

/-- reference count stored in node `id` (0 when the node does not exist) -/
def Doc.refsOf (d : Doc) (id : Nat) : Nat :=
  match d.strings.find? (·.id == id) with | some n => n.refs | none => 0

/-- `Exact d rs`: every node of the string table is referenced, and its counter is exactly the number of references
    to it in `rs`. (`StrOK` only says "at least"; together they say that the table holds exactly the strings in use.) -/
def Exact (d : Doc) (rs : List Nat) : Prop := ∀ n ∈ d.strings, n.refs = rs.count n.id ∧ 1 ≤ n.refs

theorem Exact_perm {d : Doc} {rs rs' : List Nat} (hp : List.Perm rs rs') (h : Exact d rs) : Exact d rs' :=
  fun n hn => by rw [← hp.count_eq]; exact h n hn

theorem Exact_congr {d d' : Doc} {rs : List Nat} (h1 : d'.strings = d.strings) (h : Exact d rs) : Exact d' rs := by
  intro n hn; rw [h1] at hn; exact h n hn

/-- exact counts after the counter of node `n` went through `f` and the references to `n` (only) changed with it -/
theorem Exact_bump {d d' : Doc} {rs rs' : List Nat} {n : Nat} (f : Nat → Nat) (he : Exact d rs)
    (hstr : d'.strings = d.strings.map (fun y => if y.id == n then { y with refs := f y.refs } else y))
    (hn : ∀ y ∈ d.strings, y.id = n → f y.refs = rs'.count n ∧ 1 ≤ f y.refs)
    (hoth : ∀ m, m ≠ n → rs'.count m = rs.count m) : Exact d' rs' := by
  intro y' hy'
  rw [hstr] at hy'
  obtain ⟨y, hy, rfl⟩ := List.mem_map.1 hy'
  by_cases hyn : y.id = n
  · rw [if_pos (beq_iff_eq.2 hyn)]; exact hyn ▸ hn y hy hyn
  · rw [if_neg (fun h => hyn (beq_iff_eq.1 h)), hoth _ hyn]; exact he y hy

theorem refsOf_of_mem {d : Doc} (hnd : (d.strings.map (·.id)).Nodup) {x : StrNode} (hx : x ∈ d.strings) :
    d.refsOf x.id = x.refs := by
  simp only [Doc.refsOf, find_id_of_nodup hnd hx]

theorem refsOf_absent {d : Doc} {m : Nat} (h : ∀ x ∈ d.strings, x.id ≠ m) : d.refsOf m = 0 := by
  have : d.strings.find? (·.id == m) = none := by
    rw [List.find?_eq_none]; intro x hx; simpa using h x hx
  simp only [Doc.refsOf, this]

/-- changing the counter of node `n` leaves ids and bytes alone -/
theorem map_refs_id (n : Nat) (f : Nat → Nat) (y : StrNode) :
    (if y.id == n then { y with refs := f y.refs } else y).id = y.id ∧
    (if y.id == n then { y with refs := f y.refs } else y).bytes = y.bytes := by
  split <;> exact ⟨rfl, rfl⟩

theorem map_refs_ids (n : Nat) (f : Nat → Nat) (l : List StrNode) :
    (l.map (fun y => if y.id == n then { y with refs := f y.refs } else y)).map (·.id) = l.map (·.id) := by
  rw [List.map_map]; congr 1; funext y; exact (map_refs_id n f y).1

theorem map_refs_bytes (n : Nat) (f : Nat → Nat) (l : List StrNode) :
    (l.map (fun y => if y.id == n then { y with refs := f y.refs } else y)).map (·.bytes) = l.map (·.bytes) := by
  rw [List.map_map]; congr 1; funext y; exact (map_refs_id n f y).2

/-- the counters of a table in which the counter of node `n` went through `f` -/
theorem refsOf_map_refs {d d' : Doc} (n : Nat) (f : Nat → Nat)
    (h : d'.strings = d.strings.map (fun y => if y.id == n then { y with refs := f y.refs } else y)) (m : Nat) :
    d'.refsOf m = if m = n then (match d.strings.find? (·.id == n) with | some x => f x.refs | none => 0)
      else d.refsOf m := by
  have hfind : d'.strings.find? (·.id == m) = (d.strings.find? (·.id == m)).map
      (fun y => if y.id == n then { y with refs := f y.refs } else y) := by
    rw [h, List.find?_map]
    have : ((fun (y : StrNode) => y.id == m) ∘ fun y => if y.id == n then { y with refs := f y.refs } else y)
        = fun y => y.id == m := by funext y; simp only [Function.comp, (map_refs_id n f y).1]
    rw [this]
  simp only [Doc.refsOf, hfind]
  cases hfm : d.strings.find? (·.id == m) with
  | none =>
    by_cases hmn : m = n
    · subst hmn; rw [if_pos rfl, hfm]; rfl
    · rw [if_neg hmn]; rfl
  | some y =>
    have hy : y.id = m := by have := List.find?_some hfm; simpa using this
    by_cases hmn : m = n
    · subst hmn
      have hb : (y.id == m) = true := by simp [hy]
      simp only [Option.map_some, hb, if_true, hfm]
    · have hb : (y.id == n) = false := by simp [hy, hmn]
      simp only [Option.map_some, hb, if_neg hmn]
      rfl
/-- under `StrOK` and `Exact` the counter of node `m` is the number of references to `m`, for every `m` -/
theorem refsOf_exact {d : Doc} {rs : List Nat} (hs : StrOK d rs) (he : Exact d rs) (m : Nat) :
    d.refsOf m = rs.count m := by
  by_cases h : ∃ x ∈ d.strings, x.id = m
  · obtain ⟨x, hx, rfl⟩ := h
    rw [refsOf_of_mem hs.ids_nodup hx]; exact (he x hx).1
  · have h' : ∀ x ∈ d.strings, x.id ≠ m := fun x hx e => h ⟨x, hx, e⟩
    rw [refsOf_absent h']
    symm; apply List.count_eq_zero.2
    intro hm
    obtain ⟨y, hy, hyid⟩ := hs.present m hm
    exact h' y hy hyid

/-- a node exists exactly when it is referenced -/
theorem node_iff_referenced {d : Doc} {rs : List Nat} (hs : StrOK d rs) (he : Exact d rs) (m : Nat) :
    (∃ x ∈ d.strings, x.id = m) ↔ m ∈ rs := by
  constructor
  · rintro ⟨x, hx, rfl⟩
    have := he x hx
    exact List.count_pos_iff.1 (by omega)
  · intro hm
    obtain ⟨y, hy, hyid⟩ := hs.present m hm
    exact ⟨y, hy, hyid⟩

/-! ## Removing a node -/

theorem filter_id_length {l : List StrNode} (hnd : (l.map (·.id)).Nodup) {x : StrNode} (hx : x ∈ l) :
    (l.filter (·.id != x.id)).length + 1 = l.length := by
  induction l with
  | nil => cases hx
  | cons y ys ih =>
    simp only [List.map_cons, List.nodup_cons] at hnd
    by_cases hyx : y.id = x.id
    · have hall : ys.filter (·.id != x.id) = ys := by
        apply List.filter_eq_self.2
        intro z hz
        have : z.id ≠ x.id := fun e => hnd.1 (by rw [hyx, ← e]; exact List.mem_map_of_mem hz)
        simpa using this
      have hb : (y.id != x.id) = false := by simp [hyx]
      rw [List.filter_cons, hb]
      simp only [Bool.false_eq_true, if_false, hall, List.length_cons]
    · have hxs : x ∈ ys := by
        rcases List.mem_cons.1 hx with e | m
        · exact absurd (by rw [e]) hyx
        · exact m
      have hb : (y.id != x.id) = true := by simp [hyx]
      rw [List.filter_cons, hb]
      simp only [if_true, List.length_cons]
      have := ih hnd.2 hxs
      omega

/-! ## `derefString` -/

theorem derefString_found {d : Doc} {n : Nat} {x : StrNode} (hf : d.strings.find? (·.id == n) = some x) :
    d.derefString n =
      if x.refs ≤ 1 then { d with strings := d.strings.filter (·.id != n), pl := d.pl.dealloc }
      else { d with strings := d.strings.map (fun y => if y.id == n then { y with refs := y.refs - 1 } else y) } := by
  simp only [Doc.derefString, hf]

theorem derefString_absent {d : Doc} {n : Nat} (hf : d.strings.find? (·.id == n) = none) : d.derefString n = d := by
  simp only [Doc.derefString, hf]

/-- releasing one reference to node `n`: the overflow flag is kept; the table loses at most one node, and exactly
    when it does one `D` is logged; the byte strings stored are a sub-list of the old ones; exact counts stay exact -/
theorem derefString_facts {d : Doc} {n : Nat} {keep : List Nat} (hs : StrOK d (n :: keep)) :
    (d.derefString n).overflowed = d.overflowed ∧
    (d.derefString n).strings.length ≤ d.strings.length ∧
    (d.derefString n).pl = d.pl.rel [] (d.strings.length - (d.derefString n).strings.length) ∧
    ((d.derefString n).strings.map (·.bytes)).Sublist (d.strings.map (·.bytes)) ∧
    (Exact d (n :: keep) → Exact (d.derefString n) keep) := by
  obtain ⟨x, hx, hxid⟩ := hs.present n (by simp)
  have hf : d.strings.find? (·.id == n) = some x := by rw [← hxid]; exact find_id_of_nodup hs.ids_nodup hx
  rw [derefString_found hf]
  split
  · rename_i hle
    have hlen := filter_id_length hs.ids_nodup hx
    rw [hxid] at hlen
    refine ⟨rfl, ?_, ?_, (List.filter_sublist).map _, ?_⟩
    · show (d.strings.filter (·.id != n)).length ≤ _; omega
    · show d.pl.dealloc = d.pl.rel [] (d.strings.length - (d.strings.filter (·.id != n)).length)
      have : d.strings.length - (d.strings.filter (·.id != n)).length = 1 := by omega
      rw [this]; rfl
    · intro he y hy
      obtain ⟨hy1, hy2⟩ := List.mem_filter.1 hy
      have hne : y.id ≠ n := by simpa using hy2
      have := he y hy1
      rw [List.count_cons] at this
      have hb : (n == y.id) = false := by simp [Ne.symm hne]
      simpa [hb] using this
  · rename_i hgt
    refine ⟨rfl, ?_, ?_, ?_, ?_⟩
    · show (d.strings.map _).length ≤ _; rw [List.length_map]; exact Nat.le_refl _
    · show d.pl = d.pl.rel [] (d.strings.length - (d.strings.map _).length)
      rw [List.length_map, Nat.sub_self]; rfl
    · show ((d.strings.map _).map _).Sublist _
      rw [map_refs_bytes n (· - 1)]; exact List.Sublist.refl _
    · intro he
      refine Exact_bump (· - 1) he rfl (fun y hy hyn => ?_) (fun m hm => (List.count_cons_of_ne (Ne.symm hm)).symm)
      have hyx : y = x := by
        have h1 := find_id_of_nodup hs.ids_nodup hy
        rw [hyn, hf] at h1; exact (Option.some.inj h1).symm
      have := he y hy
      rw [hyn, List.count_cons_self] at this
      subst hyx; omega

/-! ## `saveString` -/

theorem saveString_found {d : Doc} {s : List Byte} {x : StrNode} (hf : d.strings.find? (·.bytes == s) = some x) :
    d.saveString s =
      (some x.id, { d with strings := d.strings.map (fun y => if y.id == x.id then { y with refs := y.refs + 1 } else y) }) := by
  simp only [Doc.saveString, hf]

/-- a new string: refused without an allocator call beyond the length limit, otherwise one allocator call -/
theorem saveString_new {d : Doc} {s : List Byte} (hf : d.strings.find? (·.bytes == s) = none) :
    d.saveString s =
      if s.length > d.maxStrLen then (none, { d with overflowed := true }) else
      if d.pl.failsAt (d.pl.calls + 1) then
        (none, { d with pl := (d.pl.alloc (s.length + d.strOverhead)).2, overflowed := true })
      else (some d.nextNode, { d with pl := (d.pl.alloc (s.length + d.strOverhead)).2, strings := ⟨d.nextNode, s, 1⟩ :: d.strings, nextNode := d.nextNode + 1 }) := by
  simp only [Doc.saveString, hf]
  split
  · rfl
  have h1 := PL.alloc_fst d.pl (s.length + d.strOverhead)
  generalize hq : d.pl.alloc (s.length + d.strOverhead) = q at h1 ⊢
  obtain ⟨ok, pl⟩ := q
  simp only at h1 ⊢
  subst h1
  cases d.pl.failsAt (d.pl.calls + 1) <;> simp

/-- a new string beyond the length limit: refused, flag set, nothing else changes (no allocator call) -/
theorem saveString_long {d : Doc} {s : List Byte} (hf : d.strings.find? (·.bytes == s) = none) (hlong : d.maxStrLen < s.length) :
    d.saveString s = (none, { d with overflowed := true }) := by
  rw [saveString_new hf, if_pos hlong]

/-- a new string within the length limit: exactly one allocator call decides -/
theorem saveString_short {d : Doc} {s : List Byte} (hf : d.strings.find? (·.bytes == s) = none) (hlen : s.length ≤ d.maxStrLen) :
    d.saveString s =
      if d.pl.failsAt (d.pl.calls + 1) then
        (none, { d with pl := (d.pl.alloc (s.length + d.strOverhead)).2, overflowed := true })
      else (some d.nextNode, { d with pl := (d.pl.alloc (s.length + d.strOverhead)).2, strings := ⟨d.nextNode, s, 1⟩ :: d.strings, nextNode := d.nextNode + 1 }) := by
  rw [saveString_new hf, if_neg (Nat.not_lt.2 hlen)]

/-- `saveString` keeps exact counts exact, with one more reference to the node it returns -/
theorem saveString_exact {d d1 : Doc} {s : List Byte} {n : Nat} {rs : List Nat} (hs : StrOK d rs) (he : Exact d rs)
    (h : d.saveString s = (some n, d1)) : Exact d1 (n :: rs) := by
  cases hf : d.strings.find? (·.bytes == s) with
  | some x =>
    rw [saveString_found hf] at h
    simp only [Prod.mk.injEq, Option.some.injEq] at h
    obtain ⟨rfl, rfl⟩ := h
    refine Exact_bump (· + 1) he rfl (fun y hy hyn => ?_) (fun m hm => List.count_cons_of_ne (Ne.symm hm))
    have := he y hy
    rw [hyn] at this
    rw [List.count_cons_self]; omega
  | none =>
    rw [saveString_new hf] at h
    split at h
    · simp only [Prod.mk.injEq] at h; exact absurd h.1 (by simp)
    split at h
    · simp only [Prod.mk.injEq] at h; exact absurd h.1 (by simp)
    · simp only [Prod.mk.injEq, Option.some.injEq] at h
      obtain ⟨rfl, rfl⟩ := h
      have hnotin : d.nextNode ∉ rs := by
        intro m
        obtain ⟨y, hy, hyid⟩ := hs.present _ m
        exact absurd (hs.ids_lt y hy) (by rw [hyid]; exact Nat.lt_irrefl _)
      intro y hy
      rw [List.count_cons]
      rcases List.mem_cons.1 hy with e | m
      · subst e
        have : rs.count d.nextNode = 0 := List.count_eq_zero.2 hnotin
        simp [this]
      · have hne : d.nextNode ≠ y.id := Nat.ne_of_gt (hs.ids_lt y m)
        have hb : (d.nextNode == y.id) = false := by simp [hne]
        simp only [hb]
        simpa using he y m

/-- `saveString` never changes cells, root, overflow flag (on success), geometry -/
theorem saveString_some_frame {d d1 : Doc} {s : List Byte} {n : Nat} (h : d.saveString s = (some n, d1)) :
    d1.cells = d.cells ∧ d1.root = d.root ∧ d1.g = d.g ∧ d1.overflowed = d.overflowed ∧ d1.strOverhead = d.strOverhead := by
  cases hf : d.strings.find? (·.bytes == s) with
  | some x =>
    rw [saveString_found hf] at h
    simp only [Prod.mk.injEq, Option.some.injEq] at h
    obtain ⟨_, rfl⟩ := h
    exact ⟨rfl, rfl, rfl, rfl, rfl⟩
  | none =>
    rw [saveString_new hf] at h
    split at h
    · simp only [Prod.mk.injEq] at h; exact absurd h.1 (by simp)
    split at h
    · simp only [Prod.mk.injEq] at h; exact absurd h.1 (by simp)
    · simp only [Prod.mk.injEq, Option.some.injEq] at h
      obtain ⟨_, rfl⟩ := h
      exact ⟨rfl, rfl, rfl, rfl, rfl⟩

/-- distinct nodes hold distinct byte strings ("equal copied strings are stored once") -/
def BytesNodup (d : Doc) : Prop := (d.strings.map (·.bytes)).Nodup

theorem find_bytes_none {l : List StrNode} {s : List Byte} (h : l.find? (·.bytes == s) = none) : s ∉ l.map (·.bytes) := by
  intro m
  obtain ⟨y, hy, e⟩ := List.mem_map.1 m
  have := List.find?_eq_none.1 h y hy
  simp [e] at this

theorem saveString_bytesNodup {d : Doc} {s : List Byte} (h : BytesNodup d) : BytesNodup (d.saveString s).2 := by
  cases hf : d.strings.find? (·.bytes == s) with
  | some x =>
    rw [saveString_found hf]
    show ((d.strings.map _).map _).Nodup
    rw [map_refs_bytes x.id (· + 1)]; exact h
  | none =>
    rw [saveString_new hf]
    split
    · exact h
    split
    · exact h
    · show (List.map (fun (x : StrNode) => x.bytes) (_ :: d.strings)).Nodup
      simp only [List.map_cons, List.nodup_cons]
      exact ⟨find_bytes_none hf, h⟩

/-! ## Balance of the allocator log against the blocks owned -/

/-- `Bal d`: the blocks outstanding according to the allocator log are exactly the blocks the document owns: one per
    pool with a block, one for a heap-allocated pool table, one per string node -/
def Bal (d : Doc) : Prop := PL.net d.pl = d.strings.length

theorem Bal_of {d d' : Doc} (h1 : PL.net d'.pl = PL.net d.pl) (h2 : d'.strings.length = d.strings.length) (h : Bal d) :
    Bal d' := by
  unfold Bal at *; rw [h1, h2]; exact h

theorem net_rel (p : PL.St) (r : List Nat) (k : Nat) : PL.net (p.rel r k) = PL.net p - k := by
  simp only [PL.net, rel_log, PL.outstanding_replicate_D]
  have : PL.blocks (p.rel r k) = PL.blocks p := rfl
  rw [this]; omega

theorem alloc_net (s : PL.St) (n : Nat) :
    PL.net (s.alloc n).2 = PL.net s + (if s.failsAt (s.calls + 1) then 0 else 1) := by
  obtain ⟨ok, s1, h, h1, h2, _, _, h5⟩ := PL.alloc_facts s n
  have hok : ok = !s.failsAt (s.calls + 1) := by
    have := PL.alloc_fst s n; rw [h] at this; exact this
  rw [h]
  simp only [PL.net, PL.blocks, h1, h2, h5, hok]
  cases s.failsAt (s.calls + 1) <;> simp <;> omega

theorem set_bal {d : Doc} (l : Loc) (v : VData) (h : Bal d) : Bal (d.set l v) :=
  Bal_of (by rw [set_pl]) (by rw [set_strings]) h

theorem allocVariant_pl_s (d : Doc) :
    d.allocVariant.2.pl = (PL.allocSlot d.g d.pl).2 ∧ d.allocVariant.2.strings = d.strings := by
  simp only [Doc.allocVariant]
  split <;> (rename_i h; rw [h]; exact ⟨rfl, rfl⟩)

theorem allocExt_pl (d : Doc) (p : Int) :
    (d.allocExt p).2.pl = (PL.allocSlot d.g d.pl).2 ∧ (d.allocExt p).2.strings = d.strings := by
  simp only [Doc.allocExt]
  split <;> (rename_i h; rw [h]; exact ⟨rfl, rfl⟩)

theorem allocVariant_bal {d : Doc} (h : Bal d) : Bal d.allocVariant.2 :=
  Bal_of (by rw [(allocVariant_pl_s d).1, PL.allocSlot_net]) (by rw [(allocVariant_pl_s d).2]) h

theorem allocExt_bal {d : Doc} (p : Int) (h : Bal d) : Bal (d.allocExt p).2 :=
  Bal_of (by rw [(allocExt_pl d p).1, PL.allocSlot_net]) (by rw [(allocExt_pl d p).2]) h

theorem saveString_bal {d : Doc} (s : List Byte) (h : Bal d) : Bal (d.saveString s).2 := by
  cases hf : d.strings.find? (·.bytes == s) with
  | some x =>
    rw [saveString_found hf]
    exact Bal_of (d := d) rfl (by show (d.strings.map _).length = _; rw [List.length_map]) h
  | none =>
    rw [saveString_new hf]
    unfold Bal at *
    split
    · exact h
    split
    · rename_i hfail
      show PL.net (d.pl.alloc _).2 = (d.strings.length : Int)
      rw [alloc_net, hfail, h]; simp
    · rename_i hfail
      show PL.net (d.pl.alloc _).2 = ((_ :: d.strings).length : Int)
      have : d.pl.failsAt (d.pl.calls + 1) = false := by simpa using hfail
      rw [alloc_net, this, h]; simp

theorem setArg_bal {d : Doc} (l : Loc) (a : Arg) (h : Bal d) : Bal (d.setArg l a).2 :=
  setArg_rel (ok := fun _ => True) (R := fun d d' => Bal d → Bal d') (fun _ h => h) (fun h1 h2 h => h2 (h1 h))
    (fun _ l v _ h => set_bal l v h) (fun _ p h => allocExt_bal p h) (fun _ s h => saveString_bal s h) d l a
    (fun _ _ => trivial) h

theorem setArg_bytesNodup {d : Doc} (l : Loc) (a : Arg) (h : BytesNodup d) : BytesNodup (d.setArg l a).2 :=
  setArg_rel (ok := fun _ => True) (R := fun d d' => BytesNodup d → BytesNodup d') (fun _ h => h)
    (fun h1 h2 h => h2 (h1 h)) (fun d l v _ h => by unfold BytesNodup at *; rw [set_strings]; exact h)
    (fun d p h => by unfold BytesNodup at *; rw [(allocExt_pl d p).2]; exact h)
    (fun _ s h => saveString_bytesNodup h) d l a (fun _ _ => trivial) h

/-! ## `clearAll` -/

theorem foldl_dealloc (ss : List StrNode) (p : PL.St) :
    ss.foldl (fun pl _ => pl.dealloc) p = p.rel [] ss.length := by
  induction ss generalizing p with
  | nil => rfl
  | cons x xs ih =>
    rw [List.foldl_cons, ih]
    show (p.rel [] 0).dealloc.rel [] xs.length = _
    rw [dealloc_rel, rel_rel]; rfl

/-- `clearAll` hands back every block the document owns — one `D` per pool with a block, one for a heap-allocated
    pool table, one per string node — and nothing else happens to the allocator (no call); afterwards the document is
    empty and owns nothing -/
theorem clearAll_spec (d : Doc) :
    d.clearAll.pl.log = List.replicate (PL.blocks d.pl + d.strings.length) "D" ++ d.pl.log ∧
    d.clearAll.pl.calls = d.pl.calls ∧ d.clearAll.pl.pools = [] ∧ d.clearAll.pl.free = [] ∧
    PL.blocks d.clearAll.pl = 0 ∧ d.clearAll.strings = [] ∧ d.clearAll.root = .null ∧
    d.clearAll.overflowed = false ∧ (∀ j, d.clearAll.cell j = .free) := by
  obtain ⟨a, b, c, _, e, _, h⟩ := PL.clear_spec d.g d.pl
  have hpl : d.clearAll.pl = (PL.clear d.g d.pl).rel [] d.strings.length := foldl_dealloc _ _
  refine ⟨?_, by rw [hpl, rel_calls, e], by rw [hpl, rel_pools, a], by rw [hpl, rel_free, b]; rfl, ?_, rfl, rfl, rfl, ?_⟩
  · rw [hpl, rel_log, h, ← List.append_assoc, List.replicate_append_replicate, Nat.add_comm]
  · rw [hpl]; show PL.blocks (PL.clear d.g d.pl) = 0
    unfold PL.blocks; rw [a, c]; rfl
  · intro j; simp [Doc.cell, Doc.clearAll]

/-- with a balanced log, after `clearAll` no block is outstanding -/
theorem clearAll_outstanding {d : Doc} (h : Bal d) : PL.outstanding d.clearAll.pl.log = 0 := by
  rw [(clearAll_spec d).1, PL.outstanding_replicate_D]
  unfold Bal PL.net at h
  omega

end DL
