/- The invariant of AJ/Lemmas/JddOps.lean pushed through the FILTERED slot-level deserializer
   `JDDF.parseVariant / parseElems / parseMembers` (AJ/Model/JDDF.lean) and through `JDDF.run`, for every filter.
   The induction on the fuel (`parse_all`) carries `Built`, `Fx` and any step relation `T` with `FStep T`
   (AJ/Lemmas/JddRes.lean): with the trivial relation it gives the well-formedness, the ledger and the result code of
   `run` proved here; AJ/Lemmas/JddfExact.lean and AJ/Lemmas/JddfCanon.lean instantiate it with `Tight` and `ExtBig`.
   The branches in which a value is skipped move the reader only.
   Used by AJ/Props/C03FDoc.lean and AJ/Props/C05FDeser.lean. -/
import AJ.Model.JDDF
import AJ.Lemmas.JddRes
namespace JDDF
open DL JDD
open JD (Byte Code Cfg Flt cur mv skipSpaces skipKeyword skipVariant skipElems skipMembers skipQuoted skipNumeric)

/-! ## The skipping routines never report NoMemory -/

theorem skipQuoted_nm (stop : Byte) : ∀ fuel s, (skipQuoted stop fuel s).1 ≠ .noMemory := by
  intro fuel
  induction fuel with
  | zero => intro s; simp [skipQuoted]
  | succ f ih =>
    intro s
    simp only [skipQuoted]
    split
    · simp
    · split
      · simp
      · split
        · split
          · exact ih _
          · exact ih _
        · exact ih _

theorem skip_nm (cfg : Cfg) : ∀ fuel,
    (∀ limit s, (skipVariant cfg fuel limit s).1 ≠ .noMemory) ∧
    (∀ limit s, (skipElems cfg fuel limit s).1 ≠ .noMemory) ∧
    (∀ limit s, (skipMembers cfg fuel limit s).1 ≠ .noMemory) := by
  intro fuel
  induction fuel with
  | zero =>
    refine ⟨?_, ?_, ?_⟩ <;> intro limit s
    · simp [skipVariant]
    · simp [skipElems]
    · simp [skipMembers]
  | succ f ih =>
    obtain ⟨ihV, ihE, ihM⟩ := ih
    refine ⟨?_, ?_, ?_⟩
    · intro limit s
      simp only [skipVariant]
      have hs0 := skipSpaces_nm cfg (f+1) s
      split
      · rename_i s1 heq
        split
        · split
          · simp
          · exact ihE _ _
        · split
          · split
            · simp
            · have hs1 := skipSpaces_nm cfg (f+1) (mv (cur s1).2)
              split
              · split
                · simp
                · exact ihM _ _
              · exact hs1
          · split
            · exact skipQuoted_nm _ _ _
            · split
              · exact skipKeyword_nm _ _
              · split
                · exact skipKeyword_nm _ _
                · split
                  · exact skipKeyword_nm _ _
                  · simp
      · exact hs0
    · intro limit s
      simp only [skipElems]
      have hv := ihV limit s
      split
      · rename_i s1 heq
        have hs1 := skipSpaces_nm cfg (f+1) s1
        split
        · split
          · simp
          · split
            · exact ihE _ _
            · simp
        · exact hs1
      · exact hv
    · intro limit s
      simp only [skipMembers]
      have hk : ∀ (kr : Code × JD.St), kr = (if ((cur s).1 == 34 || (cur s).1 == 39) = true then
            skipQuoted (cur s).1 (f + 1) (mv (cur s).2) else (Code.ok, JD.skipUnquoted (f + 1) (cur s).2)) →
          kr.1 ≠ .noMemory := by
        intro kr hkr
        split at hkr
        · rw [hkr]; exact skipQuoted_nm _ _ _
        · rw [hkr]; simp
      have hk' := hk _ rfl
      generalize (if ((cur s).1 == 34 || (cur s).1 == 39) = true then
            skipQuoted (cur s).1 (f + 1) (mv (cur s).2) else (Code.ok, JD.skipUnquoted (f + 1) (cur s).2)) = kr at hk' ⊢
      clear hk
      obtain ⟨kc, s1⟩ := kr
      simp only at hk' ⊢
      split
      · exact hk'
      · have hs1 := skipSpaces_nm cfg (f+1) s1
        split
        · rename_i s2 heq2
          split
          · simp
          · have hv := ihV limit (mv (cur s2).2)
            split
            · rename_i s3 heq3
              have hs3 := skipSpaces_nm cfg (f+1) s3
              split
              · rename_i s4 heq4
                split
                · simp
                · split
                  · have hs5 := skipSpaces_nm cfg (f+1) (mv (cur s4).2)
                    split
                    · exact ihM _ _
                    · exact hs5
                  · simp
              · exact hs3
            · exact hv
        · exact hs1

theorem skipVariant_nm (cfg : Cfg) (fuel limit : Nat) (s : JD.St) : (skipVariant cfg fuel limit s).1 ≠ .noMemory :=
  (skip_nm cfg fuel).1 limit s
theorem skipElems_nm (cfg : Cfg) (fuel limit : Nat) (s : JD.St) : (skipElems cfg fuel limit s).1 ≠ .noMemory :=
  (skip_nm cfg fuel).2.1 limit s
theorem skipMembers_nm (cfg : Cfg) (fuel limit : Nat) (s : JD.St) : (skipMembers cfg fuel limit s).1 ≠ .noMemory :=
  (skip_nm cfg fuel).2.2 limit s

/-! ## The statements, by fuel (for every filter and every step relation) -/

section
variable {T : Doc → Forest → Doc → Forest → Prop}

def PVs (T : Doc → Forest → Doc → Forest → Prop) (cfg : Cfg) (fuel : Nat) : Prop :=
  ∀ (limit : Nat) (flt : Flt) (l : Loc) (x : S) (d0 : Doc) (F : Forest),
    Ctx d0 F l → Built d0 F l x.d .nil → x.d.get l = .null → ResT T d0 F l x .nil (parseVariant cfg fuel limit flt l x)

def PEs (T : Doc → Forest → Doc → Forest → Prop) (cfg : Cfg) (fuel : Nat) : Prop :=
  ∀ (limit : Nat) (flt : Flt) (l : Loc) (x : S) (d0 : Doc) (F s : Forest) (h t : Nat),
    Ctx d0 F l → Built d0 F l x.d s → x.d.get l = .arr h t → ResT T d0 F l x s (parseElems cfg fuel limit flt l x)

def PMs (T : Doc → Forest → Doc → Forest → Prop) (cfg : Cfg) (fuel : Nat) : Prop :=
  ∀ (limit : Nat) (flt : Flt) (l : Loc) (x : S) (d0 : Doc) (F s : Forest) (h t : Nat),
    Ctx d0 F l → Built d0 F l x.d s → x.d.get l = .obj h t → ResT T d0 F l x s (parseMembers cfg fuel limit flt l x)

/-- parsing into the fresh slot `v` of the collection being built at `l` -/
theorem sub_parse {cfg : Cfg} {f : Nat} (ihV : PVs T cfg f) {d0 : Doc} {F : Forest} {l : Loc} {x : S} {s : Forest}
    {v : Nat} (limit : Nat) (flt : Flt) (C : Ctx d0 F l) (B : Built d0 F l x.d s) (hv : v ∈ s.locs)
    (hn : x.d.get (.slot v) = .null) :
    (∃ s', Built d0 F l (parseVariant cfg f limit flt (.slot v) x).2.d s' ∧
      T x.d (replaceAt F l s) (parseVariant cfg f limit flt (.slot v) x).2.d (replaceAt F l s')) ∧
    (parseVariant cfg f limit flt (.slot v) x).2.d.get l = x.d.get l ∧
    Fx x.d x.b (parseVariant cfg f limit flt (.slot v) x).2.d (parseVariant cfg f limit flt (.slot v) x).2.b
      (parseVariant cfg f limit flt (.slot v) x).1 := by
  have C1 := B.ctx_in C hv hn
  have R := ihV limit flt (.slot v) x x.d (replaceAt F l s) C1 (built_start B.wf B.str C1) hn
  obtain ⟨s2, B2, t⟩ := R.built
  obtain ⟨a, b⟩ := B.nest C hv B2
  have hvF : v ∉ F.ids := B.fresh v (s.locs_sub_ids v hv)
  rw [C1.replace_nil, replaceAt_nest s s2 hvF] at t
  exact ⟨⟨_, a, t⟩, b, R.fx⟩

theorem parse_zero (hT : FStep T) (cfg : Cfg) : PVs T cfg 0 ∧ PEs T cfg 0 ∧ PMs T cfg 0 := by
  refine ⟨?_, ?_, ?_⟩
  · intro limit flt l x d0 F C B hn
    simp only [parseVariant]
    exact ResT.exit B ((Fx.refl _ _).code nofun) (hT.refl _ _)
  · intro limit flt l x d0 F s h t C B hn
    simp only [parseElems]
    exact ResT.exit B ((Fx.refl _ _).code nofun) (hT.refl _ _)
  · intro limit flt l x d0 F s h t C B hn
    simp only [parseMembers]
    exact ResT.exit B ((Fx.refl _ _).code nofun) (hT.refl _ _)

/-- an opened container: the variant became the empty container `v`, then the nesting limit, the closing bracket at once
    or the contents `k` -/
theorem open_res (hT : FStep T) (cfg : Cfg) (f limit : Nat) (close : Byte) {v : VData} {l : Loc} {x : S} {d0 : Doc}
    {F : Forest} {k : Nat → S → Code × S} (B' : Built d0 F l (x.d.set l v) .nil)
    (t' : T x.d (replaceAt F l .nil) (x.d.set l v) (replaceAt F l .nil))
    (hk : ∀ li (s : JD.St), ResT T d0 F l { x with d := x.d.set l v, s := s } .nil (k li { x with d := x.d.set l v, s := s })) :
    ResT T d0 F l x .nil (openAt cfg f limit close v l k x) := by
  have fx' : Fx x.d x.b (x.d.set l v) x.b .ok := Fx.set _ _ _ _
  have hs1 := skipSpaces_nm cfg (f+1) (mv x.s)
  unfold openAt
  split
  · exact ResT.exit B' (fx'.code nofun) t'
  · unfold afterOpen
    split
    · split
      · exact ResT.exit B' fx' t'
      · exact ResT.step hT fx' t' (hk _ _)
    · rename_i e s2 hne heq2
      rw [heq2] at hs1
      exact ResT.exit B' (fx'.code hs1) t'

theorem pv_succ (hT : FStep T) (cfg : Cfg) (f : Nat) (ihE : PEs T cfg f) (ihM : PMs T cfg f) : PVs T cfg (f+1) := by
  intro limit flt l x d0 F C B hn
  obtain ⟨w, hs⟩ := B.get_nil C
  have tPlain : ∀ v, strOfV v = [] → extOfV v = [] → T x.d (replaceAt F l .nil) (x.d.set l v) (replaceAt F l .nil) := by
    intro v hv he
    rw [C.replace_nil]
    exact hT.set_plain w C.loc hn hv he
  have idle : ∀ {c : Code} {s : JD.St}, c ≠ .noMemory → ResT T d0 F l x .nil (c, { x with s := s }) :=
    fun hc => ResT.exit B ((Fx.refl _ _).code hc) (hT.refl _ _)
  rw [parseVariant_succ]
  have hs0 := skipSpaces_nm cfg (f+1) x.s
  split
  · rename_i s1 heq
    have hs1 := skipSpaces_nm cfg (f+1) (mv (cur s1).2)
    refine valueAt_cases (P := ResT T d0 F l x .nil) cfg f limit flt l _ _ ?_ ?_ ?_ ?_ ?_ ?_ ?_ ?_ ?_ ?_ ?_
    · -- variant.toArray()
      exact ResT.of_eq (x' := { x with s := (cur s1).2 }) rfl rfl
        (open_res hT cfg f limit 0x5D (B.set_coll C hn false) (tPlain _ rfl rfl)
          fun li s => ResT.of_eq (x' := _) rfl rfl (ihE li _ l _ d0 F .nil _ _ C (B.set_coll C hn false) (get_set_self _ _ _)))
    · -- the array is skipped
      unfold skipAt
      split
      · exact idle nofun
      · exact idle (skipElems_nm _ _ _ _)
    · -- variant.toObject()
      exact ResT.of_eq (x' := { x with s := (cur s1).2 }) rfl rfl
        (open_res hT cfg f limit 0x7D (B.set_coll C hn true) (tPlain _ rfl rfl)
          fun li s => ResT.of_eq (x' := _) rfl rfl (ihM li _ l _ d0 F .nil _ _ C (B.set_coll C hn true) (get_set_self _ _ _)))
    · -- the object is skipped
      unfold skipAt
      split
      · exact idle nofun
      · dsimp only [afterOpen]
        split
        · split
          · exact idle nofun
          · exact idle (skipMembers_nm _ _ _ _)
        · rename_i e s2 hne heq2
          rw [heq2] at hs1
          exact idle hs1
    · -- a string: through the builder, then saved and stored
      have hq := quoted_spec cfg (f+1) (cur s1).1 { s := mv (cur s1).2, d := x.d, b := x.b }
      unfold stringAt
      split
      · rename_i bytes x1 heq2
        rw [heq2] at hq
        obtain ⟨tk, hok, hnm⟩ := hq
        have fx1 : Fx x.d x.b x1.d x1.b .ok := Fx.tok tk rfl rfl hok hnm
        have B1 : Built d0 F l x1.d .nil := B.pleq tk.bop.pleq
        have hn1 : x1.d.get l = .null := (tk.bop.pleq.get l).trans hn
        have sv := save_spec x1 bytes
        obtain ⟨w1, hs1'⟩ := B1.get_nil C
        refine ResT.exit (B1.set_owned C hn1 sv) (fx1.trans (Fx.save_set sv (hok rfl) _ _))
          (hT.trans (hT.pleq _ tk.bop.pleq) ?_ (fun o => by rw [set_overflowed, sv.ov]; exact o))
        rw [C.replace_nil]
        exact hT.save_set bytes w1 hs1' C.loc hn1
      · rename_i e bytes x1 hne heq2
        rw [heq2] at hq
        obtain ⟨tk, hok, hnm⟩ := hq
        exact ResT.exit (B.pleq tk.bop.pleq) (Fx.tok tk rfl rfl hok hnm) (hT.pleq _ tk.bop.pleq)
    · -- a skipped string
      exact idle (skipQuoted_nm _ _ _)
    · -- true
      unfold boolAt
      split
      · exact ResT.exit (B.set_plain C hn (v := .bool true) (fun h => h) rfl rfl)
          ((Fx.set _ _ _ _).code (skipKeyword_nm _ _)) (tPlain (.bool true) rfl rfl)
      · exact idle (skipKeyword_nm _ _)
    · -- false
      unfold boolAt
      split
      · exact ResT.exit (B.set_plain C hn (v := .bool false) (fun h => h) rfl rfl)
          ((Fx.set _ _ _ _).code (skipKeyword_nm _ _)) (tPlain (.bool false) rfl rfl)
      · exact idle (skipKeyword_nm _ _)
    · -- null
      exact idle (skipKeyword_nm _ _)
    · exact ResT.of_eq (x' := { s := (cur s1).2, d := x.d, b := x.b }) rfl rfl (numeric_res hT cfg C B hn)
    · exact idle nofun
  · rename_i e s1 hne heq
    rw [heq] at hs0
    exact idle hs0

/-- what follows an element: `]`, or `,` and the remaining elements -/
theorem pe_tail (hT : FStep T) (cfg : Cfg) (f : Nat) (ihE : PEs T cfg f) {limit : Nat} {ef : Flt} {l : Loc} {x x2 : S}
    {d0 : Doc} {F sin s2 : Forest} {h t : Nat} (C : Ctx d0 F l) (B2 : Built d0 F l x2.d s2) (hv2 : x2.d.get l = .arr h t)
    (fx02 : Fx x.d x.b x2.d x2.b .ok) (t02 : T x.d (replaceAt F l sin) x2.d (replaceAt F l s2)) :
    ResT T d0 F l x sin (elemsTail cfg f (parseElems cfg f limit ef l) x2) := by
  have hs1 := skipSpaces_nm cfg (f+1) x2.s
  unfold elemsTail
  split
  · rename_i s3 heq3
    split
    · exact ResT.exit B2 fx02 t02
    · split
      · exact ResT.step hT (x1 := ⟨mv (cur s3).2, x2.d, x2.b⟩) fx02 t02
          (ihE limit ef l ⟨mv (cur s3).2, x2.d, x2.b⟩ d0 F s2 _ _ C B2 hv2)
      · exact ResT.exit B2 (fx02.code nofun) t02
  · rename_i e s3 hne heq3
    rw [heq3] at hs1
    exact ResT.exit B2 (fx02.code hs1) t02

theorem pe_succ (hT : FStep T) (cfg : Cfg) (f : Nat) (ihV : PVs T cfg f) (ihE : PEs T cfg f) : PEs T cfg (f+1) := by
  intro limit ef l x d0 F s h t C B hv
  rw [parseElems_succ]
  unfold elemHead
  cases ha : ef.allow with
  | true =>
    simp only [if_true]
    generalize hae : x.d.addElement l = ae
    obtain ⟨o, d1⟩ := ae
    cases o with
    | none =>
      obtain ⟨b1, ho, hnl⟩ := B.addElement_none C hae
      exact ResT.exit b1 (Fx.doc_fail _ hnl ho) (hT.addElement_none C B hae ho)
    | some id =>
      obtain ⟨B1, hgn, ⟨h', hgl⟩, hov, hnl, _, _, hbk, _⟩ := B.addElement_some C hv hae
      have hloc : id ∈ (s.snoc none id).locs := by rw [Forest.locs_snoc]; simp
      have fx01 : Fx x.d x.b d1 x.b .ok := Fx.doc _ hnl hov hbk
      obtain ⟨⟨s2, B2, t12⟩, hg2, fx2⟩ := sub_parse ihV limit ef C (x := { x with d := d1 }) B1 hloc hgn
      have t02 := hT.trans (hT.addElement C B hv hae) t12 fx2.ovs
      exact ResT.andThen B2 t02 (fx01.trans fx2) fun fx => pe_tail hT cfg f ihE C B2 (hg2.trans hgl) fx t02
  | false =>
    simp only [Bool.false_eq_true, if_false]
    exact ResT.andThen (r := rd x _) B (hT.refl _ _) ((Fx.refl _ _).code (skipVariant_nm cfg f limit x.s))
      fun fx => pe_tail hT cfg f ihE C B hv fx (hT.refl _ _)

/-- what follows a member: `}`, or `,` and the remaining members -/
theorem pm_tail (hT : FStep T) (cfg : Cfg) (f : Nat) (ihM : PMs T cfg f) {limit : Nat} {flt : Flt} {l : Loc} {x x3 : S}
    {d0 : Doc} {F sin s3 : Forest} {h t : Nat} (C : Ctx d0 F l) (B3 : Built d0 F l x3.d s3)
    (hv3 : x3.d.get l = .obj h t) (fx03 : Fx x.d x.b x3.d x3.b .ok)
    (t03 : T x.d (replaceAt F l sin) x3.d (replaceAt F l s3)) :
    ResT T d0 F l x sin (membersTail cfg f (parseMembers cfg f limit flt l) x3) := by
  have hs3 := skipSpaces_nm cfg (f+1) x3.s
  unfold membersTail
  split
  · rename_i s4 heq5
    split
    · exact ResT.exit B3 fx03 t03
    · split
      · have hs5 := skipSpaces_nm cfg (f+1) (mv (cur s4).2)
        split
        · rename_i s5 heq6
          exact ResT.step hT (x1 := ⟨s5, x3.d, x3.b⟩) fx03 t03 (ihM limit flt l ⟨s5, x3.d, x3.b⟩ d0 F s3 _ _ C B3 hv3)
        · rename_i e s5 hne heq6
          rw [heq6] at hs5
          exact ResT.exit B3 (fx03.code hs5) t03
      · exact ResT.exit B3 (fx03.code nofun) t03
  · rename_i e s4 hne heq5
    rw [heq5] at hs3
    exact ResT.exit B3 (fx03.code hs3) t03

theorem pm_succ (hT : FStep T) (cfg : Cfg) (f : Nat) (ihV : PVs T cfg f) (ihM : PMs T cfg f) : PMs T cfg (f+1) := by
  intro limit flt l x d0 F s h t C B hv
  rw [parseMembers_succ]
  -- the key, through the builder (kept or not)
  obtain ⟨fx1, hpl, hb1⟩ := keyToken_spec cfg f (cur x.s).1 { x with s := (cur x.s).2 }
  generalize keyToken cfg f (cur x.s).1 { x with s := (cur x.s).2 } = kr at fx1 hpl hb1 ⊢
  obtain ⟨kc, key, x1⟩ := kr
  have fx1 : Fx x.d x.b x1.d x1.b kc := fx1
  have hpl : PlEq x.d x1.d := hpl
  have B1 : Built d0 F l x1.d s := B.pleq hpl
  have t1 := hT.pleq (replaceAt F l s) hpl
  cases kc <;> simp only <;> try exact ResT.exit B1 fx1 t1
  -- the key was read
  have hb1 : x1.b.isSome = true := hb1 rfl
  have hv1 : x1.d.get l = .obj h t := (hpl.get l).trans hv
  have hs1 := skipSpaces_nm cfg (f+1) x1.s
  unfold memberRest
  split
  · rename_i s2 heq2
    split
    · exact ResT.exit B1 (fx1.code nofun) t1
    · unfold memberHead
      cases ha : (flt.subKey key).allow with
      | true =>
        simp only [if_true]
        -- the value slot of the member
        unfold memberAt
        have hsl := memberSlot_spec hT C (x := ⟨mv (cur s2).2, x1.d, x1.b⟩) B1 hv1 hb1 key
        generalize memberSlot ⟨mv (cur s2).2, x1.d, x1.b⟩ l key = ms at hsl ⊢
        obtain ⟨o, x2⟩ := ms
        cases o with
        | none =>
          obtain ⟨⟨s', b', t2⟩, fx2⟩ := hsl.1 rfl
          exact ResT.exit b' (fx1.trans fx2) (hT.trans t1 t2 fx2.ovs)
        | some v =>
          obtain ⟨s', b', hvl, hnull, ⟨h', t', hobj⟩, fx2, t2⟩ := hsl.2 v rfl
          obtain ⟨⟨s3, B3, t23⟩, hg3, fx3⟩ := sub_parse ihV limit (flt.subKey key) C (x := x2) b' hvl hnull
          have t03 := hT.trans (hT.trans t1 t2 fx2.ovs) t23 fx3.ovs
          exact ResT.andThen B3 t03 ((fx1.trans fx2).trans fx3)
            fun fx => pm_tail hT cfg f ihM C B3 (hg3.trans hobj) fx t03
      | false =>
        simp only [Bool.false_eq_true, if_false]
        exact ResT.andThen (r := rd _ _) B1 t1 (fx1.code (skipVariant_nm cfg f limit (mv (cur s2).2)))
          fun _ => pm_tail hT cfg f ihM C B1 hv1 fx1 t1
  · rename_i e s2 hne heq2
    rw [heq2] at hs1
    exact ResT.exit B1 (fx1.code hs1) t1

/-- the invariant and the step relation through the whole mutual block, for every fuel and every filter -/
theorem parse_all (hT : FStep T) (cfg : Cfg) : ∀ fuel, PVs T cfg fuel ∧ PEs T cfg fuel ∧ PMs T cfg fuel := by
  intro fuel
  induction fuel with
  | zero => exact parse_zero hT cfg
  | succ f ih =>
    obtain ⟨ihV, ihE, ihM⟩ := ih
    exact ⟨pv_succ hT cfg f ihE ihM, pe_succ hT cfg f ihV ihE, pm_succ hT cfg f ihV ihM⟩

end

/-! ## `run` -/

/-- the state in which the parser stops (it starts in `JDD.start d input`) -/
def stop (cfg : Cfg) (limit : Nat) (flt : Flt) (d : Doc) (input : List Byte) : Code × S :=
  parseVariant cfg (2 * input.length + 4) limit flt .root (start d input)

/-- the document after the deserializer object was destroyed (a kept StringBuilder buffer is released), before the
    pools are shrunk -/
def preShrink (cfg : Cfg) (limit : Nat) (flt : Flt) (d : Doc) (input : List Byte) : Doc :=
  match (stop cfg limit flt d input).2.b with
  | some _ => { (stop cfg limit flt d input).2.d with pl := (stop cfg limit flt d input).2.d.pl.dealloc }
  | none => (stop cfg limit flt d input).2.d

theorem run_eq (cfg : Cfg) (limit : Nat) (flt : Flt) (d : Doc) (input : List Byte) :
    run cfg limit flt d input =
      (finalCode (stop cfg limit flt d input).1 (stop cfg limit flt d input).2,
        { preShrink cfg limit flt d input with
          pl := PL.shrink (preShrink cfg limit flt d input).g (preShrink cfg limit flt d input).pl },
        (stop cfg limit flt d input).2.s.l.pos) := by
  unfold run preShrink stop start
  dsimp only
  generalize parseVariant cfg (2 * input.length + 4) limit flt .root _ = r
  obtain ⟨c, x⟩ := r
  rfl

/-- the parser's result, for every input, every filter and every failure schedule -/
theorem stop_res (cfg : Cfg) (limit : Nat) (flt : Flt) {d : Doc} (input : List Byte) (gok : PL.GeoOK d.g)
    (hp : PL.Inv d.g d.pl) :
    Res d.clearAll .nil .root (start d input) (stop cfg limit flt d input) := by
  obtain ⟨w, hs, hg, _, hr⟩ := clearAll_wf gok hp
  have C : Ctx d.clearAll .nil .root := ⟨List.nodup_nil, trivial, rfl, by rw [hg]; exact gok⟩
  exact ((parse_all FStep.true cfg _).1 limit flt .root (start d input) d.clearAll .nil C (built_start w hs C) hr).res

theorem preShrink_pleq (cfg : Cfg) (limit : Nat) (flt : Flt) (d : Doc) (input : List Byte) :
    PlEq (stop cfg limit flt d input).2.d (preShrink cfg limit flt d input) ∧
    (preShrink cfg limit flt d input).overflowed = (stop cfg limit flt d input).2.d.overflowed := by
  unfold preShrink
  generalize (stop cfg limit flt d input).2 = x
  cases x.b with
  | none => exact ⟨PlEq.refl _, rfl⟩
  | some c => exact ⟨⟨rfl, rfl, rfl, rfl, rfl, rfl, rfl, rfl, rfl, rfl⟩, rfl⟩

/-- MAIN: whatever the input, the filter and the allocator failure schedule, `run` leaves a well-formed document -/
theorem run_wf (cfg : Cfg) (limit : Nat) (flt : Flt) {d : Doc} (input : List Byte) (gok : PL.GeoOK d.g)
    (hp : PL.Inv d.g d.pl) :
    ∃ F', WFG (run cfg limit flt d input).2.1 F' ∧
      StrOK (run cfg limit flt d input).2.1 ((run cfg limit flt d input).2.1.strRefs F') := by
  obtain ⟨⟨s, B⟩, _⟩ := stop_res cfg limit flt input gok hp
  obtain ⟨w1, s1, _⟩ := (preShrink_pleq cfg limit flt d input).1.wfg B.wf B.str
  rw [run_eq]
  exact ⟨_, shrink_wf w1 s1⟩

/-- the overflow flag of the result is the one the parser left -/
theorem run_overflowed (cfg : Cfg) (limit : Nat) (flt : Flt) (d : Doc) (input : List Byte) :
    (run cfg limit flt d input).2.1.overflowed = (stop cfg limit flt d input).2.d.overflowed := by
  rw [run_eq]; exact (preShrink_pleq cfg limit flt d input).2

/-- the result code against the overflow flag -/
theorem run_code (cfg : Cfg) (limit : Nat) (flt : Flt) {d : Doc} (input : List Byte) (gok : PL.GeoOK d.g)
    (hp : PL.Inv d.g d.pl) :
    ((run cfg limit flt d input).1 = .ok → (run cfg limit flt d input).2.1.overflowed = false) ∧
    ((run cfg limit flt d input).1 = .noMemory → (run cfg limit flt d input).2.1.overflowed = true) := by
  obtain ⟨_, fx⟩ := stop_res cfg limit flt input gok hp
  rw [run_overflowed]
  constructor
  · intro h
    rw [run_eq] at h
    exact fx.ok (finalCode_ok h)
  · intro h
    rw [run_eq] at h
    exact fx.nomem (finalCode_nomem h)

/-- the ledger balances before the pools are shrunk -/
theorem preShrink_bal (cfg : Cfg) (limit : Nat) (flt : Flt) {d : Doc} (input : List Byte) (gok : PL.GeoOK d.g)
    (hp : PL.Inv d.g d.pl) (hb : Bal d) : Bal (preShrink cfg limit flt d input) := by
  obtain ⟨_, fx⟩ := stop_res cfg limit flt input gok hp
  have h := fx.bal (clearAll_LBd hb)
  unfold preShrink
  unfold LBd at h
  unfold Bal
  cases hx : (stop cfg limit flt d input).2.b with
  | none => rw [hx] at h; simpa using h
  | some c =>
    rw [hx] at h
    show PL.net (stop cfg limit flt d input).2.d.pl.dealloc = _
    rw [dealloc_net, h]; simp

/-- the ledger of the document `run` returns: balanced up to the block `shrink` gives a block-less last pool -/
theorem run_net (cfg : Cfg) (limit : Nat) (flt : Flt) {d : Doc} (input : List Byte) (gok : PL.GeoOK d.g)
    (hp : PL.Inv d.g d.pl) (hb : Bal d) :
    PL.net (run cfg limit flt d input).2.1.pl =
      ((run cfg limit flt d input).2.1.strings.length : Int) -
        (if lastBlockless (preShrink cfg limit flt d input).pl then 1 else 0) := by
  have h := preShrink_bal cfg limit flt input gok hp hb
  unfold Bal at h
  rw [run_eq]
  show PL.net (PL.shrink _ _) = ((preShrink cfg limit flt d input).strings.length : Int) - _
  rw [shrink_net, h]

/-- when no allocation failed, every pool has its block and the ledger of the result balances -/
theorem run_bal (cfg : Cfg) (limit : Nat) (flt : Flt) {d : Doc} (input : List Byte) (gok : PL.GeoOK d.g)
    (hp : PL.Inv d.g d.pl) (hb : Bal d) (hov : (run cfg limit flt d input).2.1.overflowed = false) :
    Bal (run cfg limit flt d input).2.1 := by
  obtain ⟨_, fx⟩ := stop_res cfg limit flt input gok hp
  have h0 : Blk (start d input).d := by
    refine Or.inl ?_
    intro p hp'
    have : d.clearAll.pl.pools = [] := (clearAll_spec d).2.2.1
    rw [show (start d input).d.pl.pools = d.clearAll.pl.pools from rfl, this] at hp'
    cases hp'
  rw [run_overflowed] at hov
  have hall : AllB (stop cfg limit flt d input).2.d := by
    rcases fx.blk h0 with h1 | h1
    · exact h1
    · rw [hov] at h1; cases h1
  have hall' : AllB (preShrink cfg limit flt d input) :=
    AllB_of_pools (preShrink_pleq cfg limit flt d input).1.pools hall
  have := run_net cfg limit flt input gok hp hb
  rw [lastBlockless_of_allB hall'] at this
  unfold Bal
  rw [this]; simp

/-- the geometry is kept -/
theorem run_g (cfg : Cfg) (limit : Nat) (flt : Flt) {d : Doc} (input : List Byte) (gok : PL.GeoOK d.g)
    (hp : PL.Inv d.g d.pl) : (run cfg limit flt d input).2.1.g = d.g := by
  obtain ⟨⟨s, B⟩, _⟩ := stop_res cfg limit flt input gok hp
  rw [run_eq]
  show (preShrink cfg limit flt d input).g = d.g
  rw [(preShrink_pleq cfg limit flt d input).1.g, B.g]; rfl

/-- `clearAll` after `run`: what the ledger says -/
theorem run_clearAll_outstanding (cfg : Cfg) (limit : Nat) (flt : Flt) {d : Doc} (input : List Byte)
    (gok : PL.GeoOK d.g) (hp : PL.Inv d.g d.pl) (hb : Bal d) :
    PL.outstanding (run cfg limit flt d input).2.1.clearAll.pl.log =
      - (if lastBlockless (preShrink cfg limit flt d input).pl then 1 else 0) := by
  have h := run_net cfg limit flt input gok hp hb
  rw [(clearAll_spec _).1, PL.outstanding_replicate_D]
  unfold PL.net at h
  omega

end JDDF
