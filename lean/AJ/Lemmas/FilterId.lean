/- Transparent filters (`AllowAllFilter`, or a `Filter` over a document that is `true`) make the filtered
   deserializers coincide with the unfiltered ones, so that whatever is proved of `fparse*` and `frun` for every filter
   holds of `parse*` and `run`; "no destination, no value" discipline of the MessagePack model. -/
import AJ.Model.MD
import AJ.Lemmas.JDPieces
namespace JD

/-- a filter that lets everything through: `AllowAllFilter`, or `Filter(v)` with `v == true` -/
def Transparent (f : Flt) : Prop := f = .all ∨ ∃ v, f = .doc (some v) ∧ isTrueVal v = true

theorem isTrueVal_truthy : ∀ v, isTrueVal v = true → truthy v = true := by
  intro v h
  unfold isTrueVal at h
  split at h <;> first | rfl | (simp only [truthy]; decide) | exact absurd h (by decide)

theorem Transparent.allow {f} (h : Transparent f) : f.allow = true := by
  rcases h with rfl | ⟨v, rfl, hv⟩
  · rfl
  · exact isTrueVal_truthy v hv

theorem Transparent.allowArray {f} (h : Transparent f) : f.allowArray = true := by
  rcases h with rfl | ⟨v, rfl, hv⟩
  · rfl
  · simp only [Flt.allowArray, hv, Bool.true_or]

theorem Transparent.allowObject {f} (h : Transparent f) : f.allowObject = true := by
  rcases h with rfl | ⟨v, rfl, hv⟩
  · rfl
  · simp only [Flt.allowObject, hv, Bool.true_or]

theorem Transparent.allowValue {f} (h : Transparent f) : f.allowValue = true := by
  rcases h with rfl | ⟨v, rfl, hv⟩
  · rfl
  · exact hv

theorem Transparent.subIdx_eq {f} (h : Transparent f) : f.subIdx = f := by
  rcases h with rfl | ⟨v, rfl, hv⟩
  · rfl
  · simp only [Flt.subIdx, hv, if_true]

theorem Transparent.subKey_eq {f} (h : Transparent f) (k : List Byte) : f.subKey k = f := by
  rcases h with rfl | ⟨v, rfl, hv⟩
  · rfl
  · simp only [Flt.subKey, hv, if_true]

theorem Transparent.subIdx {f} (h : Transparent f) : Transparent f.subIdx := by
  rw [h.subIdx_eq]; exact h

theorem Transparent.subKey {f} (h : Transparent f) (k : List Byte) : Transparent (f.subKey k) := by
  rw [h.subKey_eq]; exact h

/-- the bundle asked for by the property -/
theorem Transparent.all_props {f} (h : Transparent f) :
    f.allow = true ∧ f.allowArray = true ∧ f.allowObject = true ∧ f.allowValue = true ∧
    Transparent f.subIdx ∧ ∀ k, Transparent (f.subKey k) :=
  ⟨h.allow, h.allowArray, h.allowObject, h.allowValue, h.subIdx, h.subKey⟩

theorem transparent_all : Transparent .all := Or.inl rfl
theorem transparent_true {v} (h : isTrueVal v = true) : Transparent (.doc (some v)) := Or.inr ⟨v, rfl, h⟩

theorem fparse_eq_parse {cfg : Cfg} : ∀ fuel,
    (∀ limit f s, Transparent f → fparseVariant cfg fuel limit f s = parseVariant cfg fuel limit s) ∧
    (∀ limit f s acc, Transparent f → fparseElems cfg fuel limit f s acc = parseElems cfg fuel limit s acc) ∧
    (∀ limit f s ms, Transparent f → fparseMembers cfg fuel limit f s ms = parseMembers cfg fuel limit s ms) := by
  intro fuel
  induction fuel with
  | zero => exact ⟨fun _ _ _ _ => rfl, fun _ _ _ _ _ => rfl, fun _ _ _ _ _ => rfl⟩
  | succ n ih =>
    obtain ⟨ihV, ihE, ihM⟩ := ih
    refine ⟨?_, ?_, ?_⟩
    · intro limit f s h
      have hE : ∀ l s acc, fparseElems cfg n l f.subIdx s acc = parseElems cfg n l s acc :=
        fun l s acc => ihE l _ s acc h.subIdx
      have hM : ∀ l s ms, fparseMembers cfg n l f s ms = parseMembers cfg n l s ms :=
        fun l s ms => ihM l _ s ms h
      simp only [fparseVariant_succ, parseVariant_succ, fvK, pvK, fvTok, pvTok, fvArr, pvArr, fvObj, pvObj,
        h.allowArray, h.allowObject, h.allowValue, if_true, hE, hM]
    · intro limit f s acc h
      have hE : ∀ s acc, fparseElems cfg n limit f s acc = parseElems cfg n limit s acc :=
        fun s acc => ihE limit f s acc h
      simp only [fparseElems_succ, parseElems_succ, feElem, h.allow, if_true, ihV limit f s h]
      generalize parseVariant cfg n limit s = r
      obtain ⟨e, v, s'⟩ := r
      cases e <;> simp only [feK1, peK1, feK2, peK2, hE]
    · intro limit f s ms h
      have hM : ∀ s ms, fparseMembers cfg n limit f s ms = parseMembers cfg n limit s ms :=
        fun s ms => ihM limit f s ms h
      have hV : ∀ key s, fmK2 cfg n limit f (fmVal cfg n limit (f.subKey key) ms key s) =
          pmK2 cfg n limit ms key (parseVariant cfg n limit s) := by
        intro key s
        simp only [fmVal, (h.subKey key).allow, if_true, ihV limit _ s (h.subKey key)]
        generalize parseVariant cfg n limit s = r
        obtain ⟨e, v, s'⟩ := r
        cases e <;> simp only [fmK2, pmK2, fmK3, pmK3, fmK4, pmK4, hM]
      simp only [fparseMembers_succ, parseMembers_succ, fmK0, pmK0, fmK1, pmK1, hV]

/-- the unfiltered routines are the filtered ones under `AllowAllFilter` -/
theorem parseVariant_all (cfg : Cfg) (f L : Nat) (s : St) : parseVariant cfg f L s = fparseVariant cfg f L .all s :=
  ((fparse_eq_parse f).1 L .all s transparent_all).symm

theorem parseElems_all (cfg : Cfg) (f L : Nat) (s : St) (acc : List Val) :
    parseElems cfg f L s acc = fparseElems cfg f L .all s acc :=
  ((fparse_eq_parse f).2.1 L .all s acc transparent_all).symm

theorem parseMembers_all (cfg : Cfg) (f L : Nat) (s : St) (ms : List (List Byte × Val)) :
    parseMembers cfg f L s ms = fparseMembers cfg f L .all s ms :=
  ((fparse_eq_parse f).2.2 L .all s ms transparent_all).symm

theorem run_all (cfg : Cfg) (L : Nat) (input : List Byte) : run cfg L input = frun cfg L .all input := by
  rw [run_eq, frun_eq, parseVariant_all]

/-! ## one level of projection: what a non-transparent filter does to the top-level value -/

/-- shape predicates for the result value -/
def Val.isArr : Val → Bool | .arr _ => true | _ => false
def Val.isObj : Val → Bool | .obj _ => true | _ => false

theorem parseMembers_isObj {cfg : Cfg} : ∀ fuel limit s ms, (parseMembers cfg fuel limit s ms).2.1.isObj = true := by
  intro fuel
  induction fuel with
  | zero => intro limit s ms; rfl
  | succ n ih =>
    intro limit s ms
    rw [parseMembers_succ]
    simp only [pmK0, pmK1, pmK2, pmK3, pmK4]
    repeat' split
    all_goals first | rfl | exact ih _ _ _

theorem parseElems_isArr {cfg : Cfg} : ∀ fuel limit s acc, (parseElems cfg fuel limit s acc).2.1.isArr = true := by
  intro fuel
  induction fuel with
  | zero => intro limit s acc; rfl
  | succ n ih =>
    intro limit s acc
    rw [parseElems_succ]
    simp only [peK1, peK2]
    repeat' split
    all_goals first | rfl | exact ih _ _ _

theorem isObj_not_isArr (v : Val) (h : v.isObj = true) : v.isArr = false := by
  cases v <;> first | rfl | exact Bool.noConfusion h
theorem isArr_not_isObj (v : Val) (h : v.isArr = true) : v.isObj = false := by
  cases v <;> first | rfl | exact Bool.noConfusion h

theorem parseNumeric_scalar {cfg : Cfg} (s : St) :
    (parseNumeric cfg s).2.1.isArr = false ∧ (parseNumeric cfg s).2.1.isObj = false := by
  unfold parseNumeric
  generalize scanNumber cfg (Gen.number_buffer - 1) [] s = r
  obtain ⟨buf, s'⟩ := r
  simp only
  split <;> exact ⟨rfl, rfl⟩

/-! The first byte of a value decides its shape: `[` gives an array, `{` an object, anything else neither. -/

theorem pvArr_isArr {cfg : Cfg} {f L' : Nat} (r : Code × St) : (pvArr cfg f L' r).2.1.isArr = true := by
  obtain ⟨e, s⟩ := r
  cases e <;> try rfl
  simp only [pvArr]
  split
  · rfl
  · exact parseElems_isArr _ _ _ _

theorem pvObj_isObj {cfg : Cfg} {f L' : Nat} (r : Code × St) : (pvObj cfg f L' r).2.1.isObj = true := by
  obtain ⟨e, s⟩ := r
  cases e <;> try rfl
  simp only [pvObj]
  split
  · rfl
  · exact parseMembers_isObj _ _ _ _

theorem pvStr_scalar (r : Code × List Byte × St) : (pvStr r).2.1.isArr = false ∧ (pvStr r).2.1.isObj = false := by
  obtain ⟨e, str, s⟩ := r
  cases e <;> exact ⟨rfl, rfl⟩

theorem pvTok_shape {cfg : Cfg} {f L : Nat} (s : St) :
    (pvTok cfg f L s).2.1.isArr = ((cur s).1 == 0x5B) ∧
    (pvTok cfg f L s).2.1.isObj = (!((cur s).1 == 0x5B) && (cur s).1 == 0x7B) := by
  simp only [pvTok]
  by_cases hc : ((cur s).1 == 0x5B) = true
  · rw [if_pos hc, hc]
    cases L with
    | zero => exact ⟨rfl, rfl⟩
    | succ L' => exact ⟨pvArr_isArr _, isArr_not_isObj _ (pvArr_isArr _)⟩
  rw [if_neg hc, Bool.eq_false_iff.2 hc]
  by_cases hd : ((cur s).1 == 0x7B) = true
  · rw [if_pos hd, hd]
    cases L with
    | zero => exact ⟨rfl, rfl⟩
    | succ L' => exact ⟨isObj_not_isArr _ (pvObj_isObj _), pvObj_isObj _⟩
  rw [if_neg hd, Bool.eq_false_iff.2 hd]
  split
  · exact pvStr_scalar _
  · split
    · exact ⟨rfl, rfl⟩
    · split
      · exact ⟨rfl, rfl⟩
      · split
        · exact ⟨rfl, rfl⟩
        · exact parseNumeric_scalar _

section
variable {cfg : Cfg} {f L : Nat} {flt : Flt} {s : St}

theorem fvTok_arr_null (hA : flt.allowArray = false) (hc : ((cur s).1 == 0x5B) = true) :
    (fvTok cfg f L flt s).2.1 = .null := by
  simp only [fvTok, hc, hA, if_true, Bool.false_eq_true, if_false]
  cases L <;> rfl

theorem fvObjSkip_null {L' : Nat} (r : Code × St) : (fvObjSkip cfg f L' r).2.1 = .null := by
  obtain ⟨e, s⟩ := r
  cases e <;> try rfl
  simp only [fvObjSkip]
  split <;> rfl

theorem fvTok_obj_null (hO : flt.allowObject = false) (hc : ((cur s).1 == 0x5B) = false)
    (hd : ((cur s).1 == 0x7B) = true) : (fvTok cfg f L flt s).2.1 = .null := by
  simp only [fvTok, hc, hd, hO, if_true, Bool.false_eq_true, if_false]
  cases L with
  | zero => rfl
  | succ L' => exact fvObjSkip_null _

/-- scalars, `allowValue = true`: the filtered parser is the unfiltered one (whole result, state included) -/
theorem fvTok_scalar_keep (hV : flt.allowValue = true) (hc : ((cur s).1 == 0x5B) = false)
    (hd : ((cur s).1 == 0x7B) = false) : fvTok cfg f L flt s = pvTok cfg f L s := by
  simp only [fvTok, pvTok, hc, hd, hV, if_true, Bool.false_eq_true, if_false]

/-- scalars, `allowValue = false`: nothing is built -/
theorem fvTok_scalar_drop (hV : flt.allowValue = false) (hc : ((cur s).1 == 0x5B) = false)
    (hd : ((cur s).1 == 0x7B) = false) : (fvTok cfg f L flt s).2.1 = .null := by
  simp only [fvTok, hc, hd, hV, Bool.false_eq_true, if_false]
  repeat' split
  all_goals rfl

end

/-- the filtered and the unfiltered parser stop together before the first token (nothing built), or reach
    the same first token -/
theorem parseVariant_tok_cases (cfg : Cfg) (fuel limit : Nat) (s : St) :
    (∃ e s', parseVariant cfg fuel limit s = (e, .null, s') ∧
      ∀ flt, fparseVariant cfg fuel limit flt s = (e, .null, s')) ∨
    (∃ f s1, parseVariant cfg fuel limit s = pvTok cfg f limit s1 ∧
      ∀ flt, fparseVariant cfg fuel limit flt s = fvTok cfg f limit flt s1) := by
  cases fuel with
  | zero => exact Or.inl ⟨_, _, rfl, fun _ => rfl⟩
  | succ n =>
    simp only [parseVariant_succ, fparseVariant_succ]
    generalize skipSpaces cfg (n+1) s = r
    obtain ⟨e, s1⟩ := r
    cases e
    case ok => exact Or.inr ⟨_, _, rfl, fun _ => rfl⟩
    all_goals exact Or.inl ⟨_, _, rfl, fun _ => rfl⟩

/-- all three `allow*` answers negative: the filtered parser builds nothing -/
theorem fparseVariant_closed {cfg : Cfg} (fuel limit : Nat) (flt : Flt) (s : St)
    (hA : flt.allowArray = false) (hO : flt.allowObject = false) (hV : flt.allowValue = false) :
    (fparseVariant cfg fuel limit flt s).2.1 = .null := by
  rcases parseVariant_tok_cases cfg fuel limit s with ⟨e, s', _, hf⟩ | ⟨f, s1, _, hf⟩
  · rw [hf]
  · rw [hf]
    cases hc : (cur s1).1 == 0x5B
    · cases hd : (cur s1).1 == 0x7B
      · exact fvTok_scalar_drop hV hc hd
      · exact fvTok_obj_null hO hc hd
    · exact fvTok_arr_null hA hc

theorem fparseVariant_arr_null {cfg : Cfg} (fuel limit : Nat) (flt : Flt) (s : St)
    (hA : flt.allowArray = false) (h : (parseVariant cfg fuel limit s).2.1.isArr = true) :
    (fparseVariant cfg fuel limit flt s).2.1 = .null := by
  rcases parseVariant_tok_cases cfg fuel limit s with ⟨e, s', _, hf⟩ | ⟨f, s1, hp, hf⟩
  · rw [hf]
  · rw [hp, (pvTok_shape s1).1] at h
    rw [hf]
    exact fvTok_arr_null hA h

theorem fparseVariant_obj_null {cfg : Cfg} (fuel limit : Nat) (flt : Flt) (s : St)
    (hO : flt.allowObject = false) (h : (parseVariant cfg fuel limit s).2.1.isObj = true) :
    (fparseVariant cfg fuel limit flt s).2.1 = .null := by
  rcases parseVariant_tok_cases cfg fuel limit s with ⟨e, s', _, hf⟩ | ⟨f, s1, hp, hf⟩
  · rw [hf]
  · rw [hp, (pvTok_shape s1).2, Bool.and_eq_true, Bool.not_eq_true'] at h
    rw [hf]
    exact fvTok_obj_null hO h.1 h.2

theorem frun_val (cfg : Cfg) (L : Nat) (flt : Flt) (input : List Byte) :
    (frun cfg L flt input).2.1 = (fparseVariant cfg (2 * input.length + 4) L flt { l := { unread := input } }).2.1 := by
  rw [frun_eq, finishRun_val]

theorem run_val (cfg : Cfg) (L : Nat) (input : List Byte) :
    (run cfg L input).2.1 = (parseVariant cfg (2 * input.length + 4) L { l := { unread := input } }).2.1 := by
  rw [run_eq, finishRun_val]

/-- the first byte of a value that is neither an array nor an object -/
theorem scalar_tok {cfg : Cfg} {f L : Nat} {s : St}
    (h1 : (pvTok cfg f L s).2.1.isArr = false) (h2 : (pvTok cfg f L s).2.1.isObj = false) :
    ((cur s).1 == 0x5B) = false ∧ ((cur s).1 == 0x7B) = false := by
  rw [(pvTok_shape s).1] at h1
  rw [(pvTok_shape s).2, h1] at h2
  exact ⟨h1, h2⟩

/-- scalars, `allowValue = true`: the filtered parser is the unfiltered one (whole result, state included) -/
theorem fparseVariant_scalar_keep {cfg : Cfg} (fuel limit : Nat) (flt : Flt) (s : St)
    (hV : flt.allowValue = true)
    (h1 : (parseVariant cfg fuel limit s).2.1.isArr = false) (h2 : (parseVariant cfg fuel limit s).2.1.isObj = false) :
    fparseVariant cfg fuel limit flt s = parseVariant cfg fuel limit s := by
  rcases parseVariant_tok_cases cfg fuel limit s with ⟨e, s', hp, hf⟩ | ⟨f, s1, hp, hf⟩
  · rw [hf, hp]
  · rw [hp] at h1 h2 ⊢
    rw [hf]
    exact fvTok_scalar_keep hV (scalar_tok h1 h2).1 (scalar_tok h1 h2).2

/-- scalars, `allowValue = false`: nothing is built -/
theorem fparseVariant_scalar_drop {cfg : Cfg} (fuel limit : Nat) (flt : Flt) (s : St)
    (hV : flt.allowValue = false)
    (h1 : (parseVariant cfg fuel limit s).2.1.isArr = false) (h2 : (parseVariant cfg fuel limit s).2.1.isObj = false) :
    (fparseVariant cfg fuel limit flt s).2.1 = .null := by
  rcases parseVariant_tok_cases cfg fuel limit s with ⟨e, s', _, hf⟩ | ⟨f, s1, hp, hf⟩
  · rw [hf]
  · rw [hp] at h1 h2
    rw [hf]
    exact fvTok_scalar_drop hV (scalar_tok h1 h2).1 (scalar_tok h1 h2).2
end JD

namespace MD
open JD

/-- two transparent filters are indistinguishable for the MessagePack deserializer -/
theorem parse_transparent {env : Env} : ∀ fuel,
    (∀ limit f g hd r, Transparent f → Transparent g →
      parseVariant env fuel limit f hd r = parseVariant env fuel limit g hd r) ∧
    (∀ limit f g ha n r acc, Transparent f → Transparent g →
      readArray env fuel limit f ha n r acc = readArray env fuel limit g ha n r acc) ∧
    (∀ limit f g ho n r ms, Transparent f → Transparent g →
      readObject env fuel limit f ho n r ms = readObject env fuel limit g ho n r ms) := by
  intro fuel
  induction fuel with
  | zero =>
    refine ⟨?_, ?_, ?_⟩
    · intro limit f g hd r _ _; simp only [parseVariant]
    · intro limit f g ha n r acc _ _; simp only [readArray]
    · intro limit f g ho n r ms _ _; simp only [readObject]
  | succ k ih =>
    obtain ⟨ihV, ihA, ihO⟩ := ih
    refine ⟨?_, ?_, ?_⟩
    · intro limit f g hd r hf hg
      have hA : ∀ l b n r acc, readArray env k l f.subIdx b n r acc = readArray env k l g.subIdx b n r acc :=
        fun l b n r acc => ihA l _ _ b n r acc hf.subIdx hg.subIdx
      have hO : ∀ l b n r ms, readObject env k l f b n r ms = readObject env k l g b n r ms :=
        fun l b n r ms => ihO l _ _ b n r ms hf hg
      simp only [parseVariant, hf.allowArray, hf.allowObject, hf.allowValue,
        hg.allowArray, hg.allowObject, hg.allowValue, hA, hO]
    · intro limit f g ha n r acc hf hg
      simp only [readArray, hf.allow, hg.allow, ihV limit f g _ r hf hg]
      have hA : ∀ n r acc, readArray env k limit f ha n r acc = readArray env k limit g ha n r acc :=
        fun n r acc => ihA limit f g ha n r acc hf hg
      simp only [hA]
    · intro limit f g ho n r ms hf hg
      have hA : ∀ key, (f.subKey key).allow = true := fun key => (hf.subKey key).allow
      have hB : ∀ key, (g.subKey key).allow = true := fun key => (hg.subKey key).allow
      have hV : ∀ key b r, parseVariant env k limit (f.subKey key) b r = parseVariant env k limit (g.subKey key) b r :=
        fun key b r => ihV limit _ _ b r (hf.subKey key) (hg.subKey key)
      have hO : ∀ n r ms, readObject env k limit f ho n r ms = readObject env k limit g ho n r ms :=
        fun n r ms => ihO limit f g ho n r ms hf hg
      simp only [readObject, hA, hB, hV, hO]

/-- no destination, no value: with `hasDst = false` the value slot stays `.null`, whatever the filter -/
theorem parseVariant_noDst {env : Env} (fuel limit : Nat) (flt : Flt) (r : R) :
    (parseVariant env fuel limit flt false r).2.1 = .null := by
  cases fuel with
  | zero => simp only [parseVariant]
  | succ k =>
    simp -zeta only [parseVariant]
    split
    · rfl
    extract_lets allowValue c fin width sizeBytes isExt0 size1 size2 hdr
    have hav : allowValue = false := rfl
    clear_value c width sizeBytes isExt0 size1 size2 hdr allowValue
    subst hav
    simp only [fin, Bool.false_and, Bool.false_eq_true, ↓reduceIte]
    -- every leaf now ends in `.null`; the classes of the header byte are taken one at a time, a `split` of the
    -- whole dispatch being slow
    by_cases h1 : (decide (204 ≤ c) && decide (c ≤ 211)) = true
    · rw [if_pos h1]; split <;> rfl
    rw [if_neg h1]
    by_cases h2 : (c == 192) = true
    · rw [if_pos h2]
    rw [if_neg h2]
    by_cases h3 : (c == 193) = true
    · rw [if_pos h3]
    rw [if_neg h3]
    by_cases h4 : (c == 194 || c == 195) = true
    · rw [if_pos h4]
    rw [if_neg h4]
    by_cases h5 : (c == 202) = true
    · rw [if_pos h5]; split <;> rfl
    rw [if_neg h5]
    by_cases h6 : (c == 203) = true
    · rw [if_pos h6]; split <;> rfl
    rw [if_neg h6]
    by_cases h7 : (decide (c ≤ 127) || decide (c ≥ 224)) = true
    · rw [if_pos h7]
    rw [if_neg h7]
    obtain ⟨_ | ⟨hb, size⟩, r'⟩ := hdr
    · rfl
    simp only []
    by_cases h8 : (c == 220 || c == 221 || c / 16 == 9) = true
    · rw [if_pos h8]; split <;> rfl
    rw [if_neg h8]
    by_cases h9 : (c == 222 || c == 223 || c / 16 == 8) = true
    · rw [if_pos h9]; split <;> rfl
    rw [if_neg h9]
    split <;> split <;> rfl

theorem readArray_noArr {env : Env} : ∀ fuel limit ef n r acc,
    (readArray env fuel limit ef false n r acc).2.1 = acc.reverse := by
  intro fuel
  induction fuel with
  | zero => intro limit ef n r acc; simp only [readArray]
  | succ k ih =>
    intro limit ef n r acc
    simp only [readArray, Bool.false_and]
    split
    · rfl
    · split
      · exact ih _ _ _ _ _
      · rfl

theorem readObject_noObj {env : Env} : ∀ fuel limit flt n r ms,
    (readObject env fuel limit flt false n r ms).2.1 = ms := by
  intro fuel
  induction fuel with
  | zero => intro limit flt n r ms; simp only [readObject]
  | succ k ih =>
    intro limit flt n r ms
    simp only [readObject, Bool.false_and, Bool.false_eq_true, ↓reduceIte]
    repeat' split
    all_goals first | rfl | exact ih _ _ _ _ _
end MD
