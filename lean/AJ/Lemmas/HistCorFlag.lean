/- The overflow flag along a history: no operation of `C04.Op2` resets it and every failed allocation sets it, so a flag
   that is down at the END of a history says that every step succeeded (`C04.step_overflowed`, `C04.Hist2.toHistA`).
   Also the unfolding equations of `addMember` / `getOrAddMember` that the examples use where the cell map does not
   evaluate in the kernel. Used by AJ/Props/C14Hist.lean. -/
import AJ.Lemmas.HistCor
namespace DL
open JD (Byte Val)

/-- `allocVariant`: the flag afterwards is the flag before, or the allocation failed -/
theorem allocVariant_ov (d : Doc) :
    d.allocVariant.2.overflowed = (d.overflowed || d.allocVariant.1.isNone) := by
  simp only [Doc.allocVariant]
  split <;> simp

theorem allocExt_ov (d : Doc) (p : Int) : (d.allocExt p).2.overflowed = (d.overflowed || (d.allocExt p).1.isNone) := by
  simp only [Doc.allocExt]
  split <;> simp

theorem saveString_ov (d : Doc) (s : List Byte) :
    (d.saveString s).2.overflowed = (d.overflowed || (d.saveString s).1.isNone) := by
  simp only [Doc.saveString]
  split
  · simp
  · split
    · simp
    generalize d.pl.alloc (s.length + d.strOverhead) = q
    obtain ⟨ok, pl⟩ := q
    cases ok <;> simp

/-- the flag is sticky under `setArg` -/
theorem setArg_ov_mono (d : Doc) (l : Loc) (a : Arg) (h : d.overflowed = true) : (d.setArg l a).2.overflowed = true :=
  setArg_rel (ok := fun _ => True) (R := fun d d' => d.overflowed = true → d'.overflowed = true)
    (fun _ h => h) (fun h1 h2 h => h2 (h1 h)) (fun _ _ _ _ h => (set_overflowed _ _ _).trans h)
    (fun d p h => by rw [allocExt_ov, h]; rfl) (fun d s h => by rw [saveString_ov, h]; rfl) d l a (fun _ _ => trivial) h

/-- `addElement`: the flag afterwards is the flag before, or the allocation failed -/
theorem addElement_ov (d : Doc) (l : Loc) :
    (d.addElement l).2.overflowed = (d.overflowed || (d.addElement l).1.isNone) := by
  have := allocVariant_ov d
  simp only [Doc.addElement]
  generalize d.allocVariant = r at this
  obtain ⟨m, d1⟩ := r
  cases m with
  | none => exact this
  | some id => simp only [appendOne_overflowed]; exact this

/-- `addMember`: the flag afterwards is the flag before, or nothing was returned -/
theorem addMember_ov (d : Doc) (l : Loc) (key : List Byte) (linked : Bool) :
    (d.addMember l key linked).2.overflowed = (d.overflowed || (d.addMember l key linked).1.isNone) := by
  have h1 := allocVariant_ov d
  simp only [Doc.addMember]
  generalize d.allocVariant = r1 at h1
  obtain ⟨m1, d1⟩ := r1
  cases m1 with
  | none => exact h1
  | some k =>
    have h2 := allocVariant_ov d1
    simp only
    generalize d1.allocVariant = r2 at h2
    obtain ⟨m2, d2⟩ := r2
    simp only [Option.isNone_some, Bool.or_false] at h1
    cases m2 with
    | none => simp only at h2 ⊢; rw [h2, h1]
    | some v =>
      simp only [Option.isNone_some, Bool.or_false] at h2
      cases linked with
      | true => simp only [if_true, appendPair_overflowed, set_overflowed, Option.isNone_some, Bool.or_false]; rw [h2, h1]
      | false =>
        have h3 := saveString_ov d2 key
        simp only [Bool.false_eq_true, if_false]
        generalize d2.saveString key = r3 at h3
        obtain ⟨m3, d3⟩ := r3
        cases m3 with
        | none => simp only at h3 ⊢; rw [h3, h2, h1]
        | some n =>
          simp only [Option.isNone_some, Bool.or_false] at h3
          simp only [appendPair_overflowed, set_overflowed, Option.isNone_some, Bool.or_false]; rw [h3, h2, h1]

/-- `getOrAddMember`: the flag afterwards is the flag before, or nothing was returned on an object/null location -/
theorem getOrAddMember_ov (d : Doc) (l : Loc) (key : List Byte) (linked : Bool)
    (hobj : d.get l = .null ∨ ∃ h t, d.get l = .obj h t) :
    (d.getOrAddMember l key linked).2.overflowed = (d.overflowed || (d.getOrAddMember l key linked).1.isNone) := by
  rw [getOrAddMember_eq]
  have ho : (toObj d l).overflowed = d.overflowed := by
    simp only [toObj]; split
    · exact set_overflowed _ _ _
    · rfl
  have hg : ∃ h t, (toObj d l).get l = .obj h t := by
    rcases hobj with hn | ⟨h, t, hg⟩
    · exact ⟨d.null, d.null, by simp only [toObj, hn, get_set_self]⟩
    · exact ⟨h, t, by simp only [toObj, hg]⟩
  obtain ⟨h, t, hg⟩ := hg
  simp only [hg]
  cases (toObj d l).findKey l key with
  | some p => simp only [Option.isNone_some, Bool.or_false]; exact ho
  | none => simp only; rw [addMember_ov, ho]

/-! ## Unfolding equations used by the non-vacuity examples (the cell map does not evaluate in the kernel) -/

theorem addMember_copied_eq {d d1 d2 d3 : Doc} {l : Loc} {key : List Byte} {k v n : Nat}
    (h1 : d.allocVariant = (some k, d1)) (h2 : d1.allocVariant = (some v, d2)) (h3 : d2.saveString key = (some n, d3)) :
    d.addMember l key false = (some v, (d3.set (.slot k) (.owned n)).appendPair l k v) := by
  simp only [Doc.addMember, h1, h2, h3, Bool.false_eq_true, if_false]

theorem addMember_linked_eq {d d1 d2 : Doc} {l : Loc} {key : List Byte} {k v : Nat}
    (h1 : d.allocVariant = (some k, d1)) (h2 : d1.allocVariant = (some v, d2)) :
    d.addMember l key true = (some v, (d2.set (.slot k) (.linked key)).appendPair l k v) := by
  simp only [Doc.addMember, h1, h2, if_true]

theorem setArg_copied_fst (d : Doc) (l : Loc) (s : List Byte) :
    (d.setArg l (.strCopied s)).1 = !(d.saveString s).2.overflowed := by
  simp only [Doc.setArg]
  generalize d.saveString s = r
  obtain ⟨m, d1⟩ := r
  cases m <;> simp only [set_overflowed]

theorem setArg_copied_strings (d : Doc) (l : Loc) (s : List Byte) :
    (d.setArg l (.strCopied s)).2.strings = (d.saveString s).2.strings := by
  simp only [Doc.setArg]
  generalize d.saveString s = r
  obtain ⟨m, d1⟩ := r
  cases m <;> simp only [set_strings]

theorem setArg_linked_fst (d : Doc) (l : Loc) (s : List Byte) : (d.setArg l (.strLinked s)).1 = !d.overflowed := by
  simp only [Doc.setArg, set_overflowed]

theorem setArg_linked_strings (d : Doc) (l : Loc) (s : List Byte) : (d.setArg l (.strLinked s)).2.strings = d.strings := by
  simp only [Doc.setArg, set_strings]

end DL

namespace C04
open DL
open JD (Byte Val)

theorem bool_or_false {a b : Bool} (h : false = (a || b)) : a = false ∧ b = false := by
  cases a <;> cases b <;> first | exact ⟨rfl, rfl⟩ | cases h

/-- the flag after a valid step: the flag before, or an allocation of the step failed. (`put` is valid only when it
    reports success; then no allocation failed.) -/
theorem step_overflowed {d : Doc} {F : Forest} {op : Op2} (hv : op.Valid d F) (h : (op.run d).overflowed = false) :
    d.overflowed = false ∧ op.Succ d := by
  cases op with
  | base op =>
    cases op with
    | add l =>
      have := addElement_ov d l
      simp only [Op2.run, Op.run] at h
      rw [h] at this
      have hb : d.overflowed = false ∧ (d.addElement l).1.isNone = false := bool_or_false this
      refine ⟨hb.1, fun e => ?_⟩
      rw [e] at hb; exact absurd hb.2 (by decide)
    | clear l =>
      simp only [Op2.run, Op.run, clearV_overflowed] at h
      exact ⟨h, trivial⟩
    | put l a =>
      refine ⟨?_, trivial⟩
      cases hd : d.overflowed with
      | false => rfl
      | true =>
        have := setArg_ov_mono d l a hd
        simp only [Op2.run, Op.run] at h
        rw [h] at this; cases this
  | removeElem l k =>
    refine ⟨?_, trivial⟩
    simp only [Op2.run] at h
    split at h
    · split at h
      · rw [overflowed_linking.removeOne] at h; exact h
      · exact h
    · exact h
  | removeMember l key =>
    refine ⟨?_, trivial⟩
    simp only [Op2.run] at h
    split at h
    · rw [overflowed_linking.removePair] at h; exact h
    · exact h
  | member l key linked =>
    have := getOrAddMember_ov d l key linked hv.2
    simp only [Op2.run] at h
    rw [h] at this
    have hb : d.overflowed = false ∧ (d.getOrAddMember l key linked).1.isNone = false := bool_or_false this
    refine ⟨hb.1, fun e => ?_⟩
    rw [e] at hb; exact absurd hb.2 (by decide)

/-- a history that ends with the overflow flag down is a history all of whose allocations succeeded: it stands for a
    list of abstract operations -/
theorem Hist2.toHistA {d d' : Doc} {F F' : Forest} (h : Hist2 d F d' F') (hov : d'.overflowed = false) :
    d.overflowed = false ∧ ∃ as, HistA d F as d' F' := by
  induction h with
  | nil d F => exact ⟨hov, [], HistA.nil d F⟩
  | cons op hv _ ih =>
    obtain ⟨h1, as, hh⟩ := ih hov
    obtain ⟨h0, hok⟩ := step_overflowed hv h1
    exact ⟨h0, _, HistA.cons op hv hok hh⟩

end C04
