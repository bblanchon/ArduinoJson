/- Basic facts for the slot-level JSON deserializer `JDD` (AJ/Model/JDD.lean):
   * `PlEq`: documents that differ only by allocator traffic (log, call counter) and the overflow flag;
   * the ledger with the StringBuilder's buffer (`LB`);
   * the StringBuilder model: `startString`, `appendN`, `quoted`, `unquoted`, `save`;
   * forest surgery (`replaceAt` inside `replaceAt`).
   Used by AJ/Lemmas/JddInv.lean. -/
import AJ.Model.JDD
import AJ.Lemmas.DocMember
import AJ.Lemmas.DocCopy
import AJ.Lemmas.DocReuse
namespace JDD
open DL
open JD (Byte Code Cfg)

/-! ## Documents equal up to allocator traffic -/

/-- `PlEq d d'`: `d'` is `d` up to the allocator log, the allocator call counter and the overflow flag -/
structure PlEq (d d' : Doc) : Prop where
  g : d'.g = d.g
  root : d'.root = d.root
  cells : d'.cells = d.cells
  strings : d'.strings = d.strings
  nextNode : d'.nextNode = d.nextNode
  ovh : d'.strOverhead = d.strOverhead
  pools : d'.pl.pools = d.pl.pools
  free : d'.pl.free = d.pl.free
  tcap : d'.pl.tableCap = d.pl.tableCap
  theap : d'.pl.tableHeap = d.pl.tableHeap

theorem PlEq.refl (d : Doc) : PlEq d d := ⟨rfl, rfl, rfl, rfl, rfl, rfl, rfl, rfl, rfl, rfl⟩

theorem PlEq.trans {d d1 d2 : Doc} (h1 : PlEq d d1) (h2 : PlEq d1 d2) : PlEq d d2 :=
  ⟨h2.g.trans h1.g, h2.root.trans h1.root, h2.cells.trans h1.cells, h2.strings.trans h1.strings,
    h2.nextNode.trans h1.nextNode, h2.ovh.trans h1.ovh, h2.pools.trans h1.pools, h2.free.trans h1.free,
    h2.tcap.trans h1.tcap, h2.theap.trans h1.theap⟩

theorem PlEq.cell {d d' : Doc} (h : PlEq d d') (j : Nat) : d'.cell j = d.cell j := by
  simp only [Doc.cell, h.cells]

theorem PlEq.null {d d' : Doc} (h : PlEq d d') : d'.null = d.null := by simp only [Doc.null, h.g]

theorem PlEq.live {d d' : Doc} (h : PlEq d d') (x : Nat) : PL.live d'.g d'.pl x ↔ PL.live d.g d.pl x := by
  rw [h.g]; exact live_congr h.pools h.free x

theorem PlEq.inv {d d' : Doc} (h : PlEq d d') (hp : PL.Inv d.g d.pl) : PL.Inv d'.g d'.pl := by
  rw [h.g]; exact hp.congr h.pools h.tcap h.theap h.free

theorem PlEq.get {d d' : Doc} (h : PlEq d d') (l : Loc) : d'.get l = d.get l := by
  cases l with
  | root => exact h.root
  | slot i => exact get_of_cell (h.cell i)

theorem PlEq.strOK {d d' : Doc} (h : PlEq d d') {rs : List Nat} (hs : StrOK d rs) : StrOK d' rs :=
  StrOK_congr h.strings h.nextNode hs

theorem PlEq.strRefs {d d' : Doc} (h : PlEq d d') (F : Forest) : d'.strRefs F = d.strRefs F :=
  flatMap_congr' _ (fun l0 _ => by rw [h.get l0])

/-- the invariant does not see allocator traffic -/
theorem PlEq.wfg {d d' : Doc} {F : Forest} (h : PlEq d d') (w : WFG d F) (hs : StrOK d (d.strRefs F)) :
    WFG d' F ∧ StrOK d' (d'.strRefs F) ∧ abs d' = abs d :=
  wfg_frame w h.g h.root (fun x _ => h.cell x)
    (fun l0 h0 e he => ⟨h.cell e, (h.live e).2 (w.ext l0 h0 e he).2.1⟩)
    (h.inv w.pool) (fun x hx => (h.live x).2 (w.live x hx)) (h.strOK hs)
    (fun n _ => strBytes_of_strings h.strings n)

/-! ## The ledger, with the StringBuilder's buffer -/

/-- blocks outstanding according to the allocator log = blocks owned by the pool list + string nodes + the
    StringBuilder's buffer (when it holds one) -/
def LB (x : S) : Prop := PL.net x.d.pl = (x.d.strings.length : Int) + (if x.b.isSome then 1 else 0)

theorem realloc_net (s : PL.St) (n : Nat) (b : Bool) : PL.net (s.realloc n b).2 = PL.net s := by
  obtain ⟨ok, s1, h, h1, h2, _, _, h5⟩ := PL.realloc_facts s n b
  rw [h]; simp only [PL.net, PL.blocks, h1, h2, h5]

theorem dealloc_net (s : PL.St) : PL.net s.dealloc = PL.net s - 1 := by
  have : s.dealloc = s.rel [] 1 := rfl
  rw [this, net_rel]; rfl

/-! ## Pools with a block -/

/-- every pool of the list owns its block (no pool creation has failed) -/
def AllB (d : Doc) : Prop := ∀ p ∈ d.pl.pools, p.hasBlock = true

theorem AllB_of_pools {d d' : Doc} (h : d'.pl.pools = d.pl.pools) (hb : AllB d) : AllB d' := by
  unfold AllB; rw [h]; exact hb

theorem lastPool_blk {g : PL.Geo} {s s' : PL.St} {id : Nat} (hb : ∀ p ∈ s.pools, p.hasBlock = true)
    (h : PL.allocFromLastPool g s = (some id, s')) : ∀ p ∈ s'.pools, p.hasBlock = true := by
  obtain ⟨ps, p, hs, hp, _, _, rfl⟩ := PL.allocFromLastPool_some h
  intro q hq
  simp only [List.mem_append, List.mem_singleton] at hq
  rcases hq with hq | rfl
  · exact hb q (by rw [hs]; simp [hq])
  · exact hp

/-- a slot allocation that succeeds leaves no pool without its block -/
theorem allocSlot_blk {g : PL.Geo} {s s' : PL.St} {id : Nat} (gok : PL.GeoOK g) (hI : PL.Inv g s)
    (hb : ∀ p ∈ s.pools, p.hasBlock = true) (h : PL.allocSlot g s = (some id, s')) :
    ∀ p ∈ s'.pools, p.hasBlock = true := by
  revert h
  refine PL.allocSlot_cases (Q := fun r => r = (some id, s') → ∀ p ∈ s'.pools, p.hasBlock = true) ?_ ?_ ?_
  · intro a rest _ h
    cases h
    exact hb
  · intro id' s1 _ h1 h
    cases h
    exact lastPool_blk hb h1
  · intro ok s2 _ hfull hr2 h
    obtain ⟨_, _, _, _, e⟩ := PL.addPool_ok gok hI (hI.all_full hfull) hr2
    cases ok with
    | false => cases h
    | true =>
      obtain ⟨p, hp, _⟩ := e rfl
      -- the last pool served, so it has its block; the others are the old ones
      obtain ⟨ps, q, hs2, hq, _, _, rfl⟩ := PL.allocFromLastPool_some (show PL.allocFromLastPool g s2 = _ from h)
      rw [hp] at hs2
      obtain ⟨hps, _⟩ := List.append_inj' hs2 rfl
      intro z hz
      simp only [List.mem_append, List.mem_singleton] at hz
      rcases hz with hz | rfl
      · exact hb z (hps ▸ hz)
      · exact hq

/-! ## Forest surgery -/

theorem replaceSub_nest (i j : Nat) (A B : Forest) :
    ∀ (F : Forest), j ∉ F.ids → (F.replaceSub i A).replaceSub j B = F.replaceSub i (A.replaceSub j B) := by
  intro F
  induction F with
  | nil => intro _; rfl
  | cons k a s r ihs ihr =>
    intro hj
    simp only [Forest.ids, List.mem_append, List.mem_cons, not_or] at hj
    obtain ⟨_, haj, hjs, hjr⟩ := hj
    by_cases hai : a = i
    · simp only [Forest.replaceSub, if_pos hai, if_neg (Ne.symm haj)]
      rw [Forest.replaceSub_of_notin j B r (fun m => hjr (r.locs_sub_ids j m))]
    · simp only [Forest.replaceSub, if_neg hai, if_neg (Ne.symm haj), ihs hjs, ihr hjr]

theorem replaceAt_nest {F : Forest} {l : Loc} {j : Nat} (A B : Forest) (hj : j ∉ F.ids) :
    replaceAt (replaceAt F l A) (.slot j) B = replaceAt F l (A.replaceSub j B) := by
  cases l with
  | root => rfl
  | slot i => exact replaceSub_nest i j A B F hj

theorem ids_replaceSub_sub (i : Nat) (s' : Forest) : ∀ (F : Forest) (x : Nat), x ∈ (F.replaceSub i s').ids →
    x ∈ F.ids ∨ x ∈ s'.ids := by
  intro F
  induction F with
  | nil => intro x h; cases h
  | cons k a s r ihs ihr =>
    intro x h
    simp only [Forest.replaceSub] at h
    split at h
    · simp only [Forest.ids, List.mem_append, List.mem_cons] at h ⊢
      rcases h with h | h | h | h
      · exact Or.inl (Or.inl h)
      · exact Or.inl (Or.inr (Or.inl h))
      · exact Or.inr h
      · exact Or.inl (Or.inr (Or.inr (Or.inr h)))
    · simp only [Forest.ids, List.mem_append, List.mem_cons] at h ⊢
      rcases h with h | h | h | h
      · exact Or.inl (Or.inl h)
      · exact Or.inl (Or.inr (Or.inl h))
      · rcases ihs x h with h | h
        · exact Or.inl (Or.inr (Or.inr (Or.inl h)))
        · exact Or.inr h
      · rcases ihr x h with h | h
        · exact Or.inl (Or.inr (Or.inr (Or.inr h)))
        · exact Or.inr h

theorem subOf_replaceSub_self (i : Nat) (s' : Forest) : ∀ (F : Forest), i ∈ F.locs → (F.replaceSub i s').subOf i = s' := by
  intro F
  induction F with
  | nil => intro h; cases h
  | cons k a s r ihs ihr =>
    intro h
    by_cases hai : a = i
    · simp only [Forest.replaceSub, if_pos hai, Forest.subOf]
    · simp only [Forest.replaceSub, if_neg hai, Forest.subOf]
      simp only [Forest.locs, List.mem_cons, List.mem_append] at h
      by_cases his : i ∈ s.locs
      · rw [if_pos (Forest.self_mem_locs_replaceSub s i s' his)]; exact ihs his
      · have hir : i ∈ r.locs := by
          rcases h with e | m | m
          · exact absurd e.symm hai
          · exact absurd m his
          · exact m
        rw [Forest.replaceSub_of_notin i s' s his, if_neg his]; exact ihr hir

theorem layoutAt_replaceAt {F : Forest} {l : Loc} (s' : Forest) (hl : isLoc F l) : layoutAt (replaceAt F l s') l = s' := by
  cases l with
  | root => rfl
  | slot i => exact subOf_replaceSub_self i s' F hl

/-! ## The StringBuilder -/

/-- effect of a StringBuilder operation `x → x'`: only allocator traffic and the overflow flag; the ledger follows the
    buffer; the flag is sticky -/
structure BOp (x x' : S) : Prop where
  pleq : PlEq x.d x'.d
  bal : LB x → LB x'
  ovs : x.d.overflowed = true → x'.d.overflowed = true

theorem BOp.refl (x : S) : BOp x x := ⟨PlEq.refl _, fun h => h, fun h => h⟩

theorem BOp.trans {x x1 x2 : S} (h1 : BOp x x1) (h2 : BOp x1 x2) : BOp x x2 :=
  ⟨h1.pleq.trans h2.pleq, fun h => h2.bal (h1.bal h), fun h => h2.ovs (h1.ovs h)⟩

/-- moving the reader is not seen -/
theorem BOp.reader {x x' : S} (h : BOp x x') (s : JD.St) : BOp x { x' with s := s } := ⟨h.pleq, h.bal, h.ovs⟩
theorem BOp.reader_l {x x' : S} (s : JD.St) (h : BOp { x with s := s } x') : BOp x x' := ⟨h.pleq, h.bal, h.ovs⟩

theorem startString_spec (x : S) :
    BOp x (startString x) ∧ (startString x).s = x.s ∧
    (((startString x).b.isSome = true ∧ (startString x).d.overflowed = x.d.overflowed) ∨
      ((startString x).b = none ∧ (startString x).d.overflowed = true)) := by
  unfold startString
  cases hb : x.b with
  | some c => exact ⟨BOp.refl x, rfl, Or.inl ⟨by rw [hb]; rfl, rfl⟩⟩
  | none =>
    simp only
    have hn := alloc_net x.d.pl (31 + x.d.strOverhead)
    have hf := PL.alloc_fst x.d.pl (31 + x.d.strOverhead)
    generalize hq : x.d.pl.alloc (31 + x.d.strOverhead) = q at hn hf
    obtain ⟨ok, pl⟩ := q
    have hpl : pl = (x.d.pl.alloc (31 + x.d.strOverhead)).2 := by rw [hq]
    simp only at hn hf ⊢
    have pe : ∀ o, PlEq x.d { x.d with pl := pl, overflowed := o } :=
      fun o => ⟨rfl, rfl, rfl, rfl, rfl, rfl, by rw [hpl]; rfl, by rw [hpl]; rfl, by rw [hpl]; rfl, by rw [hpl]; rfl⟩
    cases ok with
    | true =>
      simp only [if_true]
      refine ⟨⟨pe _, ?_, fun h => h⟩, trivial, Or.inl ⟨rfl, trivial⟩⟩
      intro h
      have hfa : x.d.pl.failsAt (x.d.pl.calls + 1) = false := by
        cases hh : x.d.pl.failsAt (x.d.pl.calls + 1) <;> simp [hh] at hf ⊢
      unfold LB at h ⊢
      simp only [hb, Option.isSome_none, Bool.false_eq_true, if_false, Option.isSome_some, if_true] at h ⊢
      rw [hn, hfa, h]; simp
    | false =>
      simp only [Bool.false_eq_true, if_false]
      refine ⟨⟨pe _, ?_, fun _ => rfl⟩, trivial, Or.inr ⟨trivial, trivial⟩⟩
      intro h
      have hfa : x.d.pl.failsAt (x.d.pl.calls + 1) = true := by
        cases hh : x.d.pl.failsAt (x.d.pl.calls + 1) <;> simp [hh] at hf ⊢
      unfold LB at h ⊢
      simp only [hb, Option.isSome_none, Bool.false_eq_true, if_false] at h ⊢
      rw [hn, hfa, h]; simp

/-- what `k` calls of `append(char)` do -/
structure AOp (x x' : S) : Prop where
  bop : BOp x x'
  s : x'.s = x.s
  kept : x'.b.isSome = true → x.b.isSome = true ∧ x'.d.overflowed = x.d.overflowed
  lost : x'.b = none → x.b = none ∨ x'.d.overflowed = true

theorem AOp.refl (x : S) : AOp x x := ⟨BOp.refl x, rfl, fun h => ⟨h, rfl⟩, fun h => Or.inl h⟩

theorem AOp.trans {x x1 x2 : S} (h1 : AOp x x1) (h2 : AOp x1 x2) : AOp x x2 := by
  refine ⟨h1.bop.trans h2.bop, h2.s.trans h1.s, ?_, ?_⟩
  · intro h
    obtain ⟨a, b⟩ := h2.kept h
    obtain ⟨c, e⟩ := h1.kept a
    exact ⟨c, b.trans e⟩
  · intro h
    rcases h2.lost h with a | a
    · rcases h1.lost a with b | b
      · exact Or.inl b
      · exact Or.inr (h2.bop.ovs b)
    · exact Or.inr a

theorem appendN_spec (maxLen : Nat) : ∀ (k size : Nat) (x : S), AOp x (appendN maxLen k size x) := by
  intro k
  induction k with
  | zero => intro size x; exact AOp.refl x
  | succ k ih =>
    intro size x
    unfold appendN
    cases hb : x.b with
    | none => exact AOp.refl x
    | some cap =>
      simp only
      split
      · split
        · -- beyond the maximal length: the node is released
          refine AOp.trans ?_ (ih _ _)
          refine ⟨⟨⟨rfl, rfl, rfl, rfl, rfl, rfl, rfl, rfl, rfl, rfl⟩, ?_, fun _ => rfl⟩, rfl,
            (fun h => by cases h), fun _ => Or.inr rfl⟩
          intro h
          unfold LB at h ⊢
          simp only [hb, Option.isSome_some, if_true, Option.isSome_none, Bool.false_eq_true, if_false] at h ⊢
          rw [dealloc_net, h]; omega
        · have hn := realloc_net x.d.pl (size * 2 + 1 + x.d.strOverhead) true
          generalize hq : x.d.pl.realloc (size * 2 + 1 + x.d.strOverhead) true = q at hn
          obtain ⟨ok, pl⟩ := q
          have hpl : pl = (x.d.pl.realloc (size * 2 + 1 + x.d.strOverhead) true).2 := by rw [hq]
          simp only at hn ⊢
          cases ok with
          | true =>
            simp only [if_true]
            refine AOp.trans ?_ (ih _ _)
            refine ⟨⟨⟨rfl, rfl, rfl, rfl, rfl, rfl, by rw [hpl]; rfl, by rw [hpl]; rfl, by rw [hpl]; rfl,
              by rw [hpl]; rfl⟩, ?_, fun h => h⟩, rfl, fun _ => ⟨by rw [hb]; rfl, rfl⟩, fun h => by cases h⟩
            intro h
            unfold LB at h ⊢
            simp only [hb, Option.isSome_some, if_true] at h ⊢
            rw [hn, h]
          | false =>
            simp only [Bool.false_eq_true, if_false]
            refine AOp.trans ?_ (ih _ _)
            refine ⟨⟨⟨rfl, rfl, rfl, rfl, rfl, rfl, by rw [hpl]; rfl, by rw [hpl]; rfl, by rw [hpl]; rfl,
              by rw [hpl]; rfl⟩, ?_, fun _ => rfl⟩, rfl, (fun h => by cases h), fun _ => Or.inr rfl⟩
            intro h
            unfold LB at h ⊢
            simp only [hb, Option.isSome_some, if_true, Option.isSome_none, Bool.false_eq_true, if_false] at h ⊢
            rw [dealloc_net, hn, h]; omega
      · exact ih _ _

/-- effect of reading one string token through the builder -/
structure TokOp (x x' : S) : Prop where
  bop : BOp x x'
  kept : x'.b.isSome = true → x'.d.overflowed = x.d.overflowed
  lost : x'.b = none → x'.d.overflowed = true

theorem tok_of {x x1 x2 : S} (h1 : BOp x x1)
    (hb : (x1.b.isSome = true ∧ x1.d.overflowed = x.d.overflowed) ∨ (x1.b = none ∧ x1.d.overflowed = true))
    (h2 : AOp x1 x2) : TokOp x x2 := by
  refine ⟨h1.trans h2.bop, ?_, ?_⟩
  · intro h
    obtain ⟨a, b⟩ := h2.kept h
    rcases hb with ⟨_, e⟩ | ⟨e, _⟩
    · exact b.trans e
    · rw [e] at a; cases a
  · intro h
    rcases h2.lost h with a | a
    · rcases hb with ⟨e, _⟩ | ⟨_, e⟩
      · rw [a] at e; cases e
      · exact h2.bop.ovs e
    · exact a

theorem quoted_spec (cfg : Cfg) (fuel : Nat) (stop : Byte) (x : S) :
    TokOp x (quoted cfg fuel stop x).2.2 ∧
    ((quoted cfg fuel stop x).1 = .ok → (quoted cfg fuel stop x).2.2.b.isSome = true) ∧
    ((quoted cfg fuel stop x).1 = .noMemory → (quoted cfg fuel stop x).2.2.b = none) := by
  obtain ⟨h1, _, hb⟩ := startString_spec x
  unfold quoted
  simp only
  generalize JD.parseQuoted cfg stop fuel [] 0 (startString x).s = r
  obtain ⟨c, bytes, s⟩ := r
  simp only
  have h2 := appendN_spec cfg.maxStrLen bytes.length 0 { startString x with s := s }
  generalize appendN cfg.maxStrLen bytes.length 0 { startString x with s := s } = x2 at h2
  refine ⟨tok_of (x1 := { startString x with s := s }) (h1.reader s) hb h2, ?_, ?_⟩
  · intro h
    split at h
    · cases hx : x2.b with
      | some c => rfl
      | none => rw [hx] at h; simp at h
    · rename_i hc; subst h; simp at hc
  · intro h
    split at h
    · cases hx : x2.b with
      | some c => rw [hx] at h; simp at h
      | none => rfl
    · rename_i hc; subst h; simp at hc

theorem unquoted_spec (cfg : Cfg) (fuel : Nat) (x : S) :
    TokOp x (unquoted cfg fuel x).2.2 ∧
    ((unquoted cfg fuel x).1 = .ok → (unquoted cfg fuel x).2.2.b.isSome = true) ∧
    ((unquoted cfg fuel x).1 = .noMemory → (unquoted cfg fuel x).2.2.b = none) ∧
    ((unquoted cfg fuel x).1 = .ok ∨ (unquoted cfg fuel x).1 = .noMemory) := by
  obtain ⟨h1, _, hb⟩ := startString_spec x
  unfold unquoted
  simp only
  generalize JD.parseUnquoted fuel [] (startString x).s = r
  obtain ⟨bytes, s⟩ := r
  simp only
  have h2 := appendN_spec cfg.maxStrLen bytes.length 0 { startString x with s := s }
  generalize appendN cfg.maxStrLen bytes.length 0 { startString x with s := s } = x2 at h2
  refine ⟨tok_of (x1 := { startString x with s := s }) (h1.reader s) hb h2, ?_, ?_, ?_⟩
  · intro h
    cases hx : x2.b with
    | some c => rfl
    | none => rw [hx] at h; simp at h
  · intro h
    cases hx : x2.b with
    | some c => rw [hx] at h; simp at h
    | none => rfl
  · cases x2.b <;> simp

/-! ## `StringBuilder::save` -/

/-- the document with an allocator that never fails and the string-length limit `mx` (a device to reuse the lemmas about
    `Doc.saveString`: the builder has checked the length before `save` is reached, so `save` itself has no length test) -/
def calm (d : Doc) (mx : Nat) : Doc := { d with pl := { d.pl with failAt := [], failFrom := none }, maxStrLen := mx }

theorem calm_failsAt (d : Doc) (mx n : Nat) : (calm d mx).pl.failsAt n = false := rfl

/-- effect of `save`: node `n` gained a reference (or was created with one); nothing else but allocator traffic -/
structure SaveOp (x : S) (bytes : List Byte) (n : Nat) (x' : S) : Prop where
  s : x'.s = x.s
  g : x'.d.g = x.d.g
  root : x'.d.root = x.d.root
  cells : x'.d.cells = x.d.cells
  ovh : x'.d.strOverhead = x.d.strOverhead
  ov : x'.d.overflowed = x.d.overflowed
  pools : x'.d.pl.pools = x.d.pl.pools
  free : x'.d.pl.free = x.d.pl.free
  tcap : x'.d.pl.tableCap = x.d.pl.tableCap
  theap : x'.d.pl.tableHeap = x.d.pl.tableHeap
  str : ∀ rs, StrOK x.d rs → StrOK x'.d (n :: rs)
  keep : ∀ rs, StrOK x.d rs → ∀ m ∈ rs, x'.d.strBytes m = x.d.strBytes m
  new : ∀ rs, StrOK x.d rs → x'.d.strBytes n = bytes
  bal : x.b.isSome = true → LB x → LB x'

theorem save_eq_found {x : S} {bytes : List Byte} {y : StrNode} (hf : x.d.strings.find? (·.bytes == bytes) = some y) :
    save x bytes = (y.id, { x with d := { x.d with strings :=
      (x.d.strings.map (fun z => if z.id == y.id then { z with refs := z.refs + 1 } else z)) } }) := by
  simp only [save, hf]

theorem save_eq_new {x : S} {bytes : List Byte} (hf : x.d.strings.find? (·.bytes == bytes) = none) :
    save x bytes = (x.d.nextNode, { x with d := { x.d with
        pl := (x.d.pl.realloc (bytes.length + x.d.strOverhead) false).2,
        strings := ⟨x.d.nextNode, bytes, 1⟩ :: x.d.strings, nextNode := x.d.nextNode + 1 }, b := none }) := by
  simp only [save, hf]

/-- `save` through `saveString` on the calm document -/
theorem save_via (x : S) (bytes : List Byte) (n : Nat) (x' : S) (d1 : Doc)
    (hsv : (calm x.d bytes.length).saveString bytes = (some n, d1)) (hstr : d1.strings = x'.d.strings)
    (hnn : d1.nextNode = x'.d.nextNode) :
    (∀ rs, StrOK x.d rs → StrOK x'.d (n :: rs)) ∧
    (∀ rs, StrOK x.d rs → ∀ m ∈ rs, x'.d.strBytes m = x.d.strBytes m) ∧
    (∀ rs, StrOK x.d rs → x'.d.strBytes n = bytes) := by
  have hc : ∀ rs, StrOK x.d rs → StrOK (calm x.d bytes.length) rs := fun rs hs => StrOK_congr (d := x.d) (d' := calm x.d bytes.length) rfl rfl hs
  refine ⟨fun rs hs => StrOK_congr (d := d1) hstr.symm hnn.symm (saveString_strOK (hc rs hs) hsv), ?_, ?_⟩
  · intro rs hs m hm
    obtain ⟨_, _, _, _, hkeep, _⟩ := saveString_spec (d := calm x.d bytes.length) (hc rs hs).ids_nodup (hc rs hs).ids_lt hsv
    rw [strBytes_of_strings hstr.symm, hkeep m (hs.present m hm)]; rfl
  · intro rs hs
    obtain ⟨_, _, _, hb, _⟩ := saveString_spec (d := calm x.d bytes.length) (hc rs hs).ids_nodup (hc rs hs).ids_lt hsv
    rw [strBytes_of_strings hstr.symm]; exact hb

theorem save_spec (x : S) (bytes : List Byte) : SaveOp x bytes (save x bytes).1 (save x bytes).2 := by
  cases hf : x.d.strings.find? (·.bytes == bytes) with
  | some y =>
    have hf' : (calm x.d bytes.length).strings.find? (·.bytes == bytes) = some y := hf
    obtain ⟨a, b, c⟩ := save_via x bytes y.id (save x bytes).2 _ (saveString_found hf')
      (by rw [save_eq_found hf]; rfl) (by rw [save_eq_found hf]; rfl)
    rw [save_eq_found hf] at a b c ⊢
    refine ⟨rfl, rfl, rfl, rfl, rfl, rfl, rfl, rfl, rfl, rfl, a, b, c, ?_⟩
    intro _ h
    unfold LB at h ⊢
    simp only [List.length_map]; exact h
  | none =>
    have hf' : (calm x.d bytes.length).strings.find? (·.bytes == bytes) = none := hf
    have hn := realloc_net x.d.pl (bytes.length + x.d.strOverhead) false
    have hsv := saveString_short hf' (Nat.le_refl _)
    rw [calm_failsAt] at hsv
    simp only [Bool.false_eq_true, if_false] at hsv
    obtain ⟨a, b, c⟩ := save_via x bytes x.d.nextNode (save x bytes).2 _ hsv
      (by rw [save_eq_new hf]; rfl) (by rw [save_eq_new hf]; rfl)
    rw [save_eq_new hf] at a b c ⊢
    refine ⟨rfl, rfl, rfl, rfl, rfl, rfl, rfl, rfl, rfl, rfl, a, b, c, ?_⟩
    intro hb h
    unfold LB at h ⊢
    simp only [hb, if_true, Option.isSome_none, Bool.false_eq_true, if_false, List.length_cons] at h ⊢
    rw [hn, h]; simp

end JDD
