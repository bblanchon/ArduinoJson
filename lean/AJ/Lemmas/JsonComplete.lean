/- RFC 8259 (`Spec.Json`) is a sub-grammar of the dialect (`Spec.Dialect`) when `\u` escapes are decoded: white space
   is dialect white space, a number literal is a number token with the same value, a string body decodes to the bytes
   it denotes (`embed_value`). Completeness of the deserializer for JSON texts is therefore the completeness for the
   dialect (AJ/Lemmas/DialectComplete2.lean) on embedded derivations. -/
import AJ.Spec.Json
import AJ.Lemmas.DialectComplete2
import AJ.Lemmas.Digits
import AJ.Lemmas.NumLit
set_option linter.unusedSimpArgs false
namespace JD
open Spec.Json

/-! ## White space -/

instance (w : List Byte) : Decidable (Ws w) := by unfold Ws; infer_instance

theorem ws_nil : Ws [] := by intro c h; cases h
theorem ws_tail {c : Byte} {w : List Byte} (h : Ws (c :: w)) : Ws w := fun x hx => h x (List.mem_cons_of_mem _ hx)
theorem ws_head {c : Byte} {w : List Byte} (h : Ws (c :: w)) : c ≠ 0 ∧ isWs c = true := ws_byte (h c (List.mem_cons_self ..))

theorem ws_dws (cfg : Cfg) {w : List Byte} (h : Ws w) : Spec.Dialect.DWs cfg w := by
  induction w with
  | nil => exact .nil
  | cons c w ih => exact .ws c w (h c (List.mem_cons_self ..)) (ih (ws_tail h))

/-- `skipSpaces` over RFC white space stops on the next token, which it latches (the same state for every
    sufficient fuel) -/
theorem skipSpaces_ws (cfg : Cfg) {c : Byte} {r : List Byte} (hc : Tok c) (w : List Byte) (hw : Ws w) :
    ∀ (s : St) (p : Nat) (f : Bool), Pos s (w ++ c :: r) p f →
      ∃ X, Seen X (c :: r) (p + w.length) true ∧ ∀ n, w.length < n → skipSpaces cfg n s = (.ok, X) :=
  skipSpaces_dws cfg hc w (ws_dws cfg hw)

/-! ## Number literals are number tokens -/

/-- the bytes a number literal of the RFC is made of -/
def NumCh (c : Byte) : Prop := (0x30 ≤ c ∧ c ≤ 0x39) ∨ c = 0x2B ∨ c = 0x2D ∨ c = 0x2E ∨ c = 0x65 ∨ c = 0x45

theorem inNumber_numCh (cfg : Cfg) {c : Byte} (h : NumCh c) : inNumber cfg c = true := by
  unfold inNumber
  generalize (cfg.nan || cfg.inf) = b
  rcases h with h | rfl | rfl | rfl | rfl | rfl
  · simp [h.1, h.2]
  all_goals (cases b <;> decide)

theorem numCh_digits {ds : List Byte} (h : Digits1 ds) : ∀ c ∈ ds, NumCh c := fun c hc => Or.inl (h.2 c hc)

theorem numCh_frac {f : List Byte} (hf : FracPart f) : ∀ c ∈ f, NumCh c := by
  rcases hf with rfl | ⟨ds, hd, rfl⟩
  · nofun
  · intro c hc
    rcases List.mem_cons.mp hc with e | hc
    · exact Or.inr (Or.inr (Or.inr (Or.inl e)))
    · exact numCh_digits hd c hc

theorem numCh_exp {e : List Byte} (he : ExpPart e) : ∀ c ∈ e, NumCh c := by
  rcases he with rfl | ⟨x, sg, ds, hx, hsg, hd, rfl⟩
  · nofun
  · intro c hc
    rcases List.mem_cons.mp hc with e | hc
    · subst e
      rcases hx with rfl | rfl
      · exact Or.inr (Or.inr (Or.inr (Or.inr (Or.inl rfl))))
      · exact Or.inr (Or.inr (Or.inr (Or.inr (Or.inr rfl))))
    · rcases List.mem_append.mp hc with hc | hc
      · rcases hsg with rfl | rfl | rfl
        · cases hc
        · exact Or.inr (Or.inl (List.mem_singleton.mp hc))
        · exact Or.inr (Or.inr (Or.inl (List.mem_singleton.mp hc)))
      · exact numCh_digits hd c hc

theorem numLit_chars {lit : List Byte} (h : NumLit lit) : ∀ c ∈ lit, NumCh c := by
  obtain ⟨_, sg, ip, f, e, hsg, hip, hf, he, rfl⟩ := h
  intro c hc
  simp only [List.mem_append] at hc
  rcases hc with ((hc | hc) | hc) | hc
  · rcases hsg with rfl | rfl
    · cases hc
    · exact Or.inr (Or.inr (Or.inl (List.mem_singleton.mp hc)))
  · rcases hip with rfl | ⟨hd, _⟩
    · rw [List.mem_singleton.mp hc]; exact Or.inl (by decide)
    · exact numCh_digits hd c hc
  · exact numCh_frac hf c hc
  · exact numCh_exp he c hc

/-- first byte of a number literal -/
def NumStart (c : Byte) : Prop := c = 0x2D ∨ (0x30 ≤ c ∧ c ≤ 0x39)

theorem intPart_head {ip : List Byte} (h : IntPart ip) : ∃ d ds, ip = d :: ds ∧ (0x30 ≤ d ∧ d ≤ 0x39) := by
  rcases h with rfl | ⟨⟨hne, hd⟩, _⟩
  · exact ⟨0x30, [], rfl, by decide⟩
  · cases ip with
    | nil => exact absurd rfl hne
    | cons d ds => exact ⟨d, ds, rfl, hd d (List.mem_cons_self ..)⟩

theorem numLit_head {lit : List Byte} (h : NumLit lit) : ∃ c cs, lit = c :: cs ∧ NumStart c := by
  obtain ⟨_, sg, ip, f, e, hsg, hip, hf, he, rfl⟩ := h
  obtain ⟨d, ds, rfl, hd⟩ := intPart_head hip
  rcases hsg with rfl | rfl
  · exact ⟨d, ds ++ f ++ e, by simp, Or.inr hd⟩
  · exact ⟨0x2D, d :: ds ++ f ++ e, by simp, Or.inl rfl⟩

theorem numStart_startD {c : Byte} (h : NumStart c) : NumStartD c := by
  rcases h with rfl | h
  · exact Or.inl rfl
  · exact Or.inr (Or.inr (Or.inl (Digits.isDigit_of_range h)))

theorem numStart_facts {c : Byte} (h : NumStart c) :
    Tok c ∧ (c == 0x5B) = false ∧ (c == 0x7B) = false ∧ (c == 0x22) = false ∧ (c == 0x27) = false ∧
    (c == 0x74) = false ∧ (c == 0x66) = false ∧ (c == 0x6E) = false ∧ c ≠ 0x5D ∧ c ≠ 0x7D :=
  numStartD_facts (numStart_startD h)

instance (c : Byte) : Decidable (NumStart c) := by unfold NumStart; infer_instance

theorem numStart_head {t : List Byte} {c : Byte} {cs : List Byte} (hl : NumLit t) (h : t = c :: cs) : NumStart c := by
  obtain ⟨c', cs', h', hc⟩ := numLit_head hl
  rw [h] at h'
  rw [(List.cons.inj h').1]; exact hc

/-- only the number production derives a number literal -/
theorem value_numLit {cfg : Cfg} {L : Nat} {t : List Byte} {v : Val} (h : Value cfg L t v) (hl : NumLit t) :
    isNumberVal v = true := by
  cases h with
  | num _ _ hn => obtain ⟨n, hv, _⟩ := numLit_ok cfg hn; rw [hv]; rfl
  | null => exact absurd (numStart_head hl rfl) (by decide)
  | «true» => exact absurd (numStart_head hl rfl) (by decide)
  | «false» => exact absurd (numStart_head hl rfl) (by decide)
  | str _ body s _ _ => exact absurd (numStart_head (c := 0x22) (cs := body ++ [0x22]) hl rfl) (by decide)
  | arrEmpty _ w _ => exact absurd (numStart_head (c := 0x5B) (cs := w ++ [0x5D]) hl rfl) (by decide)
  | arr _ body xs _ => exact absurd (numStart_head (c := 0x5B) (cs := body ++ [0x5D]) hl rfl) (by decide)
  | objEmpty _ w _ => exact absurd (numStart_head (c := 0x7B) (cs := w ++ [0x7D]) hl rfl) (by decide)
  | obj _ body ms _ => exact absurd (numStart_head (c := 0x7B) (cs := body ++ [0x7D]) hl rfl) (by decide)

theorem value_head {cfg : Cfg} {L : Nat} {t : List Byte} {v : Val} (h : Value cfg L t v) :
    ∃ c cs, t = c :: cs ∧ Tok c ∧ c ≠ 0x5D ∧ c ≠ 0x7D := by
  cases h with
  | null => exact ⟨_, _, rfl, by decide, by decide, by decide⟩
  | «true» => exact ⟨_, _, rfl, by decide, by decide, by decide⟩
  | «false» => exact ⟨_, _, rfl, by decide, by decide, by decide⟩
  | num _ _ hn =>
    obtain ⟨c, cs, rfl, hc⟩ := numLit_head hn
    obtain ⟨tok, _, _, _, _, _, _, _, a, b⟩ := numStart_facts hc
    exact ⟨c, cs, rfl, tok, a, b⟩
  | str _ body s _ _ => exact ⟨0x22, body ++ [0x22], by simp, by decide, by decide, by decide⟩
  | arrEmpty _ w _ => exact ⟨0x5B, w ++ [0x5D], by simp, by decide, by decide, by decide⟩
  | arr _ body xs _ => exact ⟨0x5B, body ++ [0x5D], by simp, by decide, by decide, by decide⟩
  | objEmpty _ w _ => exact ⟨0x7B, w ++ [0x7D], by simp, by decide, by decide, by decide⟩
  | obj _ body ms _ => exact ⟨0x7B, body ++ [0x7D], by simp, by decide, by decide, by decide⟩

theorem elements_head {cfg : Cfg} {L : Nat} {body : List Byte} {xs : List Val} (h : Elements cfg L body xs) :
    ∃ w1 c1 r1, body = w1 ++ c1 :: r1 ∧ Ws w1 ∧ Tok c1 ∧ c1 ≠ 0x5D := by
  cases h with
  | one _ w1 t v w2 hw1 hv hw2 =>
    obtain ⟨c, cs, rfl, tok, a, _⟩ := value_head hv
    exact ⟨w1, c, cs ++ w2, by simp, hw1, tok, a⟩
  | cons _ w1 t v w2 rest vs hw1 hv hw2 hr =>
    obtain ⟨c, cs, rfl, tok, a, _⟩ := value_head hv
    exact ⟨w1, c, cs ++ w2 ++ 0x2C :: rest, by simp, hw1, tok, a⟩

theorem delim_ws (cfg : Cfg) {w : List Byte} (hw : Ws w) {c : Byte} (hc : inNumber cfg c = false) (r : List Byte) :
    Delim cfg (w ++ c :: r) := by
  intro x y hxy
  cases w with
  | nil => simp at hxy; rw [← hxy.1]; exact hc
  | cons a w' =>
    simp at hxy
    obtain ⟨_, _, _, d1, d2, d3, d4⟩ := inNumber_delims cfg
    rw [← hxy.1]
    rcases hw a (List.mem_cons_self ..) with rfl | rfl | rfl | rfl <;> assumption

theorem delim_ws_end (cfg : Cfg) {w : List Byte} (hw : Ws w) : Delim cfg w := by
  intro x y hxy
  subst hxy
  obtain ⟨_, _, _, d1, d2, d3, d4⟩ := inNumber_delims cfg
  rcases hw x (List.mem_cons_self ..) with rfl | rfl | rfl | rfl <;> assumption

/-- a number literal of the RFC is a number token of the dialect, with the value the RFC specification assigns -/
theorem numLit_numTok (cfg : Cfg) {lit : List Byte} (h : NumLit lit) : Spec.Dialect.NumTok cfg lit (numVal cfg lit) := by
  obtain ⟨n, hv, hr⟩ := numLit_ok cfg h
  refine ⟨h.1, fun x hx => inNumber_numCh cfg (numLit_chars h x hx), ?_, ?_⟩
  · obtain ⟨c, cs, rfl, hc⟩ := numLit_head h
    intro he
    injection he with he
    subst he
    exact absurd hc (by decide)
  · rw [hv, numDen_eq, hr]; rfl

theorem pv_num (cfg : Cfg) {fuel L : Nat} {w lit rest : List Byte} {s : St} {p : Nat} {f : Bool}
    (hn : NumLit lit) (hd : Delim cfg rest) (hw : Ws w) (h : Pos s (w ++ (lit ++ rest)) p f) (hf : w.length < fuel) :
    ∃ s', parseVariant cfg fuel L s = (.ok, numVal cfg lit, s') ∧ Seen s' rest (p + w.length + lit.length) true ∧
      isNumberVal (numVal cfg lit) = true :=
  pvd_num cfg (numLit_numTok cfg hn) hd (ws_dws cfg hw) h hf

/-- conversely, a value that is a number was derived by the number production -/
theorem value_isNumber {cfg : Cfg} {L : Nat} {t : List Byte} {v : Val} (h : Value cfg L t v)
    (hn : isNumberVal v = true) : NumLit t := by
  cases h with
  | num _ _ hl => exact hl
  | _ => cases hn

/-! ## String bodies -/

/-- a string body of the RFC grammar decodes, in the dialect, to the bytes it denotes, whatever high surrogate is
    pending: a low surrogate only occurs right after its high surrogate -/
theorem body_decodeBody {cfg : Cfg} {stop : Byte} (hs : stop ≠ 0x5C) (hu : cfg.decodeUnicode = true) {b x : List Byte}
    (h : Body stop b x) : ∀ hi, Spec.Dialect.decodeBody cfg stop hi b = some x := by
  induction h with
  | nil => intro hi; rfl
  | plain c t v h1 h2 h3 _ ih =>
    intro hi
    rw [decodeBody_plain h2 (ne_zero_of_ge_space h1) h3, ih hi]; rfl
  | esc l y t v hm _ ih =>
    intro hi
    obtain ⟨_, f2, f3, f4⟩ := rfcEscapes_facts hm
    rw [decodeBody_esc hs f2, escapes_lookup (by rw [f3]; exact f4), f3, ih hi]; rfl
  | bmp h1 h2 h3 h4 d1 d2 d3 d4 t v e1 e2 e3 e4 hns _ ih =>
    intro hi
    have hx : Spec.Dialect.hex4 h1 h2 h3 h4 = some (d1 * 4096 + d2 * 256 + d3 * 16 + d4) := by
      simp only [Spec.Dialect.hex4, e1, e2, e3, e4]
    generalize d1 * 4096 + d2 * 256 + d3 * 16 + d4 = cu at hx hns ⊢
    simp only [Spec.isSurrogate, Bool.and_eq_false_iff, decide_eq_false_iff_not] at hns
    have c1 : ¬ (0xD800 ≤ cu ∧ cu < 0xDC00) := by omega
    have c2 : ¬ (0xDC00 ≤ cu ∧ cu < 0xE000) := by omega
    rw [decodeBody_u_on hs hu, hx]
    simp only [c1, c2, ↓reduceIte, ih hi, Option.map_some]
  | pair a1 a2 a3 a4 b1 b2 b3 b4 x1 x2 x3 x4 y1 y2 y3 y4 hiu lou t v ea1 ea2 ea3 ea4 eb1 eb2 eb3 eb4
      hhiu hlou hhi hlo _ ih =>
    intro hi
    have hxa : Spec.Dialect.hex4 a1 a2 a3 a4 = some hiu := by simp only [Spec.Dialect.hex4, ea1, ea2, ea3, ea4, hhiu]
    have hxb : Spec.Dialect.hex4 b1 b2 b3 b4 = some lou := by simp only [Spec.Dialect.hex4, eb1, eb2, eb3, eb4, hlou]
    have c1 : ¬ (0xD800 ≤ lou ∧ lou < 0xDC00) := by omega
    have hp : 0x10000 + (hiu % 1024 * 1024 + lou % 1024) = Spec.pairValue hiu lou := by unfold Spec.pairValue; omega
    rw [decodeBody_u_on hs hu, hxa]
    simp only [hhi, and_self, ↓reduceIte]
    rw [decodeBody_u_on hs hu, hxb]
    simp only [c1, hlo, and_self, ↓reduceIte, ih (hiu % 1024), Option.map_some, hp]

/-! ## The embedding -/

mutual
theorem embed_value {cfg : Cfg} (hu : cfg.decodeUnicode = true) {L : Nat} {t : List Byte} {v : Val}
    (h : Value cfg L t v) : Spec.Dialect.Value cfg L t v :=
  match h with
  | .null _ => .null _
  | .true _ => .true _
  | .false _ => .false _
  | .num _ _ hn => .num _ _ _ (numLit_numTok cfg hn)
  | .str _ _ _ hb hl => .str _ 0x22 _ _ (Or.inl rfl) (body_decodeBody (by decide) hu hb 0) hl
  | .arrEmpty _ _ hw => .arrEmpty _ _ (ws_dws cfg hw)
  | .arr _ _ _ he => .arr _ _ _ (embed_elems hu he)
  | .objEmpty _ _ hw => .objEmpty _ _ (ws_dws cfg hw)
  | .obj _ _ _ hm => .obj _ _ _ (embed_members hu hm)
theorem embed_elems {cfg : Cfg} (hu : cfg.decodeUnicode = true) {L : Nat} {body : List Byte} {xs : List Val}
    (h : Elements cfg L body xs) : Spec.Dialect.Elements cfg L body xs :=
  match h with
  | .one _ _ _ _ _ hw1 hv hw2 => .one _ _ _ _ _ (ws_dws cfg hw1) (embed_value hu hv) (ws_dws cfg hw2)
  | .cons _ _ _ _ _ _ _ hw1 hv hw2 hr =>
    .cons _ _ _ _ _ _ _ (ws_dws cfg hw1) (embed_value hu hv) (ws_dws cfg hw2) (embed_elems hu hr)
theorem embed_members {cfg : Cfg} (hu : cfg.decodeUnicode = true) {L : Nat} {body : List Byte}
    {ms : List (List Byte × Val)} (h : Members cfg L body ms) : Spec.Dialect.Members cfg L body ms :=
  match h with
  | .one _ w1 kb k w2 w3 t v w4 hw1 hkb hkl hw2 hw3 hv hw4 => by
    have e : w1 ++ 0x22 :: kb ++ 0x22 :: w2 ++ 0x3A :: w3 ++ t ++ w4 =
        w1 ++ (0x22 :: kb ++ [0x22]) ++ w2 ++ 0x3A :: w3 ++ t ++ w4 := by simp
    rw [e]
    exact .one _ _ _ _ _ _ _ _ _ (ws_dws cfg hw1) (.quoted 0x22 _ _ (Or.inl rfl) (body_decodeBody (by decide) hu hkb 0) hkl) (ws_dws cfg hw2) (ws_dws cfg hw3)
      (embed_value hu hv) (ws_dws cfg hw4)
  | .cons _ w1 kb k w2 w3 t v w4 rest ms hw1 hkb hkl hw2 hw3 hv hw4 hr => by
    have e : w1 ++ 0x22 :: kb ++ 0x22 :: w2 ++ 0x3A :: w3 ++ t ++ w4 ++ 0x2C :: rest =
        w1 ++ (0x22 :: kb ++ [0x22]) ++ w2 ++ 0x3A :: w3 ++ t ++ w4 ++ 0x2C :: rest := by simp
    rw [e]
    exact .cons _ _ _ _ _ _ _ _ _ _ _ (ws_dws cfg hw1) (.quoted 0x22 _ _ (Or.inl rfl) (body_decodeBody (by decide) hu hkb 0) hkl) (ws_dws cfg hw2) (ws_dws cfg hw3)
      (embed_value hu hv) (ws_dws cfg hw4) (embed_members hu hr)
end

theorem embed_doc {cfg : Cfg} (hu : cfg.decodeUnicode = true) {L : Nat} {t : List Byte} {v : Val}
    (h : Doc cfg L t v) : Spec.Dialect.Doc cfg L t v := by
  obtain ⟨w1, body, w2, rfl, hw1, hw2, hv⟩ := h
  refine ⟨w1, body, w2, rfl, ws_dws cfg hw1, embed_value hu hv, fun _ => ?_⟩
  cases w2 with
  | nil => exact Or.inl rfl
  | cons c r => exact Or.inr (ws_head hw2).2

theorem lastWins_eq (ms : List (List Byte × Val)) : lastWins ms = foldMembers [] ms := rfl

theorem members_head {cfg : Cfg} {L : Nat} {body : List Byte} {ms : List (List Byte × Val)} (h : Members cfg L body ms) :
    ∃ w1 r, body = w1 ++ 0x22 :: r ∧ Ws w1 := by
  cases h with
  | one _ w1 kb k w2 w3 t v w4 hw1 => exact ⟨w1, kb ++ 0x22 :: (w2 ++ 0x3A :: (w3 ++ (t ++ w4))), by simp, hw1⟩
  | cons _ w1 kb k w2 w3 t v w4 rest ms hw1 =>
    exact ⟨w1, kb ++ 0x22 :: (w2 ++ 0x3A :: (w3 ++ (t ++ (w4 ++ 0x2C :: rest)))), by simp, hw1⟩

/-! ## Completeness for JSON texts -/

theorem complete_value {cfg : Cfg} (hu : cfg.decodeUnicode = true) {L : Nat} {t : List Byte} {v : Val}
    (h : Value cfg L t v) :
    ∀ (fuel : Nat) (w rest : List Byte) (s : St) (p : Nat) (f : Bool),
      Ws w → Pos s (w ++ (t ++ rest)) p f → w.length + t.length + 1 ≤ fuel → (NumLit t → Delim cfg rest) →
      ∃ s', parseVariant cfg fuel L s = (.ok, v, s') ∧ Post s' rest (p + w.length + t.length) (isNumberVal v) :=
  fun fuel w rest s p f hw hs hf hd =>
    dcomplete_value (embed_value hu h) fuel w rest s p f (ws_dws cfg hw) hs hf (fun hn => hd (value_isNumber h hn))

theorem complete_elems {cfg : Cfg} (hu : cfg.decodeUnicode = true) {L : Nat} {body : List Byte} {xs : List Val}
    (h : Elements cfg L body xs) :
    ∀ (fuel : Nat) (rest : List Byte) (s : St) (p : Nat) (f : Bool) (acc : List Val),
      Pos s (body ++ 0x5D :: rest) p f → body.length + 2 ≤ fuel →
      ∃ s', parseElems cfg fuel L s acc = (.ok, .arr (acc.reverse ++ xs), s') ∧ At s' rest (p + body.length + 1) true :=
  dcomplete_elems (embed_elems hu h)

/-- the members loop of a JSON object starts on the quote of the first key -/
theorem complete_members {cfg : Cfg} (hu : cfg.decodeUnicode = true) {L : Nat} {body : List Byte}
    {ms : List (List Byte × Val)} (h : Members cfg L body ms) :
    ∀ (fuel : Nat) (rest : List Byte) (s : St) (p : Nat) (f : Bool) (acc : List (List Byte × Val)),
      Pos s (body ++ 0x7D :: rest) p f → body.length + 2 ≤ fuel →
      ∃ X s', skipSpaces cfg (fuel + 1) s = (.ok, X) ∧ cur X = (0x22, X) ∧
        parseMembers cfg fuel L X acc = (.ok, .obj (foldMembers acc ms), s') ∧ At s' rest (p + body.length + 1) true := by
  intro fuel rest s p f acc hs hf
  obtain ⟨X, s', kc, h1, _, _, h3, h4⟩ := dcomplete_members (embed_members hu h) fuel rest s p f acc hs hf
  obtain ⟨w1, r, rfl, hw1⟩ := members_head h
  obtain ⟨X', hS, hX'⟩ := skipSpaces_ws cfg (r := r ++ 0x7D :: rest) (by decide : Tok 0x22) w1 hw1 s p f (by simpa using hs)
  have hXX : (Code.ok, X') = (Code.ok, X) := by
    rw [← h1]; exact (hX' (fuel + 1) (by simp only [List.length_append] at hf; omega)).symm
  injection hXX with _ hXX
  subst hXX
  exact ⟨X', s', h1, hS.cur_cons, h3, h4⟩

end JD
