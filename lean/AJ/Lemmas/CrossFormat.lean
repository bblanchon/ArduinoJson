/- Lemmas for the cross-format clause of C07 (JSON -> document -> MessagePack -> document):
   1. the forms of the answers of `parseNumber` (`parseNumber_cases`); each fits its storage, hence every number node of a
      parsed document is `C09.NumOk`;
   2. the invariant `JOk` (no raw node, no repeated key, strings AND keys — quoted or not — within the string limit, numbers
      in range) and the size/consumption bound `size v ≤ bytes consumed`, pushed through `parseVariant / parseElems / parseMembers` for EVERY
      result code (`jok_mutual`), one piece of AJ/Lemmas/JDPieces.lean at a time;
   3. `C09.norm v` compares equal to `v` (`Cmp.compare`), for every value without NaN and without repeated keys;
   4. what `JOk` gives for whole documents (raw-free, no repeated key, keys within the limit, depth);
   5. the result of `JD.run` is `JOk` for every result code. -/
import AJ.Lemmas.SFWidth
import AJ.Lemmas.FloatText
import AJ.Lemmas.JddMem
import AJ.Lemmas.CmpLemmas
import AJ.Lemmas.ConvLemmas
import AJ.Props.C09
import AJ.Lemmas.Depth
import AJ.Lemmas.JDPieces
namespace CrossFormat
open JD SF

/-! ## 1. the answers of `parseNumber` -/

theorem isDigit_digitVal_le {c : Byte} (h : isDigit c = true) : digitVal c ≤ 9 := by
  rw [Digits.digitVal_eq]
  simp only [isDigit, Bool.and_eq_true, decide_eq_true_eq, UInt8.le_iff_toNat_le] at h
  have h2 : c.toNat ≤ 57 := h.2
  omega

theorem takeDigitsMant_le (maxU : Nat) (hU : 9 ≤ maxU) : ∀ (s : List Byte) (acc : Nat), acc ≤ maxU →
    (takeDigitsMant maxU acc s).1 ≤ maxU := by
  intro s
  induction s with
  | nil => intro acc h; exact h
  | cons c cs ih =>
    intro acc h
    simp only [takeDigitsMant]
    split
    · rename_i hd
      have := isDigit_digitVal_le hd
      split
      · exact h
      · split
        · exact h
        · exact ih _ (by omega)
    · exact h

/-- Every answer of `parseNumber` has one of these forms (`Q` holds of all answers when it holds of each form): the two
    error answers; a NaN, with the NaN option only; an infinity; an integer of at most 64 bits; a signed zero; a result of
    `make_float` with the sign put on. -/
theorem parseNumber_cases (cfg : Cfg) {Q : PNum → Prop} (invalid : Q .invalid) (fault : Q .fault)
    (nan : cfg.nan = true → Q (.f64 (nanBits b64))) (inf : ∀ neg, Q (.f64 (infBits b64 neg)))
    (uint : ∀ n, n < 2^64 → Q (.uint n)) (sint : ∀ n : Nat, n ≤ 2^63 → Q (.sint (-(n : Int))))
    (zero : ∀ neg, Q (.f32 (negBits b32 neg 0)))
    (f64 : ∀ neg m e r, makeFloat b64 pos64 neg64 (ofNat b64 m) e = some r → Q (.f64 (negBits b64 neg r)))
    (f32 : ∀ neg m e r, makeFloat b32 pos32 neg32 (ofNat b32 m) e = some r → Q (.f32 (negBits b32 neg r)))
    (s : List Byte) : Q (parseNumber cfg s) := by
  have hfin : ∀ neg s m e, Q (Digits.finish neg s m e) := by
    intro neg s m e
    have hvia : Q (match makeFloat b64 pos64 neg64 (ofNat b64 m) e with
        | none => PNum.fault
        | some r => .f64 (negBits b64 neg r)) := by
      split
      · exact fault
      · exact f64 _ _ _ _ ‹_›
    simp only [Digits.finish]
    refine of_ite (fun _ => invalid) (fun _ => of_ite (fun _ => zero _) (fun _ => of_ite (fun _ => inf _) (fun _ =>
      of_ite (fun _ => zero _) (fun _ => of_ite (fun _ => hvia) (fun _ => ?_)))))
    split
    · exact fault
    · exact of_ite (fun _ => hvia) (fun _ => f32 _ _ _ _ ‹_›)
  have hcore : ∀ neg s', Q (core cfg neg s') := by
    intro neg s'
    unfold core
    refine of_ite (fun h => nan ?_) (fun _ => of_ite (fun _ => inf _) (fun _ => of_ite (fun _ => invalid) (fun _ => ?_)))
    · simp only [Bool.and_eq_true] at h; exact h.1
    · have hm := takeDigitsMant_le (2^64 - 1) (by decide) s' 0 (by decide)
      exact stage1_cases neg _ _ (fun _ _ => uint _ (by omega)) (fun _ _ h => sint _ h) (hfin neg)
  exact Digits.parseNumber_sign cfg s (fun r _ => hcore true r) (fun r _ => hcore false r) (hcore false s)

/-! ## 2. what the JSON parser produces: the invariant `JOk` and the size of a value -/

/-- only bytes that may appear in an unquoted key (a fact about `parseUnquoted`, `parseUnquoted_allUnq`; the invariant `JOk`
    does not need it: the parser applies the string limit to unquoted keys as well) -/
def AllUnq (k : List Byte) : Prop := ∀ c ∈ k, inUnquoted c = true

mutual
/-- no raw node, no repeated key, numbers within their storage, string values and ALL keys (quoted or unquoted) within `m`
    bytes: `parseMembers` stores a member only when the key code is Ok, and both `parseQuoted` and the unquoted branch answer
    NoMemory for a key longer than the string limit -/
def JOk (P : Num → Prop) (m : Nat) : Val → Prop
  | .raw _ => False
  | .num n => P n
  | .str s => s.length ≤ m
  | .arr xs => JOkL P m xs
  | .obj ms => (Cmp.keys ms).Nodup ∧ JOkM P m ms
  | _ => True
def JOkL (P : Num → Prop) (m : Nat) : List Val → Prop
  | [] => True
  | x :: r => JOk P m x ∧ JOkL P m r
def JOkM (P : Num → Prop) (m : Nat) : List (List Byte × Val) → Prop
  | [] => True
  | (k, v) :: r => k.length ≤ m ∧ JOk P m v ∧ JOkM P m r
end

mutual
/-- bytes of text a value accounts for: the bytes of its strings and keys, one byte per array element (`[` or `,`), one
    byte per member (`:`) -/
def size : Val → Nat
  | .str s => s.length
  | .raw s => s.length
  | .arr xs => sizeL xs
  | .obj ms => sizeM ms
  | _ => 0
def sizeL : List Val → Nat
  | [] => 0
  | x :: r => 1 + size x + sizeL r
def sizeM : List (List Byte × Val) → Nat
  | [] => 0
  | (k, v) :: r => 1 + k.length + size v + sizeM r
end

theorem jokL_iff (P : Num → Prop) (m : Nat) (xs : List Val) : JOkL P m xs ↔ ∀ x ∈ xs, JOk P m x := by
  induction xs with
  | nil => simp [JOkL]
  | cons x r ih => simp only [JOkL, ih, List.mem_cons, forall_eq_or_imp]

theorem jokL_reverse {P : Num → Prop} {m : Nat} {xs : List Val} (h : JOkL P m xs) : JOkL P m xs.reverse := by
  rw [jokL_iff] at h ⊢
  intro x hx; exact h x (List.mem_reverse.mp hx)

theorem sizeL_append (xs ys : List Val) : sizeL (xs ++ ys) = sizeL xs + sizeL ys := by
  induction xs with
  | nil => simp [sizeL]
  | cons x r ih => simp only [List.cons_append, sizeL, ih]; omega

theorem sizeL_reverse (xs : List Val) : sizeL xs.reverse = sizeL xs := by
  induction xs with
  | nil => rfl
  | cons x r ih => rw [List.reverse_cons, sizeL_append, ih]; simp only [sizeL]; omega

theorem keys_setMember (ms : List (List Byte × Val)) (k : List Byte) (v : Val) :
    Cmp.keys (setMember ms k v) = if k ∈ Cmp.keys ms then Cmp.keys ms else Cmp.keys ms ++ [k] := by
  induction ms with
  | nil => simp [setMember, Cmp.keys]
  | cons p r ih =>
    obtain ⟨k', v'⟩ := p
    simp only [setMember]
    by_cases e : k' = k
    · subst e; simp [Cmp.keys]
    · have hb : (k' == k) = false := by simp [e]
      have e' : ¬ k = k' := fun h => e h.symm
      rw [hb]
      simp only [Bool.false_eq_true, if_false]
      simp only [Cmp.keys, List.map_cons, List.mem_cons, e', false_or] at ih ⊢
      rw [ih]
      split <;> simp [*]

theorem keys_setMember_nodup {ms : List (List Byte × Val)} (k : List Byte) (v : Val) (h : (Cmp.keys ms).Nodup) :
    (Cmp.keys (setMember ms k v)).Nodup := by
  rw [keys_setMember]
  split
  · exact h
  · rename_i hk
    rw [List.nodup_append]
    exact ⟨h, List.nodup_cons.2 ⟨List.not_mem_nil, List.nodup_nil⟩, fun a ha b hb => by
      simp only [List.mem_singleton] at hb; subst hb; intro e; subst e; exact hk ha⟩

theorem jokM_setMember {P : Num → Prop} {m : Nat} {ms : List (List Byte × Val)} {k : List Byte} {v : Val}
    (h : JOkM P m ms) (hk : k.length ≤ m) (hv : JOk P m v) : JOkM P m (setMember ms k v) := by
  induction ms with
  | nil => simp only [setMember, JOkM]; exact ⟨hk, hv, trivial⟩
  | cons p r ih =>
    obtain ⟨k', v'⟩ := p
    simp only [JOkM] at h
    simp only [setMember]
    split
    · simp only [JOkM]; exact ⟨h.1, hv, h.2.2⟩
    · simp only [JOkM]; exact ⟨h.1, h.2.1, ih h.2.2⟩

theorem sizeM_setMember (ms : List (List Byte × Val)) (k : List Byte) (v : Val) :
    sizeM (setMember ms k v) ≤ sizeM ms + (1 + k.length + size v) := by
  induction ms with
  | nil => simp only [setMember, sizeM]; omega
  | cons p r ih =>
    obtain ⟨k', v'⟩ := p
    simp only [setMember]
    split
    · rename_i e
      have : k' = k := by simpa using e
      subst this
      simp only [sizeM]; omega
    · simp only [sizeM]; omega

theorem jok_obj_setMember {P : Num → Prop} {m : Nat} {ms : List (List Byte × Val)} {k : List Byte} {v : Val}
    (h : JOk P m (.obj ms)) (hk : k.length ≤ m) (hv : JOk P m v) : JOk P m (.obj (setMember ms k v)) := by
  simp only [JOk] at h ⊢
  exact ⟨keys_setMember_nodup k v h.1, jokM_setMember h.2 hk hv⟩

/-! ### the lexical routines -/

theorem parseUnquoted_allUnq : ∀ fuel acc s, AllUnq acc → AllUnq (parseUnquoted fuel acc s).1 := by
  intro fuel
  induction fuel with
  | zero => intro acc s h c hc; exact h c (List.mem_reverse.mp hc)
  | succ f ih =>
    intro acc s h
    simp only [parseUnquoted]
    split
    · rename_i hc
      exact ih _ _ (fun c hc' => by
        rcases List.mem_cons.mp hc' with e | e
        · rw [e]; exact hc
        · exact h c e)
    · intro c hc; exact h c (List.mem_reverse.mp hc)

theorem storeDouble_cases (b : Nat) : storeDouble b = .f64 b ∨ storeDouble b = .f32 (cvt b64 b32 b) := by
  cases h : C09.same64 b
  · exact Or.inl (C09.storeDouble_of_not_same b h)
  · exact Or.inr (C09.storeDouble_of_same b h)

theorem numOk_storeDouble (b : Nat) (h : b < 2^64) : C09.NumOk (storeDouble b) := by
  rcases storeDouble_cases b with e | e <;> rw [e]
  · exact h
  · exact cvt_lt b64 b32 b

/-- a predicate on stored numbers, read on the answers of `parseNumber` (a double goes through `storeDouble`) -/
def PNumP (P : Num → Prop) : PNum → Prop
  | .uint n => P (.uint n)
  | .sint v => P (.sint v)
  | .f32 b => P (.f32 b)
  | .f64 b => P (storeDouble b)
  | _ => True

theorem PNumP.and {A B : Num → Prop} {x : PNum} (ha : PNumP A x) (hb : PNumP B x) : PNumP (fun n => A n ∧ B n) x := by
  cases x with
  | invalid => trivial
  | fault => trivial
  | _ => exact ⟨ha, hb⟩

/-- a number token: the node satisfies whatever every answer of `parseNumber` satisfies -/
theorem parseNumeric_jok (cfg : Cfg) (P : Num → Prop) (m : Nat) (hP : ∀ buf, PNumP P (parseNumber cfg buf)) (s : St) :
    JOk P m (parseNumeric cfg s).2.1 := by
  unfold parseNumeric
  generalize scanNumber cfg (Gen.number_buffer - 1) [] s = r
  obtain ⟨buf, s'⟩ := r
  have hp := hP buf
  simp only
  split
  all_goals (rename_i heq; rw [heq] at hp)
  all_goals exact hp

/-- a number token has no size, and the reader only moves forward -/
theorem parseNumeric_mem (cfg : Cfg) (s : St) :
    size (parseNumeric cfg s).2.1 = 0 ∧ memE s ≤ memE (parseNumeric cfg s).2.2 := by
  unfold parseNumeric
  have h1 := mem_scanNumber cfg (Gen.number_buffer - 1) [] s
  generalize scanNumber cfg (Gen.number_buffer - 1) [] s = r at h1 ⊢
  obtain ⟨buf, s'⟩ := r
  simp only [List.length_nil, Nat.add_zero] at h1
  simp only
  split
  all_goals exact ⟨rfl, by simp only; omega⟩

/-- every answer of `parseNumber` fits its storage -/
theorem parseNumber_numOk (cfg : Cfg) (buf : List Byte) : PNumP C09.NumOk (parseNumber cfg buf) := by
  have w64 : ∀ {x}, x < 2 * b64.signBit → x < 2^64 := fun h => h
  have w32 : ∀ {x}, x < 2 * b32.signBit → x < 2^32 := fun h => h
  refine parseNumber_cases cfg trivial trivial (fun _ => ?_) (fun _ => ?_) (fun _ h => h) (fun n h => ?_) (fun _ => ?_)
    (fun _ _ _ _ h => ?_) (fun _ _ _ _ h => ?_) buf
  · exact numOk_storeDouble _ (w64 (nanBits_lt b64))
  · exact numOk_storeDouble _ (w64 (infBits_lt b64 _))
  · show -2^63 ≤ -(n : Int) ∧ -(n : Int) < 2^64
    omega
  · exact w32 (negBits_lt b32 _ _ (by decide))
  · exact numOk_storeDouble _ (w64 (negBits_lt b64 _ _ (makeFloat_bound b64 _ _ _ _ _ h)))
  · exact w32 (negBits_lt b32 _ _ (makeFloat_bound b32 _ _ _ _ _ h))

/-! ### the parser -/

/-- the result `r` of a routine started in state `s` with `c` bytes of credit: its value satisfies `JOk` and its size is
    paid for by the bytes consumed -/
def VOk (P : Num → Prop) (m : Nat) (s : St) (c : Nat) (r : Code × Val × St) : Prop :=
  JOk P m r.2.1 ∧ memE s + size r.2.1 ≤ memE r.2.2 + c

theorem vok_mk {P : Num → Prop} {m : Nat} {s : St} {c : Nat} {e : Code} {v : Val} {s' : St} (hj : JOk P m v)
    (hm : memE s + size v ≤ memE s' + c) : VOk P m s c (e, v, s') := ⟨hj, hm⟩

theorem vok_weaken {P : Num → Prop} {m : Nat} {s s1 : St} {c c1 : Nat} {r : Code × Val × St} (h : VOk P m s1 c1 r)
    (hm : memE s + c1 ≤ memE s1 + c) : VOk P m s c r := ⟨h.1, by have := h.2; omega⟩

theorem ne_zero_of_beq {c k : Byte} (h : (c == k) = true) (hk : k ≠ 0) : c ≠ 0 := by
  have : c = k := by simpa using h
  rw [this]; exact hk

theorem vok_keyword {P : Num → Prop} {m : Nat} {s0 s : St} (ks : List Byte) {v : Val} (hv : JOk P m v) (hs : size v = 0)
    (h : memE s0 ≤ memE s) : VOk P m s0 0 ((skipKeyword ks s).1, v, (skipKeyword ks s).2) :=
  ⟨hv, by have := mem_skipKeyword ks s; simp only [hs]; omega⟩

/-- what the key of a member costs -/
def KeyOk (m : Nat) (s : St) (kr : Code × List Byte × St) : Prop :=
  memE s ≤ memE kr.2.2 ∧
  (kr.1 = .ok → kr.2.1.length ≤ m ∧ memE s + kr.2.1.length ≤ memE kr.2.2)

section
variable {cfg : Cfg} {P : Num → Prop} {f : Nat}

def VOkV (cfg : Cfg) (P : Num → Prop) (f : Nat) : Prop :=
  ∀ L s, VOk P cfg.maxStrLen s 0 (parseVariant cfg f L s)
def VOkE (cfg : Cfg) (P : Num → Prop) (f : Nat) : Prop :=
  ∀ L s acc, JOkL P cfg.maxStrLen acc → VOk P cfg.maxStrLen s (sizeL acc + 1) (parseElems cfg f L s acc)
def VOkM (cfg : Cfg) (P : Num → Prop) (f : Nat) : Prop :=
  ∀ L s ms, JOk P cfg.maxStrLen (.obj ms) → VOk P cfg.maxStrLen s (sizeM ms) (parseMembers cfg f L s ms)

theorem jok_null {m : Nat} : JOk P m .null := by simp only [JOk]
theorem jok_arr_nil {m : Nat} : JOk P m (.arr []) := by simp only [JOk, JOkL]
theorem jok_obj_nil {m : Nat} : JOk P m (.obj []) := by
  simp only [JOk, JOkM, Cmp.keys, List.map_nil, List.nodup_nil, and_self]

theorem ne_zero_of_quote {c : Byte} (h : (c == 0x22 || c == 0x27) = true) : c ≠ 0 := by
  intro e; rw [e] at h; exact absurd h (by decide)

theorem keyOk_quoted (s : St) (hq : ((cur s).1 == 0x22 || (cur s).1 == 0x27) = true) :
    KeyOk cfg.maxStrLen s (parseQuoted cfg (cur s).1 (f+1) [] 0 (mv (cur s).2)) := by
  have hnz := ne_zero_of_quote hq
  have h2 := mem_mv_cur s hnz
  have hq1 := JD.parseQuoted_ok_len cfg (cur s).1 (f+1) [] 0 (mv (cur s).2)
  have hq2 := mem_parseQuoted cfg (cur s).1 hnz (f+1) [] 0 (mv (cur s).2)
  generalize parseQuoted cfg (cur s).1 (f+1) [] 0 (mv (cur s).2) = r at hq1 hq2 ⊢
  obtain ⟨e, k, s'⟩ := r
  simp only [List.length_nil] at hq1 hq2
  refine ⟨by simp only; omega, fun he => ?_⟩
  simp only at he; subst he
  simp only [true_or, if_true] at hq2
  exact ⟨hq1 rfl, by simp only; omega⟩

theorem vok_pvArr (ihE : VOkE cfg P f) {s0 : St} (L : Nat) (r : Code × St) (h : memE s0 + 1 ≤ memE r.2) :
    VOk P cfg.maxStrLen s0 0 (pvArr cfg f L r) := by
  simp only [pvArr]
  split
  · rename_i s
    have h1 := mem_cur s
    have h2 := mem_mv (cur s).2
    simp only at h
    refine of_ite (fun _ => vok_mk jok_arr_nil ?_) (fun _ => vok_weaken (ihE _ _ [] trivial) ?_)
    · simp only [size, sizeL]; omega
    · simp only [sizeL]; omega
  · simp only at h
    exact vok_mk jok_arr_nil (by simp only [size, sizeL]; omega)

theorem vok_pvObj (ihM : VOkM cfg P f) {s0 : St} (L : Nat) (r : Code × St) (h : memE s0 + 1 ≤ memE r.2) :
    VOk P cfg.maxStrLen s0 0 (pvObj cfg f L r) := by
  simp only [pvObj]
  split
  · rename_i s
    have h1 := mem_cur s
    have h2 := mem_mv (cur s).2
    simp only at h
    refine of_ite (fun _ => vok_mk jok_obj_nil ?_) (fun _ => vok_weaken (ihM _ _ [] jok_obj_nil) ?_)
    · simp only [size, sizeM]; omega
    · simp only [sizeM]; omega
  · simp only at h
    exact vok_mk jok_obj_nil (by simp only [size, sizeM]; omega)

theorem vok_pvStr {s0 : St} (r : Code × List Byte × St) (h : KeyOk cfg.maxStrLen s0 r) :
    VOk P cfg.maxStrLen s0 0 (pvStr r) := by
  obtain ⟨h0, h1⟩ := h
  simp only [pvStr]
  split
  · have := h1 rfl
    exact vok_mk (by simp only [JOk]; exact this.1) (by simp only [size]; exact this.2)
  · exact vok_mk jok_null (by simp only [size]; exact h0)

theorem vok_pvTok (hP : ∀ buf, PNumP P (parseNumber cfg buf)) (ihE : VOkE cfg P f) (ihM : VOkM cfg P f)
    (L : Nat) (s : St) : VOk P cfg.maxStrLen s 0 (pvTok cfg f L s) := by
  have h1 := mem_cur s
  have h3 := mem_skipSpaces cfg (f+1) (mv (cur s).2)
  simp only [pvTok]
  refine of_ite (fun hc => ?_) (fun _ => ?_)
  · have h2 := mem_mv_cur s (ne_zero_of_beq hc (by decide))
    cases L with
    | zero => exact vok_mk jok_arr_nil (by simp only [size, sizeL]; omega)
    | succ L' => exact vok_pvArr ihE _ _ (by omega)
  refine of_ite (fun hc => ?_) (fun _ => ?_)
  · have h2 := mem_mv_cur s (ne_zero_of_beq hc (by decide))
    cases L with
    | zero => exact vok_mk jok_obj_nil (by simp only [size, sizeM]; omega)
    | succ L' => exact vok_pvObj ihM _ _ (by omega)
  refine of_ite (fun hq => vok_pvStr _ (keyOk_quoted s hq)) (fun _ => ?_)
  refine of_ite (fun _ => vok_keyword _ (by simp only [JOk]) (by simp only [size]) h1) (fun _ => ?_)
  refine of_ite (fun _ => vok_keyword _ (by simp only [JOk]) (by simp only [size]) h1) (fun _ => ?_)
  refine of_ite (fun _ => vok_keyword _ jok_null (by simp only [size]) h1) (fun _ => ?_)
  have hn := parseNumeric_mem cfg (cur s).2
  exact ⟨parseNumeric_jok cfg P _ hP _, by rw [hn.1]; have := hn.2; omega⟩

theorem vok_pvK (hP : ∀ buf, PNumP P (parseNumber cfg buf)) (ihE : VOkE cfg P f) (ihM : VOkM cfg P f)
    {s0 : St} (L : Nat) (r : Code × St) (h : memE s0 ≤ memE r.2) : VOk P cfg.maxStrLen s0 0 (pvK cfg f L r) := by
  simp only [pvK]
  split
  · exact vok_weaken (vok_pvTok hP ihE ihM _ _) h
  · exact vok_mk jok_null (by simp only [size]; exact h)

theorem vok_peK2 (ihE : VOkE cfg P f) (L : Nat) {acc : List Val} (hacc : JOkL P cfg.maxStrLen acc) {s0 : St} {c : Nat}
    (r : Code × St) (h : memE s0 + sizeL acc ≤ memE r.2 + c) : VOk P cfg.maxStrLen s0 c (peK2 cfg f L acc r) := by
  have hres : JOk P cfg.maxStrLen (.arr acc.reverse) := by simp only [JOk]; exact jokL_reverse hacc
  have hsz : size (.arr acc.reverse) = sizeL acc := by simp only [size, sizeL_reverse]
  simp only [peK2]
  split
  · rename_i s
    have h1 := mem_cur s
    have h2 := mem_mv (cur s).2
    simp only at h
    refine of_ite (fun _ => vok_mk hres (by rw [hsz]; omega)) (fun _ => of_ite (fun hc => ?_) (fun _ => vok_mk hres (by rw [hsz]; omega)))
    have h3 := mem_mv_cur s (ne_zero_of_beq hc (by decide))
    exact vok_weaken (ihE _ _ _ hacc) (by omega)
  · exact vok_mk hres (by rw [hsz]; exact h)

theorem vok_peK1 (ihE : VOkE cfg P f) (L : Nat) {acc : List Val} (hacc : JOkL P cfg.maxStrLen acc) {s0 : St}
    (r : Code × Val × St) (h : VOk P cfg.maxStrLen s0 0 r) :
    VOk P cfg.maxStrLen s0 (sizeL acc + 1) (peK1 cfg f L acc r) := by
  have hacc' : JOkL P cfg.maxStrLen (r.2.1 :: acc) := ⟨h.1, hacc⟩
  have hm : memE s0 + sizeL (r.2.1 :: acc) ≤ memE r.2.2 + (sizeL acc + 1) := by
    have := h.2; simp only [sizeL]; omega
  simp only [peK1]
  split
  · rename_i v s
    have := mem_skipSpaces cfg (f+1) s
    exact vok_peK2 ihE L hacc' _ (Nat.le_trans hm (by simp only; omega))
  · exact vok_mk (by simp only [JOk]; exact jokL_reverse hacc') (by simp only [size, sizeL_reverse]; exact hm)

theorem keyOk_pmKey (s : St) : KeyOk cfg.maxStrLen s (pmKey cfg f s) := by
  have hc := mem_cur s
  simp only [pmKey]
  refine of_ite (keyOk_quoted s) (fun _ => of_ite (fun _ => ?_) (fun _ => ⟨hc, fun h => by cases h⟩))
  have hu := mem_parseUnquoted (f+1) [] (cur s).2
  simp only [List.length_nil] at hu
  refine ⟨by simp only; omega, fun he => ⟨?_, by simp only; omega⟩⟩
  simp only at he ⊢
  split at he
  · cases he
  · omega

theorem vok_pmK4 (ihM : VOkM cfg P f) (L : Nat) {ms : List (List Byte × Val)} (hms : JOk P cfg.maxStrLen (.obj ms))
    {s0 : St} {c : Nat} (r : Code × St) (h : memE s0 + sizeM ms ≤ memE r.2 + c) :
    VOk P cfg.maxStrLen s0 c (pmK4 cfg f L ms r) := by
  simp only [pmK4]
  split
  · exact vok_weaken (ihM _ _ _ hms) h
  · exact vok_mk hms (by simp only [size]; exact h)

theorem vok_pmK3 (ihM : VOkM cfg P f) (L : Nat) {ms : List (List Byte × Val)} (hms : JOk P cfg.maxStrLen (.obj ms))
    {s0 : St} {c : Nat} (r : Code × St) (h : memE s0 + sizeM ms ≤ memE r.2 + c) :
    VOk P cfg.maxStrLen s0 c (pmK3 cfg f L ms r) := by
  simp only [pmK3]
  split
  · rename_i s
    have h1 := mem_cur s
    have h2 := mem_mv (cur s).2
    have h3 := mem_skipSpaces cfg (f+1) (mv (cur s).2)
    simp only at h
    exact of_ite (fun _ => vok_mk hms (by simp only [size]; omega))
      (fun _ => of_ite (fun _ => vok_pmK4 ihM L hms _ (by omega)) (fun _ => vok_mk hms (by simp only [size]; omega)))
  · exact vok_mk hms (by simp only [size]; exact h)

theorem vok_pmK2 (ihM : VOkM cfg P f) (L : Nat) {ms : List (List Byte × Val)} (hms : JOk P cfg.maxStrLen (.obj ms))
    {key : List Byte} (hk : key.length ≤ cfg.maxStrLen) {s0 : St} {c : Nat} (r : Code × Val × St)
    (hv : JOk P cfg.maxStrLen r.2.1) (h : memE s0 + sizeM ms + (1 + key.length + size r.2.1) ≤ memE r.2.2 + c) :
    VOk P cfg.maxStrLen s0 c (pmK2 cfg f L ms key r) := by
  have hms' := jok_obj_setMember hms hk hv
  have hsz := sizeM_setMember ms key r.2.1
  simp only [pmK2]
  split
  · rename_i v s
    have := mem_skipSpaces cfg (f+1) s
    exact vok_pmK3 ihM L hms' _ (by simp only at h hsz ⊢; omega)
  · exact vok_mk hms' (by simp only [size] at h hsz ⊢; omega)

theorem vok_pmK1 (ihV : VOkV cfg P f) (ihM : VOkM cfg P f) (L : Nat) {ms : List (List Byte × Val)}
    (hms : JOk P cfg.maxStrLen (.obj ms)) {key : List Byte} (hk : key.length ≤ cfg.maxStrLen) {s0 : St} {c : Nat}
    (r : Code × St) (h : memE s0 + sizeM ms + key.length ≤ memE r.2 + c) :
    VOk P cfg.maxStrLen s0 c (pmK1 cfg f L ms key r) := by
  simp only [pmK1]
  split
  · rename_i s
    have h1 := mem_cur s
    simp only at h
    refine of_ite (fun _ => vok_mk hms (by simp only [size]; omega)) (fun hcol => ?_)
    have hnz : (cur s).1 ≠ 0 := by intro e; rw [e] at hcol; exact hcol (by decide)
    have h3 := mem_mv_cur s hnz
    have h4 := ihV L (mv (cur s).2)
    exact vok_pmK2 ihM L hms hk _ h4.1 (by have := h4.2; omega)
  · exact vok_mk hms (by simp only [size]; simp only at h; omega)

theorem vok_pmK0 (ihV : VOkV cfg P f) (ihM : VOkM cfg P f) (L : Nat) {ms : List (List Byte × Val)}
    (hms : JOk P cfg.maxStrLen (.obj ms)) {s : St} (r : Code × List Byte × St) (h : KeyOk cfg.maxStrLen s r) :
    VOk P cfg.maxStrLen s (sizeM ms) (pmK0 cfg f L ms r) := by
  obtain ⟨h0, h1⟩ := h
  simp only [pmK0]
  split
  · rename_i key s1
    have hk := h1 rfl
    have := mem_skipSpaces cfg (f+1) s1
    exact vok_pmK1 ihV ihM L hms hk.1 _ (by have := hk.2; simp only at this ⊢; omega)
  · exact vok_mk hms (by simp only [size]; simp only at h0; omega)

theorem jok_mutual (cfg : Cfg) (P : Num → Prop) (hP : ∀ buf, PNumP P (parseNumber cfg buf)) :
    ∀ fuel, VOkV cfg P fuel ∧ VOkE cfg P fuel ∧ VOkM cfg P fuel := by
  intro fuel
  induction fuel with
  | zero =>
    refine ⟨?_, ?_, ?_⟩
    · intro L s; simp only [parseVariant]; exact vok_mk jok_null (by simp only [size]; omega)
    · intro L s acc h; simp only [parseElems]
      exact vok_mk (by simp only [JOk]; exact jokL_reverse h) (by simp only [size, sizeL_reverse]; omega)
    · intro L s ms h; simp only [parseMembers]; exact vok_mk h (by simp only [size]; omega)
  | succ f ih =>
    obtain ⟨ihV, ihE, ihM⟩ := ih
    refine ⟨?_, ?_, ?_⟩
    · intro L s
      rw [parseVariant_succ]
      exact vok_pvK hP ihE ihM L _ (mem_skipSpaces cfg (f+1) s)
    · intro L s acc hacc
      rw [parseElems_succ]
      exact vok_peK1 ihE L hacc _ (ihV L s)
    · intro L s ms hms
      rw [parseMembers_succ]
      exact vok_pmK0 ihV ihM L hms _ (keyOk_pmKey s)

end


/-! ## 3. numbers: `normNum n` and `n` compare equal (`arithmeticCompare`), unless `n` is a NaN -/

open Cmp in
/-- the visitor's view of a number node -/
def nv : Num → Cmp.NumV
  | .uint n => .u n
  | .sint v => .i v
  | .f32 x => .d (cvt b32 b64 x)
  | .f64 x => .d x

theorem numOf_num (n : Num) : Cmp.numOf (.num n) = some (nv n) := by cases n <;> rfl

/-- two binary64 patterns that denote the same finite value (`+0` and `-0` included) -/
def SameVal (x y : Nat) : Prop :=
  ∃ n1 m1 e1 n2 m2 e2, decode b64 x = .fin n1 m1 e1 ∧ decode b64 y = .fin n2 m2 e2 ∧
    sv (emin b64) (sgnm n1 m1) e1 = sv (emin b64) (sgnm n2 m2) e2

theorem SameVal.symm {x y : Nat} (h : SameVal x y) : SameVal y x := by
  obtain ⟨n1, m1, e1, n2, m2, e2, a, b, c⟩ := h
  exact ⟨n2, m2, e2, n1, m1, e1, b, a, c.symm⟩

theorem SameVal.trans {x y z : Nat} (h1 : SameVal x y) (h2 : SameVal y z) : SameVal x z := by
  obtain ⟨n1, m1, e1, n2, m2, e2, a, b, c⟩ := h1
  obtain ⟨n2', m2', e2', n3, m3, e3, a', b', c'⟩ := h2
  rw [b] at a'
  injection a' with i1 i2 i3
  subst i1 i2 i3
  exact ⟨n1, m1, e1, n3, m3, e3, a, b', c.trans c'⟩

theorem isNaN_of_fin {f : Fmt} {x : Nat} {n : Bool} {m : Nat} {e : Int} (h : decode f x = .fin n m e) : isNaN f x = false := by
  unfold isNaN; rw [h]; rfl

theorem lt_false_of_sameVal {x y : Nat} (h : SameVal x y) : SF.lt b64 x y = false := by
  obtain ⟨n1, m1, e1, n2, m2, e2, a, b, c⟩ := h
  have b1 := (decode_fin_bounds b64 x n1 m1 e1 a).1
  have b2 := (decode_fin_bounds b64 y n2 m2 e2 b).1
  cases hl : SF.lt b64 x y with
  | false => rfl
  | true =>
    have := (DyLt_iff_sv (emin b64) _ _ _ _ b1 b2).mp ((lt_fin b64 x y n1 n2 m1 m2 e1 e2 a b).mp hl)
    omega

theorem dcmp_sameVal {x y : Nat} (h : SameVal x y) : Cmp.dcmp x y = .equal := by
  have h1 := lt_false_of_sameVal h
  have h2 := lt_false_of_sameVal h.symm
  obtain ⟨n1, m1, e1, n2, m2, e2, a, b, _⟩ := h
  unfold Cmp.dcmp SF.gt
  rw [h1, h2, isNaN_of_fin a, isNaN_of_fin b]; rfl

theorem lt_irrefl (f : Fmt) (x : Nat) : SF.lt f x x = false := by
  cases h : SF.lt f x x with
  | false => rfl
  | true => have := Cmp.sf_lt_asymm f x x h; rw [h] at this; cases this

theorem dcmp_self {x : Nat} (h : isNaN b64 x = false) : Cmp.dcmp x x = .equal := by
  unfold Cmp.dcmp SF.gt
  rw [lt_irrefl, h]; rfl

/-- `S·2^e = k` (cross-multiplied) rescaled to the exponent `E ≤ e` -/
theorem rescale (S k e E : Int) (hE : E ≤ e) (hE0 : E ≤ 0)
    (h : S * 2 ^ e.toNat = k * 2 ^ (-e).toNat) : S * 2 ^ (e - E).toNat = k * 2 ^ (-E).toNat := by
  -- both exponents grow by the same `d`
  obtain ⟨d, h1, h2⟩ : ∃ d : Nat, (e - E).toNat = e.toNat + d ∧ (-E).toNat = (-e).toNat + d :=
    ⟨(-E).toNat - (-e).toNat, by omega⟩
  rw [h1, h2, Int.pow_add, Int.pow_add, ← Int.mul_assoc, ← Int.mul_assoc, h]

theorem toNat_sub_add_sub {a b c : Int} (hab : b ≤ a) (hbc : c ≤ b) : (a - b).toNat + (b - c).toNat = (a - c).toNat := by
  rw [← Int.toNat_add (Int.sub_nonneg_of_le hab) (Int.sub_nonneg_of_le hbc)]
  congr 1; omega

/-- the integer that `MD.encF32` writes for an integral float IS the value of the float: as doubles they denote the same value -/
theorem sameVal_f32Int {c : Nat} {k : Int} (h : C09.f32Int c = some k) :
    SameVal (Conv.ofInt b64 k) (cvt b32 b64 c) := by
  obtain ⟨neg, m, e, hd, hk⟩ := C09.f32Int_exact c k h
  obtain ⟨hk1, hk2⟩ := C09.f32Int_range c k h
  obtain ⟨m', e', hd', hle, hm'⟩ := Conv.cvt_32_64_exact c neg m e hd
  obtain ⟨m0, e0, hd0, hnear⟩ := Conv.ofInt_nearest b64 (Or.inr rfl) k (by omega)
  have hb' := (decode_fin_bounds b64 _ neg m' e' hd').1
  have hval : sv (emin b64) (sgnm neg m') e' = k * 2 ^ (-emin b64).toNat := by
    rw [sv_sgnm, hm', Nat.mul_assoc, ← Nat.pow_add, toNat_sub_add_sub hle hb', sgnm_mul,
      ← rescale (sgnm neg m) k e (emin b64) (Int.le_trans hb' hle) (by decide) hk]
    simp
  have := hnear _ neg m' e' hd'
  rw [hval, Int.sub_self] at this
  have hz : sv (emin b64) (sgnm (decide (k < 0)) m0) e0 = k * 2 ^ (-emin b64).toNat := by
    simp only [Int.natAbs_zero, Nat.le_zero, Int.natAbs_eq_zero] at this; omega
  exact ⟨_, _, _, _, _, _, hd0, hd', hz.trans hval.symm⟩


theorem ordCR_self (x : Int) : Cmp.ordCR x x = .equal := by simp only [Cmp.ordCR, Int.lt_irrefl, if_false, if_true]

/-- a non-negative integer has the same value under both signedness tags -/
theorem arith_toNat_i {v : Int} (h : 0 ≤ v) : Cmp.arith (.u v.toNat) (.i v) = .equal := by
  rw [Cmp.arith_ui, Int.toNat_of_nonneg h]; exact ordCR_self v

theorem arith_i_toNat {v : Int} (h : 0 ≤ v) : Cmp.arith (.i v) (.u v.toNat) = .equal := by
  rw [Cmp.arith_iu, Int.toNat_of_nonneg h]; exact ordCR_self v

def NoNaNNum : Num → Prop
  | .f32 b => isNaN b32 b = false
  | .f64 b => isNaN b64 b = false
  | _ => True

theorem arith_normInt_d (k : Int) (y : Nat) :
    Cmp.arith (nv (MD.normInt k)) (.d y) = Cmp.dcmp (Conv.ofInt b64 k) y := by
  rw [Cmp.arith_d_right]
  unfold MD.normInt
  split
  · rename_i h
    simp only [nv, Cmp.toDouble]
    have : ((k.toNat : Nat) : Int) = k := by omega
    rw [this]
  · rfl

theorem cvt32_64_notNaN {x : Nat} (h : isNaN b32 x = false) : isNaN b64 (cvt b32 b64 x) = false := by
  cases hd : decode b32 x with
  | nan => unfold isNaN at h; rw [hd] at h; cases h
  | inf n =>
    have : cvt b32 b64 x = infBits b64 n := by unfold cvt; rw [hd]
    rw [this]; unfold isNaN; rw [decode_inf]; rfl
  | fin n m e =>
    obtain ⟨m', e', hd', _⟩ := Conv.cvt_32_64_exact x n m e hd
    exact isNaN_of_fin hd'

theorem same64_cases {b : Nat} (h : C09.same64 b = true) :
    cvt b32 b64 (cvt b64 b32 b) = b ∨ SameVal (cvt b32 b64 (cvt b64 b32 b)) b := by
  -- `C09.same64` is `MsgPack.narrows`: an exact round trip, or both sides a zero
  rcases (MsgPack.narrows_spec b h).2 with hA | ⟨n1, e1, n2, e2, h1, h2⟩
  · exact Or.inl hA
  · obtain ⟨m', e', hd', _, hm'⟩ := Conv.cvt_32_64_exact _ n2 0 e2 h2
    refine Or.inr ⟨_, _, _, _, _, _, hd', h1, ?_⟩
    rw [hm']; simp [sv, sgnm]

/-- `normF32 c` has the value of the float `c`; `y` is that value as a double, up to the sign of zero -/
theorem normF32_cmp {c y : Nat} (hy : cvt b32 b64 c = y ∨ SameVal (cvt b32 b64 c) y) (hn : isNaN b64 y = false) :
    Cmp.arith (nv (C09.normF32 c)) (.d y) = .equal := by
  unfold C09.normF32
  cases hf : C09.f32Int c with
  | none =>
    show Cmp.arith (.d (cvt b32 b64 c)) (.d y) = .equal
    rw [Cmp.arith_d_left]
    rcases hy with e | e
    · rw [e]; exact dcmp_self hn
    · exact dcmp_sameVal e
  | some k =>
    show Cmp.arith (nv (MD.normInt k)) (.d y) = .equal
    rw [arith_normInt_d]
    rcases hy with e | e
    · rw [← e]; exact dcmp_sameVal (sameVal_f32Int hf)
    · exact dcmp_sameVal ((sameVal_f32Int hf).trans e)

/-- a number and its MessagePack normal form compare equal, whatever their storage — unless the number is a NaN -/
theorem num_cmp (n : Num) (h : NoNaNNum n) : Cmp.arith (nv (C09.normNum n)) (nv n) = .equal := by
  cases n with
  | uint n =>
    simp only [C09.normNum]
    split
    · simp only [nv]; rw [Cmp.arith_iu]; exact ordCR_self _
    · simp only [nv]; rw [Cmp.arith_uu]; exact ordCR_self _
  | sint v =>
    simp only [C09.normNum]
    unfold MD.normInt
    split
    · exact arith_toNat_i (by omega)
    · simp only [nv]; rw [Cmp.arith_ii]; exact ordCR_self _
  | f32 b => exact normF32_cmp (Or.inl rfl) (cvt32_64_notNaN h)
  | f64 b =>
    simp only [C09.normNum]
    by_cases hs : C09.same64 b = true
    · rw [if_pos hs]; exact normF32_cmp (same64_cases hs) h
    · rw [if_neg hs, C09.storeDouble_of_not_same b (by simpa using hs)]
      simp only [nv]; rw [Cmp.arith_d_left]
      exact dcmp_self h

/-- a NaN is the one value that does not compare equal to its own copy: `norm` leaves it as it is, and NaN ≠ NaN -/
theorem num_cmp_nan64 (b : Nat) (h : isNaN b64 b = true) :
    C09.normNum (.f64 b) = .f64 b ∧ Cmp.arith (nv (C09.normNum (.f64 b))) (nv (.f64 b)) = .differ := by
  have hs : C09.same64 b = false := by
    unfold C09.same64
    have : decode b64 b = .nan := by unfold isNaN at h; simpa using h
    rw [this]
  have e : C09.normNum (.f64 b) = .f64 b := by
    simp only [C09.normNum]; rw [if_neg (by simp [hs]), C09.storeDouble_of_not_same b hs]
  refine ⟨e, ?_⟩
  rw [e]; simp only [nv]; rw [Cmp.arith_d_left]
  exact Cmp.dcmp_nan _ _ (Or.inl h)

/-! ## 4. documents: `norm v` and `v` compare equal -/

mutual
/-- no NaN anywhere in the document -/
def NoNaN : Val → Prop
  | .num n => NoNaNNum n
  | .arr xs => NoNaNL xs
  | .obj ms => NoNaNM ms
  | _ => True
def NoNaNL : List Val → Prop
  | [] => True
  | x :: r => NoNaN x ∧ NoNaNL r
def NoNaNM : List (List Byte × Val) → Prop
  | [] => True
  | (_, v) :: r => NoNaN v ∧ NoNaNM r
end

theorem noNaNL_iff (xs : List Val) : NoNaNL xs ↔ ∀ x ∈ xs, NoNaN x := by
  induction xs with
  | nil => simp [NoNaNL]
  | cons x r ih => simp only [NoNaNL, ih, List.mem_cons, forall_eq_or_imp]

theorem noNaNM_iff (ms : List (List Byte × Val)) : NoNaNM ms ↔ ∀ p ∈ ms, NoNaN p.2 := by
  induction ms with
  | nil => simp [NoNaNM]
  | cons p r ih => obtain ⟨k, v⟩ := p; simp only [NoNaNM, ih, List.mem_cons, forall_eq_or_imp]

theorem compare_num_num (a b : Num) : Cmp.compare (.num a) (.num b) = Cmp.arith (nv a) (nv b) :=
  Cmp.compare_num _ _ _ _ (numOf_num a) (numOf_num b)

/-- `a == b` and `b == a` -/
def EqBoth (a b : Val) : Prop := Cmp.compare a b = .equal ∧ Cmp.compare b a = .equal

theorem EqBoth.symm {a b : Val} (h : EqBoth a b) : EqBoth b a := ⟨h.2, h.1⟩

theorem EqBoth.refl {a : Val} (h : Cmp.compare a a = .equal) : EqBoth a a := ⟨h, h⟩

mutual
/-- the document with every number node rewritten by `fn`; nothing else changes -/
def mapNum (fn : Num → Num) : Val → Val
  | .null => .null
  | .bool b => .bool b
  | .num n => .num (fn n)
  | .str s => .str s
  | .raw s => .raw s
  | .arr xs => .arr (mapNumL fn xs)
  | .obj ms => .obj (mapNumM fn ms)
def mapNumL (fn : Num → Num) : List Val → List Val
  | [] => []
  | x :: r => mapNum fn x :: mapNumL fn r
def mapNumM (fn : Num → Num) : List (List Byte × Val) → List (List Byte × Val)
  | [] => []
  | (k, v) :: r => (k, mapNum fn v) :: mapNumM fn r
end

theorem mapNumL_eq_map (fn : Num → Num) (xs : List Val) : mapNumL fn xs = xs.map (mapNum fn) := by
  induction xs with
  | nil => rfl
  | cons x r ih => simp only [mapNumL, List.map_cons, ih]

theorem mapNumM_eq_map (fn : Num → Num) (ms : List (List Byte × Val)) :
    mapNumM fn ms = ms.map (fun p => (p.1, mapNum fn p.2)) := by
  induction ms with
  | nil => rfl
  | cons p r ih => obtain ⟨k, v⟩ := p; simp only [mapNumM, List.map_cons, ih]

theorem keys_mapNumM (fn : Num → Num) (ms : List (List Byte × Val)) : Cmp.keys (mapNumM fn ms) = Cmp.keys ms := by
  rw [mapNumM_eq_map]; simp [Cmp.keys, Function.comp_def]

theorem getElem_of_map_eq_map {α β γ : Type} {f : α → γ} {g : β → γ} {xs : List α} {ys : List β} (h : xs.map f = ys.map g)
    (i : Nat) (h1 : i < xs.length) (h2 : i < ys.length) : f xs[i] = g ys[i] := by
  have e : (xs.map f)[i]? = (ys.map g)[i]? := by rw [h]
  simpa [List.getElem?_map, List.getElem?_eq_getElem h1, List.getElem?_eq_getElem h2] using e

theorem exists_of_map_eq_map {α β γ : Type} {f : α → γ} {g : β → γ} {xs : List α} {ys : List β} (h : xs.map f = ys.map g) :
    ∀ x ∈ xs, ∃ y ∈ ys, g y = f x := fun _ hx =>
  List.mem_map.mp (h ▸ List.mem_map_of_mem hx)

/-- rewriting the number nodes of one document by `f` and of another by `g` gives the same document, and `f n = g m` only for
    numbers of equal value: the two documents compare equal, both ways (no NaN and no repeated key in the first one; with
    a repeated key a document does not even compare equal to itself: the member lookup takes the first match) -/
theorem mapNum_eqBoth_of_eq (f g : Num → Num)
    (hfg : ∀ n m, f n = g m → NoNaNNum n → Cmp.arith (nv n) (nv m) = .equal) :
    ∀ a b, mapNum f a = mapNum g b → NoNaN a → Cmp.NoDupKeys a → EqBoth a b := by
  intro a
  suffices H : ∀ n, ∀ a, sizeOf a ≤ n → ∀ b, mapNum f a = mapNum g b → NoNaN a → Cmp.NoDupKeys a → EqBoth a b from
    H _ a (Nat.le_refl _)
  intro n
  induction n with
  | zero => intro a ha; cases a <;> simp at ha
  | succ n ih =>
    intro a ha b h hn hd
    cases a with
    | null =>
      cases b <;> simp only [mapNum, reduceCtorEq] at h
      exact .refl ((Cmp.compare_null _).mpr rfl)
    | bool x =>
      cases b <;> simp only [mapNum, reduceCtorEq, Val.bool.injEq] at h
      subst h
      exact .refl (by rw [Cmp.compare_num _ _ (.b x) (.b x) rfl rfl]; cases x <;> rfl)
    | num k =>
      cases b <;> simp only [mapNum, reduceCtorEq, Val.num.injEq] at h
      rename_i k'
      simp only [NoNaN] at hn
      have e := hfg k k' h hn
      exact ⟨by rw [compare_num_num]; exact e, by rw [compare_num_num, Cmp.arith_reverse, e]; rfl⟩
    | str s =>
      cases b <;> simp only [mapNum, reduceCtorEq, Val.str.injEq] at h
      subst h
      exact .refl (by rw [Cmp.compare_str, (Cmp.stringCompare_eq_zero s s).mpr rfl]; rfl)
    | raw s =>
      cases b <;> simp only [mapNum, reduceCtorEq, Val.raw.injEq] at h
      subst h
      exact .refl (by rw [Cmp.compare_raw, (Cmp.rawCompare_eq_zero s s).mpr rfl]; rfl)
    | arr xs =>
      cases b <;> simp only [mapNum, reduceCtorEq, Val.arr.injEq] at h
      rename_i ys
      rw [mapNumL_eq_map, mapNumL_eq_map] at h
      simp only [NoNaN] at hn
      simp only [Cmp.NoDupKeys] at hd
      have hlen : xs.length = ys.length := by simpa using congrArg List.length h
      have hel : ∀ i (h1 : i < xs.length) (h2 : i < ys.length), EqBoth xs[i] ys[i] := by
        intro i h1 h2
        have hx : xs[i] ∈ xs := List.getElem_mem h1
        have hs : sizeOf xs[i] < sizeOf (Val.arr xs) := by
          have := List.sizeOf_lt_of_mem hx
          simp only [Val.arr.sizeOf_spec]; omega
        exact ih xs[i] (by omega) ys[i] (getElem_of_map_eq_map h i h1 h2) ((noNaNL_iff xs).mp hn _ hx)
          (Cmp.ndL_mem xs hd _ hx)
      constructor
      · rw [Cmp.compare_arr]; exact ⟨hlen, fun i h1 h2 => (hel i h1 h2).1⟩
      · rw [Cmp.compare_arr]; exact ⟨hlen.symm, fun i h1 h2 => (hel i h2 h1).2⟩
    | obj ms =>
      cases b <;> simp only [mapNum, reduceCtorEq, Val.obj.injEq] at h
      rename_i ns
      simp only [NoNaN] at hn
      simp only [Cmp.NoDupKeys] at hd
      have hdn : (Cmp.keys ns).Nodup := by rw [← keys_mapNumM g ns, ← h, keys_mapNumM]; exact hd.1
      rw [mapNumM_eq_map, mapNumM_eq_map] at h
      have hlen : ms.length = ns.length := by simpa using congrArg List.length h
      -- two members with the same image have the same key and, by induction, values that compare equal
      have hpair : ∀ p ∈ ms, ∀ q : List Byte × Val, (p.1, mapNum f p.2) = (q.1, mapNum g q.2) →
          p.1 = q.1 ∧ EqBoth p.2 q.2 := by
        intro p hp q e
        simp only [Prod.mk.injEq] at e
        have h1 := List.sizeOf_lt_of_mem hp
        have h2 : sizeOf p.2 < sizeOf p := by obtain ⟨k, w⟩ := p; simp only [Prod.mk.sizeOf_spec]; omega
        simp only [Val.obj.sizeOf_spec] at ha
        exact ⟨e.1, ih p.2 (by omega) q.2 e.2 ((noNaNM_iff ms).mp hn p hp) (Cmp.ndM_mem ms hd.2 p hp)⟩
      constructor
      · rw [Cmp.compare_obj]
        refine ⟨hlen.symm, fun q hq => ?_⟩
        obtain ⟨p, hp, e⟩ := exists_of_map_eq_map h.symm q hq
        obtain ⟨hk, he⟩ := hpair p hp q e
        exact ⟨p.2, by rw [← hk]; exact Cmp.lookup_of_mem_nodup ms p.1 p.2 hd.1 hp, he.2⟩
      · rw [Cmp.compare_obj]
        refine ⟨hlen, fun p hp => ?_⟩
        obtain ⟨q, hq, e⟩ := exists_of_map_eq_map h p hp
        obtain ⟨hk, he⟩ := hpair p hp q e.symm
        exact ⟨q.2, by rw [hk]; exact Cmp.lookup_of_mem_nodup ns q.1 q.2 hdn hq, he.1⟩

mutual
theorem mapNum_id : ∀ v : Val, mapNum id v = v
  | .arr xs => by simp only [mapNum, mapNumL_id xs]
  | .obj ms => by simp only [mapNum, mapNumM_id ms]
  | .null | .bool _ | .num _ | .str _ | .raw _ => by simp only [mapNum, id]
theorem mapNumL_id : ∀ xs : List Val, mapNumL id xs = xs
  | [] => by simp only [mapNumL]
  | x :: r => by simp only [mapNumL, mapNum_id x, mapNumL_id r]
theorem mapNumM_id : ∀ ms : List (List Byte × Val), mapNumM id ms = ms
  | [] => by simp only [mapNumM]
  | (k, v) :: r => by simp only [mapNumM, mapNum_id v, mapNumM_id r]
end

/-- rewriting the number nodes by a map that keeps the VALUE of every non-NaN number gives a document that compares equal
    (both ways), provided no object repeats a key -/
theorem mapNum_eqBoth_aux (fn : Num → Num) (hfn : ∀ n, NoNaNNum n → Cmp.arith (nv (fn n)) (nv n) = .equal)
    (v : Val) (hn : NoNaN v) (hd : Cmp.NoDupKeys v) : EqBoth (mapNum fn v) v :=
  (mapNum_eqBoth_of_eq fn id (fun n m e hn => by rw [← show fn n = m from e, Cmp.arith_reverse, hfn n hn]; rfl)
    v (mapNum fn v) (by rw [mapNum_id]) hn hd).symm

mutual
theorem norm_eq_mapNum : ∀ v : Val, C09.norm v = mapNum C09.normNum v
  | .arr xs => by simp only [C09.norm, mapNum, normElems_eq_mapNum xs]
  | .obj ms => by simp only [C09.norm, mapNum, normMembers_eq_mapNum ms]
  | .null | .bool _ | .num _ | .str _ | .raw _ => by simp only [C09.norm, mapNum]
theorem normElems_eq_mapNum : ∀ xs : List Val, C09.normElems xs = mapNumL C09.normNum xs
  | [] => by simp only [C09.normElems, mapNumL]
  | x :: r => by simp only [C09.normElems, mapNumL, norm_eq_mapNum x, normElems_eq_mapNum r]
theorem normMembers_eq_mapNum : ∀ ms : List (List Byte × Val), C09.normMembers ms = mapNumM C09.normNum ms
  | [] => by simp only [C09.normMembers, mapNumM]
  | (k, v) :: r => by simp only [C09.normMembers, mapNumM, norm_eq_mapNum v, normMembers_eq_mapNum r]
end

/-- `norm v == v` and `v == norm v` -/
theorem norm_eqBoth (v : Val) (hn : NoNaN v) (hd : Cmp.NoDupKeys v) : EqBoth (C09.norm v) v := by
  rw [norm_eq_mapNum]
  exact mapNum_eqBoth_aux C09.normNum num_cmp v hn hd

/-- the integer normalisation of the JSON round trip (`C07.normInt`: a non-negative signed integer becomes unsigned) -/
def normIntNum : Num → Num
  | .sint v => if 0 ≤ v then .uint v.toNat else .sint v
  | n => n

theorem arith_self (n : Num) (h : NoNaNNum n) : Cmp.arith (nv n) (nv n) = .equal := by
  cases n with
  | uint k => simp only [nv]; rw [Cmp.arith_uu]; exact ordCR_self _
  | sint k => simp only [nv]; rw [Cmp.arith_ii]; exact ordCR_self _
  | f32 b => simp only [nv]; rw [Cmp.arith_d_left]; exact dcmp_self (cvt32_64_notNaN h)
  | f64 b => simp only [nv]; rw [Cmp.arith_d_left]; exact dcmp_self h

/-- `normIntNum` changes one kind of number only -/
theorem normIntNum_cases (n : Num) :
    normIntNum n = n ∨ ∃ v : Int, 0 ≤ v ∧ n = .sint v ∧ normIntNum n = .uint v.toNat := by
  cases n with
  | sint v =>
    by_cases h : 0 ≤ v
    · exact Or.inr ⟨v, h, rfl, if_pos h⟩
    · exact Or.inl (if_neg h)
  | _ => exact Or.inl rfl

theorem normIntNum_cmp (n : Num) (h : NoNaNNum n) : Cmp.arith (nv (normIntNum n)) (nv n) = .equal := by
  rcases normIntNum_cases n with e | ⟨v, hv, rfl, e⟩ <;> rw [e]
  · exact arith_self n h
  · exact arith_toNat_i hv

mutual
theorem normInt_eq_mapNum : ∀ v : Val, C07.normInt v = mapNum normIntNum v
  | .num (.sint _) => by simp only [C07.normInt, mapNum, normIntNum]; split <;> rfl
  | .arr xs => by simp only [C07.normInt, mapNum, normIntE_eq_mapNum xs]
  | .obj ms => by simp only [C07.normInt, mapNum, normIntM_eq_mapNum ms]
  | .num (.uint _) | .num (.f32 _) | .num (.f64 _) | .null | .bool _ | .str _ | .raw _ => by
    simp only [C07.normInt, mapNum, normIntNum]
theorem normIntE_eq_mapNum : ∀ xs : List Val, C07.normIntE xs = mapNumL normIntNum xs
  | [] => by simp only [C07.normIntE, mapNumL]
  | x :: r => by simp only [C07.normIntE, mapNumL, normInt_eq_mapNum x, normIntE_eq_mapNum r]
theorem normIntM_eq_mapNum : ∀ ms : List (List Byte × Val), C07.normIntM ms = mapNumM normIntNum ms
  | [] => by simp only [C07.normIntM, mapNumM]
  | (k, v) :: r => by simp only [C07.normIntM, mapNumM, normInt_eq_mapNum v, normIntM_eq_mapNum r]
end

/-- `normInt v == v` and `v == normInt v` -/
theorem normInt_eqBoth (v : Val) (hn : NoNaN v) (hd : Cmp.NoDupKeys v) : EqBoth (C07.normInt v) v := by
  rw [normInt_eq_mapNum]
  exact mapNum_eqBoth_aux normIntNum normIntNum_cmp v hn hd

mutual
theorem noDup_of_c07 : ∀ v : Val, C07.NoDupKeys v → Cmp.NoDupKeys v
  | .arr xs, h => by simp only [C07.NoDupKeys] at h; simp only [Cmp.NoDupKeys]; exact noDupL_of_c07 xs h
  | .obj ms, h => by
    simp only [C07.NoDupKeys] at h; simp only [Cmp.NoDupKeys]; exact ⟨h.1, noDupM_of_c07 ms h.2⟩
  | .null, _ | .bool _, _ | .num _, _ | .str _, _ | .raw _, _ => by simp only [Cmp.NoDupKeys]
theorem noDupL_of_c07 : ∀ xs : List Val, C07.NoDupE xs → Cmp.NoDupKeys.ndL xs
  | [], _ => by simp only [Cmp.NoDupKeys.ndL]
  | x :: r, h => by
    simp only [C07.NoDupE] at h; simp only [Cmp.NoDupKeys.ndL]
    exact ⟨noDup_of_c07 x h.1, noDupL_of_c07 r h.2⟩
theorem noDupM_of_c07 : ∀ ms : List (List Byte × Val), C07.NoDupM ms → Cmp.NoDupKeys.ndM ms
  | [], _ => by simp only [Cmp.NoDupKeys.ndM]
  | (k, v) :: r, h => by
    simp only [C07.NoDupM] at h; simp only [Cmp.NoDupKeys.ndM]
    exact ⟨noDup_of_c07 v h.1, noDupM_of_c07 r h.2⟩
end

mutual
/-- a document without float nodes has no NaN -/
theorem noNaN_of_noFloat : ∀ v : Val, C07.NoFloat v → NoNaN v
  | .num (.f32 _), h | .num (.f64 _), h => by simp only [C07.NoFloat, C07.AllV, C07.FloatFreeS] at h
  | .num (.uint _), _ | .num (.sint _), _ | .null, _ | .bool _, _ | .str _, _ | .raw _, _ => by simp only [NoNaN, NoNaNNum]
  | .arr xs, h => by
    simp only [C07.NoFloat, C07.AllV] at h; simp only [NoNaN]; exact noNaNL_of_noFloat xs h
  | .obj ms, h => by
    simp only [C07.NoFloat, C07.AllV] at h; simp only [NoNaN]; exact noNaNM_of_noFloat ms h
theorem noNaNL_of_noFloat : ∀ xs : List Val, C07.AllE C07.FloatFreeS (fun _ => True) xs → NoNaNL xs
  | [], _ => by simp only [NoNaNL]
  | x :: r, h => by
    simp only [C07.AllE] at h; simp only [NoNaNL]
    exact ⟨noNaN_of_noFloat x h.1, noNaNL_of_noFloat r h.2⟩
theorem noNaNM_of_noFloat : ∀ ms : List (List Byte × Val), C07.AllM C07.FloatFreeS (fun _ => True) ms → NoNaNM ms
  | [], _ => by simp only [NoNaNM]
  | (k, v) :: r, h => by
    simp only [C07.AllM] at h; simp only [NoNaNM]
    exact ⟨noNaN_of_noFloat v h.2.1, noNaNM_of_noFloat r h.2.2⟩
end

/-! ## 5. the result of `JD.run`, and what the MessagePack theorems need -/

theorem run_jok (cfg : Cfg) (P : Num → Prop) (hP : ∀ buf, PNumP P (parseNumber cfg buf)) (L : Nat) (t : List Byte) :
    JOk P cfg.maxStrLen (JD.run cfg L t).2.1 ∧ size (JD.run cfg L t).2.1 ≤ (JD.run cfg L t).2.2 := by
  have h := (jok_mutual cfg P hP (2 * t.length + 4)).1 L ({ l := { unread := t } } : St)
  have h0 : memE ({ l := { unread := t } } : St) = 1 := rfl
  simp only [JD.run]
  split
  · rename_i v s heq; rw [heq] at h
    obtain ⟨hj, hm⟩ := h; simp only at hj hm
    have := mem_E_le s
    split <;> exact ⟨hj, by simp only; omega⟩
  · rename_i e v s hne heq; rw [heq] at h
    obtain ⟨hj, hm⟩ := h; simp only at hj hm
    have := mem_E_le s
    exact ⟨hj, by simp only; omega⟩

mutual
/-- every key of every object has at most `n` bytes -/
def KeysWithin (n : Nat) : Val → Prop
  | .arr xs => KeysWithinL n xs
  | .obj ms => KeysWithinM n ms
  | _ => True
def KeysWithinL (n : Nat) : List Val → Prop
  | [] => True
  | x :: r => KeysWithin n x ∧ KeysWithinL n r
def KeysWithinM (n : Nat) : List (List Byte × Val) → Prop
  | [] => True
  | (k, v) :: r => k.length ≤ n ∧ KeysWithin n v ∧ KeysWithinM n r
end

mutual
/-- what the invariant says of the shape of a document: no raw node, no repeated key, every key within `m` bytes -/
theorem jok_shape {P : Num → Prop} {m : Nat} : ∀ v, JOk P m v → C09.RawFree v ∧ Cmp.NoDupKeys v ∧ KeysWithin m v
  | .raw _, h => by simp only [JOk] at h
  | .arr xs, h => by
    simp only [JOk] at h; simp only [C09.RawFree, Cmp.NoDupKeys, KeysWithin]; exact jokL_shape xs h
  | .obj ms, h => by
    simp only [JOk] at h; simp only [C09.RawFree, Cmp.NoDupKeys, KeysWithin]
    obtain ⟨a, b, c⟩ := jokM_shape ms h.2
    exact ⟨a, ⟨h.1, b⟩, c⟩
  | .null, _ | .bool _, _ | .num _, _ | .str _, _ => by simp only [C09.RawFree, Cmp.NoDupKeys, KeysWithin, and_self]
theorem jokL_shape {P : Num → Prop} {m : Nat} :
    ∀ xs, JOkL P m xs → C09.RawFreeElems xs ∧ Cmp.NoDupKeys.ndL xs ∧ KeysWithinL m xs
  | [], _ => by simp only [C09.RawFreeElems, Cmp.NoDupKeys.ndL, KeysWithinL, and_self]
  | x :: r, h => by
    simp only [JOkL] at h; simp only [C09.RawFreeElems, Cmp.NoDupKeys.ndL, KeysWithinL]
    obtain ⟨a, b, c⟩ := jok_shape x h.1
    obtain ⟨a', b', c'⟩ := jokL_shape r h.2
    exact ⟨⟨a, a'⟩, ⟨b, b'⟩, c, c'⟩
theorem jokM_shape {P : Num → Prop} {m : Nat} :
    ∀ ms, JOkM P m ms → C09.RawFreeMembers ms ∧ Cmp.NoDupKeys.ndM ms ∧ KeysWithinM m ms
  | [], _ => by simp only [C09.RawFreeMembers, Cmp.NoDupKeys.ndM, KeysWithinM, and_self]
  | (k, v) :: r, h => by
    simp only [JOkM] at h; simp only [C09.RawFreeMembers, Cmp.NoDupKeys.ndM, KeysWithinM]
    obtain ⟨a, b, c⟩ := jok_shape v h.2.1
    obtain ⟨a', b', c'⟩ := jokM_shape r h.2.2
    exact ⟨⟨a, a'⟩, ⟨b, b'⟩, h.1, c, c'⟩
end

theorem rawFree_of_jok {P : Num → Prop} {m : Nat} : ∀ v, JOk P m v → C09.RawFree v :=
  fun v h => (jok_shape v h).1
theorem rawFreeL_of_jok {P : Num → Prop} {m : Nat} : ∀ xs, JOkL P m xs → C09.RawFreeElems xs :=
  fun xs h => (jokL_shape xs h).1
theorem rawFreeM_of_jok {P : Num → Prop} {m : Nat} : ∀ ms, JOkM P m ms → C09.RawFreeMembers ms :=
  fun ms h => (jokM_shape ms h).1

theorem noDup_of_jok {P : Num → Prop} {m : Nat} : ∀ v, JOk P m v → Cmp.NoDupKeys v :=
  fun v h => (jok_shape v h).2.1
theorem noDupL_of_jok {P : Num → Prop} {m : Nat} : ∀ xs, JOkL P m xs → Cmp.NoDupKeys.ndL xs :=
  fun xs h => (jokL_shape xs h).2.1
theorem noDupM_of_jok {P : Num → Prop} {m : Nat} : ∀ ms, JOkM P m ms → Cmp.NoDupKeys.ndM ms :=
  fun ms h => (jokM_shape ms h).2.1

/-- every key of a document that satisfies `JOk … m` has at most `m` bytes -/
theorem keysWithin_of_jok {P : Num → Prop} {m : Nat} : ∀ v, JOk P m v → KeysWithin m v :=
  fun v h => (jok_shape v h).2.2
theorem keysWithinL_of_jok {P : Num → Prop} {m : Nat} : ∀ xs, JOkL P m xs → KeysWithinL m xs :=
  fun xs h => (jokL_shape xs h).2.2
theorem keysWithinM_of_jok {P : Num → Prop} {m : Nat} : ∀ ms, JOkM P m ms → KeysWithinM m ms :=
  fun ms h => (jokM_shape ms h).2.2

mutual
/-- keys are part of the text: a document of size `≤ n` has no key longer than `n` -/
theorem keysWithin_of_size {n : Nat} : ∀ v, size v ≤ n → KeysWithin n v
  | .arr xs, h => by simp only [size] at h; simp only [KeysWithin]; exact keysWithinL_of_size xs h
  | .obj ms, h => by simp only [size] at h; simp only [KeysWithin]; exact keysWithinM_of_size ms h
  | .null, _ | .bool _, _ | .num _, _ | .str _, _ | .raw _, _ => by simp only [KeysWithin]
theorem keysWithinL_of_size {n : Nat} : ∀ xs, sizeL xs ≤ n → KeysWithinL n xs
  | [], _ => by simp only [KeysWithinL]
  | x :: r, h => by
    simp only [sizeL] at h; simp only [KeysWithinL]
    exact ⟨keysWithin_of_size x (by omega), keysWithinL_of_size r (by omega)⟩
theorem keysWithinM_of_size {n : Nat} : ∀ ms, sizeM ms ≤ n → KeysWithinM n ms
  | [], _ => by simp only [KeysWithinM]
  | (k, v) :: r, h => by
    simp only [sizeM] at h; simp only [KeysWithinM]
    exact ⟨by omega, keysWithin_of_size v (by omega), keysWithinM_of_size r (by omega)⟩
end

mutual
theorem keysWithin_mono {n n' : Nat} (hn : n ≤ n') : ∀ v, KeysWithin n v → KeysWithin n' v
  | .arr xs, h => by simp only [KeysWithin] at h ⊢; exact keysWithinL_mono hn xs h
  | .obj ms, h => by simp only [KeysWithin] at h ⊢; exact keysWithinM_mono hn ms h
  | .null, _ | .bool _, _ | .num _, _ | .str _, _ | .raw _, _ => by simp only [KeysWithin]
theorem keysWithinL_mono {n n' : Nat} (hn : n ≤ n') : ∀ xs, KeysWithinL n xs → KeysWithinL n' xs
  | [], _ => by simp only [KeysWithinL]
  | x :: r, h => by
    simp only [KeysWithinL] at h ⊢
    exact ⟨keysWithin_mono hn x h.1, keysWithinL_mono hn r h.2⟩
theorem keysWithinM_mono {n n' : Nat} (hn : n ≤ n') : ∀ ms, KeysWithinM n ms → KeysWithinM n' ms
  | [], _ => by simp only [KeysWithinM]
  | (k, v) :: r, h => by
    simp only [KeysWithinM] at h ⊢
    exact ⟨by omega, keysWithin_mono hn v h.2.1, keysWithinM_mono hn r h.2.2⟩
end

theorem length_le_sizeL (xs : List Val) : xs.length ≤ sizeL xs := by
  induction xs with
  | nil => simp [sizeL]
  | cons x r ih => simp only [List.length_cons, sizeL]; omega

theorem length_le_sizeM (ms : List (List Byte × Val)) : ms.length ≤ sizeM ms := by
  induction ms with
  | nil => simp [sizeM]
  | cons p r ih => obtain ⟨k, v⟩ := p; simp only [List.length_cons, sizeM]; omega

mutual
/-- what `C09.roundtrip` asks of a document, from what the JSON parser guarantees: strings and keys within the limit of the
    MessagePack deserializer (`m ≤ env.maxStrLen`), and a total size below `2^32` -/
theorem within_of_jok (env : MD.Env) {P : Num → Prop} (hP : ∀ n, P n → C09.NumOk n) {m : Nat} (hm : m ≤ env.maxStrLen) :
    ∀ v, JOk P m v → size v < 2^32 → C09.WithinLimits env v
  | .null, _, _ | .bool _, _, _ => by simp only [C09.WithinLimits]
  | .num n, h, _ => by simp only [JOk] at h; simp only [C09.WithinLimits]; exact hP n h
  | .str s, h, hs => by
    simp only [JOk] at h; simp only [size] at hs; simp only [C09.WithinLimits]; exact ⟨by omega, hs⟩
  | .raw _, h, _ => by simp only [JOk] at h
  | .arr xs, h, hs => by
    simp only [JOk] at h; simp only [size] at hs
    simp only [C09.WithinLimits]
    exact ⟨by have := length_le_sizeL xs; omega, withinL_of_jok env hP hm xs h hs⟩
  | .obj ms, h, hs => by
    simp only [JOk] at h; simp only [size] at hs
    simp only [C09.WithinLimits]
    exact ⟨by have := length_le_sizeM ms; omega, withinM_of_jok env hP hm ms h.2 hs⟩
theorem withinL_of_jok (env : MD.Env) {P : Num → Prop} (hP : ∀ n, P n → C09.NumOk n) {m : Nat} (hm : m ≤ env.maxStrLen) :
    ∀ xs, JOkL P m xs → sizeL xs < 2^32 → C09.WithinLimitsElems env xs
  | [], _, _ => by simp only [C09.WithinLimitsElems]
  | x :: r, h, hs => by
    simp only [JOkL] at h; simp only [sizeL] at hs
    simp only [C09.WithinLimitsElems]
    exact ⟨within_of_jok env hP hm x h.1 (by omega), withinL_of_jok env hP hm r h.2 (by omega)⟩
theorem withinM_of_jok (env : MD.Env) {P : Num → Prop} (hP : ∀ n, P n → C09.NumOk n) {m : Nat} (hm : m ≤ env.maxStrLen) :
    ∀ ms, JOkM P m ms → sizeM ms < 2^32 → C09.WithinLimitsMembers env ms
  | [], _, _ => by simp only [C09.WithinLimitsMembers]
  | (k, v) :: r, h, hs => by
    simp only [JOkM] at h; simp only [sizeM] at hs
    simp only [C09.WithinLimitsMembers]
    exact ⟨⟨Nat.le_trans h.1 hm, by omega⟩, within_of_jok env hP hm v h.2.1 (by omega), withinM_of_jok env hP hm r h.2.2 (by omega)⟩
end

mutual
theorem depth09_eq : ∀ v : Val, C09.depth v = C15.depth v
  | .arr xs => by rw [C15.depth_arr]; simp only [C09.depth]; rw [depth09L_eq xs]; omega
  | .obj ms => by rw [C15.depth_obj]; simp only [C09.depth]; rw [depth09M_eq ms]; omega
  | .null | .bool _ | .num _ | .str _ | .raw _ => by simp [C09.depth]
theorem depth09L_eq : ∀ xs : List Val, C09.depthElems xs = C15.depthList xs
  | [] => by simp [C09.depthElems]
  | x :: r => by simp only [C09.depthElems, C15.depthList]; rw [depth09_eq x, depth09L_eq r]
theorem depth09M_eq : ∀ ms : List (List Byte × Val), C09.depthMembers ms = C15.depthMembers ms
  | [] => by simp [C09.depthMembers]
  | (k, v) :: r => by simp only [C09.depthMembers, C15.depthMembers]; rw [depth09_eq v, depth09M_eq r]
end

end CrossFormat
