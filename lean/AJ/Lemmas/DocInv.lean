/- Well-formedness invariant of the slot-level document store `DL.Doc` and its abstraction to an ordered tree.
   Ghost data: a `Forest` records, for a collection value, the ids of the slots of its chain (for objects: key
   slot and value slot of every member) and, recursively, the forests of the values stored in these slots.
   Used by AJ/Props/C04.lean. -/
import AJ.Model.DL
import AJ.Lemmas.PoolInv
namespace DL
open JD (Byte Val)

/-! ## Store access lemmas -/

theorem cell_insert (d : Doc) (id j : Nat) (c : Cell) (pl : PL.St) :
    ({ d with pl := pl, cells := d.cells.insert id c } : Doc).cell j = if id = j then c else d.cell j := by
  simp only [Doc.cell, Std.HashMap.getD_insert, beq_iff_eq]

theorem cell_insert' (d : Doc) (id j : Nat) (c : Cell) :
    ({ d with cells := d.cells.insert id c } : Doc).cell j = if id = j then c else d.cell j := by
  simp only [Doc.cell, Std.HashMap.getD_insert, beq_iff_eq]

theorem get_slot (d : Doc) (j : Nat) : d.get (.slot j) = match d.cell j with | .var v _ => v | _ => .null := rfl

theorem get_of_cell {d d' : Doc} {j : Nat} (h : d'.cell j = d.cell j) : d'.get (.slot j) = d.get (.slot j) := by
  simp only [get_slot, h]

theorem nextOf_of_cell {d d' : Doc} {j : Nat} (h : d'.cell j = d.cell j) (hn : d'.null = d.null) :
    d'.nextOf j = d.nextOf j := by
  simp only [Doc.nextOf, h, hn]

theorem extOf_of_cell {d d' : Doc} {j : Nat} (h : d'.cell j = d.cell j) : d'.extOf j = d.extOf j := by
  simp only [Doc.extOf, h]

theorem get_of_var {d : Doc} {j : Nat} {v : VData} {n : Nat} (h : d.cell j = .var v n) : d.get (.slot j) = v := by
  simp only [get_slot, h]
theorem nextOf_of_var {d : Doc} {j : Nat} {v : VData} {n : Nat} (h : d.cell j = .var v n) : d.nextOf j = n := by
  simp only [Doc.nextOf, h]

/-- the cell is a variant cell -/
def Doc.isVar (d : Doc) (j : Nat) : Prop := d.cell j = .var (d.get (.slot j)) (d.nextOf j)

theorem isVar_of_var {d : Doc} {j : Nat} {v : VData} {n : Nat} (h : d.cell j = .var v n) : d.isVar j := by
  simp only [Doc.isVar, get_of_var h, nextOf_of_var h, h]

theorem set_null (d : Doc) (l : Loc) (v : VData) : (d.set l v).null = d.null := by cases l <;> rfl
theorem set_pl (d : Doc) (l : Loc) (v : VData) : (d.set l v).pl = d.pl := by cases l <;> rfl
theorem set_strings (d : Doc) (l : Loc) (v : VData) : (d.set l v).strings = d.strings := by cases l <;> rfl
theorem set_overflowed (d : Doc) (l : Loc) (v : VData) : (d.set l v).overflowed = d.overflowed := by cases l <;> rfl
theorem set_nextNode (d : Doc) (l : Loc) (v : VData) : (d.set l v).nextNode = d.nextNode := by cases l <;> rfl
theorem set_g (d : Doc) (l : Loc) (v : VData) : (d.set l v).g = d.g := by cases l <;> rfl
theorem set_strOverhead (d : Doc) (l : Loc) (v : VData) : (d.set l v).strOverhead = d.strOverhead := by cases l <;> rfl
theorem cell_set_root (d : Doc) (v : VData) (j : Nat) : (d.set .root v).cell j = d.cell j := rfl
theorem cell_set_slot (d : Doc) (i : Nat) (v : VData) (j : Nat) :
    (d.set (.slot i) v).cell j = if i = j then .var v (d.nextOf i) else d.cell j := by
  simp only [Doc.set, cell_insert']
theorem root_set_root (d : Doc) (v : VData) : (d.set .root v).root = v := rfl
theorem root_set_slot (d : Doc) (i : Nat) (v : VData) : (d.set (.slot i) v).root = d.root := rfl
theorem get_set_self (d : Doc) (l : Loc) (v : VData) : (d.set l v).get l = v := by
  cases l with
  | root => rfl
  | slot i => simp only [get_slot, cell_set_slot, if_true]

/-- `setNext` writes cells only -/
theorem setNext_eq (d : Doc) (i n : Nat) : d.setNext i n = { d with cells := (d.setNext i n).cells } := by
  simp only [Doc.setNext]; split <;> rfl
theorem setNext_null (d : Doc) (i n : Nat) : (d.setNext i n).null = d.null := by rw [setNext_eq]; rfl
theorem setNext_root (d : Doc) (i n : Nat) : (d.setNext i n).root = d.root := by rw [setNext_eq]
theorem setNext_g (d : Doc) (i n : Nat) : (d.setNext i n).g = d.g := by rw [setNext_eq]
theorem setNext_pl (d : Doc) (i n : Nat) : (d.setNext i n).pl = d.pl := by rw [setNext_eq]
theorem setNext_strings (d : Doc) (i n : Nat) : (d.setNext i n).strings = d.strings := by rw [setNext_eq]
theorem setNext_nextNode (d : Doc) (i n : Nat) : (d.setNext i n).nextNode = d.nextNode := by rw [setNext_eq]
theorem cell_setNext (d : Doc) (i n j : Nat) :
    (d.setNext i n).cell j = if i = j then (match d.cell i with | .var v _ => .var v n | c => c) else d.cell j := by
  simp only [Doc.setNext]
  split
  · rename_i v m heq
    simp only [cell_insert', heq]
  · rename_i hne
    split
    · rename_i e; subst e
      split
      · rename_i v m heq; exact absurd heq (hne v m)
      · rfl
    · rfl

theorem cell_setNext_var {d : Doc} {i : Nat} {v : VData} {m : Nat} (h : d.cell i = .var v m) (n : Nat) :
    (d.setNext i n).cell i = .var v n := by
  simp only [cell_setNext, if_true, h]
theorem cell_setNext_ne (d : Doc) {i j : Nat} (n : Nat) (h : i ≠ j) : (d.setNext i n).cell j = d.cell j := by
  simp only [cell_setNext, if_neg h]

theorem freeCell_null (d : Doc) (i : Nat) : (d.freeCell i).null = d.null := rfl
theorem freeCell_root (d : Doc) (i : Nat) : (d.freeCell i).root = d.root := rfl
theorem freeCell_strings (d : Doc) (i : Nat) : (d.freeCell i).strings = d.strings := rfl
theorem cell_freeCell (d : Doc) (i j : Nat) : (d.freeCell i).cell j = if i = j then .free else d.cell j := by
  simp only [Doc.freeCell, cell_insert]

/-! ## `saveString`, case by case -/

/-- The four outcomes of `saveString`: a node with these bytes exists and gains a reference; the string is too long;
    the allocator refuses; a new node with one reference is created. -/
theorem saveString_cases (d : Doc) (s : List Byte) :
    (∃ x ∈ d.strings, x.bytes = s ∧ d.saveString s = (some x.id,
        { d with strings := d.strings.map (fun y => if y.id == x.id then { y with refs := y.refs + 1 } else y) })) ∨
    d.saveString s = (none, { d with overflowed := true }) ∨
    d.saveString s = (none, { d with pl := (d.pl.alloc (s.length + d.strOverhead)).2, overflowed := true }) ∨
    d.saveString s = (some d.nextNode,
      { d with pl := (d.pl.alloc (s.length + d.strOverhead)).2, strings := ⟨d.nextNode, s, 1⟩ :: d.strings,
               nextNode := d.nextNode + 1 }) := by
  simp only [Doc.saveString]
  split
  · rename_i x hfind
    exact Or.inl ⟨x, List.mem_of_find?_eq_some hfind, by simpa using List.find?_some hfind, rfl⟩
  · split
    · exact Or.inr (Or.inl rfl)
    · rcases hal : d.pl.alloc (s.length + d.strOverhead) with ⟨ok, pl⟩
      cases ok
      · exact Or.inr (Or.inr (Or.inl rfl))
      · exact Or.inr (Or.inr (Or.inr rfl))

/-! ## Ghost forests -/

/-- Ghost layout of a chain: `cons key id sub rest` is one element stored in slot `id` (for an object member, `key`
    is the slot holding the key, linked in front of `id`), `sub` the layout of the collection stored in `id`
    (`nil` for scalars), `rest` the remainder of the chain. -/
inductive Forest
  | nil
  | cons (key : Option Nat) (id : Nat) (sub : Forest) (rest : Forest)

namespace Forest
def keyL : Option Nat → List Nat | none => [] | some k => [k]
/-- slot ids of the chain itself, in link order -/
def top : Forest → List Nat | nil => [] | cons k i _ r => keyL k ++ i :: top r
/-- all slot ids, pre-order -/
def ids : Forest → List Nat | nil => [] | cons k i s r => keyL k ++ i :: (ids s ++ ids r)
/-- slots that hold values (elements and member values): the locations a reference can designate -/
def locs : Forest → List Nat | nil => [] | cons _ i s r => i :: (locs s ++ locs r)
def depth : Forest → Nat | nil => 0 | cons _ _ s r => max (depth s + 1) (depth r)
def snoc : Forest → Option Nat → Nat → Forest
  | nil, k, i => cons k i nil nil
  | cons k' j s r, k, i => cons k' j s (snoc r k i)
/-- append the element `i` (with key slot `k` for an object member) whose value is laid out as `se` -/
def snocS : Forest → Option Nat → Nat → Forest → Forest
  | nil, k, i, se => cons k i se nil
  | cons k' j s r, k, i, se => cons k' j s (snocS r k i se)
/-- replace the layout below slot `i` -/
def replaceSub : Forest → Nat → Forest → Forest
  | nil, _, _ => nil
  | cons k j s r, i, s' => if j = i then cons k j s' r else cons k j (replaceSub s i s') (replaceSub r i s')
/-- layout below slot `i` -/
def subOf : Forest → Nat → Forest
  | nil, _ => nil
  | cons _ j s r, i => if j = i then s else if i ∈ s.locs then subOf s i else subOf r i

theorem locs_sub_ids (F : Forest) : ∀ x ∈ F.locs, x ∈ F.ids := by
  induction F with
  | nil => intro x h; cases h
  | cons k i s r ihs ihr =>
    intro x h
    simp only [locs, List.mem_cons, List.mem_append] at h
    simp only [ids, List.mem_cons, List.mem_append]
    rcases h with h | h | h
    · exact Or.inr (Or.inl h)
    · exact Or.inr (Or.inr (Or.inl (ihs x h)))
    · exact Or.inr (Or.inr (Or.inr (ihr x h)))

theorem top_sub_ids (F : Forest) : ∀ x ∈ F.top, x ∈ F.ids := by
  induction F with
  | nil => intro x h; cases h
  | cons k i s r ihs ihr =>
    intro x h
    simp only [top, List.mem_cons, List.mem_append] at h
    simp only [ids, List.mem_cons, List.mem_append]
    rcases h with h | h | h
    · exact Or.inl h
    · exact Or.inr (Or.inl h)
    · exact Or.inr (Or.inr (Or.inr (ihr x h)))

theorem top_length_le (F : Forest) : F.top.length ≤ F.ids.length := by
  induction F with
  | nil => exact Nat.le_refl _
  | cons k i s r ihs ihr =>
    simp only [top, ids, List.length_append, List.length_cons]; omega

theorem depth_le (F : Forest) : F.depth ≤ F.ids.length := by
  induction F with
  | nil => exact Nat.le_refl _
  | cons k i s r ihs ihr =>
    simp only [depth, ids, List.length_append, List.length_cons]; omega

theorem top_snocS (F : Forest) (k : Option Nat) (i : Nat) (se : Forest) : (F.snocS k i se).top = F.top ++ (keyL k ++ [i]) := by
  induction F with
  | nil => simp [snocS, top]
  | cons k' j s r _ ihr => simp [snocS, top, ihr]

theorem ids_snocS (F : Forest) (k : Option Nat) (i : Nat) (se : Forest) :
    (F.snocS k i se).ids = F.ids ++ (keyL k ++ i :: se.ids) := by
  induction F with
  | nil => simp [snocS, ids]
  | cons k' j s r _ ihr => simp [snocS, ids, ihr]

theorem snoc_eq_snocS (F : Forest) (k : Option Nat) (i : Nat) : F.snoc k i = F.snocS k i nil := by
  induction F with
  | nil => rfl
  | cons k' j s r _ ihr => simp only [snoc, snocS, ihr]

theorem top_snoc (F : Forest) (k : Option Nat) (i : Nat) : (F.snoc k i).top = F.top ++ (keyL k ++ [i]) := by
  rw [snoc_eq_snocS]; exact top_snocS F k i nil

theorem ids_snoc (F : Forest) (k : Option Nat) (i : Nat) : (F.snoc k i).ids = F.ids ++ (keyL k ++ [i]) := by
  rw [snoc_eq_snocS]; exact ids_snocS F k i nil

theorem locs_snoc (F : Forest) (k : Option Nat) (i : Nat) : (F.snoc k i).locs = F.locs ++ [i] := by
  induction F with
  | nil => simp [snoc, locs]
  | cons k' j s r _ ihr => simp [snoc, locs, ihr]

theorem top_replaceSub (i : Nat) (s' : Forest) (F : Forest) : (F.replaceSub i s').top = F.top := by
  induction F with
  | nil => rfl
  | cons k j s r _ ihr =>
    simp only [replaceSub]; split
    · simp only [top]
    · simp only [top, ihr]

theorem replaceSub_of_notin (i : Nat) (s' : Forest) (F : Forest) (h : i ∉ F.locs) : F.replaceSub i s' = F := by
  induction F with
  | nil => rfl
  | cons k j s r ihs ihr =>
    simp only [locs, List.mem_cons, List.mem_append, not_or] at h
    simp only [replaceSub, if_neg (Ne.symm h.1), ihs h.2.1, ihr h.2.2]
end Forest

/-! ## Layout predicate -/

def isKey : VData → Prop | .linked _ => True | .owned _ => True | _ => False
def isColl : VData → Prop | .arr _ _ => True | .obj _ _ => True | _ => False

/-- link in front of element `i`: for arrays the chain position is `i` itself, for objects it is the key slot -/
def KeyOK (d : Doc) (b : Bool) (start : Nat) (key : Option Nat) (i : Nat) : Prop :=
  match b, key with
  | false, none => start = i
  | true, some k => start = k ∧ k ≠ d.null ∧ d.isVar k ∧ isKey (d.get (.slot k)) ∧ d.nextOf k = i
  | _, _ => False

/-- the value `v` is laid out as `s`: scalars have no layout, a collection's chain starts at its head, ends in the
    null id, and its tail is the last slot of the chain (`lk b h` : the chain from `h` is laid out as `s`) -/
def ValOK (d : Doc) (lk : Bool → Nat → Prop) (v : VData) (s : Forest) : Prop :=
  match v with
  | .arr h t => lk false h ∧ t = s.top.getLast?.getD d.null
  | .obj h t => lk true h ∧ t = s.top.getLast?.getD d.null
  | _ => s = .nil

/-- `Lk d b start F`: following `next` from `start` visits exactly the chain `F.top` and reaches the null id; every
    slot is a variant cell; `b` tells whether this is an object chain (key slot, value slot alternating, keys are
    strings); the value in every element slot is laid out as the corresponding sub-forest. -/
def Lk (d : Doc) : Bool → Nat → Forest → Prop
  | _, start, .nil => start = d.null
  | b, start, .cons key i s r =>
      KeyOK d b start key i ∧ i ≠ d.null ∧ d.isVar i ∧ Lk d b (d.nextOf i) r ∧
      ValOK d (fun b' h => Lk d b' h s) (d.get (.slot i)) s

/-- the value `v` (stored anywhere) is laid out as `s` -/
def VOK (d : Doc) (v : VData) (s : Forest) : Prop := ValOK d (fun b h => Lk d b h s) v s

theorem Lk_nil (d : Doc) (b : Bool) (start : Nat) : Lk d b start .nil ↔ start = d.null := by
  simp only [Lk]
theorem Lk_cons (d : Doc) (b : Bool) (start : Nat) (key : Option Nat) (i : Nat) (s r : Forest) :
    Lk d b start (.cons key i s r) ↔
      (KeyOK d b start key i ∧ i ≠ d.null ∧ d.isVar i ∧ Lk d b (d.nextOf i) r ∧ VOK d (d.get (.slot i)) s) := by
  simp only [Lk, VOK]

theorem Lk_rest {d : Doc} {b : Bool} {h i : Nat} {key : Option Nat} {s r : Forest} (hl : Lk d b h (.cons key i s r)) :
    Lk d b (d.nextOf i) r := ((Lk_cons ..).1 hl).2.2.2.1
theorem Lk_below {d : Doc} {b : Bool} {h i : Nat} {key : Option Nat} {s r : Forest} (hl : Lk d b h (.cons key i s r)) :
    VOK d (d.get (.slot i)) s := ((Lk_cons ..).1 hl).2.2.2.2

/-- a link of an array chain: the chain position is the element slot itself -/
theorem Lk_cons_arr {d : Doc} {h i : Nat} {key : Option Nat} {s r : Forest} (hl : Lk d false h (.cons key i s r)) :
    key = none ∧ h = i ∧ i ≠ d.null ∧ d.isVar i ∧ VOK d (d.get (.slot i)) s ∧ Lk d false (d.nextOf i) r := by
  rw [Lk_cons] at hl
  obtain ⟨h1, h2, h3, h4, h5⟩ := hl
  cases key <;> simp only [KeyOK] at h1
  exact ⟨rfl, h1, h2, h3, h5, h4⟩

/-- a link of an object chain: the chain position is the key slot `k`, which holds a string and is linked in front
    of the value slot -/
theorem Lk_cons_obj {d : Doc} {h i : Nat} {key : Option Nat} {s r : Forest} (hl : Lk d true h (.cons key i s r)) :
    ∃ k, key = some k ∧ h = k ∧ k ≠ d.null ∧ d.isVar k ∧ isKey (d.get (.slot k)) ∧ d.nextOf k = i ∧
      i ≠ d.null ∧ d.isVar i ∧ VOK d (d.get (.slot i)) s ∧ Lk d true (d.nextOf i) r := by
  rw [Lk_cons] at hl
  obtain ⟨h1, h2, h3, h4, h5⟩ := hl
  cases key <;> simp only [KeyOK] at h1
  rename_i k
  obtain ⟨k1, k2, k3, k4, k5⟩ := h1
  exact ⟨k, rfl, k1, k2, k3, k4, k5, h2, h3, h5, h4⟩

theorem VOK_scalar {d : Doc} {v : VData} (h : ¬ isColl v) (s : Forest) : VOK d v s ↔ s = .nil := by
  cases v <;> first | rfl | exact absurd trivial h
theorem VOK_arr (d : Doc) (h t : Nat) (s : Forest) :
    VOK d (.arr h t) s ↔ (Lk d false h s ∧ t = s.top.getLast?.getD d.null) := Iff.rfl
theorem VOK_obj (d : Doc) (h t : Nat) (s : Forest) :
    VOK d (.obj h t) s ↔ (Lk d true h s ∧ t = s.top.getLast?.getD d.null) := Iff.rfl

/-! ## Abstraction to an ordered tree -/

/-- abstract value of a non-collection -/
def Doc.scalar (d : Doc) : VData → Val
  | .null => .null | .bool b => .bool b
  | .i32 x => .num (.sint x) | .u32 x => .num (.uint x) | .f32 b => .num (.f32 b)
  | .i64 s => .num (.sint (d.extOf s)) | .u64 s => .num (.uint (d.extOf s).toNat) | .f64 s => .num (.f64 (d.extOf s).toNat)
  | .linked s => .str s | .owned n => .str (d.strBytes n) | .raw n => .raw (d.strBytes n)
  | .arr _ _ => .null | .obj _ _ => .null

def keyOfV (d : Doc) : VData → List Byte
  | .linked s => s | .owned n => d.strBytes n | _ => []
def keyB (d : Doc) : Option Nat → List Byte
  | none => [] | some k => keyOfV d (d.get (.slot k))

def mkVal (d : Doc) (v : VData) (sub : List (List Byte × Val)) : Val :=
  match v with
  | .arr _ _ => .arr (sub.map (·.2))
  | .obj _ _ => .obj sub
  | v => d.scalar v

/-- members/elements (with key bytes, `[]` for array elements) of a chain laid out as `F`; `o i = some x` overrides
    the value read in slot `i` by `x` (used to state what a mutation of slot `i` does to the whole tree) -/
def vals (d : Doc) (o : Nat → Option Val) : Forest → List (List Byte × Val)
  | .nil => []
  | .cons key i s r => (keyB d key, (o i).getD (mkVal d (d.get (.slot i)) (vals d o s))) :: vals d o r

def noOv : Nat → Option Val := fun _ => none
def ov1 (i : Nat) (x : Val) : Nat → Option Val := fun j => if j = i then some x else none

/-- abstract value of `v` laid out as `s` -/
def Doc.valOf (d : Doc) (v : VData) (s : Forest) : Val := mkVal d v (vals d noOv s)

theorem mkVal_scalar {d : Doc} {v : VData} (h : ¬ isColl v) (sub) : mkVal d v sub = d.scalar v := by
  cases v <;> first | rfl | exact absurd trivial h

theorem keyBytes_getD (d : Doc) (k : Nat) : (d.keyBytes k).getD [] = keyOfV d (d.get (.slot k)) := by
  simp only [Doc.keyBytes]
  cases d.get (.slot k) <;> rfl

/-! ## Agreement of two stores on a set of slots -/

structure Agree (d d' : Doc) (js : List Nat) : Prop where
  null : d'.null = d.null
  cell : ∀ j ∈ js, d'.cell j = d.cell j

theorem Agree.mono {d d' : Doc} {js ks : List Nat} (h : Agree d d' js) (hs : ∀ j ∈ ks, j ∈ js) : Agree d d' ks :=
  ⟨h.null, fun j hj => h.cell j (hs j hj)⟩

/-- scalar values stored in the slots `js` of `d` read the same in `d'` (extension slots and string nodes agree) -/
def SAgree (d d' : Doc) (js : List Nat) : Prop := ∀ j ∈ js, d'.scalar (d.get (.slot j)) = d.scalar (d.get (.slot j))

theorem SAgree.mono {d d' : Doc} {js ks : List Nat} (h : SAgree d d' js) (hs : ∀ j ∈ ks, j ∈ js) : SAgree d d' ks :=
  fun j hj => h j (hs j hj)

theorem isVar_congr {d d' : Doc} {j : Nat} (hc : d'.cell j = d.cell j) (hn : d'.null = d.null) (h : d.isVar j) :
    d'.isVar j := by
  simp only [Doc.isVar, get_of_cell hc, nextOf_of_cell hc hn, hc]; exact h

theorem KeyOK_congr {d d' : Doc} {b : Bool} {start : Nat} {key : Option Nat} {i : Nat}
    (hn : d'.null = d.null) (hc : ∀ k ∈ Forest.keyL key, d'.cell k = d.cell k) (h : KeyOK d b start key i) :
    KeyOK d' b start key i := by
  cases b <;> cases key <;> simp only [KeyOK] at h ⊢
  · exact h
  · rename_i k
    have hk := hc k (by simp [Forest.keyL])
    obtain ⟨h1, h2, h3, h4, h5⟩ := h
    exact ⟨h1, hn ▸ h2, isVar_congr hk hn h3, (get_of_cell hk) ▸ h4, (nextOf_of_cell hk hn) ▸ h5⟩

theorem Lk_congr {d d' : Doc} (F : Forest) : ∀ {b : Bool} {h : Nat}, Agree d d' F.ids → Lk d b h F → Lk d' b h F := by
  induction F with
  | nil => intro b h ha hl; rw [Lk_nil] at hl ⊢; rw [ha.null]; exact hl
  | cons key i s r ihs ihr =>
    intro b h ha hl
    rw [Lk_cons] at hl ⊢
    obtain ⟨h1, h2, h3, h4, h5⟩ := hl
    have hi : d'.cell i = d.cell i := ha.cell i (by simp [Forest.ids])
    have has : Agree d d' s.ids := ha.mono (by intro j hj; simp [Forest.ids, hj])
    have har : Agree d d' r.ids := ha.mono (by intro j hj; simp [Forest.ids, hj])
    refine ⟨KeyOK_congr ha.null (fun k hk => ha.cell k (by simp [Forest.ids, hk])) h1, ha.null ▸ h2,
      isVar_congr hi ha.null h3, ?_, ?_⟩
    · rw [nextOf_of_cell hi ha.null]; exact ihr har h4
    · rw [get_of_cell hi]
      revert h5
      cases d.get (.slot i) <;> simp only [VOK, ValOK, ha.null] <;> intro h5
      all_goals first | exact h5 | exact ⟨ihs has h5.1, h5.2⟩

theorem VOK_congr {d d' : Doc} {v : VData} {s : Forest} (ha : Agree d d' s.ids) (h : VOK d v s) : VOK d' v s := by
  revert h
  cases v <;> simp only [VOK, ValOK, ha.null] <;> intro h
  all_goals first | exact h | exact ⟨Lk_congr s ha h.1, h.2⟩

theorem keyOfV_of_scalar {d d' : Doc} {v : VData} (h : d'.scalar v = d.scalar v) : keyOfV d' v = keyOfV d v := by
  cases v <;> first | rfl | (simp only [Doc.scalar, Val.str.injEq] at h; exact h)

theorem mkVal_congr {d d' : Doc} {v : VData} (h : d'.scalar v = d.scalar v) (sub) : mkVal d' v sub = mkVal d v sub := by
  cases v <;> first | rfl | exact h

theorem vals_congr' {d d' : Doc} (o : Nat → Option Val) (F : Forest) :
    (∀ j ∈ F.ids, d'.get (.slot j) = d.get (.slot j)) → SAgree d d' F.ids → vals d' o F = vals d o F := by
  induction F with
  | nil => intros; rfl
  | cons key i s r ihs ihr =>
    intro ha hs
    have hi : d'.get (.slot i) = d.get (.slot i) := ha i (by simp [Forest.ids])
    have hsub : ∀ j ∈ s.ids, j ∈ (Forest.cons key i s r).ids := by intro j hj; simp [Forest.ids, hj]
    have hrest : ∀ j ∈ r.ids, j ∈ (Forest.cons key i s r).ids := by intro j hj; simp [Forest.ids, hj]
    simp only [vals]
    rw [ihs (fun j hj => ha j (hsub j hj)) (hs.mono hsub), ihr (fun j hj => ha j (hrest j hj)) (hs.mono hrest), hi,
      mkVal_congr (hs i (by simp [Forest.ids]))]
    congr 2
    cases key with
    | none => rfl
    | some k =>
      have hk : d'.get (.slot k) = d.get (.slot k) := ha k (by simp [Forest.ids, Forest.keyL])
      simp only [keyB, hk]
      exact keyOfV_of_scalar (hs k (by simp [Forest.ids, Forest.keyL]))

theorem vals_congr {d d' : Doc} (o : Nat → Option Val) (F : Forest) (ha : Agree d d' F.ids) (hs : SAgree d d' F.ids) :
    vals d' o F = vals d o F :=
  vals_congr' o F (fun j hj => get_of_cell (ha.cell j hj)) hs

/-! ## The fuel never runs out on laid-out values -/

theorem chainF_null (d : Doc) (f : Nat) : d.chainF f d.null = [] := by
  cases f <;> simp [Doc.chainF]

theorem chainF_eq {d : Doc} (F : Forest) : ∀ {b : Bool} {h f : Nat}, Lk d b h F → F.top.length ≤ f → d.chainF f h = F.top := by
  induction F with
  | nil => intro b h f hl _; rw [Lk_nil] at hl; subst hl; exact chainF_null d f
  | cons key i s r _ ihr =>
    intro b h f hl hf
    cases b
    · obtain ⟨rfl, rfl, h2, _, _, h4⟩ := Lk_cons_arr hl
      simp only [Forest.top, Forest.keyL, List.nil_append, List.length_cons] at hf ⊢
      obtain ⟨f', rfl⟩ : ∃ f', f = f' + 1 := ⟨f - 1, by omega⟩
      simp only [Doc.chainF, if_neg h2]
      rw [ihr h4 (by omega)]
    · obtain ⟨k, rfl, rfl, hk, _, _, hki, h2, _, _, h4⟩ := Lk_cons_obj hl
      simp only [Forest.top, Forest.keyL, List.cons_append, List.nil_append, List.length_cons] at hf ⊢
      obtain ⟨f', rfl⟩ : ∃ f', f = f' + 2 := ⟨f - 2, by omega⟩
      simp only [Doc.chainF, if_neg hk, hki, if_neg h2]
      rw [ihr h4 (by omega)]

theorem chain_eq {d : Doc} {F : Forest} {b : Bool} {h : Nat} (hl : Lk d b h F) (hf : F.ids.length ≤ d.fuel) :
    d.chain h = F.top :=
  chainF_eq F hl (Nat.le_trans F.top_length_le hf)

/-- what the fuelled `toValF` computes along a chain -/
def ChainSpec (d : Doc) (F : Forest) : Prop :=
  ∀ (f : Nat) (b : Bool) (h : Nat), Lk d b h F → F.depth ≤ f → F.ids.length ≤ d.fuel →
    (b = false → F.top.map (fun e => d.toValF f (d.get (.slot e))) = (vals d noOv F).map (·.2)) ∧
    (b = true → pairUp (fun k v => ((d.keyBytes k).getD [], d.toValF f (d.get (.slot v)))) F.top = vals d noOv F)

theorem toValF_node {d : Doc} {v : VData} {s : Forest} (hs : ChainSpec d s) (hv : VOK d v s) {f : Nat}
    (hd : s.depth < f) (hf : s.ids.length ≤ d.fuel) : d.toValF f v = d.valOf v s := by
  obtain ⟨f', rfl⟩ : ∃ f', f = f' + 1 := ⟨f - 1, by omega⟩
  cases v <;> try rfl
  · rename_i h t
    obtain ⟨hl, _⟩ := (VOK_arr d h t s).mp hv
    simp only [Doc.toValF, Doc.valOf, mkVal, chain_eq hl hf]
    rw [(hs f' false h hl (by omega) hf).1 rfl]
  · rename_i h t
    obtain ⟨hl, _⟩ := (VOK_obj d h t s).mp hv
    simp only [Doc.toValF, Doc.valOf, mkVal, chain_eq hl hf]
    rw [(hs f' true h hl (by omega) hf).2 rfl]

theorem chainSpec (d : Doc) (F : Forest) : ChainSpec d F := by
  induction F with
  | nil => intro f b h _ _ _; exact ⟨fun _ => rfl, fun _ => rfl⟩
  | cons key i s r ihs ihr =>
    intro f b h hl hd hf
    simp only [Forest.depth] at hd
    simp only [Forest.ids, List.length_append, List.length_cons] at hf
    cases b
    · obtain ⟨rfl, rfl, _, _, h5, h4⟩ := Lk_cons_arr hl
      refine ⟨fun _ => ?_, fun e => (by cases e)⟩
      simp only [Forest.top, Forest.keyL, List.nil_append, List.map_cons, vals, noOv, Option.getD_none]
      rw [toValF_node ihs h5 (by omega) (by omega), (ihr f false _ h4 (by omega) (by omega)).1 rfl]; rfl
    · obtain ⟨k, rfl, rfl, _, _, _, _, _, _, h5, h4⟩ := Lk_cons_obj hl
      refine ⟨fun e => (by cases e), fun _ => ?_⟩
      simp only [Forest.top, Forest.keyL, List.cons_append, List.nil_append, pairUp, vals, noOv, Option.getD_none]
      rw [toValF_node ihs h5 (by omega) (by omega), (ihr f true _ h4 (by omega) (by omega)).2 rfl, keyBytes_getD]; rfl

/-- `toVal` of a laid-out value is the abstract value of the layout -/
theorem toVal_eq {d : Doc} {v : VData} {s : Forest} (hv : VOK d v s) (hf : s.ids.length < d.fuel) :
    d.toVal v = d.valOf v s :=
  toValF_node (chainSpec d s) hv (Nat.lt_of_le_of_lt s.depth_le hf) (Nat.le_of_lt hf)

/-! ## Well-formedness of a document -/

def extOfV : VData → List Nat | .i64 s => [s] | .u64 s => [s] | .f64 s => [s] | _ => []
def strOfV : VData → List Nat | .owned n => [n] | .raw n => [n] | _ => []
/-- the places that hold a value: the root and the slots of the layout -/
def holders (F : Forest) : List Loc := .root :: F.ids.map .slot
/-- string nodes referenced by the document (with multiplicity) -/
def Doc.strRefs (d : Doc) (F : Forest) : List Nat := (holders F).flatMap (fun l => strOfV (d.get l))

theorem mem_holders {F : Forest} {l : Loc} : l ∈ holders F ↔ l = .root ∨ ∃ j ∈ F.ids, l = .slot j := by
  simp only [holders, List.mem_cons, List.mem_map]
  constructor
  · rintro (h | ⟨j, hj, e⟩)
    · exact Or.inl h
    · exact Or.inr ⟨j, hj, e.symm⟩
  · rintro (h | ⟨j, hj, e⟩)
    · exact Or.inl h
    · exact Or.inr ⟨j, hj, e.symm⟩

/-- string table: node ids are distinct and below `nextNode`, every referenced node exists and its reference
    count is at least the number of references to it (so releasing one reference never frees a node that another
    value still uses) -/
structure StrOK (d : Doc) (rs : List Nat) : Prop where
  ids_nodup : (d.strings.map (·.id)).Nodup
  ids_lt : ∀ n ∈ d.strings, n.id < d.nextNode
  refs : ∀ n ∈ d.strings, rs.count n.id ≤ n.refs
  present : ∀ r ∈ rs, ∃ n ∈ d.strings, n.id = r

/-- extension slots: each one referenced by a value of the document holds a payload, is live in the pool (handed out, not on
    the free list), and is
    referenced by exactly one holder -/
def ExtOK (d : Doc) (F : Forest) : Prop :=
  ∀ l ∈ holders F, ∀ e ∈ extOfV (d.get l), (∃ p, d.cell e = .ext p) ∧ PL.live d.g d.pl e ∧
    ∀ l' ∈ holders F, e ∈ extOfV (d.get l') → l' = l

/-- `WFG d F`: the root value is laid out as the forest `F` (every chain is acyclic, ends in the null id, its tail is
    its last slot; object chains alternate string key slots and value slots; all slots are variant cells); no slot
    occurs twice in the pre-order walk (no sharing, no cycle); slots are proper ids and are live in the pool (handed
    out and not on the free list; the pool satisfies its own invariant `PL.Inv`); extension slots hold payloads, are not free and are referenced once. -/
structure WFG (d : Doc) (F : Forest) : Prop where
  root : VOK d d.root F
  nodup : F.ids.Nodup
  lt : ∀ i ∈ F.ids, i < d.null
  pool : PL.Inv d.g d.pl
  live : ∀ i ∈ F.ids, PL.live d.g d.pl i
  ext : ExtOK d F

/-- well-formed document: cells (`WFG`) and string table (`StrOK`) -/
def WF (d : Doc) : Prop := ∃ F, WFG d F ∧ StrOK d (d.strRefs F)

/-- the abstraction: the document as an ordered tree -/
def abs (d : Doc) : Val := d.toVal d.root

theorem length_le_of_nodup_lt {l : List Nat} {n : Nat} (hn : l.Nodup) (hl : ∀ x ∈ l, x < n) : l.length ≤ n := by
  have := List.Nodup.length_le_of_subset hn (l₂ := List.range n) (fun x hx => List.mem_range.2 (hl x hx))
  simpa using this

theorem WFG.fuel_ok {d : Doc} {F : Forest} (w : WFG d F) : F.ids.length < d.fuel := by
  have := length_le_of_nodup_lt w.nodup w.lt
  simp only [Doc.fuel, Doc.null] at *; omega

theorem abs_eq {d : Doc} {F : Forest} (w : WFG d F) : abs d = d.valOf d.root F :=
  toVal_eq w.root w.fuel_ok

/-- an empty layout is well-formed as soon as the root value is laid out as nothing and the extension slots it refers
    to hold a payload and are live -/
theorem wfg_root {d : Doc} (hr : VOK d d.root .nil) (hp : PL.Inv d.g d.pl)
    (he : ∀ e ∈ extOfV d.root, (∃ p, d.cell e = .ext p) ∧ PL.live d.g d.pl e) : WFG d .nil := by
  refine ⟨hr, List.nodup_nil, fun i hi => (by cases hi), hp, fun i hi => (by cases hi), ?_⟩
  intro l hl e hel
  have hl' : l = .root := by simpa [holders, Forest.ids] using hl
  subst hl'
  exact ⟨(he e hel).1, (he e hel).2, fun l' hl' _ => by simpa [holders, Forest.ids] using hl'⟩

theorem wfg_nil {d : Doc} (hr : VOK d d.root .nil) (hx : extOfV d.root = []) (hp : PL.Inv d.g d.pl) : WFG d .nil :=
  wfg_root hr hp (fun e he => by rw [hx] at he; cases he)

/-! ## A mutation below one slot: the context lemma -/

namespace Forest
theorem subOf_ids_sub (F : Forest) (i : Nat) : ∀ x ∈ (F.subOf i).ids, x ∈ F.ids := by
  induction F with
  | nil => intro x h; cases h
  | cons k j s r ihs ihr =>
    intro x h
    simp only [subOf] at h
    simp only [ids, List.mem_append, List.mem_cons]
    split at h
    · exact Or.inr (Or.inr (Or.inl h))
    · split at h
      · exact Or.inr (Or.inr (Or.inl (ihs x h)))
      · exact Or.inr (Or.inr (Or.inr (ihr x h)))

theorem subOf_of_notin (F : Forest) (i : Nat) (h : i ∉ F.locs) : F.subOf i = .nil := by
  induction F with
  | nil => rfl
  | cons k j s r ihs ihr =>
    simp only [locs, List.mem_cons, List.mem_append, not_or] at h
    simp only [subOf, if_neg (Ne.symm h.1), if_neg h.2.1, ihr h.2.2]

theorem nodup_cons {key : Option Nat} {j : Nat} {s r : Forest} (h : (cons key j s r).ids.Nodup) :
    s.ids.Nodup ∧ r.ids.Nodup ∧ j ∉ s.ids ∧ j ∉ r.ids ∧ (∀ x ∈ s.ids, x ∉ r.ids) ∧
    (∀ k ∈ keyL key, k ≠ j ∧ k ∉ s.ids ∧ k ∉ r.ids) := by
  simp only [ids] at h
  obtain ⟨_, h2, h3⟩ := List.nodup_append.1 h
  obtain ⟨h4, h5⟩ := List.nodup_cons.1 h2
  obtain ⟨h6, h7, h8⟩ := List.nodup_append.1 h5
  refine ⟨h6, h7, fun m => h4 (List.mem_append_left _ m), fun m => h4 (List.mem_append_right _ m),
    fun x hx hx' => h8 x hx x hx' rfl, fun k hk => ⟨?_, ?_, ?_⟩⟩
  · exact h3 k hk j (by simp)
  · intro m; exact h3 k hk k (by simp [m]) rfl
  · intro m; exact h3 k hk k (by simp [m]) rfl

/-! `subOf` and `replaceSub` at a node, according to where the slot `i` sits -/
theorem subOf_here (k : Option Nat) (i : Nat) (s r : Forest) : (cons k i s r).subOf i = s := by
  simp only [subOf, if_true]
theorem subOf_below {k : Option Nat} {j i : Nat} {s : Forest} (r : Forest) (hji : j ≠ i) (his : i ∈ s.locs) :
    (cons k j s r).subOf i = s.subOf i := by
  simp only [subOf, if_neg hji, if_pos his]
theorem subOf_right {k : Option Nat} {j i : Nat} {s : Forest} (r : Forest) (hji : j ≠ i) (his : i ∉ s.locs) :
    (cons k j s r).subOf i = r.subOf i := by
  simp only [subOf, if_neg hji, if_neg his]
theorem replaceSub_here (k : Option Nat) (i : Nat) (s r s' : Forest) : (cons k i s r).replaceSub i s' = cons k i s' r := by
  simp only [replaceSub, if_true]
theorem replaceSub_below {k : Option Nat} {j i : Nat} {r : Forest} (s s' : Forest) (hji : j ≠ i) (hir : i ∉ r.locs) :
    (cons k j s r).replaceSub i s' = cons k j (s.replaceSub i s') r := by
  simp only [replaceSub, if_neg hji, replaceSub_of_notin i s' r hir]
theorem replaceSub_right {k : Option Nat} {j i : Nat} {s : Forest} (r s' : Forest) (hji : j ≠ i) (his : i ∉ s.locs) :
    (cons k j s r).replaceSub i s' = cons k j s (r.replaceSub i s') := by
  simp only [replaceSub, if_neg hji, replaceSub_of_notin i s' s his]

/-- Where a value slot `i` sits in a layout without repeated slots: it is the first element of the chain, or it lies
    below the first element (and then not in the rest of the chain), or in the rest of the chain (and then not below
    the first element). Every statement about `subOf i` / `replaceSub i` is proved along this case distinction. -/
theorem loc_induction {i : Nat} {motive : Forest → Prop}
    (here : ∀ k s r, (cons k i s r).ids.Nodup → motive (cons k i s r))
    (below : ∀ k j s r, (cons k j s r).ids.Nodup → j ≠ i → i ∈ s.locs → i ∉ r.locs → motive s → motive (cons k j s r))
    (right : ∀ k j s r, (cons k j s r).ids.Nodup → j ≠ i → i ∉ s.locs → i ∈ r.locs → motive r → motive (cons k j s r)) :
    ∀ F : Forest, F.ids.Nodup → i ∈ F.locs → motive F := by
  intro F
  induction F with
  | nil => intro _ hi; cases hi
  | cons k j s r ihs ihr =>
    intro hnd hi
    obtain ⟨nds, ndr, _, _, nsr, _⟩ := nodup_cons hnd
    by_cases hji : j = i
    · subst hji; exact here k s r hnd
    · simp only [locs, List.mem_cons, List.mem_append] at hi
      by_cases his : i ∈ s.locs
      · exact below k j s r hnd hji his (fun m => nsr i (s.locs_sub_ids i his) (r.locs_sub_ids i m)) (ihs nds his)
      · have hir : i ∈ r.locs := (hi.resolve_left (fun e => hji e.symm)).resolve_left his
        exact right k j s r hnd hji his hir (ihr ndr hir)

theorem self_notin_subOf (F : Forest) (i : Nat) (hnd : F.ids.Nodup) : i ∉ (F.subOf i).ids := by
  by_cases hi : i ∈ F.locs
  · refine loc_induction (motive := fun F => i ∉ (F.subOf i).ids) ?_ ?_ ?_ F hnd hi
    · intro k s r hnd; rw [subOf_here]; exact (nodup_cons hnd).2.2.1
    · intro k j s r _ hji his _ ih; rw [subOf_below r hji his]; exact ih
    · intro k j s r _ hji his _ ih; rw [subOf_right r hji his]; exact ih
  · rw [subOf_of_notin F i hi]; intro h; cases h

theorem replaceSub_self (F : Forest) (i : Nat) (hnd : F.ids.Nodup) (hi : i ∈ F.locs) :
    F.replaceSub i (F.subOf i) = F := by
  refine loc_induction (motive := fun F => F.replaceSub i (F.subOf i) = F) ?_ ?_ ?_ F hnd hi
  · intro k s r _; rw [subOf_here, replaceSub_here]
  · intro k j s r _ hji his hir ih; rw [subOf_below r hji his, replaceSub_below s _ hji hir, ih]
  · intro k j s r _ hji his _ ih; rw [subOf_right r hji his, replaceSub_right r _ hji his, ih]

theorem perm_pull (A S R : List Nat) (i : Nat) : (A ++ i :: (S ++ R)).Perm (S ++ (A ++ i :: R)) := by
  rw [List.append_cons A i (S ++ R), List.append_cons A i R]
  exact List.perm_append_comm_assoc _ _ _

/-- the slots after the layout below `i` was replaced by `s'`: those of `s'` and those outside the old layout below `i` -/
theorem ids_replaceSub_perm {i : Nat} (s' : Forest) : ∀ F : Forest, F.ids.Nodup → i ∈ F.locs →
    (F.replaceSub i s').ids.Perm (s'.ids ++ (F.replaceSub i .nil).ids) := by
  refine loc_induction ?_ ?_ ?_
  · intro k s r _
    rw [replaceSub_here, replaceSub_here]
    exact perm_pull (keyL k) s'.ids r.ids i
  · intro k j s r _ hji _ hir ih
    rw [replaceSub_below s _ hji hir, replaceSub_below s _ hji hir]
    refine (((ih.append_right r.ids).cons j).append_left (keyL k)).trans ?_
    rw [List.append_assoc]
    exact perm_pull (keyL k) s'.ids _ j
  · intro k j s r _ hji his _ ih
    rw [replaceSub_right r _ hji his, replaceSub_right r _ hji his]
    refine (((ih.append_left s.ids).trans (List.perm_append_comm_assoc _ _ _)).cons j |>.append_left (keyL k)).trans ?_
    exact perm_pull (keyL k) s'.ids _ j

/-- the slots of a layout: those below `i` and those outside -/
theorem ids_subOf_perm {F : Forest} {i : Nat} (hnd : F.ids.Nodup) (hi : i ∈ F.locs) :
    F.ids.Perm ((F.subOf i).ids ++ (F.replaceSub i .nil).ids) := by
  have := ids_replaceSub_perm (F.subOf i) F hnd hi
  rwa [replaceSub_self F i hnd hi] at this

theorem mem_ids_outside (F : Forest) (i : Nat) (hnd : F.ids.Nodup) (hi : i ∈ F.locs) (x : Nat) :
    x ∈ (F.replaceSub i .nil).ids ↔ x ∈ F.ids ∧ x ∉ (F.subOf i).ids := by
  have hp := ids_subOf_perm hnd hi
  have hd := (List.nodup_append.1 (hp.nodup_iff.1 hnd)).2.2
  rw [hp.mem_iff, List.mem_append]
  constructor
  · intro h; exact ⟨Or.inr h, fun ha => hd x ha x h rfl⟩
  · rintro ⟨ha | ho, hn⟩
    · exact absurd ha hn
    · exact ho

theorem mem_ids_replaceSub (F : Forest) (i : Nat) (s' : Forest) (hnd : F.ids.Nodup) (hi : i ∈ F.locs) (x : Nat) :
    x ∈ (F.replaceSub i s').ids ↔ (x ∈ F.ids ∧ x ∉ (F.subOf i).ids) ∨ x ∈ s'.ids := by
  rw [(ids_replaceSub_perm s' F hnd hi).mem_iff, List.mem_append, mem_ids_outside F i hnd hi, or_comm]

theorem nodup_replaceSub (F : Forest) (i : Nat) (s' : Forest) (hnd : F.ids.Nodup) (hi : i ∈ F.locs)
    (hs' : s'.ids.Nodup) (hfresh : ∀ x ∈ s'.ids, x ∈ F.ids → x ∈ (F.subOf i).ids) :
    (F.replaceSub i s').ids.Nodup := by
  refine (ids_replaceSub_perm s' F hnd hi).nodup_iff.2 (List.nodup_append.2 ⟨hs', ?_, ?_⟩)
  · exact (List.nodup_append.1 ((ids_subOf_perm hnd hi).nodup_iff.1 hnd)).2.1
  · intro a ha b hb e; subst e
    obtain ⟨hF, hn⟩ := (mem_ids_outside F i hnd hi a).1 hb
    exact hn (hfresh a ha hF)
end Forest

theorem vals_ov_notin (d : Doc) (i : Nat) (x : Val) (F : Forest) (h : i ∉ F.locs) :
    vals d (ov1 i x) F = vals d noOv F := by
  induction F with
  | nil => rfl
  | cons k j s r ihs ihr =>
    simp only [Forest.locs, List.mem_cons, List.mem_append, not_or] at h
    simp only [vals, ihs h.2.1, ihr h.2.2, ov1, if_neg (Ne.symm h.1), noOv]

/-- agreement of `d'` with `d` on slot `j`: same cell, and the scalar stored there reads the same -/
def Good (d d' : Doc) (j : Nat) : Prop :=
  d'.cell j = d.cell j ∧ d'.scalar (d.get (.slot j)) = d.scalar (d.get (.slot j))

theorem agree_of_good {d d' : Doc} (hn : d'.null = d.null) {js : List Nat} (h : ∀ j ∈ js, Good d d' j) :
    Agree d d' js ∧ SAgree d d' js :=
  ⟨⟨hn, fun j hj => (h j hj).1⟩, fun j hj => (h j hj).2⟩

theorem keyB_good {d d' : Doc} {key : Option Nat} (h : ∀ k ∈ Forest.keyL key, Good d d' k) : keyB d' key = keyB d key := by
  cases key with
  | none => rfl
  | some k =>
    have hk := h k (by simp [Forest.keyL])
    simp only [keyB, get_of_cell hk.1]
    exact keyOfV_of_scalar hk.2

theorem VOK_coll_of_ne_nil {d : Doc} {v : VData} {s : Forest} (h : VOK d v s) (hne : s ≠ .nil) :
    ∃ b hd, Lk d b hd s ∧ isColl v := by
  cases v
  case arr hd t => exact ⟨false, hd, h.1, trivial⟩
  case obj hd t => exact ⟨true, hd, h.1, trivial⟩
  all_goals exact absurd h hne

theorem VOK_replace {d d' : Doc} {v : VData} {s s2 : Forest} (hn : d'.null = d.null) (h : VOK d v s) (hc : isColl v)
    (htop : s2.top = s.top) (hl : ∀ b hd, Lk d b hd s → Lk d' b hd s2) : VOK d' v s2 := by
  cases v
  case arr hd t => exact ⟨hl _ _ h.1, by rw [htop, hn]; exact h.2⟩
  case obj hd t => exact ⟨hl _ _ h.1, by rw [htop, hn]; exact h.2⟩
  all_goals exact absurd hc (by simp [isColl])

theorem mkVal_coll {d d' : Doc} {v : VData} (hc : isColl v) (sub) : mkVal d' v sub = mkVal d v sub := by
  cases v <;> first | rfl | exact absurd hc (by simp [isColl])

/-- a chain node whose own cells are kept is laid out in `d'` as soon as its sub-layout and the rest of its chain are -/
theorem Lk_cons_kept {d d' : Doc} {b : Bool} {h : Nat} {key : Option Nat} {j : Nat} {s r s2 r2 : Forest}
    (hn : d'.null = d.null) (gk : ∀ q ∈ Forest.keyL key, Good d d' q) (gj : d'.cell j = d.cell j)
    (hl : Lk d b h (.cons key j s r)) (hs : VOK d (d.get (.slot j)) s → VOK d' (d.get (.slot j)) s2)
    (hr : Lk d b (d.nextOf j) r → Lk d' b (d.nextOf j) r2) : Lk d' b h (.cons key j s2 r2) := by
  rw [Lk_cons] at hl ⊢
  obtain ⟨h1, h2, h3, h4, h5⟩ := hl
  refine ⟨KeyOK_congr hn (fun k hk => (gk k hk).1) h1, hn ▸ h2, isVar_congr gj hn h3, ?_, ?_⟩
  · rw [nextOf_of_cell gj hn]; exact hr h4
  · rw [get_of_cell gj]; exact hs h5

/-- `ctx` with its frame hypothesis stated on the slots of `F.replaceSub i .nil` (those outside the layout below `i`) -/
theorem ctx_outside {d d' : Doc} {i : Nat} {v' : VData} {s' : Forest}
    (hn : d'.null = d.null) (hi : d'.cell i = .var v' (d.nextOf i)) (hv' : VOK d' v' s') :
    ∀ (F : Forest), F.ids.Nodup → i ∈ F.locs → ∀ (b : Bool) (h : Nat), Lk d b h F →
      (∀ x ∈ (F.replaceSub i .nil).ids, x ≠ i → Good d d' x) →
      Lk d' b h (F.replaceSub i s') ∧ vals d' noOv (F.replaceSub i s') = vals d (ov1 i (d'.valOf v' s')) F := by
  refine Forest.loc_induction ?_ ?_ ?_
  · intro key s r hnd b h hl hout
    obtain ⟨_, _, _, njr, _, nk⟩ := Forest.nodup_cons hnd
    rw [Forest.replaceSub_here] at hout ⊢
    have gk : ∀ q ∈ Forest.keyL key, Good d d' q := fun q hq => hout q (by simp [Forest.ids, hq]) (nk q hq).1
    obtain ⟨ar, sr⟩ := agree_of_good hn (js := r.ids) (fun x hx => hout x (by simp [Forest.ids, hx]) (fun e => njr (e ▸ hx)))
    rw [Lk_cons] at hl
    obtain ⟨h1, h2, _, h4, _⟩ := hl
    constructor
    · rw [Lk_cons]
      refine ⟨KeyOK_congr hn (fun k hk => (gk k hk).1) h1, hn ▸ h2, isVar_of_var hi, ?_, ?_⟩
      · rw [nextOf_of_var hi]; exact Lk_congr r ar h4
      · rw [get_of_var hi]; exact hv'
    · simp only [vals, noOv, ov1, if_true, Option.getD_none, Option.getD_some, get_of_var hi]
      rw [vals_congr _ r ar sr, keyB_good gk, vals_ov_notin d i _ r (fun m => njr (r.locs_sub_ids i m))]
      rfl
  · intro key j s r hnd hji his hir ih b h hl hout
    obtain ⟨_, _, _, _, nsr, nk⟩ := Forest.nodup_cons hnd
    rw [Forest.replaceSub_below s _ hji hir] at hout ⊢
    have hi_s := s.locs_sub_ids i his
    have gk : ∀ q ∈ Forest.keyL key, Good d d' q := fun q hq =>
      hout q (by simp [Forest.ids, hq]) (fun e => (nk q hq).2.1 (e ▸ hi_s))
    have gj : Good d d' j := hout j (by simp [Forest.ids]) hji
    obtain ⟨ar, sr⟩ := agree_of_good hn (js := r.ids)
      (fun x hx => hout x (by simp [Forest.ids, hx]) (fun e => nsr i hi_s (e ▸ hx)))
    have houts : ∀ x ∈ (s.replaceSub i .nil).ids, x ≠ i → Good d d' x := fun x hx => hout x (by simp [Forest.ids, hx])
    have h5 := Lk_below hl
    obtain ⟨bb, hd, hls, hcoll⟩ := VOK_coll_of_ne_nil h5 (by intro e; subst e; cases his)
    constructor
    · exact Lk_cons_kept hn gk gj.1 hl
        (fun h5 => VOK_replace hn h5 hcoll (Forest.top_replaceSub i s' s) (fun b' hd' hl' => (ih b' hd' hl' houts).1))
        (Lk_congr r ar)
    · simp only [vals, noOv, ov1, if_neg hji, Option.getD_none, get_of_cell gj.1]
      rw [vals_congr _ r ar sr, keyB_good gk, vals_ov_notin d i _ r hir, mkVal_coll hcoll, (ih bb hd hls houts).2]
  · intro key j s r hnd hji his hir ih b h hl hout
    obtain ⟨_, _, _, _, nsr, nk⟩ := Forest.nodup_cons hnd
    rw [Forest.replaceSub_right r _ hji his] at hout ⊢
    have hi_r := r.locs_sub_ids i hir
    have gk : ∀ q ∈ Forest.keyL key, Good d d' q := fun q hq =>
      hout q (by simp [Forest.ids, hq]) (fun e => (nk q hq).2.2 (e ▸ hi_r))
    have gj : Good d d' j := hout j (by simp [Forest.ids]) hji
    obtain ⟨as, ss⟩ := agree_of_good hn (js := s.ids)
      (fun x hx => hout x (by simp [Forest.ids, hx]) (fun e => nsr x hx (e ▸ hi_r)))
    have ih' := ih b (d.nextOf j) (Lk_rest hl) (fun x hx => hout x (by simp [Forest.ids, hx]))
    constructor
    · exact Lk_cons_kept hn gk gj.1 hl (VOK_congr as) (fun _ => ih'.1)
    · simp only [vals, noOv, ov1, if_neg hji, Option.getD_none, get_of_cell gj.1]
      rw [vals_congr _ s as ss, keyB_good gk, vals_ov_notin d i _ s his, mkVal_congr gj.2, ← ih'.2]

/-- Context lemma. `d` lays out the chain from `h` as `F`; `d'` differs from `d` only in slot `i` (a value slot of `F`)
    and below it (and possibly in slots outside `F`), where it now holds `v'` laid out as `s'`, with the same `next`
    link. Then `d'` lays out the chain as `F` with the layout below `i` replaced, and the abstract members are those
    of `d` with the value of slot `i` overridden by the new value: nothing else changed. -/
theorem ctx {d d' : Doc} {i : Nat} {v' : VData} {s' : Forest}
    (hn : d'.null = d.null) (hi : d'.cell i = .var v' (d.nextOf i)) (hv' : VOK d' v' s') :
    ∀ (F : Forest) {b : Bool} {h : Nat}, Lk d b h F → F.ids.Nodup → i ∈ F.locs →
      (∀ j ∈ F.ids, j ≠ i → j ∉ (F.subOf i).ids → Good d d' j) →
      Lk d' b h (F.replaceSub i s') ∧ vals d' noOv (F.replaceSub i s') = vals d (ov1 i (d'.valOf v' s')) F :=
  fun F b h hl hnd hmem hout => ctx_outside hn hi hv' F hnd hmem b h hl (fun x hx hxi =>
    have hx' := (Forest.mem_ids_outside F i hnd hmem x).1 hx
    hout x hx'.1 hxi hx'.2)

theorem Forest.Lk_subOf {d : Doc} (F : Forest) {i : Nat} : ∀ {b : Bool} {h : Nat}, Lk d b h F → F.ids.Nodup → i ∈ F.locs →
    d.isVar i ∧ i ≠ d.null ∧ VOK d (d.get (.slot i)) (F.subOf i) := by
  intro b h hl hnd hi
  refine Forest.loc_induction (motive := fun F => ∀ (b : Bool) (h : Nat), Lk d b h F →
    d.isVar i ∧ i ≠ d.null ∧ VOK d (d.get (.slot i)) (F.subOf i)) ?_ ?_ ?_ F hnd hi b h hl
  · intro k s r _ b h hl
    obtain ⟨_, h2, h3, _, h5⟩ := (Lk_cons ..).1 hl
    rw [Forest.subOf_here]; exact ⟨h3, h2, h5⟩
  · intro k j s r _ hji his _ ih b h hl
    obtain ⟨bb, hd, hls, _⟩ := VOK_coll_of_ne_nil (Lk_below hl) (by intro e; subst e; cases his)
    rw [Forest.subOf_below r hji his]; exact ih bb hd hls
  · intro k j s r _ hji his _ ih b h hl
    rw [Forest.subOf_right r hji his]; exact ih b _ (Lk_rest hl)

end DL
