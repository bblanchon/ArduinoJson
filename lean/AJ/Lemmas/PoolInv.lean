/- Invariant of the slot-pool allocator model `PL` (MemoryPoolList) and its preservation by every routine.
   Used by AJ/Props/C19.lean (properties C19, C06, C05). -/
import AJ.Model.PL
namespace PL

/-! ## Geometry -/

/-- Side condition on the configuration: a pool has at least one slot and the inline pool table has at least
    one entry. Nothing is assumed about `idBytes`, nor that `poolCap` divides the id range. -/
structure GeoOK (g : Geo) : Prop where
  pool_pos : 1 ≤ g.poolCap
  init_pos : 1 ≤ g.initPools

theorem Geo.width_pos (g : Geo) : 0 < 2 ^ (8 * g.idBytes) := Nat.pow_pos (by decide)

theorem Geo.nullSlot_lt (g : Geo) : g.nullSlot < 2 ^ (8 * g.idBytes) := by
  have := g.width_pos; unfold Geo.nullSlot; omega

theorem Geo.maxPools_lt (g : Geo) : g.maxPools < 2 ^ (8 * g.idBytes) :=
  Nat.mod_lt _ g.width_pos

theorem Geo.maxPools_le (g : Geo) : g.maxPools ≤ g.nullSlot / g.poolCap + 1 :=
  Nat.mod_le _ _

theorem Geo.wrap_of_lt (g : Geo) {n : Nat} (h : n < 2 ^ (8 * g.idBytes)) : g.wrap n = n :=
  Nat.mod_eq_of_lt h

theorem Geo.wrap_of_le_null (g : Geo) {n : Nat} (h : n ≤ g.nullSlot) : g.wrap n = n :=
  g.wrap_of_lt (Nat.lt_of_le_of_lt h g.nullSlot_lt)

/-- a pool that is not the last possible one fits entirely below `nullSlot` -/
theorem Geo.inner_pool_fits (g : Geo) {i : Nat} (h : i + 1 < g.maxPools) :
    i * g.poolCap + g.poolCap ≤ g.nullSlot := by
  have h1 : i + 1 ≤ g.nullSlot / g.poolCap := by have := g.maxPools_le; omega
  have h2 : (i + 1) * g.poolCap ≤ g.nullSlot / g.poolCap * g.poolCap := Nat.mul_le_mul_right _ h1
  have h3 : g.nullSlot / g.poolCap * g.poolCap ≤ g.nullSlot := Nat.div_mul_le_self _ _
  have h4 : (i + 1) * g.poolCap = i * g.poolCap + g.poolCap := Nat.succ_mul _ _
  omega

/-- capacity given to the pool that reaches `maxPools` (rule of `addPool` after the repair) -/
def Geo.lastCap (g : Geo) : Nat := g.nullSlot - (g.maxPools - 1) * g.poolCap

/-- the last possible pool has at most `poolCap` slots and ends exactly at or before `nullSlot` -/
theorem Geo.last_pool_fits (g : Geo) (ok : GeoOK g) {i : Nat} (h : i + 1 = g.maxPools) :
    g.lastCap ≤ g.poolCap ∧ i * g.poolCap + g.lastCap ≤ g.nullSlot := by
  have hW := g.width_pos
  have hq : g.nullSlot / g.poolCap ≤ g.nullSlot := Nat.div_le_self _ _
  have hn : g.nullSlot + 1 = 2 ^ (8 * g.idBytes) := by unfold Geo.nullSlot; omega
  have hM : g.maxPools = g.nullSlot / g.poolCap + 1 := by
    unfold Geo.maxPools
    rcases Nat.lt_or_ge (g.nullSlot / g.poolCap + 1) (2 ^ (8 * g.idBytes)) with h1 | h1
    · exact Nat.mod_eq_of_lt h1
    · have h2 : g.nullSlot / g.poolCap + 1 = 2 ^ (8 * g.idBytes) := by omega
      have h3 : g.maxPools = 0 := by unfold Geo.maxPools; rw [h2]; exact Nat.mod_self _
      omega
  have hi : g.maxPools - 1 = g.nullSlot / g.poolCap := by omega
  have h3 : g.poolCap * (g.nullSlot / g.poolCap) + g.nullSlot % g.poolCap = g.nullSlot := Nat.div_add_mod _ _
  have h4 : g.poolCap * (g.nullSlot / g.poolCap) = g.nullSlot / g.poolCap * g.poolCap := Nat.mul_comm _ _
  have h5 : g.nullSlot % g.poolCap < g.poolCap := Nat.mod_lt _ ok.pool_pos
  have h6 : i = g.nullSlot / g.poolCap := by omega
  unfold Geo.lastCap
  rw [hi, h6]
  omega

/-- nominal capacity of pool number `i` -/
def Geo.nomCap (g : Geo) (i : Nat) : Nat :=
  if i + 1 = g.maxPools then g.nullSlot - (g.maxPools - 1) * g.poolCap else g.poolCap

theorem Geo.nomCap_beq (g : Geo) (i : Nat) :
    (if (i + 1 == g.maxPools) = true then g.nullSlot - (g.maxPools - 1) * g.poolCap else g.poolCap) = g.nomCap i := by
  unfold Geo.nomCap; simp only [beq_iff_eq]

/-- the nominal capacity keeps pool number `n` within `poolCap` and below `nullSlot` -/
theorem Geo.nomCap_fits (g : Geo) (ok : GeoOK g) {n : Nat} (h : n < g.maxPools) :
    g.nomCap n ≤ g.poolCap ∧ n * g.poolCap + g.nomCap n ≤ g.nullSlot := by
  unfold Geo.nomCap
  split
  · rename_i he; exact g.last_pool_fits ok he
  · exact ⟨Nat.le_refl _, g.inner_pool_fits (by omega)⟩

/-! ## Pool lists -/

/-- ghost set: ids handed out from the pools so far (`i·poolCap + j` with `j < usage` of pool `i`) -/
def allocP (c : Nat) (ps : List Pool) (x : Nat) : Prop :=
  ∃ i p, ps[i]? = some p ∧ i * c ≤ x ∧ x < i * c + p.usage

/-- every pool: `usage ≤ cap ≤ poolCap`, and the whole pool lies below `n` (= `nullSlot`) -/
def PoolsOK (c n : Nat) (ps : List Pool) : Prop :=
  ∀ i p, ps[i]? = some p → p.usage ≤ p.cap ∧ p.cap ≤ c ∧ i * c + p.cap ≤ n

theorem getElem?_snoc {α} (ps : List α) (p q : α) (i : Nat) :
    (ps ++ [p])[i]? = some q ↔ ps[i]? = some q ∨ (i = ps.length ∧ q = p) := by
  by_cases h : i < ps.length
  · rw [List.getElem?_append_left h]
    constructor
    · exact Or.inl
    · rintro (h' | ⟨h', _⟩)
      · exact h'
      · omega
  · rw [List.getElem?_append_right (by omega)]
    have hn : ps[i]? = none := List.getElem?_eq_none (by omega)
    rw [hn]
    by_cases h2 : i = ps.length
    · subst h2; simp [eq_comm]
    · have : i - ps.length ≠ 0 := by omega
      cases hk : i - ps.length with
      | zero => omega
      | succ k => simp [h2]

theorem allocP_nil (c x : Nat) : ¬ allocP c [] x := by
  rintro ⟨i, p, h, _⟩; simp at h

theorem allocP_snoc (c : Nat) (ps : List Pool) (p : Pool) (x : Nat) :
    allocP c (ps ++ [p]) x ↔ allocP c ps x ∨ (ps.length * c ≤ x ∧ x < ps.length * c + p.usage) := by
  constructor
  · rintro ⟨i, q, h, h1, h2⟩
    rcases (getElem?_snoc ps p q i).1 h with h | ⟨rfl, rfl⟩
    · exact Or.inl ⟨i, q, h, h1, h2⟩
    · exact Or.inr ⟨h1, h2⟩
  · rintro (⟨i, q, h, h1, h2⟩ | ⟨h1, h2⟩)
    · exact ⟨i, q, (getElem?_snoc ps p q i).2 (Or.inl h), h1, h2⟩
    · exact ⟨ps.length, p, (getElem?_snoc ps p p _).2 (Or.inr ⟨rfl, rfl⟩), h1, h2⟩

theorem PoolsOK_nil (c n : Nat) : PoolsOK c n [] := by
  intro i p h; simp at h

theorem PoolsOK_snoc (c n : Nat) (ps : List Pool) (p : Pool) :
    PoolsOK c n (ps ++ [p]) ↔
      PoolsOK c n ps ∧ (p.usage ≤ p.cap ∧ p.cap ≤ c ∧ ps.length * c + p.cap ≤ n) := by
  constructor
  · intro h
    exact ⟨fun i q hq => h i q ((getElem?_snoc ps p q i).2 (Or.inl hq)),
           h ps.length p ((getElem?_snoc ps p p _).2 (Or.inr ⟨rfl, rfl⟩))⟩
  · rintro ⟨h1, h2⟩ i q hq
    rcases (getElem?_snoc ps p q i).1 hq with hq | ⟨rfl, rfl⟩
    · exact h1 i q hq
    · exact h2

/-- ids handed out lie below the start of the next pool -/
theorem allocP_lt_len {c n : Nat} {ps : List Pool} (ok : PoolsOK c n ps) {x : Nat} (h : allocP c ps x) :
    x < ps.length * c := by
  obtain ⟨i, p, hp, _, h2⟩ := h
  have hi : i < ps.length := by
    rcases Nat.lt_or_ge i ps.length with h | h
    · exact h
    · rw [List.getElem?_eq_none h] at hp; cases hp
  obtain ⟨a, b, _⟩ := ok i p hp
  have h3 : (i + 1) * c ≤ ps.length * c := Nat.mul_le_mul_right _ hi
  have h4 : (i + 1) * c = i * c + c := Nat.succ_mul _ _
  omega

/-- ids handed out are below `n` -/
theorem allocP_lt_null {c n : Nat} {ps : List Pool} (ok : PoolsOK c n ps) {x : Nat} (h : allocP c ps x) :
    x < n := by
  obtain ⟨i, p, hp, _, h2⟩ := h
  obtain ⟨a, b, d⟩ := ok i p hp
  omega

/-! ## States -/

/-- ghost set of ids handed out from the pools of `s` -/
def allocated (g : Geo) (s : St) (x : Nat) : Prop := allocP g.poolCap s.pools x

/-- live slots: handed out and not in the free list -/
def live (g : Geo) (s : St) (x : Nat) : Prop := allocated g s x ∧ x ∉ s.free

structure Inv (g : Geo) (s : St) : Prop where
  /-- never more pools than `maxPools` -/
  len_max : s.pools.length ≤ g.maxPools
  /-- the pools fit in the pool table -/
  len_tab : s.pools.length ≤ s.tableCap
  tab_pos : 1 ≤ s.tableCap
  tab_bound : s.tableCap ≤ max g.initPools g.maxPools
  /-- the inline table has `initPools` entries -/
  inline_cap : s.tableHeap = false → s.tableCap = g.initPools
  heap_len : s.tableHeap = true → 1 ≤ s.pools.length
  /-- `usage ≤ cap ≤ poolCap` and pool `i` ends at or before `nullSlot` -/
  pools_ok : PoolsOK g.poolCap g.nullSlot s.pools
  /-- every pool but the last is full -/
  full_init : ∀ q ∈ s.pools.dropLast, q.usage = q.cap
  /-- a pool whose block could not be allocated has capacity 0 -/
  noblock : ∀ q ∈ s.pools, q.hasBlock = false → q.cap = 0
  /-- every id in the free list was handed out before -/
  free_alloc : ∀ x ∈ s.free, allocated g s x
  free_nodup : s.free.Nodup

theorem Inv.congr {g : Geo} {s s' : St} (hI : Inv g s) (h1 : s'.pools = s.pools) (h2 : s'.tableCap = s.tableCap)
    (h3 : s'.tableHeap = s.tableHeap) (h4 : s'.free = s.free) : Inv g s' := by
  obtain ⟨a1, a2, a3, a4, a5, a6, a7, a8, a9, a10, a11⟩ := hI
  constructor <;> simp only [allocated, h1, h2, h3, h4] <;> assumption

/-- The last pool may be replaced by one that has handed out at least as much and whose capacity is no larger. -/
theorem Inv.set_last {g : Geo} {s s' : St} {ps : List Pool} {p p' : Pool} (hI : Inv g s)
    (hs : s.pools = ps ++ [p]) (hs' : s'.pools = ps ++ [p']) (h2 : s'.tableCap = s.tableCap)
    (h3 : s'.tableHeap = s.tableHeap) (h4 : s'.free = s.free)
    (hu : p.usage ≤ p'.usage) (hc : p'.usage ≤ p'.cap) (hcap : p'.cap ≤ p.cap)
    (hb : p'.hasBlock = false → p'.cap = 0) : Inv g s' := by
  obtain ⟨okps, hp1, hp2, hp3⟩ := (PoolsOK_snoc _ _ ps p).1 (by rw [← hs]; exact hI.pools_ok)
  have hlen : s'.pools.length = s.pools.length := by
    rw [hs, hs', List.length_append, List.length_append]; rfl
  constructor
  · rw [hlen]; exact hI.len_max
  · rw [hlen, h2]; exact hI.len_tab
  · rw [h2]; exact hI.tab_pos
  · rw [h2]; exact hI.tab_bound
  · rw [h2, h3]; exact hI.inline_cap
  · rw [hlen, h3]; exact hI.heap_len
  · rw [hs', PoolsOK_snoc]; exact ⟨okps, hc, by omega, by omega⟩
  · have := hI.full_init
    rw [hs, List.dropLast_concat] at this
    rw [hs', List.dropLast_concat]; exact this
  · intro q hq hqb
    rw [hs'] at hq
    rcases List.mem_append.1 hq with hq | hq
    · exact hI.noblock q (by rw [hs]; exact List.mem_append_left _ hq) hqb
    · cases List.mem_singleton.1 hq; exact hb hqb
  · intro x hx
    have := hI.free_alloc x (h4 ▸ hx)
    unfold allocated at this ⊢
    rw [hs, allocP_snoc] at this
    rw [hs', allocP_snoc]
    rcases this with h | h
    · exact Or.inl h
    · exact Or.inr ⟨h.1, by omega⟩
  · rw [h4]; exact hI.free_nodup

/-- A fresh, unused pool may be appended once every pool is full, if it fits below `nullSlot` and in the table. -/
theorem Inv.snoc {g : Geo} {s s' : St} {p : Pool} (hI : Inv g s) (hfull : ∀ q ∈ s.pools, q.usage = q.cap)
    (hs' : s'.pools = s.pools ++ [p]) (h4 : s'.free = s.free) (hu : p.usage = 0) (hcap : p.cap ≤ g.poolCap)
    (hfit : s.pools.length * g.poolCap + p.cap ≤ g.nullSlot) (hb : p.hasBlock = false → p.cap = 0)
    (hmax : s.pools.length < g.maxPools) (htab : s.pools.length < s'.tableCap)
    (hbound : s'.tableCap ≤ max g.initPools g.maxPools)
    (hinl : s'.tableHeap = false → s'.tableCap = g.initPools) : Inv g s' := by
  have hlen : s'.pools.length = s.pools.length + 1 := by rw [hs', List.length_append]; rfl
  constructor
  · rw [hlen]; exact hmax
  · rw [hlen]; exact htab
  · omega
  · exact hbound
  · exact hinl
  · intro _; rw [hlen]; exact Nat.le_add_left _ _
  · rw [hs', PoolsOK_snoc]; exact ⟨hI.pools_ok, by omega, hcap, hfit⟩
  · rw [hs', List.dropLast_concat]; exact hfull
  · intro q hq hqb
    rw [hs'] at hq
    rcases List.mem_append.1 hq with hq | hq
    · exact hI.noblock q hq hqb
    · cases List.mem_singleton.1 hq; exact hb hqb
  · intro x hx
    unfold allocated
    rw [hs', allocP_snoc]
    exact Or.inl (hI.free_alloc x (h4 ▸ hx))
  · rw [h4]; exact hI.free_nodup

/-- the failure oracle: does allocator call number `n` fail? (`failAt`: listed positions; `failFrom k`: every call
    from position `k` on) — the expression used by `St.alloc` / `St.realloc` -/
def St.failsAt (s : St) (n : Nat) : Bool :=
  s.failAt.contains n || (match s.failFrom with | some k => n ≥ k | none => false)

/-! ### the allocator oracle only touches `calls` and `log` -/
section oracle
variable (s : St) (n : Nat) (b : Bool)
theorem alloc_fst : (s.alloc n).1 = !s.failsAt (s.calls + 1) := rfl
theorem realloc_fst : (s.realloc n b).1 = !(b && s.failsAt (s.calls + 1)) := rfl
@[simp] theorem alloc_failFrom : (s.alloc n).2.failFrom = s.failFrom := rfl
@[simp] theorem realloc_failFrom : (s.realloc n b).2.failFrom = s.failFrom := rfl
@[simp] theorem dealloc_failFrom : s.dealloc.failFrom = s.failFrom := rfl
@[simp] theorem alloc_pools : (s.alloc n).2.pools = s.pools := rfl
@[simp] theorem alloc_free : (s.alloc n).2.free = s.free := rfl
@[simp] theorem alloc_tableCap : (s.alloc n).2.tableCap = s.tableCap := rfl
@[simp] theorem alloc_tableHeap : (s.alloc n).2.tableHeap = s.tableHeap := rfl
@[simp] theorem alloc_failAt : (s.alloc n).2.failAt = s.failAt := rfl
@[simp] theorem alloc_calls : (s.alloc n).2.calls = s.calls + 1 := rfl
@[simp] theorem realloc_pools : (s.realloc n b).2.pools = s.pools := rfl
@[simp] theorem realloc_free : (s.realloc n b).2.free = s.free := rfl
@[simp] theorem realloc_tableCap : (s.realloc n b).2.tableCap = s.tableCap := rfl
@[simp] theorem realloc_tableHeap : (s.realloc n b).2.tableHeap = s.tableHeap := rfl
@[simp] theorem realloc_failAt : (s.realloc n b).2.failAt = s.failAt := rfl
@[simp] theorem realloc_calls : (s.realloc n b).2.calls = s.calls + 1 := rfl
@[simp] theorem dealloc_pools : s.dealloc.pools = s.pools := rfl
@[simp] theorem dealloc_free : s.dealloc.free = s.free := rfl
@[simp] theorem dealloc_tableCap : s.dealloc.tableCap = s.tableCap := rfl
@[simp] theorem dealloc_tableHeap : s.dealloc.tableHeap = s.tableHeap := rfl
@[simp] theorem dealloc_failAt : s.dealloc.failAt = s.failAt := rfl
@[simp] theorem dealloc_calls : s.dealloc.calls = s.calls := rfl
@[simp] theorem dealloc_log : s.dealloc.log = "D" :: s.log := rfl
end oracle

/-! ### allocFromLastPool -/

theorem pools_eq_snoc {s : St} {p : Pool} (h : s.pools.getLast? = some p) :
    s.pools = s.pools.dropLast ++ [p] :=
  by
  obtain ⟨ys, hy⟩ := List.getLast?_eq_some_iff.1 h
  rw [hy, List.dropLast_concat]

theorem allocFromLastPool_some {g : Geo} {s s' : St} {id : Nat}
    (h : allocFromLastPool g s = (some id, s')) :
    ∃ ps p, s.pools = ps ++ [p] ∧ p.hasBlock = true ∧ p.usage < p.cap ∧
      id = g.wrap (ps.length * g.poolCap + p.usage) ∧
      s' = { s with pools := ps ++ [{ p with usage := p.usage + 1 }] } := by
  unfold allocFromLastPool at h
  split at h
  · cases h
  · rename_i p hp
    have hs := pools_eq_snoc hp
    split at h
    · cases h
    · split at h
      · cases h
      · rename_i hb hu
        refine ⟨s.pools.dropLast, p, hs, by simpa using hb, by simpa using hu, ?_, ?_⟩
        · simp only [Prod.mk.injEq, Option.some.injEq] at h
          rw [← h.1, List.length_dropLast]
        · simp only [Prod.mk.injEq] at h
          exact h.2.symm

theorem allocFromLastPool_none {g : Geo} {s s' : St}
    (h : allocFromLastPool g s = (none, s')) :
    s' = s ∧ (s.pools = [] ∨ ∃ ps p, s.pools = ps ++ [p] ∧ (p.hasBlock = false ∨ p.cap ≤ p.usage)) := by
  unfold allocFromLastPool at h
  split at h
  · rename_i hp
    simp only [Prod.mk.injEq, true_and] at h
    exact ⟨h.symm, Or.inl (by simpa using hp)⟩
  · rename_i p hp
    have hs := pools_eq_snoc hp
    split at h
    · rename_i hb
      simp only [Prod.mk.injEq, true_and] at h
      exact ⟨h.symm, Or.inr ⟨_, p, hs, Or.inl (by simpa using hb)⟩⟩
    · split at h
      · rename_i hu
        simp only [Prod.mk.injEq, true_and] at h
        exact ⟨h.symm, Or.inr ⟨_, p, hs, Or.inr (by simpa using hu)⟩⟩
      · simp at h

theorem allocP_snoc_succ (c : Nat) (ps : List Pool) (p : Pool) (x : Nat) :
    allocP c (ps ++ [{ p with usage := p.usage + 1 }]) x ↔ allocP c (ps ++ [p]) x ∨ x = ps.length * c + p.usage := by
  rw [allocP_snoc, allocP_snoc]
  constructor
  · rintro (h | h)
    · exact Or.inl (Or.inl h)
    · by_cases hx : x = ps.length * c + p.usage
      · exact Or.inr hx
      · exact Or.inl (Or.inr ⟨h.1, by have := h.2; simp only at this; omega⟩)
  · rintro ((h | h) | h)
    · exact Or.inl h
    · exact Or.inr ⟨h.1, by simp only; omega⟩
    · exact Or.inr ⟨by omega, by simp only; omega⟩

/-- a successful `allocFromLastPool`: the id is the next unused one of the last pool, un-wrapped, below NULL, fresh -/
theorem allocFromLastPool_ok {g : Geo} {s s' : St} {id : Nat} (hI : Inv g s)
    (h : allocFromLastPool g s = (some id, s')) :
    id < g.nullSlot ∧ ¬ allocated g s id ∧ (∀ x, allocated g s' x ↔ allocated g s x ∨ x = id) ∧
      Inv g s' ∧ s'.free = s.free ∧ s'.failAt = s.failAt ∧
      (∃ ps p, s.pools = ps ++ [p] ∧ id = ps.length * g.poolCap + p.usage) := by
  obtain ⟨ps, p, hs, hb, hu, hid, rfl⟩ := allocFromLastPool_some h
  obtain ⟨okps, hp1, hp2, hp3⟩ := (PoolsOK_snoc _ _ ps p).1 (by rw [← hs]; exact hI.pools_ok)
  have hid' : id = ps.length * g.poolCap + p.usage := by
    rw [hid]; exact g.wrap_of_le_null (by omega)
  refine ⟨by omega, ?_, ?_, ?_, rfl, rfl, ps, p, hs, hid'⟩
  · unfold allocated
    rw [hs, allocP_snoc]
    rintro (h1 | h1)
    · have := allocP_lt_len okps h1; omega
    · omega
  · intro x
    unfold allocated
    rw [hs, hid']
    exact allocP_snoc_succ _ ps p x
  · exact hI.set_last hs rfl rfl rfl rfl (Nat.le_succ _) hu (Nat.le_refl _)
      (fun h' => by rw [hb] at h'; cases h')

/-! ### increaseCapacity -/

theorem mod_double_ne {t W : Nat} (ht : t < W) (h : (t * 2) % W = t) : t = 0 := by
  by_cases h1 : t * 2 < W
  · rw [Nat.mod_eq_of_lt h1] at h; omega
  · rw [Nat.mod_eq_sub_mod (by omega), Nat.mod_eq_of_lt (by omega)] at h; omega

theorem increaseCapacity_spec {g : Geo} {s s' : St} {ok : Bool} (h : increaseCapacity g s = (ok, s')) :
    s'.pools = s.pools ∧ s'.free = s.free ∧ s'.failAt = s.failAt ∧
    (ok = false → s'.tableCap = s.tableCap ∧ s'.tableHeap = s.tableHeap) ∧
    (ok = true → s'.tableHeap = true ∧ s'.tableCap ≤ g.maxPools ∧ (1 ≤ s.tableCap → s.tableCap < s'.tableCap)) := by
  unfold increaseCapacity at h
  split at h
  · cases h; simp
  · rename_i hlt
    simp only at h
    generalize hnc : (if (decide (g.wrap (s.tableCap * 2) > g.maxPools) ||
        decide (g.wrap (s.tableCap * 2) < s.tableCap)) = true then g.maxPools
        else g.wrap (s.tableCap * 2)) = nc at h
    have hnc1 : nc ≤ g.maxPools ∧ (1 ≤ s.tableCap → s.tableCap < nc) := by
      rw [← hnc]
      split
      · omega
      · rename_i hc
        simp only [Bool.or_eq_true, decide_eq_true_eq, not_or, Nat.not_lt] at hc
        refine ⟨by omega, fun hpos => ?_⟩
        have hne : g.wrap (s.tableCap * 2) ≠ s.tableCap := by
          intro he
          have := mod_double_ne (Nat.lt_trans (Nat.lt_of_not_ge hlt) g.maxPools_lt) he
          omega
        omega
    obtain ⟨hncA, hncB⟩ := hnc1
    split at h
    · split at h
      · cases h; exact ⟨rfl, rfl, rfl, fun _ => ⟨rfl, rfl⟩, fun h => Bool.noConfusion h⟩
      · cases h; exact ⟨rfl, rfl, rfl, fun h => Bool.noConfusion h, fun _ => ⟨rfl, hncA, hncB⟩⟩
    · rename_i hh
      split at h
      · cases h; exact ⟨rfl, rfl, rfl, fun _ => ⟨rfl, rfl⟩, fun h => Bool.noConfusion h⟩
      · cases h; exact ⟨rfl, rfl, rfl, fun h => Bool.noConfusion h, fun _ => ⟨by simpa using hh, hncA, hncB⟩⟩

/-! ### addPool -/

theorem addPool_table {g : Geo} {s s1 : St} {ok1 : Bool} (hI : Inv g s)
    (hr : (if (s.pools.length == s.tableCap) = true then increaseCapacity g s else (true, s)) = (ok1, s1)) :
    s1.pools = s.pools ∧ s1.free = s.free ∧ s1.failAt = s.failAt ∧
    (ok1 = false → s1.tableCap = s.tableCap ∧ s1.tableHeap = s.tableHeap) ∧
    (ok1 = true → s.pools.length < s1.tableCap ∧ s1.tableCap ≤ max g.initPools g.maxPools ∧
      (s1.tableHeap = false → s1.tableCap = g.initPools)) := by
  split at hr
  · rename_i he
    have he' : s.pools.length = s.tableCap := by simpa using he
    obtain ⟨a, b, c, d, e⟩ := increaseCapacity_spec hr
    refine ⟨a, b, c, d, fun hk => ?_⟩
    obtain ⟨e1, e2, e3⟩ := e hk
    have := e3 hI.tab_pos
    refine ⟨by omega, by omega, fun hf => ?_⟩
    rw [e1] at hf; cases hf
  · rename_i he
    have he' : s.pools.length ≠ s.tableCap := by simpa using he
    cases hr
    have := hI.len_tab
    refine ⟨rfl, rfl, rfl, fun h => Bool.noConfusion h, fun _ => ⟨by omega, hI.tab_bound, hI.inline_cap⟩⟩

theorem addPool_at_max {g : Geo} {s : St} (h : g.maxPools ≤ s.pools.length) : addPool g s = (false, s) := by
  unfold addPool; exact if_pos h

/-- `addPool` below `maxPools`, once the pool table has room (`s1`): the new pool gets its nominal capacity if its block
    can be allocated, no block and capacity 0 otherwise -/
theorem addPool_eq {g : Geo} {s s1 : St} {ok1 : Bool} (hlt : s.pools.length < g.maxPools)
    (hr : (if (s.pools.length == s.tableCap) = true then increaseCapacity g s else (true, s)) = (ok1, s1))
    (h1 : s1.pools = s.pools) :
    addPool g s = if !ok1 then (false, s1) else
      (true, { (s1.alloc (g.nomCap s.pools.length * g.slotSize)).2 with
        pools := s.pools ++ [⟨if (s1.alloc (g.nomCap s.pools.length * g.slotSize)).1 then g.nomCap s.pools.length else 0,
          0, (s1.alloc (g.nomCap s.pools.length * g.slotSize)).1⟩] }) := by
  unfold addPool
  rw [if_neg (by omega), hr]
  dsimp only
  rw [h1, g.wrap_of_lt (by have := g.maxPools_lt; omega), Geo.nomCap_beq, alloc_pools, h1]

theorem addPool_ok {g : Geo} {s s' : St} {ok : Bool} (gok : GeoOK g) (hI : Inv g s)
    (hfull : ∀ q ∈ s.pools, q.usage = q.cap) (h : addPool g s = (ok, s')) :
    Inv g s' ∧ s'.free = s.free ∧ s'.failAt = s.failAt ∧
    (ok = false → s'.pools = s.pools) ∧ (ok = true → ∃ p, s'.pools = s.pools ++ [p] ∧ p.usage = 0) := by
  rcases Nat.lt_or_ge s.pools.length g.maxPools with hlt | hge
  · generalize hr : (if (s.pools.length == s.tableCap) = true then increaseCapacity g s else (true, s)) = r
    obtain ⟨ok1, s1⟩ := r
    obtain ⟨t1, t2, t3, t4, t5⟩ := addPool_table hI hr
    rw [addPool_eq hlt hr t1] at h
    cases ok1 with
    | false =>
      cases h
      obtain ⟨t41, t42⟩ := t4 rfl
      exact ⟨hI.congr t1 t41 t42 t2, t2, t3, fun _ => t1, fun h => by cases h⟩
    | true =>
      cases h
      obtain ⟨t51, t52, t53⟩ := t5 rfl
      obtain ⟨hcapA, hcapB⟩ := g.nomCap_fits gok hlt
      refine ⟨?_, t2, t3, fun h => Bool.noConfusion h, fun _ => ⟨_, rfl, rfl⟩⟩
      exact hI.snoc hfull rfl t2 rfl (by simp only; split <;> omega) (by simp only; split <;> omega)
        (fun hg => by simp only at hg; simp only [hg]; rfl) hlt t51 t52 t53
  · rw [addPool_at_max hge] at h
    cases h
    exact ⟨hI, rfl, rfl, fun _ => rfl, fun h => by cases h⟩

/-! ### allocSlot -/

theorem allocP_snoc_zero (c : Nat) (ps : List Pool) (p : Pool) (hp : p.usage = 0) (x : Nat) :
    allocP c (ps ++ [p]) x ↔ allocP c ps x := by
  rw [allocP_snoc, hp]
  constructor
  · rintro (h | h)
    · exact h
    · omega
  · exact Or.inl

/-- when the last pool is absent, block-less or used up, every pool is full -/
theorem Inv.all_full {g : Geo} {s : St} (hI : Inv g s)
    (h : s.pools = [] ∨ ∃ ps p, s.pools = ps ++ [p] ∧ (p.hasBlock = false ∨ p.cap ≤ p.usage)) :
    ∀ q ∈ s.pools, q.usage = q.cap := by
  intro q hq
  rcases h with hn | ⟨ps, p, hs, hp⟩
  · rw [hn] at hq; cases hq
  · have hfi := hI.full_init
    rw [hs, List.dropLast_concat] at hfi
    rw [hs] at hq
    rcases List.mem_append.1 hq with hq | hq
    · exact hfi q hq
    · cases List.mem_singleton.1 hq
      have hle := ((PoolsOK_snoc _ _ ps q).1 (by rw [← hs]; exact hI.pools_ok)).2.1
      rcases hp with hp | hp
      · have := hI.noblock q (by rw [hs]; exact List.mem_append_right _ (List.mem_singleton.2 rfl)) hp
        omega
      · omega

theorem allocFromLastPool_exhausted {g : Geo} {s : St}
    (h : ∀ ps p, s.pools = ps ++ [p] → p.hasBlock = false ∨ p.cap ≤ p.usage) :
    allocFromLastPool g s = (none, s) := by
  unfold allocFromLastPool
  split
  · rfl
  · rename_i p hp
    rcases h _ p (pools_eq_snoc hp) with hb | hu
    · rw [hb]; rfl
    · rw [if_pos (show p.usage ≥ p.cap from hu)]; split <;> rfl

theorem allocSlot_cons {g : Geo} {s : St} {id : Nat} {rest : List Nat} (hf : s.free = id :: rest) :
    allocSlot g s = (some id, { s with free := rest }) := by
  unfold allocSlot; rw [hf]

/-- The three ways through `allocSlot`: a released slot is reused; the last pool has an unused slot; the last pool is
    absent, block-less or used up, `addPool` is tried and, if it succeeds, the new pool is asked. -/
theorem allocSlot_cases {g : Geo} {s : St} {Q : Option Nat × St → Prop}
    (hfree : ∀ id rest, s.free = id :: rest → Q (some id, { s with free := rest }))
    (hlast : ∀ id s1, s.free = [] → allocFromLastPool g s = (some id, s1) → Q (some id, s1))
    (hnew : ∀ ok s2, s.free = [] →
      (s.pools = [] ∨ ∃ ps p, s.pools = ps ++ [p] ∧ (p.hasBlock = false ∨ p.cap ≤ p.usage)) →
      addPool g s = (ok, s2) → Q (if !ok then (none, s2) else allocFromLastPool g s2)) :
    Q (allocSlot g s) := by
  cases hf : s.free with
  | cons id rest => rw [allocSlot_cons hf]; exact hfree id rest hf
  | nil =>
    unfold allocSlot
    rw [hf]
    simp only
    generalize hr1 : (if s.pools.isEmpty then (none, s) else allocFromLastPool g s) = r1
    obtain ⟨r, s1⟩ := r1
    cases r with
    | some id =>
      simp only
      split at hr1
      · cases hr1
      · exact hlast id s1 hf hr1
    | none =>
      simp only
      have hfull : s.pools = [] ∨ ∃ ps p, s.pools = ps ++ [p] ∧ (p.hasBlock = false ∨ p.cap ≤ p.usage) := by
        split at hr1
        · rename_i he; exact Or.inl (List.isEmpty_iff.1 he)
        · exact (allocFromLastPool_none hr1).2
      generalize hr2 : addPool g s = r2
      obtain ⟨ok, s2⟩ := r2
      exact hnew ok s2 hf hfull hr2

theorem allocSlot_nil {g : Geo} {s s' : St} {res : Option Nat} (gok : GeoOK g) (hI : Inv g s)
    (hf : s.free = []) (h : allocSlot g s = (res, s')) :
    Inv g s' ∧ s'.free = [] ∧ s'.failAt = s.failAt ∧
    match res with
    | none => ∀ x, allocated g s' x ↔ allocated g s x
    | some id => id < g.nullSlot ∧ ¬ allocated g s id ∧ ∀ x, allocated g s' x ↔ allocated g s x ∨ x = id := by
  refine allocSlot_cases (Q := fun r => r = (res, s') → _) (fun id rest hc => by rw [hf] at hc; cases hc) ?_ ?_ h
  · intro id s1 _ hr1 h
    cases h
    obtain ⟨a, b, c, d, e, f, _⟩ := allocFromLastPool_ok hI hr1
    exact ⟨d, by rw [e, hf], f, a, b, c⟩
  · intro ok s2 _ hfull hr2 h
    obtain ⟨a, b, c, d, e⟩ := addPool_ok gok hI (hI.all_full hfull) hr2
    have hal : ∀ x, allocated g s2 x ↔ allocated g s x := by
      intro x
      cases ok
      · unfold allocated; rw [d rfl]
      · obtain ⟨p, hp, hu⟩ := e rfl
        unfold allocated; rw [hp]; exact allocP_snoc_zero _ _ _ hu x
    split at h
    · cases h
      exact ⟨a, by rw [b, hf], c, hal⟩
    · cases res with
      | none =>
        obtain ⟨rfl, _⟩ := allocFromLastPool_none h
        exact ⟨a, by rw [b, hf], c, hal⟩
      | some id =>
        obtain ⟨a', b', c', d', e', f', _⟩ := allocFromLastPool_ok a h
        refine ⟨d', by rw [e', b, hf], by rw [f', c], a', ?_, ?_⟩
        · rw [← hal]; exact b'
        · intro x; rw [c', hal]

/-! ### free list, freeSlot, shrink -/

theorem allocSlot_cons_ok {g : Geo} {s : St} {id : Nat} {rest : List Nat} (hI : Inv g s) (hf : s.free = id :: rest) :
    id < g.nullSlot ∧ ¬ live g s id ∧ (∀ x, live g { s with free := rest } x ↔ live g s x ∨ x = id) ∧
      Inv g { s with free := rest } := by
  have hal := hI.free_alloc
  have hnd := hI.free_nodup
  rw [hf] at hal hnd
  have hida : allocated g s id := hal id (by simp)
  obtain ⟨hnotin, hnd'⟩ := List.nodup_cons.1 hnd
  refine ⟨allocP_lt_null hI.pools_ok hida, ?_, ?_, ?_⟩
  · intro h; exact h.2 (by rw [hf]; simp)
  · intro x
    unfold live
    show allocated g s x ∧ x ∉ rest ↔ _
    rw [hf]
    constructor
    · rintro ⟨h1, h2⟩
      by_cases hx : x = id
      · exact Or.inr hx
      · exact Or.inl ⟨h1, by simp [hx, h2]⟩
    · rintro (⟨h1, h2⟩ | rfl)
      · exact ⟨h1, fun h => h2 (List.mem_cons_of_mem _ h)⟩
      · exact ⟨hida, hnotin⟩
  · obtain ⟨a1, a2, a3, a4, a5, a6, a7, a8, a9, a10, a11⟩ := hI
    exact ⟨a1, a2, a3, a4, a5, a6, a7, a8, a9, fun x hx => hal x (List.mem_cons_of_mem _ hx), hnd'⟩

/-- A successful `allocSlot`, from the free list or from a pool: the id is below `nullSlot`, was not live, and
    exactly it becomes live. -/
theorem allocSlot_some {g : Geo} {s s' : St} {id : Nat} (gok : GeoOK g) (hI : Inv g s)
    (h : allocSlot g s = (some id, s')) :
    id < g.nullSlot ∧ ¬ live g s id ∧ (∀ x, live g s' x ↔ live g s x ∨ x = id) ∧ Inv g s' := by
  cases hf : s.free with
  | nil =>
    obtain ⟨a, b, _, c1, c2, c3⟩ := allocSlot_nil gok hI hf h
    refine ⟨c1, fun hl => c2 hl.1, ?_, a⟩
    intro x; unfold live; rw [b, hf, c3]; simp
  | cons id0 rest =>
    rw [allocSlot_cons hf] at h
    cases h
    exact allocSlot_cons_ok hI hf

/-- A failed `allocSlot` leaves the live set and the free list as they were. -/
theorem allocSlot_none {g : Geo} {s s' : St} (gok : GeoOK g) (hI : Inv g s) (h : allocSlot g s = (none, s')) :
    (∀ x, live g s' x ↔ live g s x) ∧ s'.free = s.free ∧ Inv g s' := by
  cases hf : s.free with
  | nil =>
    obtain ⟨a, b, _, c⟩ := allocSlot_nil gok hI hf h
    refine ⟨?_, by rw [b], a⟩
    intro x; unfold live; rw [b, hf, c]
  | cons id0 rest =>
    rw [allocSlot_cons hf] at h
    cases h

theorem freeSlot_ok {g : Geo} {s : St} {id : Nat} (hI : Inv g s) (hl : live g s id) :
    Inv g (freeSlot s id) ∧ (∀ x, live g (freeSlot s id) x ↔ live g s x ∧ x ≠ id) := by
  constructor
  · obtain ⟨a1, a2, a3, a4, a5, a6, a7, a8, a9, a10, a11⟩ := hI
    refine ⟨a1, a2, a3, a4, a5, a6, a7, a8, a9, ?_, ?_⟩
    · intro x hx
      rcases List.mem_cons.1 hx with rfl | hx
      · exact hl.1
      · exact a10 x hx
    · exact List.nodup_cons.2 ⟨hl.2, a11⟩
  · intro x
    unfold live freeSlot
    show allocated g s x ∧ x ∉ id :: s.free ↔ _
    simp only [List.mem_cons, not_or]
    constructor
    · rintro ⟨a, b, c⟩; exact ⟨⟨a, c⟩, b⟩
    · rintro ⟨⟨a, c⟩, b⟩; exact ⟨a, b, c⟩

def shrinkLast (g : Geo) (s : St) : St :=
  match s.pools.getLast? with
  | none => s
  | some p =>
    let (_, s) := s.realloc (p.usage * g.slotSize) false
    { s with pools := s.pools.dropLast ++ [{ p with cap := p.usage, hasBlock := true }] }

def shrinkTable (g : Geo) (s : St) : St :=
  if s.tableHeap && s.pools.length != s.tableCap then
    let (_, s) := s.realloc (s.pools.length * g.poolSize) false
    { s with tableCap := s.pools.length }
  else s

theorem shrink_eq (g : Geo) (s : St) : shrink g s = shrinkTable g (shrinkLast g s) := rfl

theorem shrinkLast_ok {g : Geo} {s : St} (hI : Inv g s) :
    Inv g (shrinkLast g s) ∧ (shrinkLast g s).free = s.free ∧ (shrinkLast g s).failAt = s.failAt ∧
      (∀ x, allocated g (shrinkLast g s) x ↔ allocated g s x) := by
  unfold shrinkLast
  split
  · exact ⟨hI, rfl, rfl, fun _ => Iff.rfl⟩
  · rename_i p hp
    have hs := pools_eq_snoc hp
    have hle : p.usage ≤ p.cap := ((PoolsOK_snoc _ _ _ p).1 (by rw [← hs]; exact hI.pools_ok)).2.1
    refine ⟨hI.set_last hs rfl rfl rfl rfl (Nat.le_refl _) (Nat.le_refl _) hle (fun h => by cases h),
      rfl, rfl, fun x => ?_⟩
    unfold allocated
    show allocP _ (_ ++ [_]) x ↔ _
    rw [allocP_snoc]
    conv => rhs; rw [hs, allocP_snoc]
    exact Iff.rfl

theorem shrinkTable_ok {g : Geo} {s : St} (hI : Inv g s) :
    Inv g (shrinkTable g s) ∧ (shrinkTable g s).free = s.free ∧ (shrinkTable g s).failAt = s.failAt ∧
      (shrinkTable g s).pools = s.pools := by
  unfold shrinkTable
  split
  · rename_i hc
    simp only [Bool.and_eq_true, bne_iff_ne, ne_eq] at hc
    refine ⟨?_, rfl, rfl, rfl⟩
    simp only [realloc_pools, realloc_free, realloc_tableHeap, realloc_failAt]
    obtain ⟨a1, a2, a3, a4, a5, a6, a7, a8, a9, a10, a11⟩ := hI
    have := a6 hc.1
    exact ⟨a1, Nat.le_refl _, this, by show s.pools.length ≤ _; omega,
      fun h => by rw [hc.1] at h; exact Bool.noConfusion h, a6, a7, a8, a9, a10, a11⟩
  · exact ⟨hI, rfl, rfl, rfl⟩

theorem shrink_ok {g : Geo} {s : St} (hI : Inv g s) :
    Inv g (shrink g s) ∧ (∀ x, live g (shrink g s) x ↔ live g s x) ∧ (shrink g s).free = s.free ∧
      (shrink g s).failAt = s.failAt := by
  rw [shrink_eq]
  obtain ⟨a, b, c, d⟩ := shrinkLast_ok (g := g) hI
  obtain ⟨a', b', c', d'⟩ := shrinkTable_ok (g := g) a
  refine ⟨a', ?_, by rw [b', b], by rw [c', c]⟩
  intro x
  unfold live
  rw [b', b, ← d x]
  unfold allocated
  rw [d']

/-! ### clear, init -/

def clearStep (s : St) (p : Pool) : St := if p.hasBlock then s.dealloc else s

theorem clear_fold (ps : List Pool) (s : St) :
    (ps.foldl clearStep s).pools = s.pools ∧ (ps.foldl clearStep s).free = s.free ∧
    (ps.foldl clearStep s).tableCap = s.tableCap ∧ (ps.foldl clearStep s).tableHeap = s.tableHeap ∧
    (ps.foldl clearStep s).calls = s.calls ∧ (ps.foldl clearStep s).failAt = s.failAt ∧
    (ps.foldl clearStep s).log = List.replicate (ps.countP (·.hasBlock)) "D" ++ s.log := by
  induction ps generalizing s with
  | nil => simp
  | cons p ps ih =>
    rw [List.foldl_cons]
    obtain ⟨a, b, c, d, e, f, h⟩ := ih (clearStep s p)
    rw [a, b, c, d, e, f, h]
    unfold clearStep
    cases hb : p.hasBlock
    · simp [hb]
    · simp only [hb, ↓reduceIte, dealloc_pools, dealloc_free, dealloc_tableCap, dealloc_tableHeap, dealloc_calls,
        dealloc_failAt, dealloc_log, List.countP_cons_of_pos, true_and]
      rw [List.replicate_succ', List.append_assoc]; rfl

theorem clear_fold_failFrom (ps : List Pool) (s : St) : (ps.foldl clearStep s).failFrom = s.failFrom := by
  induction ps generalizing s with
  | nil => rfl
  | cons p ps ih =>
    rw [List.foldl_cons, ih]
    unfold clearStep
    split <;> rfl

/-- number of blocks owned by the pool list: one per pool with a block, one for a heap-allocated pool table -/
def blocks (s : St) : Nat := s.pools.countP (·.hasBlock) + (if s.tableHeap then 1 else 0)

theorem clear_spec (g : Geo) (s : St) :
    (clear g s).pools = [] ∧ (clear g s).free = [] ∧ (clear g s).tableHeap = false ∧
    (clear g s).tableCap = (if s.tableHeap then g.initPools else s.tableCap) ∧
    (clear g s).calls = s.calls ∧ (clear g s).failAt = s.failAt ∧
    (clear g s).log = List.replicate (blocks s) "D" ++ s.log := by
  obtain ⟨a, b, c, d, e, f, h⟩ := clear_fold s.pools s
  have hc : clear g s =
      (let s1 := s.pools.foldl clearStep s
       let s2 := { s1 with pools := [], free := [] }
       if s2.tableHeap then { (s2.dealloc) with tableHeap := false, tableCap := g.initPools } else s2) := rfl
  rw [hc]
  simp only
  unfold blocks
  cases hh : s.tableHeap
  · simp [d, hh, c, e, f, h]
  · simp only [d, hh, ↓reduceIte, true_and, dealloc_calls, dealloc_failAt, dealloc_log, e, f, h]
    exact ⟨rfl, rfl, rfl⟩

theorem clear_failFrom (g : Geo) (s : St) : (clear g s).failFrom = s.failFrom := by
  have h := clear_fold_failFrom s.pools s
  have hc : clear g s =
      (let s1 := s.pools.foldl clearStep s
       let s2 := { s1 with pools := [], free := [] }
       if s2.tableHeap then { (s2.dealloc) with tableHeap := false, tableCap := g.initPools } else s2) := rfl
  rw [hc]
  simp only
  split <;> exact h

theorem init_inv {g : Geo} (gok : GeoOK g) (f : List Nat) (k : Option Nat := none) :
    Inv g { init g with failAt := f, failFrom := k } := by
  refine ⟨Nat.zero_le _, Nat.zero_le _, gok.init_pos, Nat.le_max_left _ _, fun _ => rfl,
    fun h => Bool.noConfusion h, PoolsOK_nil _ _, ?_, ?_, ?_, List.nodup_nil⟩
  · intro q hq; cases hq
  · intro q hq; cases hq
  · intro x hx; cases hx

theorem clear_inv {g : Geo} (gok : GeoOK g) {s : St} (hI : Inv g s) : Inv g (clear g s) := by
  obtain ⟨a, b, c, d, _⟩ := clear_spec g s
  refine ⟨by rw [a]; exact Nat.zero_le _, by rw [a]; exact Nat.zero_le _, ?_, ?_, ?_,
    fun h => by rw [c] at h; exact Bool.noConfusion h, by rw [a]; exact PoolsOK_nil _ _, ?_, ?_, ?_,
    by rw [b]; exact List.nodup_nil⟩
  · rw [d]; split
    · exact gok.init_pos
    · exact hI.tab_pos
  · rw [d]; split
    · exact Nat.le_max_left _ _
    · exact hI.tab_bound
  · intro _; rw [d]; split
    · rfl
    · rename_i hh; exact hI.inline_cap (by simpa using hh)
  · rw [a]; intro q hq; cases hq
  · rw [a]; intro q hq; cases hq
  · rw [b]; intro x hx; cases hx

theorem clear_live (g : Geo) (s : St) (x : Nat) : ¬ live g (clear g s) x := by
  rintro ⟨h, _⟩
  unfold allocated at h
  rw [(clear_spec g s).1] at h
  exact allocP_nil _ _ h

/-! ### counting: the handed-out and the live ids as lists -/

/-- the ids handed out from pool list `ps` whose first pool has index `i`, as a list -/
def allocFrom (c : Nat) : Nat → List Pool → List Nat
  | _, [] => []
  | i, p :: ps => List.range' (i * c) p.usage ++ allocFrom c (i + 1) ps

theorem mem_allocFrom (c : Nat) (ps : List Pool) (i x : Nat) :
    x ∈ allocFrom c i ps ↔ ∃ k p, ps[k]? = some p ∧ (i + k) * c ≤ x ∧ x < (i + k) * c + p.usage := by
  induction ps generalizing i with
  | nil => simp [allocFrom]
  | cons q ps ih =>
    simp only [allocFrom, List.mem_append, List.mem_range'_1, ih]
    constructor
    · rintro (h | ⟨k, p, hk, h1, h2⟩)
      · exact ⟨0, q, rfl, by simpa using h.1, by simpa using h.2⟩
      · refine ⟨k + 1, p, by simpa using hk, ?_, ?_⟩
        · rw [show i + (k + 1) = i + 1 + k by omega]; exact h1
        · rw [show i + (k + 1) = i + 1 + k by omega]; exact h2
    · rintro ⟨k, p, hk, h1, h2⟩
      cases k with
      | zero =>
        simp only [List.getElem?_cons_zero, Option.some.injEq] at hk
        subst hk
        exact Or.inl ⟨by simpa using h1, by simpa using h2⟩
      | succ k =>
        refine Or.inr ⟨k, p, by simpa using hk, ?_, ?_⟩
        · rw [show i + 1 + k = i + (k + 1) by omega]; exact h1
        · rw [show i + 1 + k = i + (k + 1) by omega]; exact h2

theorem mem_allocFrom_zero (c : Nat) (ps : List Pool) (x : Nat) : x ∈ allocFrom c 0 ps ↔ allocP c ps x := by
  rw [mem_allocFrom]; unfold allocP; simp only [Nat.zero_add]

theorem allocFrom_ge {c : Nat} {ps : List Pool} {i x : Nat} (h : x ∈ allocFrom c i ps) : i * c ≤ x := by
  obtain ⟨k, p, _, h1, _⟩ := (mem_allocFrom c ps i x).1 h
  have : i * c ≤ (i + k) * c := Nat.mul_le_mul_right _ (by omega)
  omega

theorem nodup_allocFrom {c : Nat} {ps : List Pool} (h : ∀ p ∈ ps, p.usage ≤ c) (i : Nat) :
    (allocFrom c i ps).Nodup := by
  induction ps generalizing i with
  | nil => exact List.nodup_nil
  | cons q ps ih =>
    simp only [allocFrom]
    rw [List.nodup_append]
    refine ⟨List.nodup_range', ih (fun p hp => h p (List.mem_cons_of_mem _ hp)) _, ?_⟩
    intro a ha b hb
    have h1 := (List.mem_range'_1.1 ha).2
    have h2 := allocFrom_ge hb
    have h3 := h q (by simp)
    have h4 : (i + 1) * c = i * c + c := Nat.succ_mul _ _
    omega

theorem length_allocFrom (c : Nat) (ps : List Pool) (i a : Nat) :
    ps.foldl (fun a p => a + p.usage) a = a + (allocFrom c i ps).length := by
  induction ps generalizing i a with
  | nil => simp [allocFrom]
  | cons q ps ih =>
    rw [List.foldl_cons, ih (i + 1)]
    simp only [allocFrom, List.length_append, List.length_range']
    omega

/-- the ids of a non-empty pool list that ends at or before `n` number at most `n − i·c` -/
theorem allocFrom_length_le {c n : Nat} {ps : List Pool} {i : Nat}
    (h : ∀ k p, ps[k]? = some p → p.usage ≤ c ∧ (i + k) * c + p.usage ≤ n) (hne : ps ≠ []) :
    i * c + (allocFrom c i ps).length ≤ n := by
  induction ps generalizing i with
  | nil => exact absurd rfl hne
  | cons q ps ih =>
    simp only [allocFrom, List.length_append, List.length_range']
    have h0 := h 0 q rfl
    by_cases hps : ps = []
    · subst hps; simp only [allocFrom, List.length_nil]; simpa using h0.2
    · have := ih (i := i + 1) (fun k p hk => by
        have := h (k + 1) p (by simpa using hk)
        rw [show i + (k + 1) = i + 1 + k by omega] at this; exact this) hps
      have h4 : (i + 1) * c = i * c + c := Nat.succ_mul _ _
      omega

def allocatedIds (g : Geo) (s : St) : List Nat := allocFrom g.poolCap 0 s.pools

/-- the live slots as a list -/
def liveIds (g : Geo) (s : St) : List Nat := (allocatedIds g s).filter (fun x => decide (x ∉ s.free))

theorem mem_allocatedIds (g : Geo) (s : St) (x : Nat) : x ∈ allocatedIds g s ↔ allocated g s x :=
  mem_allocFrom_zero _ _ _

theorem mem_liveIds (g : Geo) (s : St) (x : Nat) : x ∈ liveIds g s ↔ live g s x := by
  unfold liveIds live
  rw [List.mem_filter, mem_allocatedIds]
  simp

theorem length_allocatedIds (g : Geo) (s : St) : (allocatedIds g s).length = usage s := by
  unfold usage allocatedIds
  rw [length_allocFrom g.poolCap s.pools 0 0]; omega

theorem Inv.usage_le {g : Geo} {s : St} (hI : Inv g s) : usage s ≤ g.nullSlot := by
  rw [← length_allocatedIds g s]
  unfold allocatedIds
  by_cases hne : s.pools = []
  · rw [hne]; simp [allocFrom]
  · have := allocFrom_length_le (c := g.poolCap) (n := g.nullSlot) (ps := s.pools) (i := 0)
      (fun k p hk => by
        obtain ⟨a, b, c⟩ := hI.pools_ok k p hk
        rw [Nat.zero_add]; omega) hne
    omega

theorem Inv.allocatedIds_nodup {g : Geo} {s : St} (hI : Inv g s) : (allocatedIds g s).Nodup := by
  apply nodup_allocFrom
  intro p hp
  obtain ⟨k, hk⟩ := List.getElem?_of_mem hp
  obtain ⟨a, b, _⟩ := hI.pools_ok k p hk
  omega

theorem Inv.liveIds_nodup {g : Geo} {s : St} (hI : Inv g s) : (liveIds g s).Nodup :=
  hI.allocatedIds_nodup.filter _

theorem Inv.liveIds_length_le {g : Geo} {s : St} (hI : Inv g s) : (liveIds g s).length ≤ g.nullSlot :=
  Nat.le_trans (List.length_filter_le _ _) (by rw [length_allocatedIds]; exact hI.usage_le)

theorem length_filter_ne {l : List Nat} {a : Nat} (hn : l.Nodup) (ha : a ∈ l) :
    (l.filter (fun x => decide (x ≠ a))).length + 1 = l.length := by
  induction l with
  | nil => cases ha
  | cons b l ih =>
    obtain ⟨hb, hn'⟩ := List.nodup_cons.1 hn
    by_cases hba : b = a
    · subst hba
      have : l.filter (fun x => decide (x ≠ b)) = l := by
        rw [List.filter_eq_self]
        intro x hx; simp only [ne_eq, decide_eq_true_eq]; intro h; subst h; exact hb hx
      rw [List.filter_cons_of_neg (by simp), this, List.length_cons]
    · have ha' : a ∈ l := by
        rcases List.mem_cons.1 ha with h | h
        · exact absurd h.symm hba
        · exact h
      have := ih hn' ha'
      simp only [ne_eq, hba, not_false_eq_true, decide_true, List.filter_cons_of_pos, List.length_cons]
      simpa using this

theorem length_filter_notin {l f : List Nat} (hl : l.Nodup) (hf : f.Nodup) (hsub : ∀ x ∈ f, x ∈ l) :
    (l.filter (fun x => decide (x ∉ f))).length + f.length = l.length := by
  induction f with
  | nil => simp
  | cons a f ih =>
    obtain ⟨haf, hf'⟩ := List.nodup_cons.1 hf
    have ih' := ih hf' (fun x hx => hsub x (List.mem_cons_of_mem _ hx))
    have hmem : a ∈ l.filter (fun x => decide (x ∉ f)) := by
      rw [List.mem_filter]; exact ⟨hsub a (by simp), by simpa using haf⟩
    have := length_filter_ne (hl.filter _) hmem
    rw [List.filter_filter] at this
    have he : l.filter (fun x => decide (x ∉ a :: f)) =
        l.filter (fun x => decide (x ≠ a) && decide (x ∉ f)) := by
      congr 1; funext x; simp [List.mem_cons, not_or]
    rw [he, List.length_cons]
    omega

/-- live slots = handed out − free list, as a number -/
theorem Inv.liveIds_length {g : Geo} {s : St} (hI : Inv g s) :
    (liveIds g s).length + s.free.length = usage s := by
  rw [← length_allocatedIds g s]
  exact length_filter_notin hI.allocatedIds_nodup hI.free_nodup
    (fun x hx => (mem_allocatedIds g s x).2 (hI.free_alloc x hx))

end PL
