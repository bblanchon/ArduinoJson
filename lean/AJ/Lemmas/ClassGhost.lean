/- Where the JSON deserializer model stops, on an input that contains a NUL: `t[n] = 0` is the first NUL of `t`.
   * the reader never takes a byte after that NUL (`Lv`: the latch is at or before the NUL);
   * `IncompleteInput` / `EmptyInput`: the NUL was taken (`pos = n + 1`);
   * `InvalidInput`: the latch holds the last byte taken; it is either a non-NUL byte of the text, or the NUL, and
     then the text ends with a number byte or (comments enabled) with `/` (`Dang`);
   * `TooDeep`: the NUL was not taken;
   * `NoMemory`: after a quoted string that is too long the reader stands behind the closing quote, nothing is latched
     (`Fin`); after an unquoted key that is too long the latch holds the byte that ended the key — possibly the NUL —
     and the bytes in front of it end with more than `maxStrLen` identifier bytes (`FinK`, `LongKey`). -/
import AJ.Lemmas.JDPieces
import AJ.Lemmas.JDLexPieces
set_option linter.unusedSimpArgs false
set_option linter.unusedVariables false
namespace JD

/-- `n` is the index of the first NUL of `t` -/
structure NulAt (t : List Byte) (n : Nat) : Prop where
  lt : n < t.length
  nul : t[n]? = some 0
  nz : ∀ i c, i < n → t[i]? = some c → c ≠ 0

/-- the latch is at or before the first NUL: unread bytes are `t` from `pos` on; a latched byte is `t[pos-1]` -/
def Lv (t : List Byte) (n : Nat) (s : St) : Prop :=
  s.l.unread = t.drop s.l.pos ∧
  (s.l.loaded = true → 1 ≤ s.l.pos ∧ s.l.pos ≤ n + 1 ∧ t[s.l.pos - 1]? = some s.l.cur) ∧
  (s.l.loaded = false → s.l.pos ≤ n)

def Ld_d0 (t : List Byte) (n : Nat) (s : St) : Prop := Lv t n s ∧ s.l.loaded = true
/-- latched on a byte that is not the NUL -/
def Tk (t : List Byte) (n : Nat) (s : St) : Prop := Ld_d0 t n s ∧ s.l.cur ≠ 0

/-- the text `t[0..n)` ends with a number byte, or with `/` when comments are enabled -/
def Dang (cfg : Cfg) (t : List Byte) (n : Nat) : Prop :=
  1 ≤ n ∧ ∃ c, t[n - 1]? = some c ∧ (inNumber cfg c = true ∨ (cfg.comments = true ∧ c = 0x2F))

/-- what is known about the final state, by code (`okP`: the routine-specific fact for `Ok`) -/
def Fin (cfg : Cfg) (t : List Byte) (n : Nat) (okP : St → Prop) : Code → St → Prop
  | .ok, s => okP s
  | .incomplete, s => s.l.pos = n + 1
  | .empty, s => s.l.pos = n + 1
  | .invalid, s => Ld_d0 t n s ∧ (s.l.cur = 0 → Dang cfg t n)
  | .tooDeep, s => Tk t n s
  | .noMemory, s => Lv t n s ∧ s.l.loaded = false
  | .fuel, _ => True

/-- `e` ends with a run of identifier bytes (the bytes of an unquoted key) longer than the string limit -/
def LongTail (cfg : Cfg) (e : List Byte) : Prop :=
  ∃ pre k, e = pre ++ k ∧ (∀ c ∈ k, inUnquoted c = true) ∧ cfg.maxStrLen < k.length

/-- the bytes in front of the latched byte end with a too long run of identifier bytes -/
def LongKey (cfg : Cfg) (t : List Byte) (s : St) : Prop := LongTail cfg (t.take (s.l.pos - 1))

/-- `Fin` for the routines that read object keys: `NoMemory` is also the answer to an unquoted key that is too long, and
    then the latch holds the byte that ended the key -/
def FinK (cfg : Cfg) (t : List Byte) (n : Nat) (okP : St → Prop) : Code → St → Prop
  | .ok, s => okP s
  | .incomplete, s => s.l.pos = n + 1
  | .empty, s => s.l.pos = n + 1
  | .invalid, s => Ld_d0 t n s ∧ (s.l.cur = 0 → Dang cfg t n)
  | .tooDeep, s => Tk t n s
  | .noMemory, s => Lv t n s ∧ (s.l.loaded = true → LongKey cfg t s)
  | .fuel, _ => True

theorem Fin.toK {cfg : Cfg} {t : List Byte} {n : Nat} {okP : St → Prop} {c : Code} {s : St}
    (h : Fin cfg t n okP c s) : FinK cfg t n okP c s := by
  cases c
  case noMemory => exact ⟨h.1, fun hl => by rw [h.2] at hl; cases hl⟩
  all_goals exact h

section
variable {cfg : Cfg} {t : List Byte} {n : Nat} (hN : NulAt t n)
include hN

theorem Ld_d0.pos_zero {s : St} (h : Ld_d0 t n s) (h0 : s.l.cur = 0) : s.l.pos = n + 1 := by
  obtain ⟨⟨_, h2, _⟩, hl⟩ := h
  obtain ⟨a, b, c⟩ := h2 hl
  rw [h0] at c
  by_cases hlt : s.l.pos - 1 < n
  · exact absurd rfl (hN.nz _ _ hlt c)
  · omega

theorem Tk.pos_le {s : St} (h : Tk t n s) : s.l.pos ≤ n := by
  obtain ⟨⟨⟨_, h2, _⟩, hl⟩, hc⟩ := h
  obtain ⟨a, b, c⟩ := h2 hl
  by_cases heq : s.l.pos - 1 = n
  · rw [heq, hN.nul] at c
    exact absurd (Option.some.inj c).symm hc
  · omega

omit hN in
theorem Lv.found {s : St} {b : Bool} (h : Lv t n s) : Lv t n { s with found := b } := h

/-- `current()`: latched at or before the NUL -/
theorem Lv.look {s : St} (h : Lv t n s) : Ld_d0 t n (cur s).2 ∧ (cur s).2.l.cur = (cur s).1 ∧ (cur s).2.found = s.found ∧
    (s.l.loaded = false → (cur s).2.l.pos = s.l.pos + 1) := by
  by_cases hl : s.l.loaded = true
  · rw [cur_loaded hl]; exact ⟨⟨h, hl⟩, rfl, rfl, fun h' => by rw [hl] at h'; cases h'⟩
  · have hl' : s.l.loaded = false := by simpa using hl
    have hp := h.2.2 hl'
    have hlt : s.l.pos < t.length := Nat.lt_of_le_of_lt hp hN.lt
    have hu : s.l.unread = t[s.l.pos] :: t.drop (s.l.pos + 1) := by
      rw [h.1]; exact List.drop_eq_getElem_cons hlt
    rw [cur_cons hl' hu]
    refine ⟨⟨⟨?_, ?_, ?_⟩, rfl⟩, rfl, rfl, fun _ => rfl⟩
    · simp only [ld_unread, ld_pos]
    · intro _
      simp only [ld_pos, ld_cur]
      refine ⟨by omega, by omega, ?_⟩
      simp [List.getElem?_eq_getElem hlt]
    · intro h; simp at h

/-- `move()` past a byte that is not the NUL -/
theorem Tk.move {s : St} (h : Tk t n s) : Lv t n (mv s) := by
  have hp := Tk.pos_le hN h
  obtain ⟨⟨⟨h1, _, _⟩, _⟩, _⟩ := h
  refine ⟨h1, ?_, fun _ => hp⟩
  intro hl
  rw [mv_loaded] at hl
  cases hl

theorem Lv.tk {s : St} (h : Lv t n s) (hc : (cur s).1 ≠ 0) : Tk t n (cur s).2 := by
  obtain ⟨a, b, _⟩ := Lv.look hN h
  exact ⟨a, by rw [b]; exact hc⟩

/-- `current(); move()` on a byte that is not the NUL -/
theorem Lv.step {s : St} (h : Lv t n s) (hc : (cur s).1 ≠ 0) : Lv t n (mv (cur s).2) :=
  Tk.move hN (Lv.tk hN h hc)

/-- `current()` returned the NUL -/
theorem Lv.dead {s : St} (h : Lv t n s) (hc : (cur s).1 = 0) : (cur s).2.l.pos = n + 1 := by
  obtain ⟨a, b, _⟩ := Lv.look hN h
  exact Ld_d0.pos_zero hN a (by rw [b]; exact hc)

omit hN in
theorem z_of_beq {c : Byte} (h : (c == 0) = true) : c = 0 := by simpa using h

theorem gh_skipBlock : ∀ fuel w s, Lv t n s →
    Fin cfg t n (Lv t n) (skipBlock fuel w s).1 (skipBlock fuel w s).2 := by
  intro fuel
  induction fuel with
  | zero => intro w s h; exact True.intro
  | succ f ih =>
    intro w s h
    simp only [skipBlock]
    split
    · rename_i hc; exact Lv.dead hN h (z_of_beq hc)
    · rename_i hc
      have h1 := Lv.step hN h (nz_of_not hc)
      split
      · exact h1
      · exact ih _ _ h1

theorem gh_skipLine : ∀ fuel s, Tk t n s → Fin cfg t n (Tk t n) (skipLine fuel s).1 (skipLine fuel s).2 := by
  intro fuel
  induction fuel with
  | zero => intro s h; exact True.intro
  | succ f ih =>
    intro s h
    simp only [skipLine]
    have hm := Tk.move hN h
    split
    · rename_i hc; exact Lv.dead hN hm (z_of_beq hc)
    · rename_i hc
      have h1 := Lv.tk hN hm (nz_of_not hc)
      split
      · exact h1
      · exact ih _ h1

omit hN in
theorem Ld_d0.byte {s : St} (h : Ld_d0 t n s) : 1 ≤ s.l.pos ∧ t[s.l.pos - 1]? = some s.l.cur := by
  obtain ⟨a, _, b⟩ := h.1.2.1 h.2
  exact ⟨a, b⟩

omit hN in
theorem gh_ssK {f : Nat} {okP : St → Prop}
    (ih : ∀ s, Lv t n s → Fin cfg t n (Tk t n) (skipSpaces cfg f s).1 (skipSpaces cfg f s).2) (r : Code × St)
    (hok : okP r.2 → Lv t n r.2) (h : Fin cfg t n okP r.1 r.2) :
    Fin cfg t n (Tk t n) (ssK cfg f r).1 (ssK cfg f r).2 := by
  obtain ⟨c, s⟩ := r
  cases c
  case ok => exact ih _ (hok h)
  all_goals exact h

theorem gh_skipSpaces : ∀ fuel s, Lv t n s →
    Fin cfg t n (Tk t n) (skipSpaces cfg fuel s).1 (skipSpaces cfg fuel s).2 := by
  intro fuel
  induction fuel with
  | zero => intro s h; exact True.intro
  | succ f ih =>
    intro s h
    rw [skipSpaces_succ]
    split
    · rename_i hc
      have hd := Lv.dead hN h (z_of_beq hc)
      split <;> exact hd
    · rename_i hc
      have hc' := nz_of_not hc
      have hX := Lv.tk hN h hc'
      have h1 := Lv.step hN h hc'
      split
      · exact ih _ h1
      · split
        · rename_i hcm
          simp only [Bool.and_eq_true, beq_iff_eq] at hcm
          obtain ⟨hY, hYc, _, hYp⟩ := Lv.look hN h1
          simp only [ssCmt]
          split
          · rename_i hd
            exact gh_ssK ih _ id (gh_skipBlock hN f false _ (Lv.step hN h1 (nz_of_beq hd (by decide))))
          · split
            · rename_i hd
              exact gh_ssK ih _ (fun k => k.1.1) (gh_skipLine hN f _ (Lv.tk hN h1 (nz_of_beq hd (by decide))))
            · -- `/` and then neither `*` nor `/`: when that byte is the NUL, the text ends with the `/`
              refine ⟨hY, fun h0 => ?_⟩
              have hp := Ld_d0.pos_zero hN hY h0
              have hp2 := hYp (mv_loaded _)
              obtain ⟨hx1, hx2⟩ := Ld_d0.byte hX.1
              have hxc : (cur s).2.l.cur = (cur s).1 := (Lv.look hN h).2.1
              have hpos : (cur s).2.l.pos = n := by
                have : (mv (cur s).2).l.pos = (cur s).2.l.pos := rfl
                omega
              rw [hpos] at hx1 hx2
              exact ⟨hx1, _, hx2, Or.inr ⟨hcm.1, by rw [hxc]; exact hcm.2⟩⟩
        · exact ⟨⟨Lv.found hX.1.1, hX.1.2⟩, hX.2⟩

theorem gh_skipKeyword : ∀ ks s, Lv t n s →
    Fin cfg t n (Lv t n) (skipKeyword ks s).1 (skipKeyword ks s).2 := by
  intro ks
  induction ks with
  | nil => intro s h; exact h
  | cons k ks ih =>
    intro s h
    simp only [skipKeyword]
    split
    · rename_i hc; exact Lv.dead hN h (z_of_beq hc)
    · rename_i hc
      have hc' := nz_of_not hc
      split
      · obtain ⟨hX, hXc, _⟩ := Lv.look hN h
        exact ⟨hX, fun h0 => absurd (hXc ▸ h0) hc'⟩
      · exact ih _ (Lv.step hN h hc')

theorem gh_parseHex4 : ∀ m acc s, Lv t n s →
    Fin cfg t n (Lv t n) (parseHex4 m acc s).1 (parseHex4 m acc s).2.2 := by
  intro m
  induction m with
  | zero => intro acc s h; exact h
  | succ m ih =>
    intro acc s h
    simp only [parseHex4]
    split
    · rename_i hc; exact Lv.dead hN h (z_of_beq hc)
    · rename_i hc
      have hc' := nz_of_not hc
      split
      · obtain ⟨hX, hXc, _⟩ := Lv.look hN h
        exact ⟨hX, fun h0 => absurd (hXc ▸ h0) hc'⟩
      · exact ih _ _ (Lv.step hN h hc')

omit hN in
theorem gh_pqHex {stop : Byte} {f : Nat} {acc : List Byte} {hi : Nat}
    (ih : ∀ acc hi s, Lv t n s →
      Fin cfg t n (Lv t n) (parseQuoted cfg stop f acc hi s).1 (parseQuoted cfg stop f acc hi s).2.2)
    (r : Code × Nat × St) (h : Fin cfg t n (Lv t n) r.1 r.2.2) :
    Fin cfg t n (Lv t n) (pqHex cfg stop f acc hi r).1 (pqHex cfg stop f acc hi r).2.2 := by
  obtain ⟨c, cu, s⟩ := r
  cases c
  case ok =>
    obtain ⟨acc', hi', e⟩ := pqHex_ok cfg stop f acc hi cu
    rw [e]
    exact ih _ _ _ h
  all_goals exact h

theorem gh_parseQuoted {stop : Byte} (hs : stop ≠ 0) : ∀ fuel acc hi s, Lv t n s →
    Fin cfg t n (Lv t n) (parseQuoted cfg stop fuel acc hi s).1 (parseQuoted cfg stop fuel acc hi s).2.2 := by
  intro fuel
  induction fuel with
  | zero => intro acc hi s h; exact True.intro
  | succ f ih =>
    intro acc hi s h
    rw [parseQuoted_succ]
    split
    · rename_i hc
      have h1 := Lv.step hN h (nz_of_beq hc hs)
      split
      · exact ⟨h1, mv_loaded _⟩
      · exact h1
    · split
      · rename_i hc; exact Lv.dead hN h (z_of_beq hc)
      · rename_i hc
        have h1 := Lv.step hN h (nz_of_not hc)
        split
        · obtain ⟨hY, hYc, _, _⟩ := Lv.look hN h1
          simp only [pqEsc]
          split
          · rename_i hd; exact Lv.dead hN h1 (z_of_beq hd)
          · rename_i hd
            have hd' := nz_of_not hd
            split
            · split
              · exact gh_pqHex ih _ (gh_parseHex4 hN 4 0 _ (Lv.step hN h1 hd'))
              · exact ih _ _ _ hY.1
            · split
              · exact ⟨hY, fun h0 => absurd (hYc ▸ h0) hd'⟩
              · exact ih _ _ _ (Lv.step hN h1 hd')
        · exact ih _ _ _ h1

theorem gh_parseUnquoted : ∀ fuel acc s, Lv t n s → Lv t n (parseUnquoted fuel acc s).2 := by
  intro fuel
  induction fuel with
  | zero => intro acc s h; exact h
  | succ f ih =>
    intro acc s h
    simp only [parseUnquoted]
    split
    · rename_i hu; exact ih _ _ (Lv.step hN h (nz_of_inUnquoted hu))
    · exact (Lv.look hN h).1.1

/-- an unquoted key: when the loop stops on a latched byte, the bytes in front of it are the bytes of the key -/
theorem gh_parseUnquoted_key : ∀ fuel acc s, Lv t n s → (parseUnquoted fuel acc s).2.l.loaded = true →
    ∃ x, (parseUnquoted fuel acc s).1 = acc.reverse ++ x ∧ (∀ c ∈ x, inUnquoted c = true) ∧
      t.take ((parseUnquoted fuel acc s).2.l.pos - 1) = t.take ((cur s).2.l.pos - 1) ++ x := by
  intro fuel
  induction fuel with
  | zero =>
    intro acc s h hl
    simp only [parseUnquoted] at hl ⊢
    rw [cur_loaded hl]
    exact ⟨[], by simp, by simp, by simp⟩
  | succ f ih =>
    intro acc s h hl
    simp only [parseUnquoted] at hl ⊢
    split
    · rename_i hu
      rw [if_pos hu] at hl
      have h1 := Lv.step hN h (nz_of_inUnquoted hu)
      obtain ⟨x, e1, e2, e3⟩ := ih ((cur s).1 :: acc) _ h1 hl
      obtain ⟨hX, hXc, _, _⟩ := Lv.look hN h
      obtain ⟨b1, b2⟩ := Ld_d0.byte hX
      have hp := (Lv.look hN h1).2.2.2 (mv_loaded _)
      have hm : (mv (cur s).2).l.pos = (cur s).2.l.pos := rfl
      refine ⟨(cur s).1 :: x, by rw [e1]; simp, ?_, ?_⟩
      · intro c hc
        rcases List.mem_cons.mp hc with rfl | hc
        · exact hu
        · exact e2 c hc
      · rw [e3, hp, hm]
        have : (cur s).2.l.pos + 1 - 1 = ((cur s).2.l.pos - 1) + 1 := by omega
        rw [this, List.take_add_one, b2, hXc]
        simp
    · exact ⟨[], by simp, by simp, by simp⟩

/-- the byte before the latched one is a number byte -/
def PrevNum (cfg : Cfg) (t : List Byte) (s : St) : Prop :=
  2 ≤ s.l.pos ∧ ∃ c, t[s.l.pos - 2]? = some c ∧ inNumber cfg c = true

theorem gh_scanNumber : ∀ m acc s, Lv t n s →
    Ld_d0 t n (scanNumber cfg m acc s).2 ∧ (PrevNum cfg t (scanNumber cfg m acc s).2 ∨ (scanNumber cfg m acc s).2 = (cur s).2) := by
  intro m
  induction m with
  | zero => intro acc s h; simp only [scanNumber]; exact ⟨(Lv.look hN h).1, Or.inr trivial⟩
  | succ m ih =>
    intro acc s h
    simp only [scanNumber]
    split
    · rename_i hu
      have hc' := nz_of_inNumber hu
      have hX := Lv.tk hN h hc'
      have h1 := Lv.step hN h hc'
      obtain ⟨i1, i2⟩ := ih ((cur s).1 :: acc) _ h1
      refine ⟨i1, Or.inl ?_⟩
      rcases i2 with i2 | i2
      · exact i2
      · rw [i2]
        obtain ⟨hx1, hx2⟩ := Ld_d0.byte hX.1
        have hxc : (cur s).2.l.cur = (cur s).1 := (Lv.look hN h).2.1
        have hp2 := (Lv.look hN h1).2.2.2 (mv_loaded _)
        have : (mv (cur s).2).l.pos = (cur s).2.l.pos := rfl
        refine ⟨by omega, (cur s).1, ?_, hu⟩
        rw [hp2, this, ← hxc]
        have : (cur s).2.l.pos + 1 - 2 = (cur s).2.l.pos - 1 := by omega
        rw [this]; exact hx2
    · exact ⟨(Lv.look hN h).1, Or.inr rfl⟩

theorem gh_parseNumeric (s : St) (h : Tk t n s) :
    Fin cfg t n (Lv t n) (parseNumeric cfg s).1 (parseNumeric cfg s).2.2 := by
  unfold parseNumeric
  obtain ⟨i1, i2⟩ := gh_scanNumber (cfg := cfg) hN (Gen.number_buffer - 1) [] s h.1.1
  generalize scanNumber cfg (Gen.number_buffer - 1) [] s = r at i1 i2 ⊢
  obtain ⟨buf, s'⟩ := r
  simp only at i1 i2 ⊢
  split <;> try exact i1.1
  · refine ⟨i1, fun h0 => ?_⟩
    rcases i2 with i2 | i2
    · have hp := Ld_d0.pos_zero hN i1 h0
      obtain ⟨a, c, b1, b2⟩ := i2
      rw [hp] at a b1
      exact ⟨by omega, c, by simpa using b1, Or.inl b2⟩
    · rw [i2, cur_loaded h.1.2] at h0
      exact absurd h0 h.2
  · exact True.intro

end
end JD
