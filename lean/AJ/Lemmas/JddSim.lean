/- Simulation of the slot-level deserializer `JDD` by the abstract one `JD`, part 5: the outcome relation `Sim`, the
   statements for the three mutual routines, and the pieces of a round that no filter touches (number, string, key token,
   `getMember`). -/
import AJ.Lemmas.JddSimKey
import AJ.Lemmas.JddfStep
set_option linter.unusedSimpArgs false
set_option linter.unusedVariables false
namespace JDD
open DL
open JD (Byte Val Cfg Code St skipSpaces cur mv skipKeyword parseQuoted parseUnquoted inUnquoted setMember)

/-- outcome relation between a slot-level routine and its abstract twin, started from the document `d0` at the place `l` -/
def Sim (cfg : Cfg) (d0 : Doc) (l : Loc) (r : Code × S) (r0 : Code × Val × St) : Prop :=
  (r.2.d.overflowed = false ∧ r.1 = r0.1 ∧ r.2.s = r0.2.2 ∧ sim_BOK cfg r.2.b ∧
     ∃ v s, Post d0 r.2.d l v s ∧ r.2.d.valOf v s = r0.2.1) ∨
  (r.2.d.overflowed = true ∧ (r.1 = .noMemory ∨ (r.1 = r0.1 ∧ r.1 ≠ .ok ∧ r.2.s = r0.2.2)))

theorem Sim.exit {cfg : Cfg} {d0 : Doc} {l : Loc} {e : Code} {x' : S} {val : Val} {s' : St} (hs : x'.s = s')
    (hb : sim_BOK cfg x'.b) (hP : ∃ v s, Post d0 x'.d l v s ∧ x'.d.valOf v s = val)
    (he : x'.d.overflowed = true → e ≠ .ok) : Sim cfg d0 l (e, x') (e, val, s') := by
  cases ho : x'.d.overflowed with
  | false => exact Or.inl ⟨ho, rfl, hs, hb, hP⟩
  | true => exact Or.inr ⟨ho, Or.inr ⟨rfl, he ho, hs⟩⟩

theorem sim_numeric_eq (cfg : Cfg) (l : Loc) (x : S) :
    numeric cfg l x =
      match JD.parseNumber cfg (JD.scanNumber cfg (Gen.number_buffer - 1) [] x.s).1 with
      | .uint n => ((if (x.d.setArg l (.uint n)).1 then .ok else .noMemory),
          { x with s := (JD.scanNumber cfg (Gen.number_buffer - 1) [] x.s).2, d := (x.d.setArg l (.uint n)).2 })
      | .sint n => ((if (x.d.setArg l (.sint n)).1 then .ok else .noMemory),
          { x with s := (JD.scanNumber cfg (Gen.number_buffer - 1) [] x.s).2, d := (x.d.setArg l (.sint n)).2 })
      | .f32 b => ((if (x.d.setArg l (.f32 b)).1 then .ok else .noMemory),
          { x with s := (JD.scanNumber cfg (Gen.number_buffer - 1) [] x.s).2, d := (x.d.setArg l (.f32 b)).2 })
      | .f64 b => ((if (x.d.setArg l (.f64 b)).1 then .ok else .noMemory),
          { x with s := (JD.scanNumber cfg (Gen.number_buffer - 1) [] x.s).2, d := (x.d.setArg l (.f64 b)).2 })
      | .invalid => (.invalid, { x with s := (JD.scanNumber cfg (Gen.number_buffer - 1) [] x.s).2 })
      | .fault => (.fuel, { x with s := (JD.scanNumber cfg (Gen.number_buffer - 1) [] x.s).2 }) := by
  unfold numeric
  generalize JD.scanNumber cfg (Gen.number_buffer - 1) [] x.s = r
  obtain ⟨buf, s⟩ := r
  simp only
  generalize JD.parseNumber cfg buf = pn
  cases pn <;> rfl

theorem sim_parseNumeric_eq (cfg : Cfg) (s : St) :
    JD.parseNumeric cfg s =
      match JD.parseNumber cfg (JD.scanNumber cfg (Gen.number_buffer - 1) [] s).1 with
      | .uint n => (.ok, .num (.uint n), (JD.scanNumber cfg (Gen.number_buffer - 1) [] s).2)
      | .sint n => (.ok, .num (.sint n), (JD.scanNumber cfg (Gen.number_buffer - 1) [] s).2)
      | .f32 b => (.ok, .num (.f32 b), (JD.scanNumber cfg (Gen.number_buffer - 1) [] s).2)
      | .f64 b => (.ok, .num (JD.storeDouble b), (JD.scanNumber cfg (Gen.number_buffer - 1) [] s).2)
      | .invalid => (.invalid, .null, (JD.scanNumber cfg (Gen.number_buffer - 1) [] s).2)
      | .fault => (.fuel, .null, (JD.scanNumber cfg (Gen.number_buffer - 1) [] s).2) := by
  unfold JD.parseNumeric
  generalize JD.scanNumber cfg (Gen.number_buffer - 1) [] s = r
  obtain ⟨buf, s⟩ := r
  simp only
  generalize JD.parseNumber cfg buf = pn
  cases pn <;> rfl

/-- storing a number -/
theorem sim_store (cfg : Cfg) {x : S} {l : Loc} (P : Pre x.d l) (h0 : x.d.overflowed = false) (hb : sim_BOK cfg x.b)
    (s' : St) (a : Arg)
    (ha : (∃ n, a = .uint n) ∨ (∃ n, a = .sint n) ∨ (∃ b, a = .f32 b) ∨ (∃ b, a = .f64 b)) :
    Sim cfg x.d l ((if (x.d.setArg l a).1 then Code.ok else Code.noMemory), { x with s := s', d := (x.d.setArg l a).2 })
      (.ok, argV a, s') := by
  obtain ⟨v, s, hP, _, hcomp, _, _⟩ := setArg_res P a
  obtain ⟨g1, g2⟩ := sim_setArg_num l h0 ha
  cases ho : (x.d.setArg l a).2.overflowed with
  | false =>
    refine Or.inl ⟨ho, ?_, rfl, hb, v, s, hP, hcomp ho⟩
    simp only [g1 ho, if_true]
  | true =>
    refine Or.inr ⟨ho, Or.inl ?_⟩
    simp only [g2 ho, Bool.false_eq_true, if_false]

theorem sim_null_post {d : Doc} {l : Loc} (P : Pre d l) {d' : Doc} (hf : Fr d d' []) :
    ∃ v s, Post d d' l v s ∧ d'.valOf v s = .null :=
  ⟨.null, .nil, post_null P hf, rfl⟩

theorem sim_numeric (cfg : Cfg) {x : S} {l : Loc} (P : Pre x.d l) (h0 : x.d.overflowed = false) (hb : sim_BOK cfg x.b) :
    Sim cfg x.d l (numeric cfg l x) (JD.parseNumeric cfg x.s) := by
  rw [sim_numeric_eq, sim_parseNumeric_eq]
  split
  · exact sim_store cfg P h0 hb _ (.uint _) (Or.inl ⟨_, rfl⟩)
  · exact sim_store cfg P h0 hb _ (.sint _) (Or.inr (Or.inl ⟨_, rfl⟩))
  · exact sim_store cfg P h0 hb _ (.f32 _) (Or.inr (Or.inr (Or.inl ⟨_, rfl⟩)))
  · rename_i b _
    have := sim_store cfg P h0 hb (JD.scanNumber cfg (Gen.number_buffer - 1) [] x.s).2 (.f64 b) (Or.inr (Or.inr (Or.inr ⟨_, rfl⟩)))
    rw [show argV (.f64 b) = normF64 b from rfl, sim_normF64] at this
    exact this
  · exact Sim.exit rfl hb (sim_null_post P (Fr.refl P.pool [])) (fun _ => by intro h; cases h)
  · exact Sim.exit rfl hb (sim_null_post P (Fr.refl P.pool [])) (fun _ => by intro h; cases h)


def SimV (cfg : Cfg) (fuel : Nat) : Prop :=
  ∀ (limit : Nat) (l : Loc) (x : S), Pre x.d l → x.d.overflowed = false → sim_BOK cfg x.b →
    Sim cfg x.d l (JDD.parseVariant cfg fuel limit l x) (JD.parseVariant cfg fuel limit x.s)

def SimE (cfg : Cfg) (fuel : Nat) : Prop :=
  ∀ (limit : Nat) (l : Loc) (x : S) (d0 : Doc) (h t : Nat) (sl : Forest) (acc : List Val),
    Pre d0 l → Post d0 x.d l (.arr h t) sl → (vals x.d noOv sl).map (·.2) = acc.reverse →
    x.d.overflowed = false → sim_BOK cfg x.b →
    Sim cfg d0 l (JDD.parseElems cfg fuel limit l x) (JD.parseElems cfg fuel limit x.s acc)

def SimM (cfg : Cfg) (fuel : Nat) : Prop :=
  ∀ (limit : Nat) (l : Loc) (x : S) (d0 : Doc) (h t : Nat) (sl : Forest) (ms : List (List Byte × Val)),
    Pre d0 l → Post d0 x.d l (.obj h t) sl → vals x.d noOv sl = ms →
    x.d.overflowed = false → sim_BOK cfg x.b →
    Sim cfg d0 l (JDD.parseMembers cfg fuel limit l x) (JD.parseMembers cfg fuel limit x.s ms)

/-- a string value: token through the builder, node saved, stored -/
theorem sim_string (cfg : Cfg) (h31 : 31 ≤ cfg.maxStrLen) (fuel : Nat) (stop : Byte) {x : S} {l : Loc} (P : Pre x.d l)
    (h0 : x.d.overflowed = false) (hb : sim_BOK cfg x.b) :
    Sim cfg x.d l
      (match quoted cfg fuel stop x with
        | (.ok, bytes, x) => (.ok, { (save x bytes).2 with d := (save x bytes).2.d.set l (.owned (save x bytes).1) })
        | (e, _, x) => (e, x))
      (match parseQuoted cfg stop fuel [] 0 x.s with
        | (.ok, str, s) => (.ok, .str str, s)
        | (e, _, s) => (e, .null, s)) := by
  obtain ⟨q1, q2, q3, q4, q5, q6⟩ := sim_quoted cfg fuel stop x P.pool hb h31 h0
  generalize quoted cfg fuel stop x = q at *
  generalize parseQuoted cfg stop fuel [] 0 x.s = p at *
  obtain ⟨c, bytes, x2⟩ := q
  obtain ⟨c0, str, s0⟩ := p
  simp only at q1 q2 q3 q4 q5 q6
  subst q1
  have hfr : Fr x.d x2.d [] := Fr.of_grow q3 (fun h => by rw [h0] at h; cases h) []
  have P2 : Pre x2.d l := sim_pre_of_fr P hfr
  cases ho : x2.d.overflowed with
  | false =>
    have hc := q5 ho
    subst hc
    cases c
    case ok =>
      simp only
      obtain ⟨s1, s2, s3, s4, s5, s6⟩ := sim_save cfg x2 bytes P2.pool P2.str
      obtain ⟨pp, pv⟩ := sim_post_owned P (Fr.trans hfr s2 (fun _ h => by cases h)) s3
        (fun rs hs => s4 rs (hfr.strok rs hs))
      refine Or.inl ⟨by simp only [set_overflowed, s5, ho], rfl, by simp only [s1, q2], s6 q4, _, _, pp, pv⟩
    all_goals exact Sim.exit q2 q4 (sim_null_post P hfr) (fun h => by rw [ho] at h; cases h)
  | true =>
    rcases q6 ho with e | ⟨e1, e2⟩
    · subst e
      exact Or.inr ⟨ho, Or.inl rfl⟩
    · subst e1
      cases c
      case ok => exact absurd rfl e2
      all_goals exact Or.inr ⟨ho, Or.inr ⟨rfl, e2, q2⟩⟩


theorem sim_coll_post {d : Doc} {l : Loc} (b : Bool) (P : Pre d l) :
    ∃ v s, Post d (d.set l (coll b d.null d.null)) l v s ∧
      (d.set l (coll b d.null d.null)).valOf v s = (if b then .obj [] else .arr []) := by
  refine ⟨_, _, (sim_post_coll b P).1, ?_⟩
  cases b <;> rfl

theorem sim_arr_post {d0 d : Doc} {l : Loc} {h t : Nat} {sl : Forest} {xs : List Val} (P : Post d0 d l (.arr h t) sl)
    (hv : (vals d noOv sl).map (·.2) = xs) : ∃ v s, Post d0 d l v s ∧ d.valOf v s = .arr xs :=
  ⟨_, _, P, by show Val.arr ((vals d noOv sl).map (·.2)) = _; rw [hv]⟩

theorem sim_obj_post {d0 d : Doc} {l : Loc} {h t : Nat} {sl : Forest} {ms : List (List Byte × Val)}
    (P : Post d0 d l (.obj h t) sl) (hv : vals d noOv sl = ms) : ∃ v s, Post d0 d l v s ∧ d.valOf v s = .obj ms :=
  ⟨_, _, P, by show Val.obj (vals d noOv sl) = _; rw [hv]⟩

set_option maxRecDepth 4000 in
/-! ## The key of a member and its value slot (the pieces `keyToken`, `memberSlot` of AJ/Lemmas/JddfStep.lean) -/

/-- the key token of the abstract parser, by its first byte -/
def sim_pmKey0 (cfg : Cfg) (fuel : Nat) (c : Byte) (s : St) : Code × List Byte × St :=
  if c == 0x22 || c == 0x27 then parseQuoted cfg c (fuel+1) [] 0 (mv s)
  else if inUnquoted c then ((if (parseUnquoted (fuel+1) [] s).1.length > cfg.maxStrLen then .noMemory else .ok), (parseUnquoted (fuel+1) [] s).1, (parseUnquoted (fuel+1) [] s).2)
  else (.invalid, [], s)

/-- `object.getMember(key)`: the member found is cleared for reuse, otherwise the key is saved and a member added -/
theorem sim_pmSlot (cfg : Cfg) {l : Loc} {key : List Byte} {x : S} {d0 : Doc} {h t : Nat} {sl : Forest}
    {ms : List (List Byte × Val)} (P0 : Pre d0 l) (P : Post d0 x.d l (.obj h t) sl)
    (hvals : vals x.d noOv sl = ms) (h0 : x.d.overflowed = false) (hb : sim_BOK cfg x.b) :
    ((memberSlot x l key).1 = none ∧ (memberSlot x l key).2.d.overflowed = true) ∨
    (∃ v, (memberSlot x l key).1 = some v ∧ (memberSlot x l key).2.s = x.s ∧ Pre (memberSlot x l key).2.d (.slot v) ∧
      (memberSlot x l key).2.d.overflowed = false ∧ sim_BOK cfg (memberSlot x l key).2.b ∧
      ∀ (d2 : Doc) (ve : VData) (se : Forest), Post (memberSlot x l key).2.d d2 (.slot v) ve se →
        ∃ h' t' s', Post d0 d2 l (.obj h' t') s' ∧ vals d2 noOv s' = setMember ms key (d2.valOf ve se)) := by
  obtain ⟨fk1, fk2⟩ := sim_findKey P key
  have gokd : PL.GeoOK x.d.g := by rw [P.fr.g]; exact P0.gok
  obtain ⟨rs0, hrs0⟩ := P0.str
  have hsd := P.att.str rs0 hrs0
  unfold memberSlot
  cases hf : x.d.findKey l key with
  | some kv =>
    obtain ⟨k, v⟩ := kv
    simp only
    obtain ⟨hv, hset⟩ := fk2 k v hf
    obtain ⟨preC, hovC, hfill⟩ := sim_obj_refill P0 P hv
    refine Or.inr ⟨v, rfl, trivial, preC, by rw [hovC]; exact h0, hb, ?_⟩
    intro d2 ve se P2
    obtain ⟨Pn, hvn⟩ := hfill d2 ve se P2
    exact ⟨_, _, _, Pn, by rw [hvn, hset, hvals]⟩
  | none =>
    simp only
    obtain ⟨s1, s2, s3, s4, s5, s6⟩ := sim_save cfg x key P.fr.pool ⟨_, hsd⟩
    generalize save x key = sv at *
    obtain ⟨node, x1⟩ := sv
    simp only at s1 s2 s3 s4 s5 s6 ⊢
    generalize hadd : addMemberNode x1.d l node = r
    obtain ⟨m, d1⟩ := r
    cases m with
    | none =>
      simp only
      exact Or.inl ⟨trivial, sim_addMemberNode_none (by rw [s2.g]; exact gokd) s2.pool hadd⟩
    | some v =>
      simp only
      obtain ⟨k, pre1, hov1, hfill⟩ := sim_obj_add P0 P s2 s3 s4 s5 hadd
      refine Or.inr ⟨v, rfl, s1, pre1, by rw [hov1]; exact h0, s6 hb, ?_⟩
      intro d2 ve se P2
      obtain ⟨Pn, hvn⟩ := hfill d2 ve se P2
      exact ⟨_, _, _, Pn, by rw [hvn, ← hvals, fk1 hf]⟩

theorem sim_pmKey (cfg : Cfg) (h31 : 31 ≤ cfg.maxStrLen) (fuel : Nat) (c : Byte) (x : S) (hp : PL.Inv x.d.g x.d.pl)
    (hb : sim_BOK cfg x.b) (h0 : x.d.overflowed = false) :
    (keyToken cfg fuel c x).2.1 = (sim_pmKey0 cfg fuel c x.s).2.1 ∧ (keyToken cfg fuel c x).2.2.s = (sim_pmKey0 cfg fuel c x.s).2.2 ∧
    Grow x.d (keyToken cfg fuel c x).2.2.d ∧ sim_BOK cfg (keyToken cfg fuel c x).2.2.b ∧
    ((keyToken cfg fuel c x).2.2.d.overflowed = false → (keyToken cfg fuel c x).1 = (sim_pmKey0 cfg fuel c x.s).1) ∧
    ((keyToken cfg fuel c x).2.2.d.overflowed = true → (keyToken cfg fuel c x).1 = .noMemory ∨
      ((keyToken cfg fuel c x).1 = (sim_pmKey0 cfg fuel c x.s).1 ∧ (keyToken cfg fuel c x).1 ≠ .ok)) := by
  unfold keyToken sim_pmKey0
  by_cases hq : (c == 0x22 || c == 0x27) = true
  · rw [if_pos hq, if_pos hq]
    exact sim_quoted cfg (fuel + 1) c { s := mv x.s, d := x.d, b := x.b } hp hb h31 h0
  · rw [if_neg hq, if_neg hq]
    by_cases hu : inUnquoted c = true
    · rw [if_pos hu, if_pos hu]
      obtain ⟨u1, u2, u3, u4, u5, u6⟩ := sim_unquoted cfg (fuel + 1) x hp hb h31 h0
      refine ⟨u1, u2, u3, u4, fun h => ?_, fun h => Or.inl (u6 h)⟩
      have hl := sim_unquoted_len cfg (fuel + 1) x hp hb h31 h0 h
      rw [u5 h]
      show Code.ok = if _ then Code.noMemory else Code.ok
      rw [if_neg (by omega)]
    · rw [if_neg hu, if_neg hu]
      obtain ⟨a1, a2, a3, a4, a5, a6⟩ := sim_startString cfg x hp
      exact ⟨rfl, a1, a2, a4 hb h31, fun _ => rfl, fun _ => Or.inr ⟨rfl, by intro h; cases h⟩⟩

end JDD
