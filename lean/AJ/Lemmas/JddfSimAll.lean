/- Simulation of the FILTERED slot-level deserializer `JDDF` by the value-level filtered parser, part 2: `parseElems` and
   `parseMembers` cut into pieces (head / tail; key token, member value or skip, continuation), their simulations, and the
   induction on the fuel (`JDDF.sim_all`). The key token and `getMember` do not depend on the filter (`JDD.sim_pmKey`,
   `JDD.sim_pmSlot`, AJ/Lemmas/JddSim.lean): the model runs the key of every member through the StringBuilder, kept or not. -/
import AJ.Lemmas.JddfSim
set_option linter.unusedSimpArgs false
set_option linter.unusedVariables false
namespace JDDF
open DL JDD
open JD (Byte Val Cfg Code St Flt skipSpaces cur mv skipKeyword parseQuoted parseUnquoted inUnquoted setMember skipVariant)

/-! ## `parseElems` cut into pieces -/

def fpeTail_f (cfg : Cfg) (fuel limit : Nat) (ef : Flt) (l : Loc) (x : S) : Code × S :=
  match skipSpaces cfg (fuel+1) x.s with
  | (.ok, s) =>
    let (c, s) := cur s
    if c == 0x5D then (.ok, { x with s := mv s })
    else if c == 0x2C then JDDF.parseElems cfg fuel limit ef l { x with s := mv s }
    else (.invalid, { x with s := s })
  | (e, s) => (e, { x with s := s })

def fpeHead_f (cfg : Cfg) (fuel limit : Nat) (ef : Flt) (l : Loc) (x : S) : Code × S :=
  if ef.allow then
    match x.d.addElement l with
    | (none, d) => (.noMemory, { x with d := d })
    | (some id, d) => JDDF.parseVariant cfg fuel limit ef (.slot id) { x with d := d }
  else
    match skipVariant cfg fuel limit x.s with
    | (e, s) => (e, { x with s := s })

theorem fparseElems_succ (cfg : Cfg) (fuel limit : Nat) (ef : Flt) (l : Loc) (x : S) :
    JDDF.parseElems cfg (fuel+1) limit ef l x =
      match fpeHead_f cfg fuel limit ef l x with
      | (.ok, x) => fpeTail_f cfg fuel limit ef l x
      | r => r := by
  simp only [JDDF.parseElems, fpeHead_f, fpeTail_f]
  rfl

def fpeTail0 (cfg : Cfg) (fuel limit : Nat) (ef : Flt) (s : St) (vs : List Val) : Code × Val × St :=
  match skipSpaces cfg (fuel+1) s with
  | (.ok, s) =>
    let (c, s) := cur s
    if c == 0x5D then (.ok, .arr vs.reverse, mv s)
    else if c == 0x2C then JD.fparseElems cfg fuel limit ef (mv s) vs
    else (.invalid, .arr vs.reverse, s)
  | (e, s) => (e, .arr vs.reverse, s)

def fpeHead0 (cfg : Cfg) (fuel limit : Nat) (ef : Flt) (s : St) (acc : List Val) : Code × List Val × St :=
  if ef.allow then
    match JD.fparseVariant cfg fuel limit ef s with
    | (e, v, s) => (e, v :: acc, s)
  else
    match skipVariant cfg fuel limit s with
    | (e, s) => (e, acc, s)

theorem fparseElems0_succ (cfg : Cfg) (fuel limit : Nat) (ef : Flt) (s : St) (acc : List Val) :
    JD.fparseElems cfg (fuel+1) limit ef s acc =
      match fpeHead0 cfg fuel limit ef s acc with
      | (.ok, vs, s) => fpeTail0 cfg fuel limit ef s vs
      | (e, vs, s) => (e, .arr vs.reverse, s) := by
  simp only [JD.fparseElems, fpeTail0, fpeHead0]
  cases ef.allow with
  | false =>
    simp only [Bool.false_eq_true, ↓reduceIte]
    generalize skipVariant cfg fuel limit s = r
    obtain ⟨e, s'⟩ := r
    cases e <;> rfl
  | true =>
    simp only [↓reduceIte]
    generalize JD.fparseVariant cfg fuel limit ef s = r
    obtain ⟨e, v, s'⟩ := r
    cases e <;> rfl

theorem fsim_peTail (cfg : Cfg) (fuel : Nat) (hE : FSimE cfg fuel) {limit : Nat} {ef : Flt} {l : Loc} {x : S} {d0 : Doc}
    {h t : Nat} {sl : Forest} {vs : List Val} (P0 : Pre d0 l) (P : Post d0 x.d l (.arr h t) sl)
    (hvals : (vals x.d noOv sl).map (·.2) = vs.reverse) (h0 : x.d.overflowed = false) (hb : sim_BOK cfg x.b) :
    Sim cfg d0 l (fpeTail_f cfg fuel limit ef l x) (fpeTail0 cfg fuel limit ef x.s vs) := by
  have hP := sim_arr_post P hvals
  have hno : ∀ {e : Code}, x.d.overflowed = true → e ≠ .ok := fun h => by rw [h0] at h; cases h
  simp only [fpeTail_f, fpeTail0]
  generalize hsk : skipSpaces cfg (fuel + 1) x.s = r3
  obtain ⟨c2, s2⟩ := r3
  cases c2
  case ok =>
    simp only
    generalize hcur : cur s2 = r4
    obtain ⟨e, s3⟩ := r4
    simp only
    by_cases h5D : (e == 0x5D) = true
    · simp only [h5D, ↓reduceIte]
      exact Sim.exit rfl hb hP hno
    · simp only [h5D, ↓reduceIte]
      by_cases h2C : (e == 0x2C) = true
      · simp only [h2C, ↓reduceIte]
        exact hE limit ef l { s := mv s3, d := x.d, b := x.b } d0 _ _ _ vs P0 P hvals h0 hb
      · simp only [h2C, ↓reduceIte]
        exact Sim.exit rfl hb hP hno
  all_goals exact Sim.exit rfl hb hP hno

theorem fsim_pe_step (cfg : Cfg) (fuel : Nat) (hV : FSimV cfg fuel) (hE : FSimE cfg fuel) : FSimE cfg (fuel + 1) := by
  intro limit ef l x d0 h t sl acc P0 P hvals h0 hb
  have gokd : PL.GeoOK x.d.g := by rw [P.fr.g]; exact P0.gok
  rw [fparseElems_succ, fparseElems0_succ]
  unfold fpeHead_f fpeHead0
  cases hA : ef.allow with
  | true =>
    simp only [↓reduceIte]
    generalize hadd : x.d.addElement l = r
    obtain ⟨m, d1⟩ := r
    cases m with
    | none =>
      simp only
      have := (allocVariant_none gokd P.fr.pool (sim_addElement_none hadd)).2.1
      exact Or.inr ⟨this, Or.inl rfl⟩
    | some id =>
      simp only
      obtain ⟨pre1, hov1, hstep⟩ := sim_arr_step P0 P hadd
      have hsim := hV limit ef (.slot id) { s := x.s, d := d1, b := x.b } pre1 (by rw [hov1]; exact h0) hb
      generalize JDDF.parseVariant cfg fuel limit ef (.slot id) { s := x.s, d := d1, b := x.b } = rv at hsim
      generalize JD.fparseVariant cfg fuel limit ef x.s = rv0 at hsim
      obtain ⟨c, x2⟩ := rv
      obtain ⟨c0, v0, s0⟩ := rv0
      rcases hsim with ⟨o2, hc, hs2, hb2, ve, se, P2, hval⟩ | ⟨o2, hc⟩
      · simp only at o2 hc hs2 hb2 P2 hval
        subst hc hs2
        obtain ⟨Pn, hvn⟩ := hstep x2.d ve se P2
        rw [hval] at hvn
        have hvals' : (vals x2.d noOv (sl.snocS none id se)).map (·.2) = (v0 :: acc).reverse := by
          rw [hvn, List.map_append, hvals]; simp
        have hno : ∀ {e : Code}, x2.d.overflowed = true → e ≠ .ok := fun h => by rw [o2] at h; cases h
        cases c
        case ok =>
          simp only
          exact fsim_peTail cfg fuel hE P0 Pn hvals' o2 hb2
        all_goals exact Sim.exit rfl hb2 (sim_arr_post Pn hvals') hno
      · simp only at o2 hc
        rcases hc with e | ⟨e1, e2, e3⟩
        · subst e
          exact Or.inr ⟨o2, Or.inl rfl⟩
        · subst e1
          cases c
          case ok => exact absurd rfl e2
          all_goals exact Or.inr ⟨o2, Or.inr ⟨rfl, e2, e3⟩⟩
  | false =>
    simp only [Bool.false_eq_true, ↓reduceIte]
    generalize skipVariant cfg fuel limit x.s = r
    obtain ⟨c, s1⟩ := r
    have hno : ∀ {e : Code}, x.d.overflowed = true → e ≠ .ok := fun h => by rw [h0] at h; cases h
    cases c
    case ok =>
      simp only
      exact fsim_peTail cfg fuel hE (x := { s := s1, d := x.d, b := x.b }) P0 P hvals h0 hb
    all_goals exact Sim.exit rfl hb (sim_arr_post P hvals) hno

/-! ## `parseMembers` cut into pieces -/

def fpmTail_f (cfg : Cfg) (fuel limit : Nat) (flt : Flt) (l : Loc) (x : S) : Code × S :=
  match skipSpaces cfg (fuel+1) x.s with
  | (.ok, s) =>
    let (c, s) := cur s
    if c == 0x7D then (.ok, { x with s := mv s })
    else if c == 0x2C then
      match skipSpaces cfg (fuel+1) (mv s) with
      | (.ok, s) => JDDF.parseMembers cfg fuel limit flt l { x with s := s }
      | (e, s) => (e, { x with s := s })
    else (.invalid, { x with s := s })
  | (e, s) => (e, { x with s := s })

/-- the member value: built in the slot `getMember` provides, or skipped -/
def fpmHead_f (cfg : Cfg) (fuel limit : Nat) (mf : Flt) (l : Loc) (key : List Byte) (x : S) : Code × S :=
  if mf.allow then
    match memberSlot x l key with
    | (none, x) => (.noMemory, x)
    | (some v, x) => JDDF.parseVariant cfg fuel limit mf (.slot v) x
  else
    match skipVariant cfg fuel limit x.s with
    | (e, s) => (e, { x with s := s })

def fpmRest_f (cfg : Cfg) (fuel limit : Nat) (flt : Flt) (l : Loc) (key : List Byte) (x : S) : Code × S :=
  match skipSpaces cfg (fuel+1) x.s with
  | (.ok, s) =>
    let (c, s) := cur s
    let x := { x with s := s }
    if c != 0x3A then (.invalid, x) else
    let x := { x with s := mv x.s }
    match fpmHead_f cfg fuel limit (flt.subKey key) l key x with
    | (.ok, x) => fpmTail_f cfg fuel limit flt l x
    | r => r
  | (e, s) => (e, { x with s := s })

theorem fparseMembers_succ (cfg : Cfg) (fuel limit : Nat) (flt : Flt) (l : Loc) (x : S) :
    JDDF.parseMembers cfg (fuel+1) limit flt l x =
      match keyToken cfg fuel (cur x.s).1 { x with s := (cur x.s).2 } with
      | (.ok, key, x) => fpmRest_f cfg fuel limit flt l key x
      | (e, _, x) => (e, x) := by
  simp only [JDDF.parseMembers, keyToken, fpmRest_f, fpmHead_f, memberSlot, fpmTail_f]
  rfl

def fpmTail0 (cfg : Cfg) (fuel limit : Nat) (flt : Flt) (s : St) (ms : List (List Byte × Val)) : Code × Val × St :=
  match skipSpaces cfg (fuel+1) s with
  | (.ok, s) =>
    let (c, s) := cur s
    if c == 0x7D then (.ok, .obj ms, mv s)
    else if c == 0x2C then
      match skipSpaces cfg (fuel+1) (mv s) with
      | (.ok, s) => JD.fparseMembers cfg fuel limit flt s ms
      | (e, s) => (e, .obj ms, s)
    else (.invalid, .obj ms, s)
  | (e, s) => (e, .obj ms, s)

def fpmHead0 (cfg : Cfg) (fuel limit : Nat) (mf : Flt) (key : List Byte) (s : St) (ms : List (List Byte × Val)) :
    Code × List (List Byte × Val) × St :=
  if mf.allow then
    match JD.fparseVariant cfg fuel limit mf s with
    | (e, v, s) => (e, setMember ms key v, s)
  else
    match skipVariant cfg fuel limit s with
    | (e, s) => (e, ms, s)

def fpmRest0 (cfg : Cfg) (fuel limit : Nat) (flt : Flt) (key : List Byte) (s : St) (ms : List (List Byte × Val)) :
    Code × Val × St :=
  match skipSpaces cfg (fuel+1) s with
  | (.ok, s) =>
    let (c, s) := cur s
    if c != 0x3A then (.invalid, .obj ms, s) else
    let s := mv s
    let (e, ms, s) : Code × List (List Byte × Val) × St := fpmHead0 cfg fuel limit (flt.subKey key) key s ms
    match e with
    | .ok => fpmTail0 cfg fuel limit flt s ms
    | e => (e, .obj ms, s)
  | (e, s) => (e, .obj ms, s)

theorem fparseMembers0_succ (cfg : Cfg) (fuel limit : Nat) (flt : Flt) (s : St) (ms : List (List Byte × Val)) :
    JD.fparseMembers cfg (fuel+1) limit flt s ms =
      match sim_pmKey0 cfg fuel (cur s).1 (cur s).2 with
      | (.ok, key, s) => fpmRest0 cfg fuel limit flt key s ms
      | (e, _, s) => (e, .obj ms, s) := by
  simp only [JD.fparseMembers, sim_pmKey0, fpmRest0, fpmHead0, fpmTail0]
  rfl

/-! ## Simulation of the pieces -/

theorem fsim_pmTail (cfg : Cfg) (fuel : Nat) (hM : FSimM cfg fuel) {limit : Nat} {flt : Flt} {l : Loc} {x : S} {d0 : Doc}
    {h t : Nat} {sl : Forest} {ms : List (List Byte × Val)} (P0 : Pre d0 l) (P : Post d0 x.d l (.obj h t) sl)
    (hvals : vals x.d noOv sl = ms) (h0 : x.d.overflowed = false) (hb : sim_BOK cfg x.b) :
    Sim cfg d0 l (fpmTail_f cfg fuel limit flt l x) (fpmTail0 cfg fuel limit flt x.s ms) := by
  have hP := sim_obj_post P hvals
  have hno : ∀ {e : Code}, x.d.overflowed = true → e ≠ .ok := fun h => by rw [h0] at h; cases h
  simp only [fpmTail_f, fpmTail0]
  generalize hsk : skipSpaces cfg (fuel + 1) x.s = r3
  obtain ⟨c2, s2⟩ := r3
  cases c2
  case ok =>
    simp only
    generalize hcur : cur s2 = r4
    obtain ⟨e, s3⟩ := r4
    simp only
    by_cases h7D : (e == 0x7D) = true
    · simp only [h7D, ↓reduceIte]
      exact Sim.exit rfl hb hP hno
    · simp only [h7D, ↓reduceIte]
      by_cases h2C : (e == 0x2C) = true
      · simp only [h2C, ↓reduceIte]
        generalize hsk2 : skipSpaces cfg (fuel + 1) (mv s3) = r5
        obtain ⟨c3, s4⟩ := r5
        cases c3
        case ok =>
          simp only
          exact hM limit flt l { s := s4, d := x.d, b := x.b } d0 _ _ _ ms P0 P hvals h0 hb
        all_goals exact Sim.exit rfl hb hP hno
      · simp only [h2C, ↓reduceIte]
        exact Sim.exit rfl hb hP hno
  all_goals exact Sim.exit rfl hb hP hno

/-- outcome relation for the member-value piece: the object under construction with the abstract member list -/
def HSim (cfg : Cfg) (d0 : Doc) (l : Loc) (r : Code × S) (r0 : Code × List (List Byte × Val) × St) : Prop :=
  (r.2.d.overflowed = false ∧ r.1 = r0.1 ∧ r.2.s = r0.2.2 ∧ sim_BOK cfg r.2.b ∧
     ∃ h t sl, Post d0 r.2.d l (.obj h t) sl ∧ vals r.2.d noOv sl = r0.2.1) ∨
  (r.2.d.overflowed = true ∧ (r.1 = .noMemory ∨ (r.1 = r0.1 ∧ r.1 ≠ .ok ∧ r.2.s = r0.2.2)))

/-- the member value: an allowed member is `getMember` + `parseVariant` (as in the unfiltered deserializer), a member that is
    not allowed is skipped on the reader, the object is the one before -/
theorem fsim_pmHead (cfg : Cfg) (fuel : Nat) (hV : FSimV cfg fuel) {limit : Nat} {mf : Flt} {l : Loc} {key : List Byte}
    {x : S} {d0 : Doc} {h t : Nat} {sl : Forest} {ms : List (List Byte × Val)} (P0 : Pre d0 l)
    (P : Post d0 x.d l (.obj h t) sl) (hvals : vals x.d noOv sl = ms) (h0 : x.d.overflowed = false) (hb : sim_BOK cfg x.b) :
    HSim cfg d0 l (fpmHead_f cfg fuel limit mf l key x) (fpmHead0 cfg fuel limit mf key x.s ms) := by
  unfold fpmHead_f fpmHead0
  cases hA : mf.allow with
  | true =>
    simp only [↓reduceIte]
    rcases sim_pmSlot cfg (key := key) (x := x) P0 P hvals h0 hb with ⟨e1, e2⟩ | ⟨v, e1, e2, pre, ov, bok, fill⟩
    · generalize memberSlot x l key = q at *
      obtain ⟨m, xs⟩ := q
      simp only at e1 e2
      subst e1
      exact Or.inr ⟨e2, Or.inl rfl⟩
    · generalize memberSlot x l key = q at *
      obtain ⟨m, xs⟩ := q
      simp only at e1 e2 pre ov bok fill
      subst e1
      simp only
      have hsim := hV limit mf (.slot v) xs pre ov bok
      rw [e2] at hsim
      generalize JDDF.parseVariant cfg fuel limit mf (.slot v) xs = rv at hsim
      generalize JD.fparseVariant cfg fuel limit mf x.s = rv0 at hsim
      obtain ⟨c, x2⟩ := rv
      obtain ⟨c0, v0, s0⟩ := rv0
      rcases hsim with ⟨o2, hc, hs2, hb2, ve, se, P2, hval⟩ | ⟨o2, hc⟩
      · simp only at o2 hc hs2 hb2 P2 hval
        obtain ⟨h', t', s', Pn, hvn⟩ := fill x2.d ve se P2
        rw [hval] at hvn
        exact Or.inl ⟨o2, hc, hs2, hb2, h', t', s', Pn, hvn⟩
      · exact Or.inr ⟨o2, hc⟩
  | false =>
    simp only [Bool.false_eq_true, ↓reduceIte]
    exact Or.inl ⟨h0, rfl, rfl, hb, h, t, sl, P, hvals⟩

theorem fsim_pmRest (cfg : Cfg) (fuel : Nat) (hV : FSimV cfg fuel) (hM : FSimM cfg fuel) {limit : Nat} {flt : Flt} {l : Loc}
    {key : List Byte} {x : S} {d0 : Doc} {h t : Nat} {sl : Forest} {ms : List (List Byte × Val)} (P0 : Pre d0 l)
    (P : Post d0 x.d l (.obj h t) sl) (hvals : vals x.d noOv sl = ms) (h0 : x.d.overflowed = false) (hb : sim_BOK cfg x.b) :
    Sim cfg d0 l (fpmRest_f cfg fuel limit flt l key x) (fpmRest0 cfg fuel limit flt key x.s ms) := by
  have hP := sim_obj_post P hvals
  have hno : ∀ {e : Code}, x.d.overflowed = true → e ≠ .ok := fun h => by rw [h0] at h; cases h
  simp only [fpmRest_f, fpmRest0]
  generalize hsk : skipSpaces cfg (fuel + 1) x.s = r3
  obtain ⟨c2, s2⟩ := r3
  cases c2
  case ok =>
    simp only
    generalize hcur : cur s2 = r4
    obtain ⟨e, s3⟩ := r4
    simp only
    by_cases h3A : (e != 0x3A) = true
    · simp only [h3A, ↓reduceIte]
      exact Sim.exit rfl hb hP hno
    · simp only [h3A, ↓reduceIte]
      have hh := fsim_pmHead cfg fuel hV (limit := limit) (mf := flt.subKey key) (key := key)
        (x := { s := mv s3, d := x.d, b := x.b }) P0 P hvals h0 hb
      generalize fpmHead_f cfg fuel limit (flt.subKey key) l key { s := mv s3, d := x.d, b := x.b } = q at hh
      generalize fpmHead0 cfg fuel limit (flt.subKey key) key (mv s3) ms = q0 at hh
      obtain ⟨c, x2⟩ := q
      obtain ⟨c0, ms', s0⟩ := q0
      rcases hh with ⟨o2, hc, hs2, hb2, h', t', s', Pn, hvn⟩ | ⟨o2, hc⟩
      · simp only at o2 hc hs2 hb2 Pn hvn
        subst hc hs2
        have hno2 : ∀ {e : Code}, x2.d.overflowed = true → e ≠ .ok := fun h => by rw [o2] at h; cases h
        cases c
        case ok =>
          simp only
          exact fsim_pmTail cfg fuel hM P0 Pn hvn o2 hb2
        all_goals exact Sim.exit rfl hb2 (sim_obj_post Pn hvn) hno2
      · simp only at o2 hc
        rcases hc with e | ⟨e1, e2, e3⟩
        · subst e
          exact Or.inr ⟨o2, Or.inl rfl⟩
        · subst e1
          cases c
          case ok => exact absurd rfl e2
          all_goals exact Or.inr ⟨o2, Or.inr ⟨rfl, e2, e3⟩⟩
  all_goals exact Sim.exit rfl hb hP hno

theorem fsim_pm_step (cfg : Cfg) (h31 : 31 ≤ cfg.maxStrLen) (fuel : Nat) (hV : FSimV cfg fuel) (hM : FSimM cfg fuel) :
    FSimM cfg (fuel + 1) := by
  intro limit flt l x d0 h t sl ms P0 P hvals h0 hb
  rw [fparseMembers_succ, fparseMembers0_succ]
  obtain ⟨k1, k2, k3, k4, k5, k6⟩ := sim_pmKey cfg h31 fuel (cur x.s).1 { s := (cur x.s).2, d := x.d, b := x.b }
    P.fr.pool hb h0
  generalize keyToken cfg fuel (cur x.s).1 { s := (cur x.s).2, d := x.d, b := x.b } = kr at *
  generalize sim_pmKey0 cfg fuel (cur x.s).1 (cur x.s).2 = kr0 at *
  obtain ⟨kc, key, xk⟩ := kr
  obtain ⟨kc0, key0, sk0⟩ := kr0
  simp only at k1 k2 k3 k4 k5 k6
  subst k1 k2
  have hfr : Fr x.d xk.d [] := Fr.of_grow k3 (fun h => by rw [h0] at h; cases h) []
  obtain ⟨PK, hvK⟩ := P.frame P0 hfr
  have hvalsK : vals xk.d noOv sl = ms := by
    have : Val.obj (vals xk.d noOv sl) = Val.obj (vals x.d noOv sl) := hvK
    injection this with this
    rw [this, hvals]
  cases ho : xk.d.overflowed with
  | false =>
    have hc := k5 ho
    subst hc
    cases kc
    case ok =>
      simp only
      exact fsim_pmRest cfg fuel hV hM P0 PK hvalsK ho k4
    all_goals exact Sim.exit rfl k4 (sim_obj_post PK hvalsK) (fun h => by rw [ho] at h; cases h)
  | true =>
    rcases k6 ho with e | ⟨e1, e2⟩
    · subst e
      exact Or.inr ⟨ho, Or.inl rfl⟩
    · subst e1
      cases kc
      case ok => exact absurd rfl e2
      all_goals exact Or.inr ⟨ho, Or.inr ⟨rfl, e2, rfl⟩⟩

/-- THE SIMULATION, filtered: for every fuel and every filter, the three slot-level routines of `JDDF` are simulated by the
    value-level filtered routines -/
theorem sim_all (cfg : Cfg) (h31 : 31 ≤ cfg.maxStrLen) : ∀ fuel, FSimV cfg fuel ∧ FSimE cfg fuel ∧ FSimM cfg fuel := by
  intro fuel
  induction fuel with
  | zero => exact ⟨fsim_pv_zero cfg, fsim_pe_zero cfg, fsim_pm_zero cfg⟩
  | succ n ih =>
    obtain ⟨hV, hE, hM⟩ := ih
    exact ⟨fsim_pv_step cfg h31 n hE hM, fsim_pe_step cfg n hV hE, fsim_pm_step cfg h31 n hV hM⟩

end JDDF
