/- Configuration-dependent post-processing of numbers commutes with the projection.
   The MessagePack model stores every number as read; the configurations of the library then rewrite number
   leaves only (`MD.narrowDoubles` for ARDUINOJSON_USE_DOUBLE=0; an integer that does not fit the configured
   integer type is stored as `null`). Any such leaf-wise rewriting `g : Num → Val` into scalars commutes with
   `Spec.Filter.project`, so "filtering = projecting" transfers to every such configuration. -/
import AJ.Model.MD
import AJ.Spec.Filter
import AJ.Lemmas.ProjectAlg
namespace MD
open JD Spec.Filter

mutual
/-- rewrite every number leaf with `g` -/
def mapNums (g : Num → Val) : Val → Val
  | .num n => g n
  | .arr xs => .arr (mapNumsL g xs)
  | .obj ms => .obj (mapNumsM g ms)
  | .null => .null
  | .bool b => .bool b
  | .str s => .str s
  | .raw s => .raw s
def mapNumsL (g : Num → Val) : List Val → List Val
  | [] => []
  | x :: r => mapNums g x :: mapNumsL g r
def mapNumsM (g : Num → Val) : List (List Byte × Val) → List (List Byte × Val)
  | [] => []
  | (k, x) :: r => (k, mapNums g x) :: mapNumsM g r
end

/-- `g` sends numbers to scalars (numbers, `null`, ...), never to containers -/
def ScalarMap (g : Num → Val) : Prop := ∀ n, (g n).isArr = false ∧ (g n).isObj = false

/-- `mapNums g` leaves `null` alone, so it goes inside the choice the projection makes -/
theorem mapNums_ite (g : Num → Val) (c : Bool) (v : Val) :
    mapNums g (if c then v else .null) = if c then mapNums g v else .null := by
  cases c <;> rfl

/-- a scalar that `mapNums g` sends to a scalar -/
theorem project_mapNums_scalar {g : Num → Val} (f : Flt) {v w : Val} (hv : mapNums g v = w)
    (h1 : v.isArr = false) (h2 : v.isObj = false) (w1 : w.isArr = false) (w2 : w.isObj = false) :
    project f (mapNums g v) = mapNums g (project f v) := by
  rw [project_scalar f v h1 h2, mapNums_ite, hv, project_scalar f w w1 w2]

mutual
theorem project_mapNums {g : Num → Val} (hg : ScalarMap g) :
    ∀ (f : Flt) (v : Val), project f (mapNums g v) = mapNums g (project f v)
  | f, .num n => project_mapNums_scalar f rfl rfl rfl (hg n).1 (hg n).2
  | f, .arr xs => by rw [mapNums, project, project, mapNums_ite, mapNums, projectElems_mapNums hg]
  | f, .obj ms => by rw [mapNums, project, project, mapNums_ite, mapNums, projectMembers_mapNums hg]
  | f, .null => project_mapNums_scalar f rfl rfl rfl rfl rfl
  | f, .bool _ => project_mapNums_scalar f rfl rfl rfl rfl rfl
  | f, .str _ => project_mapNums_scalar f rfl rfl rfl rfl rfl
  | f, .raw _ => project_mapNums_scalar f rfl rfl rfl rfl rfl
theorem projectElems_mapNums {g : Num → Val} (hg : ScalarMap g) :
    ∀ (ef : Flt) (xs : List Val), projectElems ef (mapNumsL g xs) = mapNumsL g (projectElems ef xs)
  | ef, [] => by rfl
  | ef, x :: xs => by
    rw [mapNumsL, projectElems, projectElems, project_mapNums hg, projectElems_mapNums hg]
    cases ef.allow <;> rfl
theorem projectMembers_mapNums {g : Num → Val} (hg : ScalarMap g) :
    ∀ (f : Flt) (ms : List (List Byte × Val)), projectMembers f (mapNumsM g ms) = mapNumsM g (projectMembers f ms)
  | f, [] => by rfl
  | f, (k, x) :: ms => by
    rw [mapNumsM, projectMembers, projectMembers, project_mapNums hg, projectMembers_mapNums hg]
    cases (f.subKey k).allow <;> rfl
end

/-! ## the two rewritings of the library -/

/-- ARDUINOJSON_USE_DOUBLE=0 on one number -/
def narrowNum : Num → Val
  | .f64 b => .num (.f32 (cvt SF.b64 SF.b32 b))
  | n => .num n

theorem narrowNum_scalar : ScalarMap narrowNum := by
  intro n; cases n <;> exact ⟨rfl, rfl⟩

mutual
theorem narrowDoubles_eq : ∀ v, narrowDoubles v = mapNums narrowNum v
  | .num n => by cases n <;> simp only [narrowDoubles, mapNums, narrowNum]
  | .arr xs => by simp only [narrowDoubles, mapNums, narrowList_eq]
  | .obj ms => by simp only [narrowDoubles, mapNums, narrowMembers_eq]
  | .null | .bool _ | .str _ | .raw _ => by simp only [narrowDoubles, mapNums]
theorem narrowList_eq : ∀ xs, narrowDoubles.narrowList xs = mapNumsL narrowNum xs
  | [] => by simp only [narrowDoubles.narrowList, mapNumsL]
  | x :: xs => by simp only [narrowDoubles.narrowList, mapNumsL, narrowDoubles_eq, narrowList_eq]
theorem narrowMembers_eq : ∀ ms, narrowDoubles.narrowMembers ms = mapNumsM narrowNum ms
  | [] => by simp only [narrowDoubles.narrowMembers, mapNumsM]
  | (k, x) :: ms => by simp only [narrowDoubles.narrowMembers, mapNumsM, narrowDoubles_eq, narrowMembers_eq]
end

/-- narrowing the stored doubles commutes with the projection -/
theorem project_narrowDoubles (f : Flt) (v : Val) : project f (narrowDoubles v) = narrowDoubles (project f v) := by
  rw [narrowDoubles_eq, narrowDoubles_eq, project_mapNums narrowNum_scalar]

/-- an integer type `[lo, hi]`: integers outside become `null` (floats are untouched) -/
def clampInt (lo hi : Int) : Num → Val
  | .uint n => if lo ≤ (n : Int) ∧ (n : Int) ≤ hi then .num (.uint n) else .null
  | .sint n => if lo ≤ n ∧ n ≤ hi then .num (.sint n) else .null
  | n => .num n

theorem clampInt_scalar (lo hi : Int) : ScalarMap (clampInt lo hi) := by
  intro n
  cases n with
  | uint n => rw [clampInt]; split <;> exact ⟨rfl, rfl⟩
  | sint n => rw [clampInt]; split <;> exact ⟨rfl, rfl⟩
  | _ => exact ⟨rfl, rfl⟩

theorem project_clampInt (lo hi : Int) (f : Flt) (v : Val) :
    project f (mapNums (clampInt lo hi) v) = mapNums (clampInt lo hi) (project f v) :=
  project_mapNums (clampInt_scalar lo hi) f v

end MD
