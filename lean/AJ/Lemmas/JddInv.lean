/- The invariant of AJ/Lemmas/JddOps.lean through `JDD.parseVariant / parseElems / parseMembers` and through `JDD.run`: for
   every input and every allocator failure schedule the document stays well-formed, the ledger balances, and the result
   code tells whether an allocation failed. The unfiltered deserializer is the filtered one under `AllowAllFilter`
   (`JDDF.parse_transparent`), so every statement here is the one of AJ/Lemmas/JddfInv.lean at the filter `.all`.
   Used by AJ/Props/C03Doc.lean and AJ/Props/C05Deser.lean. -/
import AJ.Lemmas.JddfInv
namespace JDD
open DL
open JD (Byte Code Cfg cur mv skipSpaces skipKeyword)

/-! ## The statements, by fuel -/

def PVs (cfg : Cfg) (fuel : Nat) : Prop := ∀ (limit : Nat) (l : Loc) (x : S) (d0 : Doc) (F : Forest),
  Ctx d0 F l → Built d0 F l x.d .nil → x.d.get l = .null → Res d0 F l x (parseVariant cfg fuel limit l x)

def PEs (cfg : Cfg) (fuel : Nat) : Prop := ∀ (limit : Nat) (l : Loc) (x : S) (d0 : Doc) (F s : Forest) (h t : Nat),
  Ctx d0 F l → Built d0 F l x.d s → x.d.get l = .arr h t → Res d0 F l x (parseElems cfg fuel limit l x)

def PMs (cfg : Cfg) (fuel : Nat) : Prop := ∀ (limit : Nat) (l : Loc) (x : S) (d0 : Doc) (F s : Forest) (h t : Nat),
  Ctx d0 F l → Built d0 F l x.d s → x.d.get l = .obj h t → Res d0 F l x (parseMembers cfg fuel limit l x)

/-- the invariant through the whole mutual block, for every fuel -/
theorem parse_all (cfg : Cfg) : ∀ fuel, PVs cfg fuel ∧ PEs cfg fuel ∧ PMs cfg fuel := by
  intro fuel
  obtain ⟨eV, eE, eM⟩ := JDDF.parse_transparent (cfg := cfg) fuel
  obtain ⟨hV, hE, hM⟩ := JDDF.parse_all FStep.true cfg fuel
  refine ⟨fun limit l x d0 F C B hn => ?_, fun limit l x d0 F s h t C B hv => ?_, fun limit l x d0 F s h t C B hv => ?_⟩
  · rw [← eV limit .all l x JD.transparent_all]; exact (hV limit .all l x d0 F C B hn).res
  · rw [← eE limit .all l x JD.transparent_all]; exact (hE limit .all l x d0 F s h t C B hv).res
  · rw [← eM limit .all l x JD.transparent_all]; exact (hM limit .all l x d0 F s h t C B hv).res

/-! ## `run` -/

/-- the state in which the parser stops -/
def stop (cfg : Cfg) (limit : Nat) (d : Doc) (input : List Byte) : Code × S :=
  parseVariant cfg (2 * input.length + 4) limit .root (start d input)

/-- the document after the deserializer object was destroyed (a kept StringBuilder buffer is released), before the
    pools are shrunk -/
def preShrink (cfg : Cfg) (limit : Nat) (d : Doc) (input : List Byte) : Doc :=
  match (stop cfg limit d input).2.b with
  | some _ => { (stop cfg limit d input).2.d with pl := (stop cfg limit d input).2.d.pl.dealloc }
  | none => (stop cfg limit d input).2.d

theorem run_eq (cfg : Cfg) (limit : Nat) (d : Doc) (input : List Byte) :
    run cfg limit d input =
      (finalCode (stop cfg limit d input).1 (stop cfg limit d input).2,
        { preShrink cfg limit d input with
          pl := PL.shrink (preShrink cfg limit d input).g (preShrink cfg limit d input).pl },
        (stop cfg limit d input).2.s.l.pos) := by
  unfold run preShrink stop start
  dsimp only
  generalize parseVariant cfg (2 * input.length + 4) limit .root _ = r
  obtain ⟨c, x⟩ := r
  rfl

theorem stop_all (cfg : Cfg) (limit : Nat) (d : Doc) (input : List Byte) :
    JDDF.stop cfg limit .all d input = stop cfg limit d input :=
  (JDDF.parse_transparent (cfg := cfg) _).1 limit .all .root (start d input) JD.transparent_all

theorem preShrink_all (cfg : Cfg) (limit : Nat) (d : Doc) (input : List Byte) :
    JDDF.preShrink cfg limit .all d input = preShrink cfg limit d input := by
  unfold JDDF.preShrink preShrink
  rw [stop_all]
  rfl

theorem run_all (cfg : Cfg) (limit : Nat) (d : Doc) (input : List Byte) :
    JDDF.run cfg limit .all d input = run cfg limit d input := by
  rw [JDDF.run_eq, run_eq, stop_all, preShrink_all]

theorem preShrink_pleq (cfg : Cfg) (limit : Nat) (d : Doc) (input : List Byte) :
    PlEq (stop cfg limit d input).2.d (preShrink cfg limit d input) ∧
    (preShrink cfg limit d input).overflowed = (stop cfg limit d input).2.d.overflowed := by
  rw [← stop_all, ← preShrink_all]; exact JDDF.preShrink_pleq cfg limit .all d input

/-- MAIN: whatever the input and the allocator failure schedule, `run` leaves a well-formed document -/
theorem run_wf (cfg : Cfg) (limit : Nat) {d : Doc} (input : List Byte) (gok : PL.GeoOK d.g) (hp : PL.Inv d.g d.pl) :
    ∃ F', WFG (run cfg limit d input).2.1 F' ∧
      StrOK (run cfg limit d input).2.1 ((run cfg limit d input).2.1.strRefs F') := by
  rw [← run_all]; exact JDDF.run_wf cfg limit .all input gok hp

/-- the result code against the overflow flag -/
theorem run_code (cfg : Cfg) (limit : Nat) {d : Doc} (input : List Byte) (gok : PL.GeoOK d.g) (hp : PL.Inv d.g d.pl) :
    ((run cfg limit d input).1 = .ok → (run cfg limit d input).2.1.overflowed = false) ∧
    ((run cfg limit d input).1 = .noMemory → (run cfg limit d input).2.1.overflowed = true) := by
  rw [← run_all]; exact JDDF.run_code cfg limit .all input gok hp

/-- the ledger balances before the pools are shrunk -/
theorem preShrink_bal (cfg : Cfg) (limit : Nat) {d : Doc} (input : List Byte) (gok : PL.GeoOK d.g) (hp : PL.Inv d.g d.pl)
    (hb : Bal d) : Bal (preShrink cfg limit d input) := by
  rw [← preShrink_all]; exact JDDF.preShrink_bal cfg limit .all input gok hp hb

/-- the ledger of the document `run` returns: balanced up to the block `shrink` gives a block-less last pool -/
theorem run_net (cfg : Cfg) (limit : Nat) {d : Doc} (input : List Byte) (gok : PL.GeoOK d.g) (hp : PL.Inv d.g d.pl)
    (hb : Bal d) :
    PL.net (run cfg limit d input).2.1.pl =
      ((run cfg limit d input).2.1.strings.length : Int) -
        (if lastBlockless (preShrink cfg limit d input).pl then 1 else 0) := by
  rw [← run_all, ← preShrink_all]; exact JDDF.run_net cfg limit .all input gok hp hb

/-- when no allocation failed, every pool has its block and the ledger of the result balances -/
theorem run_bal (cfg : Cfg) (limit : Nat) {d : Doc} (input : List Byte) (gok : PL.GeoOK d.g) (hp : PL.Inv d.g d.pl)
    (hb : Bal d) (hov : (run cfg limit d input).2.1.overflowed = false) : Bal (run cfg limit d input).2.1 := by
  rw [← run_all] at hov ⊢; exact JDDF.run_bal cfg limit .all input gok hp hb hov

/-- the geometry is kept -/
theorem run_g (cfg : Cfg) (limit : Nat) {d : Doc} (input : List Byte) (gok : PL.GeoOK d.g) (hp : PL.Inv d.g d.pl) :
    (run cfg limit d input).2.1.g = d.g := by
  rw [← run_all]; exact JDDF.run_g cfg limit .all input gok hp

/-- `clearAll` after `run`: what the ledger says -/
theorem run_clearAll_outstanding (cfg : Cfg) (limit : Nat) {d : Doc} (input : List Byte) (gok : PL.GeoOK d.g)
    (hp : PL.Inv d.g d.pl) (hb : Bal d) :
    PL.outstanding (run cfg limit d input).2.1.clearAll.pl.log =
      - (if lastBlockless (preShrink cfg limit d input).pl then 1 else 0) := by
  rw [← run_all, ← preShrink_all]; exact JDDF.run_clearAll_outstanding cfg limit .all input gok hp hb

end JDD
