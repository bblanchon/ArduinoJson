/- The text that `writeFloat` produces for a finite value is a JSON number that `parseNumber` does not reject:
   `parseNumber` factored into named stages, and each stage on the shape  -? digits (. digits)? (e -? digits)?  -/
import AJ.Lemmas.JsonRoundTrip
import AJ.Lemmas.FloatLen
import AJ.Lemmas.NumFault
namespace C07
open JD JS Digits SF

def expPart (s : List Byte) : List Byte × Int :=
  match s with
  | c :: r =>
    if c == 0x65 || c == 0x45 then
      let (negE, r) := match r with
        | 0x2D :: r' => (true, r')
        | 0x2B :: r' => (false, r')
        | _ => (false, r)
      let (r', e) := expDigits r 0
      (r', if negE then -(e : Int) else (e : Int))
    else (s, 0)
  | [] => ([], 0)

def fracPart (mmax : Nat) (s : List Byte) (mant : Nat) (off : Int) : List Byte × Nat × Int :=
  match s with
  | 0x2E :: r => fracDigits mmax r mant off
  | _ => (s, mant, off)

def afterMant (neg : Bool) (mant : Nat) (s : List Byte) : PNum :=
  if s.isEmpty && !neg then .uint mant else
  if s.isEmpty && neg && mant ≤ 2^63 then .sint (-(mant : Int)) else
  let (mant, off) := reduceMant Gen.mantissa_max64 32 mant 0
  let (s, off) := skipDigitsCount s off
  let (s, mant, off) := fracPart Gen.mantissa_max64 s mant off
  let (s, e) := expPart s
  finish neg s mant (e + off)


theorem core_digit (cfg : Cfg) (neg : Bool) (c : Byte) (t : List Byte) (hc : 0x30 ≤ c ∧ c ≤ 0x39) :
    core cfg neg (c :: t) =
      afterMant neg (takeDigitsMant (2 ^ 64 - 1) 0 (c :: t)).1 (takeDigitsMant (2 ^ 64 - 1) 0 (c :: t)).2 := by
  unfold core
  simp only [List.headD_cons,
    digit_ne hc 110 (by decide), digit_ne hc 78 (by decide), digit_ne hc 105 (by decide), digit_ne hc 73 (by decide),
    isDigit_of_range hc, Bool.or_self, Bool.and_false, Bool.false_eq_true, ↓reduceIte, Bool.not_true, Bool.false_and]
  rfl

/-! ### the shapes of the fraction and of the exponent -/

def FracShape (F : List Byte) : Prop := F = [] ∨ ∃ FD, F = 0x2E :: FD ∧ AllDigits FD
def ExpShape (E : List Byte) : Prop :=
  E = [] ∨ ∃ sg ED, E = 0x65 :: (sg ++ ED) ∧ (sg = [] ∨ sg = [0x2D]) ∧ AllDigits ED

theorem expShape_stop {E : List Byte} (h : ExpShape E) : Stop E := by
  rcases h with rfl | ⟨sg, ED, rfl, _⟩
  · exact stop_nil
  · exact stop_cons isDigit_e.1 _

theorem fracExp_stop {F E : List Byte} (hF : FracShape F) (hE : ExpShape E) : Stop (F ++ E) := by
  rcases hF with rfl | ⟨FD, rfl, _⟩
  · exact expShape_stop hE
  · exact stop_cons isDigit_e.2.2 _

theorem expPart_ok {E : List Byte} (h : ExpShape E) : ∃ e, expPart E = ([], e) := by
  rcases h with rfl | ⟨sg, ED, rfl, hsg, hd⟩
  · exact ⟨0, rfl⟩
  · obtain ⟨e, he⟩ := expDigits_all ED hd 0
    rcases hsg with rfl | rfl
    · cases ED with
      | nil => exact ⟨0, rfl⟩
      | cons d r =>
        -- no sign: the first digit is neither '-' nor '+'
        have hc := (AllDigits_cons.mp hd).1
        refine ⟨e, ?_⟩
        simp only [expPart, List.nil_append, beq_self_eq_true, Bool.true_or, ↓reduceIte]
        split
        · rename_i r' h; exact absurd ((List.cons.inj h).1 ▸ hc) (by decide)
        · rename_i r' h; exact absurd ((List.cons.inj h).1 ▸ hc) (by decide)
        · simp only [he, Bool.false_eq_true, ↓reduceIte]
    · exact ⟨-(e : Int), by simp only [expPart, beq_self_eq_true, Bool.true_or, ↓reduceIte, List.singleton_append, he]⟩

theorem fracPart_ok (mmax : Nat) {F E : List Byte} (hF : FracShape F) (hE : ExpShape E) (m : Nat) (off : Int) :
    ∃ m' off', fracPart mmax (F ++ E) m off = (E, m', off') := by
  rcases hF with rfl | ⟨FD, rfl, hd⟩
  · refine ⟨m, off, ?_⟩
    rcases hE with rfl | ⟨sg, ED, rfl, _⟩
    · rfl
    · rfl
  · obtain ⟨m', off', h⟩ := fracDigits_stop mmax (expShape_stop hE) FD hd m off
    exact ⟨m', off', by simp only [List.cons_append, fracPart, h]⟩

/-- after the mantissa loop: leftover digits, an optional fraction, an optional exponent — never `.invalid` -/
theorem afterMant_ok (neg : Bool) (mant : Nat) (ds F E : List Byte) (hd : AllDigits ds) (hF : FracShape F)
    (hE : ExpShape E) : afterMant neg mant (ds ++ (F ++ E)) ≠ .invalid := by
  simp only [afterMant]
  split
  · intro h; cases h
  · split
    · intro h; cases h
    · generalize reduceMant Gen.mantissa_max64 32 mant 0 = R
      obtain ⟨m1, off1⟩ := R
      obtain ⟨off2, hs⟩ := skipDigitsCount_stop (fracExp_stop hF hE) ds hd off1
      obtain ⟨m3, off3, hf⟩ := fracPart_ok Gen.mantissa_max64 hF hE m1 off2
      obtain ⟨e, he⟩ := expPart_ok hE
      simp only [hs, hf, he]
      exact (finish_good _ _ _).1

/-- a text of the shape  -? digits (. digits)? (e -? digits)?  is never rejected by `parseNumber` -/
theorem number_shape_ok (cfg : Cfg) (neg : Bool) (ID F E : List Byte) (hI : AllDigits ID) (hne : ID ≠ [])
    (hF : FracShape F) (hE : ExpShape E) :
    parseNumber cfg ((if neg then [0x2D] else []) ++ ID ++ F ++ E) ≠ .invalid := by
  cases ID with
  | nil => exact absurd rfl hne
  | cons c t =>
    have hc := (AllDigits_cons.mp hI).1
    obtain ⟨m, ds', hd', ht⟩ := takeDigitsMant_stop (2 ^ 64 - 1) (fracExp_stop hF hE) (c :: t) hI 0
    have hcore : ∀ neg, core cfg neg (c :: (t ++ (F ++ E))) ≠ .invalid := by
      intro neg
      rw [core_digit cfg neg c _ hc, ← List.cons_append, ht]
      exact afterMant_ok neg m ds' F E hd' hF hE
    cases neg
    · have e : (if false = true then [0x2D] else []) ++ (c :: t) ++ F ++ E = c :: (t ++ (F ++ E)) := by simp
      rw [e, parseNumber_digit cfg c _ (fun h => absurd (h ▸ hc) (by decide)) (fun h => absurd (h ▸ hc) (by decide))]
      exact hcore false
    · have e : (if true = true then [0x2D] else []) ++ (c :: t) ++ F ++ E = 0x2D :: c :: (t ++ (F ++ E)) := by simp
      rw [e, parseNumber_minus]
      exact hcore true

/-! ### `writeFloat` on a finite value has that shape -/

theorem writeFloat_finite_shape (cfg : Cfg) (v places : Nat) (h1 : isNaN b64 v = false) (h2 : isInf b64 v = false) :
    ∃ (neg : Bool) (ID F E : List Byte), writeFloat cfg v places = (if neg then [0x2D] else []) ++ ID ++ F ++ E ∧
      AllDigits ID ∧ ID ≠ [] ∧ FracShape F ∧ ExpShape E := by
  simp only [writeFloat, h1, h2, Bool.false_eq_true, ↓reduceIte]
  generalize decompose (if lt b64 v 0 = true then absBits b64 v else v) places = p
  refine ⟨lt b64 v 0, digits p.integral, _, _, rfl, (digits_spec _).1, (digits_spec _).2.2.1, ?_, ?_⟩
  · split
    · exact Or.inr ⟨_, rfl, FloatLen.padDigits_allDigits _ _⟩
    · exact Or.inl rfl
  · split
    · refine Or.inr ⟨(if p.exponent < 0 then [0x2D] else []), digits p.exponent.natAbs, rfl, ?_, (digits_spec _).1⟩
      split
      · exact Or.inr rfl
      · exact Or.inl rfl
    · exact Or.inl rfl

theorem shape_inNumber (cfg : Cfg) (neg : Bool) (ID F E : List Byte) (hI : AllDigits ID) (hF : FracShape F) (hE : ExpShape E) :
    ∀ c ∈ (if neg then [0x2D] else []) ++ ID ++ F ++ E, inNumber cfg c = true := by
  have hminus : ∀ c ∈ [(0x2D : Byte)], NumCh c := fun c hc => by
    rw [List.mem_singleton.mp hc]; exact Or.inr (Or.inr (Or.inl rfl))
  have hdig : ∀ ds, AllDigits ds → ∀ c ∈ ds, NumCh c := fun ds h c hc => Or.inl (h c hc)
  intro c hc
  refine inNumber_numCh cfg ?_
  simp only [List.mem_append] at hc
  rcases hc with ((hc | hc) | hc) | hc
  · cases neg
    · cases hc
    · exact hminus c hc
  · exact hdig ID hI c hc
  · rcases hF with rfl | ⟨FD, rfl, hd⟩
    · cases hc
    · rcases List.mem_cons.mp hc with rfl | hc
      · exact Or.inr (Or.inr (Or.inr (Or.inl rfl)))
      · exact hdig FD hd c hc
  · rcases hE with rfl | ⟨sg, ED, rfl, hsg, hd⟩
    · cases hc
    · rcases List.mem_cons.mp hc with rfl | hc
      · exact Or.inr (Or.inr (Or.inr (Or.inr (Or.inl rfl))))
      · rcases List.mem_append.mp hc with hc | hc
        · rcases hsg with rfl | rfl
          · cases hc
          · exact hminus c hc
        · exact hdig ED hd c hc

end C07
