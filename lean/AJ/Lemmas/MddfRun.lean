/- Simulation of the FILTERED slot-level MessagePack deserializer `MDDF` by the value-level filtered deserializer, part 3:
   the run (`MDDF.run` against `MD.run env limit flt`). After its parse `run` releases a kept buffer and shrinks the pools,
   which the abstraction does not see (`run_doc`). -/
import AJ.Lemmas.MddfSim
import AJ.Lemmas.MddfInv
import AJ.Props.C01Doc
namespace MDDF
open DL MDD
open JD (Byte Val Code Flt)
open MD (R Env)

/-- the document `run` returns is the one the parser left, up to the allocator state -/
theorem run_doc (env : Env) (limit : Nat) (flt : Flt) (d : Doc) (input : List Byte) :
    (run env limit flt d input).2.1.g = (stop env limit flt d input).2.1.d.g ∧
    (run env limit flt d input).2.1.cells = (stop env limit flt d input).2.1.d.cells ∧
    (run env limit flt d input).2.1.strings = (stop env limit flt d input).2.1.d.strings ∧
    (run env limit flt d input).2.1.root = (stop env limit flt d input).2.1.d.root := by
  have pe := (preShrink_pleq env limit flt d input).1
  rw [run_eq]
  exact ⟨pe.g, pe.cells, pe.strings, pe.root⟩

/-- the two outcomes of a filtered run: no allocation failed and everything agrees with the value-level filtered run (the
    answer is not `NoMemory`, the document is well-formed), or one failed and the answer is `NoMemory` -/
theorem run_core (env : Env) (limit : Nat) (flt : Flt) (d : Doc) (input : List Byte) (gok : PL.GeoOK d.g)
    (hp : PL.Inv d.g d.pl) :
    ((MDDF.run env limit flt d input).2.1.overflowed = false ∧
      (MDDF.run env limit flt d input).1 = (MD.run env limit flt input).1 ∧
      (MDDF.run env limit flt d input).1 ≠ .noMemory ∧
      (MDDF.run env limit flt d input).2.2 = (MD.run env limit flt input).2.2 ∧
      (MDDF.run env limit flt d input).2.1.toVal (MDDF.run env limit flt d input).2.1.root =
        (MD.run env limit flt input).2.1 ∧
      WF (MDDF.run env limit flt d input).2.1) ∨
    ((MDDF.run env limit flt d input).2.1.overflowed = true ∧ (MDDF.run env limit flt d input).1 = .noMemory) := by
  have hsim : mpsim_SimF env d.clearAll .root (stop env limit flt d input)
      (MD.parseVariant env (2 * input.length + 4) limit flt true { unread := input }) :=
    (fsim_all env (2 * input.length + 4)).1 limit flt .root (start d input) (JDD.sim_clearAll_pre gok hp) rfl
      (mpsim_BOK_none env)
  obtain ⟨hg, hc, hs, hr⟩ := run_doc env limit flt d input
  have ho := run_overflowed env limit flt d input
  have hwf : WF (run env limit flt d input).2.1 := run_wf env limit flt input gok hp
  have hcode : (run env limit flt d input).1 =
      mp_finalCode (stop env limit flt d input).1 (stop env limit flt d input).2.2 := by rw [run_eq]
  have hpos : (run env limit flt d input).2.2 = (stop env limit flt d input).2.1.r.pos := by rw [run_eq]
  generalize run env limit flt d input = out at *
  simp only [MD.run]
  generalize stop env limit flt d input = rv at *
  generalize MD.parseVariant env (2 * input.length + 4) limit flt true { unread := input } = rv0 at *
  obtain ⟨c, x, f⟩ := rv
  obtain ⟨c0, v0, r0, f0⟩ := rv0
  obtain ⟨hsim, hf1, hf2⟩ := hsim
  rcases hsim with ⟨o2, e1, hne, e2, _, v, s, P, hval⟩ | ⟨o2, e⟩
  · simp only at o2 e1 hne e2 P hval hf1
    subst e1 e2
    have hff := hf1 o2
    subst hff
    refine Or.inl ⟨ho.trans o2, hcode, ?_, hpos, by rw [JDD.sim_final_toVal P hg hc hs hr, hval], hwf⟩
    rw [hcode]
    cases f
    · intro h; cases h
    · exact hne
  · simp only at o2 e hf2
    have hff := hf2 o2
    subst hff e
    exact Or.inr ⟨ho.trans o2, hcode⟩

end MDDF
