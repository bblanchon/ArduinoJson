/- `parseNumber` on the number literals of RFC 8259: it never rejects one (`.invalid`); on integer literals inside the
   64-bit ranges it returns the exact integer.
   The proofs follow the stages of `parseNumber` (`core`, `stage1`, `stage2`, `stage3`, `Digits.finish`). -/
import AJ.Spec.Json
import AJ.Lemmas.NumFault
import AJ.Lemmas.LatchPos
namespace JD
open SF Digits Spec.Json

/-! ## The digit loops stop exactly at the first non-digit -/

/-- the text does not start with a digit -/
def Stop (tail : List Byte) : Prop := ∀ c r, tail = c :: r → isDigit c = false

theorem stop_nil : Stop [] := by intro c r h; cases h
theorem stop_cons {c : Byte} (h : isDigit c = false) (r : List Byte) : Stop (c :: r) := by
  intro x y hxy; rw [← (List.cons.inj hxy).1]; exact h

theorem takeDigitsMant_stop (maxU : Nat) {tail : List Byte} (ht : Stop tail) (ds : List Byte) (hd : AllDigits ds) :
    ∀ acc, ∃ m ds', AllDigits ds' ∧ takeDigitsMant maxU acc (ds ++ tail) = (m, ds' ++ tail) := by
  induction ds with
  | nil =>
    intro acc
    refine ⟨acc, [], AllDigits_nil, ?_⟩
    cases tail with
    | nil => rfl
    | cons c r => simp only [List.nil_append, takeDigitsMant, ht c r rfl, Bool.false_eq_true, ↓reduceIte]
  | cons d ds ih =>
    intro acc
    rw [AllDigits_cons] at hd
    simp only [List.cons_append, takeDigitsMant, isDigit_of_range hd.1, ↓reduceIte]
    split
    · exact ⟨acc, d :: ds, AllDigits_cons.mpr hd, rfl⟩
    · split
      · exact ⟨acc, d :: ds, AllDigits_cons.mpr hd, rfl⟩
      · exact ih hd.2 _

theorem skipDigitsCount_stop {tail : List Byte} (ht : Stop tail) (ds : List Byte) (hd : AllDigits ds) :
    ∀ off, ∃ off', skipDigitsCount (ds ++ tail) off = (tail, off') := by
  induction ds with
  | nil =>
    intro off
    refine ⟨off, ?_⟩
    cases tail with
    | nil => rfl
    | cons c r => simp only [List.nil_append, skipDigitsCount, ht c r rfl, Bool.false_eq_true, ↓reduceIte]
  | cons d ds ih =>
    intro off
    rw [AllDigits_cons] at hd
    simp only [List.cons_append, skipDigitsCount, isDigit_of_range hd.1, ↓reduceIte]
    exact ih hd.2 _

theorem fracDigits_stop (mmax : Nat) {tail : List Byte} (ht : Stop tail) (ds : List Byte) (hd : AllDigits ds) :
    ∀ m off, ∃ m' off', fracDigits mmax (ds ++ tail) m off = (tail, m', off') := by
  induction ds with
  | nil =>
    intro m off
    refine ⟨m, off, ?_⟩
    cases tail with
    | nil => rfl
    | cons c r => simp only [List.nil_append, fracDigits, ht c r rfl, Bool.false_eq_true, ↓reduceIte]
  | cons d ds ih =>
    intro m off
    rw [AllDigits_cons] at hd
    simp only [List.cons_append, fracDigits, isDigit_of_range hd.1, ↓reduceIte]
    split
    · exact ih hd.2 _ _
    · exact ih hd.2 _ _

theorem expDigits_all (ds : List Byte) (hd : AllDigits ds) : ∀ e, ∃ e', expDigits ds e = ([], e') := by
  induction ds with
  | nil => intro e; exact ⟨e, rfl⟩
  | cons d ds ih =>
    intro e
    rw [AllDigits_cons] at hd
    simp only [expDigits, isDigit_of_range hd.1, ↓reduceIte]
    exact ih hd.2 _

/-- neither rejected nor faulted -/
def Good (r : PNum) : Prop := r ≠ .invalid ∧ r ≠ .fault

theorem finish_valid (neg : Bool) (mant : Nat) (e : Int) : finish neg [] mant e ≠ .invalid :=
  finish_cases (Q := (· ≠ .invalid)) neg [] mant e (fun h => absurd rfl h) (fun _ => nofun) (fun _ => nofun)
    (fun _ _ _ => nofun) (fun _ _ _ => nofun)

theorem finish_good (neg : Bool) (mant : Nat) (e : Int) : Good (finish neg [] mant e) :=
  ⟨finish_valid neg mant e, finish_ne_fault neg [] mant e⟩

/-! ## The stages on the parts of a literal -/

theorem allDigits_of {ds : List Byte} (h : ∀ c ∈ ds, 0x30 ≤ c ∧ c ≤ 0x39) : AllDigits ds := h

theorem digits1_head {ds : List Byte} (h : Digits1 ds) : ∃ d r, ds = d :: r ∧ (0x30 ≤ d ∧ d ≤ 0x39) := by
  cases ds with
  | nil => exact absurd rfl h.1
  | cons d r => exact ⟨d, r, rfl, h.2 d (List.mem_cons_self ..)⟩

theorem isDigit_e : isDigit 0x65 = false ∧ isDigit 0x45 = false ∧ isDigit 0x2E = false := by decide

theorem expPart_stop {e : List Byte} (h : ExpPart e) : Stop e := by
  rcases h with rfl | ⟨c, sg, ds, hc, _, _, rfl⟩
  · exact stop_nil
  · rcases hc with rfl | rfl
    · exact stop_cons isDigit_e.1 _
    · exact stop_cons isDigit_e.2.1 _

theorem stage3_exp (neg : Bool) (mant : Nat) (off : Int) {e : List Byte} (h : ExpPart e) :
    ∃ e', stage3 neg e mant off = finish neg [] mant e' := by
  rcases h with rfl | ⟨c, sg, ds, hc, hsg, hds, rfl⟩
  · exact ⟨0 + off, rfl⟩
  · have hc' : (c == 0x65 || c == 0x45) = true := by rcases hc with rfl | rfl <;> decide
    obtain ⟨d, r, rfl, hd⟩ := digits1_head hds
    obtain ⟨e', he'⟩ := expDigits_all (d :: r) hds.2 0
    rcases hsg with rfl | rfl | rfl
    · -- no sign: the first digit is neither '-' nor '+'
      refine ⟨(e' : Int) + off, ?_⟩
      unfold stage3
      simp only [List.nil_append, hc', ↓reduceIte]
      split
      · rename_i r' h; exact absurd (List.cons.inj h).1 (ne_of_digit hd _ (by decide))
      · rename_i r' h; exact absurd (List.cons.inj h).1 (ne_of_digit hd _ (by decide))
      · simp only [he', Bool.false_eq_true, ↓reduceIte]
    · refine ⟨(e' : Int) + off, ?_⟩
      unfold stage3
      simp only [List.cons_append, List.nil_append, hc', ↓reduceIte, he', Bool.false_eq_true]
    · refine ⟨-(e' : Int) + off, ?_⟩
      unfold stage3
      simp only [List.cons_append, List.nil_append, hc', ↓reduceIte, he']

theorem expPart_not_dot {r : List Byte} (h : ExpPart (0x2E :: r)) : False := by
  rcases h with h | ⟨c, sg, ds, hc, _, _, h⟩
  · cases h
  · have := (List.cons.inj h).1
    rcases hc with rfl | rfl <;> exact absurd this (by decide)

theorem stage2_frac (neg : Bool) (mant : Nat) (off : Int) {f e : List Byte} (hf : FracPart f) (he : ExpPart e) :
    ∃ m' e', stage2 neg (f ++ e) mant off = finish neg [] m' e' := by
  rcases hf with rfl | ⟨ds, hds, rfl⟩
  · obtain ⟨e', h3⟩ := stage3_exp neg mant off he
    refine ⟨mant, e', ?_⟩
    rw [← h3, List.nil_append]
    unfold stage2
    split
    rename_i heq
    split at heq
    · exact (expPart_not_dot he).elim
    · cases heq; rfl
  · obtain ⟨m', off', hF⟩ := fracDigits_stop Gen.mantissa_max64 (expPart_stop he) ds hds.2 mant off
    obtain ⟨e', h3⟩ := stage3_exp neg m' off' he
    refine ⟨m', e', ?_⟩
    rw [← h3]
    unfold stage2
    simp only [List.cons_append, hF]

theorem tail_stop {f e : List Byte} (hf : FracPart f) (he : ExpPart e) : Stop (f ++ e) := by
  rcases hf with rfl | ⟨ds, _, rfl⟩
  · simpa using expPart_stop he
  · exact stop_cons isDigit_e.2.2 _

theorem stage1_valid (neg : Bool) (mant : Nat) {ds' f e : List Byte} (hd : AllDigits ds') (hf : FracPart f)
    (he : ExpPart e) : stage1 neg mant (ds' ++ (f ++ e)) ≠ .invalid := by
  unfold stage1
  refine of_ite (Q := (· ≠ PNum.invalid)) (fun _ => nofun) fun _ => of_ite (Q := (· ≠ PNum.invalid)) (fun _ => nofun) fun _ => ?_
  generalize reduceMant Gen.mantissa_max64 32 mant 0 = q
  obtain ⟨m1, off1⟩ := q
  simp only
  obtain ⟨off2, hS⟩ := skipDigitsCount_stop (tail_stop hf he) ds' hd off1
  rw [hS]
  simp only
  obtain ⟨m', e', h2⟩ := stage2_frac neg m1 off2 hf he
  rw [h2]
  exact finish_valid neg m' e'

theorem core_valid (cfg : Cfg) (neg : Bool) {d : Byte} {ipr f e : List Byte} (hd : AllDigits (d :: ipr))
    (hf : FracPart f) (he : ExpPart e) : core cfg neg ((d :: ipr) ++ (f ++ e)) ≠ .invalid := by
  have hc := (AllDigits_cons.mp hd).1
  obtain ⟨m, ds', hd', hT⟩ := takeDigitsMant_stop (2 ^ 64 - 1) (tail_stop hf he) (d :: ipr) hd 0
  rw [List.cons_append] at hT ⊢
  rw [core_digit cfg neg hc _ hT]
  exact stage1_valid neg m hd' hf he

theorem intPart_digits {ip : List Byte} (h : IntPart ip) : ∃ d ipr, ip = d :: ipr ∧ AllDigits (d :: ipr) := by
  rcases h with rfl | ⟨⟨hne, hd⟩, _⟩
  · exact ⟨0x30, [], rfl, by intro c hc; simp at hc; subst hc; decide⟩
  · cases ip with
    | nil => exact absurd rfl hne
    | cons d ipr => exact ⟨d, ipr, rfl, hd⟩

/-- a literal is a digit string, a fraction and an exponent, with or without a minus sign in front -/
theorem numLit_shape {lit : List Byte} (h : NumLit lit) : ∃ d ipr f e, AllDigits (d :: ipr) ∧ FracPart f ∧ ExpPart e ∧
    (lit = d :: ipr ++ (f ++ e) ∨ lit = 0x2D :: (d :: ipr ++ (f ++ e))) := by
  obtain ⟨_, sg, ip, f, e, hsg, hip, hf, he, rfl⟩ := h
  obtain ⟨d, ipr, rfl, hd⟩ := intPart_digits hip
  refine ⟨d, ipr, f, e, hd, hf, he, ?_⟩
  rcases hsg with rfl | rfl
  · exact Or.inl (by simp)
  · exact Or.inr (by simp)

/-- a number literal of the RFC is not rejected by `parseNumber` -/
theorem numLit_valid (cfg : Cfg) {lit : List Byte} (h : NumLit lit) : parseNumber cfg lit ≠ .invalid := by
  obtain ⟨d, ipr, f, e, hd, hf, he, rfl | rfl⟩ := numLit_shape h
  · have hc := (AllDigits_cons.mp hd).1
    rw [List.cons_append, parseNumber_digit cfg d _ (ne_of_digit hc _ (by decide)) (ne_of_digit hc _ (by decide)),
      ← List.cons_append]
    exact core_valid cfg false hd hf he
  · rw [parseNumber_minus]
    exact core_valid cfg true hd hf he

theorem numLit_good (cfg : Cfg) {lit : List Byte} (h : NumLit lit) : Good (parseNumber cfg lit) :=
  ⟨numLit_valid cfg h, parseNumber_ne_fault cfg lit⟩

/-! ## Integer literals; the document value of a literal -/

theorem decVal_eq (ds : List Byte) : Spec.Json.decVal ds = Digits.decVal ds := (Digits.decVal_eq_foldl ds).symm

theorem allDigits_iff (ds : List Byte) : allDigits ds = true → AllDigits ds := by
  intro h c hc
  exact range_of_isDigit (List.all_eq_true.mp h c hc)

theorem floatVal_eq (cfg : Cfg) (lit : List Byte) : floatVal cfg lit = (pnumResult (parseNumber cfg lit)).2 := by
  unfold floatVal
  cases parseNumber cfg lit <;> rfl

/-- the specification's value of a literal is what `parseNumber` computes, integers included -/
theorem numVal_eq (cfg : Cfg) {lit : List Byte} (h : NumLit lit) :
    numVal cfg lit = (pnumResult (parseNumber cfg lit)).2 := by
  obtain ⟨d, ipr, f, e, hd, _, _, rfl | rfl⟩ := numLit_shape h
  · rw [List.cons_append]
    unfold numVal
    split
    · rename_i ds h; exact absurd (List.cons.inj h).1 (ne_of_digit (AllDigits_cons.mp hd).1 _ (by decide))
    · split
      · rename_i hcond
        rw [parse_unsigned cfg _ (allDigits_iff _ hcond.1) (by simp) (by rw [← decVal_eq]; exact hcond.2), ← decVal_eq]
        rfl
      · exact floatVal_eq cfg _
  · show (if allDigits ((d :: ipr) ++ (f ++ e)) ∧ Spec.Json.decVal ((d :: ipr) ++ (f ++ e)) ≤ 2 ^ 63 then _ else _) = _
    split
    · rename_i hcond
      rw [parse_minus cfg _ (allDigits_iff _ hcond.1) (by simp) (by rw [← decVal_eq]; exact hcond.2), ← decVal_eq]
      rfl
    · exact floatVal_eq cfg _

/-- a number literal of the RFC parses, and to the value the specification assigns to it -/
theorem numLit_ok (cfg : Cfg) {lit : List Byte} (h : NumLit lit) :
    ∃ n, numVal cfg lit = .num n ∧ pnumResult (parseNumber cfg lit) = (.ok, .num n) := by
  have hv := numVal_eq cfg h
  rw [hv]
  cases hr : parseNumber cfg lit with
  | invalid => exact absurd hr (numLit_valid cfg h)
  | fault => exact absurd hr (parseNumber_ne_fault cfg lit)
  | uint n => exact ⟨_, rfl, rfl⟩
  | sint n => exact ⟨_, rfl, rfl⟩
  | f32 b => exact ⟨_, rfl, rfl⟩
  | f64 b => exact ⟨_, rfl, rfl⟩

end JD
