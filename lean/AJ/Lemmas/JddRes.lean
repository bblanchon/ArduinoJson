/- What the induction over the mutual block of the slot-level JSON deserializers is stated with: the lexing routines never
   report NoMemory; `Fx` (what a step does to the ledger, the overflow flag and the pools' blocks, by result code) and
   `Res` (the result of a parsing routine: a layout built at the location, and `Fx`); `FStep`, the relations between
   (document, layout) before and after that are closed under the operations of the builder, and `ResT`, `Res` with such a
   relation from the start to the result; the specifications of the key token, of `parseNumericValue` and of `getMember`
   for any such relation; what `run` does before and after the parser (`clearAll`, the final code, `shrink`).
   The induction itself is in AJ/Lemmas/JddfInv.lean (filtered block), from which AJ/Lemmas/JddInv.lean takes the unfiltered. -/
import AJ.Lemmas.JddOps
import AJ.Lemmas.JddfStep
namespace JDD
open DL
open JD (Byte Code Cfg cur mv skipSpaces skipKeyword)

/-! ## The lexing routines never report NoMemory -/

theorem skipBlock_nm : ∀ fuel w s, (JD.skipBlock fuel w s).1 ≠ .noMemory := by
  intro fuel
  induction fuel with
  | zero => intro w s; simp [JD.skipBlock]
  | succ f ih =>
    intro w s
    simp only [JD.skipBlock]
    split
    · simp
    · split
      · simp
      · exact ih _ _

theorem skipLine_nm : ∀ fuel s, (JD.skipLine fuel s).1 ≠ .noMemory := by
  intro fuel
  induction fuel with
  | zero => intro s; simp [JD.skipLine]
  | succ f ih =>
    intro s
    simp only [JD.skipLine]
    split
    · simp
    · split
      · simp
      · exact ih _

theorem skipSpaces_nm (cfg : Cfg) : ∀ fuel s, (skipSpaces cfg fuel s).1 ≠ .noMemory := by
  intro fuel
  induction fuel with
  | zero => intro s; simp [skipSpaces]
  | succ f ih =>
    intro s
    simp only [skipSpaces]
    split
    · split <;> simp
    · split
      · exact ih _
      · split
        · split
          · have h3 := skipBlock_nm f false (mv (cur (mv (cur s).2)).2)
            split
            · exact ih _
            · exact h3
          · split
            · have h3 := skipLine_nm f (cur (mv (cur s).2)).2
              split
              · exact ih _
              · exact h3
            · simp
        · simp

theorem skipKeyword_nm : ∀ ks s, (skipKeyword ks s).1 ≠ .noMemory := by
  intro ks
  induction ks with
  | nil => intro s; simp [skipKeyword]
  | cons k ks ih =>
    intro s
    simp only [skipKeyword]
    split
    · simp
    · split
      · simp
      · exact ih _

/-! ## Accounting: ledger and overflow flag against the result code -/

/-- the ledger, on the components of the state -/
def LBd (d : Doc) (b : Option Nat) : Prop := PL.net d.pl = (d.strings.length : Int) + (if b.isSome then 1 else 0)

theorem LB_eq (x : S) : LB x = LBd x.d x.b := rfl

theorem LBd_iff (d : Doc) (b : Option Nat) : LBd d b ↔ nl d = (if b.isSome then 1 else 0) := by
  unfold LBd nl; omega

/-- from `(d, b)` to `(d', b')` with result code `c`: the ledger stays balanced, the overflow flag is sticky, `Ok` means
    nothing failed, `NoMemory` means the flag is set -/
structure Fx (d : Doc) (b : Option Nat) (d' : Doc) (b' : Option Nat) (c : Code) : Prop where
  bal : LBd d b → LBd d' b'
  ovs : d.overflowed = true → d'.overflowed = true
  ok : c = .ok → d'.overflowed = d.overflowed
  nomem : c = .noMemory → d'.overflowed = true
  blk : Blk d → Blk d'

theorem Fx.refl (d : Doc) (b : Option Nat) : Fx d b d b .ok :=
  ⟨fun h => h, fun h => h, fun _ => rfl, (fun h => by cases h), fun h => h⟩

theorem Fx.trans {d d1 d2 : Doc} {b b1 b2 : Option Nat} {c : Code} (h1 : Fx d b d1 b1 .ok) (h2 : Fx d1 b1 d2 b2 c) :
    Fx d b d2 b2 c :=
  ⟨fun h => h2.bal (h1.bal h), fun h => h2.ovs (h1.ovs h), fun e => (h2.ok e).trans (h1.ok rfl), h2.nomem,
    fun h => h2.blk (h1.blk h)⟩

/-- a silent step followed by an exit with a code other than NoMemory -/
theorem Fx.code {d d' : Doc} {b b' : Option Nat} (h : Fx d b d' b' .ok) {c : Code} (hc : c ≠ .noMemory) : Fx d b d' b' c :=
  ⟨h.bal, h.ovs, fun _ => h.ok rfl, fun e => absurd e hc, h.blk⟩

/-- a step that ends in NoMemory with the flag set -/
theorem Fx.fail {d d' : Doc} {b b' : Option Nat} (hb : LBd d b → LBd d' b') (ho : d'.overflowed = true) :
    Fx d b d' b' .noMemory :=
  ⟨hb, fun _ => ho, (fun e => by cases e), fun _ => ho, fun _ => Or.inr ho⟩

/-- an operation on slots: the difference ledger − string table and the flag are kept -/
theorem Fx.doc {d d' : Doc} (b : Option Nat) (hnl : nl d' = nl d) (hov : d'.overflowed = d.overflowed)
    (hblk : AllB d → Blk d') : Fx d b d' b .ok :=
  ⟨(fun h => by rw [LBd_iff] at h ⊢; rw [hnl]; exact h), (fun h => by rw [hov]; exact h), fun _ => hov,
    (fun h => by cases h), fun h => h.elim hblk (fun o => Or.inr (by rw [hov]; exact o))⟩

/-- storing a value in a slot -/
theorem Fx.set (d : Doc) (b : Option Nat) (l : Loc) (v : VData) : Fx d b (d.set l v) b .ok :=
  Fx.doc b (nl_set _ _ _) (set_overflowed _ _ _) (fun hb => Or.inl (AllB_of_pools (by rw [set_pl]) hb))

theorem Blk.of_pleq {d d' : Doc} (h : d'.pl.pools = d.pl.pools) (ho : d.overflowed = true → d'.overflowed = true)
    (hb : Blk d) : Blk d' := hb.elim (fun a => Or.inl (AllB_of_pools h a)) (fun o => Or.inr (ho o))

theorem Fx.doc_fail {d d' : Doc} (b : Option Nat) (hnl : nl d' = nl d) (hov : d'.overflowed = true) :
    Fx d b d' b .noMemory :=
  Fx.fail (fun h => by rw [LBd_iff] at h ⊢; rw [hnl]; exact h) hov

/-- a string token read through the builder -/
theorem Fx.tok {x x1 : S} {c : Code} {d : Doc} {b : Option Nat} (h : TokOp x x1) (hd : x.d = d) (hb : x.b = b)
    (hok : c = .ok → x1.b.isSome = true) (hnm : c = .noMemory → x1.b = none) : Fx d b x1.d x1.b c := by
  subst hd hb
  exact ⟨h.bop.bal, h.bop.ovs, fun e => h.kept (hok e), fun e => h.lost (hnm e),
    Blk.of_pleq h.bop.pleq.pools h.bop.ovs⟩

/-- result of a parsing routine started in `x` for the location `l` of the reference document `d0` -/
structure Res (d0 : Doc) (F : Forest) (l : Loc) (x : S) (r : Code × S) : Prop where
  built : ∃ s, Built d0 F l r.2.d s
  fx : Fx x.d x.b r.2.d r.2.b r.1

/-- a relation between (document, layout) before a step and after it, closed under what the deserializers do to the
    document: a property of well-formed documents rides through the parser as such a relation, next to `Built` -/
structure FStep (T : Doc → Forest → Doc → Forest → Prop) : Prop where
  refl : ∀ d G, T d G d G
  trans : ∀ {d d1 d2 : Doc} {G G1 G2 : Forest}, T d G d1 G1 → T d1 G1 d2 G2 →
    (d1.overflowed = true → d2.overflowed = true) → T d G d2 G2
  pleq : ∀ {d d' : Doc} (G : Forest), PlEq d d' → T d G d' G
  set_plain : ∀ {d : Doc} {G : Forest} {l : Loc} {v : VData}, WFG d G → isLoc G l → d.get l = .null →
    strOfV v = [] → extOfV v = [] → T d G (d.set l v) G
  save_set : ∀ {x : S} {G : Forest} {l : Loc} (bytes : List Byte), WFG x.d G → StrOK x.d (x.d.strRefs G) → isLoc G l →
    x.d.get l = .null → T x.d G ((save x bytes).2.d.set l (.owned (save x bytes).1)) G
  setArg_num : ∀ {d : Doc} {G : Forest} {l : Loc} {a : Arg}, WFG d G → StrOK d (d.strRefs G) → isLoc G l →
    d.get l = .null → PL.GeoOK d.g → isNum a → ((d.setArg l a).1 = false → (d.setArg l a).2.overflowed = true) →
    T d G (d.setArg l a).2 G
  addElement : ∀ {d0 d d1 : Doc} {F : Forest} {l : Loc} {s : Forest} {h t id : Nat}, Ctx d0 F l → Built d0 F l d s →
    d.get l = .arr h t → d.addElement l = (some id, d1) → T d (replaceAt F l s) d1 (replaceAt F l (s.snoc none id))
  addElement_none : ∀ {d0 d d1 : Doc} {F : Forest} {l : Loc} {s : Forest}, Ctx d0 F l → Built d0 F l d s →
    d.addElement l = (none, d1) → d1.overflowed = true → T d (replaceAt F l s) d1 (replaceAt F l s)
  clear_member : ∀ {d0 d : Doc} {F : Forest} {l : Loc} {s : Forest} {v : Nat}, Ctx d0 F l → Built d0 F l d s →
    v ∈ s.locs → T d (replaceAt F l s) (d.clearV (.slot v)) (replaceAt F l (s.replaceSub v .nil))
  addMember : ∀ {d0 : Doc} {F : Forest} {l : Loc} {s : Forest} {x : S} {h t v k0 : Nat} {d2 : Doc} (key : List Byte),
    Ctx d0 F l → Built d0 F l x.d s → x.d.get l = .obj h t →
    addMemberNode (save x key).2.d l (save x key).1 = (some v, d2) → Built d0 F l d2 (s.snoc (some k0) v) →
    d2.get (.slot v) = .null → (∃ h', d2.get l = .obj h' v) → SameV (save x key).2.d d2 s.ids →
    d2.get (.slot k0) = .owned (save x key).1 → d2.strings = (save x key).2.d.strings → k0 ∉ s.ids → v ∉ s.ids →
    T x.d (replaceAt F l s) d2 (replaceAt F l (s.snoc (some k0) v))
  addMember_none : ∀ {d0 : Doc} {F : Forest} {l : Loc} {s : Forest} {x : S} (key : List Byte), Ctx d0 F l →
    Built d0 F l x.d s → (addMemberNode (save x key).2.d l (save x key).1).1 = none →
    (addMemberNode (save x key).2.d l (save x key).1).2.overflowed = true →
    T x.d (replaceAt F l s) (addMemberNode (save x key).2.d l (save x key).1).2 (replaceAt F l s)

/-- nothing is claimed of the step -/
theorem FStep.true : FStep (fun _ _ _ _ => True) := by
  constructor <;> intros <;> trivial

theorem FStep.and {T T' : Doc → Forest → Doc → Forest → Prop} (a : FStep T) (b : FStep T') :
    FStep (fun d G d' G' => T d G d' G' ∧ T' d G d' G') where
  refl := fun d G => ⟨a.refl d G, b.refl d G⟩
  trans := fun h1 h2 o => ⟨a.trans h1.1 h2.1 o, b.trans h1.2 h2.2 o⟩
  pleq := fun G h => ⟨a.pleq G h, b.pleq G h⟩
  set_plain := fun w hl hn hs he => ⟨a.set_plain w hl hn hs he, b.set_plain w hl hn hs he⟩
  save_set := fun bytes w hs hl hn => ⟨a.save_set bytes w hs hl hn, b.save_set bytes w hs hl hn⟩
  setArg_num := fun w hs hl hn g ha hf => ⟨a.setArg_num w hs hl hn g ha hf, b.setArg_num w hs hl hn g ha hf⟩
  addElement := fun C B hv he => ⟨a.addElement C B hv he, b.addElement C B hv he⟩
  addElement_none := fun C B he ho => ⟨a.addElement_none C B he ho, b.addElement_none C B he ho⟩
  clear_member := fun C B hv => ⟨a.clear_member C B hv, b.clear_member C B hv⟩
  addMember := fun key C B hv ham B2 hgv hgl hs hgk hst hk hv0 =>
    ⟨a.addMember key C B hv ham B2 hgv hgl hs hgk hst hk hv0, b.addMember key C B hv ham B2 hgv hgl hs hgk hst hk hv0⟩
  addMember_none := fun key C B hn ho => ⟨a.addMember_none key C B hn ho, b.addMember_none key C B hn ho⟩

/-- `Res` with the step from `(x.d, sin at l)`, the layout the routine found built at `l`, to the result -/
structure ResT (T : Doc → Forest → Doc → Forest → Prop) (d0 : Doc) (F : Forest) (l : Loc) (x : S) (sin : Forest)
    (r : Code × S) : Prop where
  built : ∃ s, Built d0 F l r.2.d s ∧ T x.d (replaceAt F l sin) r.2.d (replaceAt F l s)
  fx : Fx x.d x.b r.2.d r.2.b r.1

section
variable {T : Doc → Forest → Doc → Forest → Prop}

theorem ResT.res {d0 : Doc} {F : Forest} {l : Loc} {x : S} {sin : Forest} {r : Code × S} (h : ResT T d0 F l x sin r) :
    Res d0 F l x r := by
  obtain ⟨s, B, _⟩ := h.built
  exact ⟨⟨s, B⟩, h.fx⟩

theorem ResT.exit {d0 : Doc} {F : Forest} {l : Loc} {x x' : S} {sin s : Forest} {c : Code} (B : Built d0 F l x'.d s)
    (fx : Fx x.d x.b x'.d x'.b c) (t : T x.d (replaceAt F l sin) x'.d (replaceAt F l s)) :
    ResT T d0 F l x sin (c, x') := ⟨⟨s, B, t⟩, fx⟩

/-- the start state matters through its document and builder only -/
theorem ResT.of_eq {d0 : Doc} {F : Forest} {l : Loc} {x x' : S} {sin : Forest} {r : Code × S} (hd : x'.d = x.d)
    (hb : x'.b = x.b) (h : ResT T d0 F l x' sin r) : ResT T d0 F l x sin r :=
  ⟨by rw [← hd]; exact h.built, by rw [← hd, ← hb]; exact h.fx⟩

theorem ResT.step (hT : FStep T) {d0 : Doc} {F : Forest} {l : Loc} {x x1 : S} {sin s1 : Forest} {r : Code × S}
    (fx : Fx x.d x.b x1.d x1.b .ok) (t : T x.d (replaceAt F l sin) x1.d (replaceAt F l s1))
    (h : ResT T d0 F l x1 s1 r) : ResT T d0 F l x sin r := by
  obtain ⟨s, B, t2⟩ := h.built
  exact ⟨⟨s, B, hT.trans t t2 h.fx.ovs⟩, fx.trans h.fx⟩

/-- a round `r` of which the facts are known, followed by `tail` when it went well -/
theorem ResT.andThen {d0 : Doc} {F : Forest} {l : Loc} {x : S} {sin s1 : Forest} {r : Code × S} {tail : S → Code × S}
    (B : Built d0 F l r.2.d s1) (t : T x.d (replaceAt F l sin) r.2.d (replaceAt F l s1))
    (fx : Fx x.d x.b r.2.d r.2.b r.1) (h : Fx x.d x.b r.2.d r.2.b .ok → ResT T d0 F l x sin (tail r.2)) :
    ResT T d0 F l x sin (andThen r tail) := by
  obtain ⟨c, y⟩ := r
  cases c <;> first | exact h fx | exact ResT.exit B fx t

end

theorem LBd_set (d : Doc) (b : Option Nat) (l : Loc) (v : VData) : LBd (d.set l v) b ↔ LBd d b := by
  unfold LBd; rw [set_pl, set_strings]

/-- `save` followed by the store of the node -/
theorem Fx.save_set {x x' : S} {bytes : List Byte} {n : Nat} (sv : SaveOp x bytes n x') (hb : x.b.isSome = true)
    (l : Loc) (v : VData) : Fx x.d x.b (x'.d.set l v) x'.b .ok :=
  ⟨fun h => (LBd_set _ _ _ _).2 (sv.bal hb h), (fun h => by rw [set_overflowed, sv.ov]; exact h),
    (fun _ => by rw [set_overflowed, sv.ov]), (fun h => by cases h),
    Blk.of_pleq (by rw [set_pl, sv.pools]) (fun h => by rw [set_overflowed, sv.ov]; exact h)⟩

theorem Fx.save {x x' : S} {bytes : List Byte} {n : Nat} (sv : SaveOp x bytes n x') (hb : x.b.isSome = true) :
    Fx x.d x.b x'.d x'.b .ok :=
  ⟨fun h => sv.bal hb h, (fun h => by rw [sv.ov]; exact h), (fun _ => sv.ov), (fun h => by cases h),
    Blk.of_pleq sv.pools (fun h => by rw [sv.ov]; exact h)⟩

/-- the key token of a member -/
theorem keyToken_spec (cfg : Cfg) (f : Nat) (c : Byte) (x : S) :
    Fx x.d x.b (keyToken cfg f c x).2.2.d (keyToken cfg f c x).2.2.b (keyToken cfg f c x).1 ∧
    PlEq x.d (keyToken cfg f c x).2.2.d ∧ ((keyToken cfg f c x).1 = .ok → (keyToken cfg f c x).2.2.b.isSome = true) := by
  unfold keyToken
  split
  · obtain ⟨tk, hok, hnm⟩ := quoted_spec cfg (f+1) c { x with s := mv x.s }
    exact ⟨Fx.tok tk rfl rfl hok hnm, tk.bop.pleq, hok⟩
  · split
    · obtain ⟨tk, hok, hnm, _⟩ := unquoted_spec cfg (f+1) x
      exact ⟨Fx.tok tk rfl rfl hok hnm, tk.bop.pleq, hok⟩
    · obtain ⟨bo, _, _⟩ := startString_spec x
      exact ⟨⟨bo.bal, bo.ovs, (fun e => by cases e), (fun e => by cases e), Blk.of_pleq bo.pleq.pools bo.ovs⟩, bo.pleq,
        fun e => by cases e⟩

section
variable {T : Doc → Forest → Doc → Forest → Prop}

theorem numeric_res (hT : FStep T) (cfg : Cfg) {d0 : Doc} {F : Forest} {l : Loc} {x : S} (C : Ctx d0 F l)
    (B : Built d0 F l x.d .nil) (hn : x.d.get l = .null) : ResT T d0 F l x .nil (numeric cfg l x) := by
  obtain ⟨w, hs⟩ := B.get_nil C
  have store : ∀ (s : JD.St) (a : Arg), isNum a →
      ResT T d0 F l x .nil ((if (x.d.setArg l a).1 = true then Code.ok else Code.noMemory),
        ({ s := s, d := (x.d.setArg l a).2, b := x.b } : S)) := by
    intro s a ha
    obtain ⟨b1, b2, b3, b4, b5, b6⟩ := B.setArg_num C hn ha
    refine ResT.exit b1 ⟨(fun h => by rw [LBd_iff] at h ⊢; rw [b2]; exact h), b5, fun e => ?_, fun e => ?_,
      fun h => h.elim b6 (fun o => Or.inr (b5 o))⟩ ?_
    · cases hh : (x.d.setArg l a).1 with
      | true => exact b3 hh
      | false => rw [hh] at e; simp at e
    · cases hh : (x.d.setArg l a).1 with
      | true => rw [hh] at e; simp at e
      | false => exact b4 hh
    · rw [C.replace_nil]
      exact hT.setArg_num w hs C.loc hn (B.gok C) ha b4
  unfold numeric
  simp only
  split
  · exact store _ _ trivial
  · exact store _ _ trivial
  · exact store _ _ trivial
  · exact store _ _ trivial
  · exact ResT.exit B ((Fx.refl _ _).code nofun) (hT.refl _ _)
  · exact ResT.exit B ((Fx.refl _ _).code nofun) (hT.refl _ _)

/-- `object.getMember(key)` / `addMember` -/
theorem memberSlot_spec (hT : FStep T) {d0 : Doc} {F : Forest} {l : Loc} {x : S} {s : Forest} {h t : Nat}
    (C : Ctx d0 F l) (B : Built d0 F l x.d s) (hv : x.d.get l = .obj h t) (hb : x.b.isSome = true) (key : List Byte) :
    ((memberSlot x l key).1 = none →
      (∃ s', Built d0 F l (memberSlot x l key).2.d s' ∧
        T x.d (replaceAt F l s) (memberSlot x l key).2.d (replaceAt F l s')) ∧
      Fx x.d x.b (memberSlot x l key).2.d (memberSlot x l key).2.b .noMemory) ∧
    (∀ v, (memberSlot x l key).1 = some v →
      ∃ s', Built d0 F l (memberSlot x l key).2.d s' ∧ v ∈ s'.locs ∧
        (memberSlot x l key).2.d.get (.slot v) = .null ∧ (∃ h' t', (memberSlot x l key).2.d.get l = .obj h' t') ∧
        Fx x.d x.b (memberSlot x l key).2.d (memberSlot x l key).2.b .ok ∧
        T x.d (replaceAt F l s) (memberSlot x l key).2.d (replaceAt F l s')) := by
  unfold memberSlot
  cases hf : x.d.findKey l key with
  | some p =>
    obtain ⟨k, v⟩ := p
    simp only
    have hvl : v ∈ s.locs := by
      have := findKey_loc B.wf (C.loc' s) hv hf
      rw [C.lay] at this; exact this
    obtain ⟨b1, b2, b3, b4, b5, b6, b7, _⟩ := B.clear_member C hvl
    refine ⟨(fun e => by cases e), fun v' e => ?_⟩
    simp only [Option.some.injEq] at e
    subst e
    exact ⟨_, b1, b6, b2, ⟨h, t, b3.trans hv⟩, Fx.doc _ b5 b4 (fun hb => Or.inl (AllB_of_pools b7 hb)),
      hT.clear_member C B hvl⟩
  | none =>
    simp only
    have sv := save_spec x key
    obtain ⟨B', hp, hget⟩ := B.save C sv
    have hv' : (save x key).2.d.get l = .obj h t := (hget l).trans hv
    have fx1 : Fx x.d x.b (save x key).2.d (save x key).2.b .ok := Fx.save sv hb
    obtain ⟨m1, m2, m3, m4⟩ := B'.addMemberNode C hp hv'
    have tam := fun (v k0 : Nat) (d2 : Doc) => hT.addMember (v := v) (k0 := k0) (d2 := d2) key C B hv
    have tan := hT.addMember_none key C B
    generalize addMemberNode (save x key).2.d l (save x key).1 = r at m1 m2 m3 m4 tam tan
    obtain ⟨o, d2⟩ := r
    cases o with
    | none =>
      simp only
      obtain ⟨a1, a2⟩ := m1 rfl
      exact ⟨fun _ => ⟨⟨_, a1, tan rfl a2⟩, fx1.trans (Fx.doc_fail _ m3 a2)⟩, fun v e => by cases e⟩
    | some v =>
      simp only
      obtain ⟨k, a1, a2, ⟨h', a3⟩, a4, a5, a6, a7, a8, a9⟩ := m2 v rfl
      refine ⟨(fun e => by cases e), fun v' e => ?_⟩
      simp only [Option.some.injEq] at e
      subst e
      refine ⟨_, a1, ?_, a2, ⟨h', _, a3⟩, fx1.trans (Fx.doc _ m3 a4 m4), tam v k d2 rfl a1 a2 ⟨h', a3⟩ a5 a6 a7 a8 a9⟩
      rw [Forest.locs_snoc]; simp

end

/-! ## What `run` does around the parser -/


/-- the cleared document is a well-formed empty one -/
theorem clearAll_wf {d : Doc} (gok : PL.GeoOK d.g) (hp : PL.Inv d.g d.pl) :
    WFG d.clearAll .nil ∧ StrOK d.clearAll (d.clearAll.strRefs .nil) ∧ d.clearAll.g = d.g ∧
    d.clearAll.overflowed = false ∧ d.clearAll.root = .null := by
  have hpl : d.clearAll.pl = (PL.clear d.g d.pl).rel [] d.strings.length := foldl_dealloc _ _
  have hinv : PL.Inv d.clearAll.g d.clearAll.pl := by
    show PL.Inv d.g d.clearAll.pl
    rw [hpl]
    exact (PL.clear_inv gok hp).congr rfl rfl rfl rfl
  refine ⟨⟨rfl, List.nodup_nil, (fun i hi => by cases hi), hinv, (fun i hi => by cases hi), ?_⟩, ?_, rfl, rfl, rfl⟩
  · intro l0 hl0 e he
    simp only [holders, Forest.ids, List.map_nil, List.mem_singleton] at hl0
    subst hl0
    cases he
  · exact ⟨List.nodup_nil, (fun n hn => by cases hn), (fun n hn => by cases hn), fun r hr => by cases hr⟩

/-- with a balanced log, the cleared document owns nothing and nothing is outstanding -/
theorem clearAll_LBd {d : Doc} (h : Bal d) : LBd d.clearAll none := by
  have h0 := clearAll_outstanding h
  obtain ⟨_, _, _, _, hb, hs, _⟩ := clearAll_spec d
  unfold LBd PL.net
  rw [h0, hb, hs]; rfl

/-- the state in which `run` starts parsing -/
def start (d : Doc) (input : List Byte) : S := { s := { l := { unread := input } }, d := d.clearAll }

/-- the code `run` reports, from the code of the parser -/
def finalCode (c : Code) (x : S) : Code :=
  match c with
  | .ok => if x.s.l.cur != 0 && !JD.isWs x.s.l.cur && rootIsNumber x.d then .invalid else .ok
  | e => e

theorem finalCode_ok {c : Code} {x : S} (h : finalCode c x = .ok) : c = .ok := by
  cases c <;> first | rfl | exact absurd h (by simp [finalCode])

theorem finalCode_nomem {c : Code} {x : S} (h : finalCode c x = .noMemory) : c = .noMemory := by
  cases c with
  | ok =>
    simp only [finalCode] at h
    split at h <;> cases h
  | noMemory => rfl
  | _ => exact absurd h (by simp [finalCode])

/-- shrinking the pools is not seen by the invariant -/
theorem shrink_wf {d : Doc} {F : Forest} (w : WFG d F) (hs : StrOK d (d.strRefs F)) :
    WFG { d with pl := PL.shrink d.g d.pl } F ∧
    StrOK { d with pl := PL.shrink d.g d.pl } (({ d with pl := PL.shrink d.g d.pl } : Doc).strRefs F) := by
  obtain ⟨a, b, _, _⟩ := PL.shrink_ok w.pool
  obtain ⟨w', s', _⟩ := wfg_frame (d' := { d with pl := PL.shrink d.g d.pl }) w rfl rfl (fun _ _ => rfl)
    (fun l0 h0 e he => ⟨rfl, (b e).2 (w.ext l0 h0 e he).2.1⟩) a (fun x hx => (b x).2 (w.live x hx))
    (StrOK_congr (d := d) rfl rfl hs) (fun _ _ => rfl)
  exact ⟨w', s'⟩

/-! ## The ledger across `shrink` -/

/-- is the last pool one whose creation failed (no block)? `shrink` turns it into a pool with a (zero-sized) block through
    `reallocate(nullptr, 0)`, which the ledger of AJ/Lemmas/DocStr.lean does not count -/
def lastBlockless (s : PL.St) : Bool :=
  match s.pools.getLast? with
  | some p => !p.hasBlock
  | none => false

theorem shrinkTable_net (g : PL.Geo) (s : PL.St) : PL.net (PL.shrinkTable g s) = PL.net s := by
  unfold PL.shrinkTable
  split
  · obtain ⟨ok, s1, h, h1, h2, _, _, h5⟩ := PL.realloc_facts s (s.pools.length * g.poolSize) false
    rw [h]
    simp only [PL.net, PL.blocks, h1, h2, h5]
  · rfl

theorem shrinkLast_net (g : PL.Geo) (s : PL.St) :
    PL.net (PL.shrinkLast g s) = PL.net s - (if lastBlockless s then 1 else 0) := by
  unfold PL.shrinkLast lastBlockless
  cases hp : s.pools.getLast? with
  | none => simp
  | some p =>
    have hs := PL.pools_eq_snoc hp
    obtain ⟨ok, s1, h, h1, h2, _, _, h5⟩ := PL.realloc_facts s (p.usage * g.slotSize) false
    simp only [h]
    have hb : PL.blocks s = s.pools.dropLast.countP (·.hasBlock) + (if p.hasBlock then 1 else 0) +
        (if s.tableHeap then 1 else 0) := by
      unfold PL.blocks
      conv => lhs; rw [hs]
      simp only [List.countP_append, List.countP_cons, List.countP_nil]
      omega
    simp only [PL.net, h5, hb]
    simp only [PL.blocks, h1, h2, List.countP_append, List.countP_cons, List.countP_nil]
    by_cases hpb : p.hasBlock = true
    · simp [hpb]
    · have hpf : p.hasBlock = false := by simpa using hpb
      simp [hpf]; omega

theorem shrink_net (g : PL.Geo) (s : PL.St) :
    PL.net (PL.shrink g s) = PL.net s - (if lastBlockless s then 1 else 0) := by
  rw [PL.shrink_eq, shrinkTable_net, shrinkLast_net]

theorem lastBlockless_of_allB {d : Doc} (h : AllB d) : lastBlockless d.pl = false := by
  unfold lastBlockless
  cases hp : d.pl.pools.getLast? with
  | none => rfl
  | some p =>
    have : p ∈ d.pl.pools := List.mem_of_getLast? hp
    simp [h p this]

end JDD
