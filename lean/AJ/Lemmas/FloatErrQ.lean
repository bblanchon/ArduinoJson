/- C12 (floating-point clauses), parts 2 and 4 over ℚ: relative-error calculus, one rounding / one multiplication,
   the `make_float` loop. Imports single Mathlib modules (ordered-field tactics only). -/
import Mathlib.Tactic.Ring
import Mathlib.Tactic.Linarith
import Mathlib.Tactic.NormNum
import Mathlib.Tactic.Positivity
import Mathlib.Tactic.FieldSimp
import Mathlib.Algebra.Order.Field.Basic
import Mathlib.Algebra.Order.Field.Power
import Mathlib.Algebra.Order.Field.Rat
import Mathlib.Algebra.Order.AbsoluteValue.Basic
import AJ.Lemmas.FloatErrRound
import AJ.Lemmas.FloatErrTables
namespace C12
open SF

/-- exact value of the dyadic `m·2^e` -/
def qv (m : Nat) (e : Int) : ℚ := (m : ℚ) * (2 : ℚ) ^ e

/-- `x` approximates `y > 0` with relative error at most `δ` -/
def Close (δ x y : ℚ) : Prop := |x - y| ≤ δ * y

theorem two_zpow_pos (e : Int) : (0 : ℚ) < (2 : ℚ) ^ e := zpow_pos (by norm_num) e

theorem qv_nonneg (m : Nat) (e : Int) : 0 ≤ qv m e := by
  unfold qv; have := two_zpow_pos e; positivity

theorem qv_pos {m : Nat} (hm : m ≠ 0) (e : Int) : 0 < qv m e := by
  unfold qv; have := two_zpow_pos e
  have : (0 : ℚ) < m := by exact_mod_cast Nat.pos_of_ne_zero hm
  positivity

/-- scaled naturals are values: `(m·2^(e-E))·2^E = m·2^e` for `E ≤ e` -/
theorem qv_scaled (m : Nat) (e E : Int) (h : E ≤ e) : qv (m * 2 ^ (e - E).toNat) E = qv m e := by
  unfold qv
  have h2 : (2 : ℚ) ≠ 0 := by norm_num
  have : e = ((e - E).toNat : Int) + E := by omega
  conv_rhs => rw [this, zpow_add₀ h2, zpow_natCast]
  push_cast; ring

theorem Close.refl (x : ℚ) : Close 0 x x := by unfold Close; simp

theorem Close.mono {δ δ' x y : ℚ} (h : Close δ x y) (hy : 0 ≤ y) (hd : δ ≤ δ') : Close δ' x y := by
  unfold Close at *; nlinarith

theorem Close.le {δ x y : ℚ} (h : Close δ x y) : x ≤ (1 + δ) * y := by
  unfold Close at h; have := (abs_le.mp h).2; linarith
theorem Close.ge {δ x y : ℚ} (h : Close δ x y) : (1 - δ) * y ≤ x := by
  unfold Close at h; have := (abs_le.mp h).1; linarith

/-- product of two approximations -/
theorem Close.mul {a b x y s t : ℚ} (h1 : Close a x y) (h2 : Close b s t) (hy : 0 < y) (ht : 0 < t)
    (ha : 0 ≤ a) (hb : 0 ≤ b) : Close (a + b + a * b) (x * s) (y * t) := by
  unfold Close at *
  have e : x * s - y * t = (x - y) * s + y * (s - t) := by ring
  have hs : |s| ≤ (1 + b) * t := by
    have := abs_le.mp h2
    rw [abs_le]; constructor <;> nlinarith
  calc |x * s - y * t| = |(x - y) * s + y * (s - t)| := by rw [e]
    _ ≤ |(x - y) * s| + |y * (s - t)| := abs_add_le _ _
    _ = |x - y| * |s| + y * |s - t| := by rw [abs_mul, abs_mul, abs_of_pos hy]
    _ ≤ (a * y) * ((1 + b) * t) + y * (b * t) := by
        have h0 : 0 ≤ |x - y| := abs_nonneg _
        have h3 : 0 ≤ a * y := by positivity
        have := mul_le_mul h1 hs (abs_nonneg s) h3
        have := mul_le_mul_of_nonneg_left h2 hy.le
        linarith
    _ = (a + b + a * b) * (y * t) := by ring

/-- chaining two approximations -/
theorem Close.trans {c d z w v : ℚ} (h1 : Close c z w) (h2 : Close d w v) (hv : 0 < v) (hc : 0 ≤ c) (hd : 0 ≤ d) :
    Close (c + d + c * d) z v := by
  unfold Close at *
  have hw : |w| ≤ (1 + d) * v := by
    have := abs_le.mp h2
    rw [abs_le]; constructor <;> nlinarith
  have hw' : w ≤ (1 + d) * v := le_trans (le_abs_self w) hw
  calc |z - v| = |(z - w) + (w - v)| := by ring_nf
    _ ≤ |z - w| + |w - v| := abs_add_le _ _
    _ ≤ c * w + d * v := add_le_add h1 h2
    _ ≤ c * ((1 + d) * v) + d * v := by have := mul_le_mul_of_nonneg_left hw' hc; linarith
    _ = (c + d + c * d) * v := by ring

/-- the unit roundoff `2^-(mbits+1)` of a format -/
def uro (f : Fmt) : ℚ := 1 / (2 : ℚ) ^ (f.mbits + 1)

theorem uro_pos (f : Fmt) : 0 < uro f := by unfold uro; positivity

theorem natAbs_cast_le {A B C : Nat} {K : Nat} (h : (((A : Nat) : Int) - ((B : Nat) : Int)).natAbs * K ≤ C) :
    |(A : ℚ) - (B : ℚ)| * (K : ℚ) ≤ (C : ℚ) := by
  have h1 : (((((A : Nat) : Int) - ((B : Nat) : Int)).natAbs * K : Nat) : ℚ) ≤ (C : ℚ) := by exact_mod_cast h
  rw [Nat.cast_mul, Nat.cast_natAbs, Int.cast_abs] at h1
  push_cast at h1
  exact h1

theorem log2_bounds_q {m : Nat} (hm : m ≠ 0) (e : Int) :
    (2 : ℚ) ^ ((Nat.log2 m : Int) + e) ≤ qv m e ∧ qv m e < (2 : ℚ) ^ ((Nat.log2 m : Int) + 1 + e) := by
  have h2 : (2 : ℚ) ≠ 0 := by norm_num
  have hL1 : ((2 ^ Nat.log2 m : Nat) : ℚ) ≤ (m : ℚ) := by exact_mod_cast Nat.log2_self_le hm
  have hL2 : (m : ℚ) < ((2 ^ (Nat.log2 m + 1) : Nat) : ℚ) := by exact_mod_cast Nat.lt_log2_self (n := m)
  have hp := two_zpow_pos e
  unfold qv
  constructor
  · rw [zpow_add₀ h2, zpow_natCast]
    push_cast at hL1
    exact mul_le_mul_of_nonneg_right hL1 hp.le
  · have : (Nat.log2 m : Int) + 1 + e = ((Nat.log2 m + 1 : Nat) : Int) + e := by push_cast; ring
    rw [this, zpow_add₀ h2, zpow_natCast]
    push_cast at hL2 ⊢
    exact mul_lt_mul_of_pos_right hL2 hp

theorem close_of_int (f : Fmt) {m'' m : Nat} {e'' e E : Int} (hE1 : E ≤ e) (hE2 : E ≤ e'')
    (herr : (((m'' * 2 ^ (e'' - E).toNat : Nat) : Int) - ((m * 2 ^ (e - E).toNat : Nat) : Int)).natAbs * 2 ^ (f.mbits + 1)
        ≤ m * 2 ^ (e - E).toNat) : Close (uro f) (qv m'' e'') (qv m e) := by
  have hq := natAbs_cast_le herr
  rw [← qv_scaled m'' e'' E hE2, ← qv_scaled m e E hE1]
  generalize m'' * 2 ^ (e'' - E).toNat = A at *
  generalize m * 2 ^ (e - E).toNat = B at *
  unfold Close qv uro
  have hp := two_zpow_pos E
  have hK : (0 : ℚ) < (2 : ℚ) ^ (f.mbits + 1) := by positivity
  push_cast at hq
  have e1 : (A : ℚ) * 2 ^ E - (B : ℚ) * 2 ^ E = ((A : ℚ) - B) * 2 ^ E := by ring
  rw [e1, abs_mul, abs_of_pos hp]
  have : |(A : ℚ) - (B : ℚ)| ≤ (B : ℚ) / (2 : ℚ) ^ (f.mbits + 1) := by
    rw [le_div_iff₀ hK]; exact hq
  calc |(A : ℚ) - (B : ℚ)| * 2 ^ E ≤ (B : ℚ) / (2 : ℚ) ^ (f.mbits + 1) * 2 ^ E :=
        mul_le_mul_of_nonneg_right this hp.le
    _ = 1 / (2 : ℚ) ^ (f.mbits + 1) * ((B : ℚ) * 2 ^ E) := by ring

/-- ONE ROUNDING over ℚ, overflow allowed: an exact value `m·2^e ≥ 2^(emin+mbits)` (the smallest normal number) is rounded
    to the infinity of the requested sign (only if `m·2^e ≥ 2^(emax-bias-1)`, the top binade), or to a finite normal datum
    of the requested sign within relative error `2^-(mbits+1)`. -/
theorem roundPos_relQ_or_inf (f : Fmt) (n : Bool) (m : Nat) (e : Int) (hm : m ≠ 0) (hf : 0 < f.emax)
    (hlo : (2 : ℚ) ^ (emin f + f.mbits) ≤ qv m e) :
    (decode f (roundPos f n m e) = .inf n ∧ (2 : ℚ) ^ ((f.emax : Int) - f.bias - 1) ≤ qv m e) ∨
    ∃ (m'' : Nat) (e'' : Int), decode f (roundPos f n m e) = .fin n m'' e'' ∧
      2 ^ f.mbits ≤ m'' ∧ m'' < 2 ^ (f.mbits + 1) ∧ Close (uro f) (qv m'' e'') (qv m e) := by
  obtain ⟨b1, b2⟩ := log2_bounds_q hm e
  have one_lt : (1 : ℚ) < 2 := by norm_num
  have c1 : emin f + f.mbits < (Nat.log2 m : Int) + 1 + e :=
    (zpow_lt_zpow_iff_right₀ one_lt).mp (lt_of_le_of_lt hlo b2)
  rcases roundPos_rel_or_inf f n m e hm hf (by push_cast; omega) with ⟨hinf, hbig⟩ | ⟨m'', e'', E, hd, n1, n2, hE1, hE2, herr⟩
  · left
    refine ⟨hinf, le_trans (zpow_le_zpow_right₀ one_lt.le ?_) b1⟩
    push_cast at hbig; omega
  · right
    exact ⟨m'', e'', hd, n1, n2, close_of_int f hE1 hE2 herr⟩

/-- ONE ROUNDING over ℚ: an exact value `m·2^e` in `[2^(emin+mbits), 2^(emax-bias-1))` (the normal range, minus its top
    binade) is rounded to a finite normal datum of the requested sign within relative error `2^-(mbits+1)`. -/
theorem roundPos_relQ (f : Fmt) (n : Bool) (m : Nat) (e : Int) (hm : m ≠ 0) (hf : 0 < f.emax)
    (hlo : (2 : ℚ) ^ (emin f + f.mbits) ≤ qv m e) (hhi : qv m e < (2 : ℚ) ^ ((f.emax : Int) - f.bias - 1)) :
    ∃ (m'' : Nat) (e'' : Int), decode f (roundPos f n m e) = .fin n m'' e'' ∧
      2 ^ f.mbits ≤ m'' ∧ m'' < 2 ^ (f.mbits + 1) ∧ Close (uro f) (qv m'' e'') (qv m e) := by
  rcases roundPos_relQ_or_inf f n m e hm hf hlo with ⟨_, h⟩ | h
  · exact absurd (lt_of_le_of_lt h hhi) (lt_irrefl _)
  · exact h

theorem mul_fin (f : Fmt) (a b : Nat) (n1 n2 : Bool) (m1 m2 : Nat) (e1 e2 : Int)
    (ha : decode f a = .fin n1 m1 e1) (hb : decode f b = .fin n2 m2 e2) :
    SF.mul f a b = roundPos f (n1 != n2) (m1 * m2) (e1 + e2) := by
  unfold SF.mul; rw [ha, hb]

theorem qv_mul (m1 m2 : Nat) (e1 e2 : Int) : qv (m1 * m2) (e1 + e2) = qv m1 e1 * qv m2 e2 := by
  unfold qv
  rw [zpow_add₀ (by norm_num : (2 : ℚ) ≠ 0)]
  push_cast; ring

/-- ONE MULTIPLICATION: finite non-zero operands whose exact product lies in the normal range (minus the top binade)
    give a finite normal datum, sign = xor of the signs, within relative error `2^-(mbits+1)` of the exact product. -/
theorem mul_relQ (f : Fmt) (a b : Nat) (n1 n2 : Bool) (m1 m2 : Nat) (e1 e2 : Int) (hf : 0 < f.emax)
    (ha : decode f a = .fin n1 m1 e1) (hb : decode f b = .fin n2 m2 e2) (h1 : m1 ≠ 0) (h2 : m2 ≠ 0)
    (hlo : (2 : ℚ) ^ (emin f + f.mbits) ≤ qv m1 e1 * qv m2 e2)
    (hhi : qv m1 e1 * qv m2 e2 < (2 : ℚ) ^ ((f.emax : Int) - f.bias - 1)) :
    ∃ (m : Nat) (e : Int), decode f (SF.mul f a b) = .fin (n1 != n2) m e ∧
      2 ^ f.mbits ≤ m ∧ m < 2 ^ (f.mbits + 1) ∧ Close (uro f) (qv m e) (qv m1 e1 * qv m2 e2) := by
  rw [mul_fin f a b n1 n2 m1 m2 e1 e2 ha hb, ← qv_mul]
  rw [← qv_mul] at hlo hhi
  exact roundPos_relQ f _ _ _ (Nat.mul_ne_zero h1 h2) hf hlo hhi

/-- ONE MULTIPLICATION, overflow allowed -/
theorem mul_relQ_or_inf (f : Fmt) (a b : Nat) (n1 n2 : Bool) (m1 m2 : Nat) (e1 e2 : Int) (hf : 0 < f.emax)
    (ha : decode f a = .fin n1 m1 e1) (hb : decode f b = .fin n2 m2 e2) (h1 : m1 ≠ 0) (h2 : m2 ≠ 0)
    (hlo : (2 : ℚ) ^ (emin f + f.mbits) ≤ qv m1 e1 * qv m2 e2) :
    (decode f (SF.mul f a b) = .inf (n1 != n2) ∧ (2 : ℚ) ^ ((f.emax : Int) - f.bias - 1) ≤ qv m1 e1 * qv m2 e2) ∨
    ∃ (m : Nat) (e : Int), decode f (SF.mul f a b) = .fin (n1 != n2) m e ∧
      2 ^ f.mbits ≤ m ∧ m < 2 ^ (f.mbits + 1) ∧ Close (uro f) (qv m e) (qv m1 e1 * qv m2 e2) := by
  rw [mul_fin f a b n1 n2 m1 m2 e1 e2 ha hb, ← qv_mul]
  rw [← qv_mul] at hlo
  exact roundPos_relQ_or_inf f _ _ _ (Nat.mul_ne_zero h1 h2) hf hlo

/-! ## `ofNat` -/

theorem ofNat_relQ (f : Fmt) (n : Nat) (hn : n ≠ 0) (hf : 0 < f.emax)
    (hlo : (2 : ℚ) ^ (emin f + f.mbits) ≤ (n : ℚ)) (hhi : (n : ℚ) < (2 : ℚ) ^ ((f.emax : Int) - f.bias - 1)) :
    ∃ (m : Nat) (e : Int), decode f (ofNat f n) = .fin false m e ∧
      2 ^ f.mbits ≤ m ∧ m < 2 ^ (f.mbits + 1) ∧ Close (uro f) (qv m e) (n : ℚ) := by
  have h0 : qv n 0 = (n : ℚ) := by unfold qv; simp
  rw [← h0] at hlo hhi ⊢
  exact roundPos_relQ f false n 0 hn hf hlo hhi

/-- integers below `2^(mbits+1)` convert exactly -/
theorem ofNat_exactQ (f : Fmt) (n : Nat) (hn : n ≠ 0) (hlt : n < 2 ^ (f.mbits + 1)) (hb : 1 ≤ f.bias)
    (he : f.mbits + f.bias < f.emax) :
    ∃ (m : Nat) (e : Int), decode f (ofNat f n) = .fin false m e ∧ m ≠ 0 ∧ qv m e = (n : ℚ) := by
  have hL : Nat.log2 n < f.mbits + 1 := (Nat.log2_lt hn).2 hlt
  have := roundPos_exact f false n 0 hn (by omega) (by unfold emin; omega) (by omega)
  refine ⟨_, _, this, ?_, ?_⟩
  · exact Nat.mul_ne_zero hn (Nat.pos_iff_ne_zero.mp (Nat.two_pow_pos _))
  · have h1 : (0 - (0 + (Nat.log2 n : Int) - f.mbits)).toNat = f.mbits - Nat.log2 n := by omega
    have h2 := qv_scaled n 0 (0 + (Nat.log2 n : Int) - f.mbits) (by omega)
    rw [h1] at h2
    rw [h2]; unfold qv; simp

/-! ## table entries as approximations -/

theorem zpow_split (e : Int) : (2 : ℚ) ^ e = (2 : ℚ) ^ e.toNat / (2 : ℚ) ^ (-e).toNat := by
  rcases le_total 0 e with h | h
  · have : (-e).toNat = 0 := by omega
    rw [this, pow_zero, div_one, ← zpow_natCast, Int.toNat_of_nonneg h]
  · have : e.toNat = 0 := by omega
    rw [this, pow_zero, one_div, ← zpow_natCast, ← zpow_neg, Int.toNat_of_nonneg (by omega), neg_neg]

theorem entry_close {f : Fmt} {bits num den : Nat} (h : entryOK f bits num den = true) (hnum : 0 < num) (hden : 0 < den) :
    ∃ (m : Nat) (e : Int), decode f bits = .fin false m e ∧ m ≠ 0 ∧ Close (uro f) (qv m e) ((num : ℚ) / (den : ℚ)) := by
  obtain ⟨m, e, hd, n1, _, _, hrel⟩ := entryOK_spec h
  refine ⟨m, e, hd, ?_, ?_⟩
  · have := Nat.two_pow_pos f.mbits; omega
  · have hq := natAbs_cast_le hrel
    push_cast at hq
    unfold Close qv uro
    rw [zpow_split e]
    have hP : (0 : ℚ) < (2 : ℚ) ^ e.toNat := by positivity
    have hN : (0 : ℚ) < (2 : ℚ) ^ (-e).toNat := by positivity
    have hK : (0 : ℚ) < (2 : ℚ) ^ (f.mbits + 1) := by positivity
    have hD : (0 : ℚ) < (den : ℚ) := by exact_mod_cast hden
    generalize (2 : ℚ) ^ e.toNat = P at *
    generalize (2 : ℚ) ^ (-e).toNat = N at *
    generalize (2 : ℚ) ^ (f.mbits + 1) = K at *
    have e1 : (m : ℚ) * (P / N) - (num : ℚ) / den = ((m : ℚ) * den * P - num * N) / (den * N) := by
      field_simp
    rw [e1, abs_div, abs_of_pos (by positivity : (0 : ℚ) < den * N), div_le_iff₀ (by positivity)]
    have : |(m : ℚ) * den * P - num * N| ≤ num * N / K := by rw [le_div_iff₀ hK]; exact hq
    calc _ ≤ (num : ℚ) * N / K := this
      _ = 1 / K * (num / den) * (den * N) := by field_simp

/-- widening a binary32 datum to binary64 keeps its value -/
theorem widen_f32 {b : Nat} {n : Bool} {m : Nat} {e : Int} (h : decode b32 b = .fin n m e) :
    ∃ (m' : Nat) (e' : Int), decode b64 (JD.cvt b32 b64 b) = .fin n m' e' ∧ qv m' e' = qv m e ∧ (m ≠ 0 → m' ≠ 0) := by
  obtain ⟨m', e', hd, hle, hmm⟩ := Conv.cvt_32_64_exact b n m e h
  refine ⟨m', e', hd, by rw [hmm]; exact qv_scaled m e e' hle, fun hm => ?_⟩
  rw [hmm]
  exact Nat.mul_ne_zero hm (Nat.pos_iff_ne_zero.mp (Nat.two_pow_pos _))

/-! ## comparisons of huge powers: decided on ℕ by the kernel, transferred to `zpow` over ℚ -/

theorem zpow_le_of_nat {a b p q c d : Nat} (h : c * a ^ p ≤ d * b ^ q) :
    (c : ℚ) * (a : ℚ) ^ (p : Int) ≤ (d : ℚ) * (b : ℚ) ^ (q : Int) := by
  rw [zpow_natCast, zpow_natCast]
  exact_mod_cast h

theorem zpow_lt_of_nat {a b p q c d : Nat} (h : c * a ^ p < d * b ^ q) :
    (c : ℚ) * (a : ℚ) ^ (p : Int) < (d : ℚ) * (b : ℚ) ^ (q : Int) := by
  rw [zpow_natCast, zpow_natCast]
  exact_mod_cast h

/-- negative exponents: `c·a^p ≤ d·b^q` gives `c·b^-q ≤ d·a^-p` -/
theorem zpow_neg_le_of_nat {a b p q c d : Nat} (ha : 0 < a) (hb : 0 < b) (h : c * a ^ p ≤ d * b ^ q) :
    (c : ℚ) * (b : ℚ) ^ (-(q : Int)) ≤ (d : ℚ) * (a : ℚ) ^ (-(p : Int)) := by
  have hA : (0 : ℚ) < (a : ℚ) ^ p := by positivity
  have hB : (0 : ℚ) < (b : ℚ) ^ q := by positivity
  have h' : (c : ℚ) * (a : ℚ) ^ p ≤ (d : ℚ) * (b : ℚ) ^ q := by exact_mod_cast h
  rw [zpow_neg, zpow_neg, zpow_natCast, zpow_natCast, ← div_eq_mul_inv, ← div_eq_mul_inv, div_le_div_iff₀ hB hA]
  exact h'

theorem zpow_neg_lt_of_nat {a b p q c d : Nat} (ha : 0 < a) (hb : 0 < b) (h : c * a ^ p < d * b ^ q) :
    (c : ℚ) * (b : ℚ) ^ (-(q : Int)) < (d : ℚ) * (a : ℚ) ^ (-(p : Int)) := by
  have hA : (0 : ℚ) < (a : ℚ) ^ p := by positivity
  have hB : (0 : ℚ) < (b : ℚ) ^ q := by positivity
  have h' : (c : ℚ) * (a : ℚ) ^ p < (d : ℚ) * (b : ℚ) ^ q := by exact_mod_cast h
  rw [zpow_neg, zpow_neg, zpow_natCast, zpow_natCast, ← div_eq_mul_inv, ← div_eq_mul_inv, div_lt_div_iff₀ hB hA]
  exact h'

end C12
