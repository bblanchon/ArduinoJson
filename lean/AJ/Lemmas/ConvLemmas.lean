/- Helper lemmas for C13 (numeric conversions): well-formedness of stored numbers, integer sources,
   exact dyadic comparison on the softfloat, the conversion constants. -/
import AJ.Model.Conv
namespace Conv
open SF

/-- well-formed stored number: the payload fits the storage width -/
def Src.WF : Src → Prop
  | .u sb n => (sb = 32 ∨ sb = 64) ∧ n < 2 ^ sb
  | .i sb v => (sb = 32 ∨ sb = 64) ∧ -(2 ^ (sb - 1) : Int) ≤ v ∧ v < 2 ^ (sb - 1)
  | .f32 b => b < 2 ^ 32
  | .f64 b => b < 2 ^ 64

/-- mathematical value of an integer-stored number -/
def Src.ival : Src → Option Int
  | .u _ n => some n
  | .i _ v => some v
  | _ => none

theorem mem_allIT {t : IT} (h : t ∈ allIT) :
    t = i8 ∨ t = u8 ∨ t = i16 ∨ t = u16 ∨ t = i32 ∨ t = u32 ∨ t = i64 ∨ t = u64 := by
  simpa [allIT] using h

/-! ## integer sources -/

theorem IT.min_nonpos (t : IT) : t.min ≤ 0 := by
  unfold IT.min
  split
  · exact Int.neg_nonpos_of_nonneg (Int.natCast_nonneg _)
  · exact Int.le_refl 0

/-- below `2^k` with `k` at most the number of value bits of a signed target of that width: at most `t.max` -/
theorem IT.le_max (t : IT) {k : Nat} {z : Int} (hk : k ≤ t.bits - 1) (hz : z < 2 ^ k) : z ≤ t.max := by
  have h1 : 2 ^ k ≤ 2 ^ (t.bits - 1) := Nat.pow_le_pow_right (by decide) hk
  have h2 : 2 ^ (t.bits - 1) ≤ 2 ^ t.bits := Nat.pow_le_pow_right (by decide) (Nat.sub_le _ _)
  have hz' : z < ((2 ^ k : Nat) : Int) := by rw [Int.natCast_pow]; exact hz
  unfold IT.max
  split <;> omega

theorem IT.min_le (t : IT) {k : Nat} {z : Int} (hs : t.signed = true) (hk : k ≤ t.bits - 1) (hz : -(2 ^ k) ≤ z) :
    t.min ≤ z := by
  have h1 : 2 ^ k ≤ 2 ^ (t.bits - 1) := Nat.pow_le_pow_right (by decide) hk
  have hz' : -((2 ^ k : Nat) : Int) ≤ z := by rw [Int.natCast_pow]; exact hz
  unfold IT.min
  rw [if_pos hs]
  omega

theorem canConvInt_u (sb n : Nat) (t : IT) (hn : n < 2 ^ sb) :
    canConvInt (.u sb n) t = true ↔ t.min ≤ (n : Int) ∧ (n : Int) ≤ t.max := by
  have hmin : t.min ≤ (n : Int) := Int.le_trans t.min_nonpos (Int.natCast_nonneg n)
  show (if t.bits ≤ sb then decide ((n : Int) ≤ t.max) else true) = true ↔ _
  by_cases h : t.bits ≤ sb
  · rw [if_pos h, decide_eq_true_eq]
    exact ⟨fun h2 => ⟨hmin, h2⟩, And.right⟩
  · rw [if_neg h]
    have hn' := Int.ofNat_lt.2 hn
    rw [Int.natCast_pow] at hn'
    have hmax : (n : Int) ≤ t.max := t.le_max (k := sb) (by omega) hn'
    exact ⟨fun _ => ⟨hmin, hmax⟩, fun _ => rfl⟩

theorem canConvInt_i (sb : Nat) (v : Int) (t : IT) (h1 : -(2 ^ (sb - 1) : Int) ≤ v) (h2 : v < 2 ^ (sb - 1)) :
    canConvInt (.i sb v) t = true ↔ t.min ≤ v ∧ v ≤ t.max := by
  show (if t.signed then (if t.bits < sb then decide (t.min ≤ v) && decide (v ≤ t.max) else true)
    else (if t.bits ≥ sb then decide (v ≥ 0) else decide (v ≥ 0) && decide (v ≤ t.max))) = true ↔ _
  by_cases hs : t.signed = true
  · rw [if_pos hs]
    by_cases h : t.bits < sb
    · rw [if_pos h, Bool.and_eq_true, decide_eq_true_eq, decide_eq_true_eq]
    · rw [if_neg h]
      exact ⟨fun _ => ⟨t.min_le hs (k := sb - 1) (by omega) h1, t.le_max (k := sb - 1) (by omega) h2⟩, fun _ => rfl⟩
  · rw [if_neg hs]
    have hmin : t.min = 0 := if_neg hs
    rw [hmin]
    by_cases h : t.bits ≥ sb
    · rw [if_pos h, decide_eq_true_eq]
      exact ⟨fun h0 => ⟨h0, t.le_max (k := sb - 1) (by omega) h2⟩, And.left⟩
    · rw [if_neg h, Bool.and_eq_true, decide_eq_true_eq, decide_eq_true_eq]

theorem canConvInt_int (s : Src) (t : IT) (z : Int) (hs : s.WF) (_ht : t ∈ allIT) (hz : s.ival = some z) :
    canConvInt s t = true ↔ t.min ≤ z ∧ z ≤ t.max := by
  cases s with
  | u sb n => cases hz; exact canConvInt_u sb _ t hs.2
  | i sb v => cases hz; exact canConvInt_i sb _ t hs.2.1 hs.2.2
  | f32 b => cases hz
  | f64 b => cases hz

/-- the wrap-around of `castInt` is the identity on values the target can hold: `mx < M` is the largest value, and a negative
    value only occurs for a signed target, whose values are the residues above `mx` shifted down by `M` -/
theorem wrap_id (M mx v : Int) (sg : Bool) (hv : v ≤ mx) (hmx : mx < M)
    (hneg : v < 0 → sg = true ∧ -M ≤ v ∧ mx < v + M) :
    (if sg && decide ((v % M + M) % M > mx) then (v % M + M) % M - M else (v % M + M) % M) = v := by
  by_cases h0 : 0 ≤ v
  · have e1 : v % M = v := Int.emod_eq_of_lt h0 (by omega)
    rw [e1, Int.add_emod_right, e1, if_neg]
    rw [Bool.and_eq_true, decide_eq_true_eq]
    omega
  · obtain ⟨hs, hlo, hhi⟩ := hneg (by omega)
    have e1 : v % M = v + M := by
      rw [← Int.add_emod_right]; exact Int.emod_eq_of_lt (by omega) (by omega)
    have e2 : (v + M) % M = v + M := by rw [← e1, Int.emod_emod]
    rw [e1, Int.add_emod_right, e2, if_pos]
    · omega
    · rw [hs, Bool.true_and, decide_eq_true_eq]; exact hhi

theorem IT.max_lt (t : IT) : t.max < ((2 ^ t.bits : Nat) : Int) := by
  have h2 : 2 ^ (t.bits - 1) ≤ 2 ^ t.bits := Nat.pow_le_pow_right (by decide) (Nat.sub_le _ _)
  unfold IT.max
  split <;> omega

theorem IT.bits_pos {t : IT} (ht : t ∈ allIT) : 1 ≤ t.bits := by
  rcases mem_allIT ht with rfl|rfl|rfl|rfl|rfl|rfl|rfl|rfl <;> decide

theorem castInt_u (sb n : Nat) (t : IT) (h2 : (n : Int) ≤ t.max) : castInt (.u sb n) t = some (n : Int) := by
  have e1 : (n : Int) % ((2 ^ t.bits : Nat) : Int) = n :=
    Int.emod_eq_of_lt (Int.natCast_nonneg n) (Int.lt_of_le_of_lt h2 t.max_lt)
  show some (if t.signed && decide ((n : Int) % ((2 ^ t.bits : Nat) : Int) > t.max)
    then (n : Int) % ((2 ^ t.bits : Nat) : Int) - ((2 ^ t.bits : Nat) : Int) else (n : Int) % ((2 ^ t.bits : Nat) : Int)) = _
  rw [e1, if_neg]
  rw [Bool.and_eq_true, decide_eq_true_eq]
  omega

theorem castInt_i (sb : Nat) (v : Int) (t : IT) (hb : 1 ≤ t.bits) (h1 : t.min ≤ v) (h2 : v ≤ t.max) :
    castInt (.i sb v) t = some v := by
  refine congrArg some (wrap_id ((2 ^ t.bits : Nat) : Int) t.max v t.signed h2 t.max_lt ?_)
  intro hv
  have hp : 2 ^ t.bits = 2 * 2 ^ (t.bits - 1) := by
    obtain ⟨d, hd⟩ : ∃ d, t.bits = d + 1 := ⟨t.bits - 1, by omega⟩
    rw [hd, Nat.pow_succ, Nat.mul_comm]; rfl
  unfold IT.min at h1
  unfold IT.max
  by_cases hs : t.signed = true
  · rw [if_pos hs] at h1 ⊢
    exact ⟨hs, by omega, by omega⟩
  · rw [if_neg hs] at h1
    omega

theorem castInt_int (s : Src) (t : IT) (z : Int) (ht : t ∈ allIT) (hz : s.ival = some z)
    (hr : t.min ≤ z ∧ z ≤ t.max) : castInt s t = some z := by
  cases s with
  | u sb n => cases hz; exact castInt_u sb _ t hr.2
  | i sb v => cases hz; exact castInt_i sb _ t (IT.bits_pos ht) hr.1 hr.2
  | f32 b => cases hz
  | f64 b => cases hz

end Conv

/-! ## exact dyadic semantics of the softfloat comparisons -/
namespace SF

/-- signed mantissa -/
def sgnm (neg : Bool) (m : Nat) : Int := if neg then -(m : Int) else m

/-- the dyadic `s·2^e` scaled by `2^(-E)` (an integer when `E ≤ e`) -/
def sv (E : Int) (s : Int) (e : Int) : Int := s * 2 ^ (e - E).toNat

theorem two_pow_pos' (k : Nat) : (0 : Int) < 2 ^ k := Int.pow_pos (by decide)

theorem toNat_sub_add (a b c : Int) (h1 : c ≤ b) (h2 : b ≤ a) : (a - c).toNat = (a - b).toNat + (b - c).toNat := by
  omega

theorem toNat_sub_mono (a b c : Int) (h : a ≤ b) : (a - c).toNat ≤ (b - c).toNat := by
  omega

theorem sv_scale (E' E s e : Int) (h1 : E' ≤ E) (h2 : E ≤ e) :
    sv E' s e = sv E s e * 2 ^ (E - E').toNat := by
  unfold sv
  rw [toNat_sub_add e E E' h1 h2, Int.pow_add, Int.mul_assoc]

theorem sv_lt_iff (E' E a ea b eb : Int) (h1 : E' ≤ E) (h2 : E ≤ ea) (h3 : E ≤ eb) :
    sv E' a ea < sv E' b eb ↔ sv E a ea < sv E b eb := by
  rw [sv_scale E' E a ea h1 h2, sv_scale E' E b eb h1 h3]
  exact Int.mul_lt_mul_right (two_pow_pos' _)

theorem sv_le_iff (E' E a ea b eb : Int) (h1 : E' ≤ E) (h2 : E ≤ ea) (h3 : E ≤ eb) :
    sv E' a ea ≤ sv E' b eb ↔ sv E a ea ≤ sv E b eb := by
  rw [sv_scale E' E a ea h1 h2, sv_scale E' E b eb h1 h3]
  exact Int.mul_le_mul_right (two_pow_pos' _)

/-- exact comparison `s1·2^e1 ≤ s2·2^e2` of two dyadics, cross-multiplied to the common exponent `min e1 e2` -/
def DyLe (s1 e1 s2 e2 : Int) : Prop := sv (min e1 e2) s1 e1 ≤ sv (min e1 e2) s2 e2
def DyLt (s1 e1 s2 e2 : Int) : Prop := sv (min e1 e2) s1 e1 < sv (min e1 e2) s2 e2
instance : Decidable (DyLe a b c d) := by unfold DyLe; infer_instance
instance : Decidable (DyLt a b c d) := by unfold DyLt; infer_instance

theorem DyLe_iff_sv (E s1 e1 s2 e2 : Int) (h1 : E ≤ e1) (h2 : E ≤ e2) :
    DyLe s1 e1 s2 e2 ↔ sv E s1 e1 ≤ sv E s2 e2 :=
  (sv_le_iff E (min e1 e2) s1 e1 s2 e2 (by omega) (by omega) (by omega)).symm
theorem DyLt_iff_sv (E s1 e1 s2 e2 : Int) (h1 : E ≤ e1) (h2 : E ≤ e2) :
    DyLt s1 e1 s2 e2 ↔ sv E s1 e1 < sv E s2 e2 :=
  (sv_lt_iff E (min e1 e2) s1 e1 s2 e2 (by omega) (by omega) (by omega)).symm

/-- comparing an integer `z` with `s·2^e`, spelled out -/
theorem DyLe_int_left (z s e : Int) : DyLe z 0 s e ↔ z * 2 ^ (-e).toNat ≤ s * 2 ^ e.toNat := by
  unfold DyLe sv
  by_cases h : 0 ≤ e
  · have : min 0 e = 0 := by omega
    rw [this]; simp
    have : (-e).toNat = 0 := by omega
    rw [this]; simp
  · have : min 0 e = e := by omega
    rw [this]; simp
    have : e.toNat = 0 := by omega
    rw [this]; simp
theorem DyLe_int_right (z s e : Int) : DyLe s e z 0 ↔ s * 2 ^ e.toNat ≤ z * 2 ^ (-e).toNat := by
  unfold DyLe sv
  by_cases h : 0 ≤ e
  · have : min e 0 = 0 := by omega
    rw [this]; simp
    have : (-e).toNat = 0 := by omega
    rw [this]; simp
  · have : min e 0 = e := by omega
    rw [this]; simp
    have : e.toNat = 0 := by omega
    rw [this]; simp

theorem sgn_bridge (n : Bool) (m k : Nat) :
    (if n then -1 else 1) * ((m * 2 ^ k : Nat) : Int) = sgnm n m * 2 ^ k := by
  cases n <;> simp [sgnm, Int.natCast_mul, Int.natCast_pow, Int.neg_mul]

def emin (f : Fmt) : Int := 1 - (f.bias : Int) - f.mbits

/-! ### a bit pattern is its three fields -/

/-- the datum with sign `s`, exponent field `x`, mantissa field `r` -/
def ofFields (f : Fmt) (s : Bool) (x r : Nat) : FP :=
  if x == f.emax then (if r == 0 then .inf s else .nan)
  else if x == 0 then .fin s r (1 - (f.bias : Int) - f.mbits)
  else .fin s (r + 2 ^ f.mbits) ((x : Int) - f.bias - f.mbits)

theorem decode_eq_ofFields (f : Fmt) (b : Nat) :
    decode f b = ofFields f (b / f.signBit % 2 == 1) (b / 2 ^ f.mbits % 2 ^ f.ebits) (b % 2 ^ f.mbits) := rfl

theorem ofFields_fin_iff {f : Fmt} {s : Bool} {x r : Nat} {n : Bool} {m : Nat} {e : Int} :
    ofFields f s x r = .fin n m e ↔ n = s ∧ x ≠ f.emax ∧
      ((x = 0 ∧ m = r ∧ e = emin f) ∨ (x ≠ 0 ∧ m = r + 2 ^ f.mbits ∧ e = (x : Int) - f.bias - f.mbits)) := by
  unfold ofFields emin
  by_cases h1 : x = f.emax
  · rw [if_pos (beq_iff_eq.2 h1)]
    constructor
    · intro h; split at h <;> cases h
    · rintro ⟨_, h, _⟩; exact absurd h1 h
  · rw [if_neg (fun h => h1 (beq_iff_eq.1 h))]
    by_cases h2 : x = 0
    · rw [if_pos (beq_iff_eq.2 h2)]
      constructor
      · intro h; cases h; exact ⟨rfl, h1, Or.inl ⟨h2, rfl, rfl⟩⟩
      · rintro ⟨rfl, _, ⟨_, rfl, rfl⟩ | ⟨h, _⟩⟩
        · rfl
        · exact absurd h2 h
    · rw [if_neg (fun h => h2 (beq_iff_eq.1 h))]
      constructor
      · intro h; cases h; exact ⟨rfl, h1, Or.inr ⟨h2, rfl, rfl⟩⟩
      · rintro ⟨rfl, _, ⟨h, _⟩ | ⟨_, rfl, rfl⟩⟩
        · exact absurd h h2
        · rfl

theorem ofFields_inf_iff {f : Fmt} {s : Bool} {x r : Nat} {n : Bool} :
    ofFields f s x r = .inf n ↔ n = s ∧ x = f.emax ∧ r = 0 := by
  unfold ofFields
  by_cases h1 : x = f.emax
  · rw [if_pos (beq_iff_eq.2 h1)]
    by_cases h2 : r = 0
    · rw [if_pos (beq_iff_eq.2 h2)]
      constructor
      · intro h; cases h; exact ⟨rfl, h1, h2⟩
      · rintro ⟨rfl, _, _⟩; rfl
    · rw [if_neg (fun h => h2 (beq_iff_eq.1 h))]
      constructor
      · intro h; cases h
      · rintro ⟨_, _, h⟩; exact absurd h h2
  · rw [if_neg (fun h => h1 (beq_iff_eq.1 h))]
    constructor
    · intro h; split at h <;> cases h
    · rintro ⟨_, h, _⟩; exact absurd h h1

/-- changing the sign field changes the sign of the datum and nothing else -/
theorem ofFields_fin_sign {f : Fmt} {s : Bool} {x r : Nat} {n : Bool} {m : Nat} {e : Int} (s' : Bool)
    (h : ofFields f s x r = .fin n m e) : ofFields f s' x r = .fin s' m e :=
  ofFields_fin_iff.2 ⟨rfl, (ofFields_fin_iff.1 h).2⟩
theorem ofFields_inf_sign {f : Fmt} {s : Bool} {x r : Nat} {n : Bool} (s' : Bool)
    (h : ofFields f s x r = .inf n) : ofFields f s' x r = .inf s' :=
  ofFields_inf_iff.2 ⟨rfl, (ofFields_inf_iff.1 h).2⟩

/-- everything the decoding of a finite datum says about its mantissa and exponent -/
theorem decode_fin_facts {f : Fmt} {b : Nat} {n : Bool} {m : Nat} {e : Int} (h : decode f b = .fin n m e) :
    emin f ≤ e ∧ m < 2 ^ (f.mbits + 1) ∧ (emin f < e → 2 ^ f.mbits ≤ m) ∧
    (2 ≤ f.emax → e + f.bias + f.mbits < f.emax) := by
  have hr := Nat.mod_lt b (Nat.two_pow_pos f.mbits)
  have hx := Nat.mod_lt (b / 2 ^ f.mbits) (Nat.two_pow_pos f.ebits)
  rw [Nat.pow_succ]
  rcases (ofFields_fin_iff.1 h).2 with ⟨hne, ⟨_, rfl, rfl⟩ | ⟨h0, rfl, rfl⟩⟩
  · unfold emin; exact ⟨Int.le_refl _, by omega, by omega, by omega⟩
  · unfold emin; unfold Fmt.emax at hne ⊢; exact ⟨by omega, by omega, by omega, by omega⟩

theorem decode_fin_bounds (f : Fmt) (b : Nat) (n : Bool) (m : Nat) (e : Int) (h : decode f b = .fin n m e) :
    emin f ≤ e ∧ m < 2 ^ (f.mbits + 1) :=
  ⟨(decode_fin_facts h).1, (decode_fin_facts h).2.1⟩

theorem decode_fin_exp_lt (f : Fmt) (b : Nat) (n : Bool) (m : Nat) (e : Int) (h : decode f b = .fin n m e) (he : 2 ≤ f.emax) :
    e + f.bias + f.mbits < f.emax :=
  (decode_fin_facts h).2.2.2 he

theorem pack_arith (A B S x r : Nat) (hr : r < A) (hx : x < B) (hS : S < 2) :
    (S * (A * B) + x * A + r) % A = r ∧ (S * (A * B) + x * A + r) / A % B = x ∧ (S * (A * B) + x * A + r) / (A * B) % 2 = S := by
  have hA : 0 < A := by omega
  have hB : 0 < B := by omega
  have e1 : S * (A * B) + x * A + r = r + (S * B + x) * A := by grind
  have h1 : (S * (A * B) + x * A + r) / A = S * B + x := by
    rw [e1, Nat.add_mul_div_right _ _ hA, Nat.div_eq_of_lt hr, Nat.zero_add]
  refine ⟨?_, ?_, ?_⟩
  · rw [e1, Nat.add_mul_mod_self_right, Nat.mod_eq_of_lt hr]
  · rw [h1, Nat.add_comm, Nat.add_mul_mod_self_right, Nat.mod_eq_of_lt hx]
  · rw [← Nat.div_div_eq_div_mul, h1, Nat.add_comm, Nat.add_mul_div_right _ _ hB, Nat.div_eq_of_lt hx, Nat.zero_add,
      Nat.mod_eq_of_lt hS]

theorem signBit_eq (f : Fmt) : f.signBit = 2 ^ f.mbits * 2 ^ f.ebits := Nat.pow_add ..

/-- a pattern assembled from a sign, an exponent field and a mantissa field decodes to these -/
theorem decode_fields (f : Fmt) (s : Bool) (x r : Nat) (hx : x < 2 ^ f.ebits) (hr : r < 2 ^ f.mbits) :
    decode f ((if s then f.signBit else 0) + x * 2 ^ f.mbits + r) = ofFields f s x r := by
  obtain ⟨a1, a2, a3⟩ := pack_arith (2 ^ f.mbits) (2 ^ f.ebits) (if s then 1 else 0) x r hr hx (by cases s <;> decide)
  have hs : (if s then f.signBit else 0) = (if s then 1 else 0) * (2 ^ f.mbits * 2 ^ f.ebits) := by
    cases s
    · exact (Nat.zero_mul _).symm
    · exact (signBit_eq f).trans (Nat.one_mul _).symm
  rw [hs, decode_eq_ofFields, signBit_eq, a1, a2, a3]
  cases s <;> rfl

/-- adding or removing the sign bit flips the sign field and leaves the other two alone -/
theorem flip_arith (A B r : Nat) (hA : 0 < A) (hB : 0 < B) :
    let r' := if r ≥ A * B then r - A * B else r + A * B
    (r' / (A * B) % 2 == 1) = !(r / (A * B) % 2 == 1) ∧ r' / A % B = r / A % B ∧ r' % A = r % A := by
  intro r'
  have key : ∀ x : Nat, ((x + A * B) / (A * B) % 2 == 1) = !(x / (A * B) % 2 == 1) ∧
      (x + A * B) / A % B = x / A % B ∧ (x + A * B) % A = x % A := by
    intro x
    refine ⟨?_, ?_, ?_⟩
    · rw [Nat.add_div_right _ (Nat.mul_pos hA hB)]
      have hq : (x / (A * B) + 1) % 2 = 1 - x / (A * B) % 2 := by omega
      rw [hq]
      rcases Nat.mod_two_eq_zero_or_one (x / (A * B)) with h | h <;> rw [h] <;> rfl
    · rw [Nat.add_mul_div_left _ _ hA, Nat.add_mod_right]
    · rw [Nat.add_mul_mod_self_left]
  by_cases h : r ≥ A * B
  · have hr : r' = r - A * B := if_pos h
    obtain ⟨k1, k2, k3⟩ := key (r - A * B)
    rw [Nat.sub_add_cancel h] at k1 k2 k3
    rw [hr, k1, k2, k3, Bool.not_not]
    exact ⟨rfl, rfl, rfl⟩
  · have hr : r' = r + A * B := if_neg h
    rw [hr]
    exact key r

/-- `negBits` flips the sign field -/
theorem decode_negBits (f : Fmt) (r : Nat) :
    decode f (JD.negBits f true r) =
      ofFields f (!(r / f.signBit % 2 == 1)) (r / 2 ^ f.mbits % 2 ^ f.ebits) (r % 2 ^ f.mbits) := by
  obtain ⟨a1, a2, a3⟩ := flip_arith (2 ^ f.mbits) (2 ^ f.ebits) r (Nat.two_pow_pos _) (Nat.two_pow_pos _)
  rw [decode_eq_ofFields]
  unfold JD.negBits
  rw [if_pos rfl, signBit_eq, a1, a2, a3]

theorem negBits_fin {f : Fmt} {r : Nat} {n : Bool} {m : Nat} {e : Int} (h : decode f r = .fin n m e) :
    decode f (JD.negBits f true r) = .fin (!n) m e := by
  rw [decode_eq_ofFields] at h
  rw [decode_negBits, (ofFields_fin_iff.1 h).1]
  exact ofFields_fin_sign _ h

theorem negBits_inf {f : Fmt} {r : Nat} {n : Bool} (h : decode f r = .inf n) :
    decode f (JD.negBits f true r) = .inf (!n) := by
  rw [decode_eq_ofFields] at h
  rw [decode_negBits, (ofFields_inf_iff.1 h).1]
  exact ofFields_inf_sign _ h

/-- `absBits` clears the sign field -/
theorem decode_absBits_fields (f : Fmt) (b : Nat) :
    decode f (absBits f b) = ofFields f false (b / 2 ^ f.mbits % 2 ^ f.ebits) (b % 2 ^ f.mbits) := by
  have hpos : 0 < 2 ^ f.mbits * 2 ^ f.ebits := Nat.mul_pos (Nat.two_pow_pos _) (Nat.two_pow_pos _)
  rw [decode_eq_ofFields]
  unfold absBits
  rw [signBit_eq, Nat.div_eq_of_lt (Nat.mod_lt _ hpos), Nat.mod_mul_right_div_self, Nat.mod_mod,
    Nat.mod_mod_of_dvd _ (Nat.dvd_mul_right _ _)]
  rfl

theorem lt_fin (f : Fmt) (a b : Nat) (na nb : Bool) (ma mb : Nat) (ea eb : Int)
    (ha : decode f a = .fin na ma ea) (hb : decode f b = .fin nb mb eb) :
    lt f a b = true ↔ DyLt (sgnm na ma) ea (sgnm nb mb) eb := by
  unfold lt DyLt sv
  rw [ha, hb]
  simp only [sgn_bridge, decide_eq_true_eq]

theorem le_fin (f : Fmt) (a b : Nat) (na nb : Bool) (ma mb : Nat) (ea eb : Int)
    (ha : decode f a = .fin na ma ea) (hb : decode f b = .fin nb mb eb) :
    le f a b = true ↔ DyLe (sgnm na ma) ea (sgnm nb mb) eb := by
  have hl := lt_fin f b a nb na mb ma eb ea hb ha
  unfold le
  rw [ha, hb]
  simp only [Bool.not_eq_true', ← Bool.not_eq_true, hl]
  unfold DyLe DyLt
  rw [Int.min_comm]
  omega

/-- the range test `c ≤ b ∧ b ≤ X` of `canConvertNumber` against finite constants: true exactly for finite `b`
    whose exact value lies between the exact values of the constants (NaN and ±inf fail) -/
theorem range_iff (f : Fmt) (b c X : Nat) (nc nx : Bool) (mc mx : Nat) (ec ex : Int)
    (hc : decode f c = .fin nc mc ec) (hx : decode f X = .fin nx mx ex) :
    (ge f b c && le f b X) = true ↔
      ∃ n m e, decode f b = .fin n m e ∧ DyLe (sgnm nc mc) ec (sgnm n m) e ∧ DyLe (sgnm n m) e (sgnm nx mx) ex := by
  cases hd : decode f b with
  | nan =>
    have : ge f b c = false := by unfold ge le; rw [hc, hd]
    simp [this]
  | inf nb =>
    have h1 : ge f b c = !nb := by unfold ge le lt; rw [hc, hd]
    have h2 : le f b X = nb := by unfold le lt; rw [hx, hd]; simp
    rw [h1, h2]; cases nb <;> simp
  | fin n m e =>
    rw [Bool.and_eq_true]
    unfold ge
    rw [le_fin f c b nc n mc m ec e hc hd, le_fin f b X n nx m mx e ex hd hx]
    constructor
    · intro h; exact ⟨n, m, e, rfl, h⟩
    · rintro ⟨n', m', e', h, h'⟩; cases h; exact h'

/-- datum with an all-ones mantissa `(2^p-1)·2^J`: any `m·2^j` with `m < 2^p` below the next datum `2^p·2^J` is at most it -/
theorem hi_lemma (p J m j B : Nat) (hp : 0 < p) (hm : m < 2 ^ p) (hB : B < 2 ^ p * 2 ^ J) (h : m * 2 ^ j ≤ B) :
    m * 2 ^ j ≤ (2 ^ p - 1) * 2 ^ J := by
  by_cases hj : j ≤ J
  · exact Nat.mul_le_mul (by omega) (Nat.pow_le_pow_right (by decide) hj)
  · obtain ⟨d, rfl⟩ : ∃ d, j = d + (J + 1) := ⟨j - (J + 1), by omega⟩
    obtain ⟨q, rfl⟩ : ∃ q, p = q + 1 := ⟨p - 1, by omega⟩
    have e1 : m * 2 ^ (d + (J + 1)) = (m * 2 ^ d) * 2 ^ (J + 1) := by rw [Nat.pow_add, Nat.mul_assoc]
    have e2 : 2 ^ (q + 1) * 2 ^ J = 2 ^ q * 2 ^ (J + 1) := by
      rw [Nat.pow_succ, Nat.pow_succ, Nat.mul_assoc, Nat.mul_comm 2]
    have h3 : m * 2 ^ d < 2 ^ q := by
      apply Nat.lt_of_mul_lt_mul_right (a := 2 ^ (J + 1))
      rw [← e1, ← e2]; omega
    have h4 : (m * 2 ^ d + 1) * 2 ^ (J + 1) ≤ 2 ^ q * 2 ^ (J + 1) := Nat.mul_le_mul_right _ h3
    rw [Nat.add_mul, ← e1, ← e2, Nat.one_mul] at h4
    rw [Nat.sub_mul, Nat.one_mul]
    have : 2 ^ (J + 1) = 2 * 2 ^ J := by rw [Nat.pow_succ, Nat.mul_comm]
    have := Nat.two_pow_pos J
    omega

/-- `c` is the exact datum of the integer `z` (checkable by evaluation) -/
def exactOK (f : Fmt) (c : Nat) (z : Int) : Bool :=
  match decode f c with
  | .fin n m e => decide (sv (emin f) (sgnm n m) e = z * 2 ^ (-emin f).toNat)
  | _ => false

/-- `X` is exactly `z`, or `X` is the all-ones-mantissa datum just below a power-of-two step with
    `value X ≤ z < next datum above X` (checkable by evaluation) -/
def upperOK (f : Fmt) (X : Nat) (z : Int) : Bool :=
  match decode f X with
  | .fin n m e => decide (sv (emin f) (sgnm n m) e = z * 2 ^ (-emin f).toNat) ||
      (!n && decide (m = 2 ^ (f.mbits + 1) - 1) && decide (sv (emin f) (sgnm n m) e ≤ z * 2 ^ (-emin f).toNat) &&
        decide (z * 2 ^ (-emin f).toNat < ((2 ^ (f.mbits + 1) * 2 ^ (e - emin f).toNat : Nat) : Int)))
  | _ => false

theorem sv_int (E z : Int) : sv E z 0 = z * 2 ^ (-E).toNat := by unfold sv; rw [Int.zero_sub]

theorem exactOK_spec (f : Fmt) (c : Nat) (z : Int) (h : exactOK f c z = true) (h0 : emin f ≤ 0) :
    ∃ n m e, decode f c = .fin n m e ∧ ∀ s' e', emin f ≤ e' →
      ((DyLe (sgnm n m) e s' e' ↔ DyLe z 0 s' e') ∧ (DyLe s' e' (sgnm n m) e ↔ DyLe s' e' z 0)) := by
  unfold exactOK at h
  split at h
  · rename_i n m e hd
    have hb := (decode_fin_bounds f c n m e hd).1
    refine ⟨n, m, e, hd, ?_⟩
    intro s' e' he'
    simp only [decide_eq_true_eq] at h
    rw [DyLe_iff_sv (emin f) _ _ _ _ hb he', DyLe_iff_sv (emin f) _ _ _ _ h0 he',
      DyLe_iff_sv (emin f) _ _ _ _ he' hb, DyLe_iff_sv (emin f) _ _ _ _ he' h0, sv_int, h]
    exact ⟨Iff.rfl, Iff.rfl⟩
  · cases h

theorem upperOK_spec (f : Fmt) (X : Nat) (z : Int) (h : upperOK f X z = true) (h0 : emin f ≤ 0) :
    ∃ n m e, decode f X = .fin n m e ∧ ∀ n' m' e', emin f ≤ e' → m' < 2 ^ (f.mbits + 1) →
      (DyLe (sgnm n' m') e' (sgnm n m) e ↔ DyLe (sgnm n' m') e' z 0) := by
  unfold upperOK at h
  split at h
  · rename_i n m e hd
    have hb := (decode_fin_bounds f X n m e hd).1
    refine ⟨n, m, e, hd, ?_⟩
    intro n' m' e' he' hm'
    rw [DyLe_iff_sv (emin f) _ _ _ _ he' hb, DyLe_iff_sv (emin f) _ _ _ _ he' h0, sv_int]
    simp only [Bool.or_eq_true, Bool.and_eq_true, decide_eq_true_eq, Bool.not_eq_true'] at h
    rcases h with h | ⟨⟨⟨hn, hm⟩, hle⟩, hlt⟩
    · rw [h]
    · constructor
      · intro h1; omega
      · intro h1
        subst hn
        cases n'
        · -- non-negative datum
          have hsv : ∀ (a : Nat) (ee : Int), sv (emin f) (sgnm false a) ee = ((a * 2 ^ (ee - emin f).toNat : Nat) : Int) := by
            intro a ee; simp [sv, sgnm, Int.natCast_mul, Int.natCast_pow]
          rw [hsv] at h1 ⊢
          rw [hsv]
          have hB : (z * 2 ^ (-emin f).toNat).toNat < 2 ^ (f.mbits + 1) * 2 ^ (e - emin f).toNat := by omega
          have hh : m' * 2 ^ (e' - emin f).toNat ≤ (z * 2 ^ (-emin f).toNat).toNat := by omega
          have := hi_lemma (f.mbits + 1) _ m' _ _ (by omega) hm' hB hh
          rw [← hm] at this
          exact Int.ofNat_le.2 this
        · have h2 : sv (emin f) (sgnm true m') e' ≤ 0 := by
            simp only [sv, sgnm, if_true, Int.neg_mul]
            have : (0 : Int) ≤ (m' : Int) * 2 ^ (e' - emin f).toNat :=
              Int.mul_nonneg (Int.natCast_nonneg _) (Int.le_of_lt (two_pow_pos' _))
            omega
          have h3 : 0 ≤ sv (emin f) (sgnm false m) e := by
            simp only [sv, sgnm]
            exact Int.mul_nonneg (by simp) (Int.le_of_lt (two_pow_pos' _))
          omega
  · cases h

/-- truncation toward zero of `(-1)^n·m·2^e` (the expression inside `Conv.truncInt`) -/
def truncVal (n : Bool) (m : Nat) (e : Int) : Int :=
  let mag : Nat := if e ≥ 0 then m * 2 ^ e.toNat else m / 2 ^ ((-e).toNat)
  if n then -(mag : Int) else mag

theorem trunc_ge (z : Int) (n : Bool) (m : Nat) (e : Int) (h : DyLe z 0 (sgnm n m) e) : z ≤ truncVal n m e := by
  rw [DyLe_int_left] at h
  unfold truncVal
  by_cases he : e ≥ 0
  · have : (-e).toNat = 0 := by omega
    rw [this] at h
    simp only [he, if_true]
    cases n <;> simp [sgnm, Int.natCast_mul, Int.natCast_pow, Int.neg_mul] at h ⊢ <;> omega
  · have : e.toNat = 0 := by omega
    rw [this] at h
    simp only [he, if_false]
    have hp := two_pow_pos' (-e).toNat
    cases n <;> simp [sgnm, Int.natCast_ediv, Int.natCast_pow] at h ⊢
    · exact (Int.le_ediv_iff_mul_le hp).2 h
    · have : (m : Int) / 2 ^ (-e).toNat ≤ -z := Int.ediv_le_of_le_mul hp (by rw [Int.neg_mul]; omega)
      omega

theorem trunc_le (z : Int) (n : Bool) (m : Nat) (e : Int) (h : DyLe (sgnm n m) e z 0) : truncVal n m e ≤ z := by
  rw [DyLe_int_right] at h
  unfold truncVal
  by_cases he : e ≥ 0
  · have : (-e).toNat = 0 := by omega
    rw [this] at h
    simp only [he, if_true]
    cases n <;> simp [sgnm, Int.natCast_mul, Int.natCast_pow, Int.neg_mul] at h ⊢ <;> omega
  · have : e.toNat = 0 := by omega
    rw [this] at h
    simp only [he, if_false]
    have hp := two_pow_pos' (-e).toNat
    cases n <;> simp [sgnm, Int.natCast_ediv, Int.natCast_pow] at h ⊢
    · exact Int.ediv_le_of_le_mul hp h
    · have : -z ≤ (m : Int) / 2 ^ (-e).toNat := (Int.le_ediv_iff_mul_le hp).2 (by rw [Int.neg_mul]; omega)
      omega
end SF

namespace Conv
open SF
def upperC (f : Fmt) (w : Nat) (t : IT) : Nat := if t.bits < w then ofInt f t.max else highestFor f t

theorem consts32 : ∀ t ∈ allIT, exactOK b32 (ofInt b32 t.min) t.min = true ∧ upperOK b32 (upperC b32 32 t) t.max = true := by
  decide +kernel
theorem consts64 : ∀ t ∈ allIT, exactOK b64 (ofInt b64 t.min) t.min = true ∧ upperOK b64 (upperC b64 64 t) t.max = true := by
  decide +kernel
end Conv

namespace Conv
open SF

/-- the exact value of a datum lies within `[t.min, t.max]` (NaN and ±inf do not) -/
def inRange (t : IT) : FP → Prop
  | .fin n m e => DyLe t.min 0 (sgnm n m) e ∧ DyLe (sgnm n m) e t.max 0
  | _ => False
instance (t : IT) (x : FP) : Decidable (inRange t x) := by cases x <;> unfold inRange <;> infer_instance

/-- truncation toward zero of a finite datum (0 for NaN / ±inf, never used there) -/
def truncFP : FP → Int
  | .fin n m e => truncVal n m e
  | _ => 0

theorem truncInt_eq (f : Fmt) (b : Nat) :
    truncInt f b = match decode f b with | .fin n m e => some (truncVal n m e) | _ => none := by
  unfold truncInt
  cases decode f b <;> rfl

theorem range_test (f : Fmt) (w b : Nat) (t : IT) (h0 : emin f ≤ 0)
    (hmin : exactOK f (ofInt f t.min) t.min = true) (hmax : upperOK f (upperC f w t) t.max = true) :
    (ge f b (ofInt f t.min) && le f b (upperC f w t)) = true ↔ inRange t (decode f b) := by
  obtain ⟨nc, mc, ec, hc, Hc⟩ := exactOK_spec f _ _ hmin h0
  obtain ⟨nx, mx, ex, hx, Hx⟩ := upperOK_spec f _ _ hmax h0
  rw [range_iff f b _ _ nc nx mc mx ec ex hc hx]
  cases hd : decode f b with
  | nan => simp [inRange]
  | inf nb => simp [inRange]
  | fin n m e =>
    have hb := decode_fin_bounds f b n m e hd
    unfold inRange
    constructor
    · rintro ⟨n', m', e', heq, h1, h2⟩
      cases heq
      exact ⟨(Hc _ _ hb.1).1.1 h1, (Hx n m e hb.1 hb.2).1 h2⟩
    · rintro ⟨h1, h2⟩
      exact ⟨n, m, e, rfl, (Hc _ _ hb.1).1.2 h1, (Hx n m e hb.1 hb.2).2 h2⟩

theorem canConv_f32 (b : Nat) (t : IT) :
    canConvInt (.f32 b) t = (ge b32 b (ofInt b32 t.min) && le b32 b (upperC b32 32 t)) := by
  simp only [canConvInt, upperC]; split <;> rfl
theorem canConv_f64 (b : Nat) (t : IT) :
    canConvInt (.f64 b) t = (ge b64 b (ofInt b64 t.min) && le b64 b (upperC b64 64 t)) := by
  simp only [canConvInt, upperC]; split <;> rfl

/-- in range ⇒ the cast is defined and yields the truncation -/
theorem cast_of_inRange (f : Fmt) (b : Nat) (t : IT) (h : inRange t (decode f b)) :
    (match truncInt f b with
      | some z => if t.min ≤ z ∧ z ≤ t.max then some z else none
      | none => none) = some (truncFP (decode f b)) := by
  rw [truncInt_eq]
  cases hd : decode f b with
  | nan => rw [hd] at h; exact h.elim
  | inf nb => rw [hd] at h; exact h.elim
  | fin n m e =>
    rw [hd] at h
    simp only [truncFP]
    rw [if_pos ⟨trunc_ge _ _ _ _ h.1, trunc_le _ _ _ _ h.2⟩]

/-- a float-stored number `s` with pattern `b` of format `f` (storage width `w`): the range test is "finite and within
    `[t.min, t.max]`", and the conversion truncates the values that pass it -/
theorem float_src (f : Fmt) (w : Nat) (s : Src) (b : Nat) (t : IT) (h0 : emin f ≤ 0)
    (hk : exactOK f (ofInt f t.min) t.min = true ∧ upperOK f (upperC f w t) t.max = true)
    (hcan : canConvInt s t = (ge f b (ofInt f t.min) && le f b (upperC f w t)))
    (hcast : castInt s t = match truncInt f b with
      | some z => if t.min ≤ z ∧ z ≤ t.max then some z else none
      | none => none) :
    (canConvInt s t = true ↔ inRange t (decode f b)) ∧
    convInt s t = some (if inRange t (decode f b) then truncFP (decode f b) else 0) := by
  have hc : canConvInt s t = true ↔ inRange t (decode f b) := by
    rw [hcan]; exact range_test f w b t h0 hk.1 hk.2
  refine ⟨hc, ?_⟩
  unfold convInt
  by_cases hr : inRange t (decode f b)
  · rw [if_pos (hc.2 hr), if_pos hr, hcast]; exact cast_of_inRange f b t hr
  · rw [if_neg (fun h => hr (hc.1 h)), if_neg hr]

theorem float_src32 (b : Nat) (t : IT) (ht : t ∈ allIT) :
    (canConvInt (.f32 b) t = true ↔ inRange t (decode b32 b)) ∧
    convInt (.f32 b) t = some (if inRange t (decode b32 b) then truncFP (decode b32 b) else 0) :=
  float_src b32 32 (.f32 b) b t (by decide) (consts32 t ht) (canConv_f32 b t) rfl
theorem float_src64 (b : Nat) (t : IT) (ht : t ∈ allIT) :
    (canConvInt (.f64 b) t = true ↔ inRange t (decode b64 b)) ∧
    convInt (.f64 b) t = some (if inRange t (decode b64 b) then truncFP (decode b64 b) else 0) :=
  float_src b64 64 (.f64 b) b t (by decide) (consts64 t ht) (canConv_f64 b t) rfl
end Conv

/-! ## `roundPos`: structure, exactness when the mantissa fits -/
namespace SF
/-- final packing step of `roundPos` -/
def rpPack (f : Fmt) (n : Bool) (mr : Nat) (e' : Int) : Nat :=
  if mr < 2 ^ f.mbits then (if n then f.signBit else 0) + mr
  else if e' + f.bias + f.mbits ≥ f.emax then infBits f n
  else (if n then f.signBit else 0) + (e' + f.bias + f.mbits).toNat * 2 ^ f.mbits + (mr - 2 ^ f.mbits)
/-- lsb exponent chosen by `roundPos` -/
def rpExp (f : Fmt) (m : Nat) (e : Int) : Int := max (e + (Nat.log2 m + 1 : Nat) - (f.mbits + 1)) (emin f)
/-- rounded mantissa (before renormalisation) -/
def rpMant (m : Nat) (e e' : Int) : Nat := if e' ≥ e then rneShift m (e' - e).toNat else m * 2 ^ ((e - e').toNat)

theorem roundPos_eq (f : Fmt) (n : Bool) (m : Nat) (e : Int) (hm : m ≠ 0) :
    roundPos f n m e =
      if rpMant m e (rpExp f m e) ≥ 2 ^ (f.mbits + 1) then rpPack f n (rpMant m e (rpExp f m e) / 2) (rpExp f m e + 1)
      else rpPack f n (rpMant m e (rpExp f m e)) (rpExp f m e) := by
  have hE : max (e + ((Nat.log2 m + 1 : Nat) : Int) - ((f.mbits : Int) + 1)) (1 - (f.bias : Int) - (f.mbits : Int)) = rpExp f m e := rfl
  have hM : (if rpExp f m e ≥ e then rneShift m (rpExp f m e - e).toNat else m * 2 ^ (e - rpExp f m e).toNat) =
      rpMant m e (rpExp f m e) := rfl
  simp only [roundPos, if_neg hm]
  simp only [hE]
  simp only [hM]
  by_cases h : rpMant m e (rpExp f m e) ≥ 2 ^ (f.mbits + 1)
  · simp only [if_pos h]; rfl
  · simp only [if_neg h]; rfl

/-- decoding a packed normal number -/
theorem decode_pack (f : Fmt) (n : Bool) (x mr : Nat) (hx1 : 1 ≤ x) (hx2 : x < f.emax)
    (h1 : 2 ^ f.mbits ≤ mr) (h2 : mr < 2 ^ (f.mbits + 1)) :
    decode f ((if n then f.signBit else 0) + x * 2 ^ f.mbits + (mr - 2 ^ f.mbits)) = .fin n mr ((x : Int) - f.bias - f.mbits) := by
  rw [Nat.pow_succ] at h2
  rw [decode_fields f n x _ (by unfold Fmt.emax at hx2; omega) (by omega)]
  exact ofFields_fin_iff.2 ⟨rfl, by omega, Or.inr ⟨by omega, by omega, rfl⟩⟩

/-- `roundPos` is exact when the mantissa fits and the result is a normal number -/
theorem roundPos_exact (f : Fmt) (n : Bool) (m : Nat) (e : Int) (hm : m ≠ 0) (hlen : Nat.log2 m ≤ f.mbits)
    (he1 : emin f ≤ e + Nat.log2 m - f.mbits) (he2 : e + Nat.log2 m + f.bias < f.emax) :
    decode f (roundPos f n m e) = .fin n (m * 2 ^ (f.mbits - Nat.log2 m)) (e + Nat.log2 m - f.mbits) := by
  have hL1 := Nat.log2_self_le hm
  have hL2 := Nat.lt_log2_self (n := m)
  have hE : rpExp f m e = e + Nat.log2 m - f.mbits := by
    unfold rpExp; push_cast; omega
  have hM : rpMant m e (rpExp f m e) = m * 2 ^ (f.mbits - Nat.log2 m) := by
    rw [hE]; unfold rpMant
    by_cases hc : Nat.log2 m = f.mbits
    · have : e + (Nat.log2 m : Int) - f.mbits ≥ e := by omega
      rw [if_pos this]
      have : (e + (Nat.log2 m : Int) - f.mbits - e).toNat = 0 := by omega
      rw [this, hc]; simp [rneShift]
    · have : ¬ (e + (Nat.log2 m : Int) - f.mbits ≥ e) := by omega
      rw [if_neg this]
      have : (e - (e + (Nat.log2 m : Int) - f.mbits)).toNat = f.mbits - Nat.log2 m := by omega
      rw [this]
  have hp : 2 ^ Nat.log2 m * 2 ^ (f.mbits - Nat.log2 m) = 2 ^ f.mbits := by
    rw [← Nat.pow_add]; congr 1; omega
  have hp' : 2 ^ (Nat.log2 m + 1) * 2 ^ (f.mbits - Nat.log2 m) = 2 ^ (f.mbits + 1) := by
    rw [← Nat.pow_add]; congr 1; omega
  have b1 : 2 ^ f.mbits ≤ m * 2 ^ (f.mbits - Nat.log2 m) := by
    rw [← hp]; exact Nat.mul_le_mul_right _ hL1
  have b2 : m * 2 ^ (f.mbits - Nat.log2 m) < 2 ^ (f.mbits + 1) := by
    rw [← hp']; exact Nat.mul_lt_mul_of_pos_right hL2 (Nat.two_pow_pos _)
  rw [roundPos_eq f n m e hm, hM, hE, if_neg (by omega)]
  unfold rpPack
  rw [if_neg (by omega), if_neg (by omega)]
  have hx : ((e + (Nat.log2 m : Int) - f.mbits + f.bias + f.mbits).toNat : Int) = e + Nat.log2 m + f.bias := by
    unfold emin at he1; omega
  have := decode_pack f n (e + (Nat.log2 m : Int) - f.mbits + f.bias + f.mbits).toNat _
    (by unfold emin at he1; omega) (by omega) b1 b2
  rw [this, hx]
  congr 1; omega

theorem sgnm_mul (n : Bool) (m k : Nat) : sgnm n (m * k) = sgnm n m * k := by
  cases n <;> simp [sgnm, Int.natCast_mul, Int.neg_mul]

/-- two dyadics with `m' = m·2^(e-e')`, `e' ≤ e` have the same exact value -/
theorem DyLe_of_scaled (n : Bool) (m m' : Nat) (e e' : Int) (he : e' ≤ e) (hm : m' = m * 2 ^ (e - e').toNat) :
    DyLe (sgnm n m) e (sgnm n m') e' ∧ DyLe (sgnm n m') e' (sgnm n m) e := by
  subst hm
  have h1 : min e e' = e' := by omega
  have h2 : min e' e = e' := by omega
  unfold DyLe sv
  rw [h1, h2, sgnm_mul]
  simp [Int.natCast_pow]
end SF

namespace Conv
open SF JD
/-- binary32 → binary64 preserves the exact value of every finite datum (and the sign of zero) -/
theorem cvt_32_64_exact (b : Nat) (n : Bool) (m : Nat) (e : Int) (h : decode b32 b = .fin n m e) :
    ∃ m' e', decode b64 (cvt b32 b64 b) = .fin n m' e' ∧ e' ≤ e ∧ m' = m * 2 ^ (e - e').toNat := by
  have hb := decode_fin_bounds b32 b n m e h
  have hu := decode_fin_exp_lt b32 b n m e h (by decide)
  have hemin : emin b32 = -149 := by decide
  have hbias : (b32.bias : Int) = 127 := by decide
  have hemax : (b32.emax : Int) = 255 := by decide
  have hmb : b32.mbits = 23 := rfl
  rw [hemin] at hb
  rw [hbias, hemax, hmb] at hu
  unfold cvt
  rw [h]
  simp only
  by_cases hm : m = 0
  · subst hm
    refine ⟨0, -1074, ?_, by omega, by simp⟩
    have hr : ∀ e : Int, roundPos b64 n 0 e = if n then b64.signBit else 0 := by intro e; simp [roundPos]
    rw [hr]; cases n <;> decide +kernel
  · have hL : Nat.log2 m < 24 := (Nat.log2_lt hm).2 (by simpa [hmb] using hb.2)
    have := roundPos_exact b64 n m e hm (by show Nat.log2 m ≤ 52; omega)
      (by show emin b64 ≤ e + (Nat.log2 m : Int) - (52 : Nat); have : emin b64 = -1074 := by decide
          omega)
      (by show e + (Nat.log2 m : Int) + (1023 : Nat) < (2047 : Nat); omega)
    refine ⟨_, _, this, by show e + (Nat.log2 m : Int) - (52 : Nat) ≤ e; omega, ?_⟩
    congr 2
    show 52 - Nat.log2 m = (e - (e + (Nat.log2 m : Int) - (52 : Nat))).toNat
    omega
end Conv

/-! ## `roundPos` rounds to nearest -/
namespace SF

/-- no datum lies strictly between two neighbours `q·2^t`, `(q+1)·2^t` of the grid of the binade of `q` (or of the subnormal grid) -/
theorem gap_lemma (P q t j mx : Nat) (h : 2 ^ P ≤ q ∨ t ≤ j) (hmx : mx < 2 ^ (P + 1)) :
    ¬ (q * 2 ^ t < mx * 2 ^ j ∧ mx * 2 ^ j < (q + 1) * 2 ^ t) := by
  rintro ⟨h1, h2⟩
  by_cases htj : t ≤ j
  · obtain ⟨d, rfl⟩ : ∃ d, j = d + t := ⟨j - t, by omega⟩
    rw [Nat.pow_add, ← Nat.mul_assoc] at h1 h2
    have a1 := Nat.lt_of_mul_lt_mul_right h1
    have a2 := Nat.lt_of_mul_lt_mul_right h2
    omega
  · have hq : 2 ^ P ≤ q := by rcases h with h | h; exact h; omega
    obtain ⟨d, rfl⟩ : ∃ d, t = j + 1 + d := ⟨t - (j + 1), by omega⟩
    have b1 : mx * 2 ^ j < 2 ^ (P + 1) * 2 ^ j := Nat.mul_lt_mul_of_pos_right hmx (Nat.two_pow_pos _)
    have b2 : 2 ^ (P + 1) * 2 ^ j = 2 ^ P * 2 ^ (j + 1) := by
      rw [Nat.pow_succ, Nat.pow_succ, Nat.mul_assoc, Nat.mul_comm 2]
    have b3 : 2 ^ P * 2 ^ (j + 1) ≤ q * 2 ^ (j + 1 + d) :=
      Nat.mul_le_mul hq (Nat.pow_le_pow_right (by decide) (by omega))
    omega

theorem rneShift_cases (m k : Nat) (hk : 0 < k) :
    (m % 2 ^ k ≤ 2 ^ (k - 1) ∧ rneShift m k = m / 2 ^ k) ∨ (m % 2 ^ k ≥ 2 ^ (k - 1) ∧ rneShift m k = m / 2 ^ k + 1) := by
  unfold rneShift
  rw [if_neg (by omega)]
  simp only
  split
  · right; omega
  · split
    · left; omega
    · split
      · right; omega
      · left; omega

theorem nearest_core (m k W X : Nat) (hk : 0 < k) (hW : 0 < W)
    (hgap : ¬ (m / 2 ^ k * (2 ^ k * W) < X ∧ X < (m / 2 ^ k + 1) * (2 ^ k * W))) :
    (((rneShift m k * (2 ^ k * W) : Nat) : Int) - ((m * W : Nat) : Int)).natAbs ≤ ((X : Int) - ((m * W : Nat) : Int)).natAbs := by
  have hdm := Nat.div_add_mod m (2 ^ k)
  have hr := Nat.mod_lt m (Nat.two_pow_pos k)
  have hK : 2 ^ k = 2 * 2 ^ (k - 1) := by
    obtain ⟨d, rfl⟩ : ∃ d, k = d + 1 := ⟨k - 1, by omega⟩
    rw [Nat.pow_succ, Nat.mul_comm]; rfl
  have hc := rneShift_cases m k hk
  generalize rneShift m k = R at *
  generalize m / 2 ^ k = q at *
  generalize m % 2 ^ k = r at *
  generalize 2 ^ (k - 1) = h at *
  have hm : m * W = q * (2 ^ k * W) + r * W := by rw [← hdm]; grind
  have hT : 2 ^ k * W = 2 * (h * W) := by rw [hK]; grind
  have hq1 : (q + 1) * (2 ^ k * W) = q * (2 ^ k * W) + 2 ^ k * W := by grind
  have hu : r * W < 2 ^ k * W := Nat.mul_lt_mul_of_pos_right hr hW
  rw [hm]
  rcases hc with ⟨c, e⟩ | ⟨c, e⟩
  · rw [e]
    have : r * W ≤ h * W := Nat.mul_le_mul_right _ c
    rw [hq1] at hgap
    generalize q * (2 ^ k * W) = a at *
    generalize 2 ^ k * W = T at *
    generalize r * W = u at *
    generalize h * W = hw at *
    omega
  · rw [e]
    have : r * W ≥ h * W := Nat.mul_le_mul_right _ c
    rw [hq1] at hgap ⊢
    generalize q * (2 ^ k * W) = a at *
    generalize 2 ^ k * W = T at *
    generalize r * W = u at *
    generalize h * W = hw at *
    omega

/-- decoding a packed subnormal (or zero) -/
theorem decode_sub (f : Fmt) (n : Bool) (mr : Nat) (h : mr < 2 ^ f.mbits) (he : 0 < f.emax) :
    decode f ((if n then f.signBit else 0) + mr) = .fin n mr (emin f) := by
  have := decode_fields f n 0 mr (Nat.two_pow_pos _) h
  rw [Nat.zero_mul, Nat.add_zero] at this
  rw [this]
  exact ofFields_fin_iff.2 ⟨rfl, by omega, Or.inl ⟨rfl, rfl, rfl⟩⟩

theorem decode_inf (f : Fmt) (n : Bool) : decode f (infBits f n) = .inf n := by
  have := decode_fields f n f.emax 0 (by unfold Fmt.emax; have := Nat.two_pow_pos f.ebits; omega) (Nat.two_pow_pos _)
  rw [Nat.add_zero] at this
  unfold infBits
  rw [this]
  exact ofFields_inf_iff.2 ⟨rfl, rfl, rfl⟩

theorem rpExp_ge (f : Fmt) (m : Nat) (e : Int) : emin f ≤ rpExp f m e := by unfold rpExp; omega

/-- what `roundPos` returns, given the range of the rounded mantissa: ±inf, or a datum whose value is `mr·2^e1` -/
theorem rp_decode (f : Fmt) (n : Bool) (m : Nat) (e : Int) (hm : m ≠ 0) (hf : 0 < f.emax)
    (hlo : rpMant m e (rpExp f m e) < 2 ^ f.mbits → rpExp f m e = emin f)
    (hhi : rpMant m e (rpExp f m e) ≤ 2 ^ (f.mbits + 1)) :
    (decode f (roundPos f n m e) = .inf n ∧ (f.emax : Int) ≤ rpExp f m e + 1 + f.bias + f.mbits) ∨
    ∃ m'' e'', decode f (roundPos f n m e) = .fin n m'' e'' ∧ rpExp f m e ≤ e'' ∧
      m'' * 2 ^ (e'' - rpExp f m e).toNat = rpMant m e (rpExp f m e) := by
  have hge := rpExp_ge f m e
  rw [roundPos_eq f n m e hm]
  generalize rpMant m e (rpExp f m e) = mr at *
  generalize rpExp f m e = e1 at *
  have hpow : 2 ^ (f.mbits + 1) = 2 * 2 ^ f.mbits := by rw [Nat.pow_succ, Nat.mul_comm]
  have hpos := Nat.two_pow_pos f.mbits
  unfold emin at hge
  by_cases h1 : mr ≥ 2 ^ (f.mbits + 1)
  · rw [if_pos h1]
    have hmr : mr = 2 ^ (f.mbits + 1) := by omega
    have hhalf : mr / 2 = 2 ^ f.mbits := by omega
    rw [hhalf]
    unfold rpPack
    rw [if_neg (by omega)]
    by_cases h2 : e1 + 1 + f.bias + f.mbits ≥ f.emax
    · rw [if_pos h2]; exact Or.inl ⟨decode_inf f n, by omega⟩
    · rw [if_neg h2]
      right
      have := decode_pack f n (e1 + 1 + f.bias + f.mbits).toNat (2 ^ f.mbits) (by omega) (by omega) (by omega) (by omega)
      refine ⟨2 ^ f.mbits, _, this, by omega, ?_⟩
      have : ((((e1 + 1 + f.bias + f.mbits).toNat : Int) - f.bias - f.mbits) - e1).toNat = 1 := by omega
      rw [this]; omega
  · rw [if_neg h1]
    unfold rpPack
    by_cases h3 : mr < 2 ^ f.mbits
    · rw [if_pos h3]
      right
      refine ⟨mr, _, decode_sub f n mr h3 hf, by rw [hlo h3]; exact Int.le_refl _, ?_⟩
      rw [hlo h3]; simp
    · rw [if_neg h3]
      by_cases h2 : e1 + f.bias + f.mbits ≥ f.emax
      · rw [if_pos h2]; exact Or.inl ⟨decode_inf f n, by omega⟩
      · rw [if_neg h2]
        right
        have := decode_pack f n (e1 + f.bias + f.mbits).toNat mr (by omega) (by omega) (by omega) (by omega)
        refine ⟨mr, _, this, by omega, ?_⟩
        have : ((((e1 + f.bias + f.mbits).toNat : Int) - f.bias - f.mbits) - e1).toNat = 0 := by omega
        rw [this]; simp

theorem rp_case_exact (f : Fmt) (m : Nat) (e : Int) (hm : m ≠ 0) (h : rpExp f m e ≤ e) :
    rpMant m e (rpExp f m e) = m * 2 ^ (e - rpExp f m e).toNat ∧
    m * 2 ^ (e - rpExp f m e).toNat < 2 ^ (f.mbits + 1) ∧
    (m * 2 ^ (e - rpExp f m e).toNat < 2 ^ f.mbits → rpExp f m e = emin f) := by
  have hL1 := Nat.log2_self_le hm
  have hL2 := Nat.lt_log2_self (n := m)
  have hE : rpExp f m e = max (e + (Nat.log2 m : Int) - f.mbits) (emin f) := by unfold rpExp; push_cast; omega
  generalize rpExp f m e = e1 at *
  refine ⟨?_, ?_, ?_⟩
  · unfold rpMant
    by_cases hc : e1 ≥ e
    · rw [if_pos hc]
      have : (e1 - e).toNat = 0 := by omega
      have h2 : (e - e1).toNat = 0 := by omega
      rw [this, h2]; simp [rneShift]
    · rw [if_neg hc]
  · have hd : Nat.log2 m + 1 + (e - e1).toNat ≤ f.mbits + 1 := by omega
    calc m * 2 ^ (e - e1).toNat < 2 ^ (Nat.log2 m + 1) * 2 ^ (e - e1).toNat :=
          Nat.mul_lt_mul_of_pos_right hL2 (Nat.two_pow_pos _)
      _ = 2 ^ (Nat.log2 m + 1 + (e - e1).toNat) := (Nat.pow_add 2 (Nat.log2 m + 1) _).symm
      _ ≤ 2 ^ (f.mbits + 1) := Nat.pow_le_pow_right (by decide) hd
  · intro hlt
    apply Classical.byContradiction
    intro hne
    have hd : (e - e1).toNat + Nat.log2 m = f.mbits := by omega
    have : 2 ^ f.mbits ≤ m * 2 ^ (e - e1).toNat := by
      rw [← hd, Nat.pow_add, Nat.mul_comm]
      exact Nat.mul_le_mul_right _ hL1
    omega

theorem rp_case_round (f : Fmt) (m : Nat) (e : Int) (hm : m ≠ 0) (h : e < rpExp f m e) :
    rpMant m e (rpExp f m e) = rneShift m (rpExp f m e - e).toNat ∧ 0 < (rpExp f m e - e).toNat ∧
    m / 2 ^ (rpExp f m e - e).toNat < 2 ^ (f.mbits + 1) ∧
    (2 ^ f.mbits ≤ m / 2 ^ (rpExp f m e - e).toNat ∨ rpExp f m e = emin f) := by
  have hL1 := Nat.log2_self_le hm
  have hL2 := Nat.lt_log2_self (n := m)
  have hE : rpExp f m e = max (e + (Nat.log2 m : Int) - f.mbits) (emin f) := by unfold rpExp; push_cast; omega
  generalize rpExp f m e = e1 at *
  refine ⟨?_, by omega, ?_, ?_⟩
  · unfold rpMant; rw [if_pos (by omega)]
  · rw [Nat.div_lt_iff_lt_mul (Nat.two_pow_pos _), ← Nat.pow_add]
    exact Nat.lt_of_lt_of_le hL2 (Nat.pow_le_pow_right (by decide) (by omega))
  · by_cases hne : e1 = emin f
    · exact Or.inr hne
    · left
      rw [Nat.le_div_iff_mul_le (Nat.two_pow_pos _), ← Nat.pow_add]
      have : f.mbits + (e1 - e).toNat = Nat.log2 m := by omega
      rw [this]; exact hL1

/-- WHAT `roundPos` RETURNS for `m ≠ 0`, with `e1 = rpExp f m e` the exponent it rounds at: ±inf, or a datum whose value is
    `mr·2^e1` for the rounded mantissa `mr`; `mr` is `m` shifted left when `e1 ≤ e` (nothing is lost) and `rneShift m (e1 - e)`
    otherwise, where the quotient `m / 2^(e1 - e)` has a full mantissa unless `e1` is the subnormal exponent -/
theorem roundPos_spec (f : Fmt) (n : Bool) (m : Nat) (e : Int) (hm : m ≠ 0) (hf : 0 < f.emax) :
    ((decode f (roundPos f n m e) = .inf n ∧ (f.emax : Int) ≤ rpExp f m e + 1 + f.bias + f.mbits) ∨
      ∃ m'' e'', decode f (roundPos f n m e) = .fin n m'' e'' ∧ rpExp f m e ≤ e'' ∧
        m'' * 2 ^ (e'' - rpExp f m e).toNat = rpMant m e (rpExp f m e)) ∧
    (rpExp f m e ≤ e → rpMant m e (rpExp f m e) = m * 2 ^ (e - rpExp f m e).toNat) ∧
    (e < rpExp f m e → 0 < (rpExp f m e - e).toNat ∧ rpMant m e (rpExp f m e) = rneShift m (rpExp f m e - e).toNat ∧
      (2 ^ f.mbits ≤ m / 2 ^ (rpExp f m e - e).toNat ∨ rpExp f m e = emin f)) := by
  by_cases h : rpExp f m e ≤ e
  · obtain ⟨hM, hlt, hsub⟩ := rp_case_exact f m e hm h
    exact ⟨rp_decode f n m e hm hf (by rw [hM]; exact hsub) (by rw [hM]; omega), fun _ => hM, fun h' => absurd h (by omega)⟩
  · obtain ⟨hM, hk, hq, hgrid⟩ := rp_case_round f m e hm (by omega)
    have hcases := rneShift_cases m _ hk
    refine ⟨rp_decode f n m e hm hf ?_ ?_, fun h' => absurd h' h, fun _ => ⟨hk, hM, hgrid⟩⟩
    · rw [hM]; intro hlt
      rcases hgrid with hg | hg
      · rcases hcases with ⟨_, c⟩ | ⟨_, c⟩ <;> omega
      · exact hg
    · rw [hM]; rcases hcases with ⟨_, c⟩ | ⟨_, c⟩ <;> omega

theorem rpExp_eq (f : Fmt) (m : Nat) (e : Int) : rpExp f m e = max (e + (Nat.log2 m : Int) - f.mbits) (emin f) := by
  unfold rpExp; push_cast; omega

theorem sv_sgnm (E : Int) (n : Bool) (m : Nat) (e : Int) : sv E (sgnm n m) e = sgnm n (m * 2 ^ (e - E).toNat) := by
  unfold sv; rw [sgnm_mul]; simp [Int.natCast_pow]

theorem sign_dist (n nx : Bool) (R Z X : Nat)
    (h1 : ((R : Int) - Z).natAbs ≤ ((X : Int) - Z).natAbs) (h0 : ((R : Int) - Z).natAbs ≤ ((0 : Int) - Z).natAbs) :
    (sgnm n R - sgnm n Z).natAbs ≤ (sgnm nx X - sgnm n Z).natAbs := by
  cases n <;> cases nx <;> simp only [sgnm, if_true, if_false, Bool.false_eq_true] <;> omega

/-- `roundPos` rounds to nearest: unless it overflows to ±inf, the result is a finite datum of the same sign and no datum of the
    format is strictly closer to the exact input `(-1)^n·m·2^e` (distances measured exactly, scaled by `2^(-E0)`, `E0 = min e emin`) -/
theorem roundPos_nearest (f : Fmt) (n : Bool) (m : Nat) (e : Int) (hm : m ≠ 0) (hf : 0 < f.emax) :
    (decode f (roundPos f n m e) = .inf n ∧ (f.emax : Int) ≤ rpExp f m e + 1 + f.bias + f.mbits) ∨
    ∃ m'' e'', decode f (roundPos f n m e) = .fin n m'' e'' ∧
      ∀ x nx mx ex, decode f x = .fin nx mx ex →
        (sv (min e (emin f)) (sgnm n m'') e'' - sv (min e (emin f)) (sgnm n m) e).natAbs ≤
        (sv (min e (emin f)) (sgnm nx mx) ex - sv (min e (emin f)) (sgnm n m) e).natAbs := by
  have hge := rpExp_ge f m e
  obtain ⟨hres, hexact, hround⟩ := roundPos_spec f n m e hm hf
  rcases hres with hinf | ⟨m'', e'', hd, hle, hval⟩
  · exact Or.inl hinf
  right
  refine ⟨m'', e'', hd, ?_⟩
  intro x nx mx ex hx
  have hE0e : min e (emin f) ≤ e := Int.min_le_left _ _
  have hE0m : min e (emin f) ≤ emin f := Int.min_le_right _ _
  generalize min e (emin f) = E0 at hE0e hE0m ⊢
  by_cases h : rpExp f m e ≤ e
  · rw [hexact h] at hval
    generalize rpExp f m e = e1 at *
    have : sv E0 (sgnm n m'') e'' = sv E0 (sgnm n m) e := by
      rw [sv_sgnm, sv_sgnm]
      congr 1
      rw [toNat_sub_add e'' e1 E0 (Int.le_trans hE0m hge) hle, toNat_sub_add e e1 E0 (Int.le_trans hE0m hge) h,
        Nat.pow_add, Nat.pow_add, ← Nat.mul_assoc, ← Nat.mul_assoc, hval]
    rw [this, Int.sub_self]
    exact Nat.zero_le _
  · have hlt : e < rpExp f m e := Int.not_le.1 h
    obtain ⟨hk, hM, hgrid⟩ := hround hlt
    have hbx := decode_fin_bounds f x nx mx ex hx
    rw [hM] at hval
    generalize rpExp f m e = e1 at *
    rw [sv_sgnm, sv_sgnm, sv_sgnm]
    -- the three scaled magnitudes, on the grid `2^(e1 - E0) = 2^(e1 - e)·2^(e - E0)`
    have a3 : (e1 - E0).toNat = (e1 - e).toNat + (e - E0).toNat := toNat_sub_add e1 e E0 hE0e (Int.le_of_lt hlt)
    have hR : m'' * 2 ^ (e'' - E0).toNat = rneShift m (e1 - e).toNat * (2 ^ (e1 - e).toNat * 2 ^ (e - E0).toNat) := by
      rw [toNat_sub_add e'' e1 E0 (Int.le_trans hE0m hge) hle, Nat.pow_add, ← Nat.mul_assoc, hval, a3, Nat.pow_add]
    rw [hR]
    have core : ∀ mx' j, mx' < 2 ^ (f.mbits + 1) → (e1 = emin f → (e1 - e).toNat + (e - E0).toNat ≤ j) →
        (((rneShift m (e1 - e).toNat * (2 ^ (e1 - e).toNat * 2 ^ (e - E0).toNat) : Nat) : Int) -
            ((m * 2 ^ (e - E0).toNat : Nat) : Int)).natAbs ≤
          (((mx' * 2 ^ j : Nat) : Int) - ((m * 2 ^ (e - E0).toNat : Nat) : Int)).natAbs := by
      intro mx' j hmx' hj
      apply nearest_core m _ _ _ hk (Nat.two_pow_pos _)
      rw [← Nat.pow_add]
      apply gap_lemma f.mbits _ _ j mx' _ hmx'
      rcases hgrid with hg | hg
      · exact Or.inl hg
      · exact Or.inr (hj hg)
    apply sign_dist
    · refine core mx _ hbx.2 ?_
      intro hg
      rw [← a3, hg]
      exact toNat_sub_mono _ _ E0 hbx.1
    · have := core 0 ((e1 - e).toNat + (e - E0).toNat) (Nat.two_pow_pos _) (fun _ => Nat.le_refl _)
      rw [Nat.zero_mul] at this
      exact this
end SF

namespace Conv
open SF JD

theorem sgnm_natAbs (z : Int) : sgnm (decide (z < 0)) z.natAbs = z := by
  unfold sgnm
  by_cases h : z < 0 <;> simp [h] <;> omega

/-- `static_cast<float/double>(integer)` for |z| < 2^64: a finite datum of the sign of `z`, and no datum of the format is closer to `z` -/
theorem ofInt_nearest (f : Fmt) (hf : f = b32 ∨ f = b64) (z : Int) (hz : z.natAbs < 2 ^ 64) :
    ∃ m e, decode f (ofInt f z) = .fin (decide (z < 0)) m e ∧
      ∀ x nx mx ex, decode f x = .fin nx mx ex →
        (sv (emin f) (sgnm (decide (z < 0)) m) e - z * 2 ^ (-emin f).toNat).natAbs ≤
        (sv (emin f) (sgnm nx mx) ex - z * 2 ^ (-emin f).toNat).natAbs := by
  have h0 : emin f ≤ 0 ∧ 0 < f.emax ∧ (63 : Int) + 1 + f.bias + f.mbits < f.emax := by
    rcases hf with rfl | rfl <;> decide
  have hmin : min 0 (emin f) = emin f := by omega
  have hZ : sv (emin f) (sgnm (decide (z < 0)) z.natAbs) 0 = z * 2 ^ (-emin f).toNat := by
    rw [sgnm_natAbs, sv_int]
  unfold ofInt
  by_cases hm : z.natAbs = 0
  · have hz0 : z = 0 := by omega
    subst hz0
    have : roundPos f (decide ((0 : Int) < 0)) (0 : Int).natAbs 0 = 0 := by simp [roundPos]
    rw [this]
    refine ⟨0, emin f, ?_, ?_⟩
    · have := decode_sub f false 0 (Nat.two_pow_pos _) h0.2.1
      simpa using this
    · intro x nx mx ex _
      simp [sv, sgnm]
  · rcases roundPos_nearest f (decide (z < 0)) z.natAbs 0 hm h0.2.1 with ⟨_, hov⟩ | ⟨m'', e'', hd, H⟩
    · exfalso
      have hL : Nat.log2 z.natAbs < 64 := (Nat.log2_lt hm).2 hz
      have : rpExp f z.natAbs 0 ≤ 63 := by unfold rpExp; push_cast; omega
      omega
    · refine ⟨m'', e'', hd, ?_⟩
      intro x nx mx ex hx
      have := H x nx mx ex hx
      rw [hmin, hZ] at this
      exact this
end Conv

namespace SF
/-- `truncVal` is the integer part: `(-1)^n·q` with `q = ⌊m·2^e⌋`, i.e. `q ≤ m·2^e < q+1` (cross-multiplied) -/
theorem truncVal_spec (n : Bool) (m : Nat) (e : Int) :
    ∃ q : Nat, truncVal n m e = sgnm n q ∧
      q * 2 ^ (-e).toNat ≤ m * 2 ^ e.toNat ∧ m * 2 ^ e.toNat < (q + 1) * 2 ^ (-e).toNat := by
  by_cases he : e ≥ 0
  · refine ⟨m * 2 ^ e.toNat, ?_, ?_, ?_⟩
    · unfold truncVal sgnm; simp only [he, if_true]
    · have : (-e).toNat = 0 := by omega
      rw [this]; simp
    · have : (-e).toNat = 0 := by omega
      rw [this]; simp
  · refine ⟨m / 2 ^ (-e).toNat, ?_, ?_, ?_⟩
    · unfold truncVal sgnm; simp only [he, if_false]
    · have : e.toNat = 0 := by omega
      rw [this, Nat.pow_zero, Nat.mul_one]
      exact Nat.div_mul_le_self _ _
    · have : e.toNat = 0 := by omega
      rw [this, Nat.pow_zero, Nat.mul_one]
      have := Nat.div_add_mod m (2 ^ (-e).toNat)
      have := Nat.mod_lt m (Nat.two_pow_pos (-e).toNat)
      rw [Nat.add_mul, Nat.one_mul, Nat.mul_comm]
      omega

/-- ties go to the even mantissa -/
theorem rneShift_tie_even (m k : Nat) (hk : 0 < k) (h : m % 2 ^ k = 2 ^ (k - 1)) : rneShift m k % 2 = 0 := by
  unfold rneShift
  rw [if_neg (by omega)]
  simp only [h, Nat.lt_irrefl, if_false, gt_iff_lt]
  split <;> omega
end SF

namespace Conv
open SF JD
/-- a stored number as the library can hold it -/
def NumOK : Num → Prop
  | .uint n => n < 2 ^ 64
  | .sint v => -(2 ^ 63 : Int) ≤ v ∧ v < 2 ^ 63
  | .f32 b => b < 2 ^ 32
  | .f64 b => b < 2 ^ 64

theorem srcOfNum_wf (n : Num) (h : NumOK n) : (srcOfNum n).WF := by
  cases n with
  | uint n =>
    simp only [srcOfNum]
    by_cases hc : n < 2 ^ 32
    · rw [if_pos hc]; exact ⟨Or.inl rfl, hc⟩
    · rw [if_neg hc]; exact ⟨Or.inr rfl, h⟩
  | sint v =>
    simp only [srcOfNum]
    by_cases hc : -(2 ^ 31 : Int) ≤ v ∧ v < 2 ^ 31
    · rw [if_pos hc]; exact ⟨Or.inl rfl, by simpa using hc.1, by simpa using hc.2⟩
    · rw [if_neg hc]; exact ⟨Or.inr rfl, by simpa using h.1, by simpa using h.2⟩
  | f32 b => exact h
  | f64 b => exact h
end Conv

/-! ## the integer-only comparisons agree with the order of the rationals -/
namespace SF
theorem rat_val_eq (s e E : Int) (h : E ≤ e) : (s : Rat) * (2 : Rat) ^ e = ((sv E s e : Int) : Rat) * (2 : Rat) ^ E := by
  unfold sv
  have he : e = (((e - E).toNat : Nat) : Int) + E := by omega
  rw [Rat.intCast_mul, Rat.intCast_pow, Rat.mul_assoc]
  congr 1
  conv => lhs; rw [he]
  rw [Rat.zpow_add (by decide), Rat.zpow_natCast]
  rfl

theorem rat_mul_le_mul_right {a b c : Rat} (hc : 0 < c) : a * c ≤ b * c ↔ a ≤ b := by
  rw [← Rat.not_lt, ← Rat.not_lt, Rat.mul_lt_mul_right hc]

/-- `DyLe` is the order of the rationals `s·2^e` -/
theorem DyLe_iff_rat (s1 e1 s2 e2 : Int) : DyLe s1 e1 s2 e2 ↔ (s1 : Rat) * (2 : Rat) ^ e1 ≤ (s2 : Rat) * (2 : Rat) ^ e2 := by
  rw [rat_val_eq s1 e1 (min e1 e2) (by omega), rat_val_eq s2 e2 (min e1 e2) (by omega),
    rat_mul_le_mul_right (Rat.zpow_pos (by decide)), Rat.intCast_le_intCast]
  exact Iff.rfl
theorem DyLt_iff_rat (s1 e1 s2 e2 : Int) : DyLt s1 e1 s2 e2 ↔ (s1 : Rat) * (2 : Rat) ^ e1 < (s2 : Rat) * (2 : Rat) ^ e2 := by
  rw [rat_val_eq s1 e1 (min e1 e2) (by omega), rat_val_eq s2 e2 (min e1 e2) (by omega),
    Rat.mul_lt_mul_right (Rat.zpow_pos (by decide)), Rat.intCast_lt_intCast]
  exact Iff.rfl
end SF
