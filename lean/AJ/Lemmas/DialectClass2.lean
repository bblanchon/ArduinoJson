/- Classification of refused inputs (IncompleteInput / InvalidInput): glue between the general input `t`, its text
   (`text t`: up to the first NUL) and the NUL-terminated input `t ++ [0]` on which AJ/Lemmas/ClassRun2.lean works. -/
import AJ.Lemmas.ClassRun2
import AJ.Lemmas.DialectClass
set_option linter.unusedSimpArgs false
set_option linter.unusedVariables false
namespace JD
open Spec.Dialect

theorem text_nz (t : List Byte) : ∀ c ∈ text t, c ≠ 0 := by
  intro c hc
  have h := List.all_takeWhile (p := (· != 0)) (l := t)
  rw [List.all_eq_true] at h
  simpa using h c hc

theorem text_length_le (t : List Byte) : (text t).length ≤ t.length := by
  obtain ⟨r', ht, _⟩ := text_split t
  have := congrArg List.length ht
  simp at this; omega

theorem text_of_nz {p : List Byte} (h : ∀ c ∈ p, c ≠ 0) : text p = p := by
  have := text_of_prefix (w := p) (r' := []) h rfl
  simpa using this

theorem text_append_nul (t : List Byte) : text (t ++ [0]) = text t := by
  obtain ⟨r', ht, hr'⟩ := text_split t
  have h1 : t ++ [0] = text t ++ (r' ++ [0]) := by rw [← List.append_assoc, ← ht]
  rw [h1]
  apply text_of_prefix (text_nz t)
  cases r' with
  | nil => rfl
  | cons a r => exact hr'

/-- `t ++ [0]` is `text t`, a NUL, and more -/
theorem nul_split (t : List Byte) : ∃ x, t ++ [0] = text t ++ 0 :: x := by
  obtain ⟨r', ht, hr'⟩ := text_split t
  cases r' with
  | nil => exact ⟨[], by rw [List.append_nil] at ht; rw [← ht]⟩
  | cons a r =>
    have : a = 0 := hr'
    subst this
    exact ⟨r ++ [0], by rw [show text t ++ 0 :: (r ++ [0]) = (text t ++ 0 :: r) ++ [0] by simp, ← ht]⟩

theorem nulAt_of_split {e x : List Byte} (he : ∀ c ∈ e, c ≠ 0) : NulAt (e ++ 0 :: x) e.length := by
  refine ⟨by simp, by simp, ?_⟩
  intro i c hi hc
  rw [List.getElem?_append_left hi] at hc
  exact he c (List.mem_of_getElem? hc)

theorem nulAt_append (t : List Byte) : NulAt (t ++ [0]) (text t).length := by
  obtain ⟨x, hx⟩ := nul_split t
  rw [hx]
  exact nulAt_of_split (text_nz t)

/-- the text ends with a number byte, or (comments enabled) with `/`: an `InvalidInput` there may be a number token
    or a comment opener cut short by the end of the input -/
def Dangling (cfg : Cfg) (e : List Byte) : Prop :=
  ∃ c, e.getLast? = some c ∧ (inNumber cfg c = true ∨ (cfg.comments = true ∧ c = 0x2F))

/-- `Dangling` as a computation -/
def danglingB (cfg : Cfg) (e : List Byte) : Bool :=
  match e.getLast? with
  | some c => inNumber cfg c || (cfg.comments && c == 0x2F)
  | none => false

theorem dangling_iff (cfg : Cfg) (e : List Byte) : Dangling cfg e ↔ danglingB cfg e = true := by
  unfold Dangling danglingB
  cases h : e.getLast? with
  | none => simp
  | some c =>
    simp only [Option.some.injEq, exists_eq_left', Bool.or_eq_true, Bool.and_eq_true, beq_iff_eq]

instance (cfg : Cfg) (e : List Byte) : Decidable (Dangling cfg e) := decidable_of_iff _ (dangling_iff cfg e).symm

theorem dangling_of_dang {cfg : Cfg} {e x : List Byte} (h : Dang cfg (e ++ 0 :: x) e.length) : Dangling cfg e := by
  obtain ⟨h1, c, h2, h3⟩ := h
  refine ⟨c, ?_, h3⟩
  rw [List.getElem?_append_left (by omega)] at h2
  rw [List.getLast?_eq_getElem?]
  exact h2

end JD
