/- Parser positions over the one-character latch, and the lexer routines that need no grammar: keywords, the number
   scanner, `parseNumeric`.

   `At s u p f`   : `s` is unloaded, `u` is still unread, `p` bytes were taken (`Latch.lean`).
   `Seen s u p f` : `s` is what `current()` makes of such a state: the first byte of `u` (or the end marker) is latched.
   `Pos s u p f`  : `s` behaves like such a state under `current()`; covers both. Every routine of the parser starts
                    with `current()`, hence cannot distinguish the two. -/
import AJ.Lemmas.Latch
set_option linter.unusedSimpArgs false
namespace JD

def Seen (s : St) (u : List Byte) (p : Nat) (f : Bool) : Prop := ∃ s0, At s0 u p f ∧ s = (cur s0).2
def Pos (s : St) (u : List Byte) (p : Nat) (f : Bool) : Prop := ∃ s0, At s0 u p f ∧ cur s = cur s0

theorem At.pos {s u p f} (h : At s u p f) : Pos s u p f := ⟨s, h, rfl⟩
theorem Seen.pos {s u p f} (h : Seen s u p f) : Pos s u p f := by
  obtain ⟨s0, h0, rfl⟩ := h
  exact ⟨s0, h0, cur_cur s0⟩

theorem Seen.cur_cons {X c r p f} (h : Seen X (c :: r) p f) : cur X = (c, X) := by
  obtain ⟨s0, h0, rfl⟩ := h
  rw [h0.cur]; exact cur_ld s0 c r

theorem Seen.cur_nil {X p f} (h : Seen X [] p f) : cur X = (0, X) := by
  obtain ⟨s0, h0, rfl⟩ := h
  rw [JD.cur_nil h0.1 h0.2.1]; exact cur_loaded rfl

theorem Seen.mv {X c r p f} (h : Seen X (c :: r) p f) : At (mv X) r (p + 1) f := by
  obtain ⟨s0, h0, rfl⟩ := h
  rw [h0.cur]; exact h0.adv

theorem Seen.fields_cons {X c r p f} (h : Seen X (c :: r) p f) : X.l.pos = p + 1 ∧ X.l.cur = c := by
  obtain ⟨s0, h0, rfl⟩ := h
  rw [h0.cur]; exact ⟨by simp [h0.2.2.1], rfl⟩

theorem Seen.fields_nil {X p f} (h : Seen X [] p f) : X.l.pos = p ∧ X.l.cur = 0 := by
  obtain ⟨s0, h0, rfl⟩ := h
  rw [JD.cur_nil h0.1 h0.2.1]; exact ⟨h0.2.2.1, rfl⟩

/-- the latch of a state that has looked ahead: the next byte (0 at the end) is held, the bytes after it unread -/
theorem Seen.fields {X u p f} (h : Seen X u p f) :
    X.l.loaded = true ∧ X.l.cur = u.headD 0 ∧ X.l.unread = u.tail ∧ X.l.pos = p + min 1 u.length ∧ X.found = f := by
  obtain ⟨s0, h0, rfl⟩ := h
  cases u with
  | nil => rw [JD.cur_nil h0.1 h0.2.1]; exact ⟨rfl, rfl, h0.2.1, h0.2.2.1, h0.2.2.2⟩
  | cons c r =>
    rw [h0.cur]
    refine ⟨rfl, rfl, rfl, ?_, h0.2.2.2⟩
    simp [h0.2.2.1]

theorem Seen.setFound {X u p f} (h : Seen X u p f) : Seen (setFound X) u p true := by
  obtain ⟨s0, h0, rfl⟩ := h
  exact ⟨JD.setFound s0, ⟨h0.1, h0.2.1, h0.2.2.1, rfl⟩, rfl⟩

theorem Pos.cur_cons {s c r p f} (h : Pos s (c :: r) p f) : ∃ X, cur s = (c, X) ∧ Seen X (c :: r) p f := by
  obtain ⟨s0, h0, he⟩ := h
  exact ⟨(cur s0).2, by rw [he, h0.cur], s0, h0, rfl⟩

theorem Pos.cur_nil {s p f} (h : Pos s [] p f) : ∃ X, cur s = (0, X) ∧ Seen X [] p f := by
  obtain ⟨s0, h0, he⟩ := h
  exact ⟨(cur s0).2, by rw [he, JD.cur_nil h0.1 h0.2.1], s0, h0, rfl⟩

theorem Seen.found {X u p f} (h : Seen X u p f) : X.found = f := by
  obtain ⟨s0, h0, rfl⟩ := h
  exact h0.2.2.2

/-! ## Tokens -/

/-- a byte that starts a token: not the end marker, not white space, not the comment introducer -/
def Tok (c : Byte) : Prop := c ≠ 0 ∧ isWs c = false ∧ c ≠ 0x2F
instance (c : Byte) : Decidable (Tok c) := by unfold Tok; infer_instance

theorem ws_byte {c : Byte} (h : c = 0x20 ∨ c = 0x09 ∨ c = 0x0A ∨ c = 0x0D) : c ≠ 0 ∧ isWs c = true := by
  rcases h with rfl | rfl | rfl | rfl <;> exact ⟨by decide, by decide⟩

theorem setFound_eq {X : St} (h : X.found = true) : setFound X = X := by
  cases X; simp only [setFound] at *; simp [h]

/-- on a latched token `skipSpaces` does nothing -/
theorem skipSpaces_seen (cfg : Cfg) {X : St} {c : Byte} {r : List Byte} {p : Nat} (hc : Tok c)
    (h : Seen X (c :: r) p true) (n : Nat) : skipSpaces cfg (n + 1) X = (.ok, X) := by
  have e0 : (c == 0) = false := by simpa using hc.1
  have e1 : (c == 0x2F) = false := by simpa using hc.2.2
  simp only [skipSpaces, h.cur_cons, e0, hc.2.1, e1, Bool.and_false, Bool.false_eq_true, ↓reduceIte]
  exact congrArg (Prod.mk Code.ok) (setFound_eq h.found)

/-! ## Keywords -/

theorem kw_null : "null".toUTF8.toList = [0x6E, 0x75, 0x6C, 0x6C] := by decide +kernel
theorem kw_true : "true".toUTF8.toList = [0x74, 0x72, 0x75, 0x65] := by decide +kernel
theorem kw_false : "false".toUTF8.toList = [0x66, 0x61, 0x6C, 0x73, 0x65] := by decide +kernel

theorem skipKeyword_ok (ks : List Byte) (hk : ∀ k ∈ ks, k ≠ 0) :
    ∀ (s : St) (r : List Byte) (p : Nat) (f : Bool), Pos s (ks ++ r) p f → ks ≠ [] →
      ∃ s', skipKeyword ks s = (.ok, s') ∧ At s' r (p + ks.length) f := by
  induction ks with
  | nil => intro s r p f _ h; exact absurd rfl h
  | cons k ks ih =>
    intro s r p f h _
    obtain ⟨X, hX, hS⟩ := Pos.cur_cons (by simpa using h)
    have e0 : (k == 0) = false := by simpa using hk k (List.mem_cons_self ..)
    have step : skipKeyword (k :: ks) s = skipKeyword ks (mv X) := by
      simp only [skipKeyword, hX, e0, bne_self_eq_false, Bool.false_eq_true, ↓reduceIte]
    cases ks with
    | nil =>
      refine ⟨mv X, by rw [step]; rfl, ?_⟩
      simpa using hS.mv
    | cons k2 ks2 =>
      obtain ⟨s', h1, h2⟩ := ih (fun x hx => hk x (List.mem_cons_of_mem _ hx)) (mv X) r (p + 1) f hS.mv.pos (by simp)
      refine ⟨s', by rw [step, h1], ?_⟩
      rw [← len_cons p k]; exact h2

/-! ## Numbers: the scanner reads exactly the literal -/

theorem inNumber_zero (cfg : Cfg) : inNumber cfg 0 = false := by
  unfold inNumber
  generalize (cfg.nan || cfg.inf) = b
  cases b <;> decide

/-! bytes that are not the terminator -/

theorem nz_of_beq {c d : Byte} (h : (c == d) = true) (hd : d ≠ 0) : c ≠ 0 := by
  intro h0; rw [h0] at h; have h' : (0 : Byte) = d := by simpa using h
  exact hd h'.symm
theorem nz_of_not {c : Byte} (h : ¬ (c == 0) = true) : c ≠ 0 := by
  intro h0; rw [h0] at h; exact h rfl

theorem nz_of_quote {c : Byte} (h : (c == 0x22 || c == 0x27) = true) : c ≠ 0 := by
  intro h0; rw [h0] at h; exact absurd h (by decide)
theorem nz_of_colon {c : Byte} (h : ¬ (c != 0x3A) = true) : c ≠ 0 := by
  intro h0; rw [h0] at h; exact h (by decide)
theorem nz_of_inUnquoted {c : Byte} (h : inUnquoted c = true) : c ≠ 0 := by
  intro h0; rw [h0] at h; exact absurd h (by decide)
theorem nz_of_inNumber {cfg : Cfg} {c : Byte} (h : inNumber cfg c = true) : c ≠ 0 := by
  intro h0; rw [h0, inNumber_zero] at h; cases h

/-- the bytes that may follow a number in a JSON text -/
theorem inNumber_delims (cfg : Cfg) :
    inNumber cfg 0x2C = false ∧ inNumber cfg 0x5D = false ∧ inNumber cfg 0x7D = false ∧
    inNumber cfg 0x20 = false ∧ inNumber cfg 0x09 = false ∧ inNumber cfg 0x0A = false ∧ inNumber cfg 0x0D = false := by
  unfold inNumber
  generalize (cfg.nan || cfg.inf) = b
  cases b <;> decide

/-- what follows cannot continue a number (the end of the input qualifies) -/
def Delim (cfg : Cfg) (rest : List Byte) : Prop := ∀ c r, rest = c :: r → inNumber cfg c = false

theorem scanNumber_lit (cfg : Cfg) {rest : List Byte} (hd : Delim cfg rest) (lit : List Byte)
    (hl : ∀ c ∈ lit, inNumber cfg c = true) :
    ∀ (n : Nat) (acc : List Byte) (s : St) (p : Nat) (f : Bool), Pos s (lit ++ rest) p f → lit.length ≤ n →
      ∃ X, scanNumber cfg n acc s = (acc.reverse ++ lit, X) ∧ Seen X rest (p + lit.length) f := by
  induction lit with
  | nil =>
    intro n acc s p f h _
    have h' : Pos s rest p f := by simpa using h
    cases rest with
    | nil =>
      obtain ⟨X, hX, hS⟩ := Pos.cur_nil h'
      refine ⟨X, ?_, by simpa using hS⟩
      cases n with
      | zero => simp only [scanNumber, hX, List.append_nil]
      | succ m => simp only [scanNumber, hX, inNumber_zero, Bool.false_eq_true, ↓reduceIte, List.append_nil]
    | cons c r =>
      obtain ⟨X, hX, hS⟩ := Pos.cur_cons h'
      refine ⟨X, ?_, by simpa using hS⟩
      cases n with
      | zero => simp only [scanNumber, hX, List.append_nil]
      | succ m => simp only [scanNumber, hX, hd c r rfl, Bool.false_eq_true, ↓reduceIte, List.append_nil]
  | cons a lit ih =>
    intro n acc s p f h hn
    obtain ⟨m, rfl⟩ : ∃ m, n = m + 1 := ⟨n - 1, by simp at hn; omega⟩
    obtain ⟨X, hX, hS⟩ := Pos.cur_cons (by simpa using h)
    obtain ⟨Y, hY, hS'⟩ := ih (fun c hc => hl c (List.mem_cons_of_mem _ hc)) m (a :: acc) (mv X) (p + 1) f hS.mv.pos
      (by simp at hn; omega)
    refine ⟨Y, ?_, ?_⟩
    · simp only [scanNumber, hX, hl a (List.mem_cons_self ..), ↓reduceIte, hY]
      simp
    · rw [← len_cons p a]; exact hS'

/-- outcome of `parseNumeric` as a function of what `parseNumber` returns -/
def pnumResult : PNum → Code × Val
  | .uint n => (.ok, .num (.uint n))
  | .sint n => (.ok, .num (.sint n))
  | .f32 b => (.ok, .num (.f32 b))
  | .f64 b => (.ok, .num (storeDouble b))
  | .invalid => (.invalid, .null)
  | .fault => (.fuel, .null)

theorem parseNumeric_eq (cfg : Cfg) (s : St) :
    parseNumeric cfg s =
      ((pnumResult (parseNumber cfg (scanNumber cfg 63 [] s).1)).1,
       (pnumResult (parseNumber cfg (scanNumber cfg 63 [] s).1)).2, (scanNumber cfg 63 [] s).2) := by
  have e : Gen.number_buffer - 1 = 63 := rfl
  simp only [parseNumeric, e]
  generalize scanNumber cfg 63 [] s = q
  obtain ⟨buf, X⟩ := q
  simp only
  cases parseNumber cfg buf <;> rfl

/-! ## After a value -/

/-- state after a value: just behind it, or — after a number — with the following byte latched -/
def Post (s : St) (rest : List Byte) (p : Nat) (look : Bool) : Prop :=
  if look then Seen s rest p true else At s rest p true

theorem Post.pos {s rest p look} (h : Post s rest p look) : Pos s rest p true := by
  unfold Post at h
  split at h
  · exact h.pos
  · exact h.pos

/-- the accumulator of `parseMembers` after the members `ms` (text order) -/
def foldMembers (acc : List (List Byte × Val)) (ms : List (List Byte × Val)) : List (List Byte × Val) :=
  ms.foldl (fun a kv => setMember a kv.1 kv.2) acc

end JD
