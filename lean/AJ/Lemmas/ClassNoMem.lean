/- `NoMemory` is final, also when it answers an unquoted key that is too long.
   Two runs: one over `p ++ 0 :: x` (`p` free of NUL bytes), one over `p ++ y`. They walk in step (`Live`) until the first
   one takes the NUL. From then on the first run can only end with `IncompleteInput` / `EmptyInput` / `InvalidInput`,
   with one exception: the NUL ended an unquoted key that is longer than `maxStrLen`. In the second run the key is at
   least as long, both runs answer `NoMemory`, and the document is the same (`s_mutual`, `run_nomem_final`). -/
import AJ.Lemmas.DialectClass2
import AJ.Lemmas.ClassSim2
set_option linter.unusedSimpArgs false
set_option linter.unusedVariables false
namespace JD

/-- the first run has taken the NUL -/
def Dead (p x : List Byte) (s : St) : Prop := Lv (p ++ 0 :: x) p.length s ∧ p.length < s.l.pos

/-- results of a white-space routine: in step (and then an `Ok` state is latched on a byte of `p`), or the first run
    has failed for good with a code that is not `NoMemory` -/
def S2 (p x y : List Byte) (r1 r2 : Code × St) : Prop :=
  (r1.1 = r2.1 ∧ Live p (0 :: x) y r1.2 r2.2 ∧ (r1.1 = .ok → Tk (p ++ 0 :: x) p.length r1.2)) ∨
  (r1.1 ≠ .ok ∧ r1.1 ≠ .noMemory)

/-- results with a payload: in step; or the first run will never answer `NoMemory` (it has failed with another code, or
    it goes on with the NUL in the latch); or both have answered `NoMemory` (`pe`: what is known of the payloads then) -/
def SG (p x y : List Byte) {β : Type} (pe : β → β → Prop) (o1 o2 : Code × β × St) : Prop :=
  (o1.1 = o2.1 ∧ o1.2.1 = o2.2.1 ∧ Live p (0 :: x) y o1.2.2 o2.2.2 ∧ (o1.1 = .ok → Lv (p ++ 0 :: x) p.length o1.2.2)) ∨
  (o1.1 ≠ .noMemory ∧ (o1.1 = .ok → Dead p x o1.2.2)) ∨
  (o1.1 = .noMemory ∧ o2.1 = .noMemory ∧ pe o1.2.1 o2.2.1)

/-- values: the same document in both runs -/
abbrev S3 (p x y : List Byte) (o1 o2 : Code × Val × St) : Prop := SG p x y (fun a b => a = b) o1 o2
abbrev S3' (p x y : List Byte) (o1 o2 : Code × List Byte × St) : Prop := SG p x y (fun a b => a = b) o1 o2
/-- keys: nothing is said about the keys when both runs answer `NoMemory` -/
abbrev SK (p x y : List Byte) (o1 o2 : Code × List Byte × St) : Prop := SG p x y (fun _ _ => True) o1 o2

section
variable {cfg : Cfg} {p x y : List Byte} (hp : ∀ c ∈ p, c ≠ 0)

omit hp in
theorem SG.err {β : Type} {pe : β → β → Prop} {o1 o2 : Code × β × St}
    (hne : o1.1 ≠ .ok) (hnm : o1.1 ≠ .noMemory) : SG p x y pe o1 o2 :=
  Or.inr (Or.inl ⟨hnm, fun h => absurd h hne⟩)

omit hp in
theorem SG.same {β : Type} {pe : β → β → Prop} {c : Code} {v : β} {s1 s2 : St} (hne : c ≠ .ok)
    (hq : Live p (0 :: x) y s1 s2) : SG p x y pe (c, v, s1) (c, v, s2) :=
  Or.inl ⟨rfl, rfl, hq, fun h => absurd h hne⟩

omit hp in
theorem dead_latch {s : St} (h : Dead p x s) : s.l.loaded = true ∧ s.l.cur = 0 := by
  obtain ⟨⟨_, h2, h3⟩, hb⟩ := h
  cases hl : s.l.loaded with
  | false => have := h3 hl; omega
  | true =>
    obtain ⟨a, b, c⟩ := h2 hl
    have hpos : s.l.pos - 1 = p.length := by omega
    rw [hpos] at c
    simp at c
    exact ⟨rfl, c.symm⟩

omit hp in
/-- with the NUL in the latch, the white space routine answers `IncompleteInput` or `EmptyInput` -/
theorem dead_skipSpaces {f : Nat} {s : St} (h : Dead p x s) :
    (skipSpaces cfg (f+1) s).1 ≠ .ok ∧ (skipSpaces cfg (f+1) s).1 ≠ .noMemory := by
  obtain ⟨hl, hc⟩ := dead_latch h
  simp only [skipSpaces, cur_loaded hl, hc]
  rw [if_pos (show ((0 : Byte) == 0) = true from rfl)]
  cases s.found <;> exact ⟨Code.noConfusion, Code.noConfusion⟩

omit hp in
theorem live_T : Twin (Live p (0 :: x) y) (fun s => p.length < s.l.pos) := live_twin p (0 :: x) y (by simp)

include hp

theorem s2_of {r1 r2 : Code × St} (hR : R2 (Live p (0 :: x) y) (fun s => p.length < s.l.pos) r1 r2)
    (hF : Fin cfg (p ++ 0 :: x) p.length (Tk (p ++ 0 :: x) p.length) r1.1 r1.2) : S2 p x y r1 r2 := by
  have hN := nulAt_of_split (x := x) hp
  obtain ⟨c1, b1⟩ := r1
  rcases hR with ⟨e1, e2⟩ | hb
  · exact Or.inl ⟨e1, e2, fun h => by simp only at h; subst h; exact hF⟩
  · right
    simp only at hb hF ⊢
    cases c1
    case ok => have := Tk.pos_le hN hF; omega
    case noMemory => have := hF.1.2.2 hF.2; omega
    all_goals exact ⟨Code.noConfusion, Code.noConfusion⟩

omit hp in
theorem sg_of {β : Type} {pe : β → β → Prop} {o1 o2 : Code × β × St}
    (hR : R3 (Live p (0 :: x) y) (fun s => p.length < s.l.pos) o1 o2)
    (hF : Fin cfg (p ++ 0 :: x) p.length (Lv (p ++ 0 :: x) p.length) o1.1 o1.2.2) : SG p x y pe o1 o2 := by
  obtain ⟨c1, v1, b1⟩ := o1
  rcases hR with ⟨e1, e2, e3⟩ | hb
  · exact Or.inl ⟨e1, e2, e3, fun h => by simp only at h; subst h; exact hF⟩
  · right; left
    simp only at hb hF ⊢
    cases c1
    case ok => exact ⟨Code.noConfusion, fun _ => ⟨hF, hb⟩⟩
    case noMemory => have := hF.1.2.2 hF.2; omega
    all_goals exact ⟨Code.noConfusion, fun h => Code.noConfusion h⟩

theorem s_skipSpaces (fuel : Nat) {s1 s2 : St} (hq : Live p (0 :: x) y s1 s2) (hl : Lv (p ++ 0 :: x) p.length s1) :
    S2 p x y (skipSpaces cfg fuel s1) (skipSpaces cfg fuel s2) :=
  s2_of hp (tw_skipSpaces live_T fuel s1 s2 hq) (gh_skipSpaces (nulAt_of_split hp) fuel s1 hl)

/-- the key of the second run is at least as long as the key of the first run -/
theorem key_len : ∀ fuel acc (s1 s2 : St), Live p (0 :: x) y s1 s2 → Lv (p ++ 0 :: x) p.length s1 →
    (parseUnquoted fuel acc s1).1.length ≤ (parseUnquoted fuel acc s2).1.length := by
  have hN := nulAt_of_split (x := x) hp
  intro fuel
  induction fuel with
  | zero => intro acc s1 s2 hq hl; simp [parseUnquoted]
  | succ f ih =>
    intro acc s1 s2 hq hl
    rcases (live_T (p := p) (x := x) (y := y)).cur hq with ⟨hc, hq2⟩ | hb
    · simp only [parseUnquoted]
      rw [← hc]
      split
      · rename_i hu
        exact ih _ _ _ ((live_T (p := p) (x := x) (y := y)).mv hq2) (Lv.step hN hl (nz_of_inUnquoted hu))
      · simp
    · have hd : Dead p x (cur s1).2 := ⟨(Lv.look hN hl).1.1, hb⟩
      have hc0 : (cur s1).1 = 0 := by rw [← (Lv.look hN hl).2.1]; exact (dead_latch hd).2
      have h1 : (parseUnquoted (f+1) acc s1).1 = acc.reverse := by
        simp only [parseUnquoted, hc0]
        rw [if_neg (by decide)]
      rw [h1]
      have := parseUnquoted_len (f+1) acc s2
      simpa using this

/-! ## the pieces of the mutually recursive routines -/

omit hp in
/-- A piece that goes on with the white space behind a value or key, and hands a failure of that white space through:
    with the NUL in the latch it fails, and not with `NoMemory`. -/
theorem dead_ws {K : Code × St → Code × Val × St} {V : Val} (hK : ∀ c s, c ≠ .ok → K (c, s) = (c, V, s)) {f : Nat}
    {s : St} (h : Dead p x s) :
    (K (skipSpaces cfg (f+1) s)).1 ≠ .noMemory ∧
      ((K (skipSpaces cfg (f+1) s)).1 = .ok → Dead p x (K (skipSpaces cfg (f+1) s)).2.2) := by
  have d := dead_skipSpaces (cfg := cfg) (f := f) h
  rw [show skipSpaces cfg (f+1) s = ((skipSpaces cfg (f+1) s).1, (skipSpaces cfg (f+1) s).2) from rfl, hK _ _ d.1]
  exact ⟨d.2, fun h => absurd h d.1⟩

def SV (p x y : List Byte) (cfg : Cfg) (f : Nat) : Prop :=
  ∀ L s1 s2, Live p (0 :: x) y s1 s2 → Lv (p ++ 0 :: x) p.length s1 →
    S3 p x y (parseVariant cfg f L s1) (parseVariant cfg f L s2)
def SE (p x y : List Byte) (cfg : Cfg) (f : Nat) : Prop :=
  ∀ L s1 s2 acc, Live p (0 :: x) y s1 s2 → Lv (p ++ 0 :: x) p.length s1 →
    S3 p x y (parseElems cfg f L s1 acc) (parseElems cfg f L s2 acc)
def SM (p x y : List Byte) (cfg : Cfg) (f : Nat) : Prop :=
  ∀ L s1 s2 ms, Live p (0 :: x) y s1 s2 → Tk (p ++ 0 :: x) p.length s1 →
    S3 p x y (parseMembers cfg f L s1 ms) (parseMembers cfg f L s2 ms)

omit hp in
/-- A piece that goes on after `Ok` and hands any other code through: only two runs that are in step, latched on the
    same byte of `p`, have to be considered. -/
theorem S2.bind {K : Code × St → Code × Val × St} {V : Val} (hK : ∀ c s, c ≠ .ok → K (c, s) = (c, V, s))
    {r1 r2 : Code × St} (h : S2 p x y r1 r2)
    (hok : ∀ b1 b2, Live p (0 :: x) y b1 b2 → Tk (p ++ 0 :: x) p.length b1 → cur b1 = (b1.l.cur, b1) →
      cur b2 = (b1.l.cur, b2) → S3 p x y (K (.ok, b1)) (K (.ok, b2))) :
    S3 p x y (K r1) (K r2) := by
  obtain ⟨c1, b1⟩ := r1; obtain ⟨c2, b2⟩ := r2
  rcases h with ⟨e, hq, htk⟩ | ⟨hne, hnm⟩
  · simp only at e hq htk; subst e
    by_cases hc : c1 = .ok
    · subst hc
      have hl := (htk rfl).1.2
      exact hok _ _ hq (htk rfl) (cur_loaded hl) (hq.2.2.1 ▸ cur_loaded (hq.2.1 ▸ hl))
    · rw [hK _ _ hc, hK _ _ hc]; exact SG.same hc hq
  · simp only at hne hnm
    rw [hK _ _ hne]
    exact SG.err hne hnm

omit hp in
/-- A piece that goes on after `Ok` and hands any other code through, with a document `W v` made from the payload: two
    runs in step have to be considered (`hok`), and a first run that goes on with the NUL in the latch (`hdead`). -/
theorem SG.bind {β : Type} {pe : β → β → Prop} {K : Code × β × St → Code × Val × St} {W : β → Val}
    (hK : ∀ c v s, c ≠ .ok → K (c, v, s) = (c, W v, s)) (hW : ∀ v1 v2, pe v1 v2 → W v1 = W v2)
    {r1 r2 : Code × β × St} (h : SG p x y pe r1 r2)
    (hok : ∀ v b1 b2, Live p (0 :: x) y b1 b2 → Lv (p ++ 0 :: x) p.length b1 →
      S3 p x y (K (.ok, v, b1)) (K (.ok, v, b2)))
    (hdead : ∀ v s, Dead p x s →
      (K (.ok, v, s)).1 ≠ .noMemory ∧ ((K (.ok, v, s)).1 = .ok → Dead p x (K (.ok, v, s)).2.2)) :
    S3 p x y (K r1) (K r2) := by
  obtain ⟨c1, v1, b1⟩ := r1; obtain ⟨c2, v2, b2⟩ := r2
  rcases h with ⟨e1, e2, hq, hl⟩ | ⟨hnm, hd⟩ | ⟨e1, e2, e3⟩
  · simp only at e1 e2 hq hl; subst e1; subst e2
    by_cases hc : c1 = .ok
    · subst hc; exact hok _ _ _ hq (hl rfl)
    · rw [hK _ _ _ hc, hK _ _ _ hc]; exact SG.same hc hq
  · simp only at hnm hd
    by_cases hc : c1 = .ok
    · subst hc; exact Or.inr (Or.inl (hdead _ _ (hd rfl)))
    · rw [hK _ _ _ hc]; exact SG.err hc hnm
  · simp only at e1 e2 e3; subst e1; subst e2
    rw [hK _ _ _ Code.noConfusion, hK _ _ _ Code.noConfusion, hW _ _ e3]
    exact Or.inr (Or.inr ⟨rfl, rfl, rfl⟩)

theorem s_pvArr {f L' : Nat} (hE : SE p x y cfg f) (r1 r2 : Code × St) (h : S2 p x y r1 r2) :
    S3 p x y (pvArr cfg f L' r1) (pvArr cfg f L' r2) := by
  have hN := nulAt_of_split (x := x) hp
  refine S2.bind (pvArr_err cfg f L') h (fun b1 b2 hq htk' e1 e2 => ?_)
  simp only [pvArr, e1, e2]
  split
  · exact Or.inl ⟨rfl, rfl, live_T.mv hq, fun _ => Tk.move hN htk'⟩
  · exact hE _ _ _ _ hq htk'.1.1

theorem s_pvObj {f L' : Nat} (hM : SM p x y cfg f) (r1 r2 : Code × St) (h : S2 p x y r1 r2) :
    S3 p x y (pvObj cfg f L' r1) (pvObj cfg f L' r2) := by
  have hN := nulAt_of_split (x := x) hp
  refine S2.bind (pvObj_err cfg f L') h (fun b1 b2 hq htk' e1 e2 => ?_)
  simp only [pvObj, e1, e2]
  split
  · exact Or.inl ⟨rfl, rfl, live_T.mv hq, fun _ => Tk.move hN htk'⟩
  · exact hM _ _ _ _ hq htk'

omit hp in
theorem s_pvStr (r1 r2 : Code × List Byte × St) (h : S3' p x y r1 r2) : S3 p x y (pvStr r1) (pvStr r2) :=
  SG.bind (W := fun _ => .null) pvStr_err (fun _ _ _ => rfl) h
    (fun _ _ _ hq hl => Or.inl ⟨rfl, rfl, hq, fun _ => hl⟩) (fun _ _ hd => ⟨Code.noConfusion, fun _ => hd⟩)

theorem s_pvTok {f L : Nat} (hE : SE p x y cfg f) (hM : SM p x y cfg f) {s1 s2 : St}
    (hq : Live p (0 :: x) y s1 s2) (htk : Tk (p ++ 0 :: x) p.length s1) :
    S3 p x y (pvTok cfg f L s1) (pvTok cfg f L s2) := by
  have hN := nulAt_of_split (x := x) hp
  have hl2 : s2.l.loaded = true := by rw [← hq.2.1]; exact htk.1.2
  have hc1 := cur_loaded htk.1.2
  have hc2 := cur_loaded hl2
  have hc : (cur s1).1 = (cur s2).1 := by rw [hc1, hc2]; exact hq.2.2.1
  rcases tok_cases (cur s1).1 with c | c | c | c | c
  · cases L with
    | zero => rw [pvTok_arr0 c, pvTok_arr0 (hc ▸ c), hc1, hc2]; exact SG.same Code.noConfusion hq
    | succ L' =>
      rw [pvTok_arr c, pvTok_arr (hc ▸ c), hc1, hc2]
      exact s_pvArr hp hE _ _ (s_skipSpaces hp _ (live_T.mv hq) (Tk.move hN htk))
  · cases L with
    | zero => rw [pvTok_obj0 c, pvTok_obj0 (hc ▸ c), hc1, hc2]; exact SG.same Code.noConfusion hq
    | succ L' =>
      rw [pvTok_obj c, pvTok_obj (hc ▸ c), hc1, hc2]
      exact s_pvObj hp hM _ _ (s_skipSpaces hp _ (live_T.mv hq) (Tk.move hN htk))
  · rw [pvTok_str c, pvTok_str (hc ▸ c), ← hc, hc1, hc2]
    exact s_pvStr _ _ (sg_of (tw_parseQuoted live_T _ _ _ _ _ (live_T.mv hq))
      (gh_parseQuoted hN htk.2 _ _ _ _ (Tk.move hN htk)))
  · obtain ⟨ks, v, _, e⟩ := pvTok_kw c
    rw [e _ _ _ _ rfl, e _ _ _ _ hc.symm, hc1, hc2]
    exact sg_of (cfg := cfg) ((tw_skipKeyword live_T _ s1 s2 hq).imp (fun k => ⟨k.1, rfl, k.2⟩) id)
      (gh_skipKeyword hN _ s1 htk.1.1)
  · rw [pvTok_num c, pvTok_num (hc ▸ c), hc1, hc2]
    exact sg_of (tw_parseNumeric live_T _ _ hq) (gh_parseNumeric hN s1 htk)

theorem s_pvK {f L : Nat} (hE : SE p x y cfg f) (hM : SM p x y cfg f) (r1 r2 : Code × St) (h : S2 p x y r1 r2) :
    S3 p x y (pvK cfg f L r1) (pvK cfg f L r2) :=
  S2.bind (pvK_err cfg f L) h (fun _ _ hq htk _ _ => s_pvTok hp hE hM hq htk)

theorem s_peK2 {f L : Nat} {acc : List Val} (hE : SE p x y cfg f) (r1 r2 : Code × St) (h : S2 p x y r1 r2) :
    S3 p x y (peK2 cfg f L acc r1) (peK2 cfg f L acc r2) := by
  have hN := nulAt_of_split (x := x) hp
  refine S2.bind (peK2_err cfg f L acc) h (fun b1 b2 hq htk' e1 e2 => ?_)
  simp only [peK2, e1, e2]
  split
  · exact Or.inl ⟨rfl, rfl, live_T.mv hq, fun _ => Tk.move hN htk'⟩
  · split
    · exact hE _ _ _ _ (live_T.mv hq) (Tk.move hN htk')
    · exact SG.same Code.noConfusion hq

theorem s_peK1 {f L : Nat} {acc : List Val} (hE : SE p x y cfg f) (r1 r2 : Code × Val × St) (h : S3 p x y r1 r2) :
    S3 p x y (peK1 cfg f L acc r1) (peK1 cfg f L acc r2) :=
  SG.bind (peK1_err cfg f L acc) (fun _ _ e => by rw [e]) h
    (fun _ _ _ hq hl => s_peK2 hp hE _ _ (s_skipSpaces hp _ hq hl)) (fun _ _ hd => dead_ws (peK2_err cfg f L _) hd)

theorem s_pmKey {f : Nat} {s1 s2 : St} (hq : Live p (0 :: x) y s1 s2) (htk : Tk (p ++ 0 :: x) p.length s1) :
    SK p x y (pmKey cfg f s1) (pmKey cfg f s2) := by
  have hN := nulAt_of_split (x := x) hp
  have hl1 := htk.1.2
  have hl2 : s2.l.loaded = true := by rw [← hq.2.1]; exact hl1
  simp only [pmKey, cur_loaded hl1, cur_loaded hl2, ← hq.2.2.1]
  split
  · exact sg_of (tw_parseQuoted live_T _ _ _ _ _ (live_T.mv hq)) (gh_parseQuoted hN htk.2 _ _ _ _ (Tk.move hN htk))
  · split
    · have hlv := gh_parseUnquoted hN (f+1) [] s1 htk.1.1
      have hlen := key_len hp (f+1) [] s1 s2 hq htk.1.1
      rcases tw_parseUnquoted (live_T (p := p) (x := x) (y := y)) (f+1) [] s1 s2 hq with ⟨e1, e2⟩ | hb
      · rw [← e1]
        by_cases hk : (parseUnquoted (f+1) [] s1).1.length > cfg.maxStrLen
        · simp only [if_pos hk]
          exact Or.inl ⟨rfl, rfl, e2, fun h => Code.noConfusion h⟩
        · simp only [if_neg hk]
          exact Or.inl ⟨rfl, rfl, e2, fun _ => hlv⟩
      · by_cases hk : (parseUnquoted (f+1) [] s1).1.length > cfg.maxStrLen
        · have hk2 : (parseUnquoted (f+1) [] s2).1.length > cfg.maxStrLen := by omega
          simp only [if_pos hk, if_pos hk2]
          exact Or.inr (Or.inr ⟨rfl, rfl, trivial⟩)
        · simp only [if_neg hk]
          exact Or.inr (Or.inl ⟨Code.noConfusion, fun _ => ⟨hlv, hb⟩⟩)
    · exact SG.same Code.noConfusion hq

omit hp in
theorem s_pmK4 {f L : Nat} {ms : List (List Byte × Val)} (hM : SM p x y cfg f) (r1 r2 : Code × St)
    (h : S2 p x y r1 r2) : S3 p x y (pmK4 cfg f L ms r1) (pmK4 cfg f L ms r2) :=
  S2.bind (pmK4_err cfg f L ms) h (fun _ _ hq htk _ _ => hM _ _ _ _ hq htk)

theorem s_pmK3 {f L : Nat} {ms : List (List Byte × Val)} (hM : SM p x y cfg f) (r1 r2 : Code × St)
    (h : S2 p x y r1 r2) : S3 p x y (pmK3 cfg f L ms r1) (pmK3 cfg f L ms r2) := by
  have hN := nulAt_of_split (x := x) hp
  refine S2.bind (pmK3_err cfg f L ms) h (fun b1 b2 hq htk' e1 e2 => ?_)
  simp only [pmK3, e1, e2]
  split
  · exact Or.inl ⟨rfl, rfl, live_T.mv hq, fun _ => Tk.move hN htk'⟩
  · split
    · exact s_pmK4 hM _ _ (s_skipSpaces hp _ (live_T.mv hq) (Tk.move hN htk'))
    · exact SG.same Code.noConfusion hq

theorem s_pmK2 {f L : Nat} {ms : List (List Byte × Val)} {key : List Byte} (hM : SM p x y cfg f)
    (r1 r2 : Code × Val × St) (h : S3 p x y r1 r2) :
    S3 p x y (pmK2 cfg f L ms key r1) (pmK2 cfg f L ms key r2) :=
  SG.bind (pmK2_err cfg f L ms key) (fun _ _ e => by rw [e]) h
    (fun _ _ _ hq hl => s_pmK3 hp hM _ _ (s_skipSpaces hp _ hq hl)) (fun _ _ hd => dead_ws (pmK3_err cfg f L _) hd)

theorem s_pmK1 {f L : Nat} {ms : List (List Byte × Val)} {key : List Byte} (hV : SV p x y cfg f)
    (hM : SM p x y cfg f) (r1 r2 : Code × St) (h : S2 p x y r1 r2) :
    S3 p x y (pmK1 cfg f L ms key r1) (pmK1 cfg f L ms key r2) := by
  have hN := nulAt_of_split (x := x) hp
  refine S2.bind (pmK1_err cfg f L ms key) h (fun b1 b2 hq htk' e1 e2 => ?_)
  simp only [pmK1, e1, e2]
  split
  · exact SG.same Code.noConfusion hq
  · exact s_pmK2 hp hM _ _ (hV _ _ _ (live_T.mv hq) (Tk.move hN htk'))

theorem s_pmK0 {f L : Nat} {ms : List (List Byte × Val)} (hV : SV p x y cfg f) (hM : SM p x y cfg f)
    (r1 r2 : Code × List Byte × St) (h : SK p x y r1 r2) :
    S3 p x y (pmK0 cfg f L ms r1) (pmK0 cfg f L ms r2) :=
  SG.bind (pmK0_err cfg f L ms) (fun _ _ _ => rfl) h
    (fun _ _ _ hq hl => s_pmK1 hp hV hM _ _ (s_skipSpaces hp _ hq hl)) (fun _ _ hd => dead_ws (pmK1_err cfg f L ms _) hd)

/-- **the two runs, for the three mutually recursive routines** -/
theorem s_mutual : ∀ f, SV p x y cfg f ∧ SE p x y cfg f ∧ SM p x y cfg f := by
  intro f
  induction f with
  | zero =>
    refine ⟨?_, ?_, ?_⟩
    · intro L s1 s2 hq hl; exact SG.same Code.noConfusion hq
    · intro L s1 s2 acc hq hl; exact SG.same Code.noConfusion hq
    · intro L s1 s2 ms hq hl; exact SG.same Code.noConfusion hq
  | succ f ih =>
    obtain ⟨ihV, ihE, ihM⟩ := ih
    refine ⟨?_, ?_, ?_⟩
    · intro L s1 s2 hq hl
      rw [parseVariant_succ, parseVariant_succ]
      exact s_pvK hp ihE ihM _ _ (s_skipSpaces hp _ hq hl)
    · intro L s1 s2 acc hq hl
      rw [parseElems_succ, parseElems_succ]
      exact s_peK1 hp ihE _ _ (ihV _ _ _ hq hl)
    · intro L s1 s2 ms hq htk
      rw [parseMembers_succ, parseMembers_succ]
      exact s_pmK0 hp ihV ihM _ _ (s_pmKey hp hq htk)

end

/-! ## `run` -/

/-- **`NoMemory` is final.** If the run over `p ++ 0 :: x` (`p` free of NUL bytes) answers `NoMemory`, every input
    that starts with `p` is answered `NoMemory`, with the same document. (The number of bytes taken may differ: an
    unquoted key that is too long is read to its end.) -/
theorem run_nomem_final (cfg : Cfg) (L : Nat) (p x y : List Byte) (hp : ∀ c ∈ p, c ≠ 0)
    (h : (run cfg L (p ++ 0 :: x)).1 = .noMemory) :
    (run cfg L (p ++ y)).1 = .noMemory ∧ (run cfg L (p ++ y)).2.1 = (run cfg L (p ++ 0 :: x)).2.1 := by
  have hF1 := run_eq_runF cfg L (2 * (p.length + x.length + y.length + 1) + 4) (p ++ 0 :: x) (by simp; omega)
  have hF2 := run_eq_runF cfg L (2 * (p.length + x.length + y.length + 1) + 4) (p ++ y) (by simp; omega)
  rw [hF1] at h ⊢
  rw [hF2]
  generalize 2 * (p.length + x.length + y.length + 1) + 4 = fuel at *
  have h0 : Live p (0 :: x) y ({ l := { unread := p ++ 0 :: x } } : St) ({ l := { unread := p ++ y } } : St) :=
    ⟨rfl, rfl, rfl, rfl, p, rfl, rfl, by simp⟩
  have hl : Lv (p ++ 0 :: x) p.length ({ l := { unread := p ++ 0 :: x } } : St) := by
    refine ⟨rfl, ?_, fun _ => Nat.zero_le _⟩
    intro h; cases h
  rw [runF_eq, finishRun_code_iff (by decide) (by decide)] at h ⊢
  rw [runF_eq, finishRun_val, finishRun_val]
  rcases (s_mutual (cfg := cfg) hp fuel).1 L _ _ h0 hl with ⟨e1, e2, _⟩ | ⟨hnm, _⟩ | ⟨_, e2, e3⟩
  · exact ⟨e1 ▸ h, e2.symm⟩
  · exact absurd h hnm
  · exact ⟨e2, e3.symm⟩

end JD
