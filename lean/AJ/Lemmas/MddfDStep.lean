/- ONE induction over the filtered slot-level MessagePack deserializer (`MDDF.parseVariant / readArray / readObject`,
   AJ/Model/MDDF.lean) for every relation between documents that the document operations respect (`DStep`): the relation then
   holds between the document a routine starts from and the one it leaves (`st_all`), and between the cleared starting
   document and the result of `run` (`mp_run_step`). Instances: the string table keeps distinct bytes
   (AJ/Lemmas/MddfExact.lean), predicates on every stored value and the per-node overhead (AJ/Lemmas/MddfCanon.lean). -/
import AJ.Lemmas.MddfInv
import AJ.Lemmas.MddPos
namespace MDDF
open DL
open JD (Byte Code Flt)
open JDD (PlEq SaveOp Ctx Built isNum)
open MDD (S reserve save readString store fin J)

/-- a relation between documents that every operation of the MessagePack deserializer respects -/
structure DStep (Q : Doc → Doc → Prop) : Prop where
  refl : ∀ d, Q d d
  trans : ∀ {d d1 d2}, Q d d1 → Q d1 d2 → Q d d2
  pleq : ∀ {d d'}, PlEq d d' → Q d d'
  set_bool : ∀ d l b, Q d (d.set l (.bool b))
  set_f32 : ∀ d l b, Q d (d.set l (.f32 b))
  set_i32 : ∀ d l (x : Int), -2^31 ≤ x ∧ x < 2^31 → Q d (d.set l (.i32 x))
  set_owned : ∀ d l n, Q d (d.set l (.owned n))
  set_raw : ∀ d l n, Q d (d.set l (.raw n))
  set_arr : ∀ d l h t, Q d (d.set l (.arr h t))
  set_obj : ∀ d l h t, Q d (d.set l (.obj h t))
  setArg : ∀ d l a, isNum a → Q d (d.setArg l a).2
  save : ∀ (x : S) bytes, Q x.d (save x bytes).2.d
  addElement : ∀ d l, Q d (d.addElement l).2
  addMemberNode : ∀ d l node, Q d (JDD.addMemberNode d l node).2

variable {Q : Doc → Doc → Prop}

theorem st_reserve (hq : DStep Q) (m : Nat) (x : S) (n : Nat) : Q x.d (reserve m x n).2.d :=
  hq.pleq (MDD.mp_reserve_spec m x n).1.pleq

theorem st_readString (hq : DStep Q) (env : MD.Env) (x : S) (n : Nat) : Q x.d (readString env x n).2.2.d :=
  hq.pleq (MDD.mp_readString_spec env x n).1

theorem st_store (hq : DStep Q) (x : S) (l : Loc) {a : Arg} (ha : isNum a) : Q x.d (fin (store x l a)).2.1.d :=
  hq.setArg x.d l a ha

theorem st_leafInt (hq : DStep Q) (l : Loc) (x : S) (w c : Nat) : Q x.d (MDD.leafInt l w c x).2.1.d := by
  unfold MDD.leafInt
  split
  · rename_i bs r heq
    split
    · exact st_store hq ⟨r, x.d, x.b⟩ l trivial
    · exact st_store hq ⟨r, x.d, x.b⟩ l trivial
    · exact hq.refl _
  · exact hq.refl _

theorem st_leafF32 (hq : DStep Q) (l : Loc) (x : S) : Q x.d (MDD.leafF32 l x).2.1.d := by
  unfold MDD.leafF32
  split
  · exact hq.set_f32 _ _ _
  · exact hq.refl _

theorem st_leafF64 (hq : DStep Q) (l : Loc) (x : S) : Q x.d (MDD.leafF64 l x).2.1.d := by
  unfold MDD.leafF64
  split
  · rename_i bs r heq
    exact st_store hq ⟨r, x.d, x.b⟩ l trivial
  · exact hq.refl _

theorem st_leafStr (hq : DStep Q) (env : MD.Env) (l : Loc) (size : Nat) (x : S) :
    Q x.d (MDD.leafStr env l size x).2.1.d := by
  unfold MDD.leafStr
  have rs := st_readString hq env x size
  split
  · rename_i bs x1 heq
    rw [heq] at rs
    exact hq.trans rs (hq.trans (hq.save x1 bs) (hq.set_owned _ _ _))
  · rename_i e bs x1 hne heq
    rw [heq] at rs
    exact rs

theorem st_leafBin (hq : DStep Q) (env : MD.Env) (l : Loc) (code : Byte) (sb : Nat) (ie : Bool) (hb : List Byte)
    (size : Nat) (x : S) : Q x.d (MDD.leafBin env l code sb ie hb size x).2.1.d := by
  unfold MDD.leafBin
  have rs := st_reserve hq env.maxStrLen x (1 + sb + MD.binSize ie size)
  generalize reserve env.maxStrLen x (1 + sb + MD.binSize ie size) = q at rs
  obtain ⟨ok, x1⟩ := q
  cases ok with
  | false => exact rs
  | true =>
    simp only
    split
    · rename_i bs r heq
      exact hq.trans rs (hq.trans (hq.save { x1 with r := r } (code :: hb ++ bs)) (hq.set_raw _ _ _))
    · exact rs

theorem st_skipN (hq : DStep Q) (x : S) (n : Nat) : Q x.d (fin (skipN x n)).2.1.d := by
  rw [show (fin (skipN x n)).2.1 = (skipN x n).2 from rfl, skipN_d]; exact hq.refl _

theorem fix_small {c : Nat} (hc : c < 256) :
    -2^31 ≤ (if c ≥ 0x80 then (c : Int) - 256 else c) ∧ (if c ≥ 0x80 then (c : Int) - 256 else c) < 2^31 := by
  split <;> omega

def SVs (Q : Doc → Doc → Prop) (env : MD.Env) (fuel : Nat) : Prop := ∀ (limit : Nat) (flt : Flt) (dst : Option Loc) (x : S),
  Q x.d (parseVariant env fuel limit flt dst x).2.1.d
def SAs (Q : Doc → Doc → Prop) (env : MD.Env) (fuel : Nat) : Prop := ∀ (limit : Nat) (ef : Flt) (arr : Option Loc) (n : Nat)
  (x : S), Q x.d (readArray env fuel limit ef arr n x).2.d
def SOs (Q : Doc → Doc → Prop) (env : MD.Env) (fuel : Nat) : Prop := ∀ (limit : Nat) (flt : Flt) (obj : Option Loc) (n : Nat)
  (x : S), Q x.d (readObject env fuel limit flt obj n x).2.d

theorem st_leafSet (hq : DStep Q) (av : Option Loc) (v : VData) (x : S) (hv : ∀ l, Q x.d (x.d.set l v)) :
    Q x.d (leafSet av v x).2.1.d := by
  cases av with
  | none => exact hq.refl _
  | some l => exact hv l

theorem sv_succ (hq : DStep Q) (env : MD.Env) (f : Nat) (ihA : SAs Q env f) (ihO : SOs Q env f) : SVs Q env (f+1) := by
  intro limit flt dst x
  rw [parseVariant_step]
  generalize x.r.read = rd
  obtain ⟨_ | code, r0⟩ := rd
  · exact hq.refl _
  simp only
  have hk := MD.classify_ok code r0
  generalize MD.classify code r0 = hd at hk
  cases hd with
  | int w c =>
    simp only [leaf, leafInt]
    cases gate flt.allowValue dst with
    | none => exact st_skipN hq { x with r := r0 } w
    | some l => exact st_leafInt hq l { x with r := r0 } w c
  | nil => exact hq.refl _
  | invalid => exact hq.refl _
  | bool c => exact st_leafSet hq _ _ { x with r := r0 } (fun l => hq.set_bool _ l _)
  | f32 =>
    simp only [leaf, leafF32]
    cases gate flt.allowValue dst with
    | none => exact st_skipN hq { x with r := r0 } 4
    | some l => exact st_leafF32 hq l { x with r := r0 }
  | f64 =>
    simp only [leaf, leafF64]
    cases gate flt.allowValue dst with
    | none => exact st_skipN hq { x with r := r0 } 8
    | some l => exact st_leafF64 hq l { x with r := r0 }
  | fix c =>
    have hc : c < 256 := by rw [show c = code.toNat from hk]; exact UInt8.toNat_lt code
    exact st_leafSet hq _ _ { x with r := r0 } (fun l => hq.set_i32 _ l _ (fix_small hc))
  | inc r => exact hq.refl _
  | arr size r =>
    simp only [leaf, leafArr]
    cases limit with
    | zero => exact hq.refl _
    | succ limit' =>
      simp only
      cases gate flt.allowArray dst with
      | none => exact ihA limit' flt.subIdx none size { x with r := r }
      | some l =>
        exact hq.trans (hq.set_arr x.d l x.d.null x.d.null)
          (ihA limit' flt.subIdx (some l) size { x with r := r, d := x.d.set l (.arr x.d.null x.d.null) })
  | map size r =>
    simp only [leaf, leafMap]
    cases limit with
    | zero => exact hq.refl _
    | succ limit' =>
      simp only
      cases gate flt.allowObject dst with
      | none => exact ihO limit' flt none size { x with r := r }
      | some l =>
        exact hq.trans (hq.set_obj x.d l x.d.null x.d.null)
          (ihO limit' flt (some l) size { x with r := r, d := x.d.set l (.obj x.d.null x.d.null) })
  | str size r =>
    simp only [leaf, leafStr]
    cases gate flt.allowValue dst with
    | none => exact st_skipN hq { x with r := r } size
    | some l => exact st_leafStr hq env l size { x with r := r }
  | bin sb ie hb size r =>
    simp only [leaf, leafBin]
    cases gate flt.allowValue dst with
    | none => exact st_skipN hq { x with r := r } _
    | some l => exact st_leafBin hq env l code sb ie hb size { x with r := r }

theorem st_elemSlot (hq : DStep Q) (ea : Option Loc) (x : S) : Q x.d (elemSlot ea x).2.d := by
  unfold elemSlot
  cases ea with
  | none => exact hq.refl _
  | some l =>
    simp only
    have h01 := hq.addElement x.d l
    split
    · rename_i d1 heq; rw [heq] at h01; exact h01
    · rename_i id d1 heq; rw [heq] at h01; exact h01

theorem st_memSlot (hq : DStep Q) (oa : Option Loc) (x : S) (key : List Byte) : Q x.d (memSlot oa x key).2.d := by
  unfold memSlot
  cases oa with
  | none => exact hq.refl _
  | some l =>
    simp only
    refine hq.trans (hq.save x key) ?_
    have := hq.addMemberNode (save x key).2.d l (save x key).1
    generalize JDD.addMemberNode (save x key).2.d l (save x key).1 = r at this
    obtain ⟨o, d2⟩ := r
    cases o <;> exact this

theorem sa_succ (hq : DStep Q) (env : MD.Env) (f : Nat) (ihV : SVs Q env f) (ihA : SAs Q env f) : SAs Q env (f+1) := by
  intro limit ef arr n x
  rw [readArray_succ]
  split
  · exact hq.refl _
  have h1 := st_elemSlot hq (gate ef.allow arr) x
  generalize elemSlot (gate ef.allow arr) x = q at h1
  obtain ⟨o, x1⟩ := q
  cases o with
  | none => exact h1
  | some dst =>
    simp only
    have h2 := ihV limit ef dst x1
    split
    · rename_i x2 fd heq
      rw [heq] at h2
      exact hq.trans h1 (hq.trans h2 (ihA limit ef arr (n - 1) x2))
    · rename_i e x2 fd hne heq
      rw [heq] at h2
      exact hq.trans h1 h2

theorem so_succ (hq : DStep Q) (env : MD.Env) (f : Nat) (ihV : SVs Q env f) (ihO : SOs Q env f) : SOs Q env (f+1) := by
  intro limit flt obj n x
  rw [readObject_succ]
  split
  · exact hq.refl _
  generalize x.r.read = rd
  obtain ⟨_ | code, r0⟩ := rd
  · exact hq.refl _
  simp only
  generalize MD.keyLenOf_d3 code r0 = kl
  obtain ⟨_ | _ | len, r1⟩ := kl
  · exact hq.refl _
  · exact hq.refl _
  simp only
  have rs := st_readString hq env { x with r := r1 } len
  unfold roKey
  split
  · rename_i key x1 heq
    rw [heq] at rs
    have h0 : Q x.d x1.d := rs
    have h1 := st_memSlot hq (gate (flt.subKey key).allow obj) x1 key
    generalize memSlot (gate (flt.subKey key).allow obj) x1 key = q at h1
    obtain ⟨o, x2⟩ := q
    cases o with
    | none => exact hq.trans h0 h1
    | some dst =>
      simp only
      have h2 := ihV limit (flt.subKey key) dst x2
      unfold roVal
      split
      · rename_i x3 fd heq3
        rw [heq3] at h2
        exact hq.trans h0 (hq.trans h1 (hq.trans h2 (ihO limit flt obj (n - 1) x3)))
      · rename_i e x3 fd hne heq3
        rw [heq3] at h2
        exact hq.trans h0 (hq.trans h1 h2)
  · rename_i e key x1 hne heq
    rw [heq] at rs
    exact rs

theorem st_all (hq : DStep Q) (env : MD.Env) : ∀ fuel, SVs Q env fuel ∧ SAs Q env fuel ∧ SOs Q env fuel := by
  intro fuel
  induction fuel with
  | zero =>
    refine ⟨?_, ?_, ?_⟩
    · intro limit flt dst x; simp only [parseVariant]; exact hq.refl _
    · intro limit ef arr n x; simp only [readArray]; exact hq.refl _
    · intro limit flt obj n x; simp only [readObject]; exact hq.refl _
  | succ f ih =>
    obtain ⟨ihV, ihA, ihO⟩ := ih
    exact ⟨sv_succ hq env f ihA ihO, sa_succ hq env f ihV ihA, so_succ hq env f ihV ihO⟩

/-- the relation holds between the cleared starting document and the document `run` returns -/
theorem mp_run_step (hq : DStep Q) (env : MD.Env) (limit : Nat) (flt : Flt) (d : Doc) (input : List Byte)
    (hsh : ∀ (d : Doc) (pl : PL.St), Q d { d with pl := pl }) : Q d.clearAll (run env limit flt d input).2.1 := by
  have h : Q d.clearAll (stop env limit flt d input).2.1.d :=
    (st_all hq env (2 * input.length + 4)).1 limit flt (some .root) (start d input)
  have h2 : Q d.clearAll (preShrink env limit flt d input) := hq.trans h (hq.pleq (preShrink_pleq env limit flt d input).1)
  rw [run_eq]
  exact hq.trans h2 (hsh _ _)

end MDDF
