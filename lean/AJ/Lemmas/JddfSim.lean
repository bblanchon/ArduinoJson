/- Simulation of the FILTERED slot-level deserializer `JDDF` (AJ/Model/JDDF.lean) by the value-level filtered parser
   `JD.fparseVariant/fparseElems/fparseMembers`, part 1: the outcome relation is `JDD.Sim` of AJ/Lemmas/JddSim.lean; this file
   holds the step for `parseVariant` (the skip branches leave the document untouched and move the reader as the value-level
   routine does) and for `parseElems` (cut into head and tail). -/
import AJ.Model.JDDF
import AJ.Lemmas.JddSim
set_option linter.unusedSimpArgs false
set_option linter.unusedVariables false
namespace JDDF
open DL JDD
open JD (Byte Val Cfg Code St Flt skipSpaces cur mv skipKeyword parseQuoted skipVariant skipElems skipMembers skipQuoted
  skipNumeric)

def FSimV (cfg : Cfg) (fuel : Nat) : Prop :=
  ∀ (limit : Nat) (flt : Flt) (l : Loc) (x : S), Pre x.d l → x.d.overflowed = false → sim_BOK cfg x.b →
    Sim cfg x.d l (JDDF.parseVariant cfg fuel limit flt l x) (JD.fparseVariant cfg fuel limit flt x.s)

def FSimE (cfg : Cfg) (fuel : Nat) : Prop :=
  ∀ (limit : Nat) (flt : Flt) (l : Loc) (x : S) (d0 : Doc) (h t : Nat) (sl : Forest) (acc : List Val),
    Pre d0 l → Post d0 x.d l (.arr h t) sl → (vals x.d noOv sl).map (·.2) = acc.reverse →
    x.d.overflowed = false → sim_BOK cfg x.b →
    Sim cfg d0 l (JDDF.parseElems cfg fuel limit flt l x) (JD.fparseElems cfg fuel limit flt x.s acc)

def FSimM (cfg : Cfg) (fuel : Nat) : Prop :=
  ∀ (limit : Nat) (flt : Flt) (l : Loc) (x : S) (d0 : Doc) (h t : Nat) (sl : Forest) (ms : List (List Byte × Val)),
    Pre d0 l → Post d0 x.d l (.obj h t) sl → vals x.d noOv sl = ms →
    x.d.overflowed = false → sim_BOK cfg x.b →
    Sim cfg d0 l (JDDF.parseMembers cfg fuel limit flt l x) (JD.fparseMembers cfg fuel limit flt x.s ms)

/-- a skipped value: the document is the one before, the place still holds `null` -/
theorem fsim_skip {cfg : Cfg} {x : S} {l : Loc} (P : Pre x.d l) (h0 : x.d.overflowed = false) (hb : sim_BOK cfg x.b)
    (e : Code) (s' : St) : Sim cfg x.d l (e, { x with s := s' }) (e, .null, s') :=
  Sim.exit rfl hb (sim_null_post P (Fr.refl P.pool [])) (fun h => by rw [h0] at h; cases h)

set_option maxRecDepth 4000 in
theorem fsim_pv_step (cfg : Cfg) (h31 : 31 ≤ cfg.maxStrLen) (fuel : Nat) (hE : FSimE cfg fuel) (hM : FSimM cfg fuel) :
    FSimV cfg (fuel + 1) := by
  intro limit flt l x P h0 hb
  have hfr0 : Fr x.d x.d [] := Fr.refl P.pool []
  simp only [JDDF.parseVariant, JD.fparseVariant]
  generalize hsk : skipSpaces cfg (fuel + 1) x.s = r
  obtain ⟨c, s⟩ := r
  cases c
  case ok =>
    simp only
    generalize hcur : cur s = r2
    obtain ⟨c, s1⟩ := r2
    simp only
    by_cases h5B : (c == 0x5B) = true
    · -- array
      simp only [h5B, ↓reduceIte]
      cases hA : flt.allowArray with
      | true =>
        simp only [↓reduceIte]
        have hPa := sim_coll_post false P
        have hov : (x.d.set l (.arr x.d.null x.d.null)).overflowed = false := by rw [set_overflowed]; exact h0
        cases limit with
        | zero => exact Sim.exit rfl hb hPa (fun h => by rw [hov] at h; cases h)
        | succ limit' =>
          simp only
          generalize hsk2 : skipSpaces cfg (fuel + 1) (mv s1) = r3
          obtain ⟨c2, s2⟩ := r3
          cases c2
          case ok =>
            simp only
            generalize hcur2 : cur s2 = r4
            obtain ⟨e, s3⟩ := r4
            simp only
            by_cases h5D : (e == 0x5D) = true
            · simp only [h5D, ↓reduceIte]
              exact Sim.exit rfl hb hPa (fun h => by rw [hov] at h; cases h)
            · simp only [h5D, ↓reduceIte]
              exact hE limit' flt.subIdx l { s := s3, d := x.d.set l (.arr x.d.null x.d.null), b := x.b } x.d _ _ .nil [] P
                (sim_post_coll false P).1 rfl hov hb
          all_goals exact Sim.exit rfl hb hPa (fun h => by rw [hov] at h; cases h)
      | false =>
        simp only [Bool.false_eq_true, ↓reduceIte]
        cases limit with
        | zero => exact fsim_skip (x := { s := s1, d := x.d, b := x.b }) P h0 hb _ _
        | succ limit' =>
          simp only
          generalize skipElems cfg fuel limit' (mv s1) = r3
          obtain ⟨e, s2⟩ := r3
          exact fsim_skip (x := { s := s1, d := x.d, b := x.b }) P h0 hb _ _
    · simp only [h5B, ↓reduceIte]
      by_cases h7B : (c == 0x7B) = true
      · -- object
        simp only [h7B, ↓reduceIte]
        cases hO : flt.allowObject with
        | true =>
          simp only [↓reduceIte]
          have hPa := sim_coll_post true P
          have hov : (x.d.set l (.obj x.d.null x.d.null)).overflowed = false := by rw [set_overflowed]; exact h0
          cases limit with
          | zero => exact Sim.exit rfl hb hPa (fun h => by rw [hov] at h; cases h)
          | succ limit' =>
            simp only
            generalize hsk2 : skipSpaces cfg (fuel + 1) (mv s1) = r3
            obtain ⟨c2, s2⟩ := r3
            cases c2
            case ok =>
              simp only
              generalize hcur2 : cur s2 = r4
              obtain ⟨e, s3⟩ := r4
              simp only
              by_cases h7D : (e == 0x7D) = true
              · simp only [h7D, ↓reduceIte]
                exact Sim.exit rfl hb hPa (fun h => by rw [hov] at h; cases h)
              · simp only [h7D, ↓reduceIte]
                exact hM limit' flt l { s := s3, d := x.d.set l (.obj x.d.null x.d.null), b := x.b } x.d _ _ .nil [] P
                  (sim_post_coll true P).1 rfl hov hb
            all_goals exact Sim.exit rfl hb hPa (fun h => by rw [hov] at h; cases h)
        | false =>
          simp only [Bool.false_eq_true, ↓reduceIte]
          cases limit with
          | zero => exact fsim_skip (x := { s := s1, d := x.d, b := x.b }) P h0 hb _ _
          | succ limit' =>
            simp only
            generalize hsk2 : skipSpaces cfg (fuel + 1) (mv s1) = r3
            obtain ⟨c2, s2⟩ := r3
            cases c2
            case ok =>
              simp only
              generalize hcur2 : cur s2 = r4
              obtain ⟨e, s3⟩ := r4
              simp only
              by_cases h7D : (e == 0x7D) = true
              · simp only [h7D, ↓reduceIte]
                exact fsim_skip (x := { s := s1, d := x.d, b := x.b }) P h0 hb _ _
              · simp only [h7D, ↓reduceIte]
                generalize skipMembers cfg fuel limit' s3 = r5
                obtain ⟨e5, s5⟩ := r5
                exact fsim_skip (x := { s := s1, d := x.d, b := x.b }) P h0 hb _ _
            all_goals exact fsim_skip (x := { s := s1, d := x.d, b := x.b }) P h0 hb _ _
      · simp only [h7B, ↓reduceIte]
        cases hV : flt.allowValue with
        | true =>
          simp only [↓reduceIte]
          by_cases hq : (c == 0x22 || c == 0x27) = true
          · -- string
            simp only [hq, ↓reduceIte]
            exact sim_string cfg h31 (fuel + 1) c (x := { s := mv s1, d := x.d, b := x.b }) P h0 hb
          · simp only [hq, ↓reduceIte]
            by_cases h74 : (c == 0x74) = true
            · simp only [h74, ↓reduceIte]
              obtain ⟨pp, pv⟩ := sim_post_plain (v' := .bool true) P hfr0 (fun h => h) rfl rfl
              exact Sim.exit rfl hb ⟨_, _, pp, pv⟩ (fun h => by rw [set_overflowed, h0] at h; cases h)
            · simp only [h74, ↓reduceIte]
              by_cases h66 : (c == 0x66) = true
              · simp only [h66, ↓reduceIte]
                obtain ⟨pp, pv⟩ := sim_post_plain (v' := .bool false) P hfr0 (fun h => h) rfl rfl
                exact Sim.exit rfl hb ⟨_, _, pp, pv⟩ (fun h => by rw [set_overflowed, h0] at h; cases h)
              · simp only [h66, ↓reduceIte]
                by_cases h6E : (c == 0x6E) = true
                · simp only [h6E, ↓reduceIte]
                  exact Sim.exit rfl hb (sim_null_post P hfr0) (fun h => by rw [h0] at h; cases h)
                · simp only [h6E, ↓reduceIte]
                  exact sim_numeric cfg (x := { s := s1, d := x.d, b := x.b }) P h0 hb
        | false =>
          simp only [Bool.false_eq_true, ↓reduceIte]
          by_cases hq : (c == 0x22 || c == 0x27) = true
          · simp only [hq, ↓reduceIte]
            generalize skipQuoted c (fuel + 1) (mv s1) = r3
            obtain ⟨e, s2⟩ := r3
            exact fsim_skip (x := { s := s1, d := x.d, b := x.b }) P h0 hb _ _
          · simp only [hq, ↓reduceIte]
            by_cases h74 : (c == 0x74) = true
            · simp only [h74, ↓reduceIte]
              exact fsim_skip (x := { s := s1, d := x.d, b := x.b }) P h0 hb _ _
            · simp only [h74, ↓reduceIte]
              by_cases h66 : (c == 0x66) = true
              · simp only [h66, ↓reduceIte]
                exact fsim_skip (x := { s := s1, d := x.d, b := x.b }) P h0 hb _ _
              · simp only [h66, ↓reduceIte]
                by_cases h6E : (c == 0x6E) = true
                · simp only [h6E, ↓reduceIte]
                  exact fsim_skip (x := { s := s1, d := x.d, b := x.b }) P h0 hb _ _
                · simp only [h6E, ↓reduceIte]
                  exact fsim_skip (x := { s := s1, d := x.d, b := x.b }) P h0 hb _ _
  all_goals exact Sim.exit rfl hb (sim_null_post P hfr0) (fun h => by rw [h0] at h; cases h)

theorem fsim_pv_zero (cfg : Cfg) : FSimV cfg 0 := by
  intro limit flt l x P h0 hb
  simp only [JDDF.parseVariant, JD.fparseVariant]
  exact Sim.exit rfl hb (sim_null_post P (Fr.refl P.pool [])) (fun _ => by intro h; cases h)

theorem fsim_pe_zero (cfg : Cfg) : FSimE cfg 0 := by
  intro limit flt l x d0 h t sl acc P0 P hvals h0 hb
  simp only [JDDF.parseElems, JD.fparseElems]
  exact Sim.exit rfl hb (sim_arr_post P hvals) (fun _ => by intro h; cases h)

theorem fsim_pm_zero (cfg : Cfg) : FSimM cfg 0 := by
  intro limit flt l x d0 h t sl ms P0 P hvals h0 hb
  simp only [JDDF.parseMembers, JD.fparseMembers]
  exact Sim.exit rfl hb (sim_obj_post P hvals) (fun _ => by intro h; cases h)

end JDDF
