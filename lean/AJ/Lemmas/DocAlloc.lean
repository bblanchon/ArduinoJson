/- The allocator identity (`Doc.alloc`, the tag of the allocator a document was constructed with) and the string-node overhead
   and the string-length limit `maxStrLen`
   are never changed by a document operation: scalar stores, allocation, release, clearing, adding and removing elements and
   members, the deep copy, `clearAll`.
   Used by AJ/Props/C04DocCopy.lean: the copy built by `copydoc` keeps the allocator it was created with. -/
import AJ.Lemmas.DocClosure
namespace DL
open JD (Byte)

/-- the construction-time constants of a document -/
def SameId (d d' : Doc) : Prop := d'.alloc = d.alloc ∧ d'.strOverhead = d.strOverhead ∧ d'.g = d.g ∧ d'.maxStrLen = d.maxStrLen

theorem SameId.refl (d : Doc) : SameId d d := ⟨rfl, rfl, rfl, rfl⟩
theorem SameId.trans {a b c : Doc} (h1 : SameId a b) (h2 : SameId b c) : SameId a c :=
  ⟨h2.1.trans h1.1, h2.2.1.trans h1.2.1, h2.2.2.1.trans h1.2.2.1, h2.2.2.2.trans h1.2.2.2⟩

theorem SameId.g {d d' : Doc} (h : SameId d d') : d'.g = d.g := h.2.2.1

theorem sameId_set (d : Doc) (l : Loc) (v : VData) : SameId d (d.set l v) := by cases l <;> exact ⟨rfl, rfl, rfl, rfl⟩

theorem sameId_setNext (d : Doc) (i n : Nat) : SameId d (d.setNext i n) := by
  simp only [Doc.setNext]; split <;> exact ⟨rfl, rfl, rfl, rfl⟩

theorem sameId_derefString (d : Doc) (n : Nat) : SameId d (d.derefString n) := by
  simp only [Doc.derefString]
  split
  · exact SameId.refl d
  · split <;> exact ⟨rfl, rfl, rfl, rfl⟩

theorem sameId_saveString (d : Doc) (s : List Byte) : SameId d (d.saveString s).2 := by
  simp only [Doc.saveString]
  split
  · exact ⟨rfl, rfl, rfl, rfl⟩
  · split
    · exact ⟨rfl, rfl, rfl, rfl⟩
    · generalize d.pl.alloc (s.length + d.strOverhead) = q
      obtain ⟨ok, pl⟩ := q
      simp only
      split <;> exact ⟨rfl, rfl, rfl, rfl⟩

theorem sameId_allocExt (d : Doc) (p : Int) : SameId d (d.allocExt p).2 := by
  simp only [Doc.allocExt]; split <;> exact ⟨rfl, rfl, rfl, rfl⟩

theorem sameId_allocVariant (d : Doc) : SameId d d.allocVariant.2 := by
  simp only [Doc.allocVariant]; split <;> exact ⟨rfl, rfl, rfl, rfl⟩

theorem sameId_freeCell (d : Doc) (id : Nat) : SameId d (d.freeCell id) := ⟨rfl, rfl, rfl, rfl⟩

theorem sameId_stable : Stable (fun _ => True) SameId where
  refl := SameId.refl
  trans := SameId.trans
  null := trivial
  arr := fun _ _ => trivial
  obj := fun _ _ => trivial
  set := fun d l v _ => sameId_set d l v
  setNext := sameId_setNext
  freeCell := sameId_freeCell
  allocVariant := sameId_allocVariant
  allocExt := sameId_allocExt
  saveString := sameId_saveString
  derefString := sameId_derefString

theorem sameId_clearV (d : Doc) (l : Loc) : SameId d (d.clearV l) := sameId_stable.clearV d l

theorem sameId_setArg (d : Doc) (l : Loc) (a : Arg) : SameId d (d.setArg l a).2 :=
  sameId_stable.setArg d l a (fun _ _ => trivial)

theorem sameId_appendOne (d : Doc) (l : Loc) (id : Nat) : SameId d (d.appendOne l id) := sameId_stable.appendOne d l id

theorem sameId_appendPair (d : Doc) (l : Loc) (k v : Nat) : SameId d (d.appendPair l k v) :=
  sameId_stable.appendPair d l k v

theorem sameId_addMember (d : Doc) (l : Loc) (key : List Byte) (linked : Bool) : SameId d (d.addMember l key linked).2 :=
  sameId_stable.addMember (fun _ => trivial) d l key linked

/-- the deep copy keeps the allocator identity, the string overhead and the geometry of its DESTINATION -/
theorem sameId_copyInto (d : Doc) (l : Loc) (src : Doc) (sv : VData) : SameId d (copyInto d l src sv) :=
  sameId_stable.copyInto (fun _ => trivial) d l src sv

theorem sameId_clearAll (d : Doc) : SameId d d.clearAll := ⟨rfl, rfl, rfl, rfl⟩

theorem sameId_addElement (d : Doc) (l : Loc) : SameId d (d.addElement l).2 := sameId_stable.addElement d l

theorem sameId_getOrAddElement (d : Doc) (l : Loc) (index : Nat) : SameId d (d.getOrAddElement l index).2 :=
  sameId_stable.getOrAddElement d l index

theorem sameId_removePair (d : Doc) (l : Loc) (k v : Nat) : SameId d (d.removePair l k v) :=
  sameId_stable.removePair d l k v

end DL
