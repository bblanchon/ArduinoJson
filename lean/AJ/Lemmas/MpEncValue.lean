/- The VALUE of every legal MessagePack encoding (C09).
   `MD.Enc env d e` (AJ/Lemmas/MpPrefix.lean) says that `e` is one object in any legal width at every place. Here its value is
   made explicit:
   * `LeafVal`, `KeyVal`, `EncVal env d e v` mirror `LeafEnc`, `KeyEnc`, `Enc` constructor by constructor and carry the value;
   * `enc_val` : `EncVal env d e v → Valued env d e v` (the reader model computes exactly `v`, consuming exactly `e`);
   * `EncVal.enc`, `Enc.hasVal`, `encVal_unique` : `Enc env d e ↔ ∃ v, EncVal env d e v`, and the value is unique. -/
import AJ.Lemmas.MpPrefix
namespace MD
open JD SF

/-! ## the value of one encoding -/

/-- a value without children, with the value the library stores for it. Integers are stored by value: unsigned kinds
    (`cc..cf`) as `.uint`, signed kinds (`d0..d3`) and BOTH fixint families as `.sint`; float32 by its bits, float64 through
    `storeDouble`; bin / ext / fixext as a raw node holding the encoding itself (header and payload verbatim). -/
inductive LeafVal (env : Env) : List Byte → Val → Prop
  | posfix (c : Byte) : c.toNat ≤ 0x7f → LeafVal env [c] (.num (.sint c.toNat))
  | negfix (c : Byte) : 0xe0 ≤ c.toNat → LeafVal env [c] (.num (.sint ((c.toNat : Int) - 256)))
  | nil : LeafVal env [0xC0] .null
  | bool (b : Bool) : LeafVal env [if b then 0xC3 else 0xC2] (.bool b)
  | uint (code : Byte) (bs : List Byte) : 0xcc ≤ code.toNat → code.toNat ≤ 0xcf →
      bs.length = 2^(code.toNat - 0xcc) → LeafVal env (code :: bs) (.num (.uint (beNat bs)))
  | sint (code : Byte) (bs : List Byte) : 0xd0 ≤ code.toNat → code.toNat ≤ 0xd3 →
      bs.length = 2^(code.toNat - 0xd0) → LeafVal env (code :: bs) (.num (.sint (twos bs)))
  | f32 (bs : List Byte) : bs.length = 4 → LeafVal env (0xCA :: bs) (.num (.f32 (beNat bs)))
  | f64 (bs : List Byte) : bs.length = 8 → LeafVal env (0xCB :: bs) (.num (storeDouble (beNat bs)))
  | fixstr (c : Byte) (s : List Byte) : c.toNat = 0xa0 + s.length → s.length < 32 → s.length ≤ env.maxStrLen →
      LeafVal env (c :: s) (.str s)
  | str8 (hb s : List Byte) : hb.length = 1 → beNat hb = s.length → s.length ≤ env.maxStrLen →
      LeafVal env (0xD9 :: (hb ++ s)) (.str s)
  | str16 (hb s : List Byte) : hb.length = 2 → beNat hb = s.length → s.length ≤ env.maxStrLen →
      LeafVal env (0xDA :: (hb ++ s)) (.str s)
  | str32 (hb s : List Byte) : hb.length = 4 → beNat hb = s.length → s.length ≤ env.maxStrLen →
      LeafVal env (0xDB :: (hb ++ s)) (.str s)
  | bin (code : Byte) (j : Nat) (hb s : List Byte) : j < 3 → code.toNat = 0xc4 + j → hb.length = 2^j →
      beNat hb = s.length → 1 + 2^j + s.length ≤ env.maxStrLen →
      LeafVal env (code :: (hb ++ s)) (.raw (code :: (hb ++ s)))
  | ext (code : Byte) (j : Nat) (hb pl : List Byte) : j < 3 → code.toNat = 0xc7 + j → hb.length = 2^j →
      pl.length = beNat hb + 1 → 1 + 2^j + pl.length ≤ env.maxStrLen →
      LeafVal env (code :: (hb ++ pl)) (.raw (code :: (hb ++ pl)))
  | fixext (code : Byte) (j : Nat) (pl : List Byte) : j < 5 → code.toNat = 0xd4 + j →
      pl.length = 2^j + 1 → 1 + pl.length ≤ env.maxStrLen → LeafVal env (code :: pl) (.raw (code :: pl))

/-- a map key (fixstr or str 8 / 16 / 32) with the key string -/
inductive KeyVal (env : Env) : List Byte → List Byte → Prop
  | fix (c : Byte) (k : List Byte) : c.toNat = 0xa0 + k.length → k.length < 32 → k.length ≤ env.maxStrLen →
      KeyVal env (c :: k) k
  | sized (code : Byte) (j : Nat) (hb k : List Byte) : j < 3 → code.toNat = 0xd9 + j → hb.length = 2^j →
      beNat hb = k.length → k.length ≤ env.maxStrLen → KeyVal env (code :: (hb ++ k)) k

/-- `EncVal env d e v`: `e` is the MessagePack encoding of one object (any legal width at every place, at most `d`
    containers deep, strings / binaries / keys within `env.maxStrLen`) and `v` is the value it stands for in a document:
    arrays element by element, maps member by member in the order of the encoding (repeated keys kept). -/
inductive EncVal (env : Env) : Nat → List Byte → Val → Prop
  | leaf {d : Nat} {e : List Byte} {v : Val} : LeafVal env e v → EncVal env d e v
  | arr {d : Nat} (hdr : List Byte) (evs : List (List Byte × Val)) : ArrHdr hdr evs.length →
      (∀ ev ∈ evs, EncVal env d ev.1 ev.2) →
      EncVal env (d + 1) (hdr ++ (evs.map (fun ev => ev.1)).flatten) (.arr (evs.map (fun ev => ev.2)))
  | map {d : Nat} (hdr : List Byte) (ms : List (List Byte × List Byte × List Byte × Val)) : MapHdr hdr ms.length →
      (∀ m ∈ ms, KeyVal env m.1 m.2.1) → (∀ m ∈ ms, EncVal env d m.2.2.1 m.2.2.2) →
      EncVal env (d + 1) (hdr ++ (ms.map (fun m => m.1 ++ m.2.2.1)).flatten)
        (.obj (ms.map (fun m => (m.2.1, m.2.2.2))))

/-! ## what the serializer writes -/

/-- a key is also a string value -/
theorem KeyVal.leafVal {env : Env} {kb k : List Byte} (h : KeyVal env kb k) : LeafVal env kb (.str k) := by
  cases h with
  | fix c k h1 h2 h3 => exact .fixstr c k h1 h2 h3
  | sized code j hb k hj hc h3 h4 h5 =>
    obtain rfl | rfl | rfl : j = 0 ∨ j = 1 ∨ j = 2 := by omega
    · obtain rfl : code = 0xD9 := UInt8.toNat_inj.mp hc
      exact .str8 hb k h3 h4 h5
    · obtain rfl : code = 0xDA := UInt8.toNat_inj.mp hc
      exact .str16 hb k h3 h4 h5
    · obtain rfl : code = 0xDB := UInt8.toNat_inj.mp hc
      exact .str32 hb k h3 h4 h5

/-- conversely, a string value is a key: `str8`, `str16`, `str32` are `KeyVal.sized` with `j = 0, 1, 2` -/
theorem LeafVal.str_keyVal {env : Env} {e s : List Byte} (h : LeafVal env e (.str s)) : KeyVal env e s := by
  cases h with
  | fixstr c s h1 h2 h3 => exact .fix c s h1 h2 h3
  | str8 hb s h1 h2 h3 => exact .sized 0xD9 0 hb s (by omega) rfl h1 h2 h3
  | str16 hb s h1 h2 h3 => exact .sized 0xDA 1 hb s (by omega) rfl h1 h2 h3
  | str32 hb s h1 h2 h3 => exact .sized 0xDB 2 hb s (by omega) rfl h1 h2 h3

theorem keyVal_str {env : Env} (k : List Byte) (hm : k.length ≤ env.maxStrLen) (h32 : k.length < 2^32) :
    KeyVal env (strHdr k.length ++ k) k := by
  obtain ⟨h5, e⟩ | ⟨code, j, hj, hc, hb, e⟩ := strHdr_shape k.length h32
  · rw [e]
    exact .fix _ k (ofNat_toNat _ (by omega)) h5 hm
  · rw [e]
    exact .sized code j _ k hj hc (beN_length _ _) (by rw [beNat_beN, Nat.mod_eq_of_lt hb]) hm

theorem leafVal_str {env : Env} (s : List Byte) (hm : s.length ≤ env.maxStrLen) (h32 : s.length < 2^32) :
    LeafVal env (strHdr s.length ++ s) (.str s) := (keyVal_str s hm h32).leafVal

theorem leafVal_encUInt {env : Env} (n : Nat) (h : n < 2^64) : LeafVal env (encUInt n) (.num (normInt n)) := by
  obtain ⟨h7, e⟩ | ⟨code, j, h7, hj, hc, hb, e⟩ := encUInt_shape n
  · have := LeafVal.posfix (env := env) (UInt8.ofNat n) (by rw [ofNat_toNat n (by omega)]; exact h7)
    rwa [ofNat_toNat n (by omega), ← normInt_small n h7, ← e] at this
  · have := LeafVal.uint (env := env) code (beN (2^j) n) (by omega) (by omega)
      (by rw [beN_length, hc, Nat.add_sub_cancel_left])
    rwa [beNat_beN, Nat.mod_eq_of_lt (hb h), ← normInt_big n (by omega), ← e] at this

theorem leafVal_encInt {env : Env} (v : Int) (h1 : -2^63 ≤ v) (h2 : v < 2^64) :
    LeafVal env (encInt v) (.num (normInt v)) := by
  obtain ⟨h0, e⟩ | ⟨h0, h5, e⟩ | ⟨code, j, h5, hj, hc, hb, e⟩ := encInt_shape v
  · have := leafVal_encUInt (env := env) v.toNat (by omega)
    rwa [Int.toNat_of_nonneg (by omega), ← e] at this
  · have hn : normInt v = .sint v := if_neg (by omega)
    have hc := ofNat_toNat ((v + 256).toNat % 256) (by omega)
    rw [e, hn]
    by_cases hz : v = 0
    · have := LeafVal.posfix (env := env) (UInt8.ofNat ((v + 256).toNat % 256)) (by rw [hc]; omega)
      rwa [hc, show (((v + 256).toNat % 256 : Nat) : Int) = v by omega] at this
    · have := LeafVal.negfix (env := env) (UInt8.ofNat ((v + 256).toNat % 256)) (by rw [hc]; omega)
      rwa [hc, show (((v + 256).toNat % 256 : Nat) : Int) - 256 = v by omega] at this
  · have := LeafVal.sint (env := env) code (beN (2^j) (v + (2:Int)^(8 * 2^j)).toNat) (by omega) (by omega)
      (by rw [beN_length, hc, Nat.add_sub_cancel_left])
    rwa [twos_beN _ (Nat.two_pow_pos j) v (hb h1) (by omega), ← show normInt v = .sint v from if_neg (by omega), ← e] at this

/-! ## back to the syntactic predicates -/

theorem LeafVal.leafEnc {env : Env} {e : List Byte} {v : Val} (h : LeafVal env e v) : LeafEnc env e := by
  cases h with
  | posfix c hc => exact .posfix c hc
  | negfix c hc => exact .negfix c hc
  | nil => exact .nil
  | bool b => exact .bool b
  | uint code bs h1 h2 h3 =>
    refine .int code bs h1 (by omega) ?_
    rw [show (code.toNat - 0xcc) % 4 = code.toNat - 0xcc by omega]; exact h3
  | sint code bs h1 h2 h3 =>
    refine .int code bs (by omega) h2 ?_
    rw [show (code.toNat - 0xcc) % 4 = code.toNat - 0xd0 by omega]; exact h3
  | f32 bs h1 => exact .f32 bs h1
  | f64 bs h1 => exact .f64 bs h1
  | fixstr c s h1 h2 h3 => exact .fixstr c s h1 h2 h3
  | str8 hb s h1 h2 h3 => exact .str8 hb s h1 h2 h3
  | str16 hb s h1 h2 h3 => exact .str16 hb s h1 h2 h3
  | str32 hb s h1 h2 h3 => exact .str32 hb s h1 h2 h3
  | bin code j hb s h1 h2 h3 h4 h5 => exact .bin code j hb s h1 h2 h3 h4 h5
  | ext code j hb pl h1 h2 h3 h4 h5 => exact .ext code j hb pl h1 h2 h3 h4 h5
  | fixext code j pl h1 h2 h3 h4 => exact .fixext code j pl h1 h2 h3 h4

theorem LeafEnc.hasVal {env : Env} {e : List Byte} (h : LeafEnc env e) : ∃ v, LeafVal env e v := by
  cases h with
  | posfix c hc => exact ⟨_, .posfix c hc⟩
  | negfix c hc => exact ⟨_, .negfix c hc⟩
  | nil => exact ⟨_, .nil⟩
  | bool b => exact ⟨_, .bool b⟩
  | int code bs h1 h2 h3 =>
    by_cases hs : code.toNat ≤ 0xcf
    · refine ⟨_, .uint code bs h1 hs ?_⟩
      rw [show (code.toNat - 0xcc) % 4 = code.toNat - 0xcc by omega] at h3; exact h3
    · refine ⟨_, .sint code bs (by omega) h2 ?_⟩
      rw [show (code.toNat - 0xcc) % 4 = code.toNat - 0xd0 by omega] at h3; exact h3
  | f32 bs h1 => exact ⟨_, .f32 bs h1⟩
  | f64 bs h1 => exact ⟨_, .f64 bs h1⟩
  | fixstr c s h1 h2 h3 => exact ⟨_, .fixstr c s h1 h2 h3⟩
  | str8 hb s h1 h2 h3 => exact ⟨_, .str8 hb s h1 h2 h3⟩
  | str16 hb s h1 h2 h3 => exact ⟨_, .str16 hb s h1 h2 h3⟩
  | str32 hb s h1 h2 h3 => exact ⟨_, .str32 hb s h1 h2 h3⟩
  | bin code j hb s h1 h2 h3 h4 h5 => exact ⟨_, .bin code j hb s h1 h2 h3 h4 h5⟩
  | ext code j hb pl h1 h2 h3 h4 h5 => exact ⟨_, .ext code j hb pl h1 h2 h3 h4 h5⟩
  | fixext code j pl h1 h2 h3 h4 => exact ⟨_, .fixext code j pl h1 h2 h3 h4⟩

theorem KeyVal.keyEnc {env : Env} {kb k : List Byte} (h : KeyVal env kb k) : KeyEnc env kb := by
  cases h with
  | fix c k h1 h2 h3 => exact .fix c k h1 h2 h3
  | sized code j hb k h1 h2 h3 h4 h5 => exact .sized code j hb k h1 h2 h3 h4 h5

theorem KeyEnc.hasVal {env : Env} {kb : List Byte} (h : KeyEnc env kb) : ∃ k, KeyVal env kb k := by
  cases h with
  | fix c k h1 h2 h3 => exact ⟨k, .fix c k h1 h2 h3⟩
  | sized code j hb k h1 h2 h3 h4 h5 => exact ⟨k, .sized code j hb k h1 h2 h3 h4 h5⟩

theorem EncVal.enc {env : Env} {d : Nat} {e : List Byte} {v : Val} (h : EncVal env d e v) : Enc env d e := by
  induction h with
  | leaf hl => exact .leaf hl.leafEnc
  | @arr d hdr evs hh _ ih =>
    refine Enc.arr hdr (evs.map (fun ev => ev.1)) (by rw [List.length_map]; exact hh) ?_
    intro e he
    obtain ⟨ev, hev, rfl⟩ := List.mem_map.mp he
    exact ih ev hev
  | @map d hdr ms hh hks _ ih =>
    have := Enc.map (env := env) (d := d) hdr (ms.map (fun m => (m.1, m.2.2.1))) (by rw [List.length_map]; exact hh)
      (by
        intro kv hkv
        obtain ⟨m, hm, rfl⟩ := List.mem_map.mp hkv
        exact (hks m hm).keyEnc)
      (by
        intro kv hkv
        obtain ⟨m, hm, rfl⟩ := List.mem_map.mp hkv
        exact ih m hm)
    rw [List.map_map] at this
    exact this

/-- choice along a list -/
theorem exists_list_of_forall {α β : Type} {P : α → β → Prop} : ∀ (l : List α), (∀ a ∈ l, ∃ b, P a b) →
    ∃ ps : List (α × β), ps.map (fun p => p.1) = l ∧ ∀ p ∈ ps, P p.1 p.2
  | [], _ => ⟨[], rfl, fun _ h => nomatch h⟩
  | a :: r, h => by
    obtain ⟨b, hb⟩ := h a (List.mem_cons_self ..)
    obtain ⟨ps, h1, h2⟩ := exists_list_of_forall r (fun a' h' => h a' (List.mem_cons_of_mem _ h'))
    refine ⟨(a, b) :: ps, by simp only [List.map_cons, h1], ?_⟩
    intro p hp
    rcases List.mem_cons.mp hp with rfl | hp
    · exact hb
    · exact h2 p hp

theorem Enc.hasVal {env : Env} {d : Nat} {e : List Byte} (h : Enc env d e) : ∃ v, EncVal env d e v := by
  induction h with
  | leaf hl => obtain ⟨v, hv⟩ := hl.hasVal; exact ⟨v, .leaf hv⟩
  | @arr d hdr es hh _ ih =>
    obtain ⟨evs, h1, h2⟩ := exists_list_of_forall (P := fun e v => EncVal env d e v) es ih
    subst h1
    rw [List.length_map] at hh
    exact ⟨_, .arr hdr evs hh h2⟩
  | @map d hdr kvs hh hks _ ih =>
    obtain ⟨ms, h1, h2⟩ := exists_list_of_forall
      (P := fun (kv : List Byte × List Byte) (kv' : List Byte × Val) => KeyVal env kv.1 kv'.1 ∧ EncVal env d kv.2 kv'.2) kvs
      (by
        intro kv hkv
        obtain ⟨k, hk⟩ := (hks kv hkv).hasVal
        obtain ⟨v, hv⟩ := ih kv hkv
        exact ⟨(k, v), hk, hv⟩)
    subst h1
    rw [List.length_map] at hh
    have := EncVal.map (env := env) (d := d) hdr (ms.map (fun p => (p.1.1, p.2.1, p.1.2, p.2.2)))
      (by rw [List.length_map]; exact hh)
      (by
        intro m hm
        obtain ⟨p, hp, rfl⟩ := List.mem_map.mp hm
        exact (h2 p hp).1)
      (by
        intro m hm
        obtain ⟨p, hp, rfl⟩ := List.mem_map.mp hm
        exact (h2 p hp).2)
    rw [List.map_map, List.map_map] at this
    exact ⟨_, by rw [List.map_map]; exact this⟩

/-! ## the reader computes the value -/

/-- the reader on a string in any legal width -/
theorem key_value {env : Env} {kb k : List Byte} (h : KeyVal env kb k) (fuel limit : Nat) (rest : List Byte) (p : Nat) :
    parseVariant env (fuel+1) limit .all true ⟨kb ++ rest, p⟩ = (.ok, .str k, ⟨rest, p + kb.length⟩, true) := by
  cases h with
  | fix c k h1 h2 h3 =>
    have hp : p + (c :: k).length = p + 1 + k.length := by simp only [List.length_cons]; omega
    rw [hp, List.cons_append]
    exact pv_fixstr env fuel limit rest p c k h1 h2 h3
  | sized code j hb k h1 h2 h3 h4 h5 =>
    have hp : p + (code :: (hb ++ k)).length = p + 1 + 2^j + k.length := by
      simp only [List.length_cons, List.length_append, h3]; omega
    rw [hp, List.cons_append, List.append_assoc]
    exact pv_str_sized env fuel limit rest p code j h1 h2 hb k h3 h4 h5

theorem leaf_value {env : Env} {e : List Byte} {v : Val} (h : LeafVal env e v) (fuel limit : Nat) (rest : List Byte)
    (p : Nat) :
    parseVariant env (fuel+1) limit .all true ⟨e ++ rest, p⟩ = (.ok, v, ⟨rest, p + e.length⟩, true) := by
  cases h with
  | posfix c hc => exact pv_posfix env fuel limit rest p c hc
  | negfix c hc => exact pv_negfix env fuel limit rest p c hc
  | nil => exact pv_null env fuel limit rest p
  | bool b => exact pv_bool env fuel limit rest p b
  | uint code bs h1 h2 h3 =>
    have hp : p + (code :: bs).length = p + 1 + bs.length := by simp only [List.length_cons]; omega
    rw [hp, List.cons_append, ← readInteger_unsigned]
    refine pv_int env fuel limit rest p code _ rfl false bs h1 (by omega) (dF (by omega)).symm ?_
    rw [show (code.toNat - 0xcc) % 4 = code.toNat - 0xcc by omega]; exact h3
  | sint code bs h1 h2 h3 =>
    have hp : p + (code :: bs).length = p + 1 + bs.length := by simp only [List.length_cons]; omega
    rw [hp, List.cons_append, ← readInteger_signed]
    refine pv_int env fuel limit rest p code _ rfl true bs (by omega) h2 (dT (by omega)).symm ?_
    rw [show (code.toNat - 0xcc) % 4 = code.toNat - 0xd0 by omega]; exact h3
  | f32 bs h1 =>
    have hp : p + (0xCA :: bs).length = p + 5 := by simp only [List.length_cons, h1]
    rw [hp, List.cons_append]
    exact pv_f32 env fuel limit rest p bs h1
  | f64 bs h1 =>
    have hp : p + (0xCB :: bs).length = p + 9 := by simp only [List.length_cons, h1]
    rw [hp, List.cons_append]
    exact pv_f64 env fuel limit rest p bs h1
  | fixstr c s h1 h2 h3 => exact key_value (LeafVal.fixstr c s h1 h2 h3).str_keyVal fuel limit rest p
  | str8 hb s h1 h2 h3 => exact key_value (LeafVal.str8 hb s h1 h2 h3).str_keyVal fuel limit rest p
  | str16 hb s h1 h2 h3 => exact key_value (LeafVal.str16 hb s h1 h2 h3).str_keyVal fuel limit rest p
  | str32 hb s h1 h2 h3 => exact key_value (LeafVal.str32 hb s h1 h2 h3).str_keyVal fuel limit rest p
  | bin code j hb s h1 h2 h3 h4 h5 =>
    have hp : p + (code :: (hb ++ s)).length = p + 1 + 2^j + s.length := by
      simp only [List.length_cons, List.length_append, h3]; omega
    rw [hp, List.cons_append, List.append_assoc]
    exact pv_bin env fuel limit rest p code j h1 h2 hb s h3 h4 h5
  | ext code j hb pl h1 h2 h3 h4 h5 =>
    have hp : p + (code :: (hb ++ pl)).length = p + 1 + 2^j + pl.length := by
      simp only [List.length_cons, List.length_append, h3]; omega
    rw [hp, List.cons_append, List.append_assoc]
    exact pv_ext env fuel limit rest p code j h1 h2 hb pl h3 h4 h5
  | fixext code j pl h1 h2 h3 h4 =>
    have hp : p + (code :: pl).length = p + 1 + pl.length := by simp only [List.length_cons]; omega
    rw [hp, List.cons_append]
    exact pv_fixext env fuel limit rest p code j h1 h2 pl h3 h4

/-! the reader on an integer and on a string written by the serializer -/
section written
variable (env : Env) (fuel limit : Nat) (rest : List Byte) (p : Nat)

theorem pv_encUInt (n : Nat) (h : n < 2^64) :
    parseVariant env (fuel+1) limit .all true ⟨encUInt n ++ rest, p⟩
      = (.ok, .num (normInt n), ⟨rest, p + (encUInt n).length⟩, true) :=
  leaf_value (leafVal_encUInt n h) fuel limit rest p

theorem pv_encInt (v : Int) (h1 : -2^63 ≤ v) (h2 : v < 2^64) :
    parseVariant env (fuel+1) limit .all true ⟨encInt v ++ rest, p⟩
      = (.ok, .num (normInt v), ⟨rest, p + (encInt v).length⟩, true) :=
  leaf_value (leafVal_encInt v h1 h2) fuel limit rest p

theorem pv_str (s : List Byte) (hm : s.length ≤ env.maxStrLen) (h32 : s.length < 2^32) :
    parseVariant env (fuel+1) limit .all true ⟨(strHdr s.length ++ s) ++ rest, p⟩
      = (.ok, .str s, ⟨rest, p + (strHdr s.length ++ s).length⟩, true) :=
  leaf_value (leafVal_str s hm h32) fuel limit rest p

end written

/-- reading a key in any legal width: the key string is the one of `KeyVal` -/
theorem ro_key_val {env : Env} {kb k : List Byte} (hk : KeyVal env kb k) (fuel limit p n : Nat) (t : List Byte)
    (ms : List (List Byte × Val)) (v : Val) (r' : R) (b : Bool)
    (h : parseVariant env fuel limit .all true ⟨t, p + kb.length⟩ = (.ok, v, r', b)) :
    readObject env (fuel+1) limit .all true (n+1) ⟨kb ++ t, p⟩ ms
      = readObject env fuel limit .all true n r' (ms ++ [(k, v)]) := by
  cases hk with
  | fix c k h1 h2 h3 =>
    rw [List.length_cons, Nat.add_comm k.length, ← Nat.add_assoc] at h
    rw [List.cons_append, ro_key_fix_eq env fuel limit p .all true n c k t ms h1 h2 h3, roVal_ok limit h]
    rfl
  | sized code j hb k h1 h2 h3 h4 h5 =>
    rw [List.length_cons, List.length_append, h3, Nat.add_comm _ 1, ← Nat.add_assoc, ← Nat.add_assoc] at h
    rw [List.cons_append, List.append_assoc,
      ro_key_sized_eq env fuel limit p .all true n code j h1 h2 hb k t ms h3 h4 h5, roVal_ok limit h]
    rfl

/-- a member written by the serializer -/
theorem ro_succ (env : Env) (fuel limit p n : Nat) (k t : List Byte) (ms : List (List Byte × Val)) (v : Val) (r' : R)
    (b : Bool) (hm : k.length ≤ env.maxStrLen) (h32 : k.length < 2^32)
    (h : parseVariant env fuel limit .all true ⟨t, p + (strHdr k.length ++ k).length⟩ = (.ok, v, r', b)) :
    readObject env (fuel+1) limit .all true (n+1) ⟨(strHdr k.length ++ k) ++ t, p⟩ ms
      = readObject env fuel limit .all true n r' (ms ++ [(k, v)]) :=
  ro_key_val (keyVal_str k hm h32) fuel limit p n t ms v r' b h

theorem encVal_nonempty {env : Env} {d : Nat} {e : List Byte} {v : Val} (h : EncVal env d e v) : 1 ≤ e.length :=
  enc_nonempty h.enc

/-- the statement about one encoding: the reader answers Ok with exactly this value, exactly `e` consumed -/
def Valued (env : Env) (d : Nat) (e : List Byte) (v : Val) : Prop :=
  ∀ fuel limit rest p, d ≤ limit → 2 * e.length ≤ fuel →
    parseVariant env fuel limit .all true ⟨e ++ rest, p⟩ = (.ok, v, ⟨rest, p + e.length⟩, true)

theorem ra_all_val (env : Env) (d l : Nat) (hdl : d ≤ l) (rest : List Byte) : ∀ (evs : List (List Byte × Val)),
    (∀ ev ∈ evs, 1 ≤ ev.1.length ∧ Valued env d ev.1 ev.2) → ∀ (g q : Nat) (acc : List Val),
    2 * (evs.map (fun ev => ev.1)).flatten.length + 1 ≤ g →
    readArray env g l .all true evs.length ⟨(evs.map (fun ev => ev.1)).flatten ++ rest, q⟩ acc
      = (.ok, acc.reverse ++ evs.map (fun ev => ev.2), ⟨rest, q + (evs.map (fun ev => ev.1)).flatten.length⟩) := by
  intro evs
  induction evs with
  | nil =>
    intro _ g q acc hg
    obtain ⟨g', rfl⟩ : ∃ g', g = g' + 1 := ⟨g - 1, by omega⟩
    simpa using ra_zero env g' l ⟨rest, q⟩ acc
  | cons ev r ih =>
    intro hes g q acc hg
    obtain ⟨e, v⟩ := ev
    obtain ⟨he1, heA⟩ := hes (e, v) (List.mem_cons_self ..)
    simp only [List.map_cons, List.flatten_cons, List.length_append] at hg he1 heA
    obtain ⟨g', rfl⟩ : ∃ g', g = g' + 1 := ⟨g - 1, by omega⟩
    have hv := heA g' l ((r.map (fun ev => ev.1)).flatten ++ rest) q hdl (by omega)
    have hvs := ih (fun e' he' => hes e' (List.mem_cons_of_mem _ he')) g' (q + e.length) (v :: acc) (by omega)
    simp only [List.map_cons, List.flatten_cons, List.length_cons, List.append_assoc, List.length_append]
    rw [ra_succ env g' l r.length _ _ acc _ _ hv, hvs, Nat.add_assoc]
    simp only [List.reverse_cons, List.append_assoc, List.singleton_append]

theorem ro_all_val (env : Env) (d l : Nat) (hdl : d ≤ l) (rest : List Byte) :
    ∀ (ms : List (List Byte × List Byte × List Byte × Val)),
    (∀ m ∈ ms, KeyVal env m.1 m.2.1) → (∀ m ∈ ms, 1 ≤ m.2.2.1.length ∧ Valued env d m.2.2.1 m.2.2.2) →
    ∀ (g q : Nat) (acc : List (List Byte × Val)), 2 * (ms.map (fun m => m.1 ++ m.2.2.1)).flatten.length + 1 ≤ g →
    readObject env g l .all true ms.length ⟨(ms.map (fun m => m.1 ++ m.2.2.1)).flatten ++ rest, q⟩ acc
      = (.ok, acc ++ ms.map (fun m => (m.2.1, m.2.2.2)),
          ⟨rest, q + (ms.map (fun m => m.1 ++ m.2.2.1)).flatten.length⟩) := by
  intro ms
  induction ms with
  | nil =>
    intro _ _ g q acc hg
    obtain ⟨g', rfl⟩ : ∃ g', g = g' + 1 := ⟨g - 1, by omega⟩
    simpa using ro_zero env g' l ⟨rest, q⟩ acc
  | cons m r ih =>
    intro hks hvs g q acc hg
    obtain ⟨kb, k, vb, v⟩ := m
    have hk := hks (kb, k, vb, v) (List.mem_cons_self ..)
    obtain ⟨he1, heA⟩ := hvs (kb, k, vb, v) (List.mem_cons_self ..)
    have hk1 := keyEnc_nonempty hk.keyEnc
    simp only [List.map_cons, List.flatten_cons, List.length_append] at hg he1 heA hk hk1
    obtain ⟨g', rfl⟩ : ∃ g', g = g' + 1 := ⟨g - 1, by omega⟩
    have hv := heA g' l ((r.map (fun m => m.1 ++ m.2.2.1)).flatten ++ rest) (q + kb.length) hdl (by omega)
    have hkk := ro_key_val hk g' l q r.length (vb ++ ((r.map (fun m => m.1 ++ m.2.2.1)).flatten ++ rest)) acc v _ _ hv
    have hms := ih (fun m' h' => hks m' (List.mem_cons_of_mem _ h'))
      (fun m' h' => hvs m' (List.mem_cons_of_mem _ h')) g' (q + kb.length + vb.length) (acc ++ [(k, v)]) (by omega)
    simp only [List.map_cons, List.flatten_cons, List.length_cons, List.append_assoc, List.length_append]
    rw [hkk, hms]
    simp only [Nat.add_assoc, List.append_assoc, List.singleton_append]

/-- **the value of an encoding**: the reader model, on `e` followed by anything, answers Ok with exactly the value of
    `EncVal` and stops exactly behind `e` -/
theorem enc_val {env : Env} {d : Nat} {e : List Byte} {v : Val} (h : EncVal env d e v) : Valued env d e v := by
  induction h with
  | @leaf d e v hl =>
    intro fuel limit rest p _ hf
    have := leaf_nonempty hl.leafEnc
    obtain ⟨f', rfl⟩ : ∃ f', fuel = f' + 1 := ⟨fuel - 1, by omega⟩
    exact leaf_value hl f' limit rest p
  | @arr d hdr evs hh hes ih =>
    intro fuel limit rest p hd hf
    have h1 := arrHdr_nonempty hh
    simp only [List.length_append] at hf
    obtain ⟨f', rfl⟩ : ∃ f', fuel = f' + 1 := ⟨fuel - 1, by omega⟩
    obtain ⟨l, rfl⟩ : ∃ l, limit = l + 1 := ⟨limit - 1, by omega⟩
    have hvs := ra_all_val env d l (by omega) rest evs (fun ev he => ⟨encVal_nonempty (hes ev he), ih ev he⟩) f'
      (p + hdr.length) [] (by omega)
    rw [List.append_assoc, arrHdr_accept hh, hvs]
    simp only [arrResult, List.length_append, Nat.add_assoc, List.reverse_nil, List.nil_append]
  | @map d hdr ms hh hks hes ih =>
    intro fuel limit rest p hd hf
    have h1 := mapHdr_nonempty hh
    simp only [List.length_append] at hf
    obtain ⟨f', rfl⟩ : ∃ f', fuel = f' + 1 := ⟨fuel - 1, by omega⟩
    obtain ⟨l, rfl⟩ : ∃ l, limit = l + 1 := ⟨limit - 1, by omega⟩
    have hms := ro_all_val env d l (by omega) rest ms hks (fun m he => ⟨encVal_nonempty (hes m he), ih m he⟩) f'
      (p + hdr.length) [] (by omega)
    rw [List.append_assoc, mapHdr_accept hh, hms]
    simp only [objResult, List.length_append, Nat.add_assoc, List.nil_append]

/-- every well-formed encoding is accepted: Ok, exactly its bytes consumed, whatever follows -/
theorem enc_accept {env : Env} {d : Nat} {e : List Byte} (h : Enc env d e) : Accepted env d e := by
  obtain ⟨v, hv⟩ := h.hasVal
  intro fuel limit rest p hd hf
  exact ⟨v, enc_val hv fuel limit rest p hd hf⟩

/-- the value of an encoding is unique (whatever the depth bounds under which it was derived) -/
theorem encVal_unique {env : Env} {d d' : Nat} {e : List Byte} {v v' : Val} (h : EncVal env d e v)
    (h' : EncVal env d' e v') : v = v' := by
  have a := enc_val h (2 * e.length) (max d d') [] 0 (Nat.le_max_left ..) (Nat.le_refl _)
  have b := enc_val h' (2 * e.length) (max d d') [] 0 (Nat.le_max_right ..) (Nat.le_refl _)
  rw [a] at b
  simp only [Prod.mk.injEq, true_and, and_true] at b
  exact b

end MD
