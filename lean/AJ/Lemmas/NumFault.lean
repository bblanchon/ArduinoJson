/- `parseNumber` never reports `.fault`: the powers-of-ten tables (9 / 9 / 6 / 6 entries) are long enough for every
   exponent that reaches `makeFloat`. -/
import AJ.Lemmas.Digits
namespace JD
open SF Digits

theorem half_lt_pow {e d : Nat} (h0 : e ≠ 0) (he : e < 2 ^ d) : d ≠ 0 ∧ e / 2 < 2 ^ (d - 1) := by
  cases d with
  | zero => exact absurd (Nat.lt_one_iff.mp he) h0
  | succ k => rw [Nat.pow_succ] at he; exact ⟨Nat.succ_ne_zero k, by rw [Nat.add_sub_cancel]; omega⟩

/-- each round of `makeFloat.go` halves the exponent and moves one entry on in the table -/
theorem makeFloat_go_some (f : Fmt) (tbl : List Nat) :
    ∀ (fuel acc e idx : Nat), idx ≤ tbl.length → e < 2 ^ (tbl.length - idx) → makeFloat.go f tbl fuel acc e idx ≠ none := by
  intro fuel
  induction fuel with
  | zero => intro acc e idx _ _; rw [makeFloat.go]; nofun
  | succ n ih =>
    intro acc e idx hi he
    rw [makeFloat.go]
    by_cases h0 : e = 0
    · rw [if_pos h0]; nofun
    · obtain ⟨hd, hhalf⟩ := half_lt_pow h0 he
      rw [← Nat.sub_add_eq] at hhalf
      have hlt : idx < tbl.length := Nat.lt_of_sub_ne_zero hd
      rw [if_neg h0, List.getElem?_eq_getElem hlt]
      exact of_ite (Q := (· ≠ none)) (fun _ => ih _ _ _ (by omega) hhalf) fun _ => ih _ _ _ (by omega) hhalf

theorem makeFloat_some (f : Fmt) (tp tn : List Nat) (m : Nat) (e : Int)
    (hp : e.natAbs < 2 ^ tp.length) (hn : e.natAbs < 2 ^ tn.length) : makeFloat f tp tn m e ≠ none := by
  unfold makeFloat
  simp only
  split
  · exact makeFloat_go_some f tp 64 m e.natAbs 0 (by omega) (by simpa using hp)
  · exact makeFloat_go_some f tn 64 m e.natAbs 0 (by omega) (by simpa using hn)

/-- nine table entries serve every exponent of magnitude below `2^9`; `finish` lets through at most `308 + 17` -/
theorem makeFloat64_ne_none (m : Nat) (e : Int) (h1 : e ≤ Gen.exponent_max64)
    (h2 : -((Gen.exponent_max64 : Int) + 17) ≤ e) : makeFloat b64 pos64 neg64 m e ≠ none := by
  rw [show (Gen.exponent_max64 : Int) = 308 from rfl] at h1 h2
  exact makeFloat_some b64 pos64 neg64 m e (by rw [show pos64.length = 9 from rfl]; omega)
    (by rw [show neg64.length = 9 from rfl]; omega)

/-- six entries serve every exponent of magnitude below `2^6`; the single-precision path is taken up to `38` -/
theorem makeFloat32_ne_none (m : Nat) (e : Int) (h1 : -(Gen.exponent_max32 : Int) ≤ e) (h2 : e ≤ Gen.exponent_max32) :
    makeFloat b32 pos32 neg32 m e ≠ none := by
  rw [show (Gen.exponent_max32 : Int) = 38 from rfl] at h1 h2
  exact makeFloat_some b32 pos32 neg32 m e (by rw [show pos32.length = 6 from rfl]; omega)
    (by rw [show neg32.length = 6 from rfl]; omega)

theorem finish_ne_fault (neg : Bool) (s : List Byte) (mant : Nat) (e : Int) : finish neg s mant e ≠ .fault :=
  finish_cases (Q := (· ≠ .fault)) neg s mant e (fun _ => nofun) (fun _ => nofun) (fun _ => nofun)
    (fun h1 h2 hm => absurd hm (makeFloat64_ne_none _ e h1 h2)) (fun h1 h2 hm => absurd hm (makeFloat32_ne_none _ e h1 h2))

theorem core_ne_fault (cfg : Cfg) (neg : Bool) (s : List Byte) : core cfg neg s ≠ .fault :=
  core_cases (Q := (· ≠ .fault)) cfg neg s nofun nofun nofun fun _ mant rest _ =>
    stage1_cases (Q := (· ≠ .fault)) neg mant rest (fun _ _ => nofun) (fun _ _ _ => nofun) (finish_ne_fault neg)

theorem parseNumber_ne_fault (cfg : Cfg) (s : List Byte) : parseNumber cfg s ≠ .fault :=
  parseNumber_sign (Q := (· ≠ .fault)) cfg s (fun r _ => core_ne_fault cfg true r) (fun r _ => core_ne_fault cfg false r)
    (core_ne_fault cfg false s)
end JD
