/- The invariant of AJ/Lemmas/JddOps.lean (`JDD.Built`) pushed through the FILTERED slot-level MessagePack deserializer
   `MDDF.parseVariant / readArray / readObject` (AJ/Model/MDDF.lean), for every filter and every destination
   (`Option Loc`: `none` is the C++ null pointer), and through `MDDF.run`: for every input, every filter and every allocator
   failure schedule the document stays well-formed, the ledger balances, and `NoMemory` is reported exactly when the overflow
   flag was raised.
   With a destination (`some l`) the statement is the one of the unfiltered twin (`MDD.MRes`, AJ/Lemmas/MddLeaf.lean); without
   one (`none`) the document only sees the allocator traffic of the StringBuffer (`NRes`: `PlEq` + the accounting `Fx`),
   which every key goes through - also the keys of skipped members and of members of skipped objects.
   The induction starts from the one-step equations of AJ/Lemmas/MddStep.lean; the leaves with a destination are the ones of
   `MDD`, so every operation-level lemma is reused.
   Used by AJ/Props/C03FMpDoc.lean, AJ/Props/C05FMpDeser.lean, AJ/Props/C11MpSlot.lean. -/
import AJ.Lemmas.MddLeaf
namespace MDDF
open DL
open JD (Byte Code Flt)
open JDD (PlEq LBd Fx Blk AllB SaveOp nl Ctx Built isNum)
open MDD (S reserve save readString store fin ROp MRes J)

/-! ## The result of a parsing routine -/

/-- result `(c, x')` of a routine started in `x` WITHOUT a destination: the document only saw the allocator traffic of the
    StringBuffer (`PlEq`), with the accounting of AJ/Lemmas/JddRes.lean; any code but NoMemory leaves the flag alone -/
structure NRes (x : S) (c : Code) (x' : S) : Prop where
  pleq : PlEq x.d x'.d
  fx : Fx x.d x.b x'.d x'.b c
  quiet : c ≠ .noMemory → x'.d.overflowed = x.d.overflowed

/-- the reader moved, nothing else -/
theorem NRes.same {x x' : S} {c : Code} (hd : x'.d = x.d) (hb : x'.b = x.b) (hc : c ≠ .noMemory) : NRes x c x' := by
  refine ⟨by rw [hd]; exact PlEq.refl _, ?_, fun _ => by rw [hd]⟩
  rw [hd, hb]; exact (Fx.refl _ _).code hc

theorem NRes.of_eq {x x'' x' : S} {c : Code} (hd : x''.d = x.d) (hb : x''.b = x.b) (h : NRes x'' c x') : NRes x c x' :=
  ⟨by rw [← hd]; exact h.pleq, by rw [← hd, ← hb]; exact h.fx, fun hc => by rw [← hd]; exact h.quiet hc⟩

theorem NRes.step {x x1 x' : S} {c : Code} (h1 : NRes x .ok x1) (h2 : NRes x1 c x') : NRes x c x' :=
  ⟨h1.pleq.trans h2.pleq, h1.fx.trans h2.fx, fun hc => (h2.quiet hc).trans (h1.fx.ok rfl)⟩

/-- seen from an enclosing parse: what was built is still there -/
theorem NRes.lift {d0 : Doc} {F : Forest} {l : Loc} {x x' : S} {s : Forest} {c : Code} (B : Built d0 F l x.d s)
    (h : NRes x c x') : MRes d0 F l x c x' := ⟨⟨s, B.pleq h.pleq⟩, h.fx, h.quiet⟩

/-- result for a value parsed into the destination `dst` (empty), or skipped -/
def VRes (dst : Option Loc) (x : S) (c : Code) (x' : S) : Prop :=
  match dst with
  | some l => ∀ (d0 : Doc) (F : Forest), Ctx d0 F l → Built d0 F l x.d .nil → x.d.get l = .null → MRes d0 F l x c x'
  | none => NRes x c x'

/-- result for the elements appended to the array being built at `arr`, or skipped -/
def ARes (arr : Option Loc) (x : S) (c : Code) (x' : S) : Prop :=
  match arr with
  | some l => ∀ (d0 : Doc) (F s : Forest) (h t : Nat), Ctx d0 F l → Built d0 F l x.d s → x.d.get l = .arr h t →
      MRes d0 F l x c x'
  | none => NRes x c x'

/-- result for the members appended to the object being built at `obj`, or skipped -/
def ORes (obj : Option Loc) (x : S) (c : Code) (x' : S) : Prop :=
  match obj with
  | some l => ∀ (d0 : Doc) (F s : Forest) (h t : Nat), Ctx d0 F l → Built d0 F l x.d s → x.d.get l = .obj h t →
      MRes d0 F l x c x'
  | none => NRes x c x'

theorem VRes.same {dst : Option Loc} {x x' : S} {c : Code} (hd : x'.d = x.d) (hb : x'.b = x.b) (hc : c ≠ .noMemory) :
    VRes dst x c x' := by
  cases dst with
  | none => exact NRes.same hd hb hc
  | some l => exact fun d0 F _ B _ => (NRes.same hd hb hc).lift B

theorem VRes.of_eq {dst : Option Loc} {x x'' x' : S} {c : Code} (hd : x''.d = x.d) (hb : x''.b = x.b)
    (h : VRes dst x'' c x') : VRes dst x c x' := by
  cases dst with
  | none => exact NRes.of_eq hd hb h
  | some l =>
    exact fun d0 F C B hn => MRes.of_eq hd hb (h d0 F C (by rw [hd]; exact B) (by rw [hd]; exact hn))

/-- a value the filter does not let through is skipped whatever the destination -/
theorem VRes.of_none {dst : Option Loc} {x x' : S} {c : Code} (h : NRes x c x') : VRes dst x c x' := by
  cases dst with
  | none => exact h
  | some l => exact fun d0 F _ B _ => h.lift B

theorem VRes.gate {b : Bool} {dst : Option Loc} {x x' : S} {c : Code} (h : VRes (gate b dst) x c x') : VRes dst x c x' := by
  cases b with
  | true => exact h
  | false => exact VRes.of_none h

/-! ## The leaves -/

theorem skipN_d (x : S) (n : Nat) : (skipN x n).2.d = x.d := by unfold skipN; split <;> rfl
theorem skipN_b (x : S) (n : Nat) : (skipN x n).2.b = x.b := by unfold skipN; split <;> rfl
theorem skipN_code (x : S) (n : Nat) : (skipN x n).1 ≠ .noMemory := by unfold skipN; split <;> simp

theorem skipN_res (x : S) (n : Nat) : NRes x (fin (skipN x n)).1 (fin (skipN x n)).2.1 :=
  NRes.same (skipN_d x n) (skipN_b x n) (skipN_code x n)

theorem leafInt_res (av : Option Loc) (x : S) (w c : Nat) : VRes av x (leafInt av w c x).1 (leafInt av w c x).2.1 := by
  cases av with
  | none => exact skipN_res x w
  | some l => exact fun d0 F C B hn => MDD.leafInt_res C B hn w c

theorem leafSet_res (av : Option Loc) (x : S) (v : VData) (hv : ¬ isColl v) (hve : extOfV v = []) (hvs : strOfV v = []) :
    VRes av x (leafSet av v x).1 (leafSet av v x).2.1 := by
  cases av with
  | none => exact NRes.same rfl rfl (by simp [leafSet, fin])
  | some l =>
    exact fun d0 F C B hn => MRes.silent (B.set_plain C hn (v := v) hv hve hvs) (Fx.set _ _ _ _) (by simp [leafSet, fin])

theorem leafF32_res (av : Option Loc) (x : S) : VRes av x (leafF32 av x).1 (leafF32 av x).2.1 := by
  cases av with
  | none => exact skipN_res x 4
  | some l => exact fun d0 F C B hn => MDD.leafF32_res C B hn

theorem leafF64_res (av : Option Loc) (x : S) : VRes av x (leafF64 av x).1 (leafF64 av x).2.1 := by
  cases av with
  | none => exact skipN_res x 8
  | some l => exact fun d0 F C B hn => MDD.leafF64_res C B hn

theorem leafStr_res (env : MD.Env) (av : Option Loc) (size : Nat) (x : S) :
    VRes av x (leafStr env av size x).1 (leafStr env av size x).2.1 := by
  cases av with
  | none => exact skipN_res x size
  | some l => exact fun d0 F C B hn => MDD.leafStr_res env C B hn size

theorem leafBin_res (env : MD.Env) (av : Option Loc) (code : Byte) (sb : Nat) (ie : Bool) (hb : List Byte) (size : Nat)
    (x : S) : VRes av x (leafBin env av code sb ie hb size x).1 (leafBin env av code sb ie hb size x).2.1 := by
  cases av with
  | none => exact skipN_res x _
  | some l => exact fun d0 F C B hn => MDD.leafBin_res env C B hn code sb ie hb size

/-- `readString(n)` without looking at the destination: only the StringBuffer's allocator traffic -/
theorem readString_res (env : MD.Env) (x : S) (n : Nat) :
    NRes x (readString env x n).1 (readString env x n).2.2 ∧
    ((readString env x n).1 = .ok → (readString env x n).2.2.b.isSome = true) := by
  obtain ⟨hpl, fx1, hb1, q1, _⟩ := MDD.mp_readString_spec env x n
  exact ⟨⟨hpl, fx1, q1⟩, hb1⟩

/-! ## The statements, by fuel -/

def PVs (env : MD.Env) (fuel : Nat) : Prop := ∀ (limit : Nat) (flt : Flt) (dst : Option Loc) (x : S),
  VRes dst x (parseVariant env fuel limit flt dst x).1 (parseVariant env fuel limit flt dst x).2.1

def PAs (env : MD.Env) (fuel : Nat) : Prop := ∀ (limit : Nat) (ef : Flt) (arr : Option Loc) (n : Nat) (x : S),
  ARes arr x (readArray env fuel limit ef arr n x).1 (readArray env fuel limit ef arr n x).2

def POs (env : MD.Env) (fuel : Nat) : Prop := ∀ (limit : Nat) (flt : Flt) (obj : Option Loc) (n : Nat) (x : S),
  ORes obj x (readObject env fuel limit flt obj n x).1 (readObject env fuel limit flt obj n x).2

theorem leafArr_res {env : MD.Env} {f : Nat} (ihA : PAs env f) (limit : Nat) (flt : Flt) (dst : Option Loc) (size : Nat)
    (x : S) : VRes dst x (leafArr env f limit flt dst size x).1 (leafArr env f limit flt dst size x).2.1 := by
  unfold leafArr
  cases limit with
  | zero => exact VRes.same rfl rfl (by simp [fin])
  | succ limit' =>
    cases dst with
    | none =>
      simp only [gate_none]
      exact ihA limit' flt.subIdx none size x
    | some l =>
      cases hb : flt.allowArray with
      | false =>
        simp only [gate_false]
        exact VRes.of_none (ihA limit' flt.subIdx none size x)
      | true =>
        simp only [gate_true]
        intro d0 F C B hn
        have B' : Built d0 F l (x.d.set l (.arr x.d.null x.d.null)) .nil := B.set_coll C hn false
        exact MRes.step (x1 := { x with d := x.d.set l (.arr x.d.null x.d.null) }) (Fx.set _ _ _ _)
          (ihA limit' flt.subIdx (some l) size _ d0 F .nil _ _ C B' (get_set_self _ _ _))

theorem leafMap_res {env : MD.Env} {f : Nat} (ihO : POs env f) (limit : Nat) (flt : Flt) (dst : Option Loc) (size : Nat)
    (x : S) : VRes dst x (leafMap env f limit flt dst size x).1 (leafMap env f limit flt dst size x).2.1 := by
  unfold leafMap
  cases limit with
  | zero => exact VRes.same rfl rfl (by simp [fin])
  | succ limit' =>
    cases dst with
    | none =>
      simp only [gate_none]
      exact ihO limit' flt none size x
    | some l =>
      cases hb : flt.allowObject with
      | false =>
        simp only [gate_false]
        exact VRes.of_none (ihO limit' flt none size x)
      | true =>
        simp only [gate_true]
        intro d0 F C B hn
        have B' : Built d0 F l (x.d.set l (.obj x.d.null x.d.null)) .nil := B.set_coll C hn true
        exact MRes.step (x1 := { x with d := x.d.set l (.obj x.d.null x.d.null) }) (Fx.set _ _ _ _)
          (ihO limit' flt (some l) size _ d0 F .nil _ _ C B' (get_set_self _ _ _))

/-- parsing into the fresh slot `v` of the collection being built at `l` -/
theorem sub_parse {env : MD.Env} {f : Nat} (ihV : PVs env f) {d0 : Doc} {F : Forest} {l : Loc} {x : S} {s : Forest}
    {v : Nat} (limit : Nat) (flt : Flt) (C : Ctx d0 F l) (B : Built d0 F l x.d s) (hv : v ∈ s.locs)
    (hn : x.d.get (.slot v) = .null) :
    (∃ s', Built d0 F l (parseVariant env f limit flt (some (.slot v)) x).2.1.d s') ∧
    (parseVariant env f limit flt (some (.slot v)) x).2.1.d.get l = x.d.get l ∧
    Fx x.d x.b (parseVariant env f limit flt (some (.slot v)) x).2.1.d (parseVariant env f limit flt (some (.slot v)) x).2.1.b
      (parseVariant env f limit flt (some (.slot v)) x).1 ∧
    ((parseVariant env f limit flt (some (.slot v)) x).1 ≠ .noMemory →
      (parseVariant env f limit flt (some (.slot v)) x).2.1.d.overflowed = x.d.overflowed) := by
  have C1 := B.ctx_in C hv hn
  have R := ihV limit flt (some (.slot v)) x x.d (replaceAt F l s) C1 (JDD.built_start B.wf B.str C1) hn
  obtain ⟨s2, B2⟩ := R.built
  obtain ⟨a, b⟩ := B.nest C hv B2
  exact ⟨⟨_, a⟩, b, R.fx, R.quiet⟩

/-! ## The slot of the next element / member -/

theorem elemSlot_none (x : S) : elemSlot none x = (some none, x) := rfl

/-- `addElement` on the array being built at `l` -/
theorem elemSlot_some {d0 : Doc} {F : Forest} {l : Loc} {x : S} {s : Forest} {h t : Nat} (C : Ctx d0 F l)
    (B : Built d0 F l x.d s) (hv : x.d.get l = .arr h t) :
    ((elemSlot (some l) x).1 = none →
      Built d0 F l (elemSlot (some l) x).2.d s ∧
      Fx x.d x.b (elemSlot (some l) x).2.d (elemSlot (some l) x).2.b .noMemory) ∧
    (∀ dst, (elemSlot (some l) x).1 = some dst →
      ∃ id, dst = some (.slot id) ∧ Built d0 F l (elemSlot (some l) x).2.d (s.snoc none id) ∧
        id ∈ (s.snoc none id).locs ∧ (elemSlot (some l) x).2.d.get (.slot id) = .null ∧
        (∃ h', (elemSlot (some l) x).2.d.get l = .arr h' id) ∧
        Fx x.d x.b (elemSlot (some l) x).2.d (elemSlot (some l) x).2.b .ok) := by
  simp only [elemSlot]
  generalize heq : x.d.addElement l = r
  obtain ⟨o, d1⟩ := r
  cases o with
  | none =>
    obtain ⟨b1, ho, hnl⟩ := B.addElement_none C heq
    exact ⟨fun _ => ⟨b1, Fx.doc_fail _ hnl ho⟩, fun dst hh => by cases hh⟩
  | some id =>
    obtain ⟨B1, hgn, hgl, hov, hnl, _, _, hbk, _⟩ := B.addElement_some C hv heq
    refine ⟨(fun hh => by cases hh), fun dst hh => ?_⟩
    simp only [Option.some.injEq] at hh
    exact ⟨id, hh.symm, B1, by rw [Forest.locs_snoc]; simp, hgn, hgl, Fx.doc _ hnl hov hbk⟩

theorem memSlot_none (x : S) (key : List Byte) : memSlot none x key = (some none, x) := rfl

/-- `save` of the key in the buffer, then `addMember(StringNode*)` on the object being built at `l` -/
theorem memSlot_some {d0 : Doc} {F : Forest} {l : Loc} {x : S} {s : Forest} {h t : Nat} (C : Ctx d0 F l)
    (B : Built d0 F l x.d s) (hv : x.d.get l = .obj h t) (hb : x.b.isSome = true) (key : List Byte) :
    ((memSlot (some l) x key).1 = none →
      Built d0 F l (memSlot (some l) x key).2.d s ∧
      Fx x.d x.b (memSlot (some l) x key).2.d (memSlot (some l) x key).2.b .noMemory) ∧
    (∀ dst, (memSlot (some l) x key).1 = some dst →
      ∃ k v, dst = some (.slot v) ∧ Built d0 F l (memSlot (some l) x key).2.d (s.snoc (some k) v) ∧
        v ∈ (s.snoc (some k) v).locs ∧ (memSlot (some l) x key).2.d.get (.slot v) = .null ∧
        (∃ h', (memSlot (some l) x key).2.d.get l = .obj h' v) ∧
        Fx x.d x.b (memSlot (some l) x key).2.d (memSlot (some l) x key).2.b .ok) := by
  simp only [memSlot]
  have sv := MDD.mp_save_spec x key
  obtain ⟨B', hp, hget⟩ := B.save (x := J x) C sv
  have fxs : Fx x.d x.b (save x key).2.d (save x key).2.b .ok := Fx.save sv hb
  generalize save x key = sr at B' hp hget fxs
  obtain ⟨node, x2⟩ := sr
  simp only [MDD.J_d] at B' hp hget fxs ⊢
  have hv2 : x2.d.get l = .obj h t := (hget l).trans hv
  obtain ⟨m1, m2, m3, m4⟩ := B'.addMemberNode C hp hv2
  generalize JDD.addMemberNode x2.d l node = r at m1 m2 m3 m4
  obtain ⟨o, d2⟩ := r
  cases o with
  | none =>
    obtain ⟨a1, a2⟩ := m1 rfl
    exact ⟨fun _ => ⟨a1, fxs.trans (Fx.doc_fail _ m3 a2)⟩, fun dst hh => by cases hh⟩
  | some v =>
    obtain ⟨k, a1, a2, a3, a4, _⟩ := m2 v rfl
    refine ⟨(fun hh => by cases hh), fun dst hh => ?_⟩
    simp only [Option.some.injEq] at hh
    exact ⟨k, v, hh.symm, a1, by rw [Forest.locs_snoc]; simp, a2, a3, fxs.trans (Fx.doc _ m3 a4 m4)⟩

/-! ## Induction on the fuel -/

theorem pv_zero (env : MD.Env) : PVs env 0 := by
  intro limit flt dst x
  simp only [parseVariant]
  exact VRes.same rfl rfl (by simp)

theorem pa_zero (env : MD.Env) : PAs env 0 := by
  intro limit ef arr n x
  simp only [readArray]
  cases arr with
  | none => exact NRes.same rfl rfl (by simp)
  | some l => exact fun d0 F s h t _ B _ => (NRes.same rfl rfl (by simp)).lift B

theorem po_zero (env : MD.Env) : POs env 0 := by
  intro limit flt obj n x
  simp only [readObject]
  cases obj with
  | none => exact NRes.same rfl rfl (by simp)
  | some l => exact fun d0 F s h t _ B _ => (NRes.same rfl rfl (by simp)).lift B

theorem pv_succ (env : MD.Env) (f : Nat) (ihA : PAs env f) (ihO : POs env f) : PVs env (f+1) := by
  intro limit flt dst x
  rw [parseVariant_step]
  generalize x.r.read = rd
  obtain ⟨_ | code, r0⟩ := rd
  · exact VRes.same rfl rfl (by simp)
  simp only
  refine VRes.of_eq (x'' := { x with r := r0 }) rfl rfl ?_
  cases MD.classify code r0 with
  | int w c => exact VRes.gate (leafInt_res _ _ w c)
  | nil => exact VRes.same rfl rfl (by simp [leaf, fin])
  | invalid => exact VRes.same rfl rfl (by simp [leaf, fin])
  | bool c => exact VRes.gate (leafSet_res _ _ _ (fun h => h) rfl rfl)
  | f32 => exact VRes.gate (leafF32_res _ _)
  | f64 => exact VRes.gate (leafF64_res _ _)
  | fix c => exact VRes.gate (leafSet_res _ _ _ (fun h => h) rfl rfl)
  | inc r => exact VRes.same rfl rfl (by simp [leaf, fin])
  | arr size r => exact VRes.of_eq (x'' := { x with r := r }) rfl rfl (leafArr_res ihA limit flt dst size _)
  | map size r => exact VRes.of_eq (x'' := { x with r := r }) rfl rfl (leafMap_res ihO limit flt dst size _)
  | str size r => exact VRes.of_eq (x'' := { x with r := r }) rfl rfl (VRes.gate (leafStr_res env _ size _))
  | bin sb ie hb size r =>
    exact VRes.of_eq (x'' := { x with r := r }) rfl rfl (VRes.gate (leafBin_res env _ code sb ie hb size _))

theorem ARes.of_none {arr : Option Loc} {x x' : S} {c : Code} (h : NRes x c x') : ARes arr x c x' := by
  cases arr with
  | none => exact h
  | some l => exact fun d0 F s _ _ _ B _ => h.lift B

theorem ORes.of_none {obj : Option Loc} {x x' : S} {c : Code} (h : NRes x c x') : ORes obj x c x' := by
  cases obj with
  | none => exact h
  | some l => exact fun d0 F s _ _ _ B _ => h.lift B

/-- silent steps without a destination (the StringBuffer's traffic), then the routine -/
theorem ARes.step {arr : Option Loc} {x x1 x' : S} {c : Code} (h1 : NRes x .ok x1) (h2 : ARes arr x1 c x') :
    ARes arr x c x' := by
  cases arr with
  | none => exact NRes.step h1 h2
  | some l =>
    exact fun d0 F s h t C B hv => MRes.step h1.fx (h2 d0 F s h t C (B.pleq h1.pleq) ((h1.pleq.get l).trans hv))

theorem ORes.step {obj : Option Loc} {x x1 x' : S} {c : Code} (h1 : NRes x .ok x1) (h2 : ORes obj x1 c x') :
    ORes obj x c x' := by
  cases obj with
  | none => exact NRes.step h1 h2
  | some l =>
    exact fun d0 F s h t C B hv => MRes.step h1.fx (h2 d0 F s h t C (B.pleq h1.pleq) ((h1.pleq.get l).trans hv))

/-- a skipped element, then the elements that follow it -/
theorem pa_skip {env : MD.Env} {f : Nat} (ihV : PVs env f) (ihA : PAs env f) (limit : Nat) (ef : Flt) (arr : Option Loc)
    (n : Nat) (x : S) :
    ARes arr x
      (match parseVariant env f limit ef none x with
        | (.ok, x, _) => readArray env f limit ef arr (n - 1) x
        | (e, x, _) => (e, x)).1
      (match parseVariant env f limit ef none x with
        | (.ok, x, _) => readArray env f limit ef arr (n - 1) x
        | (e, x, _) => (e, x)).2 := by
  have pv : NRes x _ _ := ihV limit ef none x
  split
  · rename_i x2 fd heq
    rw [heq] at pv
    exact ARes.step pv (ihA limit ef arr (n - 1) x2)
  · rename_i e x2 fd hne heq
    rw [heq] at pv
    exact ARes.of_none pv

theorem pa_succ (env : MD.Env) (f : Nat) (ihV : PVs env f) (ihA : PAs env f) : PAs env (f+1) := by
  intro limit ef arr n x
  rw [readArray_succ]
  split
  · exact ARes.of_none (NRes.same rfl rfl (by simp))
  cases arr with
  | none =>
    simp only [gate_none, elemSlot_none]
    exact pa_skip ihV ihA limit ef none n x
  | some l =>
    cases hb : ef.allow with
    | false =>
      simp only [gate_false, elemSlot_none]
      exact pa_skip ihV ihA limit ef (some l) n x
    | true =>
      simp only [gate_true]
      intro d0 F s h t C B hv
      obtain ⟨e1, e2⟩ := elemSlot_some C B hv
      generalize elemSlot (some l) x = q at e1 e2
      obtain ⟨o, x1⟩ := q
      cases o with
      | none =>
        obtain ⟨B1, fx1⟩ := e1 rfl
        exact MRes.fail B1 fx1
      | some dst =>
        obtain ⟨id, rfl, B1, hloc, hgn, ⟨h', hgl⟩, fx01⟩ := e2 _ rfl
        simp only at B1 hgn hgl fx01 ⊢
        have sp := sub_parse ihV limit ef C B1 hloc hgn
        split
        · rename_i x2 fd heq2
          rw [heq2] at sp
          obtain ⟨⟨s2, B2⟩, hg2, fx2, _⟩ := sp
          exact MRes.step (x1 := x2) (fx01.trans fx2) (ihA limit ef (some l) (n - 1) x2 d0 F s2 _ _ C B2 (hg2.trans hgl))
        · rename_i e x2 fd hne heq2
          rw [heq2] at sp
          obtain ⟨⟨s2, B2⟩, _, fx2, q2⟩ := sp
          exact ⟨⟨s2, B2⟩, fx01.trans fx2, fun hc => (q2 hc).trans (fx01.ok rfl)⟩

/-- the value of a skipped member, then the members that follow it -/
theorem po_skip {env : MD.Env} {f : Nat} (ihV : PVs env f) (ihO : POs env f) (limit : Nat) (flt mf : Flt)
    (obj : Option Loc) (n : Nat) (x : S) :
    ORes obj x (roVal env f limit flt obj n mf none x).1 (roVal env f limit flt obj n mf none x).2 := by
  have pv : NRes x _ _ := ihV limit mf none x
  unfold roVal
  split
  · rename_i x2 fd heq
    rw [heq] at pv
    exact ORes.step pv (ihO limit flt obj (n - 1) x2)
  · rename_i e x2 fd hne heq
    rw [heq] at pv
    exact ORes.of_none pv

theorem po_succ (env : MD.Env) (f : Nat) (ihV : PVs env f) (ihO : POs env f) : POs env (f+1) := by
  intro limit flt obj n x
  rw [readObject_succ]
  split
  · exact ORes.of_none (NRes.same rfl rfl (by simp))
  generalize x.r.read = rd
  obtain ⟨_ | code, r0⟩ := rd
  · exact ORes.of_none (NRes.same rfl rfl (by simp))
  simp only
  generalize MD.keyLenOf_d3 code r0 = kl
  obtain ⟨_ | _ | len, r1⟩ := kl
  · exact ORes.of_none (NRes.same rfl rfl (by simp))
  · exact ORes.of_none (NRes.same rfl rfl (by simp))
  simp only
  obtain ⟨rs, hbs⟩ := readString_res env { x with r := r1 } len
  unfold roKey
  split
  · rename_i key x1 heq
    rw [heq] at rs hbs
    have hb1 := hbs rfl
    simp only at rs hb1
    refine ORes.step (NRes.of_eq (x'' := { x with r := r1 }) rfl rfl rs) ?_
    cases obj with
    | none =>
      simp only [gate_none, memSlot_none]
      exact po_skip ihV ihO limit flt _ none n x1
    | some l =>
      cases hb : (flt.subKey key).allow with
      | false =>
        simp only [gate_false, memSlot_none]
        exact po_skip ihV ihO limit flt _ (some l) n x1
      | true =>
        simp only [gate_true]
        intro d0 F s h t C B hv
        obtain ⟨e1, e2⟩ := memSlot_some C B hv hb1 key
        generalize memSlot (some l) x1 key = q at e1 e2
        obtain ⟨o, x2⟩ := q
        cases o with
        | none =>
          obtain ⟨B1, fx1⟩ := e1 rfl
          exact MRes.fail B1 fx1
        | some dst =>
          obtain ⟨k, v, rfl, B1, hloc, hgn, ⟨h', hgl⟩, fx01⟩ := e2 _ rfl
          simp only at B1 hgn hgl fx01 ⊢
          have sp := sub_parse ihV limit (flt.subKey key) C B1 hloc hgn
          unfold roVal
          split
          · rename_i x3 fd heq3
            rw [heq3] at sp
            obtain ⟨⟨s3, B3⟩, hg3, fx3, _⟩ := sp
            exact MRes.step (x1 := x3) (fx01.trans fx3)
              (ihO limit flt (some l) (n - 1) x3 d0 F s3 _ _ C B3 (hg3.trans hgl))
          · rename_i e x3 fd hne heq3
            rw [heq3] at sp
            obtain ⟨⟨s3, B3⟩, _, fx3, q3⟩ := sp
            exact ⟨⟨s3, B3⟩, fx01.trans fx3, fun hc => (q3 hc).trans (fx01.ok rfl)⟩
  · rename_i e key x1 hne heq
    rw [heq] at rs
    exact ORes.of_none (NRes.of_eq (x'' := { x with r := r1 }) rfl rfl rs)

/-- the invariant through the whole mutual block, for every fuel, filter and destination -/
theorem parse_all (env : MD.Env) : ∀ fuel, PVs env fuel ∧ PAs env fuel ∧ POs env fuel := by
  intro fuel
  induction fuel with
  | zero => exact ⟨pv_zero env, pa_zero env, po_zero env⟩
  | succ f ih =>
    obtain ⟨ihV, ihA, ihO⟩ := ih
    exact ⟨pv_succ env f ihA ihO, pa_succ env f ihV ihA, po_succ env f ihV ihO⟩

/-- WITHOUT a destination (a skipped value, the elements of a skipped array, the members of a skipped object) the document
    is untouched up to the StringBuffer's allocator traffic: same slots, root, string table, pools and free list -/
theorem parse_none (env : MD.Env) (fuel limit : Nat) (flt : Flt) (n : Nat) (x : S) :
    NRes x (parseVariant env fuel limit flt none x).1 (parseVariant env fuel limit flt none x).2.1 ∧
    NRes x (readArray env fuel limit flt none n x).1 (readArray env fuel limit flt none n x).2 ∧
    NRes x (readObject env fuel limit flt none n x).1 (readObject env fuel limit flt none n x).2 :=
  ⟨(parse_all env fuel).1 limit flt none x, (parse_all env fuel).2.1 limit flt none n x,
    (parse_all env fuel).2.2 limit flt none n x⟩

/-! ## `run` -/

/-- the state in which `run` starts parsing (the one of the unfiltered twin) -/
abbrev start (d : Doc) (input : List Byte) : S := MDD.mp_start d input

/-- the state in which the parser stops (with the `foundSomething` flag) -/
def stop (env : MD.Env) (limit : Nat) (flt : Flt) (d : Doc) (input : List Byte) : Code × S × Bool :=
  parseVariant env (2 * input.length + 4) limit flt (some .root) (start d input)

/-- the document after the deserializer object was destroyed (a kept StringBuffer node is released), before the pools
    are shrunk -/
def preShrink (env : MD.Env) (limit : Nat) (flt : Flt) (d : Doc) (input : List Byte) : Doc :=
  match (stop env limit flt d input).2.1.b with
  | some _ => { (stop env limit flt d input).2.1.d with pl := (stop env limit flt d input).2.1.d.pl.dealloc }
  | none => (stop env limit flt d input).2.1.d

theorem run_eq (env : MD.Env) (limit : Nat) (flt : Flt) (d : Doc) (input : List Byte) :
    run env limit flt d input =
      (MDD.mp_finalCode (stop env limit flt d input).1 (stop env limit flt d input).2.2,
        { preShrink env limit flt d input with
          pl := PL.shrink (preShrink env limit flt d input).g (preShrink env limit flt d input).pl },
        (stop env limit flt d input).2.1.r.pos) := rfl

/-- the parser's result, for every input, every filter and every failure schedule -/
theorem stop_res (env : MD.Env) (limit : Nat) (flt : Flt) {d : Doc} (input : List Byte) (gok : PL.GeoOK d.g)
    (hp : PL.Inv d.g d.pl) :
    MRes d.clearAll .nil .root (start d input) (stop env limit flt d input).1 (stop env limit flt d input).2.1 := by
  obtain ⟨w, hs, hg, _, hr⟩ := JDD.clearAll_wf gok hp
  have C : Ctx d.clearAll .nil .root := ⟨List.nodup_nil, trivial, rfl, by rw [hg]; exact gok⟩
  exact (parse_all env _).1 limit flt (some .root) (start d input) d.clearAll .nil C (JDD.built_start w hs C) hr

theorem preShrink_pleq (env : MD.Env) (limit : Nat) (flt : Flt) (d : Doc) (input : List Byte) :
    PlEq (stop env limit flt d input).2.1.d (preShrink env limit flt d input) ∧
    (preShrink env limit flt d input).overflowed = (stop env limit flt d input).2.1.d.overflowed := by
  unfold preShrink
  cases (stop env limit flt d input).2.1.b with
  | none => exact ⟨PlEq.refl _, rfl⟩
  | some c => exact ⟨⟨rfl, rfl, rfl, rfl, rfl, rfl, rfl, rfl, rfl, rfl⟩, rfl⟩

/-- MAIN: whatever the input, the filter and the allocator failure schedule, `run` leaves a well-formed document -/
theorem run_wf (env : MD.Env) (limit : Nat) (flt : Flt) {d : Doc} (input : List Byte) (gok : PL.GeoOK d.g)
    (hp : PL.Inv d.g d.pl) :
    ∃ F', WFG (run env limit flt d input).2.1 F' ∧
      StrOK (run env limit flt d input).2.1 ((run env limit flt d input).2.1.strRefs F') := by
  obtain ⟨⟨s, B⟩, _, _⟩ := stop_res env limit flt input gok hp
  obtain ⟨w1, s1, _⟩ := (preShrink_pleq env limit flt d input).1.wfg B.wf B.str
  rw [run_eq]
  exact ⟨_, JDD.shrink_wf w1 s1⟩

/-- the overflow flag of the result is the one the parser left -/
theorem run_overflowed (env : MD.Env) (limit : Nat) (flt : Flt) (d : Doc) (input : List Byte) :
    (run env limit flt d input).2.1.overflowed = (stop env limit flt d input).2.1.d.overflowed := by
  rw [run_eq]; exact (preShrink_pleq env limit flt d input).2

/-- the result code against the overflow flag: `Ok` only without a failed allocation, and the flag is raised exactly
    when the code is `NoMemory` - also when the failed allocation is the buffer of a key that is not stored -/
theorem run_code (env : MD.Env) (limit : Nat) (flt : Flt) {d : Doc} (input : List Byte) (gok : PL.GeoOK d.g)
    (hp : PL.Inv d.g d.pl) :
    ((run env limit flt d input).1 = .ok → (run env limit flt d input).2.1.overflowed = false) ∧
    ((run env limit flt d input).1 = .noMemory ↔ (run env limit flt d input).2.1.overflowed = true) := by
  obtain ⟨_, fx, q⟩ := stop_res env limit flt input gok hp
  have h0 : (start d input).d.overflowed = false := rfl
  rw [run_overflowed]
  refine ⟨fun h => ?_, fun h => ?_, fun h => ?_⟩
  · rw [run_eq] at h
    exact (fx.ok (MDD.mp_finalCode_ok h)).trans h0
  · rw [run_eq] at h
    exact fx.nomem (MDD.mp_finalCode_nomem h)
  · rw [run_eq]
    by_cases hc : (stop env limit flt d input).1 = .noMemory
    · -- NoMemory is never reported without a byte read
      cases hf : (stop env limit flt d input).2.2 with
      | true => simp only [MDD.mp_finalCode, if_true]; exact hc
      | false =>
        have := found_false env _ limit flt (some .root) (start d input) hf
        rw [show (stop env limit flt d input).1 = Code.incomplete from this] at hc; cases hc
    · rw [q hc, h0] at h; cases h

/-! ## The ledger -/

/-- the ledger balances before the pools are shrunk -/
theorem preShrink_bal (env : MD.Env) (limit : Nat) (flt : Flt) {d : Doc} (input : List Byte) (gok : PL.GeoOK d.g)
    (hp : PL.Inv d.g d.pl) (hb : Bal d) : Bal (preShrink env limit flt d input) := by
  obtain ⟨_, fx, _⟩ := stop_res env limit flt input gok hp
  have h := fx.bal (JDD.clearAll_LBd hb)
  unfold preShrink
  unfold LBd at h
  unfold Bal
  cases hx : (stop env limit flt d input).2.1.b with
  | none => rw [hx] at h; simpa using h
  | some c =>
    rw [hx] at h
    show PL.net (stop env limit flt d input).2.1.d.pl.dealloc = _
    rw [JDD.dealloc_net, h]; simp

/-- the ledger of the document `run` returns: balanced up to the block `shrink` gives a block-less last pool -/
theorem run_net (env : MD.Env) (limit : Nat) (flt : Flt) {d : Doc} (input : List Byte) (gok : PL.GeoOK d.g)
    (hp : PL.Inv d.g d.pl) (hb : Bal d) :
    PL.net (run env limit flt d input).2.1.pl =
      ((run env limit flt d input).2.1.strings.length : Int) -
        (if JDD.lastBlockless (preShrink env limit flt d input).pl then 1 else 0) := by
  have h := preShrink_bal env limit flt input gok hp hb
  unfold Bal at h
  rw [run_eq]
  show PL.net (PL.shrink _ _) = ((preShrink env limit flt d input).strings.length : Int) - _
  rw [JDD.shrink_net, h]

/-- when no allocation failed, every pool has its block and the ledger of the result balances -/
theorem run_bal (env : MD.Env) (limit : Nat) (flt : Flt) {d : Doc} (input : List Byte) (gok : PL.GeoOK d.g)
    (hp : PL.Inv d.g d.pl) (hb : Bal d) (hov : (run env limit flt d input).2.1.overflowed = false) :
    Bal (run env limit flt d input).2.1 := by
  obtain ⟨_, fx, _⟩ := stop_res env limit flt input gok hp
  have h0 : Blk (start d input).d := by
    refine Or.inl ?_
    intro p hp'
    have : d.clearAll.pl.pools = [] := (clearAll_spec d).2.2.1
    rw [show (start d input).d.pl.pools = d.clearAll.pl.pools from rfl, this] at hp'
    cases hp'
  rw [run_overflowed] at hov
  have hall : AllB (stop env limit flt d input).2.1.d := by
    rcases fx.blk h0 with h1 | h1
    · exact h1
    · rw [hov] at h1; cases h1
  have hall' : AllB (preShrink env limit flt d input) :=
    JDD.AllB_of_pools (preShrink_pleq env limit flt d input).1.pools hall
  have := run_net env limit flt input gok hp hb
  rw [JDD.lastBlockless_of_allB hall'] at this
  unfold Bal
  rw [this]; simp

/-- the geometry is kept -/
theorem run_g (env : MD.Env) (limit : Nat) (flt : Flt) {d : Doc} (input : List Byte) (gok : PL.GeoOK d.g)
    (hp : PL.Inv d.g d.pl) : (run env limit flt d input).2.1.g = d.g := by
  obtain ⟨⟨s, B⟩, _, _⟩ := stop_res env limit flt input gok hp
  rw [run_eq]
  show (preShrink env limit flt d input).g = d.g
  rw [(preShrink_pleq env limit flt d input).1.g, B.g]; rfl

/-- `clearAll` after `run`: what the ledger says -/
theorem run_clearAll_outstanding (env : MD.Env) (limit : Nat) (flt : Flt) {d : Doc} (input : List Byte)
    (gok : PL.GeoOK d.g) (hp : PL.Inv d.g d.pl) (hb : Bal d) :
    PL.outstanding (run env limit flt d input).2.1.clearAll.pl.log =
      - (if JDD.lastBlockless (preShrink env limit flt d input).pl then 1 else 0) := by
  have h := run_net env limit flt input gok hp hb
  rw [(clearAll_spec _).1, PL.outstanding_replicate_D]
  unfold PL.net at h
  omega

end MDDF
