/- The nesting limit influences the outcome only through TooDeep: if a routine does not report TooDeep with limit L,
   it returns exactly the same result with limit L+1 (JSON unfiltered / skip routines / filtered, MessagePack). -/
import AJ.Lemmas.Depth
namespace C15
open JD

def Same {α : Type} (a b : Code × α) : Prop := b.1 ≠ .tooDeep → a = b
theorem same_rfl {α : Type} {a : Code × α} : Same a a := fun _ => rfl
theorem same_td {α : Type} {a : Code × α} {x : α} : Same a (.tooDeep, x) := fun h => absurd rfl h

/-- a sub-call followed by a continuation: TooDeep from the sub-call is passed on by the continuation, so where the
    whole does not end in TooDeep the sub-call did not either -/
theorem Same.bind {α β : Type} {a b : Code × α} {F G : Code × α → Code × β} (h : Same a b)
    (hk : ∀ r, Same (F r) (G r)) (htd : ∀ x, (G (.tooDeep, x)).1 = .tooDeep) : Same (F a) (G b) := by
  intro hne
  have hb : b.1 ≠ .tooDeep := by
    obtain ⟨e, x⟩ := b
    intro he; simp only at he; subst he; exact hne (htd x)
  rw [h hb]; exact hk b hne

theorem Same.dropVal {a b : Code × St} (h : Same a b) : Same (dropVal a) (dropVal b) :=
  h.bind (fun _ => same_rfl) fun _ => rfl

/-! ### the skipping routines and the filtered parser, one sub-call at a time (the pieces of AJ/Lemmas/JDPieces.lean);
    the unfiltered parser is the allow-all instance -/

def MsV (cfg : Cfg) (f : Nat) : Prop := ∀ L s, Same (skipVariant cfg f (L+1) s) (skipVariant cfg f L s)
def MsE (cfg : Cfg) (f : Nat) : Prop := ∀ L s, Same (skipElems cfg f (L+1) s) (skipElems cfg f L s)
def MsM (cfg : Cfg) (f : Nat) : Prop := ∀ L s, Same (skipMembers cfg f (L+1) s) (skipMembers cfg f L s)

section skip
variable {cfg : Cfg} {f L : Nat}

theorem svObj_same (hM : MsM cfg f) (r : Code × St) : Same (svObj cfg f (L+1) r) (svObj cfg f L r) := by
  obtain ⟨c, s⟩ := r
  cases c
  case ok =>
    simp only [svObj]
    exact of_ite₂ (fun _ => same_rfl) fun _ => hM _ _
  all_goals exact same_rfl

theorem svTok_same (hE : MsE cfg f) (hM : MsM cfg f) (s : St) : Same (svTok cfg f (L+1) s) (svTok cfg f L s) := by
  simp only [svTok]
  refine of_ite₂ (fun _ => ?_) fun _ => of_ite₂ (fun _ => ?_) fun _ => same_rfl
  · cases L with
    | zero => exact same_td
    | succ L' => exact hE _ _
  · cases L with
    | zero => exact same_td
    | succ L' => exact svObj_same hM _

theorem svK_same (hE : MsE cfg f) (hM : MsM cfg f) (r : Code × St) : Same (svK cfg f (L+1) r) (svK cfg f L r) := by
  obtain ⟨c, s⟩ := r
  cases c
  case ok => exact svTok_same hE hM s
  all_goals exact same_rfl

theorem seK2_same (hE : MsE cfg f) (r : Code × St) : Same (seK2 cfg f (L+1) r) (seK2 cfg f L r) := by
  obtain ⟨c, s⟩ := r
  cases c
  case ok =>
    simp only [seK2]
    exact of_ite₂ (fun _ => same_rfl) fun _ => of_ite₂ (fun _ => hE _ _) fun _ => same_rfl
  all_goals exact same_rfl

theorem seK1_same (hE : MsE cfg f) (r : Code × St) : Same (seK1 cfg f (L+1) r) (seK1 cfg f L r) := by
  obtain ⟨c, s⟩ := r
  cases c
  case ok => exact seK2_same hE _
  all_goals exact same_rfl

theorem smK4_same (hM : MsM cfg f) (r : Code × St) : Same (smK4 cfg f (L+1) r) (smK4 cfg f L r) := by
  obtain ⟨c, s⟩ := r
  cases c
  case ok => exact hM _ _
  all_goals exact same_rfl

theorem smK3_same (hM : MsM cfg f) (r : Code × St) : Same (smK3 cfg f (L+1) r) (smK3 cfg f L r) := by
  obtain ⟨c, s⟩ := r
  cases c
  case ok =>
    simp only [smK3]
    exact of_ite₂ (fun _ => same_rfl) fun _ => of_ite₂ (fun _ => smK4_same hM _) fun _ => same_rfl
  all_goals exact same_rfl

theorem smK2_same (hM : MsM cfg f) (r : Code × St) : Same (smK2 cfg f (L+1) r) (smK2 cfg f L r) := by
  obtain ⟨c, s⟩ := r
  cases c
  case ok => exact smK3_same hM _
  all_goals exact same_rfl

theorem smK1_same (hV : MsV cfg f) (hM : MsM cfg f) (r : Code × St) :
    Same (smK1 cfg f (L+1) r) (smK1 cfg f L r) := by
  obtain ⟨c, s⟩ := r
  cases c
  case ok =>
    simp only [smK1]
    exact of_ite₂ (fun _ => same_rfl) fun _ => (hV _ _).bind (smK2_same hM) fun _ => rfl
  all_goals exact same_rfl

theorem smK0_same (hV : MsV cfg f) (hM : MsM cfg f) (r : Code × St) :
    Same (smK0 cfg f (L+1) r) (smK0 cfg f L r) := by
  simp only [smK0]
  exact of_ite₂ (fun _ => same_rfl) fun _ => smK1_same hV hM _

end skip

theorem mono_skip {cfg} : ∀ fuel, MsV cfg fuel ∧ MsE cfg fuel ∧ MsM cfg fuel := by
  intro fuel
  induction fuel with
  | zero =>
    refine ⟨?_, ?_, ?_⟩
    · intro limit s; simp only [skipVariant]; exact same_rfl
    · intro limit s; simp only [skipElems]; exact same_rfl
    · intro limit s; simp only [skipMembers]; exact same_rfl
  | succ f ih =>
    obtain ⟨ihV, ihE, ihM⟩ := ih
    refine ⟨fun L s => ?_, fun L s => ?_, fun L s => ?_⟩
    · rw [skipVariant_succ, skipVariant_succ]; exact svK_same ihE ihM _
    · rw [skipElems_succ, skipElems_succ]; exact (ihV L s).bind (seK1_same ihE) fun _ => rfl
    · rw [skipMembers_succ, skipMembers_succ]; exact smK0_same ihV ihM _

def MfV (cfg : Cfg) (f : Nat) : Prop :=
  ∀ L flt s, Same (fparseVariant cfg f (L+1) flt s) (fparseVariant cfg f L flt s)
def MfE (cfg : Cfg) (f : Nat) : Prop :=
  ∀ L ef s acc, Same (fparseElems cfg f (L+1) ef s acc) (fparseElems cfg f L ef s acc)
def MfM (cfg : Cfg) (f : Nat) : Prop :=
  ∀ L flt s ms, Same (fparseMembers cfg f (L+1) flt s ms) (fparseMembers cfg f L flt s ms)

section fparse
variable {cfg : Cfg} {f L : Nat}

theorem fvArr_same {ef : Flt} (hE : MfE cfg f) (r : Code × St) :
    Same (fvArr cfg f (L+1) ef r) (fvArr cfg f L ef r) := by
  obtain ⟨c, s⟩ := r
  cases c
  case ok =>
    simp only [fvArr]
    exact of_ite₂ (fun _ => same_rfl) fun _ => hE _ _ _ _
  all_goals exact same_rfl

theorem fvObj_same {flt : Flt} (hM : MfM cfg f) (r : Code × St) :
    Same (fvObj cfg f (L+1) flt r) (fvObj cfg f L flt r) := by
  obtain ⟨c, s⟩ := r
  cases c
  case ok =>
    simp only [fvObj]
    exact of_ite₂ (fun _ => same_rfl) fun _ => hM _ _ _ _
  all_goals exact same_rfl

theorem fvObjSkip_same (sM : MsM cfg f) (r : Code × St) : Same (fvObjSkip cfg f (L+1) r) (fvObjSkip cfg f L r) := by
  obtain ⟨c, s⟩ := r
  cases c
  case ok =>
    simp only [fvObjSkip]
    exact of_ite₂ (fun _ => same_rfl) fun _ => (sM _ _).dropVal
  all_goals exact same_rfl

theorem fvTok_same {flt : Flt} (hE : MfE cfg f) (hM : MfM cfg f) (sE : MsE cfg f) (sM : MsM cfg f) (s : St) :
    Same (fvTok cfg f (L+1) flt s) (fvTok cfg f L flt s) := by
  simp only [fvTok]
  refine of_ite₂ (fun _ => of_ite₂ (fun _ => ?_) fun _ => ?_) fun _ =>
    of_ite₂ (fun _ => of_ite₂ (fun _ => ?_) fun _ => ?_) fun _ => same_rfl
  · cases L with
    | zero => exact same_td
    | succ L' => exact fvArr_same hE _
  · cases L with
    | zero => exact same_td
    | succ L' => exact (sE _ _).dropVal
  · cases L with
    | zero => exact same_td
    | succ L' => exact fvObj_same hM _
  · cases L with
    | zero => exact same_td
    | succ L' => exact fvObjSkip_same sM _

theorem fvK_same {flt : Flt} (hE : MfE cfg f) (hM : MfM cfg f) (sE : MsE cfg f) (sM : MsM cfg f) (r : Code × St) :
    Same (fvK cfg f (L+1) flt r) (fvK cfg f L flt r) := by
  obtain ⟨c, s⟩ := r
  cases c
  case ok => exact fvTok_same hE hM sE sM s
  all_goals exact same_rfl

theorem feElem_same {ef : Flt} (hV : MfV cfg f) (sV : MsV cfg f) (s : St) (acc : List Val) :
    Same (feElem cfg f (L+1) ef s acc) (feElem cfg f L ef s acc) := by
  simp only [feElem]
  exact of_ite₂ (fun _ hne => by rw [hV L ef s hne]) fun _ hne => by rw [sV L s hne]

theorem feK2_same {ef : Flt} {vs : List Val} (hE : MfE cfg f) (r : Code × St) :
    Same (feK2 cfg f (L+1) ef vs r) (feK2 cfg f L ef vs r) := by
  obtain ⟨c, s⟩ := r
  cases c
  case ok =>
    simp only [feK2]
    exact of_ite₂ (fun _ => same_rfl) fun _ => of_ite₂ (fun _ => hE _ _ _ _) fun _ => same_rfl
  all_goals exact same_rfl

theorem feK1_same {ef : Flt} (hE : MfE cfg f) (r : Code × List Val × St) :
    Same (feK1 cfg f (L+1) ef r) (feK1 cfg f L ef r) := by
  obtain ⟨c, vs, s⟩ := r
  cases c
  case ok => exact feK2_same hE _
  all_goals exact same_rfl

theorem fmVal_same {mf : Flt} {ms : List (List Byte × Val)} {key : List Byte} (hV : MfV cfg f) (sV : MsV cfg f)
    (s : St) : Same (fmVal cfg f (L+1) mf ms key s) (fmVal cfg f L mf ms key s) := by
  simp only [fmVal]
  exact of_ite₂ (fun _ hne => by rw [hV L mf s hne]) fun _ hne => by rw [sV L s hne]

theorem fmK4_same {flt : Flt} {ms : List (List Byte × Val)} (hM : MfM cfg f) (r : Code × St) :
    Same (fmK4 cfg f (L+1) flt ms r) (fmK4 cfg f L flt ms r) := by
  obtain ⟨c, s⟩ := r
  cases c
  case ok => exact hM _ _ _ _
  all_goals exact same_rfl

theorem fmK3_same {flt : Flt} {ms : List (List Byte × Val)} (hM : MfM cfg f) (r : Code × St) :
    Same (fmK3 cfg f (L+1) flt ms r) (fmK3 cfg f L flt ms r) := by
  obtain ⟨c, s⟩ := r
  cases c
  case ok =>
    simp only [fmK3]
    exact of_ite₂ (fun _ => same_rfl) fun _ => of_ite₂ (fun _ => fmK4_same hM _) fun _ => same_rfl
  all_goals exact same_rfl

theorem fmK2_same {flt : Flt} (hM : MfM cfg f) (r : Code × List (List Byte × Val) × St) :
    Same (fmK2 cfg f (L+1) flt r) (fmK2 cfg f L flt r) := by
  obtain ⟨c, ms, s⟩ := r
  cases c
  case ok => exact fmK3_same hM _
  all_goals exact same_rfl

theorem fmK1_same {flt : Flt} {ms : List (List Byte × Val)} {key : List Byte} (hV : MfV cfg f) (sV : MsV cfg f)
    (hM : MfM cfg f) (r : Code × St) : Same (fmK1 cfg f (L+1) flt ms key r) (fmK1 cfg f L flt ms key r) := by
  obtain ⟨c, s⟩ := r
  cases c
  case ok =>
    simp only [fmK1]
    exact of_ite₂ (fun _ => same_rfl) fun _ => (fmVal_same hV sV _).bind (fmK2_same hM) fun _ => rfl
  all_goals exact same_rfl

theorem fmK0_same {flt : Flt} {ms : List (List Byte × Val)} (hV : MfV cfg f) (sV : MsV cfg f) (hM : MfM cfg f)
    (r : Code × List Byte × St) : Same (fmK0 cfg f (L+1) flt ms r) (fmK0 cfg f L flt ms r) := by
  obtain ⟨c, key, s⟩ := r
  cases c
  case ok => exact fmK1_same hV sV hM _
  all_goals exact same_rfl

end fparse

theorem mono_fmutual {cfg} : ∀ fuel,
    (∀ limit flt s, Same (fparseVariant cfg fuel (limit+1) flt s) (fparseVariant cfg fuel limit flt s)) ∧
    (∀ limit ef s acc, Same (fparseElems cfg fuel (limit+1) ef s acc) (fparseElems cfg fuel limit ef s acc)) ∧
    (∀ limit flt s ms, Same (fparseMembers cfg fuel (limit+1) flt s ms) (fparseMembers cfg fuel limit flt s ms)) := by
  intro fuel
  induction fuel with
  | zero =>
    refine ⟨?_, ?_, ?_⟩
    · intro limit flt s; simp only [fparseVariant]; exact same_rfl
    · intro limit flt s acc; simp only [fparseElems]; exact same_rfl
    · intro limit flt s ms; simp only [fparseMembers]; exact same_rfl
  | succ f ih =>
    obtain ⟨ihV, ihE, ihM⟩ := ih
    obtain ⟨sV, sE, sM⟩ := mono_skip (cfg := cfg) f
    refine ⟨fun L flt s => ?_, fun L ef s acc => ?_, fun L flt s ms => ?_⟩
    · rw [fparseVariant_succ, fparseVariant_succ]; exact fvK_same ihE ihM sE sM _
    · rw [fparseElems_succ, fparseElems_succ]; exact (feElem_same ihV sV s acc).bind (feK1_same ihE) fun _ => rfl
    · rw [fparseMembers_succ, fparseMembers_succ]; exact fmK0_same ihV sV ihM _
end C15

namespace C15
open JD MD

/-! ### MessagePack -/
theorem mono_variant_step {env f}
    (ihA : ∀ limit ef hasArr n r acc, Same (readArray env f (limit+1) ef hasArr n r acc) (readArray env f limit ef hasArr n r acc))
    (ihO : ∀ limit flt hasObj n r ms, Same (readObject env f (limit+1) flt hasObj n r ms) (readObject env f limit flt hasObj n r ms))
    (limit : Nat) (flt : Flt) (b : Bool) (r : R) :
    Same (MD.parseVariant env (f+1) (limit+1) flt b r) (MD.parseVariant env (f+1) limit flt b r) := by
  rw [pv_succ, pv_succ]
  generalize r.read = q
  obtain ⟨_ | code, r1⟩ := q
  · exact same_rfl
  -- the limit is only looked at by the two container classes of `pvTail`
  simp only [pvAfter]
  refine of_ite₂ (fun _ => same_rfl) fun _ => of_ite₂ (fun _ => same_rfl) fun _ => of_ite₂ (fun _ => same_rfl) fun _ =>
    of_ite₂ (fun _ => same_rfl) fun _ => of_ite₂ (fun _ => same_rfl) fun _ => of_ite₂ (fun _ => same_rfl) fun _ =>
    of_ite₂ (fun _ => same_rfl) fun _ => ?_
  generalize hdrOf (szBytes code.toNat) (sz2 code.toNat) r1 = h
  obtain ⟨_ | ⟨hb, size⟩, r2⟩ := h
  · exact same_rfl
  simp only [pvTail]
  refine of_ite₂ (fun _ => ?_) fun _ => of_ite₂ (fun _ => ?_) fun _ => same_rfl
  · cases limit with
    | zero => exact same_td
    | succ l => exact of_ite₂ (fun _ h => by rw [ihA l _ _ _ _ _ h]) fun _ h => by rw [ihA l _ _ _ _ _ h]
  · cases limit with
    | zero => exact same_td
    | succ l => exact of_ite₂ (fun _ h => by rw [ihO l _ _ _ _ _ h]) fun _ h => by rw [ihO l _ _ _ _ _ h]

theorem mono_array_step {env f}
    (ihV : ∀ limit flt b r, Same (MD.parseVariant env f (limit+1) flt b r) (MD.parseVariant env f limit flt b r))
    (ihA : ∀ limit ef hasArr n r acc, Same (readArray env f (limit+1) ef hasArr n r acc) (readArray env f limit ef hasArr n r acc))
    (limit : Nat) (ef : Flt) (hasArr : Bool) (n : Nat) (r : R) (acc : List Val) :
    Same (readArray env (f+1) (limit+1) ef hasArr n r acc) (readArray env (f+1) limit ef hasArr n r acc) := by
  rw [readArray, readArray]
  refine of_ite₂ (fun _ => same_rfl) (fun _ => ?_)
  simp only
  by_cases hv : (MD.parseVariant env f limit ef (hasArr && ef.allow) r).1 = .tooDeep
  · generalize MD.parseVariant env f limit ef (hasArr && ef.allow) r = x at hv
    obtain ⟨e, v, r1, b1⟩ := x
    simp only at hv
    subst hv
    exact same_td
  · rw [ihV limit _ _ _ hv]
    generalize MD.parseVariant env f limit ef (hasArr && ef.allow) r = x
    obtain ⟨e, v, r1, b1⟩ := x
    cases e <;> simp only <;> try exact same_rfl
    exact ihA _ _ _ _ _ _

theorem mono_object_step {env f}
    (ihV : ∀ limit flt b r, Same (MD.parseVariant env f (limit+1) flt b r) (MD.parseVariant env f limit flt b r))
    (ihO : ∀ limit flt hasObj n r ms, Same (readObject env f (limit+1) flt hasObj n r ms) (readObject env f limit flt hasObj n r ms))
    (limit : Nat) (flt : Flt) (hasObj : Bool) (n : Nat) (r : R) (ms : List (List Byte × Val)) :
    Same (readObject env (f+1) (limit+1) flt hasObj n r ms) (readObject env (f+1) limit flt hasObj n r ms) := by
  rw [readObject, readObject]
  refine of_ite₂ (fun _ => same_rfl) (fun _ => ?_)
  generalize r.read = q
  obtain ⟨o, r1⟩ := q
  cases o
  · exact same_rfl
  · rename_i code
    simp only
    split
    · exact same_rfl
    · exact same_rfl
    · refine of_ite₂ (fun _ => same_rfl) (fun _ => ?_)
      rename_i len r2 _ _
      generalize r2.readBytes len = q2
      obtain ⟨o2, r3⟩ := q2
      cases o2
      · exact same_rfl
      · rename_i key
        simp only
        by_cases hv : (MD.parseVariant env f limit (flt.subKey key) (hasObj && (flt.subKey key).allow) r3).1 = .tooDeep
        · generalize MD.parseVariant env f limit (flt.subKey key) (hasObj && (flt.subKey key).allow) r3 = x at hv
          obtain ⟨e, v, r4, b1⟩ := x
          simp only at hv
          subst hv
          exact same_td
        · rw [ihV limit _ _ _ hv]
          generalize MD.parseVariant env f limit (flt.subKey key) (hasObj && (flt.subKey key).allow) r3 = x
          obtain ⟨e, v, r4, b1⟩ := x
          cases e <;> simp only <;> try exact same_rfl
          exact ihO _ _ _ _ _ _

theorem mono_mmutual {env} : ∀ fuel,
    (∀ limit flt b r, Same (MD.parseVariant env fuel (limit+1) flt b r) (MD.parseVariant env fuel limit flt b r)) ∧
    (∀ limit ef hasArr n r acc, Same (readArray env fuel (limit+1) ef hasArr n r acc) (readArray env fuel limit ef hasArr n r acc)) ∧
    (∀ limit flt hasObj n r ms, Same (readObject env fuel (limit+1) flt hasObj n r ms) (readObject env fuel limit flt hasObj n r ms)) := by
  intro fuel
  induction fuel with
  | zero =>
    refine ⟨?_, ?_, ?_⟩
    · intro limit flt b r; rw [MD.parseVariant, MD.parseVariant]; exact same_rfl
    · intro limit ef hasArr n r acc; rw [readArray, readArray]; exact same_rfl
    · intro limit flt hasObj n r ms; rw [readObject, readObject]; exact same_rfl
  | succ f ih =>
    obtain ⟨ihV, ihA, ihO⟩ := ih
    exact ⟨mono_variant_step ihA ihO, mono_array_step ihV ihA, mono_object_step ihV ihO⟩

/-- iterate: any larger limit -/
theorem same_add {α : Type} (g : Nat → Code × α) (hstep : ∀ l, Same (g (l+1)) (g l)) (L k : Nat)
    (h : (g L).1 ≠ .tooDeep) : g (L + k) = g L := by
  induction k with
  | zero => rfl
  | succ k ih =>
    have h' : (g (L + k)).1 ≠ .tooDeep := by rw [ih]; exact h
    have := hstep (L + k) h'
    rw [← Nat.add_assoc, this, ih]
end C15

namespace C15
open JD MD

/-! ### MessagePack: the `foundSomething` flag -/

/-- `foundSomething` is false only when the very first byte is missing (Incomplete) -/
theorem mp_found (env : Env) (fuel limit : Nat) (flt : Flt) (b : Bool) (r : R) :
    (MD.parseVariant env fuel limit flt b r).2.2.2 = true ∨ (MD.parseVariant env fuel limit flt b r).1 = .incomplete := by
  cases fuel with
  | zero => left; rw [MD.parseVariant]
  | succ f =>
    rw [pv_succ]
    split
    · right; rfl
    · left
      exact pvAfter_cases (Q := fun x => x.2.2.2 = true) (fun _ _ _ _ => rfl) (fun _ _ _ _ => rfl) fun _ _ _ _ => rfl

theorem mp_toodeep_found (env : Env) (fuel limit : Nat) (flt : Flt) (b : Bool) (r : R)
    (h : (MD.parseVariant env fuel limit flt b r).1 = .tooDeep) : (MD.parseVariant env fuel limit flt b r).2.2.2 = true := by
  rcases mp_found env fuel limit flt b r with h1 | h1
  · exact h1
  · rw [h1] at h; cases h
end C15
