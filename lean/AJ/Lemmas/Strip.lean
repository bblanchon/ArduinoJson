/- Removing insignificant whitespace from a JSON text: a three-state machine (outside a string literal / inside /
   just after a backslash inside), and the facts needed to show that `JSer.pretty` and `JSer.compact` differ only by
   such whitespace (C02). -/
import AJ.Lemmas.JsonRoundTrip
namespace C02
open JD JS JSer

/-- where the scanner is: outside any string literal, inside one, inside one right after a backslash -/
inductive SS | out | str | esc
deriving DecidableEq, Repr

/-- the four JSON whitespace bytes (RFC 8259 section 2) -/
def isWsByte (c : UInt8) : Bool := c == 0x20 || c == 0x09 || c == 0x0D || c == 0x0A

def next : SS → UInt8 → SS
  | .out, c => if c == 0x22 then .str else .out
  | .str, c => if c == 0x5C then .esc else if c == 0x22 then .out else .str
  | .esc, _ => .str

/-- a byte is dropped exactly when it is whitespace outside a string literal -/
def keep : SS → UInt8 → Bool
  | .out, c => !isWsByte c
  | _, _ => true

def stripGo : SS → List UInt8 → List UInt8
  | _, [] => []
  | st, c :: cs => (if keep st c then [c] else []) ++ stripGo (next st c) cs

def endState (st : SS) (t : List UInt8) : SS := t.foldl next st

/-- the text without the whitespace bytes that occur outside string literals -/
def stripWs (t : List UInt8) : List UInt8 := stripGo .out t

theorem endState_append (st : SS) (a b : List UInt8) : endState st (a ++ b) = endState (endState st a) b := by
  simp [endState, List.foldl_append]

theorem stripGo_append (st : SS) (a b : List UInt8) :
    stripGo st (a ++ b) = stripGo st a ++ stripGo (endState st a) b := by
  induction a generalizing st with
  | nil => simp [stripGo, endState]
  | cons c cs ih => simp only [List.cons_append, stripGo, ih, endState, List.foldl_cons, List.append_assoc]

/-- `a` starts and ends outside string literals and strips to `b` -/
def Strips (a b : List UInt8) : Prop := endState .out a = .out ∧ stripGo .out a = b

theorem Strips.nil : Strips [] [] := ⟨rfl, rfl⟩

theorem Strips.append {a b a' b' : List UInt8} (h : Strips a b) (h' : Strips a' b') : Strips (a ++ a') (b ++ b') := by
  refine ⟨?_, ?_⟩
  · rw [endState_append, h.1, h'.1]
  · rw [stripGo_append, h.1, h.2, h'.2]

/-- a byte outside strings that is neither whitespace nor a quote is kept and changes nothing -/
def inert (c : UInt8) : Bool := !isWsByte c && c != 0x22

theorem Strips.one {c : UInt8} (h : inert c = true) : Strips [c] [c] := by
  simp only [inert, Bool.and_eq_true, Bool.not_eq_true', bne_iff_ne, ne_eq] at h
  have e : (c == 0x22) = false := by simpa using h.2
  refine ⟨?_, ?_⟩
  · simp [endState, next, e]
  · simp [stripGo, keep, h.1]

theorem Strips.ws {c : UInt8} (h : isWsByte c = true) : Strips [c] [] := by
  have e : (c == 0x22) = false := by
    rw [beq_eq_false_iff_ne]; rintro rfl; exact absurd h (by decide)
  refine ⟨?_, ?_⟩
  · simp [endState, next, e]
  · simp [stripGo, keep, h]

theorem Strips.cons {c : UInt8} {a b : List UInt8} (h : inert c = true) (h' : Strips a b) : Strips (c :: a) (c :: b) :=
  (Strips.one h).append h'

theorem strips_inert (a : List UInt8) (h : ∀ c ∈ a, inert c = true) : Strips a a := by
  induction a with
  | nil => exact .nil
  | cons c cs ih => exact Strips.cons (h c (by simp)) (ih (fun x hx => h x (by simp [hx])))

theorem strips_ws (a : List UInt8) (h : ∀ c ∈ a, isWsByte c = true) : Strips a [] := by
  induction a with
  | nil => exact .nil
  | cons c cs ih => exact (Strips.ws (h c (by simp))).append (ih (fun x hx => h x (by simp [hx])))

/-! ### string literals -/

/-- inside a string literal, what `writeChar` wrote is kept, and the scanner is inside the literal again after it:
    an escape is a backslash and one more byte, a byte written as it is is neither a quote nor a backslash -/
theorem writeChar_in_string (c : UInt8) : endState .str (writeChar c) = .str ∧ stripGo .str (writeChar c) = writeChar c := by
  rcases SerG.writeChar_cases c with ⟨_, hw, _⟩ | ⟨_, hw⟩ | ⟨_, _, hw, n1, n2, _⟩
  · rw [hw]; exact ⟨rfl, rfl⟩
  · rw [hw]; exact ⟨rfl, rfl⟩
  · have e1 : (c == 0x5C) = false := beq_eq_false_iff_ne.mpr n2
    have e2 : (c == 0x22) = false := beq_eq_false_iff_ne.mpr n1
    have hn : next .str c = .str := by simp only [next, e1, e2, Bool.false_eq_true, if_false]
    rw [hw]
    exact ⟨hn, rfl⟩

theorem escaped_in_string (s : List UInt8) :
    endState .str (s.flatMap writeChar) = .str ∧ stripGo .str (s.flatMap writeChar) = s.flatMap writeChar := by
  induction s with
  | nil => exact ⟨rfl, rfl⟩
  | cons c cs ih =>
    obtain ⟨a, b⟩ := writeChar_in_string c
    simp only [List.flatMap_cons, endState_append, stripGo_append, a, b, ih.1, ih.2, and_self]

/-- a serialized string is a string literal: the scanner passes it unchanged and is outside again after it -/
theorem strips_writeString (s : List UInt8) : Strips (writeString s) (writeString s) := by
  obtain ⟨a, b⟩ := escaped_in_string s
  have e : writeString s = [0x22] ++ (s.flatMap writeChar ++ [0x22]) := by simp [writeString]
  refine ⟨?_, ?_⟩
  · rw [e, endState_append, endState_append]
    show endState (endState .str (s.flatMap writeChar)) [0x22] = .out
    rw [a]; rfl
  · rw [e, stripGo_append, stripGo_append]
    show [0x22] ++ (stripGo .str (s.flatMap writeChar) ++ stripGo (endState .str (s.flatMap writeChar)) [0x22]) = _
    rw [a, b]; rfl

/-! ### indentation and line ends -/

theorem strips_indent (n : Nat) : Strips (indent n) [] := by
  apply strips_ws
  intro c hc
  simp only [indent, List.mem_flatten, List.mem_replicate] at hc
  obtain ⟨l, ⟨_, rfl⟩, hc⟩ := hc
  simp only [tab, List.mem_cons, List.not_mem_nil, or_false, or_self] at hc
  subst hc; decide

theorem strips_crlf : Strips crlf [] := ⟨by decide, by decide⟩

/-! ### numbers and keywords contain neither whitespace nor quotes -/

/-- the whitespace bytes and the quote are all at most 0x22 -/
theorem inert_of_gt {c : UInt8} (h : 0x22 < c) : inert c = true := by
  have h' : 0x22 < c.toNat := UInt8.lt_iff_toNat_lt.mp h
  have ne : ∀ k : UInt8, k.toNat ≤ 0x22 → (c == k) = false := fun k hk => by
    rw [beq_eq_false_iff_ne]; rintro rfl; omega
  unfold inert isWsByte
  rw [bne, ne 0x20 (by decide), ne 0x09 (by decide), ne 0x0D (by decide), ne 0x0A (by decide), ne 0x22 (by decide)]
  rfl

theorem inert_numCh {c : UInt8} (h : NumCh c) : inert c = true := by
  rcases h with ⟨h, _⟩ | rfl | rfl | rfl | rfl | rfl
  · exact inert_of_gt (UInt8.lt_iff_toNat_lt.mpr (Nat.lt_of_lt_of_le (by decide) (UInt8.le_iff_toNat_le.mp h)))
  all_goals decide

theorem inert_digit {c : UInt8} (h : 0x30 ≤ c ∧ c ≤ 0x39) : inert c = true := inert_numCh (Or.inl h)

theorem digits_inert (n : Nat) : ∀ c ∈ digits n, inert c = true := by
  obtain ⟨h, _⟩ := Digits.digits_spec n
  exact fun c hc => inert_digit (h c hc)

theorem forall_append {P : UInt8 → Prop} {a b : List UInt8} (ha : ∀ c ∈ a, P c) (hb : ∀ c ∈ b, P c) :
    ∀ c ∈ a ++ b, P c := by
  intro c hc; rcases List.mem_append.mp hc with h | h
  · exact ha c h
  · exact hb c h

theorem forall_cons {P : UInt8 → Prop} {x : UInt8} {b : List UInt8} (hx : P x) (hb : ∀ c ∈ b, P c) :
    ∀ c ∈ x :: b, P c := by
  intro c hc; rcases List.mem_cons.mp hc with h | h
  · exact h ▸ hx
  · exact hb c h

theorem forall_ite {P : UInt8 → Prop} {d : Prop} [Decidable d] {a b : List UInt8} (ha : ∀ c ∈ a, P c) (hb : ∀ c ∈ b, P c) :
    ∀ c ∈ (if d then a else b), P c := by
  split
  · exact ha
  · exact hb

theorem kw_inert : (∀ c ∈ "NaN".toUTF8.toList, inert c = true) ∧ (∀ c ∈ "null".toUTF8.toList, inert c = true) ∧
    (∀ c ∈ "-Infinity".toUTF8.toList, inert c = true) ∧ (∀ c ∈ "Infinity".toUTF8.toList, inert c = true) := by
  rw [FloatLen.kw_nan, kw_null, FloatLen.kw_neginf, FloatLen.kw_inf]
  decide

/-- a float is written as a keyword or as a number literal of the RFC -/
theorem writeFloat_inert (cfg : Cfg) (v places : Nat) (hp : places ≤ 46) : ∀ c ∈ writeFloat cfg v places, inert c = true := by
  obtain ⟨k1, k2, k3, k4⟩ := kw_inert
  cases hn : SF.isNaN SF.b64 v
  · cases hi : SF.isInf SF.b64 v
    · exact fun c hc => inert_numCh (numLit_chars (SerG.numLit_writeFloat cfg v places hp hn hi) c hc)
    · have e : writeFloat cfg v places =
          (if cfg.inf then (if SF.lt SF.b64 v 0 then "-Infinity" else "Infinity") else "null").toUTF8.toList := by
        unfold writeFloat; rw [hn, hi]; rfl
      rw [e]
      cases cfg.inf
      · exact k2
      · cases SF.lt SF.b64 v 0
        · exact k4
        · exact k3
  · have e : writeFloat cfg v places = (if cfg.nan then "NaN" else "null").toUTF8.toList := by
      unfold writeFloat; rw [hn]; rfl
    rw [e]
    cases cfg.nan
    · exact k2
    · exact k1

theorem printNum_inert (cfg : Cfg) (n : Num) : ∀ c ∈ printNum cfg n, inert c = true := by
  have nil : ∀ c ∈ ([] : List UInt8), inert c = true := fun c hc => absurd hc (by simp)
  cases n with
  | uint m => exact digits_inert m
  | sint i => exact forall_append (forall_ite (forall_cons (by decide) nil) nil) (digits_inert _)
  | f32 b => exact writeFloat_inert cfg _ 6 (by decide)
  | f64 b => exact writeFloat_inert cfg _ 9 (by decide)


/-! ### the pretty text strips to the compact text -/

theorem strips_kw : Strips "null".toUTF8.toList "null".toUTF8.toList ∧ Strips "true".toUTF8.toList "true".toUTF8.toList ∧
    Strips "false".toUTF8.toList "false".toUTF8.toList := by
  rw [JD.kw_null, JD.kw_true, JD.kw_false]
  exact ⟨⟨by decide, by decide⟩, ⟨by decide, by decide⟩, ⟨by decide, by decide⟩⟩

theorem Strips.cons' {c : UInt8} {a b : List UInt8} (h : inert c = true) (h' : Strips a b) : Strips (c :: a) (c :: b) :=
  Strips.cons h h'

theorem Strips.snoc {c : UInt8} {a b : List UInt8} (h' : Strips a b) (h : inert c = true) : Strips (a ++ [c]) (b ++ [c]) :=
  h'.append (Strips.one h)

theorem Strips.wsl {a b w : List UInt8} (h : Strips a b) (hw : Strips w []) : Strips (w ++ a) b := by
  simpa using hw.append h

theorem Strips.wsr {a b w : List UInt8} (h : Strips a b) (hw : Strips w []) : Strips (a ++ w) b := by
  simpa using h.append hw

/-! the productions of the indented text against those of the compact text, the parts being variables -/

theorem Strips.brackets {o c : UInt8} (ho : inert o = true) (hc : inert c = true) {i a b : List UInt8}
    (hi : Strips i []) (h : Strips a b) : Strips (o :: crlf ++ a ++ i ++ [c]) (o :: b ++ [c]) :=
  (((((Strips.one ho).wsr strips_crlf).append h).wsr hi).snoc hc)

theorem Strips.sep {m m' r r' : List UInt8} (h : Strips m m') (hr : Strips r r') :
    Strips (m ++ 0x2C :: crlf ++ r) (m' ++ 0x2C :: r') := by
  have := h.append (Strips.cons (c := 0x2C) (by decide) (hr.wsl strips_crlf))
  simpa only [List.append_assoc, List.cons_append] using this

theorem strips_member (k : List UInt8) {i t t' : List UInt8} (hi : Strips i []) (h : Strips t t') :
    Strips (i ++ writeString k ++ [0x3A, 0x20] ++ t) (writeString k ++ 0x3A :: t') := by
  have colon : Strips [0x3A, 0x20] [0x3A] := ⟨by decide, by decide⟩
  have := (((strips_writeString k).wsl hi).append colon).append h
  simpa only [List.append_assoc, List.singleton_append] using this

open C07 in
mutual
theorem strips_pretty (cfg : Cfg) : ∀ (v : Val) (n : Nat), RawFree v → Strips (pretty cfg n v) (compact cfg v)
  | .arr [], _, _ => strips_inert [0x5B, 0x5D] (by decide)
  | .arr (x :: xs), n, h =>
    Strips.brackets (by decide) (by decide) (strips_indent n) (strips_prettyElems cfg (x :: xs) (n + 1) h)
  | .obj [], _, _ => strips_inert [0x7B, 0x7D] (by decide)
  | .obj (m :: ms), n, h =>
    Strips.brackets (by decide) (by decide) (strips_indent n) (strips_prettyMembers cfg (m :: ms) (n + 1) h)
  | .null, _, _ => strips_kw.1
  | .bool true, _, _ => strips_kw.2.1
  | .bool false, _, _ => strips_kw.2.2
  | .num x, _, _ => strips_inert _ (printNum_inert cfg x)
  | .str s, _, _ => strips_writeString s
  | .raw _, _, h => h.elim
theorem strips_prettyElems (cfg : Cfg) : ∀ (xs : List Val) (n : Nat), AllE RawFreeS (fun _ => True) xs →
    Strips (prettyElems cfg n xs) (compactElems cfg xs)
  | [], _, _ => .nil
  | [x], n, h => ((strips_pretty cfg x n h.1).wsl (strips_indent n)).wsr strips_crlf
  | x :: y :: r, n, h =>
    ((strips_pretty cfg x n h.1).wsl (strips_indent n)).sep (strips_prettyElems cfg (y :: r) n h.2)
theorem strips_prettyMembers (cfg : Cfg) : ∀ (ms : List (List UInt8 × Val)) (n : Nat), AllM RawFreeS (fun _ => True) ms →
    Strips (prettyMembers cfg n ms) (compactMembers cfg ms)
  | [], _, _ => .nil
  | [(k, v)], n, h => (strips_member k (strips_indent n) (strips_pretty cfg v n h.2.1)).wsr strips_crlf
  | (k, v) :: m :: r, n, h =>
    (strips_member k (strips_indent n) (strips_pretty cfg v n h.2.1)).sep (strips_prettyMembers cfg (m :: r) n h.2.2)
end

/-- stripping is idempotent: the result contains no whitespace outside string literals -/
theorem stripGo_idem (st : SS) (t : List UInt8) : stripGo st (stripGo st t) = stripGo st t := by
  induction t generalizing st with
  | nil => rfl
  | cons c cs ih =>
    simp only [stripGo]
    cases hk : keep st c
    · -- dropped: whitespace outside a string, the state does not change
      have hst : st = .out := by cases st <;> simp_all [keep]
      subst hst
      have hw : isWsByte c = true := by simpa [keep] using hk
      have e : (c == 0x22) = false := by
        rw [beq_eq_false_iff_ne]; rintro rfl; exact absurd hw (by decide)
      simp only [Bool.false_eq_true, ↓reduceIte, List.nil_append, next, e]
      exact ih .out
    · simp only [↓reduceIte, List.singleton_append, stripGo, hk, ih]

end C02
