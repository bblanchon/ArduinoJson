/- Basic facts for the slot-level MessagePack deserializer `MDD` (AJ/Model/MDD.lean): the StringBuffer model
   (`reserve`, `save`, `readString`) against the accounting of AJ/Lemmas/JddRes.lean (`LBd`, `Fx`) and the save effect
   `JDD.SaveOp` of AJ/Lemmas/JddBase.lean. The document operations are the ones of the JSON twin, so the invariant
   `JDD.Built` and its lemmas (AJ/Lemmas/JddOps.lean) are reused unchanged.
   Used by AJ/Lemmas/MddLeaf.lean. -/
import AJ.Model.MDD
import AJ.Lemmas.JddInv
namespace MDD
open DL
open JD (Byte Code)
open JDD (PlEq LBd Fx Blk AllB SaveOp nl)

/-- an `MDD` state seen as a `JDD` state: same document, same buffer (the reader plays no role in the document lemmas) -/
def J (x : S) : JDD.S := { s := { l := { unread := [] } }, d := x.d, b := x.b }

theorem J_d (x : S) : (J x).d = x.d := rfl
theorem J_b (x : S) : (J x).b = x.b := rfl

/-! ## `StringBuffer::reserve` -/

/-- effect of a StringBuffer operation `x → x'`: the reader is not moved, only allocator traffic and the overflow flag;
    the ledger follows the buffer; the flag is sticky -/
structure ROp (x x' : S) : Prop where
  r : x'.r = x.r
  pleq : PlEq x.d x'.d
  bal : LBd x.d x.b → LBd x'.d x'.b
  ovs : x.d.overflowed = true → x'.d.overflowed = true

theorem ROp.refl (x : S) : ROp x x := ⟨rfl, PlEq.refl _, fun h => h, fun h => h⟩

theorem ROp.trans {x x1 x2 : S} (h1 : ROp x x1) (h2 : ROp x1 x2) : ROp x x2 :=
  ⟨h2.r.trans h1.r, h1.pleq.trans h2.pleq, fun h => h2.bal (h1.bal h), fun h => h2.ovs (h1.ovs h)⟩

/-- first half of `reserve`: a node that is too small is released -/
def relIfSmall (x : S) (n : Nat) : S :=
  match x.b with
  | some cap => if n > cap then { x with d := { x.d with pl := x.d.pl.dealloc }, b := none } else x
  | none => x

/-- second half of `reserve`: a node is allocated unless one is present -/
def acquire (maxLen : Nat) (x : S) (n : Nat) : Bool × S :=
  match x.b with
  | some _ => (true, x)
  | none =>
    if n > maxLen then (false, { x with d := { x.d with overflowed := true } })
    else
      let (ok, pl) := x.d.pl.alloc (n + x.d.strOverhead)
      if ok then (true, { x with d := { x.d with pl := pl }, b := some n })
      else (false, { x with d := { x.d with pl := pl, overflowed := true } })

theorem reserve_eq (maxLen : Nat) (x : S) (n : Nat) : reserve maxLen x n = acquire maxLen (relIfSmall x n) n := rfl

theorem relIfSmall_spec (x : S) (n : Nat) :
    ROp x (relIfSmall x n) ∧ (relIfSmall x n).d.overflowed = x.d.overflowed := by
  unfold relIfSmall
  cases hb : x.b with
  | none => exact ⟨ROp.refl x, rfl⟩
  | some cap =>
    simp only
    split
    · refine ⟨⟨rfl, ⟨rfl, rfl, rfl, rfl, rfl, rfl, rfl, rfl, rfl, rfl⟩, ?_, fun h => h⟩, rfl⟩
      intro h
      unfold LBd at h ⊢
      simp only [hb, Option.isSome_some, if_true, Option.isSome_none, Bool.false_eq_true, if_false] at h ⊢
      rw [JDD.dealloc_net, h]; omega
    · exact ⟨ROp.refl x, rfl⟩

theorem acquire_spec (maxLen : Nat) (x : S) (n : Nat) :
    ROp x (acquire maxLen x n).2 ∧
    ((acquire maxLen x n).1 = true →
      (acquire maxLen x n).2.b.isSome = true ∧ (acquire maxLen x n).2.d.overflowed = x.d.overflowed) ∧
    ((acquire maxLen x n).1 = false →
      (acquire maxLen x n).2.b = none ∧ (acquire maxLen x n).2.d.overflowed = true) := by
  unfold acquire
  cases hb : x.b with
  | some c => exact ⟨ROp.refl x, fun _ => ⟨by rw [hb]; rfl, rfl⟩, fun h => by cases h⟩
  | none =>
    simp only
    split
    · -- beyond the maximal length: StringNode::create refuses without calling the allocator
      refine ⟨⟨rfl, ⟨rfl, rfl, rfl, rfl, rfl, rfl, rfl, rfl, rfl, rfl⟩, ?_, fun _ => rfl⟩, (fun h => by cases h),
        fun _ => ⟨rfl, rfl⟩⟩
      intro h
      unfold LBd at h ⊢
      simp only [hb] at h ⊢
      exact h
    · have hn := alloc_net x.d.pl (n + x.d.strOverhead)
      have hf := PL.alloc_fst x.d.pl (n + x.d.strOverhead)
      generalize hq : x.d.pl.alloc (n + x.d.strOverhead) = q at hn hf
      obtain ⟨ok, pl⟩ := q
      have hpl : pl = (x.d.pl.alloc (n + x.d.strOverhead)).2 := by rw [hq]
      simp only at hn hf ⊢
      have pe : ∀ o, PlEq x.d { x.d with pl := pl, overflowed := o } :=
        fun o => ⟨rfl, rfl, rfl, rfl, rfl, rfl, by rw [hpl]; rfl, by rw [hpl]; rfl, by rw [hpl]; rfl, by rw [hpl]; rfl⟩
      cases ok with
      | true =>
        simp only [if_true]
        refine ⟨⟨rfl, pe _, ?_, fun h => h⟩, (fun _ => ⟨rfl, trivial⟩), fun h => by cases h⟩
        intro h
        have hfa : x.d.pl.failsAt (x.d.pl.calls + 1) = false := by
          cases hh : x.d.pl.failsAt (x.d.pl.calls + 1) <;> simp [hh] at hf ⊢
        unfold LBd at h ⊢
        simp only [hb, Option.isSome_none, Bool.false_eq_true, if_false, Option.isSome_some, if_true] at h ⊢
        rw [hn, hfa, h]; simp
      | false =>
        simp only [Bool.false_eq_true, if_false]
        refine ⟨⟨rfl, pe _, ?_, fun _ => rfl⟩, (fun h => by cases h), fun _ => ⟨trivial, trivial⟩⟩
        intro h
        have hfa : x.d.pl.failsAt (x.d.pl.calls + 1) = true := by
          cases hh : x.d.pl.failsAt (x.d.pl.calls + 1) <;> simp [hh] at hf ⊢
        unfold LBd at h ⊢
        simp only [hb, Option.isSome_none, Bool.false_eq_true, if_false] at h ⊢
        rw [hn, hfa, h]; simp

/-- `StringBuffer::reserve(n)`: on success a buffer is present and the flag is untouched; on failure there is no
    buffer and the flag is set (with or without an allocator call); the ledger follows the buffer in both cases -/
theorem mp_reserve_spec (maxLen : Nat) (x : S) (n : Nat) :
    ROp x (reserve maxLen x n).2 ∧
    ((reserve maxLen x n).1 = true →
      (reserve maxLen x n).2.b.isSome = true ∧ (reserve maxLen x n).2.d.overflowed = x.d.overflowed) ∧
    ((reserve maxLen x n).1 = false →
      (reserve maxLen x n).2.b = none ∧ (reserve maxLen x n).2.d.overflowed = true) := by
  rw [reserve_eq]
  obtain ⟨a1, a2⟩ := relIfSmall_spec x n
  obtain ⟨b1, b2, b3⟩ := acquire_spec maxLen (relIfSmall x n) n
  exact ⟨a1.trans b1, fun h => ⟨(b2 h).1, (b2 h).2.trans a2⟩, b3⟩

/-- a request beyond the maximal length with no (or a smaller) buffer fails without an allocator call -/
theorem reserve_too_long {maxLen : Nat} {x : S} {n : Nat} (hb : x.b = none) (hn : n > maxLen) :
    reserve maxLen x n = (false, { x with d := { x.d with overflowed := true } }) := by
  simp only [reserve, hb, if_pos hn]

/-! ## `StringBuffer::save` -/

theorem mp_save_eq_found {x : S} {bytes : List Byte} {y : StrNode} (hf : x.d.strings.find? (·.bytes == bytes) = some y) :
    save x bytes = (y.id, { x with d := { x.d with strings :=
      (x.d.strings.map (fun z => if z.id == y.id then { z with refs := z.refs + 1 } else z)) } }) := by
  simp only [save, hf]

/-- the pool list after the exact-size reallocation of `save` (only when the buffer is larger than the string) -/
def shrunkPl (x : S) (bytes : List Byte) : PL.St :=
  match x.b with
  | some cap => if cap != bytes.length then (x.d.pl.realloc (bytes.length + x.d.strOverhead) false).2 else x.d.pl
  | none => x.d.pl

theorem mp_save_eq_new {x : S} {bytes : List Byte} (hf : x.d.strings.find? (·.bytes == bytes) = none) :
    save x bytes = (x.d.nextNode, { x with d := { x.d with
        pl := shrunkPl x bytes,
        strings := ⟨x.d.nextNode, bytes, 1⟩ :: x.d.strings, nextNode := x.d.nextNode + 1 }, b := none }) := by
  simp only [save, hf]
  rfl

theorem shrunkPl_facts (x : S) (bytes : List Byte) :
    (shrunkPl x bytes).pools = x.d.pl.pools ∧ (shrunkPl x bytes).free = x.d.pl.free ∧
    (shrunkPl x bytes).tableCap = x.d.pl.tableCap ∧ (shrunkPl x bytes).tableHeap = x.d.pl.tableHeap ∧
    PL.net (shrunkPl x bytes) = PL.net x.d.pl := by
  unfold shrunkPl
  cases x.b with
  | none => exact ⟨rfl, rfl, rfl, rfl, rfl⟩
  | some cap =>
    simp only
    split
    · exact ⟨rfl, rfl, rfl, rfl, JDD.realloc_net _ _ _⟩
    · exact ⟨rfl, rfl, rfl, rfl, rfl⟩

/-- `StringBuffer::save`: the effect `JDD.SaveOp` of the JSON builder's `save` (node `n` gained a reference or was
    created with one; nothing else but allocator traffic; with a buffer present the ledger stays balanced) -/
theorem mp_save_spec (x : S) (bytes : List Byte) : SaveOp (J x) bytes (save x bytes).1 (J (save x bytes).2) := by
  cases hf : x.d.strings.find? (·.bytes == bytes) with
  | some y =>
    have hf' : (JDD.calm (J x).d bytes.length).strings.find? (·.bytes == bytes) = some y := hf
    obtain ⟨a, b, c⟩ := JDD.save_via (J x) bytes y.id (J (save x bytes).2) _ (saveString_found hf')
      (by rw [mp_save_eq_found hf]; rfl) (by rw [mp_save_eq_found hf]; rfl)
    rw [mp_save_eq_found hf] at a b c ⊢
    refine ⟨rfl, rfl, rfl, rfl, rfl, rfl, rfl, rfl, rfl, rfl, a, b, c, ?_⟩
    intro _ h
    unfold JDD.LB at h ⊢
    simp only [J, List.length_map] at h ⊢; exact h
  | none =>
    have hf' : (JDD.calm (J x).d bytes.length).strings.find? (·.bytes == bytes) = none := hf
    obtain ⟨p1, p2, p3, p4, hn⟩ := shrunkPl_facts x bytes
    have hsv := saveString_short hf' (Nat.le_refl _)
    rw [JDD.calm_failsAt] at hsv
    simp only [Bool.false_eq_true, if_false] at hsv
    obtain ⟨a, b, c⟩ := JDD.save_via (J x) bytes x.d.nextNode (J (save x bytes).2) _ hsv
      (by rw [mp_save_eq_new hf]; rfl) (by rw [mp_save_eq_new hf]; rfl)
    rw [mp_save_eq_new hf] at a b c ⊢
    refine ⟨rfl, rfl, rfl, rfl, rfl, rfl, p1, p2, p3, p4, a, b, c, ?_⟩
    intro hb h
    unfold JDD.LB at h ⊢
    simp only [J] at hb h ⊢
    simp only [hb, if_true, Option.isSome_none, Bool.false_eq_true, if_false, List.length_cons] at h ⊢
    rw [hn, h]; simp

/-! ## `readString` -/

/-- `readString` in terms of what `reserve` returns -/
theorem readString_eq (env : MD.Env) (x : S) (n : Nat) :
    readString env x n =
      if (reserve env.maxStrLen x n).1 then
        match (reserve env.maxStrLen x n).2.r.readBytes n with
        | (some bs, r) => (.ok, bs, { (reserve env.maxStrLen x n).2 with r := r })
        | (none, r) => (.incomplete, [], { (reserve env.maxStrLen x n).2 with r := r })
      else (.noMemory, [], (reserve env.maxStrLen x n).2) := by
  unfold readString
  generalize reserve env.maxStrLen x n = q
  obtain ⟨ok, y⟩ := q
  cases ok <;> rfl

/-- `readString(n)`: `Ok` with a buffer present and the flag untouched, `NoMemory` with the flag set, or
    `IncompleteInput` (buffer present, flag untouched); only allocator traffic on the document -/
theorem mp_readString_spec (env : MD.Env) (x : S) (n : Nat) :
    PlEq x.d (readString env x n).2.2.d ∧
    Fx x.d x.b (readString env x n).2.2.d (readString env x n).2.2.b (readString env x n).1 ∧
    ((readString env x n).1 = .ok → (readString env x n).2.2.b.isSome = true) ∧
    ((readString env x n).1 ≠ .noMemory → (readString env x n).2.2.d.overflowed = x.d.overflowed) ∧
    ((readString env x n).1 = .ok ∨ (readString env x n).1 = .noMemory ∨ (readString env x n).1 = .incomplete) := by
  obtain ⟨ro, hok, hfail⟩ := mp_reserve_spec env.maxStrLen x n
  unfold readString
  generalize reserve env.maxStrLen x n = q at ro hok hfail
  obtain ⟨ok, x1⟩ := q
  simp only at ro hok hfail
  have blk : Blk x.d → Blk x1.d := JDD.Blk.of_pleq ro.pleq.pools ro.ovs
  cases ok with
  | false =>
    obtain ⟨_, ho⟩ := hfail rfl
    exact ⟨ro.pleq, ⟨ro.bal, ro.ovs, (fun h => by cases h), (fun _ => ho), blk⟩, (fun h => by cases h),
      (fun h => absurd rfl h), Or.inr (Or.inl rfl)⟩
  | true =>
    obtain ⟨hb, ho⟩ := hok rfl
    simp only
    generalize x1.r.readBytes n = q
    obtain ⟨o, r⟩ := q
    cases o with
    | some bs =>
      exact ⟨ro.pleq, ⟨ro.bal, ro.ovs, (fun _ => ho), (fun h => by cases h), blk⟩, (fun _ => hb), (fun _ => ho),
        Or.inl rfl⟩
    | none =>
      exact ⟨ro.pleq, ⟨ro.bal, ro.ovs, (fun h => by cases h), (fun h => by cases h), blk⟩, (fun h => by cases h),
        (fun _ => ho), Or.inr (Or.inr rfl)⟩

end MDD
