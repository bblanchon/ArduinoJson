/- Decimal notation, specified independently of `Nat.toDigits`, and the facts about
   `JS.digits` / `JD.takeDigitsMant` needed for property C12. Then `JD.parseNumber` cut into stages, each with the
   lemmas through which proofs use it without unfolding it, and from them: `parseNumber` answers an integer exactly
   on the (signed) digit strings inside the 64-bit ranges (`uint_iff`, `sint_iff`). -/
import AJ.Model.JD
import AJ.Model.JS
import AJ.Lemmas.SFWidth
namespace Digits
open JD SF

/-- one Horner step of decimal notation -/
def step (acc : Nat) (c : UInt8) : Nat := acc * 10 + (c.toNat - 48)

/-- value of a byte string read as decimal digits (Horner), with accumulator -/
def decValAux (acc : Nat) (ds : List UInt8) : Nat := ds.foldl step acc

/-- value of a byte string read as a decimal numeral -/
def decVal (ds : List UInt8) : Nat := decValAux 0 ds

/-- every byte is an ASCII digit '0'..'9' -/
def AllDigits (ds : List UInt8) : Prop := ∀ c ∈ ds, 0x30 ≤ c ∧ c ≤ 0x39

theorem step_eq (a : Nat) (c : UInt8) : step a c = a * 10 + (c.toNat - 48) := by unfold step; exact Eq.refl _

theorem decVal_eq_foldl (ds : List UInt8) : decVal ds = ds.foldl (fun acc c => acc * 10 + (c.toNat - 48)) 0 := by
  unfold decVal decValAux
  have : step = (fun acc c => acc * 10 + (c.toNat - 48)) := by funext a c; exact step_eq a c
  rw [this]

theorem decValAux_nil (a : Nat) : decValAux a [] = a := rfl
theorem decValAux_cons (a : Nat) (c : UInt8) (cs : List UInt8) :
    decValAux a (c :: cs) = decValAux (a * 10 + (c.toNat - 48)) cs := by
  unfold decValAux; rw [List.foldl_cons, step_eq]

theorem decValAux_append (a : Nat) (xs ys : List UInt8) : decValAux a (xs ++ ys) = decValAux (decValAux a xs) ys := by
  unfold decValAux; rw [List.foldl_append]

theorem decVal_snoc (xs : List UInt8) (c : UInt8) : decVal (xs ++ [c]) = decVal xs * 10 + (c.toNat - 48) := by
  unfold decVal; rw [decValAux_append, decValAux_cons, decValAux_nil]

theorem le_decValAux (a : Nat) (ds : List UInt8) : a ≤ decValAux a ds := by
  induction ds generalizing a with
  | nil => exact Nat.le_refl _
  | cons c cs ih =>
    rw [decValAux_cons]
    have := ih (a * 10 + (c.toNat - 48))
    omega

theorem AllDigits_nil : AllDigits [] := by intro c h; cases h
theorem AllDigits_cons {c : UInt8} {cs : List UInt8} : AllDigits (c :: cs) ↔ (0x30 ≤ c ∧ c ≤ 0x39) ∧ AllDigits cs := by
  simp only [AllDigits, List.mem_cons, forall_eq_or_imp]
theorem AllDigits_append {xs ys : List UInt8} : AllDigits (xs ++ ys) ↔ AllDigits xs ∧ AllDigits ys := by
  simp only [AllDigits, List.mem_append]
  constructor
  · intro h; exact ⟨fun c hc => h c (Or.inl hc), fun c hc => h c (Or.inr hc)⟩
  · intro h c hc; cases hc with
    | inl hc => exact h.1 c hc
    | inr hc => exact h.2 c hc
theorem AllDigits_zeros (k : Nat) : AllDigits (List.replicate k (0x30 : UInt8)) := by
  intro c hc
  rw [List.eq_of_mem_replicate hc]
  decide

theorem decValAux_zeros (k : Nat) (ds : List UInt8) : decVal (List.replicate k (0x30 : UInt8) ++ ds) = decVal ds := by
  induction k with
  | zero => rfl
  | succ k ih =>
    rw [List.replicate_succ, List.cons_append]
    unfold decVal at *
    rw [decValAux_cons]
    exact ih

/-- the byte of the decimal digit `d` -/
def digitByte (d : Nat) : UInt8 := UInt8.ofNat (48 + d)

theorem digitChar_byte (d : Nat) (h : d < 10) : UInt8.ofNat (Nat.digitChar d).toNat = digitByte d := by
  have : ∀ i : Fin 10, UInt8.ofNat (Nat.digitChar i.val).toNat = digitByte i.val := by decide
  exact this ⟨d, h⟩

theorem digitByte_toNat (d : Nat) (h : d < 10) : (digitByte d).toNat = 48 + d := by
  have : ∀ i : Fin 10, (digitByte i.val).toNat = 48 + i.val := by decide
  exact this ⟨d, h⟩

theorem digitByte_range (d : Nat) (h : d < 10) : 0x30 ≤ digitByte d ∧ digitByte d ≤ 0x39 := by
  have : ∀ i : Fin 10, 0x30 ≤ digitByte i.val ∧ digitByte i.val ≤ 0x39 := by decide
  exact this ⟨d, h⟩

/-- `JS.digits` satisfies the schoolbook recursion -/
theorem digits_rec (n : Nat) :
    JS.digits n = if n < 10 then [digitByte n] else JS.digits (n / 10) ++ [digitByte (n % 10)] := by
  unfold JS.digits
  rw [Nat.toDigits_eq_if (b := 10) (by decide)]
  split
  · rename_i h; simp only [List.map_cons, List.map_nil, digitChar_byte n h]
  · simp only [List.map_append, List.map_cons, List.map_nil, digitChar_byte (n % 10) (Nat.mod_lt _ (by decide))]

theorem digits_spec (n : Nat) :
    AllDigits (JS.digits n) ∧ decVal (JS.digits n) = n ∧ JS.digits n ≠ [] ∧
    (n ≠ 0 → (JS.digits n).head? ≠ some 0x30) := by
  induction n using Nat.strongRecOn with
  | _ n ih =>
    rw [digits_rec]
    split
    · rename_i h
      refine ⟨?_, ?_, ?_, ?_⟩
      · rw [AllDigits_cons]; exact ⟨digitByte_range n h, AllDigits_nil⟩
      · show decValAux 0 [digitByte n] = n
        rw [decValAux_cons, decValAux_nil, digitByte_toNat n h]; omega
      · simp
      · intro hn
        simp only [List.head?_cons, ne_eq, Option.some.injEq]
        intro e
        have := congrArg UInt8.toNat e
        rw [digitByte_toNat n h] at this
        simp at this
        omega
    · rename_i h
      have hlt : n / 10 < n := by omega
      obtain ⟨h1, h2, h3, h4⟩ := ih (n / 10) hlt
      have hm : n % 10 < 10 := Nat.mod_lt _ (by decide)
      refine ⟨?_, ?_, ?_, ?_⟩
      · rw [AllDigits_append, AllDigits_cons]; exact ⟨h1, digitByte_range _ hm, AllDigits_nil⟩
      · rw [decVal_snoc, h2, digitByte_toNat _ hm]; omega
      · simp
      · intro _
        have hq : n / 10 ≠ 0 := by omega
        have := h4 hq
        cases hd : JS.digits (n / 10) with
        | nil => exact absurd hd h3
        | cons a as => rw [hd] at this; simpa using this

/-! ## the mantissa loop of `parseNumber` on digit strings -/

theorem digitVal_eq (c : UInt8) : digitVal c = c.toNat - 48 := by unfold digitVal; exact Eq.refl _

theorem isDigit_of_range {c : UInt8} (h : 0x30 ≤ c ∧ c ≤ 0x39) : isDigit c = true := by
  simp only [isDigit, Bool.and_eq_true, decide_eq_true_eq]; exact h

theorem ne_of_digit {c : UInt8} (hc : 0x30 ≤ c ∧ c ≤ 0x39) (k : UInt8) (hk : ¬ (0x30 ≤ k ∧ k ≤ 0x39)) : c ≠ k := by
  rintro rfl; exact hk hc

theorem digit_ne {c : UInt8} (hc : 0x30 ≤ c ∧ c ≤ 0x39) (k : UInt8) (hk : ¬ (0x30 ≤ k ∧ k ≤ 0x39)) :
    (c == k) = false :=
  beq_eq_false_iff_ne.mpr (ne_of_digit hc k hk)

/-- On an all-digit string whose value fits 64 bits, neither overflow guard of `takeDigitsMant` fires:
    the loop consumes everything and returns the exact value. -/
theorem takeDigitsMant_all (acc : Nat) (ds : List UInt8) (hd : AllDigits ds) (hv : decValAux acc ds < 2 ^ 64) :
    takeDigitsMant (2 ^ 64 - 1) acc ds = (decValAux acc ds, []) := by
  induction ds generalizing acc with
  | nil => rw [takeDigitsMant, decValAux_nil]
  | cons c cs ih =>
    rw [AllDigits_cons] at hd
    rw [decValAux_cons] at hv ⊢
    have hle := le_decValAux (acc * 10 + (c.toNat - 48)) cs
    have g1 : ¬ acc > (2 ^ 64 - 1) / 10 := by omega
    have g2 : ¬ acc * 10 > 2 ^ 64 - 1 - digitVal c := by rw [digitVal_eq]; omega
    rw [takeDigitsMant, if_pos (isDigit_of_range hd.1), if_neg g1, if_neg g2, digitVal_eq]
    exact ih _ hd.2 hv

theorem takeDigitsMant_digits (ds : List UInt8) (hd : AllDigits ds) (hv : decVal ds < 2 ^ 64) :
    takeDigitsMant (2 ^ 64 - 1) 0 ds = (decVal ds, []) := takeDigitsMant_all 0 ds hd hv

theorem range_of_isDigit {c : UInt8} (h : isDigit c = true) : 0x30 ≤ c ∧ c ≤ 0x39 := by
  simpa only [isDigit, Bool.and_eq_true, decide_eq_true_eq] using h

/-- converse of `takeDigitsMant_all`: if the loop consumes the whole string, the string is all digits,
    the result is its exact value, and it fits 64 bits -/
theorem takeDigitsMant_inv (acc m : Nat) (ds : List UInt8) (ha : acc < 2 ^ 64)
    (h : takeDigitsMant (2 ^ 64 - 1) acc ds = (m, [])) :
    AllDigits ds ∧ decValAux acc ds = m ∧ m < 2 ^ 64 := by
  induction ds generalizing acc with
  | nil =>
    rw [takeDigitsMant] at h
    exact ⟨AllDigits_nil, by rw [decValAux_nil]; exact (Prod.mk.inj h).1, by rw [← (Prod.mk.inj h).1]; exact ha⟩
  | cons c cs ih =>
    rw [takeDigitsMant] at h
    by_cases hc : isDigit c = true
    · rw [if_pos hc] at h
      have hr := range_of_isDigit hc
      have hn : 48 ≤ c.toNat ∧ c.toNat ≤ 57 := ⟨UInt8.le_iff_toNat_le.mp hr.1, UInt8.le_iff_toNat_le.mp hr.2⟩
      by_cases g1 : acc > (2 ^ 64 - 1) / 10
      · rw [if_pos g1] at h; exact absurd (Prod.mk.inj h).2 (by simp)
      · rw [if_neg g1] at h
        by_cases g2 : acc * 10 > 2 ^ 64 - 1 - digitVal c
        · rw [if_pos g2] at h; exact absurd (Prod.mk.inj h).2 (by simp)
        · rw [if_neg g2] at h
          rw [digitVal_eq] at g2 h
          obtain ⟨h1, h2, h3⟩ := ih (acc * 10 + (c.toNat - 48)) (by omega) h
          exact ⟨AllDigits_cons.mpr ⟨hr, h1⟩, by rw [decValAux_cons]; exact h2, h3⟩
    · rw [if_neg hc] at h; exact absurd (Prod.mk.inj h).2 (by simp)

/-- leading zeros followed by the canonical digits of `n`: an all-digit, non-empty string of value `n` -/
theorem zeros_digits (k n : Nat) :
    AllDigits (List.replicate k (0x30 : UInt8) ++ JS.digits n) ∧
    List.replicate k (0x30 : UInt8) ++ JS.digits n ≠ [] ∧
    decVal (List.replicate k (0x30 : UInt8) ++ JS.digits n) = n := by
  obtain ⟨h1, h2, h3, _⟩ := digits_spec n
  refine ⟨AllDigits_append.mpr ⟨AllDigits_zeros k, h1⟩, ?_, ?_⟩
  · intro h; exact h3 (List.append_eq_nil_iff.mp h).2
  · rw [decValAux_zeros, h2]
/-! ## `parseNumber` by stages

`core`, `stage1`, `stage2`, `stage3` and `finish` are, one inside the other, the body of `JD.parseNumber`. -/

/-- the last stage of `parseNumber` (from the trailing-garbage test on), as a function of the values computed before it -/
def finish (neg : Bool) (s : List Byte) (mant : Nat) (e : Int) : PNum :=
  if !s.isEmpty then .invalid else
  (
    if mant == 0 then .f32 (negBits b32 neg 0) else
    if e > (Gen.exponent_max64 : Int) then .f64 (infBits b64 neg) else
    if e < -((Gen.exponent_max64 : Int) + 17) then .f32 (negBits b32 neg 0) else
    let isDouble := e < -(Gen.exponent_max32 : Int) || e > (Gen.exponent_max32 : Int) || mant > Gen.mantissa_max32
    let viaDouble : PNum :=
      match makeFloat b64 pos64 neg64 (ofNat b64 mant) e with
      | none => .fault
      | some r => .f64 (negBits b64 neg r)
    if isDouble then viaDouble
    else
      match makeFloat b32 pos32 neg32 (ofNat b32 mant) e with
      | none => .fault
      | some r => if isInf b32 r then viaDouble else .f32 (negBits b32 neg r)
  )

/-- `finish` rejects what is left over, answers a float, or faults where `makeFloat` leaves its table -/
theorem finish_cases {Q : PNum → Prop} (neg : Bool) (s : List Byte) (mant : Nat) (e : Int)
    (hinv : s ≠ [] → Q .invalid) (h32 : ∀ b, Q (.f32 b)) (h64 : ∀ b, Q (.f64 b))
    (hf64 : e ≤ Gen.exponent_max64 → -((Gen.exponent_max64 : Int) + 17) ≤ e →
      makeFloat b64 pos64 neg64 (ofNat b64 mant) e = none → Q .fault)
    (hf32 : -(Gen.exponent_max32 : Int) ≤ e → e ≤ Gen.exponent_max32 →
      makeFloat b32 pos32 neg32 (ofNat b32 mant) e = none → Q .fault) : Q (finish neg s mant e) := by
  unfold finish
  refine of_ite (fun c => hinv (by rintro rfl; exact absurd c (by decide))) fun _ => of_ite (fun _ => h32 _) fun _ =>
    of_ite (fun _ => h64 _) fun hhi => of_ite (fun _ => h32 _) fun hlo => ?_
  have via : Q (match makeFloat b64 pos64 neg64 (ofNat b64 mant) e with
      | none => PNum.fault
      | some r => PNum.f64 (negBits b64 neg r)) := by
    cases hm : makeFloat b64 pos64 neg64 (ofNat b64 mant) e with
    | none => exact hf64 (Int.not_lt.mp hhi) (Int.not_lt.mp hlo) hm
    | some r => exact h64 _
  refine of_ite (fun _ => via) fun hd => ?_
  cases hm : makeFloat b32 pos32 neg32 (ofNat b32 mant) e with
  | none =>
    simp only [Bool.or_eq_true, decide_eq_true_eq, not_or, Int.not_lt] at hd
    exact hf32 hd.1.1 hd.1.2 hm
  | some r => exact of_ite (fun _ => via) fun _ => h32 _

end Digits
namespace JD
open SF Digits

/-- from the exponent on -/
def stage3 (neg : Bool) (s : List Byte) (mant : Nat) (off : Int) : PNum :=
  let (s, e) : List Byte × Int :=
    match s with
    | c :: r =>
      if c == 0x65 || c == 0x45 then
        let (negE, r) := match r with
          | 0x2D :: r' => (true, r')
          | 0x2B :: r' => (false, r')
          | _ => (false, r)
        let (r', e) := expDigits r 0
        (r', if negE then -(e : Int) else (e : Int))
      else (s, 0)
    | [] => ([], 0)
  finish neg s mant (e + off)

/-- from the decimal point on -/
def stage2 (neg : Bool) (s : List Byte) (mant : Nat) (off : Int) : PNum :=
  let (s, mant, off) := match s with
    | 0x2E :: r => fracDigits Gen.mantissa_max64 r mant off
    | _ => (s, mant, off)
  stage3 neg s mant off

/-- after the leading digits were accumulated -/
def stage1 (neg : Bool) (mant : Nat) (s : List Byte) : PNum :=
  if s.isEmpty && !neg then .uint mant else
  if s.isEmpty && neg && mant ≤ 2^63 then .sint (-(mant : Int)) else
  let (mant, off) := reduceMant Gen.mantissa_max64 32 mant 0
  let (s, off) := skipDigitsCount s off
  stage2 neg s mant off

/-- after the sign -/
def core (cfg : Cfg) (neg : Bool) (s : List Byte) : PNum :=
  let c0 := s.headD 0
  if cfg.nan && (c0 == 0x6E || c0 == 0x4E) then .f64 (nanBits b64) else
  if cfg.inf && (c0 == 0x69 || c0 == 0x49) then .f64 (infBits b64 neg) else
  if !(isDigit c0) && c0 != 0x2E then .invalid else
  let (mant, s) := takeDigitsMant (2^64 - 1) 0 s
  stage1 neg mant s

theorem parseNumber_minus (cfg : Cfg) (r : List Byte) : parseNumber cfg (0x2D :: r) = core cfg true r := by
  unfold parseNumber; split; rename_i neg s heq; cases heq; rfl

theorem parseNumber_plus (cfg : Cfg) (r : List Byte) : parseNumber cfg (0x2B :: r) = core cfg false r := by
  unfold parseNumber; split; rename_i neg s heq; cases heq; rfl

theorem parseNumber_unsigned (cfg : Cfg) (s : List Byte) (h1 : ∀ r, s ≠ 0x2D :: r) (h2 : ∀ r, s ≠ 0x2B :: r) :
    parseNumber cfg s = core cfg false s := by
  unfold parseNumber
  split
  rename_i neg' s' heq
  split at heq
  · exact absurd rfl (h1 _)
  · exact absurd rfl (h2 _)
  · cases heq; rfl

theorem parseNumber_digit (cfg : Cfg) (d : Byte) (r : List Byte) (h1 : d ≠ 0x2D) (h2 : d ≠ 0x2B) :
    parseNumber cfg (d :: r) = core cfg false (d :: r) :=
  parseNumber_unsigned cfg _ (fun _ h => h1 (List.cons.inj h).1) (fun _ h => h2 (List.cons.inj h).1)

/-- The four ways out of `core`; the last only on a text that begins with a digit or '.'. -/
theorem core_cases {Q : PNum → Prop} (cfg : Cfg) (neg : Bool) (s : List Byte)
    (hnan : Q (.f64 (nanBits b64))) (hinf : Q (.f64 (infBits b64 neg))) (hinv : Q .invalid)
    (hnum : s ≠ [] → ∀ mant rest, takeDigitsMant (2 ^ 64 - 1) 0 s = (mant, rest) → Q (stage1 neg mant rest)) :
    Q (core cfg neg s) := by
  unfold core
  refine of_ite (fun _ => hnan) fun _ => of_ite (fun _ => hinf) fun _ => of_ite (fun _ => hinv) fun c3 => ?_
  generalize ht : takeDigitsMant (2 ^ 64 - 1) 0 s = q
  exact hnum (by rintro rfl; exact c3 (by decide)) q.1 q.2 ht

/-- a text that begins with a digit takes the last way -/
theorem core_digit (cfg : Cfg) (neg : Bool) {c : Byte} (hc : 0x30 ≤ c ∧ c ≤ 0x39) (cs : List Byte) {mant : Nat}
    {rest : List Byte} (ht : takeDigitsMant (2 ^ 64 - 1) 0 (c :: cs) = (mant, rest)) :
    core cfg neg (c :: cs) = stage1 neg mant rest := by
  unfold core
  rw [ht]
  simp only [List.headD_cons, digit_ne hc 110 (by decide), digit_ne hc 78 (by decide), digit_ne hc 105 (by decide),
    digit_ne hc 73 (by decide), isDigit_of_range hc, Bool.or_self, Bool.and_false, Bool.false_eq_true, ↓reduceIte,
    Bool.not_true, Bool.false_and]

theorem stage1_uint (mant : Nat) : stage1 false mant [] = .uint mant := by rfl

theorem stage1_sint {mant : Nat} (h : mant ≤ 2 ^ 63) : stage1 true mant [] = .sint (-(mant : Int)) := by
  unfold stage1
  rw [if_neg (by decide), if_pos (by simpa using h)]

/-- `stage1` answers an integer only at the end of the text, and otherwise ends in `finish` -/
theorem stage1_cases {Q : PNum → Prop} (neg : Bool) (mant : Nat) (s : List Byte)
    (hu : s = [] → neg = false → Q (.uint mant))
    (hs : s = [] → neg = true → mant ≤ 2 ^ 63 → Q (.sint (-(mant : Int))))
    (hf : ∀ s' m e, Q (finish neg s' m e)) : Q (stage1 neg mant s) := by
  unfold stage1
  refine of_ite (fun c => ?_) fun _ => of_ite (fun c => ?_) fun _ => ?_
  · simp only [Bool.and_eq_true, List.isEmpty_iff, Bool.not_eq_true'] at c; exact hu c.1 c.2
  · simp only [Bool.and_eq_true, List.isEmpty_iff, decide_eq_true_eq] at c; exact hs c.1.1 c.1.2 c.2
  · split
    split
    unfold stage2
    split
    unfold stage3
    split
    exact hf _ _ _

end JD
namespace Digits
open JD SF

/-! ## `parseNumber` on digit strings (optionally signed) -/

theorem core_digits (cfg : Cfg) (neg : Bool) {ds : List UInt8} (hd : AllDigits ds) (hne : ds ≠ [])
    (hv : decVal ds < 2 ^ 64) : core cfg neg ds = stage1 neg (decVal ds) [] := by
  cases ds with
  | nil => exact absurd rfl hne
  | cons c cs => exact core_digit cfg neg (AllDigits_cons.mp hd).1 cs (takeDigitsMant_digits _ hd hv)

/-- "-ddd" with value ≤ 2^63 parses to the signed integer `-value` -/
theorem parse_minus (cfg : Cfg) (ds : List UInt8) (hd : AllDigits ds) (hne : ds ≠ []) (hv : decVal ds ≤ 2 ^ 63) :
    parseNumber cfg (0x2D :: ds) = .sint (-(decVal ds : Int)) := by
  rw [parseNumber_minus, core_digits cfg true hd hne (by omega), stage1_sint hv]

/-- "+ddd" with value < 2^64 parses to the unsigned integer `value` -/
theorem parse_plus (cfg : Cfg) (ds : List UInt8) (hd : AllDigits ds) (hne : ds ≠ []) (hv : decVal ds < 2 ^ 64) :
    parseNumber cfg (0x2B :: ds) = .uint (decVal ds) := by
  rw [parseNumber_plus, core_digits cfg false hd hne hv, stage1_uint]

/-- "ddd" with value < 2^64 parses to the unsigned integer `value` -/
theorem parse_unsigned (cfg : Cfg) (ds : List UInt8) (hd : AllDigits ds) (hne : ds ≠ []) (hv : decVal ds < 2 ^ 64) :
    parseNumber cfg ds = .uint (decVal ds) := by
  have sign (k : UInt8) (hk : ¬ (0x30 ≤ k ∧ k ≤ 0x39)) (r : List UInt8) : ds ≠ k :: r := by
    rintro rfl; exact ne_of_digit (AllDigits_cons.mp hd).1 k hk rfl
  rw [parseNumber_unsigned cfg ds (sign _ (by decide)) (sign _ (by decide)), core_digits cfg false hd hne hv, stage1_uint]

/-! ## inversion: when does `parseNumber` return an integer? -/

/-- the three texts `parseNumber` tells apart by their sign -/
theorem parseNumber_sign {Q : PNum → Prop} (cfg : Cfg) (s : List Byte)
    (hm : ∀ r, s = 0x2D :: r → Q (core cfg true r)) (hp : ∀ r, s = 0x2B :: r → Q (core cfg false r))
    (hu : Q (core cfg false s)) : Q (parseNumber cfg s) := by
  by_cases h1 : ∃ r, s = 0x2D :: r
  · obtain ⟨r, rfl⟩ := h1; rw [parseNumber_minus]; exact hm r rfl
  by_cases h2 : ∃ r, s = 0x2B :: r
  · obtain ⟨r, rfl⟩ := h2; rw [parseNumber_plus]; exact hp r rfl
  rw [parseNumber_unsigned cfg s (fun r e => h1 ⟨r, e⟩) (fun r e => h2 ⟨r, e⟩)]; exact hu

theorem finish_not_int (neg : Bool) (s : List Byte) (mant : Nat) (e : Int) :
    (∀ m, finish neg s mant e ≠ .uint m) ∧ (∀ v, finish neg s mant e ≠ .sint v) :=
  finish_cases (Q := fun r => (∀ m, r ≠ .uint m) ∧ ∀ v, r ≠ .sint v) neg s mant e (fun _ => ⟨nofun, nofun⟩)
    (fun _ => ⟨nofun, nofun⟩) (fun _ => ⟨nofun, nofun⟩) (fun _ _ _ => ⟨nofun, nofun⟩) (fun _ _ _ => ⟨nofun, nofun⟩)

/-- the three possible outcomes of `parseNumber cfg s = res` w.r.t. integers -/
def Outcome (res : PNum) (neg : Bool) (s' : List UInt8) (mant : Nat) (rest : List UInt8) : Prop :=
  (res = .uint mant ∧ rest = [] ∧ neg = false ∧ s' ≠ []) ∨
  (res = .sint (-(mant : Int)) ∧ rest = [] ∧ neg = true ∧ mant ≤ 2 ^ 63 ∧ s' ≠ []) ∨
  ((∀ m, res ≠ .uint m) ∧ (∀ v, res ≠ .sint v))

theorem outcome_other {res : PNum} {neg s' mant rest} (h1 : ∀ m, res ≠ .uint m) (h2 : ∀ v, res ≠ .sint v) :
    Outcome res neg s' mant rest := Or.inr (Or.inr ⟨h1, h2⟩)

macro "pn_core" cfg:ident "," h:ident "," r:term "," neg:term : tactic => `(tactic| (
    generalize hr : takeDigitsMant (2 ^ 64 - 1) 0 $r = q at $h:ident ⊢
    obtain ⟨mant, rest⟩ := q
    simp only at $h:ident
    refine ⟨mant, rest, rfl, ?_⟩
    by_cases c1 : (Cfg.nan $cfg && (List.headD $r 0 == 110 || List.headD $r 0 == 78)) = true
    · rw [if_pos c1] at $h:ident; subst $h:ident; exact outcome_other (fun _ e => nomatch e) (fun _ e => nomatch e)
    rw [if_neg c1] at $h:ident
    by_cases c2 : (Cfg.inf $cfg && (List.headD $r 0 == 105 || List.headD $r 0 == 73)) = true
    · rw [if_pos c2] at $h:ident; subst $h:ident; exact outcome_other (fun _ e => nomatch e) (fun _ e => nomatch e)
    rw [if_neg c2] at $h:ident
    by_cases c3 : (!isDigit (List.headD $r 0) && List.headD $r 0 != 46) = true
    · rw [if_pos c3] at $h:ident; subst $h:ident; exact outcome_other (fun _ e => nomatch e) (fun _ e => nomatch e)
    rw [if_neg c3] at $h:ident
    have hne : $r ≠ [] := by intro e; rw [e] at c3; exact c3 (by decide)
    by_cases c4 : (rest.isEmpty && !$neg) = true
    · rw [if_pos c4] at $h:ident; subst $h:ident
      first
      | (simp at c4; done)
      | exact Or.inl ⟨rfl, by simpa using c4, rfl, hne⟩
    rw [if_neg c4] at $h:ident
    by_cases c5 : (rest.isEmpty && $neg && decide (mant ≤ 2 ^ 63)) = true
    · rw [if_pos c5] at $h:ident; subst $h:ident
      first
      | (simp at c5; done)
      | (have c5' : rest = [] ∧ mant ≤ 2 ^ 63 := by simpa using c5
         exact Or.inr (Or.inl ⟨rfl, c5'.1, rfl, c5'.2, hne⟩))
    rw [if_neg c5] at $h:ident
    subst $h:ident
    exact outcome_other (finish_not_int _ _ _ _).1 (finish_not_int _ _ _ _).2))

theorem core_uint {cfg : Cfg} {neg : Bool} {s : List Byte} {m : Nat} (h : core cfg neg s = .uint m) :
    neg = false ∧ s ≠ [] ∧ takeDigitsMant (2 ^ 64 - 1) 0 s = (m, []) := by
  revert h
  refine core_cases (Q := fun r => r = .uint m → _) cfg neg s nofun nofun nofun fun hne mant rest ht => ?_
  refine stage1_cases (Q := fun r => r = .uint m → _) neg mant rest (fun hr hn h => ?_) nofun
    fun s' m' e h => absurd h ((finish_not_int neg s' m' e).1 m)
  cases h; exact ⟨hn, hne, by rw [ht, hr]⟩

theorem core_sint {cfg : Cfg} {neg : Bool} {s : List Byte} {v : Int} (h : core cfg neg s = .sint v) :
    neg = true ∧ s ≠ [] ∧ ∃ m, takeDigitsMant (2 ^ 64 - 1) 0 s = (m, []) ∧ m ≤ 2 ^ 63 ∧ v = -(m : Int) := by
  revert h
  refine core_cases (Q := fun r => r = .sint v → _) cfg neg s nofun nofun nofun fun hne mant rest ht => ?_
  refine stage1_cases (Q := fun r => r = .sint v → _) neg mant rest nofun (fun hr hn hle h => ?_)
    fun s' m' e h => absurd h ((finish_not_int neg s' m' e).2 v)
  cases h; exact ⟨hn, hne, mant, by rw [ht, hr], hle, rfl⟩

/-- `parseNumber` returns an unsigned integer exactly on non-empty digit strings (optionally preceded by '+')
    whose value fits 64 bits, and the result is that value -/
theorem uint_iff (cfg : Cfg) (s : List UInt8) (m : Nat) :
    parseNumber cfg s = .uint m ↔
      ∃ ds, (s = ds ∨ s = 0x2B :: ds) ∧ ds ≠ [] ∧ AllDigits ds ∧ decVal ds = m ∧ m < 2 ^ 64 := by
  constructor
  · have key : ∀ ds, core cfg false ds = .uint m → ds ≠ [] ∧ AllDigits ds ∧ decVal ds = m ∧ m < 2 ^ 64 := fun ds h =>
      ⟨(core_uint h).2.1, takeDigitsMant_inv 0 m ds (by decide) (core_uint h).2.2⟩
    refine parseNumber_sign (Q := fun r => r = .uint m → _) cfg s (fun r _ h => ?_) (fun r hs h => ?_) fun h => ?_
    · exact absurd (core_uint h).1 (by decide)
    · exact ⟨r, Or.inr hs, key r h⟩
    · exact ⟨s, Or.inl rfl, key s h⟩
  · rintro ⟨ds, hs, hne, hd, hv, hm⟩
    rcases hs with rfl | rfl
    · rw [parse_unsigned cfg _ hd hne (by omega), hv]
    · rw [parse_plus cfg _ hd hne (by omega), hv]

/-- `parseNumber` returns a signed integer exactly on '-' followed by a non-empty digit string of value ≤ 2^63,
    and the result is minus that value -/
theorem sint_iff (cfg : Cfg) (s : List UInt8) (v : Int) :
    parseNumber cfg s = .sint v ↔
      ∃ ds, s = 0x2D :: ds ∧ ds ≠ [] ∧ AllDigits ds ∧ decVal ds ≤ 2 ^ 63 ∧ v = -(decVal ds : Int) := by
  constructor
  · refine parseNumber_sign (Q := fun r => r = .sint v → _) cfg s (fun r hs h => ?_) (fun r _ h => ?_) fun h => ?_
    · obtain ⟨_, hne, m, ht, hle, hv⟩ := core_sint h
      obtain ⟨a, b, _⟩ := takeDigitsMant_inv 0 m r (by decide) ht
      have b' : decVal r = m := b
      exact ⟨r, hs, hne, a, by rw [b']; exact hle, by rw [b']; exact hv⟩
    · exact absurd (core_sint h).1 (by decide)
    · exact absurd (core_sint h).1 (by decide)
  · rintro ⟨ds, rfl, hne, hd, hv, rfl⟩
    exact parse_minus cfg _ hd hne hv
end Digits
