/- What the MessagePack deserializer model produces (filter or not, any result code): integers within 64 bits, string values and
   keys within the string limit of the deserializer. Pushed through `MD.parseVariant` by `MD.pv_cases`
   (AJ/Lemmas/MpCases.lean) and through `readArray / readObject` step by step. Used by AJ/Props/C07Cross.lean (`msgpack_values`). -/
import AJ.Lemmas.JsonRoundTrip
import AJ.Lemmas.CrossFormat
import AJ.Lemmas.MpCases
namespace CrossFormat
open JD MD

/-- scalar nodes: integers within 64 bits, strings within `M` bytes -/
def MS (M : Nat) (v : Val) : Prop := C07.IntOkS v ∧ C07.StrOkS M v
/-- the whole document, keys included -/
def MOk (M : Nat) (v : Val) : Prop := C07.AllV (MS M) (fun k => k.length ≤ M) v
def MOkL (M : Nat) (xs : List Val) : Prop := C07.AllE (MS M) (fun k => k.length ≤ M) xs
def MOkM (M : Nat) (ms : List (List Byte × Val)) : Prop := C07.AllM (MS M) (fun k => k.length ≤ M) ms

def MV (M : Nat) (r : Code × Val × R × Bool) : Prop := MOk M r.2.1
def MA (M : Nat) (x : Code × List Val × R) : Prop := MOkL M x.2.1
def MO (M : Nat) (x : Code × List (List Byte × Val) × R) : Prop := MOkM M x.2.1

theorem mv_mk {M : Nat} {e : Code} {v : Val} {s : R} {b : Bool} (h : MOk M v) : MV M (e, v, s, b) := h
theorem mok_null (M : Nat) : MOk M .null := ⟨trivial, trivial⟩
theorem mok_bool (M : Nat) (b : Bool) : MOk M (.bool b) := ⟨trivial, trivial⟩
theorem mok_raw (M : Nat) (s : List Byte) : MOk M (.raw s) := ⟨trivial, trivial⟩
theorem mok_f32 (M : Nat) (b : Nat) : MOk M (.num (.f32 b)) := ⟨trivial, trivial⟩
theorem mok_f64 (M : Nat) (b : Nat) : MOk M (.num (.f64 b)) := ⟨trivial, trivial⟩
theorem mok_storeDouble (M : Nat) (b : Nat) : MOk M (.num (storeDouble b)) := by
  rcases storeDouble_cases b with e | e <;> rw [e]
  · exact mok_f64 M b
  · exact mok_f32 M _
theorem mok_str (M : Nat) (s : List Byte) (h : s.length ≤ M) : MOk M (.str s) := ⟨trivial, h⟩
theorem mok_sint (M : Nat) (v : Int) (h1 : -(2 ^ 63 : Int) ≤ v) (h2 : v < 2 ^ 64) : MOk M (.num (.sint v)) :=
  ⟨⟨h1, h2⟩, trivial⟩
theorem mok_uint (M : Nat) (n : Nat) (h : n < 2 ^ 64) : MOk M (.num (.uint n)) := ⟨h, trivial⟩

theorem beNat_lt : ∀ (bs : List Byte) (a : Nat), bs.foldl (fun a b => a * 256 + b.toNat) a < (a + 1) * 256 ^ bs.length := by
  intro bs
  induction bs with
  | nil => intro a; simp
  | cons b r ih =>
    intro a
    have hb := b.toNat_lt
    have := ih (a * 256 + b.toNat)
    simp only [List.foldl_cons, List.length_cons]
    have h2 : (a * 256 + b.toNat + 1) * 256 ^ r.length ≤ (a + 1) * 256 ^ (r.length + 1) := by
      rw [Nat.pow_succ, ← Nat.mul_assoc, Nat.mul_right_comm]
      exact Nat.mul_le_mul_right _ (by omega)
    omega

theorem beNat_lt_pow (bs : List Byte) : beNat bs < 256 ^ bs.length := by
  have := beNat_lt bs 0
  simpa [beNat] using this

/-- two's complement of `u < F` with half range `H`: within `[-H, F)` -/
theorem twos_bounds {u H F : Nat} (hu : u < F) (hF : F ≤ 2 * H) :
    -(H : Int) ≤ (if u ≥ H then Int.ofNat u - Int.ofNat F else Int.ofNat u) ∧
      (if u ≥ H then Int.ofNat u - Int.ofNat F else Int.ofNat u) < F := by
  simp only [Int.ofNat_eq_natCast]
  split <;> omega

theorem mok_readInteger (M : Nat) (bs : List Byte) (sg : Bool) (h : bs.length ≤ 8) : MOk M (readInteger bs sg) := by
  have hu : beNat bs < 2 ^ (8 * bs.length) := by
    rw [Nat.pow_mul]; exact beNat_lt_pow bs
  have hF : 2 ^ (8 * bs.length) ≤ 2 * 2 ^ (8 * bs.length - 1) := by
    rw [← Nat.pow_succ']; exact Nat.pow_le_pow_right (by decide) (by omega)
  have hH : 2 ^ (8 * bs.length - 1) ≤ 2 ^ 63 := Nat.pow_le_pow_right (by decide) (by omega)
  have hF64 : 2 ^ (8 * bs.length) ≤ 2 ^ 64 := Nat.pow_le_pow_right (by decide) (by omega)
  unfold readInteger
  cases sg
  · exact mok_uint M _ (Nat.lt_of_lt_of_le hu hF64)
  · have := twos_bounds hu hF
    exact mok_sint M _ (by have := this.1; omega) (by have := this.2; omega)

theorem mokL_reverse {M : Nat} {xs : List Val} (h : MOkL M xs) : MOkL M xs.reverse := by
  have key : ∀ ys : List Val, MOkL M ys ↔ ∀ y ∈ ys, MOk M y := by
    intro ys
    induction ys with
    | nil => simp [MOkL, C07.AllE]
    | cons y r ih =>
      simp only [MOkL, C07.AllE, List.mem_cons, forall_eq_or_imp]
      exact and_congr Iff.rfl ih
  rw [key] at h ⊢
  intro y hy; exact h y (List.mem_reverse.mp hy)

theorem mokM_append {M : Nat} {ms : List (List Byte × Val)} {k : List Byte} {v : Val} (h : MOkM M ms)
    (hk : k.length ≤ M) (hv : MOk M v) : MOkM M (ms ++ [(k, v)]) := by
  induction ms with
  | nil => exact ⟨hk, hv, trivial⟩
  | cons p r ih =>
    obtain ⟨k', v'⟩ := p
    simp only [MOkM, C07.AllM, List.cons_append] at h ⊢
    exact ⟨h.1, h.2.1, ih h.2.2⟩

theorem mok_leafOut {env : Env} {v : Val} (h : LeafOut env v) : MOk env.maxStrLen v := by
  cases h with
  | null => exact mok_null _
  | bool b => exact mok_bool _ b
  | int bs sg h => exact mok_readInteger _ bs sg h
  | fixint k h1 h2 => exact mok_sint _ k (by omega) (by omega)
  | f32 b => exact mok_f32 _ b
  | f64 b => exact mok_storeDouble _ b
  | str s h => exact mok_str _ s h
  | raw s => exact mok_raw _ s

theorem mv_variant_step {env : Env} {f : Nat}
    (ihA : ∀ limit ef hasArr n r acc, MOkL env.maxStrLen acc → MA env.maxStrLen (readArray env f limit ef hasArr n r acc))
    (ihO : ∀ limit flt hasObj n r ms, MOkM env.maxStrLen ms → MO env.maxStrLen (readObject env f limit flt hasObj n r ms))
    (limit : Nat) (flt : Flt) (b : Bool) (r : R) : MV env.maxStrLen (MD.parseVariant env (f+1) limit flt b r) := by
  refine pv_cases limit flt b r (fun e v r' b' h => mv_mk (mok_leafOut h)) (fun limit' n r1 e vs r2 _ heq => ?_)
    (fun limit' n r1 e ms r2 _ heq => ?_)
  · have h := ihA limit' flt.subIdx true n r1 [] trivial
    rw [heq] at h; exact mv_mk h
  · have h := ihO limit' flt true n r1 [] trivial
    rw [heq] at h; exact mv_mk h

theorem mv_array_step {env : Env} {f : Nat}
    (ihV : ∀ limit flt b r, MV env.maxStrLen (MD.parseVariant env f limit flt b r))
    (ihA : ∀ limit ef hasArr n r acc, MOkL env.maxStrLen acc → MA env.maxStrLen (readArray env f limit ef hasArr n r acc))
    (limit : Nat) (ef : Flt) (hasArr : Bool) (n : Nat) (r : R) (acc : List Val) (hacc : MOkL env.maxStrLen acc) :
    MA env.maxStrLen (readArray env (f+1) limit ef hasArr n r acc) := by
  rw [readArray]
  split
  · exact mokL_reverse hacc
  · extract_lets keep
    have h0 := ihV limit ef keep r
    split
    · rename_i v r1 b1 heq; rw [heq] at h0
      refine ihA _ _ _ _ _ _ ?_
      split
      · exact ⟨h0, hacc⟩
      · exact hacc
    · rename_i e v r1 b1 hne heq; rw [heq] at h0
      show MOkL _ (if keep = true then v :: acc else acc).reverse
      apply mokL_reverse
      split
      · exact ⟨h0, hacc⟩
      · exact hacc

theorem mv_object_step {env : Env} {f : Nat}
    (ihV : ∀ limit flt b r, MV env.maxStrLen (MD.parseVariant env f limit flt b r))
    (ihO : ∀ limit flt hasObj n r ms, MOkM env.maxStrLen ms → MO env.maxStrLen (readObject env f limit flt hasObj n r ms))
    (limit : Nat) (flt : Flt) (hasObj : Bool) (n : Nat) (r : R) (ms : List (List Byte × Val)) (hms : MOkM env.maxStrLen ms) :
    MO env.maxStrLen (readObject env (f+1) limit flt hasObj n r ms) := by
  rw [readObject]
  split
  · exact hms
  · split
    · exact hms
    · extract_lets c w keyLen
      generalize keyLen = kl
      split
      · exact hms
      · exact hms
      · split
        · exact hms
        · rename_i hlen
          split
          · exact hms
          · extract_lets mf keep
            rename_i key r3 heqk
            have hkl : key.length ≤ env.maxStrLen := by rw [readBytes_len heqk]; omega
            have h0 := ihV limit mf keep r3
            split
            · rename_i v r4 b1 heq; rw [heq] at h0
              refine ihO _ _ _ _ _ _ ?_
              split
              · exact mokM_append hms hkl h0
              · exact hms
            · rename_i e v r4 b1 hne heq; rw [heq] at h0
              show MOkM _ (if keep = true then ms ++ [(key, v)] else ms)
              split
              · exact mokM_append hms hkl h0
              · exact hms

theorem mv_mutual {env : Env} : ∀ fuel,
    (∀ limit flt b r, MV env.maxStrLen (MD.parseVariant env fuel limit flt b r)) ∧
    (∀ limit ef hasArr n r acc, MOkL env.maxStrLen acc → MA env.maxStrLen (readArray env fuel limit ef hasArr n r acc)) ∧
    (∀ limit flt hasObj n r ms, MOkM env.maxStrLen ms → MO env.maxStrLen (readObject env fuel limit flt hasObj n r ms)) := by
  intro fuel
  induction fuel with
  | zero =>
    refine ⟨?_, ?_, ?_⟩
    · intro limit flt b r; rw [MD.parseVariant]; exact mv_mk (mok_null _)
    · intro limit ef hasArr n r acc h; rw [readArray]; exact mokL_reverse h
    · intro limit flt hasObj n r ms h; rw [readObject]; exact h
  | succ f ih =>
    obtain ⟨ihV, ihA, ihO⟩ := ih
    exact ⟨mv_variant_step ihA ihO, mv_array_step ihV ihA, mv_object_step ihV ihO⟩

/-- every value produced by the MessagePack deserializer (any filter, any result code): integers within 64 bits,
    strings and keys within the deserializer's string limit -/
theorem mp_run_ok (env : Env) (L : Nat) (flt : Flt) (input : List Byte) : MOk env.maxStrLen (MD.run env L flt input).2.1 := by
  have h0 := (mv_mutual (env := env) (2 * input.length + 4)).1 L flt true ({ unread := input } : R)
  simp only [MD.run]
  generalize MD.parseVariant env (2 * input.length + 4) L flt true { unread := input } = x at h0 ⊢
  obtain ⟨e, v, r, found⟩ := x
  exact h0

end CrossFormat
