/- The invariant of the slot-level JSON deserializer and its preservation by every document operation the
   deserializer performs. `Built d0 F l d s`: since the document `d0` (laid out as `F`, with the empty location `l`) the
   parser has built, at `l`, a value laid out as `s`; everything else of `d0` is untouched.
   Used by AJ/Lemmas/JddInv.lean. -/
import AJ.Lemmas.JddBase
import AJ.Props.C04Hist
namespace JDD
open DL
open JD (Byte Code Cfg)

/-- the reference point of a parse into `l`: `l` is an empty location of the layout `F` -/
structure Ctx (d0 : Doc) (F : Forest) (l : Loc) : Prop where
  nodup : F.ids.Nodup
  loc : isLoc F l
  empty : layoutAt F l = .nil
  gok : PL.GeoOK d0.g

/-- what the parser has built at `l` since `d0` -/
structure Built (d0 : Doc) (F : Forest) (l : Loc) (d : Doc) (s : Forest) : Prop where
  wf : WFG d (replaceAt F l s)
  str : StrOK d (d.strRefs (replaceAt F l s))
  fresh : ∀ x ∈ s.ids, x ∉ F.ids
  g : d.g = d0.g
  root : l ≠ .root → d.root = d0.root
  cells : ∀ x ∈ F.ids, Loc.slot x ≠ l → d.cell x = d0.cell x
  /-- the scalars and strings stored outside `l` read the same -/
  scal : ∀ x ∈ F.ids, Loc.slot x ≠ l → d.scalar (d0.get (.slot x)) = d0.scalar (d0.get (.slot x))
  /-- the `next` link of the slot `l` itself is kept -/
  next : ∀ i, l = .slot i → d.nextOf i = d0.nextOf i

theorem Ctx.replace_nil {d0 : Doc} {F : Forest} {l : Loc} (C : Ctx d0 F l) : replaceAt F l .nil = F := by
  rw [← C.empty]; exact replaceAt_self C.nodup C.loc

theorem Ctx.mem_ids {d0 : Doc} {F : Forest} {l : Loc} (C : Ctx d0 F l) (s : Forest) (x : Nat) :
    x ∈ (replaceAt F l s).ids ↔ x ∈ F.ids ∨ x ∈ s.ids := by
  rw [mem_ids_replaceAt s C.nodup C.loc, C.empty]
  simp [Forest.ids]

theorem Ctx.lay {d0 : Doc} {F : Forest} {l : Loc} (C : Ctx d0 F l) (s : Forest) : layoutAt (replaceAt F l s) l = s :=
  layoutAt_replaceAt s C.loc

theorem Ctx.loc' {d0 : Doc} {F : Forest} {l : Loc} (C : Ctx d0 F l) (s : Forest) : isLoc (replaceAt F l s) l :=
  isLoc_replaceAt_self s C.loc

theorem Ctx.re {d0 : Doc} {F : Forest} {l : Loc} (_ : Ctx d0 F l) (s s' : Forest) :
    replaceAt (replaceAt F l s) l s' = replaceAt F l s' := replaceAt_replaceAt F l s s'

theorem Built.gok {d0 d : Doc} {F : Forest} {l : Loc} {s : Forest} (C : Ctx d0 F l) (B : Built d0 F l d s) :
    PL.GeoOK d.g := by rw [B.g]; exact C.gok

theorem Built.null {d0 d : Doc} {F : Forest} {l : Loc} {s : Forest} (B : Built d0 F l d s) : d.null = d0.null := by
  simp only [Doc.null, B.g]

/-- slots that are not live are neither in the reference layout nor in what was built -/
theorem Built.notin {d0 d : Doc} {F : Forest} {l : Loc} {s : Forest} (C : Ctx d0 F l) (B : Built d0 F l d s) {x : Nat}
    (hx : ¬ PL.live d.g d.pl x) : x ∉ F.ids ∧ x ∉ s.ids :=
  ⟨fun m => hx (B.wf.live x ((C.mem_ids s x).2 (Or.inl m))), fun m => hx (B.wf.live x ((C.mem_ids s x).2 (Or.inr m)))⟩

/-- the value stored in a slot of the reference layout is the old one -/
theorem Built.get_old {d0 d : Doc} {F : Forest} {l : Loc} {s : Forest} (B : Built d0 F l d s) {x : Nat} (hx : x ∈ F.ids)
    (hxl : Loc.slot x ≠ l) : d.get (.slot x) = d0.get (.slot x) := get_of_cell (B.cells x hx hxl)

/-- the slots of the reference layout outside `l` are untouched: same cell, same scalar read -/
theorem Built.good {d0 d : Doc} {F : Forest} {l : Loc} {s : Forest} (B : Built d0 F l d s) {x : Nat} (hx : x ∈ F.ids)
    (hxl : Loc.slot x ≠ l) : Good d0 d x := ⟨B.cells x hx hxl, B.scal x hx hxl⟩

/-- the `scal` part of the frame after one more step `d → d'` that keeps the bytes of the referenced string nodes and
    the referenced extension slots -/
theorem Built.scal_of {d0 d d' : Doc} {F : Forest} {l : Loc} {s : Forest} (C : Ctx d0 F l) (B : Built d0 F l d s)
    (hb : ∀ n ∈ d.strRefs (replaceAt F l s), d'.strBytes n = d.strBytes n)
    (he : ∀ l0 ∈ holders (replaceAt F l s), ∀ e ∈ extOfV (d.get l0), d'.cell e = d.cell e) :
    ∀ x ∈ F.ids, Loc.slot x ≠ l → d'.scalar (d0.get (.slot x)) = d0.scalar (d0.get (.slot x)) := by
  intro x hx hxl
  have hh : Loc.slot x ∈ holders (replaceAt F l s) := mem_holders.2 (Or.inr ⟨x, (C.mem_ids s x).2 (Or.inl hx), rfl⟩)
  rw [← B.scal x hx hxl, ← B.get_old hx hxl]
  refine scalar_congr (fun n hn => hb n ?_) (fun e hee => he _ hh e hee)
  simp only [Doc.strRefs, List.mem_flatMap]; exact ⟨_, hh, hn⟩

/-- the starting point -/
theorem built_start {d : Doc} {F : Forest} {l : Loc} (w : WFG d F) (hs : StrOK d (d.strRefs F)) (C : Ctx d F l) :
    Built d F l d .nil := by
  refine ⟨?_, ?_, (fun x hx => by cases hx), rfl, fun _ => rfl, fun _ _ _ => rfl, fun _ _ _ => rfl, fun _ _ => rfl⟩
  · rw [C.replace_nil]; exact w
  · rw [C.replace_nil]; exact hs

/-- allocator traffic is not seen -/
theorem Built.pleq {d0 d d' : Doc} {F : Forest} {l : Loc} {s : Forest} (B : Built d0 F l d s) (h : PlEq d d') :
    Built d0 F l d' s := by
  obtain ⟨a, b, _⟩ := h.wfg B.wf B.str
  exact ⟨a, b, B.fresh, h.g.trans B.g, fun hl => h.root.trans (B.root hl), fun x hx hxl => (h.cell x).trans (B.cells x hx hxl),
    fun x hx hxl => (scalar_congr (fun n _ => strBytes_of_strings h.strings n) (fun e _ => h.cell e)).trans (B.scal x hx hxl),
    fun i e => (nextOf_of_cell (h.cell i) h.null).trans (B.next i e)⟩

/-- a failed (or leaked) allocation is not seen -/
theorem Built.grow {d0 d d' : Doc} {F : Forest} {l : Loc} {s : Forest} (C : Ctx d0 F l) (B : Built d0 F l d s)
    (h : Grow d d') : Built d0 F l d' s := by
  obtain ⟨a, b, _⟩ := wfg_of_grow B.wf B.str h
  refine ⟨a, b, B.fresh, h.g.trans B.g, fun hl => h.root.trans (B.root hl), fun x hx hxl => ?_,
    B.scal_of C (fun n _ => strBytes_of_strings h.strings n) (fun l0 h0 e he => h.cells e (B.wf.ext l0 h0 e he).2.1),
    fun i e => ?_⟩
  · rw [h.cells x (B.wf.live x ((C.mem_ids s x).2 (Or.inl hx)))]; exact B.cells x hx hxl
  · have hi : i ∈ F.ids := isLoc_ids (e ▸ C.loc)
    have hn : d'.null = d.null := by simp only [Doc.null, h.g]
    rw [nextOf_of_cell (h.cells i (B.wf.live i ((C.mem_ids s i).2 (Or.inl hi)))) hn]; exact B.next i e

/-- the value at `l` while nothing has been built there -/
theorem Built.get_nil {d0 d : Doc} {F : Forest} {l : Loc} (C : Ctx d0 F l) (B : Built d0 F l d .nil) :
    WFG d F ∧ StrOK d (d.strRefs F) := by
  have := B.wf; have hs := B.str
  rw [C.replace_nil] at this hs
  exact ⟨this, hs⟩

/-- storing a value at `l` (possibly after a resource was acquired: `d1`), once the result is known to be well-formed -/
theorem Built.set_after {d0 d d1 : Doc} {F : Forest} {l : Loc} {v : VData} (C : Ctx d0 F l) (B : Built d0 F l d .nil)
    (hg : d1.g = d.g) (hroot : d1.root = d.root) (hcells : ∀ x ∈ F.ids, d1.cell x = d.cell x)
    (hbytes : ∀ n ∈ d.strRefs F, d1.strBytes n = d.strBytes n)
    (hext : ∀ l0 ∈ holders F, ∀ e ∈ extOfV (d.get l0), d1.cell e = d.cell e)
    (w : WFG (d1.set l v) F) (hs : StrOK (d1.set l v) ((d1.set l v).strRefs F)) :
    Built d0 F l (d1.set l v) .nil := by
  obtain ⟨w0, _⟩ := B.get_nil C
  have hextne : ∀ l0 ∈ holders F, ∀ e ∈ extOfV (d.get l0), Loc.slot e ≠ l := by
    intro l0 h0 e he e'
    obtain ⟨⟨p, hp⟩, _, _⟩ := w0.ext l0 h0 e he
    exact ext_ne_var hp (w0.isVar e (isLoc_ids (e' ▸ C.loc))) rfl
  refine ⟨by rw [C.replace_nil]; exact w, by rw [C.replace_nil]; exact hs, (fun x hx => by cases hx),
    by rw [set_g, hg, B.g], fun hl => ?_, fun x hx hxl => ?_, ?_, fun i e => ?_⟩
  · rw [root_set_of_ne v hl, hroot, B.root hl]
  · rw [cell_set_ne hxl, hcells x hx, B.cells x hx hxl]
  · refine B.scal_of C (fun n hn => ?_) (fun l0 h0 e he => ?_)
    · rw [C.replace_nil] at hn; rw [strBytes_set]; exact hbytes n hn
    · rw [C.replace_nil] at h0; rw [cell_set_ne (hextne l0 h0 e he)]; exact hext l0 h0 e he
  · subst e
    have hn1 : d1.null = d.null := by simp only [Doc.null, hg]
    rw [nextOf_of_var (show (d1.set (.slot i) v).cell i = .var v (d1.nextOf i) by rw [cell_set_slot, if_pos rfl]),
      nextOf_of_cell (hcells i (isLoc_ids C.loc)) hn1]
    exact B.next i rfl

/-- `variant.toArray()` / `variant.toObject()` on the empty location -/
theorem Built.set_coll {d0 d : Doc} {F : Forest} {l : Loc} (C : Ctx d0 F l) (B : Built d0 F l d .nil)
    (hnull : d.get l = .null) (b : Bool) : Built d0 F l (d.set l (mkC b d.null d.null)) .nil := by
  obtain ⟨w, hs⟩ := B.get_nil C
  obtain ⟨a, c, _⟩ := set_empty_coll w hs C.loc hnull b
  exact B.set_after C rfl rfl (fun _ _ => rfl) (fun _ _ => rfl) (fun _ _ _ _ => rfl) a c

/-- a value without resources (`setBoolean`) on the empty location -/
theorem Built.set_plain {d0 d : Doc} {F : Forest} {l : Loc} {v : VData} (C : Ctx d0 F l) (B : Built d0 F l d .nil)
    (hnull : d.get l = .null) (hv : ¬ isColl v) (he : extOfV v = []) (hst : strOfV v = []) :
    Built d0 F l (d.set l v) .nil := by
  obtain ⟨w, hs⟩ := B.get_nil C
  have hold : ¬ isColl (d.get l) := by rw [hnull]; exact fun h => h
  obtain ⟨a, _⟩ := DL.set_plain w C.loc hold hv he
  have c := set_gen_strOK (d1 := d) (v' := v) w C.loc (by rw [hnull]; rfl) rfl (fun _ _ => rfl) (by rw [hst]; exact hs)
  exact B.set_after C rfl rfl (fun _ _ => rfl) (fun _ _ => rfl) (fun _ _ _ _ => rfl) a c

/-- the string just saved (`node`) stored on the empty location -/
theorem Built.set_owned {d0 : Doc} {F : Forest} {l : Loc} {x x' : S} {bytes : List Byte} {n : Nat} (C : Ctx d0 F l)
    (B : Built d0 F l x.d .nil) (hnull : x.d.get l = .null) (sv : SaveOp x bytes n x') :
    Built d0 F l (x'.d.set l (.owned n)) .nil := by
  obtain ⟨w, hs⟩ := B.get_nil C
  have hold : ¬ isColl (x.d.get l) := by rw [hnull]; exact fun h => h
  have hc : ∀ j, x'.d.cell j = x.d.cell j := fun j => by simp only [Doc.cell, sv.cells]
  have hlv : ∀ y, PL.live x'.d.g x'.d.pl y ↔ PL.live x.d.g x.d.pl y := fun y => by
    rw [sv.g]; exact live_congr sv.pools sv.free y
  have a := set_scalar_gen (d1 := x'.d) (v' := .owned n) w C.loc hold (fun h => h) sv.g sv.root (fun j _ => hc j)
    (fun l0 h0 _ e he => ⟨hc e, (hlv e).2 (w.ext l0 h0 e he).2.1⟩)
    (fun l0 h0 _ m hm => sv.keep _ hs m (by simp only [Doc.strRefs, List.mem_flatMap]; exact ⟨l0, h0, hm⟩))
    (by rw [sv.g]; exact w.pool.congr sv.pools sv.tcap sv.theap sv.free)
    (fun j hj => (hlv j).2 (w.live j hj)) (fun e he => by cases he)
  have c := set_gen_strOK (d1 := x'.d) (v' := .owned n) w C.loc (by rw [hnull]; rfl) sv.root (fun j _ => hc j)
    (sv.str _ hs)
  exact B.set_after C sv.g sv.root (fun j _ => hc j) (fun n hn => sv.keep _ hs n hn) (fun _ _ e _ => hc e) a.1 c

/-! ## Numbers (`setInteger`, `setFloat`) -/

def isNum : Arg → Prop
  | .uint _ => True | .sint _ => True | .f32 _ => True | .f64 _ => True | _ => False

/-- the three ways `setArg` ends for a number: stored in place; stored with an extension slot; extension slot refused -/
theorem setArg_num_shape (d : Doc) (l : Loc) {a : Arg} (ha : isNum a) :
    (∃ v, d.setArg l a = (true, d.set l v)) ∨
    (∃ p e d1 v, d.allocExt p = (some e, d1) ∧ d.setArg l a = (true, d1.set l v)) ∨
    (∃ p d1, d.allocExt p = (none, d1) ∧ d.setArg l a = (false, d1)) := by
  have ext : ∀ (p : Int) (k : Nat → VData),
      (∃ e d1 v, d.allocExt p = (some e, d1) ∧
        (match d.allocExt p with | (some s, d) => (true, d.set l (k s)) | (none, d) => (false, d)) = (true, d1.set l v)) ∨
      (∃ d1, d.allocExt p = (none, d1) ∧
        (match d.allocExt p with | (some s, d) => (true, d.set l (k s)) | (none, d) => (false, d)) = (false, d1)) := by
    intro p k
    generalize d.allocExt p = r
    obtain ⟨m, d1⟩ := r
    cases m with
    | none => exact Or.inr ⟨d1, rfl, rfl⟩
    | some e => exact Or.inl ⟨e, d1, k e, rfl, rfl⟩
  have fin : ∀ (p : Int) (k : Nat → VData) (r : Bool × Doc),
      r = (match d.allocExt p with | (some s, d) => (true, d.set l (k s)) | (none, d) => (false, d)) →
      (∃ v, r = (true, d.set l v)) ∨
      (∃ p e d1 v, d.allocExt p = (some e, d1) ∧ r = (true, d1.set l v)) ∨
      (∃ p d1, d.allocExt p = (none, d1) ∧ r = (false, d1)) := by
    intro p k r hr
    rcases ext p k with ⟨e, d1, v, h1, h2⟩ | ⟨d1, h1, h2⟩
    · exact Or.inr (Or.inl ⟨p, e, d1, v, h1, by rw [hr, h2]⟩)
    · exact Or.inr (Or.inr ⟨p, d1, h1, by rw [hr, h2]⟩)
  cases a with
  | uint v =>
    simp only [Doc.setArg]
    split
    · exact Or.inl ⟨_, rfl⟩
    · exact fin v .u64 _ rfl
  | sint v =>
    simp only [Doc.setArg]
    split
    · exact Or.inl ⟨_, rfl⟩
    · exact fin v .i64 _ rfl
  | f32 b => exact Or.inl ⟨_, rfl⟩
  | f64 b =>
    simp only [Doc.setArg]
    split
    · exact Or.inl ⟨_, rfl⟩
    · exact fin b .f64 _ rfl
  | null => exact absurd ha (fun h => h)
  | bool _ => exact absurd ha (fun h => h)
  | strLinked _ => exact absurd ha (fun h => h)
  | strCopied _ => exact absurd ha (fun h => h)
  | raw _ => exact absurd ha (fun h => h)

/-- difference between the ledger and the string table: kept by every operation on slots -/
def nl (d : Doc) : Int := PL.net d.pl - (d.strings.length : Int)

theorem nl_set (d : Doc) (l : Loc) (v : VData) : nl (d.set l v) = nl d := by
  simp only [nl, set_pl, set_strings]

theorem nl_allocExt (d : Doc) (p : Int) : nl (d.allocExt p).2 = nl d := by
  simp only [nl, (allocExt_pl d p).1, (allocExt_pl d p).2, PL.allocSlot_net]

theorem nl_allocVariant (d : Doc) : nl d.allocVariant.2 = nl d := by
  simp only [nl, (allocVariant_pl_s d).1, (allocVariant_pl_s d).2, PL.allocSlot_net]

/-- no pool without its block, or the overflow flag is set -/
def Blk (d : Doc) : Prop := AllB d ∨ d.overflowed = true

theorem allocVariant_blk {d : Doc} (gok : PL.GeoOK d.g) (hp : PL.Inv d.g d.pl) (hb : AllB d) : Blk d.allocVariant.2 := by
  simp only [Doc.allocVariant]
  split
  · rename_i id pl heq
    exact Or.inl (allocSlot_blk gok hp hb heq)
  · exact Or.inr rfl

theorem allocExt_blk {d : Doc} (gok : PL.GeoOK d.g) (hp : PL.Inv d.g d.pl) (hb : AllB d) (p : Int) :
    Blk (d.allocExt p).2 := by
  simp only [Doc.allocExt]
  split
  · rename_i id pl heq
    exact Or.inl (allocSlot_blk gok hp hb heq)
  · exact Or.inr rfl

/-- `parseNumericValue`'s store on the empty location -/
theorem Built.setArg_num {d0 d : Doc} {F : Forest} {l : Loc} {a : Arg} (C : Ctx d0 F l) (B : Built d0 F l d .nil)
    (hnull : d.get l = .null) (ha : isNum a) :
    Built d0 F l (d.setArg l a).2 .nil ∧ nl (d.setArg l a).2 = nl d ∧
    ((d.setArg l a).1 = true → (d.setArg l a).2.overflowed = d.overflowed) ∧
    ((d.setArg l a).1 = false → (d.setArg l a).2.overflowed = true) ∧
    (d.overflowed = true → (d.setArg l a).2.overflowed = true) ∧
    (AllB d → Blk (d.setArg l a).2) := by
  obtain ⟨w, hs⟩ := B.get_nil C
  have gok := B.gok C
  rcases setArg_num_shape d l ha with ⟨v, e⟩ | ⟨p, x, d1, v, hal, e⟩ | ⟨p, d1, hal, e⟩
  · obtain ⟨a1, a2, _⟩ := C04.set_scalar_wf (a := a) w hs C.loc hnull gok (by rw [e])
    rw [e] at a1 a2 ⊢
    exact ⟨B.set_after C rfl rfl (fun _ _ => rfl) (fun _ _ => rfl) (fun _ _ _ _ => rfl) a1 a2, nl_set _ _ _,
      fun _ => set_overflowed _ _ _,
      (fun h => by cases h), (fun h => by rw [set_overflowed]; exact h),
      fun hb => Or.inl (AllB_of_pools (by rw [set_pl]) hb)⟩
  · obtain ⟨a1, a2, _⟩ := C04.set_scalar_wf (a := a) w hs C.loc hnull gok (by rw [e])
    rw [e] at a1 a2 ⊢
    obtain ⟨hg, hov, _, hnl, _⟩ := allocExt_some gok w.pool hal
    have hnl1 : nl d1 = nl d := by have := nl_allocExt d p; rw [hal] at this; exact this
    have hbk : AllB d → Blk d1 := fun hb => by have := allocExt_blk gok w.pool hb p; rw [hal] at this; exact this
    refine ⟨B.set_after C hg.g hg.root (fun y hy => hg.cells y (w.live y hy))
        (fun n _ => strBytes_of_strings hg.strings n) (fun l0 h0 e he => hg.cells e (w.ext l0 h0 e he).2.1) a1 a2,
      by rw [nl_set, hnl1],
      (fun _ => by rw [set_overflowed, hov]), (fun h => by cases h), (fun h => by rw [set_overflowed, hov]; exact h),
      fun hb => ?_⟩
    rcases hbk hb with h1 | h1
    · exact Or.inl (AllB_of_pools (by rw [set_pl]) h1)
    · exact Or.inr (by rw [set_overflowed]; exact h1)
  · rw [e]
    obtain ⟨hg, ho, _⟩ := allocExt_none gok w.pool hal
    have hnl1 : nl d1 = nl d := by have := nl_allocExt d p; rw [hal] at this; exact this
    exact ⟨B.grow C hg, hnl1, (fun h => by cases h), fun _ => ho, fun _ => ho, fun _ => Or.inr ho⟩

/-- the slots `js` hold the same values in `d'`, and the scalars / strings stored there read the same -/
def SameV (d d' : Doc) (js : List Nat) : Prop :=
  ∀ j ∈ js, d'.get (.slot j) = d.get (.slot j) ∧ d'.scalar (d.get (.slot j)) = d.scalar (d.get (.slot j))

/-! ## `addElement` -/

theorem nl_appendOne (d : Doc) (l : Loc) (id : Nat) : nl (d.appendOne l id) = nl d := by
  simp only [nl, DL.appendOne_pl, DL.appendOne_strings]

theorem nl_addElement (d : Doc) (l : Loc) : nl (d.addElement l).2 = nl d := by
  have := nl_allocVariant d
  simp only [Doc.addElement]
  generalize d.allocVariant = r at this ⊢
  obtain ⟨m, d1⟩ := r
  cases m with
  | none => exact this
  | some id => simp only; rw [nl_appendOne]; exact this

/-- `addElement` that fails: nothing changes but the flag -/
theorem Built.addElement_none {d0 d d1 : Doc} {F : Forest} {l : Loc} {s : Forest} (C : Ctx d0 F l)
    (B : Built d0 F l d s) (h : d.addElement l = (none, d1)) :
    Built d0 F l d1 s ∧ d1.overflowed = true ∧ nl d1 = nl d := by
  have hnl := nl_addElement d l
  rw [h] at hnl
  simp only [Doc.addElement] at h
  generalize hal : d.allocVariant = r at h
  obtain ⟨m, da⟩ := r
  cases m with
  | some id => simp at h
  | none =>
    simp only [Prod.mk.injEq, true_and] at h; subst h
    obtain ⟨hg, ho, _⟩ := allocVariant_none (B.gok C) B.wf.pool hal
    exact ⟨B.grow C hg, ho, hnl⟩

/-- `addElement` that succeeds on the array being built at `l`: a null element is appended -/
theorem Built.addElement_some {d0 d d1 : Doc} {F : Forest} {l : Loc} {s : Forest} {h t id : Nat} (C : Ctx d0 F l)
    (B : Built d0 F l d s) (hv : d.get l = .arr h t) (he : d.addElement l = (some id, d1)) :
    Built d0 F l d1 (s.snoc none id) ∧ d1.get (.slot id) = .null ∧ (∃ h', d1.get l = .arr h' id) ∧
    d1.overflowed = d.overflowed ∧ nl d1 = nl d ∧ id ∉ F.ids ∧ id ∉ s.ids ∧ (AllB d → Blk d1) ∧ SameV d d1 s.ids := by
  have hnl := nl_addElement d l
  have hov := addElement_overflowed_some (d := d) (l := l) (id := id) (by rw [he])
  have hgn := addElement_get_new B.wf B.str (B.gok C) (C.loc' s) hv (id := id) (by rw [he])
  have hgg := addElement_g d l
  rw [he] at hnl hov hgn hgg
  simp only at hnl hov hgn hgg
  generalize hal : d.allocVariant = r
  obtain ⟨m, da⟩ := r
  have hm : m = some id ∧ d1 = da.appendOne l id := by
    simp only [Doc.addElement, hal] at he
    cases m with
    | none => simp at he
    | some j =>
      simp only [Prod.mk.injEq, Option.some.injEq] at he
      obtain ⟨rfl, rfl⟩ := he; exact ⟨rfl, rfl⟩
  obtain ⟨rfl, hd1⟩ := hm
  obtain ⟨_, a, b, _⟩ := C04.addElement_refines B.wf B.str (B.gok C) (C.loc' s) hv hal
  rw [he, C.lay, C.re] at a b
  simp only at a b
  obtain ⟨hg, _, _, hco, hnlv, _, _⟩ := allocVariant_some (B.gok C) B.wf.pool hal
  obtain ⟨hidF, hids⟩ := B.notin C hnlv
  -- the tail of the chain
  obtain ⟨wa, _, _⟩ := wfg_of_grow B.wf B.str hg
  obtain ⟨o1, _, _⟩ := grow_obs B.wf B.str hg (C.loc' s)
  have hva : da.get l = .arr h t := by rw [o1]; exact hv
  have hvs : VOK da (.arr h t) (layoutAt (replaceAt F l s) l) := hva ▸ VOK_at wa (C.loc' s)
  obtain ⟨hlk, ht⟩ := (VOK_arr _ _ _ _).1 hvs
  obtain ⟨htf, htl⟩ := tail_facts wa (C.loc' s) hlk ht
  obtain ⟨_, hstr1, _, _, hget, hcc, hct, hroot, hci⟩ := appendOne_cells (id := id) hva htl
  have hstrs : d1.strings = d.strings := by rw [hd1]; exact hstr1.trans hg.strings
  have hextc : ∀ l0 ∈ holders (replaceAt F l s), ∀ e ∈ extOfV (d.get l0), d1.cell e = d.cell e := by
    intro l0 h0 e he
    obtain ⟨⟨p, hp⟩, hlv, _⟩ := B.wf.ext l0 h0 e he
    have hpa : da.cell e = .ext p := by rw [hg.cells e hlv]; exact hp
    rw [hd1, hcc e (fun e' => ext_ne_var hp (B.wf.isVar e (isLoc_ids (e' ▸ C.loc' s))) rfl)
      (fun htn => ext_ne_var hpa (htf htn).2.2.2), hg.cells e hlv]
  have hsc := B.scal_of (d' := d1) C (fun n _ => strBytes_of_strings hstrs n) hextc
  have hsame : SameV d d1 s.ids := by
    intro j hj
    have hjc : j ∈ (replaceAt F l s).ids := (C.mem_ids s j).2 (Or.inr hj)
    have hjl : Loc.slot j ≠ l := fun e => B.fresh j hj (isLoc_ids (e ▸ C.loc))
    have hja : da.get (.slot j) = d.get (.slot j) := get_of_cell (hg.cells j (B.wf.live j hjc))
    refine ⟨?_, scalar_congr (fun n _ => strBytes_of_strings hstrs n)
      (fun e he => hextc _ (mem_holders.2 (Or.inr ⟨j, hjc, rfl⟩)) e he)⟩
    rw [hd1]
    by_cases hjt : t ≠ da.null ∧ j = t
    · obtain ⟨htn, rfl⟩ := hjt
      rw [get_of_var (hct htn (htf htn).2.2.2)]; exact hja
    · rw [get_of_cell (hcc j hjl (fun htn e => hjt ⟨htn, e⟩))]; exact hja
  have hbk : AllB d → Blk d1 := by
    intro hb
    have := allocVariant_blk (B.gok C) B.wf.pool hb
    rw [hal] at this
    rcases this with h1 | h1
    · exact Or.inl (AllB_of_pools (by rw [hd1, DL.appendOne_pl]) h1)
    · exact Or.inr (by rw [hd1, appendOne_overflowed]; exact h1)
  have hnx : ∀ i, l = .slot i → d1.nextOf i = d0.nextOf i := by
    intro i e
    have hi : i ∈ F.ids := isLoc_ids (e ▸ C.loc)
    have hna : da.null = d.null := by simp only [Doc.null, hg.g]
    rw [hd1, nextOf_of_var (hci i e),
      nextOf_of_cell (hg.cells i (B.wf.live i ((C.mem_ids s i).2 (Or.inl hi)))) hna]
    exact B.next i e
  refine ⟨⟨a, b, ?_, hgg.trans B.g, fun hl => ?_, fun x hx hxl => ?_, hsc, hnx⟩, hgn, ⟨_, by rw [hd1]; exact hget⟩, hov, hnl,
    hidF, hids, hbk, hsame⟩
  · intro x hx
    rw [Forest.ids_snoc] at hx
    simp only [Forest.keyL, List.nil_append, List.mem_append, List.mem_singleton] at hx
    rcases hx with hx | hx
    · exact B.fresh x hx
    · rw [hx]; exact hidF
  · rw [hd1, hroot hl, hg.root, B.root hl]
  · have hxt : t ≠ da.null → x ≠ t := by
      intro htn e
      have : t ∈ s.ids := by have := (htf htn).2.1; rw [C.lay] at this; exact this
      exact B.fresh t this (e ▸ hx)
    rw [hd1, hcc x hxl hxt, hco x (fun e => hidF (e ▸ hx)), B.cells x hx hxl]

/-! ## A value built inside an element / member of the collection being built -/

theorem Built.nest {d0 d1 d2 : Doc} {F : Forest} {l : Loc} {s1 s2 : Forest} {j : Nat} (C : Ctx d0 F l)
    (B1 : Built d0 F l d1 s1) (hj : j ∈ s1.locs) (B2 : Built d1 (replaceAt F l s1) (.slot j) d2 s2) :
    Built d0 F l d2 (s1.replaceSub j s2) ∧ d2.get l = d1.get l := by
  have hjF : j ∉ F.ids := B1.fresh j (s1.locs_sub_ids j hj)
  have hsub : ∀ x ∈ F.ids, x ∈ (replaceAt F l s1).ids := fun x hx => (C.mem_ids s1 x).2 (Or.inl hx)
  have hne : ∀ x ∈ F.ids, Loc.slot x ≠ Loc.slot j := fun x hx e => by cases e; exact hjF hx
  refine ⟨⟨?_, ?_, ?_, B2.g.trans B1.g, fun hl => ?_, fun x hx hxl => ?_, fun x hx hxl => ?_, fun i e => ?_⟩, ?_⟩
  · have := B2.wf; rw [replaceAt_nest s1 s2 hjF] at this; exact this
  · have := B2.str; rw [replaceAt_nest s1 s2 hjF] at this; exact this
  · intro x hx
    rcases ids_replaceSub_sub j s2 s1 x hx with h | h
    · exact B1.fresh x h
    · exact fun m => B2.fresh x h (hsub x m)
  · rw [B2.root (fun e => by cases e), B1.root hl]
  · rw [B2.cells x (hsub x hx) (hne x hx), B1.cells x hx hxl]
  · rw [← B1.scal x hx hxl, ← B1.get_old hx hxl]
    exact B2.scal x (hsub x hx) (hne x hx)
  · have hi : i ∈ F.ids := isLoc_ids (e ▸ C.loc)
    have hn : d2.null = d1.null := by simp only [Doc.null, B2.g]
    rw [nextOf_of_cell (B2.cells i (hsub i hi) (hne i hi)) hn]; exact B1.next i e
  · cases l with
    | root => exact B2.root (fun e => by cases e)
    | slot i =>
      have hi : i ∈ F.ids := isLoc_ids C.loc
      exact get_of_cell (B2.cells i (hsub i hi) (hne i hi))

/-- the context of a parse into the fresh element / member value slot `j` -/
theorem Built.ctx_in {d0 d1 : Doc} {F : Forest} {l : Loc} {s1 : Forest} {j : Nat} (C : Ctx d0 F l)
    (B1 : Built d0 F l d1 s1) (hj : j ∈ s1.locs) (hnull : d1.get (.slot j) = .null) :
    Ctx d1 (replaceAt F l s1) (.slot j) := by
  have hl : isLoc (replaceAt F l s1) (.slot j) := isLoc_replaceAt_new C.loc hj
  exact ⟨B1.wf.nodup, hl, layoutAt_nil_of_scalar B1.wf hl (by rw [hnull]; exact fun h => h), B1.gok C⟩

/-! ## Object members: lookup, clearing an existing member -/

/-- `findKey` on the object being built returns a value slot of its layout -/
theorem findKey_loc {d : Doc} {F : Forest} {l : Loc} {h t k v : Nat} {key : List Byte} (w : WFG d F) (hl : isLoc F l)
    (hv : d.get l = .obj h t) (hf : d.findKey l key = some (k, v)) : v ∈ (layoutAt F l).locs := by
  have hvo := VOK_at w hl
  rw [hv] at hvo
  obtain ⟨hlk, _⟩ := (VOK_obj _ _ _ _).1 hvo
  have hfuel : (layoutAt F l).ids.length < d.fuel :=
    Nat.lt_of_le_of_lt (List.Nodup.length_le_of_subset (layoutAt_nodup w.nodup hl)
      (fun x hx => layoutAt_ids_sub F l x hx)) w.fuel_ok
  simp only [Doc.findKey, hv, chain_eq hlk (Nat.le_of_lt hfuel)] at hf
  exact Forest.tl_sub_locs _ v (findIn_tl key _ hlk (layoutAt_nodup w.nodup hl) hf).1

theorem nl_clearV {d : Doc} {F : Forest} {l : Loc} (w : WFG d F) (hs : StrOK d (d.strRefs F)) (hl : isLoc F l) :
    nl (d.clearV l) = nl d := by
  obtain ⟨a, b, _⟩ := clearV_exact w hs hl
  simp only [nl]
  rw [a, net_rel]
  omega

/-- an existing member (value slot `v`) is cleared before it is parsed again -/
theorem Built.clear_member {d0 d : Doc} {F : Forest} {l : Loc} {s : Forest} {v : Nat} (C : Ctx d0 F l)
    (B : Built d0 F l d s) (hv : v ∈ s.locs) :
    Built d0 F l (d.clearV (.slot v)) (s.replaceSub v .nil) ∧ (d.clearV (.slot v)).get (.slot v) = .null ∧
    (d.clearV (.slot v)).get l = d.get l ∧ (d.clearV (.slot v)).overflowed = d.overflowed ∧
    nl (d.clearV (.slot v)) = nl d ∧ v ∈ (s.replaceSub v .nil).locs ∧
    (d.clearV (.slot v)).pl.pools = d.pl.pools ∧
    (∀ j ∈ s.ids, j ≠ v → j ∉ (s.subOf v).ids → Good d (d.clearV (.slot v)) j) ∧
    (d.clearV (.slot v)).nextOf v = d.nextOf v := by
  have hvF : v ∉ F.ids := B.fresh v (s.locs_sub_ids v hv)
  have hlv : isLoc (replaceAt F l s) (.slot v) := isLoc_replaceAt_new C.loc hv
  obtain ⟨a, b, _, hdead⟩ := clearV_spec B.wf B.str hlv
  rw [replaceAt_nest s .nil hvF] at a b
  obtain ⟨gn, _, gr, gc, _⟩ := clearV_good B.wf B.str hlv
  have hsub : ∀ x ∈ F.ids, x ∈ (replaceAt F l s).ids := fun x hx => (C.mem_ids s x).2 (Or.inl hx)
  have hout : ∀ x ∈ F.ids, x ∉ (layoutAt (replaceAt F l s) (.slot v)).ids := fun x hx m =>
    hdead x m (a.live x ((C.mem_ids _ x).2 (Or.inl hx)))
  have hcell : ∀ x ∈ F.ids, (d.clearV (.slot v)).cell x = d.cell x := fun x hx =>
    (gc x (hsub x hx) (fun e => by cases e; exact hvF hx) (hout x hx)).1
  have hg := clearV_g d (.slot v)
  refine ⟨⟨a, b, ?_, hg.trans B.g, fun hl => ?_, fun x hx hxl => ?_, fun x hx hxl => ?_, fun i e => ?_⟩, gn, ?_,
    clearV_overflowed _ _,
    nl_clearV B.wf B.str hlv, Forest.self_mem_locs_replaceSub s v .nil hv,
    by rw [(clearV_exact B.wf B.str hlv).1]; rfl, fun j hj hjv hjs => ?_, (gr v rfl).1⟩
  · intro x hx
    rcases ids_replaceSub_sub v .nil s x hx with h | h
    · exact B.fresh x h
    · cases h
  · rw [(gr v rfl).2, B.root hl]
  · rw [hcell x hx, B.cells x hx hxl]
  · rw [← B.scal x hx hxl, ← B.get_old hx hxl]
    exact (gc x (hsub x hx) (fun e => by cases e; exact hvF hx) (hout x hx)).2
  · have hn : (d.clearV (.slot v)).null = d.null := by simp only [Doc.null, hg]
    rw [nextOf_of_cell (hcell i (isLoc_ids (e ▸ C.loc))) hn]; exact B.next i e
  · cases l with
    | root => exact (gr v rfl).2
    | slot i => exact get_of_cell (hcell i (isLoc_ids C.loc))
  · -- a slot of `s` outside the cleared member survives: it is live afterwards, the cleared slots are not
    have hsnd : s.ids.Nodup := by have := layoutAt_nodup B.wf.nodup (C.loc' s); rw [C.lay] at this; exact this
    have hj' : j ∈ (s.replaceSub v .nil).ids := (Forest.mem_ids_replaceSub s v .nil hsnd hv j).2 (Or.inl ⟨hj, hjs⟩)
    have hlive := a.live j ((C.mem_ids _ j).2 (Or.inr hj'))
    exact gc j ((C.mem_ids s j).2 (Or.inr hj)) (fun e => by cases e; exact hjv rfl) (fun m => hdead j m hlive)

/-! ## A new member: `save` the key, then `addMember(StringNode*)` -/

/-- after `save`: the document is the same one, with one reference to `n` pending -/
theorem Built.save {d0 : Doc} {F : Forest} {l : Loc} {s : Forest} {x x' : S} {bytes : List Byte} {n : Nat}
    (C : Ctx d0 F l) (B : Built d0 F l x.d s) (sv : SaveOp x bytes n x') :
    Built d0 F l x'.d s ∧ StrOK x'.d (n :: x'.d.strRefs (replaceAt F l s)) ∧ ∀ l0, x'.d.get l0 = x.d.get l0 := by
  have hc : ∀ j, x'.d.cell j = x.d.cell j := fun j => by simp only [Doc.cell, sv.cells]
  have hlv : ∀ y, PL.live x'.d.g x'.d.pl y ↔ PL.live x.d.g x.d.pl y := fun y => by
    rw [sv.g]; exact live_congr sv.pools sv.free y
  have hget : ∀ l0, x'.d.get l0 = x.d.get l0 := by
    intro l0
    cases l0 with
    | root => exact sv.root
    | slot j => exact get_of_cell (hc j)
  obtain ⟨a, b, _⟩ := wfg_frame B.wf sv.g sv.root (fun y _ => hc y)
    (fun l0 h0 e he => ⟨hc e, (hlv e).2 (B.wf.ext l0 h0 e he).2.1⟩)
    (by rw [sv.g]; exact B.wf.pool.congr sv.pools sv.tcap sv.theap sv.free)
    (fun y hy => (hlv y).2 (B.wf.live y hy)) (StrOK_weaken (a := [n]) (sv.str _ B.str)) (sv.keep _ B.str)
  have hrefs : x'.d.strRefs (replaceAt F l s) = x.d.strRefs (replaceAt F l s) :=
    flatMap_congr' _ (fun l0 _ => by rw [hget l0])
  exact ⟨⟨a, b, B.fresh, sv.g.trans B.g, fun hl => sv.root.trans (B.root hl), fun y hy hyl => (hc y).trans (B.cells y hy hyl),
    B.scal_of C (fun n hn => sv.keep _ B.str n hn) (fun _ _ e _ => hc e),
    fun i e => (nextOf_of_cell (hc i) (by simp only [Doc.null, sv.g])).trans (B.next i e)⟩,
    by rw [hrefs]; exact sv.str _ B.str, hget⟩

/-- the three ways `addMember(StringNode*)` ends -/
theorem addMemberNode_cases (d : Doc) (l : Loc) (node : Nat) :
    (∃ d1, d.allocVariant = (none, d1) ∧ addMemberNode d l node = (none, d1)) ∨
    (∃ k d1 d2, d.allocVariant = (some k, d1) ∧ d1.allocVariant = (none, d2) ∧ addMemberNode d l node = (none, d2)) ∨
    (∃ k d1 v d2, d.allocVariant = (some k, d1) ∧ d1.allocVariant = (some v, d2) ∧
      addMemberNode d l node = (some v, (d2.set (.slot k) (.owned node)).appendPair l k v)) := by
  unfold addMemberNode
  generalize d.allocVariant = r1
  obtain ⟨m1, d1⟩ := r1
  cases m1 with
  | none => exact Or.inl ⟨d1, rfl, rfl⟩
  | some k =>
    simp only
    generalize h2 : d1.allocVariant = r2
    obtain ⟨m2, d2⟩ := r2
    cases m2 with
    | none => exact Or.inr (Or.inl ⟨k, d1, d2, rfl, h2, rfl⟩)
    | some v => exact Or.inr (Or.inr ⟨k, d1, v, d2, rfl, h2, rfl⟩)

theorem nl_setNext (d : Doc) (i n : Nat) : nl (d.setNext i n) = nl d := by
  simp only [nl, setNext_pl, setNext_strings]

theorem nl_appendPair (d : Doc) (l : Loc) (k v : Nat) : nl (d.appendPair l k v) = nl d := by
  simp only [nl, appendPair_pl, appendPair_strings]

/-- `addMember(StringNode*)` on the object being built at `l`, the key's node `node` carrying a pending reference:
    on failure nothing changes but the flag (the slots obtained and the reference are leaked: they stay accounted for);
    on success the member `(key, null)` is appended. -/
theorem Built.addMemberNode {d0 d : Doc} {F : Forest} {l : Loc} {s : Forest} {h t node : Nat} (C : Ctx d0 F l)
    (B : Built d0 F l d s) (hp : StrOK d (node :: d.strRefs (replaceAt F l s))) (hv : d.get l = .obj h t) :
    ((addMemberNode d l node).1 = none →
      Built d0 F l (addMemberNode d l node).2 s ∧ (addMemberNode d l node).2.overflowed = true) ∧
    (∀ v, (addMemberNode d l node).1 = some v →
      ∃ k, Built d0 F l (addMemberNode d l node).2 (s.snoc (some k) v) ∧
        (addMemberNode d l node).2.get (.slot v) = .null ∧ (∃ h', (addMemberNode d l node).2.get l = .obj h' v) ∧
        (addMemberNode d l node).2.overflowed = d.overflowed ∧ SameV d (addMemberNode d l node).2 s.ids ∧
        (addMemberNode d l node).2.get (.slot k) = .owned node ∧ (addMemberNode d l node).2.strings = d.strings ∧
        k ∉ s.ids ∧ v ∉ s.ids) ∧
    nl (addMemberNode d l node).2 = nl d ∧ (AllB d → Blk (addMemberNode d l node).2) := by
  have gok := B.gok C
  have hl := C.loc' s
  rcases addMemberNode_cases d l node with ⟨d1, hal1, e⟩ | ⟨k, d1, d2, hal1, hal2, e⟩ | ⟨k, d1, v, d2, hal1, hal2, e⟩
  · rw [e]
    obtain ⟨hg, ho, _⟩ := allocVariant_none gok B.wf.pool hal1
    have hn1 : nl d1 = nl d := by have := nl_allocVariant d; rw [hal1] at this; exact this
    exact ⟨fun _ => ⟨B.grow C hg, ho⟩, (fun v hv' => by cases hv'), hn1, fun _ => Or.inr ho⟩
  · rw [e]
    obtain ⟨hg1, _, _, _, _, _, _⟩ := allocVariant_some gok B.wf.pool hal1
    have gok1 : PL.GeoOK d1.g := by rw [hg1.g]; exact gok
    obtain ⟨hg2, ho, _⟩ := allocVariant_none gok1 hg1.pool hal2
    have hn1 : nl d1 = nl d := by have := nl_allocVariant d; rw [hal1] at this; exact this
    have hn2 : nl d2 = nl d1 := by have := nl_allocVariant d1; rw [hal2] at this; exact this
    exact ⟨fun _ => ⟨B.grow C (hg1.trans hg2), ho⟩, (fun v hv' => by cases hv'), hn2.trans hn1, fun _ => Or.inr ho⟩
  · rw [e]
    obtain ⟨hg1, ho1, hc1, hco1, hnk, hklt, hlv1⟩ := allocVariant_some gok B.wf.pool hal1
    have gok1 : PL.GeoOK d1.g := by rw [hg1.g]; exact gok
    obtain ⟨hg2, ho2, hc2, hco2, hnv, hvlt, hlv2⟩ := allocVariant_some gok1 hg1.pool hal2
    have hn1 : nl d1 = nl d := by have := nl_allocVariant d; rw [hal1] at this; exact this
    have hn2 : nl d2 = nl d1 := by have := nl_allocVariant d1; rw [hal2] at this; exact this
    have hg12 := hg1.trans hg2
    obtain ⟨w2, hs2, _⟩ := wfg_of_grow B.wf B.str hg12
    obtain ⟨o1, _, _⟩ := grow_obs B.wf B.str hg12 hl
    have hnl1 : d1.null = d.null := by simp only [Doc.null, hg1.g]
    have hnl2 : d2.null = d.null := by simp only [Doc.null, hg12.g]
    have hkv : k ≠ v := fun e => hnv (e ▸ (hlv1 k).2 (Or.inr rfl))
    have hnv' : ¬ PL.live d.g d.pl v := fun hh => hnv ((hlv1 v).2 (Or.inl hh))
    have hk2c : d2.cell k = .var .null d2.null := by rw [hco2 k hkv, hc1, hnl2]
    have hvc : d2.cell v = .var .null d2.null := by rw [hc2, hnl1, hnl2]
    obtain ⟨hkF0, hks⟩ := B.notin C hnk
    obtain ⟨hvF0, hvs⟩ := B.notin C hnv'
    have hkF : k ∉ (replaceAt F l s).ids := fun m => hnk (B.wf.live k m)
    have hvF : v ∉ (replaceAt F l s).ids := fun m => hnv' (B.wf.live v m)
    have hklive : PL.live d2.g d2.pl k := (hlv2 k).2 (Or.inl ((hlv1 k).2 (Or.inr rfl)))
    have hvlive : PL.live d2.g d2.pl v := (hlv2 v).2 (Or.inr rfl)
    have hv2 : d2.get l = .obj h t := by rw [o1]; exact hv
    have hrefs2 : d2.strRefs (replaceAt F l s) = d.strRefs (replaceAt F l s) := strRefs_of_grow B.wf hg12
    have hp2 : StrOK d2 (node :: d2.strRefs (replaceAt F l s)) := by
      rw [hrefs2]; exact StrOK_congr hg12.strings hg12.nextNode hp
    -- the key slot takes the node
    generalize hdS : d2.set (.slot k) (.owned node) = dS
    have hgS : dS.g = d2.g := by rw [← hdS, set_g]
    have hrootS : dS.root = d2.root := by rw [← hdS]; rfl
    have hcellsS : ∀ x, x ≠ k → dS.cell x = d2.cell x := fun x hx => by
      rw [← hdS, cell_set_slot, if_neg (Ne.symm hx)]
    have hkS : dS.cell k = .var (.owned node) (d2.nextOf k) := by rw [← hdS, cell_set_slot, if_pos rfl]
    have hplS : dS.pl = d2.pl := by rw [← hdS, set_pl]
    have hstrS : StrOK dS (strOfV (.owned node) ++ d2.strRefs (replaceAt F l s)) := by
      rw [← hdS]; exact StrOK_congr (set_strings _ _ _) (set_nextNode _ _ _) hp2
    have hbytesS : ∀ n ∈ d2.strRefs (replaceAt F l s), dS.strBytes n = d2.strBytes n := fun n _ => by
      rw [← hdS, strBytes_set]
    obtain ⟨b1, b2, _, b5, b6, _⟩ := addMember_tail (key := keyOfV dS (.owned node)) w2 hl hv2 hgS hrootS hcellsS
      (by rw [hplS]) (by rw [hplS]) (by rw [hplS]) (by rw [hplS]) hstrS hbytesS hkS trivial rfl hk2c hvc hkv hkF hvF
      (hnl2 ▸ hklt) (by rw [hnl2, ← hnl1]; exact hvlt) hklive hvlive
    rw [C.lay, C.re] at b1 b2
    -- cells of the result
    have hn : dS.null = d2.null := by simp only [Doc.null, hgS]
    have hlvS : ∀ x, PL.live dS.g dS.pl x ↔ PL.live d2.g d2.pl x := fun x => by rw [hgS, hplS]
    have hfc : ∀ x ∈ (replaceAt F l s).ids, dS.cell x = d2.cell x := fun x hx => hcellsS x (fun e => hkF (e ▸ hx))
    have hkne : ∀ l0 ∈ holders (replaceAt F l s), ∀ e ∈ extOfV (d2.get l0), e ≠ k := by
      intro l0 h0 e he e'
      obtain ⟨⟨p, hp'⟩, _, _⟩ := w2.ext l0 h0 e he
      rw [e', hk2c] at hp'; cases hp'
    obtain ⟨wS, _, _⟩ := wfg_frame w2 hgS hrootS hfc
      (fun l0 h0 e he => ⟨hcellsS e (hkne l0 h0 e he), (hlvS e).2 (w2.ext l0 h0 e he).2.1⟩)
      (by rw [hgS, hplS]; exact w2.pool) (fun x hx => (hlvS x).2 (w2.live x hx)) (StrOK_weaken hstrS) hbytesS
    obtain ⟨q1, _, _⟩ := frame_obs w2 hgS hrootS hfc
      (fun l0 h0 e he => ⟨hcellsS e (hkne l0 h0 e he), (hlvS e).2 (w2.ext l0 h0 e he).2.1⟩)
      (by rw [hgS, hplS]; exact w2.pool) (fun x hx => (hlvS x).2 (w2.live x hx)) (StrOK_weaken hstrS) hbytesS hl
    have hvS : dS.get l = .obj h t := by rw [q1]; exact hv2
    have hvsS : VOK dS (.obj h t) (layoutAt (replaceAt F l s) l) := hvS ▸ VOK_at wS hl
    obtain ⟨hlk, ht⟩ := (VOK_obj _ _ _ _).1 hvsS
    obtain ⟨htf, htl⟩ := tail_facts wS hl hlk ht
    have hkl : Loc.slot k ≠ l := fun e => hkF (isLoc_ids (e ▸ hl))
    have hkt : t ≠ dS.null → k ≠ t := fun htn e => hkF (e ▸ (htf htn).2.2.1)
    obtain ⟨_, cstr, _, _, _, _, cget, cck, cco, cct, croot, cci⟩ :=
      appendPair_cells_gen (v := v) hvS hkS hkl htl hkt (fun htn => (htf htn).2.2.2)
    have hstrs : (dS.appendPair l k v).strings = d.strings :=
      cstr.trans (by rw [← hdS, set_strings]; exact hg12.strings)
    have hextc : ∀ l0 ∈ holders (replaceAt F l s), ∀ e ∈ extOfV (d.get l0), (dS.appendPair l k v).cell e = d.cell e := by
      intro l0 h0 e he
      obtain ⟨⟨p, hp'⟩, hlv, _⟩ := B.wf.ext l0 h0 e he
      have hek : e ≠ k := fun e' => hnk (e' ▸ hlv)
      have hpS : dS.cell e = .ext p := by rw [hcellsS e hek, hg12.cells e hlv]; exact hp'
      rw [cco e (fun e' => ext_ne_var hp' (B.wf.isVar e (isLoc_ids (e' ▸ hl))) rfl) hek
        (fun htn => ext_ne_var hpS (htf htn).2.2.2), hcellsS e hek, hg12.cells e hlv]
    have hsc := B.scal_of (d' := dS.appendPair l k v) C (fun n _ => strBytes_of_strings hstrs n) hextc
    have hsame : SameV d (dS.appendPair l k v) s.ids := by
      intro j hj
      have hjc : j ∈ (replaceAt F l s).ids := (C.mem_ids s j).2 (Or.inr hj)
      have hjl : Loc.slot j ≠ l := fun e => B.fresh j hj (isLoc_ids (e ▸ C.loc))
      have hjk : j ≠ k := fun e => hkF (e ▸ hjc)
      have hjS : dS.get (.slot j) = d.get (.slot j) := by
        rw [get_of_cell (hcellsS j hjk)]; exact get_of_cell (hg12.cells j (B.wf.live j hjc))
      refine ⟨?_, scalar_congr (fun n _ => strBytes_of_strings hstrs n)
        (fun e he => hextc _ (mem_holders.2 (Or.inr ⟨j, hjc, rfl⟩)) e he)⟩
      by_cases hjt : t ≠ dS.null ∧ j = t
      · obtain ⟨htn, rfl⟩ := hjt
        rw [get_of_var (cct htn)]; exact hjS
      · rw [get_of_cell (cco j hjl hjk (fun htn e => hjt ⟨htn, e⟩))]; exact hjS
    have hovS : dS.overflowed = d.overflowed := by rw [← hdS, set_overflowed, ho2, ho1]
    have hnS : nl dS = nl d := by rw [← hdS, nl_set, hn2, hn1]
    have hbk : AllB d → Blk (dS.appendPair l k v) := by
      intro hb
      have h1 := allocVariant_blk gok B.wf.pool hb
      rw [hal1] at h1
      rcases h1 with h1 | h1
      · have h2 := allocVariant_blk gok1 hg1.pool h1
        rw [hal2] at h2
        rcases h2 with h2 | h2
        · exact Or.inl (AllB_of_pools (by rw [DL.appendPair_pl, hplS]) h2)
        · exact Or.inr (by rw [appendPair_overflowed, ← hdS, set_overflowed]; exact h2)
      · exact Or.inr (by rw [appendPair_overflowed, ← hdS, set_overflowed, ho2]; exact h1)
    refine ⟨(fun hh => by cases hh), fun v' hv' => ?_, by rw [nl_appendPair, hnS], hbk⟩
    simp only [Option.some.injEq] at hv'
    subst hv'
    have hnx : ∀ i, l = .slot i → (dS.appendPair l k v).nextOf i = d0.nextOf i := by
      intro i e
      have hi : i ∈ F.ids := isLoc_ids (e ▸ C.loc)
      have hic : i ∈ (replaceAt F l s).ids := (C.mem_ids s i).2 (Or.inl hi)
      rw [nextOf_of_var (cci i e), nextOf_of_cell (hfc i hic) hn,
        nextOf_of_cell (hg12.cells i (B.wf.live i hic)) hnl2]
      exact B.next i e
    refine ⟨k, ⟨b1, b2, ?_, by rw [b5, hg12.g, B.g], fun hlr => ?_, fun x hx hxl => ?_, hsc, hnx⟩, b6, ⟨_, cget⟩,
      by rw [appendPair_overflowed, hovS], hsame, get_of_var cck, hstrs, hks, hvs⟩
    · intro x hx
      rw [Forest.ids_snoc] at hx
      simp only [Forest.keyL, List.cons_append, List.nil_append, List.mem_append, List.mem_cons, List.not_mem_nil,
        or_false] at hx
      rcases hx with hx | hx | hx
      · exact B.fresh x hx
      · rw [hx]; exact hkF0
      · rw [hx]; exact hvF0
    · rw [croot hlr, hrootS, hg12.root, B.root hlr]
    · have hxc : x ∈ (replaceAt F l s).ids := (C.mem_ids s x).2 (Or.inl hx)
      have hxt : t ≠ dS.null → x ≠ t := by
        intro htn e'
        have : t ∈ s.ids := by have := (htf htn).2.1; rw [C.lay] at this; exact this
        exact B.fresh t this (e' ▸ hx)
      rw [cco x hxl (fun e' => hkF0 (e' ▸ hx)) hxt, hfc x hxc, hg12.cells x (B.wf.live x hxc), B.cells x hx hxl]

end JDD
