/- Integer literals as text: `parseNumber` on zeros followed by `JS.digits n`, what `JS.printNum` writes for the two
   integer kinds, and print-then-parse. Needs only the digit lemmas; Props/C12 restates these as its integer clauses. -/
import AJ.Lemmas.Digits
namespace Digits
open JD

theorem parse_zeros_digits (cfg : Cfg) (n k : Nat) (h : n < 2 ^ 64) :
    parseNumber cfg (List.replicate k 0x30 ++ JS.digits n) = .uint n := by
  obtain ⟨h1, h2, h3⟩ := zeros_digits k n
  rw [parse_unsigned cfg _ h1 h2 (by rw [h3]; exact h), h3]

theorem parse_plus_zeros_digits (cfg : Cfg) (n k : Nat) (h : n < 2 ^ 64) :
    parseNumber cfg (0x2B :: (List.replicate k 0x30 ++ JS.digits n)) = .uint n := by
  obtain ⟨h1, h2, h3⟩ := zeros_digits k n
  rw [parse_plus cfg _ h1 h2 (by rw [h3]; exact h), h3]

/-- for `n = 0` this is "-0", "-00", … ↦ `.sint 0` -/
theorem parse_minus_zeros_digits (cfg : Cfg) (n k : Nat) (h : n ≤ 2 ^ 63) :
    parseNumber cfg (0x2D :: (List.replicate k 0x30 ++ JS.digits n)) = .sint (-(n : Int)) := by
  obtain ⟨h1, h2, h3⟩ := zeros_digits k n
  rw [parse_minus cfg _ h1 h2 (by rw [h3]; exact h), h3]

theorem print_uint (cfg : Cfg) (n : Nat) : JS.printNum cfg (.uint n) = JS.digits n := rfl

theorem print_sint (cfg : Cfg) (v : Int) :
    JS.printNum cfg (.sint v) = (if v < 0 then [0x2D] else []) ++ JS.digits v.natAbs := rfl

theorem roundtrip_uint (cfg : Cfg) (n : Nat) (h : n < 2 ^ 64) :
    parseNumber cfg (JS.printNum cfg (.uint n)) = .uint n := by
  have := parse_zeros_digits cfg n 0 h
  rwa [List.replicate_zero, List.nil_append] at this

theorem roundtrip_sint_neg (cfg : Cfg) (v : Int) (hlo : -(2 ^ 63 : Int) ≤ v) (hneg : v < 0) :
    parseNumber cfg (JS.printNum cfg (.sint v)) = .sint v := by
  have h := parse_minus_zeros_digits cfg v.natAbs 0 (by omega)
  rw [List.replicate_zero, List.nil_append] at h
  rw [print_sint, if_pos hneg, List.singleton_append, h]
  congr 1
  omega

/-- a non-negative value stored as signed prints without sign, hence reads back as the unsigned integer of
    the same value (the C++ `parseNumber` yields an unsigned for every non-negative literal) -/
theorem roundtrip_sint_nonneg (cfg : Cfg) (v : Int) (h0 : 0 ≤ v) (hhi : v < 2 ^ 64) :
    parseNumber cfg (JS.printNum cfg (.sint v)) = .uint v.toNat := by
  have h := parse_zeros_digits cfg v.natAbs 0 (by omega)
  rw [List.replicate_zero, List.nil_append] at h
  rw [print_sint, if_neg (by omega), List.nil_append, h]
  congr 1
  omega

end Digits
