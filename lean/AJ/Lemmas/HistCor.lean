/- The plain ordered tree: an abstract machine `ARun` over `JD.Val` whose operations address their target by a PATH from
   the root (list of child positions: element index in an array, member position in an object), and the correspondence
   with the slot-level histories `C04.Hist2`:
   §1-2 `updAt`/`getAt`/`Diverge`, `pathOf F l` (path of location `l` in the ghost layout `F`),
        `absWith d F l (g (value at l)) = updAt g (pathOf F l) (abs d)`;
   §3-5 `AOp`, `ARun`, `Op2.toA`, `Op2.Succ`, `spec_eq_step`/`step_simulates` (`Op2.spec` is the abstract step), `HistA`;
   §6-7 `getAt_pathOf`, stability of the paths of the other locations under a layout change (`pathOf_replaceAt`);
   The overflow flag along a history is in AJ/Lemmas/HistCorFlag.lean. Used by AJ/Props/C14Hist.lean. -/
import AJ.Props.C04Rem
import AJ.Lemmas.DocReuse
import AJ.Lemmas.DocCopy
namespace DL
open JD (Byte Val)

/-! ## 1. Paths into an ordered tree -/

/-- a path from the root: the position of the child to descend into (element index of an array, member index of an
    object), repeatedly -/
abbrev Path := List Nat

/-- apply `f` to the `n`-th entry of a list (nothing happens when `n` is out of range) -/
def modNth {α} (f : α → α) : Nat → List α → List α
  | _, [] => []
  | 0, a :: l => f a :: l
  | n+1, a :: l => a :: modNth f n l

theorem modNth_nil {α} (f : α → α) (n : Nat) : modNth f n [] = [] := by cases n <;> rfl

theorem map_modNth {α β} (h : α → β) (f : α → α) (f' : β → β) (hc : ∀ a, h (f a) = f' (h a)) :
    ∀ (n : Nat) (l : List α), (modNth f n l).map h = modNth f' n (l.map h)
  | n, [] => by simp only [modNth_nil, List.map_nil]
  | 0, a :: l => by simp only [modNth, List.map_cons, hc]
  | n+1, a :: l => by simp only [modNth, List.map_cons, map_modNth h f f' hc n l]

theorem getElem?_modNth_ne {α} (f : α → α) : ∀ (n m : Nat) (l : List α), m ≠ n → (modNth f n l)[m]? = l[m]?
  | n, m, [], _ => by simp only [modNth_nil]
  | 0, 0, _ :: _, h => absurd rfl h
  | 0, m+1, a :: l, _ => by simp only [modNth, List.getElem?_cons_succ]
  | n+1, 0, a :: l, _ => by simp only [modNth, List.getElem?_cons_zero]
  | n+1, m+1, a :: l, h => by
    simp only [modNth, List.getElem?_cons_succ]
    exact getElem?_modNth_ne f n m l (fun e => h (by rw [e]))

theorem getElem?_modNth_self {α} (f : α → α) : ∀ (n : Nat) (l : List α), (modNth f n l)[n]? = l[n]?.map f
  | n, [] => by simp only [modNth_nil, List.getElem?_nil, Option.map_none]
  | 0, a :: l => by simp only [modNth, List.getElem?_cons_zero, Option.map_some]
  | n+1, a :: l => by simp only [modNth, List.getElem?_cons_succ]; exact getElem?_modNth_self f n l

/-- `updAt g p t`: the tree `t` in which the value at path `p` is replaced by `g` of it, nothing else changed (a path
    that leaves the tree changes nothing) -/
def updAt (g : Val → Val) : Path → Val → Val
  | [], v => g v
  | k :: p, .arr xs => .arr (modNth (updAt g p) k xs)
  | k :: p, .obj ms => .obj (modNth (fun m => (m.1, updAt g p m.2)) k ms)
  | _ :: _, v => v

/-- the value at path `p` -/
def getAt : Path → Val → Option Val
  | [], v => some v
  | k :: p, .arr xs => (xs[k]?).bind (getAt p)
  | k :: p, .obj ms => (ms[k]?).bind (fun m => getAt p m.2)
  | _ :: _, _ => none

/-- the same on a list of members (the level at which `DL.vals` works) -/
def updM (g : Val → Val) : Path → List (List Byte × Val) → List (List Byte × Val)
  | [], ms => ms
  | k :: p, ms => modNth (fun m => (m.1, updAt g p m.2)) k ms

/-- the two paths part ways: neither is a prefix of the other -/
def Diverge : Path → Path → Prop
  | i :: p, j :: q => i ≠ j ∨ (i = j ∧ Diverge p q)
  | _, _ => False

theorem Diverge.symm : ∀ {p q : Path}, Diverge p q → Diverge q p
  | i :: p, j :: q, h => by
    rcases h with h | ⟨h1, h2⟩
    · exact Or.inl (Ne.symm h)
    · exact Or.inr ⟨h1.symm, Diverge.symm h2⟩
  | [], _, h => by cases h
  | _ :: _, [], h => by cases h

theorem not_diverge_zero_left (q : Path) : ¬ Diverge [0] (0 :: q) := by
  rintro (h | ⟨_, h⟩)
  · exact h rfl
  · exact h
theorem not_diverge_zero_right (p : Path) : ¬ Diverge (0 :: p) [0] := fun h => not_diverge_zero_left p h.symm
theorem diverge_cons_same {n : Nat} {p q : Path} (h : Diverge (n :: p) (n :: q)) : Diverge p q := by
  rcases h with h | ⟨_, h⟩
  · exact absurd rfl h
  · exact h

/-- FRAME on trees: an update at `p` is invisible at every path that parts ways with `p` -/
theorem getAt_updAt_diverge (g : Val → Val) : ∀ (p q : Path) (t : Val), Diverge p q → getAt q (updAt g p t) = getAt q t
  | [], _, _, h => by cases h
  | _ :: _, [], _, h => by cases h
  | i :: p, j :: q, t, h => by
    cases t with
    | arr xs =>
      simp only [updAt, getAt]
      rcases h with h | ⟨rfl, h⟩
      · rw [getElem?_modNth_ne _ _ _ _ (Ne.symm h)]
      · rw [getElem?_modNth_self]
        cases xs[i]? with
        | none => rfl
        | some x => exact getAt_updAt_diverge g p q x h
    | obj ms =>
      simp only [updAt, getAt]
      rcases h with h | ⟨rfl, h⟩
      · rw [getElem?_modNth_ne _ _ _ _ (Ne.symm h)]
      · rw [getElem?_modNth_self]
        cases ms[i]? with
        | none => rfl
        | some x => exact getAt_updAt_diverge g p q x.2 h
    | _ => rfl

/-- the value at the updated path itself -/
theorem getAt_updAt_self (g : Val → Val) : ∀ (p : Path) (t : Val), getAt p (updAt g p t) = (getAt p t).map g
  | [], _ => rfl
  | i :: p, t => by
    cases t with
    | arr xs =>
      simp only [updAt, getAt, getElem?_modNth_self]
      cases xs[i]? with
      | none => rfl
      | some x => exact getAt_updAt_self g p x
    | obj ms =>
      simp only [updAt, getAt, getElem?_modNth_self]
      cases ms[i]? with
      | none => rfl
      | some x => exact getAt_updAt_self g p x.2
    | _ => rfl

/-! ## 2. The path of a location in a layout -/

def bump : Path → Path | [] => [] | k :: p => (k+1) :: p

namespace Forest
/-- path (relative to the collection laid out as the forest) of the value slot `i` -/
def pathTo : Forest → Nat → Path
  | nil, _ => []
  | cons _ j s r, i => if j = i then [0] else if i ∈ s.locs then 0 :: pathTo s i else bump (pathTo r i)

theorem mem_locs_cons {k : Option Nat} {a : Nat} {s r : Forest} {i : Nat} :
    i ∈ (cons k a s r).locs ↔ a = i ∨ i ∈ s.locs ∨ i ∈ r.locs := by
  simp only [locs, List.mem_cons, List.mem_append, eq_comm]

/-- where a value slot of `cons k a s r` sits, in the order in which `pathTo`, `subOf` and `replaceSub` look for it -/
theorem mem_locs_cons_cases {k : Option Nat} {a : Nat} {s r : Forest} {i : Nat} (h : i ∈ (cons k a s r).locs) :
    a = i ∨ (a ≠ i ∧ i ∈ s.locs) ∨ (a ≠ i ∧ i ∉ s.locs ∧ i ∈ r.locs) := by
  by_cases hai : a = i
  · exact Or.inl hai
  · by_cases his : i ∈ s.locs
    · exact Or.inr (Or.inl ⟨hai, his⟩)
    · rcases mem_locs_cons.1 h with e | m | m
      · exact absurd e hai
      · exact absurd m his
      · exact Or.inr (Or.inr ⟨hai, his, m⟩)

section
variable {k : Option Nat} {a i : Nat} {s r : Forest}

theorem pathTo_cons_self : (cons k i s r).pathTo i = [0] := by simp only [pathTo, if_true]
theorem pathTo_cons_sub (hai : a ≠ i) (his : i ∈ s.locs) : (cons k a s r).pathTo i = 0 :: s.pathTo i := by
  simp only [pathTo, if_neg hai, if_pos his]
theorem pathTo_cons_rest (hai : a ≠ i) (his : i ∉ s.locs) : (cons k a s r).pathTo i = bump (r.pathTo i) := by
  simp only [pathTo, if_neg hai, if_neg his]
theorem replaceSub_cons_ne (hai : a ≠ i) (s' : Forest) :
    (cons k a s r).replaceSub i s' = cons k a (s.replaceSub i s') (r.replaceSub i s') := by
  simp only [replaceSub, if_neg hai]
end

theorem pathTo_ne_nil (F : Forest) {i : Nat} (h : i ∈ F.locs) : F.pathTo i ≠ [] := by
  induction F with
  | nil => cases h
  | cons k j s r ihs ihr =>
    rcases mem_locs_cons_cases h with rfl | ⟨hji, his⟩ | ⟨hji, his, hir⟩
    · rw [pathTo_cons_self]; exact List.cons_ne_nil _ _
    · rw [pathTo_cons_sub hji his]; exact List.cons_ne_nil _ _
    · rw [pathTo_cons_rest hji his]
      cases hp : r.pathTo i with
      | nil => exact absurd hp (ihr hir)
      | cons a b => exact List.cons_ne_nil _ _
end Forest

/-- the path of a location: the root is `[]` -/
def pathOf (F : Forest) : Loc → Path
  | .root => []
  | .slot i => F.pathTo i

theorem updM_bump (g : Val → Val) (p : Path) (m : List Byte × Val) (ms : List (List Byte × Val)) :
    updM g (bump p) (m :: ms) = m :: updM g p ms := by
  cases p <;> rfl

/-- `mkVal` commutes with an update strictly below: on a scalar both sides are the scalar -/
theorem mkVal_updM (d : Doc) (v : VData) (g : Val → Val) {p : Path} (hp : p ≠ []) (sub : List (List Byte × Val)) :
    mkVal d v (updM g p sub) = updAt g p (mkVal d v sub) := by
  cases p with
  | nil => exact absurd rfl hp
  | cons k p =>
    cases v <;> try rfl
    · simp only [mkVal, updM, updAt]
      exact congrArg Val.arr (map_modNth (fun x => x.2) _ (updAt g p) (fun a => rfl) k sub)

/-- what overriding the value of slot `i` by `g` of its value does to the members of a chain: an update at the path of
    `i` -/
theorem vals_ov_path (d : Doc) (g : Val → Val) (i : Nat) : ∀ (F : Forest), F.ids.Nodup → i ∈ F.locs →
    vals d (ov1 i (g (mkVal d (d.get (.slot i)) (vals d noOv (F.subOf i))))) F = updM g (F.pathTo i) (vals d noOv F) := by
  intro F
  induction F with
  | nil => intro _ h; cases h
  | cons key j s r ihs ihr =>
    intro hnd hmem
    obtain ⟨nds, ndr, njs, njr, nsr, nk⟩ := Forest.nodup_cons hnd
    rcases Forest.mem_locs_cons_cases hmem with rfl | ⟨hji, his⟩ | ⟨hji, his, hir⟩
    · simp only [Forest.subOf, Forest.pathTo, if_true, vals, ov1, Option.getD_some, noOv, Option.getD_none, updM, modNth,
        updAt]
      rw [vals_ov_notin d j _ r (fun m => njr (r.locs_sub_ids j m))]
    · have hir : i ∉ r.locs := fun m => nsr i (s.locs_sub_ids i his) (r.locs_sub_ids i m)
      simp only [Forest.subOf, Forest.pathTo, if_neg hji, if_pos his, vals, ov1, noOv, Option.getD_none, updM, modNth]
      rw [vals_ov_notin d i _ r hir, ihs nds his, mkVal_updM d _ g (Forest.pathTo_ne_nil s his)]
    · simp only [Forest.subOf, Forest.pathTo, if_neg hji, if_neg his, vals, ov1, noOv, Option.getD_none]
      rw [updM_bump, ihr ndr hir, vals_ov_notin d i (g (mkVal d (d.get (.slot i)) (vals d noOv (r.subOf i)))) s his]

/-- `absWith` is an update at the path of the location -/
theorem absWith_updAt {d : Doc} {F : Forest} {l : Loc} (w : WFG d F) (hl : isLoc F l) (g : Val → Val) :
    absWith d F l (g (d.toVal (d.get l))) = updAt g (pathOf F l) (abs d) := by
  cases l with
  | root => rfl
  | slot i =>
    rw [toVal_at w hl, abs_eq w]
    simp only [absWith, layoutAt, Doc.valOf, pathOf]
    rw [vals_ov_path d g i F w.nodup hl, mkVal_updM d _ g (Forest.pathTo_ne_nil F hl)]

/-! ## 3. The abstract machine -/

/-- operations of the plain ordered tree; the target is designated by its path from the root. A string is just its
    bytes: there is no "linked" or "copied" here. -/
inductive AOp
  | add (p : Path)                                -- append a null element to the array at `p`
  | clear (p : Path)                              -- the value at `p` becomes null
  | put (p : Path) (v : Val)                      -- store the scalar/string `v` at `p`
  | removeElem (p : Path) (k : Nat)               -- remove element `k` of the array at `p`
  | removeMember (p : Path) (key : List Byte)     -- remove the first member `key` of the object at `p`
  | member (p : Path) (key : List Byte)           -- `object[key]`: make sure the object at `p` has a member `key`

def AOp.path : AOp → Path
  | .add p | .clear p | .put p _ | .removeElem p _ | .removeMember p _ | .member p _ => p

/-- what the operation does to the value it targets -/
def AOp.local : AOp → Val → Val
  | .add _, .arr xs => .arr (xs ++ [.null])
  | .add _, v => v
  | .clear _, _ => .null
  | .put _ x, _ => x
  | .removeElem _ k, .arr xs => .arr (xs.eraseIdx k)
  | .removeElem _ _, v => v
  | .removeMember _ key, .obj ms => .obj (ms.eraseP (fun m => m.1 == key))
  | .removeMember _ _, v => v
  | .member _ key, .obj ms =>
    (match ms.find? (fun m => m.1 == key) with
     | some _ => .obj ms
     | none => .obj (ms ++ [(key, .null)]))
  | .member _ key, .null => .obj [(key, .null)]
  | .member _ _, v => v

/-- one step of the abstract machine: the local effect at the path, nothing else -/
def AOp.step (t : Val) (a : AOp) : Val := updAt a.local a.path t

/-- the abstract machine on a whole history -/
def ARun (t : Val) (as : List AOp) : Val := as.foldl AOp.step t

theorem ARun_nil (t : Val) : ARun t [] = t := rfl
theorem ARun_cons (t : Val) (a : AOp) (as : List AOp) : ARun t (a :: as) = ARun (a.step t) as := rfl

/-- FRAME for the abstract machine, whole histories: a path that parts ways with the target of every operation keeps its
    value -/
theorem ARun_frame (q : Path) : ∀ (as : List AOp) (t : Val), (∀ a ∈ as, Diverge a.path q) → getAt q (ARun t as) = getAt q t
  | [], _, _ => rfl
  | a :: as, t, h => by
    rw [ARun_cons, ARun_frame q as _ (fun b hb => h b (List.mem_cons_of_mem _ hb))]
    exact getAt_updAt_diverge _ _ _ _ (h a (List.mem_cons_self))

end DL

/-! ## 4. Concrete operations as abstract operations -/
namespace C04
open DL
open JD (Byte Val)

/-- the abstract operation a concrete one stands for, in the layout `F`: the location becomes its path, a string
    argument or key becomes its bytes (`argVal` maps `strLinked s` and `strCopied s` to `.str s`; the `linked` flag of
    `member` is dropped) -/
def Op2.toA (F : Forest) : Op2 → AOp
  | .base (.add l) => .add (pathOf F l)
  | .base (.clear l) => .clear (pathOf F l)
  | .base (.put l a) => .put (pathOf F l) (argVal a)
  | .removeElem l k => .removeElem (pathOf F l) k
  | .removeMember l key => .removeMember (pathOf F l) key
  | .member l key _ => .member (pathOf F l) key

/-- the allocations of the step succeed (`put` reports success already in `Op2.Valid`) -/
def Op2.Succ (d : Doc) : Op2 → Prop
  | .base (.add l) => (d.addElement l).1 ≠ none
  | .member l key linked => (d.getOrAddMember l key linked).1 ≠ none
  | _ => True

/-- location targeted by the operation -/
def Op2.loc : Op2 → Loc
  | .base (.add l) | .base (.clear l) | .base (.put l _) | .removeElem l _ | .removeMember l _ | .member l _ _ => l

theorem Op2.toA_path (F : Forest) (op : Op2) : (op.toA F).path = pathOf F op.loc := by
  cases op with
  | base op => cases op <;> rfl
  | _ => rfl

theorem Op2.valid_loc {d : Doc} {F : Forest} {op : Op2} (hv : op.Valid d F) : isLoc F op.loc := by
  cases op with
  | base op => cases op <;> first | exact hv.1 | exact hv
  | _ => exact hv.1

/-- `Op2.spec` is the abstract step: when the allocations of a valid step succeed, the list-level machine of
    AJ/Props/C04Rem.lean computes `updAt (local effect) (path of the location)` -/
theorem spec_eq_step {d : Doc} {F : Forest} {op : Op2} (w : WFG d F) (hv : op.Valid d F) (hok : op.Succ d) :
    op.spec d F = (op.toA F).step (abs d) := by
  cases op with
  | base op =>
    cases op with
    | add l =>
      obtain ⟨hl, h, t, hg⟩ := hv
      obtain ⟨xs, hx, _⟩ := (size_spec w hl).1 h t hg
      simp only [Op2.spec, Op.spec, Op2.toA, AOp.step, AOp.path]
      cases hr : (d.addElement l).1 with
      | none => exact absurd hr hok
      | some id =>
        simp only [hx]
        rw [← absWith_updAt w hl, hx]; rfl
    | clear l =>
      simp only [Op2.spec, Op.spec, Op2.toA, AOp.step, AOp.path]
      exact absWith_updAt w hv (AOp.clear (pathOf F l)).local
    | put l a =>
      simp only [Op2.spec, Op.spec, Op2.toA, AOp.step, AOp.path]
      exact absWith_updAt w hv.1 (AOp.put (pathOf F l) (argVal a)).local
  | removeElem l k =>
    obtain ⟨hl, h, t, hg⟩ := hv
    obtain ⟨xs, hx, _⟩ := (size_spec w hl).1 h t hg
    simp only [Op2.spec, Op2.toA, AOp.step, AOp.path, hx]
    rw [← absWith_updAt w hl, hx]; rfl
  | removeMember l key =>
    obtain ⟨hl, h, t, hg⟩ := hv
    obtain ⟨ms, hx, _⟩ := (size_spec w hl).2 h t hg
    simp only [Op2.spec, Op2.toA, AOp.step, AOp.path, hx]
    rw [← absWith_updAt w hl, hx]; rfl
  | member l key linked =>
    obtain ⟨hl, hobj⟩ := hv
    simp only [Op2.spec, Op2.toA, AOp.step, AOp.path]
    rw [← absWith_updAt w hl]
    rcases hobj with hnull | ⟨h, t, hg⟩
    · have hm : membersAt d l = [] := by simp only [membersAt, hnull, toVal_null]
      rw [hm, hnull, toVal_null]
      cases hr : (d.getOrAddMember l key linked).1 with
      | none => exact absurd hr hok
      | some v => rfl
    · obtain ⟨ms, hx, _⟩ := (size_spec w hl).2 h t hg
      have hm : membersAt d l = ms := by simp only [membersAt, hx]
      rw [hm, hx]
      cases hf : ms.find? (fun m => m.1 == key) with
      | some m => simp only [AOp.local, hf]
      | none =>
        cases hr : (d.getOrAddMember l key linked).1 with
        | none => exact absurd hr hok
        | some v => simp only [AOp.local, hf]

/-- one valid step whose allocations succeed is one step of the abstract machine -/
theorem step_simulates {d : Doc} {F : Forest} {op : Op2} (w : WFG d F) (hs : StrOK d (d.strRefs F))
    (gok : PL.GeoOK d.g) (hv : op.Valid d F) (hok : op.Succ d) :
    abs (op.run d) = (op.toA F).step (abs d) := by
  rw [(step_refines2 w hs gok hv).2.2.2, spec_eq_step w hv hok]

/-! ## 5. Histories -/

/-- `HistA d F as d' F'`: a history `C04.Hist2 d F d' F'` of valid operations all of whose allocations succeed, together
    with the abstract operations `as` it stands for (each concrete step `op` in the layout `G` of that moment
    contributes `op.toA G`) -/
inductive HistA : Doc → Forest → List AOp → Doc → Forest → Prop
  | nil (d : Doc) (F : Forest) : HistA d F [] d F
  | cons {d : Doc} {F : Forest} {as : List AOp} {d' : Doc} {F' : Forest} (op : Op2) :
      op.Valid d F → op.Succ d → HistA (op.run d) (op.layout d F) as d' F' → HistA d F (op.toA F :: as) d' F'

/-- forgetting the abstract operations -/
theorem HistA.hist2 {d d' : Doc} {F F' : Forest} {as : List AOp} (h : HistA d F as d' F') : Hist2 d F d' F' := by
  induction h with
  | nil d F => exact Hist2.nil d F
  | cons op hv _ _ ih => exact Hist2.cons op hv ih

/-- appending one more step at the end -/
theorem HistA.snoc {d d' : Doc} {F F' : Forest} {as : List AOp} (h : HistA d F as d' F') (op : Op2)
    (hv : op.Valid d' F') (hok : op.Succ d') : HistA d F (as ++ [op.toA F']) (op.run d') (op.layout d' F') := by
  induction h with
  | nil d F => exact HistA.cons op hv hok (HistA.nil _ _)
  | cons op' hv' hok' _ ih => exact HistA.cons op' hv' hok' (ih hv hok)

end C04

namespace DL
open JD (Byte Val)

/-! ## 6. Reading at a path -/

def getM : Path → List (List Byte × Val) → Option Val
  | [], _ => none
  | k :: p, ms => (ms[k]?).bind (fun m => getAt p m.2)

theorem getM_bump (p : Path) (m : List Byte × Val) (ms : List (List Byte × Val)) : getM (bump p) (m :: ms) = getM p ms := by
  cases p with
  | nil => rfl
  | cons k p => simp only [bump, getM, List.getElem?_cons_succ]

theorem mkVal_getM (d : Doc) {v : VData} (hc : isColl v) {p : Path} (hp : p ≠ []) (sub : List (List Byte × Val)) :
    getAt p (mkVal d v sub) = getM p sub := by
  cases p with
  | nil => exact absurd rfl hp
  | cons k p =>
    cases v
    case arr hd t =>
      simp only [mkVal, getAt, getM, List.getElem?_map]
      cases sub[k]? <;> rfl
    case obj hd t => rfl
    all_goals exact absurd hc (by simp [isColl])

theorem vals_get_path {d : Doc} {i : Nat} : ∀ (F : Forest) {b : Bool} {h : Nat}, Lk d b h F → F.ids.Nodup → i ∈ F.locs →
    getM (F.pathTo i) (vals d noOv F) = some (mkVal d (d.get (.slot i)) (vals d noOv (F.subOf i))) := by
  intro F
  induction F with
  | nil => intro _ _ _ _ h; cases h
  | cons key j s r ihs ihr =>
    intro b h hl hnd hmem
    rw [Lk_cons] at hl
    obtain ⟨_, _, _, h4, h5⟩ := hl
    obtain ⟨nds, ndr, njs, njr, nsr, nk⟩ := Forest.nodup_cons hnd
    rcases Forest.mem_locs_cons_cases hmem with rfl | ⟨hji, his⟩ | ⟨hji, his, hir⟩
    · simp only [Forest.subOf, Forest.pathTo, if_true, vals, noOv, Option.getD_none, getM, List.getElem?_cons_zero,
        Option.bind_some, getAt]
    · have hne : s ≠ .nil := by intro e; subst e; cases his
      obtain ⟨bb, hd, hls, hcoll⟩ := VOK_coll_of_ne_nil h5 hne
      simp only [Forest.subOf, Forest.pathTo, if_neg hji, if_pos his, vals, noOv, Option.getD_none, getM,
        List.getElem?_cons_zero, Option.bind_some]
      rw [mkVal_getM d hcoll (Forest.pathTo_ne_nil s his)]
      exact ihs hls nds his
    · simp only [Forest.subOf, Forest.pathTo, if_neg hji, if_neg his, vals]
      rw [getM_bump]
      exact ihr h4 ndr hir

/-- reading a location is reading the tree at its path -/
theorem getAt_pathOf {d : Doc} {F : Forest} {l : Loc} (w : WFG d F) (hl : isLoc F l) :
    getAt (pathOf F l) (abs d) = some (d.toVal (d.get l)) := by
  cases l with
  | root => rfl
  | slot i =>
    have hne : F ≠ .nil := by intro e; subst e; cases hl
    obtain ⟨b, h, hlk, hc⟩ := VOK_coll_of_ne_nil w.root hne
    rw [toVal_at w hl, abs_eq w]
    simp only [Doc.valOf, pathOf, layoutAt]
    rw [mkVal_getM d hc (Forest.pathTo_ne_nil F hl)]
    exact vals_get_path F hlk w.nodup hl

/-! ## 7. Paths of the other locations are stable under a change of the layout below one location -/

theorem diverge_bump : ∀ {p q : Path}, p ≠ [] → q ≠ [] → (Diverge (bump p) (bump q) ↔ Diverge p q)
  | [], _, h, _ => absurd rfl h
  | _ :: _, [], _, h => absurd rfl h
  | i :: p, j :: q, _, _ => by
    simp only [bump, Diverge]
    constructor
    · rintro (h | ⟨h1, h2⟩)
      · exact Or.inl (fun e => h (by rw [e]))
      · exact Or.inr ⟨by omega, h2⟩
    · rintro (h | ⟨h1, h2⟩)
      · exact Or.inl (fun e => h (by omega))
      · exact Or.inr ⟨by rw [h1], h2⟩

theorem head_bump_ne_zero : ∀ {p : Path}, p ≠ [] → ∃ k q, bump p = (k+1) :: q
  | [], h => absurd rfl h
  | k :: q, _ => ⟨k, q, rfl⟩

namespace Forest

theorem locs_replaceSub_sub (i : Nat) (s' : Forest) : ∀ (F : Forest) (x : Nat), x ∈ (F.replaceSub i s').locs →
    x ∈ F.locs ∨ x ∈ s'.locs := by
  intro F
  induction F with
  | nil => intro x h; cases h
  | cons k j s r ihs ihr =>
    intro x h
    simp only [replaceSub] at h
    split at h
    · simp only [locs, List.mem_cons, List.mem_append] at h ⊢
      rcases h with h | h | h
      · exact Or.inl (Or.inl h)
      · exact Or.inr h
      · exact Or.inl (Or.inr (Or.inr h))
    · simp only [locs, List.mem_cons, List.mem_append] at h ⊢
      rcases h with h | h | h
      · exact Or.inl (Or.inl h)
      · rcases ihs x h with h | h
        · exact Or.inl (Or.inr (Or.inl h))
        · exact Or.inr h
      · rcases ihr x h with h | h
        · exact Or.inl (Or.inr (Or.inr h))
        · exact Or.inr h

theorem subOf_locs_sub (F : Forest) (i : Nat) : ∀ x ∈ (F.subOf i).locs, x ∈ F.locs := by
  induction F with
  | nil => intro x h; cases h
  | cons k j s r ihs ihr =>
    intro x h
    simp only [subOf] at h
    simp only [locs, List.mem_append, List.mem_cons]
    split at h
    · exact Or.inr (Or.inl h)
    · split at h
      · exact Or.inr (Or.inl (ihs x h))
      · exact Or.inr (Or.inr (ihr x h))

/-- a value slot `j` whose path parts ways with the path of `i` is still a value slot, with the same path, after the
    layout below `i` has been replaced by `s'` (whose value slots are old slots below `i` or new ones) -/
theorem pathTo_replaceSub (i j : Nat) (s' : Forest) : ∀ (F : Forest), F.ids.Nodup → i ∈ F.locs → j ∈ F.locs →
    Diverge (F.pathTo i) (F.pathTo j) → (∀ x ∈ s'.locs, x ∈ (F.subOf i).locs ∨ x ∉ F.locs) →
    j ∈ (F.replaceSub i s').locs ∧ (F.replaceSub i s').pathTo j = F.pathTo j := by
  intro F
  induction F with
  | nil => intro _ h; cases h
  | cons k a s r ihs ihr =>
    intro hnd hi hj hdv hs'
    obtain ⟨nds, ndr, _, _, nsr, _⟩ := nodup_cons hnd
    rcases mem_locs_cons_cases hi with rfl | ⟨hai, his⟩ | ⟨hai, his, hir⟩
    · -- the replaced node is this one: `j` can only be in the rest of the chain
      rw [pathTo_cons_self] at hdv
      rw [subOf_here] at hs'
      rw [replaceSub_here]
      rcases mem_locs_cons_cases hj with rfl | ⟨haj, hjs⟩ | ⟨haj, hjs, hjr⟩
      · rw [pathTo_cons_self] at hdv; exact absurd hdv (not_diverge_zero_left _)
      · rw [pathTo_cons_sub haj hjs] at hdv; exact absurd hdv (not_diverge_zero_left _)
      · have hjs' : j ∉ s'.locs := fun m => (hs' j m).elim hjs (fun h => h (mem_locs_cons.2 (Or.inr (Or.inr hjr))))
        rw [pathTo_cons_rest haj hjs', pathTo_cons_rest haj hjs]
        exact ⟨mem_locs_cons.2 (Or.inr (Or.inr hjr)), rfl⟩
    · -- the replaced node is below this one
      rw [pathTo_cons_sub hai his] at hdv
      rw [subOf_below r hai his] at hs'
      rw [replaceSub_cons_ne hai, replaceSub_of_notin i s' r (fun m => nsr i (s.locs_sub_ids i his) (r.locs_sub_ids i m))]
      rcases mem_locs_cons_cases hj with rfl | ⟨haj, hjs⟩ | ⟨haj, hjs, hjr⟩
      · rw [pathTo_cons_self] at hdv; exact absurd hdv (not_diverge_zero_right _)
      · rw [pathTo_cons_sub haj hjs] at hdv
        obtain ⟨h1, h2⟩ := ihs nds his hjs (diverge_cons_same hdv)
          (fun x hx => (hs' x hx).imp_right (fun h m => h (mem_locs_cons.2 (Or.inr (Or.inl m)))))
        rw [pathTo_cons_sub haj h1, h2, pathTo_cons_sub haj hjs]
        exact ⟨mem_locs_cons.2 (Or.inr (Or.inl h1)), rfl⟩
      · have hjn : j ∉ (s.replaceSub i s').locs := fun m =>
          (locs_replaceSub_sub i s' s j m).elim hjs (fun h =>
            (hs' j h).elim (fun h => hjs (s.subOf_locs_sub i j h)) (fun h => h (mem_locs_cons.2 (Or.inr (Or.inr hjr)))))
        rw [pathTo_cons_rest haj hjn, pathTo_cons_rest haj hjs]
        exact ⟨mem_locs_cons.2 (Or.inr (Or.inr hjr)), rfl⟩
    · -- the replaced node is in the rest of the chain
      rw [pathTo_cons_rest hai his] at hdv
      rw [subOf_right r hai his] at hs'
      rw [replaceSub_cons_ne hai, replaceSub_of_notin i s' s his]
      rcases mem_locs_cons_cases hj with rfl | ⟨haj, hjs⟩ | ⟨haj, hjs, hjr⟩
      · rw [pathTo_cons_self, pathTo_cons_self]; exact ⟨mem_locs_cons.2 (Or.inl rfl), rfl⟩
      · rw [pathTo_cons_sub haj hjs, pathTo_cons_sub haj hjs]; exact ⟨mem_locs_cons.2 (Or.inr (Or.inl hjs)), rfl⟩
      · rw [pathTo_cons_rest haj hjs] at hdv
        obtain ⟨h1, h2⟩ := ihr ndr hir hjr ((diverge_bump (pathTo_ne_nil r hir) (pathTo_ne_nil r hjr)).1 hdv)
          (fun x hx => (hs' x hx).imp_right (fun h m => h (mem_locs_cons.2 (Or.inr (Or.inr m)))))
        rw [pathTo_cons_rest haj hjs, pathTo_cons_rest haj hjs, h2]
        exact ⟨mem_locs_cons.2 (Or.inr (Or.inr h1)), rfl⟩
theorem locs_snoc_mem (F : Forest) (k : Option Nat) (i x : Nat) : x ∈ (F.snoc k i).locs ↔ x ∈ F.locs ∨ x = i := by
  rw [locs_snoc]; simp only [List.mem_append, List.mem_singleton]

theorem eraseTop_locs_sub (F : Forest) (i : Nat) : ∀ x ∈ (F.eraseTop i).locs, x ∈ F.locs := by
  induction F with
  | nil => intro x h; cases h
  | cons k j s r _ ihr =>
    intro x h
    simp only [eraseTop] at h
    simp only [locs, List.mem_cons, List.mem_append]
    split at h
    · exact Or.inr (Or.inr h)
    · simp only [locs, List.mem_cons, List.mem_append] at h
      rcases h with h | h | h
      · exact Or.inl h
      · exact Or.inr (Or.inl h)
      · exact Or.inr (Or.inr (ihr x h))
end Forest

/-- `Forest.pathTo_replaceSub` for locations: a location whose path parts ways with that of `l` keeps its path when the
    layout at `l` is replaced -/
theorem pathOf_replaceAt {F : Forest} {l l' : Loc} (s' : Forest) (hnd : F.ids.Nodup) (hl : isLoc F l) (hl' : isLoc F l')
    (hdv : Diverge (pathOf F l) (pathOf F l')) (hs' : ∀ x ∈ s'.locs, x ∈ (layoutAt F l).locs ∨ x ∉ F.locs) :
    isLoc (replaceAt F l s') l' ∧ pathOf (replaceAt F l s') l' = pathOf F l' := by
  cases l with
  | root => cases hdv
  | slot i =>
    cases l' with
    | root => cases hp : pathOf F (.slot i) <;> rw [hp] at hdv <;> cases hdv
    | slot j => exact Forest.pathTo_replaceSub i j s' F hnd hl hl' hdv hs'


end DL
