/- C20: footprints of the commands of `DH.step`, continued: `set`, `setm`, `sete`, `add` - stores through a reference, of a
   scalar / string (`W.setAt` with a scalar kind), of a deep copy of another DOCUMENT (`kind = "doc"`: reads that document)
   or of a deep copy of the value ANOTHER REFERENCE designates (`kind = "ref"`: reads the document that reference is bound
   to). The four commands are restated over an abstract setter `T` (`setB`, `setmB`, `seteB`, `addB`; the restatements are
   the interpreter's code: `… := rfl`) and shown local once, for every setter that is. -/
import AJ.Lemmas.HistFrameCmd2
namespace C20
open DL
open DH (W Ref unhex)
open JD (Byte Val)

/-! ## The setter `W.setAt` -/

/-- scalar / string store: clear the location, then `setArg` -/
theorem setAt_scalar_local (di : Nat) (l : Loc) (kind arg : String) (hk : (kind == "ref" || kind == "doc") = false)
    {D R U B : Nat → Prop} (ok : SOK D R U B) (hi : D di) :
    Local (fun w => w.setAt di l kind arg) (FP.static D R U B) := by
  have e : ∀ w : W, w.setAt di l kind arg = (match DH.parseArg kind arg with
      | none => (false, w)
      | some a => modDoc di (fun d => (d.clearV l).setArg l a) w) := by
    intro w
    simp only [DH.W.setAt, hk, Bool.false_eq_true, ↓reduceIte]
    cases DH.parseArg kind arg <;> rfl
  refine Local.of_eq e ?_
  generalize DH.parseArg kind arg = x
  cases x with
  | none => exact Local.leafPure _ ok
  | some a => exact Local.modDocIn di _ ok hi

/-- deep copy of the root of document `k` -/
theorem setAt_doc_local (di : Nat) (l : Loc) (k : String) {D R U B : Nat → Prop} (ok : SOK D R U B) (hi : D di)
    (hk : R k.toNat!) : Local (fun w => w.setAt di l "doc" k) (FP.static D R U B) :=
  Local.modDocFromIn di k.toNat! (fun d s => (!(copyInto d l s s.root).overflowed, copyInto d l s s.root)) ok hi hk

/-- `W.setAt … "ref" r2` with the source reference already looked up -/
def setAtS (s2 : Ref) (di : Nat) (l : Loc) : Step Bool := fun w =>
  let d := w.docs[di]!
  let (sdoc, sval) : Option Doc × VData :=
    match s2.doc, s2.loc with
    | some sd, some sl => let s := w.docs[sd]!; (some s, s.get sl)
    | _, _ => (none, .null)
  let d' := match sdoc with
    | some s => copyInto d l s sval
    | none => d.clearV l
  (!d'.overflowed, { w with docs := w.docs.set! di d' })

theorem setAt_ref_eq (w : W) (di : Nat) (l : Loc) (r2 : String) :
    w.setAt di l "ref" r2 = setAtS (w.refs[r2.toNat!]!) di l w := by rfl

theorem sok_gen (o : Option Nat) (X U : Nat → Prop) : SOK (docIs o) (fun j => docIs o j ∨ X j) U none' :=
  ⟨fun _ h => Or.inl h, fun _ h => h.elim⟩

/-- the copy reads the document the source reference is bound to -/
theorem setAtS_local (s2 : Ref) (di : Nat) (l : Loc) (U : Nat → Prop) :
    Local (setAtS s2 di l) (FP.static (docIs (some di)) (fun j => docIs (some di) j ∨ docOf s2 j) U none') := by
  obtain ⟨sd, sl⟩ := s2
  cases sd with
  | none => exact Local.modDocIn di (fun d => (!(d.clearV l).overflowed, d.clearV l)) (sok_gen _ _ _) rfl
  | some k =>
    cases sl with
    | none => exact Local.modDocIn di (fun d => (!(d.clearV l).overflowed, d.clearV l)) (sok_gen _ _ _) rfl
    | some ls =>
      exact Local.modDocFromIn di k (fun d s => (!(copyInto d l s (s.get ls)).overflowed, copyInto d l s (s.get ls)))
        (sok_gen _ _ _) rfl (Or.inr rfl)

/-! ## `set`, `setm`, `sete`, `add` over an abstract setter -/

def okStr (b : Bool) : String := if b then "1" else "0"

/-- `set r kind arg` -/
def setB (T : Nat → Loc → Step Bool) (kind : String) (s : Ref) (w : W) : String × W :=
  match s.doc, s.loc with
  | some di, some l => let (ok, w) := T di l w; (okStr ok, w)
  | _, _ => (okStr (w.unboundResult s kind), w)

/-- `setm r key kind arg`: `variant[key] = …` -/
def setmB (T : Nat → Loc → Step Bool) (kind key : String) (kk : List String) (s : Ref) (w : W) : String × W :=
  match s.doc, s.loc with
  | some di, some l =>
    let (m, d) := (w.docs[di]!).getOrAddMember l (unhex key) (kk == ["sjl"])
    let w := { w with docs := w.docs.set! di d }
    match m with
    | some id => let (ok, w) := T di (.slot id) w; (okStr ok, w)
    | none => (okStr (w.unboundResult s kind), w)
  | _, _ => (okStr (w.unboundResult s kind), w)

/-- `sete r i kind arg`: `variant[i] = …` -/
def seteB (T : Nat → Loc → Step Bool) (kind i : String) (s : Ref) (w : W) : String × W :=
  match s.doc, s.loc with
  | some di, some l =>
    let (m, d) := (w.docs[di]!).getOrAddElement l i.toNat!
    let w := { w with docs := w.docs.set! di d }
    match m with
    | some id => let (ok, w) := T di (.slot id) w; (okStr ok, w)
    | none => (okStr (w.unboundResult s kind), w)
  | _, _ => (okStr (w.unboundResult s kind), w)

/-- end of `add`: link the new element in, or give its slot back -/
def addFin (di : Nat) (l : Loc) (id : Nat) (ok : Bool) : Step String := fun w =>
  let d := w.docs[di]!
  if ok then ("1", { w with docs := w.docs.set! di (d.appendOne l id) })
  else ("0", { w with docs := w.docs.set! di (d.freeVariant id) })

/-- `add r kind arg`: `array.add(…)` -/
def addB (T : Nat → Loc → Step Bool) (s : Ref) (w : W) : String × W :=
  match s.doc, s.loc with
  | some di, some l =>
    let d := toArrayIfNull l (w.docs[di]!)
    match d.get l with
    | .arr _ _ =>
      match d.allocVariant with
      | (none, d) => ("0", { w with docs := w.docs.set! di d })
      | (some id, d) =>
        let (ok, w) := T di (.slot id) { w with docs := w.docs.set! di d }
        addFin di l id ok w
    | _ => ("0", { w with docs := w.docs.set! di d })
  | _, _ => ("0", w)

theorem set_eq (w : W) (r kind arg : String) :
    DH.step w ["set", r, kind, arg] = setB (fun di l w => w.setAt di l kind arg) kind (w.refs[r.toNat!]!) w := by rfl
theorem setm_eq (w : W) (r key kind arg : String) (kk : List String) :
    DH.step w ("setm" :: r :: key :: kind :: arg :: kk) =
      setmB (fun di l w => w.setAt di l kind arg) kind key kk (w.refs[r.toNat!]!) w := by rfl
theorem sete_eq (w : W) (r i kind arg : String) :
    DH.step w ["sete", r, i, kind, arg] = seteB (fun di l w => w.setAt di l kind arg) kind i (w.refs[r.toNat!]!) w := by rfl
theorem add_eq (w : W) (r kind arg : String) :
    DH.step w ["add", r, kind, arg] = addB (fun di l w => w.setAt di l kind arg) (w.refs[r.toNat!]!) w := by rfl

/-! ## Locality, for every local setter -/

/-- the answer of a store through an unbound reference that remembers its document: reads the overflow flag -/
theorem unbound_local (di : Nat) (sl : Option Loc) (kind : String) (X U : Nat → Prop) :
    Local (fun w => (okStr (w.unboundResult ⟨some di, sl⟩ kind), w)) (FP.static (docIs (some di)) (fun j => docIs (some di) j ∨ X j) U none') :=
  Local.obsDocIn di (fun d => okStr (DH.isVoidKind kind && !d.overflowed)) (sok_gen _ _ _) (Or.inl rfl)

theorem setB_local (T : Nat → Loc → Step Bool) (kind : String) (r : Nat) (X U : Nat → Prop) (hr : U r)
    (hT : ∀ di l, Local (T di l) (FP.static (docIs (some di)) (fun j => docIs (some di) j ∨ X j) U none')) :
    Local (fun w => setB T kind (w.refs[r]!) w) (fpRef r X U none') := by
  refine Local.viaRef r (setB T kind) docIs X U none' hr (none_sub U) (fun _ _ h => h) (fun o sl ok => ?_)
  cases o with
  | none => exact Local.leafPure _ ok
  | some di =>
    cases sl with
    | none => exact unbound_local di none kind X U
    | some l => exact (hT di l).map okStr

/-- `variant[key] = …`, `variant[i] = …`: the member / element is looked up or created (`A`: `getOrAddMember` /
    `getOrAddElement`), then the setter runs on it -/
def setAtB (A : Loc → Doc → Option Nat × Doc) (T : Nat → Loc → Step Bool) (kind : String) (s : Ref) (w : W) : String × W :=
  match s.doc, s.loc with
  | some di, some l =>
    let (m, d) := A l (w.docs[di]!)
    let w := { w with docs := w.docs.set! di d }
    match m with
    | some id => let (ok, w) := T di (.slot id) w; (okStr ok, w)
    | none => (okStr (w.unboundResult s kind), w)
  | _, _ => (okStr (w.unboundResult s kind), w)

theorem setAtB_local (A : Loc → Doc → Option Nat × Doc) (T : Nat → Loc → Step Bool) (kind : String) (r : Nat)
    (X U : Nat → Prop) (hr : U r) (hT : ∀ di l, Local (T di l) (FP.static (docIs (some di)) (fun j => docIs (some di) j ∨ X j) U none')) :
    Local (fun w => setAtB A T kind (w.refs[r]!) w) (fpRef r X U none') := by
  refine Local.viaRef r (setAtB A T kind) docIs X U none' hr (none_sub U) (fun _ _ h => h) (fun o sl ok => ?_)
  obtain _ | di := o
  · exact Local.leafPure _ ok
  cases sl with
  | none => exact unbound_local di none kind X U
  | some l =>
    refine Local.withDoc di (fun d0 w => match A l d0 with
      | (m, d) => match m with
        | some id => (okStr (T di (.slot id) { w with docs := w.docs.set! di d }).1, (T di (.slot id) { w with docs := w.docs.set! di d }).2)
        | none => (okStr (({ w with docs := w.docs.set! di d } : W).unboundResult ⟨some di, some l⟩ kind), { w with docs := w.docs.set! di d }))
      (Or.inl rfl) ok (fun d0 => ?_)
    generalize A l d0 = x
    obtain ⟨m, d⟩ := x
    cases m with
    | none => exact Local.after_write (D := docIs (some di)) di d rfl (unbound_local di (some l) kind X U)
    | some id => exact Local.after_write (D := docIs (some di)) di d rfl ((hT di (.slot id)).map okStr)

theorem setmB_local (T : Nat → Loc → Step Bool) (kind key : String) (kk : List String) (r : Nat) (X U : Nat → Prop)
    (hr : U r) (hT : ∀ di l, Local (T di l) (FP.static (docIs (some di)) (fun j => docIs (some di) j ∨ X j) U none')) :
    Local (fun w => setmB T kind key kk (w.refs[r]!) w) (fpRef r X U none') :=
  setAtB_local (fun l d => d.getOrAddMember l (unhex key) (kk == ["sjl"])) T kind r X U hr hT

theorem seteB_local (T : Nat → Loc → Step Bool) (kind i : String) (r : Nat) (X U : Nat → Prop)
    (hr : U r) (hT : ∀ di l, Local (T di l) (FP.static (docIs (some di)) (fun j => docIs (some di) j ∨ X j) U none')) :
    Local (fun w => seteB T kind i (w.refs[r]!) w) (fpRef r X U none') :=
  setAtB_local (fun l d => d.getOrAddElement l i.toNat!) T kind r X U hr hT

theorem addFin_local (di : Nat) (l : Loc) (id : Nat) (ok : Bool) {D R U B : Nat → Prop} (sok : SOK D R U B) (hi : D di) :
    Local (addFin di l id ok) (FP.static D R U B) := by
  cases ok with
  | true => exact Local.modDocIn di (fun d => ("1", d.appendOne l id)) sok hi
  | false => exact Local.modDocIn di (fun d => ("0", d.freeVariant id)) sok hi

theorem addB_local (T : Nat → Loc → Step Bool) (r : Nat) (X U : Nat → Prop) (hr : U r)
    (hT : ∀ di l, Local (T di l) (FP.static (docIs (some di)) (fun j => docIs (some di) j ∨ X j) U none')) :
    Local (fun w => addB T (w.refs[r]!) w) (fpRef r X U none') := by
  refine Local.viaRef r (addB T) docIs X U none' hr (none_sub U) (fun _ _ h => h) (fun o sl ok => ?_)
  obtain _ | di := o
  · exact Local.leafPure _ ok
  cases sl with
  | none => exact Local.leafPure _ ok
  | some l =>
    refine Local.withDoc di (fun d0 w => match (toArrayIfNull l d0).get l with
      | .arr _ _ =>
        match (toArrayIfNull l d0).allocVariant with
        | (none, d) => ("0", { w with docs := w.docs.set! di d })
        | (some id, d) =>
          addFin di l id (T di (.slot id) { w with docs := w.docs.set! di d }).1 (T di (.slot id) { w with docs := w.docs.set! di d }).2
      | _ => ("0", { w with docs := w.docs.set! di (toArrayIfNull l d0) }))
      (Or.inl rfl) ok (fun d0 => ?_)
    generalize toArrayIfNull l d0 = d
    generalize hx : d.get l = x
    cases x with
    | arr h t =>
      show Local (fun w => match d.allocVariant with
        | (none, d) => ("0", { w with docs := w.docs.set! di d })
        | (some id, d) =>
          addFin di l id (T di (.slot id) { w with docs := w.docs.set! di d }).1 (T di (.slot id) { w with docs := w.docs.set! di d }).2) _
      generalize d.allocVariant = y
      obtain ⟨m, d1⟩ := y
      cases m with
      | none => exact Local.putDocIn di "0" d1 ok rfl
      | some id =>
        exact Local.after_write (D := docIs (some di)) di d1 rfl
          (Local.bind (hT di (.slot id)) (fun b => addFin_local di l id b ok rfl))
    | _ => exact Local.putDocIn di "0" d ok rfl

/-! ## The twelve commands -/

/-- footprint of a deep copy of the root of document `k` to the place reference `r` designates -/
def fpCopyDoc (r k : Nat) : FP := fpRef r (one k) (one r) none'
/-- footprint of a deep copy of the value reference `r2` designates to the place reference `r` designates: reads the
    document `r2` is bound to, writes the document `r` is bound to -/
def fpCopyRef (r r2 : Nat) : FP :=
  ⟨fun w => docOf (w.refs[r]!), fun w j => docOf (w.refs[r]!) j ∨ docOf (w.refs[r2]!) j, two r r2, none'⟩

theorem setAt_scalar_T (r : Nat) (kind arg : String) (hk : (kind == "ref" || kind == "doc") = false) (di : Nat) (l : Loc) :
    Local (fun w : W => w.setAt di l kind arg) (FP.static (docIs (some di)) (fun j => docIs (some di) j ∨ none' j) (one r) none') :=
  setAt_scalar_local di l kind arg hk (sok_gen _ _ _) rfl
theorem setAt_doc_T (r : Nat) (k : String) (di : Nat) (l : Loc) :
    Local (fun w : W => w.setAt di l "doc" k) (FP.static (docIs (some di)) (fun j => docIs (some di) j ∨ one k.toNat! j) (one r) none') :=
  setAt_doc_local di l k (sok_gen _ _ _) rfl (Or.inr rfl)

/-- a command over a setter, instantiated with the setter that copies from reference `r2` -/
theorem copyRef_local (Bd : (Nat → Loc → Step Bool) → Ref → W → String × W) (r r2 : Nat)
    (hB : ∀ (T : Nat → Loc → Step Bool) (X U : Nat → Prop), U r →
      (∀ di l, Local (T di l) (FP.static (docIs (some di)) (fun j => docIs (some di) j ∨ X j) U none')) →
      Local (fun w => Bd T (w.refs[r]!) w) (fpRef r X U none')) :
    Local (fun w => Bd (setAtS (w.refs[r2]!)) (w.refs[r]!) w) (fpCopyRef r r2) :=
  Local.ofRef r2 (fun s2 w => Bd (setAtS s2) (w.refs[r]!) w) (fun _ w => docOf (w.refs[r]!))
    (fun s2 w j => docOf (w.refs[r]!) j ∨ docOf s2 j) (two r r2) none' (Or.inr rfl)
    (fun s2 => hB (setAtS s2) (docOf s2) (two r r2) (Or.inl rfl) (fun di l => setAtS_local s2 di l _))

-- `set`
theorem set_local (r kind arg : String) (hk : (kind == "ref" || kind == "doc") = false) :
    Local (fun w => DH.step w ["set", r, kind, arg]) (fpMut r.toNat!) :=
  Local.of_eq (fun w => set_eq w r kind arg)
    (setB_local _ kind r.toNat! none' (one r.toNat!) rfl (setAt_scalar_T _ kind arg hk))
theorem setDoc_local (r k : String) : Local (fun w => DH.step w ["set", r, "doc", k]) (fpCopyDoc r.toNat! k.toNat!) :=
  Local.of_eq (fun w => set_eq w r "doc" k) (setB_local _ "doc" r.toNat! (one k.toNat!) (one r.toNat!) rfl (setAt_doc_T _ k))
theorem setRef_local (r r2 : String) : Local (fun w => DH.step w ["set", r, "ref", r2]) (fpCopyRef r.toNat! r2.toNat!) :=
  Local.of_eq (fun w => set_eq w r "ref" r2)
    (copyRef_local (fun T => setB T "ref") r.toNat! r2.toNat! (fun T X U hr hT => setB_local T "ref" _ X U hr hT))

-- `setm`
theorem setm_local (r key kind arg : String) (kk : List String) (hk : (kind == "ref" || kind == "doc") = false) :
    Local (fun w => DH.step w ("setm" :: r :: key :: kind :: arg :: kk)) (fpMut r.toNat!) :=
  Local.of_eq (fun w => setm_eq w r key kind arg kk)
    (setmB_local _ kind key kk r.toNat! none' (one r.toNat!) rfl (setAt_scalar_T _ kind arg hk))
theorem setmDoc_local (r key k : String) (kk : List String) :
    Local (fun w => DH.step w ("setm" :: r :: key :: "doc" :: k :: kk)) (fpCopyDoc r.toNat! k.toNat!) :=
  Local.of_eq (fun w => setm_eq w r key "doc" k kk)
    (setmB_local _ "doc" key kk r.toNat! (one k.toNat!) (one r.toNat!) rfl (setAt_doc_T _ k))
theorem setmRef_local (r key r2 : String) (kk : List String) :
    Local (fun w => DH.step w ("setm" :: r :: key :: "ref" :: r2 :: kk)) (fpCopyRef r.toNat! r2.toNat!) :=
  Local.of_eq (fun w => setm_eq w r key "ref" r2 kk)
    (copyRef_local (fun T => setmB T "ref" key kk) r.toNat! r2.toNat!
      (fun T X U hr hT => setmB_local T "ref" key kk _ X U hr hT))

-- `sete`
theorem sete_local (r i kind arg : String) (hk : (kind == "ref" || kind == "doc") = false) :
    Local (fun w => DH.step w ["sete", r, i, kind, arg]) (fpMut r.toNat!) :=
  Local.of_eq (fun w => sete_eq w r i kind arg)
    (seteB_local _ kind i r.toNat! none' (one r.toNat!) rfl (setAt_scalar_T _ kind arg hk))
theorem seteDoc_local (r i k : String) :
    Local (fun w => DH.step w ["sete", r, i, "doc", k]) (fpCopyDoc r.toNat! k.toNat!) :=
  Local.of_eq (fun w => sete_eq w r i "doc" k)
    (seteB_local _ "doc" i r.toNat! (one k.toNat!) (one r.toNat!) rfl (setAt_doc_T _ k))
theorem seteRef_local (r i r2 : String) :
    Local (fun w => DH.step w ["sete", r, i, "ref", r2]) (fpCopyRef r.toNat! r2.toNat!) :=
  Local.of_eq (fun w => sete_eq w r i "ref" r2)
    (copyRef_local (fun T => seteB T "ref" i) r.toNat! r2.toNat! (fun T X U hr hT => seteB_local T "ref" i _ X U hr hT))

-- `add`
theorem add_local (r kind arg : String) (hk : (kind == "ref" || kind == "doc") = false) :
    Local (fun w => DH.step w ["add", r, kind, arg]) (fpMut r.toNat!) :=
  Local.of_eq (fun w => add_eq w r kind arg) (addB_local _ r.toNat! none' (one r.toNat!) rfl (setAt_scalar_T _ kind arg hk))
theorem addDoc_local (r k : String) : Local (fun w => DH.step w ["add", r, "doc", k]) (fpCopyDoc r.toNat! k.toNat!) :=
  Local.of_eq (fun w => add_eq w r "doc" k) (addB_local _ r.toNat! (one k.toNat!) (one r.toNat!) rfl (setAt_doc_T _ k))
theorem addRef_local (r r2 : String) : Local (fun w => DH.step w ["add", r, "ref", r2]) (fpCopyRef r.toNat! r2.toNat!) :=
  Local.of_eq (fun w => add_eq w r "ref" r2)
    (copyRef_local addB r.toNat! r2.toNat! (fun T X U hr hT => addB_local T _ X U hr hT))

end C20
