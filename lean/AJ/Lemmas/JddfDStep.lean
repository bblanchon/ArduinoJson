/- Facts about the document alone that hold along every run of the filtered slot-level deserializer: a relation `Q`
   between documents that every primitive the deserializer applies to the document respects (`DStep Q`) relates the document
   before any of `parseVariant / parseElems / parseMembers` to the document after (`st_all`), whatever the code. -/
import AJ.Lemmas.JddfStep
import AJ.Lemmas.JddOps
namespace JDDF
open DL JDD
open JD (Byte Code Cfg Flt cur mv skipSpaces)

/-- the key token only moves the reader and calls the allocator -/
theorem keyToken_pleq (cfg : Cfg) (f : Nat) (c : Byte) (x : S) : PlEq x.d (keyToken cfg f c x).2.2.d := by
  unfold keyToken
  split
  · exact (quoted_spec cfg (f+1) c { x with s := mv x.s }).1.bop.pleq
  · split
    · exact (unquoted_spec cfg (f+1) x).1.bop.pleq
    · exact (startString_spec x).1.pleq

/-- a relation between documents that every operation of the JSON deserializer respects -/
structure DStep (Q : Doc → Doc → Prop) : Prop where
  refl : ∀ d, Q d d
  trans : ∀ {d d1 d2}, Q d d1 → Q d1 d2 → Q d d2
  pleq : ∀ {d d'}, PlEq d d' → Q d d'
  set_bool : ∀ d l b, Q d (d.set l (.bool b))
  set_owned : ∀ d l n, Q d (d.set l (.owned n))
  set_arr : ∀ d l h t, Q d (d.set l (.arr h t))
  set_obj : ∀ d l h t, Q d (d.set l (.obj h t))
  setArg : ∀ d l a, isNum a → Q d (d.setArg l a).2
  save : ∀ (x : S) bytes, Q x.d (save x bytes).2.d
  addElement : ∀ d l, Q d (d.addElement l).2
  addMemberNode : ∀ d l node, Q d (addMemberNode d l node).2
  clearV : ∀ d l, Q d (d.clearV l)

variable {Q : Doc → Doc → Prop}

theorem st_afterOpen (hq : DStep Q) (cfg : Cfg) (f : Nat) (close : Byte) {k : S → Code × S} (x : S)
    (hk : ∀ s, Q x.d (k { x with s := s }).2.d) : Q x.d (afterOpen cfg f close k x).2.d := by
  unfold afterOpen
  split
  · split
    · exact hq.refl _
    · exact hk _
  · exact hq.refl _

theorem st_openAt (hq : DStep Q) (cfg : Cfg) (f limit : Nat) (close : Byte) {v : VData} {l : Loc}
    {k : Nat → S → Code × S} (x : S) (hv : Q x.d (x.d.set l v))
    (hk : ∀ li s, Q (x.d.set l v) (k li { x with s := s, d := x.d.set l v }).2.d) :
    Q x.d (openAt cfg f limit close v l k x).2.d := by
  unfold openAt
  split
  · exact hv
  · exact hq.trans hv (st_afterOpen hq cfg f close { x with d := x.d.set l v } (hk _))

theorem st_skipAt (hq : DStep Q) (limit : Nat) {k : Nat → S → Code × S} (x : S) (hk : ∀ li, Q x.d (k li x).2.d) :
    Q x.d (skipAt limit k x).2.d := by
  unfold skipAt
  split
  · exact hq.refl _
  · exact hk _

theorem st_stringAt (hq : DStep Q) (cfg : Cfg) (f : Nat) (c : Byte) (l : Loc) (x : S) :
    Q x.d (stringAt cfg f c l x).2.d := by
  unfold stringAt
  have hs := (quoted_spec cfg (f+1) c { x with s := mv x.s }).1.bop.pleq
  split
  · rename_i bytes x1 heq
    rw [heq] at hs
    exact hq.trans (hq.pleq hs) (hq.trans (hq.save x1 bytes) (hq.set_owned _ _ _))
  · rename_i e bytes x1 hne heq
    rw [heq] at hs
    exact hq.pleq hs

theorem st_numeric (hq : DStep Q) (cfg : Cfg) (l : Loc) (x : S) : Q x.d (numeric cfg l x).2.d := by
  unfold numeric
  simp only
  split
  · exact hq.setArg _ l _ trivial
  · exact hq.setArg _ l _ trivial
  · exact hq.setArg _ l _ trivial
  · exact hq.setArg _ l _ trivial
  · exact hq.refl _
  · exact hq.refl _

theorem st_boolAt (hq : DStep Q) (allow b : Bool) (l : Loc) (x : S) : Q x.d (boolAt allow b l x).d := by
  unfold boolAt
  split
  · exact hq.set_bool _ _ _
  · exact hq.refl _

theorem st_elemsTail (hq : DStep Q) (cfg : Cfg) (f : Nat) {k : S → Code × S} (x : S)
    (hk : ∀ s, Q x.d (k { x with s := s }).2.d) : Q x.d (elemsTail cfg f k x).2.d := by
  unfold elemsTail
  split
  · split
    · exact hq.refl _
    · split
      · exact hk _
      · exact hq.refl _
  · exact hq.refl _

theorem st_membersTail (hq : DStep Q) (cfg : Cfg) (f : Nat) {k : S → Code × S} (x : S)
    (hk : ∀ s, Q x.d (k { x with s := s }).2.d) : Q x.d (membersTail cfg f k x).2.d := by
  unfold membersTail
  split
  · split
    · exact hq.refl _
    · split
      · split
        · exact hk _
        · exact hq.refl _
      · exact hq.refl _
  · exact hq.refl _

theorem st_andThen (hq : DStep Q) {d : Doc} {r : Code × S} {tail : S → Code × S} (hr : Q d r.2.d)
    (ht : ∀ x, Q x.d (tail x).2.d) : Q d (andThen r tail).2.d := by
  unfold andThen
  split
  · exact hq.trans hr (ht _)
  · exact hr

theorem st_memberSlot (hq : DStep Q) (x : S) (l : Loc) (key : List Byte) : Q x.d (memberSlot x l key).2.d := by
  unfold memberSlot
  split
  · rename_i a v heq; show Q x.d (x.d.clearV (.slot v)); exact hq.clearV x.d _
  · simp only
    have h := hq.addMemberNode (save x key).2.d l (save x key).1
    generalize addMemberNode (save x key).2.d l (save x key).1 = r at h
    obtain ⟨o, d2⟩ := r
    cases o <;> exact hq.trans (hq.save x key) h

theorem st_memberAt (hq : DStep Q) (l : Loc) (key : List Byte) {k : Nat → S → Code × S} (x : S)
    (hk : ∀ v y, Q y.d (k v y).2.d) : Q x.d (memberAt l key k x).2.d := by
  unfold memberAt
  have h := st_memberSlot hq x l key
  generalize memberSlot x l key = r at h
  obtain ⟨o, y⟩ := r
  cases o
  · exact h
  · exact hq.trans h (hk _ _)

theorem st_memberRest (hq : DStep Q) (cfg : Cfg) (f : Nat) {val : S → Code × S} (x : S)
    (hv : ∀ s, Q x.d (val { x with s := s }).2.d) : Q x.d (memberRest cfg f val x).2.d := by
  unfold memberRest
  split
  · split
    · exact hq.refl _
    · exact hv _
  · exact hq.refl _

def SVs (Q : Doc → Doc → Prop) (cfg : Cfg) (fuel : Nat) : Prop := ∀ (limit : Nat) (flt : Flt) (l : Loc) (x : S),
  Q x.d (parseVariant cfg fuel limit flt l x).2.d
def SEs (Q : Doc → Doc → Prop) (cfg : Cfg) (fuel : Nat) : Prop := ∀ (limit : Nat) (flt : Flt) (l : Loc) (x : S),
  Q x.d (parseElems cfg fuel limit flt l x).2.d
def SMs (Q : Doc → Doc → Prop) (cfg : Cfg) (fuel : Nat) : Prop := ∀ (limit : Nat) (flt : Flt) (l : Loc) (x : S),
  Q x.d (parseMembers cfg fuel limit flt l x).2.d

theorem st_valueAt (hq : DStep Q) (cfg : Cfg) (f : Nat) (ihE : SEs Q cfg f) (ihM : SMs Q cfg f) (limit : Nat) (flt : Flt)
    (l : Loc) (c : Byte) (x : S) : Q x.d (valueAt cfg f limit flt l c x).2.d := by
  refine valueAt_cases (P := fun r => Q x.d r.2.d) cfg f limit flt l c x ?_ ?_ ?_ ?_ ?_ ?_ ?_ ?_ ?_ ?_ ?_
  · exact st_openAt hq cfg f limit _ x (hq.set_arr _ _ _ _) (fun li s => ihE li _ l ⟨_, _, _⟩)
  · exact st_skipAt hq limit x (fun li => hq.refl _)
  · exact st_openAt hq cfg f limit _ x (hq.set_obj _ _ _ _) (fun li s => ihM li _ l ⟨_, _, _⟩)
  · exact st_skipAt hq limit x (fun li => st_afterOpen hq cfg f _ x (fun s => hq.refl _))
  · exact st_stringAt hq cfg f c l x
  · exact hq.refl _
  · exact st_boolAt hq _ _ l x
  · exact st_boolAt hq _ _ l x
  · exact hq.refl _
  · exact st_numeric hq cfg l x
  · exact hq.refl _

theorem sv_succ (hq : DStep Q) (cfg : Cfg) (f : Nat) (ihE : SEs Q cfg f) (ihM : SMs Q cfg f) : SVs Q cfg (f+1) := by
  intro limit flt l x
  rw [parseVariant_succ]
  split
  · rename_i s heq
    exact st_valueAt hq cfg f ihE ihM limit flt l (cur s).1 ⟨(cur s).2, x.d, x.b⟩
  · exact hq.refl _

theorem se_succ (hq : DStep Q) (cfg : Cfg) (f : Nat) (ihV : SVs Q cfg f) (ihE : SEs Q cfg f) : SEs Q cfg (f+1) := by
  intro limit ef l x
  rw [parseElems_succ]
  refine st_andThen hq ?_ (fun y => st_elemsTail hq cfg f y (fun s => ihE limit ef l ⟨s, y.d, y.b⟩))
  unfold elemHead
  split
  · have h := hq.addElement x.d l
    generalize x.d.addElement l = r at h
    obtain ⟨o, d1⟩ := r
    cases o
    · exact h
    · exact hq.trans h (ihV limit ef _ { x with d := d1 })
  · exact hq.refl _

theorem sm_succ (hq : DStep Q) (cfg : Cfg) (f : Nat) (ihV : SVs Q cfg f) (ihM : SMs Q cfg f) : SMs Q cfg (f+1) := by
  intro limit flt l x
  rw [parseMembers_succ]
  have hk := keyToken_pleq cfg f (cur x.s).1 { x with s := (cur x.s).2 }
  split
  · rename_i key x1 heq
    rw [heq] at hk
    refine hq.trans (hq.pleq hk) (st_memberRest hq cfg f x1 (fun s => ?_))
    refine st_andThen hq ?_ (fun y => st_membersTail hq cfg f y (fun s => ihM limit flt l ⟨s, y.d, y.b⟩))
    unfold memberHead
    split
    · exact st_memberAt hq l key ⟨s, x1.d, x1.b⟩ (fun v y => ihV limit _ _ y)
    · exact hq.refl _
  · rename_i e key x1 hne heq
    rw [heq] at hk
    exact hq.pleq hk

/-- the document before and after each of the three routines, on every path -/
theorem st_all (hq : DStep Q) (cfg : Cfg) : ∀ fuel, SVs Q cfg fuel ∧ SEs Q cfg fuel ∧ SMs Q cfg fuel := by
  intro fuel
  induction fuel with
  | zero =>
    refine ⟨?_, ?_, ?_⟩ <;> intro limit flt l x
    · simp only [parseVariant]; exact hq.refl _
    · simp only [parseElems]; exact hq.refl _
    · simp only [parseMembers]; exact hq.refl _
  | succ f ih =>
    obtain ⟨ihV, ihE, ihM⟩ := ih
    exact ⟨sv_succ hq cfg f ihE ihM, se_succ hq cfg f ihV ihE, sm_succ hq cfg f ihV ihM⟩

end JDDF
