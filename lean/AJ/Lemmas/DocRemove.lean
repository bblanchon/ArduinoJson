/- Removal of an element / a member from a chain of the slot-level document store `DL.Doc`: the chain is unlinked
   (`Lk_unlink`), the detached tree is released (`free_detached`); the invariant is re-established for the final
   document at once (`unlink_wfg`), every cell outside the territory of the tree being unchanged.
   Used by AJ/Props/C04Rem.lean. -/
import AJ.Lemmas.DocCopy
namespace DL
open JD (Byte Val)

/-! ## Forest surgery: erasing one top-level tree -/
namespace Forest

/-- top-level value slots (elements, member values) in link order -/
def tl : Forest → List Nat | nil => [] | cons _ i _ r => i :: tl r
/-- erase the top-level tree whose value slot is `i` (with its key slot and everything below) -/
def eraseTop : Forest → Nat → Forest
  | nil, _ => nil
  | cons k j s r, i => if j = i then r else cons k j s (eraseTop r i)
/-- the top-level tree whose value slot is `i`, as a one-tree forest -/
def treeF : Forest → Nat → Forest
  | nil, _ => nil
  | cons k j s r, i => if j = i then cons k j s nil else treeF r i
/-- value slot of the element linked in front of the tree of `i` (`p` when the tree is the first one) -/
def predFrom (p : Option Nat) : Forest → Nat → Option Nat
  | nil, _ => none
  | cons _ j _ r, i => if j = i then p else predFrom (some j) r i
/-- key slot of the top-level tree whose value slot is `i` -/
def keyOfTop : Forest → Nat → Option Nat
  | nil, _ => none
  | cons k j _ r, i => if j = i then k else keyOfTop r i

theorem tl_sub_locs (F : Forest) : ∀ x ∈ F.tl, x ∈ F.locs := by
  induction F with
  | nil => intro x h; cases h
  | cons k j s r _ ihr =>
    intro x h
    simp only [tl, List.mem_cons] at h
    simp only [locs, List.mem_cons, List.mem_append]
    rcases h with h | h
    · exact Or.inl h
    · exact Or.inr (Or.inr (ihr x h))

theorem tl_sub_top (F : Forest) : ∀ x ∈ F.tl, x ∈ F.top := by
  induction F with
  | nil => intro x h; cases h
  | cons k j s r _ ihr =>
    intro x h
    simp only [tl, List.mem_cons] at h
    simp only [top, List.mem_cons, List.mem_append]
    rcases h with h | h
    · exact Or.inr (Or.inl h)
    · exact Or.inr (Or.inr (ihr x h))

theorem tl_sub_ids (F : Forest) : ∀ x ∈ F.tl, x ∈ F.ids := fun x h => F.locs_sub_ids x (F.tl_sub_locs x h)

/-- Where the top-level tree of `i` sits in a chain: it is the first tree, or it comes later. Statements about
    `eraseTop i` / `treeF i` / `predFrom _ i` / `keyOfTop i` are proved along this case distinction. -/
theorem tl_induction {i : Nat} {motive : Forest → Prop} (here : ∀ k s r, motive (cons k i s r))
    (later : ∀ k j s r, j ≠ i → i ∈ r.tl → motive r → motive (cons k j s r)) : ∀ F : Forest, i ∈ F.tl → motive F := by
  intro F
  induction F with
  | nil => intro hi; cases hi
  | cons k j s r _ ihr =>
    intro hi
    by_cases hji : j = i
    · subst hji; exact here k s r
    · have hir : i ∈ r.tl := (List.mem_cons.1 hi).resolve_left (Ne.symm hji)
      exact later k j s r hji hir (ihr hir)

/-- the slots of the chain split into those of the erased tree and those that stay -/
theorem ids_perm_erase (F : Forest) (i : Nat) : List.Perm F.ids ((F.treeF i).ids ++ (F.eraseTop i).ids) := by
  induction F with
  | nil => exact List.Perm.refl _
  | cons k j s r _ ihr =>
    simp only [treeF, eraseTop]
    split
    · simp only [ids, List.append_nil, List.append_assoc, List.cons_append]
      exact List.Perm.refl _
    · have e1 : ∀ X : List Nat, keyL k ++ j :: (s.ids ++ X) = (keyL k ++ j :: s.ids) ++ X := by
        intro X; simp
      simp only [ids]
      rw [e1, e1]
      refine ((List.Perm.append_left _ ihr)).trans ?_
      rw [← List.append_assoc, ← List.append_assoc]
      exact List.Perm.append_right _ List.perm_append_comm

theorem nodup_eraseTop {F : Forest} (i : Nat) (h : F.ids.Nodup) : (F.eraseTop i).ids.Nodup :=
  (List.nodup_append.1 ((F.ids_perm_erase i).nodup_iff.1 h)).2.1

theorem mem_ids_eraseTop {F : Forest} (i : Nat) (h : F.ids.Nodup) (x : Nat) :
    x ∈ (F.eraseTop i).ids ↔ x ∈ F.ids ∧ x ∉ (F.treeF i).ids := by
  have hp := F.ids_perm_erase i
  obtain ⟨_, _, hd⟩ := List.nodup_append.1 (hp.nodup_iff.1 h)
  rw [hp.mem_iff, List.mem_append]
  constructor
  · intro hx; exact ⟨Or.inr hx, fun m => hd x m x hx rfl⟩
  · rintro ⟨hx | hx, hn⟩
    · exact absurd hx hn
    · exact hx

theorem treeF_ids_sub (F : Forest) (i : Nat) : ∀ x ∈ (F.treeF i).ids, x ∈ F.ids := fun _ hx =>
  (F.ids_perm_erase i).mem_iff.2 (List.mem_append_left _ hx)

theorem eraseTop_ids_sub (F : Forest) (i : Nat) : ∀ x ∈ (F.eraseTop i).ids, x ∈ F.ids := fun _ hx =>
  (F.ids_perm_erase i).mem_iff.2 (List.mem_append_right _ hx)

/-- the erased tree: its value slot is `i`, its layout is the layout below `i` -/
theorem treeF_eq {F : Forest} {i : Nat} (hnd : F.ids.Nodup) (hi : i ∈ F.tl) :
    F.treeF i = cons (F.keyOfTop i) i (F.subOf i) nil := by
  refine tl_induction (motive := fun F => F.ids.Nodup → F.treeF i = cons (F.keyOfTop i) i (F.subOf i) nil) ?_ ?_ F hi hnd
  · intro k s r _; simp only [treeF, keyOfTop, subOf, if_true]
  · intro k j s r hji hir ih hnd
    obtain ⟨_, ndr, _, _, nsr, _⟩ := nodup_cons hnd
    have his : i ∉ s.locs := fun m => nsr i (s.locs_sub_ids i m) (r.tl_sub_ids i hir)
    simp only [treeF, keyOfTop, subOf, if_neg hji, if_neg his]
    exact ih ndr

theorem treeF_ids {F : Forest} {i : Nat} (hnd : F.ids.Nodup) (hi : i ∈ F.tl) :
    (F.treeF i).ids = keyL (F.keyOfTop i) ++ i :: (F.subOf i).ids := by
  rw [treeF_eq hnd hi]; simp [ids]

theorem keyOfTop_sub_ids (F : Forest) (i : Nat) : ∀ q ∈ keyL (F.keyOfTop i), q ∈ F.ids := by
  induction F with
  | nil => intro q h; cases h
  | cons k j s r _ ihr =>
    intro q h
    simp only [keyOfTop] at h
    simp only [ids, List.mem_append, List.mem_cons]
    split at h
    · exact Or.inl h
    · exact Or.inr (Or.inr (Or.inr (ihr q h)))

theorem predFrom_mem (F : Forest) (i : Nat) : ∀ (p : Option Nat) (q : Nat), F.predFrom p i = some q → p = some q ∨ q ∈ F.tl := by
  induction F with
  | nil => intro p q h; cases h
  | cons k j s r _ ihr =>
    intro p q h
    simp only [predFrom] at h
    split at h
    · exact Or.inl h
    · rcases ihr (some j) q h with e | m
      · simp only [Option.some.injEq] at e
        exact Or.inr (by simp [tl, e])
      · exact Or.inr (by simp [tl, m])

/-- the predecessor is not a slot of the erased tree -/
theorem predFrom_notin_tree {F : Forest} {i : Nat} (hnd : F.ids.Nodup) :
    ∀ (p : Option Nat) (q : Nat), F.predFrom p i = some q → p ≠ some q → q ∈ F.tl ∧ q ∉ (F.treeF i).ids := by
  induction F with
  | nil => intro p q h; cases h
  | cons k j s r _ ihr =>
    intro p q h hp
    obtain ⟨_, ndr, _, njr, nsr, nk⟩ := nodup_cons hnd
    simp only [predFrom] at h
    simp only [treeF]
    split at h
    · exact absurd h hp
    · rename_i hji
      rw [if_neg hji]
      by_cases hq : some j = some q
      · simp only [Option.some.injEq] at hq; subst hq
        exact ⟨by simp [tl], fun m => njr (r.treeF_ids_sub i j m)⟩
      · obtain ⟨a, b⟩ := ihr ndr (some j) q h hq
        exact ⟨by simp [tl, a], b⟩

theorem predFrom_cons_ne {k : Option Nat} {j : Nat} {s r : Forest} {i : Nat} (p : Option Nat) (h : j ≠ i) :
    (cons k j s r).predFrom p i = r.predFrom (some j) i := by
  simp only [predFrom, if_neg h]

/-- inside the chain (not at its head) the predecessor does not depend on what precedes the chain -/
theorem predFrom_indep {F : Forest} {i : Nat} (p p' : Option Nat) (h : ∀ k j s r, F = cons k j s r → j ≠ i) :
    F.predFrom p i = F.predFrom p' i := by
  cases F with
  | nil => rfl
  | cons k j s r => simp only [predFrom, if_neg (h k j s r rfl)]

theorem predFrom_some_of_mem {F : Forest} {i : Nat} (hi : i ∈ F.tl) (a : Nat) : ∃ q, F.predFrom (some a) i = some q := by
  refine tl_induction (motive := fun F => ∀ a, ∃ q, F.predFrom (some a) i = some q) ?_ ?_ F hi a
  · intro k s r a; exact ⟨a, by simp only [predFrom, if_true]⟩
  · intro k j s r hji _ ih a; rw [predFrom_cons_ne _ hji]; exact ih j

/-- abstract members after the erasure -/
theorem vals_eraseTop (d : Doc) (o : Nat → Option Val) (F : Forest) (i : Nat) :
    vals d o (F.eraseTop i) = (vals d o F).eraseIdx (List.idxOf i F.tl) := by
  induction F with
  | nil => rfl
  | cons k j s r _ ihr =>
    simp only [eraseTop, tl, vals, List.idxOf_cons]
    by_cases hji : j = i
    · subst hji; simp
    · have : (j == i) = false := by simp [hji]
      simp only [if_neg hji, this, cond_false, List.eraseIdx_cons_succ, vals, ihr]

theorem top_eraseTop_sub (F : Forest) (i : Nat) : ∀ x ∈ (F.eraseTop i).top, x ∈ F.top := by
  induction F with
  | nil => intro x h; cases h
  | cons k j s r _ ihr =>
    intro x h
    simp only [eraseTop] at h
    simp only [top, List.mem_append, List.mem_cons]
    split at h
    · exact Or.inr (Or.inr h)
    · simp only [top, List.mem_append, List.mem_cons] at h
      rcases h with h | h | h
      · exact Or.inl h
      · exact Or.inr (Or.inl h)
      · exact Or.inr (Or.inr (ihr x h))

end Forest

/-! ## Unlinking one tree from a chain -/

theorem predFrom_cons (p : Option Nat) (k : Option Nat) (j : Nat) (s r : Forest) (i : Nat) :
    (Forest.cons k j s r).predFrom p i = if j = i then p else r.predFrom (some j) i := rfl

/-- `d1` is `d` except that the slot linked in front of the tree of `i` (if any; `p` is what precedes the chain) now
    points to the successor of `i` (cells of the erased tree are not constrained): the chain is laid out as the forest
    without that tree; its head is the successor of `i` when the tree was the first one. -/
theorem Lk_unlink {d d1 : Doc} {i : Nat} (hn : d1.null = d.null) :
    ∀ (s : Forest), i ∈ s.tl → ∀ {b : Bool} {h : Nat} (p : Option Nat), Lk d b h s → s.ids.Nodup →
      (∀ a, p = some a → a ∉ s.ids) →
      (∀ j ∈ s.ids, j ∉ (s.treeF i).ids → s.predFrom p i ≠ some j → d1.cell j = d.cell j) →
      (∀ q ∈ s.ids, s.predFrom p i = some q → d1.cell q = .var (d.get (.slot q)) (d.nextOf i)) →
      Lk d1 b (if s.predFrom p i = p then d.nextOf i else h) (s.eraseTop i) := by
  refine Forest.tl_induction ?_ ?_
  · intro k s0 r b h p hl hnd hp hoth hpred
    have h4 := Lk_rest hl
    obtain ⟨_, _, _, njr, nsr, nk⟩ := Forest.nodup_cons hnd
    have e : (Forest.cons k i s0 r).predFrom p i = p := by rw [predFrom_cons, if_pos rfl]
    rw [e] at hoth ⊢
    simp only [if_true, Forest.eraseTop]
    refine Lk_congr r ⟨hn, fun x hx => hoth x (by simp [Forest.ids, hx]) ?_
      (fun e' => hp x e' (by simp [Forest.ids, hx]))⟩ h4
    simp only [Forest.treeF, if_true, Forest.ids, List.append_nil, List.mem_append, List.mem_cons, not_or]
    exact ⟨fun m => (nk x m).2.2 hx, fun e => njr (e ▸ hx), fun m => nsr x m hx⟩
  · intro k j s0 r hji hir ihr b h p hl hnd hp hoth hpred
    obtain ⟨h1, h2, h3, h4, h5⟩ := (Lk_cons ..).1 hl
    obtain ⟨_, ndr, njs, njr, nsr, nk⟩ := Forest.nodup_cons hnd
    have htree : (Forest.cons k j s0 r).treeF i = r.treeF i := by simp only [Forest.treeF, if_neg hji]
    rw [htree] at hoth
    have hpc : (Forest.cons k j s0 r).predFrom p i = r.predFrom (some j) i := by
      simp only [predFrom_cons, if_neg hji]
    rw [hpc] at hoth hpred ⊢
    obtain ⟨q, hq⟩ := Forest.predFrom_some_of_mem hir j
    have hqm : q = j ∨ q ∈ r.tl := by
      rcases Forest.predFrom_mem r i (some j) q hq with e | m
      · simp only [Option.some.injEq] at e; exact Or.inl e.symm
      · exact Or.inr m
    have hqp : some q ≠ p := by
      intro e
      refine hp q e.symm ?_
      rcases hqm with e' | m
      · simp [Forest.ids, e']
      · simp [Forest.ids, r.tl_sub_ids q m]
    have hq_ne : ∀ x, (x ∈ Forest.keyL k ∨ x ∈ s0.ids) → r.predFrom (some j) i ≠ some x := by
      intro x hx e
      rw [hq, Option.some.injEq] at e; subst e
      rcases hqm with e | m
      · subst e
        rcases hx with hx | hx
        · exact (nk q hx).1 rfl
        · exact njs hx
      · rcases hx with hx | hx
        · exact (nk q hx).2.2 (r.tl_sub_ids q m)
        · exact nsr q hx (r.tl_sub_ids q m)
    have hnt : ∀ x, (x ∈ Forest.keyL k ∨ x = j ∨ x ∈ s0.ids) → x ∉ (r.treeF i).ids := by
      intro x hx m
      have hxr := r.treeF_ids_sub i x m
      rcases hx with hx | hx | hx
      · exact (nk x hx).2.2 hxr
      · exact njr (hx ▸ hxr)
      · exact nsr x hx hxr
    rw [hq, if_neg hqp]
    simp only [Forest.eraseTop, if_neg hji]
    -- the cell of `j`: it is the predecessor exactly when the tree of `i` comes next
    have hj : d1.isVar j ∧ d1.get (.slot j) = d.get (.slot j) ∧
        d1.nextOf j = (if r.predFrom (some j) i = some j then d.nextOf i else d.nextOf j) := by
      by_cases hqj : r.predFrom (some j) i = some j
      · have hc := hpred j (by simp [Forest.ids]) hqj
        rw [if_pos hqj]
        exact ⟨isVar_of_var hc, get_of_var hc, nextOf_of_var hc⟩
      · have hc : d1.cell j = d.cell j := hoth j (by simp [Forest.ids]) (hnt j (Or.inr (Or.inl rfl))) hqj
        rw [if_neg hqj]
        exact ⟨isVar_congr hc hn h3, get_of_cell hc, nextOf_of_cell hc hn⟩
    rw [Lk_cons]
    refine ⟨KeyOK_congr hn (fun x hx => hoth x (by simp [Forest.ids, hx]) (hnt x (Or.inl hx)) (hq_ne x (Or.inl hx))) h1,
      hn ▸ h2, hj.1, ?_, ?_⟩
    · rw [hj.2.2]
      exact ihr (some j) h4 ndr (fun a e => by cases e; exact njr)
        (fun x hx hxt hxp => hoth x (by simp [Forest.ids, hx]) hxt hxp)
        (fun x hx hxp => hpred x (by simp [Forest.ids, hx]) hxp)
    · rw [hj.2.1]
      exact VOK_congr ⟨hn, fun x hx => hoth x (by simp [Forest.ids, hx]) (hnt x (Or.inr (Or.inr hx)))
        (hq_ne x (Or.inr hx))⟩ h5

/-- the tail after the erasure: the predecessor when the erased tree was the last one, the old tail otherwise -/
theorem last_eraseTop {d : Doc} {i : Nat} :
    ∀ (s : Forest), i ∈ s.tl → ∀ {b : Bool} {h : Nat}, Lk d b h s → ∀ (p : Option Nat) (x : Nat),
      (s.eraseTop i).top.getLast?.getD (p.getD x) =
        if d.nextOf i = d.null then (s.predFrom p i).getD x else s.top.getLast?.getD (p.getD x) := by
  refine Forest.tl_induction ?_ ?_
  · intro k s0 r b h hl p x
    have h4 := Lk_rest hl
    simp only [Forest.eraseTop, if_true, predFrom_cons]
    by_cases hr : r = .nil
    · subst hr
      have : d.nextOf i = d.null := (Lk_nil_iff h4).1 rfl
      simp only [this, if_true, Forest.top, List.getLast?_nil, Option.getD_none]
    · have : d.nextOf i ≠ d.null := fun e => hr ((Lk_nil_iff h4).2 e)
      rw [if_neg this, Forest.top_cons_last]
      obtain ⟨t, ht, _⟩ := Forest.top_ne_nil hr
      rw [ht]; rfl
  · intro k j s0 r hji _ ihr b h hl p x
    simp only [Forest.eraseTop, if_neg hji, predFrom_cons]
    rw [Forest.top_cons_last, Forest.top_cons_last]
    exact ihr (Lk_rest hl) (some j) x

/-! ## Raw chains -/

/-- following `next` from `start` visits exactly `ids` and reaches the null id -/
def Ch (d : Doc) : Nat → List Nat → Prop
  | start, [] => start = d.null
  | start, x :: xs => start = x ∧ x ≠ d.null ∧ Ch d (d.nextOf x) xs

theorem Ch_of_Lk {d : Doc} (F : Forest) : ∀ {b : Bool} {h : Nat}, Lk d b h F → Ch d h F.top := by
  induction F with
  | nil => intro b h hl; rw [Lk_nil] at hl; exact hl
  | cons key i s r _ ihr =>
    intro b h hl
    cases b
    · obtain ⟨rfl, e, h2, _, _, h4⟩ := Lk_cons_arr hl
      exact ⟨e, h2, ihr h4⟩
    · obtain ⟨k, rfl, e, hk, _, _, hki, h2, _, _, h4⟩ := Lk_cons_obj hl
      exact ⟨e, hk, by rw [hki]; exact ⟨rfl, h2, ihr h4⟩⟩

theorem chainF_of_Ch {d : Doc} : ∀ (L : List Nat) {h f : Nat}, Ch d h L → L.length ≤ f → d.chainF f h = L := by
  intro L
  induction L with
  | nil => intro h f hc _; simp only [Ch] at hc; subst hc; exact chainF_null d f
  | cons x xs ih =>
    intro h f hc hf
    obtain ⟨rfl, hx, hr⟩ := hc
    obtain ⟨f', rfl⟩ : ∃ f', f = f' + 1 := ⟨f - 1, by simp only [List.length_cons] at hf; omega⟩
    simp only [Doc.chainF, if_neg hx]
    rw [ih hr (by simp only [List.length_cons] at hf; omega)]

theorem Ch_congr {d d' : Doc} (hn : d'.null = d.null) : ∀ (L : List Nat) {h : Nat}, Ch d h L →
    (∀ x ∈ L, d'.nextOf x = d.nextOf x) → Ch d' h L := by
  intro L
  induction L with
  | nil => intro h hc _; simp only [Ch] at hc ⊢; rw [hn]; exact hc
  | cons x xs ih =>
    intro h hc hx
    obtain ⟨e, hne, hr⟩ := hc
    refine ⟨e, hn ▸ hne, ?_⟩
    rw [hx x (by simp)]
    exact ih hr (fun y hy => hx y (List.mem_cons_of_mem _ hy))

theorem prevIn_none {x : Nat} : ∀ (L : List Nat) (a : Nat), x ∉ L → prevIn x (a :: L) = none := by
  intro L
  induction L with
  | nil => intro a _; rfl
  | cons b L ih =>
    intro a hx
    simp only [List.mem_cons, not_or] at hx
    simp only [prevIn, if_neg (Ne.symm hx.1)]
    exact ih b hx.2

/-- `prevIn` along the top-level value slots of an array chain entered from `p` -/
theorem prevIn_tl {i : Nat} : ∀ (s : Forest), i ∈ s.tl → ∀ (p : Option Nat), s.tl.Nodup →
    prevIn i (p.toList ++ s.tl) = s.predFrom p i := by
  refine Forest.tl_induction ?_ ?_
  · intro k s0 r p hnd
    simp only [Forest.tl] at hnd ⊢
    rw [predFrom_cons, if_pos rfl]
    cases p with
    | none => exact prevIn_none _ _ (List.nodup_cons.1 hnd).1
    | some a => simp only [Option.toList_some, List.cons_append, List.nil_append, prevIn, if_true]
  · intro k j s0 r hji _ ihr p hnd
    simp only [Forest.tl] at hnd ⊢
    rw [predFrom_cons, if_neg hji]
    have ih := ihr (some j) (List.nodup_cons.1 hnd).2
    cases p with
    | none => exact ih
    | some a =>
      simp only [Option.toList_some, List.cons_append, List.nil_append, prevIn, if_neg hji]
      exact ih

theorem tl_eq_top_arr {d : Doc} (F : Forest) : ∀ {h : Nat}, Lk d false h F → F.top = F.tl := by
  induction F with
  | nil => intro h _; rfl
  | cons key i s r _ ihr =>
    intro h hl
    obtain ⟨rfl, _, _, _, _, h4⟩ := Lk_cons_arr hl
    simp only [Forest.top, Forest.keyL, List.nil_append, Forest.tl, ihr h4]

/-! ## Collections of either kind -/

/-- the collection value of kind `b` (`false`: array, `true`: object) -/
def mkC : Bool → Nat → Nat → VData
  | false, h, t => .arr h t
  | true, h, t => .obj h t

theorem VOK_mkC (d : Doc) (b : Bool) (h t : Nat) (s : Forest) :
    VOK d (mkC b h t) s ↔ (Lk d b h s ∧ t = s.top.getLast?.getD d.null) := by cases b <;> rfl
theorem mkC_ext (b : Bool) (h t : Nat) : extOfV (mkC b h t) = [] := by cases b <;> rfl
theorem mkC_str (b : Bool) (h t : Nat) : strOfV (mkC b h t) = [] := by cases b <;> rfl
theorem mkC_coll (b : Bool) (h t : Nat) : isColl (mkC b h t) := by cases b <;> trivial
theorem mkVal_mkC (d d' : Doc) (b : Bool) (h t h' t' : Nat) (sub) : mkVal d' (mkC b h' t') sub = mkVal d (mkC b h t) sub := by
  cases b <;> rfl

/-! ## The document after one tree was unlinked -/

/-- layout of the document after the tree of `i` was erased from the chain of the collection at `l` -/
def eraseAt (F : Forest) (l : Loc) (i : Nat) : Forest := replaceAt F l ((layoutAt F l).eraseTop i)

theorem mem_ids_eraseAt {F : Forest} {l : Loc} (i : Nat) (hnd : F.ids.Nodup) (hl : isLoc F l) (x : Nat) :
    x ∈ (eraseAt F l i).ids ↔ x ∈ F.ids ∧ x ∉ ((layoutAt F l).treeF i).ids := by
  have hsnd := layoutAt_nodup hnd hl
  rw [eraseAt, mem_ids_replaceAt _ hnd hl, Forest.mem_ids_eraseTop i hsnd]
  constructor
  · rintro (⟨h1, h2⟩ | ⟨h1, h2⟩)
    · exact ⟨h1, fun m => h2 (Forest.treeF_ids_sub _ i x m)⟩
    · exact ⟨layoutAt_ids_sub F l x h1, h2⟩
  · rintro ⟨h1, h2⟩
    by_cases hx : x ∈ (layoutAt F l).ids
    · exact Or.inr ⟨hx, h2⟩
    · exact Or.inl ⟨h1, hx⟩

theorem nodup_eraseAt {F : Forest} {l : Loc} (i : Nat) (hnd : F.ids.Nodup) (hl : isLoc F l) : (eraseAt F l i).ids.Nodup :=
  nodup_replaceAt _ hnd hl (Forest.nodup_eraseTop i (layoutAt_nodup hnd hl))
    (fun x hx _ => Forest.eraseTop_ids_sub _ i x hx)

/-- the slots of the document split into those of the erased tree and those that stay -/
theorem ids_perm_eraseAt {F : Forest} {l : Loc} (i : Nat) (hnd : F.ids.Nodup) (hl : isLoc F l) :
    List.Perm F.ids (((layoutAt F l).treeF i).ids ++ (eraseAt F l i).ids) := by
  have hsnd := layoutAt_nodup hnd hl
  have hT : ((layoutAt F l).treeF i).ids.Nodup :=
    (List.nodup_append.1 (((layoutAt F l).ids_perm_erase i).nodup_iff.1 hsnd)).1
  refine (List.perm_ext_iff_of_nodup hnd (List.nodup_append.2 ⟨hT, nodup_eraseAt i hnd hl, ?_⟩)).2 ?_
  · intro a ha b hb e; subst e
    exact ((mem_ids_eraseAt i hnd hl a).1 hb).2 ha
  · intro x
    rw [List.mem_append, mem_ids_eraseAt i hnd hl]
    constructor
    · intro hx
      by_cases hm : x ∈ ((layoutAt F l).treeF i).ids
      · exact Or.inl hm
      · exact Or.inr ⟨hx, hm⟩
    · rintro (hm | ⟨hx, _⟩)
      · exact layoutAt_ids_sub F l x (Forest.treeF_ids_sub _ i x hm)
      · exact hx

/-- the string references of `d` split into those of the erased tree and those of the rest -/
theorem strRefs_erase_perm (d : Doc) {F : Forest} {l : Loc} (i : Nat) (hnd : F.ids.Nodup) (hl : isLoc F l) :
    List.Perm (d.strRefs F) (goneF d ((layoutAt F l).treeF i) ++ d.strRefs (eraseAt F l i)) := by
  have h1 := ids_perm_eraseAt i hnd hl
  have h2 := (h1.map Loc.slot).cons Loc.root
  rw [List.map_append] at h2
  have hp : List.Perm (holders F) (((layoutAt F l).treeF i).ids.map Loc.slot ++ holders (eraseAt F l i)) := by
    refine h2.trans ?_
    show List.Perm ([Loc.root] ++ (_ ++ _)) (_ ++ ([Loc.root] ++ _))
    rw [← List.append_assoc, ← List.append_assoc]
    exact List.Perm.append_right _ List.perm_append_comm
  have h3 := hp.flatMap_right (fun l0 => strOfV (d.get l0))
  rw [List.flatMap_append, List.flatMap_map] at h3
  exact h3

/-- the territory of the erased tree is disjoint from what stays -/
theorem release_disjoint {d : Doc} {F : Forest} {l : Loc} (i : Nat) (w : WFG d F) (hl : isLoc F l) :
    (∀ x ∈ (eraseAt F l i).ids, ¬ Terr d ((layoutAt F l).treeF i).ids x) ∧
    (∀ l0 ∈ holders (eraseAt F l i), ∀ e ∈ extOfV (d.get l0), ¬ Terr d ((layoutAt F l).treeF i).ids e) := by
  have hm := mem_ids_eraseAt i w.nodup hl
  have hTF : ∀ j ∈ ((layoutAt F l).treeF i).ids, j ∈ F.ids := fun j hj =>
    layoutAt_ids_sub F l j (Forest.treeF_ids_sub _ i j hj)
  constructor
  · intro x hx ht
    obtain ⟨hxF, hxT⟩ := (hm x).1 hx
    rcases ht with m | ⟨j, hj, e⟩
    · exact hxT m
    · exact w.extH.notid j (hTF j hj) x e hxF
  · intro l0 h0 e he ht
    have h0F : l0 ∈ holders F := by
      rcases mem_holders.1 h0 with e' | ⟨x, hx, e'⟩
      · exact mem_holders.2 (Or.inl e')
      · exact mem_holders.2 (Or.inr ⟨x, ((hm x).1 hx).1, e'⟩)
    obtain ⟨⟨p, hp⟩, _, hu⟩ := w.ext l0 h0F e he
    rcases ht with m | ⟨j, hj, e'⟩
    · exact ext_ne_var hp (w.isVar e (hTF e m)) rfl
    · have := hu (.slot j) (mem_holders.2 (Or.inr ⟨j, hTF j hj, rfl⟩)) e'
      subst this
      rcases mem_holders.1 h0 with e'' | ⟨x, hx, e''⟩
      · cases e''
      · cases e''; exact ((hm j).1 hx).2 hj

/-- `d'` is `d` after the tree `T` (a top-level tree of the collection at `l`, value slot `i`) was removed: every cell
    outside the territory of `T`, other than the collection slot `l` itself and the slot linked in front of the tree,
    is unchanged; that predecessor keeps its value; the strings of the survivors keep their bytes. -/
structure Removed (d d' : Doc) (F : Forest) (l : Loc) (i : Nat) (T : List Nat) : Prop where
  g : d'.g = d.g
  root : l ≠ .root → d'.root = d.root
  cells : ∀ x, ¬ Terr d T x → Loc.slot x ≠ l → (layoutAt F l).predFrom none i ≠ some x → d'.cell x = d.cell x
  pred : ∀ p, (layoutAt F l).predFrom none i = some p → d'.get (.slot p) = d.get (.slot p)
  bytes : ∀ n ∈ d.strRefs (eraseAt F l i), d'.strBytes n = d.strBytes n

/-- after a removal, what stays reads as before: the extension cells referenced by the holders that stay, and the
    scalars and strings they hold -/
theorem Removed.survivors {d d' : Doc} {F : Forest} {l : Loc} {i : Nat} (w : WFG d F) (hl : isLoc F l)
    (R : Removed d d' F l i ((layoutAt F l).treeF i).ids) :
    (∀ l0 ∈ holders (eraseAt F l i), ∀ e ∈ extOfV (d.get l0), d'.cell e = d.cell e) ∧
    (∀ l0 ∈ holders (eraseAt F l i), d'.scalar (d.get l0) = d.scalar (d.get l0)) := by
  have hsnd := layoutAt_nodup w.nodup hl
  have hm := mem_ids_eraseAt i w.nodup hl
  obtain ⟨_, dj2⟩ := release_disjoint i w hl
  have hext : ∀ l0 ∈ holders (eraseAt F l i), ∀ e ∈ extOfV (d.get l0), d'.cell e = d.cell e := by
    intro l0 h0 e he
    have h0F : l0 ∈ holders F := by
      rcases mem_holders.1 h0 with e' | ⟨x, hx, e'⟩
      · exact mem_holders.2 (Or.inl e')
      · exact mem_holders.2 (Or.inr ⟨x, ((hm x).1 hx).1, e'⟩)
    obtain ⟨⟨p, hp⟩, _, _⟩ := w.ext l0 h0F e he
    refine R.cells e (dj2 l0 h0 e he) ?_ ?_
    · intro e'
      exact ext_ne_var hp (w.isVar e (isLoc_ids (e' ▸ hl))) rfl
    · intro e'
      obtain ⟨hpt, _⟩ := Forest.predFrom_notin_tree hsnd none e e' (by simp)
      exact ext_ne_var hp (w.isVar e (layoutAt_ids_sub F l e (Forest.tl_sub_ids _ e hpt))) rfl
  refine ⟨hext, fun l0 h0 => scalar_congr (fun n hn' => R.bytes n ?_) (hext l0 h0)⟩
  simp only [Doc.strRefs, List.mem_flatMap]; exact ⟨l0, h0, hn'⟩

/-- The document after a removal. `d3` is `d` in which the slot in front of the tree of `i` (a top-level tree of the
    collection stored at `l`) points to the successor of `i`, `l` holds the collection with the new head and tail, and
    exactly the territory of the tree was released; every other cell is as in `d`. Then `d3` is well-formed for the
    layout without the tree, and is the abstract document of `d` in which the collection at `l` lost that
    element/member. -/
theorem unlink_wfg {d d3 : Doc} {F : Forest} {l : Loc} {b : Bool} {h t i : Nat}
    (w : WFG d F) (hl : isLoc F l) (hv : d.get l = mkC b h t) (hi : i ∈ (layoutAt F l).tl)
    (hg : d3.g = d.g) (hpool : PL.Inv d3.g d3.pl)
    (hlive : ∀ x, PL.live d3.g d3.pl x ↔ PL.live d.g d.pl x ∧ ¬ Terr d ((layoutAt F l).treeF i).ids x)
    (hstr : StrOK d3 (d.strRefs (eraseAt F l i)))
    (hbytes : ∀ n ∈ d.strRefs (eraseAt F l i), d3.strBytes n = d.strBytes n)
    (hget : d3.get l = mkC b (if ((layoutAt F l).predFrom none i).isNone then d.nextOf i else h)
        (if d.nextOf i = d.null then ((layoutAt F l).predFrom none i).getD d.null else t))
    (hslot : ∀ i0, l = .slot i0 →
      d3.cell i0 = .var (mkC b (if ((layoutAt F l).predFrom none i).isNone then d.nextOf i else h)
        (if d.nextOf i = d.null then ((layoutAt F l).predFrom none i).getD d.null else t)) (d.nextOf i0) ∧
      d3.root = d.root)
    (hpred : ∀ p, (layoutAt F l).predFrom none i = some p → d3.cell p = .var (d.get (.slot p)) (d.nextOf i))
    (hoth : ∀ j, ¬ Terr d ((layoutAt F l).treeF i).ids j → Loc.slot j ≠ l →
      (layoutAt F l).predFrom none i ≠ some j → d3.cell j = d.cell j) :
    WFG d3 (eraseAt F l i) ∧ StrOK d3 (d3.strRefs (eraseAt F l i)) ∧
    abs d3 = absWith d F l
      (mkVal d (mkC b h t) ((vals d noOv (layoutAt F l)).eraseIdx (List.idxOf i (layoutAt F l).tl))) ∧
    Removed d d3 F l i ((layoutAt F l).treeF i).ids := by
  have hvs : VOK d (mkC b h t) (layoutAt F l) := hv ▸ VOK_at w hl
  obtain ⟨hlk, ht⟩ := (VOK_mkC _ _ _ _ _).1 hvs
  have hsF := layoutAt_ids_sub F l
  have hsnd := layoutAt_nodup w.nodup hl
  have hn : d3.null = d.null := by simp only [Doc.null, hg]
  have hm := mem_ids_eraseAt i w.nodup hl
  obtain ⟨dj1, dj2⟩ := release_disjoint i w hl
  have hE : ∀ x ∈ ((layoutAt F l).eraseTop i).ids, x ∈ (eraseAt F l i).ids := fun x hx =>
    (hm x).2 ⟨hsF x (Forest.eraseTop_ids_sub _ i x hx), ((Forest.mem_ids_eraseTop i hsnd x).1 hx).2⟩
  have hO : ∀ x ∈ F.ids, x ∉ (layoutAt F l).ids → x ∈ (eraseAt F l i).ids := fun x hx hxs =>
    (hm x).2 ⟨hx, fun m => hxs (Forest.treeF_ids_sub _ i x m)⟩
  have h0F : ∀ l0 ∈ holders (eraseAt F l i), l0 ∈ holders F := by
    intro l0 h0
    rcases mem_holders.1 h0 with e | ⟨x, hx, e⟩
    · exact mem_holders.2 (Or.inl e)
    · exact mem_holders.2 (Or.inr ⟨x, ((hm x).1 hx).1, e⟩)
  have hpf : ∀ p, (layoutAt F l).predFrom none i = some p → p ∈ (layoutAt F l).ids := fun p hp =>
    Forest.tl_sub_ids _ p (Forest.predFrom_notin_tree hsnd none p hp (by simp)).1
  have hsl : ∀ j ∈ (layoutAt F l).ids, Loc.slot j ≠ l := by
    intro j hj e; subst e
    exact self_notin_layoutAt w.nodup j hj
  have R : Removed d d3 F l i ((layoutAt F l).treeF i).ids := by
    refine ⟨hg, ?_, hoth, fun p hp => get_of_var (hpred p hp), hbytes⟩
    intro hlr
    cases l with
    | root => exact absurd rfl hlr
    | slot i0 => exact (hslot i0 rfl).2
  obtain ⟨hextcell, hscal⟩ := R.survivors w hl
  -- a slot that stays, other than `l` and the predecessor, keeps its cell
  have hkeep : ∀ j ∈ (eraseAt F l i).ids, Loc.slot j ≠ l → (layoutAt F l).predFrom none i ≠ some j →
      d3.cell j = d.cell j := fun j hj => hoth j (dj1 j hj)
  have hliveE : ∀ x ∈ (eraseAt F l i).ids, PL.live d3.g d3.pl x := fun x hx =>
    (hlive x).2 ⟨w.live x ((hm x).1 hx).1, dj1 x hx⟩
  -- the chain
  have hchain := Lk_unlink hn (layoutAt F l) hi none hlk hsnd (fun a e => by cases e)
    (fun j hj hjT hp => hkeep j ((hm j).2 ⟨hsF j hj, hjT⟩) (hsl j hj) hp) (fun q _ hq => hpred q hq)
  have hisNone : ∀ (x : Option Nat) (a c : Nat), (if x = none then a else c) = (if x.isNone then a else c) := by
    intro x a c; cases x <;> rfl
  rw [hisNone] at hchain
  have hlast := last_eraseTop (layoutAt F l) hi hlk none d.null
  simp only [Option.getD_none] at hlast
  have hvok : VOK d3 (mkC b (if ((layoutAt F l).predFrom none i).isNone then d.nextOf i else h)
      (if d.nextOf i = d.null then ((layoutAt F l).predFrom none i).getD d.null else t))
      ((layoutAt F l).eraseTop i) := by
    rw [VOK_mkC]
    refine ⟨hchain, ?_⟩
    rw [hn, hlast, ht]
  -- what the survivors hold
  have hslotsame : ∀ j ∈ F.ids, Loc.slot j ≠ l → j ∉ (layoutAt F l).ids → d3.cell j = d.cell j :=
    fun j hj hjl hjs => hkeep j (hO j hj hjs) hjl (fun e => hjs (hpf j e))
  have hgs : ∀ j ∈ ((layoutAt F l).eraseTop i).ids, d3.get (.slot j) = d.get (.slot j) := by
    intro j hj
    by_cases hjp : (layoutAt F l).predFrom none i = some j
    · exact get_of_var (hpred j hjp)
    · exact get_of_cell (hkeep j (hE j hj) (hsl j (Forest.eraseTop_ids_sub _ i j hj)) hjp)
  have hsa : SAgree d d3 ((layoutAt F l).eraseTop i).ids := fun j hj =>
    hscal (.slot j) (mem_holders.2 (Or.inr ⟨j, hE j hj, rfl⟩))
  have hval : d3.valOf (mkC b (if ((layoutAt F l).predFrom none i).isNone then d.nextOf i else h)
      (if d.nextOf i = d.null then ((layoutAt F l).predFrom none i).getD d.null else t)) ((layoutAt F l).eraseTop i) =
      mkVal d (mkC b h t) ((vals d noOv (layoutAt F l)).eraseIdx (List.idxOf i (layoutAt F l).tl)) := by
    simp only [Doc.valOf]
    rw [vals_congr' noOv _ hgs hsa, Forest.vals_eraseTop]
    exact mkVal_mkC _ _ _ _ _ _ _ _
  have hgets : ∀ l0 ∈ holders (eraseAt F l i), l0 ≠ l → d3.get l0 = d.get l0 := by
    intro l0 h0 hll
    rcases mem_holders.1 h0 with e | ⟨x, hx, e⟩
    · subst e
      cases l with
      | root => exact absurd rfl hll
      | slot i0 => exact (hslot i0 rfl).2
    · subst e
      rcases (mem_ids_replaceAt _ w.nodup hl x).1 hx with ⟨hxF, hxs⟩ | hxs
      · exact get_of_cell (hslotsame x hxF hll hxs)
      · exact hgs x hxs
  have hmem := mem_ids_cleared w.nodup hl
  -- a holder that survives clearing `l` also survives the removal
  have hcl : ∀ l0 ∈ holders (replaceAt F l .nil), l0 ∈ holders (eraseAt F l i) := by
    intro l0 h0
    rcases mem_holders.1 h0 with e | ⟨x, hx, e⟩
    · exact mem_holders.2 (Or.inl e)
    · exact mem_holders.2 (Or.inr ⟨x, hO x ((hmem x).1 hx).1 ((hmem x).1 hx).2, e⟩)
  have hlvE : ∀ l0 ∈ holders (eraseAt F l i), ∀ e ∈ extOfV (d.get l0), PL.live d3.g d3.pl e := fun l0 h0 e he =>
    (hlive e).2 ⟨(w.ext l0 (h0F l0 h0) e he).2.1, dj2 l0 h0 e he⟩
  have k : Outside d d3 F l := by
    refine ⟨hg, R.root, fun i0 e => ⟨_, (hslot i0 e).1⟩,
      fun j hj hjl => hslotsame j ((hmem j).1 hj).1 hjl ((hmem j).1 hj).2,
      fun l0 h0 _ e he => ⟨hextcell l0 (hcl l0 h0) e he, hlvE l0 (hcl l0 h0) e he⟩, ?_, hpool,
      fun j hj => hliveE j (hO j ((hmem j).1 hj).1 ((hmem j).1 hj).2)⟩
    intro l0 h0 _ n hn
    refine hbytes n ?_
    simp only [Doc.strRefs, List.mem_flatMap]; exact ⟨l0, hcl l0 h0, hn⟩
  have hres := k.wfg (s' := (layoutAt F l).eraseTop i) w hl (hget ▸ hvok) (Forest.nodup_eraseTop i hsnd)
    (fun x hx _ => Forest.eraseTop_ids_sub _ i x hx)
    (fun x hx => ⟨w.lt x (hsF x (Forest.eraseTop_ids_sub _ i x hx)), hliveE x (hE x hx)⟩)
    (Outside.ext_kept w hl (fun l1 h1 => by
      rcases List.mem_cons.1 h1 with e1 | m
      · left; rw [e1, hget, mkC_ext]
      · obtain ⟨x, hx, rfl⟩ := List.mem_map.1 m
        have hxh : Loc.slot x ∈ holders (eraseAt F l i) := mem_holders.2 (Or.inr ⟨x, hE x hx, rfl⟩)
        exact Or.inr ⟨x, Forest.eraseTop_ids_sub _ i x hx, rfl, hgs x hx,
          fun e he => ⟨hextcell _ hxh e he, hlvE _ hxh e he⟩⟩))
  rw [hget] at hres
  have hrefs : d3.strRefs (eraseAt F l i) = d.strRefs (eraseAt F l i) := by
    apply flatMap_congr'
    intro l0 h0
    by_cases hll : l0 = l
    · rw [hll, hget, hv, mkC_str, mkC_str]
    · rw [hgets l0 h0 hll]
  exact ⟨hres.1, by rw [hrefs]; exact hstr, by rw [hres.2.1, hval], R⟩

/-! ## Releasing a detached tree -/

theorem mem_fpF (d : Doc) (F : Forest) (x : Nat) : x ∈ fpF d F ↔ Terr d F.ids x := by
  induction F with
  | nil => simp [fpF, Terr, Forest.ids]
  | cons key i s r ihs ihr =>
    rw [fpF_cons]
    simp only [List.mem_append, ihs, ihr, List.mem_singleton]
    cases key with
    | none =>
      simp only [keyFp, Terr, Forest.ids, Forest.keyL, List.nil_append, List.mem_cons, List.mem_append, List.not_mem_nil, false_or]
      constructor
      · rintro (((h | h | ⟨j, hj, h⟩) | h) | h | ⟨j, hj, h⟩)
        · exact Or.inr ⟨i, Or.inl rfl, h⟩
        · exact Or.inl (Or.inr (Or.inl h))
        · exact Or.inr ⟨j, Or.inr (Or.inl hj), h⟩
        · exact Or.inl (Or.inl h)
        · exact Or.inl (Or.inr (Or.inr h))
        · exact Or.inr ⟨j, Or.inr (Or.inr hj), h⟩
      · rintro ((h | h | h) | ⟨j, hj | hj | hj, h⟩)
        · exact Or.inl (Or.inr h)
        · exact Or.inl (Or.inl (Or.inr (Or.inl h)))
        · exact Or.inr (Or.inl h)
        · subst hj; exact Or.inl (Or.inl (Or.inl h))
        · exact Or.inl (Or.inl (Or.inr (Or.inr ⟨j, hj, h⟩)))
        · exact Or.inr (Or.inr ⟨j, hj, h⟩)
    | some k =>
      simp only [keyFp, Terr, Forest.ids, Forest.keyL, List.cons_append, List.nil_append, List.append_nil, List.mem_cons, List.mem_append, List.not_mem_nil, or_false]
      constructor
      · rintro (((h | h) | ((h | h | ⟨j, hj, h⟩) | h)) | h | ⟨j, hj, h⟩)
        · exact Or.inr ⟨k, Or.inl rfl, h⟩
        · exact Or.inl (Or.inl h)
        · exact Or.inr ⟨i, Or.inr (Or.inl rfl), h⟩
        · exact Or.inl (Or.inr (Or.inr (Or.inl h)))
        · exact Or.inr ⟨j, Or.inr (Or.inr (Or.inl hj)), h⟩
        · exact Or.inl (Or.inr (Or.inl h))
        · exact Or.inl (Or.inr (Or.inr (Or.inr h)))
        · exact Or.inr ⟨j, Or.inr (Or.inr (Or.inr hj)), h⟩
      · rintro ((h | h | h | h) | ⟨j, hj | hj | hj | hj, h⟩)
        · exact Or.inl (Or.inl (Or.inr h))
        · exact Or.inl (Or.inr (Or.inr h))
        · exact Or.inl (Or.inr (Or.inl (Or.inr (Or.inl h))))
        · exact Or.inr (Or.inl h)
        · subst hj; exact Or.inl (Or.inl (Or.inl h))
        · subst hj; exact Or.inl (Or.inr (Or.inl (Or.inl h)))
        · exact Or.inl (Or.inr (Or.inl (Or.inr (Or.inr ⟨j, hj, h⟩))))
        · exact Or.inr (Or.inr ⟨j, hj, h⟩)

/-- slots released when slot `i`, whose value is laid out as `sub`, is released with `freeVariant`: the extension slot of
    its value, the slots below it with their extension slots, the slot itself (in the order of release) -/
def relSlot (d : Doc) (i : Nat) (sub : Forest) : List Nat := (extOfV (d.get (.slot i)) ++ fpF d sub) ++ [i]

theorem mem_relSlot (d : Doc) (i : Nat) (sub : Forest) (x : Nat) : x ∈ relSlot d i sub ↔ Terr d (i :: sub.ids) x := by
  simp only [relSlot, List.mem_append, mem_fpF, Terr, List.mem_cons, List.not_mem_nil, or_false]
  constructor
  · rintro ((h | h | ⟨j, hj, h⟩) | h)
    · exact Or.inr ⟨i, Or.inl rfl, h⟩
    · exact Or.inl (Or.inr h)
    · exact Or.inr ⟨j, Or.inr hj, h⟩
    · exact Or.inl (Or.inl h)
  · rintro ((h | h) | ⟨j, hj | hj, h⟩)
    · exact Or.inr h
    · exact Or.inl (Or.inr (Or.inl h))
    · subst hj; exact Or.inl (Or.inl h)
    · exact Or.inl (Or.inr (Or.inr ⟨j, hj, h⟩))

/-- `freeVariant i` in a document `d2` that agrees with the well-formed `d` on slot `i` and on the layout `sub` of its
    value: exactly `relSlot d i sub` is released, the string references of the tree are dropped. -/
theorem free_detached {d d2 : Doc} {F : Forest} {i : Nat} {sub : Forest} {keep : List Nat}
    (w : WFG d F) (hiF : i ∈ F.ids) (hsub : ∀ x ∈ sub.ids, x ∈ F.ids) (hnds : sub.ids.Nodup) (hni : i ∉ sub.ids)
    (hvok : VOK d (d.get (.slot i)) sub)
    (hg : d2.g = d.g) (hgi : d2.get (.slot i) = d.get (.slot i)) (hcell : ∀ x ∈ sub.ids, d2.cell x = d.cell x)
    (hp : PL.Inv d2.g d2.pl) (hlive : ∀ x ∈ relSlot d i sub, PL.live d2.g d2.pl x)
    (hstr : StrOK d2 (strOfV (d.get (.slot i)) ++ (goneF d sub ++ keep))) :
    Eff d2 (d2.freeVariant i) (relSlot d i sub) keep := by
  have hn : d2.null = d.null := by simp only [Doc.null, hg]
  have ags : Agree d d2 sub.ids := ⟨hn, fun x hx => hcell x hx⟩
  have hgs : ∀ x ∈ sub.ids, d2.get (.slot x) = d.get (.slot x) := fun x hx => get_of_cell (ags.cell x hx)
  obtain ⟨t1, t2⟩ := fpF_terr_nodup w.extH sub hsub hnds
  obtain ⟨i1, _⟩ := slot_piece w.extH t1 t2 hiF hsub hni
  have hlen : sub.ids.length ≤ F.ids.length := List.Nodup.length_le_of_subset hnds (fun x hx => hsub x hx)
  have hfu := w.fuel_ok
  have hf2 : d2.fuel = d.fuel := by simp only [Doc.fuel, hg]
  have := step_slot (s := sub) (f := d2.fuel) (d := d2) (i := i) (keep := keep)
    (by rw [hgi]; exact VOK_congr ags hvok)
    (by rw [hf2]; exact Nat.lt_of_le_of_lt sub.depth_le (by omega)) (by rw [hf2]; omega) hp
    (by rw [hgi, fpF_congr sub hgs]; exact hlive)
    (by rw [hgi, fpF_congr sub hgs]; exact i1)
    (by rw [hgi, goneF_congr sub hgs]; exact hstr)
  rw [hgi, fpF_congr sub hgs] at this
  exact this

/-! ## `removeOne`: unfolding -/

/-- the unlinking step of `removeOne` -/
def unlinkD (d : Doc) (prev : Option Nat) (next : Nat) : Doc :=
  match prev with | some p => d.setNext p next | none => d

theorem removeOne_eq {d : Doc} {l : Loc} {b : Bool} {h t : Nat} (id : Nat) (hv : d.get l = mkC b h t) :
    d.removeOne l id =
      ((unlinkD d (d.prevOf h id) (d.nextOf id)).set l
        (mkC b (if (d.prevOf h id).isNone then d.nextOf id else h)
          (if d.nextOf id = d.null then (d.prevOf h id).getD d.null else t))).freeVariant id := by
  cases b
  · simp only [mkC] at hv ⊢
    simp only [Doc.removeOne, hv, unlinkD]
    cases d.prevOf h id <;> simp only [setNext_null]
  · simp only [mkC] at hv ⊢
    simp only [Doc.removeOne, hv, unlinkD]
    cases d.prevOf h id <;> simp only [setNext_null]

theorem unlinkD_cells {d : Doc} {l : Loc} (prev : Option Nat) (nxt : Nat) (X : VData)
    (hp : ∀ p, prev = some p → d.isVar p ∧ Loc.slot p ≠ l) :
    ((unlinkD d prev nxt).set l X).g = d.g ∧ ((unlinkD d prev nxt).set l X).pl = d.pl ∧
    ((unlinkD d prev nxt).set l X).strings = d.strings ∧ ((unlinkD d prev nxt).set l X).nextNode = d.nextNode ∧
    ((unlinkD d prev nxt).set l X).get l = X ∧
    (∀ i0, l = .slot i0 → ((unlinkD d prev nxt).set l X).cell i0 = .var X (d.nextOf i0) ∧
      ((unlinkD d prev nxt).set l X).root = d.root) ∧
    (∀ p, prev = some p → ((unlinkD d prev nxt).set l X).cell p = .var (d.get (.slot p)) nxt) ∧
    (∀ j, Loc.slot j ≠ l → prev ≠ some j → ((unlinkD d prev nxt).set l X).cell j = d.cell j) := by
  cases prev with
  | none =>
    simp only [unlinkD]
    refine ⟨set_g _ _ _, set_pl _ _ _, set_strings _ _ _, set_nextNode _ _ _, get_set_self _ _ _, ?_,
      fun p hp' => (by cases hp'), fun j hj _ => cell_set_ne hj⟩
    intro i0 e; subst e
    exact ⟨by rw [cell_set_slot, if_pos rfl], rfl⟩
  | some p =>
    obtain ⟨hvar, hpl⟩ := hp p rfl
    simp only [unlinkD]
    refine ⟨by rw [set_g, setNext_g], by rw [set_pl, setNext_pl], by rw [set_strings, setNext_strings],
      by rw [set_nextNode, setNext_nextNode], get_set_self _ _ _, ?_, ?_, ?_⟩
    · intro i0 e; subst e
      have hpi : p ≠ i0 := fun e => hpl (by rw [e])
      refine ⟨?_, by rw [root_set_slot, setNext_root]⟩
      rw [cell_set_slot, if_pos rfl, nextOf_of_cell (cell_setNext_ne d nxt hpi) (setNext_null d p nxt)]
    · intro q hq
      simp only [Option.some.injEq] at hq; subst hq
      rw [cell_set_ne hpl]; exact cell_setNext_var hvar nxt
    · intro j hj hjp
      rw [cell_set_ne hj]
      exact cell_setNext_ne d nxt (fun e => hjp (by rw [e]))

/-- Cells of `d3`, obtained from `dU` by releasing slots of the territory of `T` only, `dU` being some `dX` unlinked
    (see `unlinkD_cells`) and `dX` agreeing with `d` outside that territory: the collection slot `l`, the predecessor
    and the cells outside the territory, relative to `d`. -/
theorem unlink_release {d dX dU d3 : Doc} {l : Loc} {P : Option Nat} {nxt : Nat} {X : VData} {T fp keep : List Nat}
    (hn : dX.null = d.null) (hroot : dX.root = d.root) (hX : ∀ j, ¬ Terr d T j → dX.cell j = d.cell j)
    (c5 : dU.get l = X) (c6 : ∀ i0, l = .slot i0 → dU.cell i0 = .var X (dX.nextOf i0) ∧ dU.root = dX.root)
    (c7 : ∀ p, P = some p → dU.cell p = .var (dX.get (.slot p)) nxt)
    (c8 : ∀ j, Loc.slot j ≠ l → P ≠ some j → dU.cell j = dX.cell j)
    (hP : ∀ p, P = some p → ¬ Terr d T p) (hlT : ∀ i0, l = .slot i0 → ¬ Terr d T i0)
    (he : Eff dU d3 fp keep) (hfp : ∀ x ∈ fp, Terr d T x) :
    d3.get l = X ∧ (∀ i0, l = .slot i0 → d3.cell i0 = .var X (d.nextOf i0) ∧ d3.root = d.root) ∧
    (∀ p, P = some p → d3.cell p = .var (d.get (.slot p)) nxt) ∧
    (∀ j, ¬ Terr d T j → Loc.slot j ≠ l → P ≠ some j → d3.cell j = d.cell j) := by
  have hc : ∀ j, ¬ Terr d T j → d3.cell j = dU.cell j := fun j hj => he.cells j (fun m => hj (hfp j m))
  have hslot : ∀ i0, l = .slot i0 → d3.cell i0 = .var X (d.nextOf i0) ∧ d3.root = d.root := by
    intro i0 e
    refine ⟨?_, by rw [he.root, (c6 i0 e).2, hroot]⟩
    rw [hc i0 (hlT i0 e), (c6 i0 e).1, nextOf_of_cell (hX i0 (hlT i0 e)) hn]
  refine ⟨?_, hslot, ?_, ?_⟩
  · cases l with
    | root => show d3.root = X; rw [he.root]; exact c5
    | slot i0 => exact get_of_var (hslot i0 rfl).1
  · intro p hp
    rw [hc p (hP p hp), c7 p hp, get_of_cell (hX p (hP p hp))]
  · intro j hj hjl hjp
    rw [hc j hj, c8 j hjl hjp, hX j hj]

/-! ## What a removal leaves untouched: the frame -/

namespace Forest
/-- a top-level slot of a chain is not below any slot of that chain -/
theorem top_notin_subOf (F : Forest) (j : Nat) (hnd : F.ids.Nodup) : ∀ x ∈ F.top, x ∉ (F.subOf j).ids := by
  intro x hx
  by_cases hj : j ∈ F.locs
  · -- the top of the chain survives emptying `j`, and what survives is not below `j`
    have hout := (F.replaceSub j .nil).top_sub_ids x (by rw [top_replaceSub]; exact hx)
    exact ((mem_ids_outside F j hnd hj x).1 hout).2
  · rw [subOf_of_notin F j hj]; exact fun h => nomatch h

/-- a top-level slot of the chain below `i` lies below `j` only if `j = i` or `i` itself lies below `j` -/
theorem top_subOf_subOf (F : Forest) {i j : Nat} (hnd : F.ids.Nodup) (hi : i ∈ F.locs) :
    ∀ x ∈ (F.subOf i).top, x ∈ (F.subOf j).ids → j = i ∨ i ∈ (F.subOf j).ids := by
  refine loc_induction (motive := fun F => ∀ x ∈ (F.subOf i).top, x ∈ (F.subOf j).ids → j = i ∨ i ∈ (F.subOf j).ids)
    ?_ ?_ ?_ F hnd hi
  · intro k s r hnd x hx hxj
    obtain ⟨nds, _, _, _, nsr, _⟩ := nodup_cons hnd
    rw [subOf_here] at hx
    by_cases hij : i = j
    · exact Or.inl hij.symm
    · by_cases hjs : j ∈ s.locs
      · rw [subOf_below r hij hjs] at hxj; exact absurd hxj (s.top_notin_subOf j nds x hx)
      · rw [subOf_right r hij hjs] at hxj; exact absurd (r.subOf_ids_sub j x hxj) (nsr x (s.top_sub_ids x hx))
  · intro k a s r hnd hai his _ ih x hx hxj
    obtain ⟨_, _, _, _, nsr, _⟩ := nodup_cons hnd
    rw [subOf_below r hai his] at hx
    have hxs := s.subOf_ids_sub i x ((s.subOf i).top_sub_ids x hx)
    by_cases haj : a = j
    · subst haj; rw [subOf_here]; exact Or.inr (s.locs_sub_ids i his)
    · by_cases hjs : j ∈ s.locs
      · rw [subOf_below r haj hjs] at hxj ⊢; exact ih x hx hxj
      · rw [subOf_right r haj hjs] at hxj; exact absurd (r.subOf_ids_sub j x hxj) (nsr x hxs)
  · intro k a s r hnd hai his _ ih x hx hxj
    obtain ⟨_, _, _, _, nsr, _⟩ := nodup_cons hnd
    rw [subOf_right r hai his] at hx
    have hxr := r.subOf_ids_sub i x ((r.subOf i).top_sub_ids x hx)
    by_cases haj : a = j
    · subst haj; rw [subOf_here] at hxj; exact absurd hxr (nsr x hxj)
    · by_cases hjs : j ∈ s.locs
      · rw [subOf_below r haj hjs] at hxj; exact absurd hxr (nsr x (s.subOf_ids_sub j x hxj))
      · rw [subOf_right r haj hjs] at hxj ⊢; exact ih x hx hxj
end Forest

/-- FRAME for a removal: a location `l'` other than `l`, outside the removed tree, whose own subtree contains neither
    `l` nor a slot of the removed tree, designates exactly the same value afterwards. -/
theorem removed_frame {d d' : Doc} {F : Forest} {l l' : Loc} {i : Nat} (w : WFG d F) (hl : isLoc F l)
    (hi : i ∈ (layoutAt F l).tl) (R : Removed d d' F l i ((layoutAt F l).treeF i).ids)
    (hl' : isLoc F l') (hne : l' ≠ l) (hout : ∀ j, l' = .slot j → j ∉ ((layoutAt F l).treeF i).ids)
    (hdisj : ∀ x ∈ (layoutAt F l').ids, x ∉ ((layoutAt F l).treeF i).ids ∧ Loc.slot x ≠ l) :
    d'.toVal (d'.get l') = d.toVal (d.get l') := by
  have hsnd := layoutAt_nodup w.nodup hl
  have hs'F := layoutAt_ids_sub F l'
  have hn : d'.null = d.null := by simp only [Doc.null, R.g]
  obtain ⟨dj1, _⟩ := release_disjoint i w hl
  have hm := mem_ids_eraseAt i w.nodup hl
  -- the predecessor is not inside the subtree of `l'`
  have hpred : ∀ p, (layoutAt F l).predFrom none i = some p → p ∉ (layoutAt F l').ids := by
    intro p hp hm'
    obtain ⟨hpt, _⟩ := Forest.predFrom_notin_tree hsnd none p hp (by simp)
    have hptop := Forest.tl_sub_top _ p hpt
    cases l' with
    | root =>
      cases l with
      | root => exact hne rfl
      | slot i0 => exact (hdisj i0 (isLoc_ids hl)).2 rfl
    | slot j =>
      cases l with
      | root => exact Forest.top_notin_subOf F j w.nodup p hptop hm'
      | slot i0 =>
        rcases Forest.top_subOf_subOf F w.nodup hl p hptop hm' with e | m
        · exact hne (by rw [e])
        · exact (hdisj i0 m).2 rfl
  -- survivors: a slot of `F` outside the tree
  have hsurv : ∀ x ∈ F.ids, x ∉ ((layoutAt F l).treeF i).ids → ¬ Terr d ((layoutAt F l).treeF i).ids x :=
    fun x hx hxT => dj1 x ((hm x).2 ⟨hx, hxT⟩)
  obtain ⟨_, hscal⟩ := R.survivors w hl
  have hgood : ∀ x ∈ (layoutAt F l').ids, Good d d' x := by
    intro x hx
    obtain ⟨hxT, hxl⟩ := hdisj x hx
    have hxF := hs'F x hx
    refine ⟨R.cells x (hsurv x hxF hxT) hxl (fun e => hpred x e hx), ?_⟩
    exact hscal (.slot x) (mem_holders.2 (Or.inr ⟨x, (hm x).2 ⟨hxF, hxT⟩, rfl⟩))
  have hl'h : l' ∈ holders (eraseAt F l i) := by
    cases l' with
    | root => exact mem_holders.2 (Or.inl rfl)
    | slot j => exact mem_holders.2 (Or.inr ⟨j, (hm j).2 ⟨isLoc_ids hl', hout j rfl⟩, rfl⟩)
  have hget : d'.get l' = d.get l' := by
    cases l' with
    | root =>
      refine R.root ?_
      intro e; exact hne e.symm
    | slot j =>
      by_cases hjp : (layoutAt F l).predFrom none i = some j
      · exact R.pred j hjp
      · exact get_of_cell (R.cells j (hsurv j (isLoc_ids hl') (hout j rfl)) hne hjp)
  have hvok : VOK d' (d.get l') (layoutAt F l') := VOK_congr (agree_of_good hn hgood).1 (VOK_at w hl')
  have hlen : (layoutAt F l').ids.length < d.fuel :=
    Nat.lt_of_le_of_lt (List.Nodup.length_le_of_subset (layoutAt_nodup w.nodup hl') (fun x hx => hs'F x hx)) w.fuel_ok
  have hfu : d'.fuel = d.fuel := by simp only [Doc.fuel, R.g]
  rw [hget, toVal_eq hvok (by rw [hfu]; exact hlen), toVal_at w hl']
  simp only [Doc.valOf]
  obtain ⟨a, sa⟩ := agree_of_good hn hgood
  rw [vals_congr noOv _ a sa, mkVal_congr]
  exact hscal l' hl'h

/-! ## `removeOne` on an array -/

theorem Forest.tl_sublist (F : Forest) : F.tl.Sublist F.ids := by
  induction F with
  | nil => exact List.Sublist.refl _
  | cons k i s r _ ihr =>
    simp only [Forest.tl, Forest.ids]
    exact (List.Sublist.cons_cons i (ihr.trans (List.sublist_append_right _ _))).trans (List.sublist_append_right _ _)

theorem Forest.keyOfTop_arr {d : Doc} (F : Forest) (i : Nat) : ∀ {h : Nat}, Lk d false h F → F.keyOfTop i = none := by
  induction F with
  | nil => intro h _; rfl
  | cons key j s r _ ihr =>
    intro h hl
    obtain ⟨rfl, _, _, _, _, h4⟩ := Lk_cons_arr hl
    simp only [Forest.keyOfTop, ihr h4, ite_self]

theorem goneF_tree (d : Doc) (key : Option Nat) (i : Nat) (sub : Forest) (K : List Nat) :
    goneF d (.cons key i sub .nil) ++ K =
      (Forest.keyL key).flatMap (fun j => strOfV (d.get (.slot j))) ++ (strOfV (d.get (.slot i)) ++ (goneF d sub ++ K)) := by
  rw [goneF_cons]
  simp [goneF, Forest.ids]

theorem map_eraseIdx {α β : Type} (f : α → β) : ∀ (L : List α) (k : Nat), (L.eraseIdx k).map f = (L.map f).eraseIdx k := by
  intro L
  induction L with
  | nil => intro k; rfl
  | cons a L ih =>
    intro k
    cases k with
    | zero => rfl
    | succ k => simp only [List.eraseIdx_cons_succ, List.map_cons, ih]

/-- everything in the territory of slots of the layout is live -/
theorem terr_live {d : Doc} {F : Forest} (w : WFG d F) {js : List Nat} (hjs : ∀ j ∈ js, j ∈ F.ids) {x : Nat}
    (h : Terr d js x) : PL.live d.g d.pl x := by
  rcases h with m | ⟨j, hj, e⟩
  · exact w.live x (hjs x m)
  · exact (w.ext (.slot j) (mem_holders.2 (Or.inr ⟨j, hjs j hj, rfl⟩)) x e).2.1

/-- a slot of the layout outside a set of slots is outside the territory of that set -/
theorem notin_terr {d : Doc} {F : Forest} (w : WFG d F) {js : List Nat} (hjs : ∀ j ∈ js, j ∈ F.ids) {x : Nat}
    (hx : x ∈ F.ids) (hn : x ∉ js) : ¬ Terr d js x := by
  rintro (m | ⟨j, hj, e⟩)
  · exact hn m
  · exact w.extH.notid j (hjs j hj) x e hx

/-- what a removal of the top-level tree of `i` from the collection at `l` establishes, `v'` being the new abstract
    value of that collection -/
structure RemovedOK (d d' : Doc) (F : Forest) (l : Loc) (i : Nat) (v' : Val) : Prop where
  mem : i ∈ (layoutAt F l).tl
  wfg : WFG d' (eraseAt F l i)
  str : StrOK d' (d'.strRefs (eraseAt F l i))
  absEq : abs d' = absWith d F l v'
  g : d'.g = d.g
  live : ∀ x, PL.live d'.g d'.pl x ↔ PL.live d.g d.pl x ∧ ¬ Terr d ((layoutAt F l).treeF i).ids x
  frame : Removed d d' F l i ((layoutAt F l).treeF i).ids

/-- the slot of the collection and the slot linked in front of a top-level tree are outside the territory of the tree -/
theorem outside_tree {d : Doc} {F : Forest} {l : Loc} {i : Nat} (w : WFG d F) (hl : isLoc F l) :
    (∀ j ∈ (layoutAt F l).ids, Loc.slot j ≠ l) ∧
    (∀ p, (layoutAt F l).predFrom none i = some p → p ∈ (layoutAt F l).ids ∧ p ∉ ((layoutAt F l).treeF i).ids) ∧
    (∀ p, (layoutAt F l).predFrom none i = some p → ¬ Terr d ((layoutAt F l).treeF i).ids p) ∧
    (∀ i0, l = .slot i0 → ¬ Terr d ((layoutAt F l).treeF i).ids i0) := by
  have hsF := layoutAt_ids_sub F l
  have hTF : ∀ j ∈ ((layoutAt F l).treeF i).ids, j ∈ F.ids := fun j hj => hsF j (Forest.treeF_ids_sub _ i j hj)
  have hsl : ∀ j ∈ (layoutAt F l).ids, Loc.slot j ≠ l := by
    intro j hj e
    subst e
    exact self_notin_layoutAt w.nodup j hj
  have hpf : ∀ p, (layoutAt F l).predFrom none i = some p →
      p ∈ (layoutAt F l).ids ∧ p ∉ ((layoutAt F l).treeF i).ids := by
    intro p hp
    obtain ⟨a, b⟩ := Forest.predFrom_notin_tree (layoutAt_nodup w.nodup hl) none p hp (by simp)
    exact ⟨Forest.tl_sub_ids _ p a, b⟩
  refine ⟨hsl, hpf, fun p hp => notin_terr w hTF (hsF p (hpf p hp).1) (hpf p hp).2, ?_⟩
  intro i0 e
  exact notin_terr w hTF (isLoc_ids (e ▸ hl)) (fun m => hsl i0 (Forest.treeF_ids_sub _ i i0 m) e.symm)

/-- `CollectionData::removeOne` on the array stored at `l`, for an element slot `id` of its chain -/
theorem removeOne_arr_core {d : Doc} {F : Forest} {l : Loc} {h t id : Nat} (w : WFG d F) (hs : StrOK d (d.strRefs F))
    (hl : isLoc F l) (hv : d.get l = .arr h t) (hid : id ∈ d.chain h) :
    d.chain h = (layoutAt F l).tl ∧
    ((layoutAt F l).treeF id).ids = id :: ((layoutAt F l).subOf id).ids ∧
    RemovedOK d (d.removeOne l id) F l id
      (.arr (((vals d noOv (layoutAt F l)).map (·.2)).eraseIdx (List.idxOf id (layoutAt F l).tl))) := by
  have hv' : d.get l = mkC false h t := hv
  have hvs : VOK d (mkC false h t) (layoutAt F l) := hv' ▸ VOK_at w hl
  obtain ⟨hlk, _⟩ := (VOK_mkC _ _ _ _ _).1 hvs
  have hsF := layoutAt_ids_sub F l
  have hsnd := layoutAt_nodup w.nodup hl
  have hlen : (layoutAt F l).ids.length ≤ d.fuel :=
    Nat.le_trans (List.Nodup.length_le_of_subset hsnd (fun x hx => hsF x hx)) (Nat.le_of_lt w.fuel_ok)
  have hch : d.chain h = (layoutAt F l).tl := by rw [chain_eq hlk hlen, tl_eq_top_arr _ hlk]
  have hi : id ∈ (layoutAt F l).tl := hch ▸ hid
  have htlnd : (layoutAt F l).tl.Nodup := List.Nodup.sublist (Forest.tl_sublist _) hsnd
  have hprev : d.prevOf h id = (layoutAt F l).predFrom none id := by
    rw [Doc.prevOf, hch]; exact prevIn_tl _ hi none htlnd
  have htree : ((layoutAt F l).treeF id).ids = id :: ((layoutAt F l).subOf id).ids := by
    rw [Forest.treeF_ids hsnd hi, Forest.keyOfTop_arr _ id hlk]; rfl
  obtain ⟨hsl, hpf, hP, hlT⟩ := outside_tree (i := id) w hl
  rw [htree] at hpf hP hlT
  have hTnd : (id :: ((layoutAt F l).subOf id).ids).Nodup := by
    rw [← htree]
    exact (List.nodup_append.1 (((layoutAt F l).ids_perm_erase id).nodup_iff.1 hsnd)).1
  have hTs : ∀ x ∈ id :: ((layoutAt F l).subOf id).ids, x ∈ (layoutAt F l).ids := by
    intro x hx; rw [← htree] at hx; exact Forest.treeF_ids_sub _ id x hx
  rw [removeOne_eq id hv', hprev]
  obtain ⟨c1, c2, c3, c4, c5, c6, c7, c8⟩ := unlinkD_cells (d := d) (l := l) ((layoutAt F l).predFrom none id)
    (d.nextOf id) (mkC false (if ((layoutAt F l).predFrom none id).isNone then d.nextOf id else h)
      (if d.nextOf id = d.null then ((layoutAt F l).predFrom none id).getD d.null else t))
    (fun p hp => ⟨w.isVar p (hsF p (hpf p hp).1), hsl p (hpf p hp).1⟩)
  generalize (unlinkD d ((layoutAt F l).predFrom none id) (d.nextOf id)).set l _ = dU at *
  have hvok : VOK d (d.get (.slot id)) ((layoutAt F l).subOf id) :=
    (Forest.Lk_subOf _ hlk hsnd (Forest.tl_sub_locs _ id hi)).2.2
  have hcellT : ∀ x ∈ id :: ((layoutAt F l).subOf id).ids, dU.cell x = d.cell x := fun x hx =>
    c8 x (hsl x (hTs x hx)) (fun e => (hpf x e).2 hx)
  have he := free_detached (d2 := dU) (keep := d.strRefs (eraseAt F l id)) w (hsF id (hTs id (by simp)))
    (fun x hx => hsF x (hTs x (List.mem_cons_of_mem _ hx))) (List.nodup_cons.1 hTnd).2 (List.nodup_cons.1 hTnd).1 hvok
    c1 (get_of_cell (hcellT id (by simp))) (fun x hx => hcellT x (List.mem_cons_of_mem _ hx))
    (by rw [c2, c1]; exact w.pool)
    (fun x hx => by
      rw [c2, c1]
      exact terr_live w (fun j hj => hsF j (hTs j hj)) ((mem_relSlot _ _ _ _).1 hx))
    (by
      refine StrOK_congr c3 c4 ?_
      have hp := strRefs_erase_perm d id w.nodup hl
      rw [Forest.treeF_eq hsnd hi, Forest.keyOfTop_arr _ id hlk, goneF_tree] at hp
      exact StrOK_perm hp hs)
  obtain ⟨r1, r2, r3, r4⟩ := unlink_release (d := d) (dX := d) rfl rfl (fun _ _ => rfl) c5 c6 c7 c8 hP hlT he
    (fun x hx => (mem_relSlot _ _ _ _).1 hx)
  have hlv : ∀ x, PL.live (dU.freeVariant id).g (dU.freeVariant id).pl x ↔
      PL.live d.g d.pl x ∧ ¬ Terr d ((layoutAt F l).treeF id).ids x := by
    intro x; rw [he.live x, c2, c1, mem_relSlot, htree]
  obtain ⟨f1, f2, f3, f4⟩ := unlink_wfg w hl hv' hi (he.g.trans c1) he.pool hlv he.str
    (fun n hn' => by rw [he.bytes n hn']; exact strBytes_of_strings c3 n) r1 r2 r3 (by rw [htree]; exact r4)
  refine ⟨hch, htree, hi, f1, f2, ?_, he.g.trans c1, hlv, f4⟩
  rw [f3]
  show absWith d F l (.arr _) = _
  rw [map_eraseIdx]

/-! ## `removePair` on an object -/

theorem erase_cons_ne {a b : Nat} (L : List Nat) (h : b ≠ a) : (b :: L).erase a = b :: L.erase a :=
  List.erase_cons_tail (by simpa using h)

/-- facts about the key slot of a member -/
theorem keyOfTop_facts {d : Doc} {k v : Nat} : ∀ (F : Forest), v ∈ F.tl → ∀ {h : Nat}, Lk d true h F → F.keyOfTop v = some k →
    isKey (d.get (.slot k)) ∧ d.isVar k ∧ k ≠ d.null := by
  refine Forest.tl_induction ?_ ?_
  · intro key s r h hl hk
    obtain ⟨kk, rfl, _, a, b, c, _⟩ := Lk_cons_obj hl
    simp only [Forest.keyOfTop, if_true, Option.some.injEq] at hk; subst hk
    exact ⟨c, b, a⟩
  · intro key j s r hjv _ ihr h hl hk
    simp only [Forest.keyOfTop, if_neg hjv] at hk
    exact ihr (Lk_rest hl) hk

/-- `findIn` along an object chain returns the key and value slots of a top-level tree; erasing that tree removes the
    first member with that key from the abstract member list -/
theorem findIn_tl {d : Doc} (key : List Byte) (F : Forest) : ∀ {h : Nat}, Lk d true h F → F.ids.Nodup →
    ∀ {k v : Nat}, d.findIn key F.top = some (k, v) →
      v ∈ F.tl ∧ F.keyOfTop v = some k ∧
      (vals d noOv F).eraseIdx (List.idxOf v F.tl) = (vals d noOv F).eraseP (fun m => m.1 == key) ∧
      List.idxOf v F.tl = (vals d noOv F).findIdx (fun m => m.1 == key) := by
  induction F with
  | nil => intro h _ _ k v hf; simp [Forest.top, Doc.findIn] at hf
  | cons ko i s r _ ihr =>
    intro h hl hnd k v hf
    obtain ⟨kk, rfl, _, _, _, hk, _, _, _, _, h4⟩ := Lk_cons_obj hl
    obtain ⟨_, ndr, _, njr, _, _⟩ := Forest.nodup_cons hnd
    simp only [Forest.top, Forest.keyL, List.cons_append, List.nil_append, Doc.findIn, keyBytes_of_isKey hk,
      Option.some.injEq] at hf
    simp only [Forest.tl, Forest.keyOfTop, vals, keyB, noOv, Option.getD_none, List.idxOf_cons, List.eraseP_cons,
      List.findIdx_cons]
    by_cases hkey : keyOfV d (d.get (.slot kk)) = key
    · rw [if_pos hkey] at hf
      simp only [Option.some.injEq, Prod.mk.injEq] at hf
      obtain ⟨rfl, rfl⟩ := hf
      have hb : (keyOfV d (d.get (.slot kk)) == key) = true := by simp [hkey]
      simp [hb]
    · rw [if_neg hkey] at hf
      obtain ⟨a, b, c, c'⟩ := ihr h4 ndr hf
      have hiv : i ≠ v := fun e => njr (e ▸ r.tl_sub_ids v a)
      have hb : (keyOfV d (d.get (.slot kk)) == key) = false := by simp [hkey]
      have hb2 : (i == v) = false := by simp [hiv]
      simp only [hb, hb2, cond_false, if_neg hiv, List.eraseIdx_cons_succ, List.mem_cons]
      refine ⟨Or.inr a, b, ?_, ?_⟩
      · rw [c]
      · rw [c']

/-- the key and value slots of a member that comes later in the chain differ from those of the first member -/
theorem later_member_ne {kk j k v : Nat} {s r : Forest} (hnd : (Forest.cons (some kk) j s r).ids.Nodup)
    (hv : v ∈ r.tl) (hk : r.keyOfTop v = some k) : kk ≠ v ∧ kk ≠ k ∧ j ≠ k := by
  obtain ⟨_, _, _, njr, _, nk⟩ := Forest.nodup_cons hnd
  have nkk := (nk kk (by simp [Forest.keyL])).2.2
  have hkr : k ∈ r.ids := r.keyOfTop_sub_ids v k (by rw [hk]; simp [Forest.keyL])
  exact ⟨fun e => nkk (e ▸ r.tl_sub_ids v hv), fun e => nkk (e ▸ hkr), fun e => njr (e ▸ hkr)⟩

/-- the raw chain once the key slot `k` of a member points past its value slot `v` -/
theorem Ch_skip {d d' : Doc} {k v : Nat} (hn : d'.null = d.null) : ∀ (F : Forest), v ∈ F.tl → ∀ {h : Nat}, Lk d true h F →
    F.ids.Nodup → F.keyOfTop v = some k →
    (∀ x ∈ F.top, x ≠ k → x ≠ v → d'.nextOf x = d.nextOf x) → d'.nextOf k = d.nextOf v →
    Ch d' h (F.top.erase v) := by
  refine Forest.tl_induction ?_ ?_
  · intro key s r h hl hnd hk hoth hkn
    obtain ⟨kk, rfl, rfl, a, _, _, _, _, _, _, h4⟩ := Lk_cons_obj hl
    obtain ⟨_, _, _, njr, _, nk⟩ := Forest.nodup_cons hnd
    have nkk := nk h (by simp [Forest.keyL])
    simp only [Forest.keyOfTop, if_true, Option.some.injEq] at hk; subst hk
    simp only [Forest.top, Forest.keyL, List.cons_append, List.nil_append] at hoth ⊢
    rw [erase_cons_ne _ nkk.1, List.erase_cons_head]
    refine ⟨rfl, hn ▸ a, ?_⟩
    rw [hkn]
    refine Ch_congr hn _ (Ch_of_Lk r h4) (fun x hx => hoth x (by simp [hx]) ?_ ?_)
    · intro e; exact nkk.2.2 (e ▸ r.top_sub_ids x hx)
    · intro e; exact njr (e ▸ r.top_sub_ids x hx)
  · intro key j s r hjv hvr ihr h hl hnd hk hoth hkn
    obtain ⟨kk, rfl, rfl, a, _, _, hkj, h2, _, _, h4⟩ := Lk_cons_obj hl
    simp only [Forest.keyOfTop, if_neg hjv] at hk
    obtain ⟨hhv, hhk, hjk⟩ := later_member_ne hnd hvr hk
    simp only [Forest.top, Forest.keyL, List.cons_append, List.nil_append] at hoth ⊢
    rw [erase_cons_ne _ hhv, erase_cons_ne _ hjv]
    refine ⟨rfl, hn ▸ a, ?_⟩
    rw [hoth h (by simp) hhk hhv, hkj]
    refine ⟨rfl, hn ▸ h2, ?_⟩
    rw [hoth j (by simp) hjk hjv]
    exact ihr h4 (Forest.nodup_cons hnd).2.1 hk (fun x hx => hoth x (by simp [hx])) hkn

/-- `prevIn` of the key slot along the chain (entered from `p`) without the value slot: the value slot of the
    preceding member -/
theorem prevIn_skip {d : Doc} {k v : Nat} : ∀ (F : Forest), v ∈ F.tl → ∀ {h : Nat} (p : Option Nat), Lk d true h F →
    F.ids.Nodup → F.keyOfTop v = some k → prevIn k (p.toList ++ F.top.erase v) = F.predFrom p v := by
  refine Forest.tl_induction ?_ ?_
  · intro key s r h p hl hnd hk
    obtain ⟨kk, rfl, _⟩ := Lk_cons_obj hl
    have nkk := (Forest.nodup_cons hnd).2.2.2.2.2 kk (by simp [Forest.keyL])
    simp only [Forest.keyOfTop, if_true, Option.some.injEq] at hk; subst hk
    simp only [Forest.top, Forest.keyL, List.cons_append, List.nil_append, predFrom_cons, if_true]
    rw [erase_cons_ne _ nkk.1, List.erase_cons_head]
    cases p with
    | none => exact prevIn_none _ _ (fun m => nkk.2.2 (r.top_sub_ids _ m))
    | some a => simp only [Option.toList_some, List.cons_append, List.nil_append, prevIn, if_true]
  · intro key j s r hjv hvr ihr h p hl hnd hk
    obtain ⟨kk, rfl, _, _, _, _, _, _, _, _, h4⟩ := Lk_cons_obj hl
    simp only [Forest.keyOfTop, if_neg hjv] at hk
    obtain ⟨hhv, hhk, hjk⟩ := later_member_ne hnd hvr hk
    simp only [Forest.top, Forest.keyL, List.cons_append, List.nil_append, predFrom_cons, if_neg hjv]
    rw [erase_cons_ne _ hhv, erase_cons_ne _ hjv]
    have ih := ihr (some j) h4 (Forest.nodup_cons hnd).2.1 hk
    cases p with
    | none => simp only [Option.toList_none, List.nil_append, prevIn, if_neg hjk]; exact ih
    | some a =>
      simp only [Option.toList_some, List.cons_append, List.nil_append, prevIn, if_neg hhk, if_neg hjk]
      exact ih

theorem terr_cons (d : Doc) (a : Nat) (js : List Nat) (x : Nat) : Terr d (a :: js) x ↔ Terr d [a] x ∨ Terr d js x := by
  simp only [Terr, List.mem_cons, List.not_mem_nil, or_false]
  constructor
  · rintro ((h | h) | ⟨j, hj | hj, h⟩)
    · exact Or.inl (Or.inl h)
    · exact Or.inr (Or.inl h)
    · exact Or.inl (Or.inr ⟨j, hj, h⟩)
    · exact Or.inr (Or.inr ⟨j, hj, h⟩)
  · rintro ((h | ⟨j, hj, h⟩) | (h | ⟨j, hj, h⟩))
    · exact Or.inl (Or.inl h)
    · exact Or.inr ⟨j, Or.inl hj, h⟩
    · exact Or.inl (Or.inr h)
    · exact Or.inr ⟨j, Or.inr hj, h⟩

/-- first half of `removePair`: the key slot `k` points past its value slot `v`, then `v` and everything below it is
    released. Relative to `d`: the key slot, the cells outside the territory of the member, the pool, and the string
    table, which still counts the reference held by the key. -/
theorem release_value {d dB : Doc} {F : Forest} {l : Loc} {h k v : Nat} (w : WFG d F) (hs : StrOK d (d.strRefs F))
    (hl : isLoc F l) (hlk : Lk d true h (layoutAt F l)) (hi : v ∈ (layoutAt F l).tl)
    (hkey : (layoutAt F l).keyOfTop v = some k) (hkvar : d.isVar k)
    (hTnd : (k :: v :: ((layoutAt F l).subOf v).ids).Nodup)
    (hTF : ∀ x ∈ k :: v :: ((layoutAt F l).subOf v).ids, x ∈ F.ids)
    (hdB : (d.setNext k (d.nextOf v)).freeVariant v = dB) :
    dB.g = d.g ∧ dB.root = d.root ∧ dB.cell k = .var (d.get (.slot k)) (d.nextOf v) ∧
    (∀ j, ¬ Terr d (k :: v :: ((layoutAt F l).subOf v).ids) j → dB.cell j = d.cell j) ∧
    PL.Inv dB.g dB.pl ∧
    (∀ x, PL.live dB.g dB.pl x ↔ PL.live d.g d.pl x ∧ ¬ Terr d (v :: ((layoutAt F l).subOf v).ids) x) ∧
    StrOK dB (strOfV (d.get (.slot k)) ++ d.strRefs (eraseAt F l v)) ∧
    (∀ n ∈ d.strRefs (eraseAt F l v), dB.strBytes n = d.strBytes n) := by
  have hsnd := layoutAt_nodup w.nodup hl
  obtain ⟨hkT, hvsnd⟩ := List.nodup_cons.1 hTnd
  obtain ⟨hvT, hsubnd⟩ := List.nodup_cons.1 hvsnd
  have hkv : k ≠ v := fun e => hkT (by simp [e])
  have hvsF : ∀ x ∈ v :: ((layoutAt F l).subOf v).ids, x ∈ F.ids := fun x hx => hTF x (List.mem_cons_of_mem _ hx)
  have hck : d.cell k = .var (d.get (.slot k)) (d.nextOf k) := hkvar
  have a1 : (d.setNext k (d.nextOf v)).cell k = .var (d.get (.slot k)) (d.nextOf v) := cell_setNext_var hck _
  have a2 : ∀ j, j ≠ k → (d.setNext k (d.nextOf v)).cell j = d.cell j := fun j hj => cell_setNext_ne d _ (Ne.symm hj)
  have a3 := setNext_g d k (d.nextOf v)
  have a4 := setNext_pl d k (d.nextOf v)
  have a5 := setNext_strings d k (d.nextOf v)
  have a6 := setNext_nextNode d k (d.nextOf v)
  have a7 := setNext_root d k (d.nextOf v)
  subst hdB
  generalize d.setNext k (d.nextOf v) = dA at *
  have hvok : VOK d (d.get (.slot v)) ((layoutAt F l).subOf v) :=
    (Forest.Lk_subOf _ hlk hsnd (Forest.tl_sub_locs _ v hi)).2.2
  have hperm : List.Perm (d.strRefs F)
      (strOfV (d.get (.slot v)) ++ (goneF d ((layoutAt F l).subOf v) ++
        (strOfV (d.get (.slot k)) ++ d.strRefs (eraseAt F l v)))) := by
    have hp := strRefs_erase_perm d v w.nodup hl
    rw [Forest.treeF_eq hsnd hi, hkey, goneF_tree] at hp
    simp only [Forest.keyL, List.flatMap_cons, List.flatMap_nil, List.append_nil] at hp
    exact hp.trans ((List.perm_append_comm_assoc _ _ _).trans
      ((List.perm_append_comm_assoc _ _ _).append_left _))
  have e1 := free_detached (d2 := dA) (keep := strOfV (d.get (.slot k)) ++ d.strRefs (eraseAt F l v)) w
    (hvsF v (by simp)) (fun x hx => hvsF x (List.mem_cons_of_mem _ hx))
    hsubnd hvT hvok a3 (get_of_cell (a2 v (Ne.symm hkv)))
    (fun x hx => a2 x (fun e => hkT (by simp [← e, hx])))
    (by rw [a4, a3]; exact w.pool)
    (fun x hx => by rw [a4, a3]; exact terr_live w hvsF ((mem_relSlot _ _ _ _).1 hx))
    (StrOK_congr a5 a6 (StrOK_perm hperm hs))
  have hkrel : k ∉ relSlot d v ((layoutAt F l).subOf v) :=
    fun m => notin_terr w hvsF (hTF k (by simp)) hkT ((mem_relSlot _ _ _ _).1 m)
  refine ⟨by rw [e1.g, a3], by rw [e1.root, a7], by rw [e1.cells k hkrel]; exact a1, ?_, e1.pool, ?_, e1.str, ?_⟩
  · intro j hj
    rw [e1.cells j (fun m => hj ((terr_cons d k _ j).2 (Or.inr ((mem_relSlot _ _ _ _).1 m))))]
    exact a2 j (fun e => hj (Or.inl (by simp [e])))
  · intro x; rw [e1.live x, a4, a3, mem_relSlot]
  · intro n hn'
    rw [e1.bytes n (List.mem_append_right _ hn'), strBytes_of_strings a5 n]

/-- `ObjectData::remove`: `removePair` on the object stored at `l`, for the member found by `findKey` -/
theorem removePair_core {d : Doc} {F : Forest} {l : Loc} {h t k v : Nat} {key : List Byte} (w : WFG d F)
    (hs : StrOK d (d.strRefs F)) (hl : isLoc F l) (hv : d.get l = .obj h t) (hf : d.findKey l key = some (k, v)) :
    (layoutAt F l).keyOfTop v = some k ∧
    List.idxOf v (layoutAt F l).tl = (vals d noOv (layoutAt F l)).findIdx (fun m => m.1 == key) ∧
    ((layoutAt F l).treeF v).ids = k :: v :: ((layoutAt F l).subOf v).ids ∧
    RemovedOK d (d.removePair l k v) F l v (.obj ((vals d noOv (layoutAt F l)).eraseP (fun m => m.1 == key))) := by
  have hv' : d.get l = mkC true h t := hv
  have hvs : VOK d (mkC true h t) (layoutAt F l) := hv' ▸ VOK_at w hl
  obtain ⟨hlk, _⟩ := (VOK_mkC _ _ _ _ _).1 hvs
  have hsF := layoutAt_ids_sub F l
  have hsnd := layoutAt_nodup w.nodup hl
  have hlen : (layoutAt F l).ids.length ≤ d.fuel :=
    Nat.le_trans (List.Nodup.length_le_of_subset hsnd (fun x hx => hsF x hx)) (Nat.le_of_lt w.fuel_ok)
  simp only [Doc.findKey, hv, chain_eq hlk hlen] at hf
  obtain ⟨hi, hkey, hvals, hidx⟩ := findIn_tl key _ hlk hsnd hf
  obtain ⟨hkk, hkvar, _⟩ := keyOfTop_facts _ hi hlk hkey
  have htree : ((layoutAt F l).treeF v).ids = k :: v :: ((layoutAt F l).subOf v).ids := by
    rw [Forest.treeF_ids hsnd hi, hkey]; rfl
  obtain ⟨hsl, hpf, hP, hlT⟩ := outside_tree (i := v) w hl
  rw [htree] at hpf hP hlT
  have hTnd : (k :: v :: ((layoutAt F l).subOf v).ids).Nodup := by
    rw [← htree]
    exact (List.nodup_append.1 (((layoutAt F l).ids_perm_erase v).nodup_iff.1 hsnd)).1
  have hTs : ∀ x ∈ k :: v :: ((layoutAt F l).subOf v).ids, x ∈ (layoutAt F l).ids := by
    intro x hx; rw [← htree] at hx; exact Forest.treeF_ids_sub _ v x hx
  have hTF : ∀ x ∈ k :: v :: ((layoutAt F l).subOf v).ids, x ∈ F.ids := fun x hx => hsF x (hTs x hx)
  have hkT := (List.nodup_cons.1 hTnd).1
  have hkF : k ∈ F.ids := hTF k (by simp)
  have hvsF : ∀ x ∈ v :: ((layoutAt F l).subOf v).ids, x ∈ F.ids := fun x hx => hTF x (List.mem_cons_of_mem _ hx)
  have hkl : Loc.slot k ≠ l := hsl k (hTs k (by simp))
  -- the key slot points past the value slot, which is released with everything below it
  have hrp : d.removePair l k v = ((d.setNext k (d.nextOf v)).freeVariant v).removeOne l k := rfl
  rw [hrp]
  generalize hdB : (d.setNext k (d.nextOf v)).freeVariant v = dB
  obtain ⟨hgB, hrootB, b1, b2, hpB, hlvB, hsB, hbB⟩ := release_value w hs hl hlk hi hkey hkvar hTnd hTF hdB
  have hnB : dB.null = d.null := by simp only [Doc.null, hgB]
  have hBget : dB.get l = mkC true h t := by
    rw [← hv']
    cases l with
    | root => exact hrootB
    | slot i0 => exact get_of_cell (b2 i0 (hlT i0 rfl))
  -- the chain seen by `removeOne`
  have htopF : ∀ x ∈ (layoutAt F l).top, x ∈ F.ids := fun x hx => hsF x ((layoutAt F l).top_sub_ids x hx)
  have hchB : dB.chain h = (layoutAt F l).top.erase v := by
    refine chainF_of_Ch _ (Ch_skip hnB _ hi hlk hsnd hkey ?_ ?_) ?_
    · intro x hx hxk hxv
      refine nextOf_of_cell (b2 x (notin_terr w hTF (htopF x hx) ?_)) hnB
      simp only [List.mem_cons, not_or]
      exact ⟨hxk, hxv, Forest.top_notin_subOf _ v hsnd x hx⟩
    · rw [nextOf_of_var b1]
    · have : dB.fuel = d.fuel := by simp only [Doc.fuel, hgB]
      rw [this]
      exact Nat.le_trans (List.Sublist.length_le List.erase_sublist) (Nat.le_trans (Forest.top_length_le _) hlen)
  have hprev : dB.prevOf h k = (layoutAt F l).predFrom none v := by
    rw [Doc.prevOf, hchB]; exact prevIn_skip _ hi none hlk hsnd hkey
  rw [removeOne_eq k hBget, hprev, nextOf_of_var b1, hnB]
  -- step 3: the chain is unlinked in `dB`
  obtain ⟨c1, c2, c3, c4, c5, c6, c7, c8⟩ := unlinkD_cells (d := dB) (l := l) ((layoutAt F l).predFrom none v)
    (d.nextOf v) (mkC true (if ((layoutAt F l).predFrom none v).isNone then d.nextOf v else h)
      (if d.nextOf v = d.null then ((layoutAt F l).predFrom none v).getD d.null else t))
    (fun p hp => ⟨isVar_congr (b2 p (hP p hp)) hnB (w.isVar p (hsF p (hpf p hp).1)), hsl p (hpf p hp).1⟩)
  generalize (unlinkD dB ((layoutAt F l).predFrom none v) (d.nextOf v)).set l _ = dD at *
  -- step 4: the key slot is released
  have hDk : dD.cell k = .var (d.get (.slot k)) (d.nextOf v) := by
    rw [c8 k hkl (fun e => (hpf k e).2 (by simp))]; exact b1
  have hknil : VOK d (d.get (.slot k)) .nil := (VOK_scalar (isKey_not_coll hkk) _).2 rfl
  have e2 := free_detached (d2 := dD) (sub := .nil) (keep := d.strRefs (eraseAt F l v)) w hkF
    (fun x hx => by cases hx) List.nodup_nil (fun hx => by cases hx) hknil (by rw [c1, hgB]) (get_of_var hDk)
    (fun x hx => by cases hx) (by rw [c2, c1]; exact hpB)
    (fun x hx => by
      rw [c2, c1]
      have hx' := (mem_relSlot _ _ _ _).1 hx
      have : x = k := by
        rcases hx' with m | ⟨j, hj, e⟩
        · simpa [Forest.ids] using m
        · simp only [Forest.ids, List.mem_cons, List.not_mem_nil, or_false] at hj
          subst hj; rw [isKey_ext hkk] at e; cases e
      rw [this, hlvB k]
      exact ⟨w.live k hkF, notin_terr w hvsF hkF hkT⟩)
    (StrOK_congr c3 c4 (by simpa [goneF, Forest.ids] using hsB))
  generalize dD.freeVariant k = dE at *
  -- the final document, relative to `d`
  obtain ⟨r1, r2, r3, r4⟩ := unlink_release (d := d) (dX := dB) hnB hrootB b2 c5 c6 c7 c8 hP hlT e2
    (fun x hx => (terr_cons d k _ x).2 (Or.inl ((mem_relSlot _ _ _ _).1 hx)))
  have hgE : dE.g = d.g := by rw [e2.g, c1, hgB]
  have hlv : ∀ x, PL.live dE.g dE.pl x ↔ PL.live d.g d.pl x ∧ ¬ Terr d ((layoutAt F l).treeF v).ids x := by
    intro x
    rw [e2.live x, c2, c1, hlvB x, mem_relSlot, htree]
    exact ⟨fun ⟨⟨a, b⟩, c⟩ => ⟨a, fun m => ((terr_cons d k _ x).1 m).elim c b⟩,
      fun ⟨a, o⟩ => ⟨⟨a, fun m => o ((terr_cons d k _ x).2 (Or.inr m))⟩, fun m => o ((terr_cons d k _ x).2 (Or.inl m))⟩⟩
  obtain ⟨f1, f2, f3, f4⟩ := unlink_wfg w hl hv' hi hgE e2.pool hlv e2.str
    (fun n hn' => by rw [e2.bytes n hn', strBytes_of_strings c3 n, hbB n hn'])
    r1 r2 r3 (by rw [htree]; exact r4)
  refine ⟨hkey, hidx, htree, hi, f1, f2, ?_, hgE, hlv, f4⟩
  rw [f3, hvals]
  rfl

end DL
