/- Length of the text of a float (`JS.writeFloat`): the loops of `JS.normalize` under names, and the bounds on
   `JS.normalize` / `JS.decompose` that the loops keep. Core Lean only. -/
import AJ.Model.JS
import AJ.Lemmas.Digits
import AJ.Lemmas.LatchPos
namespace C12
open SF JD JS

/-! ## counted `for` loops -/

theorem list_forIn_idx {α β : Type} (P : Nat → β → Prop) (f : α → β → Id (ForInStep β))
    (l : List α) : ∀ (j : Nat) (init : β), P j init →
    (∀ i x b, j ≤ i → i < j + l.length → P i b → ∃ b', f x b = pure (ForInStep.yield b') ∧ P (i + 1) b') →
    P (j + l.length) (forIn l init f : Id β).run := by
  induction l with
  | nil => intro j init h _; simpa using h
  | cons a as ih =>
    intro j init h hstep
    rw [List.forIn_cons]
    obtain ⟨b', hb, hP⟩ := hstep j a init (Nat.le_refl _) (by simp) h
    rw [hb]
    have := ih (j + 1) b' hP (fun i x b h1 h2 hp => hstep i x b (by omega) (by simp at h2 ⊢; omega) hp)
    simp only [List.length_cons]
    rw [show j + (as.length + 1) = j + 1 + as.length by omega]
    simpa using this

/-- a loop `for _ in [0:n]` whose body always continues: an invariant indexed by the iteration count -/
theorem range_forIn_idx {β : Type} (P : Nat → β → Prop) (n : Nat) (f : Nat → β → Id (ForInStep β)) (init : β)
    (h0 : P 0 init)
    (hstep : ∀ i x b, i < n → P i b → ∃ b', f x b = pure (ForInStep.yield b') ∧ P (i + 1) b') :
    P n (forIn [:n] init f : Id β).run := by
  rw [Std.Legacy.Range.forIn_eq_forIn_range']
  have := list_forIn_idx P f (List.range' 0 ([:n] : Std.Legacy.Range).size 1) 0 init h0
    (fun i x b _ h2 hp => hstep i x b (by simpa [Std.Legacy.Range.size] using h2) hp)
  simpa [Std.Legacy.Range.size] using this

/-! ## `normalize` in named pieces -/

abbrev NSt := Nat × Int × Int × Nat    -- (value, powersOf10, index, bit)

def bodyA : Nat → NSt → Id (ForInStep NSt) := fun _ s =>
  if s.2.2.1 ≥ 0 then
    if SF.ge b64 s.1 (pos64[s.2.2.1.toNat]!) = true then
      pure (ForInStep.yield (SF.mul b64 s.1 (neg64[s.2.2.1.toNat]!), s.2.1 + ↑s.2.2.2, s.2.2.1 - 1, s.2.2.2 / 2))
    else pure (ForInStep.yield (s.1, s.2.1, s.2.2.1 - 1, s.2.2.2 / 2))
  else pure (ForInStep.yield (s.1, s.2.1, s.2.2.1, s.2.2.2))

def bodyB : Nat → NSt → Id (ForInStep NSt) := fun _ s =>
  if s.2.2.1 ≥ 0 then
    if SF.lt b64 s.1 (SF.mul b64 (neg64[s.2.2.1.toNat]!) JS.ten) = true then
      pure (ForInStep.yield (SF.mul b64 s.1 (pos64[s.2.2.1.toNat]!), s.2.1 - ↑s.2.2.2, s.2.2.1 - 1, s.2.2.2 / 2))
    else pure (ForInStep.yield (s.1, s.2.1, s.2.2.1 - 1, s.2.2.2 / 2))
  else pure (ForInStep.yield (s.1, s.2.1, s.2.2.1, s.2.2.2))

def loopA (s : NSt) : NSt := (forIn [:9] s bodyA : Id NSt).run
def loopB (s : NSt) : NSt := (forIn [:9] s bodyB : Id NSt).run

theorem normalize_eq (v : Nat) : normalize v =
    if SF.ge b64 v tenE7 = true then
      (if (SF.gt b64 (loopA (v, 0, 8, 256)).1 0 && SF.le b64 (loopA (v, 0, 8, 256)).1 tenEm5) = true then
        ((loopB (loopA (v, 0, 8, 256))).1, (loopB (loopA (v, 0, 8, 256))).2.1)
       else ((loopA (v, 0, 8, 256)).1, (loopA (v, 0, 8, 256)).2.1))
    else if (SF.gt b64 v 0 && SF.le b64 v tenEm5) = true then
      ((loopB (v, 0, 8, 256)).1, (loopB (v, 0, 8, 256)).2.1)
    else (v, 0) := by
  unfold normalize
  rfl

end C12

namespace FloatLen
open JD JS Digits SF

theorem digits_length_le (k : Nat) : ∀ n, n < 10 ^ (k + 1) → (JS.digits n).length ≤ k + 1 := by
  induction k with
  | zero => intro n h; rw [digits_rec, if_pos (by simpa using h)]; simp
  | succ k ih =>
    intro n h
    rw [digits_rec]
    split
    · simp
    · have := ih (n / 10) (by rw [Nat.pow_succ] at h; omega)
      simp only [List.length_append, List.length_cons, List.length_nil]; omega

theorem digits_length_le_20 (n : Nat) (h : n < 2 ^ 64) : (JS.digits n).length ≤ 20 :=
  digits_length_le 19 n (by have : (2 : Nat) ^ 64 < 10 ^ 20 := by decide
                            omega)

theorem padDigits_allDigits (n w : Nat) : AllDigits (padDigits n w) := by
  intro c hc
  simp only [padDigits, List.mem_append, List.mem_replicate] at hc
  rcases hc with ⟨_, rfl⟩ | hc
  · decide
  · exact (digits_spec n).1 c (List.mem_of_mem_drop hc)

/-! ### bounds on `JS.normalize` / `JS.decompose` (loop invariants), and the length of a float text -/

/-- the decimal exponent moves by the current bit, which halves: `|p| + 2·bit` never grows -/
def NI (s : C12.NSt) : Prop := s.2.1.natAbs + 2 * s.2.2.2 ≤ 512

theorem NI_step {p : Int} {bit : Nat} (h : p.natAbs + 2 * bit ≤ 512) :
    (p + bit).natAbs + 2 * (bit / 2) ≤ 512 ∧ (p - bit).natAbs + 2 * (bit / 2) ≤ 512 ∧ p.natAbs + 2 * (bit / 2) ≤ 512 := by
  omega

theorem bodyA_NI (x : Nat) (s : C12.NSt) (h : NI s) : ∃ s', C12.bodyA x s = pure (ForInStep.yield s') ∧ NI s' := by
  unfold C12.bodyA
  split
  · split
    · exact ⟨_, rfl, (NI_step h).1⟩
    · exact ⟨_, rfl, (NI_step h).2.2⟩
  · exact ⟨_, rfl, h⟩

theorem bodyB_NI (x : Nat) (s : C12.NSt) (h : NI s) : ∃ s', C12.bodyB x s = pure (ForInStep.yield s') ∧ NI s' := by
  unfold C12.bodyB
  split
  · split
    · exact ⟨_, rfl, (NI_step h).2.1⟩
    · exact ⟨_, rfl, (NI_step h).2.2⟩
  · exact ⟨_, rfl, h⟩

theorem normalize_bound (v : Nat) : (normalize v).2.natAbs ≤ 512 := by
  have hA : ∀ s, NI s → NI (C12.loopA s) := fun s h =>
    C12.range_forIn_idx (fun _ => NI) 9 C12.bodyA s h (fun _ x b _ hb => bodyA_NI x b hb)
  have hB : ∀ s, NI s → NI (C12.loopB s) := fun s h =>
    C12.range_forIn_idx (fun _ => NI) 9 C12.bodyB s h (fun _ x b _ hb => bodyB_NI x b hb)
  have h0 : NI (v, 0, 8, 256) := by unfold NI; exact Nat.le_refl 512
  have out : ∀ s : C12.NSt, NI s → s.2.1.natAbs ≤ 512 := fun s h => by unfold NI at h; omega
  rw [C12.normalize_eq]
  split
  · split
    · exact out _ (hB _ (hA _ h0))
    · exact out _ (hA _ h0)
  · split
    · exact out _ (hB _ h0)
    · exact Nat.zero_le 512

def DQ (places : Nat) (r : Parts) : Prop :=
  r.integral < 2 ^ 32 ∧ r.decimalPlaces ≤ places ∧ r.exponent.natAbs ≤ 513

theorem id_bind_prop {β γ : Type} (x : Id β) (K : β → Id γ) (P : β → Prop) (Q : γ → Prop) (hx : P x.run)
    (hK : ∀ b, P b → Q (K b).run) : Q (x >>= K).run := hK _ hx

theorem loop2_inv (places : Nat) (init : Nat × Nat) (h : init.1 ≤ places) :
    (fun s : Nat × Nat => s.1 ≤ places) (Id.run (forIn [:12] init fun (_ : Nat) (__s : Nat × Nat) =>
        if (__s.snd % 10 == 0 && decide (__s.fst > 0)) = true then
          (pure (ForInStep.yield (__s.fst - 1, __s.snd / 10)) : Id _)
        else pure (ForInStep.yield (__s.fst, __s.snd)))) := by
  refine C12.range_forIn_idx (fun _ (s : Nat × Nat) => s.1 ≤ places) 12 _ init h ?_
  intro _ x s _ hs
  split
  · exact ⟨_, rfl, Nat.le_trans (Nat.sub_le _ _) hs⟩
  · exact ⟨_, rfl, hs⟩

theorem decompose_bounds (v places : Nat) : DQ places (decompose v places) := by
  unfold decompose
  simp only [Id.run]
  have hn := normalize_bound v
  generalize normalize v = nv at hn
  obtain ⟨value, e0⟩ := nv
  simp only at hn ⊢
  have hig : toNatTrunc b64 value % 2 ^ 32 < 2 ^ 32 := Nat.mod_lt _ (by decide)
  generalize toNatTrunc b64 value % 2 ^ 32 = ig at hig ⊢
  refine id_bind_prop _ _ (fun s : Nat × Nat × Nat => s.2.1 ≤ places) (DQ places) ?_ ?_
  · refine C12.range_forIn_idx (fun _ (s : Nat × Nat × Nat) => s.2.1 ≤ places) 12 _ _ (Nat.le_refl _) ?_
    intro _ x s _ hs
    split
    · exact ⟨_, rfl, Nat.le_trans (Nat.sub_le _ _) hs⟩
    · exact ⟨_, rfl, hs⟩
  · intro s hs
    split
    · split
      · refine id_bind_prop _ _ (fun s : Nat × Nat => s.1 ≤ places) (DQ places) (loop2_inv places _ hs) ?_
        intro s2 hs2
        simp only [Id.run, pure, DQ]
        exact ⟨by decide, hs2, by omega⟩
      · refine id_bind_prop _ _ (fun s : Nat × Nat => s.1 ≤ places) (DQ places) (loop2_inv places _ hs) ?_
        intro s2 hs2
        simp only [Id.run, pure, DQ]
        exact ⟨Nat.mod_lt _ (by decide), hs2, by omega⟩
    · refine id_bind_prop _ _ (fun s : Nat × Nat => s.1 ≤ places) (DQ places) (loop2_inv places _ hs) ?_
      intro s2 hs2
      simp only [Id.run, pure, DQ]
      exact ⟨hig, hs2, by omega⟩

theorem padDigits_length (n w : Nat) : (padDigits n w).length = w := by
  simp only [padDigits, List.length_append, List.length_replicate, List.length_drop]; omega

/-! the texts of the values that are not finite, next to `JD.kw_null` -/
theorem kw_nan : "NaN".toUTF8.toList = [0x4E, 0x61, 0x4E] := by decide +kernel
theorem kw_neginf : "-Infinity".toUTF8.toList = [0x2D, 0x49, 0x6E, 0x66, 0x69, 0x6E, 0x69, 0x74, 0x79] := by decide +kernel
theorem kw_inf : "Infinity".toUTF8.toList = [0x49, 0x6E, 0x66, 0x69, 0x6E, 0x69, 0x74, 0x79] := by decide +kernel

theorem length_ite_le {α : Type} {c : Prop} [Decidable c] {a b : List α} {n : Nat} (ha : a.length ≤ n) (hb : b.length ≤ n) :
    (if c then a else b).length ≤ n := by
  split
  · exact ha
  · exact hb

/-- every float text has at most `17 + places` bytes: sign, ≤ 10 integral digits, point, `places` decimals,
    `e`, sign, ≤ 3 exponent digits -/
theorem writeFloat_length_le (cfg : Cfg) (v places : Nat) : (writeFloat cfg v places).length ≤ 17 + places := by
  unfold writeFloat
  refine length_ite_le ?_ (length_ite_le ?_ ?_)
  · cases cfg.nan
    · rw [if_neg Bool.false_ne_true, kw_null]; exact Nat.le_add_right_of_le (by decide)
    · rw [if_pos rfl, kw_nan]; exact Nat.le_add_right_of_le (by decide)
  · cases cfg.inf
    · rw [if_neg Bool.false_ne_true, kw_null]; exact Nat.le_add_right_of_le (by decide)
    · rw [if_pos rfl]
      split
      · rw [kw_neginf]; exact Nat.le_add_right_of_le (by decide)
      · rw [kw_inf]; exact Nat.le_add_right_of_le (by decide)
  · obtain ⟨h1, h2, h3⟩ := decompose_bounds (if lt b64 v 0 = true then absBits b64 v else v) places
    simp only
    generalize decompose (if lt b64 v 0 = true then absBits b64 v else v) places = p at h1 h2 h3 ⊢
    generalize lt b64 v 0 = neg
    have d1 := digits_length_le 9 p.integral (Nat.lt_trans h1 (by decide))
    have d2 := digits_length_le 2 p.exponent.natAbs (Nat.lt_of_le_of_lt h3 (by decide))
    have a : (if neg = true then [(0x2D : UInt8)] else []).length ≤ 1 := length_ite_le (Nat.le_refl 1) (Nat.zero_le 1)
    have b : (if p.decimalPlaces > 0 then 0x2E :: padDigits p.decimal p.decimalPlaces else []).length ≤ 1 + places :=
      length_ite_le (by rw [List.length_cons, padDigits_length]; omega) (Nat.zero_le _)
    have c : (if (p.exponent != 0) = true then
        0x65 :: ((if p.exponent < 0 then [(0x2D : UInt8)] else []) ++ digits p.exponent.natAbs) else []).length ≤ 5 := by
      have s : (if p.exponent < 0 then [(0x2D : UInt8)] else []).length ≤ 1 := length_ite_le (Nat.le_refl 1) (Nat.zero_le 1)
      exact length_ite_le (by rw [List.length_cons, List.length_append]; omega) (Nat.zero_le 5)
    rw [List.length_append, List.length_append, List.length_append]
    omega

end FloatLen
