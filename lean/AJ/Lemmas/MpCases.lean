/- The answers of `MD.parseVariant`, by cases: a scalar of one of eight kinds (`LeafOut`) found after some bytes of the
   input (`Adv`, `Leaf`), or what `readArray` / `readObject` returned one nesting level down. `pvTail_cases` and
   `pvAfter_cases` walk the ladder of format bytes once; an invariant of the values the deserializer builds, or of the
   reader it leaves, is pushed through `parseVariant` by them (`pv_cases`, `md_took` of AJ/Lemmas/MDPos.lean). -/
import AJ.Lemmas.MpPieces
namespace MD
open JD

theorem readBytes_len {r r1 : R} {n : Nat} {bs : List Byte} (e : r.readBytes n = (some bs, r1)) : bs.length = n := by
  unfold R.readBytes at e
  split at e
  · simp only [Prod.mk.injEq, Option.some.injEq] at e
    obtain ⟨rfl, _⟩ := e
    simp only [List.length_take]; omega
  · simp at e

/-- `b` is `a` after some bytes were taken from it -/
def Adv (a b : R) : Prop := ∃ c, a.unread = c ++ b.unread ∧ b.pos = a.pos + c.length

theorem Adv.refl (a : R) : Adv a a := ⟨[], rfl, rfl⟩

theorem Adv.trans {a b c : R} (h1 : Adv a b) (h2 : Adv b c) : Adv a c := by
  obtain ⟨x, hx, px⟩ := h1
  obtain ⟨y, hy, py⟩ := h2
  exact ⟨x ++ y, by rw [hx, hy, List.append_assoc], by rw [py, px, List.length_append, Nat.add_assoc]⟩

theorem Adv.le {a b : R} (h : Adv a b) : b.unread.length ≤ a.unread.length := by
  obtain ⟨x, hx, _⟩ := h
  rw [hx, List.length_append]
  exact Nat.le_add_left _ _

theorem Adv.pos_le {a b : R} (h : Adv a b) : a.pos ≤ b.pos := by
  obtain ⟨x, _, px⟩ := h
  rw [px]
  exact Nat.le_add_right _ _

/-- consumed + unread is the length of the whole input, all along -/
theorem Adv.total {a b : R} (h : Adv a b) : b.pos + b.unread.length = a.pos + a.unread.length := by
  obtain ⟨x, hx, px⟩ := h
  rw [hx, px, List.length_append, Nat.add_assoc]

theorem adv_drop (r : R) (n : Nat) (h : r.unread.length ≥ n) : Adv r ⟨r.unread.drop n, r.pos + n⟩ :=
  ⟨r.unread.take n, (List.take_append_drop n _).symm, by rw [List.length_take, Nat.min_eq_left h]⟩

theorem adv_all (r : R) : Adv r ⟨[], r.pos + r.unread.length⟩ := ⟨r.unread, (List.append_nil _).symm, rfl⟩

/-- a failed `readBytes` has taken everything -/
theorem adv_readBytes (r : R) (n : Nat) :
    Adv r (r.readBytes n).2 ∧ ((r.readBytes n).1 = none → (r.readBytes n).2.unread = []) := by
  unfold R.readBytes
  split
  · exact ⟨adv_drop r n ‹_›, fun h => nomatch h⟩
  · exact ⟨adv_all r, fun _ => rfl⟩

theorem adv_skipBytes (r : R) (n : Nat) :
    Adv r (r.skipBytes n).2 ∧ ((r.skipBytes n).1 = false → (r.skipBytes n).2.unread = []) := by
  unfold R.skipBytes
  split
  · exact ⟨adv_drop r n ‹_›, fun h => nomatch h⟩
  · exact ⟨adv_all r, fun _ => rfl⟩

theorem read_nil {r : R} (h : r.unread = []) : r.read = (none, r) := by
  unfold R.read
  rw [h]

theorem read_cons' {r : R} {c : Byte} {l : List Byte} (h : r.unread = c :: l) : r.read = (some c, ⟨l, r.pos + 1⟩) := by
  unfold R.read
  rw [h]

theorem adv_cons {r : R} {c : Byte} {l : List Byte} (h : r.unread = c :: l) : Adv r ⟨l, r.pos + 1⟩ := ⟨[c], h, rfl⟩

theorem hdrOf_adv (sb s2 : Nat) (r : R) :
    Adv r (hdrOf sb s2 r).2 ∧ ((hdrOf sb s2 r).1 = none → (hdrOf sb s2 r).2.unread = []) := by
  unfold hdrOf
  refine of_ite (Q := fun x : Option (List Byte × Nat) × R => Adv r x.2 ∧ (x.1 = none → x.2.unread = []))
    (fun _ => ?_) (fun _ => ⟨.refl r, fun h => nomatch h⟩)
  have h := adv_readBytes r sb
  generalize r.readBytes sb = x at h
  obtain ⟨_ | bs, r'⟩ := x
  · exact ⟨h.1, fun _ => h.2 rfl⟩
  · exact ⟨h.1, fun h => nomatch h⟩

/-- what `parseVariant` stores for a header byte that opens no container: integers of at most 8 payload bytes, the two
    fixint families, floats (a double through `storeDouble`), strings within the string limit, bin / ext as raw nodes; and
    `null` wherever the value is filtered out or the code is an error -/
inductive LeafOut (env : Env) : Val → Prop
  | null : LeafOut env .null
  | bool (b : Bool) : LeafOut env (.bool b)
  | int (bs : List Byte) (sg : Bool) : bs.length ≤ 8 → LeafOut env (readInteger bs sg)
  | fixint (k : Int) : -32 ≤ k → k ≤ 127 → LeafOut env (.num (.sint k))
  | f32 (b : Nat) : LeafOut env (.num (.f32 b))
  | f64 (b : Nat) : LeafOut env (.num (storeDouble b))
  | str (s : List Byte) : s.length ≤ env.maxStrLen → LeafOut env (.str s)
  | raw (s : List Byte) : LeafOut env (.raw s)

/-- the answer `y` of a piece that opens no container and was started on `r` -/
structure Leaf (env : Env) (r : R) (y : Code × Val × R × Bool) : Prop where
  val : LeafOut env y.2.1
  adv : Adv r y.2.2.1
  inc : y.1 = .incomplete → y.2.2.1.unread = []
  fuel : y.1 ≠ .fuel
  found : y.2.2.2 = true

theorem Leaf.here {env : Env} {r : R} {e : Code} {v : Val} (hv : LeafOut env v) (hi : e ≠ .incomplete) (hf : e ≠ .fuel) :
    Leaf env r (e, v, r, true) := ⟨hv, .refl r, (fun h => absurd h hi), hf, rfl⟩

theorem Leaf.from {env : Env} {r0 r : R} {y : Code × Val × R × Bool} (h0 : Adv r0 r) (h : Leaf env r y) : Leaf env r0 y :=
  ⟨h.val, h0.trans h.adv, h.inc, h.fuel, h.found⟩

theorem leaf_rd {env : Env} (g : List Byte → Val) (n : Nat) (r : R) (hg : ∀ bs, bs.length = n → LeafOut env (g bs)) :
    Leaf env r (rdLeaf g n r) := by
  have h := adv_readBytes r n
  unfold rdLeaf
  generalize hq : r.readBytes n = x at h
  obtain ⟨_ | bs, r'⟩ := x
  · exact ⟨.null, h.1, (fun _ => h.2 rfl), Code.noConfusion, rfl⟩
  · exact ⟨hg bs (readBytes_len hq), h.1, (fun h => nomatch h), Code.noConfusion, rfl⟩

theorem leaf_sk {env : Env} (n : Nat) (r : R) : Leaf env r (skLeaf n r) := by
  have h := adv_skipBytes r n
  unfold skLeaf
  generalize r.skipBytes n = x at h
  obtain ⟨_ | _, r'⟩ := x
  · exact ⟨.null, h.1, (fun _ => h.2 rfl), Code.noConfusion, rfl⟩
  · exact ⟨.null, h.1, (fun h => nomatch h), Code.noConfusion, rfl⟩

/-- a container skipped: its code and reader, no value -/
def dropResult {α : Type} (q : Code × α × R) : Code × Val × R × Bool := (q.1, .null, q.2.2, true)

section cases
variable {env : Env} {RA : RAfun} {RO : ROfun} {limit : Nat} {flt : Flt} {hd : Bool} {code : Byte}
  {Q : Code × Val × R × Bool → Prop}

theorem pvTail_cases (x : Option (List Byte × Nat) × R) (hx : x.1 = none → x.2.unread = [])
    (leaf : ∀ y, Leaf env x.2 y → Q y)
    (arr : ∀ l n, limit = l + 1 → Q (arrResult (RA l flt.subIdx true n x.2 [])))
    (arr0 : ∀ l n, limit = l + 1 → Q (dropResult (RA l flt.subIdx false n x.2 [])))
    (obj : ∀ l n, limit = l + 1 → Q (objResult (RO l flt true n x.2 [])))
    (obj0 : ∀ l n, limit = l + 1 → Q (dropResult (RO l flt false n x.2 []))) :
    Q (pvTail env RA RO limit flt hd code x) := by
  obtain ⟨_ | ⟨hb, size⟩, r⟩ := x
  · exact leaf _ ⟨.null, .refl r, (fun _ => hx rfl), Code.noConfusion, rfl⟩
  have here : ∀ e, e ≠ .incomplete → e ≠ .fuel → Q (e, .null, r, true) := fun e hi hf => leaf _ (.here .null hi hf)
  simp only [pvTail]
  refine of_ite (fun _ => ?_) fun _ => of_ite (fun _ => ?_) fun _ => of_ite (fun _ => ?_) fun _ => ?_
  · cases limit with
    | zero => exact here _ (by decide) (by decide)
    | succ l => exact of_ite (fun _ => arr l _ rfl) fun _ => arr0 l _ rfl
  · cases limit with
    | zero => exact here _ (by decide) (by decide)
    | succ l => exact of_ite (fun _ => obj l _ rfl) fun _ => obj0 l _ rfl
  · refine of_ite (fun _ => of_ite (fun _ => here _ (by decide) (by decide)) fun hs => ?_) fun _ => leaf _ (leaf_sk _ r)
    exact leaf _ (leaf_rd _ _ r fun bs hl => .str bs (by omega))
  · refine of_ite (fun _ => of_ite (fun _ => here _ (by decide) (by decide)) fun _ => ?_) fun _ => leaf _ (leaf_sk _ r)
    exact leaf _ (leaf_rd _ _ r fun bs _ => .raw _)

theorem pvAfter_cases {r : R}
    (leaf : ∀ y, Leaf env r y → Q y)
    (arr : ∀ l n r1, limit = l + 1 → Adv r r1 → Q (arrResult (RA l flt.subIdx true n r1 [])))
    (arr0 : ∀ l n r1, limit = l + 1 → Adv r r1 → Q (dropResult (RA l flt.subIdx false n r1 [])))
    (obj : ∀ l n r1, limit = l + 1 → Adv r r1 → Q (objResult (RO l flt true n r1 [])))
    (obj0 : ∀ l n r1, limit = l + 1 → Adv r r1 → Q (dropResult (RO l flt false n r1 []))) :
    Q (pvAfter env RA RO limit flt hd code r) := by
  have rs : ∀ (a : Bool) (g : List Byte → Val) k, (∀ bs, bs.length = k → LeafOut env (g bs)) →
      Q (if a then rdLeaf g k r else skLeaf k r) :=
    fun a g k hg => of_ite (fun _ => leaf _ (leaf_rd g k r hg)) fun _ => leaf _ (leaf_sk k r)
  have here : ∀ e v, LeafOut env v → e ≠ .incomplete → e ≠ .fuel → Q (e, v, r, true) := fun e v hv hi hf =>
    leaf _ (.here hv hi hf)
  have hcode : code.toNat < 256 := code.toNat_lt
  simp only [pvAfter]
  refine of_ite (fun _ => rs _ _ _ fun bs hl => .int bs _ ?_) fun _ => ?_
  · rw [hl]
    calc 2 ^ ((code.toNat - 0xcc) % 4) ≤ 2 ^ 3 := Nat.pow_le_pow_right (by decide) (by omega)
      _ = 8 := rfl
  refine of_ite (fun _ => here _ _ .null (by decide) (by decide)) fun _ => ?_
  refine of_ite (fun _ => here _ _ .null (by decide) (by decide)) fun _ => ?_
  refine of_ite (fun _ => here _ _ (of_ite (fun _ => .bool _) fun _ => .null) (by decide) (by decide)) fun _ => ?_
  refine of_ite (fun _ => rs _ _ _ fun bs _ => .f32 _) fun _ => ?_
  refine of_ite (fun _ => rs _ _ _ fun bs _ => .f64 _) fun _ => ?_
  refine of_ite (fun hfix => ?_) fun _ => ?_
  · simp only [Bool.or_eq_true, decide_eq_true_eq] at hfix
    refine here _ _ (of_ite (fun _ => .fixint _ ?_ ?_) fun _ => .null) (by decide) (by decide)
    · split <;> omega
    · split <;> omega
  have h := hdrOf_adv (szBytes code.toNat) (sz2 code.toNat) r
  exact pvTail_cases _ h.2 (fun y hy => leaf y (hy.from h.1)) (fun l n hl => arr l n _ hl h.1)
    (fun l n hl => arr0 l n _ hl h.1) (fun l n hl => obj l n _ hl h.1) (fun l n hl => obj0 l n _ hl h.1)

end cases

theorem pv_cases {env : Env} {f : Nat} {Q : Code × Val × R × Bool → Prop} (limit : Nat) (flt : Flt) (b : Bool) (r : R)
    (leaf : ∀ e v r' b', LeafOut env v → Q (e, v, r', b'))
    (arr : ∀ limit' n r1 e vs r2, limit = limit' + 1 → readArray env f limit' flt.subIdx true n r1 [] = (e, vs, r2) →
      Q (e, .arr vs, r2, true))
    (obj : ∀ limit' n r1 e ms r2, limit = limit' + 1 → readObject env f limit' flt true n r1 [] = (e, ms, r2) →
      Q (e, .obj ms, r2, true)) :
    Q (parseVariant env (f+1) limit flt b r) := by
  rw [pv_succ]
  split
  · exact leaf _ _ _ _ .null
  · exact pvAfter_cases (fun y h => leaf _ _ _ _ h.val) (fun l n r1 hl _ => arr l n r1 _ _ _ hl rfl)
      (fun _ _ _ _ _ => leaf _ _ _ _ .null) (fun l n r1 hl _ => obj l n r1 _ _ _ hl rfl)
      (fun _ _ _ _ _ => leaf _ _ _ _ .null)

end MD
