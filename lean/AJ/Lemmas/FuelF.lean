/- The fuel argument of AJ/Lemmas/Fuel.lean for the mutually recursive routines: the skipping routines and the filtered
   JSON parser, one sub-call at a time (the pieces of AJ/Lemmas/JDPieces.lean). With `2 * rem s + 1` units of fuel
   the result does not depend on the fuel and is not `Code.fuel`; a continuation gets the bound on the input its
   sub-call left from `kept_* (rem_latch k)` (AJ/Lemmas/LatchClosed.lean). The unfiltered parser is the allow-all
   instance. Hence `run` and `frun` never report `Code.fuel`. -/
import AJ.Lemmas.Fuel
import AJ.Lemmas.FilterId
namespace JD

/-! ## the skipping routines -/

def AgSV (cfg : Cfg) (f g : Nat) : Prop := ∀ L s k, rem s ≤ k → 2 * k + 1 ≤ f → 2 * k + 1 ≤ g →
  Agree (skipVariant cfg f L s) (skipVariant cfg g L s)
def AgSE (cfg : Cfg) (f g : Nat) : Prop := ∀ L s k, rem s ≤ k → 2 * k + 2 ≤ f → 2 * k + 2 ≤ g →
  Agree (skipElems cfg f L s) (skipElems cfg g L s)
def AgSM (cfg : Cfg) (f g : Nat) : Prop := ∀ L s k, rem s ≤ k → 2 * k + 2 ≤ f → 2 * k + 2 ≤ g →
  Agree (skipMembers cfg f L s) (skipMembers cfg g L s)

section skip
variable {cfg : Cfg} {f g k : Nat}

theorem svObj_agree {L' : Nat} (hM : AgSM cfg f g) (hf : 2 * k + 2 ≤ f) (hg : 2 * k + 2 ≤ g) (r : Code × St)
    (hr : rem r.2 ≤ k) (h : r.1 ≠ .fuel) : Agree (svObj cfg f L' r) (svObj cfg g L' r) := by
  obtain ⟨c, s⟩ := r
  cases c
  case ok =>
    simp only [svObj]
    exact of_ite₂ (fun _ => .done (by decide)) fun _ => hM _ _ _ (look hr) hf hg
  all_goals exact .refl h

theorem svTok_agree {L : Nat} (hE : AgSE cfg f g) (hM : AgSM cfg f g) (s : St) (h : rem s ≤ k) (hf : 2 * k ≤ f)
    (hg : 2 * k ≤ g) : Agree (svTok cfg f L s) (svTok cfg g L s) := by
  simp only [svTok]
  refine of_ite₂ (fun hc => ?_) fun _ => of_ite₂ (fun hc => ?_) fun _ => of_ite₂ (fun hq => ?_) fun _ => ?_
  · obtain ⟨hk, h1⟩ := step h (nz_of_beq hc (by decide))
    cases L with
    | zero => exact .done (by decide)
    | succ L' => exact hE _ _ _ h1 (by omega) (by omega)
  · obtain ⟨hk, h1⟩ := step h (nz_of_beq hc (by decide))
    cases L with
    | zero => exact .done (by decide)
    | succ L' =>
      simp only
      exact (skipSpaces_agree (f+1) (g+1) _ _ h1 (by omega) (by omega)).bind
        (svObj_agree hM (by omega) (by omega)) (kept_skipSpaces (rem_latch _) _ _ h1)
  · obtain ⟨hk, h1⟩ := step h (nz_of_quote hq)
    exact skipQuoted_agree (f+1) (g+1) _ _ h1 (by omega) (by omega)
  · have hkw : ∀ ks, Agree (skipKeyword ks (cur s).2) (skipKeyword ks (cur s).2) :=
      fun ks => .refl (skipKeyword_ne_fuel _ _)
    refine of_ite₂ (fun _ => hkw _) fun _ => of_ite₂ (fun _ => hkw _) fun _ => of_ite₂ (fun _ => hkw _) fun _ => ?_
    rw [skipNumeric_fuel (f+1) (g+1) _ _ (look h) (by omega) (by omega)]
    exact .done (by decide)

theorem svK_agree {L : Nat} (hE : AgSE cfg f g) (hM : AgSM cfg f g) (hf : 2 * k ≤ f) (hg : 2 * k ≤ g) (r : Code × St)
    (hr : rem r.2 ≤ k) (h : r.1 ≠ .fuel) : Agree (svK cfg f L r) (svK cfg g L r) := by
  obtain ⟨c, s⟩ := r
  cases c
  case ok => exact svTok_agree hE hM s hr hf hg
  all_goals exact .refl h

theorem seK2_agree {L : Nat} (hE : AgSE cfg f g) (hf : 2 * k ≤ f) (hg : 2 * k ≤ g) (r : Code × St)
    (hr : rem r.2 ≤ k) (h : r.1 ≠ .fuel) :
    Agree (seK2 cfg f L r) (seK2 cfg g L r) := by
  obtain ⟨c, s⟩ := r
  cases c
  case ok =>
    simp only [seK2]
    refine of_ite₂ (fun _ => .done (by decide)) fun _ => ?_
    refine of_ite₂ (fun hc => ?_) fun _ => .done (by decide)
    obtain ⟨hk, h1⟩ := step hr (nz_of_beq hc (by decide))
    exact hE _ _ _ h1 (by omega) (by omega)
  all_goals exact .refl h

theorem seK1_agree {L : Nat} (hE : AgSE cfg f g) (hf : 2 * k ≤ f) (hg : 2 * k ≤ g) (r : Code × St)
    (hr : rem r.2 ≤ k) (h : r.1 ≠ .fuel) :
    Agree (seK1 cfg f L r) (seK1 cfg g L r) := by
  obtain ⟨c, s⟩ := r
  cases c
  case ok =>
    simp only [seK1]
    exact (skipSpaces_agree (f+1) (g+1) _ _ hr (by omega) (by omega)).bind (seK2_agree hE hf hg)
      (kept_skipSpaces (rem_latch k) _ _ hr)
  all_goals exact .refl h

theorem smK4_agree {L : Nat} (hM : AgSM cfg f g) (hf : 2 * k + 2 ≤ f) (hg : 2 * k + 2 ≤ g) (r : Code × St)
    (hr : rem r.2 ≤ k) (h : r.1 ≠ .fuel) : Agree (smK4 cfg f L r) (smK4 cfg g L r) := by
  obtain ⟨c, s⟩ := r
  cases c
  case ok => exact hM _ _ _ hr hf hg
  all_goals exact .refl h

theorem smK3_agree {L : Nat} (hM : AgSM cfg f g) (hf : 2 * k ≤ f) (hg : 2 * k ≤ g) (r : Code × St)
    (hr : rem r.2 ≤ k) (h : r.1 ≠ .fuel) :
    Agree (smK3 cfg f L r) (smK3 cfg g L r) := by
  obtain ⟨c, s⟩ := r
  cases c
  case ok =>
    simp only [smK3]
    refine of_ite₂ (fun _ => .done (by decide)) fun _ => ?_
    refine of_ite₂ (fun hc => ?_) fun _ => .done (by decide)
    obtain ⟨hk, h1⟩ := step hr (nz_of_beq hc (by decide))
    exact (skipSpaces_agree (f+1) (g+1) _ _ h1 (by omega) (by omega)).bind (smK4_agree hM (by omega) (by omega))
      (kept_skipSpaces (rem_latch _) _ _ h1)
  all_goals exact .refl h

theorem smK2_agree {L : Nat} (hM : AgSM cfg f g) (hf : 2 * k ≤ f) (hg : 2 * k ≤ g) (r : Code × St)
    (hr : rem r.2 ≤ k) (h : r.1 ≠ .fuel) :
    Agree (smK2 cfg f L r) (smK2 cfg g L r) := by
  obtain ⟨c, s⟩ := r
  cases c
  case ok =>
    simp only [smK2]
    exact (skipSpaces_agree (f+1) (g+1) _ _ hr (by omega) (by omega)).bind (smK3_agree hM hf hg)
      (kept_skipSpaces (rem_latch k) _ _ hr)
  all_goals exact .refl h

theorem smK1_agree {L : Nat} (hV : AgSV cfg f g) (hM : AgSM cfg f g) (hf : 2 * k ≤ f) (hg : 2 * k ≤ g) (r : Code × St)
    (hr : rem r.2 ≤ k) (h : r.1 ≠ .fuel) : Agree (smK1 cfg f L r) (smK1 cfg g L r) := by
  obtain ⟨c, s⟩ := r
  cases c
  case ok =>
    simp only [smK1]
    refine of_ite₂ (fun _ => .done (by decide)) fun hcol => ?_
    obtain ⟨hk, h1⟩ := step hr (nz_of_colon hcol)
    exact (hV _ _ _ h1 (by omega) (by omega)).bind (smK2_agree hM (by omega) (by omega))
      ((kept_skip_mutual (rem_latch _) _).1 _ _ h1)
  all_goals exact .refl h

theorem smK0_agree {L : Nat} (hV : AgSV cfg f g) (hM : AgSM cfg f g) (hf : 2 * k ≤ f) (hg : 2 * k ≤ g) (r : Code × St)
    (hr : rem r.2 ≤ k) (h : r.1 ≠ .fuel) : Agree (smK0 cfg f L r) (smK0 cfg g L r) := by
  simp only [smK0]
  refine of_ite₂ (fun _ => .refl h) fun _ => ?_
  exact (skipSpaces_agree (f+1) (g+1) _ _ hr (by omega) (by omega)).bind (smK1_agree hV hM hf hg)
    (kept_skipSpaces (rem_latch k) _ _ hr)

end skip

theorem skip_agree_mutual {cfg : Cfg} : ∀ f g, AgSV cfg f g ∧ AgSE cfg f g ∧ AgSM cfg f g := by
  intro f
  induction f with
  | zero => intro g; exact ⟨fun _ _ _ _ hf => by omega, fun _ _ _ _ hf => by omega, fun _ _ _ _ hf => by omega⟩
  | succ f ih =>
    intro g
    cases g with
    | zero => exact ⟨fun _ _ _ _ _ hg => by omega, fun _ _ _ _ _ hg => by omega, fun _ _ _ _ _ hg => by omega⟩
    | succ g =>
      obtain ⟨ihV, ihE, ihM⟩ := ih g
      refine ⟨fun L s k h hf hg => ?_, fun L s k h hf hg => ?_, fun L s k h hf hg => ?_⟩
      · rw [skipVariant_succ, skipVariant_succ]
        exact (skipSpaces_agree (f+1) (g+1) s k h (by omega) (by omega)).bind (svK_agree ihE ihM (by omega) (by omega))
          (kept_skipSpaces (rem_latch k) _ _ h)
      · rw [skipElems_succ, skipElems_succ]
        exact (ihV L s k h (by omega) (by omega)).bind (seK1_agree ihE (by omega) (by omega))
          ((kept_skip_mutual (rem_latch k) _).1 _ _ h)
      · rw [skipMembers_succ, skipMembers_succ]
        exact (smKey_agree s k h (by omega) (by omega)).bind (smK0_agree ihV ihM (by omega) (by omega))
          (kept_smKey (rem_latch k) _ h)

/-! ## the filtered parser -/

def AgV (cfg : Cfg) (f g : Nat) : Prop := ∀ L flt s k, rem s ≤ k → 2 * k + 1 ≤ f → 2 * k + 1 ≤ g →
  Agree (fparseVariant cfg f L flt s) (fparseVariant cfg g L flt s)
def AgE (cfg : Cfg) (f g : Nat) : Prop := ∀ L flt s acc k, rem s ≤ k → 2 * k + 2 ≤ f → 2 * k + 2 ≤ g →
  Agree (fparseElems cfg f L flt s acc) (fparseElems cfg g L flt s acc)
def AgM (cfg : Cfg) (f g : Nat) : Prop := ∀ L flt s ms k, rem s ≤ k → 2 * k + 2 ≤ f → 2 * k + 2 ≤ g →
  Agree (fparseMembers cfg f L flt s ms) (fparseMembers cfg g L flt s ms)

section fparse
variable {cfg : Cfg} {f g k : Nat}

theorem fvArr_agree {L' : Nat} {ef : Flt} (hE : AgE cfg f g) (hf : 2 * k + 2 ≤ f) (hg : 2 * k + 2 ≤ g) (r : Code × St)
    (hr : rem r.2 ≤ k) (h : r.1 ≠ .fuel) : Agree (fvArr cfg f L' ef r) (fvArr cfg g L' ef r) := by
  obtain ⟨c, s⟩ := r
  cases c
  case ok =>
    simp only [fvArr]
    exact of_ite₂ (fun _ => .done (by decide)) fun _ => hE _ _ _ _ _ (look hr) hf hg
  all_goals exact .refl h

theorem fvObj_agree {L' : Nat} {flt : Flt} (hM : AgM cfg f g) (hf : 2 * k + 2 ≤ f) (hg : 2 * k + 2 ≤ g) (r : Code × St)
    (hr : rem r.2 ≤ k) (h : r.1 ≠ .fuel) : Agree (fvObj cfg f L' flt r) (fvObj cfg g L' flt r) := by
  obtain ⟨c, s⟩ := r
  cases c
  case ok =>
    simp only [fvObj]
    exact of_ite₂ (fun _ => .done (by decide)) fun _ => hM _ _ _ _ _ (look hr) hf hg
  all_goals exact .refl h

theorem fvObjSkip_agree {L' : Nat} (sM : AgSM cfg f g) (hf : 2 * k + 2 ≤ f) (hg : 2 * k + 2 ≤ g) (r : Code × St)
    (hr : rem r.2 ≤ k) (h : r.1 ≠ .fuel) : Agree (fvObjSkip cfg f L' r) (fvObjSkip cfg g L' r) := by
  obtain ⟨c, s⟩ := r
  cases c
  case ok =>
    simp only [fvObjSkip]
    exact of_ite₂ (fun _ => .done (by decide)) fun _ => (sM _ _ _ (look hr) hf hg).dropVal
  all_goals exact .refl h

theorem fvTok_agree {L : Nat} {flt : Flt} (hE : AgE cfg f g) (hM : AgM cfg f g) (sE : AgSE cfg f g) (sM : AgSM cfg f g)
    (s : St) (h : rem s ≤ k) (hf : 2 * k ≤ f) (hg : 2 * k ≤ g) :
    Agree (fvTok cfg f L flt s) (fvTok cfg g L flt s) := by
  have htd : ∀ v : Val, Agree (Code.tooDeep, v, (cur s).2) (Code.tooDeep, v, (cur s).2) :=
    fun v => .done (by decide)
  simp only [fvTok]
  refine of_ite₂ (fun hc => ?_) fun _ => of_ite₂ (fun hc => ?_) fun _ => of_ite₂ (fun hq => ?_) fun _ => ?_
  · obtain ⟨hk, h1⟩ := step h (nz_of_beq hc (by decide))
    refine of_ite₂ (fun _ => ?_) fun _ => ?_
    · cases L with
      | zero => exact htd _
      | succ L' =>
        simp only
        exact (skipSpaces_agree (f+1) (g+1) _ _ h1 (by omega) (by omega)).bind (fvArr_agree hE (by omega) (by omega))
          (kept_skipSpaces (rem_latch _) _ _ h1)
    · cases L with
      | zero => exact htd _
      | succ L' => exact (sE _ _ _ h1 (by omega) (by omega)).dropVal
  · obtain ⟨hk, h1⟩ := step h (nz_of_beq hc (by decide))
    have hsp := skipSpaces_agree (cfg := cfg) (f+1) (g+1) _ _ h1 (by omega) (by omega)
    have hsr := kept_skipSpaces (cfg := cfg) (rem_latch _) (g+1) _ h1
    refine of_ite₂ (fun _ => ?_) fun _ => ?_
    · cases L with
      | zero => exact htd _
      | succ L' =>
        simp only
        exact hsp.bind (fvObj_agree hM (by omega) (by omega)) hsr
    · cases L with
      | zero => exact htd _
      | succ L' =>
        simp only
        exact hsp.bind (fvObjSkip_agree sM (by omega) (by omega)) hsr
  · obtain ⟨hk, h1⟩ := step h (nz_of_quote hq)
    refine of_ite₂ (fun _ => ?_) fun _ => ?_
    · exact (parseQuoted_agree (f+1) (g+1) _ _ _ _ h1 (by omega) (by omega)).pvStr
    · exact (skipQuoted_agree (f+1) (g+1) _ _ h1 (by omega) (by omega)).dropVal
  · have hkw : ∀ ks (v : Val), Agree (match skipKeyword ks (cur s).2 with | (e, s) => (e, v, s))
        (match skipKeyword ks (cur s).2 with | (e, s) => (e, v, s)) :=
      fun ks v => .refl (skipKeyword_ne_fuel _ _)
    refine of_ite₂ (fun _ => hkw _ _) fun _ => of_ite₂ (fun _ => hkw _ _) fun _ => of_ite₂ (fun _ => hkw _ _) fun _ => ?_
    refine of_ite₂ (fun _ => .refl (parseNumeric_ne_fuel _)) fun _ => ?_
    rw [skipNumeric_fuel (f+1) (g+1) _ _ (look h) (by omega) (by omega)]
    exact .done (by decide)

theorem fvK_agree {L : Nat} {flt : Flt} (hE : AgE cfg f g) (hM : AgM cfg f g) (sE : AgSE cfg f g) (sM : AgSM cfg f g)
    (hf : 2 * k ≤ f) (hg : 2 * k ≤ g) (r : Code × St)
    (hr : rem r.2 ≤ k) (h : r.1 ≠ .fuel) :
    Agree (fvK cfg f L flt r) (fvK cfg g L flt r) := by
  obtain ⟨c, s⟩ := r
  cases c
  case ok => exact fvTok_agree hE hM sE sM s hr hf hg
  all_goals exact .refl h

theorem feElem_agree {L : Nat} {ef : Flt} (hV : AgV cfg f g) (sV : AgSV cfg f g) (s : St) (acc : List Val)
    (h : rem s ≤ k) (hf : 2 * k + 1 ≤ f) (hg : 2 * k + 1 ≤ g) :
    Agree (feElem cfg f L ef s acc) (feElem cfg g L ef s acc) := by
  simp only [feElem]
  refine of_ite₂ (fun _ => ?_) fun _ => ?_
  · obtain ⟨e, hr⟩ := hV L ef s k h hf hg
    rw [e]; exact .refl hr
  · obtain ⟨e, hr⟩ := sV L s k h hf hg
    rw [e]; exact .refl hr

theorem feK2_agree {L : Nat} {ef : Flt} {vs : List Val} (hE : AgE cfg f g) (hf : 2 * k ≤ f) (hg : 2 * k ≤ g) (r : Code × St)
    (hr : rem r.2 ≤ k) (h : r.1 ≠ .fuel) : Agree (feK2 cfg f L ef vs r) (feK2 cfg g L ef vs r) := by
  obtain ⟨c, s⟩ := r
  cases c
  case ok =>
    simp only [feK2]
    refine of_ite₂ (fun _ => .done (by decide)) fun _ => ?_
    refine of_ite₂ (fun hc => ?_) fun _ => .done (by decide)
    obtain ⟨hk, h1⟩ := step hr (nz_of_beq hc (by decide))
    exact hE _ _ _ _ _ h1 (by omega) (by omega)
  all_goals exact .refl h

theorem feK1_agree {L : Nat} {ef : Flt} (hE : AgE cfg f g) (hf : 2 * k ≤ f) (hg : 2 * k ≤ g) (r : Code × List Val × St)
    (hr : rem r.2.2 ≤ k) (h : r.1 ≠ .fuel) : Agree (feK1 cfg f L ef r) (feK1 cfg g L ef r) := by
  obtain ⟨c, vs, s⟩ := r
  cases c
  case ok =>
    simp only [feK1]
    exact (skipSpaces_agree (f+1) (g+1) _ _ hr (by omega) (by omega)).bind (feK2_agree hE hf hg)
      (kept_skipSpaces (rem_latch k) _ _ hr)
  all_goals exact .refl h

theorem fmVal_agree {L : Nat} {mf : Flt} {ms : List (List Byte × Val)} {key : List Byte} (hV : AgV cfg f g)
    (sV : AgSV cfg f g) (s : St) (h : rem s ≤ k) (hf : 2 * k + 1 ≤ f) (hg : 2 * k + 1 ≤ g) :
    Agree (fmVal cfg f L mf ms key s) (fmVal cfg g L mf ms key s) := by
  simp only [fmVal]
  refine of_ite₂ (fun _ => ?_) fun _ => ?_
  · obtain ⟨e, hr⟩ := hV L mf s k h hf hg
    rw [e]; exact .refl hr
  · obtain ⟨e, hr⟩ := sV L s k h hf hg
    rw [e]; exact .refl hr

theorem fmK4_agree {L : Nat} {flt : Flt} {ms : List (List Byte × Val)} (hM : AgM cfg f g) (hf : 2 * k + 2 ≤ f) (hg : 2 * k + 2 ≤ g) (r : Code × St)
    (hr : rem r.2 ≤ k) (h : r.1 ≠ .fuel) :
    Agree (fmK4 cfg f L flt ms r) (fmK4 cfg g L flt ms r) := by
  obtain ⟨c, s⟩ := r
  cases c
  case ok => exact hM _ _ _ _ _ hr hf hg
  all_goals exact .refl h

theorem fmK3_agree {L : Nat} {flt : Flt} {ms : List (List Byte × Val)} (hM : AgM cfg f g) (hf : 2 * k ≤ f) (hg : 2 * k ≤ g) (r : Code × St)
    (hr : rem r.2 ≤ k) (h : r.1 ≠ .fuel) :
    Agree (fmK3 cfg f L flt ms r) (fmK3 cfg g L flt ms r) := by
  obtain ⟨c, s⟩ := r
  cases c
  case ok =>
    simp only [fmK3]
    refine of_ite₂ (fun _ => .done (by decide)) fun _ => ?_
    refine of_ite₂ (fun hc => ?_) fun _ => .done (by decide)
    obtain ⟨hk, h1⟩ := step hr (nz_of_beq hc (by decide))
    exact (skipSpaces_agree (f+1) (g+1) _ _ h1 (by omega) (by omega)).bind (fmK4_agree hM (by omega) (by omega))
      (kept_skipSpaces (rem_latch _) _ _ h1)
  all_goals exact .refl h

theorem fmK2_agree {L : Nat} {flt : Flt} (hM : AgM cfg f g) (hf : 2 * k ≤ f) (hg : 2 * k ≤ g) (r : Code × List (List Byte × Val) × St)
    (hr : rem r.2.2 ≤ k) (h : r.1 ≠ .fuel) : Agree (fmK2 cfg f L flt r) (fmK2 cfg g L flt r) := by
  obtain ⟨c, ms, s⟩ := r
  cases c
  case ok =>
    simp only [fmK2]
    exact (skipSpaces_agree (f+1) (g+1) _ _ hr (by omega) (by omega)).bind (fmK3_agree hM hf hg)
      (kept_skipSpaces (rem_latch k) _ _ hr)
  all_goals exact .refl h

theorem fmK1_agree {L : Nat} {flt : Flt} {ms : List (List Byte × Val)} {key : List Byte} (hV : AgV cfg f g)
    (sV : AgSV cfg f g) (hM : AgM cfg f g) (hf : 2 * k ≤ f) (hg : 2 * k ≤ g) (r : Code × St)
    (hr : rem r.2 ≤ k) (h : r.1 ≠ .fuel) :
    Agree (fmK1 cfg f L flt ms key r) (fmK1 cfg g L flt ms key r) := by
  obtain ⟨c, s⟩ := r
  cases c
  case ok =>
    simp only [fmK1]
    refine of_ite₂ (fun _ => .done (by decide)) fun hcol => ?_
    obtain ⟨hk, h1⟩ := step hr (nz_of_colon hcol)
    exact (fmVal_agree hV sV _ h1 (by omega) (by omega)).bind (fmK2_agree hM (by omega) (by omega))
      (kept_fmVal (rem_latch _) (kept_fparse_mutual (rem_latch _) _) _ h1)
  all_goals exact .refl h

theorem fmK0_agree {L : Nat} {flt : Flt} {ms : List (List Byte × Val)} (hV : AgV cfg f g) (sV : AgSV cfg f g)
    (hM : AgM cfg f g) (hf : 2 * k ≤ f) (hg : 2 * k ≤ g) (r : Code × List Byte × St)
    (hr : rem r.2.2 ≤ k) (h : r.1 ≠ .fuel) :
    Agree (fmK0 cfg f L flt ms r) (fmK0 cfg g L flt ms r) := by
  obtain ⟨c, key, s⟩ := r
  cases c
  case ok =>
    simp only [fmK0]
    exact (skipSpaces_agree (f+1) (g+1) _ _ hr (by omega) (by omega)).bind (fmK1_agree hV sV hM hf hg)
      (kept_skipSpaces (rem_latch k) _ _ hr)
  all_goals exact .refl h

end fparse

theorem fparse_agree_mutual {cfg : Cfg} : ∀ f g, AgV cfg f g ∧ AgE cfg f g ∧ AgM cfg f g := by
  intro f
  induction f with
  | zero => intro g; exact ⟨fun _ _ _ _ _ hf => by omega, fun _ _ _ _ _ _ hf => by omega, fun _ _ _ _ _ _ hf => by omega⟩
  | succ f ih =>
    intro g
    cases g with
    | zero =>
      exact ⟨fun _ _ _ _ _ _ hg => by omega, fun _ _ _ _ _ _ _ hg => by omega, fun _ _ _ _ _ _ _ hg => by omega⟩
    | succ g =>
      obtain ⟨ihV, ihE, ihM⟩ := ih g
      obtain ⟨sV, sE, sM⟩ := skip_agree_mutual (cfg := cfg) f g
      refine ⟨fun L flt s k h hf hg => ?_, fun L flt s acc k h hf hg => ?_, fun L flt s ms k h hf hg => ?_⟩
      · rw [fparseVariant_succ, fparseVariant_succ]
        exact (skipSpaces_agree (f+1) (g+1) s k h (by omega) (by omega)).bind
          (fvK_agree ihE ihM sE sM (by omega) (by omega)) (kept_skipSpaces (rem_latch k) _ _ h)
      · rw [fparseElems_succ, fparseElems_succ]
        exact (feElem_agree ihV sV s acc h (by omega) (by omega)).bind (feK1_agree ihE (by omega) (by omega))
          (kept_feElem (rem_latch k) (kept_fparse_mutual (rem_latch k) _) _ h)
      · rw [fparseMembers_succ, fparseMembers_succ]
        exact (pmKey_agree s k h (by omega) (by omega)).bind (fmK0_agree ihV sV ihM (by omega) (by omega))
          (kept_pmKey (rem_latch k) _ h)

/-! ## never out of fuel -/

theorem frun_ne_fuel (cfg : Cfg) (limit : Nat) (flt : Flt) (input : List Byte) :
    (frun cfg limit flt input).1 ≠ .fuel := by
  have h0 : rem ({ l := { unread := input } } : St) ≤ input.length := by simp [rem]
  rw [frun_eq]
  have hf : 2 * input.length + 1 ≤ 2 * input.length + 4 := by omega
  exact fun h => ((fparse_agree_mutual (cfg := cfg) _ _).1 limit flt _ input.length h0 hf hf).2
    (finishRun_code h (by decide))

theorem run_ne_fuel (cfg : Cfg) (limit : Nat) (input : List Byte) : (run cfg limit input).1 ≠ .fuel := by
  rw [run_all]; exact frun_ne_fuel cfg limit .all input
end JD
