/- An `IncompleteInput` text can be completed: the mutually recursive routines. -/
import AJ.Lemmas.ClassExt2
set_option linter.unusedSimpArgs false
set_option linter.unusedVariables false
namespace JD
open Spec.Dialect

def IV (cfg : Cfg) (fuel : Nat) : Prop :=
  ∀ (L : Nat) (s : St) (r : List Byte) (v : Val) (s' : St), Rem s r → r.length + 4 ≤ cfg.maxStrLen →
    parseVariant cfg fuel L s = (.incomplete, v, s') →
    ∃ a x w body v', Ends r a ∧ a ++ x = w ++ body ∧ DWs cfg w ∧ Value cfg L body v'

def IE (cfg : Cfg) (fuel : Nat) : Prop :=
  ∀ (L : Nat) (s : St) (r : List Byte) (acc : List Val) (v : Val) (s' : St), Rem s r → r.length + 4 ≤ cfg.maxStrLen →
    parseElems cfg fuel L s acc = (.incomplete, v, s') →
    ∃ a x body xs, Ends r a ∧ a ++ x = body ++ [0x5D] ∧ Elements cfg L body xs

def IM (cfg : Cfg) (fuel : Nat) : Prop :=
  ∀ (L : Nat) (s : St) (r : List Byte) (acc : List (List Byte × Val)) (v : Val) (s' : St), Rem s r →
    r.length + 4 ≤ cfg.maxStrLen → parseMembers cfg fuel L s acc = (.incomplete, v, s') →
    ∃ a x body ms, Ends r a ∧ a ++ x = body ++ [0x7D] ∧ Members cfg L body ms

theorem parseNumeric_ne_incomplete (cfg : Cfg) (s : St) : (parseNumeric cfg s).1 ≠ .incomplete := by
  unfold parseNumeric
  generalize scanNumber cfg (Gen.number_buffer - 1) [] s = q
  obtain ⟨buf, X⟩ := q
  simp only
  split <;> exact Code.noConfusion

theorem value_zero (cfg : Cfg) (L : Nat) : Value cfg L [0x30] (.num (.uint 0)) := Value.num L _ _ (numTok_zero cfg)

/-- a string completed by `parseQuoted_inc` -/
theorem str_completion {cfg : Cfg} {q : Byte} {a x r : List Byte} (ha : Ends r a) (hx : x.length ≤ 4)
    (hd : (decodeBody cfg q 0 (a ++ x)).isSome = true) (hB : r.length + 4 ≤ cfg.maxStrLen) :
    ∃ y, decodeBody cfg q 0 (a ++ x) = some y ∧ y.length ≤ cfg.maxStrLen := by
  cases hdb : decodeBody cfg q 0 (a ++ x) with
  | none => rw [hdb] at hd; cases hd
  | some y =>
    refine ⟨y, rfl, ?_⟩
    have h1 := decodeBody_length hdb
    have h2 := ha.length_le
    simp at h1
    omega

/-- the member that completes an object when the text ends in or right after the key `kt` -/
theorem member_k0 (cfg : Cfg) (L : Nat) {kt k w2 : List Byte} (hk : Key cfg kt k) (hw2 : DWs cfg w2) :
    Members cfg L ([] ++ kt ++ w2 ++ 0x3A :: [] ++ [0x30] ++ []) [(k, .num (.uint 0))] :=
  Members.one L [] kt k w2 [] [0x30] _ [] DWs.nil hk hw2 DWs.nil (value_zero cfg L) DWs.nil

/-- an unquoted key `a` and the value `0`: the member that completes an object after a comma -/
theorem member_a0 (cfg : Cfg) (L : Nat) {w : List Byte} (hw : DWs cfg w) (h1 : 1 ≤ cfg.maxStrLen) :
    Members cfg L (w ++ [0x61] ++ [] ++ 0x3A :: [] ++ [0x30] ++ []) [([0x61], .num (.uint 0))] :=
  Members.one L w [0x61] [0x61] [] [] [0x30] _ [] hw
    (Key.bare [0x61] (by simp) (by intro c hc; simp at hc; subst hc; decide) h1) DWs.nil DWs.nil (value_zero cfg L) DWs.nil

/-! ## the pieces of one round (AJ/Lemmas/JDPieces.lean): where the call before a piece answered `IncompleteInput`
    its own completion is extended by the closing bytes; where it answered `Ok` the piece goes on behind what
    AJ/Lemmas/DialectSound2.lean says was consumed -/

section pieces
variable {cfg : Cfg} {f L n : Nat} {s s' : St} {r : List Byte} {v : Val}

theorem pvArr_inc (hE : IE cfg f) (hr : Rem s r) (hB : r.length + 4 ≤ cfg.maxStrLen)
    (h : pvArr cfg f L (skipSpaces cfg n s) = (.incomplete, v, s')) :
    ∃ a x t v', Ends (0x5B :: r) a ∧ a ++ x = t ∧ Value cfg (L + 1) t v' := by
  unfold pvArr at h
  split at h
  next s1 hs =>
    obtain ⟨w, c, r1, rfl, hw, hr1, hc, _⟩ := skipSpaces_latched hr hs
    rw [hc] at h
    rcases ite_eq_cases h with ⟨_, h⟩ | ⟨_, h⟩
    · cases h
    · obtain ⟨a, x, body, xs, ha, hx, he⟩ := hE _ _ _ _ _ _ hr1 (by simp at hB ⊢; omega) h
      refine ⟨0x5B :: (w ++ a), x, 0x5B :: (w ++ body) ++ [0x5D], .arr xs, (ha.prepend w).cons, ?_,
        Value.arr _ _ _ (he.prepend hw)⟩
      simp only [List.append_assoc, List.cons_append]
      rw [hx]
  next e s1 _ hs =>
    obtain ⟨rfl, _, _⟩ := tuple_eq3 h
    obtain ⟨a, x, ha, hd⟩ := skipSpaces_inc cfg _ _ _ _ _ hr hs (.inl rfl)
    exact ⟨0x5B :: a, x ++ [0x5D], 0x5B :: (a ++ x) ++ [0x5D], .arr [], ha.cons, by simp, Value.arrEmpty _ _ hd⟩

theorem pvObj_inc (hM : IM cfg f) (hr : Rem s r) (hB : r.length + 4 ≤ cfg.maxStrLen)
    (h : pvObj cfg f L (skipSpaces cfg n s) = (.incomplete, v, s')) :
    ∃ a x t v', Ends (0x7B :: r) a ∧ a ++ x = t ∧ Value cfg (L + 1) t v' := by
  unfold pvObj at h
  split at h
  next s1 hs =>
    obtain ⟨w, c, r1, rfl, hw, hr1, hc, _⟩ := skipSpaces_latched hr hs
    rw [hc] at h
    rcases ite_eq_cases h with ⟨_, h⟩ | ⟨_, h⟩
    · cases h
    · obtain ⟨a, x, body, ms, ha, hx, hm⟩ := hM _ _ _ _ _ _ hr1 (by simp at hB ⊢; omega) h
      refine ⟨0x7B :: (w ++ a), x, 0x7B :: (w ++ body) ++ [0x7D], .obj (lastWins ms), (ha.prepend w).cons, ?_,
        Value.obj _ _ _ (hm.prepend hw)⟩
      simp only [List.append_assoc, List.cons_append]
      rw [hx]
  next e s1 _ hs =>
    obtain ⟨rfl, _, _⟩ := tuple_eq3 h
    obtain ⟨a, x, ha, hd⟩ := skipSpaces_inc cfg _ _ _ _ _ hr hs (.inl rfl)
    exact ⟨0x7B :: a, x ++ [0x7D], 0x7B :: (a ++ x) ++ [0x7D], .obj [], ha.cons, by simp, Value.objEmpty _ _ hd⟩

theorem pvStr_inc {q : Byte} (hq : IsQuote q) (hr : Rem s r) (hB : r.length + 4 ≤ cfg.maxStrLen)
    (h : pvStr (parseQuoted cfg q n [] 0 s) = (.incomplete, v, s')) :
    ∃ a x t v', Ends (q :: r) a ∧ a ++ x = t ∧ Value cfg L t v' := by
  unfold pvStr at h
  split at h
  next => cases h
  next e _ s1 _ hs =>
    obtain ⟨rfl, _, _⟩ := tuple_eq3 h
    obtain ⟨a, x, ha, hx, hd⟩ := parseQuoted_inc hq _ _ _ _ _ _ _ hr hs
    obtain ⟨y, hy, hl⟩ := str_completion ha hx (hd 0) hB
    exact ⟨q :: a, x ++ [q], q :: (a ++ x) ++ [q], .str y, ha.cons, by simp, Value.str _ _ _ _ hq hy hl⟩

theorem pvTok_inc {c : Byte} (hE : IE cfg f) (hM : IM cfg f) (hr : Rem s r) (hc : cur s = (c, s))
    (hB : r.length + 4 ≤ cfg.maxStrLen) (h : pvTok cfg f L s = (.incomplete, v, s')) :
    ∃ a x t v', Ends r a ∧ a ++ x = t ∧ Value cfg L t v' := by
  have hc1 : (cur s).1 = c := congrArg Prod.fst hc
  rcases tok_cases c with rfl | rfl | hq | hk | hn
  · obtain ⟨r1, rfl, hr1⟩ := hr.eat hc (by decide)
    cases L with
    | zero => rw [pvTok_arr0 hc1] at h; cases h
    | succ L' =>
      rw [pvTok_arr hc1, hc] at h
      exact pvArr_inc hE hr1 (Nat.le_of_succ_le hB) h
  · obtain ⟨r1, rfl, hr1⟩ := hr.eat hc (by decide)
    cases L with
    | zero => rw [pvTok_obj0 hc1] at h; cases h
    | succ L' =>
      rw [pvTok_obj hc1, hc] at h
      exact pvObj_inc hM hr1 (Nat.le_of_succ_le hB) h
  · obtain ⟨r1, rfl, hr1⟩ := hr.eat hc (isQuote_facts hq).1
    rw [pvTok_str (by rw [hc1]; exact hq), hc] at h
    exact pvStr_inc hq hr1 (Nat.le_of_succ_le hB) h
  · obtain ⟨ks, kv, hk, e⟩ := pvTok_kw hk
    rw [e _ _ _ _ hc1, hc] at h
    obtain ⟨h1, _, h3⟩ := tuple_eq3 h
    obtain ⟨a, x, ha, hx⟩ := skipKeyword_inc _ _ _ _ hr (Prod.ext h1 h3)
    exact ⟨a, x, _, _, ha, hx, (keyword_sound hk).1⟩
  · rw [pvTok_num (by rw [hc1]; exact hn), hc] at h
    exact absurd (congrArg Prod.fst h) (parseNumeric_ne_incomplete cfg s)

theorem peK2_inc {w1 t : List Byte} {acc : List Val} {x : Val} (hE : IE cfg f) (hw1 : DWs cfg w1)
    (ht : Value cfg L t x) (hr : Rem s r) (hB : r.length + 4 ≤ cfg.maxStrLen)
    (h : peK2 cfg f L (x :: acc) (skipSpaces cfg n s) = (.incomplete, v, s')) :
    ∃ a y body xs, Ends (w1 ++ t ++ r) a ∧ a ++ y = body ++ [0x5D] ∧ Elements cfg L body xs := by
  unfold peK2 at h
  split at h
  next s1 hs =>
    obtain ⟨w2, c, r1, rfl, hw2, hr1, hc, _⟩ := skipSpaces_latched hr hs
    rw [hc] at h
    rcases ite_eq_cases h with ⟨_, h⟩ | ⟨_, h⟩
    · cases h
    rcases ite_eq_cases h with ⟨hd, h⟩ | ⟨_, h⟩
    · obtain rfl := eq_of_beq hd
      obtain ⟨r2, rfl, hr2⟩ := hr1.eat hc (by decide)
      obtain ⟨a, y, body, xs, ha, hy, he⟩ := hE _ _ _ _ _ _ hr2 (by simp at hB ⊢; omega) h
      refine ⟨w1 ++ t ++ w2 ++ 0x2C :: a, y, w1 ++ t ++ w2 ++ 0x2C :: body, x :: xs, ?_, ?_,
        Elements.cons _ _ _ _ _ _ _ hw1 ht hw2 he⟩
      · have := ((ha.cons (c := 0x2C)).prepend w2).prepend (w1 ++ t)
        simpa using this
      · simp only [List.append_assoc, List.cons_append]
        rw [hy]
    · cases h
  next e s1 _ hs =>
    obtain ⟨rfl, _, _⟩ := tuple_eq3 h
    obtain ⟨a, y, ha, hd⟩ := skipSpaces_inc cfg _ _ _ _ _ hr hs (.inl rfl)
    exact ⟨w1 ++ t ++ a, y ++ [0x5D], w1 ++ t ++ (a ++ y), [x], ha.prepend (w1 ++ t), by simp,
      Elements.one _ _ _ _ _ hw1 ht hd⟩

theorem pmKey_inc {s1 : St} {key : List Byte} (hr : Rem s r) (hB : r.length + 4 ≤ cfg.maxStrLen)
    (h : pmKey cfg f s = (.incomplete, key, s1)) : ∃ a x k, Ends r a ∧ Key cfg (a ++ x) k := by
  have hr0 := hr.look.1
  have hc := cur_cur s
  unfold pmKey at h
  generalize cur s = p at h hr0 hc
  obtain ⟨c, s0⟩ := p
  rcases ite_eq_cases h with ⟨hq, h⟩ | ⟨_, h⟩
  · have hq' := isQuote_of_beq hq
    obtain ⟨t, rfl, ht⟩ := hr0.eat hc (isQuote_facts hq').1
    obtain ⟨a, x, ha, hx, hd⟩ := parseQuoted_inc hq' _ _ _ _ _ _ _ ht h
    obtain ⟨y, hy, hl⟩ := str_completion ha hx (hd 0) (Nat.le_of_succ_le hB)
    refine ⟨c :: a, x ++ [c], y, ha.cons, ?_⟩
    have := Key.quoted (cfg := cfg) c (a ++ x) y hq' hy hl
    simpa using this
  rcases ite_eq_cases h with ⟨_, h⟩ | ⟨_, h⟩
  · -- an unquoted key ends at any byte that is not part of it: `Ok` or `NoMemory`
    generalize parseUnquoted (f + 1) [] s0 = p at h
    rcases ite_eq_cases (tuple_eq3 h).1 with ⟨_, e⟩ | ⟨_, e⟩ <;> cases e
  · cases h

variable {acc : List (List Byte × Val)} {kt k : List Byte}

/-- after a comma a member is due: the text ends in the white space before it, or in the members that follow -/
theorem pmK4_inc (hM : IM cfg f) (hr : Rem s r) (hB : r.length + 4 ≤ cfg.maxStrLen)
    (h : pmK4 cfg f L acc (skipSpaces cfg n s) = (.incomplete, v, s')) :
    ∃ a y body ms, Ends r a ∧ a ++ y = body ++ [0x7D] ∧ Members cfg L body ms := by
  unfold pmK4 at h
  split at h
  next s1 hs =>
    obtain ⟨w, r1, rfl, hw, hr1, _⟩ := skipSpaces_sound cfg _ _ _ _ hr hs
    obtain ⟨a, y, body, ms, ha, hy, hm⟩ := hM _ _ _ _ _ _ hr1 (by simp at hB ⊢; omega) h
    exact ⟨w ++ a, y, w ++ body, ms, ha.prepend w, by rw [List.append_assoc, hy, List.append_assoc], hm.prepend hw⟩
  next e s1 _ hs =>
    obtain ⟨rfl, _, _⟩ := tuple_eq3 h
    obtain ⟨a, y, ha, hd⟩ := skipSpaces_inc cfg _ _ _ _ _ hr hs (.inl rfl)
    exact ⟨a, y ++ [0x61, 0x3A, 0x30, 0x7D], _, _, ha, by simp, member_a0 cfg L hd (by omega)⟩

theorem pmK3_inc {w2 w3 t : List Byte} {x : Val} (hM : IM cfg f) (hk : Key cfg kt k) (hw2 : DWs cfg w2)
    (hw3 : DWs cfg w3) (ht : Value cfg L t x) (hr : Rem s r) (hB : r.length + 4 ≤ cfg.maxStrLen)
    (h : pmK3 cfg f L acc (skipSpaces cfg n s) = (.incomplete, v, s')) :
    ∃ a y body ms, Ends (kt ++ w2 ++ 0x3A :: w3 ++ t ++ r) a ∧ a ++ y = body ++ [0x7D] ∧ Members cfg L body ms := by
  unfold pmK3 at h
  split at h
  next s1 hs =>
    obtain ⟨w4, c, r1, rfl, hw4, hr1, hc, _⟩ := skipSpaces_latched hr hs
    rw [hc] at h
    rcases ite_eq_cases h with ⟨_, h⟩ | ⟨_, h⟩
    · cases h
    rcases ite_eq_cases h with ⟨hd, h⟩ | ⟨_, h⟩
    · obtain rfl := eq_of_beq hd
      obtain ⟨r2, rfl, hr2⟩ := hr1.eat hc (by decide)
      obtain ⟨a, y, body, ms, ha, hy, hm⟩ := pmK4_inc hM hr2 (by simp at hB ⊢; omega) h
      refine ⟨kt ++ w2 ++ 0x3A :: w3 ++ t ++ w4 ++ 0x2C :: a, y,
        [] ++ kt ++ w2 ++ 0x3A :: w3 ++ t ++ w4 ++ 0x2C :: body, (k, x) :: ms, ?_, ?_,
        Members.cons _ _ _ _ _ _ _ _ _ _ _ DWs.nil hk hw2 hw3 ht hw4 hm⟩
      · have := ((ha.cons (c := 0x2C)).prepend w4).prepend (kt ++ w2 ++ 0x3A :: w3 ++ t)
        simpa using this
      · simp only [List.append_assoc, List.cons_append, List.nil_append]
        rw [hy]
    · cases h
  next e s1 _ hs =>
    obtain ⟨rfl, _, _⟩ := tuple_eq3 h
    obtain ⟨a, y, ha, hd⟩ := skipSpaces_inc cfg _ _ _ _ _ hr hs (.inl rfl)
    exact ⟨kt ++ w2 ++ 0x3A :: w3 ++ t ++ a, y ++ [0x7D], [] ++ kt ++ w2 ++ 0x3A :: w3 ++ t ++ (a ++ y), _,
      ha.prepend _, by simp, Members.one _ _ _ _ _ _ _ _ _ DWs.nil hk hw2 hw3 ht hd⟩

theorem pmK1_inc (hV : IV cfg f) (hM : IM cfg f) (hk : Key cfg kt k) (hr : Rem s r)
    (hB : r.length + 4 ≤ cfg.maxStrLen) (h : pmK1 cfg f L acc k (skipSpaces cfg n s) = (.incomplete, v, s')) :
    ∃ a y body ms, Ends (kt ++ r) a ∧ a ++ y = body ++ [0x7D] ∧ Members cfg L body ms := by
  unfold pmK1 at h
  split at h
  next s1 hs =>
    obtain ⟨w2, c, r1, rfl, hw2, hr1, hc, _⟩ := skipSpaces_latched hr hs
    rw [hc] at h
    -- `replace`: the hypothesis about the whole `if` must not come back to the front when `c` is substituted
    replace h := ite_eq_cases h
    rcases h with ⟨_, h⟩ | ⟨hd, h⟩
    · cases h
    obtain rfl : c = 0x3A := by simpa using hd
    obtain ⟨r2, rfl, hr2⟩ := hr1.eat hc (by decide)
    unfold pmK2 at h
    split at h
    next x s2 hx =>
      obtain ⟨w3, t, r3, rfl, hw3, ht, hr3, _⟩ := (sound_all cfg f).1 _ _ _ _ _ hr2 hx
      obtain ⟨a, y, body, ms, ha, hy, hm⟩ := pmK3_inc hM hk hw2 hw3 ht hr3 (by simp at hB ⊢; omega) h
      exact ⟨a, y, body, ms, by simpa using ha, hy, hm⟩
    next e x s2 _ hx =>
      obtain ⟨rfl, _, _⟩ := tuple_eq3 h
      obtain ⟨a, y, w, body, v', ha, hy, hw, hv⟩ := hV _ _ _ _ _ hr2 (by simp at hB ⊢; omega) hx
      refine ⟨kt ++ w2 ++ 0x3A :: a, y ++ [0x7D], [] ++ kt ++ w2 ++ 0x3A :: w ++ body ++ [], _, ?_, ?_,
        Members.one _ _ _ _ _ _ _ _ _ DWs.nil hk hw2 hw hv DWs.nil⟩
      · have := ((ha.cons (c := 0x3A)).prepend w2).prepend kt
        simpa using this
      · simp only [List.append_assoc, List.cons_append, List.nil_append, List.append_nil]
        rw [← List.append_assoc a y, hy]
        simp
  next e s1 _ hs =>
    obtain ⟨rfl, _, _⟩ := tuple_eq3 h
    obtain ⟨a, y, ha, hd⟩ := skipSpaces_inc cfg _ _ _ _ _ hr hs (.inl rfl)
    exact ⟨kt ++ a, y ++ [0x3A, 0x30, 0x7D], _, _, ha.prepend kt, by simp, member_k0 cfg L hk hd⟩

end pieces

theorem iv_step (cfg : Cfg) (fuel : Nat) (hE : IE cfg fuel) (hM : IM cfg fuel) : IV cfg (fuel + 1) := by
  intro L s r v s' hr hB h
  rw [parseVariant_succ] at h
  unfold pvK at h
  split at h
  next s1 hs =>
    obtain ⟨w, c, r1, rfl, hw, hr1, hc, _⟩ := skipSpaces_latched hr hs
    obtain ⟨a, x, t, v', ha, hx, hv⟩ := pvTok_inc hE hM hr1 hc (by simp at hB ⊢; omega) h
    exact ⟨w ++ a, x, w, t, v', ha.prepend w, by rw [List.append_assoc, hx], hw, hv⟩
  next e s1 _ hs =>
    -- nothing of the value has been read: `0` completes it
    obtain ⟨rfl, _, _⟩ := tuple_eq3 h
    obtain ⟨a, x, ha, hd⟩ := skipSpaces_inc cfg _ _ _ _ _ hr hs (.inl rfl)
    exact ⟨a, x ++ [0x30], a ++ x, [0x30], _, ha, by simp, hd, value_zero cfg L⟩

theorem ie_step (cfg : Cfg) (fuel : Nat) (hV : IV cfg fuel) (hE : IE cfg fuel) : IE cfg (fuel + 1) := by
  intro L s r acc v s' hr hB h
  rw [parseElems_succ] at h
  unfold peK1 at h
  split at h
  next x s1 hx =>
    obtain ⟨w1, t, r1, rfl, hw1, ht, hr1, _⟩ := (sound_all cfg fuel).1 _ _ _ _ _ hr hx
    exact peK2_inc hE hw1 ht hr1 (by simp at hB ⊢; omega) h
  next e x s1 _ hx =>
    obtain ⟨rfl, _, _⟩ := tuple_eq3 h
    obtain ⟨a, y, w, body, v', ha, hy, hw, hv⟩ := hV _ _ _ _ _ hr hB hx
    refine ⟨a, y ++ [0x5D], w ++ body ++ [], [v'], ha, ?_, Elements.one _ _ _ _ _ hw hv DWs.nil⟩
    rw [← List.append_assoc, hy]
    simp

theorem im_step (cfg : Cfg) (fuel : Nat) (hV : IV cfg fuel) (hM : IM cfg fuel) : IM cfg (fuel + 1) := by
  intro L s r acc v s' hr hB h
  rw [parseMembers_succ] at h
  unfold pmK0 at h
  split at h
  next key s1 hkey =>
    obtain ⟨kt, r1, rfl, hk, hr1⟩ := pmKey_sound hr hkey
    exact pmK1_inc hV hM hk hr1 (by simp at hB ⊢; omega) h
  next e key s1 _ hkey =>
    obtain ⟨rfl, _, _⟩ := tuple_eq3 h
    obtain ⟨a, x, k, ha, hk⟩ := pmKey_inc hr hB hkey
    exact ⟨a, x ++ [0x3A, 0x30, 0x7D], _, _, ha, by simp, member_k0 cfg L hk DWs.nil⟩

/-- **every `IncompleteInput` of the three routines can be completed** -/
theorem inc_all (cfg : Cfg) : ∀ fuel, IV cfg fuel ∧ IE cfg fuel ∧ IM cfg fuel := by
  intro fuel
  induction fuel with
  | zero =>
    refine ⟨?_, ?_, ?_⟩
    · intro limit s r v s' _ _ h; simp [parseVariant] at h
    · intro limit s r acc v s' _ _ h; simp [parseElems] at h
    · intro limit s r acc v s' _ _ h; simp [parseMembers] at h
  | succ n ih => exact ⟨iv_step cfg n ih.2.1 ih.2.2, ie_step cfg n ih.1 ih.2.1, im_step cfg n ih.1 ih.2.2⟩

end JD
