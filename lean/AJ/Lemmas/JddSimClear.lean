/- Simulation of the slot-level deserializer `JDD` by the abstract one `JD`, part 3: a duplicate key. The value slot of
   the member found is cleared (`VariantData::clear`: its subtree, extension slots and string references are given back) and
   filled again; in the local specification `Post` of the object being built, the layout below the slot is replaced. -/
import AJ.Lemmas.JddSimDoc
namespace JDD
open DL
open JD (Byte Val Cfg Code St)

/-- clearing the value in slot `v`, laid out as `sv`, with `K` the string references that must survive -/
theorem sim_clear_slot {d : Doc} {L : List Nat} {v : Nat} {sv : Forest} {K : List Nat}
    (hp : PL.Inv d.g d.pl) (H : ExtH d L) (hvL : v ∈ L) (hsL : ∀ j ∈ sv.ids, j ∈ L)
    (hvok : VOK d (d.get (.slot v)) sv) (hnd : sv.ids.Nodup) (hvs : v ∉ sv.ids)
    (hlive : ∀ x, Terr d (v :: sv.ids) x → PL.live d.g d.pl x)
    (hfu : sv.ids.length < d.fuel)
    (hs : StrOK d (strOfV (d.get (.slot v)) ++ (goneF d sv ++ K))) :
    ∃ dm, d.clearV (.slot v) = dm.set (.slot v) .null ∧ Eff d dm (extOfV (d.get (.slot v)) ++ fpF d sv) K ∧
      v ∉ extOfV (d.get (.slot v)) ++ fpF d sv ∧
      (∀ x ∈ extOfV (d.get (.slot v)) ++ fpF d sv, Terr d (v :: sv.ids) x) := by
  obtain ⟨hX, hXt⟩ := fpF_terr_nodup H sv hsL hnd
  obtain ⟨hndp, hterr⟩ := slot_piece (i := v) H hX hXt hvL hsL hvs
  obtain ⟨hnd1, _, hdisj⟩ := List.nodup_append.1 hndp
  obtain ⟨dm, hdm, he⟩ := PV_A Eff.clearRel (PCsA_all Eff.clearRel sv) (f := d.fuel) (l := .slot v) (fpk := []) (gk := [])
    hvok (Nat.lt_of_le_of_lt sv.depth_le hfu) (Nat.le_of_lt hfu) rfl (Eff.refl hp hs) (fun _ _ m => nomatch m)
    (fun x hx => hlive x (hterr x (List.mem_append_left _ hx))) hnd1
  exact ⟨dm, hdm, he, fun m => hdisj v m v (by simp) rfl, fun x hx => hterr x (List.mem_append_left _ hx)⟩

/-- the extension-slot discipline of what was built, in the form used by the clearing lemmas -/
theorem sim_extH {d0 d : Doc} {l : Loc} {v : VData} {s : Forest} (A : Att d0 d l v s) : ExtH d s.ids := by
  constructor
  · intro j hj e he hm
    obtain ⟨⟨p, hp⟩, _, _⟩ := A.ext (.slot j) (List.mem_cons_of_mem _ (List.mem_map_of_mem hj)) e he
    exact ext_ne_var hp (A.isVar e hm) rfl
  · intro j hj j' hj' e he he'
    have := (A.ext (.slot j) (List.mem_cons_of_mem _ (List.mem_map_of_mem hj)) e he).2.2 (.slot j')
      (List.mem_cons_of_mem _ (List.mem_map_of_mem hj')) he'
    cases this; rfl

theorem sim_perm_of_mem {l1 l2 : List Nat} (h1 : l1.Nodup) (h2 : l2.Nodup) (h : ∀ x, x ∈ l1 ↔ x ∈ l2) : List.Perm l1 l2 :=
  (List.perm_ext_iff_of_nodup h1 h2).2 h

set_option maxRecDepth 4000 in
/-- DUPLICATE KEY. The member value slot `v` of the object being built at `l` is cleared: it is a cleared place again, and
    whatever is then built in it replaces the old value in the abstract member list, the layout below `v` being replaced. -/
theorem sim_obj_refill {d0 d : Doc} {l : Loc} {h t v : Nat} {sl : Forest}
    (P0 : Pre d0 l) (P : Post d0 d l (.obj h t) sl) (hv : v ∈ sl.locs) :
    Pre (d.clearV (.slot v)) (.slot v) ∧ (d.clearV (.slot v)).overflowed = d.overflowed ∧
    ∀ (d2 : Doc) (ve : VData) (se : Forest), Post (d.clearV (.slot v)) d2 (.slot v) ve se →
      Post d0 d2 l (.obj h t) (sl.replaceSub v se) ∧
      vals d2 noOv (sl.replaceSub v se) = vals d (ov1 v (d2.valOf ve se)) sl := by
  have gokd : PL.GeoOK d.g := by rw [P.fr.g]; exact P0.gok
  obtain ⟨rs0, hrs0⟩ := P0.str
  obtain ⟨hlk, ht⟩ := (VOK_obj _ _ _ _).1 P.att.vok
  have hndl := P.att.nodup
  obtain ⟨hvar, hvn, hvok⟩ := Forest.Lk_subOf sl hlk hndl hv
  have hvids : v ∈ sl.ids := sl.locs_sub_ids v hv
  have hsvsub : ∀ x ∈ (sl.subOf v).ids, x ∈ sl.ids := sl.subOf_ids_sub v
  have hvs : v ∉ (sl.subOf v).ids := Forest.self_notin_subOf sl v hndl
  have hsvnd : (sl.subOf v).ids.Nodup := layoutAt_nodup (F := sl) hndl (l := .slot v) hv
  have H : ExtH d sl.ids := sim_extH P.att
  have hVS : ∀ j ∈ v :: (sl.subOf v).ids, j ∈ sl.ids := by
    intro j hj
    rcases List.mem_cons.1 hj with e | m
    · exact e ▸ hvids
    · exact hsvsub j m
  have hmemH : ∀ j ∈ sl.ids, Loc.slot j ∈ l :: sl.ids.map Loc.slot := fun j hj =>
    List.mem_cons_of_mem _ (List.mem_map_of_mem hj)
  have hlive : ∀ x, Terr d (v :: (sl.subOf v).ids) x → PL.live d.g d.pl x := by
    rintro x (m | ⟨j, hj, he⟩)
    · exact (P.att.fresh x (hVS x m)).2
    · exact (P.att.ext (.slot j) (hmemH j (hVS j hj)) x he).2.1
  have hterr0 : ∀ x, Terr d (v :: (sl.subOf v).ids) x → ¬ PL.live d0.g d0.pl x := by
    rintro x (m | ⟨j, hj, he⟩)
    · exact (P.att.fresh x (hVS x m)).1
    · exact P.att.extfresh (.slot j) (hmemH j (hVS j hj)) x he
  have hfu : (sl.subOf v).ids.length < d.fuel :=
    Nat.lt_of_le_of_lt (List.Nodup.length_le_of_subset hsvnd (fun x hx => hsvsub x hx)) P.ids_lt_fuel
  -- the survivors of the chain
  have hR : ∀ x, x ∈ (sl.replaceSub v .nil).ids ↔ x ∈ sl.ids ∧ x ∉ (sl.subOf v).ids := by
    intro x; rw [Forest.mem_ids_replaceSub sl v .nil hndl hv]; simp [Forest.ids]
  have hRnd : (sl.replaceSub v .nil).ids.Nodup :=
    Forest.nodup_replaceSub sl v .nil hndl hv List.nodup_nil (fun x hx => by cases hx)
  have hvR : v ∈ (sl.replaceSub v .nil).ids := (hR v).2 ⟨hvids, hvs⟩
  generalize hRdef : (sl.replaceSub v .nil).ids = R at hR hRnd hvR
  have hsplit : List.Perm sl.ids ((sl.subOf v).ids ++ R) := by
    refine sim_perm_of_mem hndl (List.nodup_append.2 ⟨hsvnd, hRnd, ?_⟩) ?_
    · intro a ha b hb e; subst e; exact ((hR a).1 hb).2 ha
    · intro x
      simp only [List.mem_append, hR]
      constructor
      · intro hx
        by_cases hs : x ∈ (sl.subOf v).ids
        · exact Or.inl hs
        · exact Or.inr ⟨hx, hs⟩
      · rintro (hs | ⟨hx, _⟩)
        · exact hsvsub x hs
        · exact hx
  let Kv : List Nat := R.flatMap (fun j => if j = v then [] else strOfV (d.get (.slot j)))
  have hgone : List.Perm (goneF d sl) (strOfV (d.get (.slot v)) ++ (goneF d (sl.subOf v) ++ Kv)) := by
    have h1 := hsplit.flatMap_right (fun j => strOfV (d.get (.slot j)))
    rw [List.flatMap_append] at h1
    have h2 := flatMap_split (fun j => strOfV (d.get (.slot j))) v R hRnd hvR
    refine h1.trans (((List.Perm.refl _).append h2).trans ?_)
    show List.Perm (goneF d (sl.subOf v) ++ (strOfV (d.get (.slot v)) ++ Kv)) _
    rw [← List.append_assoc, ← List.append_assoc]
    exact List.Perm.append_right _ List.perm_append_comm
  have hS : ∀ rs, StrOK d0 rs → StrOK d (strOfV (d.get (.slot v)) ++ (goneF d (sl.subOf v) ++ (Kv ++ rs))) := by
    intro rs hs
    have h1 := P.att.str rs hs
    have : strOfV (VData.obj h t) = [] := rfl
    rw [this, List.nil_append] at h1
    refine StrOK_perm ?_ h1
    simpa only [List.append_assoc] using hgone.append_right rs
  -- structural facts of the clearing
  obtain ⟨dm0, hdm0, he0, hvfp, hfpT⟩ := sim_clear_slot (K := Kv ++ rs0) P.fr.pool H hvids hsvsub hvok hsvnd hvs
    hlive hfu (hS rs0 hrs0)
  generalize hfpdef : extOfV (d.get (.slot v)) ++ fpF d (sl.subOf v) = fp at he0 hvfp hfpT
  have hstrC : ∀ rs, StrOK d0 rs → StrOK (d.clearV (.slot v)) (Kv ++ rs) ∧
      ∀ n ∈ Kv ++ rs, (d.clearV (.slot v)).strBytes n = d.strBytes n := by
    intro rs hs
    obtain ⟨dm, hdm, he, _, _⟩ := sim_clear_slot (K := Kv ++ rs) P.fr.pool H hvids hsvsub hvok hsvnd hvs
      hlive hfu (hS rs hs)
    rw [hdm]
    exact ⟨StrOK_congr (set_strings _ _ _) (set_nextNode _ _ _) he.str,
      fun n hn => by rw [strBytes_set]; exact he.bytes n hn⟩
  have hovC : (d.clearV (.slot v)).overflowed = d.overflowed := clearV_overflowed d (.slot v)
  generalize d.clearV (.slot v) = dc at *
  have hgC : dc.g = d.g := by rw [hdm0, set_g, he0.g]
  have hnC : dc.null = d.null := by simp only [Doc.null, hgC]
  have hrootC : dc.root = d.root := by rw [hdm0, root_set_slot, he0.root]
  have hcellC : ∀ j, j ∉ fp → j ≠ v → dc.cell j = d.cell j := by
    intro j hj hjv
    rw [hdm0, cell_set_ne (fun e => hjv (by injection e)), he0.cells j hj]
  have hcvC : dc.cell v = .var .null (d.nextOf v) := by
    rw [hdm0, cell_set_slot, if_pos rfl, nextOf_of_cell (he0.cells v hvfp) he0.null]
  have hpoolC : PL.Inv dc.g dc.pl := by rw [hdm0, set_pl, set_g]; exact he0.pool
  have hliveC : ∀ x, PL.live dc.g dc.pl x ↔ PL.live d.g d.pl x ∧ x ∉ fp := by
    intro x; rw [hdm0, set_pl, set_g]; exact he0.live x
  have hfp0 : ∀ x ∈ fp, ¬ PL.live d0.g d0.pl x := fun x hx => hterr0 x (hfpT x hx)
  have hvlive : PL.live d.g d.pl v := (P.att.fresh v hvids).2
  have hvliveC : PL.live dc.g dc.pl v := (hliveC v).2 ⟨hvlive, hvfp⟩
  -- slots of the chain outside the cleared subtree are not in the footprint
  have hout_fp : ∀ j ∈ sl.ids, j ∉ (sl.subOf v).ids → j ∉ fp := by
    intro j hj hjs m
    rcases hfpT j m with m' | ⟨j', hj', he⟩
    · rcases List.mem_cons.1 m' with e | m''
      · exact hvfp (e ▸ m)
      · exact hjs m''
    · exact H.notid j' (hVS j' hj') j he hj
  -- extension slots of holders outside the cleared subtree
  have hext_out : ∀ j ∈ sl.ids, j ≠ v → j ∉ (sl.subOf v).ids → ∀ e ∈ extOfV (d.get (.slot j)),
      PL.live d.g d.pl e ∧ e ∉ fp ∧ e ≠ v := by
    intro j hj hjv hjs e he
    refine ⟨(P.att.ext (.slot j) (hmemH j hj) e he).2.1, ?_, fun e' => H.notid j hj e he (e' ▸ hvids)⟩
    intro m
    rcases hfpT e m with m' | ⟨j', hj', he'⟩
    · exact H.notid j hj e he (hVS e m')
    · have := H.uniq j hj j' (hVS j' hj') e he he'
      subst this
      rcases List.mem_cons.1 hj' with e' | m''
      · exact hjv e'
      · exact hjs m''
  have preC : Pre dc (.slot v) :=
    ⟨by rw [hgC]; exact gokd, hpoolC, get_of_var hcvC, fun i e => by cases e; exact ⟨hvliveC, isVar_of_var hcvC⟩,
      ⟨_, (hstrC rs0 hrs0).1⟩⟩
  refine ⟨preC, hovC, ?_⟩
  intro d2 ve se P2
  have hn2 : d2.null = d.null := by rw [P2.fr.null, hnC]
  have hc2 : ∀ x, PL.live dc.g dc.pl x → x ≠ v → d2.cell x = dc.cell x := fun x hx hxv =>
    P2.fr.cells x hx (by simp only [List.mem_singleton, Loc.slot.injEq]; exact hxv)
  have hcell_old : ∀ x, PL.live d.g d.pl x → x ∉ fp → x ≠ v → d2.cell x = d.cell x := fun x hx hxf hxv => by
    rw [hc2 x ((hliveC x).2 ⟨hx, hxf⟩) hxv, hcellC x hxf hxv]
  have hlive_old : ∀ x, PL.live d.g d.pl x → x ∉ fp → PL.live d2.g d2.pl x := fun x hx hxf =>
    P2.fr.live x ((hliveC x).2 ⟨hx, hxf⟩)
  have hcv2 : d2.cell v = .var ve (d.nextOf v) := by rw [P2.att.slot v rfl, nextOf_of_var hcvC]
  have hsC0 := (hstrC rs0 hrs0).1
  have hbytes_old : ∀ n ∈ Kv, d2.strBytes n = d.strBytes n := fun n hn => by
    rw [P2.fr.bytes hsC0 (List.mem_append_left _ hn), (hstrC rs0 hrs0).2 n (List.mem_append_left _ hn)]
  have hKv : ∀ j ∈ sl.ids, j ≠ v → j ∉ (sl.subOf v).ids → ∀ n ∈ strOfV (d.get (.slot j)), n ∈ Kv := by
    intro j hj hjv hjs n hn
    simp only [Kv, List.mem_flatMap]
    exact ⟨j, (hR j).2 ⟨hj, hjs⟩, by rw [if_neg hjv]; exact hn⟩
  have hgood : ∀ j ∈ sl.ids, j ≠ v → j ∉ (sl.subOf v).ids → Good d d2 j := by
    intro j hj hjv hjs
    refine ⟨hcell_old j (P.att.fresh j hj).2 (hout_fp j hj hjs) hjv, ?_⟩
    refine scalar_congr (fun n hn => hbytes_old n (hKv j hj hjv hjs n hn)) (fun e he => ?_)
    obtain ⟨a, b, c⟩ := hext_out j hj hjv hjs e he
    exact hcell_old e a b c
  obtain ⟨hlk2, hvals⟩ := ctx hn2 hcv2 P2.att.vok sl hlk hndl hv hgood
  refine ⟨?_, hvals⟩
  have hll : ∀ i, l = .slot i → PL.live d0.g d0.pl i := fun i e => (P0.slot i e).1
  have hlcell : ∀ i, l = .slot i → d2.cell i = d.cell i := by
    intro i e
    have hi0 := hll i e
    exact hcell_old i (P.fr.live i hi0) (fun m => hfp0 i m hi0) (fun e' => (P.att.fresh v hvids).1 (e' ▸ hi0))
  -- slots of the new layout
  have hmem2 : ∀ x, x ∈ (sl.replaceSub v se).ids ↔ x ∈ R ∨ x ∈ se.ids := by
    intro x; rw [Forest.mem_ids_replaceSub sl v se hndl hv, hR]
  have hget_old : ∀ j ∈ R, j ≠ v → d2.get (.slot j) = d.get (.slot j) := fun j hj hjv =>
    get_of_cell (hgood j ((hR j).1 hj).1 hjv ((hR j).1 hj).2).1
  have hse_notlive : ∀ x ∈ se.ids, ¬ PL.live dc.g dc.pl x := fun x hx => (P2.att.fresh x hx).1
  have hfresh_se : ∀ x ∈ se.ids, x ∈ sl.ids → x ∈ (sl.subOf v).ids := by
    intro x hx hxs
    by_cases hm : x ∈ (sl.subOf v).ids
    · exact hm
    · exact absurd ((hliveC x).2 ⟨(P.att.fresh x hxs).2, hout_fp x hxs hm⟩) (hse_notlive x hx)
  have hnd2 : (sl.replaceSub v se).ids.Nodup := Forest.nodup_replaceSub sl v se hndl hv P2.att.nodup hfresh_se
  have hRse : ∀ a ∈ R, a ∉ se.ids := by
    intro a ha m
    exact ((hR a).1 ha).2 (hfresh_se a m ((hR a).1 ha).1)
  -- classification of the holders of the new layout
  have hclass : ∀ l' ∈ l :: (sl.replaceSub v se).ids.map Loc.slot,
      l' = l ∨ (∃ j ∈ R, j ≠ v ∧ l' = .slot j) ∨ l' ∈ Loc.slot v :: se.ids.map Loc.slot := by
    intro l' hl'
    rcases List.mem_cons.1 hl' with e | m
    · exact Or.inl e
    · obtain ⟨j, hj, e⟩ := List.mem_map.1 m
      subst e
      rcases (hmem2 j).1 hj with hjR | hjs
      · by_cases hjv : j = v
        · subst hjv; exact Or.inr (Or.inr List.mem_cons_self)
        · exact Or.inr (Or.inl ⟨j, hjR, hjv, rfl⟩)
      · exact Or.inr (Or.inr (List.mem_cons_of_mem _ (List.mem_map_of_mem hjs)))
  have hgetl : d2.get l = .obj h t := by
    cases l with
    | root =>
      show d2.root = _
      rw [P2.fr.root (by simp), hrootC]; exact P.att.get
    | slot i => rw [get_of_cell (hlcell i rfl)]; exact P.att.get
  have hold_ext : ∀ j ∈ R, j ≠ v → ∀ e ∈ extOfV (d.get (.slot j)),
      (∃ p, d2.cell e = .ext p) ∧ PL.live d2.g d2.pl e ∧ PL.live dc.g dc.pl e := by
    intro j hj hjv e he
    obtain ⟨a, b, c⟩ := hext_out j ((hR j).1 hj).1 hjv ((hR j).1 hj).2 e he
    obtain ⟨⟨p, hp⟩, _, _⟩ := P.att.ext (.slot j) (hmemH j ((hR j).1 hj).1) e he
    exact ⟨⟨p, by rw [hcell_old e a b c, hp]⟩, hlive_old e a b, (hliveC e).2 ⟨a, b⟩⟩
  constructor
  · -- frame
    refine ⟨by rw [P2.fr.g, hgC, P.fr.g], ?_, ?_, P2.fr.pool, ?_, ?_, ?_⟩
    · intro hr
      rw [P2.fr.root (by simp), hrootC, P.fr.root hr]
    · intro x hx hxl
      have hxl' : Loc.slot x ≠ l := fun e => hxl (List.mem_singleton.2 e)
      rw [hcell_old x (P.fr.live x hx) (fun m => hfp0 x m hx) (fun e' => (P.att.fresh v hvids).1 (e' ▸ hx)),
        P.fr.cells x hx hxl]
    · intro x hx
      exact hlive_old x (P.fr.live x hx) (fun m => hfp0 x m hx)
    · intro rs hs
      obtain ⟨a1, b1⟩ := P.fr.strs rs hs
      obtain ⟨a2, b2⟩ := hstrC rs hs
      obtain ⟨a3, b3⟩ := P2.fr.strs rs (StrOK_weaken a2)
      exact ⟨a3, fun m hm => by rw [b3 m hm, b2 m (List.mem_append_right _ hm), b1 m hm]⟩
    · intro ho
      exact P2.fr.ov (by rw [hovC]; exact P.fr.ov ho)
  · refine ⟨?_, hgetl, ?_, ?_, hnd2, ?_, ?_, ?_⟩
    · -- string table
      intro rs hs
      have h1 := P2.att.str (Kv ++ rs) (hstrC rs hs).1
      have : strOfV (VData.obj h t) = [] := rfl
      rw [this, List.nil_append]
      have hp2 : List.Perm (sl.replaceSub v se).ids (R ++ se.ids) := by
        refine sim_perm_of_mem hnd2 (List.nodup_append.2 ⟨hRnd, P2.att.nodup, ?_⟩) ?_
        · intro a ha b hb e; subst e; exact hRse a ha hb
        · intro x; rw [hmem2, List.mem_append]
      have h2 := hp2.flatMap_right (fun j => strOfV (d2.get (.slot j)))
      rw [List.flatMap_append] at h2
      have h3 := flatMap_split (fun j => strOfV (d2.get (.slot j))) v R hRnd hvR
      have h4 : R.flatMap (fun j => if j = v then [] else strOfV (d2.get (.slot j))) = Kv := by
        apply flatMap_congr'
        intro j hj
        by_cases hjv : j = v
        · rw [if_pos hjv, if_pos hjv]
        · rw [if_neg hjv, if_neg hjv, hget_old j hj hjv]
      rw [h4, get_of_var hcv2] at h3
      refine StrOK_perm ?_ h1
      refine List.Perm.symm ?_
      show List.Perm (goneF d2 (sl.replaceSub v se) ++ rs) _
      refine ((h2.trans (h3.append_right _)).append_right rs).trans ?_
      show List.Perm (((strOfV ve ++ Kv) ++ goneF d2 se) ++ rs) ((strOfV ve ++ goneF d2 se) ++ (Kv ++ rs))
      simp only [List.append_assoc]
      exact List.Perm.append_left _ (List.perm_append_comm_assoc _ _ _)
    · intro i e
      rw [hlcell i e]; exact P.att.slot i e
    · rw [VOK_obj]
      exact ⟨hlk2, by rw [Forest.top_replaceSub, hn2]; exact ht⟩
    · -- freshness
      intro x hx
      rcases (hmem2 x).1 hx with hxR | hxs
      · obtain ⟨hxl, hxo⟩ := (hR x).1 hxR
        exact ⟨(P.att.fresh x hxl).1, hlive_old x (P.att.fresh x hxl).2 (hout_fp x hxl hxo)⟩
      · refine ⟨fun h0 => ?_, (P2.att.fresh x hxs).2⟩
        exact hse_notlive x hxs ((hliveC x).2 ⟨P.fr.live x h0, fun m => hfp0 x m h0⟩)
    · -- extension slots
      intro l' hl' e he
      rcases hclass l' hl' with e' | ⟨j, hj, hjv, e'⟩ | hnew
      · subst e'; rw [hgetl] at he; cases he
      · subst e'
        rw [hget_old j hj hjv] at he
        obtain ⟨a, b, c⟩ := hold_ext j hj hjv e he
        refine ⟨a, b, ?_⟩
        intro l2 hl2 he2
        rcases hclass l2 hl2 with e2 | ⟨j2, hj2, hjv2, e2⟩ | hnew2
        · subst e2; rw [hgetl] at he2; cases he2
        · subst e2
          rw [hget_old j2 hj2 hjv2] at he2
          exact (P.att.ext (.slot j) (hmemH j ((hR j).1 hj).1) e he).2.2 (.slot j2) (hmemH j2 ((hR j2).1 hj2).1) he2
        · exact absurd c (P2.att.extfresh l2 hnew2 e he2)
      · obtain ⟨a, b, c⟩ := P2.att.ext l' hnew e he
        refine ⟨a, b, ?_⟩
        intro l2 hl2 he2
        rcases hclass l2 hl2 with e2 | ⟨j2, hj2, hjv2, e2⟩ | hnew2
        · subst e2; rw [hgetl] at he2; cases he2
        · subst e2
          rw [hget_old j2 hj2 hjv2] at he2
          exact absurd (hold_ext j2 hj2 hjv2 e he2).2.2 (P2.att.extfresh l' hnew e he)
        · exact c l2 hnew2 he2
    · intro l' hl' e he
      rcases hclass l' hl' with e' | ⟨j, hj, hjv, e'⟩ | hnew
      · subst e'; rw [hgetl] at he; cases he
      · subst e'
        rw [hget_old j hj hjv] at he
        exact P.att.extfresh (.slot j) (hmemH j ((hR j).1 hj).1) e he
      · intro h0
        exact P2.att.extfresh l' hnew e he ((hliveC e).2 ⟨P.fr.live e h0, fun m => hfp0 e m h0⟩)

end JDD
