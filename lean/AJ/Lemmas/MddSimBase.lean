/- Simulation of the slot-level MessagePack deserializer `MDD` by the value-level one `MD`, part 1: the StringBuffer model
   (`reserve`, `save`, `readString`) as steps of the local specification `Pre`/`Post`/`Fr` of AJ/Lemmas/DocCopy.lean.
   All names carry the prefix `mpsim_` (the JSON twin of this family is AJ/Lemmas/JddSim*.lean, prefix `sim_`). -/
import AJ.Lemmas.MddBase
import AJ.Lemmas.JddSimDoc
set_option linter.unusedSimpArgs false
set_option linter.unusedVariables false
namespace MDD
open DL
open JD (Byte Val Code)
open MD (R Env)

/-- capacity of the kept StringBuffer node never exceeds the maximal string length -/
def mpsim_BOK (env : Env) (b : Option Nat) : Prop := ∀ cap, b = some cap → cap ≤ env.maxStrLen

theorem mpsim_BOK_none (env : Env) : mpsim_BOK env none := fun _ h => by cases h

/-! ## `reserve` -/

theorem mpsim_reserve_keep (m : Nat) {x : S} {cap n : Nat} (hb : x.b = some cap) (hn : ¬ n > cap) :
    reserve m x n = (true, x) := by
  unfold reserve
  rw [hb]
  simp only [if_neg hn, hb]

theorem mpsim_reserve_none (m : Nat) {x : S} (n : Nat) (hb : x.b = none) :
    reserve m x n =
      if n > m then (false, { x with d := { x.d with overflowed := true } })
      else if (x.d.pl.alloc (n + x.d.strOverhead)).1 then
        (true, { x with d := { x.d with pl := (x.d.pl.alloc (n + x.d.strOverhead)).2 }, b := some n })
      else (false, { x with d := { x.d with pl := (x.d.pl.alloc (n + x.d.strOverhead)).2, overflowed := true } }) := by
  unfold reserve
  rw [hb]
  simp only [hb]

theorem mpsim_reserve_release (m : Nat) {x : S} {cap n : Nat} (hb : x.b = some cap) (hn : n > cap) :
    reserve m x n = reserve m { x with d := { x.d with pl := x.d.pl.dealloc }, b := none } n := by
  rw [mpsim_reserve_none m n (x := { x with d := { x.d with pl := x.d.pl.dealloc }, b := none }) rfl]
  unfold reserve
  rw [hb]
  simp only [if_pos hn]

/-- `reserve` on a document without a buffer -/
theorem mpsim_reserve_fresh (env : Env) (x : S) (n : Nat) (hp : PL.Inv x.d.g x.d.pl) (hb : x.b = none)
    (h0 : x.d.overflowed = false) :
    (reserve env.maxStrLen x n).2.r = x.r ∧ Grow x.d (reserve env.maxStrLen x n).2.d ∧
    ((reserve env.maxStrLen x n).1 = true → n ≤ env.maxStrLen ∧ (reserve env.maxStrLen x n).2.d.overflowed = false ∧
      mpsim_BOK env (reserve env.maxStrLen x n).2.b) ∧
    ((reserve env.maxStrLen x n).1 = false → (reserve env.maxStrLen x n).2.d.overflowed = true) := by
  rw [mpsim_reserve_none _ _ hb]
  by_cases hbig : n > env.maxStrLen
  · rw [if_pos hbig]
    exact ⟨rfl, JDD.sim_grow_pl hp x.d.pl true rfl rfl rfl rfl, (fun h => by cases h), fun _ => rfl⟩
  · rw [if_neg hbig]
    cases hok : (x.d.pl.alloc (n + x.d.strOverhead)).1 with
    | true =>
      rw [if_pos rfl]
      refine ⟨rfl, JDD.sim_grow_pl hp _ x.d.overflowed rfl rfl rfl rfl, fun _ => ⟨by omega, h0, ?_⟩,
        fun h => by cases h⟩
      intro cap hc
      simp only [Option.some.injEq] at hc
      omega
    | false =>
      rw [if_neg (by simp)]
      exact ⟨rfl, JDD.sim_grow_pl hp _ true rfl rfl rfl rfl, (fun h => by cases h), fun _ => rfl⟩

/-- `StringBuffer::reserve(n)`: the reader is untouched, only the allocator state moves; success means that `n` is within
    the string limit and nothing failed, failure sets the overflow flag -/
theorem mpsim_reserve (env : Env) (x : S) (n : Nat) (hp : PL.Inv x.d.g x.d.pl) (hb : mpsim_BOK env x.b)
    (h0 : x.d.overflowed = false) :
    (reserve env.maxStrLen x n).2.r = x.r ∧ Grow x.d (reserve env.maxStrLen x n).2.d ∧
    ((reserve env.maxStrLen x n).1 = true → n ≤ env.maxStrLen ∧ (reserve env.maxStrLen x n).2.d.overflowed = false ∧
      mpsim_BOK env (reserve env.maxStrLen x n).2.b) ∧
    ((reserve env.maxStrLen x n).1 = false → (reserve env.maxStrLen x n).2.d.overflowed = true) := by
  cases hxb : x.b with
  | none => exact mpsim_reserve_fresh env x n hp hxb h0
  | some cap =>
    have hcap := hb cap hxb
    by_cases hn : n > cap
    · rw [mpsim_reserve_release _ hxb hn]
      have hg : Grow x.d { x.d with pl := x.d.pl.dealloc } := by
        have := JDD.sim_grow_pl hp x.d.pl.dealloc x.d.overflowed rfl rfl rfl rfl
        exact this
      obtain ⟨a1, a2, a3, a4⟩ := mpsim_reserve_fresh env
        { x with d := { x.d with pl := x.d.pl.dealloc }, b := none } n hg.pool rfl h0
      exact ⟨a1, hg.trans a2, a3, a4⟩
    · rw [mpsim_reserve_keep _ hxb hn]
      exact ⟨rfl, Grow.refl hp, fun _ => ⟨by omega, h0, hb⟩, fun h => by cases h⟩

/-! ## `save` -/

/-- `save` is `saveString` on the never-failing twin, up to the allocator state -/
theorem mpsim_save_eq (x : S) (bytes : List Byte) :
    ∃ d1, (JDD.calm x.d bytes.length).saveString bytes = (some (save x bytes).1, d1) ∧
      (save x bytes).2.d.strings = d1.strings ∧ (save x bytes).2.d.nextNode = d1.nextNode ∧
      (save x bytes).2.d.g = x.d.g ∧ (save x bytes).2.d.root = x.d.root ∧ (save x bytes).2.d.cells = x.d.cells ∧
      (save x bytes).2.d.overflowed = x.d.overflowed ∧
      (save x bytes).2.d.pl.pools = x.d.pl.pools ∧ (save x bytes).2.d.pl.free = x.d.pl.free ∧
      (save x bytes).2.d.pl.tableCap = x.d.pl.tableCap ∧ (save x bytes).2.d.pl.tableHeap = x.d.pl.tableHeap ∧
      (save x bytes).2.r = x.r ∧ ((save x bytes).2.b = x.b ∨ (save x bytes).2.b = none) := by
  cases hf : x.d.strings.find? (·.bytes == bytes) with
  | some n =>
    rw [mp_save_eq_found hf]
    exact ⟨_, saveString_found (d := JDD.calm x.d bytes.length) hf, rfl, rfl, rfl, rfl, rfl, rfl, rfl, rfl, rfl, rfl, rfl,
      Or.inl rfl⟩
  | none =>
    obtain ⟨p1, p2, p3, p4, _⟩ := shrunkPl_facts x bytes
    rw [mp_save_eq_new hf]
    have hs := saveString_short (d := JDD.calm x.d bytes.length) hf (Nat.le_refl _)
    rw [JDD.calm_failsAt, if_neg (by simp)] at hs
    exact ⟨_, hs, rfl, rfl, rfl, rfl, rfl, rfl, p1, p2, p3, p4, rfl, Or.inr rfl⟩

/-- `StringBuffer::save`: the node returned holds the bytes, it gained one reference, nothing else changed -/
theorem mpsim_save (env : Env) (x : S) (bytes : List Byte) (hp : PL.Inv x.d.g x.d.pl) (hs0 : ∃ rs, StrOK x.d rs) :
    (save x bytes).2.r = x.r ∧ Fr x.d (save x bytes).2.d [] ∧ (save x bytes).2.d.strBytes (save x bytes).1 = bytes ∧
    (∀ rs, StrOK x.d rs → StrOK (save x bytes).2.d ((save x bytes).1 :: rs)) ∧
    (save x bytes).2.d.overflowed = x.d.overflowed ∧ (mpsim_BOK env x.b → mpsim_BOK env (save x bytes).2.b) := by
  obtain ⟨d1, h, e1, e2, e3, e4, e5, e6, e7, e8, e9, e10, e11, e12⟩ := mpsim_save_eq x bytes
  obtain ⟨rs0, hrs0⟩ := hs0
  have hN : ∀ rs, StrOK x.d rs → StrOK (JDD.calm x.d bytes.length) rs := fun rs hs => StrOK_congr (d := x.d) rfl rfl hs
  obtain ⟨_, _, _, hb, hkeep, _⟩ := saveString_spec (hN _ hrs0).ids_nodup (hN _ hrs0).ids_lt h
  have hc : ∀ j, (save x bytes).2.d.cell j = x.d.cell j := fun j => by simp only [Doc.cell, e5]
  have hstr : ∀ rs, StrOK x.d rs → StrOK (save x bytes).2.d ((save x bytes).1 :: rs) := fun rs hs =>
    StrOK_congr e1 e2 (saveString_strOK (hN rs hs) h)
  have hbytes : ∀ m, (∃ y ∈ x.d.strings, y.id = m) → (save x bytes).2.d.strBytes m = x.d.strBytes m := by
    intro m hm
    rw [strBytes_of_strings e1, hkeep m hm]
    exact strBytes_of_strings (d := x.d) (d' := JDD.calm x.d bytes.length) rfl m
  refine ⟨e11, ⟨e3, fun _ => e4, fun j _ _ => hc j, by rw [e3]; exact hp.congr e7 e9 e10 e8,
    fun j hj => by rw [e3, live_congr e7 e8]; exact hj,
    fun rs hs => ⟨StrOK_weaken (a := [(save x bytes).1]) (hstr rs hs), strBytes_of_present hbytes hs⟩,
    fun ho => by rw [e6]; exact ho⟩, by rw [strBytes_of_strings e1]; exact hb, hstr, e6, ?_⟩
  intro hb' cap hc'
  rcases e12 with e | e
  · exact hb' cap (by rw [← e]; exact hc')
  · rw [e] at hc'; cases hc'

/-! ## `readString` -/

/-- the abstract twin of `readString`: the length check, then the bytes -/
def mpsim_readStr0 (env : Env) (r : R) (n : Nat) : Code × List Byte × R :=
  if n > env.maxStrLen then (.noMemory, [], r) else
  match r.readBytes n with
  | (some bs, r) => (.ok, bs, r)
  | (none, r) => (.incomplete, [], r)

/-- `readString(n)`: either an allocation failed (or `n` is beyond the limit): `NoMemory` with the flag set; or the code,
    the bytes and the reader are those of the abstract reader -/
theorem mpsim_readString (env : Env) (x : S) (n : Nat) (hp : PL.Inv x.d.g x.d.pl) (hb : mpsim_BOK env x.b)
    (h0 : x.d.overflowed = false) :
    Grow x.d (readString env x n).2.2.d ∧
    (((readString env x n).2.2.d.overflowed = true ∧ (readString env x n).1 = .noMemory) ∨
     ((readString env x n).2.2.d.overflowed = false ∧ mpsim_BOK env (readString env x n).2.2.b ∧
       (readString env x n).1 = (mpsim_readStr0 env x.r n).1 ∧ (readString env x n).1 ≠ .noMemory ∧
       (readString env x n).2.1 = (mpsim_readStr0 env x.r n).2.1 ∧
       (readString env x n).2.2.r = (mpsim_readStr0 env x.r n).2.2)) := by
  obtain ⟨r1, r2, r3, r4⟩ := mpsim_reserve env x n hp hb h0
  rw [readString_eq]
  unfold mpsim_readStr0
  generalize reserve env.maxStrLen x n = q at *
  obtain ⟨ok, y⟩ := q
  simp only at r1 r2 r3 r4 ⊢
  cases ok with
  | false =>
    rw [if_neg (by simp)]
    exact ⟨r2, Or.inl ⟨r4 rfl, rfl⟩⟩
  | true =>
    rw [if_pos rfl]
    obtain ⟨hle, hov, hbk⟩ := r3 rfl
    rw [if_neg (by omega), r1]
    generalize x.r.readBytes n = rb
    obtain ⟨m, r'⟩ := rb
    cases m with
    | none => exact ⟨r2, Or.inr ⟨hov, hbk, rfl, (fun h => by cases h), rfl, rfl⟩⟩
    | some bs => exact ⟨r2, Or.inr ⟨hov, hbk, rfl, (fun h => by cases h), rfl, rfl⟩⟩

/-- the saved string node stored as a raw (binary / extension) value on the cleared place -/
theorem mpsim_post_raw {d d1 : Doc} {l : Loc} {node : Nat} {bytes : List Byte} (P : Pre d l) (hf : Fr d d1 [])
    (hb : d1.strBytes node = bytes) (hstr : ∀ rs, StrOK d rs → StrOK d1 (node :: rs)) :
    Post d (d1.set l (.raw node)) l (.raw node) .nil ∧ (d1.set l (.raw node)).valOf (.raw node) .nil = .raw bytes := by
  refine ⟨post_set P hf ((VOK_scalar (v := .raw node) (fun h => h) _).2 rfl) (fun rs h => hstr rs h)
    (by intro e h; cases h), ?_⟩
  show Val.raw ((d1.set l (.raw node)).strBytes node) = _
  rw [strBytes_set, hb]

end MDD
