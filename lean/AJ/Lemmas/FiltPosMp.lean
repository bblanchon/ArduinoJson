/- The position invariant `MDD.MemQ n r` (`pos + |unread| = n`) through the FILTERED slot-level MessagePack run, for every
   filter, destination, document and allocator schedule: `MDDF.pos_run_le` — the run never takes more bytes than the input
   has. No hypothesis. An instance of `MDDF.keep_all` (AJ/Lemmas/MddPos.lean).
   Used by AJ/Props/SlotCor2.lean. -/
import AJ.Lemmas.MddPos
namespace MDDF
open DL MD
open JD (Byte Code Flt)
open MDD (S store MemQ)

theorem pos_store_r (x : S) (l : Loc) (a : Arg) : (store x l a).2.r = x.r := rfl

/-- the filtered slot-level MessagePack run never consumes more bytes than the input has — every filter, document, allocator
    schedule -/
theorem pos_run_le (env : Env) (limit : Nat) (flt : Flt) (d : Doc) (input : List Byte) :
    (run env limit flt d input).2.2 ≤ input.length := by
  have h0 : MemQ input.length ({ unread := input } : R) := by simp [MemQ]
  have h := (keep_all (MDD.memQ_keep input.length) env (2 * input.length + 4)).1 limit flt (some .root)
    { r := { unread := input }, d := d.clearAll } h0
  unfold MemQ at h
  unfold run
  simp only
  generalize parseVariant env (2 * input.length + 4) limit flt (some .root) { r := { unread := input }, d := d.clearAll } = r
    at h ⊢
  obtain ⟨c, x, fnd⟩ := r
  simp only at h ⊢
  omega

end MDDF
