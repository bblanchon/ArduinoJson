/- Facts about the specification `Spec.Json` itself: the limits are monotone, and the denoted document
   stays within the limits of the text (`depth`, `StrOk`). -/
import AJ.Lemmas.JsonComplete
namespace JD
open Spec.Json

/-! ## a text within some limit is within every larger one -/
mutual
theorem value_mono {cfg : Cfg} {L : Nat} {t : List Byte} {v : Val} (h : Value cfg L t v) :
    ∀ L', L ≤ L' → Value cfg L' t v :=
  match h with
  | .null _ => fun L' _ => .null L'
  | .true _ => fun L' _ => .true L'
  | .false _ => fun L' _ => .false L'
  | .num _ _ hn => fun L' _ => .num L' _ hn
  | .str _ body s hb hs => fun L' _ => .str L' body s hb hs
  | .arrEmpty l w hw => fun L' hl =>
    match L', hl with
    | 0, hl => absurd hl (Nat.not_succ_le_zero l)
    | l' + 1, _ => .arrEmpty l' w hw
  | .arr l body xs he => fun L' hl =>
    match L', hl with
    | 0, hl => absurd hl (Nat.not_succ_le_zero l)
    | l' + 1, hl => .arr l' body xs (elements_mono he l' (Nat.le_of_succ_le_succ hl))
  | .objEmpty l w hw => fun L' hl =>
    match L', hl with
    | 0, hl => absurd hl (Nat.not_succ_le_zero l)
    | l' + 1, _ => .objEmpty l' w hw
  | .obj l body ms hm => fun L' hl =>
    match L', hl with
    | 0, hl => absurd hl (Nat.not_succ_le_zero l)
    | l' + 1, hl => .obj l' body ms (members_mono hm l' (Nat.le_of_succ_le_succ hl))
theorem elements_mono {cfg : Cfg} {L : Nat} {t : List Byte} {xs : List Val} (h : Elements cfg L t xs) :
    ∀ L', L ≤ L' → Elements cfg L' t xs :=
  match h with
  | .one _ w1 t v w2 h1 hv h2 => fun L' hl => .one L' w1 t v w2 h1 (value_mono hv L' hl) h2
  | .cons _ w1 t v w2 rest vs h1 hv h2 hr => fun L' hl =>
    .cons L' w1 t v w2 rest vs h1 (value_mono hv L' hl) h2 (elements_mono hr L' hl)
theorem members_mono {cfg : Cfg} {L : Nat} {t : List Byte} {ms : List (List Byte × Val)} (h : Members cfg L t ms) :
    ∀ L', L ≤ L' → Members cfg L' t ms :=
  match h with
  | .one _ w1 kb k w2 w3 t v w4 h1 hb hk h2 h3 hv h4 => fun L' hl =>
    .one L' w1 kb k w2 w3 t v w4 h1 hb hk h2 h3 (value_mono hv L' hl) h4
  | .cons _ w1 kb k w2 w3 t v w4 rest ms h1 hb hk h2 h3 hv h4 hr => fun L' hl =>
    .cons L' w1 kb k w2 w3 t v w4 rest ms h1 hb hk h2 h3 (value_mono hv L' hl) h4 (members_mono hr L' hl)
end

/-! ## the denoted document is within the limits of its text -/

theorem depth_arr (xs : List Val) : depth (.arr xs) = depthList xs + 1 := by simp only [depth]
theorem depth_obj (ms : List (List Byte × Val)) : depth (.obj ms) = depthMembers ms + 1 := by simp only [depth]
theorem depthList_cons (x : Val) (xs : List Val) : depthList (x :: xs) = max (depth x) (depthList xs) := by
  simp only [depthList]
theorem depthMembers_cons (k : List Byte) (v : Val) (ms : List (List Byte × Val)) :
    depthMembers ((k, v) :: ms) = max (depth v) (depthMembers ms) := by simp only [depthMembers]
theorem strOk_arr (m : Nat) (xs : List Val) : StrOk m (.arr xs) = StrOkList m xs := by simp only [StrOk]
theorem strOk_obj (m : Nat) (ms : List (List Byte × Val)) : StrOk m (.obj ms) = StrOkMembers m ms := by simp only [StrOk]
theorem strOk_str (m : Nat) (s : List Byte) : StrOk m (.str s) = (s.length ≤ m) := by simp only [StrOk]
theorem strOkList_cons (m : Nat) (x : Val) (xs : List Val) : StrOkList m (x :: xs) = (StrOk m x ∧ StrOkList m xs) := by
  simp only [StrOkList]
theorem strOkMembers_cons (m : Nat) (k : List Byte) (v : Val) (ms : List (List Byte × Val)) :
    StrOkMembers m ((k, v) :: ms) = (k.length ≤ m ∧ StrOk m v ∧ StrOkMembers m ms) := by simp only [StrOkMembers]

theorem depthMembers_setMember (acc : List (List Byte × Val)) (k : List Byte) (v : Val) :
    depthMembers (setMember acc k v) ≤ max (depthMembers acc) (depth v) := by
  induction acc with
  | nil => simp only [setMember, depthMembers]; omega
  | cons kv rest ih =>
    obtain ⟨k', v'⟩ := kv
    simp only [setMember]
    split
    · simp only [depthMembers_cons]; omega
    · simp only [depthMembers_cons]; omega

theorem strOkMembers_setMember (m : Nat) (acc : List (List Byte × Val)) (k : List Byte) (v : Val)
    (ha : StrOkMembers m acc) (hk : k.length ≤ m) (hv : StrOk m v) : StrOkMembers m (setMember acc k v) := by
  induction acc with
  | nil => simp only [setMember, StrOkMembers]; exact ⟨hk, hv, trivial⟩
  | cons kv rest ih =>
    obtain ⟨k', v'⟩ := kv
    rw [strOkMembers_cons] at ha
    simp only [setMember]
    split
    · rw [strOkMembers_cons]; exact ⟨ha.1, hv, ha.2.2⟩
    · rw [strOkMembers_cons]; exact ⟨ha.1, ha.2.1, ih ha.2.2⟩

theorem depthMembers_fold (ms : List (List Byte × Val)) :
    ∀ acc, depthMembers (foldMembers acc ms) ≤ max (depthMembers acc) (depthMembers ms) := by
  induction ms with
  | nil => intro acc; simp only [foldMembers, List.foldl_nil, depthMembers]; omega
  | cons kv ms ih =>
    intro acc
    obtain ⟨k, v⟩ := kv
    have h1 := ih (setMember acc k v)
    have h2 := depthMembers_setMember acc k v
    simp only [foldMembers, List.foldl_cons, depthMembers_cons] at h1 ⊢
    omega

theorem strOkMembers_fold (m : Nat) (ms : List (List Byte × Val)) :
    ∀ acc, StrOkMembers m acc → StrOkMembers m ms → StrOkMembers m (foldMembers acc ms) := by
  induction ms with
  | nil => intro acc ha _; exact ha
  | cons kv ms ih =>
    intro acc ha hm
    obtain ⟨k, v⟩ := kv
    rw [strOkMembers_cons] at hm
    exact ih (setMember acc k v) (strOkMembers_setMember m acc k v ha hm.1 hm.2.1) hm.2.2

mutual
theorem value_within {cfg : Cfg} : ∀ {L : Nat} {t : List Byte} {v : Val}, Value cfg L t v →
    depth v ≤ L ∧ StrOk cfg.maxStrLen v
  | _, _, _, .null _ => by simp [depth, StrOk]
  | _, _, _, .true _ => by simp [depth, StrOk]
  | _, _, _, .false _ => by simp [depth, StrOk]
  | _, _, _, .num _ _ hn => by
    obtain ⟨n, hv, _⟩ := numLit_ok cfg hn
    rw [hv]; simp [depth, StrOk]
  | _, _, _, .str _ body s hb hs => by simp [depth, StrOk, hs]
  | _, _, _, .arrEmpty l w hw => by simp [depth, depthList, StrOk, StrOkList]
  | _, _, _, .arr l body xs he => by
    obtain ⟨h1, h2⟩ := elements_within he
    rw [depth_arr, strOk_arr]; exact ⟨by omega, h2⟩
  | _, _, _, .objEmpty l w hw => by simp [depth, depthMembers, StrOk, StrOkMembers]
  | _, _, _, .obj l body ms hm => by
    obtain ⟨h1, h2⟩ := members_within hm
    have h3 := depthMembers_fold ms []
    rw [depth_obj, strOk_obj, lastWins_eq]
    refine ⟨?_, strOkMembers_fold _ ms [] (by simp only [StrOkMembers]) h2⟩
    simp only [depthMembers] at h3
    omega
theorem elements_within {cfg : Cfg} : ∀ {L : Nat} {t : List Byte} {xs : List Val}, Elements cfg L t xs →
    depthList xs ≤ L ∧ StrOkList cfg.maxStrLen xs
  | _, _, _, .one _ w1 t v w2 h1 hv h2 => by
    obtain ⟨a, b⟩ := value_within hv
    rw [depthList_cons, strOkList_cons]
    simp only [depthList, StrOkList]
    exact ⟨by omega, b, trivial⟩
  | _, _, _, .cons _ w1 t v w2 rest vs h1 hv h2 hr => by
    obtain ⟨a, b⟩ := value_within hv
    obtain ⟨c, d⟩ := elements_within hr
    rw [depthList_cons, strOkList_cons]
    exact ⟨by omega, b, d⟩
theorem members_within {cfg : Cfg} : ∀ {L : Nat} {t : List Byte} {ms : List (List Byte × Val)}, Members cfg L t ms →
    depthMembers ms ≤ L ∧ StrOkMembers cfg.maxStrLen ms
  | _, _, _, .one _ w1 kb k w2 w3 t v w4 h1 hb hk h2 h3 hv h4 => by
    obtain ⟨a, b⟩ := value_within hv
    rw [depthMembers_cons, strOkMembers_cons]
    simp only [depthMembers, StrOkMembers]
    exact ⟨by omega, hk, b, trivial⟩
  | _, _, _, .cons _ w1 kb k w2 w3 t v w4 rest ms h1 hb hk h2 h3 hv h4 hr => by
    obtain ⟨a, b⟩ := value_within hv
    obtain ⟨c, d⟩ := members_within hr
    rw [depthMembers_cons, strOkMembers_cons]
    exact ⟨by omega, hk, b, d⟩
end

end JD
