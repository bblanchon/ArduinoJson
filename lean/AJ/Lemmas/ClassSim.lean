/- Generic two-run simulation for the JSON deserializer model.
   `Twin Q Bad`: `Q` relates the states of two runs; it is kept by `move()` and by setting `found`; `current()` either
   returns the same byte in both runs and keeps `Q`, or drives the first run into `Bad`, a property that is never left
   again (`LatchClosed`). Then every routine maps `Q`-related states to equal results and `Q`-related states, or drives
   the first run into `Bad` (`tw_*`). Instances: AJ/Lemmas/ClassRun.lean (`live_twin`, `nulEnd_twin`). -/
import AJ.Lemmas.LatchClosed
import AJ.Lemmas.JDPieces
import AJ.Lemmas.JDLexPieces
set_option linter.unusedSimpArgs false
set_option linter.unusedVariables false
namespace JD

structure Twin (Q : St → St → Prop) (Bad : St → Prop) : Prop where
  bad : LatchClosed Bad
  cur : ∀ {s1 s2}, Q s1 s2 → ((JD.cur s1).1 = (JD.cur s2).1 ∧ Q (JD.cur s1).2 (JD.cur s2).2) ∨ Bad (JD.cur s1).2
  mv : ∀ {s1 s2}, Q s1 s2 → Q (JD.mv s1) (JD.mv s2)
  found : ∀ {s1 s2} {b : Bool}, Q s1 s2 → Q { s1 with found := b } { s2 with found := b }
  fd : ∀ {s1 s2}, Q s1 s2 → s1.found = s2.found
  lcur : ∀ {s1 s2}, Q s1 s2 → s1.l.cur = s2.l.cur

/-- related results (one payload): same payload and related states, or the first run went `Bad` -/
def R2 (Q : St → St → Prop) (Bad : St → Prop) {α : Type} (o1 o2 : α × St) : Prop :=
  (o1.1 = o2.1 ∧ Q o1.2 o2.2) ∨ Bad o1.2
/-- related results (two payloads) -/
def R3 (Q : St → St → Prop) (Bad : St → Prop) {α β : Type} (o1 o2 : α × β × St) : Prop :=
  (o1.1 = o2.1 ∧ o1.2.1 = o2.2.1 ∧ Q o1.2.2 o2.2.2) ∨ Bad o1.2.2

/-- Related results are the same result over related states, unless the first run went `Bad`. -/
@[elab_as_elim] theorem R2.elim {Q : St → St → Prop} {Bad : St → Prop} {α : Type} {C : α × St → α × St → Prop} {o1 o2 : α × St}
    (h : R2 Q Bad o1 o2) (hq : ∀ a b1 b2, Q b1 b2 → C (a, b1) (a, b2)) (hb : Bad o1.2 → C o1 o2) : C o1 o2 := by
  rcases h with ⟨e1, e2⟩ | h
  · obtain ⟨a1, b1⟩ := o1; obtain ⟨a2, b2⟩ := o2
    cases e1
    exact hq _ _ _ e2
  · exact hb h

@[elab_as_elim] theorem R3.elim {Q : St → St → Prop} {Bad : St → Prop} {α β : Type} {C : α × β × St → α × β × St → Prop}
    {o1 o2 : α × β × St} (h : R3 Q Bad o1 o2) (hq : ∀ a v b1 b2, Q b1 b2 → C (a, v, b1) (a, v, b2))
    (hb : Bad o1.2.2 → C o1 o2) : C o1 o2 := by
  rcases h with ⟨e1, e2, e3⟩ | h
  · obtain ⟨a1, v1, b1⟩ := o1; obtain ⟨a2, v2, b2⟩ := o2
    cases e1; cases e2
    exact hq _ _ _ _ e3
  · exact hb h

/-! ## routines that start with `current()` do not see whether the byte was already latched -/

theorem skipBlock_cur (f : Nat) (w : Bool) (s : St) : skipBlock (f+1) w (cur s).2 = skipBlock (f+1) w s := by
  simp only [skipBlock, cur_cur]
theorem skipKeyword_cur (k : Byte) (ks : List Byte) (s : St) : skipKeyword (k :: ks) (cur s).2 = skipKeyword (k :: ks) s := by
  simp only [skipKeyword, cur_cur]
theorem parseHex4_cur (n acc : Nat) (s : St) : parseHex4 (n+1) acc (cur s).2 = parseHex4 (n+1) acc s := by
  simp only [parseHex4, cur_cur]
theorem parseUnquoted_cur (f : Nat) (acc : List Byte) (s : St) :
    parseUnquoted (f+1) acc (cur s).2 = parseUnquoted (f+1) acc s := by
  simp only [parseUnquoted, cur_cur]
theorem scanNumber_cur (cfg : Cfg) (n : Nat) (acc : List Byte) (s : St) :
    scanNumber cfg n acc (cur s).2 = scanNumber cfg n acc s := by
  cases n <;> simp only [scanNumber, cur_cur]

/-! ## the pieces of `skipSpaces` and `parseQuoted`: preservation -/

section
variable {P : St → Prop} (hP : LatchClosed P)
include hP

theorem kept_ssK {cfg : Cfg} {f : Nat} (r : Code × St) (h : P r.2) : P (ssK cfg f r).2 := by
  obtain ⟨c, s⟩ := r
  cases c
  case ok => exact kept_skipSpaces hP _ _ h
  all_goals exact h

theorem kept_ssCmt {cfg : Cfg} {f : Nat} (s : St) (h : P s) : P (ssCmt cfg f s).2 := by
  unfold ssCmt
  have h1 := hP.cur h
  simp only
  split
  · exact kept_ssK hP _ (kept_skipBlock hP _ _ _ (hP.mv h1))
  · split
    · exact kept_ssK hP _ (kept_skipLine hP _ _ h1)
    · exact h1

end

section
variable {Q : St → St → Prop} {Bad : St → Prop} (T : Twin Q Bad)
include T

theorem tw_skipBlock : ∀ fuel w s1 s2, Q s1 s2 → R2 Q Bad (skipBlock fuel w s1) (skipBlock fuel w s2) := by
  intro fuel
  induction fuel with
  | zero => intro w s1 s2 h; exact Or.inl ⟨rfl, h⟩
  | succ f ih =>
    intro w s1 s2 h
    rcases T.cur h with ⟨hc, hq⟩ | hb
    · simp only [skipBlock]
      rw [← hc]
      split
      · exact Or.inl ⟨rfl, hq⟩
      · split
        · exact Or.inl ⟨rfl, T.mv hq⟩
        · exact ih _ _ _ (T.mv hq)
    · right
      have := kept_skipBlock T.bad (f+1) w _ hb
      rwa [skipBlock_cur] at this

theorem tw_skipLine : ∀ fuel s1 s2, Q s1 s2 → R2 Q Bad (skipLine fuel s1) (skipLine fuel s2) := by
  intro fuel
  induction fuel with
  | zero => intro s1 s2 h; exact Or.inl ⟨rfl, h⟩
  | succ f ih =>
    intro s1 s2 h
    simp only [skipLine]
    rcases T.cur (T.mv h) with ⟨hc, hq⟩ | hb
    · rw [← hc]
      split
      · exact Or.inl ⟨rfl, hq⟩
      · split
        · exact Or.inl ⟨rfl, hq⟩
        · exact ih _ _ hq
    · right
      split
      · exact hb
      · split
        · exact hb
        · exact kept_skipLine T.bad _ _ hb

theorem tw_ssK {cfg : Cfg} {f : Nat}
    (ih : ∀ s1 s2, Q s1 s2 → R2 Q Bad (skipSpaces cfg f s1) (skipSpaces cfg f s2)) (r1 r2 : Code × St)
    (h : R2 Q Bad r1 r2) : R2 Q Bad (ssK cfg f r1) (ssK cfg f r2) := by
  refine h.elim (fun c b1 b2 hq => ?_) (fun hb => Or.inr (kept_ssK T.bad r1 hb))
  cases c
  case ok => exact ih _ _ hq
  all_goals exact Or.inl ⟨rfl, hq⟩

theorem tw_ssCmt {cfg : Cfg} {f : Nat}
    (ih : ∀ s1 s2, Q s1 s2 → R2 Q Bad (skipSpaces cfg f s1) (skipSpaces cfg f s2)) (s1 s2 : St) (h : Q s1 s2) :
    R2 Q Bad (ssCmt cfg f s1) (ssCmt cfg f s2) := by
  rcases T.cur h with ⟨hd, hq⟩ | hb
  · simp only [ssCmt]
    rw [← hd]
    split
    · exact tw_ssK T ih _ _ (tw_skipBlock T f false _ _ (T.mv hq))
    · split
      · exact tw_ssK T ih _ _ (tw_skipLine T f _ _ hq)
      · exact Or.inl ⟨rfl, hq⟩
  · right
    rw [← ssCmt_cur]
    exact kept_ssCmt T.bad _ hb

theorem tw_skipSpaces {cfg : Cfg} : ∀ fuel s1 s2, Q s1 s2 → R2 Q Bad (skipSpaces cfg fuel s1) (skipSpaces cfg fuel s2) := by
  intro fuel
  induction fuel with
  | zero => intro s1 s2 h; exact Or.inl ⟨rfl, h⟩
  | succ f ih =>
    intro s1 s2 h
    rcases T.cur h with ⟨hc, hq⟩ | hb
    · rw [skipSpaces_succ, skipSpaces_succ, ← hc]
      split
      · exact Or.inl ⟨by simp only [T.fd hq], hq⟩
      · split
        · exact ih _ _ (T.mv hq)
        · split
          · exact tw_ssCmt T ih _ _ (T.mv hq)
          · exact Or.inl ⟨rfl, T.found hq⟩
    · right
      rw [← skipSpaces_cur_d1]
      exact kept_skipSpaces T.bad _ _ hb

theorem tw_skipKeyword : ∀ ks s1 s2, Q s1 s2 → R2 Q Bad (skipKeyword ks s1) (skipKeyword ks s2) := by
  intro ks
  induction ks with
  | nil => intro s1 s2 h; exact Or.inl ⟨rfl, h⟩
  | cons k ks ih =>
    intro s1 s2 h
    rcases T.cur h with ⟨hc, hq⟩ | hb
    · simp only [skipKeyword]
      rw [← hc]
      split
      · exact Or.inl ⟨rfl, hq⟩
      · split
        · exact Or.inl ⟨rfl, hq⟩
        · exact ih _ _ (T.mv hq)
    · right
      have := kept_skipKeyword T.bad (k :: ks) _ hb
      rwa [skipKeyword_cur] at this

theorem tw_parseHex4 : ∀ n acc s1 s2, Q s1 s2 → R3 Q Bad (parseHex4 n acc s1) (parseHex4 n acc s2) := by
  intro n
  induction n with
  | zero => intro acc s1 s2 h; exact Or.inl ⟨rfl, rfl, h⟩
  | succ n ih =>
    intro acc s1 s2 h
    rcases T.cur h with ⟨hc, hq⟩ | hb
    · simp only [parseHex4]
      rw [← hc]
      split
      · exact Or.inl ⟨rfl, rfl, hq⟩
      · split
        · exact Or.inl ⟨rfl, rfl, hq⟩
        · exact ih _ _ _ (T.mv hq)
    · right
      have := kept_parseHex4 T.bad (n+1) acc _ hb
      rwa [parseHex4_cur] at this

theorem tw_parseUnquoted : ∀ fuel acc s1 s2, Q s1 s2 → R2 Q Bad (parseUnquoted fuel acc s1) (parseUnquoted fuel acc s2) := by
  intro fuel
  induction fuel with
  | zero => intro acc s1 s2 h; exact Or.inl ⟨rfl, h⟩
  | succ f ih =>
    intro acc s1 s2 h
    rcases T.cur h with ⟨hc, hq⟩ | hb
    · simp only [parseUnquoted]
      rw [← hc]
      split
      · exact ih _ _ _ (T.mv hq)
      · exact Or.inl ⟨rfl, hq⟩
    · right
      have := kept_parseUnquoted T.bad (f+1) acc _ hb
      rwa [parseUnquoted_cur] at this

theorem tw_scanNumber {cfg : Cfg} : ∀ n acc s1 s2, Q s1 s2 → R2 Q Bad (scanNumber cfg n acc s1) (scanNumber cfg n acc s2) := by
  intro n
  induction n with
  | zero =>
    intro acc s1 s2 h
    rcases T.cur h with ⟨hc, hq⟩ | hb
    · simp only [scanNumber]; exact Or.inl ⟨rfl, hq⟩
    · right; simp only [scanNumber]; exact hb
  | succ n ih =>
    intro acc s1 s2 h
    rcases T.cur h with ⟨hc, hq⟩ | hb
    · simp only [scanNumber]
      rw [← hc]
      split
      · exact ih _ _ _ (T.mv hq)
      · exact Or.inl ⟨rfl, hq⟩
    · right
      have := kept_scanNumber (cfg := cfg) T.bad (n+1) acc _ hb
      rwa [scanNumber_cur] at this

theorem tw_parseNumeric {cfg : Cfg} (s1 s2 : St) (h : Q s1 s2) : R3 Q Bad (parseNumeric cfg s1) (parseNumeric cfg s2) := by
  unfold parseNumeric
  rcases tw_scanNumber (cfg := cfg) T (Gen.number_buffer - 1) [] s1 s2 h with ⟨e1, e2⟩ | hb
  · generalize scanNumber cfg (Gen.number_buffer - 1) [] s1 = o1 at *
    generalize scanNumber cfg (Gen.number_buffer - 1) [] s2 = o2 at *
    obtain ⟨b1, x1⟩ := o1; obtain ⟨b2, x2⟩ := o2
    simp only at e1 e2; subst e1
    simp only
    split <;> exact Or.inl ⟨rfl, rfl, e2⟩
  · right
    generalize scanNumber cfg (Gen.number_buffer - 1) [] s1 = o1 at *
    obtain ⟨b1, x1⟩ := o1
    simp only at hb ⊢
    split <;> exact hb

theorem tw_pqHex {cfg : Cfg} {stop : Byte} {f : Nat} {acc : List Byte} {hi : Nat}
    (ih : ∀ acc hi s1 s2, Q s1 s2 → R3 Q Bad (parseQuoted cfg stop f acc hi s1) (parseQuoted cfg stop f acc hi s2))
    (r1 r2 : Code × Nat × St) (h : R3 Q Bad r1 r2) :
    R3 Q Bad (pqHex cfg stop f acc hi r1) (pqHex cfg stop f acc hi r2) := by
  refine h.elim (fun c cu b1 b2 hq => ?_) (fun hb => Or.inr (kept_pqHex (kept_parseQuoted T.bad f) r1 hb))
  cases c
  case ok =>
    obtain ⟨acc', hi', e⟩ := pqHex_ok cfg stop f acc hi cu
    rw [e, e]
    exact ih _ _ _ _ hq
  all_goals exact Or.inl ⟨rfl, rfl, hq⟩

theorem tw_pqEsc {cfg : Cfg} {stop : Byte} {f : Nat} {acc : List Byte} {hi : Nat}
    (ih : ∀ acc hi s1 s2, Q s1 s2 → R3 Q Bad (parseQuoted cfg stop f acc hi s1) (parseQuoted cfg stop f acc hi s2))
    (s1 s2 : St) (h : Q s1 s2) : R3 Q Bad (pqEsc cfg stop f acc hi s1) (pqEsc cfg stop f acc hi s2) := by
  rcases T.cur h with ⟨hd, hq⟩ | hb
  · simp only [pqEsc]
    rw [← hd]
    split
    · exact Or.inl ⟨rfl, rfl, hq⟩
    · split
      · split
        · exact tw_pqHex T ih _ _ (tw_parseHex4 T 4 0 _ _ (T.mv hq))
        · exact ih _ _ _ _ hq
      · split
        · exact Or.inl ⟨rfl, rfl, hq⟩
        · exact ih _ _ _ _ (T.mv hq)
  · right
    rw [← pqEsc_cur]
    exact kept_pqEsc T.bad (kept_parseQuoted T.bad f) _ hb

theorem tw_parseQuoted {cfg : Cfg} {stop : Byte} : ∀ fuel acc hi s1 s2, Q s1 s2 →
    R3 Q Bad (parseQuoted cfg stop fuel acc hi s1) (parseQuoted cfg stop fuel acc hi s2) := by
  intro fuel
  induction fuel with
  | zero => intro acc hi s1 s2 h; exact Or.inl ⟨rfl, rfl, h⟩
  | succ f ih =>
    intro acc hi s1 s2 h
    rcases T.cur h with ⟨hc, hq⟩ | hb
    · rw [parseQuoted_succ, parseQuoted_succ, ← hc]
      have hm := T.mv hq
      split
      · exact Or.inl ⟨rfl, rfl, hm⟩
      · split
        · exact Or.inl ⟨rfl, rfl, hm⟩
        · split
          · exact tw_pqEsc T ih _ _ hm
          · exact ih _ _ _ _ hm
    · right
      rw [← parseQuoted_cur]
      exact kept_parseQuoted T.bad _ _ _ _ hb

end

/-! ## the pieces of the mutually recursive routines: preservation -/

section
variable {P : St → Prop} (hP : LatchClosed P)
include hP

theorem kept_pvArr {cfg : Cfg} {f L' : Nat} (r : Code × St) (h : P r.2) : P (pvArr cfg f L' r).2.2 := by
  obtain ⟨c, s⟩ := r
  cases c <;> try exact h
  simp only [pvArr]
  have h1 := hP.cur h
  split
  · exact hP.mv h1
  · exact (kept_mutual hP f).2.1 _ _ _ h1

theorem kept_pvObj {cfg : Cfg} {f L' : Nat} (r : Code × St) (h : P r.2) : P (pvObj cfg f L' r).2.2 := by
  obtain ⟨c, s⟩ := r
  cases c <;> try exact h
  simp only [pvObj]
  have h1 := hP.cur h
  split
  · exact hP.mv h1
  · exact (kept_mutual hP f).2.2 _ _ _ h1

theorem kept_pvTok {cfg : Cfg} {f L : Nat} (s : St) (h : P s) : P (pvTok cfg f L s).2.2 := by
  have h1 := hP.cur h
  rcases tok_cases (cur s).1 with c | c | c | c | c
  · cases L with
    | zero => rw [pvTok_arr0 c]; exact h1
    | succ L' => rw [pvTok_arr c]; exact kept_pvArr hP _ (kept_skipSpaces hP _ _ (hP.mv h1))
  · cases L with
    | zero => rw [pvTok_obj0 c]; exact h1
    | succ L' => rw [pvTok_obj c]; exact kept_pvObj hP _ (kept_skipSpaces hP _ _ (hP.mv h1))
  · rw [pvTok_str c]; exact kept_pvStr _ (kept_parseQuoted hP _ _ _ _ (hP.mv h1))
  · obtain ⟨ks, v, _, e⟩ := pvTok_kw c
    rw [e _ _ _ _ rfl]; exact kept_skipKeyword hP _ _ h1
  · rw [pvTok_num c]; exact kept_parseNumeric hP _ h1

theorem kept_pvK {cfg : Cfg} {f L : Nat} (r : Code × St) (h : P r.2) : P (pvK cfg f L r).2.2 := by
  unfold pvK
  split
  · exact kept_pvTok hP _ h
  · exact h

theorem kept_peK2 {cfg : Cfg} {f L : Nat} {acc : List Val} (r : Code × St) (h : P r.2) : P (peK2 cfg f L acc r).2.2 := by
  obtain ⟨c, s⟩ := r
  cases c <;> try exact h
  simp only [peK2]
  have h1 := hP.cur h
  split
  · exact hP.mv h1
  · split
    · exact (kept_mutual hP f).2.1 _ _ _ (hP.mv h1)
    · exact h1

theorem kept_peK1 {cfg : Cfg} {f L : Nat} {acc : List Val} (r : Code × Val × St) (h : P r.2.2) :
    P (peK1 cfg f L acc r).2.2 := by
  unfold peK1
  split
  · exact kept_peK2 hP _ (kept_skipSpaces hP _ _ h)
  · exact h

theorem kept_pmK4 {cfg : Cfg} {f L : Nat} {ms : List (List Byte × Val)} (r : Code × St) (h : P r.2) :
    P (pmK4 cfg f L ms r).2.2 := by
  unfold pmK4
  split
  · exact (kept_mutual hP f).2.2 _ _ _ h
  · exact h

theorem kept_pmK3 {cfg : Cfg} {f L : Nat} {ms : List (List Byte × Val)} (r : Code × St) (h : P r.2) :
    P (pmK3 cfg f L ms r).2.2 := by
  obtain ⟨c, s⟩ := r
  cases c <;> try exact h
  simp only [pmK3]
  have h1 := hP.cur h
  split
  · exact hP.mv h1
  · split
    · exact kept_pmK4 hP _ (kept_skipSpaces hP _ _ (hP.mv h1))
    · exact h1

theorem kept_pmK2 {cfg : Cfg} {f L : Nat} {ms : List (List Byte × Val)} {key : List Byte} (r : Code × Val × St)
    (h : P r.2.2) : P (pmK2 cfg f L ms key r).2.2 := by
  unfold pmK2
  split
  · exact kept_pmK3 hP _ (kept_skipSpaces hP _ _ h)
  · exact h

theorem kept_pmK1 {cfg : Cfg} {f L : Nat} {ms : List (List Byte × Val)} {key : List Byte} (r : Code × St)
    (h : P r.2) : P (pmK1 cfg f L ms key r).2.2 := by
  obtain ⟨c, s⟩ := r
  cases c <;> try exact h
  simp only [pmK1]
  have h1 := hP.cur h
  split
  · exact h1
  · exact kept_pmK2 hP _ ((kept_mutual hP f).1 _ _ (hP.mv h1))

theorem kept_pmK0 {cfg : Cfg} {f L : Nat} {ms : List (List Byte × Val)} (r : Code × List Byte × St)
    (h : P r.2.2) : P (pmK0 cfg f L ms r).2.2 := by
  unfold pmK0
  split
  · exact kept_pmK1 hP _ (kept_skipSpaces hP _ _ h)
  · exact h

end
end JD
