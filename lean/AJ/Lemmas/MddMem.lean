/- Memory accounting for the slot-level MessagePack deserializer `MDD` (AJ/Model/MDD.lean), the twin of AJ/Lemmas/JddMem.lean:
   the slots handed out, the string bytes and the string nodes are bounded by the bytes CONSUMED - whatever the lengths and
   counts announced by the headers - and the StringBuffer's node never exceeds the maximal string length.
   * reader: `R.read` / `R.readBytes` against `pos`;
   * `MemM`: the step relation (document part `DL.MemD` with weight 1 for string nodes, and the buffer);
   * `mem_mp_all`: through `parseVariant / readArray / readObject`; a value that is read completely consumes one byte more
     than the slots it takes, which pays for the slot of the next element.
   Used by AJ/Props/C06Mem.lean. -/
import AJ.Lemmas.JddMem
import AJ.Lemmas.MddInv
import AJ.Lemmas.MddPos
namespace MD

theorem mem_read_some {r r1 : R} {c : JD.Byte} (e : r.read = (some c, r1)) : r1.pos = r.pos + 1 := by
  unfold R.read at e
  split at e
  · simp at e
  · simp only [Prod.mk.injEq, Option.some.injEq] at e
    obtain ⟨_, rfl⟩ := e
    rfl

theorem mem_readBytes_le (r : R) (n : Nat) : r.pos ≤ (r.readBytes n).2.pos := by
  unfold R.readBytes
  split <;> simp

theorem mem_readBytes_le' {r r1 : R} {n : Nat} {o : Option (List JD.Byte)} (e : r.readBytes n = (o, r1)) :
    r.pos ≤ r1.pos := by
  have := mem_readBytes_le r n; rw [e] at this; exact this

end MD

namespace MDD
open DL MD
open JD (Byte Code)

/-- the StringBuffer's node never exceeds the maximal string length -/
def MemBufM (maxLen : Nat) (x : S) : Prop := ∀ cap, x.b = some cap → cap ≤ maxLen

/-- a step of the MessagePack deserializer: the document part against the bytes taken from the reader, and the buffer -/
structure MemM (env : Env) (g : PL.Geo) (ks kb kc : Int) (x x' : S) (ok : Prop) : Prop where
  d : MemD g 1 ks kb kc x.r.pos x'.r.pos x.d x'.d ok
  buf : MemBufM env.maxStrLen x → MemBufM env.maxStrLen x'

theorem MemM.trans {env : Env} {g : PL.Geo} {ks1 kb1 kc1 ks2 kb2 kc2 : Int} {x x1 x2 : S} {P Q : Prop}
    (h1 : MemM env g ks1 kb1 kc1 x x1 P) (hp : P) (h2 : MemM env g ks2 kb2 kc2 x1 x2 Q) :
    MemM env g (ks1 + ks2) (kb1 + kb2) (kc1 + kc2) x x2 Q :=
  ⟨h1.d.trans hp h2.d, fun h => h2.buf (h1.buf h)⟩

theorem MemM.weaken {env : Env} {g : PL.Geo} {ks kb kc ks' kb' kc' : Int} {x x' : S} {P Q : Prop}
    (h : MemM env g ks kb kc x x' P) (h1 : ks ≤ ks') (h2 : kb ≤ kb') (h3 : kc ≤ kc') (hq : Q → P) :
    MemM env g ks' kb' kc' x x' Q :=
  ⟨h.d.weaken h1 h2 h3 hq, h.buf⟩

/-- the reader takes at least `j` bytes while the document goes through an operation that does not touch the buffer -/
theorem MemM.step {env : Env} {g : PL.Geo} {ks kb kc : Int} {x : S} {ok : Prop} (r' : R) (d' : Doc) (j : Nat)
    (hr : x.r.pos + j ≤ r'.pos) (hd : MemD g 1 ks kb kc x.r.pos x.r.pos x.d d' ok) :
    MemM env g (ks - j) (kb - j) (kc - j) x ⟨r', d', x.b⟩ ok := by
  refine ⟨⟨hd.hg, hd.ovh, by show x.r.pos ≤ r'.pos; omega, ?_, ?_, ?_, hd.always, hd.strong⟩, fun hb => hb⟩
  · have := hd.slots; show (PL.memSlots d'.pl : Int) + _ ≤ _ + r'.pos + _; omega
  · have := hd.sbytes; show (memStrBytes d' : Int) + _ ≤ _ + r'.pos + _; omega
  · have := hd.scount; show ((1 * d'.strings.length : Nat) : Int) + _ ≤ _ + r'.pos + _; omega

theorem MemM.rd {env : Env} {g : PL.Geo} {x : S} (r' : R) (j : Nat) (hg : x.d.g = g) (hr : x.r.pos + j ≤ r'.pos) :
    MemM env g (-(j : Int)) (-(j : Int)) (-(j : Int)) x ⟨r', x.d, x.b⟩ True :=
  (MemM.step (env := env) r' x.d j hr (MemD.passive hg (MemP.refl _))).weaken (by omega) (by omega) (by omega) (fun h => h)

/-- a node that `reserve` allocates has exactly the requested size, and requests beyond the maximal length are refused -/
theorem reserve_cap (maxLen : Nat) (x : S) (n : Nat) (h : MemBufM maxLen x) : MemBufM maxLen (reserve maxLen x n).2 := by
  rw [reserve_eq]
  have h1 : MemBufM maxLen (relIfSmall x n) := by
    unfold relIfSmall
    split
    · split
      · exact fun _ hc => by cases hc
      · exact h
    · exact h
  generalize relIfSmall x n = y at h1
  unfold acquire
  cases hb : y.b with
  | some cap => exact h1
  | none =>
    simp only
    split
    · exact fun _ hc => by cases hc
    · rename_i hle
      split
      · intro c hc
        simp only [Option.some.injEq] at hc
        omega
      · exact fun _ hc => by cases hc

/-- `StringBuffer::reserve(n)`: allocator traffic only; the node it leaves has at most `maxLen` bytes -/
theorem mem_reserve (env : Env) {g : PL.Geo} (x : S) (n : Nat) (hg : x.d.g = g) :
    MemM env g 0 0 0 x (reserve env.maxStrLen x n).2 True ∧ (reserve env.maxStrLen x n).2.r = x.r := by
  have ro := (mp_reserve_spec env.maxStrLen x n).1
  refine ⟨⟨?_, reserve_cap env.maxStrLen x n⟩, ro.r⟩
  rw [ro.r]
  exact MemD.passive hg (mem_P_pleq ro.pleq)

/-- `StringBuffer::save`: a new node costs its bytes; an equal stored string costs nothing -/
theorem mem_save (env : Env) {g : PL.Geo} (x : S) (bytes : List Byte) (hg : x.d.g = g) :
    MemM env g 0 bytes.length 1 x (save x bytes).2 True := by
  cases hf : x.d.strings.find? (·.bytes == bytes) with
  | some y =>
    rw [mp_save_eq_found hf]
    have hP : MemP x.d { x.d with strings :=
        (x.d.strings.map (fun z => if z.id == y.id then { z with refs := z.refs + 1 } else z)) } := by
      refine ⟨rfl, rfl, rfl, rfl, rfl, ?_⟩
      simp only [List.map_map]
      have : ((fun z : StrNode => z.bytes) ∘ fun z : StrNode => if (z.id == y.id) = true then { z with refs := z.refs + 1 } else z) =
          fun z : StrNode => z.bytes := by
        funext z; simp only [Function.comp]; split <;> rfl
      rw [this]
      exact List.Sublist.refl _
    exact (MemM.step (env := env) x.r _ 0 (Nat.le_refl _) (MemD.passive hg hP)).weaken (by omega) (by omega) (by omega)
      (fun h => h)
  | none =>
    rw [mp_save_eq_new hf]
    obtain ⟨hp, _, htc, hth, _⟩ := shrunkPl_facts x bytes
    have hD : MemD g 1 0 bytes.length 1 x.r.pos x.r.pos x.d
        { x.d with pl := shrunkPl x bytes, strings := ⟨x.d.nextNode, bytes, 1⟩ :: x.d.strings, nextNode := x.d.nextNode + 1 }
        True := by
      refine ⟨hg, rfl, Nat.le_refl _, ?_, ?_, ?_, fun a => PL.MemA.congr (s := x.d.pl) hp htc hth a,
        fun a => ⟨PL.MemW.congr (s := x.d.pl) hp a.weak, fun _ => PL.MemS.congr (s := x.d.pl) hp a⟩⟩
      · have : PL.memSlots (shrunkPl x bytes) = PL.memSlots x.d.pl := PL.mem_memSlots_congr hp
        show (PL.memSlots (shrunkPl x bytes) : Int) + _ ≤ _
        omega
      · simp only [memStrBytes, List.map_cons, List.sum_cons]; omega
      · simp only [List.length_cons]; omega
    exact ⟨hD, fun _ cap hc => by cases hc⟩

/-- `readString(n)`: the buffer is reserved first (nothing is consumed for it); the bytes of a string that is read were
    consumed -/
theorem mem_readString (env : Env) {g : PL.Geo} (x : S) (n : Nat) (hg : x.d.g = g) :
    ∃ K : Nat, MemM env g (-(K : Int)) (-(K : Int)) (-(K : Int)) x (readString env x n).2.2 True ∧
      ((readString env x n).1 = .ok → (readString env x n).2.1.length ≤ K) := by
  obtain ⟨t1, hr⟩ := mem_reserve env x n hg
  rw [readString_eq]
  cases (reserve env.maxStrLen x n).1 with
  | false => exact ⟨0, t1.weaken (by omega) (by omega) (by omega) (fun h => h), fun h => by cases h⟩
  | true =>
    rw [if_pos rfl]
    split
    · rename_i bs r heq
      obtain ⟨hl, hp⟩ := mem_readBytes_some heq
      have t2 := MemM.rd (env := env) (x := (reserve env.maxStrLen x n).2) r n t1.d.hg (by omega)
      exact ⟨n, (t1.trans trivial t2).weaken (by omega) (by omega) (by omega) (fun h => h), fun _ => by simp only; omega⟩
    · rename_i r heq
      have hp := mem_readBytes_le' heq
      have t2 := MemM.rd (env := env) (x := (reserve env.maxStrLen x n).2) r 0 t1.d.hg (by omega)
      exact ⟨0, (t1.trans trivial t2).weaken (by omega) (by omega) (by omega) (fun h => h), fun h => by cases h⟩

/-- storing a number: at most one (extension) slot -/
theorem mem_store (env : Env) {g : PL.Geo} (x : S) (l : Loc) (a : Arg) (gok : PL.GeoOK g) (hg : x.d.g = g)
    (ha : match a with | .uint _ | .sint _ | .f32 _ | .f64 _ => True | _ => False) :
    MemM env g 1 0 0 x (store x l a).2 ((store x l a).1 = .ok) := by
  unfold store
  simp only
  refine (MemM.step (env := env) x.r _ 0 (Nat.le_refl _) (mem_D_setArg_num x.d l a gok hg ha)).weaken
    (by omega) (by omega) (by omega) (fun q => ?_)
  cases hh : (x.d.setArg l a).1 with
  | true => rfl
  | false => rw [hh] at q; simp at q

/-! ## The statements, by fuel -/

/-- result of `parseVariant`: a value that is read completely consumed one byte more than the slots it took -/
def MemRV (env : Env) (g : PL.Geo) (x : S) (out : Code × S × Bool) : Prop :=
  MemM env g (if out.1 = .ok then -1 else 0) 0 0 x out.2.1 (out.1 = .ok)

/-- result of `readArray` / `readObject`: the first slot is paid by the header -/
def MemRA (env : Env) (g : PL.Geo) (x : S) (out : Code × S) : Prop :=
  MemM env g (if out.1 = .ok then 0 else 1) 0 0 x out.2 (out.1 = .ok)

def MemMV (env : Env) (g : PL.Geo) (fuel : Nat) : Prop := ∀ (limit : Nat) (l : Loc) (x : S), x.d.g = g →
  MemRV env g x (parseVariant env fuel limit l x)
def MemMA (env : Env) (g : PL.Geo) (fuel : Nat) : Prop := ∀ (limit : Nat) (l : Loc) (n : Nat) (x : S), x.d.g = g →
  MemRA env g x (readArray env fuel limit l n x)
def MemMO (env : Env) (g : PL.Geo) (fuel : Nat) : Prop := ∀ (limit : Nat) (l : Loc) (n : Nat) (x : S), x.d.g = g →
  MemRA env g x (readObject env fuel limit l n x)

/-- a leaf: at least the format byte was consumed, nothing was allocated -/
theorem mem_rv_leaf {env : Env} {g : PL.Geo} {x : S} (c : Code) (r' : R) (d' : Doc) (b : Bool) (hg : x.d.g = g)
    (hr : x.r.pos + 1 ≤ r'.pos) (hd : MemP x.d d') : MemRV env g x (c, ⟨r', d', x.b⟩, b) := by
  unfold MemRV
  refine (MemM.step (env := env) r' d' 1 hr (MemD.passive hg hd)).weaken ?_ (by omega) (by omega) (fun _ => trivial)
  split <;> omega

/-- closing a `parseVariant` branch: at least one byte more than slots -/
theorem mem_rv_of {env : Env} {g : PL.Geo} {ks kb kc : Int} {x x' : S} {P : Prop} (c : Code) (b : Bool)
    (h : MemM env g ks kb kc x x' P) (h1 : ks ≤ -1) (h2 : kb ≤ 0) (h3 : kc ≤ 0) (hp : c = .ok → P) :
    MemRV env g x (c, x', b) := by
  unfold MemRV
  refine h.weaken ?_ h2 h3 hp
  show ks ≤ if c = Code.ok then -1 else 0
  split <;> omega

/-- a collection: the header byte pays for the first slot -/
theorem mem_rv_coll {env : Env} {g : PL.Geo} {kb kc : Int} {x x1 : S} (out : Code × S) (b : Bool)
    (h1 : MemM env g (-1) kb kc x x1 True) (h2 : MemRA env g x1 out) (hb : kb ≤ 0) (hc : kc ≤ 0) :
    MemRV env g x (out.1, out.2, b) := by
  unfold MemRV MemRA at *
  refine (h1.trans trivial h2).weaken ?_ (by omega) (by omega) (fun h => h)
  show (-1 : Int) + (if out.1 = Code.ok then 0 else 1) ≤ if out.1 = Code.ok then -1 else 0
  split <;> omega

section leaves
variable {env : Env} {g : PL.Geo} {x : S}

/-- a number stored after at least one payload byte -/
theorem mem_rv_stored (gok : PL.GeoOK g) (hg : x.d.g = g) (l : Loc) (r' : R) (a : Arg) (hr : x.r.pos + 2 ≤ r'.pos)
    (ha : match a with | .uint _ | .sint _ | .f32 _ | .f64 _ => True | _ => False) :
    MemRV env g x (fin (store ⟨r', x.d, x.b⟩ l a)) :=
  mem_rv_of _ true ((MemM.rd (env := env) (x := x) r' 2 hg hr).trans trivial (mem_store env ⟨r', x.d, x.b⟩ l a gok hg ha))
    (by omega) (by omega) (by omega) (fun h => h)

theorem mem_leafInt (gok : PL.GeoOK g) (hg : x.d.g = g) (l : Loc) (w c : Nat) (r1 : R) (h1 : x.r.pos + 1 ≤ r1.pos)
    (hw : 1 ≤ w) : MemRV env g x (leafInt l w c ⟨r1, x.d, x.b⟩) := by
  unfold leafInt
  split
  · rename_i bs r heq
    have hp : r.pos = r1.pos + w := (MD.mem_readBytes_some heq).2
    split
    · exact mem_rv_stored gok hg l r _ (by omega) trivial
    · exact mem_rv_stored gok hg l r _ (by omega) trivial
    · exact mem_rv_leaf _ r _ true hg (by omega) (MemP.refl _)
  · rename_i r heq
    exact mem_rv_leaf _ r _ true hg (Nat.le_trans h1 (MD.mem_readBytes_le' heq)) (MemP.refl _)

theorem mem_leafF32 (hg : x.d.g = g) (l : Loc) (r1 : R) (h1 : x.r.pos + 1 ≤ r1.pos) :
    MemRV env g x (leafF32 l ⟨r1, x.d, x.b⟩) := by
  unfold leafF32
  split
  · rename_i bs r heq
    exact mem_rv_leaf _ r _ true hg (Nat.le_trans h1 (MD.mem_readBytes_le' heq)) (mem_P_set _ _ _)
  · rename_i r heq
    exact mem_rv_leaf _ r _ true hg (Nat.le_trans h1 (MD.mem_readBytes_le' heq)) (MemP.refl _)

theorem mem_leafF64 (gok : PL.GeoOK g) (hg : x.d.g = g) (l : Loc) (r1 : R) (h1 : x.r.pos + 1 ≤ r1.pos) :
    MemRV env g x (leafF64 l ⟨r1, x.d, x.b⟩) := by
  unfold leafF64
  split
  · rename_i bs r heq
    have hp : r.pos = r1.pos + 8 := (MD.mem_readBytes_some heq).2
    exact mem_rv_stored gok hg l r _ (by omega) trivial
  · rename_i r heq
    exact mem_rv_leaf _ r _ true hg (Nat.le_trans h1 (MD.mem_readBytes_le' heq)) (MemP.refl _)

/-- a collection is opened: the header byte pays for the first slot of `body`, which runs on the emptied collection -/
theorem mem_leafColl (hg : x.d.g = g) (l : Loc) (v : VData) (r1 : R) (h1 : x.r.pos + 1 ≤ r1.pos) (body : S → Code × S)
    (ih : ∀ y : S, y.d.g = g → MemRA env g y (body y)) :
    MemRV env g x (fin (body ⟨r1, x.d.set l v, x.b⟩)) := by
  have t1 := MemM.step (env := env) (x := x) r1 (x.d.set l v) 1 h1 (MemD.passive hg (mem_P_set _ _ _))
  exact mem_rv_coll _ true (t1.weaken (by omega) (Int.le_refl _) (Int.le_refl _) (fun h => h)) (ih _ t1.d.hg)
    (by omega) (by omega)

theorem mem_leafStr (hg : x.d.g = g) (l : Loc) (size : Nat) (r1 : R) (h1 : x.r.pos + 1 ≤ r1.pos) :
    MemRV env g x (leafStr env l size ⟨r1, x.d, x.b⟩) := by
  have t1 := MemM.rd (env := env) (x := x) r1 1 hg h1
  obtain ⟨K, t2, hK⟩ := mem_readString env ⟨r1, x.d, x.b⟩ size hg
  unfold leafStr
  split
  · rename_i bs x' heq
    rw [heq] at t2 hK
    have hK' : bs.length ≤ K := hK rfl
    have t3 := mem_save env x' bs t2.d.hg
    have t4 := MemM.step (env := env) (x := (save x' bs).2) (save x' bs).2.r
      ((save x' bs).2.d.set l (.owned (save x' bs).1)) 0 (Nat.le_refl _) (MemD.passive t3.d.hg (mem_P_set _ l _))
    exact mem_rv_of _ true (((t1.trans trivial t2).trans trivial t3).trans trivial t4)
      (by omega) (by omega) (by omega) (fun _ => trivial)
  · rename_i e bs x' hne heq
    rw [heq] at t2
    exact mem_rv_of _ true (t1.trans trivial t2) (by omega) (by omega) (by omega) (fun _ => trivial)

/-- a binary or extension value is stored with its header: the format byte and the size bytes `hb` were consumed too -/
theorem mem_leafBin (hg : x.d.g = g) (l : Loc) (code : Byte) (sb : Nat) (ie : Bool) (hb : List Byte) (size : Nat) (r1 : R)
    (h1 : x.r.pos + (1 + hb.length) ≤ r1.pos) : MemRV env g x (leafBin env l code sb ie hb size ⟨r1, x.d, x.b⟩) := by
  have t1 := MemM.rd (env := env) (x := x) r1 (1 + hb.length) hg h1
  obtain ⟨t2, hr⟩ := mem_reserve env ⟨r1, x.d, x.b⟩ (1 + sb + MD.binSize ie size) hg
  unfold leafBin
  split
  · rename_i x' heq
    rw [heq] at t2
    exact mem_rv_of _ true (t1.trans trivial t2) (by omega) (by omega) (by omega) (fun _ => trivial)
  · rename_i x' heq
    rw [heq] at t2
    split
    · rename_i bs r heq2
      obtain ⟨hl, hp⟩ := MD.mem_readBytes_some heq2
      have t3 := MemM.rd (env := env) (x := x') r (MD.binSize ie size) t2.d.hg (Nat.le_of_eq hp.symm)
      have t4 := mem_save env ⟨r, x'.d, x'.b⟩ (code :: hb ++ bs) t2.d.hg
      have t5 := MemM.step (env := env) (x := (save ⟨r, x'.d, x'.b⟩ (code :: hb ++ bs)).2)
        (save ⟨r, x'.d, x'.b⟩ (code :: hb ++ bs)).2.r
        ((save ⟨r, x'.d, x'.b⟩ (code :: hb ++ bs)).2.d.set l (.raw (save ⟨r, x'.d, x'.b⟩ (code :: hb ++ bs)).1)) 0
        (Nat.le_refl _) (MemD.passive t4.d.hg (mem_P_set _ l _))
      have hlen : (code :: hb ++ bs).length = 1 + hb.length + MD.binSize ie size := by
        simp only [List.length_cons, List.length_append]; omega
      rw [hlen] at t4
      exact mem_rv_of _ true ((((t1.trans trivial t2).trans trivial t3).trans trivial t4).trans trivial t5)
        (by omega) (by omega) (by omega) (fun _ => trivial)
    · rename_i r heq2
      have t3 := MemM.rd (env := env) (x := x') r 0 t2.d.hg (MD.mem_readBytes_le' heq2)
      exact mem_rv_of _ true ((t1.trans trivial t2).trans trivial t3) (by omega) (by omega) (by omega) (fun _ => trivial)

end leaves

/-- the reader only moves forward -/
theorem posLe_keep (p : Nat) : MD.RKeep (fun r => p ≤ r.pos) where
  read := fun r h => by
    unfold R.read
    split
    · exact h
    · exact Nat.le_trans h (Nat.le_add_right _ _)
  readBytes := fun r n h => Nat.le_trans h (MD.mem_readBytes_le r n)
  skipBytes := fun r n h => by
    unfold R.skipBytes
    split <;> exact Nat.le_trans h (Nat.le_add_right _ _)

theorem mem_mv_succ (env : Env) (g : PL.Geo) (gok : PL.GeoOK g) (f : Nat) (ihA : MemMA env g f) (ihO : MemMO env g f) :
    MemMV env g (f+1) := by
  intro limit l x hg
  rw [parseVariant_step]
  split
  · rename_i r1 heq
    rw [MD.q_read_none heq]
    exact (MemM.rd (env := env) x.r 0 hg (Nat.le_refl _)).weaken (by simp) (by omega) (by omega) (fun _ => trivial)
  · rename_i code r1 heq
    have h1 : x.r.pos + 1 ≤ r1.pos := Nat.le_of_eq (MD.mem_read_some heq).symm
    have hr := fun r => (posLe_keep (x.r.pos + 1)).classify code (r := r) h1
    have hm := MD.classify_ok code r1
    generalize MD.classify code r1 = hd at hr hm
    cases hd with
    | int w c => exact mem_leafInt gok hg l w c r1 h1 hm
    | nil => exact mem_rv_leaf _ r1 _ true hg h1 (MemP.refl _)
    | invalid => exact mem_rv_leaf _ r1 _ true hg h1 (MemP.refl _)
    | bool c => exact mem_rv_leaf _ r1 _ true hg h1 (mem_P_set _ _ _)
    | f32 => exact mem_leafF32 hg l r1 h1
    | f64 => exact mem_leafF64 gok hg l r1 h1
    | fix c => exact mem_rv_leaf _ r1 _ true hg h1 (mem_P_set _ _ _)
    | inc r => exact mem_rv_leaf _ r _ true hg (hr r rfl) (MemP.refl _)
    | arr size r =>
      cases limit with
      | zero => exact mem_rv_leaf _ r _ true hg (hr r rfl) (MemP.refl _)
      | succ lim' => exact mem_leafColl hg l _ r (hr r rfl) _ (ihA lim' l size)
    | map size r =>
      cases limit with
      | zero => exact mem_rv_leaf _ r _ true hg (hr r rfl) (MemP.refl _)
      | succ lim' => exact mem_leafColl hg l _ r (hr r rfl) _ (ihO lim' l size)
    | str size r => exact mem_leafStr hg l size r (hr r rfl)
    | bin sb ie hb size r =>
      have hm : r1.pos + hb.length ≤ r.pos := hm
      exact mem_leafBin hg l code sb ie hb size r (by omega)

/-- closing a `readArray` / `readObject` branch that stops -/
theorem mem_ra_of {env : Env} {g : PL.Geo} {ks kb kc : Int} {x x' : S} {P : Prop} (c : Code)
    (h : MemM env g ks kb kc x x' P) (h1 : ks ≤ 1) (h1' : c = .ok → ks ≤ 0) (h2 : kb ≤ 0) (h3 : kc ≤ 0) (hp : c = .ok → P) :
    MemRA env g x (c, x') := by
  unfold MemRA
  refine h.weaken ?_ h2 h3 hp
  show ks ≤ if c = Code.ok then 0 else 1
  split
  · rename_i hc; exact h1' hc
  · exact h1

/-- going round the loop: the step before the recursive call is paid -/
theorem mem_ra_loop {env : Env} {g : PL.Geo} {ks kb kc : Int} {x x1 : S} (out : Code × S)
    (h1 : MemM env g ks kb kc x x1 True) (h2 : MemRA env g x1 out) (hs : ks ≤ 0) (hb : kb ≤ 0) (hc : kc ≤ 0) :
    MemRA env g x out := by
  unfold MemRA at *
  refine (h1.trans trivial h2).weaken ?_ (by omega) (by omega) (fun h => h)
  show ks + (if out.1 = Code.ok then 0 else 1) ≤ if out.1 = Code.ok then 0 else 1
  split <;> omega

theorem mem_ma_succ (env : Env) (g : PL.Geo) (gok : PL.GeoOK g) (f : Nat) (ihV : MemMV env g f) (ihA : MemMA env g f) :
    MemMA env g (f+1) := by
  intro limit l n x hg
  simp only [readArray]
  refine of_ite (Q := MemRA env g x) (fun _ => ?_) (fun _ => ?_)
  · exact mem_ra_of _ (MemM.rd (env := env) x.r 0 hg (Nat.le_refl _)) (by omega) (fun _ => by omega) (by omega) (by omega)
      (fun _ => trivial)
  · have t1 := MemM.step (env := env) (x := x) x.r (x.d.addElement l).2 0 (Nat.le_refl _) (mem_D_addElement x.d l gok hg)
    split
    · rename_i d1 heq
      rw [heq] at t1
      exact mem_ra_of _ t1 (by omega) (fun h => by cases h) (by omega) (by omega) (fun h => by cases h)
    · rename_i id d1 heq
      rw [heq] at t1
      simp only at t1
      have t2 := ihV limit (.slot id) ⟨x.r, d1, x.b⟩ t1.d.hg
      unfold MemRV at t2
      split
      · rename_i x2 b2 heq2
        rw [heq2] at t2
        simp only [if_true] at t2
        exact mem_ra_loop _ ((t1.trans rfl t2).weaken (Int.le_refl _) (Int.le_refl _) (Int.le_refl _) (fun _ => trivial)) (ihA limit l (n - 1) x2 t2.d.hg) (by omega) (by omega) (by omega)
      · rename_i e x2 b2 hne heq2
        rw [heq2] at t2
        have he : e ≠ .ok := fun h => hne (by rw [h])
        simp only [if_neg he] at t2
        exact mem_ra_of _ (t1.trans rfl t2) (by omega) (fun h => absurd h he) (by omega) (by omega) (fun h => h)

theorem mem_mo_succ (env : Env) (g : PL.Geo) (gok : PL.GeoOK g) (f : Nat) (ihV : MemMV env g f) (ihO : MemMO env g f) :
    MemMO env g (f+1) := by
  intro limit l n x hg
  rw [readObject_succ]
  refine of_ite (Q := MemRA env g x) (fun _ => ?_) (fun _ => ?_)
  · exact mem_ra_of _ (MemM.rd (env := env) x.r 0 hg (Nat.le_refl _)) (by omega) (fun _ => by omega) (by omega) (by omega)
      (fun _ => trivial)
  split
  · rename_i r1 heq
    exact mem_ra_of _ (MemM.rd (env := env) r1 0 hg (by rw [MD.q_read_none heq]; exact Nat.le_refl _)) (by omega)
      (fun h => by cases h) (by omega) (by omega) (fun _ => trivial)
  · rename_i code r1 heq
    have h1 := MD.mem_read_some heq
    have h2 : r1.pos ≤ (MD.keyLenOf_d3 code r1).2.pos := (posLe_keep r1.pos).keyLen code (Nat.le_refl _)
    generalize MD.keyLenOf_d3 code r1 = kl at h2
    obtain ⟨kl, r2⟩ := kl
    replace h2 : r1.pos ≤ r2.pos := h2
    obtain _ | _ | len := kl
    · exact mem_ra_of _ (MemM.rd (env := env) r2 0 hg (by omega)) (by omega) (fun h => by cases h) (by omega) (by omega)
        (fun _ => trivial)
    · exact mem_ra_of _ (MemM.rd (env := env) r2 0 hg (by omega)) (by omega) (fun h => by cases h) (by omega) (by omega)
        (fun _ => trivial)
    · simp only
      have t1 := MemM.rd (env := env) (x := x) r2 1 hg (by omega)
      obtain ⟨K, t2, hK⟩ := mem_readString env ⟨r2, x.d, x.b⟩ len hg
      unfold roKey
      split
      · rename_i key x1 heq3
        rw [heq3] at t2 hK
        simp only at t2 hK
        have hK' := hK trivial
        have t3 := mem_save env x1 key t2.d.hg
        have t4 := MemM.step (env := env) (x := (save x1 key).2) (save x1 key).2.r
          (JDD.addMemberNode (save x1 key).2.d l (save x1 key).1).2 0 (Nat.le_refl _)
          (mem_D_addMemberNode (save x1 key).2.d l (save x1 key).1 gok t3.d.hg)
        have t14 := ((t1.trans trivial t2).trans trivial t3).trans trivial t4
        split
        · rename_i d2 heq4
          rw [heq4] at t14
          exact mem_ra_of _ t14 (by omega) (fun h => by cases h) (by omega) (by omega) (fun h => by cases h)
        · rename_i v d2 heq4
          rw [heq4] at t14
          simp only at t14
          have t5 := ihV limit (.slot v) ⟨(save x1 key).2.r, d2, (save x1 key).2.b⟩ t14.d.hg
          unfold MemRV at t5
          unfold roVal
          split
          · rename_i x3 b3 heq5
            rw [heq5] at t5
            simp only [if_true] at t5
            exact mem_ra_loop _ ((t14.trans rfl t5).weaken (Int.le_refl _) (Int.le_refl _) (Int.le_refl _) (fun _ => trivial))
              (ihO limit l (n - 1) x3 t5.d.hg) (by omega) (by omega) (by omega)
          · rename_i e x3 b3 hne heq5
            rw [heq5] at t5
            have he : e ≠ .ok := fun h => hne (by rw [h])
            simp only [if_neg he] at t5
            exact mem_ra_of _ (t14.trans rfl t5) (by omega) (fun h => absurd h he) (by omega) (by omega) (fun h => h)
      · rename_i e key x1 hne heq3
        rw [heq3] at t2
        have he : e ≠ .ok := fun h => hne (by rw [h])
        exact mem_ra_of _ (t1.trans trivial t2) (by omega) (fun h => absurd h he) (by omega) (by omega) (fun _ => trivial)

theorem mem_mv_zero (env : Env) (g : PL.Geo) : MemMV env g 0 := by
  intro limit l x hg
  simp only [parseVariant]
  exact (MemM.rd (env := env) x.r 0 hg (Nat.le_refl _)).weaken (by simp) (by omega) (by omega) (fun _ => trivial)

theorem mem_ma_zero (env : Env) (g : PL.Geo) : MemMA env g 0 := by
  intro limit l n x hg
  simp only [readArray]
  exact mem_ra_of _ (MemM.rd (env := env) x.r 0 hg (Nat.le_refl _)) (by omega) (fun h => by cases h) (by omega) (by omega)
    (fun _ => trivial)

theorem mem_mo_zero (env : Env) (g : PL.Geo) : MemMO env g 0 := by
  intro limit l n x hg
  simp only [readObject]
  exact mem_ra_of _ (MemM.rd (env := env) x.r 0 hg (Nat.le_refl _)) (by omega) (fun h => by cases h) (by omega) (by omega)
    (fun _ => trivial)

/-- the accounting through the whole mutual block, for every fuel -/
theorem mem_mp_all (env : Env) (g : PL.Geo) (gok : PL.GeoOK g) :
    ∀ fuel, MemMV env g fuel ∧ MemMA env g fuel ∧ MemMO env g fuel := by
  intro fuel
  induction fuel with
  | zero => exact ⟨mem_mv_zero env g, mem_ma_zero env g, mem_mo_zero env g⟩
  | succ f ih =>
    obtain ⟨ihV, ihA, ihO⟩ := ih
    exact ⟨mem_mv_succ env g gok f ihA ihO, mem_ma_succ env g gok f ihV ihA, mem_mo_succ env g gok f ihV ihO⟩

/-! ## `run` -/

/-- the state in which the MessagePack parser stops (StringBuffer alive) -/
def memStop (env : Env) (limit : Nat) (d : Doc) (input : List Byte) : Code × S × Bool :=
  parseVariant env (2 * input.length + 4) limit .root { r := { unread := input }, d := d.clearAll }

/-- what the accounting says about a state reached after `n` bytes were taken from the input -/
structure MemStopM (env : Env) (g : PL.Geo) (x : S) (n : Nat) (ok : Prop) : Prop where
  hg : x.d.g = g
  slots : PL.memSlots x.d.pl ≤ n
  sbytes : memStrBytes x.d ≤ n
  scount : x.d.strings.length ≤ n
  always : PL.MemA g x.d.pl
  weak : PL.MemW g x.d.pl
  strong : ok → PL.MemS g x.d.pl
  buf : ∀ cap, x.b = some cap → cap ≤ env.maxStrLen

/-- MAIN (state in which the parser stops): for every input - whatever its headers announce - and failure schedule -/
theorem mem_stop (env : Env) (limit : Nat) (d : Doc) (input : List Byte) (gok : PL.GeoOK d.g) :
    MemStopM env d.g (memStop env limit d input).2.1 (memStop env limit d input).2.1.r.pos
      ((memStop env limit d input).1 = .ok) ∧
    (memStop env limit d input).2.1.d.strOverhead = d.strOverhead := by
  obtain ⟨a, b, c, e, f⟩ := JDD.mem_clearAll_start d
  have T := (mem_mp_all env d.g gok (2 * input.length + 4)).1 limit .root
    { r := { unread := input }, d := d.clearAll } e
  unfold MemRV at T
  change MemM env d.g _ 0 0 _ (memStop env limit d input).2.1 ((memStop env limit d input).1 = .ok) at T
  have h0 : PL.memSlots d.clearAll.pl = 0 := by unfold PL.memSlots; rw [a]; rfl
  have h1 : memStrBytes d.clearAll = 0 := by unfold memStrBytes; rw [c]; rfl
  have h2 : d.clearAll.strings.length = 0 := by rw [c]; rfl
  have hS := T.d.strong (PL.mem_nil_S a)
  have hk : (if (memStop env limit d input).1 = Code.ok then (-1 : Int) else 0) ≤ 0 := by split <;> omega
  refine ⟨⟨T.d.hg, ?_, ?_, ?_, T.d.always (PL.mem_nil_A a b), hS.1, hS.2, ?_⟩, T.d.ovh.trans f⟩
  · have := T.d.slots
    simp only at this
    rw [h0] at this
    show PL.memSlots _ ≤ _
    omega
  · have := T.d.sbytes
    simp only at this
    rw [h1] at this
    show memStrBytes _ ≤ _
    omega
  · have := T.d.scount
    simp only at this
    rw [h2] at this
    show List.length _ ≤ _
    omega
  · exact T.buf (fun c hc => by cases hc)

/-- the accounting carried to the document `run` returns -/
theorem mem_run_facts (env : Env) (limit : Nat) (d : Doc) (input : List Byte) (gok : PL.GeoOK d.g) :
    (run env limit d input).2.1.g = d.g ∧ (run env limit d input).2.1.strOverhead = d.strOverhead ∧
    PL.memSlots (run env limit d input).2.1.pl = PL.memSlots (memStop env limit d input).2.1.d.pl ∧
    (run env limit d input).2.1.strings = (memStop env limit d input).2.1.d.strings ∧
    PL.MemA d.g (run env limit d input).2.1.pl ∧ PL.MemW d.g (run env limit d input).2.1.pl ∧
    ((run env limit d input).2.1.pl.tableHeap = true →
      (run env limit d input).2.1.pl.tableCap = (run env limit d input).2.1.pl.pools.length) ∧
    (run env limit d input).2.2 = (memStop env limit d input).2.1.r.pos := by
  obtain ⟨ms, ho⟩ := mem_stop env limit d input gok
  have pq := (mp_preShrink_pleq env limit d input).1
  have pe : MemP (memStop env limit d input).2.1.d (mp_preShrink env limit d input) := mem_P_pleq pq
  have pstr : (mp_preShrink env limit d input).strings = (memStop env limit d input).2.1.d.strings := pq.strings
  have hgp : (mp_preShrink env limit d input).g = d.g := pe.g.trans ms.hg
  obtain ⟨s1, s2, s3, s4⟩ := PL.mem_shrink (mp_preShrink env limit d input).g (mp_preShrink env limit d input).pl
  have hAp : PL.MemA (mp_preShrink env limit d input).g (mp_preShrink env limit d input).pl := by
    rw [hgp]; exact ms.always.congr pe.pools pe.tcap pe.theap
  rw [mp_run_eq]
  refine ⟨hgp, pe.ovh.trans ho, ?_, pstr, ?_, ?_, s4, rfl⟩
  · show PL.memSlots (PL.shrink _ _) = _
    rw [s1, PL.mem_memSlots_congr pe.pools]
  · show PL.MemA d.g (PL.shrink _ _)
    have := s3 hAp
    generalize (mp_preShrink env limit d input).g = g' at hgp this ⊢
    subst hgp; exact this
  · show PL.MemW d.g (PL.shrink _ _)
    unfold PL.MemW
    rw [s1, s2, PL.mem_memSlots_congr pe.pools, pe.pools]
    exact ms.weak

/-! ## The reader stays inside the input -/

/-- never more bytes consumed than the input has -/
theorem mem_run_pos_le (env : Env) (limit : Nat) (d : Doc) (input : List Byte) :
    (run env limit d input).2.2 ≤ input.length := by
  have h0 : MemQ input.length ({ unread := input } : R) := by simp [MemQ]
  have h := (keep_all (memQ_keep input.length) env (2 * input.length + 4)).1 limit .root
    { r := { unread := input }, d := d.clearAll } h0
  rw [mp_run_eq]
  unfold MemQ at h
  show (memStop env limit d input).2.1.r.pos ≤ _
  unfold memStop
  omega

end MDD
