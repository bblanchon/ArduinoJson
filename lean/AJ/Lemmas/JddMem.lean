/- Memory accounting for the slot-level JSON deserializer `JDD` (AJ/Model/JDD.lean): what the document holds is bounded
   by a linear function of the bytes CONSUMED.
   * PL level: `memSlots` (slots handed out by the pools), `MemA` (capacities, pool table), `MemS` (every pool but the
     last is full, the last one owns its block) / `MemW` (number of pools against slots), through `allocSlot`;
   * reader level: the potential `memE` (bytes consumed, the loaded look-ahead byte not counted) through every lexing routine;
   * deserializer level: the step relation `MemT` pushed through `parseVariant / parseElems / parseMembers` (`mem_parse_all`).
   Self-contained: no well-formedness of the document is needed.
   Used by AJ/Lemmas/MddMem.lean and AJ/Props/C06Mem.lean. -/
import AJ.Lemmas.JddInv
import AJ.Lemmas.FiltPos
import AJ.Lemmas.DocAlloc
namespace PL

/-! ## A. The pool list -/

/-- slots handed out by the pools so far (released slots included: they sit in the free list and are reused first) -/
def memSlots (s : St) : Nat := (s.pools.map (·.usage)).sum

/-- kept by every operation, failing or not: `usage ≤ cap ≤ poolCap` for every pool, a heap pool table has at most twice as many
    entries as there are pools -/
structure MemA (g : Geo) (s : St) : Prop where
  caps : ∀ p ∈ s.pools, p.usage ≤ p.cap ∧ p.cap ≤ g.poolCap
  tab : s.tableHeap = true → s.tableCap ≤ 2 * s.pools.length

/-- as long as no slot allocation has failed: every pool but the last has handed out `poolCap` slots, the last pool owns
    its block and has the full capacity (unless it is the pool that reaches `maxPools`) -/
structure MemS (g : Geo) (s : St) : Prop where
  full : ∀ p ∈ s.pools.dropLast, g.poolCap ≤ p.usage
  last : ∀ p, s.pools.getLast? = some p → p.hasBlock = true ∧ (p.cap = g.poolCap ∨ g.maxPools ≤ s.pools.length)

/-- the number of pools against the number of slots handed out: all pools but one are full -/
def MemW (g : Geo) (s : St) : Prop := (s.pools.length - 1) * g.poolCap ≤ memSlots s

theorem MemA.congr {g : Geo} {s s' : St} (h1 : s'.pools = s.pools) (h2 : s'.tableCap = s.tableCap)
    (h3 : s'.tableHeap = s.tableHeap) (h : MemA g s) : MemA g s' :=
  ⟨by rw [h1]; exact h.caps, by rw [h1, h2, h3]; exact h.tab⟩

theorem MemS.congr {g : Geo} {s s' : St} (h1 : s'.pools = s.pools) (h : MemS g s) : MemS g s' :=
  ⟨by rw [h1]; exact h.full, by rw [h1]; exact h.last⟩

theorem MemW.congr {g : Geo} {s s' : St} (h1 : s'.pools = s.pools) (h : MemW g s) : MemW g s' := by
  unfold MemW memSlots at *; rw [h1]; exact h

theorem mem_memSlots_congr {s s' : St} (h1 : s'.pools = s.pools) : memSlots s' = memSlots s := by
  unfold memSlots; rw [h1]

theorem mem_sum_ge (c : Nat) : ∀ (l : List Pool), (∀ p ∈ l, c ≤ p.usage) → l.length * c ≤ (l.map (·.usage)).sum
  | [], _ => by simp
  | p :: l, h => by
    have h1 := mem_sum_ge c l (fun q hq => h q (List.mem_cons_of_mem _ hq))
    have h2 := h p List.mem_cons_self
    simp only [List.length_cons, List.map_cons, List.sum_cons, Nat.add_mul]
    omega

theorem mem_slots_snoc (ps : List Pool) (p : Pool) :
    ((ps ++ [p]).map (·.usage)).sum = (ps.map (·.usage)).sum + p.usage := by
  simp [List.sum_append]

theorem MemS.weak {g : Geo} {s : St} (h : MemS g s) : MemW g s := by
  unfold MemW memSlots
  rcases List.eq_nil_or_concat s.pools with hp | ⟨ps, p, hp⟩
  · rw [hp]; simp
  · rw [List.concat_eq_append] at hp
    have hf := h.full
    rw [hp] at hf ⊢
    simp only [List.dropLast_concat] at hf
    rw [mem_slots_snoc]
    have := mem_sum_ge g.poolCap ps hf
    simp only [List.length_append, List.length_singleton, Nat.add_sub_cancel]
    omega

theorem mem_nil_S {g : Geo} {s : St} (h : s.pools = []) : MemS g s :=
  ⟨(by rw [h]; intro p hp; cases hp), (by rw [h]; intro p hp; cases hp)⟩

theorem mem_nil_A {g : Geo} {s : St} (h : s.pools = []) (ht : s.tableHeap = false) : MemA g s :=
  ⟨(by rw [h]; intro p hp; cases hp), (by rw [ht]; intro h; cases h)⟩

theorem mem_lastPool_some {g : Geo} {s s' : St} {id : Nat} (h : allocFromLastPool g s = (some id, s')) :
    memSlots s' = memSlots s + 1 ∧ (MemA g s → MemA g s') ∧ (MemS g s → MemS g s') := by
  obtain ⟨ps, p, hs, hb, hu, _, rfl⟩ := allocFromLastPool_some h
  refine ⟨?_, ?_, ?_⟩
  · unfold memSlots; rw [hs]; simp only [mem_slots_snoc]; omega
  · intro hA
    refine ⟨?_, ?_⟩
    · intro q hq
      simp only [List.mem_append, List.mem_singleton] at hq
      rcases hq with hq | rfl
      · exact hA.caps q (by rw [hs]; simp [hq])
      · have := hA.caps p (by rw [hs]; simp)
        exact ⟨by show p.usage + 1 ≤ p.cap; omega, this.2⟩
    · intro ht
      have := hA.tab ht
      rw [hs] at this
      simpa using this
  · intro hS
    have hf := hS.full
    have hl := hS.last p (by rw [hs]; simp)
    rw [hs] at hf hl
    simp only [List.dropLast_concat] at hf
    refine ⟨?_, ?_⟩
    · simp only [List.dropLast_concat]; exact hf
    · intro q hq
      simp only [List.getLast?_append, List.getLast?_singleton, Option.some_or, Option.some.injEq] at hq
      subst hq
      simp only [List.length_append, List.length_singleton] at hl ⊢
      exact ⟨hb, hl.2⟩

/-- growth of the pool table: at most doubled -/
theorem mem_increaseCapacity {g : Geo} {s s' : St} {ok : Bool} (h : increaseCapacity g s = (ok, s')) :
    s'.pools = s.pools ∧ (ok = false → s'.tableCap = s.tableCap ∧ s'.tableHeap = s.tableHeap) ∧
    (ok = true → s'.tableCap ≤ 2 * s.tableCap) := by
  obtain ⟨a, _, _, b, _⟩ := increaseCapacity_spec h
  refine ⟨a, b, ?_⟩
  unfold increaseCapacity at h
  split at h
  · cases h; intro h; cases h
  · rename_i hlt
    simp only at h
    generalize hnc : (if (decide (g.wrap (s.tableCap * 2) > g.maxPools) ||
        decide (g.wrap (s.tableCap * 2) < s.tableCap)) = true then g.maxPools
        else g.wrap (s.tableCap * 2)) = nc at h
    have hw : g.wrap (s.tableCap * 2) ≤ s.tableCap * 2 := Nat.mod_le _ _
    have hnc1 : nc ≤ 2 * s.tableCap := by
      rw [← hnc]
      split
      · rename_i hc
        simp only [Bool.or_eq_true, decide_eq_true_eq] at hc
        rcases hc with hc | hc
        · omega
        · have hM := g.maxPools_lt
          by_cases h2 : s.tableCap * 2 < 2 ^ (8 * g.idBytes)
          · rw [g.wrap_of_lt h2] at hc; omega
          · omega
      · omega
    split at h <;> split at h <;> cases h <;> simp [hnc1]

theorem mem_addPool {g : Geo} {s s' : St} {ok : Bool} (gok : GeoOK g) (h : addPool g s = (ok, s')) :
    (ok = false → s'.pools = s.pools ∧ s'.tableCap = s.tableCap ∧ s'.tableHeap = s.tableHeap) ∧
    (ok = true → s.pools.length < g.maxPools ∧ ∃ p, s'.pools = s.pools ++ [p] ∧ p.usage = 0 ∧ p.cap ≤ g.poolCap ∧
      (p.hasBlock = true → p.cap = g.poolCap ∨ g.maxPools ≤ s.pools.length + 1) ∧
      ((s.tableHeap = true → s.tableCap ≤ 2 * s.pools.length) →
        s'.tableHeap = true → s'.tableCap ≤ 2 * (s.pools.length + 1))) := by
  unfold addPool at h
  split at h
  · cases h; exact ⟨fun _ => ⟨rfl, rfl, rfl⟩, fun h => by cases h⟩
  · rename_i hlt
    simp only at h
    generalize hr : (if (s.pools.length == s.tableCap) = true then increaseCapacity g s else (true, s)) = r at h
    obtain ⟨ok1, s1⟩ := r
    have ht : s1.pools = s.pools ∧ (ok1 = false → s1.tableCap = s.tableCap ∧ s1.tableHeap = s.tableHeap) ∧
        (ok1 = true → (s.tableHeap = true → s.tableCap ≤ 2 * s.pools.length) → s1.tableHeap = true →
          s1.tableCap ≤ 2 * s.pools.length) := by
      split at hr
      · rename_i he
        have he' : s.pools.length = s.tableCap := by simpa using he
        obtain ⟨a, b, c⟩ := mem_increaseCapacity hr
        exact ⟨a, b, fun hk _ _ => by have := c hk; omega⟩
      · cases hr; exact ⟨rfl, fun h => Bool.noConfusion h, fun _ h => h⟩
    obtain ⟨t1, t2, t3⟩ := ht
    simp only at h
    split at h
    · rename_i hk
      have hk' : ok1 = false := by simpa using hk
      cases h
      obtain ⟨t21, t22⟩ := t2 hk'
      exact ⟨fun _ => ⟨t1, t21, t22⟩, fun h => by cases h⟩
    · rename_i hk
      have hk' : ok1 = true := by simpa using hk
      have hw : g.wrap (s1.pools.length + 1) = s.pools.length + 1 := by
        rw [t1]; exact g.wrap_of_lt (by have := g.maxPools_lt; omega)
      rw [hw] at h
      generalize hcap : (if (s.pools.length + 1 == g.maxPools) = true then g.nullSlot - (g.maxPools - 1) * g.poolCap
        else g.poolCap) = cap at h
      have hcap1 : cap ≤ g.poolCap ∧ (cap = g.poolCap ∨ g.maxPools ≤ s.pools.length + 1) := by
        rw [← hcap]
        split
        · rename_i he
          have he' : s.pools.length + 1 = g.maxPools := by simpa using he
          exact ⟨(g.last_pool_fits gok he').1, Or.inr (by omega)⟩
        · exact ⟨Nat.le_refl _, Or.inl rfl⟩
      obtain ⟨hcapA, hcapB⟩ := hcap1
      simp only [alloc_pools, alloc_free, alloc_tableCap, alloc_tableHeap, alloc_failAt, alloc_calls] at h
      generalize (s1.alloc (cap * g.slotSize)).fst = got at h
      generalize (s1.alloc (cap * g.slotSize)).snd.log = lg at h
      cases h
      refine ⟨fun h => Bool.noConfusion h, fun _ => ⟨by omega, _, by rw [t1], rfl, ?_, ?_, ?_⟩⟩
      · simp only; split <;> omega
      · intro hgot
        simp only at hgot
        simp only [hgot, if_true]; exact hcapB
      · intro hT hh
        have := t3 hk' hT hh
        show s1.tableCap ≤ _
        omega

/-- `allocSlot`: what it does to the pool list, whether it succeeds or not -/
theorem mem_allocSlot {g : Geo} {s s' : St} {r : Option Nat} (gok : GeoOK g) (h : allocSlot g s = (r, s')) :
    (MemA g s → MemA g s') ∧ memSlots s ≤ memSlots s' ∧ memSlots s' ≤ memSlots s + (if r.isSome then 1 else 0) ∧
    (MemS g s → MemW g s' ∧ (r.isSome = true → MemS g s')) := by
  have H := @allocSlot_cases g s (fun x => (MemA g s → MemA g x.2) ∧ memSlots s ≤ memSlots x.2 ∧
      memSlots x.2 ≤ memSlots s + (if x.1.isSome then 1 else 0) ∧
      (MemS g s → MemW g x.2 ∧ (x.1.isSome = true → MemS g x.2)))
  rw [h] at H
  refine H ?_ ?_ ?_
  · intro a rest _
    exact ⟨fun hA => MemA.congr (s := s) rfl rfl rfl hA, Nat.le_refl _, (by show memSlots s ≤ _; omega),
      fun hS => ⟨MemW.congr (s := s) rfl hS.weak, fun _ => MemS.congr (s := s) rfl hS⟩⟩
  · intro id s1 _ hr1
    obtain ⟨a, b, c⟩ := mem_lastPool_some hr1
    dsimp only
    exact ⟨b, by omega, by simp only [Option.isSome_some, if_true]; omega, fun hS => ⟨(c hS).weak, fun _ => c hS⟩⟩
  · -- the last pool cannot serve (or there is none): it is full when it owns its block
    intro ok s2 _ hlast hr2
    obtain ⟨p1, p2⟩ := mem_addPool gok hr2
    cases ok with
    | false =>
      obtain ⟨e1, e2, e3⟩ := p1 rfl
      simp only [Bool.not_false, if_true]
      exact ⟨fun hA => hA.congr e1 e2 e3, by rw [mem_memSlots_congr e1]; exact Nat.le_refl _,
        by rw [mem_memSlots_congr e1]; omega, fun hS => ⟨(hS.weak).congr e1, fun h => by cases h⟩⟩
    | true =>
      simp only [Bool.not_true, Bool.false_eq_true, if_false]
      generalize h : allocFromLastPool g s2 = x
      obtain ⟨r, s'⟩ := x
      dsimp only
      obtain ⟨hlt, p, hp, hu, hc, hb, htab⟩ := p2 rfl
      -- the state with the new pool
      have hA2 : MemA g s → MemA g s2 := by
        intro hA
        refine ⟨?_, ?_⟩
        · rw [hp]; intro q hq
          simp only [List.mem_append, List.mem_singleton] at hq
          rcases hq with hq | rfl
          · exact hA.caps q hq
          · exact ⟨by omega, hc⟩
        · intro hh
          have := htab hA.tab hh
          rw [hp]; simpa using this
      have hsl2 : memSlots s2 = memSlots s := by
        unfold memSlots; rw [hp, mem_slots_snoc, hu]; rfl
      -- every old pool is full
      have hfull : MemS g s → ∀ q ∈ s.pools, g.poolCap ≤ q.usage := by
        intro hS q hq
        rcases hlast with hn | ⟨ps, p0, hs, hp0⟩
        · rw [hn] at hq; cases hq
        · have hf0 := hS.full
          have hl0 := hS.last p0 (by rw [hs]; simp)
          rw [hs] at hf0 hq hl0
          simp only [List.dropLast_concat] at hf0
          simp only [List.mem_append, List.mem_singleton] at hq
          rcases hq with hq | rfl
          · exact hf0 q hq
          · rcases hp0 with hp0 | hp0
            · rw [hl0.1] at hp0; cases hp0
            · rcases hl0.2 with e | e
              · omega
              · rw [hs] at hlt; omega
      have hW2 : MemS g s → MemW g s2 := by
        intro hS
        unfold MemW
        rw [hsl2, hp]
        simp only [List.length_append, List.length_singleton, Nat.add_sub_cancel]
        exact mem_sum_ge g.poolCap s.pools (hfull hS)
      cases r with
      | none =>
        obtain ⟨rfl, _⟩ := allocFromLastPool_none h
        exact ⟨hA2, by omega, by omega, fun hS => ⟨hW2 hS, fun h => by cases h⟩⟩
      | some id =>
        obtain ⟨a, b, c⟩ := mem_lastPool_some h
        have hS2 : MemS g s → MemS g s2 := by
          intro hS
          -- the new pool served, so it owns its block
          obtain ⟨ps, q, hs2, hq, _, _, _⟩ := allocFromLastPool_some h
          rw [hp] at hs2
          obtain ⟨_, e2⟩ := List.append_inj' hs2 rfl
          have hpq : p = q := by simpa using e2
          refine ⟨?_, ?_⟩
          · rw [hp]; simp only [List.dropLast_concat]; exact hfull hS
          · intro z hz
            rw [hp] at hz ⊢
            simp only [List.getLast?_append, List.getLast?_singleton, Option.some_or, Option.some.injEq] at hz
            subst hz
            simp only [List.length_append, List.length_singleton]
            exact ⟨hpq ▸ hq, hb (hpq ▸ hq)⟩
        exact ⟨fun hA => b (hA2 hA), by omega, by simp only [Option.isSome_some, if_true]; omega,
          fun hS => ⟨(c (hS2 hS)).weak, fun _ => c (hS2 hS)⟩⟩

/-- `shrinkToFit`: the last pool is cut to the slots handed out, a heap pool table to the number of pools -/
theorem mem_shrink (g : Geo) (s : St) :
    memSlots (shrink g s) = memSlots s ∧ (shrink g s).pools.length = s.pools.length ∧
    (MemA g s → MemA g (shrink g s)) ∧
    ((shrink g s).tableHeap = true → (shrink g s).tableCap = (shrink g s).pools.length) := by
  rw [shrink_eq]
  have h1 : memSlots (shrinkLast g s) = memSlots s ∧ (shrinkLast g s).pools.length = s.pools.length ∧
      (shrinkLast g s).tableCap = s.tableCap ∧ (shrinkLast g s).tableHeap = s.tableHeap ∧
      ((∀ p ∈ s.pools, p.usage ≤ p.cap ∧ p.cap ≤ g.poolCap) →
        ∀ p ∈ (shrinkLast g s).pools, p.usage ≤ p.cap ∧ p.cap ≤ g.poolCap) := by
    unfold shrinkLast
    split
    · exact ⟨rfl, rfl, rfl, rfl, fun h => h⟩
    · rename_i p hp
      have hs := pools_eq_snoc hp
      refine ⟨?_, ?_, rfl, rfl, ?_⟩
      · unfold memSlots
        conv => rhs; rw [hs]
        simp only [mem_slots_snoc, realloc_pools]
      · conv => rhs; rw [hs]
        simp
      · intro h q hq
        simp only [List.mem_append, List.mem_singleton] at hq
        rcases hq with hq | rfl
        · exact h q ((List.dropLast_sublist s.pools).subset hq)
        · have := h p (List.mem_of_getLast? hp)
          exact ⟨Nat.le_refl _, by show p.usage ≤ _; omega⟩
  obtain ⟨a1, a2, a3, a4, a5⟩ := h1
  generalize shrinkLast g s = s1 at a1 a2 a3 a4 a5
  unfold shrinkTable
  split
  · rename_i hc
    refine ⟨a1, a2, fun hA => ⟨a5 hA.caps, fun _ => ?_⟩, fun _ => rfl⟩
    show s1.pools.length ≤ 2 * s1.pools.length
    omega
  · rename_i hc
    refine ⟨a1, a2, fun hA => ⟨a5 hA.caps, fun hh => ?_⟩, fun hh => ?_⟩
    · have := hA.tab (a4 ▸ hh); omega
    · simp only [Bool.and_eq_true, bne_iff_ne, ne_eq, not_and, Decidable.not_not] at hc
      exact (hc hh).symm

end PL

/-! ## B. The reader: bytes consumed -/
namespace JD

/-- consumption potential of the reader: bytes taken from the input plus one, the loaded (non-zero) look-ahead byte not
    counted: `memE s - 1` bytes have been moved past. Never decreases; `memE s ≤ pos + 1`. -/
def memE (s : St) : Nat := s.l.pos + (if s.l.loaded && s.l.cur != 0 then 0 else 1)

theorem mem_E_le (s : St) : memE s ≤ s.l.pos + 1 := by unfold memE; split <;> omega

theorem mem_cur_loaded (s : St) : (cur s).2.l.loaded = true ∧ (cur s).2.l.cur = (cur s).1 := by
  simp only [cur, Latch.current]
  split
  · rename_i h; exact ⟨h, rfl⟩
  · split <;> exact ⟨rfl, rfl⟩

theorem mem_cur (s : St) : memE s ≤ memE (cur s).2 := by
  obtain ⟨⟨unread, c0, loaded, pos⟩, found⟩ := s
  cases loaded with
  | true => simp [cur, Latch.current, memE]
  | false =>
    cases unread with
    | nil => simp [cur, Latch.current, memE]
    | cons c cs =>
      simp only [cur, Latch.current, memE, Bool.false_eq_true, if_false, Bool.false_and, Bool.true_and]
      split <;> omega

theorem mem_mv (s : St) : memE s ≤ memE (mv s) := by
  simp only [mv, Latch.move, memE, Bool.false_and, Bool.false_eq_true, if_false]
  split <;> omega

/-- moving past a loaded non-zero byte: one byte consumed -/
theorem mem_mv_cur (s : St) (h : (cur s).1 ≠ 0) : memE s + 1 ≤ memE (mv (cur s).2) := by
  obtain ⟨a, b⟩ := mem_cur_loaded s
  have h1 := mem_cur s
  have h2 : memE (cur s).2 = (cur s).2.l.pos := by
    unfold memE; rw [a, b]; simp [h]
  have h3 : memE (mv (cur s).2) = (cur s).2.l.pos + 1 := by
    simp [mv, Latch.move, memE]
  omega

/-- a lower bound on the potential is kept by everything that only moves the reader -/
theorem mem_closed (m : Nat) : LatchClosed (fun s => m ≤ memE s) :=
  ⟨fun h => Nat.le_trans h (mem_cur _), fun h => Nat.le_trans h (mem_mv _), fun h => h⟩

theorem mem_skipSpaces (cfg : Cfg) (fuel : Nat) (s : St) : memE s ≤ memE (skipSpaces cfg fuel s).2 :=
  kept_skipSpaces (mem_closed _) fuel s (Nat.le_refl _)

theorem mem_skipKeyword (ks : List Byte) (s : St) : memE s ≤ memE (skipKeyword ks s).2 :=
  kept_skipKeyword (mem_closed _) ks s (Nat.le_refl _)

/-- four hex digits that are accepted are four bytes consumed -/
theorem mem_parseHex4 : ∀ k acc s, memE s + (if (parseHex4 k acc s).1 = .ok then k else 0) ≤ memE (parseHex4 k acc s).2.2 := by
  intro k
  induction k with
  | zero => intro acc s; simp [parseHex4]
  | succ k ih =>
    intro acc s
    simp only [parseHex4]
    have h1 := mem_cur s
    split
    · simp only [reduceCtorEq, if_false]; omega
    · rename_i hc
      have hc' : (cur s).1 ≠ 0 := by simpa using hc
      split
      · simp only [reduceCtorEq, if_false]; omega
      · have h2 := mem_mv_cur s hc'
        have := ih ((acc * 16 + decodeHex (cur s).1) % 65536) (mv (cur s).2)
        split
        · rename_i hok; rw [if_pos hok] at this; omega
        · split at this <;> omega

theorem mem_encodeCodepoint_len (cp : Nat) : (encodeCodepoint cp).length ≤ 4 := by
  unfold encodeCodepoint
  split
  · simp
  · simp only
    split
    · simp
    · split <;> simp

/-- the budget of a string token that started at potential `m` with `n` bytes accumulated: every byte produced was
    consumed, the closing quote too -/
def QTok (m n : Nat) (r : Code × List Byte × St) : Prop :=
  m + r.2.1.length + (if r.1 = .ok ∨ r.1 = .noMemory then 1 else 0) ≤ memE r.2.2 + n

theorem QTok.weaken {m n m' n' : Nat} {r} (h : QTok m' n' r) (hm : m + n' ≤ m' + n) : QTok m n r := by
  unfold QTok at *; omega

theorem QTok.exit {m n : Nat} (c : Code) (acc : List Byte) (s : St) (h : m + acc.length + 1 ≤ memE s + n) :
    QTok m n (c, acc.reverse, s) := by
  unfold QTok; simp only [List.length_reverse]; split <;> omega

theorem QTok.failed {m n : Nat} {c : Code} (acc : List Byte) (s : St) (h1 : c ≠ .ok) (h2 : c ≠ .noMemory)
    (h : m + acc.length ≤ memE s + n) : QTok m n (c, acc.reverse, s) := by
  unfold QTok; simp only [List.length_reverse, h1, h2, or_self, if_false]; omega

/-- after `\u` and its four hex digits; `m` is the potential before the backslash -/
theorem QTok.pqHex {cfg : Cfg} {stop : Byte} {f : Nat} {acc : List Byte} {hi m : Nat}
    (ih : ∀ acc hi s, QTok (memE s) acc.length (parseQuoted cfg stop f acc hi s))
    (r : Code × Nat × St) (h : m + 1 + (if r.1 = .ok then 4 else 0) ≤ memE r.2.2) :
    QTok m acc.length (pqHex cfg stop f acc hi r) := by
  obtain ⟨e, cu, s⟩ := r
  have h0 : m + 1 ≤ memE s := Nat.le_trans (Nat.le_add_right _ _) h
  cases e <;> try exact QTok.exit _ _ _ (by omega)
  have h4 : m + 5 ≤ memE s := h
  simp only [JD.pqHex]
  split
  · exact (ih acc _ s).weaken (by omega)
  · split
    · have hl := mem_encodeCodepoint_len (0x10000 + (hi * 1024 + cu % 1024))
      refine (ih _ hi s).weaken ?_
      simp only [List.length_append, List.length_reverse]
      omega
    · have hl := mem_encodeCodepoint_len cu
      refine (ih _ hi s).weaken ?_
      simp only [List.length_append, List.length_reverse]
      omega

/-- after a backslash, which was consumed: an escape produces at most as many bytes as it consumes -/
theorem QTok.pqEsc {cfg : Cfg} {stop : Byte} {f : Nat} {acc : List Byte} {hi m : Nat}
    (ih : ∀ acc hi s, QTok (memE s) acc.length (parseQuoted cfg stop f acc hi s))
    (s : St) (h : m + 1 ≤ memE s) : QTok m acc.length (pqEsc cfg stop f acc hi s) := by
  have h1 := mem_cur s
  simp only [JD.pqEsc]
  split
  · exact QTok.failed _ _ (by decide) (by decide) (by omega)
  · rename_i hd0
    have h2 := mem_mv_cur s (by simpa using hd0)
    split
    · split
      · have h3 := mem_parseHex4 4 0 (mv (cur s).2)
        exact QTok.pqHex ih _ (by omega)
      · exact (ih _ hi _).weaken (by simp only [List.length_cons]; omega)
    · split
      · exact QTok.failed _ _ (by decide) (by decide) (by omega)
      · exact (ih _ hi _).weaken (by simp only [List.length_cons]; omega)

theorem qtok_parseQuoted (cfg : Cfg) (stop : Byte) (hstop : stop ≠ 0) : ∀ fuel acc hi s,
    QTok (memE s) acc.length (parseQuoted cfg stop fuel acc hi s) := by
  intro fuel
  induction fuel with
  | zero => intro acc hi s; unfold QTok; simp [parseQuoted]
  | succ f ih =>
    intro acc hi s
    have h1 : memE s ≤ memE (mv (cur s).2) := Nat.le_trans (mem_cur s) (mem_mv _)
    rw [parseQuoted_succ]
    split
    · rename_i hc
      have h3 := mem_mv_cur s (by rw [eq_of_beq hc]; exact hstop)
      exact QTok.exit _ _ _ (by omega)
    · split
      · exact QTok.failed _ _ (by decide) (by decide) (by omega)
      · rename_i hc0
        have h3 := mem_mv_cur s (by simpa using hc0)
        split
        · exact QTok.pqEsc ih _ h3
        · exact (ih _ hi _).weaken (by simp only [List.length_cons]; omega)

/-- a string token: every byte produced was consumed (an escape consumes more than it produces), the closing quote too -/
theorem mem_parseQuoted (cfg : Cfg) (stop : Byte) (hstop : stop ≠ 0) : ∀ fuel acc hi s,
    memE s + (parseQuoted cfg stop fuel acc hi s).2.1.length +
        (if (parseQuoted cfg stop fuel acc hi s).1 = .ok ∨ (parseQuoted cfg stop fuel acc hi s).1 = .noMemory then 1 else 0) ≤
      memE (parseQuoted cfg stop fuel acc hi s).2.2 + acc.length :=
  qtok_parseQuoted cfg stop hstop

theorem mem_inUnquoted_ne {c : Byte} (h : inUnquoted c = true) : c ≠ 0 := by
  intro e; subst e; revert h; decide

theorem mem_inNumber_ne {cfg : Cfg} {c : Byte} (h : inNumber cfg c = true) : c ≠ 0 := by
  intro e; subst e
  unfold inNumber at h
  cases hn : cfg.nan <;> cases hi : cfg.inf <;> simp [hn, hi] at h

theorem mem_parseUnquoted : ∀ fuel acc s,
    memE s + (parseUnquoted fuel acc s).1.length ≤ memE (parseUnquoted fuel acc s).2 + acc.length := by
  intro fuel
  induction fuel with
  | zero => intro acc s; simp [parseUnquoted]
  | succ f ih =>
    intro acc s
    simp only [parseUnquoted]
    have h1 := mem_cur s
    split
    · rename_i hc
      have h3 := mem_mv_cur s (mem_inUnquoted_ne hc)
      have := ih ((cur s).1 :: acc) (mv (cur s).2)
      simp only [List.length_cons] at this
      omega
    · simp only [List.length_reverse]; omega

theorem mem_scanNumber (cfg : Cfg) : ∀ k acc s,
    memE s + (scanNumber cfg k acc s).1.length ≤ memE (scanNumber cfg k acc s).2 + acc.length := by
  intro k
  induction k with
  | zero => intro acc s; have := mem_cur s; simp only [scanNumber, List.length_reverse]; omega
  | succ k ih =>
    intro acc s
    simp only [scanNumber]
    have h1 := mem_cur s
    split
    · rename_i hc
      have h3 := mem_mv_cur s (mem_inNumber_ne hc)
      have := ih ((cur s).1 :: acc) (mv (cur s).2)
      simp only [List.length_cons] at this
      omega
    · simp only [List.length_reverse]; omega

/-- a number that is not rejected has at least one byte -/
theorem mem_parseNumber_nil (cfg : Cfg) : parseNumber cfg [] = .invalid := by
  unfold parseNumber
  simp [isDigit]

end JD

/-! ## C. The document -/
namespace DL
open JD (Byte)

/-- bytes of all stored strings (without the per-node overhead) -/
def memStrBytes (d : Doc) : Nat := ((d.strings.map (·.bytes)).map List.length).sum

/-- an operation that allocates no slot and stores no string: same pools, same pool table; string nodes may be released -/
structure MemP (d d' : Doc) : Prop where
  g : d'.g = d.g
  ovh : d'.strOverhead = d.strOverhead
  pools : d'.pl.pools = d.pl.pools
  tcap : d'.pl.tableCap = d.pl.tableCap
  theap : d'.pl.tableHeap = d.pl.tableHeap
  strs : (d'.strings.map (·.bytes)).Sublist (d.strings.map (·.bytes))

theorem MemP.refl (d : Doc) : MemP d d := ⟨rfl, rfl, rfl, rfl, rfl, List.Sublist.refl _⟩

theorem MemP.trans {d d1 d2 : Doc} (h1 : MemP d d1) (h2 : MemP d1 d2) : MemP d d2 :=
  ⟨h2.g.trans h1.g, h2.ovh.trans h1.ovh, h2.pools.trans h1.pools, h2.tcap.trans h1.tcap, h2.theap.trans h1.theap,
    h2.strs.trans h1.strs⟩

theorem mem_sublist_sum {l l' : List (List Byte)} (h : l'.Sublist l) : (l'.map List.length).sum ≤ (l.map List.length).sum := by
  induction h with
  | slnil => exact Nat.le_refl _
  | cons a _ ih => simp only [List.map_cons, List.sum_cons]; omega
  | cons_cons a _ ih => simp only [List.map_cons, List.sum_cons]; omega

theorem MemP.bytes_le {d d' : Doc} (h : MemP d d') : memStrBytes d' ≤ memStrBytes d := mem_sublist_sum h.strs

theorem MemP.count_le {d d' : Doc} (h : MemP d d') : d'.strings.length ≤ d.strings.length := by
  have := h.strs.length_le
  simpa using this

theorem mem_P_of_pl {d d' : Doc} (hg : d'.g = d.g) (ho : d'.strOverhead = d.strOverhead) (hpl : d'.pl = d.pl)
    (hs : d'.strings = d.strings) : MemP d d' :=
  ⟨hg, ho, by rw [hpl], by rw [hpl], by rw [hpl], by rw [hs]; exact List.Sublist.refl _⟩

theorem mem_P_set (d : Doc) (l : Loc) (v : VData) : MemP d (d.set l v) :=
  mem_P_of_pl (set_g _ _ _) (set_strOverhead _ _ _) (set_pl _ _ _) (set_strings _ _ _)

theorem mem_P_setNext (d : Doc) (i n : Nat) : MemP d (d.setNext i n) :=
  mem_P_of_pl (setNext_g _ _ _) (sameId_setNext _ _ _).2.1 (setNext_pl _ _ _) (setNext_strings _ _ _)

theorem mem_P_freeCell (d : Doc) (id : Nat) : MemP d (d.freeCell id) :=
  ⟨rfl, rfl, rfl, rfl, rfl, List.Sublist.refl _⟩

theorem mem_P_deref (d : Doc) (n : Nat) : MemP d (d.derefString n) := by
  simp only [Doc.derefString]
  split
  · exact MemP.refl _
  · split
    · exact ⟨rfl, rfl, rfl, rfl, rfl, List.Sublist.map _ List.filter_sublist⟩
    · refine ⟨rfl, rfl, rfl, rfl, rfl, ?_⟩
      simp only [List.map_map]
      have : ((fun x : StrNode => x.bytes) ∘ fun x : StrNode => if (x.id == n) = true then { x with refs := x.refs - 1 } else x) =
          fun x : StrNode => x.bytes := by
        funext x; simp only [Function.comp]; split <;> rfl
      rw [this]
      exact List.Sublist.refl _

/-- relinking and releasing allocate nothing -/
theorem memP_linking : Linking (fun _ => True) MemP where
  refl := MemP.refl
  trans := MemP.trans
  null := trivial
  arr _ _ := trivial
  obj _ _ := trivial
  set d l _ _ := mem_P_set d l _
  setNext := mem_P_setNext
  freeCell := mem_P_freeCell
  derefString := mem_P_deref

theorem mem_P_appendOne (d : Doc) (l : Loc) (id : Nat) : MemP d (d.appendOne l id) := memP_linking.appendOne d l id

theorem mem_P_appendPair (d : Doc) (l : Loc) (k v : Nat) : MemP d (d.appendPair l k v) := memP_linking.appendPair d l k v

/-- `VariantData::clear` allocates nothing -/
theorem mem_P_clearV (d : Doc) (l : Loc) : MemP d (d.clearV l) := memP_linking.clearV d l

theorem mem_P_pleq {d d' : Doc} (h : JDD.PlEq d d') : MemP d d' :=
  ⟨h.g, h.ovh, h.pools, h.tcap, h.theap, by rw [h.strings]; exact List.Sublist.refl _⟩

/-! ### the step relation on documents -/

/-- from document `d` with reader potential `e` to `d'` with `e'`: the slots handed out, the string bytes and (twice) the
    string nodes grow by at most the bytes consumed plus the credits `ks`, `kb`, `kc`; `ok`: no slot allocation failed -/
structure MemD (g : PL.Geo) (w : Nat) (ks kb kc : Int) (e e' : Nat) (d d' : Doc) (ok : Prop) : Prop where
  hg : d'.g = g
  ovh : d'.strOverhead = d.strOverhead
  mono : e ≤ e'
  slots : (PL.memSlots d'.pl : Int) + e ≤ PL.memSlots d.pl + e' + ks
  sbytes : (memStrBytes d' : Int) + e ≤ memStrBytes d + e' + kb
  scount : ((w * d'.strings.length : Nat) : Int) + e ≤ (w * d.strings.length : Nat) + e' + kc
  always : PL.MemA g d.pl → PL.MemA g d'.pl
  strong : PL.MemS g d.pl → PL.MemW g d'.pl ∧ (ok → PL.MemS g d'.pl)

theorem MemD.trans {g : PL.Geo} {w : Nat} {ks1 kb1 kc1 ks2 kb2 kc2 : Int} {e e1 e2 : Nat} {d d1 d2 : Doc} {P Q : Prop}
    (h1 : MemD g w ks1 kb1 kc1 e e1 d d1 P) (hp : P) (h2 : MemD g w ks2 kb2 kc2 e1 e2 d1 d2 Q) :
    MemD g w (ks1 + ks2) (kb1 + kb2) (kc1 + kc2) e e2 d d2 Q := by
  refine ⟨h2.hg, h2.ovh.trans h1.ovh, Nat.le_trans h1.mono h2.mono, ?_, ?_, ?_, fun h => h2.always (h1.always h),
    fun h => h2.strong ((h1.strong h).2 hp)⟩
  · have := h1.slots; have := h2.slots; omega
  · have := h1.sbytes; have := h2.sbytes; omega
  · have := h1.scount; have := h2.scount; omega

theorem MemD.weaken {g : PL.Geo} {w : Nat} {ks kb kc ks' kb' kc' : Int} {e e' : Nat} {d d' : Doc} {P Q : Prop}
    (h : MemD g w ks kb kc e e' d d' P) (h1 : ks ≤ ks') (h2 : kb ≤ kb') (h3 : kc ≤ kc') (hq : Q → P) :
    MemD g w ks' kb' kc' e e' d d' Q := by
  refine ⟨h.hg, h.ovh, h.mono, ?_, ?_, ?_, h.always, fun hs => ⟨(h.strong hs).1, fun q => (h.strong hs).2 (hq q)⟩⟩
  · have := h.slots; omega
  · have := h.sbytes; omega
  · have := h.scount; omega

/-- the reader moves, the document does not change -/
theorem MemD.reader {g : PL.Geo} {w : Nat} {e e' : Nat} (j : Nat) {d : Doc} (hg : d.g = g) (h : e + j ≤ e') :
    MemD g w (-(j : Int)) (-(j : Int)) (-(j : Int)) e e' d d True := by
  refine ⟨hg, rfl, by omega, by omega, by omega, by omega, fun h => h, fun h => ⟨h.weak, fun _ => h⟩⟩

/-- an operation that allocates no slot and stores no string -/
theorem MemD.passive {g : PL.Geo} {w : Nat} {e : Nat} {d d' : Doc} (hg : d.g = g) (h : MemP d d') :
    MemD g w 0 0 0 e e d d' True := by
  refine ⟨h.g.trans hg, h.ovh, Nat.le_refl _, ?_, ?_, ?_, fun a => a.congr h.pools h.tcap h.theap,
    fun a => ⟨(a.weak).congr h.pools, fun _ => a.congr h.pools⟩⟩
  · rw [PL.mem_memSlots_congr h.pools]; omega
  · have := h.bytes_le; omega
  · have := Nat.mul_le_mul_left w h.count_le; omega

/-- one slot allocation -/
theorem MemD.slot {g : PL.Geo} {w : Nat} {e : Nat} {d d' : Doc} {r : Option Nat} (gok : PL.GeoOK g) (hg : d.g = g)
    (hg' : d'.g = d.g) (ho : d'.strOverhead = d.strOverhead) (hs : d'.strings = d.strings)
    (hpl : PL.allocSlot d.g d.pl = (r, d'.pl)) : MemD g w 1 0 0 e e d d' (r.isSome = true) := by
  subst hg
  obtain ⟨a, b, c, s⟩ := PL.mem_allocSlot gok hpl
  refine ⟨hg', ho, Nat.le_refl _, ?_, ?_, ?_, a, s⟩
  · have : (if r.isSome = true then 1 else 0) ≤ 1 := by split <;> omega
    omega
  · unfold memStrBytes; rw [hs]; omega
  · rw [hs]; omega

theorem mem_allocExt_fst (d : Doc) (p : Int) : (d.allocExt p).1 = (PL.allocSlot d.g d.pl).1 := by
  simp only [Doc.allocExt]; split <;> (rename_i h; rw [h])

theorem mem_D_allocVariant {g : PL.Geo} {w : Nat} {e : Nat} (d : Doc) (gok : PL.GeoOK g) (hg : d.g = g) :
    MemD g w 1 0 0 e e d d.allocVariant.2 (d.allocVariant.1.isSome = true) :=
  MemD.slot gok hg (allocVariant_g d) (sameId_allocVariant d).2.1 (allocVariant_pl_s d).2
    (by rw [allocVariant_fst, allocVariant_pl])

theorem mem_D_allocExt {g : PL.Geo} {w : Nat} {e : Nat} (d : Doc) (p : Int) (gok : PL.GeoOK g) (hg : d.g = g) :
    MemD g w 1 0 0 e e d (d.allocExt p).2 ((d.allocExt p).1.isSome = true) :=
  MemD.slot gok hg (allocExt_g d p) (sameId_allocExt d p).2.1 (allocExt_pl d p).2
    (by rw [mem_allocExt_fst, (allocExt_pl d p).1])

/-- `addElement`: one slot -/
theorem mem_D_addElement {g : PL.Geo} {w : Nat} {e : Nat} (d : Doc) (l : Loc) (gok : PL.GeoOK g) (hg : d.g = g) :
    MemD g w 1 0 0 e e d (d.addElement l).2 ((d.addElement l).1.isSome = true) := by
  have h := mem_D_allocVariant (w := w) (e := e) d gok hg
  simp only [Doc.addElement]
  generalize d.allocVariant = r at h
  obtain ⟨o, d1⟩ := r
  cases o with
  | none => exact h
  | some id =>
    simp only at h ⊢
    have := h.trans rfl (MemD.passive h.hg (mem_P_appendOne d1 l id))
    exact this.weaken (by omega) (by omega) (by omega) (fun _ => trivial)

/-- `addMember(StringNode*)`: two slots -/
theorem mem_D_addMemberNode {g : PL.Geo} {w : Nat} {e : Nat} (d : Doc) (l : Loc) (node : Nat) (gok : PL.GeoOK g) (hg : d.g = g) :
    MemD g w 2 0 0 e e d (JDD.addMemberNode d l node).2 ((JDD.addMemberNode d l node).1.isSome = true) := by
  have h := mem_D_allocVariant (w := w) (e := e) d gok hg
  simp only [JDD.addMemberNode]
  generalize d.allocVariant = r at h
  obtain ⟨o, d1⟩ := r
  cases o with
  | none => exact h.weaken (by omega) (by omega) (by omega) (fun q => q)
  | some k =>
    simp only at h ⊢
    have h2 := mem_D_allocVariant (w := w) (e := e) d1 gok h.hg
    generalize d1.allocVariant = r2 at h2
    obtain ⟨o2, d2⟩ := r2
    cases o2 with
    | none => exact (h.trans rfl h2).weaken (by omega) (by omega) (by omega) (fun q => q)
    | some v =>
      simp only at h2 ⊢
      have h3 := (h.trans rfl h2).trans rfl
        (MemD.passive h2.hg ((mem_P_set d2 (.slot k) (.owned node)).trans (mem_P_appendPair _ l k v)))
      exact h3.weaken (by omega) (by omega) (by omega) (fun _ => trivial)

/-- storing a number: at most one (extension) slot; none for a 32-bit value -/
theorem mem_D_setArg_num {g : PL.Geo} {w : Nat} {e : Nat} (d : Doc) (l : Loc) (a : Arg) (gok : PL.GeoOK g) (hg : d.g = g)
    (ha : match a with | .uint _ | .sint _ | .f32 _ | .f64 _ => True | _ => False) :
    MemD g w 1 0 0 e e d (d.setArg l a).2 ((d.setArg l a).1 = true) := by
  have hset : ∀ v, MemD g w 1 0 0 e e d (d.set l v) (true = true) :=
    fun v => (MemD.passive hg (mem_P_set d l v)).weaken (by omega) (by omega) (by omega) (fun _ => trivial)
  have hext : ∀ (p : Int) (mk : Nat → VData),
      MemD g w 1 0 0 e e d
        (match d.allocExt p with | (some s, d) => (true, d.set l (mk s)) | (none, d) => (false, d)).2
        ((match d.allocExt p with | (some s, d) => (true, d.set l (mk s)) | (none, d) => (false, d)).1 = true) := by
    intro p mk
    have h := mem_D_allocExt (w := w) (e := e) d p gok hg
    generalize d.allocExt p = r at h
    obtain ⟨o, d1⟩ := r
    cases o with
    | none => exact h.weaken (by omega) (by omega) (by omega) (fun q => by cases q)
    | some s =>
      simp only at h ⊢
      exact (h.trans rfl (MemD.passive h.hg (mem_P_set d1 l (mk s)))).weaken (by omega) (by omega) (by omega)
        (fun _ => trivial)
  cases a with
  | sint v =>
    simp only [Doc.setArg]
    split
    · exact hset _
    · exact hext v .i64
  | uint v =>
    simp only [Doc.setArg]
    split
    · exact hset _
    · exact hext v .u64
  | f32 b => exact hset _
  | f64 b =>
    simp only [Doc.setArg]
    split
    · exact hset _
    · exact hext b .f64
  | _ => exact absurd ha (by simp)

end DL

/-! ## D. The deserializer -/
namespace JDD
open DL
open JD (Byte Code Cfg cur mv skipSpaces skipKeyword memE)

/-- the StringBuilder's buffer: at most the maximal string length (or the initial 31 bytes), and less than twice the
    bytes consumed -/
def MemBuf (maxLen : Nat) (x : S) : Prop :=
  ∀ cap, x.b = some cap → cap ≤ max 31 maxLen ∧ cap ≤ max 31 (2 * memE x.s - 1)

/-- a step of the deserializer: the document part (`MemD`, against the reader potential `memE`) and the builder's buffer -/
structure MemT (cfg : Cfg) (g : PL.Geo) (ks kb kc : Int) (x x' : S) (ok : Prop) : Prop where
  d : MemD g 2 ks kb kc (memE x.s) (memE x'.s) x.d x'.d ok
  buf : MemBuf cfg.maxStrLen x → MemBuf cfg.maxStrLen x'

theorem MemT.trans {cfg : Cfg} {g : PL.Geo} {ks1 kb1 kc1 ks2 kb2 kc2 : Int} {x x1 x2 : S} {P Q : Prop}
    (h1 : MemT cfg g ks1 kb1 kc1 x x1 P) (hp : P) (h2 : MemT cfg g ks2 kb2 kc2 x1 x2 Q) :
    MemT cfg g (ks1 + ks2) (kb1 + kb2) (kc1 + kc2) x x2 Q :=
  ⟨h1.d.trans hp h2.d, fun h => h2.buf (h1.buf h)⟩

theorem MemT.weaken {cfg : Cfg} {g : PL.Geo} {ks kb kc ks' kb' kc' : Int} {x x' : S} {P Q : Prop}
    (h : MemT cfg g ks kb kc x x' P) (h1 : ks ≤ ks') (h2 : kb ≤ kb') (h3 : kc ≤ kc') (hq : Q → P) :
    MemT cfg g ks' kb' kc' x x' Q :=
  ⟨h.d.weaken h1 h2 h3 hq, h.buf⟩

/-- the reader consumes at least `j` bytes while the document goes through an operation that does not touch the builder -/
theorem MemT.step {cfg : Cfg} {g : PL.Geo} {ks kb kc : Int} {x : S} {ok : Prop} (s' : JD.St) (d' : Doc) (j : Nat)
    (hr : memE x.s + j ≤ memE s') (hd : MemD g 2 ks kb kc (memE x.s) (memE x.s) x.d d' ok) :
    MemT cfg g (ks - j) (kb - j) (kc - j) x ⟨s', d', x.b⟩ ok := by
  refine ⟨⟨hd.hg, hd.ovh, by show memE x.s ≤ memE s'; omega, ?_, ?_, ?_, hd.always, hd.strong⟩, ?_⟩
  · have := hd.slots; show (PL.memSlots d'.pl : Int) + _ ≤ _ + memE s' + _; omega
  · have := hd.sbytes; show (memStrBytes d' : Int) + _ ≤ _ + memE s' + _; omega
  · have := hd.scount; show (2 * d'.strings.length : Int) + _ ≤ _ + memE s' + _; omega
  · intro hb cap hc
    obtain ⟨a, b⟩ := hb cap hc
    refine ⟨a, ?_⟩
    show cap ≤ max 31 (2 * memE s' - 1)
    omega

/-- the reader alone -/
theorem MemT.rd {cfg : Cfg} {g : PL.Geo} {x : S} (s' : JD.St) (j : Nat) (hg : x.d.g = g)
    (hr : memE x.s + j ≤ memE s') : MemT cfg g (-(j : Int)) (-(j : Int)) (-(j : Int)) x ⟨s', x.d, x.b⟩ True :=
  (MemT.step (cfg := cfg) s' x.d j hr (MemD.passive hg (MemP.refl _))).weaken (by omega) (by omega) (by omega) (fun h => h)

/-- a way out: the reader may have moved and the document gone through an operation that allocates nothing; the code
    does not matter -/
theorem MemT.exit {cfg : Cfg} {g : PL.Geo} {x : S} {ok : Prop} (s' : JD.St) (d' : Doc) (hg : x.d.g = g)
    (hr : memE x.s ≤ memE s') (hd : MemP x.d d') : MemT cfg g 0 0 0 x ⟨s', d', x.b⟩ ok :=
  (MemT.step (cfg := cfg) s' d' 0 hr (MemD.passive hg hd)).weaken (by omega) (by omega) (by omega) (fun _ => trivial)

/-- a step without credits before another -/
theorem MemT.pre {cfg : Cfg} {g : PL.Geo} {ks kb kc : Int} {x x1 x2 : S} {P Q : Prop}
    (h1 : MemT cfg g 0 0 0 x x1 P) (hp : P) (h2 : MemT cfg g ks kb kc x1 x2 Q) : MemT cfg g ks kb kc x x2 Q :=
  (h1.trans hp h2).weaken (by omega) (by omega) (by omega) (fun q => q)

/-- a step without credits after another -/
theorem MemT.post {cfg : Cfg} {g : PL.Geo} {ks kb kc : Int} {x x1 x2 : S} {P Q : Prop}
    (h1 : MemT cfg g ks kb kc x x1 P) (hp : P) (h2 : MemT cfg g 0 0 0 x1 x2 Q) : MemT cfg g ks kb kc x x2 Q :=
  (h1.trans hp h2).weaken (by omega) (by omega) (by omega) (fun q => q)

/-- a byte read before a step pays one unit of each of its credits -/
theorem MemT.paid {cfg : Cfg} {g : PL.Geo} {ks kb kc : Int} {x x2 : S} {Q : Prop} (s' : JD.St) (hg : x.d.g = g)
    (hr : memE x.s + 1 ≤ memE s') (h : MemT cfg g (ks + 1) (kb + 1) (kc + 1) ⟨s', x.d, x.b⟩ x2 Q) :
    MemT cfg g ks kb kc x x2 Q :=
  ((MemT.rd (cfg := cfg) s' 1 hg hr).trans trivial h).weaken (by omega) (by omega) (by omega) (fun q => q)

theorem mem_ne_of_beq {c k : Byte} (h : (c == k) = true) (hk : k ≠ 0) : c ≠ 0 := by
  have := eq_of_beq h; subst this; exact hk

/-! ### the StringBuilder -/

theorem mem_startString (cfg : Cfg) {g : PL.Geo} (x : S) (hg : x.d.g = g) :
    MemT cfg g 0 0 0 x (startString x) True := by
  obtain ⟨bo, hs, _⟩ := startString_spec x
  refine ⟨?_, ?_⟩
  · rw [hs]; exact MemD.passive hg (mem_P_pleq bo.pleq)
  · intro hb cap hc
    unfold MemBuf at hb
    rw [hs]
    unfold startString at hc
    cases hx : x.b with
    | some c0 =>
      rw [hx] at hc
      simp only at hc
      exact hb cap (hc ▸ hx ▸ rfl)
    | none =>
      rw [hx] at hc
      simp only at hc
      split at hc
      · simp only [Option.some.injEq] at hc
        subst hc
        exact ⟨by omega, by omega⟩
      · simp at hc

/-- the buffer grows to `2·size + 1` only when `size` bytes are in it, and never beyond the maximal length -/
theorem mem_appendN_buf (maxLen N : Nat) : ∀ (k size : Nat) (x : S),
    (∀ cap, x.b = some cap → cap ≤ max 31 maxLen ∧ cap ≤ N) → 2 * (size + k) ≤ N + 1 →
    ∀ cap, (appendN maxLen k size x).b = some cap → cap ≤ max 31 maxLen ∧ cap ≤ N := by
  intro k
  induction k with
  | zero => intro size x h _; exact h
  | succ k ih =>
    intro size x h hk
    unfold appendN
    cases hb : x.b with
    | none => simp only; rw [hb]; intro cap hc; cases hc
    | some c0 =>
      simp only
      split
      · rename_i hsz
        split
        · exact ih _ _ (fun cap hc => by cases hc) (by omega)
        · rename_i hle
          generalize x.d.pl.realloc (size * 2 + 1 + x.d.strOverhead) true = q
          obtain ⟨ok, pl⟩ := q
          simp only
          split
          · refine ih _ _ (fun cap hc => ?_) (by omega)
            simp only [Option.some.injEq] at hc
            subst hc
            exact ⟨by omega, by omega⟩
          · exact ih _ _ (fun cap hc => by cases hc) (by omega)
      · exact ih _ _ h (by omega)

theorem mem_appendN (cfg : Cfg) {g : PL.Geo} (k : Nat) (x : S) (hg : x.d.g = g) (hk : k ≤ memE x.s) :
    MemT cfg g 0 0 0 x (appendN cfg.maxStrLen k 0 x) True := by
  have ao := appendN_spec cfg.maxStrLen k 0 x
  refine ⟨?_, ?_⟩
  · rw [ao.s]; exact MemD.passive hg (mem_P_pleq ao.bop.pleq)
  · intro hb
    unfold MemBuf
    rw [ao.s]
    exact mem_appendN_buf cfg.maxStrLen (max 31 (2 * memE x.s - 1)) k 0 x hb (by omega)

/-- a quoted string token through the builder: its bytes and (when it is accepted) its closing quote were consumed -/
theorem mem_quoted (cfg : Cfg) {g : PL.Geo} (fuel : Nat) (stop : Byte) (hstop : stop ≠ 0) (x : S) (hg : x.d.g = g) :
    ∃ K : Nat, MemT cfg g (-(K : Int)) (-(K : Int)) (-(K : Int)) x (quoted cfg fuel stop x).2.2 True ∧
      ((quoted cfg fuel stop x).1 = .ok → (quoted cfg fuel stop x).2.1.length + 1 ≤ K) := by
  have t1 := mem_startString cfg x hg
  have hs1 : (startString x).s = x.s := (startString_spec x).2.1
  have hq := JD.mem_parseQuoted cfg stop hstop fuel [] 0 (startString x).s
  unfold quoted
  simp only
  generalize JD.parseQuoted cfg stop fuel [] 0 (startString x).s = r at hq
  obtain ⟨c, bytes, s⟩ := r
  simp only [List.length_nil, Nat.add_zero] at hq ⊢
  have t2 := MemT.rd (cfg := cfg) (x := startString x) s
    (bytes.length + (if c = Code.ok ∨ c = Code.noMemory then 1 else 0)) t1.d.hg (by omega)
  have t3 := mem_appendN cfg bytes.length (⟨s, (startString x).d, (startString x).b⟩ : S) t1.d.hg
    (by show bytes.length ≤ memE s; omega)
  refine ⟨bytes.length + (if c = Code.ok ∨ c = Code.noMemory then 1 else 0),
    ((t1.trans trivial t2).trans trivial t3).weaken (by omega) (by omega) (by omega) (fun h => h), ?_⟩
  intro hok
  have : c = Code.ok ∨ c = Code.noMemory := by
    by_cases hc : c = Code.ok ∨ c = Code.noMemory
    · exact hc
    · exfalso
      have h1 : (c == Code.ok || c == Code.noMemory) = false := by
        cases c <;> first | rfl | exact absurd (Or.inl rfl) hc | exact absurd (Or.inr rfl) hc
      rw [h1] at hok
      simp only [Bool.false_eq_true, if_false] at hok
      exact hc (Or.inl hok)
  rw [if_pos this]; omega

theorem mem_parseUnquoted_len : ∀ fuel acc s, acc.length ≤ (JD.parseUnquoted fuel acc s).1.length := by
  intro fuel
  induction fuel with
  | zero => intro acc s; simp [JD.parseUnquoted]
  | succ f ih =>
    intro acc s
    simp only [JD.parseUnquoted]
    split
    · have := ih ((cur s).1 :: acc) (mv (cur s).2)
      simp only [List.length_cons] at this
      omega
    · simp

theorem mem_cur_cur (s : JD.St) : cur (cur s).2 = cur s := by
  obtain ⟨⟨unread, c0, loaded, pos⟩, found⟩ := s
  cases loaded with
  | true => simp [cur, JD.Latch.current]
  | false =>
    cases unread with
    | nil => simp [cur, JD.Latch.current]
    | cons c cs => simp [cur, JD.Latch.current]

/-- moving past the byte the reader is latched on -/
theorem mem_mv_latched (s : JD.St) (h : (cur s).1 ≠ 0) : memE (cur s).2 + 1 ≤ memE (mv (cur s).2) := by
  have := JD.mem_mv_cur (cur s).2 (by rw [mem_cur_cur]; exact h)
  rwa [mem_cur_cur] at this

/-- an unquoted key through the builder: at least one byte, all of them consumed -/
theorem mem_unquoted (cfg : Cfg) {g : PL.Geo} (fuel : Nat) (s0 : JD.St) (d : Doc) (b : Option Nat) (hg : d.g = g)
    (hc : JD.inUnquoted (cur s0).1 = true) :
    ∃ K : Nat, MemT cfg g (-(K : Int)) (-(K : Int)) (-(K : Int)) ⟨(cur s0).2, d, b⟩
        (unquoted cfg (fuel+1) ⟨(cur s0).2, d, b⟩).2.2 True ∧
      (unquoted cfg (fuel+1) ⟨(cur s0).2, d, b⟩).2.1.length ≤ K ∧ 1 ≤ K := by
  have t1 := mem_startString cfg (⟨(cur s0).2, d, b⟩ : S) hg
  have hs1 : (startString ⟨(cur s0).2, d, b⟩).s = (cur s0).2 := (startString_spec _).2.1
  have hq := JD.mem_parseUnquoted (fuel+1) [] (startString ⟨(cur s0).2, d, b⟩).s
  have hl : 1 ≤ (JD.parseUnquoted (fuel+1) [] (startString ⟨(cur s0).2, d, b⟩).s).1.length := by
    rw [hs1]
    simp only [JD.parseUnquoted, mem_cur_cur, hc, if_true]
    have := mem_parseUnquoted_len fuel [(cur s0).1] (mv (cur s0).2)
    simpa using this
  unfold unquoted
  simp only
  generalize JD.parseUnquoted (fuel+1) [] (startString ⟨(cur s0).2, d, b⟩).s = r at hq hl
  obtain ⟨bytes, s⟩ := r
  simp only [List.length_nil, Nat.add_zero] at hq hl ⊢
  have t2 := MemT.rd (cfg := cfg) (x := startString ⟨(cur s0).2, d, b⟩) s bytes.length t1.d.hg (by omega)
  have t3 := mem_appendN cfg bytes.length
    (⟨s, (startString ⟨(cur s0).2, d, b⟩).d, (startString ⟨(cur s0).2, d, b⟩).b⟩ : S) t1.d.hg
    (by show bytes.length ≤ memE s; omega)
  exact ⟨bytes.length, ((t1.trans trivial t2).trans trivial t3).weaken (by omega) (by omega) (by omega) (fun h => h),
    Nat.le_refl _, hl⟩

/-- `save`: a new node costs its bytes; an equal stored string costs nothing -/
theorem mem_save (cfg : Cfg) {g : PL.Geo} (x : S) (bytes : List Byte) (hg : x.d.g = g) :
    MemT cfg g 0 bytes.length 2 x (save x bytes).2 True := by
  cases hf : x.d.strings.find? (·.bytes == bytes) with
  | some y =>
    rw [save_eq_found hf]
    have hP : MemP x.d { x.d with strings :=
        (x.d.strings.map (fun z => if z.id == y.id then { z with refs := z.refs + 1 } else z)) } := by
      refine ⟨rfl, rfl, rfl, rfl, rfl, ?_⟩
      simp only [List.map_map]
      have : ((fun z : StrNode => z.bytes) ∘ fun z : StrNode => if (z.id == y.id) = true then { z with refs := z.refs + 1 } else z) =
          fun z : StrNode => z.bytes := by
        funext z; simp only [Function.comp]; split <;> rfl
      rw [this]
      exact List.Sublist.refl _
    exact (MemT.step (cfg := cfg) x.s _ 0 (Nat.le_refl _) (MemD.passive hg hP)).weaken (by omega) (by omega) (by omega)
      (fun h => h)
  | none =>
    rw [save_eq_new hf]
    have hD : MemD g 2 0 bytes.length 2 (memE x.s) (memE x.s) x.d
        { x.d with pl := (x.d.pl.realloc (bytes.length + x.d.strOverhead) false).2,
                   strings := ⟨x.d.nextNode, bytes, 1⟩ :: x.d.strings, nextNode := x.d.nextNode + 1 } True := by
      refine ⟨hg, rfl, Nat.le_refl _, ?_, ?_, ?_, fun a => PL.MemA.congr (s := x.d.pl) rfl rfl rfl a,
        fun a => ⟨PL.MemW.congr (s := x.d.pl) rfl a.weak, fun _ => PL.MemS.congr (s := x.d.pl) rfl a⟩⟩
      · have : PL.memSlots (x.d.pl.realloc (bytes.length + x.d.strOverhead) false).2 = PL.memSlots x.d.pl :=
          PL.mem_memSlots_congr rfl
        show (PL.memSlots (x.d.pl.realloc _ false).2 : Int) + _ ≤ _
        omega
      · simp only [memStrBytes, List.map_cons, List.sum_cons]; omega
      · simp only [List.length_cons]; omega
    exact ⟨hD, fun _ cap hc => by cases hc⟩

/-- `parseNumericValue`: a number that needs an extension slot has at least one byte -/
theorem mem_numeric (cfg : Cfg) {g : PL.Geo} (l : Loc) (x : S) (gok : PL.GeoOK g) (hg : x.d.g = g) :
    MemT cfg g 0 0 0 x (numeric cfg l x).2 ((numeric cfg l x).1 = .ok) := by
  have hq := JD.mem_scanNumber cfg (Gen.number_buffer - 1) [] x.s
  have hnil := JD.mem_parseNumber_nil cfg
  have store : ∀ (buf : List Byte) (s : JD.St) (a : Arg), memE x.s + buf.length ≤ memE s → 1 ≤ buf.length →
      (match a with | .uint _ | .sint _ | .f32 _ | .f64 _ => True | _ => False) →
      MemT cfg g 0 0 0 x ({ s := s, d := (x.d.setArg l a).2, b := x.b } : S)
        ((if (x.d.setArg l a).1 = true then Code.ok else Code.noMemory) = Code.ok) := by
    intro buf s a h1 h2 ha
    refine (MemT.step (cfg := cfg) s _ buf.length h1 (mem_D_setArg_num x.d l a gok hg ha)).weaken
      (by omega) (by omega) (by omega) (fun q => ?_)
    cases hh : (x.d.setArg l a).1 with
    | true => rfl
    | false => rw [hh] at q; simp at q
  unfold numeric
  simp only
  generalize JD.scanNumber cfg (Gen.number_buffer - 1) [] x.s = r at hq
  obtain ⟨buf, s⟩ := r
  simp only [List.length_nil, Nat.add_zero] at hq ⊢
  have hne : ∀ p, JD.parseNumber cfg buf = p → p ≠ .invalid → 1 ≤ buf.length := by
    intro p hp hpi
    cases buf with
    | nil => rw [hnil] at hp; exact absurd hp.symm hpi
    | cons a t => simp
  split
  · rename_i n heq; exact store buf s _ hq (hne _ heq (by simp)) trivial
  · rename_i n heq; exact store buf s _ hq (hne _ heq (by simp)) trivial
  · rename_i n heq; exact store buf s _ hq (hne _ heq (by simp)) trivial
  · rename_i n heq; exact store buf s _ hq (hne _ heq (by simp)) trivial
  · exact (MemT.rd (cfg := cfg) s 0 hg (by omega)).weaken (by omega) (by omega) (by omega) (fun _ => trivial)
  · exact (MemT.rd (cfg := cfg) s 0 hg (by omega)).weaken (by omega) (by omega) (by omega) (fun _ => trivial)

/-! ### the pieces of a round (AJ/Lemmas/JddfStep.lean)

A bracket, a comma or a colon that is read pays one unit of every credit of what follows it. -/

theorem mem_afterOpen (cfg : Cfg) {g : PL.Geo} (f : Nat) (close : Byte) {k : S → Code × S} (x : S) (hg : x.d.g = g)
    (hm : memE x.s + 1 ≤ memE (mv x.s))
    (hk : ∀ s, MemT cfg g 1 1 1 ⟨s, x.d, x.b⟩ (k ⟨s, x.d, x.b⟩).2 ((k ⟨s, x.d, x.b⟩).1 = .ok)) :
    MemT cfg g 0 0 0 x (afterOpen cfg f close k x).2 ((afterOpen cfg f close k x).1 = .ok) := by
  have h1 := JD.mem_skipSpaces cfg (f+1) (mv x.s)
  unfold afterOpen
  split
  · rename_i s heq
    rw [heq] at h1
    simp only at h1
    have h2 := JD.mem_cur s
    split
    · exact MemT.exit _ _ hg (by have := JD.mem_mv (cur s).2; omega) (MemP.refl _)
    · exact MemT.paid (cur s).2 hg (by omega) (hk _)
  · rename_i e s hne heq
    rw [heq] at h1
    simp only at h1
    exact MemT.exit _ _ hg (by omega) (MemP.refl _)

theorem mem_openAt (cfg : Cfg) {g : PL.Geo} (f limit : Nat) (close : Byte) (v : VData) (l : Loc) {k : Nat → S → Code × S}
    (x : S) (hg : x.d.g = g) (hm : memE x.s + 1 ≤ memE (mv x.s))
    (hk : ∀ li s, MemT cfg g 1 1 1 ⟨s, x.d.set l v, x.b⟩ (k li ⟨s, x.d.set l v, x.b⟩).2
      ((k li ⟨s, x.d.set l v, x.b⟩).1 = .ok)) :
    MemT cfg g 0 0 0 x (openAt cfg f limit close v l k x).2 ((openAt cfg f limit close v l k x).1 = .ok) := by
  have t0 : MemT cfg g 0 0 0 x ⟨x.s, x.d.set l v, x.b⟩ True := MemT.exit _ _ hg (Nat.le_refl _) (mem_P_set x.d l v)
  unfold openAt
  split
  · exact MemT.exit _ _ hg (Nat.le_refl _) (mem_P_set x.d l v)
  · exact t0.pre trivial (mem_afterOpen cfg f close ⟨x.s, x.d.set l v, x.b⟩ t0.d.hg hm (hk _))

theorem mem_stringAt (cfg : Cfg) {g : PL.Geo} (f : Nat) (c : Byte) (l : Loc) (x : S) (hg : x.d.g = g) (hne : c ≠ 0)
    (hm : memE x.s + 1 ≤ memE (mv x.s)) :
    MemT cfg g 0 0 0 x (stringAt cfg f c l x).2 ((stringAt cfg f c l x).1 = .ok) := by
  obtain ⟨K, t2, hK⟩ := mem_quoted cfg (f+1) c hne ⟨mv x.s, x.d, x.b⟩ hg
  have t1 := MemT.rd (cfg := cfg) (x := x) (mv x.s) 1 hg hm
  unfold stringAt
  split
  · rename_i bytes x1 heq
    rw [heq] at t2 hK
    have hK' : bytes.length + 1 ≤ K := hK rfl
    have t3 := mem_save cfg x1 bytes t2.d.hg
    have t4 : MemT cfg g 0 0 0 (save x1 bytes).2
        ⟨(save x1 bytes).2.s, (save x1 bytes).2.d.set l (.owned (save x1 bytes).1), (save x1 bytes).2.b⟩ True :=
      MemT.exit _ _ t3.d.hg (Nat.le_refl _) (mem_P_set _ l _)
    exact (((t1.trans trivial t2).trans trivial t3).trans trivial t4).weaken (by omega) (by omega) (by omega)
      (fun _ => trivial)
  · rename_i e bytes x1 hne2 heq
    rw [heq] at t2
    exact (t1.trans trivial t2).weaken (by omega) (by omega) (by omega) (fun _ => trivial)

theorem mem_elemsTail (cfg : Cfg) {g : PL.Geo} (f : Nat) {k : S → Code × S} (x : S) (hg : x.d.g = g)
    (hk : ∀ s, MemT cfg g 1 1 1 ⟨s, x.d, x.b⟩ (k ⟨s, x.d, x.b⟩).2 ((k ⟨s, x.d, x.b⟩).1 = .ok)) :
    MemT cfg g 0 0 0 x (elemsTail cfg f k x).2 ((elemsTail cfg f k x).1 = .ok) := by
  have h1 := JD.mem_skipSpaces cfg (f+1) x.s
  unfold elemsTail
  split
  · rename_i s heq
    rw [heq] at h1
    simp only at h1
    have h2 := JD.mem_cur s
    split
    · exact MemT.exit _ _ hg (by have := JD.mem_mv (cur s).2; omega) (MemP.refl _)
    · split
      · rename_i hcomma
        have h3 := JD.mem_mv_cur s (mem_ne_of_beq hcomma (by decide))
        exact MemT.paid (mv (cur s).2) hg (by omega) (hk _)
      · exact MemT.exit _ _ hg (by omega) (MemP.refl _)
  · rename_i e s hne heq
    rw [heq] at h1
    simp only at h1
    exact MemT.exit _ _ hg h1 (MemP.refl _)

theorem mem_membersTail (cfg : Cfg) {g : PL.Geo} (f : Nat) {k : S → Code × S} (x : S) (hg : x.d.g = g)
    (hk : ∀ s, MemT cfg g 0 0 0 ⟨s, x.d, x.b⟩ (k ⟨s, x.d, x.b⟩).2 ((k ⟨s, x.d, x.b⟩).1 = .ok)) :
    MemT cfg g 0 0 0 x (membersTail cfg f k x).2 ((membersTail cfg f k x).1 = .ok) := by
  have h1 := JD.mem_skipSpaces cfg (f+1) x.s
  unfold membersTail
  split
  · rename_i s heq
    rw [heq] at h1
    simp only at h1
    have h2 := JD.mem_cur s
    have h3 := JD.mem_mv (cur s).2
    split
    · exact MemT.exit _ _ hg (by omega) (MemP.refl _)
    · split
      · have h4 := JD.mem_skipSpaces cfg (f+1) (mv (cur s).2)
        split
        · rename_i s5 heq2
          rw [heq2] at h4
          simp only at h4
          have t : MemT cfg g 0 0 0 x ⟨s5, x.d, x.b⟩ True := MemT.exit _ _ hg (by omega) (MemP.refl _)
          exact t.pre trivial (hk _)
        · rename_i e s5 hne heq2
          rw [heq2] at h4
          simp only at h4
          exact MemT.exit _ _ hg (by omega) (MemP.refl _)
      · exact MemT.exit _ _ hg (by omega) (MemP.refl _)
  · rename_i e s hne heq
    rw [heq] at h1
    simp only at h1
    exact MemT.exit _ _ hg h1 (MemP.refl _)

theorem mem_andThen {cfg : Cfg} {g : PL.Geo} {ks kb kc : Int} {x : S} {r : Code × S} {tail : S → Code × S}
    (hr : MemT cfg g ks kb kc x r.2 (r.1 = .ok))
    (ht : ∀ y, y.d.g = g → MemT cfg g 0 0 0 y (tail y).2 ((tail y).1 = .ok)) :
    MemT cfg g ks kb kc x (andThen r tail).2 ((andThen r tail).1 = .ok) := by
  unfold andThen
  split
  · exact hr.post rfl (ht _ hr.d.hg)
  · exact hr

/-- the key token, from the state latched on its first byte: `K` bytes were consumed, at least one and at least as many
    as the key has -/
theorem mem_keyToken (cfg : Cfg) {g : PL.Geo} (f : Nat) (s0 : JD.St) (d : Doc) (b : Option Nat) (hg : d.g = g) :
    ∃ K : Nat, MemT cfg g (-(K : Int)) (-(K : Int)) (-(K : Int)) ⟨(cur s0).2, d, b⟩
        (keyToken cfg f (cur s0).1 ⟨(cur s0).2, d, b⟩).2.2 True ∧
      ((keyToken cfg f (cur s0).1 ⟨(cur s0).2, d, b⟩).1 = .ok →
        (keyToken cfg f (cur s0).1 ⟨(cur s0).2, d, b⟩).2.1.length ≤ K ∧ 1 ≤ K) := by
  unfold keyToken
  split
  · rename_i hq
    have hne : (cur s0).1 ≠ 0 := by
      simp only [Bool.or_eq_true] at hq
      rcases hq with hq | hq
      · exact mem_ne_of_beq hq (by decide)
      · exact mem_ne_of_beq hq (by decide)
    have t1 := MemT.rd (cfg := cfg) (x := ⟨(cur s0).2, d, b⟩) (mv (cur s0).2) 1 hg (mem_mv_latched s0 hne)
    obtain ⟨K, t2, hK⟩ := mem_quoted cfg (f+1) (cur s0).1 hne ⟨mv (cur s0).2, d, b⟩ hg
    exact ⟨K + 1, (t1.trans trivial t2).weaken (by omega) (by omega) (by omega) (fun h => h),
      fun h => ⟨Nat.le_trans (Nat.le_add_right _ 2) (Nat.add_le_add_right (hK h) 1), Nat.le_add_left 1 K⟩⟩
  · split
    · rename_i hu
      obtain ⟨K, t2, hK1, hK2⟩ := mem_unquoted cfg f s0 d b hg hu
      exact ⟨K, t2, fun _ => ⟨hK1, hK2⟩⟩
    · exact ⟨0, mem_startString cfg _ hg, fun h => by cases h⟩

/-- the value slot of a member: an existing member is cleared and reused (nothing is allocated); otherwise the key is
    saved and two slots are taken -/
theorem mem_memberSlot (cfg : Cfg) {g : PL.Geo} (x : S) (l : Loc) (key : List Byte) (gok : PL.GeoOK g) (hg : x.d.g = g) :
    MemT cfg g 2 key.length 2 x (memberSlot x l key).2 ((memberSlot x l key).1.isSome = true) := by
  unfold memberSlot
  cases hf : x.d.findKey l key with
  | some p =>
    obtain ⟨k, v⟩ := p
    simp only
    exact (MemT.exit x.s _ hg (Nat.le_refl _) (mem_P_clearV x.d (.slot v))).weaken (by omega) (by omega) (by omega)
      (fun q => q)
  | none =>
    simp only
    have t1 := mem_save cfg x key hg
    have t2 := MemT.step (cfg := cfg) (x := (save x key).2) (save x key).2.s
      (addMemberNode (save x key).2.d l (save x key).1).2 0 (Nat.le_refl _)
      (mem_D_addMemberNode (save x key).2.d l (save x key).1 gok t1.d.hg)
    have t12 := t1.trans trivial t2
    generalize addMemberNode (save x key).2.d l (save x key).1 = r at t12
    obtain ⟨o, d2⟩ := r
    cases o with
    | none => exact t12.weaken (by omega) (by omega) (by omega) (fun h => h)
    | some v => exact t12.weaken (by omega) (by omega) (by omega) (fun h => h)

theorem mem_memberAt (cfg : Cfg) {g : PL.Geo} (gok : PL.GeoOK g) (l : Loc) (key : List Byte) {k : Nat → S → Code × S} (x : S)
    (hg : x.d.g = g) (hk : ∀ v y, y.d.g = g → MemT cfg g 0 0 0 y (k v y).2 ((k v y).1 = .ok)) :
    MemT cfg g 2 key.length 2 x (memberAt l key k x).2 ((memberAt l key k x).1 = .ok) := by
  have t := mem_memberSlot cfg x l key gok hg
  unfold memberAt
  generalize memberSlot x l key = r at t
  obtain ⟨o, y⟩ := r
  cases o with
  | none => exact t.weaken (Int.le_refl _) (Int.le_refl _) (Int.le_refl _) (fun q => by cases q)
  | some v => exact t.post rfl (hk v y t.d.hg)

theorem mem_memberRest (cfg : Cfg) {g : PL.Geo} {ks kb kc : Int} (f : Nat) {val : S → Code × S} (x : S) (hg : x.d.g = g)
    (hs : 0 ≤ ks) (hb : 0 ≤ kb) (hc : 0 ≤ kc)
    (hv : ∀ s, MemT cfg g (ks + 1) (kb + 1) (kc + 1) ⟨s, x.d, x.b⟩ (val ⟨s, x.d, x.b⟩).2 ((val ⟨s, x.d, x.b⟩).1 = .ok)) :
    MemT cfg g ks kb kc x (memberRest cfg f val x).2 ((memberRest cfg f val x).1 = .ok) := by
  have h1 := JD.mem_skipSpaces cfg (f+1) x.s
  unfold memberRest
  split
  · rename_i s heq
    rw [heq] at h1
    simp only at h1
    have h2 := JD.mem_cur s
    split
    · exact (MemT.exit _ _ hg (by omega) (MemP.refl _)).weaken hs hb hc (fun q => q)
    · rename_i hcolon
      have hcol : ((cur s).1 == 0x3A) = true := by
        cases hh : ((cur s).1 == 0x3A) with
        | true => rfl
        | false => exfalso; apply hcolon; simp [bne, hh]
      have h3 := JD.mem_mv_cur s (mem_ne_of_beq hcol (by decide))
      exact MemT.paid (mv (cur s).2) hg (by omega) (hv _)
  · rename_i e s hne heq
    rw [heq] at h1
    simp only at h1
    exact (MemT.exit _ _ hg h1 (MemP.refl _)).weaken hs hb hc (fun q => q)

/-! ### the statements, by fuel -/

def MemPV (cfg : Cfg) (g : PL.Geo) (fuel : Nat) : Prop := ∀ (limit : Nat) (l : Loc) (x : S), x.d.g = g →
  MemT cfg g 0 0 0 x (parseVariant cfg fuel limit l x).2 ((parseVariant cfg fuel limit l x).1 = .ok)

/-- an element costs one slot, paid by the `[` or `,` before it -/
def MemPE (cfg : Cfg) (g : PL.Geo) (fuel : Nat) : Prop := ∀ (limit : Nat) (l : Loc) (x : S), x.d.g = g →
  MemT cfg g 1 0 0 x (parseElems cfg fuel limit l x).2 ((parseElems cfg fuel limit l x).1 = .ok)

def MemPM (cfg : Cfg) (g : PL.Geo) (fuel : Nat) : Prop := ∀ (limit : Nat) (l : Loc) (x : S), x.d.g = g →
  MemT cfg g 0 0 0 x (parseMembers cfg fuel limit l x).2 ((parseMembers cfg fuel limit l x).1 = .ok)

theorem mem_pv_zero (cfg : Cfg) (g : PL.Geo) : MemPV cfg g 0 := by
  intro limit l x hg
  simp only [parseVariant]
  exact MemT.exit x.s x.d hg (Nat.le_refl _) (MemP.refl _)

theorem mem_pe_zero (cfg : Cfg) (g : PL.Geo) : MemPE cfg g 0 := by
  intro limit l x hg
  simp only [parseElems]
  exact (MemT.exit x.s x.d hg (Nat.le_refl _) (MemP.refl _)).weaken (by omega) (by omega) (by omega) (fun q => q)

theorem mem_pm_zero (cfg : Cfg) (g : PL.Geo) : MemPM cfg g 0 := by
  intro limit l x hg
  simp only [parseMembers]
  exact MemT.exit x.s x.d hg (Nat.le_refl _) (MemP.refl _)

/-- a value by its first byte `c`, on which the reader is latched: a bracket or a quote is a byte to move past -/
theorem mem_valueAt (cfg : Cfg) {g : PL.Geo} (gok : PL.GeoOK g) (f : Nat) (ihE : MemPE cfg g f) (ihM : MemPM cfg g f)
    (limit : Nat) (l : Loc) (c : Byte) (x : S) (hg : x.d.g = g) (hm : c ≠ 0 → memE x.s + 1 ≤ memE (mv x.s)) :
    MemT cfg g 0 0 0 x (valueAt cfg f limit l c x).2 ((valueAt cfg f limit l c x).1 = .ok) := by
  have hset : ∀ v, (x.d.set l v).g = g := fun v => (mem_P_set x.d l v).g.trans hg
  by_cases hc : c = 0
  · -- the end of the input is none of the first bytes tested for
    subst hc
    exact mem_numeric cfg l x gok hg
  · have hm := hm hc
    refine valueAt_cases (P := fun r => MemT cfg g 0 0 0 x r.2 (r.1 = .ok)) cfg f limit l c x ?_ ?_ ?_ ?_ ?_ ?_ ?_
    · exact mem_openAt cfg f limit _ _ l x hg hm
        (fun li s => (ihE li l ⟨s, x.d.set l _, x.b⟩ (hset _)).weaken (Int.le_refl _) (by omega) (by omega) (fun q => q))
    · exact mem_openAt cfg f limit _ _ l x hg hm
        (fun li s => (ihM li l ⟨s, x.d.set l _, x.b⟩ (hset _)).weaken (by omega) (by omega) (by omega) (fun q => q))
    · exact mem_stringAt cfg f c l x hg hc hm
    · exact MemT.exit _ _ hg (JD.mem_skipKeyword _ _) (mem_P_set x.d l _)
    · exact MemT.exit _ _ hg (JD.mem_skipKeyword _ _) (mem_P_set x.d l _)
    · exact MemT.exit _ _ hg (JD.mem_skipKeyword _ _) (MemP.refl _)
    · exact mem_numeric cfg l x gok hg

theorem mem_pv_succ (cfg : Cfg) (g : PL.Geo) (gok : PL.GeoOK g) (f : Nat) (ihE : MemPE cfg g f) (ihM : MemPM cfg g f) :
    MemPV cfg g (f+1) := by
  intro limit l x hg
  have h0 := JD.mem_skipSpaces cfg (f+1) x.s
  rw [parseVariant_succ]
  split
  · rename_i s heq
    rw [heq] at h0
    simp only at h0
    have t : MemT cfg g 0 0 0 x ⟨(cur s).2, x.d, x.b⟩ True :=
      MemT.exit _ _ hg (Nat.le_trans h0 (JD.mem_cur s)) (MemP.refl _)
    exact t.pre trivial (mem_valueAt cfg gok f ihE ihM limit l (cur s).1 ⟨(cur s).2, x.d, x.b⟩ hg (mem_mv_latched s))
  · rename_i e s hne heq
    rw [heq] at h0
    exact MemT.exit _ _ hg h0 (MemP.refl _)

theorem mem_pe_succ (cfg : Cfg) (g : PL.Geo) (gok : PL.GeoOK g) (f : Nat) (ihV : MemPV cfg g f) (ihE : MemPE cfg g f) :
    MemPE cfg g (f+1) := by
  intro limit l x hg
  rw [parseElems_succ]
  have t1 := MemT.step (cfg := cfg) (x := x) x.s (x.d.addElement l).2 0 (Nat.le_refl _) (mem_D_addElement x.d l gok hg)
  generalize x.d.addElement l = r at t1
  obtain ⟨o, d1⟩ := r
  cases o with
  | none => exact t1.weaken (by omega) (by omega) (by omega) (fun q => by cases q)
  | some id =>
    refine mem_andThen ?_ (fun y hy => mem_elemsTail cfg f y hy
      (fun s => (ihE limit l ⟨s, y.d, y.b⟩ hy).weaken (Int.le_refl _) (by omega) (by omega) (fun q => q)))
    exact (t1.trans rfl (ihV limit (.slot id) ⟨x.s, d1, x.b⟩ t1.d.hg)).weaken (by omega) (by omega) (by omega) (fun q => q)

/-- a member: the key token and the colon are at least two bytes, and at least as many as the key has -/
theorem mem_pm_succ (cfg : Cfg) (g : PL.Geo) (gok : PL.GeoOK g) (f : Nat) (ihV : MemPV cfg g f) (ihM : MemPM cfg g f) :
    MemPM cfg g (f+1) := by
  intro limit l x hg
  obtain ⟨K, tk, hK⟩ := mem_keyToken cfg f x.s x.d x.b hg
  have t0 : MemT cfg g 0 0 0 x ⟨(cur x.s).2, x.d, x.b⟩ True := MemT.exit _ _ hg (JD.mem_cur x.s) (MemP.refl _)
  rw [parseMembers_succ]
  split
  · rename_i key x1 heq
    rw [heq] at tk hK
    have hK1 : key.length ≤ K := (hK rfl).1
    have hK2 : 1 ≤ K := (hK rfl).2
    refine t0.pre trivial ((tk.trans trivial (mem_memberRest cfg f x1 tk.d.hg (ks := 1) (kb := key.length) (kc := 1)
      (by omega) (by omega) (by omega) (fun s => ?_))).weaken (by omega) (by omega) (by omega) (fun q => q))
    refine (mem_memberAt cfg gok l key ⟨s, x1.d, x1.b⟩ tk.d.hg (fun v y hy => ?_)).weaken (by omega) (by omega) (by omega)
      (fun q => q)
    exact mem_andThen (ihV limit (.slot v) y hy)
      (fun z hz => mem_membersTail cfg f z hz (fun s => ihM limit l ⟨s, z.d, z.b⟩ hz))
  · rename_i e key x1 hne heq
    rw [heq] at tk
    exact t0.pre trivial (tk.weaken (by omega) (by omega) (by omega) (fun _ => trivial))

/-- the accounting through the whole mutual block, for every fuel -/
theorem mem_parse_all (cfg : Cfg) (g : PL.Geo) (gok : PL.GeoOK g) :
    ∀ fuel, MemPV cfg g fuel ∧ MemPE cfg g fuel ∧ MemPM cfg g fuel := by
  intro fuel
  induction fuel with
  | zero => exact ⟨mem_pv_zero cfg g, mem_pe_zero cfg g, mem_pm_zero cfg g⟩
  | succ f ih =>
    obtain ⟨ihV, ihE, ihM⟩ := ih
    exact ⟨mem_pv_succ cfg g gok f ihE ihM, mem_pe_succ cfg g gok f ihV ihE, mem_pm_succ cfg g gok f ihV ihM⟩

/-! ### `run` -/

/-- what the accounting says about a state reached after `n` bytes were taken from the input -/
structure MemStop (cfg : Cfg) (g : PL.Geo) (x : S) (n : Nat) (ok : Prop) : Prop where
  hg : x.d.g = g
  slots : PL.memSlots x.d.pl ≤ n
  sbytes : memStrBytes x.d ≤ n
  scount : 2 * x.d.strings.length ≤ n
  always : PL.MemA g x.d.pl
  weak : PL.MemW g x.d.pl
  strong : ok → PL.MemS g x.d.pl
  buf : ∀ cap, x.b = some cap → cap ≤ max 31 cfg.maxStrLen ∧ cap ≤ max 31 (2 * n + 1)

/-- from an empty document and an untouched reader -/
theorem mem_of_start {cfg : Cfg} {g : PL.Geo} {x0 x : S} {ok : Prop} (h : MemT cfg g 0 0 0 x0 x ok)
    (hp : x0.d.pl.pools = []) (ht : x0.d.pl.tableHeap = false) (hs : x0.d.strings = []) (hb : x0.b = none)
    (he : memE x0.s = 1) : MemStop cfg g x x.s.l.pos ok := by
  have hE := JD.mem_E_le x.s
  have h0 : PL.memSlots x0.d.pl = 0 := by unfold PL.memSlots; rw [hp]; rfl
  have h1 : memStrBytes x0.d = 0 := by unfold memStrBytes; rw [hs]; rfl
  have h2 : x0.d.strings.length = 0 := by rw [hs]; rfl
  have hS := h.d.strong (PL.mem_nil_S hp)
  refine ⟨h.d.hg, ?_, ?_, ?_, h.d.always (PL.mem_nil_A hp ht), hS.1, hS.2, ?_⟩
  · have := h.d.slots; omega
  · have := h.d.sbytes; omega
  · have := h.d.scount; omega
  · intro cap hc
    obtain ⟨a, b⟩ := h.buf (fun c hc' => by rw [hb] at hc'; cases hc') cap hc
    exact ⟨a, by omega⟩

theorem mem_clearAll_start (d : Doc) :
    d.clearAll.pl.pools = [] ∧ d.clearAll.pl.tableHeap = false ∧ d.clearAll.strings = [] ∧ d.clearAll.g = d.g ∧
    d.clearAll.strOverhead = d.strOverhead := by
  have hpl : d.clearAll.pl = (PL.clear d.g d.pl).rel [] d.strings.length := foldl_dealloc _ _
  obtain ⟨a, _, c, _⟩ := PL.clear_spec d.g d.pl
  exact ⟨by rw [hpl, rel_pools, a], by rw [hpl, rel_tableHeap, c], rfl, rfl, rfl⟩

/-- MAIN (state in which the parser stops, the StringBuilder still alive): for every input and failure schedule -/
theorem mem_stop (cfg : Cfg) (limit : Nat) (d : Doc) (input : List Byte) (gok : PL.GeoOK d.g) :
    MemStop cfg d.g (stop cfg limit d input).2 (stop cfg limit d input).2.s.l.pos ((stop cfg limit d input).1 = .ok) ∧
    (stop cfg limit d input).2.d.strOverhead = d.strOverhead := by
  obtain ⟨a, b, c, e, f⟩ := mem_clearAll_start d
  have T := (mem_parse_all cfg d.g gok (2 * input.length + 4)).1 limit .root (start d input) e
  exact ⟨mem_of_start T a b c rfl rfl, T.d.ovh.trans f⟩

/-- never more bytes consumed than the input has -/
theorem mem_run_pos_le (cfg : Cfg) (limit : Nat) (d : Doc) (input : List Byte) :
    (run cfg limit d input).2.2 ≤ input.length := by
  rw [← run_all]; exact JDDF.pos_run_le cfg limit .all d input

end JDD
