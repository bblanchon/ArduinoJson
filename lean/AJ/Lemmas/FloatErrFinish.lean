/- C12 (floating-point clauses): the last stage of `parseNumber` (`Digits.finish`): range tests, sign, the two paths. -/
import AJ.Lemmas.FloatErrMake
import AJ.Lemmas.FloatErrScan
namespace C12
open SF JD Digits

theorem negBits_false (f : Fmt) (r : Nat) : negBits f false r = r := rfl

/-- `negBits` sets the sign of a non-negative finite datum and keeps its magnitude -/
theorem negBits_decode (f : Fmt) (neg : Bool) (r m : Nat) (e : Int) (h : decode f r = .fin false m e) :
    decode f (negBits f neg r) = .fin neg m e := by
  cases neg
  · exact h
  · exact negBits_fin h

theorem negBits_decode_inf (f : Fmt) (neg : Bool) (r : Nat) (h : decode f r = .inf false) :
    decode f (negBits f neg r) = .inf neg := by
  cases neg
  · exact h
  · exact negBits_inf h

/-! ## the range tests (magnitude clause, on the scanned pair) -/

theorem finish_zero (neg : Bool) (e : Int) : finish neg [] 0 e = .f32 (negBits b32 neg 0) := by
  simp [finish]

theorem finish_huge (neg : Bool) (mant : Nat) (e : Int) (hm : mant ≠ 0) (he : 308 < e) :
    finish neg [] mant e = .f64 (infBits b64 neg) := by
  have h1 : (mant == 0) = false := by simpa using hm
  have h2 : e > (Gen.exponent_max64 : Int) := by show e > 308; exact he
  simp only [finish, List.isEmpty_nil, Bool.not_true, Bool.false_eq_true, ↓reduceIte, h1, if_pos h2]

theorem finish_tiny (neg : Bool) (mant : Nat) (e : Int) (hm : mant ≠ 0) (he : e < -325) :
    finish neg [] mant e = .f32 (negBits b32 neg 0) := by
  have h1 : (mant == 0) = false := by simpa using hm
  have h2 : ¬ e > (Gen.exponent_max64 : Int) := by show ¬ e > 308; omega
  have h3 : e < -((Gen.exponent_max64 : Int) + 17) := by show e < -(308 + 17); omega
  simp only [finish, List.isEmpty_nil, Bool.not_true, Bool.false_eq_true, ↓reduceIte, h1, if_neg h2, if_pos h3]

theorem zero32_decode (neg : Bool) : decode b32 (negBits b32 neg 0) = .fin neg 0 (-149) := by
  cases neg <;> decide +kernel

/-- between the range tests -/
theorem finish_mid (neg : Bool) (mant : Nat) (e : Int) (hm : mant ≠ 0) (h1 : -325 ≤ e) (h2 : e ≤ 308) :
    finish neg [] mant e =
      (if (e < -38 ∨ 38 < e ∨ 8388607 < mant) then
        (match makeFloat b64 pos64 neg64 (ofNat b64 mant) e with
          | none => .fault
          | some r => .f64 (negBits b64 neg r))
      else
        match makeFloat b32 pos32 neg32 (ofNat b32 mant) e with
        | none => .fault
        | some r => if isInf b32 r then
            (match makeFloat b64 pos64 neg64 (ofNat b64 mant) e with
              | none => .fault
              | some r => .f64 (negBits b64 neg r))
          else .f32 (negBits b32 neg r)) := by
  have c1 : (mant == 0) = false := by simpa using hm
  have c2 : ¬ e > (Gen.exponent_max64 : Int) := by show ¬ e > 308; omega
  have c3 : ¬ e < -((Gen.exponent_max64 : Int) + 17) := by show ¬ e < -(308 + 17); omega
  simp only [finish, List.isEmpty_nil, Bool.not_true, Bool.false_eq_true, ↓reduceIte, c1, if_neg c2, if_neg c3]
  have hD : (decide (e < -(Gen.exponent_max32 : Int)) || decide (e > (Gen.exponent_max32 : Int)) || decide (mant > Gen.mantissa_max32)) = true ↔
      (e < -38 ∨ 38 < e ∨ 8388607 < mant) := by
    show (decide (e < -(38 : Int)) || decide (e > (38 : Int)) || decide (mant > 8388607)) = true ↔ _
    simp only [Bool.or_eq_true, decide_eq_true_eq]
    constructor
    · rintro ((h | h) | h)
      · exact Or.inl h
      · exact Or.inr (Or.inl h)
      · exact Or.inr (Or.inr h)
    · rintro (h | h | h)
      · exact Or.inl (Or.inl h)
      · exact Or.inl (Or.inr h)
      · exact Or.inr h
  by_cases hd : (e < -38 ∨ 38 < e ∨ 8388607 < mant)
  · rw [if_pos (hD.mpr hd), if_pos hd]; rfl
  · rw [if_neg (fun h => hd (hD.mp h)), if_neg hd]; rfl

/-- between the range tests the last stage returns the binary64 product, or, for a pair inside the binary32 window whose
    binary32 product is finite, that product -/
theorem finish_cases (neg : Bool) (mant : Nat) (e : Int) (hm : mant ≠ 0) (h1 : -325 ≤ e) (h2 : e ≤ 308) :
    (∃ r, makeFloat b64 pos64 neg64 (ofNat b64 mant) e = some r ∧ finish neg [] mant e = .f64 (negBits b64 neg r)) ∨
    (∃ r, makeFloat b32 pos32 neg32 (ofNat b32 mant) e = some r ∧ isInf b32 r = false ∧ -38 ≤ e ∧ e ≤ 38 ∧
      mant ≤ 8388607 ∧ finish neg [] mant e = .f32 (negBits b32 neg r)) := by
  rw [finish_mid neg mant e hm h1 h2]
  cases h64 : makeFloat b64 pos64 neg64 (ofNat b64 mant) e with
  | none =>
    exact absurd h64 (makeFloat_some b64 pos64 neg64 _ e (by rw [len_pos64]; omega) (by rw [len_neg64]; omega))
  | some r64 =>
    by_cases hd : (e < -38 ∨ 38 < e ∨ 8388607 < mant)
    · rw [if_pos hd]; exact Or.inl ⟨r64, rfl, rfl⟩
    · rw [if_neg hd]
      cases h32 : makeFloat b32 pos32 neg32 (ofNat b32 mant) e with
      | none =>
        exact absurd h32 (makeFloat_some b32 pos32 neg32 _ e (by rw [len_pos32]; omega) (by rw [len_neg32]; omega))
      | some r32 =>
        simp only
        by_cases hi : isInf b32 r32 = true
        · exact Or.inl ⟨r64, rfl, by rw [if_pos hi]⟩
        · exact Or.inr ⟨r32, rfl, by simpa using hi, by omega, by omega, by omega, by rw [if_neg hi]⟩

/-- what holds of every binary64 product holds of every binary64 result (and the stage never faults) -/
theorem finish_f64_of (neg : Bool) (mant : Nat) (e : Int) (hm : mant ≠ 0) (h1 : -325 ≤ e) (h2 : e ≤ 308) {P : Nat → Prop}
    (hP : ∀ r, makeFloat b64 pos64 neg64 (ofNat b64 mant) e = some r → P (negBits b64 neg r)) :
    ((∃ bits, finish neg [] mant e = .f64 bits) ∨ (∃ bits, finish neg [] mant e = .f32 bits)) ∧
    ∀ bits, finish neg [] mant e = .f64 bits → P bits := by
  rcases finish_cases neg mant e hm h1 h2 with ⟨r, hr, hfin⟩ | ⟨r, _, _, _, _, _, hfin⟩
  · rw [hfin]; exact ⟨Or.inl ⟨_, rfl⟩, fun bits hb => by cases hb; exact hP r hr⟩
  · rw [hfin]; exact ⟨Or.inr ⟨_, rfl⟩, fun bits hb => by cases hb⟩

theorem finish_f32_of (neg : Bool) (mant : Nat) (e : Int) (hm : mant ≠ 0) (h1 : -325 ≤ e) (h2 : e ≤ 308) {P : Nat → Prop}
    (hP : ∀ r, makeFloat b32 pos32 neg32 (ofNat b32 mant) e = some r → isInf b32 r = false → -38 ≤ e → e ≤ 38 →
      mant ≤ 8388607 → P (negBits b32 neg r)) :
    ∀ bits, finish neg [] mant e = .f32 bits → P bits := by
  intro bits hb
  rcases finish_cases neg mant e hm h1 h2 with ⟨r, _, hfin⟩ | ⟨r, hr, hi, ha, hb', hc, hfin⟩
  · rw [hfin] at hb; cases hb
  · rw [hfin] at hb; cases hb; exact hP r hr hi ha hb' hc

/-! ## exponent range from the magnitude -/

theorem big_num_1 : (2 : ℚ) ^ (1000 : Int) < (10 : ℚ) ^ (309 : Int) := by
  simpa using zpow_lt_of_nat (a := 2) (b := 10) (p := 1000) (q := 309) (c := 1) (d := 1) (by decide +kernel)

theorem big_num_2 : (2 : ℚ) ^ 53 * (10 : ℚ) ^ (-326 : Int) < (2 : ℚ) ^ (-1000 : Int) := by
  rw [show (2 : ℚ) ^ 53 = 9007199254740992 from by norm_num]
  simpa using zpow_neg_lt_of_nat (a := 2) (b := 10) (p := 1000) (q := 326) (c := 9007199254740992) (d := 1) (by decide) (by decide)
    (by decide +kernel)

theorem exp_le_of (mant : Nat) (e : Int) (hm : mant ≠ 0) (h : (mant : ℚ) * (10 : ℚ) ^ e ≤ (2 : ℚ) ^ (1000 : Int)) : e ≤ 308 := by
  by_contra hc
  have hmq : (1 : ℚ) ≤ (mant : ℚ) := by exact_mod_cast Nat.pos_of_ne_zero hm
  have h1 : (10 : ℚ) ^ (309 : Int) ≤ (10 : ℚ) ^ e := zpow_le_zpow_right₀ (by norm_num) (by omega)
  have hp : (0 : ℚ) < (10 : ℚ) ^ e := zpow_pos (by norm_num) e
  have h3 : (10 : ℚ) ^ e ≤ (mant : ℚ) * (10 : ℚ) ^ e := le_mul_of_one_le_left hp.le hmq
  exact absurd (lt_of_lt_of_le big_num_1 (h1.trans (h3.trans h))) (lt_irrefl _)

theorem exp_ge_of (mant : Nat) (e : Int) (hlt : mant < 2 ^ 53) (h : (2 : ℚ) ^ (-1000 : Int) ≤ (mant : ℚ) * (10 : ℚ) ^ e) : -325 ≤ e := by
  by_contra hc
  have hmq : (mant : ℚ) ≤ 2 ^ 53 := by exact_mod_cast hlt.le
  have h1 : (10 : ℚ) ^ e ≤ (10 : ℚ) ^ (-326 : Int) := zpow_le_zpow_right₀ (by norm_num) (by omega)
  have hp : (0 : ℚ) < (10 : ℚ) ^ e := zpow_pos (by norm_num) e
  have h3 : (mant : ℚ) * (10 : ℚ) ^ e ≤ 2 ^ 53 * (10 : ℚ) ^ (-326 : Int) := by
    calc (mant : ℚ) * (10 : ℚ) ^ e ≤ 2 ^ 53 * (10 : ℚ) ^ e := mul_le_mul_of_nonneg_right hmq hp.le
      _ ≤ 2 ^ 53 * (10 : ℚ) ^ (-326 : Int) := mul_le_mul_of_nonneg_left h1 (by positivity)
  exact absurd (lt_of_le_of_lt (h.trans h3) big_num_2) (lt_irrefl _)

theorem isInf_fin (f : Fmt) (r : Nat) (n : Bool) (m : Nat) (e : Int) (h : decode f r = .fin n m e) : isInf f r = false := by
  unfold isInf; rw [h]

/-- THE BINARY64 PATH of the last stage: a scanned pair `(mant, e)` with `0 < mant < 2^53` and
    `mant·10^e ∈ [2^-1000, 2^1000]` never yields an integer/invalid/fault; and whenever the stage returns a binary64
    pattern, it is a finite datum of the literal's sign within `22.5·2^-53` of `mant·10^e`. -/
theorem finish_f64_close (neg : Bool) (mant : Nat) (e : Int) (hm : mant ≠ 0) (hlt : mant < 2 ^ 53)
    (h3 : (2 : ℚ) ^ (-1000 : Int) ≤ (mant : ℚ) * (10 : ℚ) ^ e) (h4 : (mant : ℚ) * (10 : ℚ) ^ e ≤ (2 : ℚ) ^ (1000 : Int)) :
    ((∃ bits, finish neg [] mant e = .f64 bits) ∨ (∃ bits, finish neg [] mant e = .f32 bits)) ∧
    ∀ bits, finish neg [] mant e = .f64 bits →
      ∃ (m : Nat) (ex : Int), decode b64 bits = .fin neg m ex ∧ m ≠ 0 ∧
        Close (45 / 2 ^ 54) (qv m ex) ((mant : ℚ) * (10 : ℚ) ^ e) := by
  have e1 := exp_ge_of mant e hlt h3
  have e2 := exp_le_of mant e hm h4
  refine finish_f64_of neg mant e hm e1 e2 ?_
  intro r hr
  obtain ⟨r', m, ex, hmk, hdec, hm0, hcl⟩ := makeFloat64_close mant e hm hlt (by omega) h3 h4
  rw [hmk] at hr; cases hr
  exact ⟨m, ex, negBits_decode b64 neg r m ex hdec, hm0, hcl⟩

/-- THE BINARY32 PATH (partial: the magnitude must lie in `[2^-125, 2^125] ⊃ [2.4e-38, 4.2e37]`, i.e. away from the
    subnormal range and from the top binade of binary32): whenever the stage returns a binary32 pattern it is a
    finite datum of the literal's sign within `15·2^-24 < 8.95e-7` of `mant·10^e`. -/
theorem finish_f32_close (neg : Bool) (mant : Nat) (e : Int) (hm : mant ≠ 0)
    (h3 : (2 : ℚ) ^ (-125 : Int) ≤ (mant : ℚ) * (10 : ℚ) ^ e) (h4 : (mant : ℚ) * (10 : ℚ) ^ e ≤ (2 : ℚ) ^ (125 : Int))
    (e1 : -325 ≤ e) (e2 : e ≤ 308) :
    ∀ bits, finish neg [] mant e = .f32 bits →
      ∃ (m : Nat) (ex : Int), decode b32 bits = .fin neg m ex ∧ m ≠ 0 ∧
        Close (15 / 2 ^ 24) (qv m ex) ((mant : ℚ) * (10 : ℚ) ^ e) := by
  refine finish_f32_of neg mant e hm e1 e2 ?_
  intro r hr _ _ _ _
  obtain ⟨r', m, ex, hmk, hdec, hm0, hcl⟩ := makeFloat32_close mant e hm (by omega) (by omega) h3 h4
  rw [hmk] at hr; cases hr
  exact ⟨m, ex, negBits_decode b32 neg r m ex hdec, hm0, hcl⟩

/-! ## overflow allowed -/

theorem isInf_inf (f : Fmt) (r : Nat) (n : Bool) (h : decode f r = .inf n) : isInf f r = true := by
  unfold isInf; rw [h]

/-- every finite datum is below `2^(emax-bias)` (binary64: `2^1024`, binary32: `2^128`) -/
theorem fin_lt_top (f : Fmt) (b : Nat) (n : Bool) (m : Nat) (e : Int) (h : decode f b = .fin n m e) (he : 2 ≤ f.emax) :
    qv m e < (2 : ℚ) ^ ((f.emax : Int) - f.bias) := by
  have h1 := (decode_fin_bounds f b n m e h).2
  have h2 := decode_fin_exp_lt f b n m e h he
  have hq : (m : ℚ) < ((2 ^ (f.mbits + 1) : Nat) : ℚ) := by exact_mod_cast h1
  have hp := two_zpow_pos e
  unfold qv
  calc (m : ℚ) * 2 ^ e < ((2 ^ (f.mbits + 1) : Nat) : ℚ) * 2 ^ e := mul_lt_mul_of_pos_right hq hp
    _ = (2 : ℚ) ^ (((f.mbits + 1 : Nat) : Int) + e) := by
        rw [zpow_add₀ (by norm_num : (2 : ℚ) ≠ 0), zpow_natCast]; push_cast; ring
    _ ≤ (2 : ℚ) ^ ((f.emax : Int) - f.bias) := zpow_le_zpow_right₀ (by norm_num) (by push_cast; omega)

/-- the binary64 path with overflow allowed: lower bound on the magnitude only -/
theorem finish_f64_or_inf (neg : Bool) (mant : Nat) (e : Int) (hm : mant ≠ 0) (hlt : mant < 2 ^ 53)
    (h3 : (2 : ℚ) ^ (-1000 : Int) ≤ (mant : ℚ) * (10 : ℚ) ^ e) :
    ((∃ bits, finish neg [] mant e = .f64 bits) ∨ (∃ bits, finish neg [] mant e = .f32 bits)) ∧
    ∀ bits, finish neg [] mant e = .f64 bits →
      decode b64 bits = .inf neg ∨
      ∃ (m : Nat) (ex : Int), decode b64 bits = .fin neg m ex ∧ m ≠ 0 ∧
        Close (45 / 2 ^ 54) (qv m ex) ((mant : ℚ) * (10 : ℚ) ^ e) := by
  have e1 := exp_ge_of mant e hlt h3
  by_cases e2 : 308 < e
  · rw [finish_huge neg mant e hm e2]
    refine ⟨Or.inl ⟨_, rfl⟩, ?_⟩
    intro bits hb; cases hb
    exact Or.inl (decode_inf b64 neg)
  have e2 : e ≤ 308 := by omega
  refine finish_f64_of neg mant e hm e1 e2 ?_
  intro r hr
  obtain ⟨r', hmk, hacc⟩ := makeFloat64_close_or_inf mant e hm hlt (by omega) h3
  rw [hmk] at hr; cases hr
  rcases hacc with hi | ⟨m, ex, hdec, hm0, hcl⟩
  · exact Or.inl (negBits_decode_inf b64 neg r hi)
  · exact Or.inr ⟨m, ex, negBits_decode b64 neg r m ex hdec, hm0, hcl⟩

/-- the binary32 path with overflow allowed (lower bound `2^-125` only): a binary32 result is never an infinity -/
theorem finish_f32_lo (neg : Bool) (mant : Nat) (e : Int) (hm : mant ≠ 0) (hlt : mant < 2 ^ 53)
    (h3 : (2 : ℚ) ^ (-125 : Int) ≤ (mant : ℚ) * (10 : ℚ) ^ e) :
    ∀ bits, finish neg [] mant e = .f32 bits →
      ∃ (m : Nat) (ex : Int), decode b32 bits = .fin neg m ex ∧ m ≠ 0 ∧
        Close (15 / 2 ^ 24) (qv m ex) ((mant : ℚ) * (10 : ℚ) ^ e) := by
  have e1 := exp_ge_of mant e hlt (le_trans (zpow_le_zpow_right₀ (by norm_num) (by norm_num)) h3)
  by_cases e2 : 308 < e
  · intro bits hb; rw [finish_huge neg mant e hm e2] at hb; cases hb
  have e2 : e ≤ 308 := by omega
  refine finish_f32_of neg mant e hm e1 e2 ?_
  intro r hr hfin _ _ _
  obtain ⟨r', hmk, hacc⟩ := makeFloat32_close_or_inf mant e hm (by omega) (by omega) h3
  rw [hmk] at hr; cases hr
  rcases hacc with hi | ⟨m, ex, hdec, hm0, hcl⟩
  · rw [isInf_inf b32 r false hi] at hfin; cases hfin
  · exact ⟨m, ex, negBits_decode b32 neg r m ex hdec, hm0, hcl⟩

theorem big_num_6 : (2 : ℚ) ^ (-125 : Int) ≤ (10 : ℚ) ^ (-37 : Int) := by
  simpa using zpow_neg_le_of_nat (a := 10) (b := 2) (p := 37) (q := 125) (c := 1) (d := 1) (by decide) (by decide) (by decide +kernel)

theorem big_num_7 : (2 : ℚ) ^ (-125 : Int) ≤ 3 * (10 : ℚ) ^ (-38 : Int) := by
  simpa using zpow_neg_le_of_nat (a := 10) (b := 2) (p := 38) (q := 125) (c := 1) (d := 3) (by decide) (by decide) (by decide +kernel)

/-- the two binary32-path pairs below `2^-125`: `1e-38` and `2e-38` (subnormal results), checked directly -/
theorem finish_f32_small (neg : Bool) (mant : Nat) (hm : mant = 1 ∨ mant = 2) :
    ∀ bits, finish neg [] mant (-38) = .f32 bits →
      ∃ (m : Nat) (ex : Int), decode b32 bits = .fin neg m ex ∧ m ≠ 0 ∧
        Close (9 / 10 ^ 7) (qv m ex) ((mant : ℚ) * (10 : ℚ) ^ (-38 : Int)) := by
  intro bits hb
  have k1 : ∀ n, finish n [] 1 (-38) = .f32 (negBits b32 n 7136239) := by intro n; cases n <;> decide +kernel
  have k2 : ∀ n, finish n [] 2 (-38) = .f32 (negBits b32 n 14272477) := by intro n; cases n <;> decide +kernel
  have d1 : decode b32 7136239 = .fin false 7136239 (-149) := by decide +kernel
  have d2 : decode b32 14272477 = .fin false 14272477 (-149) := by decide +kernel
  rcases hm with rfl | rfl
  · rw [k1] at hb; cases hb
    refine ⟨7136239, -149, negBits_decode b32 neg _ _ _ d1, by decide, ?_⟩
    unfold Close qv
    rw [abs_le]; constructor <;> norm_num [zpow_neg]
  · rw [k2] at hb; cases hb
    refine ⟨14272477, -149, negBits_decode b32 neg _ _ _ d2, by decide, ?_⟩
    unfold Close qv
    rw [abs_le]; constructor <;> norm_num [zpow_neg]

/-- THE BINARY32 PATH, complete: for a scanned pair with `mant·10^e ≥ 2^-1000` (so that the pair is not flushed to zero by
    the range test), every binary32 result is a finite datum of the literal's sign within `9e-7` of `mant·10^e`. -/
theorem finish_f32_full (neg : Bool) (mant : Nat) (e : Int) (hm : mant ≠ 0) (hlt : mant < 2 ^ 53)
    (h3 : (2 : ℚ) ^ (-1000 : Int) ≤ (mant : ℚ) * (10 : ℚ) ^ e) :
    ∀ bits, finish neg [] mant e = .f32 bits →
      ∃ (m : Nat) (ex : Int), decode b32 bits = .fin neg m ex ∧ m ≠ 0 ∧
        Close (9 / 10 ^ 7) (qv m ex) ((mant : ℚ) * (10 : ℚ) ^ e) := by
  intro bits hb
  have hpos : 0 < (mant : ℚ) * (10 : ℚ) ^ e := lt_of_lt_of_le (two_zpow_pos _) h3
  by_cases hbig : (2 : ℚ) ^ (-125 : Int) ≤ (mant : ℚ) * (10 : ℚ) ^ e
  · obtain ⟨m, ex, h1, h2, hc⟩ := finish_f32_lo neg mant e hm hlt hbig bits hb
    exact ⟨m, ex, h1, h2, hc.mono hpos.le (by norm_num)⟩
  · have e1 := exp_ge_of mant e hlt h3
    by_cases e2 : 308 < e
    · rw [finish_huge neg mant e hm e2] at hb; cases hb
    have e2 : e ≤ 308 := by omega
    rcases finish_cases neg mant e hm e1 e2 with ⟨r, _, hfin⟩ | ⟨r, _, _, hd, _, _, _⟩
    · rw [hfin] at hb; cases hb
    · have hmq : (1 : ℚ) ≤ (mant : ℚ) := by exact_mod_cast Nat.pos_of_ne_zero hm
      have he38 : e = -38 := by
        by_contra hne
        apply hbig
        have h1 : (10 : ℚ) ^ (-37 : Int) ≤ (10 : ℚ) ^ e := zpow_le_zpow_right₀ (by norm_num) (by omega)
        have hp : (0 : ℚ) < (10 : ℚ) ^ e := zpow_pos (by norm_num) e
        exact le_trans big_num_6 (le_trans h1 (le_mul_of_one_le_left hp.le hmq))
      subst he38
      have hm12 : mant = 1 ∨ mant = 2 := by
        by_contra hne
        apply hbig
        have : 3 ≤ mant := by omega
        have hq : (3 : ℚ) ≤ (mant : ℚ) := by exact_mod_cast this
        have hp : (0 : ℚ) < (10 : ℚ) ^ (-38 : Int) := zpow_pos (by norm_num) _
        exact le_trans big_num_7 (mul_le_mul_of_nonneg_right hq hp.le)
      exact finish_f32_small neg mant hm12 bits hb

/-- an approximation within a half of `Y ≥ 2·A` is at least `A` -/
theorem Close.above {δ Q Y A : ℚ} (hcl : Close δ Q Y) (hδ : δ ≤ 1 / 2) (hA : 0 ≤ A) (hY : 2 * A ≤ Y) : A ≤ Q := by
  have hge := hcl.ge
  have := mul_le_mul_of_nonneg_right (show 1 / 2 ≤ 1 - δ by linarith) (show 0 ≤ Y by linarith)
  linarith

/-- a scanned pair of magnitude at least `2^1025` is `±inf` (through the range test, or through the overflow of a
    multiplication of `make_float`, in either format) -/
theorem finish_huge_value (neg : Bool) (mant : Nat) (e : Int) (hm : mant ≠ 0) (hlt : mant < 2 ^ 53)
    (h3 : (2 : ℚ) ^ (1025 : Int) ≤ (mant : ℚ) * (10 : ℚ) ^ e) :
    ∃ bits, finish neg [] mant e = .f64 bits ∧ decode b64 bits = .inf neg := by
  have hA : (2 : ℚ) ^ (1025 : Int) = 2 * (2 : ℚ) ^ (1024 : Int) := by
    rw [show (1025 : Int) = 1 + 1024 from rfl, zpow_add₀ (by norm_num)]; simp
  rw [hA] at h3
  have hApos := (two_zpow_pos 1024).le
  have hlo : ∀ k : Int, k ≤ 1024 → (2 : ℚ) ^ k ≤ (mant : ℚ) * (10 : ℚ) ^ e := fun k hk =>
    (zpow_le_zpow_right₀ (by norm_num) hk).trans ((le_mul_of_one_le_left hApos (by norm_num)).trans h3)
  obtain ⟨hk, h64⟩ := finish_f64_or_inf neg mant e hm hlt (hlo _ (by norm_num))
  -- a finite result would be below `2^1024` and within a half of the value
  rcases hk with ⟨bits, hb⟩ | ⟨bits, hb⟩
  · refine ⟨bits, hb, (h64 bits hb).resolve_right ?_⟩
    rintro ⟨m, ex, hdec, _, hcl⟩
    have ht := fin_lt_top b64 bits neg m ex hdec (by decide)
    rw [show (b64.emax : Int) - b64.bias = 1024 from by decide] at ht
    exact absurd (hcl.above (by norm_num) hApos h3) (not_le.mpr ht)
  · exfalso
    obtain ⟨m, ex, hdec, _, hcl⟩ := finish_f32_lo neg mant e hm hlt (hlo _ (by norm_num)) bits hb
    have ht := fin_lt_top b32 bits neg m ex hdec (by decide)
    rw [show (b32.emax : Int) - b32.bias = 128 from by decide] at ht
    exact absurd ((hcl.above (by norm_num) hApos h3).trans_lt ht)
      (not_lt.mpr (zpow_le_zpow_right₀ (by norm_num) (by norm_num)))

end C12
