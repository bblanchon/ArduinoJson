/- C12 (floating-point clauses), part 4: the `make_float` loop accumulates at most 5/2 unit roundoffs per table entry. -/
import AJ.Lemmas.FloatErrQ
namespace C12
open SF JD

theorem three_u (δ u : ℚ) (hδ : 0 ≤ δ) (hu : 0 ≤ u) (h : δ + 5 / 2 * u ≤ 1 / 8) :
    u + (δ + u + δ * u) + u * (δ + u + δ * u) ≤ δ + 5 / 2 * u := by
  -- `u·(2δ + u + δu) ≤ u/2`, as `δ ≤ 1/8` and `u ≤ 1/20`
  have h1 : δ ≤ 1 / 8 := by linarith
  have h2 : u ≤ 1 / 20 := by linarith
  have h3 : δ * u ≤ 1 / 8 * u := mul_le_mul_of_nonneg_right h1 hu
  have h4 : 2 * δ + u + δ * u ≤ 1 / 2 := by linarith
  have h5 := mul_le_mul_of_nonneg_left h4 hu
  linarith

theorem half_budget (δ u : ℚ) (hδ : 0 ≤ δ) (hu : 0 ≤ u) (h : δ + 5 / 2 * u ≤ 1 / 8) : δ + u + δ * u ≤ 1 / 2 := by
  have h1 : δ ≤ 1 / 8 := by linarith
  have h2 : u ≤ 1 / 20 := by linarith
  have h3 : δ * u ≤ 1 / 8 * u := mul_le_mul_of_nonneg_right h1 hu
  linarith

/-- the partial products of a monotone power sequence run from `y` to the full product, in one direction or the other -/
theorem between_mono {T y : ℚ} (hT : 0 < T) (hmono : 1 ≤ T ∨ T ≤ 1) (hy : 0 < y) (a b : Nat) :
    (y ≤ y * T ^ a ∧ y * T ^ a ≤ y * T ^ a * T ^ b) ∨ (y * T ^ a * T ^ b ≤ y * T ^ a ∧ y * T ^ a ≤ y) := by
  have hya : 0 < y * T ^ a := by positivity
  rcases hmono with h | h
  · exact Or.inl ⟨le_mul_of_one_le_right hy.le (one_le_pow₀ h), le_mul_of_one_le_right hya.le (one_le_pow₀ h)⟩
  · exact Or.inr ⟨mul_le_of_le_one_right hya.le (pow_le_one₀ hT.le h), mul_le_of_le_one_right hy.le (pow_le_one₀ hT.le h)⟩

/-- a value between two bounds: monotone partial products -/
theorem between {T y lo hi : ℚ} (hT : 0 < T) (hmono : 1 ≤ T ∨ T ≤ 1) (hy : 0 < y) (a b : Nat)
    (h1 : lo ≤ y) (h2 : y ≤ hi) (h3 : lo ≤ y * T ^ a * T ^ b) (h4 : y * T ^ a * T ^ b ≤ hi) :
    lo ≤ y * T ^ a ∧ y * T ^ a ≤ hi := by
  rcases between_mono hT hmono hy a b with ⟨p, q⟩ | ⟨p, q⟩
  · exact ⟨h1.trans p, q.trans h4⟩
  · exact ⟨h3.trans p, q.trans h2⟩

/-- state of the accumulator: `+inf`, or a finite positive datum approximating `y` within `δ` -/
def AccOK (f : Fmt) (acc : Nat) (δ y : ℚ) : Prop :=
  decode f acc = .inf false ∨ ∃ (ma : Nat) (ea : Int), decode f acc = .fin false ma ea ∧ ma ≠ 0 ∧ Close δ (qv ma ea) y

/-- ONE STEP of the loop: the accumulator (within `δ` of `y`) times a table entry (within one unit roundoff of `τ`) is
    within `δ + 5/2·u` of `y·τ`, or `+inf`, and then `y·τ` is in the top binade or above. The exact product is within
    `δ + u + δu ≤ 1/2` of `y·τ`, so it is normal when `y·τ/2` is, and the rounding adds one more `u`. -/
theorem mul_entry (f : Fmt) (hf : 0 < f.emax) {acc t ma mt : Nat} {ea et : Int} {δ y τ : ℚ}
    (hd : decode f acc = .fin false ma ea) (hma : ma ≠ 0) (hc : Close δ (qv ma ea) y)
    (hdt : decode f t = .fin false mt et) (hmt : mt ≠ 0) (hct : Close (uro f) (qv mt et) τ)
    (hδ : 0 ≤ δ) (hδu : δ + 5 / 2 * uro f ≤ 1 / 8) (hy : 0 < y) (hτ : 0 < τ)
    (hlo : (2 : ℚ) ^ (emin f + f.mbits) ≤ y * τ / 2) :
    (decode f (SF.mul f acc t) = .inf false ∧ (2 : ℚ) ^ ((f.emax : Int) - f.bias - 1) ≤ 2 * (y * τ)) ∨
    ∃ (mr : Nat) (er : Int), decode f (SF.mul f acc t) = .fin false mr er ∧ mr ≠ 0 ∧
      Close (δ + 5 / 2 * uro f) (qv mr er) (y * τ) := by
  have hu := (uro_pos f).le
  have hp : 0 < y * τ := mul_pos hy hτ
  have hP := hc.mul hct hy hτ hδ hu
  have hd0 : 0 ≤ δ + uro f + δ * uro f := by positivity
  have hd1 := half_budget δ (uro f) hδ hu hδu
  have hPlo : (2 : ℚ) ^ (emin f + f.mbits) ≤ qv ma ea * qv mt et := by
    have := hP.ge
    have := mul_le_mul_of_nonneg_right hd1 hp.le
    linarith
  rcases mul_relQ_or_inf f acc t false false ma mt ea et hf hd hdt hma hmt hPlo with ⟨hi, hb⟩ | ⟨mr, er, hdr, hn, _, hcr⟩
  · refine Or.inl ⟨hi, ?_⟩
    have := hP.le
    have := mul_le_mul_of_nonneg_right hd1 hp.le
    linarith
  · refine Or.inr ⟨mr, er, hdr, ?_, (hcr.trans hP hp hu hd0).mono hp.le (three_u δ (uro f) hδ hu hδu)⟩
    have := Nat.two_pow_pos f.mbits
    omega

/-- once the accumulator is `+inf` it stays `+inf` -/
theorem go_inf (f : Fmt) (tbl : List Nat)
    (htbl : ∀ i (h : i < tbl.length), ∃ (m : Nat) (e : Int), decode f tbl[i] = .fin false m e ∧ m ≠ 0) :
    ∀ (fuel acc eb idx : Nat), decode f acc = .inf false → eb < 2 ^ (tbl.length - idx) →
      ∃ r, makeFloat.go f tbl fuel acc eb idx = some r ∧ decode f r = .inf false := by
  intro fuel
  induction fuel with
  | zero => intro acc eb idx h _; exact ⟨acc, rfl, h⟩
  | succ n ih =>
    intro acc eb idx h heb
    simp only [makeFloat.go]
    by_cases he0 : eb = 0
    · rw [if_pos he0]; exact ⟨acc, rfl, h⟩
    · rw [if_neg he0]
      obtain ⟨k, hk⟩ : ∃ k, tbl.length - idx = k + 1 := by
        refine ⟨tbl.length - idx - 1, ?_⟩
        have : tbl.length - idx ≠ 0 := by intro h0; rw [h0] at heb; omega
        omega
      have he' : eb / 2 < 2 ^ (tbl.length - (idx + 1)) := by
        rw [hk, Nat.pow_succ] at heb
        rw [show tbl.length - (idx + 1) = k by omega]; omega
      have hlt : idx < tbl.length := by omega
      by_cases hodd : eb % 2 = 1
      · rw [if_pos hodd, List.getElem?_eq_getElem hlt]
        obtain ⟨mt, et, hdt, hmt⟩ := htbl idx hlt
        exact ih _ _ _ (mul_inf_fin f acc tbl[idx] false false mt et h hdt hmt) he'
      · rw [if_neg hodd]
        exact ih _ _ _ h he'

/-- the error budget of `k + 1` entries is that of one entry and `k` more -/
theorem budget_succ (δ u : ℚ) (hu : 0 ≤ u) (k : Nat) :
    δ + 5 / 2 * u + 5 / 2 * u * (k : ℚ) = δ + 5 / 2 * u * ((k + 1 : Nat) : ℚ) ∧
    δ + 5 / 2 * u * (k : ℚ) ≤ δ + 5 / 2 * u * ((k + 1 : Nat) : ℚ) ∧
    δ + 5 / 2 * u ≤ δ + 5 / 2 * u * ((k + 1 : Nat) : ℚ) := by
  have hk : (0 : ℚ) ≤ 5 / 2 * u * (k : ℚ) := by positivity
  push_cast
  exact ⟨by ring, by linarith, by linarith⟩

/-- the lowest bit of `eb` is spent on entry `idx`, the others on the entries above -/
theorem pow_low_bit (y T : ℚ) (eb idx : Nat) :
    (eb % 2 = 1 → y * T ^ (eb * 2 ^ idx) = y * T ^ (2 ^ idx) * T ^ ((eb / 2) * 2 ^ (idx + 1))) ∧
    (¬ eb % 2 = 1 → eb * 2 ^ idx = (eb / 2) * 2 ^ (idx + 1)) := by
  constructor
  · intro hodd
    have : eb * 2 ^ idx = 2 ^ idx + (eb / 2) * 2 ^ (idx + 1) := by
      have : eb = 2 * (eb / 2) + 1 := by omega
      conv_lhs => rw [this]
      rw [Nat.pow_succ]; ring
    rw [this, pow_add]; ring
  · intro hodd
    have : eb = 2 * (eb / 2) := by omega
    conv_lhs => rw [this]
    rw [Nat.pow_succ]; ring

/-- THE LOOP, `n` table entries left. From an accumulator within `δ` of `y` it reaches the last entry with a datum within
    `δ + 5/2·u·n` of the target `y·T^(eb·2^idx)`, provided the start and the target (hence every partial product, the
    powers of `T` being monotone) are at least `lo`; or it overflows to `+inf`, and then one of the two is in the top
    binade or above. -/
theorem go_run (f : Fmt) (tbl : List Nat) (T lo : ℚ) (hf : 0 < f.emax) (hT : 0 < T) (hmono : 1 ≤ T ∨ T ≤ 1)
    (htbl : ∀ i (h : i < tbl.length), ∃ (m : Nat) (e : Int), decode f tbl[i] = .fin false m e ∧ m ≠ 0 ∧
      Close (uro f) (qv m e) (T ^ (2 ^ i)))
    (hlo0 : 0 < lo) (hlo : (2 : ℚ) ^ (emin f + f.mbits) ≤ lo / 2) :
    ∀ (fuel n acc eb idx : Nat) (δ y : ℚ) (ma : Nat) (ea : Int),
      decode f acc = .fin false ma ea → ma ≠ 0 → Close δ (qv ma ea) y → 0 ≤ δ →
      idx + n = tbl.length → n ≤ fuel → eb < 2 ^ n → δ + 5 / 2 * uro f * (n : ℚ) ≤ 1 / 8 →
      lo ≤ y → lo ≤ y * T ^ (eb * 2 ^ idx) →
      ∃ (r : Nat), makeFloat.go f tbl fuel acc eb idx = some r ∧
        ((decode f r = .inf false ∧ ((2 : ℚ) ^ ((f.emax : Int) - f.bias - 1) ≤ 2 * y ∨
            (2 : ℚ) ^ ((f.emax : Int) - f.bias - 1) ≤ 2 * (y * T ^ (eb * 2 ^ idx)))) ∨
          ∃ (mr : Nat) (er : Int), decode f r = .fin false mr er ∧ mr ≠ 0 ∧
            Close (δ + 5 / 2 * uro f * (n : ℚ)) (qv mr er) (y * T ^ (eb * 2 ^ idx))) := by
  have hu := (uro_pos f).le
  have htbl' : ∀ i (h : i < tbl.length), ∃ (m : Nat) (e : Int), decode f tbl[i] = .fin false m e ∧ m ≠ 0 := by
    intro i h; obtain ⟨m, e, h1, h2, _⟩ := htbl i h; exact ⟨m, e, h1, h2⟩
  -- with no bits of the exponent left the accumulator is returned
  have stop : ∀ (acc idx n : Nat) (δ y : ℚ) (ma : Nat) (ea : Int), decode f acc = .fin false ma ea → ma ≠ 0 →
      Close δ (qv ma ea) y → 0 < y →
      ∃ (mr : Nat) (er : Int), decode f acc = .fin false mr er ∧ mr ≠ 0 ∧
        Close (δ + 5 / 2 * uro f * (n : ℚ)) (qv mr er) (y * T ^ (0 * 2 ^ idx)) := by
    intro acc idx n δ y ma ea hd hma hc hy
    rw [Nat.zero_mul, pow_zero, mul_one]
    exact ⟨ma, ea, hd, hma, hc.mono hy.le (le_add_of_nonneg_right (by positivity))⟩
  intro fuel
  induction fuel with
  | zero =>
    intro n acc eb idx δ y ma ea hd hma hc hδ hidx hfuel heb hsum h1 h3
    obtain rfl : n = 0 := by omega
    obtain rfl : eb = 0 := by omega
    exact ⟨acc, rfl, Or.inr (stop acc idx 0 δ y ma ea hd hma hc (lt_of_lt_of_le hlo0 h1))⟩
  | succ fuel ih =>
    intro n acc eb idx δ y ma ea hd hma hc hδ hidx hfuel heb hsum h1 h3
    have hy : 0 < y := lt_of_lt_of_le hlo0 h1
    simp only [makeFloat.go]
    by_cases he0 : eb = 0
    · subst he0
      rw [if_pos rfl]
      exact ⟨acc, rfl, Or.inr (stop acc idx n δ y ma ea hd hma hc hy)⟩
    · rw [if_neg he0]
      obtain ⟨k, rfl⟩ : ∃ k, n = k + 1 := by
        refine ⟨n - 1, ?_⟩
        have : n ≠ 0 := by intro h0; rw [h0] at heb; omega
        omega
      have hlt : idx < tbl.length := by omega
      have he' : eb / 2 < 2 ^ k := by rw [Nat.pow_succ] at heb; omega
      obtain ⟨hcnt, hk1, hk2⟩ := budget_succ δ (uro f) hu k
      have hsum' : δ + 5 / 2 * uro f + 5 / 2 * uro f * (k : ℚ) ≤ 1 / 8 := hcnt.le.trans hsum
      obtain ⟨hsplit, hexp⟩ := pow_low_bit y T eb idx
      by_cases hodd : eb % 2 = 1
      · rw [if_pos hodd, List.getElem?_eq_getElem hlt]
        obtain ⟨mt, et, hdt, hmt, hct⟩ := htbl idx hlt
        rw [hsplit hodd] at h3 ⊢
        have hbt := between_mono hT hmono hy (2 ^ idx) ((eb / 2) * 2 ^ (idx + 1))
        have b1 : lo ≤ y * T ^ (2 ^ idx) := by
          rcases hbt with ⟨p, _⟩ | ⟨p, _⟩
          · exact h1.trans p
          · exact h3.trans p
        -- an overflow at `y·T^(2^idx)` is an overflow at one of the two ends
        have top : ∀ {c : ℚ}, c ≤ 2 * (y * T ^ (2 ^ idx)) →
            c ≤ 2 * y ∨ c ≤ 2 * (y * T ^ (2 ^ idx) * T ^ ((eb / 2) * 2 ^ (idx + 1))) := by
          intro c hc
          rcases hbt with ⟨_, q⟩ | ⟨_, q⟩
          · exact Or.inr (hc.trans (mul_le_mul_of_nonneg_left q zero_le_two))
          · exact Or.inl (hc.trans (mul_le_mul_of_nonneg_left q zero_le_two))
        rcases mul_entry f hf hd hma hc hdt hmt hct hδ (hk2.trans hsum) hy (pow_pos hT _)
            (hlo.trans (div_le_div_of_nonneg_right b1 zero_le_two)) with
          ⟨hinf, hb⟩ | ⟨mr, er, hdr, hmr, hcr⟩
        · obtain ⟨r, hgo, hr⟩ := go_inf f tbl htbl' fuel _ (eb / 2) (idx + 1) hinf
            (by rw [show tbl.length - (idx + 1) = k by omega]; exact he')
          exact ⟨r, hgo, Or.inl ⟨hr, top hb⟩⟩
        · obtain ⟨r, hgo, hr⟩ := ih k (SF.mul f acc tbl[idx]) (eb / 2) (idx + 1) (δ + 5 / 2 * uro f) (y * T ^ (2 ^ idx))
            mr er hdr hmr hcr (add_nonneg hδ (mul_nonneg (by norm_num) hu)) (by omega) (by omega) he' hsum' b1 h3
          refine ⟨r, hgo, ?_⟩
          rcases hr with ⟨hr, hb | hb⟩ | hr
          · exact Or.inl ⟨hr, top hb⟩
          · exact Or.inl ⟨hr, Or.inr hb⟩
          · rw [← hcnt]; exact Or.inr hr
      · rw [if_neg hodd]
        rw [hexp hodd] at h3 ⊢
        obtain ⟨r, hgo, hr⟩ := ih k acc (eb / 2) (idx + 1) δ y ma ea hd hma hc hδ (by omega) (by omega) he'
          (hk1.trans hsum) h1 h3
        refine ⟨r, hgo, ?_⟩
        rcases hr with hr | ⟨mr, er, hdr, hmr, hcr⟩
        · exact Or.inl hr
        · exact Or.inr ⟨mr, er, hdr, hmr, hcr.mono (le_trans hlo0.le h3) hk1⟩

end C12
