/- Every operation on a document is composed of seven primitive stores (`set`, `setNext`, `freeCell`, `allocVariant`,
   `allocExt`, `saveString`, `derefString`).  A reflexive and transitive relation between documents that each primitive
   respects is therefore respected by every operation: `Stable` packages the hypotheses, its dot lemmas are the
   operations.  `Linking` is the part without the three allocating primitives: it covers the operations that only
   relink and release (`appendOne`, `appendPair`, `clearV`, `removeOne`, `removePair`).  `set` may be restricted to
   values satisfying `ok`; null and the collection headers, which the operations write on their own account, must
   satisfy it. -/
import AJ.Model.DL
namespace DL
open JD (Byte)

structure Linking (ok : VData → Prop) (R : Doc → Doc → Prop) : Prop where
  refl : ∀ d, R d d
  trans : ∀ {a b c}, R a b → R b c → R a c
  null : ok .null
  arr : ∀ h t, ok (.arr h t)
  obj : ∀ h t, ok (.obj h t)
  set : ∀ d l {v}, ok v → R d (d.set l v)
  setNext : ∀ d i n, R d (d.setNext i n)
  freeCell : ∀ d i, R d (d.freeCell i)
  derefString : ∀ d n, R d (d.derefString n)

structure Stable (ok : VData → Prop) (R : Doc → Doc → Prop) : Prop extends Linking ok R where
  allocVariant : ∀ d, R d d.allocVariant.2
  allocExt : ∀ d p, R d (d.allocExt p).2
  saveString : ∀ d s, R d (d.saveString s).2

/-- what the releasing operations (`clearV`, `freeVariant`) need of a relation: they only store null, release slots and
    drop string references -/
structure Releasing (R : Doc → Doc → Prop) : Prop where
  refl : ∀ d, R d d
  trans : ∀ {a b c}, R a b → R b c → R a c
  setNull : ∀ d l, R d (d.set l .null)
  freeCell : ∀ d i, R d (d.freeCell i)
  derefString : ∀ d n, R d (d.derefString n)

namespace Releasing
variable {R : Doc → Doc → Prop} (K : Releasing R)
include K

theorem walkFree (free1 : Doc → Nat → Doc) (h1 : ∀ d id, R d (free1 d id)) :
    ∀ (w : Nat) (d : Doc) (id : Nat), R d (walkFree free1 w d id)
  | 0, d, _ => K.refl d
  | w+1, d, id => by
    simp only [DL.walkFree]
    split
    · exact K.refl d
    · exact K.trans (h1 d id) (walkFree free1 h1 w _ _)

theorem clearVF : ∀ (f : Nat) (d : Doc) (l : Loc), R d (Doc.clearVF f d l)
  | 0, d, l => K.setNull d l
  | f+1, d, l => by
    have hfree : ∀ (dd : Doc) (id : Nat), R dd ((Doc.clearVF f dd (.slot id)).freeCell id) :=
      fun dd id => K.trans (clearVF f dd (.slot id)) (K.freeCell _ id)
    simp only [Doc.clearVF]
    refine K.trans ?_ (K.setNull _ l)
    generalize d.get l = v
    cases v <;> dsimp only
    case owned n => exact K.derefString d n
    case raw n => exact K.derefString d n
    case i64 s => exact K.freeCell d s
    case u64 s => exact K.freeCell d s
    case f64 s => exact K.freeCell d s
    case arr hd t => exact K.walkFree _ hfree _ _ _
    case obj hd t => exact K.walkFree _ hfree _ _ _
    all_goals exact K.refl d

theorem clearV (d : Doc) (l : Loc) : R d (d.clearV l) := K.clearVF _ d l

theorem freeVariant (d : Doc) (id : Nat) : R d (d.freeVariant id) :=
  K.trans (K.clearV d (.slot id)) (K.freeCell _ id)

end Releasing

/-- the values `setArg … a` can store -/
def argWrites (a : Arg) (v : VData) : Prop :=
  match a with
  | .null => False
  | .bool b => v = .bool b
  | .sint x => (v = .i32 x ∧ (-2^31 ≤ x ∧ x < 2^31)) ∨ ∃ s, v = .i64 s
  | .uint x => (v = .u32 x ∧ x < 2^32) ∨ ∃ s, v = .u64 s
  | .f32 b => v = .f32 b
  | .f64 _ => (∃ f, v = .f32 f) ∨ ∃ s, v = .f64 s
  | .strLinked s => v = .linked s
  | .strCopied _ => ∃ n, v = .owned n
  | .raw _ => ∃ n, v = .raw n

/-- `setArg` is made of `set`, `allocExt` and `saveString` only -/
theorem setArg_rel {ok : VData → Prop} {R : Doc → Doc → Prop} (refl : ∀ d, R d d) (trans : ∀ {a b c}, R a b → R b c → R a c)
    (set : ∀ d l {v}, ok v → R d (d.set l v)) (allocExt : ∀ d p, R d (d.allocExt p).2)
    (saveString : ∀ d s, R d (d.saveString s).2) (d : Doc) (l : Loc) (a : Arg) (hw : ∀ v, argWrites a v → ok v) :
    R d (d.setArg l a).2 := by
  have ext : ∀ (x : Int) (k : Nat → VData), (∀ s, ok (k s)) → R d (match d.allocExt x with
      | (some s, d) => (true, d.set l (k s)) | (none, d) => (false, d)).2 := by
    intro x k hk
    have h := allocExt d x
    generalize d.allocExt x = r at h ⊢
    obtain ⟨m, d1⟩ := r
    cases m
    · exact h
    · exact trans h (set _ l (hk _))
  have str : ∀ (s : List Byte) (k : Nat → VData), (∀ n, ok (k n)) → R d (match d.saveString s with
      | (some n, d) => (let d := d.set l (k n); (!d.overflowed, d)) | (none, d) => (!d.overflowed, d)).2 := by
    intro s k hk
    have h := saveString d s
    generalize d.saveString s = r at h ⊢
    obtain ⟨m, d1⟩ := r
    cases m
    · exact h
    · exact trans h (set _ l (hk _))
  cases a with
  | null => exact refl d
  | bool b => exact set d l (hw _ rfl)
  | f32 b => exact set d l (hw _ rfl)
  | strLinked s => exact set d l (hw _ rfl)
  | sint v =>
    simp only [Doc.setArg]
    split
    · rename_i hr; exact set d l (hw _ (Or.inl ⟨rfl, hr⟩))
    · exact ext v .i64 (fun s => hw _ (Or.inr ⟨s, rfl⟩))
  | uint v =>
    simp only [Doc.setArg]
    split
    · rename_i hr; exact set d l (hw _ (Or.inl ⟨rfl, hr⟩))
    · exact ext v .u64 (fun s => hw _ (Or.inr ⟨s, rfl⟩))
  | f64 b =>
    simp only [Doc.setArg]
    split
    · exact set d l (hw _ (Or.inl ⟨_, rfl⟩))
    · exact ext b .f64 (fun s => hw _ (Or.inr ⟨s, rfl⟩))
  | strCopied s => simp only [Doc.setArg]; exact str s .owned (fun n => hw _ ⟨n, rfl⟩)
  | raw s => simp only [Doc.setArg]; exact str s .raw (fun n => hw _ ⟨n, rfl⟩)

namespace Linking
variable {ok : VData → Prop} {R : Doc → Doc → Prop} (K : Linking ok R)
include K

theorem appendOne (d : Doc) (l : Loc) (id : Nat) : R d (d.appendOne l id) := by
  simp only [Doc.appendOne]
  split
  · split
    · exact K.trans (K.setNext _ _ _) (K.set _ l (K.arr _ _))
    · exact K.set d l (K.arr _ _)
  · exact K.refl d

theorem appendPair (d : Doc) (l : Loc) (k v : Nat) : R d (d.appendPair l k v) := by
  simp only [Doc.appendPair]
  refine K.trans (K.setNext d k v) ?_
  split
  · split
    · exact K.trans (K.setNext _ _ _) (K.set _ l (K.obj _ _))
    · exact K.set _ l (K.obj _ _)
  · exact K.refl _

theorem releasing : Releasing R := ⟨K.refl, K.trans, fun d l => K.set d l K.null, K.freeCell, K.derefString⟩

theorem clearV (d : Doc) (l : Loc) : R d (d.clearV l) := K.releasing.clearV d l

theorem freeVariant (d : Doc) (id : Nat) : R d (d.freeVariant id) := K.releasing.freeVariant d id

theorem removeOne (d : Doc) (l : Loc) (id : Nat) : R d (d.removeOne l id) := by
  have pre : ∀ (o : Option Nat) (n : Nat), R d (match o with | some p => d.setNext p n | none => d) := by
    intro o n
    cases o with
    | none => exact K.refl d
    | some p => exact K.setNext _ _ _
  simp only [Doc.removeOne]
  split
  · exact K.trans (pre _ _) (K.trans (K.set _ l (K.arr _ _)) (K.freeVariant _ _))
  · exact K.trans (pre _ _) (K.trans (K.set _ l (K.obj _ _)) (K.freeVariant _ _))
  · exact K.refl d

theorem removePair (d : Doc) (l : Loc) (k v : Nat) : R d (d.removePair l k v) := by
  simp only [Doc.removePair]
  exact K.trans (K.setNext _ _ _) (K.trans (K.freeVariant _ _) (K.removeOne _ _ _))

end Linking

namespace Stable
variable {ok : VData → Prop} {R : Doc → Doc → Prop} (K : Stable ok R)
include K

theorem setArg (d : Doc) (l : Loc) (a : Arg) (hw : ∀ v, argWrites a v → ok v) : R d (d.setArg l a).2 :=
  setArg_rel K.refl K.trans K.set K.allocExt K.saveString d l a hw

theorem addElement (d : Doc) (l : Loc) : R d (d.addElement l).2 := by
  simp only [Doc.addElement]
  have h := K.allocVariant d
  generalize d.allocVariant = r at h ⊢
  obtain ⟨m, d1⟩ := r
  cases m
  · exact h
  · exact K.trans h (K.appendOne _ l _)

theorem pad (l : Loc) : ∀ (fuel : Nat) (d : Doc) (n : Nat) (last : Option Nat),
    R d (Doc.getOrAddElement.pad l fuel d n last).2
  | 0, d, _, _ => K.refl d
  | fuel+1, d, n, last => by
    simp only [Doc.getOrAddElement.pad]
    split
    · exact K.refl d
    · have h := K.addElement d l
      generalize d.addElement l = r at h ⊢
      obtain ⟨m, d1⟩ := r
      cases m
      · exact h
      · exact K.trans h (pad l fuel _ _ _)

theorem getOrAddElement (d : Doc) (l : Loc) (index : Nat) : R d (d.getOrAddElement l index).2 := by
  unfold Doc.getOrAddElement
  extract_lets d0
  have h0 : R d d0 := by
    simp only [d0]
    split
    · exact K.set d l (K.arr _ _)
    · exact K.refl d
  clear_value d0
  split
  · extract_lets ch
    split
    · exact h0
    · exact K.trans h0 (K.pad l _ _ _ _)
  · exact h0

/-! From here on keys and copied scalars are stored: every value must be admitted. -/

theorem addMember (hall : ∀ v, ok v) (d : Doc) (l : Loc) (key : List Byte) (linked : Bool) :
    R d (d.addMember l key linked).2 := by
  simp only [Doc.addMember]
  have h1 := K.allocVariant d
  generalize d.allocVariant = r1 at h1 ⊢
  obtain ⟨m1, d1⟩ := r1
  cases m1 with
  | none => exact h1
  | some k =>
    simp only
    have h2 := K.allocVariant d1
    generalize d1.allocVariant = r2 at h2 ⊢
    obtain ⟨m2, d2⟩ := r2
    cases m2 with
    | none => exact K.trans h1 h2
    | some v =>
      simp only
      split
      · exact K.trans h1 (K.trans h2 (K.trans (K.set _ _ (hall _)) (K.appendPair _ _ _ _)))
      · have h3 := K.saveString d2 key
        generalize d2.saveString key = r3 at h3 ⊢
        obtain ⟨m3, d3⟩ := r3
        cases m3 with
        | none => exact K.trans h1 (K.trans h2 h3)
        | some n => exact K.trans h1 (K.trans h2 (K.trans h3 (K.trans (K.set _ _ (hall _)) (K.appendPair _ _ _ _))))

theorem getOrAddMember (hall : ∀ v, ok v) (d : Doc) (l : Loc) (key : List Byte) (linked : Bool) :
    R d (d.getOrAddMember l key linked).2 := by
  unfold Doc.getOrAddMember
  extract_lets d0
  have h0 : R d d0 := by
    simp only [d0]
    split
    · exact K.set d l (K.obj _ _)
    · exact K.refl d
  clear_value d0
  split
  · split
    · exact h0
    · exact K.trans h0 (K.addMember hall _ _ _ _)
  · exact h0

theorem copyElems (l : Loc) (copy : Doc → Nat → Nat → Doc) (hc : ∀ d a b, R d (copy d a b)) :
    ∀ (es : List Nat) (d : Doc), R d (copyElems l copy d es)
  | [], d => K.refl d
  | e :: rest, d => by
    simp only [DL.copyElems]
    have h1 := K.allocVariant d
    generalize d.allocVariant = r1 at h1 ⊢
    obtain ⟨m1, d1⟩ := r1
    cases m1 with
    | none => exact h1
    | some id =>
      simp only
      split
      · exact K.trans h1 (K.trans (hc _ _ _) (K.freeVariant _ _))
      · exact K.trans h1 (K.trans (hc _ _ _) (K.trans (K.appendOne _ _ _) (copyElems l copy hc rest _)))

theorem copyMembers (hall : ∀ v, ok v) (l : Loc) (src : Doc) (copy : Doc → Nat → Nat → Doc)
    (hc : ∀ d a b, R d (copy d a b)) : ∀ (ks : List Nat) (d : Doc), R d (copyMembers l src copy d ks)
  | [], d => by simp only [DL.copyMembers]; exact K.refl d
  | [_], d => by simp only [DL.copyMembers]; exact K.refl d
  | k :: v :: rest, d => by
    simp only [DL.copyMembers]
    generalize src.keyOf k = kk
    obtain ⟨key, linked⟩ := kk
    simp only
    have h1 := K.getOrAddMember hall d l key linked
    generalize d.getOrAddMember l key linked = r1 at h1 ⊢
    obtain ⟨m1, d1⟩ := r1
    cases m1 with
    | none => exact h1
    | some m =>
      simp only
      split
      · exact K.trans h1 (hc _ _ _)
      · exact K.trans h1 (K.trans (hc _ _ _) (copyMembers hall l src copy hc rest _))

theorem copyIntoF (hall : ∀ v, ok v) : ∀ (f : Nat) (d : Doc) (l : Loc) (src : Doc) (sv : VData), R d (copyIntoF f d l src sv)
  | 0, d, l, _, _ => by simp only [DL.copyIntoF]; exact K.clearV d l
  | f+1, d, l, src, sv => by
    simp only [DL.copyIntoF]
    have h0 := K.clearV d l
    generalize d.clearV l = d0 at h0 ⊢
    cases sv with
    | arr h t =>
      exact K.trans h0 (K.trans (K.set d0 l (K.arr _ _))
        (K.copyElems l _ (fun d a b => copyIntoF hall f d _ src _) _ _))
    | obj h t =>
      exact K.trans h0 (K.trans (K.set d0 l (K.obj _ _))
        (K.copyMembers hall l src _ (fun d a b => copyIntoF hall f d _ src _) _ _))
    | null => exact h0
    | _ => exact K.trans h0 (K.setArg _ _ _ (fun v _ => hall v))

theorem copyInto (hall : ∀ v, ok v) (d : Doc) (l : Loc) (src : Doc) (sv : VData) : R d (copyInto d l src sv) :=
  K.copyIntoF hall _ d l src sv

end Stable
end DL
