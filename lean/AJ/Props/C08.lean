/- C08: `serializeMsgPack` emits exactly one conforming MessagePack object, and that object equals the document.

   Model side : `MD.ser : JD.Val → List UInt8`            (AJ/Model/MD.lean)
   Spec side  : `MSpec.decode`, `MSpec.decodeTop`          (AJ/Spec/MSpec.lean, written from the format specification)

   Main results
   * `C08.ser_decodes`     : for every raw-free document within the format's size limits, every continuation `rest`
                             and every fuel ≥ 2 * (number of bytes written), the specification decoder reads
                             `ser v ++ rest` as `(mvOf v, rest)`.
   * `C08.ser_decodeTop`   : `MSpec.decodeTop (MD.ser v) = some (mvOf v, [])` — one object, nothing trailing.
   * `C08.float_shortcut_sound`, `C08.double_narrowing_sound` : what the two float shortcuts of the serializer mean.
   * `C08.header_minimal`  : the headers are the shortest the format allows.
-/
import AJ.Lemmas.MsgPack
namespace C08
open JD MSpec MD MsgPack

/-! ## the MessagePack value a document denotes -/
mutual
/-- null ↦ nil, booleans, integers ↦ int, strings ↦ str, arrays ↦ array, objects ↦ map with str keys.
    Floats: the value the format receives is `MsgPack.f32MV` / `MsgPack.f64MV`, i.e. the bit-identical
    float32/float64 unless the serializer takes its integer (resp. float32) shortcut; the shortcuts are
    characterised by `float_shortcut_sound` and `double_narrowing_sound` below.
    (`.raw` is excluded by `RawFree`; its image here is irrelevant.) -/
def mvOf : Val → MV
  | .null => .nil
  | .bool b => .bool b
  | .num (.uint n) => .int n
  | .num (.sint v) => .int v
  | .num (.f32 b) => f32MV b
  | .num (.f64 b) => f64MV b
  | .str s => .str s
  | .raw s => .bin s
  | .arr xs => .arr (mvElems xs)
  | .obj ms => .map (mvMembers ms)
def mvElems : List Val → List MV
  | [] => []
  | x :: r => mvOf x :: mvElems r
def mvMembers : List (List UInt8 × Val) → List (MV × MV)
  | [] => []
  | (k, v) :: r => (.str k, mvOf v) :: mvMembers r
end

mutual
/-- no `.raw` node anywhere (raw nodes are copied verbatim by the serializer) -/
def RawFree : Val → Bool
  | .raw _ => false
  | .arr xs => RawFreeL xs
  | .obj ms => RawFreeM ms
  | _ => true
def RawFreeL : List Val → Bool
  | [] => true
  | x :: r => RawFree x && RawFreeL r
def RawFreeM : List (List UInt8 × Val) → Bool
  | [] => true
  | (_, v) :: r => RawFree v && RawFreeM r
end

mutual
/-- the size limits of the C++ types / of the format: 64-bit integers, 32/64-bit float patterns,
    string, key, array and object lengths below 2^32 -/
def WithinLimits : Val → Bool
  | .null => true
  | .bool _ => true
  | .num (.uint n) => decide (n < 2^64)
  | .num (.sint v) => decide (-2^63 ≤ v) && decide (v < 2^63)
  | .num (.f32 b) => decide (b < 2^32)
  | .num (.f64 b) => decide (b < 2^64)
  | .str s => decide (s.length < 2^32)
  | .raw s => decide (s.length < 2^32)
  | .arr xs => decide (xs.length < 2^32) && WithinLimitsL xs
  | .obj ms => decide (ms.length < 2^32) && WithinLimitsM ms
def WithinLimitsL : List Val → Bool
  | [] => true
  | x :: r => WithinLimits x && WithinLimitsL r
def WithinLimitsM : List (List UInt8 × Val) → Bool
  | [] => true
  | (k, v) :: r => decide (k.length < 2^32) && WithinLimits v && WithinLimitsM r
end

mutual
/-- fuel that `MSpec.decode` needs on `ser v` (exact: one unit per nesting level and per element) -/
def need : Val → Nat
  | .arr xs => 1 + needL xs
  | .obj ms => 1 + needM ms
  | _ => 1
def needL : List Val → Nat
  | [] => 1
  | x :: r => 1 + max (need x) (needL r)
def needM : List (List UInt8 × Val) → Nat
  | [] => 1
  | (_, v) :: r => 1 + max (need v) (needM r)
end

theorem need_pos (v : Val) : 1 ≤ need v := by
  cases v <;> simp only [need] <;> omega

/-! ## main recursion (on the document; one statement for each of the three mutually recursive routines) -/
def DecV (v : Val) : Prop := RawFree v = true → WithinLimits v = true → ∀ F rest, need v ≤ F + 1 →
  decode (F+1) (ser v ++ rest) = some (mvOf v, rest)
def DecL (xs : List Val) : Prop := RawFreeL xs = true → WithinLimitsL xs = true → ∀ F rest acc, needL xs ≤ F →
  decodeArr F xs.length (serElems xs ++ rest) acc = some (.arr (acc.reverse ++ mvElems xs), rest)
def DecM (ms : List (List UInt8 × Val)) : Prop := RawFreeM ms = true → WithinLimitsM ms = true →
  ∀ F rest acc, needM ms ≤ F →
    decodeMap F ms.length (serMembers ms ++ rest) acc = some (.map (acc.reverse ++ mvMembers ms), rest)

/-- an element costs one unit of fuel more than the dearer of itself and the rest -/
theorem fuel_split {a b F : Nat} (ha : 1 ≤ a) (h : 1 + max a b ≤ F) :
    ∃ F', F = F' + 1 + 1 ∧ a ≤ F' + 1 ∧ b ≤ F' + 1 := by
  have h1 : 1 + a ≤ F := Nat.le_trans (Nat.add_le_add_left (Nat.le_max_left a b) 1) h
  have h2 : 1 + b ≤ F := Nat.le_trans (Nat.add_le_add_left (Nat.le_max_right a b) 1) h
  exact ⟨F - 2, by omega⟩

theorem decV_bool (b : Bool) : DecV (.bool b) := by
  intro _ _ F rest _
  cases b
  · exact decode_c2 F rest
  · exact decode_c3 F rest

theorem decV_num (n : Num) : DecV (.num n) := by
  intro _ hw F rest _
  cases n with
  | uint n => exact decode_encUInt F n (of_decide_eq_true hw) rest
  | sint v =>
    simp only [WithinLimits, Bool.and_eq_true, decide_eq_true_eq] at hw
    exact decode_encInt F v hw.1 hw.2 rest
  | f32 b => exact decode_encF32 F b (of_decide_eq_true hw) rest
  | f64 b => exact decode_encF64 F b (of_decide_eq_true hw) rest

theorem decV_arr (xs : List Val) (ih : DecL xs) : DecV (.arr xs) := by
  intro hr hw F rest hn
  simp only [WithinLimits, Bool.and_eq_true, decide_eq_true_eq] at hw
  simp only [need] at hn
  simp only [ser, mvOf, List.append_assoc]
  rw [decode_arrHdr F _ hw.1, ih hr hw.2 F rest [] (by omega)]
  rfl

theorem decV_obj (ms : List (List UInt8 × Val)) (ih : DecM ms) : DecV (.obj ms) := by
  intro hr hw F rest hn
  simp only [WithinLimits, Bool.and_eq_true, decide_eq_true_eq] at hw
  simp only [need] at hn
  simp only [ser, mvOf, List.append_assoc]
  rw [decode_mapHdr F _ hw.1, ih hr hw.2 F rest [] (by omega)]
  rfl

theorem decL_nil : DecL [] := by
  intro _ _ F rest acc hn
  simp only [needL] at hn
  obtain ⟨F, rfl⟩ : ∃ F', F = F' + 1 := ⟨F - 1, by omega⟩
  simp only [decodeArr, serElems, mvElems, List.length_nil, List.nil_append, List.append_nil, beq_self_eq_true, if_true]

theorem decL_cons (x : Val) (r : List Val) (hx : DecV x) (ih : DecL r) : DecL (x :: r) := by
  intro hr hw F rest acc hn
  simp only [RawFreeL, Bool.and_eq_true] at hr
  simp only [WithinLimitsL, Bool.and_eq_true] at hw
  obtain ⟨F, rfl, h1, h2⟩ := fuel_split (need_pos x) hn
  rw [decodeArr]
  simp only [List.length_cons, Nat.add_one_ne_zero, beq_iff_eq, if_false, serElems, List.append_assoc]
  rw [hx hr.1 hw.1 F _ h1]
  simp only [Option.bind_some, Nat.add_sub_cancel]
  rw [ih hr.2 hw.2 (F+1) rest _ h2]
  simp only [mvElems, List.reverse_cons, List.append_assoc, List.singleton_append]

theorem decM_nil : DecM [] := by
  intro _ _ F rest acc hn
  simp only [needM] at hn
  obtain ⟨F, rfl⟩ : ∃ F', F = F' + 1 := ⟨F - 1, by omega⟩
  simp only [decodeMap, serMembers, mvMembers, List.length_nil, List.nil_append, List.append_nil, beq_self_eq_true,
    if_true]

theorem decM_cons (k : List UInt8) (v : Val) (r : List (List UInt8 × Val)) (hv : DecV v) (ih : DecM r) :
    DecM ((k, v) :: r) := by
  intro hr hw F rest acc hn
  simp only [RawFreeM, Bool.and_eq_true] at hr
  simp only [WithinLimitsM, Bool.and_eq_true, decide_eq_true_eq] at hw
  obtain ⟨F, rfl, h1, h2⟩ := fuel_split (need_pos v) hn
  rw [decodeMap]
  simp only [List.length_cons, Nat.add_one_ne_zero, beq_iff_eq, if_false, serMembers, List.append_assoc]
  rw [← List.append_assoc, decode_str F k hw.1.1]
  simp only [Option.bind_some]
  rw [hv hr.1 hw.1.2 F _ h1]
  simp only [Option.bind_some, Nat.add_sub_cancel]
  rw [ih hr.2 hw.2 (F+1) rest _ h2]
  simp only [mvMembers, List.reverse_cons, List.append_assoc, List.singleton_append]

mutual
theorem decV : ∀ v, DecV v
  | .null => fun _ _ F rest _ => decode_c0 F rest
  | .bool b => decV_bool b
  | .num n => decV_num n
  | .str s => fun _ hw F rest _ => decode_str F s (of_decide_eq_true hw) rest
  | .raw _ => fun hr => nomatch hr
  | .arr xs => decV_arr xs (decL xs)
  | .obj ms => decV_obj ms (decM ms)
theorem decL : ∀ xs, DecL xs
  | [] => decL_nil
  | x :: r => decL_cons x r (decV x) (decL r)
theorem decM : ∀ ms, DecM ms
  | [] => decM_nil
  | (k, v) :: r => decM_cons k v r (decV v) (decM r)
end

/-- decoding succeeds with any fuel ≥ `need v` -/
theorem ser_decodes_need (v : Val) (hr : RawFree v = true) (hw : WithinLimits v = true)
    (rest : List UInt8) (fuel : Nat) (hf : need v ≤ fuel) :
    decode fuel (ser v ++ rest) = some (mvOf v, rest) := by
  have := need_pos v
  obtain ⟨F, rfl⟩ : ∃ F, fuel = F + 1 := ⟨fuel - 1, by omega⟩
  exact decV v hr hw F rest hf

/-! ## the fuel bound is linear in the output -/
theorem ser_nonempty (v : Val) (hr : RawFree v = true) : 1 ≤ (ser v).length := by
  cases v with
  | null => exact Nat.le_refl 1
  | bool b => exact Nat.le_refl 1
  | num n =>
    cases n with
    | uint n => exact encUInt_pos n
    | sint v => exact encInt_pos v
    | f32 b => exact encF32_pos b
    | f64 b => exact encF64_pos b
  | str s => rw [ser, List.length_append]; exact Nat.le_add_right_of_le (strHdr_pos _)
  | raw s => cases hr
  | arr xs => rw [ser, List.length_append]; exact Nat.le_add_right_of_le (arrHdr_pos _)
  | obj ms => rw [ser, List.length_append]; exact Nat.le_add_right_of_le (mapHdr_pos _)

theorem hdr_le {b lh lb : Nat} (hb : b ≤ 2 * lb + 1) (hl : 1 ≤ lh) : 1 + b ≤ 2 * (lh + lb) := by omega
theorem step_le {a b la lb : Nat} (lk : Nat) (ha : a ≤ 2 * la) (hb : b ≤ 2 * lb + 1) (hl : 1 ≤ la) :
    1 + max a b ≤ 2 * (lk + la + lb) + 1 := by omega

mutual
theorem need_le_length : ∀ v, RawFree v = true → need v ≤ 2 * (ser v).length
  | .arr xs, hr => by
    rw [need, ser, List.length_append]; exact hdr_le (needL_le xs hr) (arrHdr_pos _)
  | .obj ms, hr => by
    rw [need, ser, List.length_append]; exact hdr_le (needM_le ms hr) (mapHdr_pos _)
  | .null, hr | .bool _, hr | .num _, hr | .str _, hr | .raw _, hr =>
    Nat.le_trans (ser_nonempty _ hr) (Nat.le_mul_of_pos_left _ Nat.two_pos)
theorem needL_le : ∀ xs, RawFreeL xs = true → needL xs ≤ 2 * (serElems xs).length + 1
  | [], _ => Nat.le_refl 1
  | x :: r, hr => by
    simp only [RawFreeL, Bool.and_eq_true] at hr
    rw [needL, serElems, List.length_append, ← Nat.zero_add (ser x).length]
    exact step_le 0 (need_le_length x hr.1) (needL_le r hr.2) (ser_nonempty x hr.1)
theorem needM_le : ∀ ms, RawFreeM ms = true → needM ms ≤ 2 * (serMembers ms).length + 1
  | [], _ => Nat.le_refl 1
  | (k, v) :: r, hr => by
    simp only [RawFreeM, Bool.and_eq_true] at hr
    rw [needM, serMembers, List.length_append, List.length_append]
    exact step_le _ (need_le_length v hr.1) (needM_le r hr.2) (ser_nonempty v hr.1)
end

/-- For a raw-free document within the limits, the specification decoder reads the serializer's
    output, followed by anything, as the document's value and leaves exactly the continuation. -/
theorem ser_decodes (v : Val) (hr : RawFree v = true) (hw : WithinLimits v = true)
    (rest : List UInt8) (fuel : Nat) (hf : 2 * (ser v).length ≤ fuel) :
    decode fuel (ser v ++ rest) = some (mvOf v, rest) :=
  ser_decodes_need v hr hw rest fuel (Nat.le_trans (need_le_length v hr) hf)

/-- exactly one object, nothing trailing -/
theorem ser_decodeTop (v : Val) (hr : RawFree v = true) (hw : WithinLimits v = true) :
    decodeTop (ser v) = some (mvOf v, []) := by
  have := ser_decodes v hr hw [] (2 * (ser v).length + 2) (by omega)
  rw [List.append_nil] at this
  exact this

/-! ## the float shortcuts -/
/-- When the serializer writes an integer `k` for a float32 bit pattern, the pattern is a finite value
    `(-1)^neg * m * 2^e` and `k` is exactly that number (stated without fractions: for `e < 0` the equation is
    scaled by `2^(-e)`), and `k` fits int64. The only thing lost is the sign of `-0.0` (`m = 0`, `neg = true`
    gives `k = 0`). -/
theorem float_shortcut_sound (bits : Nat) (k : Int) (hk : f32MV bits = .int k) :
    ∃ neg m e, SF.decode SF.b32 bits = .fin neg m e ∧
      (0 ≤ e → k = (if neg then -1 else 1) * ((m * 2^e.toNat : Nat) : Int)) ∧
      (e < 0 → k * ((2^(-e).toNat : Nat) : Int) = (if neg then -1 else 1) * (m : Int)) ∧
      -2^63 ≤ k ∧ k < 2^63 := by
  unfold f32MV at hk
  cases hd : SF.decode SF.b32 bits with
  | nan => rw [hd] at hk; cases hk
  | inf n => rw [hd] at hk; cases hk
  | fin neg m e =>
    rw [hd] at hk
    simp only [] at hk
    split at hk
    · rename_i hc
      simp only [Bool.and_eq_true, Bool.or_eq_true, decide_eq_true_eq, beq_iff_eq] at hc
      have hrange := shortcut_range bits neg m e hd hc.1.1 hc.1.2
      injection hk with hk
      rw [hk] at hrange
      refine ⟨neg, m, e, rfl, ?_, ?_, hrange.1, hrange.2⟩
      · intro he
        rw [← hk]; unfold magOf; rw [if_pos he]
        cases neg <;> simp
      · intro he
        have hdiv : m % 2^(-e).toNat = 0 := by
          rcases hc.2 with h | h
          · omega
          · exact h
        have hmul : m / 2^(-e).toNat * 2^(-e).toNat = m := Nat.div_mul_cancel (Nat.dvd_of_mod_eq_zero hdiv)
        have hmag : magOf m e = m / 2^(-e).toNat := by unfold magOf; rw [if_neg (by omega)]
        rw [← hk, hmag]
        generalize m / 2^(-e).toNat = q at hmul
        generalize 2^(-e).toNat = P at hmul
        subst hmul
        cases neg <;> simp [Int.natCast_mul, Int.neg_mul]
    · cases hk

/-- A float32 is written either as the bit-identical float32 or as an integer (then `float_shortcut_sound` applies). -/
theorem f32MV_cases (bits : Nat) : f32MV bits = .f32 bits ∨ ∃ k, f32MV bits = .int k := by
  unfold f32MV
  split
  · split
    · exact Or.inr ⟨_, rfl⟩
    · exact Or.inl rfl
  · exact Or.inl rfl

/-- A float64 is written bit-identically unless it narrows to float32, and it narrows only when it is not a NaN and
    converting to float32 and back gives the same bits, or both are zeros. -/
theorem double_narrowing_sound (bits : Nat) :
    f64MV bits = .f64 bits ∨
    (f64MV bits = f32MV (JD.cvt SF.b64 SF.b32 bits) ∧ SF.decode SF.b64 bits ≠ .nan ∧
      (JD.cvt SF.b32 SF.b64 (JD.cvt SF.b64 SF.b32 bits) = bits ∨
        ∃ n e n' e', SF.decode SF.b64 bits = .fin n 0 e ∧
          SF.decode SF.b32 (JD.cvt SF.b64 SF.b32 bits) = .fin n' 0 e')) := by
  unfold f64MV
  by_cases hn : narrows bits = true
  · rw [if_pos hn]
    exact Or.inr ⟨rfl, (narrows_spec bits hn).1, (narrows_spec bits hn).2⟩
  · rw [if_neg hn]; exact Or.inl rfl

/-- Narrowing loses nothing: when `encF64` hands the value to the float32 encoder, that float32 is the same number as
    the double (same sign, `m * 2^e = (m * 2^j) * 2^(e - j)`), or the same infinity, or both are zeros. -/
theorem double_narrowing_exact (bits : Nat) (hn : narrows bits = true) :
    (∃ neg m e, ∃ j : Nat, SF.decode SF.b32 (JD.cvt SF.b64 SF.b32 bits) = .fin neg m e ∧
        SF.decode SF.b64 bits = .fin neg (m * 2^j) (e - (j : Int))) ∨
    (∃ n, SF.decode SF.b32 (JD.cvt SF.b64 SF.b32 bits) = .inf n ∧ SF.decode SF.b64 bits = .inf n) ∨
    (∃ n e n' e', SF.decode SF.b64 bits = .fin n 0 e ∧
        SF.decode SF.b32 (JD.cvt SF.b64 SF.b32 bits) = .fin n' 0 e') := by
  obtain ⟨hnan, h | h⟩ := narrows_spec bits hn
  · cases hd : SF.decode SF.b32 (JD.cvt SF.b64 SF.b32 bits) with
    | nan =>
      exfalso; apply hnan
      have : JD.cvt SF.b32 SF.b64 (JD.cvt SF.b64 SF.b32 bits) = SF.nanBits SF.b64 := cvt_nan _ _ _ hd
      rw [← h, this]; exact decode64_nanBits
    | inf n =>
      right; left
      have : JD.cvt SF.b32 SF.b64 (JD.cvt SF.b64 SF.b32 bits) = SF.infBits SF.b64 n := cvt_inf _ _ _ n hd
      refine ⟨n, rfl, ?_⟩
      rw [← h, this]; exact decode64_infBits n
    | fin neg m e =>
      by_cases hm0 : m = 0
      · subst hm0
        right; right
        refine ⟨neg, -1074, neg, e, ?_, rfl⟩
        rw [← h]; exact widen_zero _ neg e hd
      · left
        refine ⟨neg, m, e, 53 - (Nat.log2 m + 1), rfl, ?_⟩
        rw [← h]; exact widen_exact _ neg m e hd hm0
  · exact Or.inr (Or.inr h)

/-! ## shortest headers -/
/-- The header (resp. the whole integer encoding) is the shortest one of its family that can hold the length
    (resp. the value): fix* below 32/16/≤127, 8-bit below 256 (strings only), 16-bit below 65536, 32-bit otherwise,
    64-bit only for integers above 2^32 - 1. -/
theorem header_minimal (n : Nat) :
    (strHdr n).length = (if n < 32 then 1 else if n < 256 then 2 else if n < 65536 then 3 else 5) ∧
    (arrHdr n).length = (if n < 16 then 1 else if n < 65536 then 3 else 5) ∧
    (mapHdr n).length = (if n < 16 then 1 else if n < 65536 then 3 else 5) ∧
    (encUInt n).length =
      (if n ≤ 127 then 1 else if n ≤ 255 then 2 else if n ≤ 65535 then 3 else if n ≤ 4294967295 then 5 else 9) :=
  ⟨strHdr_length n, arrHdr_length n, mapHdr_length n, encUInt_length n⟩

theorem header_minimal_int (v : Int) (h : v ≤ 0) :
    (encInt v).length =
      (if v ≥ -32 then 1 else if v ≥ -128 then 2 else if v ≥ -32768 then 3 else if v ≥ -2147483648 then 5 else 9) := by
  rw [encInt_length, if_neg (by omega)]

/-! ## non-vacuity -/
/-- a nested document: {"a": [0,1,…,15], "pi": 3.5f, "n": -300, "s": "hi", "d": 0.1, "t": true, "z": null} -/
def sample : Val :=
  .obj [ ([0x61], .arr ((List.range 16).map (fun i => .num (.uint i)))),
         ([0x70, 0x69], .num (.f32 0x40600000)),
         ([0x6E], .num (.sint (-300))),
         ([0x73], .str [0x68, 0x69]),
         ([0x64], .num (.f64 0x3FB999999999999A)),
         ([0x74], .bool true),
         ([0x7A], .arr [.null, .num (.f32 0x40000000), .num (.f64 0x4008000000000000)]) ]

example : RawFree sample = true ∧ WithinLimits sample = true := by decide +kernel

example : ser sample =
    [0x87, 0xA1, 0x61, 0xDC, 0x00, 0x10, 0,1,2,3,4,5,6,7,8,9,10,11,12,13,14,15,
     0xA2, 0x70, 0x69, 0xCA, 0x40, 0x60, 0x00, 0x00,
     0xA1, 0x6E, 0xD1, 0xFE, 0xD4,
     0xA1, 0x73, 0xA2, 0x68, 0x69,
     0xA1, 0x64, 0xCB, 0x3F, 0xB9, 0x99, 0x99, 0x99, 0x99, 0x99, 0x9A,
     0xA1, 0x74, 0xC3,
     0xA1, 0x7A, 0x93, 0xC0, 0x02, 0x03] := by decide +kernel

example : decodeTop (ser sample) = some (mvOf sample, []) :=
  ser_decodeTop sample (by decide +kernel) (by decide +kernel)

/-- `need` is exact on the sample: one unit of fuel less and the decoder gives up -/
example : need sample = 20 ∧ (decode (need sample - 1) (ser sample)).isNone = true := by decide +kernel

/-- the float 2.0f goes out as the integer 2, and it is the same number -/
example : f32MV 0x40000000 = .int 2 := by rfl
example : ser (.num (.f32 0x40000000)) = [0x02] := by decide +kernel
/-- the double 3.0 narrows to float32 and then to the integer 3; 0.1 stays a float64; -0.0f becomes integer 0 -/
example : f64MV 0x4008000000000000 = .int 3 := by rfl
example : f64MV 0x3FB999999999999A = .f64 0x3FB999999999999A := by rfl
example : ser (.num (.f64 0x4008000000000000)) = [0x03] := by decide +kernel
example : ser (.num (.f32 0x80000000)) = [0x00] := by decide +kernel

end C08
