/- C13 — numeric conversions `as<T>()` / `is<T>()` of a stored number.
   The properties, each a short step from the lemmas on the range tests and on the softfloat in
   AJ/Lemmas/ConvLemmas.lean. -/
import AJ.Model.Conv
import AJ.Lemmas.ConvLemmas
namespace C13
open Conv SF

/-! ## 1. integer-stored numbers: exact -/

/-- `as<T>()` of an integer-stored number: the value itself when it fits `T`, otherwise 0; never undefined, never wrapped -/
theorem int_as (s : Src) (t : IT) (z : Int) (hs : s.WF) (ht : t ∈ allIT) (hz : s.ival = some z) :
    convInt s t = some (if t.min ≤ z ∧ z ≤ t.max then z else 0) := by
  have hc := canConvInt_int s t z hs ht hz
  unfold convInt
  by_cases hr : t.min ≤ z ∧ z ≤ t.max
  · rw [if_pos (hc.2 hr), if_pos hr]; exact castInt_int s t z ht hz hr
  · rw [if_neg (fun h => hr (hc.1 h)), if_neg hr]

/-- `is<T>()` of an integer-stored number holds exactly when the value fits `T` -/
theorem int_is (s : Src) (t : IT) (z : Int) (hs : s.WF) (ht : t ∈ allIT) (hz : s.ival = some z) :
    isInt s t = true ↔ t.min ≤ z ∧ z ≤ t.max := by
  have hc := canConvInt_int s t z hs ht hz
  cases s <;> simp only [isInt] <;> first | exact hc | simp [Src.ival] at hz

/-- `is<T>()` is false for every float-stored number -/
theorem float_is (b : Nat) (t : IT) : isInt (.f32 b) t = false ∧ isInt (.f64 b) t = false := ⟨rfl, rfl⟩

/-- when `is<T>()` holds, `as<T>()` is the stored value and every wider `U` gives the same result -/
theorem is_then_as (s : Src) (t : IT) (z : Int) (hs : s.WF) (ht : t ∈ allIT) (hz : s.ival = some z)
    (h : isInt s t = true) :
    convInt s t = some z ∧ ∀ u ∈ allIT, (t.min ≥ u.min ∧ t.max ≤ u.max) → convInt s u = some z := by
  have hr := (int_is s t z hs ht hz).1 h
  refine ⟨by rw [int_as s t z hs ht hz, if_pos hr], ?_⟩
  intro u hu hw
  have hr' : u.min ≤ z ∧ z ≤ u.max := ⟨by omega, by omega⟩
  rw [int_as s u z hs hu hz, if_pos hr']

/-- `is<T>()` can only hold for an integer-stored number (so the hypothesis `ival = some z` above is not a restriction) -/
theorem is_imp_int (s : Src) (t : IT) (h : isInt s t = true) : ∃ z, s.ival = some z := by
  cases s <;> simp [isInt, Src.ival] at h ⊢

example : convInt (.u 64 18446744073709551615) i64 = some 0 := by decide +kernel
example : convInt (.i 64 (-9223372036854775808)) i64 = some (-9223372036854775808) := by decide +kernel
example : convInt (.i 32 (-1)) u64 = some 0 := by decide +kernel
example : convInt (.u 32 255) u8 = some 255 ∧ convInt (.u 32 256) u8 = some 0 ∧ convInt (.u 32 128) i8 = some 0 := by decide +kernel
example : isInt (.u 32 127) i8 = true ∧ isInt (.u 32 128) i8 = false := by decide +kernel

/-! ## 2. float-stored numbers

   The exact value of a finite datum `decode f b = .fin n m e` is the dyadic `sgnm n m · 2^e`.
   `SF.DyLe s1 e1 s2 e2` is the exact comparison `s1·2^e1 ≤ s2·2^e2`, cross-multiplied to the common exponent
   `min e1 e2` (integers only); an integer `z` is the dyadic `(z, 0)`.  `Conv.inRange t x` says that `x` is finite and
   `t.min ≤ value x ≤ t.max`;  `Conv.truncFP x` is the truncation toward zero of the exact value. -/

/-- `DyLe` against an integer, spelled out: `z ≤ s·2^e ⇔ z·2^(-e)⁺ ≤ s·2^e⁺` (one of the two powers is 1) -/
theorem dyLe_int (z s e : Int) :
    (DyLe z 0 s e ↔ z * 2 ^ (-e).toNat ≤ s * 2 ^ e.toNat) ∧ (DyLe s e z 0 ↔ s * 2 ^ e.toNat ≤ z * 2 ^ (-e).toNat) :=
  ⟨DyLe_int_left z s e, DyLe_int_right z s e⟩

/-- exact value of a finite datum as a rational number -/
def ratVal (n : Bool) (m : Nat) (e : Int) : Rat := (sgnm n m : Rat) * (2 : Rat) ^ e

/-- `DyLe` / `DyLt` ARE the order of the rationals `s·2^e` (so every statement below phrased with `DyLe` is a statement about
    the exact real values); `sv E s e` is the value scaled by `2^(-E)` -/
theorem dyLe_is_rat_order (s1 e1 s2 e2 : Int) :
    (DyLe s1 e1 s2 e2 ↔ (s1 : Rat) * (2 : Rat) ^ e1 ≤ (s2 : Rat) * (2 : Rat) ^ e2) ∧
    (DyLt s1 e1 s2 e2 ↔ (s1 : Rat) * (2 : Rat) ^ e1 < (s2 : Rat) * (2 : Rat) ^ e2) :=
  ⟨DyLe_iff_rat s1 e1 s2 e2, DyLt_iff_rat s1 e1 s2 e2⟩

theorem sv_is_scaled_value (s e E : Int) (h : E ≤ e) : (s : Rat) * (2 : Rat) ^ e = ((sv E s e : Int) : Rat) * (2 : Rat) ^ E :=
  rat_val_eq s e E h

/-- `inRange` in terms of rationals: finite and `T::min ≤ value ≤ T::max` -/
theorem inRange_iff_rat (t : IT) (n : Bool) (m : Nat) (e : Int) :
    inRange t (.fin n m e) ↔ (t.min : Rat) ≤ ratVal n m e ∧ ratVal n m e ≤ (t.max : Rat) := by
  have h1 := DyLe_iff_rat t.min 0 (sgnm n m) e
  have h2 := DyLe_iff_rat (sgnm n m) e t.max 0
  rw [Rat.zpow_zero, Rat.mul_one] at h1 h2
  show DyLe t.min 0 (sgnm n m) e ∧ DyLe (sgnm n m) e t.max 0 ↔ _
  unfold ratVal
  rw [h1, h2]

/-- the softfloat comparisons on finite data are the comparisons of the exact dyadic values -/
theorem le_iff_value_le (f : Fmt) (a b : Nat) (na nb : Bool) (ma mb : Nat) (ea eb : Int)
    (ha : decode f a = .fin na ma ea) (hb : decode f b = .fin nb mb eb) :
    (SF.le f a b = true ↔ DyLe (sgnm na ma) ea (sgnm nb mb) eb) ∧
    (SF.ge f a b = true ↔ DyLe (sgnm nb mb) eb (sgnm na ma) ea) ∧
    (SF.lt f a b = true ↔ DyLt (sgnm na ma) ea (sgnm nb mb) eb) :=
  ⟨le_fin f a b na nb ma mb ea eb ha hb, le_fin f b a nb na mb ma eb ea hb ha, lt_fin f a b na nb ma mb ea eb ha hb⟩

/-- a datum that passes a two-sided comparison against finite constants is finite, and lies between them exactly -/
theorem range_test_finite (f : Fmt) (b c X : Nat) (nc nx : Bool) (mc mx : Nat) (ec ex : Int)
    (hc : decode f c = .fin nc mc ec) (hx : decode f X = .fin nx mx ex) :
    (SF.ge f b c && SF.le f b X) = true ↔
      ∃ n m e, decode f b = .fin n m e ∧ DyLe (sgnm nc mc) ec (sgnm n m) e ∧ DyLe (sgnm n m) e (sgnm nx mx) ex :=
  range_iff f b c X nc nx mc mx ec ex hc hx

/-- `c` is finite with exact value `z` -/
def ExactInt (f : Fmt) (c : Nat) (z : Int) : Prop :=
  ∃ n m e, decode f c = .fin n m e ∧ DyLe (sgnm n m) e z 0 ∧ DyLe z 0 (sgnm n m) e

/-- `X` is the LARGEST datum of format `f` whose exact value is `≤ z` -/
def HighestFor (f : Fmt) (X : Nat) (z : Int) : Prop :=
  ∃ n m e, decode f X = .fin n m e ∧ DyLe (sgnm n m) e z 0 ∧
    ∀ b n' m' e', decode f b = .fin n' m' e' → DyLe (sgnm n' m') e' z 0 → DyLe (sgnm n' m') e' (sgnm n m) e

theorem dyLe_refl (s e : Int) : DyLe s e s e := Int.le_refl _

theorem exactInt_of_ok (f : Fmt) (c : Nat) (z : Int) (h0 : emin f ≤ 0) (h : exactOK f c z = true) : ExactInt f c z := by
  obtain ⟨n, m, e, hd, H⟩ := exactOK_spec f c z h h0
  have hb := decode_fin_bounds f c n m e hd
  exact ⟨n, m, e, hd, (H _ _ hb.1).2.1 (dyLe_refl _ _), (H _ _ hb.1).1.1 (dyLe_refl _ _)⟩

theorem highestFor_of_ok (f : Fmt) (X : Nat) (z : Int) (h0 : emin f ≤ 0) (h : upperOK f X z = true) : HighestFor f X z := by
  obtain ⟨n, m, e, hd, H⟩ := upperOK_spec f X z h h0
  have hb := decode_fin_bounds f X n m e hd
  refine ⟨n, m, e, hd, (H n m e hb.1 hb.2).1 (dyLe_refl _ _), ?_⟩
  intro b n' m' e' hd' hle
  have hb' := decode_fin_bounds f b n' m' e' hd'
  exact (H n' m' e' hb'.1 hb'.2).2 hle

/-- the lower constant `TIn(numeric_limits<TOut>::lowest())` is exact for every target and both formats;
    the upper constant `TIn(numeric_limits<TOut>::highest())` is exact for the narrow targets -/
theorem const_exact :
    (∀ t ∈ allIT, ExactInt b32 (ofInt b32 t.min) t.min ∧ ExactInt b64 (ofInt b64 t.min) t.min) ∧
    (∀ t ∈ allIT, t.bits < 32 → ExactInt b32 (ofInt b32 t.max) t.max) ∧
    (∀ t ∈ allIT, t.bits < 64 → ExactInt b64 (ofInt b64 t.max) t.max) := by
  refine ⟨fun t ht => ⟨exactInt_of_ok _ _ _ (by decide) (consts32 t ht).1, exactInt_of_ok _ _ _ (by decide) (consts64 t ht).1⟩, ?_, ?_⟩
  · have : ∀ t ∈ allIT, t.bits < 32 → exactOK b32 (ofInt b32 t.max) t.max = true := by decide +kernel
    exact fun t ht hb => exactInt_of_ok _ _ _ (by decide) (this t ht hb)
  · have : ∀ t ∈ allIT, t.bits < 64 → exactOK b64 (ofInt b64 t.max) t.max = true := by decide +kernel
    exact fun t ht hb => exactInt_of_ok _ _ _ (by decide) (this t ht hb)

/-- the six generated `highest_for` constants: each is the largest datum of its format not above `T::max` -/
theorem highest_for_correct :
    HighestFor b32 Gen.hi32_i32 i32.max ∧ HighestFor b32 Gen.hi32_u32 u32.max ∧
    HighestFor b32 Gen.hi32_i64 i64.max ∧ HighestFor b32 Gen.hi32_u64 u64.max ∧
    HighestFor b64 Gen.hi64_i64 i64.max ∧ HighestFor b64 Gen.hi64_u64 u64.max := by
  refine ⟨?_, ?_, ?_, ?_, ?_, ?_⟩ <;> exact highestFor_of_ok _ _ _ (by decide) (by decide +kernel)

/-- the concrete data behind `highest_for_correct`: all-ones mantissas just below 2^31, 2^32, 2^63, 2^64 -/
theorem highest_for_values :
    decode b32 Gen.hi32_i32 = .fin false 0xFFFFFF 7 ∧ decode b32 Gen.hi32_u32 = .fin false 0xFFFFFF 8 ∧
    decode b32 Gen.hi32_i64 = .fin false 0xFFFFFF 39 ∧ decode b32 Gen.hi32_u64 = .fin false 0xFFFFFF 40 ∧
    decode b64 Gen.hi64_i64 = .fin false 0x1FFFFFFFFFFFFF 10 ∧ decode b64 Gen.hi64_u64 = .fin false 0x1FFFFFFFFFFFFF 11 := by
  decide +kernel

/-- the constants the model actually compares against are the generated ones -/
theorem highestFor_eq :
    highestFor b32 i32 = Gen.hi32_i32 ∧ highestFor b32 u32 = Gen.hi32_u32 ∧ highestFor b32 i64 = Gen.hi32_i64 ∧
    highestFor b32 u64 = Gen.hi32_u64 ∧ highestFor b64 i64 = Gen.hi64_i64 ∧ highestFor b64 u64 = Gen.hi64_u64 := by
  decide +kernel

/-- the range test of `convertNumber` on a float-stored number is exactly "finite and `T::min ≤ value ≤ T::max`" -/
theorem float_can (t : IT) (ht : t ∈ allIT) (b : Nat) :
    (canConvInt (.f32 b) t = true ↔ inRange t (decode b32 b)) ∧ (canConvInt (.f64 b) t = true ↔ inRange t (decode b64 b)) :=
  ⟨(float_src32 b t ht).1, (float_src64 b t ht).1⟩

/-- `as<T>()` of a float-stored number: the exact value truncated toward zero when it lies within `[T::min, T::max]`,
    0 otherwise (NaN, ±inf, out of range); never undefined behaviour -/
theorem float_as (t : IT) (ht : t ∈ allIT) (b : Nat) :
    convInt (.f32 b) t = some (if inRange t (decode b32 b) then truncFP (decode b32 b) else 0) ∧
    convInt (.f64 b) t = some (if inRange t (decode b64 b) then truncFP (decode b64 b) else 0) :=
  ⟨(float_src32 b t ht).2, (float_src64 b t ht).2⟩

/-- `float_as` with the range condition stated on rationals -/
theorem float_as_rat (t : IT) (ht : t ∈ allIT) (b : Nat) :
    (∀ n m e, decode b32 b = .fin n m e → convInt (.f32 b) t =
      some (if (t.min : Rat) ≤ ratVal n m e ∧ ratVal n m e ≤ (t.max : Rat) then truncFP (.fin n m e) else 0)) ∧
    ((∀ n m e, decode b32 b ≠ .fin n m e) → convInt (.f32 b) t = some 0) ∧
    (∀ n m e, decode b64 b = .fin n m e → convInt (.f64 b) t =
      some (if (t.min : Rat) ≤ ratVal n m e ∧ ratVal n m e ≤ (t.max : Rat) then truncFP (.fin n m e) else 0)) ∧
    ((∀ n m e, decode b64 b ≠ .fin n m e) → convInt (.f64 b) t = some 0) := by
  have key : ∀ n m e, (if inRange t (.fin n m e) then truncFP (.fin n m e) else (0 : Int)) =
      (if (t.min : Rat) ≤ ratVal n m e ∧ ratVal n m e ≤ (t.max : Rat) then truncFP (.fin n m e) else 0) := by
    intro n m e
    by_cases hr : inRange t (.fin n m e)
    · rw [if_pos hr, if_pos ((inRange_iff_rat t n m e).1 hr)]
    · rw [if_neg hr, if_neg (fun h => hr ((inRange_iff_rat t n m e).2 h))]
  have nonfin : ∀ x : FP, (∀ n m e, x ≠ .fin n m e) → ¬ inRange t x := by
    intro x hx; cases x with
    | nan => exact id
    | inf n => exact id
    | fin n m e => exact absurd rfl (hx n m e)
  refine ⟨?_, ?_, ?_, ?_⟩
  · intro n m e h; rw [(float_as t ht b).1, h, key]
  · intro h; rw [(float_as t ht b).1, if_neg (nonfin _ h)]
  · intro n m e h; rw [(float_as t ht b).2, h, key]
  · intro h; rw [(float_as t ht b).2, if_neg (nonfin _ h)]

/-- the truncation of an in-range value is itself in range (so the result is never wrapped or saturated) -/
theorem trunc_inRange (t : IT) (x : FP) (h : inRange t x) : t.min ≤ truncFP x ∧ truncFP x ≤ t.max := by
  cases x with
  | nan => exact h.elim
  | inf n => exact h.elim
  | fin n m e => exact ⟨trunc_ge _ _ _ _ h.1, trunc_le _ _ _ _ h.2⟩

/-- "truncated toward zero", independently of the model's expression: `truncFP (.fin n m e) = (-1)^n·q` where `q` is the natural
    number with `q ≤ m·2^e < q+1` (cross-multiplied) -/
theorem trunc_spec (n : Bool) (m : Nat) (e : Int) :
    ∃ q : Nat, truncFP (.fin n m e) = sgnm n q ∧
      q * 2 ^ (-e).toNat ≤ m * 2 ^ e.toNat ∧ m * 2 ^ e.toNat < (q + 1) * 2 ^ (-e).toNat :=
  truncVal_spec n m e

/-- no conversion to an integral type ever reaches an undefined cast -/
theorem float_no_ub (s : Src) (t : IT) (hs : s.WF) (ht : t ∈ allIT) : convInt s t ≠ none := by
  cases s with
  | u sb n => rw [int_as _ t n hs ht rfl]; simp
  | i sb v => rw [int_as _ t v hs ht rfl]; simp
  | f32 b => rw [(float_as t ht b).1]; simp
  | f64 b => rw [(float_as t ht b).2]; simp

/-- the result of `as<T>()` always lies in `[T::min, T::max]` -/
theorem as_in_range (s : Src) (t : IT) (hs : s.WF) (ht : t ∈ allIT) : ∃ z, convInt s t = some z ∧ t.min ≤ z ∧ z ≤ t.max := by
  have h0 : t.min ≤ 0 ∧ 0 ≤ t.max := by
    rcases mem_allIT ht with rfl|rfl|rfl|rfl|rfl|rfl|rfl|rfl <;> decide
  have key : ∀ (P : Prop) [Decidable P] (z : Int), (P → t.min ≤ z ∧ z ≤ t.max) →
      ∃ r, some (if P then z else 0) = some r ∧ t.min ≤ r ∧ r ≤ t.max := by
    intro P _ z hz
    by_cases hp : P
    · exact ⟨z, by rw [if_pos hp], hz hp⟩
    · exact ⟨0, by rw [if_neg hp], h0⟩
  cases s with
  | u sb n => rw [int_as _ t n hs ht rfl]; exact key _ _ id
  | i sb v => rw [int_as _ t v hs ht rfl]; exact key _ _ id
  | f32 b => rw [(float_as t ht b).1]; exact key _ _ (trunc_inRange t _)
  | f64 b => rw [(float_as t ht b).2]; exact key _ _ (trunc_inRange t _)

-- 2147483647.5 (binary64) is above INT32_MAX: 0, although its truncation would fit
example : convInt (.f64 0x41DFFFFFFFE00000) i32 = some 0 ∧ ¬ inRange i32 (decode b64 0x41DFFFFFFFE00000) := by decide +kernel
-- 2147483647.0 exactly gives itself
example : convInt (.f64 0x41DFFFFFFFC00000) i32 = some 2147483647 := by decide +kernel
-- binary32 2147483520 = highest_for<int32_t>: accepted; the next float, 2^31, is rejected
example : convInt (.f32 0x4EFFFFFF) i32 = some 2147483520 ∧ convInt (.f32 0x4F000000) i32 = some 0 := by decide +kernel
-- -2147483648.5 is below INT32_MIN: 0;  -2147483648.0 gives INT32_MIN;  -0.75 truncates to 0;  -3.75 to -3
example : convInt (.f64 0xC1E0000000100000) i32 = some 0 ∧ convInt (.f64 0xC1E0000000000000) i32 = some (-2147483648) ∧
    convInt (.f64 0xBFE8000000000000) i8 = some 0 ∧ convInt (.f64 0xC00E000000000000) i8 = some (-3) := by decide +kernel
-- NaN, +inf, -inf give 0;  255.5 → u8 gives 0 but 255.0 gives 255;  2^64 → u64 gives 0, the double below gives 2^64-2048
example : convInt (.f64 0x7FF8000000000000) i64 = some 0 ∧ convInt (.f32 0x7F800000) u64 = some 0 ∧ convInt (.f32 0xFF800000) i64 = some 0 ∧
    convInt (.f64 0x406FF00000000000) u8 = some 0 ∧ convInt (.f64 0x406FE00000000000) u8 = some 255 ∧
    convInt (.f64 0x43F0000000000000) u64 = some 0 ∧ convInt (.f64 0x43EFFFFFFFFFFFFF) u64 = some 18446744073709549568 := by decide +kernel
example : truncFP (decode b64 0xC00E000000000000) = -3 ∧ inRange i8 (decode b64 0xC00E000000000000) := by decide +kernel

/-! ## 3. conversions to a floating type

   Distances are measured exactly on the integer scale `2^(-E)`: `SF.sv E s e = s·2^(e-E)` is the dyadic `s·2^e` scaled by `2^(-E)`
   (an integer whenever `E ≤ e`; every datum of format `f` has `emin f ≤ e`). -/

/-- same format: the bits are returned unchanged; otherwise `static_cast` between `float` and `double` -/
theorem float_to_float (b : Nat) :
    convFloat (.f32 b) b32 = b ∧ convFloat (.f64 b) b64 = b ∧
    convFloat (.f32 b) b64 = JD.cvt b32 b64 b ∧ convFloat (.f64 b) b32 = JD.cvt b64 b32 b := ⟨rfl, rfl, rfl, rfl⟩

/-- `float → double` is exact: NaN ↦ NaN, ±inf ↦ ±inf, and a finite `(-1)^n·m·2^e` ↦ `(-1)^n·m'·2^e'` with
    `m' = m·2^(e-e')`, i.e. the same exact value (and the same sign, also for ±0) -/
theorem float_widen_exact (b : Nat) :
    match decode b32 b with
    | .nan => decode b64 (convFloat (.f32 b) b64) = .nan
    | .inf n => decode b64 (convFloat (.f32 b) b64) = .inf n
    | .fin n m e => ∃ m' e', decode b64 (convFloat (.f32 b) b64) = .fin n m' e' ∧ e' ≤ e ∧ m' = m * 2 ^ (e - e').toNat ∧
        DyLe (sgnm n m) e (sgnm n m') e' ∧ DyLe (sgnm n m') e' (sgnm n m) e := by
  show match decode b32 b with
    | .nan => decode b64 (JD.cvt b32 b64 b) = .nan
    | .inf n => decode b64 (JD.cvt b32 b64 b) = .inf n
    | .fin n m e => ∃ m' e', decode b64 (JD.cvt b32 b64 b) = .fin n m' e' ∧ e' ≤ e ∧ m' = m * 2 ^ (e - e').toNat ∧
        DyLe (sgnm n m) e (sgnm n m') e' ∧ DyLe (sgnm n m') e' (sgnm n m) e
  cases hd : decode b32 b with
  | nan => simp only [JD.cvt, hd]; decide +kernel
  | inf n => simp only [JD.cvt, hd]; exact decode_inf b64 n
  | fin n m e =>
    obtain ⟨m', e', h1, h2, h3⟩ := cvt_32_64_exact b n m e hd
    exact ⟨m', e', h1, h2, h3, DyLe_of_scaled n m m' e e' h2 h3⟩

/-- the overflow condition of `roundPos` for binary32, in numbers: the value is at least `2^127` -/
theorem overflow_b32 (m : Nat) (e : Int) (h : (b32.emax : Int) ≤ rpExp b32 m e + 1 + b32.bias + b32.mbits) :
    127 ≤ e + Nat.log2 m := by
  have c : (b32.emax : Int) = 255 ∧ (b32.bias : Int) = 127 ∧ b32.mbits = 23 ∧ emin b32 = -149 := by decide
  unfold rpExp at h
  rw [c.1, c.2.1, c.2.2.1, c.2.2.2] at h
  push_cast at h
  omega

/-- `double → float` rounds to nearest: NaN ↦ NaN, ±inf ↦ ±inf, ±0 ↦ ±0; a finite non-zero value either overflows to the
    infinity of its sign (only when `|value| ≥ 2^127`) or goes to a finite binary32 datum of the same sign such that no
    binary32 datum is strictly closer to the exact value -/
theorem float_narrow_nearest (b : Nat) :
    match decode b64 b with
    | .nan => decode b32 (convFloat (.f64 b) b32) = .nan
    | .inf n => decode b32 (convFloat (.f64 b) b32) = .inf n
    | .fin n m e =>
      if m = 0 then decode b32 (convFloat (.f64 b) b32) = .fin n 0 (emin b32) else
      (decode b32 (convFloat (.f64 b) b32) = .inf n ∧ 127 ≤ e + Nat.log2 m) ∨
      ∃ m' e', decode b32 (convFloat (.f64 b) b32) = .fin n m' e' ∧
        ∀ x nx mx ex, decode b32 x = .fin nx mx ex →
          (sv (min e (emin b32)) (sgnm n m') e' - sv (min e (emin b32)) (sgnm n m) e).natAbs ≤
          (sv (min e (emin b32)) (sgnm nx mx) ex - sv (min e (emin b32)) (sgnm n m) e).natAbs := by
  show match decode b64 b with
    | .nan => decode b32 (JD.cvt b64 b32 b) = .nan
    | .inf n => decode b32 (JD.cvt b64 b32 b) = .inf n
    | .fin n m e =>
      if m = 0 then decode b32 (JD.cvt b64 b32 b) = .fin n 0 (emin b32) else
      (decode b32 (JD.cvt b64 b32 b) = .inf n ∧ 127 ≤ e + Nat.log2 m) ∨
      ∃ m' e', decode b32 (JD.cvt b64 b32 b) = .fin n m' e' ∧
        ∀ x nx mx ex, decode b32 x = .fin nx mx ex →
          (sv (min e (emin b32)) (sgnm n m') e' - sv (min e (emin b32)) (sgnm n m) e).natAbs ≤
          (sv (min e (emin b32)) (sgnm nx mx) ex - sv (min e (emin b32)) (sgnm n m) e).natAbs
  cases hd : decode b64 b with
  | nan => simp only [JD.cvt, hd]; decide +kernel
  | inf n => simp only [JD.cvt, hd]; exact decode_inf b32 n
  | fin n m e =>
    simp only [JD.cvt, hd]
    by_cases hm : m = 0
    · rw [if_pos hm]; subst hm
      have hr : roundPos b32 n 0 e = (if n then b32.signBit else 0) + 0 := by simp [roundPos]
      rw [hr]; exact decode_sub b32 n 0 (by decide) (by decide)
    · rw [if_neg hm]
      rcases roundPos_nearest b32 n m e hm (by decide) with ⟨h1, h2⟩ | h
      · exact Or.inl ⟨h1, overflow_b32 m e h2⟩
      · exact Or.inr h

/-- an integer-stored number goes through `ofInt`, and its magnitude is below `2^64` -/
theorem int_src (s : Src) (z : Int) (hs : s.WF) (hz : s.ival = some z) (f : Fmt) :
    convFloat s f = ofInt f z ∧ z.natAbs < 2 ^ 64 := by
  cases s with
  | u sb n =>
    cases hz
    obtain ⟨hsb, hn⟩ := hs
    refine ⟨rfl, ?_⟩
    rcases hsb with rfl | rfl <;> omega
  | i sb v =>
    cases hz
    obtain ⟨hsb, h1, h2⟩ := hs
    refine ⟨rfl, ?_⟩
    rcases hsb with rfl | rfl <;> omega
  | f32 b => cases hz
  | f64 b => cases hz

/-- integer → floating: `static_cast<float/double>(integer)` is a finite datum of the sign of the integer, and it is a NEAREST
    datum: no datum of the target format is strictly closer to the stored integer -/
theorem int_to_float_nearest (s : Src) (z : Int) (hs : s.WF) (hz : s.ival = some z) (f : Fmt) (hf : f = b32 ∨ f = b64) :
    ∃ m e, decode f (convFloat s f) = .fin (decide (z < 0)) m e ∧
      ∀ x nx mx ex, decode f x = .fin nx mx ex →
        (sv (emin f) (sgnm (decide (z < 0)) m) e - z * 2 ^ (-emin f).toNat).natAbs ≤
        (sv (emin f) (sgnm nx mx) ex - z * 2 ^ (-emin f).toNat).natAbs := by
  obtain ⟨e, hb⟩ := int_src s z hs hz f
  rw [e]
  exact ofInt_nearest f hf z hb

/-- the general statement behind both: `roundPos` (the only rounding primitive of the softfloat) rounds to nearest -/
theorem roundPos_rounds_to_nearest (f : Fmt) (n : Bool) (m : Nat) (e : Int) (hm : m ≠ 0) (hf : 0 < f.emax) :
    (decode f (roundPos f n m e) = .inf n ∧ (f.emax : Int) ≤ rpExp f m e + 1 + f.bias + f.mbits) ∨
    ∃ m'' e'', decode f (roundPos f n m e) = .fin n m'' e'' ∧
      ∀ x nx mx ex, decode f x = .fin nx mx ex →
        (sv (min e (emin f)) (sgnm n m'') e'' - sv (min e (emin f)) (sgnm n m) e).natAbs ≤
        (sv (min e (emin f)) (sgnm nx mx) ex - sv (min e (emin f)) (sgnm n m) e).natAbs :=
  roundPos_nearest f n m e hm hf

/-- ties go to even: the rounding step `rneShift` of `roundPos` returns an even mantissa on an exact tie -/
theorem tie_to_even (m k : Nat) (hk : 0 < k) (h : m % 2 ^ k = 2 ^ (k - 1)) : rneShift m k % 2 = 0 :=
  rneShift_tie_even m k hk h

/-! ## the same at the level of a variant holding a number -/

/-- every number a variant can hold (`NumOK`: payload fits 64 / 32 bits) is stored well-formed -/
theorem stored_wf (n : JD.Num) (h : NumOK n) : (srcOfNum n).WF := srcOfNum_wf n h

/-- `variant.as<T>()` on a number: always defined, always within `[T::min, T::max]` -/
theorem variant_as_defined (cfg : JD.Cfg) (n : JD.Num) (h : NumOK n) (t : IT) (ht : t ∈ allIT) :
    ∃ z, asInt cfg (.num n) t = some z ∧ t.min ≤ z ∧ z ≤ t.max :=
  as_in_range (srcOfNum n) t (srcOfNum_wf n h) ht

/-- `variant.is<T>()` on a number implies `as<T>()` is the stored integer, and `as<U>()` agrees for every wider `U` -/
theorem variant_is_then_as (cfg : JD.Cfg) (n : JD.Num) (h : NumOK n) (t : IT) (ht : t ∈ allIT)
    (his : isIntV (.num n) t = true) :
    ∃ z, (srcOfNum n).ival = some z ∧ t.min ≤ z ∧ z ≤ t.max ∧ asInt cfg (.num n) t = some z ∧
      ∀ u ∈ allIT, (t.min ≥ u.min ∧ t.max ≤ u.max) → asInt cfg (.num n) u = some z := by
  have his' : isInt (srcOfNum n) t = true := his
  obtain ⟨z, hz⟩ := is_imp_int _ _ his'
  have hw := srcOfNum_wf n h
  have hr := (int_is _ t z hw ht hz).1 his'
  obtain ⟨h1, h2⟩ := is_then_as _ t z hw ht hz his'
  exact ⟨z, hz, hr.1, hr.2, h1, h2⟩

example : asInt {} (.num (.uint 300)) u8 = some 0 ∧ asInt {} (.num (.uint 200)) u8 = some 200 ∧
    isIntV (.num (.uint 200)) u8 = true ∧ isIntV (.num (.uint 200)) i8 = false ∧ isIntV (.num (.f64 0x4069000000000000)) u8 = false ∧
    asInt {} (.num (.f64 0x4069000000000000)) u8 = some 200 := by decide +kernel

-- 2^64-1 → float gives 2^64; 16777217 → float is a tie and goes to the even neighbour 16777216; 16777219 → 16777220
example : convFloat (.u 64 18446744073709551615) b32 = 0x5F800000 ∧ convFloat (.u 32 16777217) b32 = 0x4B800000 ∧
    convFloat (.u 32 16777219) b32 = 0x4B800002 ∧ convFloat (.i 64 (-9223372036854775807)) b64 = 0xC3E0000000000000 := by
  decide +kernel
-- 1.5f → 1.5; smallest float subnormal 2^-149 → the normal double 2^-149; 0.1 (double) → 0.1f; 1e300 → +inf; 1e-300 → +0
example : convFloat (.f32 0x3FC00000) b64 = 0x3FF8000000000000 ∧ convFloat (.f32 0x00000001) b64 = 0x36A0000000000000 ∧
    convFloat (.f64 0x3FB999999999999A) b32 = 0x3DCCCCCD ∧ convFloat (.f64 0x7E37E43C8800759C) b32 = 0x7F800000 ∧
    convFloat (.f64 0x01A56E1FC2F8F359) b32 = 0 ∧ convFloat (.f64 0x8000000000000000) b32 = 0x80000000 := by
  decide +kernel

end C13
