/- C11 at the slot level, the transparent filters: `deserializeJson(doc, input, Filter(f), …)` with the `AllowAllFilter`, or with
   a `Filter` over a document that is `true`, IS the unfiltered `deserializeJson(doc, input, …)` - same result code, same
   document (slots, pools, string table, allocator log, under every failure schedule), same number of bytes taken:
   `JDDF.run cfg limit f d input = JDD.run cfg limit d input` for every transparent `f` (AJ/Lemmas/FilterId.lean `Transparent`).
   Hence every theorem about `JDDF.run` (AJ/Props/C03FDoc.lean, C05FDeser.lean) specialises to `JDD.run`.
   Proof: `JDDF.parse_transparent` (AJ/Lemmas/JddfStep.lean), a mutual induction on the fuel: with a transparent filter every
   `allow*` is true and `subIdx/subKey` return the filter. -/
import AJ.Lemmas.JddfStep
import AJ.Props.C03Doc
namespace C11
open JD (Byte Code Cfg Flt Transparent)
open DL JDD

/-- the three routines of the mutual block, for every fuel -/
theorem slot_parse_transparent {cfg : Cfg} : ∀ fuel,
    (∀ limit f l x, Transparent f → JDDF.parseVariant cfg fuel limit f l x = JDD.parseVariant cfg fuel limit l x) ∧
    (∀ limit f l x, Transparent f → JDDF.parseElems cfg fuel limit f l x = JDD.parseElems cfg fuel limit l x) ∧
    (∀ limit f l x, Transparent f → JDDF.parseMembers cfg fuel limit f l x = JDD.parseMembers cfg fuel limit l x) :=
  JDDF.parse_transparent

/-- every transparent filter: the filtered run is the unfiltered run -/
theorem transparent_filter_is_unfiltered_slot_level (cfg : Cfg) (limit : Nat) (f : Flt) (h : Transparent f) (d : Doc)
    (input : List Byte) : JDDF.run cfg limit f d input = JDD.run cfg limit d input := by
  have e := (slot_parse_transparent (cfg := cfg) (2 * input.length + 4)).1 limit f .root
    { s := { l := { unread := input } }, d := d.clearAll } h
  unfold JDDF.run JDD.run
  dsimp only
  rw [e]
  generalize JDD.parseVariant cfg (2 * input.length + 4) limit .root _ = r
  obtain ⟨c, x⟩ := r
  rfl

/-- **`AllowAllFilter`** -/
theorem allow_all_is_unfiltered_slot_level (cfg : Cfg) (limit : Nat) (d : Doc) (input : List Byte) :
    JDDF.run cfg limit .all d input = JDD.run cfg limit d input :=
  transparent_filter_is_unfiltered_slot_level cfg limit .all JD.transparent_all d input

/-- **`Filter(true)`** -/
theorem filter_true_is_unfiltered_slot_level (cfg : Cfg) (limit : Nat) (d : Doc) (input : List Byte) :
    JDDF.run cfg limit (.doc (some (.bool true))) d input = JDD.run cfg limit d input :=
  transparent_filter_is_unfiltered_slot_level cfg limit _ (JD.transparent_true rfl) d input

/-- every other truthy-`true` filter value of `Filter::allow…()`: the number 1 (integer or float) -/
theorem filter_one_is_unfiltered_slot_level (cfg : Cfg) (limit : Nat) (d : Doc) (input : List Byte) :
    JDDF.run cfg limit (.doc (some (.num (.uint 1)))) d input = JDD.run cfg limit d input :=
  transparent_filter_is_unfiltered_slot_level cfg limit _ (JD.transparent_true rfl) d input

/-! ## Non-vacuity (documents `dk` of AJ/Props/C03Doc.lean: the allocator fails at the listed call positions) -/
open C03.ExDoc

/-- `"hi"`, `[1]`, `{"a":[1,"a"],"a":2}`, any failure position: code, document, allocator log and position coincide -/
example (k : Nat) : JDDF.run {} 10 .all (dk [k]) obj2 = JDD.run {} 10 (dk [k]) obj2 ∧
    JDDF.run {} 10 (.doc (some (.bool true))) (dk [k]) obj2 = JDD.run {} 10 (dk [k]) obj2 :=
  ⟨allow_all_is_unfiltered_slot_level {} 10 (dk [k]) obj2, filter_true_is_unfiltered_slot_level {} 10 (dk [k]) obj2⟩

/-- both sides by evaluation on `"hi"`: the buffer (`A46`) became the string node (`R17`) -/
example : (JDDF.run {} 10 .all (dk []) hiQ).2.1.pl.log = ["R17", "A46"] ∧ (JDD.run {} 10 (dk []) hiQ).2.1.pl.log = ["R17", "A46"] ∧
    (JDDF.run {} 10 .all (dk []) hiQ).1 = .ok ∧ (JDDF.run {} 10 .all (dk []) hiQ).2.2 = 4 :=
  ⟨by decide +kernel, by decide +kernel, by decide +kernel, by decide +kernel⟩

/-- transparency is needed: `Filter(false)` and an unbound filter skip the string - Ok, same position, but nothing is allocated -/
example : (JDDF.run {} 10 (.doc (some (.bool false))) (dk []) hiQ).2.1.pl.log = [] ∧
    (JDDF.run {} 10 (.doc none) (dk []) hiQ).2.1.pl.log = [] ∧
    (JDDF.run {} 10 (.doc none) (dk []) hiQ).1 = .ok ∧ (JDDF.run {} 10 (.doc none) (dk []) hiQ).2.2 = 4 :=
  ⟨by decide +kernel, by decide +kernel, by decide +kernel, by decide +kernel⟩

end C11
