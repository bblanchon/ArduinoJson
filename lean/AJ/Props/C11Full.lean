/- C11 at full strength — "For every input that deserializes successfully without a filter and every filter
   document, deserializing with the filter also succeeds and yields exactly the projection of the unfiltered result
   onto the filter."

   Here "every input" is literal: no grammar hypothesis. Whatever the bytes (RFC 8259 JSON or the dialect of the
   library: single quotes, unquoted keys, comments, NaN/Infinity, `decodeUnicode` off, bytes after the document,
   repeated keys), whatever the configuration, the nesting limit and the filter: if the unfiltered run answers
   `Ok`, so does the filtered run, its document is `Spec.Filter.project flt` of the unfiltered one, and it has
   taken the same number of bytes from the reader.

   AJ/Props/C11.lean holds the version on the RFC 8259 grammar, derived from this one, and the clause-by-clause
   corollaries about `project`. Helper lemmas: AJ/Lemmas/ProjectStep.lean (lexers), ProjectAll.lean. -/
import AJ.Lemmas.ProjectAll
namespace C11
open JD Spec.Filter

/-- **C11, every input.** -/
theorem json_projection_all_inputs (cfg : Cfg) (L : Nat) (flt : Flt) (input : List Byte)
    (h : (JD.run cfg L input).1 = .ok) :
    JD.frun cfg L flt input = (.ok, project flt (JD.run cfg L input).2.1, (JD.run cfg L input).2.2) :=
  frun_of_run cfg L flt input h

/-- **The skip simulation, every input**: whenever the parsing routine succeeds from a state `s` (with the fuel
    `run` provides for the remaining input: `2·rem s + 1`), and — if the value is a number — the byte it has
    looked ahead at is not one that could continue the number (always the case when the enclosing array, object
    or `run` goes on to succeed, and the only way the 63-byte number buffer could matter), the skipping routine
    succeeds from `s` and ends in THE SAME STATE; and the filtered parser under any filter returns the projection
    in that same state. -/
theorem skip_and_filter_simulate_parse (cfg : Cfg) (fuel L : Nat) (s : St) (v : Val) (s1 : St)
    (h : parseVariant cfg fuel L s = (.ok, v, s1)) (hfuel : 2 * rem s + 1 ≤ fuel)
    (hnum : isNumberVal v = true → inNumber cfg (JD.cur s1).1 = false) :
    skipVariant cfg fuel L s = (.ok, s1) ∧ ∀ flt, fparseVariant cfg fuel L flt s = (.ok, project flt v, s1) :=
  (sim_all (cfg := cfg) fuel).1 L s v s1 h (by omega) hnum

/-- strings alone: `skipQuoted` follows `parseQuoted` on every input, for either quote of the library -/
theorem skipQuoted_follows_parseQuoted (cfg : Cfg) (stop : Byte) (hq : stop = 0x22 ∨ stop = 0x27)
    (fuel : Nat) (acc : List Byte) (hi : Nat) (s : St) (r : List Byte) (s1 : St)
    (h : parseQuoted cfg stop fuel acc hi s = (.ok, r, s1)) (F : Nat) (hF : rem s + 1 ≤ F) :
    skipQuoted stop F s = (.ok, s1) :=
  skipQuoted_of_parse (stopOk_of_quote (by rcases hq with rfl | rfl <;> rfl)) fuel acc hi s r s1 F h (by omega)

/-! ## Non-vacuity: inputs outside RFC 8259 -/

/-- `{'a':[1,2,{b:3}],/*c*/"a":7 , k : 'xé\'' } x` — single quotes, unquoted keys, a comment, a repeated key,
    escapes, and a stray byte after the document -/
def t1 : List Byte :=
  [123, 39, 97, 39, 58, 91, 49, 44, 50, 44, 123, 98, 58, 51, 125, 93, 44, 47, 42, 99, 42, 47, 34, 97, 34, 58, 55, 32, 44,
   32, 107, 32, 58, 32, 39, 120, 92, 117, 48, 48, 101, 57, 92, 39, 39, 32, 125, 32, 120]
def cC : Cfg := { comments := true }
theorem t1_ok : (JD.run cC 5 t1).1 = .ok := by decide +kernel
/-- the filter `{"k":true}` -/
def fk : Flt := .doc (some (.obj [([0x6B], .bool true)]))
example : JD.frun cC 5 fk t1 = (.ok, project fk (JD.run cC 5 t1).2.1, (JD.run cC 5 t1).2.2) :=
  json_projection_all_inputs cC 5 fk t1 t1_ok
-- both sides by evaluation: the unfiltered document is `{"a":7,"k":"xé'"}`, 47 bytes taken; filtered: `{"k":"xé'"}`
example : (match (JD.run cC 5 t1).2.1 with
    | .obj [([0x61], .num (.uint 7)), ([0x6B], .str [120, 195, 169, 39])] => true | _ => false) = true ∧
    (JD.run cC 5 t1).2.2 = 47 := by decide +kernel
example : (JD.frun cC 5 fk t1).1 = .ok ∧ (JD.frun cC 5 fk t1).2.2 = 47 ∧
    (match (JD.frun cC 5 fk t1).2.1 with | .obj [([0x6B], .str [120, 195, 169, 39])] => true | _ => false) = true := by
  decide +kernel
example : project fk (.obj [([0x61], .num (.uint 7)), ([0x6B], .str [120, 195, 169, 39])]) =
    .obj [([0x6B], .str [120, 195, 169, 39])] := rfl

/-- `[NaN,-Infinity,'😀',{a:[]}]` with NaN/Infinity on and `\u` decoding off, filter `[{"a":true}]` -/
def t2 : List Byte :=
  [91, 78, 97, 78, 44, 45, 73, 110, 102, 105, 110, 105, 116, 121, 44, 39, 92, 117, 100, 56, 51, 100, 92, 117, 100, 101,
   48, 48, 39, 44, 123, 97, 58, 91, 93, 125, 93]
def cN : Cfg := { nan := true, inf := true, decodeUnicode := false }
theorem t2_ok : (JD.run cN 5 t2).1 = .ok := by decide +kernel
def fa : Flt := .doc (some (.arr [.obj [([0x61], .bool true)]]))
example : JD.frun cN 5 fa t2 = (.ok, project fa (JD.run cN 5 t2).2.1, (JD.run cN 5 t2).2.2) :=
  json_projection_all_inputs cN 5 fa t2 t2_ok
example : (JD.frun cN 5 fa t2).1 = .ok ∧ (JD.frun cN 5 fa t2).2.2 = 37 ∧
    (match (JD.frun cN 5 fa t2).2.1 with
      | .arr [.null, .null, .null, .obj [([0x61], .arr [])]] => true | _ => false) = true := by
  decide +kernel

/-- the hypothesis is needed: the skipping routines are more lenient than the parsing ones, so the filtered run
    can succeed where the unfiltered one fails (`"\q"`: invalid escape; `-`: not a number) -/
example : (JD.run {} 10 [0x22, 0x5C, 0x71, 0x22]).1 = .invalid ∧
    (JD.frun {} 10 (.doc (some (.bool false))) [0x22, 0x5C, 0x71, 0x22]).1 = .ok := by decide +kernel

end C11
