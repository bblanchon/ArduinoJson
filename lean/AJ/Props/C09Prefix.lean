/- C09, prefix clause and error classification of the MessagePack deserializer model:
   every proper prefix of an accepted object gives IncompleteInput (EmptyInput for the empty prefix), for every filter;
   a prefix that reaches beyond the first object of a sequence still yields that object;
   the reserved code 0xC1 where a value is expected and a non-string byte where a key is expected give InvalidInput at any depth. -/
import AJ.Lemmas.MpEncValue
import AJ.Props.C09
namespace C09
open JD hiding parseVariant run
open SF MD

/-! ## the general statement: what truncating the input can do to a run -/

/-- For ANY input `q ++ t`, any filter, any nesting limit: the run on the truncated input `q` either is the run on the whole
    input (same code, same document, same number of bytes consumed: the bytes of `t` were never looked at),
    or it stops with IncompleteInput having consumed all of `q`, and then the run on the whole input consumes more than `q`
    (EmptyInput when `q` is empty). -/
theorem run_prefix_dichotomy (env : Env) (L : Nat) (flt : Flt) (q t : List Byte) :
    MD.run env L flt q = MD.run env L flt (q ++ t) ∨
    ((MD.run env L flt q).1 = .incomplete ∧ (MD.run env L flt q).2.2 = q.length ∧
      q.length < (MD.run env L flt (q ++ t)).2.2) ∨
    (q = [] ∧ MD.run env L flt q = (.empty, .null, 0)) := by
  by_cases ht : t = []
  · subst ht; rw [List.append_nil]; exact Or.inl rfl
  cases q with
  | nil => exact Or.inr (Or.inr ⟨rfl, empty_input env L flt⟩)
  | cons c l =>
    have hs := (sim_mutual env t ht (2 * t.length) (2 * (c :: l).length + 4)).1 L flt true ⟨c :: l, 0⟩
      ⟨(c :: l) ++ t, 0⟩ ⟨rfl, rfl⟩
    have hf : 2 * (c :: l).length + 4 + 2 * t.length = 2 * ((c :: l) ++ t).length + 4 := by
      simp only [List.length_append]; omega
    rw [hf] at hs
    have hfacts := run_facts env L flt (c :: l)
    have hfactsb := (run_facts env L flt ((c :: l) ++ t)).adv.total
    have hfound := pv_found_cons env (2 * (c :: l).length + 4) L flt true c l 0
    rw [run_proj, run_proj]
    generalize parseVariant env (2 * (c :: l).length + 4) L flt true ⟨c :: l, 0⟩ = xa at hs hfacts hfound ⊢
    generalize parseVariant env (2 * ((c :: l) ++ t).length + 4) L flt true ⟨(c :: l) ++ t, 0⟩ = xb at hs hfactsb ⊢
    obtain ⟨ea, va, ra, ba⟩ := xa
    obtain ⟨eb, vb, rb, bb⟩ := xb
    simp only at hfound
    subst hfound
    rcases hs with ⟨h1, h2, h3, h4⟩ | ⟨h1, h2, h3⟩ | h1
    · left
      simp only at h1 h2 h3 h4
      subst h1; subst h2; subst h4
      simp only [h3.2]
    · right; left
      simp only at h1 h2 h3 hfactsb
      subst h1
      have := hfacts.adv.total
      simp only [h2, List.length_nil, Nat.add_zero, Nat.zero_add] at this
      refine ⟨rfl, this, ?_⟩
      simp only [List.length_append, Nat.zero_add] at hfactsb
      show (c :: l).length < rb.pos
      omega
    · exfalso
      exact hfacts.fuel (by show 2 * (c :: l).length + 1 ≤ _; omega) h1

/-- a run that ended with anything but IncompleteInput / EmptyInput is not changed by appending bytes to the input -/
theorem extension_stable (env : Env) (L : Nat) (flt : Flt) (q t : List Byte)
    (h1 : (MD.run env L flt q).1 ≠ .incomplete) (h2 : (MD.run env L flt q).1 ≠ .empty) :
    MD.run env L flt (q ++ t) = MD.run env L flt q := by
  rcases run_prefix_dichotomy env L flt q t with h | ⟨h, _⟩ | ⟨_, h⟩
  · exact h.symm
  · exact absurd h h1
  · rw [h] at h2; exact absurd rfl h2

/-- if the run on the whole input consumed more bytes than the truncated input has, the truncated run is IncompleteInput
    (any code on the whole input, any filter) -/
theorem incomplete_of_consumed_beyond (env : Env) (L : Nat) (flt : Flt) (q t : List Byte) (hq : q ≠ [])
    (h : q.length < (MD.run env L flt (q ++ t)).2.2) :
    (MD.run env L flt q).1 = .incomplete ∧ (MD.run env L flt q).2.2 = q.length := by
  rcases run_prefix_dichotomy env L flt q t with h' | h' | ⟨h', _⟩
  · have := run_pos_le env L flt q
    rw [h'] at this
    omega
  · exact ⟨h'.1, h'.2.1⟩
  · exact absurd h' hq

/-- a non-empty input is never consumed for less than one byte -/
theorem run_consumed_pos (env : Env) (L : Nat) (flt : Flt) (inp : List Byte) (h : inp ≠ []) :
    1 ≤ (MD.run env L flt inp).2.2 := by
  cases inp with
  | nil => exact absurd rfl h
  | cons c l =>
    rw [run_proj]
    have e : 2 * (c :: l).length + 4 = (2 * l.length + 5) + 1 := by simp only [List.length_cons]; omega
    rw [e, pv_cons]
    have hk := md_took env (2 * l.length + 5)
    exact (pvAfter_took (env := env) hk.2.1 hk.2.2 L flt true c ⟨l, 0 + 1⟩).1.adv.pos_le

/-- THE RESULT OF A RUN DEPENDS ONLY ON THE BYTES IT CONSUMES. For any input, any prefix `p` of it, any filter:
    if the run on the input consumed no more than `p`, the run on `p` is the same (code, document, bytes consumed);
    otherwise the run on `p` is IncompleteInput (EmptyInput for the empty prefix) with all of `p` consumed. -/
theorem run_prefix_by_consumed (env : Env) (L : Nat) (flt : Flt) (inp p : List Byte) (hp : p <+: inp) :
    ((MD.run env L flt inp).2.2 ≤ p.length → MD.run env L flt p = MD.run env L flt inp) ∧
    (p.length < (MD.run env L flt inp).2.2 →
      (MD.run env L flt p).1 = (if p = [] then .empty else .incomplete) ∧ (MD.run env L flt p).2.2 = p.length) := by
  obtain ⟨t, rfl⟩ := hp
  refine ⟨fun hle => ?_, fun hlt => ?_⟩
  · rcases run_prefix_dichotomy env L flt p t with h | ⟨_, _, h⟩ | ⟨h, _⟩
    · exact h
    · omega
    · subst h
      by_cases ht : t = []
      · subst ht; rfl
      · have := run_consumed_pos env L flt ([] ++ t) (by simpa using ht)
        simp only [List.length_nil] at hle
        omega
  · by_cases h0 : p = []
    · subst h0; rw [if_pos rfl, empty_input]; exact ⟨rfl, rfl⟩
    · rw [if_neg h0]; exact incomplete_of_consumed_beyond env L flt p t h0 hlt

/-- C09, prefix clause, semantic form, EVERY filter and EVERY encoding (any legal width, bin, ext, nested containers):
    if the deserializer consumes the whole of `e` (in particular: accepts `e` as exactly one object), then every non-empty
    proper prefix of `e` gives IncompleteInput and the empty prefix gives EmptyInput. -/
theorem prefix_classification_of_consumed (env : Env) (L : Nat) (flt : Flt) (e : List Byte)
    (hc : (MD.run env L flt e).2.2 = e.length) (p : List Byte) (hp : p <+: e) (hne : p ≠ e) :
    (MD.run env L flt p).1 = (if p = [] then .empty else .incomplete) ∧ (MD.run env L flt p).2.2 = p.length := by
  obtain ⟨t, rfl⟩ := hp
  by_cases h0 : p = []
  · subst h0
    rw [if_pos rfl, empty_input]
    exact ⟨rfl, rfl⟩
  · rw [if_neg h0]
    have ht : t ≠ [] := by intro h; subst h; simp at hne
    have hlen : 0 < t.length := List.length_pos_iff.mpr ht
    exact incomplete_of_consumed_beyond env L flt p t h0 (by rw [hc, List.length_append]; omega)

/-! ## C09, prefix clause, for the serializer's encodings (hypotheses of `C09.accepts`), filter `.all` -/

/-- every non-empty proper prefix of the encoding of a document (strings, arrays, maps, nested, ...) gives IncompleteInput -/
theorem prefix_incomplete (env : Env) (L : Nat) (v : Val) (hr : RawFree v) (hw : WithinLimits env v) (hd : depth v ≤ L)
    (p : List Byte) (hp : p <+: ser v) (hne : p ≠ ser v) (h0 : p ≠ []) :
    (MD.run env L .all p).1 = .incomplete := by
  have hc : (MD.run env L .all (ser v)).2.2 = (ser v).length := by
    have := consumes_exactly env L v hr hw hd []
    rw [List.append_nil] at this
    exact this
  have := (prefix_classification_of_consumed env L .all (ser v) hc p hp hne).1
  rw [if_neg h0] at this
  exact this

/-- the whole classification: the encoding itself is accepted, the empty prefix is EmptyInput, every other proper prefix is
    IncompleteInput; a prefix run always consumes the whole prefix -/
theorem prefix_classification (env : Env) (L : Nat) (v : Val) (hr : RawFree v) (hw : WithinLimits env v) (hd : depth v ≤ L)
    (p : List Byte) (hp : p <+: ser v) :
    (MD.run env L .all p).1 = (if p = ser v then .ok else if p = [] then .empty else .incomplete) ∧
    (MD.run env L .all p).2.2 = p.length := by
  have hrt := roundtrip env L v hr hw hd []
  rw [List.append_nil] at hrt
  by_cases he : p = ser v
  · subst he
    rw [if_pos rfl, hrt]
    exact ⟨rfl, rfl⟩
  · rw [if_neg he]
    exact prefix_classification_of_consumed env L .all (ser v) (by rw [hrt]) p hp he

/-! ## every filter -/

/-- A filter changes neither the error code nor the number of bytes consumed, on ANY input, unless the unfiltered run ends with
    NoMemory (a filtered-out string is skipped without the `maxStrLen` check). On a truncated input `R.skipBytes` fails exactly
    when `R.readBytes` does, so skipping does not hide a truncation. -/
theorem filter_code_consumed (env : Env) (L : Nat) (flt : Flt) (inp : List Byte)
    (h : (MD.run env L .all inp).1 ≠ .noMemory) :
    (MD.run env L flt inp).1 = (MD.run env L .all inp).1 ∧ (MD.run env L flt inp).2.2 = (MD.run env L .all inp).2.2 := by
  cases inp with
  | nil => rw [empty_input, empty_input]; exact ⟨rfl, rfl⟩
  | cons c l =>
    have hfi := (fi_mutual env (2 * (c :: l).length + 4)).1 L flt true ⟨c :: l, 0⟩
    have hfa := pv_found_cons env (2 * (c :: l).length + 4) L flt true c l 0
    have hfb := pv_found_cons env (2 * (c :: l).length + 4) L .all true c l 0
    rw [run_proj] at h
    rw [run_proj, run_proj]
    generalize parseVariant env (2 * (c :: l).length + 4) L flt true ⟨c :: l, 0⟩ = xa at hfi hfa ⊢
    generalize parseVariant env (2 * (c :: l).length + 4) L .all true ⟨c :: l, 0⟩ = xb at hfi hfb h ⊢
    obtain ⟨ea, va, ra, ba⟩ := xa
    obtain ⟨eb, vb, rb, bb⟩ := xb
    simp only at hfa hfb
    subst hfa; subst hfb
    simp only [reduceIte] at h ⊢
    rcases hfi with h' | h'
    · exact absurd h' h
    · simp only [CRv, Prod.mk.injEq] at h'
      exact ⟨h'.1, by rw [h'.2.1]⟩

/-- the serializer's output is accepted under every filter, exactly its bytes are consumed, whatever follows -/
theorem accepts_any_filter (env : Env) (L : Nat) (flt : Flt) (v : Val) (hr : RawFree v) (hw : WithinLimits env v)
    (hd : depth v ≤ L) (rest : List Byte) :
    (MD.run env L flt (ser v ++ rest)).1 = .ok ∧ (MD.run env L flt (ser v ++ rest)).2.2 = (ser v).length := by
  have hrt := roundtrip env L v hr hw hd rest
  have := filter_code_consumed env L flt (ser v ++ rest) (by rw [hrt]; exact fun h => Code.noConfusion h)
  rw [hrt] at this
  exact this

/-- C09, prefix clause, every filter: the encoding is accepted, the empty prefix is EmptyInput, every other proper prefix is
    IncompleteInput -/
theorem prefix_classification_any_filter (env : Env) (L : Nat) (flt : Flt) (v : Val) (hr : RawFree v)
    (hw : WithinLimits env v) (hd : depth v ≤ L) (p : List Byte) (hp : p <+: ser v) :
    (MD.run env L flt p).1 = (if p = ser v then .ok else if p = [] then .empty else .incomplete) ∧
    (MD.run env L flt p).2.2 = p.length := by
  have hacc := accepts_any_filter env L flt v hr hw hd []
  rw [List.append_nil] at hacc
  by_cases he : p = ser v
  · subst he
    rw [if_pos rfl]
    exact hacc
  · rw [if_neg he]
    exact prefix_classification_of_consumed env L flt (ser v) hacc.2 p hp he

theorem prefix_incomplete_any_filter (env : Env) (L : Nat) (flt : Flt) (v : Val) (hr : RawFree v)
    (hw : WithinLimits env v) (hd : depth v ≤ L) (p : List Byte) (hp : p <+: ser v) (hne : p ≠ ser v) (h0 : p ≠ []) :
    (MD.run env L flt p).1 = .incomplete := by
  have := (prefix_classification_any_filter env L flt v hr hw hd p hp).1
  rw [if_neg hne, if_neg h0] at this
  exact this

/-! ## every legal encoding (`MD.Enc`: any width at every place, bin, ext, fixext, nested containers), every filter -/

/-- acceptance: Ok and exactly the bytes of the object consumed, whatever follows, under every filter -/
theorem enc_accepts (env : Env) (L : Nat) (flt : Flt) {d : Nat} {e : List Byte} (h : Enc env d e) (hd : d ≤ L)
    (rest : List Byte) :
    (MD.run env L flt (e ++ rest)).1 = .ok ∧ (MD.run env L flt (e ++ rest)).2.2 = e.length := by
  obtain ⟨v, hv⟩ := enc_accept h (2 * (e ++ rest).length + 4) L rest 0 hd (by simp only [List.length_append]; omega)
  have hall : (MD.run env L .all (e ++ rest)).1 = .ok ∧ (MD.run env L .all (e ++ rest)).2.2 = e.length := by
    simp only [run]
    rw [hv]
    exact ⟨rfl, by simp⟩
  have := filter_code_consumed env L flt (e ++ rest) (by rw [hall.1]; exact fun h => Code.noConfusion h)
  rw [this.1, this.2]
  exact hall

/-- C09, prefix clause, for every well-formed encoding and every filter -/
theorem enc_prefix_classification (env : Env) (L : Nat) (flt : Flt) {d : Nat} {e : List Byte} (h : Enc env d e)
    (hd : d ≤ L) (p : List Byte) (hp : p <+: e) :
    (MD.run env L flt p).1 = (if p = e then .ok else if p = [] then .empty else .incomplete) ∧
    (MD.run env L flt p).2.2 = p.length := by
  have hacc := enc_accepts env L flt h hd []
  rw [List.append_nil] at hacc
  by_cases he : p = e
  · subst he
    rw [if_pos rfl]
    exact hacc
  · rw [if_neg he]
    exact prefix_classification_of_consumed env L flt e hacc.2 p hp he

theorem enc_prefix_incomplete (env : Env) (L : Nat) (flt : Flt) {d : Nat} {e : List Byte} (h : Enc env d e)
    (hd : d ≤ L) (p : List Byte) (hp : p <+: e) (hne : p ≠ e) (h0 : p ≠ []) :
    (MD.run env L flt p).1 = .incomplete := by
  have := (enc_prefix_classification env L flt h hd p hp).1
  rw [if_neg hne, if_neg h0] at this
  exact this

/-! ## the serializer's output is a well-formed encoding in the sense of `MD.Enc` -/

theorem ser_enc (env : Env) : ∀ v, RawFree v → WithinLimits env v → Enc env (depth v) (ser v) :=
  fun v hr hw => (ser_encVal env v _ hr hw (Nat.le_refl _)).enc

/-- the members the serializer writes, as pairs of a key encoding and a value encoding -/
theorem serMembers_enc (env : Env) (ms : List (List Byte × Val)) (d : Nat) (hr : RawFreeMembers ms)
    (hw : WithinLimitsMembers env ms) (hd : depthMembers ms ≤ d) :
    ∃ kvs : List (List Byte × List Byte), kvs.length = ms.length ∧ (∀ kv ∈ kvs, KeyEnc env kv.1) ∧
      (∀ kv ∈ kvs, Enc env d kv.2) ∧ (kvs.map (fun kv => kv.1 ++ kv.2)).flatten = serMembers ms := by
  refine ⟨ms.map (fun kv => (strHdr kv.1.length ++ kv.1, ser kv.2)), List.length_map _, ?_, ?_, ?_⟩
  · intro kv he
    obtain ⟨m, hm, rfl⟩ := List.mem_map.mp he
    exact (ser_encVal_members env ms d hr hw hd m hm).1.keyEnc
  · intro kv he
    obtain ⟨m, hm, rfl⟩ := List.mem_map.mp he
    exact (ser_encVal_members env ms d hr hw hd m hm).2.enc
  · rw [List.map_map, serMembers_flatten]
    rfl

/-! ## null, bool and numbers of any size: the encoding is a leaf, so the prefix clause holds without range hypotheses -/

theorem leafEnc_encUInt (env : Env) (n : Nat) : LeafEnc env (encUInt n) := by
  obtain ⟨h7, e⟩ | ⟨code, j, _, hj, hc, _, e⟩ := encUInt_shape n
  · rw [e]
    exact .posfix _ (by rw [ofNat_toNat n (by omega)]; exact h7)
  · rw [e]
    exact .int code _ (by omega) (by omega) (by rw [beN_length, hc, show (0xcc + j - 0xcc) % 4 = j by omega])

theorem leafEnc_encInt (env : Env) (v : Int) : LeafEnc env (encInt v) := by
  obtain ⟨_, e⟩ | ⟨h0, h5, e⟩ | ⟨code, j, _, hj, hc, _, e⟩ := encInt_shape v
  · rw [e]
    exact leafEnc_encUInt env _
  · have hc := ofNat_toNat ((v + 256).toNat % 256) (by omega)
    rw [e]
    by_cases hz : v = 0
    · exact .posfix _ (by rw [hc]; omega)
    · exact .negfix _ (by rw [hc]; omega)
  · rw [e]
    exact .int code _ (by omega) (by omega) (by rw [beN_length, hc, show (0xd0 + j - 0xcc) % 4 = j by omega])

theorem leafEnc_encF32 (env : Env) (b : Nat) : LeafEnc env (encF32 b) := by
  rw [encF32_eq]
  split
  · exact leafEnc_encInt env _
  · exact .f32 _ (beN_length _ _)

theorem leafEnc_scalar (env : Env) : ∀ v, IsScalar v → LeafEnc env (ser v)
  | .null, _ => .nil
  | .bool b, _ => .bool b
  | .num (.uint n), _ => leafEnc_encUInt env n
  | .num (.sint v), _ => leafEnc_encInt env v
  | .num (.f32 b), _ => leafEnc_encF32 env b
  | .num (.f64 b), _ => by
    simp only [ser]
    rw [encF64_eq]
    split
    · exact leafEnc_encF32 env _
    · exact .f64 _ (beN_length _ _)

/-- C09, prefix clause, for null / bool / numbers: every non-empty proper prefix of the encoding gives IncompleteInput.
    PARTIAL: strings, arrays and objects are not covered. -/
theorem prefix_incomplete_partial (env : Env) (L : Nat) (v : Val) (hv : IsScalar v) (p : List Byte)
    (hp : p <+: ser v) (hne : p ≠ ser v) (h0 : p ≠ []) :
    (MD.run env L .all p).1 = .incomplete :=
  enc_prefix_incomplete env L .all (d := 0) (.leaf (leafEnc_scalar env v hv)) (Nat.zero_le L) p hp hne h0

example : (MD.run ⟨65535⟩ 3 .all [0xCB, 0x3F, 0xB9, 0x99]).1 = .incomplete :=
  prefix_incomplete_partial ⟨65535⟩ 3 (.num (.f64 0x3FB999999999999A)) trivial [0xCB, 0x3F, 0xB9, 0x99]
    (by decide +kernel) (by decide +kernel) (by decide)

/-! ## a prefix that ends inside the second object of a sequence -/

/-- back-to-back objects `ser v ++ e2`: a prefix `p` that contains the whole first object (and ends anywhere in `e2`, `e2`
    arbitrary bytes) yields Ok, the first document, exactly `(ser v).length` bytes consumed -/
theorem single_prefix_of_sequence (env : Env) (L : Nat) (v : Val) (hr : RawFree v) (hw : WithinLimits env v)
    (hd : depth v ≤ L) (e2 p : List Byte) (hp : p <+: ser v ++ e2) (hlen : (ser v).length ≤ p.length) :
    MD.run env L .all p = (.ok, norm v, (ser v).length) := by
  have h1 : ser v <+: ser v ++ e2 := List.prefix_append _ _
  obtain ⟨q, rfl⟩ := List.prefix_of_prefix_length_le h1 hp hlen
  exact roundtrip env L v hr hw hd q

/-- the same for any first object in any legal encoding and any filter: once the run on `e1` ended with a code other than
    IncompleteInput / EmptyInput (Ok in particular), every input that starts with `e1` gives the same code, the same document
    and the same number of consumed bytes -/
theorem single_prefix_of_sequence_any (env : Env) (L : Nat) (flt : Flt) (e1 e2 p : List Byte)
    (h1 : (MD.run env L flt e1).1 ≠ .incomplete) (h2 : (MD.run env L flt e1).1 ≠ .empty)
    (hp : p <+: e1 ++ e2) (hlen : e1.length ≤ p.length) :
    MD.run env L flt p = MD.run env L flt e1 := by
  obtain ⟨q, rfl⟩ := List.prefix_of_prefix_length_le (List.prefix_append e1 e2) hp hlen
  exact extension_stable env L flt e1 q h1 h2

/-! ## errors at any depth: helpers -/
section positions
variable (env : Env)

theorem ser_pos (x : Val) (hr : RawFree x) : 1 ≤ (ser x).length := by
  have := fuelNeed_pos x
  have := fuelNeed_le x hr
  omega

end positions

/-! ## errors at any depth: positions in a document -/

/-- at this point the value parser stops with code `e` after `k` more bytes: for every fuel `≥ f0`, at nesting limit `lim`,
    wherever the reader stands -/
def Fails (env : Env) (lim f0 : Nat) (tail : List Byte) (e : Code) (k : Nat) : Prop :=
  ∀ f, f0 ≤ f → ∀ q, ∃ v r', parseVariant env f lim .all true ⟨tail, q⟩ = (e, v, r', true) ∧ r'.pos = q + k

/-- `ValuePos env L d pre`: `pre` is the beginning of a document as written by the serializer, cut at a point where the next
    byte starts a VALUE (top level, array element, or map value just after its key); `d` containers are open there.
    Everything before is well-formed and within the limits of `MD.run env L`. -/
inductive ValuePos (env : Env) (L : Nat) : Nat → List Byte → Prop
  | top : ValuePos env L 0 []
  | elem {d : Nat} {pre : List Byte} (n : Nat) (xs : List Val) : ValuePos env L d pre → d < L → n < 2^32 → xs.length < n →
      RawFreeElems xs → WithinLimitsElems env xs → depthElems xs + (d + 1) ≤ L →
      ValuePos env L (d + 1) (pre ++ arrHdr n ++ serElems xs)
  | member {d : Nat} {pre : List Byte} (n : Nat) (ms : List (List Byte × Val)) (k : List Byte) : ValuePos env L d pre →
      d < L → n < 2^32 → ms.length < n →
      RawFreeMembers ms → WithinLimitsMembers env ms → depthMembers ms + (d + 1) ≤ L →
      k.length ≤ env.maxStrLen → k.length < 2^32 →
      ValuePos env L (d + 1) (pre ++ mapHdr n ++ serMembers ms ++ (strHdr k.length ++ k))

/-- `KeyPos env L pre`: the same, cut at a point where the next byte starts a map KEY (at any depth) -/
inductive KeyPos (env : Env) (L : Nat) : List Byte → Prop
  | mk {d : Nat} {pre : List Byte} (n : Nat) (ms : List (List Byte × Val)) : ValuePos env L d pre →
      d < L → n < 2^32 → ms.length < n →
      RawFreeMembers ms → WithinLimitsMembers env ms → depthMembers ms + (d + 1) ≤ L →
      KeyPos env L (pre ++ mapHdr n ++ serMembers ms)

theorem ra_fail (env : Env) (l f0 : Nat) (tail : List Byte) (e : Code) (k : Nat) (he : e ≠ .ok)
    (hF : Fails env l f0 tail e k) (g n q : Nat) (acc : List Val) (hn : n ≠ 0) (hg : f0 + 1 ≤ g) :
    ∃ vs r', readArray env g l .all true n ⟨tail, q⟩ acc = (e, vs, r') ∧ r'.pos = q + k := by
  obtain ⟨g', rfl⟩ : ∃ g', g = g' + 1 := ⟨g - 1, by omega⟩
  obtain ⟨v, r', h1, h2⟩ := hF g' (by omega) q
  rw [ra_succ_eq, if_neg (by simp [hn])]
  simp only [show (true && Flt.all.allow) = true from rfl]
  rw [h1]
  cases e
  · exact absurd rfl he
  all_goals exact ⟨_, _, rfl, h2⟩

theorem roVal_fail (env : Env) (l f0 : Nat) (tail : List Byte) (e : Code) (k : Nat) (he : e ≠ .ok)
    (hF : Fails env l f0 tail e k) (g n q : Nat) (acc : List (List Byte × Val)) (key : List Byte) (hg : f0 ≤ g) :
    ∃ ms r', roVal (parseVariant env g) (readObject env g) l .all true n acc key ⟨tail, q⟩ = (e, ms, r')
      ∧ r'.pos = q + k := by
  obtain ⟨v, r', h1, h2⟩ := hF g hg q
  simp only [roVal, show Flt.all.subKey key = Flt.all from rfl, show (true && Flt.all.allow) = true from rfl]
  rw [h1]
  cases e
  · exact absurd rfl he
  all_goals exact ⟨_, _, rfl, h2⟩

theorem fails_reserved (env : Env) (lim : Nat) (rest : List Byte) : Fails env lim 1 (0xC1 :: rest) .invalid 1 := by
  intro f hf q
  obtain ⟨f', rfl⟩ : ∃ f', f = f' + 1 := ⟨f - 1, by omega⟩
  exact ⟨_, _, pv_reserved env f' lim .all true rest q, rfl⟩

theorem run_of_fails (env : Env) (L f0 : Nat) (inp : List Byte) (e : Code) (k : Nat) (h : Fails env L f0 inp e k)
    (hf : f0 ≤ 2 * inp.length + 4) : (MD.run env L .all inp).1 = e ∧ (MD.run env L .all inp).2.2 = k := by
  obtain ⟨v, r', h1, h2⟩ := h (2 * inp.length + 4) hf 0
  simp only [run]
  rw [h1]
  exact ⟨rfl, by simpa using h2⟩

/-! ## positions in any well-formed encoding (any legal width before the position) -/

/-- `ValuePosE env L d pre`: `pre` is the beginning of a well-formed MessagePack document (`MD.Enc`: any legal width), cut at a
    point where the next byte starts a VALUE; `d` containers are open there -/
inductive ValuePosE (env : Env) (L : Nat) : Nat → List Byte → Prop
  | top : ValuePosE env L 0 []
  | elem {d : Nat} {pre : List Byte} (hdr : List Byte) (n : Nat) (es : List (List Byte)) : ValuePosE env L d pre →
      d < L → ArrHdr hdr n → es.length < n → (∀ e ∈ es, Enc env (L - (d + 1)) e) →
      ValuePosE env L (d + 1) (pre ++ hdr ++ es.flatten)
  | member {d : Nat} {pre : List Byte} (hdr : List Byte) (n : Nat) (kvs : List (List Byte × List Byte)) (kb : List Byte) :
      ValuePosE env L d pre → d < L → MapHdr hdr n → kvs.length < n →
      (∀ kv ∈ kvs, KeyEnc env kv.1) → (∀ kv ∈ kvs, Enc env (L - (d + 1)) kv.2) → KeyEnc env kb →
      ValuePosE env L (d + 1) (pre ++ hdr ++ (kvs.map (fun kv => kv.1 ++ kv.2)).flatten ++ kb)

/-- the same, cut where the next byte starts a map KEY -/
inductive KeyPosE (env : Env) (L : Nat) : List Byte → Prop
  | mk {d : Nat} {pre : List Byte} (hdr : List Byte) (n : Nat) (kvs : List (List Byte × List Byte)) :
      ValuePosE env L d pre → d < L → MapHdr hdr n → kvs.length < n →
      (∀ kv ∈ kvs, KeyEnc env kv.1) → (∀ kv ∈ kvs, Enc env (L - (d + 1)) kv.2) →
      KeyPosE env L (pre ++ hdr ++ (kvs.map (fun kv => kv.1 ++ kv.2)).flatten)

theorem members_flatten_ge {env : Env} {dd : Nat} (kvs : List (List Byte × List Byte))
    (hv : ∀ kv ∈ kvs, Enc env dd kv.2) : kvs.length ≤ (kvs.map (fun kv => kv.1 ++ kv.2)).flatten.length := by
  have := flatten_length_ge (kvs.map (fun kv => kv.1 ++ kv.2)) (by
    intro e he
    obtain ⟨kv, hkv, rfl⟩ := List.mem_map.mp he
    have := enc_nonempty (hv kv hkv)
    simp only [List.length_append]; omega)
  rw [List.length_map] at this
  exact this

/-- a failure below an array header: the complete elements before it are read, then the loop stops with the failure -/
theorem fails_elem (env : Env) (l f0 : Nat) {hdr : List Byte} {n : Nat} (es : List (List Byte)) (tail : List Byte)
    (e : Code) (k : Nat) (he : e ≠ .ok) (hh : ArrHdr hdr n) (hlen : es.length < n) (hes : ∀ x ∈ es, Enc env l x)
    (hF : Fails env l f0 tail e k) :
    Fails env (l + 1) (2 * (hdr.length + es.flatten.length) + f0) (hdr ++ (es.flatten ++ tail)) e
      (hdr.length + es.flatten.length + k) := by
  intro f hf q
  have hh1 := arrHdr_nonempty hh
  have hge := flatten_length_ge es (fun e he => enc_nonempty (hes e he))
  obtain ⟨f1, rfl⟩ : ∃ f1, f = f1 + 1 := ⟨f - 1, by omega⟩
  obtain ⟨acc', hacc⟩ := ra_prefix_enc env l l (Nat.le_refl _) tail es
    (fun e he => ⟨enc_nonempty (hes e he), enc_accept (hes e he)⟩) f1 n (q + hdr.length) [] (by omega) (by omega)
  rw [arrHdr_accept hh, hacc]
  obtain ⟨vs, r', h1, h2⟩ := ra_fail env l f0 tail e k he hF (f1 - es.length) (n - es.length)
    (q + hdr.length + es.flatten.length) acc' (by omega) (by omega)
  rw [h1]
  exact ⟨_, _, rfl, by show r'.pos = _; omega⟩

/-- a failure below a map header, in the value that follows the key `kb` -/
theorem fails_member (env : Env) (l f0 : Nat) {hdr : List Byte} {n : Nat} (kvs : List (List Byte × List Byte))
    {kb : List Byte} (tail : List Byte) (e : Code) (k : Nat) (he : e ≠ .ok) (hh : MapHdr hdr n) (hlen : kvs.length < n)
    (hks : ∀ kv ∈ kvs, KeyEnc env kv.1) (hes : ∀ kv ∈ kvs, Enc env l kv.2) (hkb : KeyEnc env kb)
    (hF : Fails env l f0 tail e k) :
    Fails env (l + 1) (2 * (hdr.length + (kvs.map (fun kv => kv.1 ++ kv.2)).flatten.length + kb.length) + f0)
      (hdr ++ ((kvs.map (fun kv => kv.1 ++ kv.2)).flatten ++ (kb ++ tail))) e
      (hdr.length + (kvs.map (fun kv => kv.1 ++ kv.2)).flatten.length + kb.length + k) := by
  intro f hf q
  have hh1 := mapHdr_nonempty hh
  have hge := members_flatten_ge kvs hes
  generalize hfl : (kvs.map (fun kv => kv.1 ++ kv.2)).flatten = fl at *
  obtain ⟨f1, rfl⟩ : ∃ f1, f = f1 + 1 := ⟨f - 1, by omega⟩
  obtain ⟨acc', hacc⟩ := ro_prefix_enc env l l (Nat.le_refl _) (kb ++ tail) kvs hks
    (fun kv he => ⟨enc_nonempty (hes kv he), enc_accept (hes kv he)⟩) f1 n (q + hdr.length) [] (by rw [hfl]; omega)
    (by omega)
  rw [hfl] at hacc
  rw [mapHdr_accept hh, hacc]
  obtain ⟨g, hg⟩ : ∃ g, f1 - kvs.length = g + 1 := ⟨f1 - kvs.length - 1, by omega⟩
  obtain ⟨m, hm⟩ : ∃ m, n - kvs.length = m + 1 := ⟨n - kvs.length - 1, by omega⟩
  obtain ⟨key, hkey⟩ := ro_key_enc hkb g l (q + hdr.length + fl.length) m tail acc'
  rw [hg, hm, hkey]
  obtain ⟨ms', r', h1, h2⟩ := roVal_fail env l f0 tail e k he hF g (m + 1) (q + hdr.length + fl.length + kb.length) acc' key
    (by omega)
  rw [h1]
  exact ⟨_, _, rfl, by show r'.pos = _; omega⟩

/-- a failure at a position of a document is a failure of the whole run: container by container, outwards -/
theorem propagateE (env : Env) (L : Nat) {d : Nat} {pre : List Byte} (hp : ValuePosE env L d pre) :
    ∀ (tail : List Byte) (e : Code) (k f0 : Nat), e ≠ .ok → Fails env (L - d) f0 tail e k →
      Fails env L (2 * pre.length + f0) (pre ++ tail) e (pre.length + k) := by
  induction hp with
  | top =>
    intro tail e k f0 _ hF
    rw [List.length_nil, Nat.mul_zero, Nat.zero_add, Nat.zero_add, List.nil_append]
    exact hF
  | @elem d pre hdr n es _ hdL hh hlen hes ih =>
    intro tail e k f0 he hF
    obtain ⟨l, hl1, hl2⟩ : ∃ l, L - d = l + 1 ∧ L - (d + 1) = l := ⟨L - (d + 1), by omega, rfl⟩
    rw [hl2] at hF hes
    have := ih _ e _ _ he (hl1 ▸ fails_elem env l f0 es tail e k he hh hlen hes hF)
    simp only [List.length_append, List.append_assoc, Nat.mul_add, Nat.add_assoc] at this ⊢
    exact this
  | @member d pre hdr n kvs kb _ hdL hh hlen hks hes hkb ih =>
    intro tail e k f0 he hF
    obtain ⟨l, hl1, hl2⟩ : ∃ l, L - d = l + 1 ∧ L - (d + 1) = l := ⟨L - (d + 1), by omega, rfl⟩
    rw [hl2] at hF hes
    have := ih _ e _ _ he (hl1 ▸ fails_member env l f0 kvs tail e k he hh hlen hks hes hkb hF)
    simp only [List.length_append, List.append_assoc, Nat.mul_add, Nat.add_assoc] at this ⊢
    exact this

theorem fails_bad_key_enc (env : Env) (l : Nat) (hdr : List Byte) (n : Nat) (kvs : List (List Byte × List Byte))
    (c : Byte) (rest : List Byte) (hh : MapHdr hdr n) (hlen : kvs.length < n)
    (hks : ∀ kv ∈ kvs, KeyEnc env kv.1) (hes : ∀ kv ∈ kvs, Enc env l kv.2)
    (h1 : ¬ (0xa0 ≤ c.toNat ∧ c.toNat ≤ 0xbf)) (h2 : ¬ (0xd9 ≤ c.toNat ∧ c.toNat ≤ 0xdb)) :
    Fails env (l + 1) (2 * (hdr.length + (kvs.map (fun kv => kv.1 ++ kv.2)).flatten.length) + 1)
      (hdr ++ ((kvs.map (fun kv => kv.1 ++ kv.2)).flatten ++ c :: rest)) .invalid
      (hdr.length + (kvs.map (fun kv => kv.1 ++ kv.2)).flatten.length + 1) := by
  intro f hf q
  have hh1 := mapHdr_nonempty hh
  have hge := members_flatten_ge kvs hes
  obtain ⟨f1, rfl⟩ : ∃ f1, f = f1 + 1 := ⟨f - 1, by omega⟩
  obtain ⟨acc', hacc⟩ := ro_prefix_enc env l l (Nat.le_refl _) (c :: rest) kvs hks
    (fun kv he => ⟨enc_nonempty (hes kv he), enc_accept (hes kv he)⟩) f1 n (q + hdr.length) [] (by omega) (by omega)
  rw [mapHdr_accept hh, hacc]
  obtain ⟨g, hg⟩ : ∃ g, f1 - kvs.length = g + 1 := ⟨f1 - kvs.length - 1, by omega⟩
  obtain ⟨m, hm⟩ : ∃ m, n - kvs.length = m + 1 := ⟨n - kvs.length - 1, by omega⟩
  rw [hg, hm, ro_bad_key env g l .all true m c rest _ _ h1 h2]
  exact ⟨_, _, rfl, by simp only; omega⟩

/-- 0xC1 where a value is expected, after any well-formed beginning in any legal width: InvalidInput; every filter -/
theorem reserved_code_at_enc (env : Env) (L : Nat) (flt : Flt) {d : Nat} {pre : List Byte} (hp : ValuePosE env L d pre)
    (rest : List Byte) :
    (MD.run env L flt (pre ++ 0xC1 :: rest)).1 = .invalid ∧ (MD.run env L flt (pre ++ 0xC1 :: rest)).2.2 = pre.length + 1 := by
  have hF := propagateE env L hp (0xC1 :: rest) .invalid 1 1 (fun h => Code.noConfusion h) (fails_reserved env _ rest)
  have hall := run_of_fails env L _ _ _ _ hF (by simp only [List.length_append, List.length_cons]; omega)
  have hflt := filter_code_consumed env L flt (pre ++ 0xC1 :: rest) (by rw [hall.1]; exact fun h => Code.noConfusion h)
  rw [hflt.1, hflt.2]
  exact hall

/-- a non-str byte where a key is expected, after any well-formed beginning in any legal width: InvalidInput; every filter -/
theorem non_string_key_at_enc (env : Env) (L : Nat) (flt : Flt) {pre : List Byte} (hp : KeyPosE env L pre)
    (c : Byte) (rest : List Byte)
    (h1 : ¬ (0xa0 ≤ c.toNat ∧ c.toNat ≤ 0xbf)) (h2 : ¬ (0xd9 ≤ c.toNat ∧ c.toNat ≤ 0xdb)) :
    (MD.run env L flt (pre ++ c :: rest)).1 = .invalid ∧ (MD.run env L flt (pre ++ c :: rest)).2.2 = pre.length + 1 := by
  cases hp with
  | @mk d pre hdr n kvs hv hdL hh hlen hks hes =>
    obtain ⟨l, hl1, hl2⟩ : ∃ l, L - d = l + 1 ∧ L - (d + 1) = l := ⟨L - (d + 1), by omega, rfl⟩
    rw [hl2] at hes
    have hB := fails_bad_key_enc env l hdr n kvs c rest hh hlen hks hes h1 h2
    rw [← hl1] at hB
    have hF := propagateE env L hv _ .invalid _ _ (fun h => Code.noConfusion h) hB
    have e1 : pre ++ (hdr ++ ((kvs.map (fun kv => kv.1 ++ kv.2)).flatten ++ c :: rest))
        = (pre ++ hdr ++ (kvs.map (fun kv => kv.1 ++ kv.2)).flatten) ++ c :: rest := by
      simp only [List.append_assoc]
    rw [e1] at hF
    have hall := run_of_fails env L _ _ _ _ hF (by simp only [List.length_append, List.length_cons]; omega)
    have hflt := filter_code_consumed env L flt _ (by rw [hall.1]; exact fun h => Code.noConfusion h)
    rw [hflt.1, hflt.2]
    exact ⟨hall.1, by rw [hall.2]; simp only [List.length_append]; omega⟩

/-- the positions after a beginning written by the serializer are positions in this sense -/
theorem ValuePos.toE {env : Env} {L d : Nat} {pre : List Byte} (h : ValuePos env L d pre) : ValuePosE env L d pre := by
  induction h with
  | top => exact .top
  | @elem d pre n xs _ hdL hn32 hlen hr hw hdep ih =>
    rw [serElems_flatten]
    refine .elem (arrHdr n) n (xs.map ser) ih hdL (arrHdr_ok n hn32) (by rw [List.length_map]; exact hlen) ?_
    intro e he
    obtain ⟨x, hx, rfl⟩ := List.mem_map.mp he
    exact (ser_encVal_elems env xs _ hr hw (by omega) x hx).enc
  | @member d pre n ms k _ hdL hn32 hlen hr hw hdep hk1 hk2 ih =>
    obtain ⟨kvs, hl, hk, he, hf⟩ := serMembers_enc env ms (L - (d + 1)) hr hw (by omega)
    rw [← hf]
    exact .member (mapHdr n) n kvs _ ih hdL (mapHdr_ok n hn32) (by rw [hl]; exact hlen) hk he (keyVal_str k hk1 hk2).keyEnc

theorem KeyPos.toE {env : Env} {L : Nat} {pre : List Byte} (h : KeyPos env L pre) : KeyPosE env L pre := by
  cases h with
  | @mk d pre n ms hv hdL hn32 hlen hr hw hdep =>
    obtain ⟨kvs, hl, hk, he, hf⟩ := serMembers_enc env ms (L - (d + 1)) hr hw (by omega)
    rw [← hf]
    exact .mk (mapHdr n) n kvs hv.toE hdL (mapHdr_ok n hn32) (by rw [hl]; exact hlen) hk he

/-! ## C09, InvalidInput clause, at any depth, after a beginning written by the serializer -/

/-- the reserved code 0xC1 where a value is expected (top level, array element, map value; any depth), everything before being
    well-formed: InvalidInput, consumed up to and including the 0xC1 byte; every filter -/
theorem reserved_code_at (env : Env) (L : Nat) (flt : Flt) {d : Nat} {pre : List Byte} (hp : ValuePos env L d pre)
    (rest : List Byte) :
    (MD.run env L flt (pre ++ 0xC1 :: rest)).1 = .invalid ∧ (MD.run env L flt (pre ++ 0xC1 :: rest)).2.2 = pre.length + 1 :=
  reserved_code_at_enc env L flt hp.toE rest

/-- a byte that does not start a str (fixstr, str 8/16/32) where a map key is expected (any depth), everything before being
    well-formed: InvalidInput, consumed up to and including that byte; every filter -/
theorem non_string_key_at (env : Env) (L : Nat) (flt : Flt) {pre : List Byte} (hp : KeyPos env L pre)
    (c : Byte) (rest : List Byte)
    (h1 : ¬ (0xa0 ≤ c.toNat ∧ c.toNat ≤ 0xbf)) (h2 : ¬ (0xd9 ≤ c.toNat ∧ c.toNat ≤ 0xdb)) :
    (MD.run env L flt (pre ++ c :: rest)).1 = .invalid ∧ (MD.run env L flt (pre ++ c :: rest)).2.2 = pre.length + 1 :=
  non_string_key_at_enc env L flt hp.toE c rest h1 h2

/-- C09, InvalidInput clause -/
theorem invalid_classification (env : Env) (L : Nat) (flt : Flt) :
    (∀ (d : Nat) (pre rest : List Byte), ValuePos env L d pre →
      (MD.run env L flt (pre ++ 0xC1 :: rest)).1 = .invalid ∧
      (MD.run env L flt (pre ++ 0xC1 :: rest)).2.2 = pre.length + 1) ∧
    (∀ (pre : List Byte) (c : Byte) (rest : List Byte), KeyPos env L pre →
      ¬ (0xa0 ≤ c.toNat ∧ c.toNat ≤ 0xbf) → ¬ (0xd9 ≤ c.toNat ∧ c.toNat ≤ 0xdb) →
      (MD.run env L flt (pre ++ c :: rest)).1 = .invalid ∧ (MD.run env L flt (pre ++ c :: rest)).2.2 = pre.length + 1) :=
  ⟨fun _ _ rest hp => reserved_code_at env L flt hp rest, fun _ c rest hp h1 h2 => non_string_key_at env L flt hp c rest h1 h2⟩

/-- C09, InvalidInput clause, after any well-formed beginning (any legal width) -/
theorem invalid_classification_enc (env : Env) (L : Nat) (flt : Flt) :
    (∀ (d : Nat) (pre rest : List Byte), ValuePosE env L d pre →
      (MD.run env L flt (pre ++ 0xC1 :: rest)).1 = .invalid ∧
      (MD.run env L flt (pre ++ 0xC1 :: rest)).2.2 = pre.length + 1) ∧
    (∀ (pre : List Byte) (c : Byte) (rest : List Byte), KeyPosE env L pre →
      ¬ (0xa0 ≤ c.toNat ∧ c.toNat ≤ 0xbf) → ¬ (0xd9 ≤ c.toNat ∧ c.toNat ≤ 0xdb) →
      (MD.run env L flt (pre ++ c :: rest)).1 = .invalid ∧ (MD.run env L flt (pre ++ c :: rest)).2.2 = pre.length + 1) :=
  ⟨fun _ _ rest hp => reserved_code_at_enc env L flt hp rest,
   fun _ c rest hp h1 h2 => non_string_key_at_enc env L flt hp c rest h1 h2⟩

/-! ## non-vacuity -/
section examples

/-- all the prefixes of a list, shortest first -/
def prefixesOf (l : List Byte) : List (List Byte) := (List.range (l.length + 1)).map (fun n => l.take n)
theorem mem_prefixes {p l : List Byte} (h : p <+: l) : p ∈ prefixesOf l := by
  simp only [prefixesOf, List.mem_map, List.mem_range]
  exact ⟨p.length, by have := h.length_le; omega, (List.prefix_iff_eq_take.mp h).symm⟩

/-- `{"a":[1,{"b":"hi"}],"c":null}` -/
def nestDoc : Val := .obj [([0x61], .arr [.num (.uint 1), .obj [([0x62], .str [0x68, 0x69])]]), ([0x63], .null)]
def nestBytes : List Byte := [0x82, 0xA1, 0x61, 0x92, 0x01, 0x81, 0xA1, 0x62, 0xA2, 0x68, 0x69, 0xA1, 0x63, 0xC0]
theorem nest_ser : ser nestDoc = nestBytes := by decide +kernel
theorem nest_rawFree : RawFree nestDoc := by
  simp only [nestDoc, RawFree, RawFreeElems, RawFreeMembers, and_self]
theorem nest_within : WithinLimits ⟨65535⟩ nestDoc := by
  simp only [nestDoc, WithinLimits, WithinLimitsElems, WithinLimitsMembers, NumOk, List.length_cons, List.length_nil]
  decide
theorem nest_depth : depth nestDoc ≤ 3 := by
  simp only [nestDoc, depth, depthElems, depthMembers]; decide

/-- `prefix_classification` instantiated on a prefix that ends inside the inner map (7 of 14 bytes) -/
example : (MD.run ⟨65535⟩ 3 .all [0x82, 0xA1, 0x61, 0x92, 0x01, 0x81, 0xA1]).1 = .incomplete :=
  prefix_incomplete ⟨65535⟩ 3 nestDoc nest_rawFree nest_within nest_depth _
    (by rw [nest_ser]; decide +kernel) (by rw [nest_ser]; decide +kernel) (by decide)

/-- each of the 15 prefixes of the nested document, by evaluation of the model in the kernel (independent of the theorems):
    EmptyInput, 13 × IncompleteInput, Ok; the whole prefix is consumed every time -/
example : ∀ p ∈ prefixesOf nestBytes,
    (MD.run ⟨65535⟩ 3 .all p).1 = (if p = nestBytes then .ok else if p = [] then .empty else .incomplete)
    ∧ (MD.run ⟨65535⟩ 3 .all p).2.2 = p.length := by decide +kernel

/-- the same under a filter that keeps only member "c" (the array under "a" is skipped, not read) -/
def keepC : Flt := .doc (some (.obj [([0x63], .bool true)]))
example : (MD.run ⟨65535⟩ 3 keepC [0x82, 0xA1, 0x61, 0x92, 0x01, 0x81, 0xA1, 0x62, 0xA2, 0x68]).1 = .incomplete :=
  prefix_incomplete_any_filter ⟨65535⟩ 3 keepC nestDoc nest_rawFree nest_within nest_depth _
    (by rw [nest_ser]; decide +kernel) (by rw [nest_ser]; decide +kernel) (by decide)
example : ∀ p ∈ prefixesOf nestBytes,
    (MD.run ⟨65535⟩ 3 keepC p).1 = (if p = nestBytes then .ok else if p = [] then .empty else .incomplete)
    ∧ (MD.run ⟨65535⟩ 3 keepC p).2.2 = p.length := by decide +kernel

/-- encodings the serializer never writes (the semantic theorem covers them): a str16 of 3 bytes, a bin8, a fixext2, an ext8,
    and an array16 holding a map16 with a str8 key, a uint16 and a bin8 -/
def str16Bytes : List Byte := [0xDA, 0x00, 0x03, 0x61, 0x62, 0x63]
def bin8Bytes : List Byte := [0xC4, 0x02, 0x01, 0x02]
def fixext2Bytes : List Byte := [0xD5, 0x07, 0xAA, 0xBB]
def ext8Bytes : List Byte := [0xC7, 0x03, 0x05, 0x01, 0x02, 0x03]
def wideBytes : List Byte :=
  [0xDC, 0x00, 0x02, 0xDE, 0x00, 0x01, 0xD9, 0x01, 0x6B, 0xCD, 0x00, 0x05, 0xC4, 0x01, 0xFF]

example : (MD.run ⟨65535⟩ 3 .all [0xDA, 0x00, 0x03, 0x61]).1 = .incomplete :=
  (prefix_classification_of_consumed ⟨65535⟩ 3 .all str16Bytes (by decide +kernel) [0xDA, 0x00, 0x03, 0x61]
    (by decide +kernel) (by decide +kernel)).1
example : (MD.run ⟨65535⟩ 3 .all [0xC4, 0x02, 0x01]).1 = .incomplete :=
  (prefix_classification_of_consumed ⟨65535⟩ 3 .all bin8Bytes (by decide +kernel) [0xC4, 0x02, 0x01]
    (by decide +kernel) (by decide +kernel)).1
example : (MD.run ⟨65535⟩ 3 .all [0xD5, 0x07]).1 = .incomplete :=
  (prefix_classification_of_consumed ⟨65535⟩ 3 .all fixext2Bytes (by decide +kernel) [0xD5, 0x07]
    (by decide +kernel) (by decide +kernel)).1
example : (MD.run ⟨65535⟩ 3 .all [0xC7, 0x03, 0x05, 0x01]).1 = .incomplete :=
  (prefix_classification_of_consumed ⟨65535⟩ 3 .all ext8Bytes (by decide +kernel) [0xC7, 0x03, 0x05, 0x01]
    (by decide +kernel) (by decide +kernel)).1
example : (MD.run ⟨65535⟩ 3 (.doc none) [0xDC, 0x00, 0x02, 0xDE, 0x00, 0x01, 0xD9, 0x01]).1 = .incomplete :=
  (prefix_classification_of_consumed ⟨65535⟩ 3 (.doc none) wideBytes (by decide +kernel) _
    (by decide +kernel) (by decide +kernel)).1

/-- the five are well-formed encodings in the sense of `MD.Enc` -/
theorem str16_enc : Enc ⟨65535⟩ 0 str16Bytes :=
  .leaf (.str16 [0x00, 0x03] [0x61, 0x62, 0x63] rfl (by decide +kernel) (by decide))
theorem bin8_enc : Enc ⟨65535⟩ 0 bin8Bytes :=
  .leaf (.bin 0xC4 0 [0x02] [0x01, 0x02] (by decide) (by decide) rfl (by decide +kernel) (by decide))
theorem fixext2_enc : Enc ⟨65535⟩ 0 fixext2Bytes :=
  .leaf (.fixext 0xD5 1 [0x07, 0xAA, 0xBB] (by decide) (by decide) rfl (by decide))
theorem ext8_enc : Enc ⟨65535⟩ 0 ext8Bytes :=
  .leaf (.ext 0xC7 0 [0x03] [0x05, 0x01, 0x02, 0x03] (by decide) (by decide) rfl (by decide +kernel) (by decide))
theorem wide_enc : Enc ⟨65535⟩ 2 wideBytes := by
  have hmap : Enc ⟨65535⟩ 1 [0xDE, 0x00, 0x01, 0xD9, 0x01, 0x6B, 0xCD, 0x00, 0x05] :=
    Enc.map (d := 0) [0xDE, 0x00, 0x01] [([0xD9, 0x01, 0x6B], [0xCD, 0x00, 0x05])]
      (.m16 [0x00, 0x01] 1 rfl (by decide +kernel))
      (fun kv hkv => by
        simp only [List.mem_cons, List.mem_nil_iff, or_false] at hkv
        subst hkv
        exact KeyEnc.sized 0xD9 0 [0x01] [0x6B] (by decide) (by decide) rfl (by decide +kernel) (by decide))
      (fun kv hkv => by
        simp only [List.mem_cons, List.mem_nil_iff, or_false] at hkv
        subst hkv
        exact .leaf (.int 0xCD [0x00, 0x05] (by decide) (by decide) (by decide)))
  have hbin : Enc ⟨65535⟩ 1 [0xC4, 0x01, 0xFF] :=
    .leaf (.bin 0xC4 0 [0x01] [0xFF] (by decide) (by decide) rfl (by decide +kernel) (by decide))
  exact Enc.arr (d := 1) [0xDC, 0x00, 0x02]
    [[0xDE, 0x00, 0x01, 0xD9, 0x01, 0x6B, 0xCD, 0x00, 0x05], [0xC4, 0x01, 0xFF]]
    (.a16 [0x00, 0x02] 2 rfl (by decide +kernel))
    (fun e he => by
      simp only [List.mem_cons, List.mem_nil_iff, or_false] at he
      rcases he with rfl | rfl
      · exact hmap
      · exact hbin)

/-- `enc_prefix_classification` instantiated: the nested any-width document cut inside the str8 key, under a filter -/
example : (MD.run ⟨65535⟩ 3 keepC [0xDC, 0x00, 0x02, 0xDE, 0x00, 0x01, 0xD9, 0x01]).1 = .incomplete :=
  enc_prefix_incomplete ⟨65535⟩ 3 keepC wide_enc (by decide) _ (by decide +kernel) (by decide +kernel) (by decide)
example : (MD.run ⟨65535⟩ 3 .all (ext8Bytes ++ [0xC1])).1 = .ok ∧ (MD.run ⟨65535⟩ 3 .all (ext8Bytes ++ [0xC1])).2.2 = 6 :=
  enc_accepts ⟨65535⟩ 3 .all ext8_enc (by decide) [0xC1]

/-- all prefixes of these five, by evaluation -/
example : ∀ e ∈ [str16Bytes, bin8Bytes, fixext2Bytes, ext8Bytes, wideBytes], ∀ p ∈ prefixesOf e,
    (MD.run ⟨65535⟩ 3 .all p).1 = (if p = e then .ok else if p = [] then .empty else .incomplete)
    ∧ (MD.run ⟨65535⟩ 3 .all p).2.2 = p.length := by decide +kernel

/-- two objects back to back, cut inside the second: the first one comes out, 14 bytes consumed -/
example : MD.run ⟨65535⟩ 3 .all (nestBytes ++ [0x82, 0xA1, 0x61]) = (.ok, norm nestDoc, 14) := by
  have h := single_prefix_of_sequence ⟨65535⟩ 3 nestDoc nest_rawFree nest_within nest_depth nestBytes
    (nestBytes ++ [0x82, 0xA1, 0x61]) (by rw [nest_ser]; decide +kernel) (by rw [nest_ser]; decide)
  rw [nest_ser] at h
  exact h
example : (MD.run ⟨65535⟩ 3 .all (nestBytes ++ [0x82, 0xA1, 0x61])).1 = .ok
    ∧ (MD.run ⟨65535⟩ 3 .all (nestBytes ++ [0x82, 0xA1, 0x61])).2.2 = 14 := by decide +kernel
/-- `run_prefix_by_consumed` on an input that is rejected: `[1, <reserved>, ...]` is InvalidInput after 3 bytes; every prefix of
    at least 3 bytes gives that very result, the shorter ones IncompleteInput / EmptyInput -/
example : MD.run ⟨65535⟩ 3 .all [0x93, 0x01, 0xC1, 0x05] = MD.run ⟨65535⟩ 3 .all [0x93, 0x01, 0xC1, 0x05, 0x06, 0x07] :=
  (run_prefix_by_consumed ⟨65535⟩ 3 .all [0x93, 0x01, 0xC1, 0x05, 0x06, 0x07] [0x93, 0x01, 0xC1, 0x05]
    (by decide +kernel)).1 (by decide +kernel)
example : (MD.run ⟨65535⟩ 3 .all [0x93, 0x01]).1 = .incomplete :=
  ((run_prefix_by_consumed ⟨65535⟩ 3 .all [0x93, 0x01, 0xC1, 0x05, 0x06, 0x07] [0x93, 0x01]
    (by decide +kernel)).2 (by decide +kernel)).1
example : ∀ p ∈ prefixesOf [0x93, 0x01, 0xC1, 0x05, 0x06, 0x07],
    (MD.run ⟨65535⟩ 3 .all p).1 = (if 3 ≤ p.length then .invalid else if p = [] then .empty else .incomplete)
    ∧ (MD.run ⟨65535⟩ 3 .all p).2.2 = min 3 p.length := by decide +kernel

/-- any encoding, any filter: a bin8 followed by the beginning of something else -/
example : MD.run ⟨65535⟩ 3 keepC (bin8Bytes ++ [0xDC, 0x00]) = MD.run ⟨65535⟩ 3 keepC bin8Bytes :=
  extension_stable ⟨65535⟩ 3 keepC bin8Bytes [0xDC, 0x00] (by decide +kernel) (by decide +kernel)

/-- positions inside `{"a":[1,{"b": ...`: after the key "a" (depth 1), after the element 1 (depth 2), after the key "b" (depth 3) -/
theorem pos1 : ValuePos ⟨65535⟩ 3 1 [0x82, 0xA1, 0x61] := by
  have h := ValuePos.member (env := ⟨65535⟩) (L := 3) 2 [] [0x61] .top (by decide) (by decide) (by decide)
    (by simp only [RawFreeMembers]) (by simp only [WithinLimitsMembers]) (by simp only [depthMembers]; decide)
    (by decide) (by decide)
  rw [show [] ++ mapHdr 2 ++ serMembers [] ++ (strHdr [(0x61 : Byte)].length ++ [0x61]) = [0x82, 0xA1, 0x61]
    by decide +kernel] at h
  exact h
theorem pos2 : ValuePos ⟨65535⟩ 3 2 [0x82, 0xA1, 0x61, 0x92, 0x01] := by
  have h := ValuePos.elem (env := ⟨65535⟩) (L := 3) 2 [.num (.uint 1)] pos1 (by decide) (by decide) (by decide)
    (by simp only [RawFreeElems, RawFree, and_self])
    (by simp only [WithinLimitsElems, WithinLimits, NumOk]; decide) (by simp only [depthElems, depth]; decide)
  rw [show [0x82, 0xA1, 0x61] ++ arrHdr 2 ++ serElems [.num (.uint 1)] = [0x82, 0xA1, 0x61, 0x92, 0x01]
    by decide +kernel] at h
  exact h
theorem pos3 : ValuePos ⟨65535⟩ 3 3 [0x82, 0xA1, 0x61, 0x92, 0x01, 0x81, 0xA1, 0x62] := by
  have h := ValuePos.member (env := ⟨65535⟩) (L := 3) 1 [] [0x62] pos2 (by decide) (by decide) (by decide)
    (by simp only [RawFreeMembers]) (by simp only [WithinLimitsMembers]) (by simp only [depthMembers]; decide)
    (by decide) (by decide)
  rw [show [0x82, 0xA1, 0x61, 0x92, 0x01] ++ mapHdr 1 ++ serMembers [] ++ (strHdr [(0x62 : Byte)].length ++ [0x62])
      = [0x82, 0xA1, 0x61, 0x92, 0x01, 0x81, 0xA1, 0x62] by decide +kernel] at h
  exact h
theorem keyPos2 : KeyPos ⟨65535⟩ 3 [0x82, 0xA1, 0x61, 0x92, 0x01, 0x81] := by
  have h := KeyPos.mk (env := ⟨65535⟩) (L := 3) 1 [] pos2 (by decide) (by decide) (by decide)
    (by simp only [RawFreeMembers]) (by simp only [WithinLimitsMembers]) (by simp only [depthMembers]; decide)
  rw [show [0x82, 0xA1, 0x61, 0x92, 0x01] ++ mapHdr 1 ++ serMembers [] = [0x82, 0xA1, 0x61, 0x92, 0x01, 0x81]
    by decide +kernel] at h
  exact h

/-- 0xC1 as the value of "b", three containers deep: InvalidInput at byte 9, with and without a filter -/
example : (MD.run ⟨65535⟩ 3 .all [0x82, 0xA1, 0x61, 0x92, 0x01, 0x81, 0xA1, 0x62, 0xC1, 0x68, 0x69]).1 = .invalid
    ∧ (MD.run ⟨65535⟩ 3 .all [0x82, 0xA1, 0x61, 0x92, 0x01, 0x81, 0xA1, 0x62, 0xC1, 0x68, 0x69]).2.2 = 9 :=
  reserved_code_at ⟨65535⟩ 3 .all pos3 [0x68, 0x69]
example : (MD.run ⟨65535⟩ 3 keepC [0x82, 0xA1, 0x61, 0x92, 0x01, 0x81, 0xA1, 0x62, 0xC1]).1 = .invalid :=
  (reserved_code_at ⟨65535⟩ 3 keepC pos3 []).1
/-- 0xC1 as the second array element -/
example : (MD.run ⟨65535⟩ 3 .all [0x82, 0xA1, 0x61, 0x92, 0x01, 0xC1]).1 = .invalid :=
  (reserved_code_at ⟨65535⟩ 3 .all pos2 []).1
/-- an integer (0x05), nil (0xC0), an array header (0x91), a bin8 header (0xC4) as the key of the inner map -/
example : ∀ c ∈ [(0x05 : Byte), 0xC0, 0x91, 0xC4],
    (MD.run ⟨65535⟩ 3 .all ([0x82, 0xA1, 0x61, 0x92, 0x01, 0x81] ++ c :: [0xA2, 0x68, 0x69])).1 = .invalid
    ∧ (MD.run ⟨65535⟩ 3 .all ([0x82, 0xA1, 0x61, 0x92, 0x01, 0x81] ++ c :: [0xA2, 0x68, 0x69])).2.2 = 7 := by
  intro c hc
  refine non_string_key_at ⟨65535⟩ 3 .all keyPos2 c [0xA2, 0x68, 0x69] ?_ ?_
  all_goals (simp only [List.mem_cons, List.mem_nil_iff, or_false] at hc; rcases hc with rfl | rfl | rfl | rfl <;> decide)
/-- the same four by evaluation -/
example : ∀ c ∈ [(0x05 : Byte), 0xC0, 0x91, 0xC4],
    (MD.run ⟨65535⟩ 3 .all ([0x82, 0xA1, 0x61, 0x92, 0x01, 0x81] ++ c :: [0xA2, 0x68, 0x69])).1 = .invalid
    ∧ (MD.run ⟨65535⟩ 3 .all ([0x82, 0xA1, 0x61, 0x92, 0x01, 0x81] ++ c :: [0xA2, 0x68, 0x69])).2.2 = 7 := by
  decide +kernel

/-- positions in the any-width document `wideBytes`: inside the array16 (depth 1), after the str8 key of the map16 (depth 2) -/
theorem posE1 : ValuePosE ⟨65535⟩ 3 1 [0xDC, 0x00, 0x02] :=
  ValuePosE.elem (env := ⟨65535⟩) (L := 3) [0xDC, 0x00, 0x02] 2 [] .top (by decide)
    (.a16 [0x00, 0x02] 2 rfl (by decide +kernel)) (by decide) (fun _ he => nomatch he)
theorem posE2 : ValuePosE ⟨65535⟩ 3 2 [0xDC, 0x00, 0x02, 0xDE, 0x00, 0x01, 0xD9, 0x01, 0x6B] :=
  ValuePosE.member (env := ⟨65535⟩) (L := 3) [0xDE, 0x00, 0x01] 1 [] [0xD9, 0x01, 0x6B] posE1 (by decide)
    (.m16 [0x00, 0x01] 1 rfl (by decide +kernel)) (by decide) (fun _ h => nomatch h) (fun _ h => nomatch h)
    (KeyEnc.sized 0xD9 0 [0x01] [0x6B] (by decide) (by decide) rfl (by decide +kernel) (by decide))
theorem keyPosE1 : KeyPosE ⟨65535⟩ 3 [0xDC, 0x00, 0x02, 0xDE, 0x00, 0x01] :=
  KeyPosE.mk (env := ⟨65535⟩) (L := 3) [0xDE, 0x00, 0x01] 1 [] posE1 (by decide)
    (.m16 [0x00, 0x01] 1 rfl (by decide +kernel)) (by decide) (fun _ h => nomatch h) (fun _ h => nomatch h)
example : (MD.run ⟨65535⟩ 3 .all [0xDC, 0x00, 0x02, 0xDE, 0x00, 0x01, 0xD9, 0x01, 0x6B, 0xC1, 0x00]).1 = .invalid
    ∧ (MD.run ⟨65535⟩ 3 .all [0xDC, 0x00, 0x02, 0xDE, 0x00, 0x01, 0xD9, 0x01, 0x6B, 0xC1, 0x00]).2.2 = 10 :=
  reserved_code_at_enc ⟨65535⟩ 3 .all posE2 [0x00]
example : (MD.run ⟨65535⟩ 3 keepC [0xDC, 0x00, 0x02, 0xDE, 0x00, 0x01, 0xC4, 0x01, 0xFF]).1 = .invalid
    ∧ (MD.run ⟨65535⟩ 3 keepC [0xDC, 0x00, 0x02, 0xDE, 0x00, 0x01, 0xC4, 0x01, 0xFF]).2.2 = 7 :=
  non_string_key_at_enc ⟨65535⟩ 3 keepC keyPosE1 0xC4 [0x01, 0xFF] (by decide) (by decide)
example : (MD.run ⟨65535⟩ 3 .all [0xDC, 0x00, 0x02, 0xDE, 0x00, 0x01, 0xD9, 0x01, 0x6B, 0xC1, 0x00]).1 = .invalid
    ∧ (MD.run ⟨65535⟩ 3 keepC [0xDC, 0x00, 0x02, 0xDE, 0x00, 0x01, 0xC4, 0x01, 0xFF]).2.2 = 7 := by decide +kernel

/-! remarks on the hypotheses, by evaluation -/
/-- `filter_code_consumed` needs "not NoMemory": a string longer than `maxStrLen` is refused by `.all`, skipped under a filter -/
example : (MD.run ⟨2⟩ 3 .all [0xA3, 0x61, 0x62, 0x63]).1 = .noMemory ∧ (MD.run ⟨2⟩ 3 (.doc none) [0xA3, 0x61, 0x62, 0x63]).1 = .ok := by
  decide +kernel
/-- a position deeper than the nesting limit is not a `ValuePos`: the container header already gives TooDeep -/
example : (MD.run ⟨65535⟩ 2 .all [0x82, 0xA1, 0x61, 0x92, 0x01, 0x81, 0xA1, 0x62, 0xC1]).1 = .tooDeep := by decide +kernel

end examples

end C09
