/- C19 — slot identifiers never wrap; reaching a limit makes the operation fail cleanly; usable again after
         removal or clear.
   C06 — released slots are reused before a new pool is requested; `clear` returns every block exactly once.
   C05 — an allocation failure never corrupts the pool list.
   All statements are about the model `PL` (AJ/Model/PL.lean) of `MemoryPoolList`, for every geometry satisfying
   `GeoOK` (`1 ≤ poolCap`, `1 ≤ initPools`; nothing else), every state satisfying the invariant `Inv`
   (AJ/Lemmas/PoolInv.lean) and every failure oracle `failAt`. `reach_inv` shows that `Inv` holds after every
   sequence of `allocSlot / freeSlot (of a live id) / clear / shrink`. -/
import AJ.Model.PL
import AJ.Lemmas.HistCorPool
open PL

namespace C19

/-! ## Every sequence of operations, every failure oracle -/

/-- states reachable from the initial one (with failure oracle `f`: positions of failing calls, `k`: every call
    from position `k` on fails) through the public operations;
    `freeSlot` is only ever called by the library on a live slot -/
inductive Reach (g : Geo) (f : List Nat) (k : Option Nat) : St → Prop
  | init : Reach g f k { init g with failAt := f, failFrom := k }
  | alloc {s : St} : Reach g f k s → Reach g f k (allocSlot g s).2
  | free {s : St} {id : Nat} : Reach g f k s → live g s id → Reach g f k (freeSlot s id)
  | clear {s : St} : Reach g f k s → Reach g f k (clear g s)
  | shrink {s : St} : Reach g f k s → Reach g f k (shrink g s)

/-- `allocSlot` preserves the invariant, whatever it returns -/
theorem allocSlot_inv {g : Geo} {s : St} (gok : GeoOK g) (hI : Inv g s) : Inv g (allocSlot g s).2 := by
  cases hr : (allocSlot g s).1 with
  | none => exact (allocSlot_none gok hI (Prod.ext hr rfl)).2.2
  | some id => exact (allocSlot_some gok hI (Prod.ext hr rfl)).2.2.2

/-- The invariant holds in every reachable state, for every failure oracle. -/
theorem reach_inv {g : Geo} {f : List Nat} {k : Option Nat} {s : St} (gok : GeoOK g) (h : Reach g f k s) :
    Inv g s := by
  induction h with
  | init => exact init_inv gok f k
  | alloc _ ih => exact allocSlot_inv gok ih
  | free _ hl ih => exact (freeSlot_ok ih hl).1
  | clear _ ih => exact clear_inv gok ih
  | shrink _ ih => exact (shrink_ok ih).1

/-- consequences of the invariant spelled out: pool count and table bounds, per-pool bounds, the pool that
    reaches `maxPools` stops at `nullSlot`, the free list holds distinct, previously handed-out ids below NULL -/
theorem inv_facts {g : Geo} {s : St} (hI : Inv g s) :
    s.pools.length ≤ g.maxPools ∧ s.pools.length ≤ s.tableCap ∧
    (∀ i p, s.pools[i]? = some p → p.usage ≤ p.cap ∧ p.cap ≤ g.poolCap ∧ i * g.poolCap + p.cap ≤ g.nullSlot) ∧
    (∀ i p, s.pools[i]? = some p → i + 1 < s.pools.length → p.usage = p.cap) ∧
    (∀ x ∈ s.free, x < g.nullSlot ∧ allocated g s x) ∧ s.free.Nodup := by
  refine ⟨hI.len_max, hI.len_tab, hI.pools_ok, ?_, ?_, hI.free_nodup⟩
  · intro i p hp hi
    refine hI.full_init p (List.mem_of_getElem? (i := i) ?_)
    rw [List.getElem?_dropLast, if_pos (by omega)]; exact hp
  · intro x hx
    exact ⟨allocP_lt_null hI.pools_ok (hI.free_alloc x hx), hI.free_alloc x hx⟩

/-! ## C19: identifiers never wrap, never collide, never equal NULL -/

/-- A successful `allocSlot` returns an id below `nullSlot` (so the truncation `wrap` was the identity and the
    NULL id is never handed out) that is not live, and exactly this id becomes live. -/
theorem alloc_fresh {g : Geo} {s s' : St} {id : Nat} (gok : GeoOK g) (hI : Inv g s)
    (h : allocSlot g s = (some id, s')) :
    id < g.nullSlot ∧ ¬ live g s id ∧ (∀ x, live g s' x ↔ live g s x ∨ x = id) ∧ Inv g s' :=
  allocSlot_some gok hI h

/-- the id returned is the un-truncated `poolIndex · poolCap + indexInPool` when it comes from a pool -/
theorem alloc_id_exact {g : Geo} {s s' : St} {id : Nat} (hI : Inv g s)
    (h : allocFromLastPool g s = (some id, s')) :
    ∃ ps p, s.pools = ps ++ [p] ∧ id = ps.length * g.poolCap + p.usage ∧ id < g.nullSlot := by
  obtain ⟨a, _, _, _, _, _, ps, p, h1, h2⟩ := allocFromLastPool_ok hI h
  exact ⟨ps, p, h1, h2, a⟩

/-- A failed `allocSlot` (allocator failure or capacity limit) leaves every live slot alone. -/
theorem alloc_fail_clean {g : Geo} {s s' : St} (gok : GeoOK g) (hI : Inv g s)
    (h : allocSlot g s = (none, s')) :
    (∀ x, live g s' x ↔ live g s x) ∧ s'.free = s.free ∧ Inv g s' :=
  allocSlot_none gok hI h

/-- At most `2^(8·idBytes) − 1` slots: the live slots, as a duplicate-free list, number at most `nullSlot`,
    every one of them is below `nullSlot`, and so is the slot count `usage` reported by the library. -/
theorem limit {g : Geo} {s : St} (hI : Inv g s) :
    (∀ x, x ∈ liveIds g s ↔ live g s x) ∧ (liveIds g s).Nodup ∧ (liveIds g s).length ≤ g.nullSlot ∧
    (∀ x, live g s x → x < g.nullSlot) ∧ usage s ≤ g.nullSlot ∧
    (liveIds g s).length + s.free.length = usage s :=
  ⟨mem_liveIds g s, hI.liveIds_nodup, hI.liveIds_length_le,
   fun _ hx => allocP_lt_null hI.pools_ok hx.1, hI.usage_le, hI.liveIds_length⟩

/-- Once `maxPools` pools exist and all are used up, `allocSlot` fails, without calling the allocator. -/
theorem limit_clean {g : Geo} {s : St} (hfree : s.free = []) (hmax : g.maxPools ≤ s.pools.length)
    (hfull : ∀ ps p, s.pools = ps ++ [p] → p.hasBlock = false ∨ p.cap ≤ p.usage) :
    allocSlot g s = (none, s) := by
  refine allocSlot_cases (Q := fun r => r = (none, s)) ?_ ?_ ?_
  · intro id rest hc; rw [hfree] at hc; cases hc
  · intro id s1 _ hr1; cases (allocFromLastPool_exhausted hfull).symm.trans hr1
  · intro ok s2 _ _ hr2; rw [addPool_at_max hmax] at hr2; cases hr2; rfl

/-! ## C19: usable again after a removal or a clear -/

/-- Freeing a live slot removes exactly that slot from the live set. -/
theorem free_then_alloc {g : Geo} {s : St} {id : Nat} (hl : live g s id) (hI : Inv g s) :
    Inv g (freeSlot s id) ∧ (∀ x, live g (freeSlot s id) x ↔ live g s x ∧ x ≠ id) :=
  freeSlot_ok hI hl

/-- After a `freeSlot` the next `allocSlot` succeeds, returns that slot, restores the state and does not call the
    allocator — also when the pool list is at its limit or the allocator would fail. -/
theorem usable_again (g : Geo) (s : St) (id : Nat) : allocSlot g (freeSlot s id) = (some id, s) :=
  allocSlot_cons (s := freeSlot s id) rfl

/-- `shrink` (shrinkToFit) keeps the invariant and the live slots. -/
theorem shrink_keeps {g : Geo} {s : St} (hI : Inv g s) :
    Inv g (shrink g s) ∧ (∀ x, live g (shrink g s) x ↔ live g s x) :=
  ⟨(shrink_ok hI).1, (shrink_ok hI).2.1⟩

theorem maxPools_pos {g : Geo} (h2 : 2 ≤ g.poolCap) (hb : 1 ≤ g.idBytes) : 1 ≤ g.maxPools := by
  have hW : 2 ^ (8 * 1) ≤ 2 ^ (8 * g.idBytes) := Nat.pow_le_pow_right (by decide) (by omega)
  have hn : g.nullSlot + 1 = 2 ^ (8 * g.idBytes) := by have := g.width_pos; unfold Geo.nullSlot; omega
  have hq : g.nullSlot / g.poolCap ≤ g.nullSlot / 2 := Nat.div_le_div_left h2 (by decide)
  unfold Geo.maxPools
  generalize g.nullSlot / g.poolCap = q at hq
  rw [Nat.mod_eq_of_lt (by omega)]
  omega

/-- A pool list without pools (initial state, or after `clear`) hands out slot 0 as soon as the allocator
    succeeds, provided the geometry allows at least one pool (`maxPools_pos`: `2 ≤ poolCap`, `1 ≤ idBytes`). -/
theorem usable_after_clear {g : Geo} {s : St} (gok : GeoOK g) (hI : Inv g s) (hp : s.pools = []) (hf : s.free = [])
    (hM : 1 ≤ g.maxPools) (hok : s.failsAt (s.calls + 1) = false) : (allocSlot g s).1 = some 0 := by
  have hw0 : g.wrap 0 = 0 := g.wrap_of_lt g.width_pos
  have hn : 1 ≤ g.nullSlot := by have := g.maxPools_lt; unfold Geo.nullSlot; omega
  have hcap : g.nomCap 0 ≠ 0 := by
    unfold Geo.nomCap
    split
    · rename_i he; rw [← he]; simpa using Nat.ne_of_gt hn
    · exact Nat.ne_of_gt gok.pool_pos
  refine allocSlot_cases (Q := fun r => r.1 = some 0) ?_ ?_ ?_
  · intro id rest hc; rw [hf] at hc; cases hc
  · intro id s1 _ hr1
    obtain ⟨ps, p, h, _⟩ := allocFromLastPool_some hr1
    rw [hp] at h; exact absurd h (by simp)
  · intro ok s2 _ _ hr2
    have htab : (if (s.pools.length == s.tableCap) = true then increaseCapacity g s else (true, s)) = (true, s) := by
      rw [hp]; exact if_neg (by have := hI.tab_pos; simp; omega)
    have hgot : (s.alloc (g.nomCap s.pools.length * g.slotSize)).1 = true := by rw [alloc_fst, hok]; rfl
    rw [addPool_eq (by rw [hp]; exact hM) htab rfl, hgot] at hr2
    cases hr2
    unfold allocFromLastPool
    simp [hp, hw0, hcap]

/-- … in particular after `clear`, from any state. -/
theorem usable_after_clear' {g : Geo} {s : St} (gok : GeoOK g) (hI : Inv g s) (hM : 1 ≤ g.maxPools)
    (hok : s.failsAt (s.calls + 1) = false) : (allocSlot g (clear g s)).1 = some 0 := by
  obtain ⟨a, b, _, _, e, f, _⟩ := clear_spec g s
  exact usable_after_clear gok (clear_inv gok hI) a b hM
    (by unfold St.failsAt at hok ⊢; rw [e, f, clear_failFrom]; exact hok)

/-! ## A pool list that has only grown -/

/-- Nothing released yet, every pool with a block of its nominal capacity, an allocator that never refuses: the ids
    handed out are `0 … usage − 1` (`allocatedIds_eq_range`), so the next one is `usage s`, until `nullSlot` slots are
    out; from then on a success would make more than `nullSlot` slots live. `k` counts the calls; `usage` stops at
    `nullSlot`. -/
theorem alloc_next {g : Geo} {s : St} {k : Nat} (gok : GeoOK g) (hM : 1 ≤ g.maxPools) (hI : Inv g s)
    (hf : s.free = []) (hk : usage s = min k g.nullSlot)
    (hlow : k < g.nullSlot → Nominal g s ∧ ∀ m, s.failsAt m = false) :
    (allocSlot g s).1 = (if k < g.nullSlot then some k else none) ∧ Inv g (allocSlot g s).2 ∧
    (allocSlot g s).2.free = [] ∧ usage (allocSlot g s).2 = min (k + 1) g.nullSlot ∧
    (k + 1 < g.nullSlot → Nominal g (allocSlot g s).2 ∧ ∀ m, (allocSlot g s).2.failsAt m = false) := by
  have hlen : (liveIds g s).length = usage s := by
    have := hI.liveIds_length; rw [hf] at this; exact this
  by_cases hlt : k < g.nullSlot
  · obtain ⟨hN, ho⟩ := hlow hlt
    obtain ⟨id, s', h, hN', _, ho'⟩ := allocSlot_succeeds gok hI hN hM (by omega) (ho _) (ho _)
    obtain ⟨hI', hf', _, _, hfresh, hal⟩ := allocSlot_nil gok hI hf h
    have hu' : usage s' = usage s + 1 := by
      have := hI'.liveIds_length; rw [hf', liveIds_length_alloc gok hI h, hlen] at this; exact this.symm
    have hin := (hal id).2 (Or.inr rfl)
    rw [← mem_allocatedIds, allocatedIds_eq_range hI hN, List.mem_range] at hfresh
    rw [← mem_allocatedIds, allocatedIds_eq_range hI' hN', List.mem_range] at hin
    have hid : id = k := by omega
    rw [h, if_pos hlt, hid]
    exact ⟨rfl, hI', hf', show usage s' = _ by omega, fun _ => ⟨hN', fun m => (ho' m).trans (ho m)⟩⟩
  · rw [if_neg hlt]
    cases hr : allocSlot g s with
    | mk r s' =>
      cases r with
      | some id =>
        have := liveIds_length_alloc gok hI hr
        have := (allocSlot_some gok hI hr).2.2.2.liveIds_length_le
        omega
      | none =>
        obtain ⟨hI', hf', _, hal⟩ := allocSlot_nil gok hI hf hr
        have hp : (allocatedIds g s').Perm (allocatedIds g s) :=
          (List.perm_ext_iff_of_nodup hI'.allocatedIds_nodup hI.allocatedIds_nodup).2
            (fun x => by rw [mem_allocatedIds, mem_allocatedIds]; exact hal x)
        have hu' : usage s' = usage s := by rw [← length_allocatedIds g s', ← length_allocatedIds g s, hp.length_eq]
        exact ⟨rfl, hI', hf', show usage s' = _ by omega, fun h => by omega⟩

end C19

namespace C06

/-- A slot released by a removal is reused by the next insertion; the allocator is not called and no pool is
    touched. -/
theorem reuse {g : Geo} {s : St} {id : Nat} {rest : List Nat} (hf : s.free = id :: rest) :
    allocSlot g s = (some id, { s with free := rest }) ∧
    (allocSlot g s).2.calls = s.calls ∧ (allocSlot g s).2.log = s.log ∧ (allocSlot g s).2.pools = s.pools := by
  rw [allocSlot_cons hf]; exact ⟨rfl, rfl, rfl, rfl⟩

/-- `allocSlot` calls the allocator only if the free list is empty and the last pool is absent, block-less or
    full. -/
theorem new_pool_only_when_needed {g : Geo} {s : St} (h : (allocSlot g s).2.calls ≠ s.calls) :
    s.free = [] ∧
    (s.pools = [] ∨ ∃ ps p, s.pools = ps ++ [p] ∧ (p.hasBlock = false ∨ p.cap ≤ p.usage)) := by
  refine allocSlot_cases (Q := fun r => r.2.calls ≠ s.calls → _) ?_ ?_ ?_ h
  · intro id rest _ h; exact absurd rfl h
  · intro id s1 _ hr1 h
    obtain ⟨ps, p, _, _, _, _, rfl⟩ := allocFromLastPool_some hr1
    exact absurd rfl h
  · intro ok s2 hf hfull _ _; exact ⟨hf, hfull⟩

/-- … and then, under the invariant, every slot of every pool is in use: a new pool is requested only when no
    released or unused slot exists. -/
theorem new_pool_only_when_full {g : Geo} {s : St} (hI : Inv g s) (h : (allocSlot g s).2.calls ≠ s.calls) :
    s.free = [] ∧ (∀ q ∈ s.pools, q.usage = q.cap) ∧ (∀ x, live g s x ↔ allocated g s x) := by
  obtain ⟨hf, hp⟩ := new_pool_only_when_needed h
  refine ⟨hf, ?_, fun x => by unfold live; rw [hf]; simp⟩
  exact hI.all_full hp

/-- `clear` empties the pool list and the free list, never calls allocate/reallocate, and adds to the allocator
    log exactly one `D` per pool that owned a block plus one for a heap-allocated pool table — nothing else. -/
theorem clear_releases_everything (g : Geo) (s : St) :
    (clear g s).pools = [] ∧ (clear g s).free = [] ∧ (clear g s).tableHeap = false ∧
    (clear g s).calls = s.calls ∧
    (clear g s).log = List.replicate (s.pools.countP (·.hasBlock) + (if s.tableHeap then 1 else 0)) "D" ++ s.log ∧
    blocks (clear g s) = 0 := by
  obtain ⟨a, b, c, _, e, _, h⟩ := clear_spec g s
  refine ⟨a, b, c, e, h, ?_⟩
  unfold blocks; rw [a, c]; rfl

/-- after `clear` no slot is live and the invariant holds: the pool list is as good as new -/
theorem clear_fresh {g : Geo} {s : St} (gok : GeoOK g) (hI : Inv g s) :
    Inv g (clear g s) ∧ (∀ x, ¬ live g (clear g s) x) ∧ (clear g s).tableCap = g.initPools := by
  refine ⟨clear_inv gok hI, clear_live g s, ?_⟩
  rw [(clear_spec g s).2.2.2.1]
  split
  · rfl
  · rename_i hh; exact hI.inline_cap (by simpa using hh)

end C06

/-! ## Non-vacuity: a tiny geometry (2 slots per pool, 1 inline pool, 1-byte ids ⇒ 128 pools, 255 slots) -/
namespace C19.Examples

def tiny : Geo := ⟨2, 1, 1, 16, 16⟩
theorem tinyOK : GeoOK tiny := ⟨by decide, by decide⟩

/-- `n` allocations in a row: the results in order and the final state -/
def allocN (g : Geo) : Nat → St → List (Option Nat) × St
  | 0, s => ([], s)
  | n + 1, s => let (r, s1) := allocSlot g s; let (rs, s2) := allocN g n s1; (r :: rs, s2)

theorem allocN_succ (g : Geo) (n : Nat) (s : St) :
    (allocN g (n + 1) s).1 = (allocSlot g s).1 :: (allocN g n (allocSlot g s).2).1 := rfl

theorem allocN_from {g : Geo} (gok : GeoOK g) (hM : 1 ≤ g.maxPools) : ∀ (n k : Nat) (s : St), Inv g s → s.free = [] →
    usage s = min k g.nullSlot → (k < g.nullSlot → Nominal g s ∧ ∀ m, s.failsAt m = false) →
    (allocN g n s).1 = (List.range' k n).map (fun i => if i < g.nullSlot then some i else none)
  | 0, _, _, _, _, _, _ => rfl
  | n + 1, k, s, hI, hf, hk, hlow => by
    obtain ⟨a, b, c, d, e⟩ := alloc_next gok hM hI hf hk hlow
    rw [allocN_succ, a, allocN_from gok hM n (k + 1) _ b c d e]; rfl

/-- `n` allocations on a new pool list return `0, 1, …` up to `nullSlot − 1`, then fail -/
theorem allocN_init {g : Geo} (gok : GeoOK g) (hM : 1 ≤ g.maxPools) (n : Nat) :
    (allocN g n (init g)).1 = (List.range' 0 n).map (fun i => if i < g.nullSlot then some i else none) :=
  allocN_from gok hM n 0 _ (init_inv gok []) rfl (Nat.zero_min _).symm
    (fun _ => ⟨Nominal_of_no_pools rfl, fun _ => rfl⟩)

example : tiny.maxPools = 128 ∧ tiny.nullSlot = 255 := by decide +kernel
example : (allocN tiny 5 (init tiny)).1 = [some 0, some 1, some 2, some 3, some 4] := by decide +kernel
/-- the limit is a clean edge: ids 0..254, then failure; NULL (255) is never handed out -/
example : (allocN tiny 257 (init tiny)).1.drop 253 = [some 253, some 254, none, none] := by
  rw [allocN_init tinyOK (by decide)]; decide +kernel

/-- state after three allocations without failure: two pools, heap-allocated pool table -/
def s3 : St := (allocSlot tiny (allocSlot tiny (allocSlot tiny { init tiny with failAt := [] }).2).2).2
theorem s3_reach : Reach tiny [] none s3 := .alloc (.alloc (.alloc .init))
theorem s3_inv : Inv tiny s3 := reach_inv tinyOK s3_reach

example : s3.pools.length = 2 ∧ s3.tableHeap = true ∧ s3.tableCap = 2 ∧ usage s3 = 3 ∧ liveIds tiny s3 = [0, 1, 2] := by
  decide +kernel

/-- `alloc_fresh` on `s3`: the 4th allocation returns 3 -/
example : 3 < tiny.nullSlot ∧ ¬ live tiny s3 3 ∧
    (∀ x, live tiny (allocSlot tiny s3).2 x ↔ live tiny s3 x ∨ x = 3) ∧ Inv tiny (allocSlot tiny s3).2 := by
  have h1 : (allocSlot tiny s3).1 = some 3 := by decide +kernel
  exact alloc_fresh tinyOK s3_inv (by rw [← h1])

/-- `free_then_alloc` / `usable_again` / `C06.reuse` on `s3`: slot 1 is released and handed out again -/
example : live tiny s3 1 := (mem_liveIds tiny s3 1).1 (by decide +kernel)
example : allocSlot tiny (freeSlot s3 1) = (some 1, s3) := usable_again tiny s3 1
example : (allocSlot tiny (freeSlot s3 1)).2.calls = s3.calls := (C06.reuse (s := freeSlot s3 1) rfl).2.1

/-- `C06.clear_releases_everything` on `s3`: three blocks (two pools and the table) are returned -/
example : blocks s3 = 3 ∧ (clear tiny s3).log = List.replicate 3 "D" ++ s3.log := by
  have h : blocks s3 = 3 := by decide +kernel
  refine ⟨h, ?_⟩
  have := (C06.clear_releases_everything tiny s3).2.2.2.2.1
  unfold blocks at h; rw [h] at this; exact this

/-- failure oracle: the 1st allocator call fails. The operation fails cleanly (`alloc_fail_clean`), leaving a
    block-less pool behind; the next allocation skips it and returns id 2 (pool 1, slot 0). -/
def f1 : St := (allocSlot tiny { init tiny with failAt := [1] }).2
example : (allocSlot tiny { init tiny with failAt := [1] }).1 = none ∧ f1.pools.length = 1 ∧ usage f1 = 0 := by
  decide +kernel
example : (∀ x, live tiny f1 x ↔ live tiny { init tiny with failAt := [1] } x) ∧ Inv tiny f1 := by
  have h1 : (allocSlot tiny { init tiny with failAt := [1] }).1 = none := by decide +kernel
  have := alloc_fail_clean tinyOK (init_inv tinyOK [1]) (s' := f1) (by rw [← h1]; rfl)
  exact ⟨this.1, this.2.2⟩
example : (allocSlot tiny f1).1 = some 2 := by decide +kernel

/-- `usable_after_clear'` on `s3` -/
example : (allocSlot tiny (clear tiny s3)).1 = some 0 :=
  usable_after_clear' tinyOK s3_inv (by decide +kernel) (by decide +kernel)

/-! ### `GeoOK` cannot be weakened -/

/-- `initPools = 0`: the first pool is written into a pool table of size 0 (`len_tab` fails) -/
example : (allocSlot ⟨2, 0, 1, 16, 16⟩ (init ⟨2, 0, 1, 16, 16⟩)).2.pools.length = 1 ∧
    (allocSlot ⟨2, 0, 1, 16, 16⟩ (init ⟨2, 0, 1, 16, 16⟩)).2.tableCap = 0 := by decide +kernel
/-- `poolCap = 0`: the only pool gets 255 slots, more than `poolCap` (`pools_ok` fails) -/
example : (allocSlot ⟨0, 1, 1, 16, 16⟩ (init ⟨0, 1, 1, 16, 16⟩)).2.pools.map (·.cap) = [255] := by decide +kernel

/-! ### FINDING (repaired in /repo by "fix: the last pool handed out NULL_SLOT …"; the model follows the repair)

  Rule of the pinned tree, also after the earlier fix a92331e: the pool that reaches `maxPools` gets
  `poolCap − 1` slots. That keeps ids below NULL only if `poolCap` divides `2^(8·idBytes)`. With
  `ARDUINOJSON_SLOT_ID_SIZE=1`, `ARDUINOJSON_POOL_CAPACITY=10`: `maxPools = 26`, pool 25 covers ids 250..258, so the
  256th allocation returns 255 (= NULL_SLOT) and the following ones 0, 1, 2 (wrapped; they are live slots).
  Observed on the C++ library: 300 × `array.add(i)` → 259 report success, `size() == 255`. -/

def addPoolOld (g : Geo) (s : St) : Bool × St :=
  if s.pools.length ≥ g.maxPools then (false, s) else
  let (ok, s) := if s.pools.length == s.tableCap then increaseCapacity g s else (true, s)
  if !ok then (false, s) else
  let count := s.pools.length + 1
  let cap := if g.wrap count == g.maxPools then g.poolCap - 1 else g.poolCap
  let (got, s) := s.alloc (cap * g.slotSize)
  (true, { s with pools := s.pools ++ [{ cap := if got then cap else 0, usage := 0, hasBlock := got }] })

def allocSlotOld (g : Geo) (s : St) : Option Nat × St :=
  match s.free with
  | id :: rest => (some id, { s with free := rest })
  | [] =>
    let (r, s1) := if s.pools.isEmpty then (none, s) else allocFromLastPool g s
    match r with
    | some id => (some id, s1)
    | none =>
      let (ok, s2) := addPoolOld g s
      if !ok then (none, s2) else allocFromLastPool g s2

def allocNOld (g : Geo) : Nat → St → List (Option Nat) × St
  | 0, s => ([], s)
  | n + 1, s => let (r, s1) := allocSlotOld g s; let (rs, s2) := allocNOld g n s1; (r :: rs, s2)

/-- old rule, 1-byte ids, 10 slots per pool: NULL is handed out, then ids wrap onto live slots -/
theorem old_rule_counterexample :
    (allocNOld ⟨10, 1, 1, 16, 16⟩ 259 (init ⟨10, 1, 1, 16, 16⟩)).1.drop 254 =
      [some 254, some 255, some 0, some 1, some 2] := by decide +kernel

/-- the repaired rule on the same geometry: ids 0..254, then clean failure -/
example : (allocN ⟨10, 1, 1, 16, 16⟩ 259 (init ⟨10, 1, 1, 16, 16⟩)).1.drop 253 =
      [some 253, some 254, none, none, none, none] := by
  rw [allocN_init ⟨by decide, by decide⟩ (by decide)]; decide +kernel
/-- a capacity for which the last pool comes out empty (`255 % 3 = 0`): it is simply useless -/
example : (allocN ⟨3, 1, 1, 16, 16⟩ 257 (init ⟨3, 1, 1, 16, 16⟩)).1.drop 253 =
      [some 253, some 254, none, none] := by
  rw [allocN_init ⟨by decide, by decide⟩ (by decide)]; decide +kernel

end C19.Examples
