/- C11, MessagePack half — "For every input that deserializes successfully without a filter and every filter
   document, deserializing with a filter also succeeds and yields exactly the projection of the unfiltered result
   onto the filter."

   "Every input" is literal: whatever the bytes, the limits (`env`), the nesting limit and the filter, if the
   unfiltered run (`Flt.all` = `AllowAllFilter`) answers `Ok`, so does the filtered run, its document is
   `Spec.Filter.project flt` of the unfiltered one, and it has taken the same number of bytes from the reader.
   The generalisation to any reader state (`msgpack_filter_simulates_parse`) also covers the runs WITHOUT a
   destination (`hasDst = false`, what the deserializer does below a removed member or a refused container):
   they end in the same reader state and build nothing.

   Differences with JSON that the proof goes through: map keys are always read (and limited by `maxStrLen`) even
   when nothing is kept; a key that is not a string is `InvalidInput` in both runs; REPEATED KEYS ARE NOT MERGED
   by the MessagePack deserializer (both members are stored), and the projection is member-wise; bin/ext values
   (stored raw) are scalars for the filter; skipping a string/bin/ext does not check `maxStrLen` (so the filtered
   run can succeed where the unfiltered one answers `NoMemory`: the hypothesis is needed).
   Helper lemmas: AJ/Lemmas/MpProject.lean (one-step equations), MpProjectSim.lean (the simulation),
   MpProjectNum.lean (number post-processing commutes with the projection), MpProjectEq.lean (boolean document
   equality for the examples). -/
import AJ.Lemmas.MpProjectSim
import AJ.Lemmas.MpProjectNum
import AJ.Lemmas.MpProjectEq
import AJ.Props.C11
namespace C11
open JD Spec.Filter

/-! ## The simulation from an arbitrary reader state -/

/-- **Any reader state, any fuel**: if the unfiltered `parseVariant` returns `Ok` with value `v` and reader `r1`,
    then under EVERY filter the filtered `parseVariant` with a destination returns `Ok`, `project flt v` and the
    same reader `r1`; and without a destination it returns `Ok`, the same reader `r1`, and produces nothing. -/
theorem msgpack_filter_simulates_parse (env : MD.Env) (fuel L : Nat) (r : MD.R) (v : Val) (r1 : MD.R) (fnd : Bool)
    (h : MD.parseVariant env fuel L .all true r = (.ok, v, r1, fnd)) :
    fnd = true ∧
    (∀ flt, MD.parseVariant env fuel L flt true r = (.ok, project flt v, r1, true)) ∧
    (∀ flt, MD.parseVariant env fuel L flt false r = (.ok, .null, r1, true)) := by
  obtain ⟨hf, hall⟩ := (MD.sim_all_mp env fuel).1 L r v r1 fnd h
  exact ⟨hf, fun flt => hall flt true, fun flt => hall flt false⟩

/-- the same for the element loop: the unfiltered loop appends `xs` to its accumulator; under the element filter
    `ef` the loop with a destination array appends `projectElems ef xs` (elements removed when `ef` is not
    true-ish, projected otherwise), the loop without one appends nothing; same reader state in all three. -/
theorem msgpack_readArray_simulates (env : MD.Env) (fuel L n : Nat) (r : MD.R) (acc vs : List Val) (r1 : MD.R)
    (h : MD.readArray env fuel L .all true n r acc = (.ok, vs, r1)) :
    ∃ xs, vs = acc.reverse ++ xs ∧
      (∀ ef acc', MD.readArray env fuel L ef true n r acc' = (.ok, acc'.reverse ++ projectElems ef xs, r1)) ∧
      (∀ ef acc', MD.readArray env fuel L ef false n r acc' = (.ok, acc'.reverse, r1)) := by
  obtain ⟨xs, hxs, hall⟩ := (MD.sim_all_mp env fuel).2.1 L n r acc vs r1 h
  refine ⟨xs, hxs, fun ef acc' => hall ef true acc', fun ef acc' => ?_⟩
  rw [hall ef false acc', if_neg Bool.false_ne_true, List.append_nil]

/-- the same for the member loop: keys are read in all three runs; the members appended under the object filter
    `flt` are `projectMembers flt xs`, member by member (repeated keys included, nothing is merged). -/
theorem msgpack_readObject_simulates (env : MD.Env) (fuel L n : Nat) (r : MD.R) (ms out : List (List Byte × Val))
    (r1 : MD.R) (h : MD.readObject env fuel L .all true n r ms = (.ok, out, r1)) :
    ∃ xs, out = ms ++ xs ∧
      (∀ flt ms', MD.readObject env fuel L flt true n r ms' = (.ok, ms' ++ projectMembers flt xs, r1)) ∧
      (∀ flt ms', MD.readObject env fuel L flt false n r ms' = (.ok, ms', r1)) := by
  obtain ⟨xs, hxs, hall⟩ := (MD.sim_all_mp env fuel).2.2 L n r ms out r1 h
  refine ⟨xs, hxs, fun flt ms' => hall flt true ms', fun flt ms' => ?_⟩
  rw [hall flt false ms', if_neg Bool.false_ne_true, List.append_nil]

/-! ## The main theorem -/

/-- **C11, MessagePack, every input.** -/
theorem msgpack_projection_all_inputs (env : MD.Env) (L : Nat) (flt : Flt) (input : List Byte)
    (h : (MD.run env L .all input).1 = .ok) :
    MD.run env L flt input =
      (.ok, project flt (MD.run env L .all input).2.1, (MD.run env L .all input).2.2) := by
  unfold MD.run at h ⊢
  generalize hpv : MD.parseVariant env (2 * input.length + 4) L .all true { unread := input } = pv at h ⊢
  obtain ⟨e, v, r1, fnd⟩ := pv
  simp only [] at h ⊢
  cases fnd with
  | false => cases h
  | true =>
    simp only [if_true] at h
    subst h
    rw [(msgpack_filter_simulates_parse env _ L _ v r1 true hpv).2.1 flt]
    rfl

/-- the same, from the unfiltered result written out -/
theorem msgpack_projection_of_run {env : MD.Env} {L : Nat} {input : List Byte} {u : Val} {n : Nat}
    (hu : MD.run env L .all input = (.ok, u, n)) (flt : Flt) : MD.run env L flt input = (.ok, project flt u, n) := by
  rw [msgpack_projection_all_inputs env L flt input (by rw [hu]), hu]

/-- the three components separately -/
theorem msgpack_projection_components (env : MD.Env) (L : Nat) (flt : Flt) (input : List Byte)
    (h : (MD.run env L .all input).1 = .ok) :
    (MD.run env L flt input).1 = .ok ∧
    (MD.run env L flt input).2.1 = project flt (MD.run env L .all input).2.1 ∧
    (MD.run env L flt input).2.2 = (MD.run env L .all input).2.2 := by
  rw [msgpack_projection_all_inputs env L flt input h]
  exact ⟨rfl, rfl, rfl⟩

/-- the unfiltered run may as well be the run under `Filter(true)` (or any transparent filter) -/
theorem msgpack_projection_wrt_true (env : MD.Env) (L : Nat) (t : Flt) (ht : Transparent t) (flt : Flt)
    (input : List Byte) (h : (MD.run env L t input).1 = .ok) :
    MD.run env L flt input = (.ok, project flt (MD.run env L t input).2.1, (MD.run env L t input).2.2) := by
  rw [msgpack_transparent_identity env L t input ht] at h ⊢
  exact msgpack_projection_all_inputs env L flt input h

/-! ## Configurations that post-process numbers

The model stores every number as read. ARDUINOJSON_USE_DOUBLE=0 narrows stored doubles (`MD.narrowDoubles`), and an
integer outside the configured integer type is stored as `null` (`MD.clampInt`, defined with the lemmas: the model
has no integer-range parameter). Both rewrite number leaves into scalars, hence commute with the projection. -/

/-- ARDUINOJSON_USE_DOUBLE=0: the filtered document of that configuration is the projection of its unfiltered
    document -/
theorem msgpack_projection_narrowDoubles (env : MD.Env) (L : Nat) (flt : Flt) (input : List Byte)
    (h : (MD.run env L .all input).1 = .ok) :
    MD.narrowDoubles (MD.run env L flt input).2.1 = project flt (MD.narrowDoubles (MD.run env L .all input).2.1) := by
  rw [(msgpack_projection_components env L flt input h).2.1, MD.project_narrowDoubles]

/-- any leaf-wise rewriting of numbers into scalars (`null` for an integer out of range, ...) -/
theorem msgpack_projection_mapNums (env : MD.Env) (L : Nat) (flt : Flt) (input : List Byte) (g : Num → Val)
    (hg : MD.ScalarMap g) (h : (MD.run env L .all input).1 = .ok) :
    MD.mapNums g (MD.run env L flt input).2.1 = project flt (MD.mapNums g (MD.run env L .all input).2.1) := by
  rw [(msgpack_projection_components env L flt input h).2.1, MD.project_mapNums hg]

theorem msgpack_projection_intRange (env : MD.Env) (L : Nat) (flt : Flt) (input : List Byte) (lo hi : Int)
    (h : (MD.run env L .all input).1 = .ok) :
    MD.mapNums (MD.clampInt lo hi) (MD.run env L flt input).2.1 =
      project flt (MD.mapNums (MD.clampInt lo hi) (MD.run env L .all input).2.1) :=
  msgpack_projection_mapNums env L flt input _ (MD.clampInt_scalar lo hi) h

/-! ## The clauses of the property text, end to end on the MessagePack deserializer -/

/-- a member of `ms` whose filter entry is true-ish is in the projection, filtered by that entry -/
theorem mem_projectMembers (f : Flt) (ms : List (List Byte × Val)) (k : List Byte) (x : Val)
    (hm : (k, x) ∈ ms) (ha : (f.subKey k).allow = true) : (k, project (f.subKey k) x) ∈ projectMembers f ms := by
  induction ms with
  | nil => cases hm
  | cons kv ms ih =>
    obtain ⟨k', x'⟩ := kv
    rcases List.mem_cons.1 hm with e | hm'
    · cases e
      simp only [projectMembers, ha, if_true, List.mem_cons, true_or]
    · cases ha' : (f.subKey k').allow
      · simp only [projectMembers, ha', Bool.false_eq_true, if_false]; exact ih hm'
      · simp only [projectMembers, ha', if_true]; exact List.mem_cons_of_mem _ (ih hm')

/-- "true keeps a value entirely" (`AllowAllFilter`, `true`, `1`, `1.0`): `msgpack_transparent_identity`,
    `msgpack_true_identity` in C11.lean, on every input, malformed ones included. -/
theorem msgpack_true_keeps (env : MD.Env) (L : Nat) (input : List Byte) (v : Val) (hv : isTrueVal v = true) :
    MD.run env L (.doc (some v)) input = MD.run env L .all input := msgpack_true_identity env L input v hv

/-- "a null or false entry removes the member": a key whose entry (own, else `"*"`) is not true-ish does not
    occur in the filtered map — EVERY occurrence of a repeated key is removed. -/
theorem msgpack_member_removed (env : MD.Env) (L : Nat) (f : Flt) (input : List Byte)
    (h : (MD.run env L .all input).1 = .ok) (ms : List (List Byte × Val))
    (hu : (MD.run env L .all input).2.1 = .obj ms) (hO : f.allowObject = true)
    (k : List Byte) (hk : (f.subKey k).allow = false) :
    ∃ ms', MD.run env L f input = (.ok, .obj ms', (MD.run env L .all input).2.2) ∧ ∀ x, (k, x) ∉ ms' := by
  refine ⟨projectMembers f ms, ?_, null_or_false_removes f ms k hk⟩
  rw [msgpack_projection_all_inputs env L f input h, hu]
  simp only [project, hO, if_true]

/-- an entry `false` removes the member whatever `"*"` says (`subKey_false`); instance on the deserializer -/
theorem msgpack_false_entry_removes (env : MD.Env) (L : Nat) (fm : List (List Byte × Val)) (input : List Byte)
    (h : (MD.run env L .all input).1 = .ok) (ms : List (List Byte × Val))
    (hu : (MD.run env L .all input).2.1 = .obj ms)
    (k : List Byte) (e : Val) (he : lookupKey fm k = some e) (hn : isNullOpt (some e) = false)
    (ht : truthy e = false) :
    ∃ ms', MD.run env L (.doc (some (.obj fm))) input = (.ok, .obj ms', (MD.run env L .all input).2.2) ∧
      ∀ x, (k, x) ∉ ms' :=
  msgpack_member_removed env L _ input h ms hu rfl k (subKey_false fm k e he hn ht)

/-- an absent entry and no `"*"` entry: the member is removed -/
theorem msgpack_absent_entry_removes (env : MD.Env) (L : Nat) (fm : List (List Byte × Val)) (input : List Byte)
    (h : (MD.run env L .all input).1 = .ok) (ms : List (List Byte × Val))
    (hu : (MD.run env L .all input).2.1 = .obj ms)
    (k : List Byte) (he : lookupKey fm k = none) (hs : lookupKey fm [0x2A] = none) :
    ∃ ms', MD.run env L (.doc (some (.obj fm))) input = (.ok, .obj ms', (MD.run env L .all input).2.2) ∧
      ∀ x, (k, x) ∉ ms' :=
  msgpack_member_removed env L _ input h ms hu rfl k (by rw [star_is_wildcard fm k he, hs]; rfl)

/-- `"*"` stands for any key without an entry of its own: such a member of the unfiltered map is kept when the
    `"*"` entry `e` is true-ish, filtered by `e` -/
theorem msgpack_star_wildcard (env : MD.Env) (L : Nat) (fm : List (List Byte × Val)) (input : List Byte)
    (h : (MD.run env L .all input).1 = .ok) (ms : List (List Byte × Val))
    (hu : (MD.run env L .all input).2.1 = .obj ms)
    (k : List Byte) (x e : Val) (hm : (k, x) ∈ ms) (he : lookupKey fm k = none)
    (hs : lookupKey fm [0x2A] = some e) (ht : truthy e = true) :
    ∃ ms', MD.run env L (.doc (some (.obj fm))) input = (.ok, .obj ms', (MD.run env L .all input).2.2) ∧
      (k, project (.doc (some e)) x) ∈ ms' := by
  refine ⟨projectMembers (.doc (some (.obj fm))) ms, ?_, ?_⟩
  · rw [msgpack_projection_all_inputs env L _ input h, hu]
    have hO : (Flt.doc (some (.obj fm))).allowObject = true := rfl
    simp only [project, hO, if_true]
  · have hk : (Flt.doc (some (.obj fm))).subKey k = .doc (some e) := by rw [star_is_wildcard fm k he, hs]
    have := mem_projectMembers (.doc (some (.obj fm))) ms k x hm (by rw [hk]; exact ht)
    rwa [hk] at this

/-- an object filter, member by member (the `filterMap` presentation, `object_filter`) -/
theorem msgpack_object_filter (env : MD.Env) (L : Nat) (fm : List (List Byte × Val)) (input : List Byte)
    (h : (MD.run env L .all input).1 = .ok) (ms : List (List Byte × Val))
    (hu : (MD.run env L .all input).2.1 = .obj ms) :
    (MD.run env L (.doc (some (.obj fm))) input).2.1 =
      .obj (ms.filterMap (fun kv =>
        let e := if isNullOpt (lookupKey fm kv.1) then lookupKey fm [0x2A] else lookupKey fm kv.1
        if (Flt.doc e).allow then some (kv.1, project (.doc e) kv.2) else none)) := by
  rw [(msgpack_projection_components env L _ input h).2.1, hu, object_filter]

/-- "an array filter applies its first element to every element" -/
theorem msgpack_array_filter (env : MD.Env) (L : Nat) (e : Val) (rest : List Val) (input : List Byte)
    (h : (MD.run env L .all input).1 = .ok) (xs : List Val) (hu : (MD.run env L .all input).2.1 = .arr xs) :
    MD.run env L (.doc (some (.arr (e :: rest)))) input =
      (.ok, .arr (if truthy e then xs.map (project (.doc (some e))) else []), (MD.run env L .all input).2.2) := by
  rw [msgpack_projection_all_inputs env L _ input h, hu, array_filter_first_element]

/-- the empty array filter keeps the array and removes every element -/
theorem msgpack_array_filter_empty (env : MD.Env) (L : Nat) (input : List Byte)
    (h : (MD.run env L .all input).1 = .ok) (xs : List Val) (hu : (MD.run env L .all input).2.1 = .arr xs) :
    MD.run env L (.doc (some (.arr []))) input = (.ok, .arr [], (MD.run env L .all input).2.2) := by
  rw [msgpack_projection_all_inputs env L _ input h, hu, array_filter_empty]

theorem isArr_shape (v : Val) (h : v.isArr = true) : ∃ xs, v = .arr xs := by
  cases v <;> first | exact ⟨_, rfl⟩ | exact Bool.noConfusion h
theorem isObj_shape (v : Val) (h : v.isObj = true) : ∃ ms, v = .obj ms := by
  cases v <;> first | exact ⟨_, rfl⟩ | exact Bool.noConfusion h

/-- "a kept value whose kind the filter does not admit becomes null": an array under a filter that refuses
    arrays, a map under a filter that refuses maps, anything else (numbers, booleans, strings, and bin/ext values,
    which are stored raw) under a filter that is not `true` — with all the bytes of the value consumed. -/
theorem msgpack_kind_not_admitted (env : MD.Env) (L : Nat) (f : Flt) (input : List Byte)
    (h : (MD.run env L .all input).1 = .ok) :
    let u := (MD.run env L .all input).2.1
    (u.isArr = true → f.allowArray = false → MD.run env L f input = (.ok, .null, (MD.run env L .all input).2.2)) ∧
    (u.isObj = true → f.allowObject = false → MD.run env L f input = (.ok, .null, (MD.run env L .all input).2.2)) ∧
    (u.isArr = false → u.isObj = false → f.allowValue = false →
      MD.run env L f input = (.ok, .null, (MD.run env L .all input).2.2)) := by
  intro u
  have hp := msgpack_projection_all_inputs env L f input h
  refine ⟨fun h1 h2 => ?_, fun h1 h2 => ?_, fun h1 h2 h3 => ?_⟩
  · rw [hp]
    obtain ⟨xs, hx⟩ : ∃ xs, (MD.run env L .all input).2.1 = .arr xs := isArr_shape _ h1
    rw [hx, (kind_not_accepted f).1 xs h2]
  · rw [hp]
    obtain ⟨ms, hx⟩ : ∃ ms, (MD.run env L .all input).2.1 = .obj ms := isObj_shape _ h1
    rw [hx, (kind_not_accepted f).2.1 ms h2]
  · rw [hp, (kind_not_accepted f).2.2 _ h1 h2 h3]

/-- bin/ext values: stored raw by the unfiltered run, `null` under any filter other than `true` -/
theorem msgpack_raw_under_container_filter (env : MD.Env) (L : Nat) (f : Flt) (input : List Byte) (s : List Byte)
    (h : (MD.run env L .all input).1 = .ok) (hu : (MD.run env L .all input).2.1 = .raw s) :
    MD.run env L f input = (.ok, (if f.allowValue then .raw s else .null), (MD.run env L .all input).2.2) := by
  rw [msgpack_projection_all_inputs env L f input h, hu]
  simp only [project]

end C11

/-! ## Non-vacuity: explicit bytes, filters, and both sides evaluated by the kernel -/
namespace C11.MpExamples
open JD Spec.Filter

/-- `{"k":1,"k":2}` — a REPEATED key: `82 A1 6B 01 A1 6B 02` -/
def mRep : List Byte := [0x82, 0xA1, 0x6B, 0x01, 0xA1, 0x6B, 0x02]
/-- `[{"k":1},{"a":2,"k":true}]`: `92 81 A1 6B 01 82 A1 61 02 A1 6B C3` -/
def mArr : List Byte := [0x92, 0x81, 0xA1, 0x6B, 0x01, 0x82, 0xA1, 0x61, 0x02, 0xA1, 0x6B, 0xC3]
/-- `{"b":bin(DE AD),"e":fixext1(type 5, 07)}`: `82 A1 62 C4 02 DE AD A1 65 D4 05 07` -/
def mBin : List Byte := [0x82, 0xA1, 0x62, 0xC4, 0x02, 0xDE, 0xAD, 0xA1, 0x65, 0xD4, 0x05, 0x07]

/-- `{"k":true}` -/
def fK : Flt := .doc (some (.obj [([0x6B], .bool true)]))
/-- `[{"k":true}]` -/
def fAK : Flt := .doc (some (.arr [.obj [([0x6B], .bool true)]]))
/-- `{"k":false,"*":true}` -/
def fNotK : Flt := .doc (some (.obj [([0x6B], .bool false), ([0x2A], .bool true)]))
/-- `{"*":true}` -/
def fStar : Flt := .doc (some (.obj [([0x2A], .bool true)]))

/-! ### the unfiltered runs -/
/-- both members of the repeated key are stored (the MessagePack deserializer does not merge) -/
theorem run_mRep : MD.run {} 10 .all mRep = (.ok, .obj [([0x6B], .num (.sint 1)), ([0x6B], .num (.sint 2))], 7) :=
  result_eq (by decide +kernel)
theorem run_mArr : MD.run {} 10 .all mArr =
    (.ok, .arr [.obj [([0x6B], .num (.sint 1))], .obj [([0x61], .num (.sint 2)), ([0x6B], .bool true)]], 12) :=
  result_eq (by decide +kernel)
theorem run_mBin : MD.run {} 10 .all mBin =
    (.ok, .obj [([0x62], .raw [0xC4, 0x02, 0xDE, 0xAD]), ([0x65], .raw [0xD4, 0x05, 0x07])], 12) :=
  result_eq (by decide +kernel)

/-! ### the main theorem instantiated, and the same results by evaluation of the filtered model -/

-- repeated key under `{"k":true}`: both occurrences kept
example : MD.run {} 10 fK mRep = (.ok, .obj [([0x6B], .num (.sint 1)), ([0x6B], .num (.sint 2))], 7) := by
  rw [msgpack_projection_of_run run_mRep fK]; rfl
example : MD.run {} 10 fK mRep = (.ok, .obj [([0x6B], .num (.sint 1)), ([0x6B], .num (.sint 2))], 7) :=
  result_eq (by decide +kernel)
-- repeated key under `{"k":false,"*":true}`: both occurrences removed, 7 bytes taken
example : MD.run {} 10 fNotK mRep = (.ok, .obj [], 7) := by
  rw [msgpack_projection_of_run run_mRep fNotK]; rfl
example : MD.run {} 10 fNotK mRep = (.ok, .obj [], 7) := result_eq (by decide +kernel)
example : ∃ ms', MD.run {} 10 fNotK mRep = (.ok, .obj ms', (MD.run {} 10 .all mRep).2.2) ∧ ∀ x, ([0x6B], x) ∉ ms' :=
  msgpack_false_entry_removes {} 10 _ mRep (by rw [run_mRep]) _ (by rw [run_mRep]) [0x6B] (.bool false) rfl rfl rfl
-- `{"*":true}`: the wildcard keeps the key `k`
example : ∃ ms', MD.run {} 10 fStar mRep = (.ok, .obj ms', (MD.run {} 10 .all mRep).2.2) ∧
    ([0x6B], project (.doc (some (.bool true))) (.num (.sint 2))) ∈ ms' :=
  msgpack_star_wildcard {} 10 _ mRep (by rw [run_mRep]) _ (by rw [run_mRep]) [0x6B] (.num (.sint 2)) (.bool true)
    (.tail _ (.head _)) rfl rfl rfl
example : MD.run {} 10 fStar mRep = (.ok, .obj [([0x6B], .num (.sint 1)), ([0x6B], .num (.sint 2))], 7) :=
  result_eq (by decide +kernel)

-- nested array of maps under `[{"k":true}]`: the member `a` of the second map is removed
example : MD.run {} 10 fAK mArr = (.ok, .arr [.obj [([0x6B], .num (.sint 1))], .obj [([0x6B], .bool true)]], 12) := by
  rw [msgpack_projection_of_run run_mArr fAK]; rfl
example : MD.run {} 10 fAK mArr = (.ok, .arr [.obj [([0x6B], .num (.sint 1))], .obj [([0x6B], .bool true)]], 12) :=
  result_eq (by decide +kernel)
-- the array clause: `[{"k":true}]` applies `{"k":true}` to every element
example : MD.run {} 10 fAK mArr =
    (.ok, .arr (if truthy (.obj [([0x6B], .bool true)]) then
        [.obj [([0x6B], .num (.sint 1))], .obj [([0x61], .num (.sint 2)), ([0x6B], .bool true)]].map (project fK)
      else []), (MD.run {} 10 .all mArr).2.2) :=
  msgpack_array_filter {} 10 _ [] mArr (by rw [run_mArr]) _ (by rw [run_mArr])
-- `[]` and `[false]` remove every element, `[true]` keeps them
example : MD.run {} 10 (.doc (some (.arr []))) mArr = (.ok, .arr [], 12) := result_eq (by decide +kernel)
example : MD.run {} 10 (.doc (some (.arr [.bool false]))) mArr = (.ok, .arr [], 12) := result_eq (by decide +kernel)
example : MD.run {} 10 (.doc (some (.arr [.bool true]))) mArr = MD.run {} 10 .all mArr := by
  rw [msgpack_projection_of_run run_mArr _, run_mArr]; rfl

-- a filter whose shape disagrees with the input: the object filter `{"k":true}` over an array gives `null`,
-- all 12 bytes consumed
example : MD.run {} 10 fK mArr = (.ok, .null, 12) := by
  rw [msgpack_projection_of_run run_mArr fK]; rfl
example : MD.run {} 10 fK mArr = (.ok, .null, 12) := result_eq (by decide +kernel)
example : MD.run {} 10 fK mArr = (.ok, .null, (MD.run {} 10 .all mArr).2.2) :=
  (msgpack_kind_not_admitted {} 10 fK mArr (by rw [run_mArr])).1 (by rw [run_mArr]; rfl) rfl
-- and an array filter over a map
example : MD.run {} 10 fAK mRep = (.ok, .null, 7) := result_eq (by decide +kernel)

-- bin / ext values: kept raw under `true`, `null` under an object or an array filter
example : MD.run {} 10 (.doc (some (.obj [([0x62], .bool true)]))) mBin =
    (.ok, .obj [([0x62], .raw [0xC4, 0x02, 0xDE, 0xAD])], 12) := by
  rw [msgpack_projection_of_run run_mBin _]; rfl
example : MD.run {} 10 (.doc (some (.obj [([0x62], .obj [([0x78], .bool true)]), ([0x65], .arr [.bool true])]))) mBin =
    (.ok, .obj [([0x62], .null), ([0x65], .null)], 12) := by
  rw [msgpack_projection_of_run run_mBin _]; rfl
example : MD.run {} 10 (.doc (some (.obj [([0x62], .obj [([0x78], .bool true)]), ([0x65], .arr [.bool true])]))) mBin =
    (.ok, .obj [([0x62], .null), ([0x65], .null)], 12) := result_eq (by decide +kernel)
-- a bin document at top level under `[true]`
example : MD.run {} 10 (.doc (some (.arr [.bool true]))) [0xC4, 0x01, 0xFF] = (.ok, .null, 3) := by
  have hu : MD.run {} 10 .all [0xC4, 0x01, 0xFF] = (.ok, .raw [0xC4, 0x01, 0xFF], 3) := result_eq (by decide +kernel)
  rw [msgpack_raw_under_container_filter {} 10 _ _ [0xC4, 0x01, 0xFF] (by rw [hu]) (by rw [hu]), hu]; rfl

/-! ### the simulation from a reader state in the middle of an input -/

/-- the second element of `mArr`, read from position 5 with 2 trailing bytes: the three runs (unfiltered, filtered
    with a destination, filtered without) stop at position 12 with the same 2 bytes unread -/
def rMid : MD.R := { unread := mArr.drop 5 ++ [0xC0, 0xC1], pos := 5 }
theorem mid_unfiltered : MD.parseVariant {} 6 9 .all true rMid =
    (.ok, .obj [([0x61], .num (.sint 2)), ([0x6B], .bool true)], { unread := [0xC0, 0xC1], pos := 12 }, true) := by
  have h : ∀ o : MD.VOut, (decide (o.1 = .ok) &&
      Val.eqb o.2.1 (.obj [([0x61], .num (.sint 2)), ([0x6B], .bool true)]) &&
      decide (o.2.2.1.unread = [0xC0, 0xC1]) && decide (o.2.2.1.pos = 12) && o.2.2.2) = true →
      o = (.ok, .obj [([0x61], .num (.sint 2)), ([0x6B], .bool true)], { unread := [0xC0, 0xC1], pos := 12 }, true) := by
    rintro ⟨e, v, ⟨u, p⟩, f⟩ h
    simp only [Bool.and_eq_true, decide_eq_true_eq] at h
    obtain ⟨⟨⟨⟨h1, h2⟩, h3⟩, h4⟩, h5⟩ := h
    rw [h1, Val.eqb_sound _ _ h2, h3, h4, h5]
  exact h _ (by decide +kernel)
example : MD.parseVariant {} 6 9 fK true rMid =
    (.ok, .obj [([0x6B], .bool true)], { unread := [0xC0, 0xC1], pos := 12 }, true) :=
  (msgpack_filter_simulates_parse {} 6 9 rMid _ _ _ mid_unfiltered).2.1 fK
example : MD.parseVariant {} 6 9 fK false rMid = (.ok, .null, { unread := [0xC0, 0xC1], pos := 12 }, true) :=
  (msgpack_filter_simulates_parse {} 6 9 rMid _ _ _ mid_unfiltered).2.2 fK
-- by evaluation
example : (MD.parseVariant {} 6 9 fK false rMid).1 = .ok ∧ (MD.parseVariant {} 6 9 fK false rMid).2.2.1.pos = 12 ∧
    (MD.parseVariant {} 6 9 fK false rMid).2.2.1.unread = [0xC0, 0xC1] ∧
    Val.eqb (MD.parseVariant {} 6 9 fK true rMid).2.1 (.obj [([0x6B], .bool true)]) = true := by decide +kernel

/-! ### the hypothesis is needed, and what the filter does not spare -/

/-- skipping does not check `maxStrLen`: with `maxStrLen = 1` the string `"ab"` is `NoMemory` unfiltered and `Ok`
    under the filter `false` -/
example : (MD.run { maxStrLen := 1 } 10 .all [0xA2, 0x61, 0x62]).1 = .noMemory ∧
    (MD.run { maxStrLen := 1 } 10 (.doc (some (.bool false))) [0xA2, 0x61, 0x62]).1 = .ok := by decide +kernel
/-- but keys are always read and limited, and must be strings, whatever the filter: `{"ab":nil}` with
    `maxStrLen = 1` is `NoMemory`, `{1:nil}` is `InvalidInput`, under the filter `false` too -/
example : (MD.run { maxStrLen := 1 } 10 (.doc (some (.bool false))) [0x81, 0xA2, 0x61, 0x62, 0xC0]).1 = .noMemory ∧
    (MD.run {} 10 (.doc (some (.bool false))) [0x81, 0x01, 0xC0]).1 = .invalid ∧
    (MD.run {} 10 .all [0x81, 0x01, 0xC0]).1 = .invalid := by decide +kernel
/-- the nesting limit applies to containers that are skipped -/
example : (MD.run {} 0 (.doc (some (.bool false))) [0x90]).1 = .tooDeep := by decide +kernel

/-! ### number post-processing commutes -/
/-- `[1.5 (float64), 300]` under `[true]`, ARDUINOJSON_USE_DOUBLE=0 and an 8-bit integer type -/
def mNum : List Byte := [0x92, 0xCB, 0x3F, 0xF8, 0, 0, 0, 0, 0, 1, 0xCD, 0x01, 0x2C]
theorem run_mNum : MD.run {} 10 .all mNum = (.ok, .arr [.num (.f64 0x3FF8000000000001), .num (.uint 300)], 13) :=
  result_eq (by decide +kernel)
example : MD.narrowDoubles (MD.run {} 10 (.doc (some (.arr [.bool true]))) mNum).2.1 =
    project (.doc (some (.arr [.bool true]))) (MD.narrowDoubles (MD.run {} 10 .all mNum).2.1) :=
  msgpack_projection_narrowDoubles {} 10 _ mNum (by rw [run_mNum])
example : MD.mapNums (MD.clampInt (-128) 127) (MD.run {} 10 .all mNum).2.1 =
    .arr [.num (.f64 0x3FF8000000000001), .null] := by rw [run_mNum]; rfl

end C11.MpExamples
