/- MORE SLOT-LEVEL COROLLARIES: the filtered slot-level deserializers for C15, C16, C09, C03; the bounded buffer for
   MessagePack output (C08).

   `JDDF.run cfg L flt d input` / `MDDF.run env L flt d input` (AJ/Model/JDDF.lean, MDDF.lean) are the FILTERED slot-level
   deserializers (`deserializeJson/deserializeMsgPack(doc, input, Filter(f), NestingLimit)` writing into `DL.Doc`). They refine
   the value-level filtered runs `JD.frun cfg L flt input` / `MD.run env L flt input`: `C11.filtered_slot_level_refines`,
   `C11.filtered_ok_refines` (AJ/Props/C11Doc.lean), `C11.filtered_mp_slot_level_refines`, `C11.filtered_mp_ok_refines`
   (AJ/Props/C11MpDoc.lean). As in AJ/Props/SlotCor.lean each theorem here obtains the value-level fact and rewrites with the
   refinement; hypotheses of the value-level theorems are kept verbatim; slot-level hypotheses: `PL.GeoOK d.g`,
   `PL.Inv d.g d.pl`, `31 ≤ cfg.maxStrLen` (JSON only), and — where the statement is about a run without allocation failure —
   `(run …).2.1.overflowed = false`. Statements about codes and consumption come in the two-clause form of the refinement
   theorems: clause 1 under `overflowed = false`; clause 2 unconditional, with the alternative `NoMemory ∧ overflowed = true`.

   * C15: `filtered_ok_depth_slot_level`, `mp_ok_depth_slot_level`, `filtered_mp_ok_depth_slot_level`,
     `toodeep_at_limit_ws_slot_level`, `toodeep_at_limit_slot_level`, `filtered_toodeep_ws_slot_level`,
     `filtered_toodeep_slot_level`, `msgpack_toodeep_at_limit_slot_level`, `filtered_msgpack_toodeep_at_limit_slot_level`.
   * C16: `filtered_consumption_slot_level`, `filtered_mp_consumption_slot_level`, `filtered_exact_consumption_slot_level`,
     `filtered_msgpack_exact_consumption_slot_level`.
   * C09: `filtered_enc_accepts_slot_level`, `filtered_roundtrip_slot_level`.
   * C03: `filtered_run_within_input_slot_level`, `filtered_mp_run_within_input_slot_level` (UNCONDITIONAL: every input, filter,
     document and allocator schedule; by induction over the filtered routines, AJ/Lemmas/FiltPos.lean, FiltPosMp.lean) and the
     four-deserializer summary `slot_level_runs_within_input`.
   * C08: `mp_buffer_count`, `mp_buffer_prefix`, `mp_buffer_no_nul`, `mp_buffer_within`, `mp_buffer_content`,
     `mp_buffer_untouched`, `mp_buffer_exact_fit`, `mp_buffer_truncated`.
   Not stated: `measure_is_length` (C02, C08) — the models have no `measure` function (`measureJson`/`measureMsgPack` run the same
   serializer into a counting writer; the models identify them with the length of `JSer.compact`/`JSer.pretty`/`MD.ser`). -/
import AJ.Props.SlotCor
import AJ.Props.C11Doc
import AJ.Props.C11MpDoc
import AJ.Props.C06Mem
import AJ.Props.C08
import AJ.Props.C02
import AJ.Props.C03
import AJ.Lemmas.FiltPos
import AJ.Lemmas.FiltPosMp
set_option linter.unusedSimpArgs false
set_option linter.unusedVariables false

/-! ## the transfer step shared by the code/consumption statements -/
namespace SlotCor2
open JD (Code)

/-- from the unconditional clause of a refinement theorem and the value-level code and consumption: the two clauses -/
theorem transfer {c1 c0 c : Code} {n1 n0 n : Nat} {ov : Bool}
    (h : (c1 = c0 ∧ n1 = n0) ∨ (c1 = .noMemory ∧ ov = true)) (hv : c0 = c ∧ n0 = n) :
    (ov = false → c1 = c ∧ n1 = n) ∧ ((c1 = c ∧ n1 = n) ∨ (c1 = .noMemory ∧ ov = true)) := by
  rcases h with ⟨a, b⟩ | ⟨a, b⟩
  · exact ⟨fun _ => ⟨a.trans hv.1, b.trans hv.2⟩, Or.inl ⟨a.trans hv.1, b.trans hv.2⟩⟩
  · exact ⟨fun h => (by rw [b] at h; cases h), Or.inr ⟨a, b⟩⟩

/-- the same with the value read back, when the value-level result is known through a projection theorem -/
theorem transfer_value {R : Code × DL.Doc × Nat} {r : Code × JD.Val × Nat} {c : Code} {v : JD.Val} {n : Nat}
    (h1 : R.2.1.overflowed = false → R.1 = r.1 ∧ R.2.2 = r.2.2 ∧ R.2.1.toVal R.2.1.root = r.2.1)
    (h2 : (R.1 = r.1 ∧ R.2.2 = r.2.2) ∨ (R.1 = .noMemory ∧ R.2.1.overflowed = true)) (hr : r = (c, v, n)) :
    (R.2.1.overflowed = false → R.1 = c ∧ R.2.2 = n ∧ R.2.1.toVal R.2.1.root = v) ∧
    ((R.1 = c ∧ R.2.2 = n) ∨ (R.1 = .noMemory ∧ R.2.1.overflowed = true)) := by
  subst hr; exact ⟨h1, h2⟩

end SlotCor2

/-! ## C15 — the nesting limit, filtered runs and MessagePack -/
namespace C15
open DL
open JD (Byte Val Cfg Code Flt)

/-- **C15, slot level, JSON with a filter** (from `C15.json_filtered_ok_depth`). A document obtained with `Ok` from the
    filtered slot-level run nests at most `L` deep — whatever the filter and whatever the allocator does (`Ok` is not answered
    after a failure). Both depth functions of the development (`C15.depth`, `C09.depth`) are given. -/
theorem filtered_ok_depth_slot_level (cfg : Cfg) (h31 : 31 ≤ cfg.maxStrLen) (L : Nat) (flt : Flt) (input : List Byte)
    (d : Doc) (gok : PL.GeoOK d.g) (hp : PL.Inv d.g d.pl) (hok : (JDDF.run cfg L flt d input).1 = .ok) :
    C15.depth ((JDDF.run cfg L flt d input).2.1.toVal (JDDF.run cfg L flt d input).2.1.root) ≤ L ∧
    C09.depth ((JDDF.run cfg L flt d input).2.1.toVal (JDDF.run cfg L flt d input).2.1.root) ≤ L := by
  obtain ⟨a, _, c⟩ := C11.filtered_ok_refines cfg L flt d input gok hp h31 hok
  rw [CrossFormat.depth09_eq, c]
  exact ⟨json_filtered_ok_depth cfg L flt input a, json_filtered_ok_depth cfg L flt input a⟩

/-- **C15, slot level, MessagePack** (from `C15.msgpack_ok_depth`; `C15.msgpack_ok_depth_slot_level` of AJ/Props/C09Doc.lean
    with the second depth function) -/
theorem mp_ok_depth_slot_level (env : MD.Env) (L : Nat) (input : List Byte) (d : Doc)
    (gok : PL.GeoOK d.g) (hp : PL.Inv d.g d.pl) (hok : (MDD.run env L d input).1 = .ok) :
    C15.depth ((MDD.run env L d input).2.1.toVal (MDD.run env L d input).2.1.root) ≤ L ∧
    C09.depth ((MDD.run env L d input).2.1.toVal (MDD.run env L d input).2.1.root) ≤ L := by
  obtain ⟨a, _, c⟩ := C09.ok_refines env L d input gok hp hok
  rw [CrossFormat.depth09_eq, c]
  exact ⟨msgpack_ok_depth env L .all input a, msgpack_ok_depth env L .all input a⟩

/-- **C15, slot level, MessagePack with a filter** -/
theorem filtered_mp_ok_depth_slot_level (env : MD.Env) (L : Nat) (flt : Flt) (input : List Byte) (d : Doc)
    (gok : PL.GeoOK d.g) (hp : PL.Inv d.g d.pl) (hok : (MDDF.run env L flt d input).1 = .ok) :
    C15.depth ((MDDF.run env L flt d input).2.1.toVal (MDDF.run env L flt d input).2.1.root) ≤ L ∧
    C09.depth ((MDDF.run env L flt d input).2.1.toVal (MDDF.run env L flt d input).2.1.root) ≤ L := by
  obtain ⟨a, _, c⟩ := C11.filtered_mp_ok_refines env L flt d input gok hp hok
  rw [CrossFormat.depth09_eq, c]
  exact ⟨msgpack_ok_depth env L flt input a, msgpack_ok_depth env L flt input a⟩

/-- **C15, slot level: TooDeep as soon as the (L+1)-th bracket is opened** (from `C15.toodeep_at_limit_ws`). The input
    `w₀ [ w₁ [ … w_L [ rest` read by `JDD.run` into any document: when no allocation failed the answer is `TooDeep` and exactly
    the bytes up to and including the (L+1)-th bracket were taken; in any case the answer is that one or `NoMemory` with the
    overflow flag set (an element slot of one of the L enclosing arrays could not be allocated). `TooDeep` is not a memory
    failure. -/
theorem toodeep_at_limit_ws_slot_level (cfg : Cfg) (h31 : 31 ≤ cfg.maxStrLen) (L : Nat) (wss : List (List Byte))
    (rest : List Byte) (hlen : wss.length = L + 1) (hws : AllWs wss) (d : Doc) (gok : PL.GeoOK d.g)
    (hp : PL.Inv d.g d.pl) :
    ((JDD.run cfg L d (opens wss ++ rest)).2.1.overflowed = false →
      (JDD.run cfg L d (opens wss ++ rest)).1 = .tooDeep ∧
      (JDD.run cfg L d (opens wss ++ rest)).2.2 = (opens wss).length) ∧
    (((JDD.run cfg L d (opens wss ++ rest)).1 = .tooDeep ∧
        (JDD.run cfg L d (opens wss ++ rest)).2.2 = (opens wss).length) ∨
      ((JDD.run cfg L d (opens wss ++ rest)).1 = .noMemory ∧
        (JDD.run cfg L d (opens wss ++ rest)).2.1.overflowed = true)) :=
  SlotCor2.transfer (C01.slot_level_refines cfg L d (opens wss ++ rest) gok hp h31).2
    (toodeep_at_limit_ws cfg L wss rest hlen hws)

/-- the same without white space: `L+1` opening brackets -/
theorem toodeep_at_limit_slot_level (cfg : Cfg) (h31 : 31 ≤ cfg.maxStrLen) (L : Nat) (rest : List Byte) (d : Doc)
    (gok : PL.GeoOK d.g) (hp : PL.Inv d.g d.pl) :
    ((JDD.run cfg L d (List.replicate (L+1) 0x5B ++ rest)).2.1.overflowed = false →
      (JDD.run cfg L d (List.replicate (L+1) 0x5B ++ rest)).1 = .tooDeep ∧
      (JDD.run cfg L d (List.replicate (L+1) 0x5B ++ rest)).2.2 = L + 1) ∧
    (((JDD.run cfg L d (List.replicate (L+1) 0x5B ++ rest)).1 = .tooDeep ∧
        (JDD.run cfg L d (List.replicate (L+1) 0x5B ++ rest)).2.2 = L + 1) ∨
      ((JDD.run cfg L d (List.replicate (L+1) 0x5B ++ rest)).1 = .noMemory ∧
        (JDD.run cfg L d (List.replicate (L+1) 0x5B ++ rest)).2.1.overflowed = true)) :=
  SlotCor2.transfer (C01.slot_level_refines cfg L d (List.replicate (L+1) 0x5B ++ rest) gok hp h31).2
    (toodeep_at_limit cfg L rest)

/-- **C15, slot level, filtered: TooDeep also in parts that the filter discards** (from `C15.toodeep_at_limit_filtered_ws`),
    for EVERY filter -/
theorem filtered_toodeep_ws_slot_level (cfg : Cfg) (h31 : 31 ≤ cfg.maxStrLen) (L : Nat) (flt : Flt)
    (wss : List (List Byte)) (rest : List Byte) (hlen : wss.length = L + 1) (hws : AllWs wss) (d : Doc)
    (gok : PL.GeoOK d.g) (hp : PL.Inv d.g d.pl) :
    ((JDDF.run cfg L flt d (opens wss ++ rest)).2.1.overflowed = false →
      (JDDF.run cfg L flt d (opens wss ++ rest)).1 = .tooDeep ∧
      (JDDF.run cfg L flt d (opens wss ++ rest)).2.2 = (opens wss).length) ∧
    (((JDDF.run cfg L flt d (opens wss ++ rest)).1 = .tooDeep ∧
        (JDDF.run cfg L flt d (opens wss ++ rest)).2.2 = (opens wss).length) ∨
      ((JDDF.run cfg L flt d (opens wss ++ rest)).1 = .noMemory ∧
        (JDDF.run cfg L flt d (opens wss ++ rest)).2.1.overflowed = true)) :=
  SlotCor2.transfer (C11.filtered_slot_level_refines cfg L flt d (opens wss ++ rest) gok hp h31).2
    (toodeep_at_limit_filtered_ws cfg L flt wss rest hlen hws)

theorem filtered_toodeep_slot_level (cfg : Cfg) (h31 : 31 ≤ cfg.maxStrLen) (L : Nat) (flt : Flt) (rest : List Byte)
    (d : Doc) (gok : PL.GeoOK d.g) (hp : PL.Inv d.g d.pl) :
    ((JDDF.run cfg L flt d (List.replicate (L+1) 0x5B ++ rest)).2.1.overflowed = false →
      (JDDF.run cfg L flt d (List.replicate (L+1) 0x5B ++ rest)).1 = .tooDeep ∧
      (JDDF.run cfg L flt d (List.replicate (L+1) 0x5B ++ rest)).2.2 = L + 1) ∧
    (((JDDF.run cfg L flt d (List.replicate (L+1) 0x5B ++ rest)).1 = .tooDeep ∧
        (JDDF.run cfg L flt d (List.replicate (L+1) 0x5B ++ rest)).2.2 = L + 1) ∨
      ((JDDF.run cfg L flt d (List.replicate (L+1) 0x5B ++ rest)).1 = .noMemory ∧
        (JDDF.run cfg L flt d (List.replicate (L+1) 0x5B ++ rest)).2.1.overflowed = true)) :=
  SlotCor2.transfer (C11.filtered_slot_level_refines cfg L flt d (List.replicate (L+1) 0x5B ++ rest) gok hp h31).2
    (toodeep_at_limit_filtered cfg L flt rest)

/-- **C15, slot level, MessagePack** (from `C15.msgpack_toodeep_at_limit`): `L+1` nested one-element array headers -/
theorem msgpack_toodeep_at_limit_slot_level (env : MD.Env) (L : Nat) (rest : List Byte) (d : Doc)
    (gok : PL.GeoOK d.g) (hp : PL.Inv d.g d.pl) :
    ((MDD.run env L d (List.replicate (L+1) 0x91 ++ rest)).2.1.overflowed = false →
      (MDD.run env L d (List.replicate (L+1) 0x91 ++ rest)).1 = .tooDeep ∧
      (MDD.run env L d (List.replicate (L+1) 0x91 ++ rest)).2.2 = L + 1) ∧
    (((MDD.run env L d (List.replicate (L+1) 0x91 ++ rest)).1 = .tooDeep ∧
        (MDD.run env L d (List.replicate (L+1) 0x91 ++ rest)).2.2 = L + 1) ∨
      ((MDD.run env L d (List.replicate (L+1) 0x91 ++ rest)).1 = .noMemory ∧
        (MDD.run env L d (List.replicate (L+1) 0x91 ++ rest)).2.1.overflowed = true)) :=
  SlotCor2.transfer (C09.slot_level_refines env L d (List.replicate (L+1) 0x91 ++ rest) gok hp).2
    (msgpack_toodeep_at_limit env L .all rest)

/-- the same for the filtered MessagePack run, every filter -/
theorem filtered_msgpack_toodeep_at_limit_slot_level (env : MD.Env) (L : Nat) (flt : Flt) (rest : List Byte) (d : Doc)
    (gok : PL.GeoOK d.g) (hp : PL.Inv d.g d.pl) :
    ((MDDF.run env L flt d (List.replicate (L+1) 0x91 ++ rest)).2.1.overflowed = false →
      (MDDF.run env L flt d (List.replicate (L+1) 0x91 ++ rest)).1 = .tooDeep ∧
      (MDDF.run env L flt d (List.replicate (L+1) 0x91 ++ rest)).2.2 = L + 1) ∧
    (((MDDF.run env L flt d (List.replicate (L+1) 0x91 ++ rest)).1 = .tooDeep ∧
        (MDDF.run env L flt d (List.replicate (L+1) 0x91 ++ rest)).2.2 = L + 1) ∨
      ((MDDF.run env L flt d (List.replicate (L+1) 0x91 ++ rest)).1 = .noMemory ∧
        (MDDF.run env L flt d (List.replicate (L+1) 0x91 ++ rest)).2.1.overflowed = true)) :=
  SlotCor2.transfer (C11.filtered_mp_slot_level_refines env L flt d (List.replicate (L+1) 0x91 ++ rest) gok hp).2
    (msgpack_toodeep_at_limit env L flt rest)

end C15

/-! ## C16 — what a filtered call consumes -/
namespace C16
open DL
open JD (Byte Val Cfg Code Flt)

/-- **C16, slot level, JSON with a filter** (from `C11.json_projection_all_inputs`). Whenever the UNFILTERED value-level run
    on an input is `Ok`, the filtered slot-level run on that input, for every filter and into any document: when no allocation
    failed it answers `Ok`, has consumed exactly what the unfiltered run consumes, and leaves the projection of the unfiltered
    value; in any case it answers `Ok` with that consumption or `NoMemory` with the overflow flag set. A filter never changes
    where the next document of a stream starts. -/
theorem filtered_consumption_slot_level (cfg : Cfg) (h31 : 31 ≤ cfg.maxStrLen) (L : Nat) (flt : Flt)
    (input : List Byte) (hok : (JD.run cfg L input).1 = .ok) (d : Doc) (gok : PL.GeoOK d.g) (hp : PL.Inv d.g d.pl) :
    ((JDDF.run cfg L flt d input).2.1.overflowed = false →
      (JDDF.run cfg L flt d input).1 = .ok ∧
      (JDDF.run cfg L flt d input).2.2 = (JD.run cfg L input).2.2 ∧
      (JDDF.run cfg L flt d input).2.1.toVal (JDDF.run cfg L flt d input).2.1.root =
        Spec.Filter.project flt (JD.run cfg L input).2.1) ∧
    (((JDDF.run cfg L flt d input).1 = .ok ∧ (JDDF.run cfg L flt d input).2.2 = (JD.run cfg L input).2.2) ∨
      ((JDDF.run cfg L flt d input).1 = .noMemory ∧ (JDDF.run cfg L flt d input).2.1.overflowed = true)) := by
  obtain ⟨r1, r2⟩ := C11.filtered_slot_level_refines cfg L flt d input gok hp h31
  exact SlotCor2.transfer_value r1 r2 (C11.json_projection_all_inputs cfg L flt input hok)

/-- **C16, slot level, MessagePack with a filter** (from `C11.msgpack_projection_all_inputs`) -/
theorem filtered_mp_consumption_slot_level (env : MD.Env) (L : Nat) (flt : Flt) (input : List Byte)
    (hok : (MD.run env L .all input).1 = .ok) (d : Doc) (gok : PL.GeoOK d.g) (hp : PL.Inv d.g d.pl) :
    ((MDDF.run env L flt d input).2.1.overflowed = false →
      (MDDF.run env L flt d input).1 = .ok ∧
      (MDDF.run env L flt d input).2.2 = (MD.run env L .all input).2.2 ∧
      (MDDF.run env L flt d input).2.1.toVal (MDDF.run env L flt d input).2.1.root =
        Spec.Filter.project flt (MD.run env L .all input).2.1) ∧
    (((MDDF.run env L flt d input).1 = .ok ∧ (MDDF.run env L flt d input).2.2 = (MD.run env L .all input).2.2) ∨
      ((MDDF.run env L flt d input).1 = .noMemory ∧ (MDDF.run env L flt d input).2.1.overflowed = true)) := by
  obtain ⟨r1, r2⟩ := C11.filtered_mp_slot_level_refines env L flt d input gok hp
  exact SlotCor2.transfer_value r1 r2 (C11.msgpack_projection_all_inputs env L flt input hok)

/-- **C16, slot level, JSON with a filter, on the grammar** (from `C16.exact_consumption`): whatever follows a (non-number)
    RFC 8259 value and whatever the filter keeps of it, the filtered slot-level run without allocation failure answers `Ok`, has
    taken exactly the leading white space and the value, and leaves the projection of the value. -/
theorem filtered_exact_consumption_slot_level (cfg : Cfg) (hu : cfg.decodeUnicode = true) (h31 : 31 ≤ cfg.maxStrLen)
    {L : Nat} {t : List Byte} {v : Val} (h : Spec.Json.Value cfg L t v) (hn : JD.isNumberVal v = false)
    (w rest : List Byte) (hw : Spec.Json.Ws w) (flt : Flt) (d : Doc) (gok : PL.GeoOK d.g) (hp : PL.Inv d.g d.pl)
    (hno : (JDDF.run cfg L flt d (w ++ t ++ rest)).2.1.overflowed = false) :
    (JDDF.run cfg L flt d (w ++ t ++ rest)).1 = .ok ∧
    (JDDF.run cfg L flt d (w ++ t ++ rest)).2.2 = w.length + t.length ∧
    (JDDF.run cfg L flt d (w ++ t ++ rest)).2.1.toVal (JDDF.run cfg L flt d (w ++ t ++ rest)).2.1.root =
      Spec.Filter.project flt v := by
  have e := exact_consumption cfg hu h hn w rest hw
  obtain ⟨a, b, c⟩ := (filtered_consumption_slot_level cfg h31 L flt (w ++ t ++ rest) (by rw [e]) d gok hp).1 hno
  rw [e] at b c
  exact ⟨a, b, c⟩

/-- **C16, slot level, MessagePack with a filter, on serialized documents** (from `C09.roundtrip`): exactly the bytes of one
    object are consumed whatever follows and whatever the filter keeps; the document left is the projection of `norm v` -/
theorem filtered_msgpack_exact_consumption_slot_level (env : MD.Env) (L : Nat) (v : Val) (hr : C09.RawFree v)
    (hw : C09.WithinLimits env v) (hd : C09.depth v ≤ L) (rest : List Byte) (flt : Flt) (d : Doc)
    (gok : PL.GeoOK d.g) (hp : PL.Inv d.g d.pl)
    (hno : (MDDF.run env L flt d (MD.ser v ++ rest)).2.1.overflowed = false) :
    (MDDF.run env L flt d (MD.ser v ++ rest)).1 = .ok ∧
    (MDDF.run env L flt d (MD.ser v ++ rest)).2.2 = (MD.ser v).length ∧
    (MDDF.run env L flt d (MD.ser v ++ rest)).2.1.toVal (MDDF.run env L flt d (MD.ser v ++ rest)).2.1.root =
      Spec.Filter.project flt (C09.norm v) := by
  have e := C09.roundtrip env L v hr hw hd rest
  obtain ⟨a, b, c⟩ := (filtered_mp_consumption_slot_level env L flt (MD.ser v ++ rest) (by rw [e]) d gok hp).1 hno
  rw [e] at b c
  exact ⟨a, b, c⟩

end C16

/-! ## C09 — every legal encoding under every filter -/
namespace C09
open DL
open JD (Byte Val Code Flt)
open MD (Env)

/-- **C09, slot level, every filter** (from `C09.enc_accepts`, which holds for every filter, and
    `C11.msgpack_projection_all_inputs`). Every legal encoding (`MD.Enc`: any width at every place, bin, ext, fixext, nested
    containers within the nesting limit) followed by anything, read by `MDDF.run` with ANY filter into any document: when no
    allocation failed it is accepted with exactly its bytes consumed, and the document left is the projection of the value the
    unfiltered deserializer yields; in any case the answer is `Ok` with that consumption or `NoMemory` with the flag set. -/
theorem filtered_enc_accepts_slot_level (env : Env) (L : Nat) (flt : Flt) {dd : Nat} {e : List Byte}
    (h : MD.Enc env dd e) (hd : dd ≤ L) (rest : List Byte) (d : Doc) (gok : PL.GeoOK d.g) (hp : PL.Inv d.g d.pl) :
    ((MDDF.run env L flt d (e ++ rest)).2.1.overflowed = false →
      (MDDF.run env L flt d (e ++ rest)).1 = .ok ∧ (MDDF.run env L flt d (e ++ rest)).2.2 = e.length ∧
      (MDDF.run env L flt d (e ++ rest)).2.1.toVal (MDDF.run env L flt d (e ++ rest)).2.1.root =
        Spec.Filter.project flt (MD.run env L .all (e ++ rest)).2.1) ∧
    (((MDDF.run env L flt d (e ++ rest)).1 = .ok ∧ (MDDF.run env L flt d (e ++ rest)).2.2 = e.length) ∨
      ((MDDF.run env L flt d (e ++ rest)).1 = .noMemory ∧ (MDDF.run env L flt d (e ++ rest)).2.1.overflowed = true)) := by
  obtain ⟨u1, u2⟩ := enc_accepts env L .all h hd rest
  obtain ⟨t1, t2⟩ := C16.filtered_mp_consumption_slot_level env L flt (e ++ rest) u1 d gok hp
  rw [u2] at t1 t2
  exact ⟨t1, t2⟩

/-- the serializer's own output under every filter: `deserializeMsgPack(serializeMsgPack(v), Filter(f))` leaves the projection
    of `norm v` (from `C09.roundtrip`) -/
theorem filtered_roundtrip_slot_level (env : Env) (L : Nat) (flt : Flt) (v : Val) (hr : RawFree v)
    (hw : WithinLimits env v) (hd : depth v ≤ L) (rest : List Byte) (d : Doc) (gok : PL.GeoOK d.g) (hp : PL.Inv d.g d.pl)
    (hno : (MDDF.run env L flt d (MD.ser v ++ rest)).2.1.overflowed = false) :
    (MDDF.run env L flt d (MD.ser v ++ rest)).1 = .ok ∧
    (MDDF.run env L flt d (MD.ser v ++ rest)).2.2 = (MD.ser v).length ∧
    (MDDF.run env L flt d (MD.ser v ++ rest)).2.1.toVal (MDDF.run env L flt d (MD.ser v ++ rest)).2.1.root =
      Spec.Filter.project flt (norm v) :=
  C16.filtered_msgpack_exact_consumption_slot_level env L v hr hw hd rest flt d gok hp hno

end C09

/-! ## C03 — the filtered slot-level runs never read past the input -/
namespace C03
open DL
open JD (Byte Cfg Code Flt)

/-- **C03, slot level, JSON with a filter: never more bytes taken than supplied.** UNCONDITIONAL: every configuration,
    nesting limit, filter, input, starting document and allocator schedule — no hypothesis on the geometry, the pool or the
    string limit (the refinement ties the consumption to the value-level one only outside `NoMemory`; this is proved by
    pushing the position invariant `JD.Inv` through the filtered slot-level routines, AJ/Lemmas/FiltPos.lean). -/
theorem filtered_run_within_input_slot_level (cfg : Cfg) (L : Nat) (flt : Flt) (d : Doc) (input : List Byte) :
    (JDDF.run cfg L flt d input).2.2 ≤ input.length := JDDF.pos_run_le cfg L flt d input

/-- **C03, slot level, MessagePack with a filter** — unconditional as well (AJ/Lemmas/FiltPosMp.lean) -/
theorem filtered_mp_run_within_input_slot_level (env : MD.Env) (L : Nat) (flt : Flt) (d : Doc) (input : List Byte) :
    (MDDF.run env L flt d input).2.2 ≤ input.length := MDDF.pos_run_le env L flt d input

/-- the other route, through the refinement: outside `NoMemory` the consumption is the value-level one, which is within the
    input (`C03.json_filtered_reads_within_input`) -/
theorem filtered_run_within_input_of_refinement (cfg : Cfg) (h31 : 31 ≤ cfg.maxStrLen) (L : Nat) (flt : Flt) (d : Doc)
    (input : List Byte) (gok : PL.GeoOK d.g) (hp : PL.Inv d.g d.pl)
    (hne : ¬ ((JDDF.run cfg L flt d input).1 = .noMemory ∧ (JDDF.run cfg L flt d input).2.1.overflowed = true)) :
    (JDDF.run cfg L flt d input).2.2 = (JD.frun cfg L flt input).2.2 ∧
    (JDDF.run cfg L flt d input).2.2 ≤ input.length := by
  rcases (C11.filtered_slot_level_refines cfg L flt d input gok hp h31).2 with ⟨_, b⟩ | h
  · exact ⟨b, by rw [b]; exact json_filtered_reads_within_input cfg L flt input⟩
  · exact absurd h hne

/-- all four slot-level deserializers, every input, document and allocator schedule -/
theorem slot_level_runs_within_input (cfg : Cfg) (env : MD.Env) (L : Nat) (flt : Flt) (d : Doc) (input : List Byte) :
    (JDD.run cfg L d input).2.2 ≤ input.length ∧ (JDDF.run cfg L flt d input).2.2 ≤ input.length ∧
    (MDD.run env L d input).2.2 ≤ input.length ∧ (MDDF.run env L flt d input).2.2 ≤ input.length :=
  ⟨C06.deser_reads_within_input cfg L d input, filtered_run_within_input_slot_level cfg L flt d input,
   C06.mp_deser_reads_within_input env L d input, filtered_mp_run_within_input_slot_level env L flt d input⟩

end C03

/-! ## C08 — `serializeMsgPack(doc, buffer, size)`: the bounded buffer -/
namespace C08
open JD (Byte Val)
open JSer (toBuffer bufferAfter)

/-- the count returned is the number of bytes stored: `min cap length` (from `C02.buffer_count`) -/
theorem mp_buffer_count (v : Val) (cap : Nat) : (toBuffer (MD.ser v) cap false).ret = min cap (MD.ser v).length :=
  C02.buffer_count (MD.ser v) cap false

/-- exactly that prefix of the encoding is stored (from `C02.buffer_prefix`) -/
theorem mp_buffer_prefix (v : Val) (cap : Nat) : (toBuffer (MD.ser v) cap false).stored = (MD.ser v).take cap :=
  C02.buffer_prefix (MD.ser v) cap false

/-- a binary format: no terminating NUL is ever stored, whatever the capacity (from `C02.buffer_no_nul_binary`) -/
theorem mp_buffer_no_nul (v : Val) (cap : Nat) : (toBuffer (MD.ser v) cap false).nul = false :=
  C02.buffer_no_nul_binary (MD.ser v) cap

/-- the call defines exactly `cap` bytes: nothing outside the buffer is written (from `C02.buffer_within`) -/
theorem mp_buffer_within (v : Val) (cap : Nat) (fill : Byte) : (bufferAfter (MD.ser v) cap false fill).length = cap :=
  C02.buffer_within (MD.ser v) cap false fill

/-- the stored bytes are those of the encoding, index by index (from `C02.buffer_content`) -/
theorem mp_buffer_content (v : Val) (cap : Nat) (fill : Byte) (i : Nat) (h : i < min cap (MD.ser v).length) :
    (bufferAfter (MD.ser v) cap false fill)[i]? = (MD.ser v)[i]? :=
  C02.buffer_content (MD.ser v) cap false fill i h

/-- bytes of the buffer beyond the stored prefix are the caller's: they keep their previous value — from index
    `min cap length` on, there being no NUL (from `C02.buffer_untouched`) -/
theorem mp_buffer_untouched (v : Val) (cap : Nat) (fill : Byte) (i : Nat) (h1 : min cap (MD.ser v).length ≤ i)
    (h2 : i < cap) : (bufferAfter (MD.ser v) cap false fill)[i]? = some fill := by
  refine C02.buffer_untouched (MD.ser v) cap false fill i ?_ h2
  rw [mp_buffer_no_nul, mp_buffer_prefix, List.length_take, if_neg Bool.false_ne_true, Nat.add_zero]
  exact h1

/-- **exact fit**: a buffer of exactly `(MD.ser v).length` bytes receives the whole encoding and nothing else: the count is
    the length, the stored bytes and the whole buffer afterwards ARE the encoding, no NUL -/
theorem mp_buffer_exact_fit (v : Val) (fill : Byte) :
    (toBuffer (MD.ser v) (MD.ser v).length false).ret = (MD.ser v).length ∧
    (toBuffer (MD.ser v) (MD.ser v).length false).stored = MD.ser v ∧
    (toBuffer (MD.ser v) (MD.ser v).length false).nul = false ∧
    bufferAfter (MD.ser v) (MD.ser v).length false fill = MD.ser v := by
  refine ⟨by rw [mp_buffer_count, Nat.min_self], by rw [mp_buffer_prefix, List.take_length],
    mp_buffer_no_nul v _, ?_⟩
  simp only [bufferAfter]
  rw [mp_buffer_no_nul, mp_buffer_prefix, List.take_length, if_neg Bool.false_ne_true, List.append_nil, Nat.sub_self,
    List.replicate_zero, List.append_nil]

/-- a buffer at least as large holds the whole encoding as well; a smaller one a proper prefix, and the count tells:
    `ret = length ↔ length ≤ cap` (a caller detects truncation by `ret = cap` only up to the exact-fit case) -/
theorem mp_buffer_truncated (v : Val) (cap : Nat) :
    ((toBuffer (MD.ser v) cap false).ret = (MD.ser v).length ↔ (MD.ser v).length ≤ cap) ∧
    ((MD.ser v).length ≤ cap → (toBuffer (MD.ser v) cap false).stored = MD.ser v) ∧
    (cap < (MD.ser v).length → (toBuffer (MD.ser v) cap false).ret = cap ∧
      (toBuffer (MD.ser v) cap false).stored ≠ MD.ser v) := by
  refine ⟨by rw [mp_buffer_count]; omega, fun h => by rw [mp_buffer_prefix, List.take_of_length_le h], fun h => ?_⟩
  refine ⟨by rw [mp_buffer_count]; omega, fun e => ?_⟩
  have := congrArg List.length e
  rw [mp_buffer_prefix, List.length_take] at this
  omega

end C08

/-! ## Non-vacuity: geometry ⟨4, 1, 1⟩ (the fresh document `C01.ExDoc.dz`, and `C01.ExDoc.dzf` whose allocator fails at its
   first call), default configuration / environment. Slot-level runs are evaluated in the kernel where they touch slot 0 only;
   the theorems then give the code, the consumption and the value of the slot-level document. -/
namespace SlotCor2.Ex
open DL C01.ExDoc
open JD (Byte Val Cfg Code Flt)

/-- the filter `[{"b":true}]` -/
def fB : Flt := .doc (some (.arr [.obj [([0x62], .bool true)]]))
/-- the filter `[true]` -/
def fT : Flt := .doc (some (.arr [.bool true]))
/-- the filter `[false]` -/
def fF : Flt := .doc (some (.arr [.bool false]))
/-- `[{"a":[1,2]}]` -/
def tA : List Byte := [0x5B, 0x7B, 0x22, 0x61, 0x22, 0x3A, 0x5B, 0x31, 0x2C, 0x32, 0x5D, 0x7D, 0x5D]
/-- `[7] [8]` : two documents -/
def t78 : List Byte := [0x5B, 0x37, 0x5D, 0x20, 0x5B, 0x38, 0x5D]
/-- MessagePack `[1]` with a 16-bit array header, followed by the never-used byte 0xC1 -/
def e1 : List Byte := [0xDC, 0x00, 0x01, 0x01]

/-! ### C15 -/

theorem ok_tA3 : (JDDF.run {} 3 fB dz tA).1 = .ok := by decide +kernel

/-- `[{"a":[1,2]}]` under `[{"b":true}]` with `L = 3`: `Ok`, and the document left (`[{}]`) nests at most 3 deep -/
example : C15.depth ((JDDF.run {} 3 fB dz tA).2.1.toVal (JDDF.run {} 3 fB dz tA).2.1.root) ≤ 3 ∧
    C09.depth ((JDDF.run {} 3 fB dz tA).2.1.toVal (JDDF.run {} 3 fB dz tA).2.1.root) ≤ 3 :=
  C15.filtered_ok_depth_slot_level {} h31 3 fB tA dz gok hp ok_tA3

/-- with `L = 2` the same text is `TooDeep` although the array `[1,2]` that exceeds the limit is discarded by the filter -/
example : (JD.frun {} 2 fB tA).1 = .tooDeep := by decide +kernel

theorem ov_open2 : (JDD.run {} 1 dz (List.replicate (1+1) 0x5B ++ [0x31])).2.1.overflowed = false := by decide +kernel

/-- `[[1` with `L = 1` into the fresh document: `TooDeep` after the 2 brackets -/
example : (JDD.run {} 1 dz (List.replicate (1+1) 0x5B ++ [0x31])).1 = .tooDeep ∧
    (JDD.run {} 1 dz (List.replicate (1+1) 0x5B ++ [0x31])).2.2 = 1 + 1 :=
  (C15.toodeep_at_limit_slot_level {} h31 1 [0x31] dz gok hp).1 ov_open2

set_option maxRecDepth 100000 in
/-- the alternative of the unconditional clause is real: with the allocator that refuses its first call the element slot of
    the outer array cannot be allocated and the answer is `NoMemory` (after the same 2 bytes), not `TooDeep` -/
example : (JDD.run {} 1 dzf (List.replicate (1+1) 0x5B ++ [0x31])).1 = .noMemory ∧
    (JDD.run {} 1 dzf (List.replicate (1+1) 0x5B ++ [0x31])).2.1.overflowed = true ∧
    (JDD.run {} 1 dzf (List.replicate (1+1) 0x5B ++ [0x31])).2.2 = 2 := by decide +kernel

theorem ov_open2F : (JDDF.run {} 1 fF dzf (List.replicate (1+1) 0x5B ++ [0x31])).2.1.overflowed = false := by
  decide +kernel

/-- the same text under `[false]`: the inner array is discarded (no slot is asked for, so even the failing allocator of
    `dzf` does not matter) and the answer is still `TooDeep` after 2 bytes -/
example : (JDDF.run {} 1 fF dzf (List.replicate (1+1) 0x5B ++ [0x31])).1 = .tooDeep ∧
    (JDDF.run {} 1 fF dzf (List.replicate (1+1) 0x5B ++ [0x31])).2.2 = 1 + 1 :=
  (C15.filtered_toodeep_slot_level {} h31 1 fF [0x31] dzf
    (show PL.GeoOK dzf.g from gok) (show PL.Inv dzf.g dzf.pl from PL.init_inv gok [] (some 1))).1 ov_open2F

theorem ov_mp2 : (MDD.run {} 1 dz (List.replicate (1+1) 0x91 ++ [0x01])).2.1.overflowed = false := by decide +kernel

/-- MessagePack `91 91 01` with `L = 1`: `TooDeep` after 2 bytes -/
example : (MDD.run {} 1 dz (List.replicate (1+1) 0x91 ++ [0x01])).1 = .tooDeep ∧
    (MDD.run {} 1 dz (List.replicate (1+1) 0x91 ++ [0x01])).2.2 = 1 + 1 :=
  (C15.msgpack_toodeep_at_limit_slot_level {} 1 [0x01] dz gok hp).1 ov_mp2

/-! ### C16 -/

theorem ov_t78T : (JDDF.run {} 10 fT dz t78).2.1.overflowed = false := by decide +kernel
theorem ov_t78F : (JDDF.run {} 10 fF dz t78).2.1.overflowed = false := by decide +kernel
theorem ok_t78 : (JD.run {} 10 t78).1 = .ok := by decide +kernel

/-- `[7] [8]` under `[true]` and under `[false]`: both filtered slot-level calls stop after the 3 bytes of the first document,
    as the unfiltered value-level call does; the documents left are `[7]` and `[]` -/
example : (JDDF.run {} 10 fT dz t78).2.2 = 3 ∧ (JDDF.run {} 10 fF dz t78).2.2 = 3 ∧
    (JDDF.run {} 10 fT dz t78).2.1.toVal (JDDF.run {} 10 fT dz t78).2.1.root = .arr [.num (.uint 7)] ∧
    (JDDF.run {} 10 fF dz t78).2.1.toVal (JDDF.run {} 10 fF dz t78).2.1.root = .arr [] := by
  obtain ⟨_, a2, a3⟩ := (C16.filtered_consumption_slot_level {} h31 10 fT t78 ok_t78 dz gok hp).1 ov_t78T
  obtain ⟨_, b2, b3⟩ := (C16.filtered_consumption_slot_level {} h31 10 fF t78 ok_t78 dz gok hp).1 ov_t78F
  rw [a2, a3, b2, b3]
  exact ⟨by decide +kernel, by decide +kernel, valEq_sound _ _ (by decide +kernel), valEq_sound _ _ (by decide +kernel)⟩

/-! ### C09 -/

theorem e1_enc : MD.Enc {} 1 e1 :=
  MD.Enc.arr (d := 0) [0xDC, 0x00, 0x01] [[0x01]] (.a16 [0x00, 0x01] 1 rfl (by decide +kernel))
    (fun e he => by
      simp only [List.mem_cons, List.mem_nil_iff, or_false] at he
      subst he
      exact .leaf (.posfix 0x01 (by decide)))

theorem ov_e1T : (MDDF.run {} 10 fT dz (e1 ++ [0xC1])).2.1.overflowed = false := by decide +kernel
theorem ov_e1F : (MDDF.run {} 10 fF dz (e1 ++ [0xC1])).2.1.overflowed = false := by decide +kernel

/-- the array16 encoding `DC 00 01 01` (which the serializer never writes) followed by `C1`, under `[true]` and under
    `[false]`: `Ok`, exactly its 4 bytes consumed, the documents left are `[1]` and `[]` -/
example : (MDDF.run {} 10 fT dz (e1 ++ [0xC1])).1 = .ok ∧ (MDDF.run {} 10 fT dz (e1 ++ [0xC1])).2.2 = 4 ∧
    (MDDF.run {} 10 fF dz (e1 ++ [0xC1])).1 = .ok ∧ (MDDF.run {} 10 fF dz (e1 ++ [0xC1])).2.2 = 4 ∧
    (MDDF.run {} 10 fT dz (e1 ++ [0xC1])).2.1.toVal (MDDF.run {} 10 fT dz (e1 ++ [0xC1])).2.1.root =
      .arr [.num (.sint 1)] ∧
    (MDDF.run {} 10 fF dz (e1 ++ [0xC1])).2.1.toVal (MDDF.run {} 10 fF dz (e1 ++ [0xC1])).2.1.root = .arr [] := by
  obtain ⟨a1, a2, a3⟩ := (C09.filtered_enc_accepts_slot_level {} 10 fT e1_enc (by decide) [0xC1] dz gok hp).1 ov_e1T
  obtain ⟨b1, b2, b3⟩ := (C09.filtered_enc_accepts_slot_level {} 10 fF e1_enc (by decide) [0xC1] dz gok hp).1 ov_e1F
  rw [a3, b3]
  exact ⟨a1, a2, b1, b2, valEq_sound _ _ (by decide +kernel), valEq_sound _ _ (by decide +kernel)⟩

/-! ### C03 -/

/-- `{"a":{"key":[1]}}` in MessagePack, 10 bytes, into the document whose allocator refuses every call, under any filter:
    the run stays within the 10 bytes (here it stops after 2: the first key cannot be buffered) -/
example (flt : Flt) :
    (MDDF.run {} 10 flt dzf [0x81, 0xa1, 0x61, 0x81, 0xa3, 0x6b, 0x65, 0x79, 0x91, 0x01]).2.2 ≤ 10 :=
  C03.filtered_mp_run_within_input_slot_level {} 10 flt dzf _

set_option maxRecDepth 100000 in
/-- JSON `[7] [8]` under `[true]` with the failing allocator: `NoMemory` after 2 bytes (the value-level filtered run consumes
    3) — the consumption is NOT the value-level one, and still within the input -/
example : (JDDF.run {} 10 fT dzf t78).1 = .noMemory ∧ (JDDF.run {} 10 fT dzf t78).2.2 = 2 ∧
    (JD.frun {} 10 fT t78).2.2 = 3 := by decide +kernel
example : (JDDF.run {} 10 fT dzf t78).2.2 ≤ 7 := C03.filtered_run_within_input_slot_level {} 10 fT dzf t78

/-! ### C08 -/

/-- `[1, "a"]` -/
def vB : Val := .arr [.num (.uint 1), .str [0x61]]
theorem ser_vB : MD.ser vB = [0x92, 0x01, 0xA1, 0x61] := by decide +kernel

/-- a 2-byte buffer receives `92 01` and the count 2; a 6-byte buffer filled with `EE` receives the 4 bytes and keeps its
    last two bytes; no NUL in either case; a 4-byte buffer is an exact fit -/
example : (JSer.toBuffer (MD.ser vB) 2 false).ret = 2 ∧ (JSer.toBuffer (MD.ser vB) 2 false).stored = [0x92, 0x01] ∧
    (JSer.toBuffer (MD.ser vB) 6 false).ret = 4 ∧ (JSer.toBuffer (MD.ser vB) 6 false).nul = false ∧
    (JSer.bufferAfter (MD.ser vB) 6 false 0xEE)[4]? = some 0xEE ∧
    (JSer.bufferAfter (MD.ser vB) 6 false 0xEE)[5]? = some 0xEE ∧
    JSer.bufferAfter (MD.ser vB) (MD.ser vB).length false 0xEE = [0x92, 0x01, 0xA1, 0x61] := by
  refine ⟨?_, ?_, ?_, C08.mp_buffer_no_nul vB 6, ?_, ?_, ?_⟩
  · rw [C08.mp_buffer_count, ser_vB]; decide
  · rw [C08.mp_buffer_prefix, ser_vB]; decide
  · rw [C08.mp_buffer_count, ser_vB]; decide
  · exact C08.mp_buffer_untouched vB 6 0xEE 4 (by rw [ser_vB]; decide) (by decide)
  · exact C08.mp_buffer_untouched vB 6 0xEE 5 (by rw [ser_vB]; decide) (by decide)
  · rw [(C08.mp_buffer_exact_fit vB 0xEE).2.2.2, ser_vB]

end SlotCor2.Ex
