/- C07, last clause — converting between the formats preserves the value:
   JSON text -> document -> MessagePack -> document compares equal (numbers by value) to the document obtained from the JSON
   text directly.
   * `json_values_are_rawfree` (A1): what EVERY run of the JSON deserializer model produces (any result code).
   * `cross_format` (A2): the MessagePack bytes of that document are accepted, consumed exactly, give `C09.norm v`, and
     `C09.norm v == v` (both directions, `Cmp.compare` = the model of `operator==` between two variants) unless `v` holds a NaN.
     Without the NaN option there is no NaN (`json_no_nan`), so the value clause is unconditional
     (`cross_format_no_nan_option`, `cross_format_default`).
   * "`env.maxStrLen ≥ cfg.maxStrLen` suffices": TRUE. The JSON parser model applies the string limit to every key, quoted or
     not (`parseMembers`: an unquoted key longer than `cfg.maxStrLen` answers NoMemory, like the C++ `parseNonQuotedString`,
     which ends with `if (!stringBuilder_.isValid()) return NoMemory`; see `unquoted_key_limited`), and a member is stored
     only after its key was read with Ok. Hence every key of every parsed document is at most `cfg.maxStrLen` bytes long
     (`json_keys_within_limit`), and the theorems need no hypothesis about keys.
   * `json_of_document`, `msgpack_values`, `msgpack_to_json` (A3): the converse direction, document (from MessagePack) -> JSON
     -> document: `CloseDoc` in general, `==` for documents without floats.
   Lemmas: AJ/Lemmas/CrossFormat.lean (parser invariant, comparison), CrossFormatNaN.lean (no NaN without the option),
   CrossFormatMp.lean (what the MessagePack deserializer produces). -/
import AJ.Lemmas.CrossFormat
import AJ.Lemmas.CrossFormatNaN
import AJ.Lemmas.CrossFormatMp
import AJ.Lemmas.MpProjectEq
import AJ.Props.C15
import AJ.Props.C18
import AJ.Props.C07Float
namespace C07
open JD
open CrossFormat

/-! ## A1. what the JSON deserializer produces -/

/-- **Every** value produced by `JD.run` — whatever the result code, the options, the nesting limit, the text —
    * has no raw node (`C09.RawFree`) and no object with a repeated key (`Cmp.NoDupKeys`);
    * satisfies `JOk (NumGood cfg) cfg.maxStrLen`: integers within 64 bits (`uint < 2^64`, `-2^63 ≤ sint < 2^64`), float
      patterns within their width (`C09.NumOk`), no NaN unless the NaN option is set; string values and ALL keys (quoted or
      unquoted) at most `cfg.maxStrLen` bytes;
    * is paid for by the text: `size v` (bytes of all strings and keys, plus one per element and per member) is at most the
      number of bytes consumed, itself at most the length of the text;
    * and, when the code is Ok, nests at most `L` deep. -/
theorem json_values_are_rawfree (cfg : Cfg) (L : Nat) (t : List Byte) :
    C09.RawFree (JD.run cfg L t).2.1 ∧ Cmp.NoDupKeys (JD.run cfg L t).2.1 ∧
    JOk (NumGood cfg) cfg.maxStrLen (JD.run cfg L t).2.1 ∧
    size (JD.run cfg L t).2.1 ≤ (JD.run cfg L t).2.2 ∧ (JD.run cfg L t).2.2 ≤ t.length ∧
    ((JD.run cfg L t).1 = .ok → C09.depth (JD.run cfg L t).2.1 ≤ L) := by
  obtain ⟨hj, hs⟩ := run_good cfg L t
  refine ⟨rawFree_of_jok _ hj, noDup_of_jok _ hj, hj, hs, JD.run_pos_le cfg L t, fun hok => ?_⟩
  rw [depth09_eq]; exact C15.json_ok_depth cfg L t hok

/-- without the NaN option no document produced by the JSON deserializer holds a NaN (whatever the result code):
    `make_float` only multiplies a finite value by finite non-zero powers of ten -/
theorem json_no_nan (cfg : Cfg) (hnan : cfg.nan = false) (L : Nat) (t : List Byte) : NoNaN (JD.run cfg L t).2.1 :=
  noNaN_of_jok (fun _ h => h.2 hnan) _ (run_good cfg L t).1

/-- every key (quoted or unquoted) of every object of a document produced by `JD.run` — whatever the result code — is at
    most `cfg.maxStrLen` bytes long: a member is stored only after its key was read with Ok, and a key longer than the string
    limit is answered with NoMemory -/
theorem json_keys_within_limit (cfg : Cfg) (L : Nat) (t : List Byte) : KeysWithin cfg.maxStrLen (JD.run cfg L t).2.1 :=
  keysWithin_of_jok _ (run_good cfg L t).1

/-- the hypotheses of the MessagePack round-trip theorems (`C09.WithinLimits`), for a text shorter than `2^32` bytes and a
    MessagePack string limit at least the JSON one -/
theorem json_values_within_limits (cfg : Cfg) (env : MD.Env) (L : Nat) (t : List Byte)
    (hm : cfg.maxStrLen ≤ env.maxStrLen) (ht : t.length < 2^32) : C09.WithinLimits env (JD.run cfg L t).2.1 := by
  obtain ⟨_, _, hj, hs, hp, _⟩ := json_values_are_rawfree cfg L t
  exact within_of_jok env (fun _ h => h.1) hm _ hj (by omega)

/-- keys are bytes of the text: no key is longer than the text -/
theorem json_keys_within_text (cfg : Cfg) (L : Nat) (t : List Byte) : KeysWithin t.length (JD.run cfg L t).2.1 := by
  obtain ⟨_, _, _, hs, hp, _⟩ := json_values_are_rawfree cfg L t
  exact keysWithin_of_size _ (by omega)

/-! ## A2. JSON -> document -> MessagePack -> document -/

/-- **Cross-format round trip.** Let `v` be the document obtained with Ok from the JSON text `t` (any options, nesting
    limit `L`). If the MessagePack deserializer's string limit is at least the JSON one, its nesting limit at least `L` and
    the text is shorter than `2^32` bytes, then
    `deserializeMsgPack(serializeMsgPack(v))` succeeds, consumes exactly the bytes written (whatever follows them) and
    yields `C09.norm v`; and, if `v` holds no NaN, `norm v == v` and `v == norm v` (`Cmp.compare … = equal`, `C18.vEq`):
    same structure, strings, keys; numbers equal by value (`norm` may change the signedness tag of a non-negative integer,
    store an integral float as an integer, a double that is exactly a float as a float). -/
theorem cross_format (cfg : Cfg) (env : MD.Env) (L L' : Nat) (t : List Byte)
    (hok : (JD.run cfg L t).1 = .ok) (hm : cfg.maxStrLen ≤ env.maxStrLen) (hL : L ≤ L') (ht : t.length < 2^32)
    (rest : List Byte) :
    MD.run env L' .all (MD.ser (JD.run cfg L t).2.1 ++ rest) =
      (.ok, C09.norm (JD.run cfg L t).2.1, (MD.ser (JD.run cfg L t).2.1).length) ∧
    (NoNaN (JD.run cfg L t).2.1 →
      Cmp.compare (C09.norm (JD.run cfg L t).2.1) (JD.run cfg L t).2.1 = .equal ∧
      Cmp.compare (JD.run cfg L t).2.1 (C09.norm (JD.run cfg L t).2.1) = .equal ∧
      C18.vEq (C09.norm (JD.run cfg L t).2.1) (JD.run cfg L t).2.1 = true ∧
      C18.vEq (JD.run cfg L t).2.1 (C09.norm (JD.run cfg L t).2.1) = true) := by
  obtain ⟨hr, hd, _, _, _, hdep⟩ := json_values_are_rawfree cfg L t
  have hw := json_values_within_limits cfg env L t hm ht
  refine ⟨C09.roundtrip env L' _ hr hw (Nat.le_trans (hdep hok) hL) rest, fun hn => ?_⟩
  obtain ⟨h1, h2⟩ := norm_eqBoth _ hn hd
  exact ⟨h1, h2, C18.vEq_of_compare h2, C18.vEq_of_compare h1⟩

/-- **Cross-format round trip without the NaN option** (the default): the value clause holds unconditionally.
    JSON text -> document `v` -> MessagePack -> document `norm v`, and `norm v == v` (both ways). -/
theorem cross_format_no_nan_option (cfg : Cfg) (env : MD.Env) (L L' : Nat) (t : List Byte) (hnan : cfg.nan = false)
    (hok : (JD.run cfg L t).1 = .ok) (hm : cfg.maxStrLen ≤ env.maxStrLen) (hL : L ≤ L') (ht : t.length < 2^32)
    (rest : List Byte) :
    MD.run env L' .all (MD.ser (JD.run cfg L t).2.1 ++ rest) =
      (.ok, C09.norm (JD.run cfg L t).2.1, (MD.ser (JD.run cfg L t).2.1).length) ∧
    Cmp.compare (C09.norm (JD.run cfg L t).2.1) (JD.run cfg L t).2.1 = .equal ∧
    Cmp.compare (JD.run cfg L t).2.1 (C09.norm (JD.run cfg L t).2.1) = .equal ∧
    C18.vEq (C09.norm (JD.run cfg L t).2.1) (JD.run cfg L t).2.1 = true ∧
    C18.vEq (JD.run cfg L t).2.1 (C09.norm (JD.run cfg L t).2.1) = true := by
  obtain ⟨h1, h2⟩ := cross_format cfg env L L' t hok hm hL ht rest
  exact ⟨h1, h2 (json_no_nan cfg hnan L t)⟩

/-- default options on both sides (string limits 65535 and 65535), same nesting limit, a text shorter than `2^32` bytes: no
    other side condition is left -/
theorem cross_format_default (L : Nat) (t : List Byte) (hok : (JD.run {} L t).1 = .ok) (ht : t.length < 2^32) :
    MD.run {} L .all (MD.ser (JD.run {} L t).2.1) =
      (.ok, C09.norm (JD.run {} L t).2.1, (MD.ser (JD.run {} L t).2.1).length) ∧
    Cmp.compare (C09.norm (JD.run {} L t).2.1) (JD.run {} L t).2.1 = .equal ∧
    C18.vEq (C09.norm (JD.run {} L t).2.1) (JD.run {} L t).2.1 = true := by
  have h := cross_format_no_nan_option {} {} L L t rfl hok (Nat.le_refl _) (Nat.le_refl _) ht []
  rw [List.append_nil] at h
  exact ⟨h.1, h.2.1, h.2.2.2.1⟩

/-- the value clause alone, for ANY document without NaN and without repeated keys (raw nodes included: `norm` keeps them) -/
theorem norm_compares_equal (v : Val) (hn : NoNaN v) (hd : Cmp.NoDupKeys v) :
    Cmp.compare (C09.norm v) v = .equal ∧ Cmp.compare v (C09.norm v) = .equal := norm_eqBoth v hn hd

/-- a NaN never compares equal, not even to its own copy: the double NaN goes through MessagePack unchanged (`norm` keeps
    it) and `norm v == v` is false. (In a document obtained from JSON a NaN needs the NaN option.) -/
theorem nan_not_equal (b : Nat) (h : SF.isNaN SF.b64 b = true) :
    C09.norm (.num (.f64 b)) = .num (.f64 b) ∧ Cmp.compare (C09.norm (.num (.f64 b))) (.num (.f64 b)) = .differ := by
  obtain ⟨e, d⟩ := num_cmp_nan64 b h
  refine ⟨by simp only [C09.norm, e], ?_⟩
  simp only [C09.norm]
  rw [compare_num_num]; exact d

/-! ## A3. the converse: (MessagePack ->) document -> JSON -> document -/

/-- **Document -> JSON -> document.** For every document `v` without raw values (a document read from MessagePack without
    bin/ext values, or built through the API) and without repeated keys, whose integers are 64-bit, whose floats are `±0` or
    finite with `1e-300 ≤ |x| ≤ 1e300`, whose strings and keys fit the string buffer and whose nesting fits the limit:
    `deserializeJson(serializeJson(v))` succeeds, consumes the whole text and yields `readBack cfg v`, which is
    * `CloseDoc` to `v`: same structure, order, keys, strings, booleans; integers exactly (a non-negative signed integer comes
      back unsigned); every float within the C12 bounds (`C07.CloseNum`);
    * and, when `v` has no float node: `readBack cfg v = normInt v`, and it compares EQUAL to `v` (`==` both ways). -/
theorem json_of_document (cfg : Cfg) (L : Nat) (v : Val) (hcfg : cfg.decodeUnicode = true)
    (h2 : RawFree v) (h5 : NoDupKeys v) (h3 : IntsInRange v) (hf : FloatsInRange v) (h4 : StrsWithin cfg.maxStrLen v)
    (hd : depth v ≤ L) :
    JD.run cfg L (JSer.compact cfg v) = (.ok, readBack cfg v, (JSer.compact cfg v).length) ∧
    CloseDoc v (readBack cfg v) ∧
    (NoFloat v → readBack cfg v = normInt v ∧
      Cmp.compare (readBack cfg v) v = .equal ∧ Cmp.compare v (readBack cfg v) = .equal ∧
      C18.vEq (readBack cfg v) v = true ∧ C18.vEq v (readBack cfg v) = true) := by
  have hfin : FiniteFloats v := AllV_mono finite_of_range (fun _ h => h) v hf
  have a := AllV_and v (AllV_and v h2 h3) hf
  refine ⟨json_roundtrip_finite cfg L v hcfg hfin h2 h3 h4 hd,
    closeDoc_readBack cfg v (AllV_mono (fun v h => ⟨h.1.1, h.1.2, h.2⟩) (fun _ _ => trivial) v a) h5, fun h1 => ?_⟩
  have e : readBack cfg v = normInt v := by
    rw [readBack_eq_normJ cfg v (good_of cfg v h1 h2 h3 h4), normJ_eq_normInt v h5]
  obtain ⟨c1, c2⟩ := normInt_eqBoth v (noNaN_of_noFloat v h1) (noDup_of_c07 v h5)
  rw [e]
  exact ⟨rfl, c1, c2, C18.vEq_of_compare c2, C18.vEq_of_compare c1⟩

/-- the value clause alone: the integer normalisation of the JSON round trip compares equal to the document, for every
    document without NaN and without repeated keys -/
theorem normInt_compares_equal (v : Val) (hn : NoNaN v) (hd : Cmp.NoDupKeys v) :
    Cmp.compare (normInt v) v = .equal ∧ Cmp.compare v (normInt v) = .equal := normInt_eqBoth v hn hd

mutual
theorem depth07_eq : ∀ v : Val, depth v = C15.depth v
  | .arr xs => by rw [C15.depth_arr]; simp only [depth]; rw [depth07E_eq xs]
  | .obj ms => by rw [C15.depth_obj]; simp only [depth]; rw [depth07M_eq ms]
  | .null | .bool _ | .num _ | .str _ | .raw _ => by simp [depth]
theorem depth07E_eq : ∀ xs : List Val, depthE xs = C15.depthList xs
  | [] => by simp [depthE]
  | x :: r => by simp only [depthE, C15.depthList]; rw [depth07_eq x, depth07E_eq r]
theorem depth07M_eq : ∀ ms : List (List Byte × Val), depthM ms = C15.depthMembers ms
  | [] => by simp [depthM]
  | (k, v) :: r => by simp only [depthM, C15.depthMembers]; rw [depth07_eq v, depth07M_eq r]
end

/-- **Every** value produced by the MessagePack deserializer model (any filter, any result code) has its integers within
    64 bits and its strings AND keys within the deserializer's string limit; with Ok it nests at most `L` deep.
    (Raw nodes — bin/ext — and repeated keys are possible: MessagePack maps are read member by member without a lookup.) -/
theorem msgpack_values (env : MD.Env) (L : Nat) (flt : Flt) (bytes : List Byte) :
    IntsInRange (MD.run env L flt bytes).2.1 ∧ StrsWithin env.maxStrLen (MD.run env L flt bytes).2.1 ∧
    ((MD.run env L flt bytes).1 = .ok → depth (MD.run env L flt bytes).2.1 ≤ L) := by
  have h := mp_run_ok env L flt bytes
  refine ⟨AllV_mono (fun _ h => h.1) (fun _ _ => trivial) _ h, AllV_mono (fun _ h => h.2) (fun _ h => h) _ h, fun hok => ?_⟩
  rw [depth07_eq]; exact C15.msgpack_ok_depth env L flt bytes hok

/-- **MessagePack -> document -> JSON -> document.** Let `v` be the document obtained with Ok from MessagePack bytes. If it
    holds no bin/ext value and no map with a repeated key, its floats are `±0` or finite within `1e±300`, the JSON side's
    string limit is at least the MessagePack one, its nesting limit at least `L` and `\u` decoding is on, then the JSON text of
    `v` is accepted, consumed entirely, and read back as `readBack cfg v`: `CloseDoc` to `v`, and — when `v` has no float —
    equal to `normInt v` and comparing EQUAL to `v`. The integer ranges, string limits and nesting depth that the JSON
    round trip needs are guaranteed by the MessagePack deserializer (`msgpack_values`). -/
theorem msgpack_to_json (env : MD.Env) (cfg : Cfg) (L L' : Nat) (bytes : List Byte) (hcfg : cfg.decodeUnicode = true)
    (hok : (MD.run env L .all bytes).1 = .ok) (hm : env.maxStrLen ≤ cfg.maxStrLen) (hL : L ≤ L')
    (h2 : RawFree (MD.run env L .all bytes).2.1) (h5 : NoDupKeys (MD.run env L .all bytes).2.1)
    (hf : FloatsInRange (MD.run env L .all bytes).2.1) :
    JD.run cfg L' (JSer.compact cfg (MD.run env L .all bytes).2.1) =
      (.ok, readBack cfg (MD.run env L .all bytes).2.1, (JSer.compact cfg (MD.run env L .all bytes).2.1).length) ∧
    CloseDoc (MD.run env L .all bytes).2.1 (readBack cfg (MD.run env L .all bytes).2.1) ∧
    (NoFloat (MD.run env L .all bytes).2.1 →
      Cmp.compare (readBack cfg (MD.run env L .all bytes).2.1) (MD.run env L .all bytes).2.1 = .equal ∧
      Cmp.compare (MD.run env L .all bytes).2.1 (readBack cfg (MD.run env L .all bytes).2.1) = .equal) := by
  obtain ⟨h3, h4, hd⟩ := msgpack_values env L .all bytes
  have h4' : StrsWithin cfg.maxStrLen (MD.run env L .all bytes).2.1 :=
    AllV_mono (fun v h => by cases v <;> first | trivial | exact Nat.le_trans h hm)
      (fun _ h => Nat.le_trans h hm) _ h4
  obtain ⟨a, b, c⟩ := json_of_document cfg L' _ hcfg h2 h5 h3 hf h4' (Nat.le_trans (hd hok) hL)
  exact ⟨a, b, fun hn => ⟨(c hn).2.1, (c hn).2.2.1⟩⟩

/-! ## the string limit applies to unquoted keys too -/

/-- `{abc:1}` read with a string limit of 2 bytes: NoMemory, like the quoted form `{"abc":1}` (in the library the unquoted
    key goes through the string builder too) -/
theorem unquoted_key_limited :
    (JD.run { maxStrLen := 2 } 10 [0x7B, 0x61, 0x62, 0x63, 0x3A, 0x31, 0x7D]).1 = .noMemory ∧
    (JD.run { maxStrLen := 2 } 10 [0x7B, 0x22, 0x61, 0x62, 0x63, 0x22, 0x3A, 0x31, 0x7D]).1 = .noMemory := by
  decide +kernel

/-! ## non-vacuity -/

/-- `[1,-2,2.5,"x",{"k":null},1e100,3.0]` -/
def crossText : List Byte :=
  [0x5B, 0x31, 0x2C, 0x2D, 0x32, 0x2C, 0x32, 0x2E, 0x35, 0x2C, 0x22, 0x78, 0x22, 0x2C, 0x7B, 0x22, 0x6B, 0x22, 0x3A,
   0x6E, 0x75, 0x6C, 0x6C, 0x7D, 0x2C, 0x31, 0x65, 0x31, 0x30, 0x30, 0x2C, 0x33, 0x2E, 0x30, 0x5D]

def crossDoc : Val :=
  .arr [.num (.uint 1), .num (.sint (-2)), .num (.f32 0x40200000), .str [0x78], .obj [([0x6B], .null)],
        .num (.f64 0x54B249AD2594C37D), .num (.f32 0x40400000)]

theorem crossRun : JD.run {} 2 crossText = (.ok, crossDoc, 35) := JD.result_eq (by decide +kernel)

/-- `cross_format` applies (default options on both sides, 2 levels): the MessagePack bytes of the document come
    back as `norm crossDoc` (the unsigned 1 is read back as the signed 1, the float 3.0 is written and read back as the
    integer 3, everything else is unchanged), and that compares equal to the document read from the JSON text -/
example : MD.run {} 2 .all (MD.ser crossDoc) = (.ok, C09.norm crossDoc, (MD.ser crossDoc).length) ∧
    Cmp.compare (C09.norm crossDoc) crossDoc = .equal ∧ C18.vEq crossDoc (C09.norm crossDoc) = true := by
  have h := cross_format {} {} 2 2 crossText (by rw [crossRun]) (Nat.le_refl _) (Nat.le_refl _) (by decide) []
  rw [crossRun, List.append_nil] at h
  have hn : NoNaN crossDoc := by
    simp only [crossDoc, NoNaN, NoNaNL, NoNaNM, NoNaNNum, and_true, true_and]
    decide +kernel
  exact ⟨h.1, (h.2 hn).1, (h.2 hn).2.2.2⟩

/-- `cross_format_default` applies to the same text: nothing but "the text is accepted and shorter than 2^32 bytes" is needed -/
example : Cmp.compare (C09.norm crossDoc) crossDoc = .equal := by
  have h := (cross_format_default 2 crossText (by rw [crossRun]) (by decide)).2.1
  rwa [crossRun] at h

/-- independent check by evaluation: `norm` is not the identity on this document, the comparison is by value -/
example : C09.norm crossDoc =
    .arr [.num (.sint 1), .num (.sint (-2)), .num (.f32 0x40200000), .str [0x78], .obj [([0x6B], .null)],
          .num (.f64 0x54B249AD2594C37D), .num (.sint 3)] := JD.Val.eqb_sound _ _ (by decide +kernel)
example : Cmp.compare (C09.norm crossDoc) crossDoc = .equal := by rw [C18.compare_eval]; decide +kernel

/-- `{abc:[1]}` (unquoted key) -/
def unqText : List Byte := [0x7B, 0x61, 0x62, 0x63, 0x3A, 0x5B, 0x31, 0x5D, 0x7D]
def unqDoc : Val := .obj [([0x61, 0x62, 0x63], .arr [.num (.uint 1)])]

theorem unqRun : JD.run { maxStrLen := 3 } 2 unqText = (.ok, unqDoc, 9) := JD.result_eq (by decide +kernel)

/-- `cross_format_no_nan_option` applies to a text with an UNQUOTED key, with the tightest limits on both sides (JSON string
    limit 3 = length of the key = MessagePack string limit): nothing about the keys has to be assumed -/
example : MD.run { maxStrLen := 3 } 2 .all (MD.ser unqDoc) = (.ok, C09.norm unqDoc, (MD.ser unqDoc).length) ∧
    Cmp.compare (C09.norm unqDoc) unqDoc = .equal := by
  have h := cross_format_no_nan_option { maxStrLen := 3 } { maxStrLen := 3 } 2 2 unqText rfl (by rw [unqRun])
    (Nat.le_refl _) (Nat.le_refl _) (by decide) []
  rw [unqRun, List.append_nil] at h
  exact ⟨h.1, h.2.1⟩

/-- `json_keys_within_limit` on a run that FAILS: `{ab:1,abcd:2}` with a string limit of 2 bytes answers NoMemory at the
    second key; the document built so far, `{"ab":1}`, only has keys within the limit -/
example : (JD.run { maxStrLen := 2 } 2 [0x7B, 0x61, 0x62, 0x3A, 0x31, 0x2C, 0x61, 0x62, 0x63, 0x64, 0x3A, 0x32, 0x7D]).1
      = .noMemory ∧
    (JD.run { maxStrLen := 2 } 2 [0x7B, 0x61, 0x62, 0x3A, 0x31, 0x2C, 0x61, 0x62, 0x63, 0x64, 0x3A, 0x32, 0x7D]).2.1
      = .obj [([0x61, 0x62], .num (.uint 1))] ∧
    KeysWithin 2 (JD.run { maxStrLen := 2 } 2 [0x7B, 0x61, 0x62, 0x3A, 0x31, 0x2C, 0x61, 0x62, 0x63, 0x64, 0x3A, 0x32, 0x7D]).2.1 :=
  have hrun : JD.run { maxStrLen := 2 } 2 [0x7B, 0x61, 0x62, 0x3A, 0x31, 0x2C, 0x61, 0x62, 0x63, 0x64, 0x3A, 0x32, 0x7D] =
      (.noMemory, .obj [([0x61, 0x62], .num (.uint 1))], 11) := JD.result_eq (by decide +kernel)
  ⟨by rw [hrun], by rw [hrun], json_keys_within_limit { maxStrLen := 2 } 2 _⟩

/-- `nan_not_equal` applies to what the JSON deserializer reads from `NaN` with the NaN option -/
example : (JD.run { nan := true } 0 [0x4E, 0x61, 0x4E]).2.1 = .num (.f64 0x7FF8000000000000) ∧
    Cmp.compare (C09.norm (.num (.f64 0x7FF8000000000000))) (.num (.f64 0x7FF8000000000000)) = .differ :=
  ⟨JD.Val.eqb_sound _ _ (by decide +kernel), (nan_not_equal _ (by decide +kernel)).2⟩

/-- `json_of_document` applies to the float-free sample document of AJ/Props/C07.lean
    (`{"a":[1,-2,"x\n",null,true,5],"b":{"c":[]},"":false}`, the signed 5 comes back unsigned): the text is read back as a
    document that compares equal -/
example : Cmp.compare (JD.run {} 3 sampleText).2.1 sample = .equal := by
  obtain ⟨hrun, _, hnf⟩ := json_of_document {} 3 sample rfl
    (by simp only [RawFree, sample, AllV, AllE, AllM, RawFreeS, and_self])
    (by simp only [NoDupKeys, sample, NoDupE, NoDupM, List.map_cons, List.map_nil]; decide)
    (by simp only [IntsInRange, sample, AllV, AllE, AllM, IntOkS]; decide)
    (by simp only [FloatsInRange, sample, AllV, AllE, AllM, FloatRangeS, and_self])
    (by simp only [StrsWithin, sample, AllV, AllE, AllM, StrOkS, List.length_cons, List.length_nil]; decide)
    (by simp only [sample, depth, depthE, depthM]; decide)
  rw [sample_text] at hrun
  rw [hrun]
  exact (hnf (by simp only [NoFloat, sample, AllV, AllE, AllM, FloatFreeS, and_self])).2.1

/-- `msgpack_to_json` applies: the MessagePack bytes `92 01 A1 78` (`[1,"x"]`) read with limit 1, written as JSON
    (`[1,"x"]`) and read back: the result compares equal to the MessagePack document -/
example : Cmp.compare (JD.run {} 1 (JSer.compact {} (MD.run {} 1 .all [0x92, 0x01, 0xA1, 0x78]).2.1)).2.1
    (MD.run {} 1 .all [0x92, 0x01, 0xA1, 0x78]).2.1 = .equal := by
  have hv : MD.run {} 1 .all [0x92, 0x01, 0xA1, 0x78] = (.ok, .arr [.num (.sint 1), .str [0x78]], 4) :=
    JD.result_eq (by decide +kernel)
  obtain ⟨hrun, _, hc⟩ := msgpack_to_json {} {} 1 1 [0x92, 0x01, 0xA1, 0x78] rfl (by rw [hv]) (Nat.le_refl _) (Nat.le_refl _)
    (by rw [hv]; simp only [RawFree, AllV, AllE, RawFreeS, and_self])
    (by rw [hv]; simp only [NoDupKeys, NoDupE, and_self])
    (by rw [hv]; simp only [FloatsInRange, AllV, AllE, FloatRangeS, and_self])
  rw [hrun]
  exact (hc (by rw [hv]; simp only [NoFloat, AllV, AllE, FloatFreeS, and_self])).1

end C07
