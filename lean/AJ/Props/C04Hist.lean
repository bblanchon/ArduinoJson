/- C04, lift to histories: `addElement` (allocation + `appendOne`), `clearV`, `setArg` on a cleared location. Each
   step keeps the invariant `WF` and moves the abstraction as the list-level machine says; hence every history does. -/
import AJ.Props.C04
import AJ.Props.C05Doc
namespace C04
open DL
open JD (Byte Val)

/-- `addElement` whose allocation succeeds with slot `id`: the array at `l` gets a null element appended -/
theorem addElement_refines {d d1 : Doc} {F : Forest} {l : Loc} {h t id : Nat} (w : WFG d F)
    (hs : StrOK d (d.strRefs F)) (gok : PL.GeoOK d.g) (hl : isLoc F l) (hv : d.get l = .arr h t)
    (hal : d.allocVariant = (some id, d1)) :
    d.addElement l = (some id, d1.appendOne l id) ∧
    WFG (d.addElement l).2 (replaceAt F l ((layoutAt F l).snoc none id)) ∧
    StrOK (d.addElement l).2 ((d.addElement l).2.strRefs (replaceAt F l ((layoutAt F l).snoc none id))) ∧
    ∃ xs, d.toVal (d.get l) = .arr xs ∧ abs (d.addElement l).2 = absWith d F l (.arr (xs ++ [.null])) := by
  have heq : d.addElement l = (some id, d1.appendOne l id) := by simp only [Doc.addElement, hal]
  obtain ⟨hg, _, hc, _, hnl, hlt, hlv⟩ := allocVariant_some gok w.pool hal
  obtain ⟨w1, hs1, _⟩ := wfg_of_grow w hs hg
  obtain ⟨o1, o2, o3⟩ := grow_obs w hs hg hl
  have hn : d1.null = d.null := by simp only [Doc.null, hg.g]
  obtain ⟨a, b, xs, c1, c2⟩ := appendOne_wf (d := d1) (id := id) w1 hs1 hl (by rw [o1]; exact hv) (by rw [hn]; exact hc)
    (fun m => hnl (w.live id m)) (by rw [hn]; exact hlt) ((hlv id).2 (Or.inr rfl))
  rw [heq]
  exact ⟨rfl, a, b, xs, by rw [← o2]; exact c1, by rw [c2, o3]⟩

/-! ## Histories -/

inductive Op
  | add (l : Loc)                 -- `array.add()`: `addElement`
  | clear (l : Loc)               -- `variant.clear()`
  | put (l : Loc) (a : Arg)       -- store a scalar/string on a cleared location (`set` = `clear` then `put`)

def Op.run (d : Doc) : Op → Doc
  | .add l => (d.addElement l).2
  | .clear l => d.clearV l
  | .put l a => (d.setArg l a).2

/-- the operation designates a reachable location of the right kind; `put` reports success -/
def Op.Valid (d : Doc) (F : Forest) : Op → Prop
  | .add l => isLoc F l ∧ ∃ h t, d.get l = .arr h t
  | .clear l => isLoc F l
  | .put l a => isLoc F l ∧ d.get l = .null ∧ (d.setArg l a).1 = true

/-- ghost layout after the operation -/
def Op.layout (d : Doc) (F : Forest) : Op → Forest
  | .add l => match (d.addElement l).1 with
    | some id => replaceAt F l ((layoutAt F l).snoc none id)
    | none => F
  | .clear l => replaceAt F l .nil
  | .put _ _ => F

/-- the list-level machine: what the abstract document becomes -/
def Op.spec (d : Doc) (F : Forest) : Op → Val
  | .add l => match (d.addElement l).1, d.toVal (d.get l) with
    | some _, .arr xs => absWith d F l (.arr (xs ++ [.null]))      -- element appended
    | _, _ => abs d                                               -- allocation failed: nothing changes
  | .clear l => absWith d F l .null
  | .put l a => absWith d F l (argVal a)

/-- one step: the invariant is kept, the geometry is kept, and the abstraction follows the list-level machine -/
theorem step_refines {d : Doc} {F : Forest} {op : Op} (w : WFG d F) (hs : StrOK d (d.strRefs F))
    (gok : PL.GeoOK d.g) (hv : op.Valid d F) :
    WFG (op.run d) (op.layout d F) ∧ StrOK (op.run d) ((op.run d).strRefs (op.layout d F)) ∧
    (op.run d).g = d.g ∧ abs (op.run d) = op.spec d F := by
  cases op with
  | add l =>
    obtain ⟨hl, h, t, hg⟩ := hv
    rcases hal : d.allocVariant with ⟨_ | id, d1⟩
    · have e1 : d.addElement l = (none, d1) := by simp only [Doc.addElement, hal]
      obtain ⟨hgr, _, _⟩ := allocVariant_none gok w.pool hal
      obtain ⟨a, b, c⟩ := wfg_of_grow w hs hgr
      simp only [Op.run, Op.layout, Op.spec, e1]
      exact ⟨a, b, hgr.g, c⟩
    · obtain ⟨e1, a, b, xs, c1, c2⟩ := addElement_refines w hs gok hl hg hal
      rw [e1] at a b c2
      simp only [Op.run, Op.layout, Op.spec, e1, c1]
      exact ⟨a, b, by rw [appendOne_g]; exact (allocVariant_some gok w.pool hal).1.g, c2⟩
  | clear l =>
    obtain ⟨a, b, c, _⟩ := clearV_collection w hs hv
    exact ⟨a, b, clearV_g _ _, c⟩
  | put l a =>
    obtain ⟨hl, hn, hok⟩ := hv
    obtain ⟨x, y, z⟩ := set_scalar_wf w hs hl hn gok hok
    exact ⟨x, y, setArg_g d l a, z⟩

/-- `Hist d F d' F'`: `d'` (laid out as `F'`) is reached from `d` (laid out as `F`) by a sequence of valid operations -/
inductive Hist : Doc → Forest → Doc → Forest → Prop
  | nil (d : Doc) (F : Forest) : Hist d F d F
  | cons {d : Doc} {F : Forest} {d' : Doc} {F' : Forest} (op : Op) :
      op.Valid d F → Hist (op.run d) (op.layout d F) d' F' → Hist d F d' F'

/-- what every valid operation keeps holds at the end of every history -/
theorem Hist.keeps {P : Doc → Forest → Prop} {d d' : Doc} {F F' : Forest} (h : Hist d F d' F')
    (step : ∀ d F (op : Op), P d F → op.Valid d F → P (op.run d) (op.layout d F)) : P d F → P d' F' := by
  induction h with
  | nil => exact id
  | cons op hv _ ih => exact fun h0 => ih (step _ _ op h0 hv)

/-- Every history of valid operations from a well-formed document ends in a well-formed document (cells: chains
    acyclic, no sharing, slots live, extension slots referenced once; string table: reference counts cover all
    references) over the same geometry; by `step_refines` the abstract document moves at each step exactly as the
    list-level machine `Op.spec` says. -/
theorem history_refines {d d' : Doc} {F F' : Forest} (h : Hist d F d' F') :
    WFG d F → StrOK d (d.strRefs F) → PL.GeoOK d.g →
    WFG d' F' ∧ StrOK d' (d'.strRefs F') ∧ d'.g = d.g := by
  intro w hs gok
  refine h.keeps (P := fun d1 F1 => WFG d1 F1 ∧ StrOK d1 (d1.strRefs F1) ∧ d1.g = d.g) ?_ ⟨w, hs, rfl⟩
  intro d1 F1 op ⟨w1, s1, g1⟩ hv
  obtain ⟨a, b, c, _⟩ := step_refines w1 s1 (by rw [g1]; exact gok) hv
  exact ⟨a, b, c.trans g1⟩

/-- the abstract trace of a history: the successive abstract documents are those of the list-level machine -/
theorem history_trace {d d' : Doc} {F F' : Forest} (h : Hist d F d' F') :
    WFG d F → StrOK d (d.strRefs F) → PL.GeoOK d.g →
    ∀ (op : Op), op.Valid d' F' → abs (op.run d') = op.spec d' F' := by
  intro w hs gok op hv
  obtain ⟨a, b, c⟩ := history_refines h w hs gok
  exact (step_refines a b (by rw [c]; exact gok) hv).2.2.2

/-! ## Non-vacuity -/
namespace Ex2
open C04.Ex

theorem s1 : StrOK e1 (e1.strRefs .nil) := ⟨by decide +kernel, by decide +kernel, by decide +kernel, by decide +kernel⟩

/-- a history `add root; put [0] "hi" (copied); clear root` from the empty array: all three steps are valid, so the
    final document is well-formed -/
def ops : List Op := [.add .root, .put (.slot 0) (.strCopied hi), .clear .root]

theorem hist3 : ∃ d' F', Hist e1 .nil d' F' ∧ d'.root = .null := by
  refine ⟨_, _, Hist.cons (.add .root) ⟨trivial, 255, 255, rfl⟩
    (Hist.cons (.put (.slot 0) (.strCopied hi)) ⟨by show 0 ∈ (Op.layout e1 .nil (.add .root)).locs; decide +kernel, by decide +kernel, by decide +kernel⟩
      (Hist.cons (.clear .root) trivial (Hist.nil _ _))), ?_⟩
  decide +kernel

example : ∃ d' F', Hist e1 .nil d' F' ∧ WFG d' F' ∧ StrOK d' (d'.strRefs F') := by
  obtain ⟨d', F', h, _⟩ := hist3
  exact ⟨d', F', h, (history_refines h w1 s1 gok).1, (history_refines h w1 s1 gok).2.1⟩

/-- `C05.add_element_fail_clean` applies: with an allocator that fails from its first call on, `add` returns nothing,
    sets the overflow flag and leaves the (empty) array as it was -/
def e1f : Doc := { e1 with pl := { e1.pl with failFrom := some 1 } }
theorem w1f : WFG e1f .nil := wfg_empty_arr rfl (PL.init_inv gok [] (some 1))
theorem s1f : StrOK e1f (e1f.strRefs .nil) := ⟨by decide +kernel, by decide +kernel, by decide +kernel, by decide +kernel⟩
example : (e1f.addElement .root).2.overflowed = true ∧ abs (e1f.addElement .root).2 = abs e1f := by
  obtain ⟨a, _, _, c, _⟩ := C05.add_element_fail_clean (l := .root) w1f s1f gok (by decide +kernel)
  exact ⟨a, c⟩
end Ex2

end C04
