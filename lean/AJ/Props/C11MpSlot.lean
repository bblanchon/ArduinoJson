/- C11 at the slot level, MessagePack: "a filter that allows everything changes nothing" - the FILTERED slot-level
   deserializer `MDDF.run` (AJ/Model/MDDF.lean) with `AllowAllFilter` (`.all`), or with `Filter(doc)` over a document that is
   `true` (`.doc (some (.bool true))`, more generally any `JD.Transparent` filter of AJ/Lemmas/FilterId.lean), IS the
   unfiltered slot-level deserializer `MDD.run` (AJ/Model/MDD.lean): same result code, same document - slots, string table,
   pool list and ALLOCATOR LOG included - and same number of bytes consumed, for every environment, nesting limit, starting
   document, input and allocator failure schedule.
   The three routines coincide already (`MDDF.slot_transparent`, AJ/Lemmas/MddStep.lean); here the wrapper `run`. -/
import AJ.Lemmas.MddfInv
import AJ.Lemmas.FilterId
import AJ.Props.C03MpDoc
namespace C11
open DL
open JD (Byte Code Flt Transparent)
open MDD (S)

/-- TRANSPARENT FILTERS CHANGE NOTHING, at the slot level: code, document (allocator log included), bytes consumed -/
theorem mp_transparent_is_unfiltered_slot_level (env : MD.Env) (limit : Nat) (flt : Flt) (h : Transparent flt) (d : Doc)
    (input : List Byte) : MDDF.run env limit flt d input = MDD.run env limit d input := by
  have hs : MDDF.stop env limit flt d input = MDD.mp_stop env limit d input :=
    (MDDF.slot_transparent env _).1 limit flt .root _ h
  have hp : MDDF.preShrink env limit flt d input = MDD.mp_preShrink env limit d input := by
    unfold MDDF.preShrink MDD.mp_preShrink
    rw [hs]
    rfl
  rw [MDDF.run_eq, MDD.mp_run_eq, hp, hs]

/-- `AllowAllFilter` -/
theorem mp_allow_all_is_unfiltered_slot_level (env : MD.Env) (limit : Nat) (d : Doc) (input : List Byte) :
    MDDF.run env limit .all d input = MDD.run env limit d input :=
  mp_transparent_is_unfiltered_slot_level env limit .all JD.transparent_all d input

/-- `Filter(doc)` with `doc == true`: `allow*` are true and `filter[0]`, `filter[key]` are the filter itself -/
theorem mp_filter_true_is_unfiltered_slot_level (env : MD.Env) (limit : Nat) (d : Doc) (input : List Byte) :
    MDDF.run env limit (.doc (some (.bool true))) d input = MDD.run env limit d input :=
  mp_transparent_is_unfiltered_slot_level env limit _ (JD.transparent_true rfl) d input

/-! ## Non-vacuity -/
open C03.ExDoc C03.ExMp

/-- `"hi"`: the filtered run with `AllowAllFilter` makes the same allocator call and returns the same code -/
example : (MDDF.run {} 10 .all (dk []) mHi).1 = .ok ∧ (MDDF.run {} 10 .all (dk []) mHi).2.1.pl.log = ["A17"] ∧
    MDDF.run {} 10 .all (dk []) mHi = MDD.run {} 10 (dk []) mHi :=
  ⟨by decide +kernel, by decide +kernel, mp_allow_all_is_unfiltered_slot_level {} 10 (dk []) mHi⟩

/-- the same under a failure schedule, and for the filter `true` -/
example : (MDDF.run {} 10 (.doc (some (.bool true))) (dk [1]) mHi).1 = .noMemory ∧
    MDDF.run {} 10 (.doc (some (.bool true))) (dk [1]) mHi = MDD.run {} 10 (dk [1]) mHi :=
  ⟨by decide +kernel, mp_filter_true_is_unfiltered_slot_level {} 10 (dk [1]) mHi⟩

/-- NOT for a filter that allows nothing: `"hi"` under the unbound filter is skipped without an allocator call -/
example : (MDDF.run {} 10 (.doc none) (dk []) mHi).1 = .ok ∧ (MDDF.run {} 10 (.doc none) (dk []) mHi).2.1.pl.log = [] ∧
    (MDDF.run {} 10 (.doc none) (dk []) mHi).2.2 = 3 :=
  ⟨by decide +kernel, by decide +kernel, by decide +kernel⟩

end C11
