/- C07, the floating-point clause: "deserializeJson(serializeJson(d)) yields a document equivalent to d (structure, order, strings
   and integers exact; floating-point values within C12 through JSON)".

   `C07.json_roundtrip_all` (AJ/Props/C07.lean) reads the text back as `readBack cfg v`, where a float node denotes "what
   `parseNumber` makes of its own text". This file says what that is, as a VALUE, composing the two halves of C12
   (print: AJ/Props/C12Print.lean; parse: AJ/Props/C12.lean) through AJ/Lemmas/FloatRound.lean:

   * `float_through_json`   : a finite non-zero binary64 `x`, `1e-300 ≤ |x| ≤ 1e300`, printed (9 places) and parsed, is a number
                              `y` of the same sign with `|y − x| ≤ 1e-9·max(1,|x|) + 1e-6·|x|`; when the parser does not choose
                              binary32, `|y − x| ≤ 1e-9·max(1,|x|)`. THE `1e-6` TERM IS REAL: a text with at most seven significant
                              digits is parsed in binary32 arithmetic (`double_via_float_witness`: 4.823015e37 comes back
                              2.1e-7·|x| away; 0.1 comes back as 0.1f, 1.49e-9 away).
   * `float32_through_json` : a finite non-zero binary32 `x` (printed with 6 places): `|y − x| ≤ 1e-6·max(1,|x|) + 1e-6·|x|`.
   * `float_through_json_long` : texts whose digits write a number above 8388607 keep `1e-9·max(1,|x|)`.
   * `float_kind`           : the kind of the result: integer iff the text has neither fraction nor exponent; binary32 only
                              for texts whose digits write a number `≤ 2^23 − 1`.
   * `integral_double_back` : a double (or float) whose value is an integer `1 ≤ N < 10^7` prints as the digits of `N` and comes
                              back as the INTEGER `N` (unsigned), `−N` as the signed integer `−N`; `±0` comes back as unsigned 0.
   * `json_roundtrip_floats_close` : documents: `CloseDoc v v'`. -/
import AJ.Props.C07
import AJ.Lemmas.FloatRound
namespace C07
open SF JD JS JSer Digits Spec.Json C12

/-! ## 1. one number through JSON -/

theorem lit_ne_null (n : Bool) {ip : List Byte} (f ex : List Byte) (hip : AllDigits ip) (hne : ip ≠ []) :
    (if n then [0x2D] else []) ++ ip ++ f ++ ex ≠ nullText := by
  intro hc
  cases n
  · cases ip with
    | nil => exact hne rfl
    | cons c t =>
      simp only [Bool.false_eq_true, if_false, List.nil_append, List.cons_append, nullText] at hc
      have := (List.cons.inj hc).1
      subst this
      exact absurd (AllDigits_cons.mp hip).1 (by decide)
  · simp only [if_true, List.cons_append, List.nil_append, nullText] at hc
    exact absurd (List.cons.inj hc).1 (by decide)

/-- a text value `T` within `0.51·Q` of the datum `x`, read back as `y` within `δ·|T|`, `δ ≤ 1e-6`: `y` is within
    `Q + 1e-6·|x|` of `x`, and within `Q` when `δ·|x|` is small against `Q` -/
theorem parse_print_err {y T x Q δ : ℚ} (hT : |T - x| ≤ 51 / 100 * Q) (hy : |y - T| ≤ δ * |T|) (hδ : 0 ≤ δ)
    (hδ6 : δ ≤ 1 / 10 ^ 6) (hQ : 0 ≤ Q) :
    |y - x| ≤ Q + 1 / 10 ^ 6 * |x| ∧ (δ * |x| ≤ 1 / 10 ^ 4 * Q → |y - x| ≤ Q) := by
  have h1 : |y - x| ≤ |y - T| + |T - x| := abs_sub_le y T x
  have h2 : |T| - |x| ≤ |T - x| := abs_sub_abs_le_abs_sub T x
  have h3 : δ * |T| ≤ δ * (|x| + 51 / 100 * Q) := mul_le_mul_of_nonneg_left (by linarith only [h2, hT]) hδ
  have h4 : δ * Q ≤ 1 / 10 ^ 6 * Q := mul_le_mul_of_nonneg_right hδ6 hQ
  have h5 : δ * |x| ≤ 1 / 10 ^ 6 * |x| := mul_le_mul_of_nonneg_right hδ6 (abs_nonneg x)
  constructor
  · linarith only [h1, hT, hy, h3, h4, h5, hQ]
  · intro h6; linarith only [h1, hT, hy, h3, h4, h6, hQ]

/-- `1e-13·X` is small against `max(1,X)·10^-places` for at most nine places -/
theorem rel_small {X N : ℚ} (hN : 0 < N) (hN9 : N ≤ 10 ^ 9) : 1 / 10 ^ 13 * X ≤ 1 / 10 ^ 4 * (max 1 X / N) := by
  have h1 : max 1 X / 10 ^ 9 ≤ max 1 X / N := div_le_div_of_nonneg_left (max_one_nonneg X) hN hN9
  have h2 : 1 / 10 ^ 13 * X ≤ 1 / 10 ^ 13 * max 1 X := mul_le_mul_of_nonneg_left (le_max_right _ _) (by norm_num)
  linarith

/-- PRINT THEN PARSE, as values. For a finite non-zero binary64 datum `x = ±a` with `2^-997 ≤ a ≤ 2^997` printed with
    `6 ≤ places ≤ 9` places: `parseNumber` returns a number of exact value `y`, the deserializer stores a number of the same
    value `y` (`numValue`: a binary64 result is narrowed to binary32 when that is exact), `y` has the sign of `x`, and
    `|y − x| ≤ 10^-places·max(1,|x|) + 1e-6·|x|` — without the second term unless `parseNumber` returns a binary32 -/
theorem through_value (cfg : Cfg) (b : Nat) (n : Bool) (m : Nat) (e : Int) (h : decode b64 b = .fin n m e) (hm : m ≠ 0)
    (places : Nat) (hp6 : 6 ≤ places) (hp9 : places ≤ 9)
    (hlo : (2 : ℚ) ^ (-997 : Int) ≤ qv m e) (hhi : qv m e ≤ (2 : ℚ) ^ (997 : Int)) :
    ∃ y : ℚ, pnumQ (parseNumber cfg (writeFloat cfg b places)) = some y ∧
      valQ (numValue cfg (writeFloat cfg b places)) = some y ∧
      writeFloat cfg b places ≠ nullText ∧
      (∃ a : ℚ, 0 < a ∧ y = (if n then -1 else 1) * a) ∧
      |y - sval n m e| ≤ 1 / 10 ^ places * max 1 |sval n m e| + 1 / 10 ^ 6 * |sval n m e| ∧
      ((∀ bits, parseNumber cfg (writeFloat cfg b places) ≠ .f32 bits) →
        |y - sval n m e| ≤ 1 / 10 ^ places * max 1 |sval n m e|) := by
  obtain ⟨ip, f, ex, hw, _, hip, hne, hf, he, htv, hcl, hTlo, _, hres⟩ := through_core cfg b n m e h hm places hp6 hp9 hlo hhi
  have hnn : writeFloat cfg b places ≠ nullText := by rw [hw]; exact lit_ne_null n f ex hip hne
  have hN9 : (10 : ℚ) ^ places ≤ (10 : ℚ) ^ 9 := pow_le_pow_right₀ (by norm_num) hp9
  have hNpos : (0 : ℚ) < (10 : ℚ) ^ places := by positivity
  have hQ : max 1 |sval n m e| / (10 : ℚ) ^ places = 1 / 10 ^ places * max 1 |sval n m e| := by ring
  have hQ0 : 0 ≤ max 1 |sval n m e| / (10 : ℚ) ^ places := by positivity
  rw [← hQ]
  rcases hres with ⟨h1, h2, hk, hv⟩ | ⟨bits, m', e', hb, hd, hm', hc⟩ | ⟨bits, m', e', hb, hd, hm', hc, _⟩
  · -- an integer literal: exactly the value of the text
    obtain ⟨hy, hy'⟩ := parse_print_err (y := litVal n ip f ex) (δ := 0) hcl (by simp) le_rfl (by norm_num) hQ0
    have hTpos : 0 < |litVal n ip f ex| :=
      lt_of_lt_of_le (mul_pos (by norm_num) (by rw [abs_sval]; exact qv_pos hm e)) hTlo
    have hapos : (0 : ℚ) < (Digits.decVal ip : ℚ) := by
      rw [hv] at hTpos
      have h0 : (0 : ℚ) ≤ (Digits.decVal ip : ℚ) := Nat.cast_nonneg _
      rcases lt_or_eq_of_le h0 with h | h
      · exact h
      · rw [← h] at hTpos; simp at hTpos
    refine ⟨litVal n ip f ex, ?_, ?_, hnn, ⟨_, hapos, hv⟩, hy, fun _ => hy' (by rw [zero_mul]; positivity)⟩
    · rcases hk with ⟨hn, hp⟩ | ⟨hn, hp⟩
      · rw [hp, hv, hn]; simp [pnumQ]
      · rw [hp, hv, hn]; simp [pnumQ]
    · rcases hk with ⟨hn, hp⟩ | ⟨hn, hp⟩
      · simp only [numValue, hp, valQ, numQ]; rw [hv, hn]; simp
      · simp only [numValue, hp, valQ, numQ]; rw [hv, hn]; simp
  · -- a binary64 result, stored exactly (possibly narrowed)
    obtain ⟨hy, hy'⟩ := parse_print_err hcl hc (by norm_num) (by norm_num) hQ0
    refine ⟨sval n m' e', ?_, ?_, hnn, ⟨qv m' e', qv_pos hm' e', rfl⟩, hy, fun _ => hy' (rel_small hNpos hN9)⟩
    · rw [hb]; exact fpQ_fin hd
    · simp only [numValue, hb, valQ]; exact storeDouble_value bits n m' e' hd hm'
  · -- a binary32 result
    obtain ⟨hy, _⟩ := parse_print_err hcl hc (by norm_num) (by norm_num) hQ0
    refine ⟨sval n m' e', ?_, ?_, hnn, ⟨qv m' e', qv_pos hm' e', rfl⟩, hy, fun hno => absurd hb (hno bits)⟩
    · rw [hb]; exact fpQ_fin hd
    · simp only [numValue, hb, valQ, numQ]; exact fpQ_fin hd

theorem ten300_le : 1 * 10 ^ 300 ≤ 1 * 2 ^ 997 := by decide +kernel

theorem big_num_13 : (10 : ℚ) ^ (300 : Int) ≤ (2 : ℚ) ^ (997 : Int) := by
  simpa using zpow_le_of_nat ten300_le

theorem big_num_14 : (2 : ℚ) ^ (-997 : Int) ≤ (10 : ℚ) ^ (-300 : Int) := by
  simpa using zpow_neg_le_of_nat (by decide) (by decide) ten300_le

/-- **A double through JSON.** For every finite binary64 datum `x` with `1e-300 ≤ |x| ≤ 1e300`: the text
    `t = serialize(x)` (9 decimal places) is read by `parseNumber` as a number of exact value `y`; the deserializer stores a number
    of that same value (`numBack`); `y` has the sign of `x`; and
        `|y − x| ≤ 1e-9·max(1,|x|) + 1e-6·|x|`.
    Unless `parseNumber` returns a binary32 pattern (it does so only for texts of at most seven significant digits, see
    `float_kind`), `|y − x| ≤ 1e-9·max(1,|x|)`. -/
theorem float_through_json (cfg : Cfg) (b : Nat) (n : Bool) (m : Nat) (e : Int) (h : decode b64 b = .fin n m e)
    (hlo : (10 : ℚ) ^ (-300 : Int) ≤ |sval n m e|) (hhi : |sval n m e| ≤ (10 : ℚ) ^ (300 : Int)) :
    ∃ y : ℚ, pnumQ (parseNumber cfg (printNum cfg (.f64 b))) = some y ∧
      valQ (numBack cfg (.f64 b)) = some y ∧
      (∃ a : ℚ, 0 < a ∧ y = (if n then -1 else 1) * a) ∧
      |y - sval n m e| ≤ 1 / 10 ^ 9 * max 1 |sval n m e| + 1 / 10 ^ 6 * |sval n m e| ∧
      ((∀ bits, parseNumber cfg (printNum cfg (.f64 b)) ≠ .f32 bits) →
        |y - sval n m e| ≤ 1 / 10 ^ 9 * max 1 |sval n m e|) := by
  have hm : m ≠ 0 := mant_ne_zero (ten_zpow_pos (-300)) hlo
  rw [abs_sval] at hlo hhi
  obtain ⟨y, h1, h2, hnn, h3, h4, h5⟩ := through_value cfg b n m e h hm 9 (by decide) (by decide)
    (le_trans big_num_14 hlo) (le_trans hhi big_num_13)
  refine ⟨y, h1, ?_, h3, h4, h5⟩
  have hp : printNum cfg (.f64 b) = writeFloat cfg b 9 := rfl
  simp only [numBack, hp, hnn, if_false]
  exact h2

/-- **A float through JSON.** For EVERY finite non-zero binary32 datum `x` (widened exactly to binary64 and printed with 6 decimal
    places): the text is read as a number of exact value `y` of the sign of `x`, stored with that value, and
        `|y − x| ≤ 1e-6·max(1,|x|) + 1e-6·|x|`;
    unless `parseNumber` returns a binary32 pattern, `|y − x| ≤ 1e-6·max(1,|x|)`. -/
theorem float32_through_json (cfg : Cfg) (b : Nat) (n : Bool) (m : Nat) (e : Int) (h : decode b32 b = .fin n m e) (hm : m ≠ 0) :
    ∃ y : ℚ, pnumQ (parseNumber cfg (printNum cfg (.f32 b))) = some y ∧
      valQ (numBack cfg (.f32 b)) = some y ∧
      (∃ a : ℚ, 0 < a ∧ y = (if n then -1 else 1) * a) ∧
      |y - sval n m e| ≤ 1 / 10 ^ 6 * max 1 |sval n m e| + 1 / 10 ^ 6 * |sval n m e| ∧
      ((∀ bits, parseNumber cfg (printNum cfg (.f32 b)) ≠ .f32 bits) →
        |y - sval n m e| ≤ 1 / 10 ^ 6 * max 1 |sval n m e|) := by
  obtain ⟨m', e', hd, hq, hm'⟩ := widen_f32 h
  have hs : sval n m' e' = sval n m e := by unfold sval; rw [hq]
  have hbot := fin_ge_bot b32 b n m e h hm
  have htop := fin_lt_top b32 b n m e h (by decide)
  rw [show emin b32 = -149 from by decide] at hbot
  rw [show (b32.emax : Int) - b32.bias = 128 from by decide] at htop
  have hlo : (2 : ℚ) ^ (-997 : Int) ≤ qv m' e' := by
    rw [hq]; exact le_trans (zpow_le_zpow_right₀ (by norm_num) (by norm_num)) hbot
  have hhi : qv m' e' ≤ (2 : ℚ) ^ (997 : Int) := by
    rw [hq]; exact le_trans htop.le (zpow_le_zpow_right₀ (by norm_num) (by norm_num))
  obtain ⟨y, h1, h2, hnn, h3, h4, h5⟩ := through_value cfg (cvt b32 b64 b) n m' e' hd (hm' hm) 6 (by decide) (by decide) hlo hhi
  rw [hs] at h4 h5
  refine ⟨y, h1, ?_, h3, h4, h5⟩
  have hp : printNum cfg (.f32 b) = writeFloat cfg (cvt b32 b64 b) 6 := rfl
  simp only [numBack, hp, hnn, if_false]
  exact h2

/-! ## 2. the kind of the value read back; integral values; zero -/

theorem parse_digits (cfg : Cfg) (I : Nat) (hI : I < 2 ^ 64) (n : Bool) (hI' : I ≤ 2 ^ 63) :
    parseNumber cfg ((if n then [0x2D] else []) ++ digits I) = (if n then PNum.sint (-(I : Int)) else PNum.uint I) := by
  cases n
  · simp only [Bool.false_eq_true, if_false, List.nil_append]
    exact int_roundtrip cfg I hI
  · simp only [if_true, List.singleton_append]
    have := sint_parse' cfg I 0 hI'
    rwa [List.replicate_zero, List.nil_append] at this

/-- THE KIND OF THE RESULT, generic in the number of places -/
theorem kind_core (cfg : Cfg) (b : Nat) (n : Bool) (m : Nat) (e : Int) (h : decode b64 b = .fin n m e) (hm : m ≠ 0)
    (places : Nat) (hp6 : 6 ≤ places) (hp9 : places ≤ 9)
    (hlo : (2 : ℚ) ^ (-997 : Int) ≤ qv m e) (hhi : qv m e ≤ (2 : ℚ) ^ (997 : Int)) :
    ∃ (ip f ex : List Byte), writeFloat cfg b places = (if n then [0x2D] else []) ++ ip ++ f ++ ex ∧
      AllDigits ip ∧ ip ≠ [] ∧ FracPart f ∧ ExpPart ex ∧
      ((f = [] ∧ ex = []) ↔ ((∃ k, parseNumber cfg (writeFloat cfg b places) = .uint k) ∨
                              (∃ i, parseNumber cfg (writeFloat cfg b places) = .sint i))) ∧
      (∀ bits, parseNumber cfg (writeFloat cfg b places) = .f32 bits → Digits.decVal (ip ++ f.tail) ≤ 8388607) := by
  obtain ⟨ip, f, ex, hw, ⟨I, hI, hipI⟩, hip, hne, hf, he, _, _, _, _, hres⟩ :=
    through_core cfg b n m e h hm places hp6 hp9 hlo hhi
  refine ⟨ip, f, ex, hw, hip, hne, hf, he, ⟨?_, ?_⟩, ?_⟩
  · rintro ⟨rfl, rfl⟩
    rw [hw, hipI]
    simp only [List.append_nil]
    rw [parse_digits cfg I (lt_trans hI (by decide)) n (le_trans hI.le (by decide))]
    cases n
    · exact Or.inl ⟨I, rfl⟩
    · exact Or.inr ⟨_, rfl⟩
  · intro hk
    rcases hres with ⟨h1, h2, _⟩ | ⟨bits, _, _, hb, _⟩ | ⟨bits, _, _, hb, _⟩
    · exact ⟨h1, h2⟩
    · rcases hk with ⟨k, hk⟩ | ⟨k, hk⟩ <;> · rw [hb] at hk; cases hk
    · rcases hk with ⟨k, hk⟩ | ⟨k, hk⟩ <;> · rw [hb] at hk; cases hk
  · intro bits hb
    rcases hres with ⟨_, _, hk, _⟩ | ⟨bits', _, _, hb', _⟩ | ⟨bits', _, _, hb', _, _, _, hd⟩
    · rcases hk with ⟨_, hk⟩ | ⟨_, hk⟩ <;> · rw [hb] at hk; cases hk
    · rw [hb] at hb'; cases hb'
    · exact hd

/-- **The kind of the value read back for a double.** The text of a finite binary64 datum, `1e-300 ≤ |x| ≤ 1e300`, is an RFC
    literal `-? ip f ex`; it is read back as an INTEGER (unsigned without sign, signed with a sign) exactly when it has neither
    fraction nor exponent; and it is read back as a binary32 only if its digits write a number `≤ 2^23 − 1 = 8388607`
    (at most seven significant digits) — otherwise as a binary64 (which the store narrows to binary32 only when that is exact). -/
theorem float_kind (cfg : Cfg) (b : Nat) (n : Bool) (m : Nat) (e : Int) (h : decode b64 b = .fin n m e)
    (hlo : (10 : ℚ) ^ (-300 : Int) ≤ |sval n m e|) (hhi : |sval n m e| ≤ (10 : ℚ) ^ (300 : Int)) :
    ∃ (ip f ex : List Byte), printNum cfg (.f64 b) = (if n then [0x2D] else []) ++ ip ++ f ++ ex ∧
      AllDigits ip ∧ ip ≠ [] ∧ FracPart f ∧ ExpPart ex ∧
      ((f = [] ∧ ex = []) ↔ ((∃ k, parseNumber cfg (printNum cfg (.f64 b)) = .uint k) ∨
                              (∃ i, parseNumber cfg (printNum cfg (.f64 b)) = .sint i))) ∧
      (∀ bits, parseNumber cfg (printNum cfg (.f64 b)) = .f32 bits → Digits.decVal (ip ++ f.tail) ≤ 8388607) := by
  have hm : m ≠ 0 := mant_ne_zero (ten_zpow_pos (-300)) hlo
  rw [abs_sval] at hlo hhi
  exact kind_core cfg b n m e h hm 9 (by decide) (by decide) (le_trans big_num_14 hlo) (le_trans hhi big_num_13)

/-- **Long texts keep the printing precision.** If the digits of the text write a number above `2^23 − 1 = 8388607` (in particular
    if the text has eight or more significant digits) the value read back is within `1e-9·max(1,|x|)` of the double `x` -/
theorem float_through_json_long (cfg : Cfg) (b : Nat) (n : Bool) (m : Nat) (e : Int) (h : decode b64 b = .fin n m e)
    (hlo : (10 : ℚ) ^ (-300 : Int) ≤ |sval n m e|) (hhi : |sval n m e| ≤ (10 : ℚ) ^ (300 : Int)) :
    ∃ (ip f ex : List Byte), printNum cfg (.f64 b) = (if n then [0x2D] else []) ++ ip ++ f ++ ex ∧
      AllDigits ip ∧ ip ≠ [] ∧ FracPart f ∧ ExpPart ex ∧
      (8388607 < Digits.decVal (ip ++ f.tail) →
        ∃ y : ℚ, valQ (numBack cfg (.f64 b)) = some y ∧ |y - sval n m e| ≤ 1 / 10 ^ 9 * max 1 |sval n m e|) := by
  obtain ⟨ip, f, ex, hw, hip, hne, hf, he, _, hshort⟩ := float_kind cfg b n m e h hlo hhi
  obtain ⟨y, _, h2, _, _, h5⟩ := float_through_json cfg b n m e h hlo hhi
  refine ⟨ip, f, ex, hw, hip, hne, hf, he, fun hlong => ⟨y, h2, h5 (fun bits hb => ?_)⟩⟩
  have := hshort bits hb
  omega

theorem digits_ne_null (n : Bool) (N : Nat) : (if n then [0x2D] else []) ++ digits N ≠ nullText := by
  have := lit_ne_null n [] [] (digits_spec N).1 (digits_spec N).2.2.1
  simpa using this

/-- a number node whose text is the digits of `N < 10^7` (with a minus sign when `n`) is read back as that integer -/
theorem digits_back (cfg : Cfg) (num : Num) (n : Bool) (N : Nat) (hN7 : N < 10 ^ 7)
    (hp : printNum cfg num = (if n then [0x2D] else []) ++ digits N) :
    printNum cfg num = (if n then [0x2D] else []) ++ digits N ∧
    parseNumber cfg (printNum cfg num) = (if n then PNum.sint (-(N : Int)) else PNum.uint N) ∧
    numBack cfg num = .num (if n then .sint (-(N : Int)) else .uint N) := by
  have hN64 : N < 2 ^ 64 := lt_trans hN7 (by decide)
  have hN63 : N ≤ 2 ^ 63 := le_trans hN7.le (by decide)
  refine ⟨hp, by rw [hp]; exact parse_digits cfg N hN64 n hN63, ?_⟩
  simp only [numBack, hp, digits_ne_null, if_false, numValue, parse_digits cfg N hN64 n hN63]
  cases n <;> rfl

/-- **Integral values change kind.** A finite binary64 datum whose value is `±N` for an integer `1 ≤ N < 10^7` prints as the
    digits of `N` (no point, no exponent) and is read back as the INTEGER of that value: unsigned `N`, or signed `−N`.
    (From `1e7` on the text has an exponent and the value comes back as a float or double, see the examples.) -/
theorem integral_double_back (cfg : Cfg) (b : Nat) (n : Bool) (m : Nat) (e : Int) (h : decode b64 b = .fin n m e)
    (N : Nat) (hN1 : 1 ≤ N) (hN7 : N < 10 ^ 7) (hv : qv m e = (N : ℚ)) :
    printNum cfg (.f64 b) = (if n then [0x2D] else []) ++ digits N ∧
    parseNumber cfg (printNum cfg (.f64 b)) = (if n then PNum.sint (-(N : Int)) else PNum.uint N) ∧
    numBack cfg (.f64 b) = .num (if n then .sint (-(N : Int)) else .uint N) :=
  digits_back cfg (.f64 b) n N hN7 (writeFloat_integer cfg b n m e h N hN1 hN7 hv 9 (by decide) (by decide))

/-- the same for a stored binary32 -/
theorem integral_float_back (cfg : Cfg) (b : Nat) (n : Bool) (m : Nat) (e : Int) (h : decode b32 b = .fin n m e)
    (N : Nat) (hN1 : 1 ≤ N) (hN7 : N < 10 ^ 7) (hv : qv m e = (N : ℚ)) :
    printNum cfg (.f32 b) = (if n then [0x2D] else []) ++ digits N ∧
    parseNumber cfg (printNum cfg (.f32 b)) = (if n then PNum.sint (-(N : Int)) else PNum.uint N) ∧
    numBack cfg (.f32 b) = .num (if n then .sint (-(N : Int)) else .uint N) := by
  obtain ⟨m', e', hd, hq, _⟩ := widen_f32 h
  exact digits_back cfg (.f32 b) n N hN7
    (writeFloat_integer cfg (cvt b32 b64 b) n m' e' hd N hN1 hN7 (hq.trans hv) 6 (by decide) (by decide))

/-- **Zero.** `+0` and `−0`, stored as double or float, print as `0` and come back as the unsigned integer 0 (the sign of a
    negative zero and the floating-point kind are lost) -/
theorem zero_back (cfg : Cfg) :
    numBack cfg (.f64 0) = .num (.uint 0) ∧ numBack cfg (.f64 (2 ^ 63)) = .num (.uint 0) ∧
    numBack cfg (.f32 0) = .num (.uint 0) ∧ numBack cfg (.f32 (2 ^ 31)) = .num (.uint 0) := by
  obtain ⟨p1, p2, p3, p4⟩ := print_zero cfg
  have hz : parseNumber cfg [0x30] = .uint 0 := by
    have := uint_parse cfg 0 0 (by decide)
    rwa [show List.replicate 0 (0x30 : UInt8) ++ JS.digits 0 = [0x30] from by decide +kernel] at this
  have hn : ([0x30] : List Byte) ≠ nullText := by decide
  refine ⟨?_, ?_, ?_, ?_⟩ <;> simp only [numBack, p1, p2, p3, p4, hn, if_false, numValue, hz]

/-! ## 3. documents -/

/-- a number node `n` and the number `r` read back for it: integers exactly (a non-negative signed integer comes back unsigned);
    a finite float as a number of exact value `y` of the same sign (zero iff zero) within the bound of `float_through_json`
    (binary64, 9 places) resp. `float32_through_json` (binary32, 6 places) of the exact value `x` of the node -/
def CloseNum : Num → Num → Prop
  | .uint k, r => r = .uint k
  | .sint i, r => r = (if 0 ≤ i then .uint i.toNat else .sint i)
  | .f64 b, r => ∃ x y : ℚ, fpQ b64 b = some x ∧ numQ r = some y ∧ (x = 0 ↔ y = 0) ∧ 0 ≤ x * y ∧
      |y - x| ≤ 1 / 10 ^ 9 * max 1 |x| + 1 / 10 ^ 6 * |x|
  | .f32 b, r => ∃ x y : ℚ, fpQ b32 b = some x ∧ numQ r = some y ∧ (x = 0 ↔ y = 0) ∧ 0 ≤ x * y ∧
      |y - x| ≤ 1 / 10 ^ 6 * max 1 |x| + 1 / 10 ^ 6 * |x|

/- documents equal up to the numbers: same structure, same order, same keys, same strings and booleans, numbers `CloseNum` -/
mutual
inductive CloseDoc : Val → Val → Prop
  | null : CloseDoc .null .null
  | bool (b : Bool) : CloseDoc (.bool b) (.bool b)
  | str (s : List Byte) : CloseDoc (.str s) (.str s)
  | num {n r : Num} : CloseNum n r → CloseDoc (.num n) (.num r)
  | arr {xs ys : List Val} : CloseE xs ys → CloseDoc (.arr xs) (.arr ys)
  | obj {ms ns : List (List Byte × Val)} : CloseM ms ns → CloseDoc (.obj ms) (.obj ns)
inductive CloseE : List Val → List Val → Prop
  | nil : CloseE [] []
  | cons {x y : Val} {xs ys : List Val} : CloseDoc x y → CloseE xs ys → CloseE (x :: xs) (y :: ys)
inductive CloseM : List (List Byte × Val) → List (List Byte × Val) → Prop
  | nil : CloseM [] []
  | cons (k : List Byte) {v w : Val} {ms ns : List (List Byte × Val)} : CloseDoc v w → CloseM ms ns →
      CloseM ((k, v) :: ms) ((k, w) :: ns)
end

/-- the floats of the document: `±0`, or finite non-zero with `1e-300 ≤ |x| ≤ 1e300` (every finite non-zero binary32 is) -/
def FloatRangeS : Val → Prop
  | .num (.f64 b) => b = 0 ∨ b = 2 ^ 63 ∨
      ∃ n m e, decode b64 b = .fin n m e ∧ (10 : ℚ) ^ (-300 : Int) ≤ |sval n m e| ∧ |sval n m e| ≤ (10 : ℚ) ^ (300 : Int)
  | .num (.f32 b) => b = 0 ∨ b = 2 ^ 31 ∨ ∃ n m e, decode b32 b = .fin n m e ∧ m ≠ 0
  | _ => True
def FloatsInRange (v : Val) : Prop := AllV FloatRangeS (fun _ => True) v

theorem valQ_some {v : Val} {y : ℚ} (h : valQ v = some y) : ∃ r, v = .num r ∧ numQ r = some y := by
  cases v with
  | num r => exact ⟨r, rfl, h⟩
  | _ => cases h

theorem sign_facts (n : Bool) (q a : ℚ) (hq : 0 < q) (ha : 0 < a) :
    ((if n then (-1 : ℚ) else 1) * q = 0 ↔ (if n then (-1 : ℚ) else 1) * a = 0) ∧
    0 ≤ (if n then (-1 : ℚ) else 1) * q * ((if n then (-1 : ℚ) else 1) * a) := by
  cases n
  · simp only [Bool.false_eq_true, if_false, one_mul]
    exact ⟨⟨fun h => absurd h hq.ne', fun h => absurd h ha.ne'⟩, by positivity⟩
  · simp only [if_true]
    refine ⟨⟨fun h => ?_, fun h => ?_⟩, by nlinarith⟩
    · exfalso; linarith
    · exfalso; linarith

/-- a datum with mantissa zero has the value zero, whatever its sign and exponent -/
theorem fpQ_zero {f : Fmt} {b : Nat} {n : Bool} {e : Int} (h : decode f b = .fin n 0 e) : fpQ f b = some 0 := by
  rw [fpQ_fin h]; simp [sval, qv]

/-- a number node within the hypotheses is read back as a number node, `CloseNum` to it -/
theorem closeNum_numBack (cfg : Cfg) (n : Num) (hi : IntOkS (.num n)) (hf : FloatRangeS (.num n)) :
    ∃ r, numBack cfg n = .num r ∧ CloseNum n r := by
  have z64 : fpQ b64 0 = some 0 := fpQ_zero (decode_zero b64 (by decide))
  have z64' : fpQ b64 (2 ^ 63) = some 0 := fpQ_zero (show decode b64 (2 ^ 63) = .fin true 0 (-1074) from by decide +kernel)
  have z32 : fpQ b32 0 = some 0 := fpQ_zero (decode_zero b32 (by decide))
  have z32' : fpQ b32 (2 ^ 31) = some 0 := fpQ_zero (show decode b32 (2 ^ 31) = .fin true 0 (-149) from by decide +kernel)
  obtain ⟨zb1, zb2, zb3, zb4⟩ := zero_back cfg
  cases n with
  | uint k =>
    refine ⟨.uint k, ?_, rfl⟩
    rw [(int_readable cfg (.uint k) ⟨trivial, trivial, hi, trivial⟩).2]; simp only [normJ]
  | sint i =>
    refine ⟨if 0 ≤ i then .uint i.toNat else .sint i, ?_, rfl⟩
    rw [(int_readable cfg (.sint i) ⟨trivial, trivial, hi, trivial⟩).2]; simp only [normJ]
    split <;> rfl
  | f64 b =>
    rcases hf with rfl | rfl | ⟨n, m, e, hd, hlo, hhi⟩
    · exact ⟨.uint 0, zb1, 0, 0, z64, by simp [numQ], Iff.rfl, by norm_num, by simp⟩
    · exact ⟨.uint 0, zb2, 0, 0, z64', by simp [numQ], Iff.rfl, by norm_num, by simp⟩
    · obtain ⟨y, _, hv, ⟨a, ha, hya⟩, hb, _⟩ := float_through_json cfg b n m e hd hlo hhi
      obtain ⟨r, hr, hq⟩ := valQ_some hv
      have hxpos : 0 < qv m e := by
        rw [abs_sval] at hlo; exact lt_of_lt_of_le (ten_zpow_pos _) hlo
      obtain ⟨s1, s2⟩ := sign_facts n (qv m e) a hxpos ha
      refine ⟨r, hr, sval n m e, y, fpQ_fin hd, hq, ?_, ?_, hb⟩
      · rw [hya]; exact s1
      · rw [hya]; exact s2
  | f32 b =>
    rcases hf with rfl | rfl | ⟨n, m, e, hd, hm⟩
    · exact ⟨.uint 0, zb3, 0, 0, z32, by simp [numQ], Iff.rfl, by norm_num, by simp⟩
    · exact ⟨.uint 0, zb4, 0, 0, z32', by simp [numQ], Iff.rfl, by norm_num, by simp⟩
    · obtain ⟨y, _, hv, ⟨a, ha, hya⟩, hb, _⟩ := float32_through_json cfg b n m e hd hm
      obtain ⟨r, hr, hq⟩ := valQ_some hv
      obtain ⟨s1, s2⟩ := sign_facts n (qv m e) a (qv_pos hm e) ha
      refine ⟨r, hr, sval n m e, y, fpQ_fin hd, hq, ?_, ?_, hb⟩
      · rw [hya]; exact s1
      · rw [hya]; exact s2

theorem readBackM_keys (cfg : Cfg) (ms : List (List Byte × Val)) : (readBackM cfg ms).map (·.1) = ms.map (·.1) := by
  induction ms with
  | nil => rfl
  | cons m r ih => obtain ⟨k, v⟩ := m; simp only [readBackM, List.map_cons, ih]

/-- the scalar hypotheses of the document theorem, together -/
def LeafOk (v : Val) : Prop := RawFreeS v ∧ IntOkS v ∧ FloatRangeS v

mutual
theorem closeDoc_readBack (cfg : Cfg) : ∀ v, AllV LeafOk (fun _ => True) v → NoDupKeys v → CloseDoc v (readBack cfg v)
  | .arr xs => by
    simp only [AllV, NoDupKeys, readBack]; intro h hn; exact .arr (closeE_readBack cfg xs h hn)
  | .obj ms => by
    simp only [AllV, NoDupKeys, readBack]; intro h hn
    rw [lastWins_nodup _ (by rw [readBackM_keys]; exact hn.1)]
    exact .obj (closeM_readBack cfg ms h hn.2)
  | .num n => by
    simp only [AllV, readBack]; intro h _
    obtain ⟨r, hr, hc⟩ := closeNum_numBack cfg n h.2.1 h.2.2
    rw [hr]; exact .num hc
  | .null => by simp only [readBack]; intro _ _; exact .null
  | .bool b => by simp only [readBack]; intro _ _; exact .bool b
  | .str s => by simp only [readBack]; intro _ _; exact .str s
  | .raw s => by simp only [AllV]; intro h _; exact absurd h.1 (by simp [RawFreeS])
theorem closeE_readBack (cfg : Cfg) : ∀ xs, AllE LeafOk (fun _ => True) xs → NoDupE xs → CloseE xs (readBackE cfg xs)
  | [] => fun _ _ => .nil
  | x :: r => by
    simp only [AllE, NoDupE, readBackE]; intro h hn
    exact .cons (closeDoc_readBack cfg x h.1 hn.1) (closeE_readBack cfg r h.2 hn.2)
theorem closeM_readBack (cfg : Cfg) : ∀ ms, AllM LeafOk (fun _ => True) ms → NoDupM ms → CloseM ms (readBackM cfg ms)
  | [] => fun _ _ => .nil
  | (k, v) :: r => by
    simp only [AllM, NoDupM, readBackM]; intro h hn
    exact .cons k (closeDoc_readBack cfg v h.2.1 hn.1) (closeM_readBack cfg r h.2.2 hn.2)
end

theorem finite_of_range (v : Val) (h : FloatRangeS v) : FiniteS v := by
  cases v with
  | num n =>
    cases n with
    | f64 b =>
      rcases h with rfl | rfl | ⟨n, m, e, hd, _⟩
      · exact ⟨by decide +kernel, by decide +kernel⟩
      · exact ⟨by decide +kernel, by decide +kernel⟩
      · exact not_nan_inf b n m e hd
    | f32 b =>
      rcases h with rfl | rfl | ⟨n, m, e, hd, _⟩
      · exact ⟨by decide +kernel, by decide +kernel⟩
      · exact ⟨by decide +kernel, by decide +kernel⟩
      · obtain ⟨m', e', hd', _⟩ := widen_f32 hd
        exact not_nan_inf _ n m' e' hd'
    | _ => trivial
  | _ => trivial

/-- **THE ROUND TRIP WITH FLOATS, AS VALUES.** For every document `v` without raw values and without repeated keys, whose integers
    are 64-bit, whose floats are `±0` or finite with `1e-300 ≤ |x| ≤ 1e300`, whose strings and keys fit the string buffer and
    whose nesting fits the limit: `deserializeJson(serializeJson(v))` succeeds, consumes the whole text, and yields a document
    `v'` with `CloseDoc v v'`: the same structure, order, keys, strings, booleans and integers (a non-negative signed integer
    comes back unsigned), and every floating-point leaf read back as a number (integer, float or double) whose exact value is
    within `1e-9·max(1,|x|) + 1e-6·|x|` (stored double) resp. `1e-6·max(1,|x|) + 1e-6·|x|` (stored float) of the leaf's. -/
theorem json_roundtrip_floats_close (cfg : Cfg) (L : Nat) (v : Val) (hcfg : cfg.decodeUnicode = true)
    (h2 : RawFree v) (h5 : NoDupKeys v) (h3 : IntsInRange v) (hf : FloatsInRange v) (h4 : StrsWithin cfg.maxStrLen v)
    (hd : depth v ≤ L) :
    ∃ v', JD.run cfg L (compact cfg v) = (.ok, v', (compact cfg v).length) ∧ CloseDoc v v' := by
  have hfin : FiniteFloats v := AllV_mono finite_of_range (fun _ h => h) v hf
  refine ⟨readBack cfg v, json_roundtrip_finite cfg L v hcfg hfin h2 h3 h4 hd, ?_⟩
  have a := AllV_and v (AllV_and v h2 h3) hf
  exact closeDoc_readBack cfg v (AllV_mono (fun v h => ⟨h.1.1, h.1.2, h.2⟩) (fun _ _ => trivial) v a) h5

/-! ## 4. non-vacuity, witnesses, and what happens outside the range -/

/-- what `parseNumeric` stores for a result of `parseNumber` -/
def valOfPNum : PNum → Val
  | .uint n => .num (.uint n)
  | .sint n => .num (.sint n)
  | .f32 b => .num (.f32 b)
  | .f64 b => .num (storeDouble b)
  | _ => .null

theorem numBack_of (cfg : Cfg) (n : Num) (T : List Byte) (r : PNum) (h1 : JS.printNum cfg n = T) (h2 : T ≠ nullText)
    (h3 : parseNumber cfg T = r) : numBack cfg n = valOfPNum r := by
  simp only [numBack, h1, h2, ↓reduceIte, numValue, h3]
  cases r <;> rfl

/-- the exact values of small data, for the examples -/
theorem qv_nonneg_exp (m k : Nat) : qv m (k : Int) = ((m * 2 ^ k : Nat) : ℚ) := by
  unfold qv; rw [zpow_natCast]; push_cast; rfl

theorem range_mid {x : ℚ} (h1 : 1 / 10 ^ 20 ≤ x) (h2 : x ≤ 10 ^ 20) :
    (10 : ℚ) ^ (-300 : Int) ≤ x ∧ x ≤ (10 : ℚ) ^ (300 : Int) := by
  constructor
  · calc (10 : ℚ) ^ (-300 : Int) ≤ (10 : ℚ) ^ (-20 : Int) := zpow_le_zpow_right₀ (by norm_num) (by norm_num)
      _ = 1 / 10 ^ 20 := by norm_num [zpow_neg]
      _ ≤ x := h1
  · calc x ≤ (10 : ℚ) ^ (20 : Int) := by simpa using h2
      _ ≤ (10 : ℚ) ^ (300 : Int) := zpow_le_zpow_right₀ (by norm_num) (by norm_num)

-- 0.1 as a double = 7205759403792794·2^-56 prints as "0.1" and is read back as the FLOAT 0.1f = 13421773·2^-27
theorem double_tenth_back : printNum {} (.f64 4591870180066957722) = [0x30,0x2E,0x31] ∧ parseNumber {} [0x30,0x2E,0x31] = .f32 0x3DCCCCCD ∧
    decode b64 4591870180066957722 = .fin false 7205759403792794 (-56) ∧ decode b32 0x3DCCCCCD = .fin false 13421773 (-27) := by
  decide +kernel
example : printNum {} (.f64 4591870180066957722) = [0x30,0x2E,0x31] ∧ parseNumber {} [0x30,0x2E,0x31] = .f32 0x3DCCCCCD ∧
    decode b64 4591870180066957722 = .fin false 7205759403792794 (-56) ∧ decode b32 0x3DCCCCCD = .fin false 13421773 (-27) := double_tenth_back
example : numBack {} (.f64 4591870180066957722) = .num (.f32 0x3DCCCCCD) :=
  numBack_of {} _ [0x30,0x2E,0x31] (.f32 0x3DCCCCCD) double_tenth_back.1 (by decide) double_tenth_back.2.1

/-- `float_through_json` on the double 0.1 -/
example : ∃ y : ℚ, pnumQ (parseNumber {} (printNum {} (.f64 4591870180066957722))) = some y ∧
    valQ (numBack {} (.f64 4591870180066957722)) = some y ∧
    |y - sval false 7205759403792794 (-56)| ≤
      1 / 10 ^ 9 * max 1 |sval false 7205759403792794 (-56)| + 1 / 10 ^ 6 * |sval false 7205759403792794 (-56)| := by
  have hv : qv 7205759403792794 (-56) = 7205759403792794 / 2 ^ 56 := by unfold qv; norm_num [zpow_neg]
  obtain ⟨r1, r2⟩ := range_mid (x := |sval false 7205759403792794 (-56)|) (by rw [abs_sval, hv]; norm_num)
    (by rw [abs_sval, hv]; norm_num)
  obtain ⟨y, h1, h2, _, h4, _⟩ := float_through_json {} 4591870180066957722 false 7205759403792794 (-56) double_tenth_back.2.2.1 r1 r2
  exact ⟨y, h1, h2, h4⟩

/-- WITNESS 1 (the double 0.1): the value read back, 0.1f, is `1.49e-9` away from the double 0.1: more than `1e-9·max(1,|x|)`.
    The printing precision `1e-9·max(1,|x|)` ALONE is not a bound for the round trip of a double. -/
theorem double_tenth_witness :
    1 / 10 ^ 9 * max 1 |sval false 7205759403792794 (-56)| <
      |sval false 13421773 (-27) - sval false 7205759403792794 (-56)| ∧
    |sval false 13421773 (-27) - sval false 7205759403792794 (-56)| < 2 / 10 ^ 9 := by
  have h1 : sval false 7205759403792794 (-56) = 7205759403792794 / 2 ^ 56 := by unfold sval qv; norm_num [zpow_neg]
  have h2 : sval false 13421773 (-27) = 13421773 / 2 ^ 27 := by unfold sval qv; norm_num [zpow_neg]
  rw [h1, h2]
  have : max (1 : ℚ) |7205759403792794 / 2 ^ 56| = 1 := by
    apply max_eq_left; rw [abs_of_nonneg (by norm_num)]; norm_num
  rw [this]
  constructor <;> norm_num

/-- WITNESS 2 (the double nearest to 4.823015e37 = 5106565762627124·2^73): it prints as "4.823015e37" (seven significant digits),
    the parser takes the binary32 path and returns 9511722·2^102, which is `2.1e-7·|x|` away: the term `1e-6·|x|` of
    `float_through_json` cannot be lowered below `2e-7·|x|`. -/
theorem double_via_float_witness :
    printNum {} (.f64 5170735338356586036) = [0x34,0x2E,0x38,0x32,0x33,0x30,0x31,0x35,0x65,0x33,0x37] ∧
    parseNumber {} [0x34,0x2E,0x38,0x32,0x33,0x30,0x31,0x35,0x65,0x33,0x37] = .f32 2115052330 ∧
    decode b64 5170735338356586036 = .fin false 5106565762627124 73 ∧ decode b32 2115052330 = .fin false 9511722 102 ∧
    2 / 10 ^ 7 * |sval false 5106565762627124 73| < |sval false 9511722 102 - sval false 5106565762627124 73| := by
  refine ⟨by decide +kernel, by decide +kernel, by decide +kernel, by decide +kernel, ?_⟩
  unfold sval qv
  norm_num

-- 3.0 prints as "3" and is read back as the unsigned INTEGER 3; -3.0 as the signed integer -3 (general: `integral_double_back`)
example : numBack {} (.f64 0x4008000000000000) = .num (.uint 3) := by
  have hv : qv 6755399441055744 (-51) = ((3 : Nat) : ℚ) := by unfold qv; norm_num [zpow_neg]
  have := (integral_double_back {} 0x4008000000000000 false 6755399441055744 (-51) (by decide +kernel) 3 (by decide) (by decide) hv).2.2
  simpa using this
example : printNum {} (.f64 0xC008000000000000) = [0x2D,0x33] ∧ numBack {} (.f64 0xC008000000000000) = .num (.sint (-3)) := by
  have hv : qv 6755399441055744 (-51) = ((3 : Nat) : ℚ) := by unfold qv; norm_num [zpow_neg]
  obtain ⟨h1, _, h3⟩ := integral_double_back {} 0xC008000000000000 true 6755399441055744 (-51) (by decide +kernel) 3 (by decide) (by decide) hv
  rw [show JS.digits 3 = [0x33] from by decide +kernel] at h1
  exact ⟨by simpa using h1, by simpa using h3⟩
-- 3.0000000001 also prints as "3": the integer read back is within the printing precision, not exact
example : printNum {} (.f64 4613937818241298332) = [0x33] ∧ parseNumber {} [0x33] = .uint 3 := by decide +kernel
-- from 1e7 on an exponent is written: 1e7 comes back as the float 1e7 (exact), 9999999 as the integer
example : printNum {} (.f64 4711630319722168320) = [0x31,0x65,0x37] ∧ parseNumber {} [0x31,0x65,0x37] = .f32 1259902592 ∧
    decode b32 1259902592 = .fin false 10000000 0 := by decide +kernel
example : printNum {} (.f64 4711630319185297408) = [0x39,0x39,0x39,0x39,0x39,0x39,0x39] ∧
    parseNumber {} [0x39,0x39,0x39,0x39,0x39,0x39,0x39] = .uint 9999999 := by decide +kernel

-- 123456789.125 = 8285044871266304·2^-26 prints as "1.234567891e8" (ten significant digits) and is read back as the DOUBLE
-- 8285044869588583·2^-26 = 123456789.09999999…: `float_kind` (more than seven digits: never a binary32) and the 1e-9 clause
theorem through_123456789 : printNum {} (.f64 4728057454355546112) = [0x31,0x2E,0x32,0x33,0x34,0x35,0x36,0x37,0x38,0x39,0x31,0x65,0x38] ∧
    parseNumber {} [0x31,0x2E,0x32,0x33,0x34,0x35,0x36,0x37,0x38,0x39,0x31,0x65,0x38] = .f64 4728057454353868391 ∧
    storeDouble 4728057454353868391 = .f64 4728057454353868391 ∧
    decode b64 4728057454353868391 = .fin false 8285044869588583 (-26) := by decide +kernel
example : printNum {} (.f64 4728057454355546112) = [0x31,0x2E,0x32,0x33,0x34,0x35,0x36,0x37,0x38,0x39,0x31,0x65,0x38] ∧
    parseNumber {} [0x31,0x2E,0x32,0x33,0x34,0x35,0x36,0x37,0x38,0x39,0x31,0x65,0x38] = .f64 4728057454353868391 ∧
    storeDouble 4728057454353868391 = .f64 4728057454353868391 ∧
    decode b64 4728057454353868391 = .fin false 8285044869588583 (-26) := through_123456789
example : ∃ y : ℚ, valQ (numBack {} (.f64 4728057454355546112)) = some y ∧
    |y - sval false 8285044871266304 (-26)| ≤ 1 / 10 ^ 9 * max 1 |sval false 8285044871266304 (-26)| := by
  have hv : qv 8285044871266304 (-26) = 8285044871266304 / 2 ^ 26 := by unfold qv; norm_num [zpow_neg]
  obtain ⟨r1, r2⟩ := range_mid (x := |sval false 8285044871266304 (-26)|) (by rw [abs_sval, hv]; norm_num)
    (by rw [abs_sval, hv]; norm_num)
  obtain ⟨y, _, h2, _, _, h5⟩ := float_through_json {} 4728057454355546112 false 8285044871266304 (-26) (by decide +kernel) r1 r2
  refine ⟨y, h2, h5 ?_⟩
  intro bits hb
  rw [through_123456789.1, through_123456789.2.1] at hb
  cases hb

/-- `float_kind` on 123456789.125: an RFC literal; not an integer literal, hence not read back as an integer -/
example : ¬ ∃ k, parseNumber {} (printNum {} (.f64 4728057454355546112)) = .uint k := by
  have hv : qv 8285044871266304 (-26) = 8285044871266304 / 2 ^ 26 := by unfold qv; norm_num [zpow_neg]
  obtain ⟨r1, r2⟩ := range_mid (x := |sval false 8285044871266304 (-26)|) (by rw [abs_sval, hv]; norm_num)
    (by rw [abs_sval, hv]; norm_num)
  obtain ⟨ip, f, ex, hw, hip, hne, hf, he, hk, _⟩ := float_kind {} 4728057454355546112 false 8285044871266304 (-26) (by decide +kernel) r1 r2
  intro hu
  obtain ⟨rfl, rfl⟩ := hk.mpr (Or.inl hu)
  -- the text would be all digits, but it contains a point
  rw [through_123456789.1] at hw
  simp only [Bool.false_eq_true, if_false, List.nil_append, List.append_nil] at hw
  rw [← hw] at hip
  exact absurd (hip 0x2E (by decide)) (by decide)

-- the top of the range: the double nearest to 1e300 is slightly ABOVE 1e300; the one just below it, 6724873095247259·2^944,
-- satisfies the hypotheses; both print as "1e300" and are read back as the double nearest to 1e300
example : printNum {} (.f64 9094988921128908187) = [0x31,0x65,0x33,0x30,0x30] ∧
    parseNumber {} [0x31,0x65,0x33,0x30,0x30] = .f64 9094988921128908188 := by decide +kernel
example : ∃ y : ℚ, valQ (numBack {} (.f64 9094988921128908187)) = some y ∧
    |y - sval false 6724873095247259 944| ≤
      1 / 10 ^ 9 * max 1 |sval false 6724873095247259 944| + 1 / 10 ^ 6 * |sval false 6724873095247259 944| := by
  have hv : qv 6724873095247259 (944 : Int) = ((6724873095247259 * 2 ^ 944 : Nat) : ℚ) := qv_nonneg_exp 6724873095247259 944
  have hle : (6724873095247259 * 2 ^ 944 : Nat) ≤ 10 ^ 300 := by decide +kernel
  have hge : 1 ≤ (6724873095247259 * 2 ^ 944 : Nat) := by decide +kernel
  have r1 : (10 : ℚ) ^ (-300 : Int) ≤ |sval false 6724873095247259 944| := by
    rw [abs_sval, hv]
    calc (10 : ℚ) ^ (-300 : Int) ≤ 1 := zpow_le_one_of_nonpos₀ (by norm_num) (by norm_num)
      _ ≤ _ := by exact_mod_cast hge
  have r2 : |sval false 6724873095247259 944| ≤ (10 : ℚ) ^ (300 : Int) := by
    rw [abs_sval, hv, show (300 : Int) = ((300 : Nat) : Int) from rfl, zpow_natCast]
    exact_mod_cast hle
  obtain ⟨y, _, h2, _, h4, _⟩ := float_through_json {} 9094988921128908187 false 6724873095247259 944 (by decide +kernel) r1 r2
  exact ⟨y, h2, h4⟩

-- OUTSIDE THE RANGE, above: the largest finite double 1.7976931348623157e308 prints as "1.797693135e308" (rounded UP in the last
-- printed place), which the parser reads as +infinity; the store narrows it to the binary32 +infinity
theorem largest_double_back : printNum {} (.f64 0x7FEFFFFFFFFFFFFF) = [0x31,0x2E,0x37,0x39,0x37,0x36,0x39,0x33,0x31,0x33,0x35,0x65,0x33,0x30,0x38] ∧
    parseNumber {} [0x31,0x2E,0x37,0x39,0x37,0x36,0x39,0x33,0x31,0x33,0x35,0x65,0x33,0x30,0x38] = .f64 0x7FF0000000000000 ∧
    decode b64 0x7FF0000000000000 = .inf false ∧ storeDouble 0x7FF0000000000000 = .f32 0x7F800000 ∧
    decode b32 0x7F800000 = .inf false := by decide +kernel
example : printNum {} (.f64 0x7FEFFFFFFFFFFFFF) = [0x31,0x2E,0x37,0x39,0x37,0x36,0x39,0x33,0x31,0x33,0x35,0x65,0x33,0x30,0x38] ∧
    parseNumber {} [0x31,0x2E,0x37,0x39,0x37,0x36,0x39,0x33,0x31,0x33,0x35,0x65,0x33,0x30,0x38] = .f64 0x7FF0000000000000 ∧
    decode b64 0x7FF0000000000000 = .inf false ∧ storeDouble 0x7FF0000000000000 = .f32 0x7F800000 ∧
    decode b32 0x7F800000 = .inf false := largest_double_back
example : numBack {} (.f64 0x7FEFFFFFFFFFFFFF) = .num (.f32 0x7F800000) := by
  have := numBack_of {} (.f64 0x7FEFFFFFFFFFFFFF) [0x31,0x2E,0x37,0x39,0x37,0x36,0x39,0x33,0x31,0x33,0x35,0x65,0x33,0x30,0x38]
    (.f64 0x7FF0000000000000) largest_double_back.1 (by decide) largest_double_back.2.1
  rw [this]
  show Val.num (storeDouble 0x7FF0000000000000) = _
  rw [largest_double_back.2.2.2.1]
-- OUTSIDE THE RANGE, below: the smallest subnormal 4.94e-324 prints as "4.940656458e-324"; the parser's test on the decimal
-- exponent (-333 < -325) flushes it to the float zero
example : printNum {} (.f64 1) = [0x34,0x2E,0x39,0x34,0x30,0x36,0x35,0x36,0x34,0x35,0x38,0x65,0x2D,0x33,0x32,0x34] ∧
    parseNumber {} [0x34,0x2E,0x39,0x34,0x30,0x36,0x35,0x36,0x34,0x35,0x38,0x65,0x2D,0x33,0x32,0x34] = .f32 0 := by decide +kernel

-- 0.1f = 13421773·2^-27 prints as "0.1" and comes back identical; 2^24 = 16777216f prints as "1.677722e7" and comes back as
-- 16777220f (the float print has seven significant digits: binary32 values do not round-trip exactly either)
example : printNum {} (.f32 0x3DCCCCCD) = [0x30,0x2E,0x31] ∧ parseNumber {} [0x30,0x2E,0x31] = .f32 0x3DCCCCCD := by decide +kernel
example : printNum {} (.f32 0x4B800000) = [0x31,0x2E,0x36,0x37,0x37,0x37,0x32,0x32,0x65,0x37] ∧
    parseNumber {} [0x31,0x2E,0x36,0x37,0x37,0x37,0x32,0x32,0x65,0x37] = .f32 1266679810 ∧
    decode b32 0x4B800000 = .fin false 8388608 1 ∧ decode b32 1266679810 = .fin false 8388610 1 := by decide +kernel
/-- `float32_through_json` on 0.1f and on 2^24 -/
example : ∃ y : ℚ, valQ (numBack {} (.f32 0x3DCCCCCD)) = some y ∧
    |y - sval false 13421773 (-27)| ≤ 1 / 10 ^ 6 * max 1 |sval false 13421773 (-27)| + 1 / 10 ^ 6 * |sval false 13421773 (-27)| := by
  obtain ⟨y, _, h2, _, h4, _⟩ := float32_through_json {} 0x3DCCCCCD false 13421773 (-27) (by decide +kernel) (by decide)
  exact ⟨y, h2, h4⟩
example : ∃ y : ℚ, valQ (numBack {} (.f32 0x4B800000)) = some y ∧
    |y - sval false 8388608 1| ≤ 1 / 10 ^ 6 * max 1 |sval false 8388608 1| + 1 / 10 ^ 6 * |sval false 8388608 1| := by
  obtain ⟨y, _, h2, _, h4, _⟩ := float32_through_json {} 0x4B800000 false 8388608 1 (by decide +kernel) (by decide)
  exact ⟨y, h2, h4⟩

/-- `[0.1, {"e": 0.1f}, 3.0, 5]` with a double 0.1, a float 0.1f, a double 3.0 and a signed 5 -/
def sampleF : Val :=
  .arr [.num (.f64 4591870180066957722), .obj [([0x65], .num (.f32 0x3DCCCCCD))], .num (.f64 0x4008000000000000),
        .num (.sint 5)]

def sampleFText : List UInt8 :=
  [0x5B, 0x30,0x2E,0x31, 0x2C, 0x7B,0x22,0x65,0x22,0x3A,0x30,0x2E,0x31,0x7D, 0x2C, 0x33, 0x2C, 0x35, 0x5D]

theorem sampleF_text : compact {} sampleF = sampleFText := by decide +kernel

theorem sampleF_range : FloatsInRange sampleF := by
  have hv1 : qv 7205759403792794 (-56) = 7205759403792794 / 2 ^ 56 := by unfold qv; norm_num [zpow_neg]
  have hv3 : qv 6755399441055744 (-51) = 3 := by unfold qv; norm_num [zpow_neg]
  obtain ⟨a1, a2⟩ := range_mid (x := |sval false 7205759403792794 (-56)|) (by rw [abs_sval, hv1]; norm_num)
    (by rw [abs_sval, hv1]; norm_num)
  obtain ⟨b1, b2⟩ := range_mid (x := |sval false 6755399441055744 (-51)|) (by rw [abs_sval, hv3]; norm_num)
    (by rw [abs_sval, hv3]; norm_num)
  simp only [FloatsInRange, sampleF, AllV, AllE, AllM, FloatRangeS]
  exact ⟨Or.inr (Or.inr ⟨false, 7205759403792794, -56, by decide +kernel, a1, a2⟩),
    ⟨trivial, Or.inr (Or.inr ⟨false, 13421773, -27, by decide +kernel, by decide⟩), trivial⟩,
    Or.inr (Or.inr ⟨false, 6755399441055744, -51, by decide +kernel, b1, b2⟩), trivial, trivial⟩

/-- `json_roundtrip_floats_close` on the sample: the text `[0.1,{"e":0.1},3,5]` is read back as a document `CloseDoc` to it -/
example : ∃ v', JD.run {} 2 sampleFText = (.ok, v', 19) ∧ CloseDoc sampleF v' := by
  have h := json_roundtrip_floats_close {} 2 sampleF rfl
    (by simp [RawFree, sampleF, AllV, AllE, AllM, RawFreeS])
    (by simp [NoDupKeys, sampleF, NoDupE, NoDupM])
    (by simp [IntsInRange, sampleF, AllV, AllE, AllM, IntOkS])
    sampleF_range
    (by simp [StrsWithin, sampleF, AllV, AllE, AllM, StrOkS])
    (by simp [sampleF, depth, depthE, depthM])
  rw [sampleF_text] at h
  exact h

-- the same text evaluated directly by the kernel: the double 0.1 comes back as the FLOAT 0.1f, the double 3.0 as the unsigned
-- integer 3, the signed 5 as the unsigned 5
example : (match JD.run {} 2 sampleFText with
    | (.ok, .arr [.num (.f32 a), .obj [(k, .num (.f32 b))], .num (.uint c), .num (.uint d)], n) =>
        a == 0x3DCCCCCD && k == [0x65] && b == 0x3DCCCCCD && c == 3 && d == 5 && n == 19
    | _ => false) = true := by decide +kernel

end C07
