/- C12, printing clauses, and the subnormal band of the parser.

   PRINT: "A finite value x in that range given as a float is printed as a literal whose exact decimal value is within
   1e-6*max(1,|x|) of x, and one given as a double within 1e-9*max(1,|x|)."

   `textVal t` is the exact rational value of the bytes `t` read as `-? digits (. digits)? ([eE] [+-]? digits)?`
   (AJ/Lemmas/FloatPrintText.lean); `sval n m e = ±m·2^e` is the exact value of the datum `decode … = .fin n m e`.
   The theorems hold for EVERY finite non-zero datum (subnormals and the largest values included), with the constant
   `0.51` instead of `1`: the printer rounds the decimal part half up (`≤ 0.5` units of the last printed place), the
   multiplication that scales the fraction costs `< 2e-7` units, `normalize` costs `< 2.5e-15` relative.
   Helper lemmas: AJ/Lemmas/FloatPrint{SF,Norm,Dec,Text}.lean. -/
import AJ.Lemmas.FloatPrintText
import AJ.Lemmas.FloatPrintSubnormal
import AJ.Props.C12
namespace C12
open SF JD JS Digits Spec.Json

theorem abs_sval (n : Bool) (m : Nat) (e : Int) : |sval n m e| = qv m e := by
  unfold sval
  cases n <;> simp [abs_of_nonneg (qv_nonneg m e)]

/-- a datum of positive magnitude has a non-zero mantissa -/
theorem mant_ne_zero {n : Bool} {m : Nat} {e : Int} {c : ℚ} (hc : 0 < c) (h : c ≤ |sval n m e|) : m ≠ 0 := by
  rintro rfl
  rw [abs_sval, show qv 0 e = 0 from by unfold qv; simp] at h
  exact absurd (lt_of_lt_of_le hc h) (lt_irrefl _)

/-- the printer's `0.51` units of the last place are within the one unit that the property allows -/
theorem close_to_error {d c M : ℚ} (h : d ≤ 51 / 100 * c * M) (hc : 0 ≤ c) (hM : 0 ≤ M) : d ≤ c * M :=
  le_trans h (mul_le_mul_of_nonneg_right (by linarith only [hc]) hM)

theorem max_one_nonneg (x : ℚ) : 0 ≤ max 1 x := le_trans zero_le_one (le_max_left _ _)

/-! ## 1. doubles -/

/-- PRINT, binary64, all finite non-zero data: the text printed for the pattern `b` (9 decimal places) denotes a rational
    within `0.51e-9·max(1,|x|)` of the exact value `x` of `b` -/
theorem print_double_close (cfg : Cfg) (b : Nat) (n : Bool) (m : Nat) (e : Int) (h : decode b64 b = .fin n m e) (hm : m ≠ 0) :
    |textVal (printNum cfg (.f64 b)) - sval n m e| ≤ 51 / 100 * (1 / 10 ^ 9) * max 1 |sval n m e| := by
  have := writeFloat_close cfg b n m e h hm 9 (by decide) (by decide)
  rw [abs_sval]
  show |textVal (writeFloat cfg b 9) - sval n m e| ≤ _
  calc _ ≤ 51 / 100 * (max 1 (qv m e) / (10 : ℚ) ^ 9) := this
    _ = _ := by ring

/-- PRINT, binary64, as stated in the property: `1e-300 ≤ |x| ≤ 1e300` ⇒ within `1e-9·max(1,|x|)` -/
theorem print_double_error (cfg : Cfg) (b : Nat) (n : Bool) (m : Nat) (e : Int) (h : decode b64 b = .fin n m e)
    (hlo : (10 : ℚ) ^ (-300 : Int) ≤ |sval n m e|) (_hhi : |sval n m e| ≤ (10 : ℚ) ^ (300 : Int)) :
    |textVal (printNum cfg (.f64 b)) - sval n m e| ≤ 1 / 10 ^ 9 * max 1 |sval n m e| := by
  have hm : m ≠ 0 := mant_ne_zero (ten_zpow_pos (-300)) hlo
  exact close_to_error (print_double_close cfg b n m e h hm) (by norm_num) (max_one_nonneg _)

/-! ## 2. floats (widened exactly to binary64, printed with 6 decimal places) -/

/-- PRINT, binary32, all finite non-zero data: within `0.51e-6·max(1,|x|)` -/
theorem print_float_close (cfg : Cfg) (b : Nat) (n : Bool) (m : Nat) (e : Int) (h : decode b32 b = .fin n m e) (hm : m ≠ 0) :
    |textVal (printNum cfg (.f32 b)) - sval n m e| ≤ 51 / 100 * (1 / 10 ^ 6) * max 1 |sval n m e| := by
  obtain ⟨m', e', hd, hq, hm'⟩ := widen_f32 h
  have hs : sval n m' e' = sval n m e := by unfold sval; rw [hq]
  have := writeFloat_close cfg (cvt b32 b64 b) n m' e' hd (hm' hm) 6 (by decide) (by decide)
  rw [abs_sval, ← hs, ← hq]
  show |textVal (writeFloat cfg (cvt b32 b64 b) 6) - sval n m' e'| ≤ _
  calc _ ≤ 51 / 100 * (max 1 (qv m' e') / (10 : ℚ) ^ 6) := this
    _ = _ := by ring

/-- PRINT, binary32, as stated in the property -/
theorem print_float_error (cfg : Cfg) (b : Nat) (n : Bool) (m : Nat) (e : Int) (h : decode b32 b = .fin n m e)
    (hlo : (10 : ℚ) ^ (-300 : Int) ≤ |sval n m e|) (_hhi : |sval n m e| ≤ (10 : ℚ) ^ (300 : Int)) :
    |textVal (printNum cfg (.f32 b)) - sval n m e| ≤ 1 / 10 ^ 6 * max 1 |sval n m e| := by
  have hm : m ≠ 0 := mant_ne_zero (ten_zpow_pos (-300)) hlo
  exact close_to_error (print_float_close cfg b n m e h hm) (by norm_num) (max_one_nonneg _)

/-! ## 3. zero -/

theorem writeFloat_cfg_irrelevant (cfg : Cfg) (v places : Nat) (h1 : isNaN b64 v = false) (h2 : isInf b64 v = false) :
    writeFloat cfg v places = writeFloat {} v places := by
  simp only [writeFloat, h1, h2, Bool.false_eq_true, if_false]

/-- `+0` and `-0`, as double or as float, print as "0" (the sign of zero is not printed) -/
theorem print_zero (cfg : Cfg) :
    printNum cfg (.f64 0) = [0x30] ∧ printNum cfg (.f64 (2 ^ 63)) = [0x30] ∧
    printNum cfg (.f32 0) = [0x30] ∧ printNum cfg (.f32 (2 ^ 31)) = [0x30] := by
  refine ⟨?_, ?_, ?_, ?_⟩
  · show writeFloat cfg 0 9 = _
    rw [writeFloat_cfg_irrelevant cfg _ _ (by decide +kernel) (by decide +kernel)]; decide +kernel
  · show writeFloat cfg (2 ^ 63) 9 = _
    rw [writeFloat_cfg_irrelevant cfg _ _ (by decide +kernel) (by decide +kernel)]; decide +kernel
  · show writeFloat cfg (cvt b32 b64 0) 6 = _
    rw [writeFloat_cfg_irrelevant cfg _ _ (by decide +kernel) (by decide +kernel)]; decide +kernel
  · show writeFloat cfg (cvt b32 b64 (2 ^ 31)) 6 = _
    rw [writeFloat_cfg_irrelevant cfg _ _ (by decide +kernel) (by decide +kernel)]; decide +kernel

/-- outside the finite values: NaN and the infinities print as "null" unless the configuration enables the non-standard
    literals (then "NaN", "Infinity", "-Infinity"); no digits are produced -/
theorem print_nonfinite (cfg : Cfg) (b : Nat) (h : decode b64 b = .nan ∨ ∃ n, decode b64 b = .inf n) :
    printNum cfg (.f64 b) =
      if decode b64 b = .nan then (if cfg.nan then [0x4E,0x61,0x4E] else [0x6E,0x75,0x6C,0x6C])
      else if cfg.inf then (if SF.lt b64 b 0 then [0x2D,0x49,0x6E,0x66,0x69,0x6E,0x69,0x74,0x79] else [0x49,0x6E,0x66,0x69,0x6E,0x69,0x74,0x79])
      else [0x6E,0x75,0x6C,0x6C] := by
  show writeFloat cfg b 9 = _
  rcases h with h | ⟨n, h⟩
  · have : isNaN b64 b = true := by unfold isNaN; rw [h]; rfl
    simp only [writeFloat, this, if_true, h]
    cases cfg.nan
    · simp only [Bool.false_eq_true, if_false]; exact JD.kw_null
    · simp only [if_true]; exact FloatLen.kw_nan
  · have h1 : isNaN b64 b = false := by unfold isNaN; rw [h]; rfl
    have h2 : isInf b64 b = true := by unfold isInf; rw [h]
    simp only [writeFloat, h1, h2, if_true, h, Bool.false_eq_true, if_false]
    have hne : ¬ (FP.inf n = FP.nan) := by intro hc; cases hc
    simp only [hne, if_false]
    cases cfg.inf
    · simp only [Bool.false_eq_true, if_false]; exact JD.kw_null
    · cases SF.lt b64 b 0
      · simp only [if_true, Bool.false_eq_true, if_false]; exact FloatLen.kw_inf
      · simp only [if_true]; exact FloatLen.kw_neginf

/-! ## 4. the parser on literals with `1e-325 ≤ |v| < 1e-300` (results subnormal or nearly so) -/

theorem big_num_11 : (2 : ℚ) ^ (-1000 : Int) ≤ (10 : ℚ) ^ (-325 : Int) / 2 * (10 : ℚ) ^ (256 : Int) := by
  have e1 : (10 : ℚ) ^ (-325 : Int) / 2 * (10 : ℚ) ^ (256 : Int) = (10 : ℚ) ^ (-69 : Int) / 2 := by
    rw [div_mul_eq_mul_div, ← zpow_add₀ (by norm_num : (10 : ℚ) ≠ 0)]; norm_num
  rw [e1]
  calc (2 : ℚ) ^ (-1000 : Int) ≤ (2 : ℚ) ^ (-240 : Int) := zpow_le_zpow_right₀ (by norm_num) (by norm_num)
    _ ≤ (10 : ℚ) ^ (-69 : Int) / 2 := by norm_num [zpow_neg]

theorem big_num_12 : (2 : ℚ) ^ 52 * (10 : ℚ) ^ (-326 : Int) < (10 : ℚ) ^ (-310 : Int) := by
  have h : (2 : ℚ) ^ 52 < (10 : ℚ) ^ (16 : Int) := by norm_num
  have hp := ten_zpow_pos (-326)
  calc (2 : ℚ) ^ 52 * (10 : ℚ) ^ (-326 : Int) < (10 : ℚ) ^ (16 : Int) * (10 : ℚ) ^ (-326 : Int) :=
        mul_lt_mul_of_pos_right h hp
    _ = (10 : ℚ) ^ (-310 : Int) := by rw [← zpow_add₀ (by norm_num : (10 : ℚ) ≠ 0)]; norm_num

/-- a result `R` within `25/2^53·M + W` of the scanned pair `M ≤ V`, which is within `1/450359962737049` of the literal `V` -/
theorem band_err {R M V W : ℚ} (hc : |R - M| ≤ 25 / 2 ^ 53 * M + W) (hcl : Close (1 / 450359962737049) M V) (hMV : M ≤ V)
    (hV : 0 ≤ V) : |R - V| ≤ W + 1 / 10 ^ 13 * V := by
  have h1 : |R - V| ≤ |R - M| + |M - V| := abs_sub_le R M V
  have h2 : (25 / 2 ^ 53 : ℚ) * M ≤ 25 / 2 ^ 53 * V := mul_le_mul_of_nonneg_left hMV (by norm_num)
  have h3 : (25 / 2 ^ 53 + 1 / 450359962737049 : ℚ) * V ≤ 1 / 10 ^ 13 * V := mul_le_mul_of_nonneg_right (by norm_num) hV
  unfold Close at hcl
  linarith

/-- a result at least two units `W` of the error term is at most `(2 + 1e-12)·V` -/
theorem band_magnitude {R V W : ℚ} (h : |R - V| ≤ W + 1 / 10 ^ 13 * V) (hb : W * 2 ≤ R) (hV : 0 ≤ V) :
    R ≤ (2 + 1 / 10 ^ 12) * V := by
  have := (abs_le.mp h).2
  linarith

/-- THE SUBNORMAL BAND. For every literal `-? ip f e` with `1e-325 ≤ |v| < 1e-300` (at most 99000 digits):
    * either the range test on the DECIMAL EXPONENT flushes it to the zero of its sign (stored as a float) — this happens only
      when the scanned exponent is below `-325`, hence only for `|v| < 2^52·1e-326 < 1e-310`;
    * or the result is a binary64 datum of the sign of the literal (zero, subnormal or normal) with
      `|r − v| ≤ 2^-1075 + 1e-13·|v|` (half a unit of the smallest subnormal, plus the relative error of the normal range), and,
      when it is not zero, `|r| ≤ (2 + 1e-12)·|v|`: never a wrong magnitude upwards. -/
theorem parse_subnormal_band (cfg : Cfg) (neg : Bool) {ip f e : List Byte} (hip : AllDigits ip) (hne : ip ≠ [])
    (hf : FracPart f) (he : ExpPart e) (hD : ip.length + f.tail.length ≤ 99000)
    (hlo : (10 : ℚ) ^ (-325 : Int) ≤ litAbs ip f e) (hhi : litAbs ip f e < (10 : ℚ) ^ (-300 : Int)) :
    let lit := (if neg then [0x2D] else []) ++ ip ++ f ++ e
    (parseNumber cfg lit = .f32 (negBits b32 neg 0) ∧ decode b32 (negBits b32 neg 0) = .fin neg 0 (-149) ∧
      litAbs ip f e < (10 : ℚ) ^ (-310 : Int)) ∨
    ∃ (bits m : Nat) (ex : Int), parseNumber cfg lit = .f64 bits ∧ decode b64 bits = .fin neg m ex ∧
      |sval neg m ex - litVal neg ip f e| ≤ (2 : ℚ) ^ (-1075 : Int) + 1 / 10 ^ 13 * |litVal neg ip f e| ∧
      (m ≠ 0 → |sval neg m ex| ≤ (2 + 1 / 10 ^ 12) * |litVal neg ip f e|) := by
  intro lit
  have hpos : 0 < litAbs ip f e := lt_of_lt_of_le (ten_zpow_pos _) hlo
  -- the written exponent is not saturated
  have hx : (expVal e).natAbs < 100000 := by
    by_contra hc
    obtain ⟨hsatHi, hsatLo⟩ := saturated_exponent cfg neg hip hne hf he hD
    rcases Int.le_total 0 (expVal e) with hs | hs
    · have hN : Digits.decVal (ip ++ f.tail) ≠ 0 := by
        intro h0; unfold litAbs at hpos; rw [h0] at hpos; simp at hpos
      have := (hsatHi (by omega) hN).2
      have h2 : (10 : ℚ) ^ (-300 : Int) < (10 : ℚ) ^ (1000 : Int) := zpow_lt_zpow_right₀ (by norm_num) (by norm_num)
      exact absurd (lt_trans (lt_of_le_of_lt this hhi) h2) (lt_irrefl _)
    · have := (hsatLo (by omega)).2
      have h2 : (10 : ℚ) ^ (-1000 : Int) < (10 : ℚ) ^ (-325 : Int) := zpow_lt_zpow_right₀ (by norm_num) (by norm_num)
      exact absurd (lt_trans (lt_of_le_of_lt hlo this) h2) (lt_irrefl _)
  rcases scan_error cfg neg hip hne hf he hx with ⟨h1, h2, _⟩ | ⟨mant, E, h1, h2, h3, h4, _, h6⟩
  · -- an integer literal has an integer value
    exfalso
    have hN : litAbs ip f e = (Digits.decVal ip : ℚ) := by rw [h1, h2, litAbs_integer]
    have h300 : (10 : ℚ) ^ (-300 : Int) ≤ 1 := zpow_le_one_of_nonpos₀ (by norm_num) (by norm_num)
    rw [hN] at hpos hhi
    have h0 : (Digits.decVal ip : ℚ) < 1 := lt_of_lt_of_le hhi h300
    have : Digits.decVal ip < 1 := by exact_mod_cast h0
    have : Digits.decVal ip = 0 := by omega
    rw [this] at hpos; simp at hpos
  · obtain ⟨hm0, hcl⟩ := h6 hpos
    have hlt : mant < 2 ^ 53 := by omega
    have hmq : (1 : ℚ) ≤ (mant : ℚ) := by exact_mod_cast Nat.pos_of_ne_zero hm0
    have hEp := ten_zpow_pos E
    -- E < -300
    have hE300 : E < -300 := by
      by_contra hc
      have h5 : (10 : ℚ) ^ (-300 : Int) ≤ (10 : ℚ) ^ E := zpow_le_zpow_right₀ (by norm_num) (by omega)
      have h7 : (10 : ℚ) ^ E ≤ (mant : ℚ) * (10 : ℚ) ^ E := le_mul_of_one_le_left hEp.le hmq
      exact absurd (lt_of_le_of_lt (le_trans h5 (le_trans h7 h3)) hhi) (lt_irrefl _)
    show (parseNumber cfg lit = _ ∧ _ ∧ _) ∨ ∃ bits m ex, parseNumber cfg lit = _ ∧ _
    rw [h1]
    by_cases hE : E < -325
    · left
      refine ⟨finish_tiny neg mant E hm0 hE, zero32_decode neg, ?_⟩
      have h5 : (10 : ℚ) ^ E ≤ (10 : ℚ) ^ (-326 : Int) := zpow_le_zpow_right₀ (by norm_num) (by omega)
      have h7 : (mant : ℚ) + 1 ≤ 2 ^ 52 := by
        have : mant + 1 ≤ 2 ^ 52 := by omega
        exact_mod_cast this
      have h8 : ((mant : ℚ) + 1) * (10 : ℚ) ^ E ≤ 2 ^ 52 * (10 : ℚ) ^ (-326 : Int) :=
        mul_le_mul h7 h5 hEp.le (by positivity)
      exact lt_trans (lt_of_lt_of_le h4 h8) big_num_12
    · right
      have hMv : (10 : ℚ) ^ (-325 : Int) / 2 ≤ (mant : ℚ) * (10 : ℚ) ^ E := scan_pair_lo hcl hpos.le (by linarith)
      have hlo' : (2 : ℚ) ^ (-1000 : Int) ≤ (mant : ℚ) * (10 : ℚ) ^ (E + 256) := by
        rw [zpow_add₀ (by norm_num : (10 : ℚ) ≠ 0), ← mul_assoc]
        exact le_trans big_num_11 (mul_le_mul_of_nonneg_right hMv (ten_zpow_pos 256).le)
      obtain ⟨bits, m, ex, hfin, hdec, hc⟩ := finish_band neg mant E hm0 hlt (by omega) (by omega) hlo'
      refine ⟨bits, m, ex, hfin, hdec, ?_⟩
      rw [abs_sval_sub, abs_litVal neg ip f e hpos.le, abs_sval]
      have hRV := band_err hc hcl h3 hpos.le
      refine ⟨hRV, fun hm => ?_⟩
      have hbot := fin_ge_bot b64 bits neg m ex hdec hm
      rw [show emin b64 = -1075 + 1 from by decide, zpow_add₀ (by norm_num : (2 : ℚ) ≠ 0), zpow_one] at hbot
      exact band_magnitude hRV hbot hpos.le

/-! ## non-vacuity: texts and errors by evaluation -/

theorem textVal_of_parts {s : List Byte} {neg : Bool} {ip f e : List Byte} (h : textParts s = (neg, ip, f, e)) :
    textVal s = litVal neg ip f e := by
  unfold textVal; rw [h]

-- 0.1f = 13421773·2^-27 prints as "0.1": the exact error is 1/671088640 ≈ 1.49e-9 ≤ 1e-6
theorem print_tenth32 : printNum {} (.f32 0x3DCCCCCD) = [0x30,0x2E,0x31] := by decide +kernel
example : printNum {} (.f32 0x3DCCCCCD) = [0x30,0x2E,0x31] := print_tenth32
example : textVal [0x30,0x2E,0x31] = 1 / 10 ∧ sval false 13421773 (-27) - textVal [0x30,0x2E,0x31] = 1 / 671088640 := by
  have h : textVal [0x30,0x2E,0x31] = 1 / 10 := by
    rw [textVal_of_parts (show textParts [0x30,0x2E,0x31] = (false, [0x30], [0x2E,0x31], []) from by decide +kernel)]
    unfold litVal litAbs
    rw [show Digits.decVal ([0x30] ++ ([0x2E,0x31] : List Byte).tail) = 1 from by decide +kernel,
      show expVal [] - ((([0x2E,0x31] : List Byte).tail.length : Nat) : Int) = -1 from by decide +kernel]
    norm_num
  refine ⟨h, ?_⟩
  rw [h]; unfold sval qv; norm_num [zpow_neg]
example : |textVal [0x30,0x2E,0x31] - sval false 13421773 (-27)| ≤ 1 / 10 ^ 6 * max 1 |sval false 13421773 (-27)| := by
  have hv : qv 13421773 (-27) = 13421773 / 134217728 := by unfold qv; norm_num [zpow_neg]
  have := print_float_error {} 0x3DCCCCCD false 13421773 (-27) (by decide +kernel)
    (by rw [abs_sval, hv]
        calc (10 : ℚ) ^ (-300 : Int) ≤ (10 : ℚ) ^ (-2 : Int) := zpow_le_zpow_right₀ (by norm_num) (by norm_num)
          _ ≤ _ := by norm_num)
    (by rw [abs_sval, hv]
        calc (13421773 / 134217728 : ℚ) ≤ (10 : ℚ) ^ (0 : Int) := by norm_num
          _ ≤ (10 : ℚ) ^ (300 : Int) := zpow_le_zpow_right₀ (by norm_num) (by norm_num))
  rwa [print_tenth32] at this

-- the threshold of the exponent notation: 1.0e7 prints as "1e7", 9999999.5 as "9999999.5" (both exact)
example : printNum {} (.f64 0x416312D000000000) = [0x31,0x65,0x37] := by decide +kernel
theorem print_9999999_5 : printNum {} (.f64 4711630319453732864) = [0x39,0x39,0x39,0x39,0x39,0x39,0x39,0x2E,0x35] := by decide +kernel
example : printNum {} (.f64 4711630319453732864) = [0x39,0x39,0x39,0x39,0x39,0x39,0x39,0x2E,0x35] := print_9999999_5
example : |textVal [0x39,0x39,0x39,0x39,0x39,0x39,0x39,0x2E,0x35] - sval false 5368708851564544 (-29)| ≤
    1 / 10 ^ 9 * max 1 |sval false 5368708851564544 (-29)| := by
  have hv : qv 5368708851564544 (-29) = 19999999 / 2 := by unfold qv; norm_num [zpow_neg]
  have := print_double_error {} 4711630319453732864 false 5368708851564544 (-29) (by decide +kernel)
    (by rw [abs_sval, hv]
        calc (10 : ℚ) ^ (-300 : Int) ≤ (10 : ℚ) ^ (0 : Int) := zpow_le_zpow_right₀ (by norm_num) (by norm_num)
          _ ≤ _ := by norm_num)
    (by rw [abs_sval, hv]
        calc (19999999 / 2 : ℚ) ≤ (10 : ℚ) ^ (7 : Int) := by norm_num
          _ ≤ (10 : ℚ) ^ (300 : Int) := zpow_le_zpow_right₀ (by norm_num) (by norm_num))
  rwa [print_9999999_5] at this

-- the neighbours of the other threshold: 1e-5 prints as "1e-5", the next double up as "0.00001" (absolute error bound applies),
-- the next double down as "10e-6" (the last multiplication of `normalize` rounds 9.999…98 up to 10)
example : printNum {} (.f64 4532020583610935537) = [0x31,0x65,0x2D,0x35] := by decide +kernel
example : printNum {} (.f64 4532020583610935538) = [0x30,0x2E,0x30,0x30,0x30,0x30,0x31] := by decide +kernel
theorem print_below_1em5 : printNum {} (.f64 4532020583610935536) = [0x31,0x30,0x65,0x2D,0x36] := by decide +kernel
example : printNum {} (.f64 4532020583610935536) = [0x31,0x30,0x65,0x2D,0x36] := print_below_1em5
example : |textVal [0x31,0x30,0x65,0x2D,0x36] - sval false 5902958103587056 (-69)| ≤
    51 / 100 * (1 / 10 ^ 9) * max 1 |sval false 5902958103587056 (-69)| := by
  have := print_double_close {} 4532020583610935536 false 5902958103587056 (-69) (by decide +kernel) (by decide)
  rwa [print_below_1em5] at this

-- 3.14159265358979 prints as "3.141592654"
theorem print_pi : printNum {} (.f64 4614256656552045841) = [0x33,0x2E,0x31,0x34,0x31,0x35,0x39,0x32,0x36,0x35,0x34] := by decide +kernel
example : printNum {} (.f64 4614256656552045841) = [0x33,0x2E,0x31,0x34,0x31,0x35,0x39,0x32,0x36,0x35,0x34] := print_pi
example : |textVal [0x33,0x2E,0x31,0x34,0x31,0x35,0x39,0x32,0x36,0x35,0x34] - sval false 7074237752028433 (-51)| ≤
    51 / 100 * (1 / 10 ^ 9) * max 1 |sval false 7074237752028433 (-51)| := by
  have := print_double_close {} 4614256656552045841 false 7074237752028433 (-51) (by decide +kernel) (by decide)
  rwa [print_pi] at this

-- the doubles nearest to 1e300 and 1e-300 print as "1e300" and "1e-300"; the largest finite float as "3.402823e38";
-- the largest finite double as "1.797693135e308", the smallest subnormal as "4.940656458e-324" (outside the stated range, same bound)
theorem print_1e300 : printNum {} (.f64 9094988921128908188) = [0x31,0x65,0x33,0x30,0x30] := by decide +kernel
example : printNum {} (.f64 9094988921128908188) = [0x31,0x65,0x33,0x30,0x30] := print_1e300
theorem print_1em300 : printNum {} (.f64 118622047889322841) = [0x31,0x65,0x2D,0x33,0x30,0x30] := by decide +kernel
example : printNum {} (.f64 118622047889322841) = [0x31,0x65,0x2D,0x33,0x30,0x30] := print_1em300
theorem print_max32 : printNum {} (.f32 0x7F7FFFFF) = [0x33,0x2E,0x34,0x30,0x32,0x38,0x32,0x33,0x65,0x33,0x38] := by decide +kernel
example : printNum {} (.f32 0x7F7FFFFF) = [0x33,0x2E,0x34,0x30,0x32,0x38,0x32,0x33,0x65,0x33,0x38] := print_max32
example : printNum {} (.f64 0x7FEFFFFFFFFFFFFF) =
    [0x31,0x2E,0x37,0x39,0x37,0x36,0x39,0x33,0x31,0x33,0x35,0x65,0x33,0x30,0x38] := by decide +kernel
example : printNum {} (.f64 1) = [0x34,0x2E,0x39,0x34,0x30,0x36,0x35,0x36,0x34,0x35,0x38,0x65,0x2D,0x33,0x32,0x34] := by decide +kernel
example : |textVal [0x31,0x65,0x33,0x30,0x30] - sval false 6724873095247260 944| ≤
    51 / 100 * (1 / 10 ^ 9) * max 1 |sval false 6724873095247260 944| := by
  have := print_double_close {} 9094988921128908188 false 6724873095247260 944 (by decide +kernel) (by decide)
  rwa [print_1e300] at this
example : |textVal [0x31,0x65,0x2D,0x33,0x30,0x30] - sval false 6032057205060441 (-1049)| ≤
    51 / 100 * (1 / 10 ^ 9) * max 1 |sval false 6032057205060441 (-1049)| := by
  have := print_double_close {} 118622047889322841 false 6032057205060441 (-1049) (by decide +kernel) (by decide)
  rwa [print_1em300] at this
example : |textVal [0x33,0x2E,0x34,0x30,0x32,0x38,0x32,0x33,0x65,0x33,0x38] - sval false 16777215 104| ≤
    51 / 100 * (1 / 10 ^ 6) * max 1 |sval false 16777215 104| := by
  have := print_float_close {} 0x7F7FFFFF false 16777215 104 (by decide +kernel) (by decide)
  rwa [print_max32] at this

-- the subnormal band of the parser: "5e-324" is the smallest subnormal, "2e-324" the double zero, "1e-310" a subnormal;
-- "4503599627370495e-326" = 4.5e-311 is flushed to the float zero by the test on the decimal exponent (-326 < -325)
example : parseNumber {} [0x35,0x65,0x2D,0x33,0x32,0x34] = .f64 1 := by decide +kernel
example : parseNumber {} [0x32,0x65,0x2D,0x33,0x32,0x34] = .f64 0 := by decide +kernel
example : parseNumber {} [0x31,0x65,0x2D,0x33,0x31,0x30] = .f64 20240225330731 := by decide +kernel
example : parseNumber {} [0x34,0x35,0x30,0x33,0x35,0x39,0x39,0x36,0x32,0x37,0x33,0x37,0x30,0x34,0x39,0x35,0x65,0x2D,0x33,0x32,0x36]
    = .f32 0 := by decide +kernel

private theorem exp_m310 : ExpPart [0x65,0x2D,0x33,0x31,0x30] :=
  Or.inr ⟨0x65, [0x2D], [0x33,0x31,0x30], Or.inl rfl, Or.inr (Or.inr rfl), ⟨by decide, by decide⟩, rfl⟩

/-- `parse_subnormal_band` on "1e-310": the result 20240225330731·2^-1074 is within `2^-1075 + 1e-13·v` of `v = 1e-310` -/
example : |sval false 20240225330731 (-1074) - (10 : ℚ) ^ (-310 : Int)| ≤
    (2 : ℚ) ^ (-1075 : Int) + 1 / 10 ^ 13 * |(10 : ℚ) ^ (-310 : Int)| := by
  have hv : litAbs [0x31] [] [0x65,0x2D,0x33,0x31,0x30] = (10 : ℚ) ^ (-310 : Int) := by
    unfold litAbs
    rw [show Digits.decVal ([0x31] ++ ([] : List Byte).tail) = 1 from by decide +kernel,
      show expVal [0x65,0x2D,0x33,0x31,0x30] - ((([] : List Byte).tail.length : Nat) : Int) = -310 from by decide +kernel]
    simp
  have hlv : litVal false [0x31] [] [0x65,0x2D,0x33,0x31,0x30] = (10 : ℚ) ^ (-310 : Int) := by unfold litVal; rw [hv]; simp
  have hp : parseNumber {} ((if false then [0x2D] else []) ++ [0x31] ++ [] ++ [0x65,0x2D,0x33,0x31,0x30]) = .f64 20240225330731 := by
    decide +kernel
  rcases parse_subnormal_band {} false (ip := [0x31]) (f := []) (e := [0x65,0x2D,0x33,0x31,0x30])
    (by unfold AllDigits; decide) (by simp) (Or.inl rfl) exp_m310 (by decide)
    (by rw [hv]; exact zpow_le_zpow_right₀ (by norm_num) (by norm_num))
    (by rw [hv]; exact zpow_lt_zpow_right₀ (by norm_num) (by norm_num)) with ⟨h, _⟩ | ⟨bits, m, ex, h1, h2, h3, _⟩
  · rw [hp] at h; cases h
  · rw [hp] at h1; cases h1
    have hd : decode b64 20240225330731 = .fin false 20240225330731 (-1074) := by decide +kernel
    rw [hd] at h2; cases h2
    rw [hlv] at h3; exact h3

end C12
