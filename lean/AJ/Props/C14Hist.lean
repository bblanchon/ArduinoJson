/- C04 / C14 lifted to whole histories, against the PLAIN ORDERED TREE.
   The abstract machine `DL.ARun : JD.Val → List AOp → JD.Val` (AJ/Lemmas/HistCor.lean) works on abstract values only:
   every operation names its target by a path from the root (`DL.updAt`), strings are byte lists. A concrete history
   `C04.HistA d F as d' F'` is a `C04.Hist2` history all of whose allocations succeed, indexed by the abstract operations
   `as` it stands for (`Op2.toA`: location ↦ `pathOf F l`, `strLinked s`/`strCopied s` ↦ `.str s`, the `linked` flag of
   `member` is dropped).
   * `C04.history_simulates_tree`   : `abs d' = ARun (abs d) as`
   * `C04.mutation_changes_only_target`, `C04.readonly_changes_nothing` : frame, whole histories
   * `C14.history_kind_irrelevant`  : the final abstract value depends on `as` only, hence not on how strings are stored -/
import AJ.Lemmas.HistCorFlag
namespace C04
open DL
open JD (Byte Val)

/-! ## 1. Refinement to the ordered tree, stated once for whole histories -/

/-- Every history of valid operations whose allocations succeed, from a well-formed document, computes on the abstract
    document exactly what the plain ordered tree computes: `abs d' = ARun (abs d) as`. (The invariant `WFG`/`StrOK` and the
    geometry are kept, `history_refines2`.) -/
theorem history_simulates_tree {d d' : Doc} {F F' : Forest} {as : List AOp} (h : HistA d F as d' F') :
    WFG d F → StrOK d (d.strRefs F) → PL.GeoOK d.g → abs d' = ARun (abs d) as := by
  induction h with
  | nil d F => intros; rfl
  | cons op hv hok _ ih =>
    intro w hs gok
    obtain ⟨a, b, c, _⟩ := step_refines2 w hs gok hv
    rw [ARun_cons, ← step_simulates w hs gok hv hok]
    exact ih a b (by rw [c]; exact gok)

/-- the same with the invariant at the end -/
theorem history_simulates_tree_wf {d d' : Doc} {F F' : Forest} {as : List AOp} (h : HistA d F as d' F')
    (w : WFG d F) (hs : StrOK d (d.strRefs F)) (gok : PL.GeoOK d.g) :
    WFG d' F' ∧ StrOK d' (d'.strRefs F') ∧ d'.g = d.g ∧ abs d' = ARun (abs d) as :=
  ⟨(history_refines2 h.hist2 w hs gok).1, (history_refines2 h.hist2 w hs gok).2.1, (history_refines2 h.hist2 w hs gok).2.2,
    history_simulates_tree h w hs gok⟩

/-- the same for `Hist2` histories, the success of every allocation being read off the overflow flag at the END: the flag
    is never reset by an operation and is set by every failed allocation (`step_overflowed`), so a history that ends with
    the flag down stands for a list `as` of abstract operations, and computes what the tree machine computes on `as` -/
theorem history_simulates_tree_of_flag {d d' : Doc} {F F' : Forest} (h : Hist2 d F d' F') (w : WFG d F)
    (hs : StrOK d (d.strRefs F)) (gok : PL.GeoOK d.g) (hov : d'.overflowed = false) :
    ∃ as, HistA d F as d' F' ∧ abs d' = ARun (abs d) as := by
  obtain ⟨_, as, hh⟩ := Hist2.toHistA h hov
  exact ⟨as, hh, history_simulates_tree hh w hs gok⟩

/-! ## 2. A mutation changes only its target (whole histories) -/

/-- one step: a location whose path parts ways with the path of the target is still a location of the new layout, at
    the same path -/
theorem step_keeps_path {d : Doc} {F : Forest} {op : Op2} {l' : Loc} (w : WFG d F) (hs : StrOK d (d.strRefs F))
    (gok : PL.GeoOK d.g) (hv : op.Valid d F) (hl' : isLoc F l') (hdv : Diverge (pathOf F op.loc) (pathOf F l')) :
    isLoc (op.layout d F) l' ∧ pathOf (op.layout d F) l' = pathOf F l' := by
  have fresh : ∀ x, ¬ PL.live d.g d.pl x → x ∉ F.locs := fun x hx m => hx (w.live x (F.locs_sub_ids x m))
  cases op with
  | base op =>
    cases op with
    | add l =>
      obtain ⟨hl, _⟩ := hv
      simp only [Op2.layout, Op.layout]
      generalize hal : d.allocVariant = r
      obtain ⟨m, d1⟩ := r
      cases m with
      | none =>
        have : (d.addElement l).1 = none := by simp only [Doc.addElement, hal]
        rw [this]; exact ⟨hl', rfl⟩
      | some id =>
        have : (d.addElement l).1 = some id := by simp only [Doc.addElement, hal]
        rw [this]
        obtain ⟨_, _, _, _, hnl, _, _⟩ := allocVariant_some gok w.pool hal
        refine pathOf_replaceAt _ w.nodup hl hl' hdv (fun x hx => ?_)
        rcases (Forest.locs_snoc_mem _ _ _ _).1 hx with h | h
        · exact Or.inl h
        · exact Or.inr (h ▸ fresh id hnl)
    | clear l => exact pathOf_replaceAt _ w.nodup hv hl' hdv (fun x hx => by cases hx)
    | put l a => exact ⟨hl', rfl⟩
  | removeElem l k =>
    obtain ⟨hl, h, t, hg⟩ := hv
    simp only [Op2.layout, hg]
    cases (d.chain h)[k]? with
    | none => exact ⟨hl', rfl⟩
    | some id =>
      exact pathOf_replaceAt _ w.nodup hl hl' hdv (fun x hx => Or.inl (Forest.eraseTop_locs_sub _ id x hx))
  | removeMember l key =>
    obtain ⟨hl, h, t, hg⟩ := hv
    simp only [Op2.layout]
    cases d.findKey l key with
    | none => exact ⟨hl', rfl⟩
    | some p =>
      exact pathOf_replaceAt _ w.nodup hl hl' hdv (fun x hx => Or.inl (Forest.eraseTop_locs_sub _ p.2 x hx))
  | member l key linked =>
    obtain ⟨hl, hobj⟩ := hv
    simp only [Op2.layout]
    cases hfind : (membersAt d l).find? (fun m => m.1 == key) with
    | some m => exact ⟨hl', rfl⟩
    | none =>
      obtain ⟨_, hok⟩ := getOrAddMember_absent (linked := linked) w hs gok hl hobj hfind
      cases hr : (d.getOrAddMember l key linked).1 with
      | none => cases d.allocVariant.1 <;> exact ⟨hl', rfl⟩
      | some v =>
        obtain ⟨k, a1, _, _, hnv, _⟩ := hok v hr
        simp only [a1]
        refine pathOf_replaceAt _ w.nodup hl hl' hdv (fun x hx => ?_)
        rcases (Forest.locs_snoc_mem _ _ _ _).1 hx with h | h
        · exact Or.inl h
        · exact Or.inr (h ▸ fresh v hnv)

/-- A MUTATION CHANGES ONLY ITS TARGET, whole histories. Let `l` be a location of the initial document whose path parts
    ways with the path of the target of every operation of the history (`l` is neither the target, nor inside it, nor
    does it contain it). Then `l` is still a location of the final document, at the same path, and a reference to it
    designates exactly the same abstract value as before the history. -/
theorem mutation_changes_only_target {d d' : Doc} {F F' : Forest} {as : List AOp} (h : HistA d F as d' F') :
    WFG d F → StrOK d (d.strRefs F) → PL.GeoOK d.g → ∀ l, isLoc F l → (∀ a ∈ as, Diverge a.path (pathOf F l)) →
    isLoc F' l ∧ pathOf F' l = pathOf F l ∧ d'.toVal (d'.get l) = d.toVal (d.get l) := by
  induction h with
  | nil d F => intro _ _ _ l hl _; exact ⟨hl, rfl, rfl⟩
  | @cons d F as d' F' op hv hok _ ih =>
    intro w hs gok l hl hdv
    obtain ⟨a, b, c, _⟩ := step_refines2 w hs gok hv
    have h0 := hdv _ List.mem_cons_self
    rw [Op2.toA_path] at h0
    obtain ⟨hl1, hp1⟩ := step_keeps_path w hs gok hv hl h0
    obtain ⟨x, y, z⟩ := ih a b (by rw [c]; exact gok) l hl1
      (fun e he => by rw [hp1]; exact hdv e (List.mem_cons_of_mem _ he))
    refine ⟨x, y.trans hp1, z.trans ?_⟩
    have e1 := getAt_pathOf a hl1
    rw [hp1, step_simulates w hs gok hv hok, AOp.step] at e1
    rw [getAt_updAt_diverge _ _ _ _ (by rw [Op2.toA_path]; exact h0), getAt_pathOf w hl] at e1
    exact (Option.some.inj e1).symm

/-- the same read off the abstract machine alone: along `ARun`, the value at a path that parts ways with every target is
    constant -/
theorem tree_frame (t : Val) (as : List AOp) (q : Path) (h : ∀ a ∈ as, Diverge a.path q) :
    getAt q (ARun t as) = getAt q t := ARun_frame q as t h

/-! ## 3. Read-only steps change nothing (whole histories) -/

/-- the steps that only look: `object[key]` for a key that is present, `array.remove(i)` past the end,
    `object.remove(key)` for an absent key -/
def Op2.ReadOnly (d : Doc) : Op2 → Prop
  | .member l key _ => ∃ m, (membersAt d l).find? (fun m => m.1 == key) = some m
  | .removeElem l k => ∀ h t, d.get l = .arr h t → (d.chain h)[k]? = none
  | .removeMember l key => d.findKey l key = none
  | .base _ => False

theorem readonly_step {d : Doc} {F : Forest} {op : Op2} (w : WFG d F) (hv : op.Valid d F) (hro : op.ReadOnly d) :
    op.run d = d ∧ op.layout d F = F := by
  cases op with
  | base op => cases hro
  | removeElem l k =>
    obtain ⟨_, h, t, hg⟩ := hv
    simp only [Op2.run, Op2.layout, hg, hro h t hg]
    exact ⟨trivial, trivial⟩
  | removeMember l key =>
    simp only [Op2.ReadOnly] at hro
    simp only [Op2.run, Op2.layout, hro]
    exact ⟨trivial, trivial⟩
  | member l key linked =>
    obtain ⟨m, hm⟩ := hro
    obtain ⟨hl, hobj⟩ := hv
    have hg : ∃ h t, d.get l = .obj h t := by
      rcases hobj with hnull | hg
      · exfalso
        have : membersAt d l = [] := by simp only [membersAt, hnull, toVal_null]
        rw [this] at hm; cases hm
      · exact hg
    obtain ⟨h, t, hg⟩ := hg
    obtain ⟨v, hr, _⟩ := getOrAddMember_found (linked := linked) w hl hg hm
    simp only [Op2.run, Op2.layout, hr, hm]
    exact ⟨trivial, trivial⟩

/-- `RoHist d F n`: `n` valid read-only steps in a row from `d` -/
inductive RoHist : Doc → Forest → Doc → Forest → Prop
  | nil (d : Doc) (F : Forest) : RoHist d F d F
  | cons {d : Doc} {F : Forest} {d' : Doc} {F' : Forest} (op : Op2) :
      op.Valid d F → op.ReadOnly d → RoHist (op.run d) (op.layout d F) d' F' → RoHist d F d' F'

/-- READ-ONLY OPERATIONS CHANGE NOTHING, whole histories: a history of look-ups ends in the very same document (the same
    store, not only the same abstract value) with the same layout; it is a history in the sense of `Hist2`. -/
theorem readonly_changes_nothing {d d' : Doc} {F F' : Forest} (h : RoHist d F d' F') :
    WFG d F → (d' = d ∧ F' = F) ∧ Hist2 d F d' F' := by
  induction h with
  | nil d F => intro _; exact ⟨⟨rfl, rfl⟩, Hist2.nil _ _⟩
  | cons op hv hro _ ih =>
    intro w
    obtain ⟨e1, e2⟩ := readonly_step w hv hro
    obtain ⟨⟨x, y⟩, z⟩ := ih (by rw [e1, e2]; exact w)
    exact ⟨⟨x.trans e1, y.trans e2⟩, Hist2.cons op hv z⟩

end C04

/-! ## C14: how a string is stored is unobservable, whole histories -/
namespace C14
open DL C04
open JD (Byte Val)

/-- linked or copied, a string argument is the same abstract operation -/
theorem put_kind (F : Forest) (l : Loc) (s : List Byte) :
    (Op2.base (.put l (.strLinked s))).toA F = (Op2.base (.put l (.strCopied s))).toA F := rfl
/-- linked or copied, a key is the same abstract operation -/
theorem member_kind (F : Forest) (l : Loc) (key : List Byte) :
    (Op2.member l key true).toA F = (Op2.member l key false).toA F := rfl

/-- HOW A STRING IS STORED IS UNOBSERVABLE, whole histories. Two histories of valid operations whose allocations succeed,
    over two well-formed documents (possibly different stores, layouts and geometries) with the same abstract value, that
    stand for the same abstract operations `as` — that is: the same operations at the same paths with the same string
    BYTES, whatever the storage kind (linked, or copied, de-duplicated and reference-counted) of each string argument and
    key (`put_kind`, `member_kind`) — end in documents with the same abstract value: `ARun (abs d) as`.
    In particular sharing of equal copied strings inside a document is never visible. -/
theorem history_kind_irrelevant {d1 d1' d2 d2' : Doc} {F1 F1' F2 F2' : Forest} {as : List AOp}
    (h1 : HistA d1 F1 as d1' F1') (h2 : HistA d2 F2 as d2' F2')
    (w1 : WFG d1 F1) (s1 : StrOK d1 (d1.strRefs F1)) (g1 : PL.GeoOK d1.g)
    (w2 : WFG d2 F2) (s2 : StrOK d2 (d2.strRefs F2)) (g2 : PL.GeoOK d2.g)
    (he : abs d1 = abs d2) : abs d1' = abs d2' := by
  rw [history_simulates_tree h1 w1 s1 g1, history_simulates_tree h2 w2 s2 g2, he]

/-- every observable of the final documents that is a function of the abstract value agrees: here, the value read
    through any path -/
theorem history_kind_irrelevant_at {d1 d1' d2 d2' : Doc} {F1 F1' F2 F2' : Forest} {as : List AOp}
    (h1 : HistA d1 F1 as d1' F1') (h2 : HistA d2 F2 as d2' F2')
    (w1 : WFG d1 F1) (s1 : StrOK d1 (d1.strRefs F1)) (g1 : PL.GeoOK d1.g)
    (w2 : WFG d2 F2) (s2 : StrOK d2 (d2.strRefs F2)) (g2 : PL.GeoOK d2.g)
    (he : abs d1 = abs d2) {l1 l2 : Loc} (hl1 : isLoc F1' l1) (hl2 : isLoc F2' l2)
    (hp : pathOf F1' l1 = pathOf F2' l2) : d1'.toVal (d1'.get l1) = d2'.toVal (d2'.get l2) := by
  obtain ⟨a1, _, _, _⟩ := history_simulates_tree_wf h1 w1 s1 g1
  obtain ⟨a2, _, _, _⟩ := history_simulates_tree_wf h2 w2 s2 g2
  have e1 := getAt_pathOf a1 hl1
  have e2 := getAt_pathOf a2 hl2
  rw [history_kind_irrelevant h1 h2 w1 s1 g1 w2 s2 g2 he, hp, e2] at e1
  exact (Option.some.inj e1).symm

end C14

/-! ## Non-vacuity (geometry ⟨4,1,1⟩; documents with a slot id ≥ 1 do not evaluate in the kernel: facts about them are
   derived from the refinement theorems, as in AJ/Props/C04Rem.lean) -/
namespace C14.ExH
open DL C04 C04.Ex C04.Ex3
open JD (Byte Val)

/-! ### A. `[]`, then `add`, then `[0] := "hi"`: linked versus copied -/
def opL : Op2 := .base (.put (.slot 0) (.strLinked hi))
def opC : Op2 := .base (.put (.slot 0) (.strCopied hi))
/-- the abstract history both stand for -/
def asA : List AOp := [.add [], .put [0] (.str hi)]

theorem ok1 : op1.Succ e1 := by show (e1.addElement .root).1 ≠ none; decide +kernel
theorem p0 : pathOf FF1 (.slot 0) = [0] := by decide +kernel
theorem vL : opL.Valid dd1 FF1 := ⟨by show 0 ∈ FF1.locs; decide +kernel, by decide +kernel, by decide +kernel⟩
theorem vC : opC.Valid dd1 FF1 := ⟨by show 0 ∈ FF1.locs; decide +kernel, by decide +kernel, by decide +kernel⟩

theorem histL : HistA e1 .nil asA (opL.run dd1) (opL.layout dd1 FF1) := by
  have h := HistA.cons op1 v1 ok1 (HistA.cons opL vL trivial (HistA.nil _ _))
  have e : opL.toA (op1.layout e1 .nil) = .put [0] (.str hi) := by
    show AOp.put (pathOf FF1 (.slot 0)) _ = _; rw [p0]; rfl
  rw [e] at h; exact h
theorem histC : HistA e1 .nil asA (opC.run dd1) (opC.layout dd1 FF1) := by
  have h := HistA.cons op1 v1 ok1 (HistA.cons opC vC trivial (HistA.nil _ _))
  have e : opC.toA (op1.layout e1 .nil) = .put [0] (.str hi) := by
    show AOp.put (pathOf FF1 (.slot 0)) _ = _; rw [p0]; rfl
  rw [e] at h; exact h

/-- `history_simulates_tree` applies: the slot-level history computes what the tree machine computes, `["hi"]` -/
example : abs (opC.run dd1) = ARun (.arr []) asA ∧ ARun (.arr []) asA = .arr [.str hi] :=
  ⟨history_simulates_tree histC w1 C04.Ex2.s1 gok, rfl⟩

/-- `history_kind_irrelevant` applies: the linked and the copied history end with the same abstract value, although
    the stores differ (no string node versus one string node) -/
example : abs (opL.run dd1) = abs (opC.run dd1) ∧ (opL.run dd1).strings.length = 0 ∧ (opC.run dd1).strings.length = 1 :=
  ⟨history_kind_irrelevant histL histC w1 C04.Ex2.s1 gok w1 C04.Ex2.s1 gok rfl, by decide +kernel, by decide +kernel⟩

/-! ### B. de-duplication: `{}`, then `root["hi"]`, then `root["hi"] := "hi"`. Copied: the key and the value share ONE
   string node (reference count 2); linked: no node at all. Same abstract document `{"hi":"hi"}`. -/
def kC : Op2 := .member .root hi false
def kL : Op2 := .member .root hi true
def pC : Op2 := .base (.put (.slot 1) (.strCopied hi))
def pL : Op2 := .base (.put (.slot 1) (.strLinked hi))
def asB : List AOp := [.member [] hi, .put [0] (.str hi)]

theorem vk (b : Bool) : (Op2.member .root hi b).Valid eo .nil := ⟨trivial, Or.inr ⟨255, 255, rfl⟩⟩
theorem okC : kC.Succ eo := by show (eo.getOrAddMember .root hi false).1 ≠ none; decide +kernel
theorem okL : kL.Succ eo := by show (eo.getOrAddMember .root hi true).1 ≠ none; decide +kernel
theorem layC : kC.layout eo .nil = H1 := by decide +kernel
theorem layL : kL.layout eo .nil = H1 := by decide +kernel
theorem p1 : pathOf H1 (.slot 1) = [0] := by decide +kernel

/-- `{"hi": null}` with a linked key: value slot 1 holds null -/
theorem wm1' : m1.get (.slot 1) = .null := by
  obtain ⟨_, hok⟩ := getOrAddMember_absent (linked := true) wo so gok (l := .root) trivial (Or.inr ⟨255, 255, rfl⟩) (mo hi)
  obtain ⟨_, _, _, _, _, _, _, _, _, a9, _⟩ := hok 1 (by decide +kernel)
  exact a9

/-- the copied run unfolded: slots 0 (key) and 1 (value), the key bytes saved in the string table -/
theorem eC : eo.getOrAddMember .root hi false =
    (some 1, ((a2.saveString hi).2.set (.slot 0) (.owned 0)).appendPair .root 0 1) := by
  rw [getOrAddMember_absent_eq wo so (l := .root) trivial (Or.inr ⟨255, 255, rfl⟩) (mo hi)]
  show eo.addMember .root hi false = _
  exact addMember_copied_eq (Prod.ext (by decide +kernel) rfl : eo.allocVariant = (some 0, a1))
    (Prod.ext (by decide +kernel) rfl : a1.allocVariant = (some 1, a2))
    (Prod.ext (by decide +kernel) rfl : a2.saveString hi = (some 0, (a2.saveString hi).2))
theorem eL : eo.getOrAddMember .root hi true = (some 1, (a2.set (.slot 0) (.linked hi)).appendPair .root 0 1) := by
  rw [getOrAddMember_absent_eq wo so (l := .root) trivial (Or.inr ⟨255, 255, rfl⟩) (mo hi)]
  show eo.addMember .root hi true = _
  exact addMember_linked_eq (Prod.ext (by decide +kernel) rfl : eo.allocVariant = (some 0, a1))
    (Prod.ext (by decide +kernel) rfl : a1.allocVariant = (some 1, a2))

/-- after the copied `root["hi"]`: one string node, referenced once (by the key) -/
theorem c1_strings : (kC.run eo).strings = [⟨0, hi, 1⟩] := by
  show (eo.getOrAddMember .root hi false).2.strings = _
  rw [eC]; show (((a2.saveString hi).2.set (.slot 0) (.owned 0)).appendPair .root 0 1).strings = _
  rw [appendPair_strings, set_strings]; decide +kernel
theorem c1_ov : (kC.run eo).overflowed = false := by
  show (eo.getOrAddMember .root hi false).2.overflowed = _
  rw [eC]; show (((a2.saveString hi).2.set (.slot 0) (.owned 0)).appendPair .root 0 1).overflowed = _
  rw [appendPair_overflowed, set_overflowed]; decide +kernel
theorem c1_find : (kC.run eo).strings.find? (·.bytes == hi) = some ⟨0, hi, 1⟩ := by rw [c1_strings]; rfl
theorem m1_strings : (kL.run eo).strings = [] := by
  show (eo.getOrAddMember .root hi true).2.strings = _
  rw [eL]; show ((a2.set (.slot 0) (.linked hi)).appendPair .root 0 1).strings = _
  rw [appendPair_strings, set_strings]; decide +kernel
theorem m1_ov : (kL.run eo).overflowed = false := by
  show (eo.getOrAddMember .root hi true).2.overflowed = _
  rw [eL]; show ((a2.set (.slot 0) (.linked hi)).appendPair .root 0 1).overflowed = _
  rw [appendPair_overflowed, set_overflowed]; decide +kernel

theorem vpC : pC.Valid (kC.run eo) (kC.layout eo .nil) := by
  rw [layC]
  refine ⟨by show 1 ∈ H1.locs; decide +kernel, wc1.2.2.2.2, ?_⟩
  rw [setArg_copied_fst, saveString_found c1_find]
  show (!(kC.run eo).overflowed) = true
  rw [c1_ov]; rfl
theorem vpL : pL.Valid (kL.run eo) (kL.layout eo .nil) := by
  rw [layL]
  refine ⟨by show 1 ∈ H1.locs; decide +kernel, wm1', ?_⟩
  rw [setArg_linked_fst, m1_ov]; rfl

theorem histBC : HistA eo .nil asB (pC.run (kC.run eo)) (pC.layout (kC.run eo) (kC.layout eo .nil)) := by
  have h := HistA.cons kC (vk false) okC (HistA.cons pC vpC trivial (HistA.nil _ _))
  have e : pC.toA (kC.layout eo .nil) = .put [0] (.str hi) := by
    rw [layC]; show AOp.put (pathOf H1 (.slot 1)) _ = _; rw [p1]; rfl
  rw [e] at h; exact h
theorem histBL : HistA eo .nil asB (pL.run (kL.run eo)) (pL.layout (kL.run eo) (kL.layout eo .nil)) := by
  have h := HistA.cons kL (vk true) okL (HistA.cons pL vpL trivial (HistA.nil _ _))
  have e : pL.toA (kL.layout eo .nil) = .put [0] (.str hi) := by
    rw [layL]; show AOp.put (pathOf H1 (.slot 1)) _ = _; rw [p1]; rfl
  rw [e] at h; exact h

/-- `history_kind_irrelevant` applies, and the sharing is real: in the copied run ONE node with reference count 2 holds
    both the key and the value; in the linked run the string table is empty; the abstract documents are equal, and
    equal to what the tree machine computes, `{"hi":"hi"}` -/
example : abs (pC.run (kC.run eo)) = abs (pL.run (kL.run eo)) ∧
    abs (pC.run (kC.run eo)) = .obj [(hi, .str hi)] ∧
    (pC.run (kC.run eo)).strings.map (fun n => (n.bytes, n.refs)) = [(hi, 2)] ∧
    (pL.run (kL.run eo)).strings.length = 0 :=
  ⟨history_kind_irrelevant histBC histBL wo so gok wo so gok rfl,
   (history_simulates_tree histBC wo so gok).trans rfl,
   by show ((kC.run eo).setArg (.slot 1) (.strCopied hi)).2.strings.map _ = _
      rw [setArg_copied_strings, saveString_found c1_find]
      show ((kC.run eo).strings.map _).map _ = _
      rw [c1_strings]; rfl,
   by show ((kL.run eo).setArg (.slot 1) (.strLinked hi)).2.strings.length = 0
      rw [setArg_linked_strings, m1_strings]; rfl⟩

/-! ### C. frame: `[null, null]`, then `[1] := "hi"` (linked): element 0 keeps its path and its value -/
theorem toVal_eq_null {d : Doc} {v : VData} (h : d.toVal v = .null) : v = .null := by
  cases v <;> first | rfl | (simp [Doc.toVal, Doc.fuel, Doc.toValF] at h)

def qC : Op2 := .base (.put (.slot 1) (.strLinked hi))
theorem pg1 : pathOf G2 (.slot 1) = [1] := by decide +kernel
theorem pg0 : pathOf G2 (.slot 0) = [0] := by decide +kernel
theorem b2_slot1 : b2.get (.slot 1) = .null := by
  obtain ⟨w, _, _, habs⟩ := wb2
  have := getAt_pathOf w (l := .slot 1) (by show 1 ∈ G2.locs; decide +kernel)
  rw [pg1, habs] at this
  exact toVal_eq_null (Option.some.inj this).symm
theorem b2_ov : b2.overflowed = false := by
  have h1 : b1.overflowed = e1.overflowed := addElement_overflowed_some (id := 0) (by decide +kernel)
  have h2 : b2.overflowed = b1.overflowed := addElement_overflowed_some (id := 1) (by decide +kernel)
  rw [h2, h1]; rfl
theorem vq : qC.Valid b2 G2 :=
  ⟨by show 1 ∈ G2.locs; decide +kernel, b2_slot1, by rw [setArg_linked_fst, b2_ov]; rfl⟩
theorem histQ : HistA b2 G2 [qC.toA G2] (qC.run b2) (qC.layout b2 G2) := HistA.cons qC vq trivial (HistA.nil _ _)

/-- `mutation_changes_only_target` applies: a reference to element 0 still designates the same value (null), at the same
    path, after element 1 was set; and the document is `[null, "hi"]` -/
example : isLoc (qC.layout b2 G2) (.slot 0) ∧ pathOf (qC.layout b2 G2) (.slot 0) = pathOf G2 (.slot 0) ∧
    (qC.run b2).toVal ((qC.run b2).get (.slot 0)) = b2.toVal (b2.get (.slot 0)) ∧
    abs (qC.run b2) = .arr [.null, .str hi] := by
  obtain ⟨w, s, g, habs⟩ := wb2
  have gk : PL.GeoOK b2.g := by rw [g]; exact gok
  obtain ⟨a, b, c⟩ := mutation_changes_only_target histQ w s gk (.slot 0) (by show 0 ∈ G2.locs; decide +kernel)
    (by intro a ha
        simp only [List.mem_singleton] at ha; subst ha
        rw [Op2.toA_path]; show Diverge (pathOf G2 (.slot 1)) (pathOf G2 (.slot 0))
        rw [pg1, pg0]; exact Or.inl (by decide))
  refine ⟨a, b, c, ?_⟩
  rw [history_simulates_tree histQ w s gk, habs]
  show ARun _ [AOp.put (pathOf G2 (.slot 1)) _] = _
  rw [pg1]; rfl

/-- `history_simulates_tree_of_flag` applies to the underlying `Hist2` history: its overflow flag is down -/
example : ∃ as, HistA b2 G2 as (qC.run b2) (qC.layout b2 G2) ∧ abs (qC.run b2) = ARun (abs b2) as := by
  obtain ⟨w, s, g, _⟩ := wb2
  exact history_simulates_tree_of_flag histQ.hist2 w s (by rw [g]; exact gok)
    (by show (b2.set (.slot 1) (.linked hi)).overflowed = false; rw [set_overflowed]; exact b2_ov)

/-! ### D. read-only: on `{"hi": null}` (copied key), `root["hi"]` then `root.remove("k2")` change nothing -/
def r1 : Op2 := .member .root hi true
def r2 : Op2 := .removeMember .root k2

example : ∃ d' F', RoHist c1 H1 d' F' ∧ d' = c1 ∧ F' = H1 := by
  obtain ⟨w, _, habs, _, _⟩ := wc1
  have htv : c1.toVal (c1.get .root) = .obj [(hi, .null)] := habs
  obtain ⟨h, t, hv⟩ := toVal_obj_inv htv
  have hv1 : r1.Valid c1 H1 := ⟨trivial, Or.inr ⟨h, t, hv⟩⟩
  have hr1 : r1.ReadOnly c1 := ⟨(hi, .null), by rw [mc1]; rfl⟩
  obtain ⟨e1, e2⟩ := readonly_step w hv1 hr1
  have hv2 : r2.Valid c1 H1 := ⟨trivial, h, t, hv⟩
  have hr2 : r2.ReadOnly c1 := by
    obtain ⟨ms, hms, hfk⟩ := findKey_first w (l := .root) trivial hv k2
    have hm : ms = [(hi, .null)] := by rw [htv] at hms; injection hms with e; exact e.symm
    subst hm
    show c1.findKey .root k2 = none
    cases hf : c1.findKey .root k2 with
    | none => rfl
    | some p =>
      have hnone : List.find? (fun m : List Byte × Val => m.1 == k2) [(hi, .null)] = none := rfl
      rw [hf, hnone] at hfk; cases hfk
  have hh : RoHist c1 H1 (r2.run (r1.run c1)) (r2.layout (r1.run c1) (r1.layout c1 H1)) :=
    RoHist.cons r1 hv1 hr1 (RoHist.cons r2 (by rw [e1, e2]; exact hv2) (by rw [e1]; exact hr2) (RoHist.nil _ _))
  obtain ⟨⟨x, y⟩, _⟩ := readonly_changes_nothing hh w
  exact ⟨_, _, hh, x, y⟩

end C14.ExH
