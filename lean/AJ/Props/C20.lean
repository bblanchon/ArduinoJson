/- C20 — Distinct documents can be used from distinct threads without synchronisation.
   Two parts.
   (1) The library keeps no mutable state outside the documents: the inventory of every object with static storage duration
       defined by ArduinoJson code is regenerated from the object code on every run (tools/gen_statics.py → AJ/Gen/Statics.lean)
       and `statics_ok` is re-checked against it: every such object is in a read-only section or on a justified allow-list.
   (2) Given (1), an operation on document i is a function of that document (and of read-only data) alone; then every
       interleaving of per-thread operation lists over pairwise distinct documents gives each thread the outputs and the final
       document of its sequential run (`interleaving_sequential`), for any step function — in particular for the document
       machine of AJ/Model. Data races on memory the model does not describe and the thread-safety of malloc are observed with
       the thread harness (TSan in the thorough tier), not proved. -/
import AJ.Gen.Statics
namespace C20

/-- Objects allowed in a writable section, each justified:
    * `DefaultAllocator::instance()::allocator`: an object without data members (only a vtable pointer written once by the
      dynamic loader / constant initialisation); its member functions forward to malloc/free/realloc.
    * `DeserializationError::c_str() const::messages`: a `const char* const[]` table of pointers to string literals; it lies in
      `.data.rel.ro` only because it needs relocation, and it is never assigned. -/
def allowList : List String :=
  ["ArduinoJson::detail::DefaultAllocator::instance()::allocator", "ArduinoJson::DeserializationError::c_str() const::messages"]

/-- every static object of the library is read-only or on the allow-list -/
theorem statics_ok : ∀ s ∈ Gen.statics, s.2 = false ∨ s.1 ∈ allowList := by decide +kernel

/-! ## interleavings over disjoint documents -/
section
variable {D Op Out : Type}

/-- the system: one document per thread index -/
def upd (σ : Nat → D) (i : Nat) (d : D) : Nat → D := fun j => if j = i then d else σ j

/-- run a schedule (thread index, operation): thread `i` operates on document `i` only; `step` may read any fixed global data
    (it is a parameter), but has no other state -/
def runSched (step : D → Op → D × Out) : (Nat → D) → List (Nat × Op) → (Nat → D) × List (Nat × Out)
  | σ, [] => (σ, [])
  | σ, (i, op) :: rest =>
    let r := step (σ i) op
    let (σ', outs) := runSched step (upd σ i r.1) rest
    (σ', (i, r.2) :: outs)

/-- the sequential run of one thread's operations on its own document -/
def runSeq (step : D → Op → D × Out) : D → List Op → D × List Out
  | d, [] => (d, [])
  | d, op :: rest =>
    let r := step d op
    let (d', outs) := runSeq step r.1 rest
    (d', r.2 :: outs)

def opsOf (i : Nat) (sched : List (Nat × Op)) : List Op := (sched.filter (fun p => p.1 == i)).map (·.2)
def outsOf (i : Nat) (outs : List (Nat × Out)) : List Out := (outs.filter (fun p => p.1 == i)).map (·.2)

/-- Every interleaving behaves, for each thread, exactly like that thread's sequential run: same final document, same outputs in order. -/
theorem interleaving_sequential (step : D → Op → D × Out) (sched : List (Nat × Op)) (σ : Nat → D) (i : Nat) :
    (runSched step σ sched).1 i = (runSeq step (σ i) (opsOf i sched)).1 ∧
    outsOf i (runSched step σ sched).2 = (runSeq step (σ i) (opsOf i sched)).2 := by
  induction sched generalizing σ with
  | nil => simp [runSched, runSeq, opsOf, outsOf]
  | cons hd rest ih =>
    obtain ⟨j, op⟩ := hd
    simp only [runSched]
    have ih' := ih (upd σ j (step (σ j) op).1)
    generalize hr : runSched step (upd σ j (step (σ j) op).1) rest = r at ih'
    obtain ⟨σ', outs⟩ := r
    simp only at ih' ⊢
    by_cases hji : j = i
    · subst hji
      have hu : upd σ j (step (σ j) op).1 j = (step (σ j) op).1 := by simp [upd]
      rw [hu] at ih'
      simp only [opsOf, outsOf, List.filter_cons, beq_self_eq_true, ↓reduceIte, List.map_cons, runSeq] at ih' ⊢
      generalize hs : runSeq step (step (σ j) op).1 (List.map (fun x => x.2) (List.filter (fun p => p.1 == j) rest)) = s at ih'
      obtain ⟨d', os⟩ := s
      simp only at ih' ⊢
      exact ⟨ih'.1, by rw [ih'.2]⟩
    · have hu : upd σ j (step (σ j) op).1 i = σ i := by simp [upd, Ne.symm hji]
      rw [hu] at ih'
      have hb : (j == i) = false := by simpa using hji
      simp only [opsOf, outsOf, List.filter_cons, hb, Bool.false_eq_true, ↓reduceIte] at ih' ⊢
      exact ih'

/-- a thread's result does not depend on what the other threads do -/
theorem other_threads_irrelevant (step : D → Op → D × Out) (s1 s2 : List (Nat × Op)) (σ : Nat → D) (i : Nat)
    (h : opsOf i s1 = opsOf i s2) :
    (runSched step σ s1).1 i = (runSched step σ s2).1 i ∧ outsOf i (runSched step σ s1).2 = outsOf i (runSched step σ s2).2 := by
  have a := interleaving_sequential step s1 σ i
  have b := interleaving_sequential step s2 σ i
  rw [h] at a
  exact ⟨a.1.trans b.1.symm, a.2.trans b.2.symm⟩
end

-- non-vacuity: two threads appending to their own counters, interleaved
example : (runSched (fun (d : Nat) (op : Nat) => (d + op, d)) (fun _ => 0) [(0, 1), (1, 10), (0, 2), (1, 20)]).1 0 = 3 := by decide
example : (Gen.statics.filter (·.2)).length = 2 := by decide +kernel
end C20
