/- C07 — deserializeJson(serializeJson(d)) yields a document equivalent to d.
   This file: the float-free, raw-free part, for EVERY such document (all nestings, all byte strings, all 64-bit
   integers): the compact text is accepted, consumed entirely, and the value read back is `normJ d`
   (= `d` except that a non-negative signed integer comes back unsigned; members with a repeated key are merged
   exactly as `parseObject` merges them — with `NoDupKeys` nothing is merged).
   Also: the structural round trip with floats (`json_roundtrip_readable`, result `readBack cfg d`), and the fact that
   the text of a finite float is a number for the deserializer (`float_text_is_number`).
   Definitions (`normJ`, `readBack`, `NoFloat`, `RawFree`, `IntsInRange`, `StrsWithin`, `NumsReadable`, `NoDupKeys`,
   `depth`) live in AJ/Lemmas/JsonRoundTrip.lean. The round trip is a composition (AJ/Lemmas/CompactDialect.lean): the
   compact text is a value of the dialect (`Spec.Dialect.Value`) denoting `readBack`, and the deserializer is complete
   for the dialect (`C10.complete`). `parseNumber` on float texts: AJ/Lemmas/FloatText.lean. -/
import AJ.Lemmas.CompactDialect
import AJ.Lemmas.FloatText
import AJ.Props.C09
namespace C07
open JD JSer

/-- **Structural round trip, floats included.** For every raw-free document whose strings and keys fit the string
    buffer, whose nesting fits the limit, and whose number nodes are readable (`NumReadable`: printed as `null`, or as
    a text of at most 63 number bytes that `parseNumber` does not reject — true of every 64-bit integer
    by `int_readable`, and of every finite float whose text fits the buffer by `float_readable`):
    the compact text is accepted and consumed entirely, and the value read back is `readBack cfg v`: the same
    structure, order, keys, strings and booleans, each number node replaced by what `parseNumber` makes of its own text
    (`numBack`), members with a repeated key merged as `parseObject` does (`lastWins`). -/
theorem json_roundtrip_readable (cfg : Cfg) (L : Nat) (v : Val) (hcfg : cfg.decodeUnicode = true)
    (h2 : RawFree v) (h3 : NumsReadable cfg v) (h4 : StrsWithin cfg.maxStrLen v) (hd : depth v ≤ L) :
    JD.run cfg L (compact cfg v) = (.ok, readBack cfg v, (compact cfg v).length) :=
  run_compact cfg hcfg L v (goodG_of cfg v h2 h3 h4) hd

/-- the float-free case, general form: no hypothesis on keys; objects come back merged by `lastWins` -/
theorem json_roundtrip_nofloat_gen (cfg : Cfg) (L : Nat) (v : Val) (hcfg : cfg.decodeUnicode = true)
    (h1 : NoFloat v) (h2 : RawFree v) (h3 : IntsInRange v) (h4 : StrsWithin cfg.maxStrLen v) (hd : depth v ≤ L) :
    JD.run cfg L (compact cfg v) = (.ok, normJ v, (compact cfg v).length) := by
  have hg := good_of cfg v h1 h2 h3 h4
  have hG := goodG_of_good cfg v hg
  have h3' : NumsReadable cfg v := AllV_mono (fun v h => h.2.1) (fun _ _ => trivial) v hG
  rw [← readBack_eq_normJ cfg v hg]
  exact json_roundtrip_readable cfg L v hcfg h2 h3' h4 hd

/-- **MAIN.** For every float-free, raw-free document `v` without repeated keys, whose integers are 64-bit, whose strings
    and keys fit the string buffer, and whose nesting fits the limit `L`:
    `deserializeJson(serializeJson(v))` succeeds, consumes the whole text, and yields `normJ v`. -/
theorem json_roundtrip_nofloat (cfg : Cfg) (L : Nat) (v : Val) (hcfg : cfg.decodeUnicode = true)
    (h1 : NoFloat v) (h2 : RawFree v) (_h5 : NoDupKeys v) (h3 : IntsInRange v) (h4 : StrsWithin cfg.maxStrLen v)
    (hd : depth v ≤ L) :
    JD.run cfg L (compact cfg v) = (.ok, normJ v, (compact cfg v).length) :=
  json_roundtrip_nofloat_gen cfg L v hcfg h1 h2 h3 h4 hd

/-- without repeated keys `normJ` only changes the tag of non-negative signed integers: structure, order, keys,
    strings, booleans and integer values are exactly those of `v` -/
theorem normJ_of_noDupKeys (v : Val) (h : NoDupKeys v) : normJ v = normInt v := normJ_eq_normInt v h

/-- the main theorem with the explicit normal form -/
theorem json_roundtrip_nofloat' (cfg : Cfg) (L : Nat) (v : Val) (hcfg : cfg.decodeUnicode = true)
    (h1 : NoFloat v) (h2 : RawFree v) (h5 : NoDupKeys v) (h3 : IntsInRange v) (h4 : StrsWithin cfg.maxStrLen v)
    (hd : depth v ≤ L) :
    JD.run cfg L (compact cfg v) = (.ok, normInt v, (compact cfg v).length) := by
  rw [← normJ_of_noDupKeys v h5]; exact json_roundtrip_nofloat cfg L v hcfg h1 h2 h5 h3 h4 hd

/-- a document that contains only unsigned and negative integers is read back identically -/
theorem normInt_id_example : normInt (.arr [.num (.uint 7), .num (.sint (-3)), .str [0x61]]) =
    .arr [.num (.uint 7), .num (.sint (-3)), .str [0x61]] := by
  simp [normInt, normIntE]

/- With floats. PROVED below: `float_text_is_number`, `parseNumber_never_faults`, `float_text_fits`,
   `json_roundtrip_all` (default options: every raw-free document, NaN/Infinity included) and `json_roundtrip_finite`
   (any options, finite floats): structure, order, keys, strings, booleans and integers exact; every float node read
   back as `parseNumber` of its own text. The value clause for floats (`numBack cfg (.f64 b)` is within printing precision
   of `b`; an integral value such as 3.0 prints as `3` and comes back as the integer 3) is AJ/Props/C07Float.lean
   (`float_through_json`, `json_roundtrip_floats_close`). Not stated here: with `cfg.nan`/`cfg.inf` set, the texts `NaN`,
   `Infinity`, `-Infinity` are read back by `parseNumeric`. -/

/-! ## non-vacuity -/

/-- `{"a":[1,-2,"x\n",null,true,5],"b":{"c":[]},"":false}`; the signed 5 comes back unsigned -/
def sample : Val :=
  .obj [([0x61], .arr [.num (.uint 1), .num (.sint (-2)), .str [0x78, 0x0A], .null, .bool true, .num (.sint 5)]),
        ([0x62], .obj [([0x63], .arr [])]),
        ([], .bool false)]

def sampleText : List UInt8 :=
  [0x7B, 0x22,0x61,0x22, 0x3A, 0x5B, 0x31, 0x2C, 0x2D,0x32, 0x2C, 0x22,0x78,0x5C,0x6E,0x22, 0x2C, 0x6E,0x75,0x6C,0x6C, 0x2C,
   0x74,0x72,0x75,0x65, 0x2C, 0x35, 0x5D, 0x2C, 0x22,0x62,0x22, 0x3A, 0x7B, 0x22,0x63,0x22, 0x3A, 0x5B,0x5D, 0x7D, 0x2C,
   0x22,0x22, 0x3A, 0x66,0x61,0x6C,0x73,0x65, 0x7D]

theorem sample_text : compact {} sample = sampleText := by decide +kernel

example : JD.run {} 3 sampleText =
    (.ok, .obj [([0x61], .arr [.num (.uint 1), .num (.sint (-2)), .str [0x78, 0x0A], .null, .bool true, .num (.uint 5)]),
                ([0x62], .obj [([0x63], .arr [])]),
                ([], .bool false)], 52) := by
  have h := json_roundtrip_nofloat' {} 3 sample rfl
    (by simp [NoFloat, sample, AllV, AllE, AllM, FloatFreeS])
    (by simp [RawFree, sample, AllV, AllE, AllM, RawFreeS])
    (by simp [NoDupKeys, sample, NoDupE, NoDupM])
    (by simp [IntsInRange, sample, AllV, AllE, AllM, IntOkS])
    (by simp [StrsWithin, sample, AllV, AllE, AllM, StrOkS])
    (by simp [sample, depth, depthE, depthM])
  rw [sample_text] at h
  have e : normInt sample =
      .obj [([0x61], .arr [.num (.uint 1), .num (.sint (-2)), .str [0x78, 0x0A], .null, .bool true, .num (.uint 5)]),
            ([0x62], .obj [([0x63], .arr [])]),
            ([], .bool false)] := by
    simp [sample, normInt, normIntE, normIntM]
  rw [e] at h
  exact h

-- the same text evaluated directly by the kernel (independent of the theorem): Ok, 52 bytes consumed
example : (match JD.run {} 3 sampleText with | (.ok, .obj [_, _, _], n) => n == 52 | _ => false) = true := by
  decide +kernel

-- a repeated key: `{"k":1,"k":2}` comes back as `{"k":2}` (general theorem, `lastWins`)
example : JD.run {} 1 [0x7B, 0x22,0x6B,0x22, 0x3A, 0x31, 0x2C, 0x22,0x6B,0x22, 0x3A, 0x32, 0x7D] =
    (.ok, .obj [([0x6B], .num (.uint 2))], 13) := by
  have h := json_roundtrip_nofloat_gen {} 1 (.obj [([0x6B], .num (.uint 1)), ([0x6B], .num (.uint 2))]) rfl
    (by simp [NoFloat, AllV, AllM, FloatFreeS]) (by simp [RawFree, AllV, AllM, RawFreeS])
    (by simp [IntsInRange, AllV, AllM, IntOkS]) (by simp [StrsWithin, AllV, AllM, StrOkS])
    (by simp [depth, depthM])
  have t : compact {} (.obj [([0x6B], .num (.uint 1)), ([0x6B], .num (.uint 2))]) =
      [0x7B, 0x22,0x6B,0x22, 0x3A, 0x31, 0x2C, 0x22,0x6B,0x22, 0x3A, 0x32, 0x7D] := by decide +kernel
  rw [t] at h
  simpa [normJ, normMembers, lastWins, insertAll, setMember] using h

-- a top-level integer (the look-ahead is the end marker): 18446744073709551615
example : JD.run {} 0 (compact {} (.num (.uint 18446744073709551615))) =
    (.ok, .num (.uint 18446744073709551615), (compact {} (.num (.uint 18446744073709551615))).length) :=
  json_roundtrip_nofloat_gen {} 0 _ rfl (by simp [NoFloat, AllV, FloatFreeS]) (by simp [RawFree, AllV, RawFreeS])
    (by simp [IntsInRange, AllV, IntOkS]) (by simp [StrsWithin, AllV, StrOkS]) (by simp [depth])


/-! ## floats: the printed text of a finite value is a number for the deserializer -/

/-- **The text of a finite float is a number.** For every finite binary64 `b` and every number of places,
    `writeFloat` produces `-? digits (. digits)? (e -? digits)?` (`writeFloat_finite_shape`); every byte of it is a
    number byte for `scanNumber` (so the scan takes it entirely, up to the next delimiter), and `parseNumber` does not
    reject it. (How close the value read back is to `b`: AJ/Props/C07Float.lean.) -/
theorem float_text_is_number (cfg : Cfg) (b places : Nat) (h1 : SF.isNaN SF.b64 b = false) (h2 : SF.isInf SF.b64 b = false) :
    (∀ c ∈ JS.writeFloat cfg b places, inNumber cfg c = true) ∧
    parseNumber cfg (JS.writeFloat cfg b places) ≠ .invalid := by
  obtain ⟨neg, ID, F, E, e, hI, hne, hF, hE⟩ := writeFloat_finite_shape cfg b places h1 h2
  rw [e]
  exact ⟨shape_inNumber cfg neg ID F E hI hF hE, number_shape_ok cfg neg ID F E hI hne hF hE⟩

/-- hence, inside a document (a delimiter or the end follows) the scan of `parseNumeric` takes exactly that text,
    provided it fits the 63-byte number buffer -/
theorem float_text_scanned (cfg : Cfg) (b places : Nat) (h1 : SF.isNaN SF.b64 b = false) (h2 : SF.isInf SF.b64 b = false)
    (hlen : (JS.writeFloat cfg b places).length ≤ 63) (s : St) (rest : List UInt8) (p : Nat) (hd : Delim_rt cfg rest)
    (h : Vw s (JS.writeFloat cfg b places ++ rest) p) :
    ∃ s', scanNumber cfg (Gen.number_buffer - 1) [] s = (JS.writeFloat cfg b places, s') ∧
      Vw s' rest (p + (JS.writeFloat cfg b places).length) := by
  obtain ⟨s', he, hv, _⟩ := scanNumber_exact cfg _ (Gen.number_buffer - 1) [] s rest p
    (float_text_is_number cfg b places h1 h2).1 (by show _ ≤ 63; exact hlen) hd h
  exact ⟨s', by simpa using he, hv⟩

/-- `parseNumber` never indexes its powers-of-ten tables out of bounds, on any input (the exponent tests that precede
    `make_float` keep |e| ≤ 325 < 512, resp. ≤ 38 < 64) -/
theorem parseNumber_never_faults (cfg : Cfg) (s : List UInt8) : parseNumber cfg s ≠ .fault := parseNumber_ne_fault cfg s

/-- every float text fits the 63-byte number buffer of `parseNumeric` (at most `17 + places` bytes) -/
theorem float_text_fits (cfg : Cfg) (b places : Nat) (hp : places ≤ 46) : (JS.writeFloat cfg b places).length ≤ 63 := by
  have := FloatLen.writeFloat_length_le cfg b places; omega

/-- a finite float node is readable: its text is a number literal of the RFC -/
theorem float_readable (cfg : Cfg) (n : Num) (w places : Nat) (hp : JS.printNum cfg n = JS.writeFloat cfg w places)
    (hpl : places ≤ 46) (h1 : SF.isNaN SF.b64 w = false) (h2 : SF.isInf SF.b64 w = false) : NumReadable cfg n := by
  unfold NumReadable
  rw [hp]
  exact Or.inr (numLit_readable cfg (SerG.numLit_writeFloat cfg w places hpl h1 h2))

/-- without the NaN/Infinity options every float node is readable: a non-finite one is printed as `null` -/
theorem float_readable_plain (cfg : Cfg) (n : Num) (w places : Nat) (hp : JS.printNum cfg n = JS.writeFloat cfg w places)
    (hpl : places ≤ 46) (hnan : cfg.nan = false) (hinf : cfg.inf = false) : NumReadable cfg n := by
  cases h : (SF.isNaN SF.b64 w || SF.isInf SF.b64 w)
  · exact float_readable cfg n w places hp hpl (Bool.or_eq_false_iff.mp h).1 (Bool.or_eq_false_iff.mp h).2
  · exact Or.inl (by rw [hp]; exact SerG.writeFloat_nonfinite cfg w places hnan hinf h)

def FiniteS : Val → Prop
  | .num (.f64 b) => SF.isNaN SF.b64 b = false ∧ SF.isInf SF.b64 b = false
  | .num (.f32 b) => SF.isNaN SF.b64 (cvt SF.b32 SF.b64 b) = false ∧ SF.isInf SF.b64 (cvt SF.b32 SF.b64 b) = false
  | _ => True
/-- every float node is finite -/
def FiniteFloats (v : Val) : Prop := AllV FiniteS (fun _ => True) v

theorem num_readable (cfg : Cfg) (v : Val) (hi : IntOkS v)
    (hf : (cfg.nan = false ∧ cfg.inf = false) ∨ FiniteS v) : NumOkS cfg v := by
  cases v with
  | num n =>
    cases n with
    | uint m => exact (int_readable cfg (.uint m) ⟨trivial, trivial, hi, trivial⟩).1
    | sint i => exact (int_readable cfg (.sint i) ⟨trivial, trivial, hi, trivial⟩).1
    | f32 b =>
      rcases hf with ⟨a, b'⟩ | hf
      · exact float_readable_plain cfg _ _ 6 rfl (by decide) a b'
      · exact float_readable cfg _ _ 6 rfl (by decide) hf.1 hf.2
    | f64 b =>
      rcases hf with ⟨a, b'⟩ | hf
      · exact float_readable_plain cfg _ _ 9 rfl (by decide) a b'
      · exact float_readable cfg _ _ 9 rfl (by decide) hf.1 hf.2
  | _ => trivial

/-- **Round trip with floats, default options.** Without the NaN/Infinity options, for EVERY raw-free document whose
    integers are 64-bit, whose strings and keys fit the string buffer and whose nesting fits the limit —
    any floats, NaN and infinities included — `deserializeJson(serializeJson(v))` succeeds, consumes the whole text and
    yields `readBack cfg v`: same structure, order, keys, strings, booleans; every number node is what `parseNumber`
    reads from the node's own text (`numBack`: integers exactly, by `readBack_eq_normJ`; NaN/Infinity become `null`). -/
theorem json_roundtrip_all (cfg : Cfg) (L : Nat) (v : Val) (hcfg : cfg.decodeUnicode = true)
    (hnan : cfg.nan = false) (hinf : cfg.inf = false)
    (h2 : RawFree v) (h3 : IntsInRange v) (h4 : StrsWithin cfg.maxStrLen v) (hd : depth v ≤ L) :
    JD.run cfg L (compact cfg v) = (.ok, readBack cfg v, (compact cfg v).length) :=
  json_roundtrip_readable cfg L v hcfg h2
    (AllV_mono (fun v h => num_readable cfg v h (Or.inl ⟨hnan, hinf⟩)) (fun _ h => h) v h3) h4 hd

/-- **Round trip with finite floats, any options.** -/
theorem json_roundtrip_finite (cfg : Cfg) (L : Nat) (v : Val) (hcfg : cfg.decodeUnicode = true)
    (h1 : FiniteFloats v) (h2 : RawFree v) (h3 : IntsInRange v) (h4 : StrsWithin cfg.maxStrLen v) (hd : depth v ≤ L) :
    JD.run cfg L (compact cfg v) = (.ok, readBack cfg v, (compact cfg v).length) :=
  json_roundtrip_readable cfg L v hcfg h2
    (AllV_mono (fun v h => num_readable cfg v h.1 (Or.inr h.2)) (fun _ _ => trivial) v (AllV_and v h3 h1)) h4 hd

-- non-vacuity: -2.5 prints as "-2.5", 1e-7 prints as "1e-7"; both are numbers for the parser
example : JS.writeFloat {} 0xC004000000000000 9 = [0x2D, 0x32, 0x2E, 0x35] := by decide +kernel
example : JS.writeFloat {} 0x3E7AD7F29ABCAF48 9 = [0x31, 0x65, 0x2D, 0x37] := by decide +kernel
example : parseNumber {} [0x31, 0x65, 0x2D, 0x37] ≠ .invalid := by
  have h := (float_text_is_number {} 0x3E7AD7F29ABCAF48 9 (by decide +kernel) (by decide +kernel)).2
  rwa [show JS.writeFloat {} 0x3E7AD7F29ABCAF48 9 = [0x31, 0x65, 0x2D, 0x37] from by decide +kernel] at h
example : parseNumber {} [0x2D, 0x32, 0x2E, 0x35] = .f32 0xC0200000 := by decide +kernel


-- a document with floats: [-2.5,{"e":1e-7},3]; the floats come back as what the parser reads from their text
example : JD.run {} 2 [0x5B, 0x2D,0x32,0x2E,0x35, 0x2C, 0x7B, 0x22,0x65,0x22, 0x3A, 0x31,0x65,0x2D,0x37, 0x7D, 0x2C, 0x33, 0x5D] =
    (.ok, .arr [.num (.f32 0xC0200000), .obj [([0x65], .num (.f32 0x33D6BF95))], .num (.uint 3)], 19) := by
  have h := json_roundtrip_all {} 2
    (.arr [.num (.f64 0xC004000000000000), .obj [([0x65], .num (.f64 0x3E7AD7F29ABCAF48))], .num (.uint 3)]) rfl rfl rfl
    (by simp [RawFree, AllV, AllE, AllM, RawFreeS])
    (by simp [IntsInRange, AllV, AllE, AllM, IntOkS])
    (by simp [StrsWithin, AllV, AllE, AllM, StrOkS])
    (by simp [depth, depthE, depthM])
  have t : compact {} (.arr [.num (.f64 0xC004000000000000), .obj [([0x65], .num (.f64 0x3E7AD7F29ABCAF48))], .num (.uint 3)]) =
      [0x5B, 0x2D,0x32,0x2E,0x35, 0x2C, 0x7B, 0x22,0x65,0x22, 0x3A, 0x31,0x65,0x2D,0x37, 0x7D, 0x2C, 0x33, 0x5D] := by
    decide +kernel
  have nb : ∀ (n : Num) (T : List UInt8) (r : PNum), JS.printNum {} n = T → T ≠ nullText → parseNumber {} T = r →
      numBack {} n = (match r with
        | .uint n => .num (.uint n) | .sint n => .num (.sint n) | .f32 b => .num (.f32 b)
        | .f64 b => .num (storeDouble b) | _ => .null) := by
    intro n T r h1 h2 h3; simp only [numBack, h1, h2, ↓reduceIte, numValue, h3]; rfl
  have b1 : numBack {} (.f64 0xC004000000000000) = .num (.f32 0xC0200000) :=
    nb _ [0x2D,0x32,0x2E,0x35] (.f32 0xC0200000) (by decide +kernel) (by decide) (by decide +kernel)
  have b2 : numBack {} (.f64 0x3E7AD7F29ABCAF48) = .num (.f32 0x33D6BF95) :=
    nb _ [0x31,0x65,0x2D,0x37] (.f32 0x33D6BF95) (by decide +kernel) (by decide) (by decide +kernel)
  have b3 : numBack {} (.uint 3) = .num (.uint 3) :=
    nb _ [0x33] (.uint 3) (by decide +kernel) (by decide) (by decide +kernel)
  rw [t] at h
  simpa [readBack, readBackE, readBackM, lastWins, insertAll, setMember, b1, b2, b3] using h


/-! ## MessagePack side (from AJ/Props/C09.lean) -/
section MsgPack
open JD
/-- deserializeMsgPack(serializeMsgPack(d)) = norm d, exactly the bytes of d consumed, for every raw-free document within limits -/
theorem msgpack_roundtrip (env : MD.Env) (L : Nat) (v : Val) (hr : C09.RawFree v) (hw : C09.WithinLimits env v) (hd : C09.depth v ≤ L) (rest : List UInt8) :
    MD.run env L .all (MD.ser v ++ rest) = (.ok, C09.norm v, (MD.ser v).length) :=
  C09.roundtrip env L v hr hw hd rest

/-- what comes back has the same shape, strings, keys, order, and numerically equal numbers -/
theorem msgpack_value_preserved (v : Val) : C09.ValSame v (C09.norm v) := C09.norm_value_preserving v

/-- serializing the result again gives byte-identical MessagePack -/
theorem msgpack_fixpoint (v : Val) : MD.ser (C09.norm v) = MD.ser v := C09.fixpoint v

end MsgPack

end C07
