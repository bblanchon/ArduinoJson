/- C17 — Unicode escapes decode correctly for every code point; escaping is the inverse.
   Property theorems (facts about single functions first, then their composition through the string parser
   `parseQuoted`, `parseVariant`, `parseMembers`, `run`); helper lemmas live in AJ/Lemmas/{Bits,Latch,Quoted}.lean,
   among them `pq_u_bmp`, `pq_u_pair` and `body_decodes_gen`, the generalised forms used by the inductions. -/
import AJ.Model.JD
import AJ.Model.JSer
import AJ.Spec.Unicode
import AJ.Lemmas.Bits
import AJ.Lemmas.Latch
import AJ.Lemmas.Quoted
import AJ.Lemmas.TokenStep
namespace C17
open JD

/-- `Utf8::encodeCodepoint` (reverse buffer, 16-bit intermediate) is UTF-8, for every Unicode code point. -/
theorem encodeCodepoint_eq_utf8 (cp : Nat) (h : cp < 0x110000) : encodeCodepoint cp = Spec.utf8 cp :=
  encodeCodepoint_utf8 cp h

/-- `decodeHex` maps every hexadecimal digit, in either case, to its value. -/
theorem decodeHex_hex (c : UInt8) (v : Nat) (h : Spec.hexVal c = some v) : decodeHex c = v := (hexVal_some h).1

/-- The two tables read from `escapeTable` are inverse of each other: whatever the serializer escapes,
    the deserializer unescapes to the same byte. -/
theorem unescape_escape (c : UInt8) (h : JSer.escapeChar c ≠ 0) : unescapeChar (JSer.escapeChar c) = c :=
  (escape_facts c h).1

/-- the bytes that `serializeJson` does not copy verbatim: quote, backslash, \b \f \n \r \t and NUL -/
def specials : List UInt8 := [0x22, 0x5C, 0x08, 0x0C, 0x0A, 0x0D, 0x09, 0]

/-- `serializeJson` changes a byte exactly when it is the quote, the backslash, \b \f \n \r \t or NUL. -/
theorem escape_minimal (c : UInt8) : JSer.writeChar c = [c] ↔ c ∉ specials := by
  have key : ∀ c : UInt8, (decide (JSer.writeChar c = [c]) == !(specials.contains c)) = true := by
    apply Bits.all_bytes; decide +kernel
  have := key c
  rw [beq_iff_eq] at this
  constructor
  · intro h
    rw [decide_eq_true h] at this
    intro hm
    have hc : specials.contains c = true := List.contains_iff_mem.mpr hm
    rw [hc] at this
    exact absurd this (by decide)
  · intro h
    have hc : specials.contains c = false := by
      cases hcc : specials.contains c
      · rfl
      · exact absurd (List.contains_iff_mem.mp hcc) h
    rw [hc] at this
    exact of_decide_eq_true this

/-! ## Composition through the string parser -/

/-- generalised accumulator version of `escape_inverse` -/
theorem escape_inverse_gen {cfg : Cfg} (hcfg : cfg.decodeUnicode = true) (s : List UInt8) :
    ∀ (fuel : Nat) (acc : List UInt8) (hi : Nat) (q : St) (rest : List UInt8) (p : Nat) (f : Bool),
      s.length < fuel → acc.length + s.length ≤ cfg.maxStrLen →
      At q (s.flatMap JSer.writeChar ++ 0x22 :: rest) p f →
      ∃ q', At q' rest (p + (s.flatMap JSer.writeChar).length + 1) f ∧
        parseQuoted cfg 0x22 fuel acc hi q = (.ok, acc.reverse ++ s, q') := by
  induction s with
  | nil =>
    intro fuel acc hi q rest p f hf hl h
    obtain ⟨n, rfl⟩ : ∃ n, fuel = n + 1 := ⟨fuel - 1, by simp at hf; omega⟩
    have h' : At q (0x22 :: rest) p f := by simpa using h
    obtain ⟨q', hq', he⟩ := pq_close (cfg := cfg) (fuel := n) (acc := acc) (hi := hi) h' (by simpa using hl)
    exact ⟨q', by simpa using hq', by simpa using he⟩
  | cons c cs ih =>
    intro fuel acc hi q rest p f hf hl h
    obtain ⟨n, rfl⟩ : ∃ n, fuel = n + 1 := ⟨fuel - 1, by simp at hf; omega⟩
    have h' : At q (JSer.writeChar c ++ (cs.flatMap JSer.writeChar ++ 0x22 :: rest)) p f := by
      simpa [List.flatMap_cons, List.append_assoc] using h
    obtain ⟨q1, hq1, he1⟩ := pq_writeChar hcfg c n acc hi q _ p f h'
    obtain ⟨q', hq', he'⟩ := ih n (c :: acc) hi q1 rest _ f (by simp at hf; omega)
      (by simp at hl ⊢; omega) hq1
    refine ⟨q', ?_, ?_⟩
    · have : p + (JSer.writeChar c).length + (cs.flatMap JSer.writeChar).length + 1 =
          p + ((c :: cs).flatMap JSer.writeChar).length + 1 := by
        simp only [List.flatMap_cons, List.length_append]; omega
      rw [← this]; exact hq'
    · rw [he1, he']; simp

/-- **Escaping is inverted by the string parser.** Whatever `writeString` emits for the body of a string
    (any bytes at all, hence every byte and every pair of bytes), followed by the closing quote, is read back
    by `parseQuotedString` as the identical bytes; the reader is left just after the closing quote.
    One unit of fuel per source byte plus one for the quote is enough. -/
theorem escape_inverse (s : List UInt8) (cfg : Cfg) (q : St) (rest : List UInt8) (fuel hi : Nat)
    (hcfg : cfg.decodeUnicode = true) (hlen : s.length ≤ cfg.maxStrLen)
    (hq1 : q.l.loaded = false) (hq2 : q.l.unread = s.flatMap JSer.writeChar ++ 0x22 :: rest)
    (hfuel : s.length < fuel) :
    ∃ q', parseQuoted cfg 0x22 fuel [] hi q = (.ok, s, q') ∧ q'.l.loaded = false ∧ q'.l.unread = rest ∧
      q'.l.pos = q.l.pos + (s.flatMap JSer.writeChar).length + 1 ∧ q'.found = q.found := by
  obtain ⟨q', hq', he⟩ := escape_inverse_gen hcfg s fuel [] hi q rest q.l.pos q.found hfuel (by simpa using hlen)
    ⟨hq1, hq2, rfl, rfl⟩
  exact ⟨q', by simpa using he, hq'.1, hq'.2.1, hq'.2.2.1, hq'.2.2.2⟩

/-- the same with the fuel bound stated on the escaped text -/
theorem escape_inverse' (s : List UInt8) (cfg : Cfg) (q : St) (rest : List UInt8) (fuel : Nat)
    (hcfg : cfg.decodeUnicode = true) (hlen : s.length ≤ cfg.maxStrLen)
    (hq1 : q.l.loaded = false) (hq2 : q.l.unread = s.flatMap JSer.writeChar ++ 0x22 :: rest)
    (hfuel : (s.flatMap JSer.writeChar).length + 1 < fuel) :
    ∃ q', parseQuoted cfg 0x22 fuel [] 0 q = (.ok, s, q') ∧ q'.l.loaded = false ∧ q'.l.unread = rest := by
  have := length_le_escaped s
  obtain ⟨q', h1, h2, h3, _⟩ := escape_inverse s cfg q rest fuel 0 hcfg hlen hq1 hq2 (by omega)
  exact ⟨q', h1, h2, h3⟩

/-- **Round trip of a top-level string**: for every byte string `s` (within the length limit of the string
    buffer), `deserializeJson(serializeJson(s))` succeeds, yields exactly `s`, and consumes the whole text. -/
theorem roundtrip_string (cfg : Cfg) (L : Nat) (s : List UInt8)
    (hcfg : cfg.decodeUnicode = true) (hlen : s.length ≤ cfg.maxStrLen) :
    JD.run cfg L (JSer.writeString s) = (.ok, .str s, (JSer.writeString s).length) := by
  have hle := length_le_escaped s
  have hlenW : (JSer.writeString s).length = (s.flatMap JSer.writeChar).length + 2 := by
    simp [JSer.writeString]
  obtain ⟨q', he, _, _, hp, _⟩ := escape_inverse s cfg
    { adv { l := { unread := JSer.writeString s } } 0x22 (s.flatMap JSer.writeChar ++ [0x22]) with found := true }
    [] (2 * (JSer.writeString s).length + 3 + 1) 0 hcfg hlen rfl rfl (by omega)
  have hpos : q'.l.pos = (JSer.writeString s).length := by
    rw [hp, hlenW]
    show (0 + 1) + (List.flatMap JSer.writeChar s).length + 1 = (List.flatMap JSer.writeChar s).length + 2
    omega
  have hpv : parseVariant cfg (2 * (JSer.writeString s).length + 4) L { l := { unread := JSer.writeString s } } =
      (.ok, .str s, q') := by
    rw [parseVariant_quote (rest := s.flatMap JSer.writeChar ++ [0x22]) rfl rfl, he]
  rw [run_of_parseVariant_other hpv rfl, hpos]

/-- every byte value placed in a string survives `serializeJson` then `deserializeJson` -/
theorem roundtrip_byte (cfg : Cfg) (L : Nat) (c : UInt8) (hcfg : cfg.decodeUnicode = true) (hm : 1 ≤ cfg.maxStrLen) :
    JD.run cfg L (JSer.writeString [c]) = (.ok, .str [c], (JSer.writeString [c]).length) :=
  roundtrip_string cfg L [c] hcfg (by simpa using hm)

/-- every pair of byte values placed in a string survives `serializeJson` then `deserializeJson` -/
theorem roundtrip_byte_pair (cfg : Cfg) (L : Nat) (a b : UInt8) (hcfg : cfg.decodeUnicode = true)
    (hm : 2 ≤ cfg.maxStrLen) :
    JD.run cfg L (JSer.writeString [a, b]) = (.ok, .str [a, b], (JSer.writeString [a, b]).length) :=
  roundtrip_string cfg L [a, b] hcfg (by simpa using hm)

/-! ## A key and a string value inside an object -/

/-- **Round trip of a key and of a string value inside an object**: the compact serialization of
    `{k: s}` deserializes to exactly that object, for all byte strings `k` and `s`. -/
theorem roundtrip_member (cfg : Cfg) (L : Nat) (k s : List UInt8) (hcfg : cfg.decodeUnicode = true)
    (hk : k.length ≤ cfg.maxStrLen) (hs : s.length ≤ cfg.maxStrLen) :
    JD.run cfg (L + 1) (JSer.compact cfg (.obj [(k, .str s)])) =
      (.ok, .obj [(k, .str s)], (JSer.compact cfg (.obj [(k, .str s)])).length) := by
  have hin : JSer.compact cfg (.obj [(k, .str s)]) =
      0x7B :: 0x22 :: (k.flatMap JSer.writeChar ++ 0x22 :: 0x3A :: 0x22 :: (s.flatMap JSer.writeChar ++ 0x22 :: [0x7D])) := by
    simp [JSer.compact, JSer.compactMembers, JSer.writeString]
  rw [hin]
  generalize hI : (0x7B :: 0x22 :: (k.flatMap JSer.writeChar ++ 0x22 :: 0x3A :: 0x22 ::
      (s.flatMap JSer.writeChar ++ 0x22 :: [0x7D])) : List UInt8) = I
  have hlen : I.length = (k.flatMap JSer.writeChar).length + (s.flatMap JSer.writeChar).length + 7 := by
    rw [← hI]; simp only [List.length_cons, List.length_append, List.length_nil]; omega
  have hkl := length_le_escaped k
  have hsl := length_le_escaped s
  have hopen := parseVariant_obj_open (cfg := cfg) (fuel := 2 * I.length + 1 + 1 + 1) (limit := L)
    (s := { l := { unread := I } }) (c := 0x22)
    (rest := k.flatMap JSer.writeChar ++ 0x22 :: 0x3A :: 0x22 :: (s.flatMap JSer.writeChar ++ 0x22 :: [0x7D]))
    rfl (by rw [← hI]) (by decide) (by decide) (by decide) (by decide)
  -- the key
  obtain ⟨q1, he1, h11, h12, hp1, _⟩ := escape_inverse k cfg
    (setFound (adv (setFound (adv { l := { unread := I } } 0x7B
      (0x22 :: (k.flatMap JSer.writeChar ++ 0x22 :: 0x3A :: 0x22 :: (s.flatMap JSer.writeChar ++ 0x22 :: [0x7D])))))
      0x22 (k.flatMap JSer.writeChar ++ 0x22 :: 0x3A :: 0x22 :: (s.flatMap JSer.writeChar ++ 0x22 :: [0x7D]))))
    (0x3A :: 0x22 :: (s.flatMap JSer.writeChar ++ 0x22 :: [0x7D])) (2 * I.length + 1 + 1 + 1) 0 hcfg hk rfl rfl (by omega)
  -- the value
  obtain ⟨q2, he2, h21, h22, hp2, _⟩ := escape_inverse s cfg
    { adv (setFound (adv q1 0x3A (0x22 :: (s.flatMap JSer.writeChar ++ 0x22 :: [0x7D])))) 0x22
        (s.flatMap JSer.writeChar ++ 0x22 :: [0x7D]) with found := true }
    [0x7D] (2 * I.length + 1 + 1) 0 hcfg hs rfl rfl (by omega)
  have hv : parseVariant cfg (2 * I.length + 1 + 1) L
      (setFound (adv q1 0x3A (0x22 :: (s.flatMap JSer.writeChar ++ 0x22 :: [0x7D])))) = (.ok, .str s, q2) := by
    rw [parseVariant_quote (rest := s.flatMap JSer.writeChar ++ 0x22 :: [0x7D]) rfl rfl, he2]
  have hpv : parseVariant cfg (2 * I.length + 4) (L + 1) { l := { unread := I } } =
      (.ok, .obj [(k, .str s)], setFound (adv q2 0x7D [])) :=
    hopen.trans (parseMembers_single he1 h11 h12 hv h21 h22)
  have hpos : (setFound (adv q2 0x7D [])).l.pos = I.length := by
    rw [setFound_l, adv_pos, hp2]
    show q1.l.pos + 1 + 1 + _ + 1 + 1 = _
    rw [hp1]
    show (0 + 1) + 1 + _ + 1 + 1 + 1 + _ + 1 + 1 = _
    omega
  rw [run_of_parseVariant_other hpv rfl, hpos]

/-! ## `\uXXXX` at any position -/

/-- **A BMP escape decodes to UTF-8 at any position**: `pre \uXXXX post "` with plain bytes before and after,
    hex digits in any case, for the string delimiter `stop` (`"` or `'`; strings and keys use the same routine). -/
theorem bmp_decodes_anywhere (cfg : Cfg) (stop : UInt8) (hs : stop ≠ 0x5C) (hcfg : cfg.decodeUnicode = true)
    (pre post rest : List UInt8) (hpre : ∀ c ∈ pre, Plain stop c) (hpost : ∀ c ∈ post, Plain stop c)
    (h1 h2 h3 h4 : UInt8) (d1 d2 d3 d4 cu : Nat)
    (e1 : Spec.hexVal h1 = some d1) (e2 : Spec.hexVal h2 = some d2)
    (e3 : Spec.hexVal h3 = some d3) (e4 : Spec.hexVal h4 = some d4)
    (hcu : cu = d1 * 4096 + d2 * 256 + d3 * 16 + d4) (hns : Spec.isSurrogate cu = false)
    (hlen : (pre ++ Spec.utf8 cu ++ post).length ≤ cfg.maxStrLen)
    (q : St) (hq1 : q.l.loaded = false)
    (hq2 : q.l.unread = pre ++ [0x5C, 0x75, h1, h2, h3, h4] ++ post ++ [stop] ++ rest)
    (fuel hi : Nat) (hfuel : pre.length + post.length + 2 ≤ fuel) :
    ∃ q', parseQuoted cfg stop fuel [] hi q = (.ok, pre ++ Spec.utf8 cu ++ post, q') ∧
      q'.l.loaded = false ∧ q'.l.unread = rest ∧ q'.l.pos = q.l.pos + (pre.length + 6 + post.length + 1) := by
  subst hcu
  obtain ⟨k, rfl⟩ : ∃ k, fuel = pre.length + ((post.length + (k + 1)) + 1) :=
    ⟨fuel - (pre.length + post.length + 2), by omega⟩
  have h0 : At q (pre ++ (0x5C :: 0x75 :: h1 :: h2 :: h3 :: h4 :: (post ++ stop :: rest))) q.l.pos q.found :=
    ⟨hq1, by rw [hq2]; simp, rfl, rfl⟩
  obtain ⟨s1, hs1, he1⟩ := parseQuoted_plain_prefix (cfg := cfg) pre hpre _ [] hi q _ _ _ h0
  obtain ⟨s2, hs2, he2⟩ := pq_u_bmp (cfg := cfg) hs hcfg e1 e2 e3 e4 hns (post.length + (k + 1)) (pre.reverse ++ [])
    hi s1 _ _ _ hs1
  obtain ⟨s3, hs3, he3⟩ := pq_plain_then_close (cfg := cfg) post hpost k
    ((Spec.utf8 (d1 * 4096 + d2 * 256 + d3 * 16 + d4)).reverse ++ (pre.reverse ++ [])) hi s2 rest _ _ hs2
    (by simp at hlen ⊢; omega)
  refine ⟨s3, ?_, hs3.1, hs3.2.1, ?_⟩
  · rw [he1, he2, he3]; simp
  · rw [hs3.2.2.1]; omega

/-- **A surrogate pair decodes to the UTF-8 of its code point at any position**: a high-surrogate escape
    immediately followed by a low-surrogate escape, hex digits in any case. -/
theorem pair_decodes_anywhere (cfg : Cfg) (stop : UInt8) (hs : stop ≠ 0x5C) (hcfg : cfg.decodeUnicode = true)
    (pre post rest : List UInt8) (hpre : ∀ c ∈ pre, Plain stop c) (hpost : ∀ c ∈ post, Plain stop c)
    (a1 a2 a3 a4 b1 b2 b3 b4 : UInt8) (x1 x2 x3 x4 y1 y2 y3 y4 hiu lou : Nat)
    (ea1 : Spec.hexVal a1 = some x1) (ea2 : Spec.hexVal a2 = some x2)
    (ea3 : Spec.hexVal a3 = some x3) (ea4 : Spec.hexVal a4 = some x4)
    (eb1 : Spec.hexVal b1 = some y1) (eb2 : Spec.hexVal b2 = some y2)
    (eb3 : Spec.hexVal b3 = some y3) (eb4 : Spec.hexVal b4 = some y4)
    (hhiu : hiu = x1 * 4096 + x2 * 256 + x3 * 16 + x4) (hlou : lou = y1 * 4096 + y2 * 256 + y3 * 16 + y4)
    (hhi : 0xD800 ≤ hiu ∧ hiu < 0xDC00) (hlo : 0xDC00 ≤ lou ∧ lou < 0xE000)
    (hlen : (pre ++ Spec.utf8 (Spec.pairValue hiu lou) ++ post).length ≤ cfg.maxStrLen)
    (q : St) (hq1 : q.l.loaded = false)
    (hq2 : q.l.unread = pre ++ [0x5C, 0x75, a1, a2, a3, a4, 0x5C, 0x75, b1, b2, b3, b4] ++ post ++ [stop] ++ rest)
    (fuel hi : Nat) (hfuel : pre.length + post.length + 3 ≤ fuel) :
    ∃ q', parseQuoted cfg stop fuel [] hi q = (.ok, pre ++ Spec.utf8 (Spec.pairValue hiu lou) ++ post, q') ∧
      q'.l.loaded = false ∧ q'.l.unread = rest ∧ q'.l.pos = q.l.pos + (pre.length + 12 + post.length + 1) := by
  obtain ⟨k, rfl⟩ : ∃ k, fuel = pre.length + ((post.length + (k + 1)) + 2) :=
    ⟨fuel - (pre.length + post.length + 3), by omega⟩
  have h0 : At q (pre ++ (0x5C :: 0x75 :: a1 :: a2 :: a3 :: a4 :: 0x5C :: 0x75 :: b1 :: b2 :: b3 :: b4 ::
      (post ++ stop :: rest))) q.l.pos q.found :=
    ⟨hq1, by rw [hq2]; simp, rfl, rfl⟩
  obtain ⟨s1, hs1, he1⟩ := parseQuoted_plain_prefix (cfg := cfg) pre hpre _ [] hi q _ _ _ h0
  obtain ⟨s2, hs2, he2⟩ := pq_u_pair (cfg := cfg) hs hcfg ea1 ea2 ea3 ea4 eb1 eb2 eb3 eb4 hhiu hlou hhi hlo
    (post.length + (k + 1)) (pre.reverse ++ []) hi s1 _ _ _ hs1
  obtain ⟨s3, hs3, he3⟩ := pq_plain_then_close (cfg := cfg) post hpost k
    ((Spec.utf8 (Spec.pairValue hiu lou)).reverse ++ (pre.reverse ++ [])) _ s2 rest _ _ hs2
    (by simp at hlen ⊢; omega)
  refine ⟨s3, ?_, hs3.1, hs3.2.1, ?_⟩
  · rw [he1, he2, he3]; simp
  · rw [hs3.2.2.1]; omega


/-! ## The string part of C01: the parser computes the value that the grammar assigns to a string body -/

/-- `parseQuotedString` on a well-formed body, from the empty accumulator -/
theorem body_decodes (cfg : Cfg) (stop : UInt8) (hs : stop ≠ 0x5C) (hcfg : cfg.decodeUnicode = true)
    (t v : List UInt8) (hb : Body stop t v) (hlen : v.length ≤ cfg.maxStrLen)
    (q : St) (rest : List UInt8) (hq1 : q.l.loaded = false) (hq2 : q.l.unread = t ++ stop :: rest)
    (fuel hi : Nat) (hfuel : t.length < fuel) :
    ∃ q', parseQuoted cfg stop fuel [] hi q = (.ok, v, q') ∧ q'.l.loaded = false ∧ q'.l.unread = rest ∧
      q'.l.pos = q.l.pos + t.length + 1 ∧ q'.found = q.found := by
  obtain ⟨q', hq', he⟩ := body_decodes_gen hs hcfg hb fuel [] hi q rest q.l.pos q.found hfuel (by simpa using hlen)
    ⟨hq1, hq2, rfl, rfl⟩
  exact ⟨q', by simpa using he, hq'.1, hq'.2.1, hq'.2.2.1, hq'.2.2.2⟩

/-- **A valid JSON string document deserializes to the value it denotes** (string part of C01): the text
    `"` body `"` where the body is well formed per RFC 8259 and denotes `v` gives `Ok`, the string `v`, and
    the whole text is consumed. -/
theorem string_document (cfg : Cfg) (L : Nat) (t v : List UInt8) (hcfg : cfg.decodeUnicode = true)
    (hb : Body 0x22 t v) (hlen : v.length ≤ cfg.maxStrLen) :
    JD.run cfg L (0x22 :: t ++ [0x22]) = (.ok, .str v, t.length + 2) := by
  obtain ⟨q', he, _, _, hp, _⟩ := body_decodes cfg 0x22 (by decide) hcfg t v hb hlen
    { adv { l := { unread := 0x22 :: t ++ [0x22] } } 0x22 (t ++ [0x22]) with found := true }
    [] rfl rfl (2 * (0x22 :: t ++ [0x22]).length + 3 + 1) 0 (by simp only [List.length_cons, List.length_append]; omega)
  have hpos : q'.l.pos = t.length + 2 := by
    rw [hp]
    show (0 + 1) + t.length + 1 = t.length + 2
    omega
  have hpv : parseVariant cfg (2 * (0x22 :: t ++ [0x22]).length + 4) L { l := { unread := 0x22 :: t ++ [0x22] } } =
      (.ok, .str v, q') := by
    rw [parseVariant_quote (rest := t ++ [0x22]) rfl rfl, he]
  rw [run_of_parseVariant_other hpv rfl, hpos]

example : encodeCodepoint 0x1F600 = [0xF0, 0x9F, 0x98, 0x80] := by decide
example : Spec.hexVal 0x66 = some 15 := by decide

-- escape_inverse on  A " NUL LF 0xFF \  (six source bytes, 14 escaped bytes), followed by `",`
example : ∃ q', parseQuoted {} 0x22 7 [] 0
      { l := { unread := [0x41, 0x5C, 0x22, 0x5C, 0x75, 0x30, 0x30, 0x30, 0x30, 0x5C, 0x6E, 0xFF, 0x5C, 0x5C, 0x22, 0x2C] } }
      = (.ok, [0x41, 0x22, 0x00, 0x0A, 0xFF, 0x5C], q') ∧ q'.l.loaded = false ∧ q'.l.unread = [0x2C] := by
  obtain ⟨q', h1, h2, h3, _⟩ := escape_inverse [0x41, 0x22, 0x00, 0x0A, 0xFF, 0x5C] {}
    { l := { unread := [0x41, 0x5C, 0x22, 0x5C, 0x75, 0x30, 0x30, 0x30, 0x30, 0x5C, 0x6E, 0xFF, 0x5C, 0x5C, 0x22, 0x2C] } }
    [0x2C] 7 0 rfl (by decide) rfl (by decide +kernel) (by decide)
  exact ⟨q', h1, h2, h3⟩

-- the same text evaluated directly (independent of the theorem)
example : (match parseQuoted {} 0x22 7 [] 0
      { l := { unread := [0x41, 0x5C, 0x22, 0x5C, 0x75, 0x30, 0x30, 0x30, 0x30, 0x5C, 0x6E, 0xFF, 0x5C, 0x5C, 0x22, 0x2C] } } with
    | (.ok, v, q') => v == [0x41, 0x22, 0x00, 0x0A, 0xFF, 0x5C] && q'.l.unread == [0x2C] && q'.l.pos == 15
    | _ => false) = true := by decide +kernel

-- roundtrip_string on the same six bytes
example : JD.run {} 10 [0x22, 0x41, 0x5C, 0x22, 0x5C, 0x75, 0x30, 0x30, 0x30, 0x30, 0x5C, 0x6E, 0xFF, 0x5C, 0x5C, 0x22]
    = (.ok, .str [0x41, 0x22, 0x00, 0x0A, 0xFF, 0x5C], 16) := by
  have hw : JSer.writeString [0x41, 0x22, 0x00, 0x0A, 0xFF, 0x5C] =
      [0x22, 0x41, 0x5C, 0x22, 0x5C, 0x75, 0x30, 0x30, 0x30, 0x30, 0x5C, 0x6E, 0xFF, 0x5C, 0x5C, 0x22] := by decide +kernel
  have := roundtrip_string {} 10 [0x41, 0x22, 0x00, 0x0A, 0xFF, 0x5C] rfl (by decide)
  rw [hw] at this
  exact this

-- aéb with mixed-case digits "00e9"/"00E9":  a é b
example : ∃ q', parseQuoted {} 0x22 4 [] 0
      { l := { unread := [0x61, 0x5C, 0x75, 0x30, 0x30, 0x65, 0x39, 0x62, 0x22] } }
      = (.ok, [0x61, 0xC3, 0xA9, 0x62], q') ∧ q'.l.loaded = false ∧ q'.l.unread = [] := by
  obtain ⟨q', h1, h2, h3, _⟩ := bmp_decodes_anywhere {} 0x22 (by decide) rfl [0x61] [0x62] [] (by decide) (by decide)
    0x30 0x30 0x65 0x39 0 0 14 9 0xE9 (by decide) (by decide) (by decide) (by decide) (by decide) (by decide)
    (by decide +kernel) { l := { unread := [0x61, 0x5C, 0x75, 0x30, 0x30, 0x65, 0x39, 0x62, 0x22] } } rfl rfl 4 0 (by decide)
  have e : [0x61] ++ Spec.utf8 0xE9 ++ [0x62] = [0x61, 0xC3, 0xA9, 0x62] := by decide +kernel
  rw [e] at h1
  exact ⟨q', h1, h2, h3⟩

-- x😀 in a single-quoted key/string: U+1F600
example : ∃ q', parseQuoted {} 0x27 4 [] 0
      { l := { unread := [0x78, 0x5C, 0x75, 0x64, 0x38, 0x33, 0x64, 0x5C, 0x75, 0x44, 0x45, 0x30, 0x30, 0x27, 0x3A] } }
      = (.ok, [0x78, 0xF0, 0x9F, 0x98, 0x80], q') ∧ q'.l.loaded = false ∧ q'.l.unread = [0x3A] := by
  obtain ⟨q', h1, h2, h3, _⟩ := pair_decodes_anywhere {} 0x27 (by decide) rfl [0x78] [] [0x3A] (by decide) (by decide)
    0x64 0x38 0x33 0x64 0x44 0x45 0x30 0x30 13 8 3 13 13 14 0 0 0xD83D 0xDE00
    (by decide) (by decide) (by decide) (by decide) (by decide) (by decide) (by decide) (by decide)
    (by decide) (by decide) (by decide) (by decide) (by decide +kernel)
    { l := { unread := [0x78, 0x5C, 0x75, 0x64, 0x38, 0x33, 0x64, 0x5C, 0x75, 0x44, 0x45, 0x30, 0x30, 0x27, 0x3A] } }
    rfl rfl 4 0 (by decide)
  have e : [0x78] ++ Spec.utf8 (Spec.pairValue 0xD83D 0xDE00) ++ [] = [0x78, 0xF0, 0x9F, 0x98, 0x80] := by decide +kernel
  rw [e] at h1
  exact ⟨q', h1, h2, h3⟩

-- string_document:  "a\né"  is well formed and denotes  a LF é
example : JD.run {} 10 [0x22, 0x61, 0x5C, 0x6E, 0x5C, 0x75, 0x30, 0x30, 0x45, 0x39, 0x22]
    = (.ok, .str [0x61, 0x0A, 0xC3, 0xA9], 11) := by
  have hb : Body 0x22 [0x61, 0x5C, 0x6E, 0x5C, 0x75, 0x30, 0x30, 0x45, 0x39]
      (0x61 :: 0x0A :: (Spec.utf8 (0 * 4096 + 0 * 256 + 14 * 16 + 9) ++ [])) :=
    .plain 0x61 _ _ (by decide) (by decide) (by decide)
      (.esc 0x6E 0x0A _ _ (by decide)
        (.bmp 0x30 0x30 0x45 0x39 0 0 14 9 [] [] (by decide) (by decide) (by decide) (by decide) (by decide) .nil))
  have e : (0x61 :: 0x0A :: (Spec.utf8 (0 * 4096 + 0 * 256 + 14 * 16 + 9) ++ [])) = [0x61, 0x0A, 0xC3, 0xA9] := by
    decide +kernel
  rw [e] at hb
  exact string_document {} 10 _ _ rfl hb (by decide)
-- roundtrip_member:  {"a\"":"\u0000"}  (key  a"  , value NUL)
example : JD.run {} 1 [0x7B, 0x22, 0x61, 0x5C, 0x22, 0x22, 0x3A, 0x22, 0x5C, 0x75, 0x30, 0x30, 0x30, 0x30, 0x22, 0x7D]
    = (.ok, .obj [([0x61, 0x22], .str [0x00])], 16) := by
  have hw : JSer.compact {} (.obj [([0x61, 0x22], .str [0x00])]) =
      [0x7B, 0x22, 0x61, 0x5C, 0x22, 0x22, 0x3A, 0x22, 0x5C, 0x75, 0x30, 0x30, 0x30, 0x30, 0x22, 0x7D] := by decide +kernel
  have := roundtrip_member {} 0 [0x61, 0x22] [0x00] rfl (by decide) (by decide)
  rw [hw] at this
  exact this
end C17
