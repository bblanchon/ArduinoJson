/- C02, deserializer side — what `serializeJson` / `serializeJsonPretty` write is read back by `deserializeJson` as the
   document the text denotes: the grammar theorems (AJ/Lemmas/SerGrammarCore.lean) composed with the completeness of
   the parser (`C01.valid_json`, `C01.run_value`).
   This is a separate file because AJ/Props/C02.lean imports the C07 family (AJ/Lemmas/JsonRoundTrip.lean) and this one
   the C01 family (AJ/Lemmas/JsonComplete.lean): both declare `JD.Delim`, `JD.Tok`, `JD.NumStart`, `JD.kw_null`,
   `JD.pv_num`, … so they cannot be imported into the same file. The hypotheses are therefore stated with the
   self-contained predicate `SerG.Ok` (AJ/Props/C02.lean derives it from the C07 predicates: `SerG.ok_of`). -/
import AJ.Props.C01
import AJ.Lemmas.SerGrammarCore
namespace C02.Parse
open JD JSer Spec.Json SerG

/-- both texts are JSON texts of RFC 8259 (`Doc`) that denote `denote cfg v` -/
theorem texts_are_docs (cfg : Cfg) (n L : Nat) (v : Val) (h : Ok cfg v) (hd : depth v ≤ L) :
    Doc cfg L (compact cfg v) (denote cfg v) ∧ Doc cfg L (pretty cfg n v) (denote cfg v) :=
  ⟨⟨[], compact cfg v, [], by simp, JD.ws_nil, JD.ws_nil, compact_value cfg v L h hd⟩,
   ⟨[], pretty cfg n v, [], by simp, JD.ws_nil, JD.ws_nil, pretty_value cfg v n L h hd⟩⟩

/-- **`deserializeJson(serializeJson(v))`** is `Ok` and yields the denoted document — obtained from the grammar theorem
    and the completeness of the parser (independently of the round-trip proof of C07) -/
theorem compact_parses_back (cfg : Cfg) (hu : cfg.decodeUnicode = true) (L : Nat) (v : Val) (h : Ok cfg v)
    (hd : depth v ≤ L) :
    (JD.run cfg L (compact cfg v)).1 = .ok ∧ (JD.run cfg L (compact cfg v)).2.1 = denote cfg v :=
  C01.valid_json cfg hu (texts_are_docs cfg 0 L v h hd).1

/-- **`deserializeJson(serializeJsonPretty(v))`** is `Ok` and yields the SAME document -/
theorem pretty_parses_back (cfg : Cfg) (hu : cfg.decodeUnicode = true) (n L : Nat) (v : Val) (h : Ok cfg v)
    (hd : depth v ≤ L) :
    (JD.run cfg L (pretty cfg n v)).1 = .ok ∧ (JD.run cfg L (pretty cfg n v)).2.1 = denote cfg v :=
  C01.valid_json cfg hu (texts_are_docs cfg n L v h hd).2

/-- hence the two texts are read back as the same document -/
theorem pretty_compact_read_same (cfg : Cfg) (hu : cfg.decodeUnicode = true) (L : Nat) (v : Val) (h : Ok cfg v)
    (hd : depth v ≤ L) :
    (JD.run cfg L (pretty cfg 0 v)).2.1 = (JD.run cfg L (compact cfg v)).2.1 := by
  rw [(pretty_parses_back cfg hu 0 L v h hd).2, (compact_parses_back cfg hu L v h hd).2]

/-- when the document is not a bare number, whatever follows the text: exactly the text is consumed -/
theorem pretty_consumed (cfg : Cfg) (hu : cfg.decodeUnicode = true) (n L : Nat) (v : Val) (h : Ok cfg v)
    (hd : depth v ≤ L) (hn : isNumberVal (denote cfg v) = false) (rest : List Byte) :
    JD.run cfg L (pretty cfg n v ++ rest) = (.ok, denote cfg v, (pretty cfg n v).length) := by
  have := C01.run_value cfg hu (pretty_value cfg v n L h hd) hn [] rest JD.ws_nil
  simpa using this

/-! ### non-vacuity: `{"a b":[1,"x\" y",-2.5],"c":{}}` -/

def doc : Val :=
  .obj [([0x61, 0x20, 0x62], .arr [.num (.uint 1), .str [0x78, 0x22, 0x20, 0x79], .num (.f64 0xC004000000000000)]),
        ([0x63], .obj [])]

def docPretty : List Byte :=
  [0x7B, 0x0D,0x0A, 0x20,0x20, 0x22,0x61,0x20,0x62,0x22, 0x3A,0x20, 0x5B, 0x0D,0x0A,
   0x20,0x20,0x20,0x20, 0x31, 0x2C, 0x0D,0x0A,
   0x20,0x20,0x20,0x20, 0x22,0x78,0x5C,0x22,0x20,0x79,0x22, 0x2C, 0x0D,0x0A,
   0x20,0x20,0x20,0x20, 0x2D,0x32,0x2E,0x35, 0x0D,0x0A,
   0x20,0x20, 0x5D, 0x2C, 0x0D,0x0A,
   0x20,0x20, 0x22,0x63,0x22, 0x3A,0x20, 0x7B,0x7D, 0x0D,0x0A, 0x7D]

theorem doc_pretty : pretty {} 0 doc = docPretty := by decide +kernel

theorem doc_ok : Ok {} doc := by
  simp only [doc, Ok, OkE, OkM, IntOk, NumFloatOk, FloatOk]
  exact ⟨⟨by decide, by decide⟩, ⟨⟨by decide, trivial⟩, ⟨by decide, by decide⟩, ⟨trivial, by decide⟩, trivial⟩,
    ⟨by decide, by decide⟩, trivial, trivial⟩

theorem doc_denote : denote {} doc =
    .obj [([0x61, 0x20, 0x62], .arr [.num (.uint 1), .str [0x78, 0x22, 0x20, 0x79], .num (.f32 0xC0200000)]),
          ([0x63], .obj [])] := by
  have hl := numLit_writeFloat {} 0xC004000000000000 9 (by decide) (by decide +kernel) (by decide +kernel)
  have hf : (SF.isNaN SF.b64 0xC004000000000000 || SF.isInf SF.b64 0xC004000000000000) = false := by decide +kernel
  have hm : denoteFloat {} 0xC004000000000000 9 = .num (.f32 0xC0200000) := by
    unfold denoteFloat
    rw [hf, numVal_eq {} hl, show JS.writeFloat {} 0xC004000000000000 9 = [0x2D, 0x32, 0x2E, 0x35] from by decide +kernel,
      show parseNumber {} [0x2D, 0x32, 0x2E, 0x35] = .f32 0xC0200000 from by decide +kernel]
    rfl
  simp [doc, denote, denoteE, denoteM, denoteNum, hm, lastWins, setMember]

/-- the deserializer reads the 65 bytes of the pretty text back as the document (the `double` -2.5 as the `float` -2.5) -/
example (rest : List Byte) : JD.run {} 2 (docPretty ++ rest) =
    (.ok, .obj [([0x61, 0x20, 0x62], .arr [.num (.uint 1), .str [0x78, 0x22, 0x20, 0x79], .num (.f32 0xC0200000)]),
                ([0x63], .obj [])], 65) := by
  have h := pretty_consumed {} rfl 0 2 doc doc_ok (by simp [doc, depth, depthList, depthMembers])
    (by rw [doc_denote]; rfl) rest
  have hl : docPretty.length = 65 := by decide
  rw [doc_denote, doc_pretty, hl] at h
  exact h

end C02.Parse
