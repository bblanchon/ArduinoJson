/- C16 — successive calls on a stream that is a concatenation of documents (NDJSON, JSON Lines, back-to-back MessagePack).

   `C16.stream f k t` (AJ/Lemmas/StreamSeq.lean): at most `k` calls of `f`, each on the bytes the previous call left,
   stopping after the first answer that is not `Ok` and when nothing is left — the `streamLoop` of the driver, which the
   correspondence suite `stream` compares with the real library. `f := JD.run cfg L` or `f := MD.run env L flt`.

   * `json_sequence_gen`, `json_sequence`, `json_sequence_exactly`: documents `w_i ++ body_i` of the dialect of
     AJ/Spec/Dialect.lean (white space / comments, then a value), any configuration, any nesting limit: the calls return the
     documents one after the other. Separator condition (`Sep`): only after a NUMBER, what follows must be empty or start
     with a white-space byte (the number's look-ahead takes it); after any other value nothing is required.
     With white space after the last document one more call answers `EmptyInput` (unless the number's look-ahead took the
     last byte).
   * `docs_step`: one call on a stream of documents, and what it leaves; `json_sequence_leftover`: what `n` calls leave.
   * `number_needs_separator`: the separator condition cannot be dropped (`1[2]` is `InvalidInput`).
   * `number_consumes_at_most_one_more`: bytes taken by one call.
   * `result_independent_of_rest`, `result_independent_of_rest'` (JSON), `msgpack_result_independent_of_rest` (uses
     `MD.run_incomplete_all`: `IncompleteInput` only when the whole input was consumed): the answer of a call — any code —
     does not depend on the bytes it did not take. `SeqExamples.end_of_input_matters`: the END of the input is not such a byte.
   * `msgpack_sequence_n`, `msgpack_sequence_take`, `msgpack_sequence_leftover` (any legal encodings `MD.Enc`, any filter),
     `msgpack_sequence_ser` (serializer output, no filter).
     (The filtered documents are stated as "what a call on that object alone returns".)

   Chunking: the models read their input one byte at a time (JSON through a one-byte latch, MessagePack through
   `R.read`/`R.readBytes`) and `consumed` counts these bytes; how the real readers cut the stream into blocks
   (`std::istream`, block-buffered custom readers) is not visible in the model. That the real library gives the same
   answers and the same positions whatever the block size is checked by the correspondence suite `stream`, not here. -/
import AJ.Lemmas.StreamSeq
import AJ.Props.C16
import AJ.Props.C10Class
import AJ.Props.C09Prefix
set_option linter.unusedSimpArgs false
set_option linter.unusedVariables false
namespace C16
open JD Spec.Dialect

/-! ## JSON: one call -/

/-- one call on `white space ++ value ++ rest`: `Ok`, the value, and the bytes taken -/
theorem run_doc (cfg : Cfg) {L : Nat} {w body rest : List UInt8} {v : Val} (hw : DWs cfg w) (hv : Value cfg L body v)
    (htr : Trailer v rest) :
    JD.run cfg L (w ++ body ++ rest) =
      (.ok, v, w.length + body.length + (if isNumberVal v then min 1 rest.length else 0)) := by
  obtain ⟨h1, h2⟩ := C10.complete_doc cfg ⟨w, body, rest, rfl, hw, hv, htr⟩
  have h3 := C10.doc_pos cfg hw hv htr
  exact Prod.ext h1 (Prod.ext h2 h3)

/-- the look-ahead byte of a number, counted with `min` by the model and with a condition in the statements -/
theorem lookahead_count (b : Bool) (rest : List UInt8) :
    (if b = true then min 1 rest.length else 0) = (if b = true ∧ rest ≠ [] then 1 else 0) := by
  cases b <;> cases rest <;> rfl

/-- **C16 (bytes taken by one call).** On `w ++ body ++ rest` (`w` white space / comments, `body` a value text): exactly
    `|w| + |body|` bytes when the value is an object, an array, a string or a literal; when it is a number, one byte more
    if there is one (the look-ahead that ends the number). -/
theorem number_consumes_at_most_one_more (cfg : Cfg) {L : Nat} {w body rest : List UInt8} {v : Val} (hw : DWs cfg w)
    (hv : Value cfg L body v) (htr : Trailer v rest) :
    (JD.run cfg L (w ++ body ++ rest)).2.2 =
        w.length + body.length + (if isNumberVal v = true ∧ rest ≠ [] then 1 else 0) ∧
      (isNumberVal v = false → (JD.run cfg L (w ++ body ++ rest)).2.2 = w.length + body.length) ∧
      (JD.run cfg L (w ++ body ++ rest)).2.2 ≤ w.length + body.length + 1 := by
  rw [run_doc cfg hw hv htr, lookahead_count]
  refine ⟨rfl, fun hn => ?_, Nat.add_le_add_left ?_ _⟩
  · dsimp only
    rw [if_neg (fun h => by rw [hn] at h; exact Bool.noConfusion h.1)]
    rfl
  · split
    · exact Nat.le_refl 1
    · exact Nat.zero_le 1

/-- `EmptyInput` comes with the null document -/
theorem run_empty_null (cfg : Cfg) (L : Nat) (t : List UInt8) (h : (JD.run cfg L t).1 = .empty) :
    (JD.run cfg L t).2.1 = .null := by
  have hfuel : 2 * t.length + 4 = (2 * t.length + 3) + 1 := rfl
  rw [run_eq, hfuel] at h ⊢
  rw [finishRun_val]
  have hpv := finishRun_code h (by decide)
  have hss := parseVariant_empty cfg _ L _ hpv
  cases hq : skipSpaces cfg (2 * t.length + 3 + 1) { l := { unread := t } } with
  | mk e s' =>
    rw [hq] at hss
    simp only at hss
    subst hss
    simp only [parseVariant, hq]

/-- one call on non-empty white space: `EmptyInput`, null document -/
theorem run_ws (cfg : Cfg) (L : Nat) {w : List UInt8} (hw : DWs cfg w) :
    (JD.run cfg L w).1 = .empty ∧ (JD.run cfg L w).2.1 = .null := by
  have he : (JD.run cfg L w).1 = .empty := by
    rw [C10.empty_iff]
    have := text_of_prefix (w := w) (r' := []) (dws_no_nul hw) rfl
    rw [List.append_nil] at this
    unfold text at this
    rw [this]; exact hw
  exact ⟨he, run_empty_null cfg L w he⟩

/-! ## JSON: a sequence of documents -/

/-- a document of the stream: white space / comments `w`, then the value text `body`, which denotes `v` -/
structure JDoc where
  w : List UInt8
  body : List UInt8
  v : Val

/-- `w` is white space of the dialect and `body` a value text of the dialect (within the limits) denoting `v` -/
def JDoc.OK (cfg : Cfg) (L : Nat) (d : JDoc) : Prop := DWs cfg d.w ∧ Value cfg L d.body d.v

/-- the stream: the documents one after the other, then `rest` -/
def cat : List JDoc → List UInt8 → List UInt8
  | [], rest => rest
  | d :: ds, rest => d.w ++ d.body ++ cat ds rest

/-- **The separator condition.** After a document that is a NUMBER, what follows in the stream — the next document, or
    `rest` after the last one — is empty or starts with a white-space byte (or a NUL, which ends the input):
    `Trailer v next` is `isNumberVal v → next.headD 0 = 0 ∨ isWs (next.headD 0)`. After an object, an array, a string,
    `true`, `false`, `null`: no condition. -/
def Sep : List JDoc → List UInt8 → Prop
  | [], _ => True
  | d :: ds, rest => Trailer d.v (cat ds rest) ∧ Sep ds rest

/-- the usual way to satisfy `Sep`: a white-space byte -/
theorem trailer_of_ws (v : Val) (c : UInt8) (r : List UInt8) (hc : IsWsByte c) : Trailer v (c :: r) :=
  fun _ => Or.inr (ws_byte hc).2

theorem trailer_nil (v : Val) : Trailer v [] := fun _ => Or.inl rfl

theorem trailer_of_not_number {v : Val} (h : isNumberVal v = false) (r : List UInt8) : Trailer v r := by
  intro hn; rw [h] at hn; cases hn

/-- is the last document a number? -/
def lastIsNumber : List JDoc → Bool
  | [] => false
  | [d] => isNumberVal d.v
  | _ :: d :: ds => lastIsNumber (d :: ds)

/-- what the calls leave of `rest`: all of it, minus its first byte when the last document is a number -/
def left (ds : List JDoc) (rest : List UInt8) : List UInt8 := if lastIsNumber ds then rest.tail else rest

theorem value_ne_nil {cfg : Cfg} {L : Nat} {body : List UInt8} {v : Val} (hv : Value cfg L body v) : body ≠ [] := by
  obtain ⟨c, cs, rfl, _⟩ := value_head_d hv
  exact List.cons_ne_nil _ _

theorem cat_cons_ne_nil {cfg : Cfg} {L : Nat} {d : JDoc} (hd : d.OK cfg L) (ds : List JDoc) (rest : List UInt8) :
    cat (d :: ds) rest ≠ [] := by
  intro h
  simp only [cat, List.append_eq_nil_iff] at h
  exact value_ne_nil hd.2 h.1.2

theorem drop_doc (w body rest : List UInt8) (b : Bool) :
    (w ++ body ++ rest).drop (w.length + body.length + (if b = true ∧ rest ≠ [] then 1 else 0)) =
      if b = true then rest.tail else rest := by
  rw [← List.length_append, ← List.drop_drop, List.drop_left]
  cases b <;> cases rest <;> rfl

/-- white space that starts with a white-space byte (or NUL), not with a comment: that byte can be removed -/
theorem dws_head_ws {cfg : Cfg} {c : UInt8} {w : List UInt8} (hw : DWs cfg (c :: w)) (h : c = 0 ∨ isWs c = true) :
    IsWsByte c ∧ DWs cfg w := by
  cases hw with
  | ws _ _ hc hw' => exact ⟨hc, hw'⟩
  | block b w' _ _ _ => exact absurd h (by decide)
  | line x w' _ _ _ => exact absurd h (by decide)

/-- a number followed by a document: the document starts with a white-space byte, which can be removed -/
theorem next_starts_with_ws {cfg : Cfg} {L : Nat} {w body : List UInt8} {v : Val} (hw : DWs cfg w)
    (hv : Value cfg L body v) (more : List UInt8)
    (h : (w ++ body ++ more).headD 0 = 0 ∨ isWs ((w ++ body ++ more).headD 0) = true) :
    ∃ c w', w = c :: w' ∧ IsWsByte c ∧ DWs cfg w' := by
  cases w with
  | nil =>
    obtain ⟨c, cs, rfl, tok, _, _⟩ := value_head_d hv
    rcases h with h | h
    · exact absurd h tok.1
    · exact absurd (tok.2.1.symm.trans h) (by decide)
  | cons c w' => exact ⟨c, w', rfl, dws_head_ws hw h⟩

/-- **One call on a stream of documents.** The call on `d :: ds` followed by `rest` answers `Ok` with the document of
    `d`, and what it leaves is again a stream of documents `ds'` followed by `rest'`: the same documents with the same
    values — except that after a number the next document (or `rest`) has lost its first white-space byte. -/
theorem docs_step (cfg : Cfg) (L : Nat) (d : JDoc) (ds : List JDoc) (rest : List UInt8) (hd : d.OK cfg L)
    (hok : ∀ x ∈ ds, x.OK cfg L) (hsep : Sep (d :: ds) rest) :
    ∃ (n : Nat) (ds' : List JDoc) (rest' : List UInt8),
      JD.run cfg L (cat (d :: ds) rest) = (.ok, d.v, n) ∧ (cat (d :: ds) rest).drop n = cat ds' rest' ∧
      n = d.w.length + d.body.length + (if isNumberVal d.v = true ∧ cat ds rest ≠ [] then 1 else 0) ∧
      ds'.length = ds.length ∧ (∀ x ∈ ds', x.OK cfg L) ∧ Sep ds' rest' ∧
      ds'.map (·.v) = ds.map (·.v) ∧ left ds' rest' = left (d :: ds) rest := by
  obtain ⟨htr, hsep'⟩ := hsep
  have hrun := run_doc cfg hd.1 hd.2 htr
  rw [lookahead_count] at hrun
  have hdrop := drop_doc d.w d.body (cat ds rest) (isNumberVal d.v)
  refine ⟨d.w.length + d.body.length + (if isNumberVal d.v = true ∧ cat ds rest ≠ [] then 1 else 0), ?_⟩
  rcases Bool.eq_false_or_eq_true (isNumberVal d.v) with hn | hn
  · rw [if_pos hn] at hdrop
    cases ds with
    | nil =>
      refine ⟨[], rest.tail, hrun, hdrop, rfl, rfl, hok, trivial, rfl, ?_⟩
      simp only [left, lastIsNumber, hn, ↓reduceIte]
      rfl
    | cons d' ds'' =>
      obtain ⟨w, body, v⟩ := d'
      have hd' := hok ⟨w, body, v⟩ (List.mem_cons_self ..)
      obtain ⟨c, w', rfl, hc, hw'⟩ := next_starts_with_ws hd'.1 hd'.2 (cat ds'' rest) (htr hn)
      refine ⟨⟨w', body, v⟩ :: ds'', rest, hrun, hdrop, rfl, rfl, ?_, hsep', rfl, ?_⟩
      · intro x hx
        rcases List.mem_cons.mp hx with rfl | hx
        · exact ⟨hw', hd'.2⟩
        · exact hok x (List.mem_cons_of_mem _ hx)
      · cases ds'' <;> rfl
  · have hnt : ¬isNumberVal d.v = true := by rw [hn]; exact Bool.false_ne_true
    rw [if_neg hnt] at hdrop
    refine ⟨ds, rest, hrun, hdrop, rfl, rfl, hok, hsep', rfl, ?_⟩
    cases ds with
    | nil => simp only [left, lastIsNumber, hn]; rfl
    | cons d' ds'' => rfl

/-- the calls on a sequence of documents (induction on the number of documents, by `docs_step`) -/
theorem chain_docs (cfg : Cfg) (L : Nat) : ∀ (n : Nat) (ds : List JDoc), ds.length = n → ∀ (rest : List UInt8),
    (∀ d ∈ ds, d.OK cfg L) → Sep ds rest → Chain (JD.run cfg L) (cat ds rest) (ds.map (·.v)) (left ds rest)
  | 0, [], _, rest, _, _ => Chain.nil rest
  | n + 1, d :: ds, hl, rest, hok, hsep => by
    have hd := hok d (List.mem_cons_self ..)
    obtain ⟨m, ds2, rest2, hrun, hdrop, _, hlen, hok2, hsep2, hmap, hleft⟩ :=
      docs_step cfg L d ds rest hd (fun x hx => hok x (List.mem_cons_of_mem _ hx)) hsep
    rw [List.map_cons, ← hmap, ← hleft]
    refine Chain.cons (cat_cons_ne_nil hd ds rest) hrun ?_
    rw [hdrop]
    exact chain_docs cfg L n ds2 (hlen.trans (Nat.succ.inj hl)) rest2 hok2 hsep2

/-- **C16 (JSON: what `n` calls consume).** After the `n` calls on `n` documents followed by `rest`, exactly `rest` is left
    — minus its first byte when the last document is a number (and `rest` is not empty). -/
theorem json_sequence_leftover (cfg : Cfg) (L : Nat) : ∀ (n : Nat) (ds : List JDoc), ds.length = n → ∀ (rest : List UInt8),
    (∀ d ∈ ds, d.OK cfg L) → Sep ds rest → leftover (JD.run cfg L) n (cat ds rest) = left ds rest := by
  intro n ds hl rest hok hsep
  have := leftover_chain (chain_docs cfg L n ds hl rest hok hsep)
  rwa [List.length_map, hl] at this

/-- **C16 (JSON, successive calls), general form.** The stream is `n ≥ 1` documents `w_i ++ body_i` (`DWs cfg w_i`:
    white space and, when enabled, comments; `Value cfg L body_i v_i`: a value of the dialect within the limits) followed by
    ARBITRARY bytes `rest`, with the separator condition `Sep` (after a number only). Then `n + j` calls return
    `(Ok, v_1), …, (Ok, v_n)` and go on (`cont`: stop if nothing is left) with what is left of `rest` — `rest` itself, or
    `rest` without its first byte when the last document is a number. Any configuration, any nesting limit. -/
theorem json_sequence_gen (cfg : Cfg) (L : Nat) (ds : List JDoc) (rest : List UInt8) (j : Nat) (hne : ds ≠ [])
    (hok : ∀ d ∈ ds, d.OK cfg L) (hsep : Sep ds rest) :
    stream (JD.run cfg L) (ds.length + j) (cat ds rest) =
      ds.map (fun d => (Code.ok, d.v)) ++ cont (JD.run cfg L) j (left ds rest) := by
  exact stream_chain hne (chain_docs cfg L ds.length ds rfl rest hok hsep) j

/-- **C16 (JSON): exactly `n` calls return exactly the `n` documents**, whatever follows the last one (subject to `Sep`). -/
theorem json_sequence_exactly (cfg : Cfg) (L : Nat) (ds : List JDoc) (rest : List UInt8) (hne : ds ≠ [])
    (hok : ∀ d ∈ ds, d.OK cfg L) (hsep : Sep ds rest) :
    stream (JD.run cfg L) ds.length (cat ds rest) = ds.map (fun d => (Code.ok, d.v)) := by
  have := json_sequence_gen cfg L ds rest 0 hne hok hsep
  rw [Nat.add_zero, cont_zero, List.append_nil] at this
  exact this

/-- what is left of trailing white space is white space -/
theorem left_dws {cfg : Cfg} {tail : List UInt8} (ht : DWs cfg tail) : ∀ (ds : List JDoc), Sep ds tail → DWs cfg (left ds tail)
  | [], _ => ht
  | [d], h => by
    unfold left lastIsNumber
    cases hn : isNumberVal d.v with
    | false => exact ht
    | true =>
      cases tail with
      | nil => exact DWs.nil
      | cons c w => exact (dws_head_ws ht (h.1 hn)).2
  | _ :: d :: ds, h => left_dws ht (d :: ds) h.2

/-- **C16 (JSON, successive calls): NDJSON / JSON Lines / concatenated JSON.** The stream is `n ≥ 1` documents
    `w_i ++ body_i` followed by white space `tail` (possibly empty). Separator condition `Sep`: after a number the next
    document — or `tail` after the last one — is empty or starts with a white-space byte; nothing is required after any
    other value (`{"a":1}[2]"x"` needs no separator at all). Then, for every `k`, `k` calls return the first `k` of
    `(Ok, v_1), …, (Ok, v_n), (EmptyInput, null)`; the last entry is there only if something is left of `tail` (all of
    `tail`, minus its first byte when the last document is a number): otherwise the loop stops after the `n`-th call
    because the stream is exhausted. Any configuration, any nesting limit. -/
theorem json_sequence (cfg : Cfg) (L : Nat) (ds : List JDoc) (tail : List UInt8) (hne : ds ≠ [])
    (hok : ∀ d ∈ ds, d.OK cfg L) (htail : DWs cfg tail) (hsep : Sep ds tail) (k : Nat) :
    stream (JD.run cfg L) k (cat ds tail) =
      (ds.map (fun d => (Code.ok, d.v)) ++ (if left ds tail = [] then [] else [(Code.empty, Val.null)])).take k := by
  have hc : ∀ j, cont (JD.run cfg L) (j + 1) (left ds tail) =
      (if left ds tail = [] then [] else [(Code.empty, Val.null)]) := by
    intro j
    unfold cont
    by_cases hl : left ds tail = []
    · rw [if_pos hl, if_pos hl]
    · rw [if_neg hl, if_neg hl]
      obtain ⟨h1, h2⟩ := run_ws cfg L (left_dws htail ds hsep)
      rw [stream_stop _ _ (by rw [h1]; exact fun h => Code.noConfusion h), h1, h2]
  refine stream_take_of_stable (m := ds.length + 1) (fun j => ?_) k
  rw [Nat.add_assoc, Nat.add_comm 1 j, json_sequence_gen cfg L ds tail (j + 1) hne hok hsep, hc]


/-- **The separator after a number cannot be dropped.** A number directly followed by a byte that is neither white space
    nor a number byte (so that the number token does end there) — `1[2]`, `1{}`, `1"x"`, `1,` — is `InvalidInput`:
    the look-ahead byte is taken and refused. (Followed by a number byte the token simply goes on: `1` `2` is `12`.) -/
theorem number_needs_separator (cfg : Cfg) {L : Nat} {w body : List UInt8} {v : Val} (c : UInt8) (r : List UInt8)
    (hw : DWs cfg w) (hv : Value cfg L body v) (hn : isNumberVal v = true) (h0 : c ≠ 0) (hws : isWs c = false)
    (hnum : inNumber cfg c = false) :
    JD.run cfg L (w ++ body ++ c :: r) = (.invalid, v, w.length + body.length + 1) := by
  have hd : isNumberVal v = true → Delim cfg (c :: r) := by
    intro _ c' r' hr
    rw [← (List.cons.inj hr).1]; exact hnum
  have hlen : w.length + body.length + 1 ≤ 2 * (w ++ body ++ c :: r).length + 4 := by
    simp only [List.length_append, List.length_cons]; omega
  obtain ⟨s', hp, _, hpost⟩ := C10.complete cfg hv _ w (c :: r) { l := { unread := w ++ body ++ c :: r } } hw rfl rfl hlen hd
  rw [if_pos hn] at hpost
  obtain ⟨_, hcur, _, hpos⟩ := hpost
  -- the look-ahead byte `c` is in the latch: neither NUL nor white space, after a number
  have hc : (s'.l.cur != 0 && !isWs s'.l.cur && isNumberVal v) = true := by
    rw [hcur, hn]
    show (c != 0 && !isWs c && true) = true
    rw [hws, bne_iff_ne.mpr h0]
    rfl
  rw [run_eq, hp]
  show (if (s'.l.cur != 0 && !isWs s'.l.cur && isNumberVal v) = true then _ else _) = _
  rw [if_pos hc, hpos]
  show (Code.invalid, v, 0 + w.length + body.length + min 1 (r.length + 1)) = _
  rw [Nat.zero_add, Nat.min_eq_left (Nat.le_add_left 1 _)]

/-! ## JSON: the answer depends only on the bytes taken -/

/-- **C16 (JSON: the result never depends on bytes beyond those consumed).** Let a call on `t` take `n` bytes and leave
    at least one (`n < |t|`). Then a call on ANY input `t'` that has the same first `n` bytes gives the same answer:
    same code (whatever it is: `Ok` or an error), same document, same number of bytes taken. -/
theorem result_independent_of_rest (cfg : Cfg) (L : Nat) (t t' : List UInt8)
    (h : (JD.run cfg L t).2.2 < t.length) (hp : t'.take (JD.run cfg L t).2.2 = t.take (JD.run cfg L t).2.2) :
    JD.run cfg L t' = JD.run cfg L t :=
  independent_of_rest (C10.run_local cfg L) t t' h hp

/-- the same in the vocabulary of `C10.run_local`: inputs `p ++ x` and `p ++ y`. The call on `p ++ x` must have stopped
    strictly inside `p`, or at the end of `p` with `x ≠ []`. (When the call takes all of `p` and `x = []` the END of the
    input was seen, and that is information: `[1` is `IncompleteInput`, `[1]` is `Ok`; see `end_of_input_matters`.) -/
theorem result_independent_of_rest' (cfg : Cfg) (L : Nat) (p x y : List UInt8)
    (h : (JD.run cfg L (p ++ x)).2.2 < p.length ∨ ((JD.run cfg L (p ++ x)).2.2 ≤ p.length ∧ x ≠ [])) :
    JD.run cfg L (p ++ y) = JD.run cfg L (p ++ x) := by
  rcases h with h | ⟨h, hx⟩
  · apply result_independent_of_rest
    · simp only [List.length_append]; omega
    · rw [List.take_append_of_le_length (by omega), List.take_append_of_le_length (by omega)]
  · exact C10.run_local cfg L p x y hx h

/-- every call of the loop but the last sees only its own document: replacing what the `n` documents are followed by
    does not change the first `n` results (consequence of `json_sequence_exactly`) -/
theorem json_sequence_independent_of_rest (cfg : Cfg) (L : Nat) (ds : List JDoc) (rest rest' : List UInt8) (hne : ds ≠ [])
    (hok : ∀ d ∈ ds, d.OK cfg L) (hsep : Sep ds rest) (hsep' : Sep ds rest') :
    stream (JD.run cfg L) ds.length (cat ds rest') = stream (JD.run cfg L) ds.length (cat ds rest) := by
  rw [json_sequence_exactly cfg L ds rest hne hok hsep, json_sequence_exactly cfg L ds rest' hne hok hsep']

/-! ## MessagePack -/
section msgpack
open MD

/-- **C16 (MessagePack: the result never depends on bytes beyond those consumed).** If the call on `p ++ x` (`x ≠ []`)
    consumed no byte of `x`, the answer — code, document, bytes consumed — is the same for every input that starts with
    `p`. Any filter, any code. (`IncompleteInput` never occurs here: it is answered only when the whole input was consumed,
    `MD.run_incomplete_all`.) -/
theorem msgpack_result_independent_of_rest (env : Env) (L : Nat) (flt : Flt) (p x y : List UInt8) (hx : x ≠ [])
    (h : (MD.run env L flt (p ++ x)).2.2 ≤ p.length) :
    MD.run env L flt (p ++ y) = MD.run env L flt (p ++ x) := by
  have hp : p ≠ [] := by
    rintro rfl
    exact Nat.lt_irrefl 0 (Nat.lt_of_lt_of_le (C09.run_consumed_pos env L flt ([] ++ x) hx) h)
  have hpx : MD.run env L flt p = MD.run env L flt (p ++ x) := by
    rcases C09.run_prefix_dichotomy env L flt p x with h' | ⟨_, _, h'⟩ | ⟨h', _⟩
    · exact h'
    · exact absurd h (Nat.not_le_of_lt h')
    · exact absurd h' hp
  rcases C09.run_prefix_dichotomy env L flt p y with h' | ⟨h', _, _⟩ | ⟨h', _⟩
  · rw [← h', hpx]
  · rw [hpx] at h'
    rw [MD.run_incomplete_all env L flt (p ++ x) h', List.length_append] at h
    have := List.length_pos_iff.mpr hx
    omega
  · exact absurd h' hp

/-- the same for two arbitrary inputs that agree on the bytes consumed -/
theorem msgpack_result_independent_of_rest' (env : Env) (L : Nat) (flt : Flt) (t t' : List UInt8)
    (h : (MD.run env L flt t).2.2 < t.length) (hp : t'.take (MD.run env L flt t).2.2 = t.take (MD.run env L flt t).2.2) :
    MD.run env L flt t' = MD.run env L flt t :=
  independent_of_rest (msgpack_result_independent_of_rest env L flt) t t' h hp

/-- a legal encoding is accepted as exactly one object, whatever follows, with the document a call on it alone returns -/
theorem enc_exact (env : Env) (L : Nat) (flt : Flt) {d : Nat} {e : List UInt8} (h : Enc env d e) (hd : d ≤ L) :
    Exact (MD.run env L flt) e (MD.run env L flt e).2.1 := by
  refine ⟨fun h0 => ?_, fun rest => ?_⟩
  · have := enc_nonempty h
    rw [h0] at this
    exact Nat.lt_irrefl 0 this
  · have h1 := C09.enc_accepts env L flt h hd []
    rw [List.append_nil] at h1
    have hok : (MD.run env L flt e).1 ≠ .incomplete ∧ (MD.run env L flt e).1 ≠ .empty := by
      rw [h1.1]; exact ⟨fun h => Code.noConfusion h, fun h => Code.noConfusion h⟩
    rw [C09.extension_stable env L flt e rest hok.1 hok.2]
    exact Prod.ext h1.1 (Prod.ext rfl h1.2)

theorem encs_exact (env : Env) (L : Nat) (flt : Flt) {es : List (List UInt8)} (henc : ∀ e ∈ es, ∃ d, d ≤ L ∧ Enc env d e) :
    ∀ e ∈ es, Exact (MD.run env L flt) (id e) (MD.run env L flt e).2.1 := by
  intro e he
  obtain ⟨d, hd, hE⟩ := henc e he
  exact enc_exact env L flt hE hd

/-- **C16 (MessagePack, successive calls).** `n ≥ 1` back-to-back objects `e_1 … e_n`, each in ANY legal encoding
    (`MD.Enc`: any width at every place, bin, ext, fixext, nested containers within the nesting limit), followed by
    arbitrary bytes `rest`; ANY filter. Then `n + j` calls return `(Ok, doc_1), …, (Ok, doc_n)` — `doc_i` is the document
    a call on `e_i` alone returns (for a filter: the projection of the unfiltered document, `C11.msgpack_projection_all_inputs`
    in AJ/Props/C11Mp.lean) — and go on with `rest` (stop if `rest` is empty). No separator is needed or allowed. -/
theorem msgpack_sequence_n (env : Env) (L : Nat) (flt : Flt) (es : List (List UInt8)) (rest : List UInt8) (j : Nat)
    (hne : es ≠ []) (henc : ∀ e ∈ es, ∃ d, d ≤ L ∧ Enc env d e) :
    stream (MD.run env L flt) (es.length + j) (es.flatten ++ rest) =
      es.map (fun e => (Code.ok, (MD.run env L flt e).2.1)) ++ cont (MD.run env L flt) j rest := by
  have := stream_exact (MD.run env L flt) id (fun e => (MD.run env L flt e).2.1) rest j es hne (encs_exact env L flt henc)
  rwa [List.map_id] at this

/-- **C16 (MessagePack: what `n` calls consume).** After `n` calls on `n` back-to-back objects followed by `rest`,
    exactly `rest` is left. -/
theorem msgpack_sequence_leftover (env : Env) (L : Nat) (flt : Flt) (es : List (List UInt8)) (rest : List UInt8)
    (henc : ∀ e ∈ es, ∃ d, d ≤ L ∧ Enc env d e) :
    leftover (MD.run env L flt) es.length (es.flatten ++ rest) = rest := by
  have := leftover_exact (MD.run env L flt) id (fun e => (MD.run env L flt e).2.1) rest es (encs_exact env L flt henc)
  rwa [List.map_id] at this

/-- nothing after the last object: `k` calls return the first `k` documents (the loop stops when the stream is exhausted) -/
theorem msgpack_sequence_take (env : Env) (L : Nat) (flt : Flt) (es : List (List UInt8)) (hne : es ≠ [])
    (henc : ∀ e ∈ es, ∃ d, d ≤ L ∧ Enc env d e) (k : Nat) :
    stream (MD.run env L flt) k es.flatten = (es.map (fun e => (Code.ok, (MD.run env L flt e).2.1))).take k := by
  have := stream_exact_take (MD.run env L flt) id (fun e => (MD.run env L flt e).2.1) es hne (encs_exact env L flt henc) k
  rwa [List.map_id] at this

/-- **C16 (MessagePack, successive calls on serializer output).** Documents `v_1 … v_n` (no raw values, within the
    limits of the format and of the nesting limit) serialized back to back, then arbitrary bytes: the calls return
    `norm v_1, …, norm v_n` (`C09.norm`: the document read back from `ser v`, C09 round trip). -/
theorem msgpack_sequence_ser (env : Env) (L : Nat) (vs : List Val) (rest : List UInt8) (j : Nat) (hne : vs ≠ [])
    (hv : ∀ v ∈ vs, C09.RawFree v ∧ C09.WithinLimits env v ∧ C09.depth v ≤ L) :
    stream (MD.run env L .all) (vs.length + j) ((vs.map MD.ser).flatten ++ rest) =
      vs.map (fun v => (Code.ok, C09.norm v)) ++ cont (MD.run env L .all) j rest := by
  refine stream_exact (MD.run env L .all) MD.ser C09.norm rest j vs hne (fun v hvm => ?_)
  obtain ⟨h1, h2, h3⟩ := hv v hvm
  refine ⟨fun h0 => ?_, fun rest => C09.roundtrip env L v h1 h2 h3 rest⟩
  have := C09.ser_pos v h1
  rw [h0] at this
  exact Nat.lt_irrefl 0 this

end msgpack

end C16

/-! ## Non-vacuity -/
namespace C16.SeqExamples
open JD Spec.Dialect C16 MD

/-! ### evaluated in the kernel, independently of the theorems -/

/-- NDJSON `{"a":1}⏎[2]⏎3⏎"x"` -/
def ndjson : List UInt8 :=
  [0x7B, 0x22, 0x61, 0x22, 0x3A, 0x31, 0x7D, 0x0A, 0x5B, 0x32, 0x5D, 0x0A, 0x33, 0x0A, 0x22, 0x78, 0x22]

def ndjsonDocs : List (Code × Val) :=
  [(.ok, .obj [([0x61], .num (.uint 1))]), (.ok, .arr [.num (.uint 2)]), (.ok, .num (.uint 3)), (.ok, .str [0x78])]

example : stream (JD.run {} 10) 10 ndjson = ndjsonDocs := resEqb_sound _ _ (by decide +kernel)
/-- with a final line feed one more call answers `EmptyInput` -/
example : stream (JD.run {} 10) 10 (ndjson ++ [0x0A]) = ndjsonDocs ++ [(.empty, .null)] :=
  resEqb_sound _ _ (by decide +kernel)
/-- fewer calls: the first documents -/
example : stream (JD.run {} 10) 2 ndjson = ndjsonDocs.take 2 := resEqb_sound _ _ (by decide +kernel)

def n123 : List (Code × Val) := [(.ok, .num (.uint 1)), (.ok, .num (.uint 2)), (.ok, .num (.uint 3))]
/-- numbers separated by single spaces `1 2 3`; `1 2 3 ` : the last look-ahead takes the last byte, no `EmptyInput` call;
    `1 2 3  ` : one more call, `EmptyInput` -/
example : stream (JD.run {} 10) 10 [0x31, 0x20, 0x32, 0x20, 0x33] = n123 := resEqb_sound _ _ (by decide +kernel)
example : stream (JD.run {} 10) 10 [0x31, 0x20, 0x32, 0x20, 0x33, 0x20] = n123 := resEqb_sound _ _ (by decide +kernel)
example : stream (JD.run {} 10) 10 [0x31, 0x20, 0x32, 0x20, 0x33, 0x20, 0x20] = n123 ++ [(.empty, .null)] :=
  resEqb_sound _ _ (by decide +kernel)

/-- back to back, no separator at all: `[1][2]{}"s"` -/
example : stream (JD.run {} 10) 10 [0x5B, 0x31, 0x5D, 0x5B, 0x32, 0x5D, 0x7B, 0x7D, 0x22, 0x73, 0x22] =
    [(.ok, .arr [.num (.uint 1)]), (.ok, .arr [.num (.uint 2)]), (.ok, .obj []), (.ok, .str [0x73])] :=
  resEqb_sound _ _ (by decide +kernel)

/-- the separator after a number is needed: `1[2]` is `InvalidInput` (3 bytes… 2 taken); `12` is one number -/
example : stream (JD.run {} 10) 10 [0x31, 0x5B, 0x32, 0x5D] = [(.invalid, .num (.uint 1))] :=
  resEqb_sound _ _ (by decide +kernel)
example : JD.run {} 10 [0x31, 0x5B, 0x32, 0x5D] = (.invalid, .num (.uint 1), 2) := result_eq (by decide +kernel)
example : stream (JD.run {} 10) 10 [0x31, 0x32] = [(.ok, .num (.uint 12))] := resEqb_sound _ _ (by decide +kernel)

/-- MessagePack `01 91 02 a1 78`: 1, [2], "x" -/
def mp3 : List UInt8 := [0x01, 0x91, 0x02, 0xA1, 0x78]
example : stream (MD.run {} 10 .all) 10 mp3 =
    [(.ok, .num (.sint 1)), (.ok, .arr [.num (.sint 2)]), (.ok, .str [0x78])] := resEqb_sound _ _ (by decide +kernel)
example : stream (MD.run {} 10 .all) 2 mp3 = [(.ok, .num (.sint 1)), (.ok, .arr [.num (.sint 2)])] :=
  resEqb_sound _ _ (by decide +kernel)

/-- the end of the input is information: `[1` (everything taken, nothing follows) and `[1]` differ -/
theorem end_of_input_matters :
    JD.run {} 10 ([0x5B, 0x31] ++ []) = (.incomplete, .arr [.num (.uint 1)], 2) ∧
    JD.run {} 10 ([0x5B, 0x31] ++ [0x5D]) = (.ok, .arr [.num (.uint 1)], 3) :=
  ⟨result_eq (by decide +kernel), result_eq (by decide +kernel)⟩
/-- and for MessagePack: `92 01` / `92 01 02` -/
example : MD.run {} 10 .all ([0x92, 0x01] ++ []) = (.incomplete, .arr [.num (.sint 1), .null], 2) ∧
    MD.run {} 10 .all ([0x92, 0x01] ++ [0x02]) = (.ok, .arr [.num (.sint 1), .num (.sint 2)], 3) :=
  ⟨result_eq (by decide +kernel), result_eq (by decide +kernel)⟩

/-! ### the theorems instantiated -/

/-- a one-digit number, at any nesting limit -/
theorem num1 (L : Nat) (c : UInt8) (n : Nat) (hp : parseNumber {} [c] = .uint n) (hc : inNumber {} c = true) (h3 : c ≠ 0x6E) :
    Value {} L [c] (.num (.uint n)) :=
  Value.num L _ _ (C10.Examples.numTok_of (n := .uint n) hp rfl (Nat.le_add_left 1 62)
    (by intro x hx; rw [List.mem_singleton.mp hx]; exact hc) (fun h => h3 (Option.some.inj h)))

theorem v1 (L : Nat) : Value {} L [0x31] (.num (.uint 1)) := num1 L 0x31 1 (by decide +kernel) (by decide) (by decide)
theorem v2 (L : Nat) : Value {} L [0x32] (.num (.uint 2)) := num1 L 0x32 2 (by decide +kernel) (by decide) (by decide)
theorem v3 (L : Nat) : Value {} L [0x33] (.num (.uint 3)) := num1 L 0x33 3 (by decide +kernel) (by decide) (by decide)

/-- `{"a":1}` -/
theorem vObj : Value {} 10 [0x7B, 0x22, 0x61, 0x22, 0x3A, 0x31, 0x7D] (.obj [([0x61], .num (.uint 1))]) :=
  Value.obj 9 [0x22, 0x61, 0x22, 0x3A, 0x31] [([0x61], .num (.uint 1))]
    (Members.one 9 [] [0x22, 0x61, 0x22] [0x61] [] [] [0x31] _ [] DWs.nil
      (Key.quoted 0x22 [0x61] [0x61] (Or.inl rfl) (by decide +kernel) (by decide)) DWs.nil DWs.nil (v1 9) DWs.nil)
/-- `[1]`, `[2]` -/
theorem vArr1 : Value {} 10 [0x5B, 0x31, 0x5D] (.arr [.num (.uint 1)]) :=
  Value.arr 9 [0x31] _ (Elements.one 9 [] [0x31] _ [] DWs.nil (v1 9) DWs.nil)
theorem vArr2 : Value {} 10 [0x5B, 0x32, 0x5D] (.arr [.num (.uint 2)]) :=
  Value.arr 9 [0x32] _ (Elements.one 9 [] [0x32] _ [] DWs.nil (v2 9) DWs.nil)
/-- `{}` -/
theorem vEmptyObj : Value {} 10 [0x7B, 0x7D] (.obj []) := Value.objEmpty 9 [] DWs.nil
/-- `"x"`, `"s"` -/
theorem vStrX : Value {} 10 [0x22, 0x78, 0x22] (.str [0x78]) :=
  Value.str 10 0x22 [0x78] _ (Or.inl rfl) (by decide +kernel) (by decide)
theorem vStrS : Value {} 10 [0x22, 0x73, 0x22] (.str [0x73]) :=
  Value.str 10 0x22 [0x73] _ (Or.inl rfl) (by decide +kernel) (by decide)

theorem lf : IsWsByte 0x0A := Or.inr (Or.inr (Or.inl rfl))
theorem sp : IsWsByte 0x20 := Or.inl rfl
theorem wLf : DWs {} [0x0A] := DWs.ws _ _ lf DWs.nil
theorem wSp : DWs {} [0x20] := DWs.ws _ _ sp DWs.nil

/-- the four lines of the NDJSON stream -/
def ndDocs : List JDoc :=
  [⟨[], [0x7B, 0x22, 0x61, 0x22, 0x3A, 0x31, 0x7D], .obj [([0x61], .num (.uint 1))]⟩,
   ⟨[0x0A], [0x5B, 0x32, 0x5D], .arr [.num (.uint 2)]⟩,
   ⟨[0x0A], [0x33], .num (.uint 3)⟩,
   ⟨[0x0A], [0x22, 0x78, 0x22], .str [0x78]⟩]

theorem ndDocs_ok : ∀ d ∈ ndDocs, d.OK {} 10 :=
  List.forall_mem_cons.mpr ⟨⟨DWs.nil, vObj⟩, List.forall_mem_cons.mpr ⟨⟨wLf, vArr2⟩,
    List.forall_mem_cons.mpr ⟨⟨wLf, v3 10⟩, List.forall_mem_singleton.mpr ⟨wLf, vStrX⟩⟩⟩⟩

/-- only the number `3` needs its separator (the line feed of the next line) -/
theorem ndDocs_sep (tail : List UInt8) : Sep ndDocs tail :=
  ⟨trailer_of_not_number rfl _, trailer_of_not_number rfl _, trailer_of_ws _ 0x0A _ lf, trailer_of_not_number rfl _, trivial⟩

/-- `json_sequence` on the NDJSON stream followed by white space `tail`, any number `k` of calls -/
theorem ndjson_by_theorem (tail : List UInt8) (ht : DWs {} tail) (k : Nat) :
    stream (JD.run {} 10) k (ndjson ++ tail) =
      (ndjsonDocs ++ (if tail = [] then [] else [(Code.empty, Val.null)])).take k :=
  json_sequence {} 10 ndDocs tail (by decide) ndDocs_ok ht (ndDocs_sep tail) k

/-- after the four calls exactly `rest` is left (the last document is a string) -/
example (rest : List UInt8) : leftover (JD.run {} 10) 4 (ndjson ++ rest) = rest :=
  json_sequence_leftover {} 10 4 ndDocs rfl rest ndDocs_ok (ndDocs_sep rest)

/-- … followed by ANY bytes: four calls return the four documents (`json_sequence_exactly`) -/
theorem ndjson_any_rest (rest : List UInt8) : stream (JD.run {} 10) 4 (ndjson ++ rest) = ndjsonDocs :=
  json_sequence_exactly {} 10 ndDocs rest (by decide) ndDocs_ok (ndDocs_sep rest)

/-- `1 2 3` then white space: every number but the first is preceded by the one space its predecessor's look-ahead takes;
    what is left of `tail` is `tail.tail` -/
def numDocs : List JDoc := [⟨[], [0x31], .num (.uint 1)⟩, ⟨[0x20], [0x32], .num (.uint 2)⟩, ⟨[0x20], [0x33], .num (.uint 3)⟩]

theorem numDocs_ok : ∀ d ∈ numDocs, d.OK {} 10 :=
  List.forall_mem_cons.mpr ⟨⟨DWs.nil, v1 10⟩, List.forall_mem_cons.mpr ⟨⟨wSp, v2 10⟩,
    List.forall_mem_singleton.mpr ⟨wSp, v3 10⟩⟩⟩

theorem numbers_by_theorem (tail : List UInt8) (ht : DWs {} tail)
    (h3 : tail.headD 0 = 0 ∨ isWs (tail.headD 0) = true) (k : Nat) :
    stream (JD.run {} 10) k ([0x31, 0x20, 0x32, 0x20, 0x33] ++ tail) =
      (n123 ++ (if tail.tail = [] then [] else [(Code.empty, Val.null)])).take k :=
  json_sequence {} 10 numDocs tail (by decide) numDocs_ok ht
    ⟨trailer_of_ws _ 0x20 _ sp, trailer_of_ws _ 0x20 _ sp, fun _ => h3, trivial⟩ k

/-- `[1][2]{}"s"`: no separator, no condition -/
def b2bDocs : List JDoc :=
  [⟨[], [0x5B, 0x31, 0x5D], .arr [.num (.uint 1)]⟩, ⟨[], [0x5B, 0x32, 0x5D], .arr [.num (.uint 2)]⟩,
   ⟨[], [0x7B, 0x7D], .obj []⟩, ⟨[], [0x22, 0x73, 0x22], .str [0x73]⟩]

theorem b2b_by_theorem (rest : List UInt8) :
    stream (JD.run {} 10) 4 ([0x5B, 0x31, 0x5D, 0x5B, 0x32, 0x5D, 0x7B, 0x7D, 0x22, 0x73, 0x22] ++ rest) =
      [(.ok, .arr [.num (.uint 1)]), (.ok, .arr [.num (.uint 2)]), (.ok, .obj []), (.ok, .str [0x73])] :=
  json_sequence_exactly {} 10 b2bDocs rest (by decide)
    (List.forall_mem_cons.mpr ⟨⟨DWs.nil, vArr1⟩, List.forall_mem_cons.mpr ⟨⟨DWs.nil, vArr2⟩,
      List.forall_mem_cons.mpr ⟨⟨DWs.nil, vEmptyObj⟩, List.forall_mem_singleton.mpr ⟨DWs.nil, vStrS⟩⟩⟩⟩)
    ⟨trailer_of_not_number rfl _, trailer_of_not_number rfl _, trailer_of_not_number rfl _, trailer_of_not_number rfl _, trivial⟩

/-- `number_needs_separator`: `1` followed by `[`… -/
example (r : List UInt8) : JD.run {} 10 ([] ++ [0x31] ++ 0x5B :: r) = (.invalid, .num (.uint 1), 2) :=
  number_needs_separator {} 0x5B r DWs.nil (v1 10) rfl (by decide) (by decide) (by decide)

/-- `number_consumes_at_most_one_more`: ` 3` + line feed + anything: 3 bytes; `[2]` + anything: 3 bytes -/
example (r : List UInt8) : (JD.run {} 10 ([0x20] ++ [0x33] ++ 0x0A :: r)).2.2 = 3 :=
  (number_consumes_at_most_one_more {} wSp (v3 10) (trailer_of_ws _ 0x0A r lf)).1
example (r : List UInt8) : (JD.run {} 10 ([] ++ [0x5B, 0x32, 0x5D] ++ r)).2.2 = 3 :=
  (number_consumes_at_most_one_more {} DWs.nil vArr2 (trailer_of_not_number rfl r)).2.1 rfl

/-- `result_independent_of_rest`: `[1]x…` took 3 of ≥ 4 bytes, so every input that starts with `[1]` gets the same answer;
    also for an error: `[1,]` stops at `]` with `InvalidInput`, whatever follows -/
example (y : List UInt8) : JD.run {} 10 ([0x5B, 0x31, 0x5D] ++ y) = (.ok, .arr [.num (.uint 1)], 3) := by
  rw [result_independent_of_rest' {} 10 [0x5B, 0x31, 0x5D] [0x78] y (Or.inr ⟨by decide +kernel, by decide⟩)]
  exact result_eq (by decide +kernel)
example (y : List UInt8) : (JD.run {} 10 ([0x5B, 0x31, 0x2C, 0x5D] ++ y)).1 = .invalid := by
  rw [result_independent_of_rest' {} 10 [0x5B, 0x31, 0x2C, 0x5D] [0x78] y (Or.inr ⟨by decide +kernel, by decide⟩)]
  decide +kernel

theorem mp3_enc : ∀ e ∈ [[0x01], [0x91, 0x02], [0xA1, 0x78]], ∃ d, d ≤ 10 ∧ Enc {} d e :=
  List.forall_mem_cons.mpr ⟨⟨0, by decide, .leaf (.posfix 0x01 (by decide))⟩,
    List.forall_mem_cons.mpr ⟨⟨1, by decide, Enc.arr [0x91] [[0x02]] (.fix 0x91 1 (by decide) (by decide))
      (List.forall_mem_singleton.mpr (.leaf (.posfix 0x02 (by decide))))⟩,
    List.forall_mem_singleton.mpr ⟨0, by decide, .leaf (.fixstr 0xA1 [0x78] (by decide) (by decide) (by decide))⟩⟩⟩

/-- MessagePack `01 91 02 a1 78` followed by anything, any filter: three calls, three objects -/
theorem mp3_by_theorem (flt : Flt) (rest : List UInt8) :
    stream (MD.run {} 10 flt) 3 (mp3 ++ rest) =
      [(.ok, (MD.run {} 10 flt [0x01]).2.1), (.ok, (MD.run {} 10 flt [0x91, 0x02]).2.1),
       (.ok, (MD.run {} 10 flt [0xA1, 0x78]).2.1)] := by
  have h := msgpack_sequence_n {} 10 flt [[0x01], [0x91, 0x02], [0xA1, 0x78]] rest 0 (by decide) mp3_enc
  rw [cont_zero] at h
  exact h

example (flt : Flt) (rest : List UInt8) : leftover (MD.run {} 10 flt) 3 (mp3 ++ rest) = rest :=
  msgpack_sequence_leftover {} 10 flt [[0x01], [0x91, 0x02], [0xA1, 0x78]] rest mp3_enc

/-- the serializer's output for 1, [2], "x" is that stream; the calls return the normalised documents -/
example (rest : List UInt8) :
    stream (MD.run {} 10 .all) 3 (mp3 ++ rest) = [(.ok, .num (.sint 1)), (.ok, .arr [.num (.sint 2)]), (.ok, .str [0x78])] := by
  have h := msgpack_sequence_ser {} 10 [.num (.uint 1), .arr [.num (.uint 2)], .str [0x78]] rest 0 (by decide)
    (List.forall_mem_cons.mpr
      ⟨⟨by simp only [C09.RawFree], by simp only [C09.WithinLimits, C09.NumOk]; decide, by simp only [C09.depth]; decide⟩,
      List.forall_mem_cons.mpr
      ⟨⟨by simp only [C09.RawFree, C09.RawFreeElems, and_self],
        by simp only [C09.WithinLimits, C09.WithinLimitsElems, C09.NumOk, List.length_cons, List.length_nil]; decide,
        by simp only [C09.depth, C09.depthElems]; decide⟩,
      List.forall_mem_singleton.mpr
      ⟨by simp only [C09.RawFree], by simp only [C09.WithinLimits, List.length_cons, List.length_nil]; decide,
        by simp only [C09.depth]; decide⟩⟩⟩)
  rw [cont_zero] at h
  exact h

/-- `msgpack_result_independent_of_rest`: `91 02` took 2 of 3 bytes -/
example (y : List UInt8) : MD.run {} 10 .all ([0x91, 0x02] ++ y) = (.ok, .arr [.num (.sint 2)], 2) := by
  rw [msgpack_result_independent_of_rest {} 10 .all [0x91, 0x02] [0xC1] y (by decide) (by decide +kernel)]
  exact result_eq (by decide +kernel)

end C16.SeqExamples
