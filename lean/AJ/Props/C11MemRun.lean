/- Property C11, memory part, FOR THE RUNS: "the document left by a filtered deserialization HOLDS no more memory than the
   document left by the unfiltered deserialization of the same input".

   `dF := (JDDF.run cfg L flt d input).2.1` (filtered, into `d`), `dU := (JDD.run cfg L d' input).2.1` (unfiltered, into `d'`),
   any configuration (string limit at least the initial StringBuilder capacity), nesting limit, filter, input and start
   documents with consistent pools; the unfiltered run answers `Ok` and no allocation of the filtered run failed.  Then
   * `filtered_run_strings_subset`: every string stored by `dF` is stored by `dU`;
   * `filtered_run_string_bytes_le`: `dF` has at most as many string nodes, holding at most as many bytes, also counting the
     per-node overhead of the allocator (when both start documents use the same overhead: `run` keeps it);
   * `filtered_run_live_slots_le`: `dF` has at most as many live pool slots (`filtered_run_pool_usage_le`: in the counters of
     the pool model);
   * `filtered_run_tree_slots_le`: both documents have layouts for which they are well-formed, ALL their live slots are the
     slots of the value tree (elements, keys, members, extension slots), and the tree of `dF` has at most as many;
   * `filtered_run_holds_no_more` bundles them; `transparent_run_holds_no_more` is the instance for a transparent filter.
   The assembly: `C11.filtered_document_is_projection` (the filtered document is the projection of the unfiltered one),
   `JDDF.run_canon` / `JDDF.run_kept` (AJ/Lemmas/JddfCanon.lean: the side conditions `ExtBig`, `InlineSmall`, `NoLinked`, and
   `Tight` for the same layout), `JDDF.run_bytes_nodup`, and the document-level comparison of AJ/Props/C11Mem.lean.
   Also: `run_slots_eq_value` - the value tree of EVERY run result occupies exactly the slots its value needs. -/
import AJ.Lemmas.JddfCanon
import AJ.Props.C11Mem
import AJ.Props.C11Doc
import AJ.Props.C11Slot
import AJ.Props.C06FExact
-- `List.sum` over ℕ below takes its zero from Mathlib's `MulZeroClass ℕ`, as with the files on numbers in scope
import Mathlib.Algebra.GroupWithZero.Nat
namespace C11
open JD (Byte Val Num Flt Cfg Code)
open DL DocSize JDD
open Spec.Filter

/-- the two "no leak" predicates (AJ/Lemmas/JddfExact.lean, AJ/Lemmas/DocSize.lean) are the same proposition -/
theorem noLeak_iff (d : Doc) (G : Forest) : JDDF.NoLeak d G ↔ DocSize.NoLeak d G := by
  constructor
  · intro h i hi
    exact (h i hi).imp id (fun ⟨l0, h0, he⟩ => mem_extIds.2 ⟨l0, h0, he⟩)
  · intro h i hi
    exact (h i hi).imp id (fun he => mem_extIds.1 he)

/-! ## What every run leaves -/

/-- EVERY filtered run (any start document, any allocator schedule, any code): inline integers fit 32 bits, no linked
    string - for every layout; the string overhead is that of the start document -/
theorem filtered_run_cells_canonical (cfg : Cfg) (L : Nat) (flt : Flt) (d : Doc) (input : List Byte) :
    AllV inlineSmallV (JDDF.run cfg L flt d input).2.1 ∧ AllV notLinkedV (JDDF.run cfg L flt d input).2.1 ∧
    (∀ F, InlineSmall (JDDF.run cfg L flt d input).2.1 F) ∧ (∀ F, NoLinked (JDDF.run cfg L flt d input).2.1 F) ∧
    (JDDF.run cfg L flt d input).2.1.strOverhead = d.strOverhead := by
  have k := JDDF.run_kept cfg L flt d input
  exact ⟨k.small, k.nolink, fun F => k.small.inlineSmall F, fun F => k.nolink.noLinked F, k.ovh⟩

/-- the same for the unfiltered run -/
theorem run_cells_canonical (cfg : Cfg) (L : Nat) (d : Doc) (input : List Byte) :
    AllV inlineSmallV (JDD.run cfg L d input).2.1 ∧ AllV notLinkedV (JDD.run cfg L d input).2.1 ∧
    (∀ F, InlineSmall (JDD.run cfg L d input).2.1 F) ∧ (∀ F, NoLinked (JDD.run cfg L d input).2.1 F) ∧
    (JDD.run cfg L d input).2.1.strOverhead = d.strOverhead := by
  rw [← allow_all_is_unfiltered_slot_level]
  exact filtered_run_cells_canonical cfg L .all d input

/-- EVERY filtered run from a document with consistent pools: there is a layout for which the result is well-formed and
    stores every number the way `setArg` does (`Canon`: inline iff it fits 32 bits); when no allocation failed, the
    reference counts are exact and no slot is leaked for the same layout -/
theorem filtered_run_canonical (cfg : Cfg) (L : Nat) (flt : Flt) (d : Doc) (input : List Byte) (gok : PL.GeoOK d.g)
    (hp : PL.Inv d.g d.pl) :
    ∃ F', WFG (JDDF.run cfg L flt d input).2.1 F' ∧
      StrOK (JDDF.run cfg L flt d input).2.1 ((JDDF.run cfg L flt d input).2.1.strRefs F') ∧
      Canon (JDDF.run cfg L flt d input).2.1 F' ∧ NoLinked (JDDF.run cfg L flt d input).2.1 F' ∧
      ((JDDF.run cfg L flt d input).2.1.overflowed = false →
        Exact (JDDF.run cfg L flt d input).2.1 ((JDDF.run cfg L flt d input).2.1.strRefs F') ∧
        DocSize.NoLeak (JDDF.run cfg L flt d input).2.1 F') := by
  obtain ⟨F', w, s, e, t⟩ := JDDF.run_canon cfg L flt input gok hp
  obtain ⟨_, _, i, n, _⟩ := filtered_run_cells_canonical cfg L flt d input
  exact ⟨F', w, s, ⟨i F', e⟩, n F', fun ho => ⟨(t ho).exact, (noLeak_iff _ _).1 (t ho).noleak⟩⟩

theorem run_canonical (cfg : Cfg) (L : Nat) (d : Doc) (input : List Byte) (gok : PL.GeoOK d.g) (hp : PL.Inv d.g d.pl) :
    ∃ F', WFG (JDD.run cfg L d input).2.1 F' ∧
      StrOK (JDD.run cfg L d input).2.1 ((JDD.run cfg L d input).2.1.strRefs F') ∧
      Canon (JDD.run cfg L d input).2.1 F' ∧ NoLinked (JDD.run cfg L d input).2.1 F' ∧
      ((JDD.run cfg L d input).2.1.overflowed = false →
        Exact (JDD.run cfg L d input).2.1 ((JDD.run cfg L d input).2.1.strRefs F') ∧
        DocSize.NoLeak (JDD.run cfg L d input).2.1 F') := by
  rw [← allow_all_is_unfiltered_slot_level]
  exact filtered_run_canonical cfg L .all d input gok hp

/-- the value tree of EVERY run result occupies exactly the pool slots its value needs (one per element, two per member,
    one per number outside the 32-bit inline range); when no allocation failed these are ALL the live slots of the pool -/
theorem run_slots_eq_value (cfg : Cfg) (L : Nat) (flt : Flt) (d : Doc) (input : List Byte) (gok : PL.GeoOK d.g)
    (hp : PL.Inv d.g d.pl) :
    ∃ F', WFG (JDDF.run cfg L flt d input).2.1 F' ∧
      treeSlots (JDDF.run cfg L flt d input).2.1 F' = slotsOf (abs (JDDF.run cfg L flt d input).2.1) ∧
      ((JDDF.run cfg L flt d input).2.1.overflowed = false →
        liveCount (JDDF.run cfg L flt d input).2.1 = slotsOf (abs (JDDF.run cfg L flt d input).2.1)) := by
  obtain ⟨F', w, _, c, _, t⟩ := filtered_run_canonical cfg L flt d input gok hp
  have h1 : treeSlots (JDDF.run cfg L flt d input).2.1 F' = slotsOf (abs (JDDF.run cfg L flt d input).2.1) :=
    forest_slots w c
  exact ⟨F', w, h1, fun ho => (live_eq w (t ho).2).trans h1⟩

/-! ## The two runs -/

/-- everything the document-level comparison (AJ/Props/C11Mem.lean) needs, for the two runs -/
theorem run_pair_facts (cfg : Cfg) (L : Nat) (flt : Flt) (d d' : Doc) (input : List Byte)
    (gok : PL.GeoOK d.g) (hp : PL.Inv d.g d.pl) (gok' : PL.GeoOK d'.g) (hp' : PL.Inv d'.g d'.pl)
    (h31 : 31 ≤ cfg.maxStrLen) (hok : (JDD.run cfg L d' input).1 = .ok)
    (hno : (JDDF.run cfg L flt d input).2.1.overflowed = false) :
    ∃ Ff Fu,
      (WFG (JDDF.run cfg L flt d input).2.1 Ff ∧
        StrOK (JDDF.run cfg L flt d input).2.1 ((JDDF.run cfg L flt d input).2.1.strRefs Ff) ∧
        Exact (JDDF.run cfg L flt d input).2.1 ((JDDF.run cfg L flt d input).2.1.strRefs Ff) ∧
        Canon (JDDF.run cfg L flt d input).2.1 Ff ∧ DocSize.NoLeak (JDDF.run cfg L flt d input).2.1 Ff) ∧
      (WFG (JDD.run cfg L d' input).2.1 Fu ∧
        StrOK (JDD.run cfg L d' input).2.1 ((JDD.run cfg L d' input).2.1.strRefs Fu) ∧
        NoLinked (JDD.run cfg L d' input).2.1 Fu ∧ Canon (JDD.run cfg L d' input).2.1 Fu ∧
        DocSize.NoLeak (JDD.run cfg L d' input).2.1 Fu) ∧
      abs (JDDF.run cfg L flt d input).2.1 = project flt (abs (JDD.run cfg L d' input).2.1) := by
  obtain ⟨Ff, wf, sf, cf, _, tf⟩ := filtered_run_canonical cfg L flt d input gok hp
  obtain ⟨Fu, wu, su, cu, nu, tu⟩ := run_canonical cfg L d' input gok' hp'
  obtain ⟨ef, lf⟩ := tf hno
  obtain ⟨_, lu⟩ := tu (C01.ok_no_overflow cfg L d' input gok' hp' h31 hok)
  have hproj := (filtered_document_is_projection cfg L flt d d' input gok hp gok' hp' h31 hok hno).2.2
  exact ⟨Ff, Fu, ⟨wf, sf, ef, cf, lf⟩, ⟨wu, su, nu, cu, lu⟩, hproj⟩

/-- STRINGS: every string stored by the filtered document is stored by the unfiltered one -/
theorem filtered_run_strings_subset (cfg : Cfg) (L : Nat) (flt : Flt) (d d' : Doc) (input : List Byte)
    (gok : PL.GeoOK d.g) (hp : PL.Inv d.g d.pl) (gok' : PL.GeoOK d'.g) (hp' : PL.Inv d'.g d'.pl)
    (h31 : 31 ≤ cfg.maxStrLen) (hok : (JDD.run cfg L d' input).1 = .ok)
    (hno : (JDDF.run cfg L flt d input).2.1.overflowed = false) :
    ∀ n ∈ (JDDF.run cfg L flt d input).2.1.strings, ∃ m ∈ (JDD.run cfg L d' input).2.1.strings, m.bytes = n.bytes := by
  obtain ⟨Ff, Fu, ⟨wf, sf, ef, _, _⟩, ⟨wu, su, nu, _, _⟩, hproj⟩ :=
    run_pair_facts cfg L flt d d' input gok hp gok' hp' h31 hok hno
  exact projected_strings_subset wf sf ef wu su nu hproj

/-- STRING MEMORY: the filtered document has at most as many string nodes as the unfiltered one, holding at most as many
    bytes - also counting the allocator's per-node overhead when the two start documents have the same one -/
theorem filtered_run_string_bytes_le (cfg : Cfg) (L : Nat) (flt : Flt) (d d' : Doc) (input : List Byte)
    (gok : PL.GeoOK d.g) (hp : PL.Inv d.g d.pl) (gok' : PL.GeoOK d'.g) (hp' : PL.Inv d'.g d'.pl)
    (h31 : 31 ≤ cfg.maxStrLen) (hok : (JDD.run cfg L d' input).1 = .ok)
    (hno : (JDDF.run cfg L flt d input).2.1.overflowed = false) :
    ((JDDF.run cfg L flt d input).2.1.strings.map (·.bytes.length)).sum ≤
      ((JDD.run cfg L d' input).2.1.strings.map (·.bytes.length)).sum ∧
    (JDDF.run cfg L flt d input).2.1.strings.length ≤ (JDD.run cfg L d' input).2.1.strings.length ∧
    (d.strOverhead = d'.strOverhead →
      strHeld (JDDF.run cfg L flt d input).2.1 ≤ strHeld (JDD.run cfg L d' input).2.1) := by
  obtain ⟨Ff, Fu, ⟨wf, sf, ef, _, _⟩, ⟨wu, su, nu, _, _⟩, hproj⟩ :=
    run_pair_facts cfg L flt d d' input gok hp gok' hp' h31 hok hno
  obtain ⟨a, b, c⟩ := projected_string_bytes_le wf sf ef wu su nu hproj (JDDF.run_bytes_nodup cfg L flt d input)
  refine ⟨a, b, fun ho => c ?_⟩
  rw [(filtered_run_cells_canonical cfg L flt d input).2.2.2.2, (run_cells_canonical cfg L d' input).2.2.2.2, ho]

/-- POOL SLOTS: the filtered document has at most as many live pool slots as the unfiltered one -/
theorem filtered_run_live_slots_le (cfg : Cfg) (L : Nat) (flt : Flt) (d d' : Doc) (input : List Byte)
    (gok : PL.GeoOK d.g) (hp : PL.Inv d.g d.pl) (gok' : PL.GeoOK d'.g) (hp' : PL.Inv d'.g d'.pl)
    (h31 : 31 ≤ cfg.maxStrLen) (hok : (JDD.run cfg L d' input).1 = .ok)
    (hno : (JDDF.run cfg L flt d input).2.1.overflowed = false) :
    liveCount (JDDF.run cfg L flt d input).2.1 ≤ liveCount (JDD.run cfg L d' input).2.1 := by
  obtain ⟨Ff, Fu, ⟨wf, _, _, cf, lf⟩, ⟨wu, _, _, cu, _⟩, hproj⟩ :=
    run_pair_facts cfg L flt d d' input gok hp gok' hp' h31 hok hno
  exact projected_live_slots_le wf cf.2 lf wu cu.1 hproj

/-- the same in the counters of the pool model: slots handed out minus free list -/
theorem filtered_run_pool_usage_le (cfg : Cfg) (L : Nat) (flt : Flt) (d d' : Doc) (input : List Byte)
    (gok : PL.GeoOK d.g) (hp : PL.Inv d.g d.pl) (gok' : PL.GeoOK d'.g) (hp' : PL.Inv d'.g d'.pl)
    (h31 : 31 ≤ cfg.maxStrLen) (hok : (JDD.run cfg L d' input).1 = .ok)
    (hno : (JDDF.run cfg L flt d input).2.1.overflowed = false) :
    PL.usage (JDDF.run cfg L flt d input).2.1.pl - (JDDF.run cfg L flt d input).2.1.pl.free.length ≤
      PL.usage (JDD.run cfg L d' input).2.1.pl - (JDD.run cfg L d' input).2.1.pl.free.length := by
  obtain ⟨Ff, Fu, ⟨wf, _, _, cf, lf⟩, ⟨wu, _, _, cu, _⟩, hproj⟩ :=
    run_pair_facts cfg L flt d d' input gok hp gok' hp' h31 hok hno
  exact projected_pool_usage_le wf cf.2 lf wu cu.1 hproj

/-- VALUE TREE: both documents are well-formed for some layouts; their live slots are exactly the slots of their value trees
    (elements, keys and member values, extension slots), which are exactly the slots their values need; and the tree of the
    filtered document has at most as many slots as the tree of the unfiltered one -/
theorem filtered_run_tree_slots_le (cfg : Cfg) (L : Nat) (flt : Flt) (d d' : Doc) (input : List Byte)
    (gok : PL.GeoOK d.g) (hp : PL.Inv d.g d.pl) (gok' : PL.GeoOK d'.g) (hp' : PL.Inv d'.g d'.pl)
    (h31 : 31 ≤ cfg.maxStrLen) (hok : (JDD.run cfg L d' input).1 = .ok)
    (hno : (JDDF.run cfg L flt d input).2.1.overflowed = false) :
    ∃ Ff Fu, WFG (JDDF.run cfg L flt d input).2.1 Ff ∧ WFG (JDD.run cfg L d' input).2.1 Fu ∧
      Ff.ids.length + extCount (JDDF.run cfg L flt d input).2.1 Ff ≤
        Fu.ids.length + extCount (JDD.run cfg L d' input).2.1 Fu ∧
      liveCount (JDDF.run cfg L flt d input).2.1 = Ff.ids.length + extCount (JDDF.run cfg L flt d input).2.1 Ff ∧
      liveCount (JDD.run cfg L d' input).2.1 = Fu.ids.length + extCount (JDD.run cfg L d' input).2.1 Fu ∧
      Ff.ids.length + extCount (JDDF.run cfg L flt d input).2.1 Ff = slotsOf (abs (JDDF.run cfg L flt d input).2.1) ∧
      Fu.ids.length + extCount (JDD.run cfg L d' input).2.1 Fu = slotsOf (abs (JDD.run cfg L d' input).2.1) := by
  obtain ⟨Ff, Fu, ⟨wf, _, _, cf, lf⟩, ⟨wu, _, _, cu, lu⟩, hproj⟩ :=
    run_pair_facts cfg L flt d d' input gok hp gok' hp' h31 hok hno
  exact ⟨Ff, Fu, wf, wu, projected_tree_slots_le wf cf.2 wu cu.1 hproj, live_eq wf lf, live_eq wu lu,
    forest_slots wf cf, forest_slots wu cu⟩

/-- **C11, memory: the filtered run holds no more than the unfiltered run** - strings (set, number of nodes, bytes, allocator
    bytes) and pool slots (live slots, pool counters) -/
theorem filtered_run_holds_no_more (cfg : Cfg) (L : Nat) (flt : Flt) (d d' : Doc) (input : List Byte)
    (gok : PL.GeoOK d.g) (hp : PL.Inv d.g d.pl) (gok' : PL.GeoOK d'.g) (hp' : PL.Inv d'.g d'.pl)
    (h31 : 31 ≤ cfg.maxStrLen) (hok : (JDD.run cfg L d' input).1 = .ok)
    (hno : (JDDF.run cfg L flt d input).2.1.overflowed = false) :
    (∀ n ∈ (JDDF.run cfg L flt d input).2.1.strings, ∃ m ∈ (JDD.run cfg L d' input).2.1.strings, m.bytes = n.bytes) ∧
    ((JDDF.run cfg L flt d input).2.1.strings.map (·.bytes.length)).sum ≤
      ((JDD.run cfg L d' input).2.1.strings.map (·.bytes.length)).sum ∧
    (JDDF.run cfg L flt d input).2.1.strings.length ≤ (JDD.run cfg L d' input).2.1.strings.length ∧
    (d.strOverhead = d'.strOverhead →
      strHeld (JDDF.run cfg L flt d input).2.1 ≤ strHeld (JDD.run cfg L d' input).2.1) ∧
    liveCount (JDDF.run cfg L flt d input).2.1 ≤ liveCount (JDD.run cfg L d' input).2.1 ∧
    PL.usage (JDDF.run cfg L flt d input).2.1.pl - (JDDF.run cfg L flt d input).2.1.pl.free.length ≤
      PL.usage (JDD.run cfg L d' input).2.1.pl - (JDD.run cfg L d' input).2.1.pl.free.length := by
  obtain ⟨a, b, c⟩ := filtered_run_string_bytes_le cfg L flt d d' input gok hp gok' hp' h31 hok hno
  exact ⟨filtered_run_strings_subset cfg L flt d d' input gok hp gok' hp' h31 hok hno, a, b, c,
    filtered_run_live_slots_le cfg L flt d d' input gok hp gok' hp' h31 hok hno,
    filtered_run_pool_usage_le cfg L flt d d' input gok hp gok' hp' h31 hok hno⟩

/-- the instance for a transparent filter (`AllowAll`, `Filter(true)`): the filtered run IS the unfiltered run into `d`
    (AJ/Props/C11Slot.lean), so this compares two unfiltered runs of the same input into two documents - whatever their
    geometries and allocators, the one without allocation failure holds no more than the one that answered `Ok` -/
theorem transparent_run_holds_no_more (cfg : Cfg) (L : Nat) (flt : Flt) (ht : JD.Transparent flt) (d d' : Doc)
    (input : List Byte) (gok : PL.GeoOK d.g) (hp : PL.Inv d.g d.pl) (gok' : PL.GeoOK d'.g) (hp' : PL.Inv d'.g d'.pl)
    (h31 : 31 ≤ cfg.maxStrLen) (hok : (JDD.run cfg L d' input).1 = .ok)
    (hno : (JDD.run cfg L d input).2.1.overflowed = false) :
    (∀ n ∈ (JDD.run cfg L d input).2.1.strings, ∃ m ∈ (JDD.run cfg L d' input).2.1.strings, m.bytes = n.bytes) ∧
    ((JDD.run cfg L d input).2.1.strings.map (·.bytes.length)).sum ≤
      ((JDD.run cfg L d' input).2.1.strings.map (·.bytes.length)).sum ∧
    (JDD.run cfg L d input).2.1.strings.length ≤ (JDD.run cfg L d' input).2.1.strings.length ∧
    (d.strOverhead = d'.strOverhead → strHeld (JDD.run cfg L d input).2.1 ≤ strHeld (JDD.run cfg L d' input).2.1) ∧
    liveCount (JDD.run cfg L d input).2.1 ≤ liveCount (JDD.run cfg L d' input).2.1 ∧
    PL.usage (JDD.run cfg L d input).2.1.pl - (JDD.run cfg L d input).2.1.pl.free.length ≤
      PL.usage (JDD.run cfg L d' input).2.1.pl - (JDD.run cfg L d' input).2.1.pl.free.length := by
  have e := transparent_filter_is_unfiltered_slot_level cfg L flt ht d input
  have := filtered_run_holds_no_more cfg L flt d d' input gok hp gok' hp' h31 hok (by rw [e]; exact hno)
  rw [e] at this
  exact this

/-- two `Ok` unfiltered runs of the same input, into any two documents: the same number of live slots, the same strings -/
theorem ok_runs_hold_the_same (cfg : Cfg) (L : Nat) (d d' : Doc) (input : List Byte) (gok : PL.GeoOK d.g)
    (hp : PL.Inv d.g d.pl) (gok' : PL.GeoOK d'.g) (hp' : PL.Inv d'.g d'.pl) (h31 : 31 ≤ cfg.maxStrLen)
    (hok : (JDD.run cfg L d input).1 = .ok) (hok' : (JDD.run cfg L d' input).1 = .ok) :
    liveCount (JDD.run cfg L d input).2.1 = liveCount (JDD.run cfg L d' input).2.1 ∧
    (JDD.run cfg L d input).2.1.strings.length = (JDD.run cfg L d' input).2.1.strings.length ∧
    ((JDD.run cfg L d input).2.1.strings.map (·.bytes.length)).sum =
      ((JDD.run cfg L d' input).2.1.strings.map (·.bytes.length)).sum := by
  obtain ⟨_, a1, a2, _, a3, _⟩ := transparent_run_holds_no_more cfg L .all JD.transparent_all d d' input gok hp gok' hp' h31
    hok' (C01.ok_no_overflow cfg L d input gok hp h31 hok)
  obtain ⟨_, b1, b2, _, b3, _⟩ := transparent_run_holds_no_more cfg L .all JD.transparent_all d' d input gok' hp' gok hp h31
    hok (C01.ok_no_overflow cfg L d' input gok' hp' h31 hok')
  exact ⟨Nat.le_antisymm a3 b3, Nat.le_antisymm a2 b2, Nat.le_antisymm a1 b1⟩

end C11

/-! ## Non-vacuity: geometry ⟨4, 1, 1⟩, default configuration (documents and texts of AJ/Props/C11Doc.lean) -/
namespace C11.MemRunEx
open JD (Byte Val Num Flt Cfg Code)
open DL DocSize JDD
open C11.ExDocF

/-- `"hi"` -/
def hiQ : List Byte := [0x22, 0x68, 0x69, 0x22]
/-- the filter `false` -/
def fNo : Flt := .doc (some (.bool false))

set_option maxRecDepth 100000 in
theorem ok_hi : (JDD.run {} 10 dz hiQ).1 = .ok := by decide +kernel
set_option maxRecDepth 100000 in
theorem ov_hiNo : (JDDF.run {} 10 fNo dz hiQ).2.1.overflowed = false := by decide +kernel
set_option maxRecDepth 100000 in
theorem ov_hiAll : (JDDF.run {} 10 .all dz hiQ).2.1.overflowed = false := by decide +kernel

/-- `filtered_run_holds_no_more` on `[7]` under `[true]` (the element is kept) and under `[false]` (it is skipped) -/
example :
    (∀ n ∈ (JDDF.run {} 10 fT dz t7).2.1.strings, ∃ m ∈ (JDD.run {} 10 dz t7).2.1.strings, m.bytes = n.bytes) ∧
    ((JDDF.run {} 10 fT dz t7).2.1.strings.map (·.bytes.length)).sum ≤
      ((JDD.run {} 10 dz t7).2.1.strings.map (·.bytes.length)).sum ∧
    (JDDF.run {} 10 fT dz t7).2.1.strings.length ≤ (JDD.run {} 10 dz t7).2.1.strings.length ∧
    (dz.strOverhead = dz.strOverhead → strHeld (JDDF.run {} 10 fT dz t7).2.1 ≤ strHeld (JDD.run {} 10 dz t7).2.1) ∧
    liveCount (JDDF.run {} 10 fT dz t7).2.1 ≤ liveCount (JDD.run {} 10 dz t7).2.1 ∧
    PL.usage (JDDF.run {} 10 fT dz t7).2.1.pl - (JDDF.run {} 10 fT dz t7).2.1.pl.free.length ≤
      PL.usage (JDD.run {} 10 dz t7).2.1.pl - (JDD.run {} 10 dz t7).2.1.pl.free.length :=
  C11.filtered_run_holds_no_more {} 10 fT dz dz t7 gok hp gok hp h31 ok_t7 ov_t7T

example : liveCount (JDDF.run {} 10 fF dz t7).2.1 ≤ liveCount (JDD.run {} 10 dz t7).2.1 :=
  (C11.filtered_run_holds_no_more {} 10 fF dz dz t7 gok hp gok hp h31 ok_t7 ov_t7F).2.2.2.2.1

set_option maxRecDepth 100000 in
/-- the numbers: the unfiltered `[7]` holds one slot, as does the run under `[true]`; under `[false]` none -/
example : liveCount (JDD.run {} 10 dz t7).2.1 = 1 ∧ liveCount (JDDF.run {} 10 fT dz t7).2.1 = 1 ∧
    liveCount (JDDF.run {} 10 fF dz t7).2.1 = 0 := by decide +kernel

/-- `filtered_run_holds_no_more` on `"hi"` under the filter `false` (the string is skipped: no node) and under `AllowAll` -/
example : (JDDF.run {} 10 fNo dz hiQ).2.1.strings.length ≤ (JDD.run {} 10 dz hiQ).2.1.strings.length ∧
    strHeld (JDDF.run {} 10 fNo dz hiQ).2.1 ≤ strHeld (JDD.run {} 10 dz hiQ).2.1 ∧
    strHeld (JDDF.run {} 10 .all dz hiQ).2.1 ≤ strHeld (JDD.run {} 10 dz hiQ).2.1 := by
  obtain ⟨_, _, a, b, _⟩ := C11.filtered_run_holds_no_more {} 10 fNo dz dz hiQ gok hp gok hp h31 ok_hi ov_hiNo
  obtain ⟨_, _, _, c, _⟩ := C11.filtered_run_holds_no_more {} 10 .all dz dz hiQ gok hp gok hp h31 ok_hi ov_hiAll
  exact ⟨a, b rfl, c rfl⟩

set_option maxRecDepth 100000 in
/-- the numbers: 2 + 15 allocator bytes for the node of `"hi"` in the unfiltered document, none under the filter `false` -/
example : strHeld (JDD.run {} 10 dz hiQ).2.1 = 17 ∧ strHeld (JDDF.run {} 10 fNo dz hiQ).2.1 = 0 ∧
    (JDD.run {} 10 dz hiQ).2.1.strings.length = 1 := by decide +kernel

/-- the transparent instance on `"hi"`: `Filter(true)` -/
example : strHeld (JDD.run {} 10 dz hiQ).2.1 ≤ strHeld (JDD.run {} 10 dz hiQ).2.1 :=
  (C11.transparent_run_holds_no_more {} 10 (.doc (some (.bool true))) (JD.transparent_true rfl) dz dz hiQ gok hp gok hp h31
    ok_hi (C01.ok_no_overflow {} 10 dz hiQ gok hp h31 ok_hi)).2.2.2.1 rfl

/-- the side conditions on run results: the document left by `[7]` under `[true]` is canonical, has no linked string, its
    value tree occupies exactly the slots its value needs, and these are all its live slots -/
example : ∃ F', WFG (JDDF.run {} 10 fT dz t7).2.1 F' ∧ Canon (JDDF.run {} 10 fT dz t7).2.1 F' ∧
    NoLinked (JDDF.run {} 10 fT dz t7).2.1 F' ∧ DocSize.NoLeak (JDDF.run {} 10 fT dz t7).2.1 F' := by
  obtain ⟨F', w, _, c, n, t⟩ := C11.filtered_run_canonical {} 10 fT dz t7 gok hp
  exact ⟨F', w, c, n, (t ov_t7T).2⟩

example : liveCount (JDDF.run {} 10 fT dz t7).2.1 = slotsOf (abs (JDDF.run {} 10 fT dz t7).2.1) := by
  obtain ⟨_, _, _, h⟩ := C11.run_slots_eq_value {} 10 fT dz t7 gok hp
  exact h ov_t7T

/-- `Kept` needs no hypothesis at all: an allocator that fails at its first call (document `dzf` of AJ/Props/C11Doc.lean) -/
example (flt : Flt) (input : List Byte) (F : Forest) :
    InlineSmall (JDDF.run {} 10 flt dzf input).2.1 F ∧ NoLinked (JDDF.run {} 10 flt dzf input).2.1 F :=
  ⟨(C11.filtered_run_cells_canonical {} 10 flt dzf input).2.2.1 F,
    (C11.filtered_run_cells_canonical {} 10 flt dzf input).2.2.2.1 F⟩

/-- `4294967296` (= 2^32: does not fit the 32-bit inline payload, so the root refers to an extension slot) -/
def big : List Byte := [0x34, 0x32, 0x39, 0x34, 0x39, 0x36, 0x37, 0x32, 0x39, 0x36]

set_option maxRecDepth 100000 in
theorem ok_big : (JDD.run {} 10 dz big).1 = .ok := by decide +kernel
set_option maxRecDepth 100000 in
theorem ov_bigAll : (JDDF.run {} 10 .all dz big).2.1.overflowed = false := by decide +kernel
set_option maxRecDepth 100000 in
theorem ov_bigNo : (JDDF.run {} 10 fNo dz big).2.1.overflowed = false := by decide +kernel

set_option maxRecDepth 100000 in
/-- `ExtBig` / `Canon` with an extension slot in use: the root of the document left by `4294967296` is `.u64 0`, its one
    live slot is the extension slot, which is what the value `2^32` needs; under the filter `false` no slot is held -/
example : (JDD.run {} 10 dz big).2.1.root = .u64 0 ∧ liveCount (JDD.run {} 10 dz big).2.1 = 1 ∧
    liveCount (JDDF.run {} 10 fNo dz big).2.1 = 0 := by
  refine ⟨by decide +kernel, by decide +kernel, by decide +kernel⟩

example : liveCount (JDDF.run {} 10 .all dz big).2.1 = slotsOf (abs (JDDF.run {} 10 .all dz big).2.1) ∧
    liveCount (JDDF.run {} 10 fNo dz big).2.1 ≤ liveCount (JDD.run {} 10 dz big).2.1 := by
  obtain ⟨_, _, _, h⟩ := C11.run_slots_eq_value {} 10 .all dz big gok hp
  exact ⟨h ov_bigAll, C11.filtered_run_live_slots_le {} 10 fNo dz dz big gok hp gok hp h31 ok_big ov_bigNo⟩

end C11.MemRunEx
