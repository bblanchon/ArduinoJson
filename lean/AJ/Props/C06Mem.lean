/- C06, last clause: "The memory requested while deserializing is bounded by one maximum-size string plus a linear
   function of the bytes consumed" - for every input ("including headers that announce huge lengths or counts"), every
   nesting limit, every starting document and every allocator failure schedule.

   The allocator log of the model is textual; the bound is stated on what the document HOLDS (the quantity the ledger
   theorems `C06.deser_blocks_balanced` relate to the log): the blocks of the slot pools, the heap pool table, the string
   nodes, and the transient buffer of the StringBuilder (JSON) / StringBuffer (MessagePack).

   JSON (`JDD.run`, `n` = bytes consumed):
   * `deser_slots_le_consumed`      slots handed out by the pools ≤ n   (attained: `[[[[`)
   * `deser_pools_le`               pools ≤ n / poolCap + 1, every pool ≤ poolCap slots, heap table ≤ 2 · pools entries
   * `deser_strings_le_consumed`    Σ string bytes ≤ n, 2 · string nodes ≤ n
   * `deser_builder_buffer`         capacity of the builder's buffer ≤ max 31 maxStrLen and ≤ max 31 (2 n + 1)
   * `deser_memory_linear`          bytes held when the parser stops (buffer included) and in the result ≤ A + B · n
   MessagePack (`MDD.run`): the twins `mp_…`; a string header allocates the announced size BEFORE the bytes are read
   (≤ maxStrLen: the "one maximum-size string"), array / map headers allocate nothing in advance.
   Proofs: AJ/Lemmas/JddMem.lean, AJ/Lemmas/MddMem.lean. -/
import AJ.Lemmas.JddMem
import AJ.Lemmas.MddMem
import AJ.Props.C03Doc
import AJ.Props.C05Deser
namespace C06
open DL JDD
open JD (Byte Code Cfg)

/-! ## What a document holds, in bytes -/

/-- blocks of the slot pools -/
def memPoolBytes (g : PL.Geo) (s : PL.St) : Nat :=
  ((s.pools.filter (·.hasBlock)).map (fun p => p.cap * g.slotSize)).sum
/-- the pool table, when it is on the heap -/
def memTableBytes (g : PL.Geo) (s : PL.St) : Nat := if s.tableHeap then s.tableCap * g.poolSize else 0
/-- the string nodes: `sizeForLength(n) = n + strOverhead` each -/
def memStringBytes (d : Doc) : Nat := (d.strings.map (fun n => n.bytes.length + d.strOverhead)).sum
/-- the node of the StringBuilder / StringBuffer, when it holds one of capacity `cap` -/
def memBufBytes (d : Doc) (b : Option Nat) : Nat := match b with | some cap => cap + d.strOverhead | none => 0
/-- everything held: pools, pool table, string nodes, builder buffer -/
def memHeld (d : Doc) (b : Option Nat) : Nat :=
  memPoolBytes d.g d.pl + memTableBytes d.g d.pl + memStringBytes d + memBufBytes d b

/-- constant term of the bound: one pool, the first doubling of the pool table, one maximum-size string -/
def memA (g : PL.Geo) (ovh M : Nat) : Nat := g.poolCap * g.slotSize + 2 * g.poolSize + (M + ovh)
/-- bytes held per byte consumed: one slot, two pool-table entries, one string byte, one string node overhead -/
def memB (g : PL.Geo) (ovh : Nat) : Nat := g.slotSize + 2 * g.poolSize + 1 + ovh

theorem mem_usage_eq (s : PL.St) : PL.usage s = PL.memSlots s := by
  unfold PL.usage PL.memSlots
  have : ∀ (ps : List PL.Pool) (a : Nat), ps.foldl (fun a p => a + p.usage) a = a + (ps.map (·.usage)).sum := by
    intro ps
    induction ps with
    | nil => intro a; simp
    | cons p ps ih => intro a; simp only [List.foldl_cons, ih, List.map_cons, List.sum_cons]; omega
  rw [this]; omega

theorem mem_poolBytes_le (g : PL.Geo) : ∀ (ps : List PL.Pool), (∀ p ∈ ps, p.cap ≤ g.poolCap) →
    ((ps.filter (·.hasBlock)).map (fun p => p.cap * g.slotSize)).sum ≤ ps.length * (g.poolCap * g.slotSize)
  | [], _ => by simp
  | p :: ps, h => by
    have ih := mem_poolBytes_le g ps (fun q hq => h q (List.mem_cons_of_mem _ hq))
    have hp : p.cap * g.slotSize ≤ g.poolCap * g.slotSize := Nat.mul_le_mul_right _ (h p List.mem_cons_self)
    simp only [List.filter_cons, List.length_cons, Nat.add_mul, Nat.one_mul]
    split
    · simp only [List.map_cons, List.sum_cons]; omega
    · omega

theorem mem_stringBytes_eq (d : Doc) : memStringBytes d = memStrBytes d + d.strOverhead * d.strings.length := by
  unfold memStringBytes memStrBytes
  generalize d.strOverhead = o
  induction d.strings with
  | nil => simp
  | cons x xs ih =>
    simp only [List.map_cons, List.sum_cons, List.length_cons, ih, Nat.mul_add, Nat.mul_one]
    omega

/-- number of pools against the slots handed out -/
theorem mem_pools_le {g : PL.Geo} {s : PL.St} {n : Nat} (gok : PL.GeoOK g) (hW : PL.MemW g s) (hs : PL.memSlots s ≤ n) :
    s.pools.length ≤ n / g.poolCap + 1 := by
  unfold PL.MemW at hW
  have h1 : (s.pools.length - 1) * g.poolCap ≤ n := Nat.le_trans hW hs
  have h2 : s.pools.length - 1 ≤ n / g.poolCap := (Nat.le_div_iff_mul_le gok.pool_pos).2 h1
  omega

/-- THE BOUND, from the facts of the accounting: what is held ≤ A + B · n -/
theorem mem_held_le {d : Doc} {b : Option Nat} {n M : Nat} (gok : PL.GeoOK d.g) (hA : PL.MemA d.g d.pl)
    (hW : PL.MemW d.g d.pl) (hs : PL.memSlots d.pl ≤ n) (hb : memStrBytes d ≤ n) (hc : d.strings.length ≤ n)
    (hbuf : ∀ cap, b = some cap → cap ≤ M) :
    memPoolBytes d.g d.pl ≤ (n / d.g.poolCap + 1) * (d.g.poolCap * d.g.slotSize) ∧
    memTableBytes d.g d.pl ≤ 2 * (n / d.g.poolCap + 1) * d.g.poolSize ∧
    memStringBytes d ≤ n + d.strOverhead * d.strings.length ∧
    memBufBytes d b ≤ M + d.strOverhead ∧
    memHeld d b ≤ memA d.g d.strOverhead M + memB d.g d.strOverhead * n := by
  have hlen := mem_pools_le gok hW hs
  have hq : n / d.g.poolCap * d.g.poolCap ≤ n := Nat.div_mul_le_self _ _
  have hqn : n / d.g.poolCap ≤ n := Nat.div_le_self _ _
  have h1 : memPoolBytes d.g d.pl ≤ (n / d.g.poolCap + 1) * (d.g.poolCap * d.g.slotSize) :=
    Nat.le_trans (mem_poolBytes_le d.g d.pl.pools (fun p hp => (hA.caps p hp).2)) (Nat.mul_le_mul_right _ hlen)
  have h1' : (n / d.g.poolCap + 1) * (d.g.poolCap * d.g.slotSize) ≤ n * d.g.slotSize + d.g.poolCap * d.g.slotSize := by
    rw [Nat.add_mul, Nat.one_mul, ← Nat.mul_assoc]
    exact Nat.add_le_add_right (Nat.mul_le_mul_right _ hq) _
  have h2 : memTableBytes d.g d.pl ≤ 2 * (n / d.g.poolCap + 1) * d.g.poolSize := by
    unfold memTableBytes
    split
    · rename_i hh
      exact Nat.mul_le_mul_right _ (Nat.le_trans (hA.tab hh) (Nat.mul_le_mul_left 2 hlen))
    · exact Nat.zero_le _
  have h2' : 2 * (n / d.g.poolCap + 1) * d.g.poolSize ≤ 2 * d.g.poolSize * n + 2 * d.g.poolSize := by
    have : 2 * (n / d.g.poolCap + 1) * d.g.poolSize ≤ 2 * (n + 1) * d.g.poolSize :=
      Nat.mul_le_mul_right _ (Nat.mul_le_mul_left 2 (by omega))
    have e : 2 * (n + 1) * d.g.poolSize = 2 * d.g.poolSize * n + 2 * d.g.poolSize := by
      rw [Nat.mul_add, Nat.mul_one, Nat.add_mul, Nat.mul_assoc 2 n, Nat.mul_comm n, Nat.mul_assoc]
    omega
  have h3 : memStringBytes d ≤ n + d.strOverhead * d.strings.length := by rw [mem_stringBytes_eq]; omega
  have h3' : d.strOverhead * d.strings.length ≤ d.strOverhead * n := Nat.mul_le_mul_left _ hc
  have h4 : memBufBytes d b ≤ M + d.strOverhead := by
    unfold memBufBytes
    cases hb' : b with
    | none => exact Nat.zero_le _
    | some cap => have := hbuf cap hb'; simp only; omega
  refine ⟨h1, h2, h3, h4, ?_⟩
  unfold memHeld memA memB
  have e : (d.g.slotSize + 2 * d.g.poolSize + 1 + d.strOverhead) * n =
      n * d.g.slotSize + 2 * d.g.poolSize * n + n + d.strOverhead * n := by
    rw [Nat.add_mul, Nat.add_mul, Nat.add_mul, Nat.one_mul, Nat.mul_comm d.g.slotSize n]
  rw [e]
  omega

/-! ## JSON -/

theorem mem_run_consumed (cfg : Cfg) (limit : Nat) (d : Doc) (input : List Byte) :
    (JDD.run cfg limit d input).2.2 = (JDD.stop cfg limit d input).2.s.l.pos := by
  rw [JDD.run_eq]

/-- the accounting carried from the stop state to the document `run` returns (builder destroyed, pools shrunk) -/
theorem mem_run_facts (cfg : Cfg) (limit : Nat) (d : Doc) (input : List Byte) (gok : PL.GeoOK d.g) :
    (JDD.run cfg limit d input).2.1.g = d.g ∧ (JDD.run cfg limit d input).2.1.strOverhead = d.strOverhead ∧
    PL.memSlots (JDD.run cfg limit d input).2.1.pl = PL.memSlots (JDD.stop cfg limit d input).2.d.pl ∧
    (JDD.run cfg limit d input).2.1.pl.pools.length = (JDD.stop cfg limit d input).2.d.pl.pools.length ∧
    (JDD.run cfg limit d input).2.1.strings = (JDD.stop cfg limit d input).2.d.strings ∧
    PL.MemA d.g (JDD.run cfg limit d input).2.1.pl ∧ PL.MemW d.g (JDD.run cfg limit d input).2.1.pl ∧
    ((JDD.run cfg limit d input).2.1.pl.tableHeap = true →
      (JDD.run cfg limit d input).2.1.pl.tableCap = (JDD.run cfg limit d input).2.1.pl.pools.length) := by
  obtain ⟨ms, ho⟩ := mem_stop cfg limit d input gok
  obtain ⟨pe, _⟩ := preShrink_pleq cfg limit d input
  have hgp : (preShrink cfg limit d input).g = d.g := pe.g.trans ms.hg
  obtain ⟨s1, s2, s3, s4⟩ := PL.mem_shrink (preShrink cfg limit d input).g (preShrink cfg limit d input).pl
  have hAp : PL.MemA (preShrink cfg limit d input).g (preShrink cfg limit d input).pl := by
    rw [hgp]; exact ms.always.congr pe.pools pe.tcap pe.theap
  rw [run_eq]
  refine ⟨hgp, pe.ovh.trans ho, ?_, ?_, pe.strings, ?_, ?_, s4⟩
  · show PL.memSlots (PL.shrink _ _) = _
    rw [s1, PL.mem_memSlots_congr pe.pools]
  · show (PL.shrink _ _).pools.length = _
    rw [s2, pe.pools]
  · show PL.MemA d.g (PL.shrink _ _)
    have := s3 hAp
    generalize (preShrink cfg limit d input).g = g' at hgp this ⊢
    subst hgp; exact this
  · show PL.MemW d.g (PL.shrink _ _)
    unfold PL.MemW
    rw [s1, s2, PL.mem_memSlots_congr pe.pools, pe.pools]
    exact ms.weak

/-- SLOTS. With `(c, d', n) = JDD.run cfg limit d input`: the slots handed out by the pools of `d'` are at most the `n`
    bytes consumed - whatever the input, the code `c`, the nesting limit and the failure schedule; no hypothesis on the
    starting document (it is cleared first). Each `[`, `,` pays for the element that follows, `"k":` for the two slots of a
    member, the digits of a number for its extension slot. Attained by `[[[[` (4 bytes, 4 slots). -/
theorem deser_slots_le_consumed (cfg : Cfg) (limit : Nat) (d : Doc) (input : List Byte) (gok : PL.GeoOK d.g) :
    PL.memSlots (JDD.run cfg limit d input).2.1.pl ≤ (JDD.run cfg limit d input).2.2 := by
  obtain ⟨ms, _⟩ := mem_stop cfg limit d input gok
  obtain ⟨_, _, h3, _⟩ := mem_run_facts cfg limit d input gok
  rw [h3]; exact ms.slots

/-- the same count as live slots plus free list (`PL.liveIds`, AJ/Lemmas/PoolInv.lean), for a starting document whose
    pool list satisfies its invariant -/
theorem deser_live_slots_le_consumed (cfg : Cfg) (limit : Nat) (d : Doc) (input : List Byte) (gok : PL.GeoOK d.g)
    (hp : PL.Inv d.g d.pl) :
    (PL.liveIds (JDD.run cfg limit d input).2.1.g (JDD.run cfg limit d input).2.1.pl).length +
        (JDD.run cfg limit d input).2.1.pl.free.length ≤ (JDD.run cfg limit d input).2.2 := by
  obtain ⟨F, w, _⟩ := run_wf cfg limit input gok hp
  rw [w.pool.liveIds_length, mem_usage_eq]
  exact deser_slots_le_consumed cfg limit d input gok

/-- POOLS AND POOL TABLE. In the result: at most `n / poolCap + 1` pools (all pools but one are full: a new pool is
    requested only when the others are used up, and the run stops at the first allocation that fails); every pool has at
    most `poolCap` slots; a heap pool table has exactly one entry per pool after `shrinkToFit`. -/
theorem deser_pools_le (cfg : Cfg) (limit : Nat) (d : Doc) (input : List Byte) (gok : PL.GeoOK d.g) :
    (JDD.run cfg limit d input).2.1.pl.pools.length ≤ (JDD.run cfg limit d input).2.2 / d.g.poolCap + 1 ∧
    (∀ p ∈ (JDD.run cfg limit d input).2.1.pl.pools, p.usage ≤ p.cap ∧ p.cap ≤ d.g.poolCap) ∧
    ((JDD.run cfg limit d input).2.1.pl.tableHeap = true →
      (JDD.run cfg limit d input).2.1.pl.tableCap = (JDD.run cfg limit d input).2.1.pl.pools.length) ∧
    memPoolBytes d.g (JDD.run cfg limit d input).2.1.pl ≤
      ((JDD.run cfg limit d input).2.2 / d.g.poolCap + 1) * (d.g.poolCap * d.g.slotSize) ∧
    memTableBytes d.g (JDD.run cfg limit d input).2.1.pl ≤
      ((JDD.run cfg limit d input).2.2 / d.g.poolCap + 1) * d.g.poolSize := by
  have hs := deser_slots_le_consumed cfg limit d input gok
  obtain ⟨_, _, _, _, _, hA, hW, ht⟩ := mem_run_facts cfg limit d input gok
  have hlen := mem_pools_le gok hW hs
  refine ⟨hlen, hA.caps, ht, ?_, ?_⟩
  · exact Nat.le_trans (mem_poolBytes_le d.g _ (fun p hp => (hA.caps p hp).2)) (Nat.mul_le_mul_right _ hlen)
  · unfold memTableBytes
    split
    · rename_i hh; rw [ht hh]; exact Nat.mul_le_mul_right _ hlen
    · exact Nat.zero_le _

/-- the same while the parser runs (state in which it stops, before the builder is destroyed and the pools are shrunk):
    the heap pool table has at most twice as many entries as there are pools -/
theorem deser_pools_le_at_stop (cfg : Cfg) (limit : Nat) (d : Doc) (input : List Byte) (gok : PL.GeoOK d.g) :
    (JDD.stop cfg limit d input).2.d.pl.pools.length ≤ (JDD.stop cfg limit d input).2.s.l.pos / d.g.poolCap + 1 ∧
    (∀ p ∈ (JDD.stop cfg limit d input).2.d.pl.pools, p.usage ≤ p.cap ∧ p.cap ≤ d.g.poolCap) ∧
    ((JDD.stop cfg limit d input).2.d.pl.tableHeap = true →
      (JDD.stop cfg limit d input).2.d.pl.tableCap ≤ 2 * (JDD.stop cfg limit d input).2.d.pl.pools.length) ∧
    ((JDD.stop cfg limit d input).1 = .ok → PL.MemS d.g (JDD.stop cfg limit d input).2.d.pl) := by
  obtain ⟨ms, _⟩ := mem_stop cfg limit d input gok
  exact ⟨mem_pools_le gok ms.weak ms.slots, ms.always.caps, ms.always.tab, ms.strong⟩

/-- STRINGS. Every stored byte was consumed (an escape sequence consumes more than it produces, de-duplication only
    helps), and every string node took at least two bytes of input (two quotes, or one key byte and the colon). -/
theorem deser_strings_le_consumed (cfg : Cfg) (limit : Nat) (d : Doc) (input : List Byte) (gok : PL.GeoOK d.g) :
    ((JDD.run cfg limit d input).2.1.strings.map (·.bytes.length)).sum ≤ (JDD.run cfg limit d input).2.2 ∧
    (JDD.run cfg limit d input).2.1.strings.length ≤ (JDD.run cfg limit d input).2.2 / 2 := by
  obtain ⟨ms, _⟩ := mem_stop cfg limit d input gok
  obtain ⟨_, _, _, _, h5, _⟩ := mem_run_facts cfg limit d input gok
  rw [h5]
  refine ⟨?_, ?_⟩
  · have := ms.sbytes
    unfold memStrBytes at this
    rw [List.map_map] at this
    exact this
  · have := ms.scount
    show _ ≤ (JDD.stop cfg limit d input).2.s.l.pos / 2
    omega

/-- THE BUILDER'S BUFFER (the only block that is not in the result): when the parser stops with a buffer of capacity `cap`,
    `cap ≤ max 31 maxStrLen` (the "one maximum-size string") and `cap ≤ max 31 (2 n + 1)` (doubling: less than twice the
    longest token, which was consumed). Proved as an invariant of every routine (`JDD.MemT.buf`), stated here for the
    state in which the parser stops. -/
theorem deser_builder_buffer (cfg : Cfg) (limit : Nat) (d : Doc) (input : List Byte) (gok : PL.GeoOK d.g) (cap : Nat)
    (h : (JDD.stop cfg limit d input).2.b = some cap) :
    cap ≤ max 31 cfg.maxStrLen ∧ cap ≤ max 31 (2 * (JDD.run cfg limit d input).2.2 + 1) :=
  (mem_stop cfg limit d input gok).1.buf cap h

/-- **C06, memory is linear in the bytes consumed (JSON).** For every configuration, nesting limit, starting document,
    input and allocator failure schedule, with `n` the bytes consumed, `A = poolCap·slotSize + 2·poolSize + M + overhead`
    and `B = slotSize + 2·poolSize + 1 + overhead`:
    * when the parser stops (StringBuilder alive, `M = max 31 maxStrLen`: one maximum-size string):
      pools + pool table + string nodes + builder buffer ≤ A + B · n;
    * in the document returned (builder destroyed, pools shrunk; `M = 0`): pools + table + string nodes ≤ A + B · n.
    The accounting behind it holds for every call of every parsing routine (`JDD.mem_parse_all`), hence at every
    intermediate state of the run; the quantities of the pool list only grow during a run. -/
theorem deser_memory_linear (cfg : Cfg) (limit : Nat) (d : Doc) (input : List Byte) (gok : PL.GeoOK d.g) :
    memHeld (JDD.stop cfg limit d input).2.d (JDD.stop cfg limit d input).2.b ≤
      memA d.g d.strOverhead (max 31 cfg.maxStrLen) + memB d.g d.strOverhead * (JDD.run cfg limit d input).2.2 ∧
    memHeld (JDD.run cfg limit d input).2.1 none ≤
      memA d.g d.strOverhead 0 + memB d.g d.strOverhead * (JDD.run cfg limit d input).2.2 := by
  obtain ⟨ms, ho⟩ := mem_stop cfg limit d input gok
  obtain ⟨r1, r2, r3, _, r5, rA, rW, _⟩ := mem_run_facts cfg limit d input gok
  constructor
  · have hg := ms.hg
    have := (mem_held_le (d := (JDD.stop cfg limit d input).2.d) (b := (JDD.stop cfg limit d input).2.b)
      (n := (JDD.stop cfg limit d input).2.s.l.pos) (M := max 31 cfg.maxStrLen)
      (by rw [hg]; exact gok) (by rw [hg]; exact ms.always) (by rw [hg]; exact ms.weak) ms.slots ms.sbytes
      (by have := ms.scount; omega) (fun cap hc => (ms.buf cap hc).1)).2.2.2.2
    rw [hg, ho] at this
    exact this
  · have := (mem_held_le (d := (JDD.run cfg limit d input).2.1) (b := none)
      (n := (JDD.stop cfg limit d input).2.s.l.pos) (M := 0)
      (by rw [r1]; exact gok) (by rw [r1]; exact rA) (by rw [r1]; exact rW) (by rw [r3]; exact ms.slots)
      (by unfold memStrBytes; rw [r5]; exact ms.sbytes) (by rw [r5]; have := ms.scount; omega)
      (fun cap hc => by cases hc)).2.2.2.2
    rw [r1, r2] at this
    exact this

/-- the slot-level JSON deserializer never consumes more than the input has (every code, every failure schedule) -/
theorem deser_reads_within_input (cfg : Cfg) (limit : Nat) (d : Doc) (input : List Byte) :
    (JDD.run cfg limit d input).2.2 ≤ input.length := mem_run_pos_le cfg limit d input

/-- hence: linear in the length of the input -/
theorem deser_memory_linear_in_input (cfg : Cfg) (limit : Nat) (d : Doc) (input : List Byte) (gok : PL.GeoOK d.g) :
    memHeld (JDD.stop cfg limit d input).2.d (JDD.stop cfg limit d input).2.b ≤
      memA d.g d.strOverhead (max 31 cfg.maxStrLen) + memB d.g d.strOverhead * input.length ∧
    memHeld (JDD.run cfg limit d input).2.1 none ≤ memA d.g d.strOverhead 0 + memB d.g d.strOverhead * input.length := by
  obtain ⟨a, b⟩ := deser_memory_linear cfg limit d input gok
  have h := Nat.mul_le_mul_left (memB d.g d.strOverhead) (deser_reads_within_input cfg limit d input)
  exact ⟨by omega, by omega⟩

/-! ## MessagePack -/

/-- SLOTS (MessagePack). With `(c, d', n) = MDD.run env limit d input`: the slots handed out are at most the `n` bytes
    consumed, WHATEVER THE COUNTS ANNOUNCED by array16/array32/map16/map32 headers: `readArray` / `readObject` take one slot
    (two for a member) per element actually reached, nothing in advance. Witness `dd ff ff ff ff`: 2³²−1 elements announced,
    5 bytes consumed, 1 slot, IncompleteInput. -/
theorem mp_deser_slots_le_consumed (env : MD.Env) (limit : Nat) (d : Doc) (input : List Byte) (gok : PL.GeoOK d.g) :
    PL.memSlots (MDD.run env limit d input).2.1.pl ≤ (MDD.run env limit d input).2.2 := by
  obtain ⟨ms, _⟩ := MDD.mem_stop env limit d input gok
  obtain ⟨_, _, h3, _, _, _, _, h8⟩ := MDD.mem_run_facts env limit d input gok
  rw [h3, h8]; exact ms.slots

/-- POOLS AND POOL TABLE (MessagePack) -/
theorem mp_deser_pools_le (env : MD.Env) (limit : Nat) (d : Doc) (input : List Byte) (gok : PL.GeoOK d.g) :
    (MDD.run env limit d input).2.1.pl.pools.length ≤ (MDD.run env limit d input).2.2 / d.g.poolCap + 1 ∧
    (∀ p ∈ (MDD.run env limit d input).2.1.pl.pools, p.usage ≤ p.cap ∧ p.cap ≤ d.g.poolCap) ∧
    ((MDD.run env limit d input).2.1.pl.tableHeap = true →
      (MDD.run env limit d input).2.1.pl.tableCap = (MDD.run env limit d input).2.1.pl.pools.length) ∧
    memPoolBytes d.g (MDD.run env limit d input).2.1.pl ≤
      ((MDD.run env limit d input).2.2 / d.g.poolCap + 1) * (d.g.poolCap * d.g.slotSize) ∧
    memTableBytes d.g (MDD.run env limit d input).2.1.pl ≤
      ((MDD.run env limit d input).2.2 / d.g.poolCap + 1) * d.g.poolSize := by
  have hs := mp_deser_slots_le_consumed env limit d input gok
  obtain ⟨_, _, _, _, hA, hW, ht, _⟩ := MDD.mem_run_facts env limit d input gok
  have hlen := mem_pools_le gok hW hs
  refine ⟨hlen, hA.caps, ht, ?_, ?_⟩
  · exact Nat.le_trans (mem_poolBytes_le d.g _ (fun p hp => (hA.caps p hp).2)) (Nat.mul_le_mul_right _ hlen)
  · unfold memTableBytes
    split
    · rename_i hh; rw [ht hh]; exact Nat.mul_le_mul_right _ hlen
    · exact Nat.zero_le _

/-- STRINGS (MessagePack). Every stored byte was consumed (strings without their header, binary / extension values with
    it), every node took at least its format byte; the lengths announced play no role: a string is stored only when all
    its bytes were read. -/
theorem mp_deser_strings_le_consumed (env : MD.Env) (limit : Nat) (d : Doc) (input : List Byte) (gok : PL.GeoOK d.g) :
    ((MDD.run env limit d input).2.1.strings.map (·.bytes.length)).sum ≤ (MDD.run env limit d input).2.2 ∧
    (MDD.run env limit d input).2.1.strings.length ≤ (MDD.run env limit d input).2.2 := by
  obtain ⟨ms, _⟩ := MDD.mem_stop env limit d input gok
  obtain ⟨_, _, _, h4, _, _, _, h8⟩ := MDD.mem_run_facts env limit d input gok
  rw [h4, h8]
  refine ⟨?_, ms.scount⟩
  have := ms.sbytes
  unfold memStrBytes at this
  rw [List.map_map] at this
  exact this

/-- THE STRINGBUFFER'S NODE - the "one maximum-size string". `reserve(n)` allocates exactly the ANNOUNCED size, BEFORE the
    bytes are read: a header announcing a long string holds that much although the input may be short (`da ff ff`:
    3 bytes consumed, a node of 65535 + overhead bytes, IncompleteInput - see the examples). It never exceeds `maxStrLen`:
    a longer announcement is refused without calling the allocator. -/
theorem mp_deser_buffer (env : MD.Env) (limit : Nat) (d : Doc) (input : List Byte) (gok : PL.GeoOK d.g) (cap : Nat)
    (h : (MDD.memStop env limit d input).2.1.b = some cap) : cap ≤ env.maxStrLen :=
  (MDD.mem_stop env limit d input gok).1.buf cap h

/-- **C06, memory is linear in the bytes consumed (MessagePack).** For every nesting limit, starting document, input -
    whatever lengths and counts its headers announce - and allocator failure schedule, with `n` the bytes consumed:
    * when the parser stops (StringBuffer alive): pools + pool table + string nodes + buffer ≤ A + B · n with
      `A = poolCap·slotSize + 2·poolSize + maxStrLen + overhead` (one pool, one maximum-size string);
    * in the document returned: pools + table + string nodes ≤ (poolCap·slotSize + 2·poolSize + overhead) + B · n. -/
theorem mp_deser_memory_linear (env : MD.Env) (limit : Nat) (d : Doc) (input : List Byte) (gok : PL.GeoOK d.g) :
    memHeld (MDD.memStop env limit d input).2.1.d (MDD.memStop env limit d input).2.1.b ≤
      memA d.g d.strOverhead env.maxStrLen + memB d.g d.strOverhead * (MDD.run env limit d input).2.2 ∧
    memHeld (MDD.run env limit d input).2.1 none ≤
      memA d.g d.strOverhead 0 + memB d.g d.strOverhead * (MDD.run env limit d input).2.2 := by
  obtain ⟨ms, ho⟩ := MDD.mem_stop env limit d input gok
  obtain ⟨r1, r2, r3, r5, rA, rW, _, r8⟩ := MDD.mem_run_facts env limit d input gok
  rw [r8]
  constructor
  · have hg := ms.hg
    have := (mem_held_le (d := (MDD.memStop env limit d input).2.1.d) (b := (MDD.memStop env limit d input).2.1.b)
      (n := (MDD.memStop env limit d input).2.1.r.pos) (M := env.maxStrLen)
      (by rw [hg]; exact gok) (by rw [hg]; exact ms.always) (by rw [hg]; exact ms.weak) ms.slots ms.sbytes
      ms.scount (fun cap hc => ms.buf cap hc)).2.2.2.2
    rw [hg, ho] at this
    exact this
  · have := (mem_held_le (d := (MDD.run env limit d input).2.1) (b := none)
      (n := (MDD.memStop env limit d input).2.1.r.pos) (M := 0)
      (by rw [r1]; exact gok) (by rw [r1]; exact rA) (by rw [r1]; exact rW) (by rw [r3]; exact ms.slots)
      (by unfold memStrBytes; rw [r5]; exact ms.sbytes) (by rw [r5]; exact ms.scount)
      (fun cap hc => by cases hc)).2.2.2.2
    rw [r1, r2] at this
    exact this

/-- the slot-level MessagePack deserializer never consumes more than the input has -/
theorem mp_deser_reads_within_input (env : MD.Env) (limit : Nat) (d : Doc) (input : List Byte) :
    (MDD.run env limit d input).2.2 ≤ input.length := MDD.mem_run_pos_le env limit d input

/-- hence: linear in the length of the input, whatever the headers announce -/
theorem mp_deser_memory_linear_in_input (env : MD.Env) (limit : Nat) (d : Doc) (input : List Byte) (gok : PL.GeoOK d.g) :
    memHeld (MDD.memStop env limit d input).2.1.d (MDD.memStop env limit d input).2.1.b ≤
      memA d.g d.strOverhead env.maxStrLen + memB d.g d.strOverhead * input.length ∧
    memHeld (MDD.run env limit d input).2.1 none ≤ memA d.g d.strOverhead 0 + memB d.g d.strOverhead * input.length := by
  obtain ⟨a, b⟩ := mp_deser_memory_linear env limit d input gok
  have h := Nat.mul_le_mul_left (memB d.g d.strOverhead) (mp_deser_reads_within_input env limit d input)
  exact ⟨by omega, by omega⟩

/-! ## Non-vacuity (geometry ⟨4,1,1⟩: pools of 4 slots of 16 bytes, inline table of one entry, string overhead 15)

The kernel evaluates documents whose slot ids stay at 0 (`decide +kernel` is stuck on cell maps with a key ≥ 1), so the
evaluated witnesses are short; the theorems are instantiated on longer inputs and on every failure position.
Measured with `#eval` (not proofs): `[[[[[` - 5 bytes, 4 slots, one full pool; ten `[` - 10 bytes, 9 slots, 3 pools, a heap
table of 3 entries, 192 bytes held (bound 111 + 64·10). The slot bound `≤ n` is within one of what inputs reach
(`n − 1`: every byte of `[[[[[` but the last pays for one slot). -/
open C03.ExDoc

/-- `[[[[[` -/
def nest5 : List Byte := [0x5B, 0x5B, 0x5B, 0x5B, 0x5B]
/-- `[[` -/
def nest2 : List Byte := [0x5B, 0x5B]

/-- the constants for this geometry: A = 111 + M, B = 64 -/
example : memA g0 15 0 = 111 ∧ memB g0 15 = 64 := by decide

/-- slots: any input, any single failure position -/
example (k : Nat) : PL.memSlots (JDD.run {} 10 (dk [k]) nest5).2.1.pl ≤ (JDD.run {} 10 (dk [k]) nest5).2.2 ∧
    PL.memSlots (JDD.run {} 10 (dk [k]) obj2).2.1.pl ≤ (JDD.run {} 10 (dk [k]) obj2).2.2 :=
  ⟨deser_slots_le_consumed {} 10 (dk [k]) nest5 gok, deser_slots_le_consumed {} 10 (dk [k]) obj2 gok⟩
/-- `[[`: 2 bytes consumed, 1 slot (IncompleteInput): n − 1 -/
example : PL.memSlots (JDD.run {} 10 (dk []) nest2).2.1.pl = 1 ∧ (JDD.run {} 10 (dk []) nest2).2.2 = 2 := by
  decide +kernel
/-- live slots + free list, `{"a":[1,"a"],"a":2}` (the repeated key releases three slots to the free list) -/
example (k : Nat) : (PL.liveIds (JDD.run {} 10 (dk [k]) obj2).2.1.g (JDD.run {} 10 (dk [k]) obj2).2.1.pl).length +
    (JDD.run {} 10 (dk [k]) obj2).2.1.pl.free.length ≤ (JDD.run {} 10 (dk [k]) obj2).2.2 :=
  deser_live_slots_le_consumed {} 10 (dk [k]) obj2 gok (dk_inv [k])

/-- pools: one pool of one slot (16 bytes) after `shrinkToFit` for `[[` -/
example : (JDD.run {} 10 (dk []) nest2).2.1.pl.pools.length = 1 ∧
    memPoolBytes g0 (JDD.run {} 10 (dk []) nest2).2.1.pl = 16 := by decide +kernel
example (k : Nat) : (JDD.run {} 10 (dk [k]) nest5).2.1.pl.pools.length ≤ (JDD.run {} 10 (dk [k]) nest5).2.2 / 4 + 1 :=
  (deser_pools_le {} 10 (dk [k]) nest5 gok).1

/-- strings: `"hi"` - 2 bytes stored, 1 node, 4 bytes consumed -/
example : ((JDD.run {} 10 (dk []) hiQ).2.1.strings.map (·.bytes.length)).sum = 2 ∧
    (JDD.run {} 10 (dk []) hiQ).2.1.strings.length = 1 ∧ (JDD.run {} 10 (dk []) hiQ).2.2 = 4 := by decide +kernel
example (k : Nat) : (JDD.run {} 10 (dk [k]) obj2).2.1.strings.length ≤ (JDD.run {} 10 (dk [k]) obj2).2.2 / 2 :=
  (deser_strings_le_consumed {} 10 (dk [k]) obj2 gok).2

/-- the builder's buffer: a 40-character string without its closing quote - 41 bytes consumed, the buffer was doubled once
    (31 → 63 ≤ 2·41 + 1) and is still held when the parser stops: 63 + 15 = 78 bytes -/
example : (JDD.stop {} 10 (dk []) C05.longOpen).2.b = some 63 ∧ (JDD.run {} 10 (dk []) C05.longOpen).2.2 = 41 ∧
    memHeld (JDD.stop {} 10 (dk []) C05.longOpen).2.d (JDD.stop {} 10 (dk []) C05.longOpen).2.b = 78 := by
  decide +kernel
example : (63 : Nat) ≤ max 31 ({} : Cfg).maxStrLen ∧ 63 ≤ max 31 (2 * (JDD.run {} 10 (dk []) C05.longOpen).2.2 + 1) :=
  deser_builder_buffer {} 10 (dk []) C05.longOpen gok 63 (by decide +kernel)

/-- the linear bound: `"hi"` holds 17 bytes in the end; `[[` holds a whole pool (64 bytes) while parsing and 16 bytes in the
    end; bound 111 + 64 · n -/
example : memHeld (JDD.run {} 10 (dk []) hiQ).2.1 none = 17 ∧
    memHeld (JDD.stop {} 10 (dk []) nest2).2.d (JDD.stop {} 10 (dk []) nest2).2.b = 64 ∧
    memHeld (JDD.run {} 10 (dk []) nest2).2.1 none = 16 := by decide +kernel
example (k : Nat) : memHeld (JDD.run {} 10 (dk [k]) obj2).2.1 none ≤ 111 + 64 * (JDD.run {} 10 (dk [k]) obj2).2.2 :=
  (deser_memory_linear {} 10 (dk [k]) obj2 gok).2

/-! ### MessagePack -/

/-- array32 announcing 2³²−1 elements, nothing behind it: 5 bytes consumed, ONE slot, IncompleteInput -/
def hugeCount : List Byte := [0xdd, 0xff, 0xff, 0xff, 0xff]
/-- str16 announcing 65535 bytes, nothing behind it -/
def hugeLen : List Byte := [0xda, 0xff, 0xff]

example : PL.memSlots (MDD.run {} 10 (dk []) hugeCount).2.1.pl = 1 ∧ (MDD.run {} 10 (dk []) hugeCount).2.2 = 5 ∧
    (MDD.run {} 10 (dk []) hugeCount).1 = .incomplete := by decide +kernel
example (k : Nat) : PL.memSlots (MDD.run {} 10 (dk [k]) hugeCount).2.1.pl ≤ (MDD.run {} 10 (dk [k]) hugeCount).2.2 :=
  mp_deser_slots_le_consumed {} 10 (dk [k]) hugeCount gok

/-- THE MAXIMUM-SIZE STRING TERM IS NEEDED: `da ff ff` consumes 3 bytes, and the StringBuffer holds a node of the announced
    65535 (+15) bytes - allocated (`A65550`) before the short read is noticed, released (`D`) when the deserializer is
    destroyed; 65550 is far above the linear part 111 + 64 · 3 -/
example : (MDD.memStop {} 10 (dk []) hugeLen).2.1.b = some 65535 ∧ (MDD.run {} 10 (dk []) hugeLen).2.2 = 3 ∧
    (MDD.run {} 10 (dk []) hugeLen).1 = .incomplete ∧ (MDD.run {} 10 (dk []) hugeLen).2.1.pl.log = ["D", "A65550"] ∧
    memHeld (MDD.memStop {} 10 (dk []) hugeLen).2.1.d (MDD.memStop {} 10 (dk []) hugeLen).2.1.b = 65550 := by
  decide +kernel
example : (65535 : Nat) ≤ ({} : MD.Env).maxStrLen :=
  mp_deser_buffer {} 10 (dk []) hugeLen gok 65535 (by decide +kernel)
example : memHeld (MDD.memStop {} 10 (dk []) hugeLen).2.1.d (MDD.memStop {} 10 (dk []) hugeLen).2.1.b ≤
    (111 + 65535) + 64 * (MDD.run {} 10 (dk []) hugeLen).2.2 :=
  (mp_deser_memory_linear {} 10 (dk []) hugeLen gok).1

/-- strings: `a2 68 69` ("hi") - 2 bytes stored, 3 consumed; `a0` (the empty string) - one node for one byte: the count
    bound is `≤ n` here, not `≤ n / 2` as for JSON -/
example : ((MDD.run {} 10 (dk []) [0xa2, 0x68, 0x69]).2.1.strings.map (·.bytes.length)).sum = 2 ∧
    (MDD.run {} 10 (dk []) [0xa2, 0x68, 0x69]).2.2 = 3 ∧
    (MDD.run {} 10 (dk []) [0xa0]).2.1.strings.length = 1 ∧ (MDD.run {} 10 (dk []) [0xa0]).2.2 = 1 := by decide +kernel
example (k : Nat) : (MDD.run {} 10 (dk [k]) [0x92, 0xa1, 0x61, 0xa1, 0x61]).2.1.strings.length ≤
    (MDD.run {} 10 (dk [k]) [0x92, 0xa1, 0x61, 0xa1, 0x61]).2.2 :=
  (mp_deser_strings_le_consumed {} 10 (dk [k]) _ gok).2

/-- in terms of the input: `hugeLen` has 3 bytes -/
example : memHeld (MDD.memStop {} 10 (dk []) hugeLen).2.1.d (MDD.memStop {} 10 (dk []) hugeLen).2.1.b ≤
    (111 + 65535) + 64 * 3 := (mp_deser_memory_linear_in_input {} 10 (dk []) hugeLen gok).1
example (k : Nat) : memHeld (JDD.run {} 10 (dk [k]) obj2).2.1 none ≤ 111 + 64 * 19 :=
  (deser_memory_linear_in_input {} 10 (dk [k]) obj2 gok).2

end C06
