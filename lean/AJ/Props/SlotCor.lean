/- SLOT-LEVEL COROLLARIES of the value-level theorems C02, C07, C12, C16, C17.

   The value-level deserializers `JD.run` (JSON) and `MD.run` (MessagePack) are what the grammar / round-trip / number /
   consumption / unicode theorems are about. The slot-level deserializers `JDD.run cfg L d input` / `MDD.run env L d input`
   write into the real document structure (`DL.Doc`: slots, pools, string table, builder) and REFINE them:
   `C01.slot_level_refines`, `C01.ok_refines` (AJ/Props/C01Doc.lean), `C09.slot_level_refines`, `C09.ok_refines`
   (AJ/Props/C09Doc.lean): whenever no allocation failed (`(run …).2.1.overflowed = false`), the code, the consumption and
   `toVal root` of the document left are those of the value-level run.

   This file carries the value-level theorems down to the document, one short theorem each: obtain the value-level fact,
   rewrite with the refinement. For every starting document `d` (any content: the run clears it) with `PL.GeoOK d.g`,
   `PL.Inv d.g d.pl`, `31 ≤ cfg.maxStrLen` (JSON only) and the hypothesis that the run met no allocation failure. The
   hypotheses of the value-level theorems are kept verbatim.
   (C01, C10, C15 at slot level: AJ/Props/C01Doc.lean; C09 — round trip, `enc_accepts_slot_level`, prefix classification —,
   C15 and the two-object C16 for MessagePack: AJ/Props/C09Doc.lean.) -/
import AJ.Props.C01Doc
import AJ.Props.C09Doc
import AJ.Props.C03Doc
import AJ.Props.C02Parse
import AJ.Props.C07
import AJ.Props.C07Cross
import AJ.Props.C12
import AJ.Props.C16
import AJ.Props.C16Seq
import AJ.Props.C17
set_option linter.unusedSimpArgs false
set_option linter.unusedVariables false

namespace SlotCor
open JD (Val Code)

/-- the step of every corollary below: a slot-level result `R` that agrees with the value-level result `r` in code,
    consumption and value read back, and a value-level theorem that says what `r` is -/
theorem of_value {R : Code × DL.Doc × Nat} {r : Code × Val × Nat} {c : Code} {v : Val} {n : Nat}
    (h : R.1 = r.1 ∧ R.2.2 = r.2.2 ∧ R.2.1.toVal R.2.1.root = r.2.1) (hr : r = (c, v, n)) :
    R.1 = c ∧ R.2.2 = n ∧ R.2.1.toVal R.2.1.root = v := by
  subst hr; exact h

end SlotCor

/-! ## C02 — what the serializers write is read back into the document -/
namespace C02
open DL JDD
open JD (Byte Val Cfg Code)

/-- **C02, slot level (compact text).** For a document value `v` satisfying the hypotheses of
    `C02.Parse.compact_parses_back`: `deserializeJson(serializeJson(v))` into ANY document with an allocator that does not
    fail is `Ok` and leaves a document that reads back as the value the text denotes (`SerG.denote cfg v`). -/
theorem serialized_text_read_back_slot_level (cfg : Cfg) (hu : cfg.decodeUnicode = true) (h31 : 31 ≤ cfg.maxStrLen)
    (L : Nat) (v : Val) (h : SerG.Ok cfg v) (hd : Spec.Json.depth v ≤ L) (d : Doc) (gok : PL.GeoOK d.g)
    (hp : PL.Inv d.g d.pl) (hno : (JDD.run cfg L d (JSer.compact cfg v)).2.1.overflowed = false) :
    (JDD.run cfg L d (JSer.compact cfg v)).1 = .ok ∧
    (JDD.run cfg L d (JSer.compact cfg v)).2.1.toVal (JDD.run cfg L d (JSer.compact cfg v)).2.1.root =
      SerG.denote cfg v := by
  obtain ⟨a, _, c⟩ := (C01.slot_level_refines cfg L d (JSer.compact cfg v) gok hp h31).1 hno
  obtain ⟨h1, h2⟩ := C02.Parse.compact_parses_back cfg hu L v h hd
  exact ⟨by rw [a, h1], by rw [c, h2]⟩

/-- **C02, slot level (pretty text)**: `deserializeJson(serializeJsonPretty(v))` leaves the SAME document value -/
theorem pretty_text_read_back_slot_level (cfg : Cfg) (hu : cfg.decodeUnicode = true) (h31 : 31 ≤ cfg.maxStrLen)
    (n L : Nat) (v : Val) (h : SerG.Ok cfg v) (hd : Spec.Json.depth v ≤ L) (d : Doc) (gok : PL.GeoOK d.g)
    (hp : PL.Inv d.g d.pl) (hno : (JDD.run cfg L d (JSer.pretty cfg n v)).2.1.overflowed = false) :
    (JDD.run cfg L d (JSer.pretty cfg n v)).1 = .ok ∧
    (JDD.run cfg L d (JSer.pretty cfg n v)).2.1.toVal (JDD.run cfg L d (JSer.pretty cfg n v)).2.1.root =
      SerG.denote cfg v := by
  obtain ⟨a, _, c⟩ := (C01.slot_level_refines cfg L d (JSer.pretty cfg n v) gok hp h31).1 hno
  obtain ⟨h1, h2⟩ := C02.Parse.pretty_parses_back cfg hu n L v h hd
  exact ⟨by rw [a, h1], by rw [c, h2]⟩

/-- both texts, into two arbitrary documents: the documents left read back as the same value -/
theorem pretty_compact_read_same_slot_level (cfg : Cfg) (hu : cfg.decodeUnicode = true) (h31 : 31 ≤ cfg.maxStrLen)
    (n L : Nat) (v : Val) (h : SerG.Ok cfg v) (hd : Spec.Json.depth v ≤ L)
    (d : Doc) (gok : PL.GeoOK d.g) (hp : PL.Inv d.g d.pl) (d' : Doc) (gok' : PL.GeoOK d'.g) (hp' : PL.Inv d'.g d'.pl)
    (hno : (JDD.run cfg L d (JSer.compact cfg v)).2.1.overflowed = false)
    (hno' : (JDD.run cfg L d' (JSer.pretty cfg n v)).2.1.overflowed = false) :
    (JDD.run cfg L d' (JSer.pretty cfg n v)).2.1.toVal (JDD.run cfg L d' (JSer.pretty cfg n v)).2.1.root =
      (JDD.run cfg L d (JSer.compact cfg v)).2.1.toVal (JDD.run cfg L d (JSer.compact cfg v)).2.1.root := by
  rw [(serialized_text_read_back_slot_level cfg hu h31 L v h hd d gok hp hno).2,
    (pretty_text_read_back_slot_level cfg hu h31 n L v h hd d' gok' hp' hno').2]

/-- when the document is not a bare number, whatever follows the pretty text: exactly the text is consumed -/
theorem pretty_consumed_slot_level (cfg : Cfg) (hu : cfg.decodeUnicode = true) (h31 : 31 ≤ cfg.maxStrLen)
    (n L : Nat) (v : Val) (h : SerG.Ok cfg v) (hd : Spec.Json.depth v ≤ L)
    (hn : JD.isNumberVal (SerG.denote cfg v) = false) (rest : List Byte) (d : Doc) (gok : PL.GeoOK d.g)
    (hp : PL.Inv d.g d.pl) (hno : (JDD.run cfg L d (JSer.pretty cfg n v ++ rest)).2.1.overflowed = false) :
    (JDD.run cfg L d (JSer.pretty cfg n v ++ rest)).1 = .ok ∧
    (JDD.run cfg L d (JSer.pretty cfg n v ++ rest)).2.2 = (JSer.pretty cfg n v).length ∧
    (JDD.run cfg L d (JSer.pretty cfg n v ++ rest)).2.1.toVal (JDD.run cfg L d (JSer.pretty cfg n v ++ rest)).2.1.root =
      SerG.denote cfg v :=
  SlotCor.of_value ((C01.slot_level_refines cfg L d (JSer.pretty cfg n v ++ rest) gok hp h31).1 hno)
    (C02.Parse.pretty_consumed cfg hu n L v h hd hn rest)

end C02

/-! ## C07 — round trips through the document -/
namespace C07
open DL JDD
open JD (Byte Val Cfg Code)

/-- **C07 JSON round trip, slot level** (from `C07.json_roundtrip_all`): without the NaN/Infinity options, for every
    raw-free document value with 64-bit integers, strings within the limit and nesting within the limit,
    `deserializeJson(serializeJson(v))` into ANY document with an allocator that does not fail: `Ok`, the whole text
    consumed, and the document left reads back as `readBack cfg v`. -/
theorem json_roundtrip_slot_level (cfg : Cfg) (L : Nat) (v : Val) (hcfg : cfg.decodeUnicode = true)
    (hnan : cfg.nan = false) (hinf : cfg.inf = false)
    (h2 : RawFree v) (h3 : IntsInRange v) (h4 : StrsWithin cfg.maxStrLen v) (hd : depth v ≤ L)
    (h31 : 31 ≤ cfg.maxStrLen) (d : Doc) (gok : PL.GeoOK d.g) (hp : PL.Inv d.g d.pl)
    (hno : (JDD.run cfg L d (JSer.compact cfg v)).2.1.overflowed = false) :
    (JDD.run cfg L d (JSer.compact cfg v)).1 = .ok ∧
    (JDD.run cfg L d (JSer.compact cfg v)).2.2 = (JSer.compact cfg v).length ∧
    (JDD.run cfg L d (JSer.compact cfg v)).2.1.toVal (JDD.run cfg L d (JSer.compact cfg v)).2.1.root =
      readBack cfg v :=
  SlotCor.of_value ((C01.slot_level_refines cfg L d (JSer.compact cfg v) gok hp h31).1 hno)
    (json_roundtrip_all cfg L v hcfg hnan hinf h2 h3 h4 hd)

/-- **C07 document → JSON → document, slot level** (from `C07.json_of_document`): any options; floats `±0` or finite
    within `1e-300 ≤ |x| ≤ 1e300`, no repeated keys. The document left is `CloseDoc` to `v`, and when `v` has no float
    node it is `normInt v` and compares equal to `v` both ways. -/
theorem json_of_document_slot_level (cfg : Cfg) (L : Nat) (v : Val) (hcfg : cfg.decodeUnicode = true)
    (h2 : RawFree v) (h5 : NoDupKeys v) (h3 : IntsInRange v) (hf : FloatsInRange v) (h4 : StrsWithin cfg.maxStrLen v)
    (hd : depth v ≤ L) (h31 : 31 ≤ cfg.maxStrLen) (d : Doc) (gok : PL.GeoOK d.g) (hp : PL.Inv d.g d.pl)
    (hno : (JDD.run cfg L d (JSer.compact cfg v)).2.1.overflowed = false) :
    (JDD.run cfg L d (JSer.compact cfg v)).1 = .ok ∧
    (JDD.run cfg L d (JSer.compact cfg v)).2.2 = (JSer.compact cfg v).length ∧
    (JDD.run cfg L d (JSer.compact cfg v)).2.1.toVal (JDD.run cfg L d (JSer.compact cfg v)).2.1.root =
      readBack cfg v ∧
    CloseDoc v ((JDD.run cfg L d (JSer.compact cfg v)).2.1.toVal (JDD.run cfg L d (JSer.compact cfg v)).2.1.root) ∧
    (NoFloat v →
      (JDD.run cfg L d (JSer.compact cfg v)).2.1.toVal (JDD.run cfg L d (JSer.compact cfg v)).2.1.root = normInt v ∧
      Cmp.compare ((JDD.run cfg L d (JSer.compact cfg v)).2.1.toVal
        (JDD.run cfg L d (JSer.compact cfg v)).2.1.root) v = .equal ∧
      Cmp.compare v ((JDD.run cfg L d (JSer.compact cfg v)).2.1.toVal
        (JDD.run cfg L d (JSer.compact cfg v)).2.1.root) = .equal) := by
  obtain ⟨a, b, c⟩ := (C01.slot_level_refines cfg L d (JSer.compact cfg v) gok hp h31).1 hno
  obtain ⟨r, cd, nf⟩ := json_of_document cfg L v hcfg h2 h5 h3 hf h4 hd
  rw [a, b, c, r]
  refine ⟨rfl, rfl, rfl, cd, fun h1 => ?_⟩
  obtain ⟨e1, e2, e3, _, _⟩ := nf h1
  exact ⟨e1, e2, e3⟩

/-- **C07 MessagePack round trip, slot level** (from `C07.msgpack_roundtrip`, i.e. `C09.roundtrip`):
    `deserializeMsgPack(serializeMsgPack(v))` into ANY document with an allocator that does not fail: `Ok`, exactly the
    bytes written consumed (whatever follows), and the document left reads back as `C09.norm v`. -/
theorem msgpack_roundtrip_slot_level (env : MD.Env) (L : Nat) (v : Val) (hr : C09.RawFree v)
    (hw : C09.WithinLimits env v) (hd : C09.depth v ≤ L) (rest : List Byte) (d : Doc) (gok : PL.GeoOK d.g)
    (hp : PL.Inv d.g d.pl) (hno : (MDD.run env L d (MD.ser v ++ rest)).2.1.overflowed = false) :
    (MDD.run env L d (MD.ser v ++ rest)).1 = .ok ∧ (MDD.run env L d (MD.ser v ++ rest)).2.2 = (MD.ser v).length ∧
    (MDD.run env L d (MD.ser v ++ rest)).2.1.toVal (MDD.run env L d (MD.ser v ++ rest)).2.1.root = C09.norm v :=
  SlotCor.of_value ((C09.slot_level_refines env L d (MD.ser v ++ rest) gok hp).1 hno)
    (msgpack_roundtrip env L v hr hw hd rest)

/-- **C07 cross-format round trip, slot level** (from `C07.cross_format`). A JSON text `t` deserialized with `Ok` into a
    document `d` (`Ok` excludes an allocation failure) leaves the value `V := toVal root`; `serializeMsgPack` of it,
    followed by anything, deserialized into ANY document `d'` with an allocator that does not fail: `Ok`, exactly the bytes
    written consumed, and `d'` reads back as `C09.norm V`; if `V` holds no NaN, `norm V == V` and `V == norm V`. -/
theorem cross_format_slot_level (cfg : Cfg) (env : MD.Env) (L L' : Nat) (t : List Byte) (h31 : 31 ≤ cfg.maxStrLen)
    (d : Doc) (gok : PL.GeoOK d.g) (hp : PL.Inv d.g d.pl) (d' : Doc) (gok' : PL.GeoOK d'.g) (hp' : PL.Inv d'.g d'.pl)
    (hok : (JDD.run cfg L d t).1 = .ok) (hm : cfg.maxStrLen ≤ env.maxStrLen) (hL : L ≤ L') (ht : t.length < 2^32)
    (rest : List Byte)
    (hno' : (MDD.run env L' d'
      (MD.ser ((JDD.run cfg L d t).2.1.toVal (JDD.run cfg L d t).2.1.root) ++ rest)).2.1.overflowed = false) :
    let V := (JDD.run cfg L d t).2.1.toVal (JDD.run cfg L d t).2.1.root
    let R := MDD.run env L' d' (MD.ser V ++ rest)
    R.1 = .ok ∧ R.2.2 = (MD.ser V).length ∧ R.2.1.toVal R.2.1.root = C09.norm V ∧
    (CrossFormat.NoNaN V →
      Cmp.compare (R.2.1.toVal R.2.1.root) V = .equal ∧ Cmp.compare V (R.2.1.toVal R.2.1.root) = .equal ∧
      C18.vEq (R.2.1.toVal R.2.1.root) V = true ∧ C18.vEq V (R.2.1.toVal R.2.1.root) = true) := by
  intro V R
  obtain ⟨hok0, _, hV⟩ := C01.ok_refines cfg L d t gok hp h31 hok
  obtain ⟨x, y⟩ := cross_format cfg env L L' t hok0 hm hL ht rest
  have hVe : (JD.run cfg L t).2.1 = V := hV.symm
  -- `V` and `R` are made opaque: with their values visible, matching the refinement against `R` unfolds both runs
  have eR : R = MDD.run env L' d' (MD.ser V ++ rest) := rfl
  have hnoV : (MDD.run env L' d' (MD.ser V ++ rest)).2.1.overflowed = false := hno'
  clear_value R V
  rw [hVe] at x y
  obtain ⟨a, b, c⟩ := SlotCor.of_value ((C09.slot_level_refines env L' d' (MD.ser V ++ rest) gok' hp').1 hnoV) x
  rw [← eR] at a b c
  rw [c]
  exact ⟨a, b, rfl, y⟩

end C07

/-! ## C12 — number literals arrive in the document -/
namespace C12
open DL JDD
open JD (Byte Val Cfg Code)
open Spec.Dialect (DWs Value NumTok Trailer)

theorem numCh_ne_n {c : UInt8} (h : JD.NumCh c) : c ≠ 0x6E := by
  rintro rfl
  rcases h with ⟨_, h2⟩ | h | h | h | h | h
  · exact absurd h2 (by decide)
  all_goals exact absurd h (by decide)

theorem head_ne_n {lit : List UInt8} (h : ∀ c ∈ lit, JD.NumCh c) : lit.head? ≠ some 0x6E :=
  fun h0 => numCh_ne_n (h _ (List.mem_of_mem_head? h0)) rfl

theorem numCh_of_digits {ds : List UInt8} (h : Digits.AllDigits ds) : ∀ c ∈ ds, JD.NumCh c :=
  fun c hc => Or.inl (h c hc)

theorem numCh_frac {f : List UInt8} (hf : Spec.Json.FracPart f) : ∀ c ∈ f, JD.NumCh c := by
  rcases hf with rfl | ⟨ds, hd, rfl⟩
  · exact fun c hc => nomatch hc
  · exact List.forall_mem_cons.mpr ⟨.inr (.inr (.inr (.inl rfl))), numCh_of_digits hd.2⟩

theorem numCh_exp {e : List UInt8} (he : Spec.Json.ExpPart e) : ∀ c ∈ e, JD.NumCh c := by
  rcases he with rfl | ⟨x, sg, ds, hx, hsg, hd, rfl⟩
  · exact fun c hc => nomatch hc
  · refine List.forall_mem_cons.mpr ⟨?_, List.forall_mem_append.mpr ⟨?_, numCh_of_digits hd.2⟩⟩
    · rcases hx with rfl | rfl
      · exact .inr (.inr (.inr (.inr (.inl rfl))))
      · exact .inr (.inr (.inr (.inr (.inr rfl))))
    · rcases hsg with rfl | rfl | rfl
      · exact fun c hc => nomatch hc
      · exact List.forall_mem_singleton.mpr (.inr (.inl rfl))
      · exact List.forall_mem_singleton.mpr (.inr (.inr (.inl rfl)))

/-- the bytes of `-? ip f e` -/
theorem numCh_literal (neg : Bool) {ip f e : List UInt8} (hip : Digits.AllDigits ip) (hf : Spec.Json.FracPart f)
    (he : Spec.Json.ExpPart e) : ∀ c ∈ (if neg then [0x2D] else []) ++ ip ++ f ++ e, JD.NumCh c := by
  refine List.forall_mem_append.mpr ⟨List.forall_mem_append.mpr ⟨List.forall_mem_append.mpr
    ⟨?_, numCh_of_digits hip⟩, numCh_frac hf⟩, numCh_exp he⟩
  cases neg
  · exact fun c hc => nomatch hc
  · exact List.forall_mem_singleton.mpr (.inr (.inr (.inl rfl)))

/-! what `numDen` stores for each result of `parseNumber` -/
section
variable {cfg : Cfg} {lit : List UInt8}
open Spec.Dialect (numDen)

theorem numDen_uint {n : Nat} (h : JD.parseNumber cfg lit = .uint n) : numDen cfg lit = some (.num (.uint n)) := by
  unfold numDen; rw [h]

theorem numDen_sint {n : Int} (h : JD.parseNumber cfg lit = .sint n) : numDen cfg lit = some (.num (.sint n)) := by
  unfold numDen; rw [h]

theorem numDen_f32 {b : Nat} (h : JD.parseNumber cfg lit = .f32 b) : numDen cfg lit = some (.num (.f32 b)) := by
  unfold numDen; rw [h]

theorem numDen_f64 {b : Nat} (h : JD.parseNumber cfg lit = .f64 b) :
    numDen cfg lit = some (.num (JD.storeDouble b)) := by
  unfold numDen; rw [h]

end

/-- the slot-level run on `white space ++ number token ++ trailer`: `Ok`, the number at the root, the token and (if there
    is one) the look-ahead byte consumed -/
theorem number_token_slot_level (cfg : Cfg) (h31 : 31 ≤ cfg.maxStrLen) (L : Nat) {lit : List UInt8} {n : JD.Num}
    (hb : ∀ c ∈ lit, JD.NumCh c) (hlen : lit.length ≤ 63) (hden : Spec.Dialect.numDen cfg lit = some (.num n))
    (w rest : List UInt8) (hw : DWs cfg w) (htr : rest.headD 0 = 0 ∨ JD.isWs (rest.headD 0) = true)
    (d : Doc) (gok : PL.GeoOK d.g) (hp : PL.Inv d.g d.pl)
    (hno : (JDD.run cfg L d (w ++ lit ++ rest : List UInt8)).2.1.overflowed = false) :
    (JDD.run cfg L d (w ++ lit ++ rest : List UInt8)).1 = .ok ∧
    (JDD.run cfg L d (w ++ lit ++ rest : List UInt8)).2.2 = w.length + lit.length + min 1 rest.length ∧
    (JDD.run cfg L d (w ++ lit ++ rest : List UInt8)).2.1.toVal (JDD.run cfg L d (w ++ lit ++ rest : List UInt8)).2.1.root = .num n :=
  have tok : NumTok cfg lit (.num n) := ⟨hlen, fun c hc => JD.inNumber_numCh cfg (hb c hc), head_ne_n hb, hden⟩
  SlotCor.of_value ((C01.slot_level_refines cfg L d (w ++ lit ++ rest : List UInt8) gok hp h31).1 hno)
    (C16.run_doc cfg (L := L) (rest := rest) hw (Value.num L lit _ tok) (fun _ => htr))

/-- **C12, slot level (unsigned).** Every integer literal `n < 2^64`, written with any number `k` of leading zeros (the
    token fits the 63-byte number buffer), after white space / comments `w` and followed by the end of the input, a NUL or
    white space, read by `JDD.run` into ANY document with an allocator that does not fail: `Ok`, and exactly the integer
    `n` (unsigned) is at the root. -/
theorem integer_literal_slot_level (cfg : Cfg) (h31 : 31 ≤ cfg.maxStrLen) (L : Nat) (n k : Nat) (h : n < 2 ^ 64)
    (hlen : (List.replicate k (0x30 : UInt8) ++ JS.digits n).length ≤ 63)
    (w rest : List UInt8) (hw : DWs cfg w) (htr : rest.headD 0 = 0 ∨ JD.isWs (rest.headD 0) = true)
    (d : Doc) (gok : PL.GeoOK d.g) (hp : PL.Inv d.g d.pl)
    (hno : (JDD.run cfg L d (w ++ (List.replicate k 0x30 ++ JS.digits n) ++ rest : List UInt8)).2.1.overflowed = false) :
    (JDD.run cfg L d (w ++ (List.replicate k 0x30 ++ JS.digits n) ++ rest : List UInt8)).1 = .ok ∧
    (JDD.run cfg L d (w ++ (List.replicate k 0x30 ++ JS.digits n) ++ rest : List UInt8)).2.1.toVal
      (JDD.run cfg L d (w ++ (List.replicate k 0x30 ++ JS.digits n) ++ rest : List UInt8)).2.1.root = .num (.uint n) := by
  obtain ⟨a, _, c⟩ := number_token_slot_level cfg h31 L (numCh_of_digits (Digits.zeros_digits k n).1) hlen
    (numDen_uint (uint_parse cfg n k h)) w rest hw htr d gok hp hno
  exact ⟨a, c⟩

/-- **C12, slot level (signed).** `-` followed by any number of zeros and the digits of `n ≤ 2^63` leaves exactly the
    signed integer `-n` at the root (for `n = 0`: `-0` is the signed integer 0). -/
theorem negative_integer_literal_slot_level (cfg : Cfg) (h31 : 31 ≤ cfg.maxStrLen) (L : Nat) (n k : Nat)
    (h : n ≤ 2 ^ 63) (hlen : (0x2D :: (List.replicate k (0x30 : UInt8) ++ JS.digits n)).length ≤ 63)
    (w rest : List UInt8) (hw : DWs cfg w) (htr : rest.headD 0 = 0 ∨ JD.isWs (rest.headD 0) = true)
    (d : Doc) (gok : PL.GeoOK d.g) (hp : PL.Inv d.g d.pl)
    (hno : (JDD.run cfg L d (w ++ (0x2D :: (List.replicate k 0x30 ++ JS.digits n)) ++ rest : List UInt8)).2.1.overflowed = false) :
    (JDD.run cfg L d (w ++ (0x2D :: (List.replicate k 0x30 ++ JS.digits n)) ++ rest : List UInt8)).1 = .ok ∧
    (JDD.run cfg L d (w ++ (0x2D :: (List.replicate k 0x30 ++ JS.digits n)) ++ rest : List UInt8)).2.1.toVal
      (JDD.run cfg L d (w ++ (0x2D :: (List.replicate k 0x30 ++ JS.digits n)) ++ rest : List UInt8)).2.1.root =
        .num (.sint (-(n : Int))) := by
  have hb : ∀ c ∈ (0x2D :: (List.replicate k (0x30 : UInt8) ++ JS.digits n)), JD.NumCh c :=
    List.forall_mem_cons.mpr ⟨.inr (.inr (.inl rfl)), numCh_of_digits (Digits.zeros_digits k n).1⟩
  obtain ⟨a, _, c⟩ := number_token_slot_level cfg h31 L hb hlen (numDen_sint (sint_parse' cfg n k h)) w rest hw htr
    d gok hp hno
  exact ⟨a, c⟩

/-- the serializer's text of a 64-bit unsigned integer (20 digits at most: the length hypothesis is discharged), alone in
    the input, leaves that integer at the root -/
theorem printed_integer_slot_level (cfg : Cfg) (h31 : 31 ≤ cfg.maxStrLen) (L : Nat) (n : Nat) (h : n < 2 ^ 64)
    (d : Doc) (gok : PL.GeoOK d.g) (hp : PL.Inv d.g d.pl)
    (hno : (JDD.run cfg L d (JS.printNum cfg (.uint n))).2.1.overflowed = false) :
    (JDD.run cfg L d (JS.printNum cfg (.uint n))).1 = .ok ∧
    (JDD.run cfg L d (JS.printNum cfg (.uint n))).2.1.toVal (JDD.run cfg L d (JS.printNum cfg (.uint n))).2.1.root =
      .num (.uint n) := by
  have e : JS.printNum cfg (.uint n) = [] ++ (List.replicate 0 0x30 ++ JS.digits n) ++ [] := by
    rw [int_print_unsigned]; simp
  rw [e] at hno ⊢
  exact integer_literal_slot_level cfg h31 L n 0 h
    (by have := FloatLen.digits_length_le_20 n h; simp only [List.replicate_zero, List.nil_append]; omega)
    [] [] DWs.nil (Or.inl rfl) d gok hp hno

/-- **C12, slot level (the binary64 path, from `C12.parse_double_error`).** For every literal `-? ip f e` (exponent below
    the saturation threshold, at most 63 bytes) whose value `v` satisfies `1e-300 ≤ |v| ≤ 1e300`, after white space and
    followed by the end of the input, a NUL or white space: the slot-level run answers `Ok` and the root holds the exact
    integer, a float, or a double; and WHENEVER `parseNumber` produced a binary64 pattern `bits`, the root holds
    `storeDouble bits` where `bits` is a finite datum of the sign of the literal with `|r − v| ≤ 1e-13·|v|`. -/
theorem double_literal_slot_level (cfg : Cfg) (h31 : 31 ≤ cfg.maxStrLen) (L : Nat) (neg : Bool) {ip f e : List UInt8}
    (hip : Digits.AllDigits ip) (hne : ip ≠ []) (hf : Spec.Json.FracPart f) (he : Spec.Json.ExpPart e)
    (hx : (JD.expVal e).natAbs < 100000)
    (hlo : (10 : ℚ) ^ (-300 : Int) ≤ litAbs ip f e) (hhi : litAbs ip f e ≤ (10 : ℚ) ^ (300 : Int))
    (hlen : ((if neg then [0x2D] else []) ++ ip ++ f ++ e).length ≤ 63)
    (w rest : List UInt8) (hw : DWs cfg w) (htr : rest.headD 0 = 0 ∨ JD.isWs (rest.headD 0) = true)
    (d : Doc) (gok : PL.GeoOK d.g) (hp : PL.Inv d.g d.pl)
    (hno : (JDD.run cfg L d (w ++ ((if neg then [0x2D] else []) ++ ip ++ f ++ e) ++ rest : List UInt8)).2.1.overflowed = false) :
    let lit := (if neg then [0x2D] else []) ++ ip ++ f ++ e
    let R := JDD.run cfg L d (w ++ lit ++ rest : List UInt8)
    R.1 = .ok ∧
    (R.2.1.toVal R.2.1.root = .num (.uint (Digits.decVal ip)) ∨
      R.2.1.toVal R.2.1.root = .num (.sint (-(Digits.decVal ip : Int))) ∨
      (∃ bits, R.2.1.toVal R.2.1.root = .num (.f32 bits)) ∨
      (∃ bits, JD.parseNumber cfg lit = .f64 bits ∧ R.2.1.toVal R.2.1.root = .num (JD.storeDouble bits) ∧
        ∃ (m : Nat) (ex : Int), SF.decode SF.b64 bits = .fin neg m ex ∧ m ≠ 0 ∧
          |sval neg m ex - litVal neg ip f e| ≤ 1 / 10 ^ 13 * |litVal neg ip f e|)) := by
  intro lit R
  -- `lit` and `R` are made opaque: with their values visible, comparing the two spellings of the run unfolds `JDD.run`
  have elit : lit = (if neg then [0x2D] else []) ++ ip ++ f ++ e := rfl
  have eR : R = JDD.run cfg L d (w ++ lit ++ rest : List UInt8) := rfl
  clear_value R lit
  rw [← elit] at hno hlen
  have hb : ∀ c ∈ lit, JD.NumCh c := elit ▸ numCh_literal neg hip hf he
  obtain ⟨h1, h2⟩ := parse_double_error cfg neg hip hne hf he hx hlo hhi
  rw [← elit] at h1 h2
  have key : ∀ n : JD.Num, Spec.Dialect.numDen cfg lit = some (.num n) →
      R.1 = .ok ∧ R.2.1.toVal R.2.1.root = .num n := by
    intro n hden
    obtain ⟨a, _, c⟩ := number_token_slot_level cfg h31 L hb hlen hden w rest hw htr d gok hp hno
    rw [← eR] at a c
    exact ⟨a, c⟩
  rcases h1 with h1 | h1 | ⟨bits, h1⟩ | ⟨bits, h1⟩
  · obtain ⟨a, c⟩ := key _ (numDen_uint h1)
    exact ⟨a, Or.inl c⟩
  · obtain ⟨a, c⟩ := key _ (numDen_sint h1)
    exact ⟨a, Or.inr (Or.inl c)⟩
  · obtain ⟨a, c⟩ := key _ (numDen_f64 h1)
    exact ⟨a, Or.inr (Or.inr (Or.inr ⟨bits, h1, c, h2 bits h1⟩))⟩
  · obtain ⟨a, c⟩ := key _ (numDen_f32 h1)
    exact ⟨a, Or.inr (Or.inr (Or.inl ⟨bits, c⟩))⟩

end C12

/-! ## C16 — one call consumes one document; successive calls into the same document -/
namespace C16
open DL JDD
open JD (Byte Val Cfg Code)

/-- **C16, slot level (JSON, from `C16.exact_consumption`).** Whatever follows a (non-number) RFC 8259 value — more
    documents, garbage, nothing — the slot-level run with an allocator that does not fail answers `Ok`, has taken exactly
    the bytes of the leading white space and of the value, and leaves the value in the document. -/
theorem exact_consumption_slot_level (cfg : Cfg) (hu : cfg.decodeUnicode = true) (h31 : 31 ≤ cfg.maxStrLen) {L : Nat}
    {t : List Byte} {v : Val} (h : Spec.Json.Value cfg L t v) (hn : JD.isNumberVal v = false) (w rest : List Byte)
    (hw : Spec.Json.Ws w) (d : Doc) (gok : PL.GeoOK d.g) (hp : PL.Inv d.g d.pl)
    (hno : (JDD.run cfg L d (w ++ t ++ rest)).2.1.overflowed = false) :
    (JDD.run cfg L d (w ++ t ++ rest)).1 = .ok ∧ (JDD.run cfg L d (w ++ t ++ rest)).2.2 = w.length + t.length ∧
    (JDD.run cfg L d (w ++ t ++ rest)).2.1.toVal (JDD.run cfg L d (w ++ t ++ rest)).2.1.root = v :=
  SlotCor.of_value ((C01.slot_level_refines cfg L d (w ++ t ++ rest) gok hp h31).1 hno)
    (exact_consumption cfg hu h hn w rest hw)

/-- for a number the deserializer looks one byte further and takes that byte from the reader (if there is one) -/
theorem exact_consumption_number_slot_level (cfg : Cfg) (h31 : 31 ≤ cfg.maxStrLen) {L : Nat} {t : List Byte}
    (h : Spec.Json.NumLit t) (w rest : List Byte) (hw : Spec.Json.Ws w) (hd : JD.Delim cfg rest)
    (d : Doc) (gok : PL.GeoOK d.g) (hp : PL.Inv d.g d.pl)
    (hno : (JDD.run cfg L d (w ++ t ++ rest)).2.1.overflowed = false) :
    (JDD.run cfg L d (w ++ t ++ rest)).2.1.toVal (JDD.run cfg L d (w ++ t ++ rest)).2.1.root = Spec.Json.numVal cfg t ∧
    (JDD.run cfg L d (w ++ t ++ rest)).2.2 = w.length + t.length + min 1 rest.length := by
  obtain ⟨_, b, c⟩ := (C01.slot_level_refines cfg L d (w ++ t ++ rest) gok hp h31).1 hno
  rw [b, c]
  exact exact_consumption_number cfg h w rest hw hd

/-- the same for the dialect (comments, single quotes, lenient numbers; from `C16.run_doc`): `|w| + |body|` bytes, one
    more after a number if there is one -/
theorem dialect_consumption_slot_level (cfg : Cfg) (h31 : 31 ≤ cfg.maxStrLen) {L : Nat} {w body rest : List Byte}
    {v : Val} (hw : Spec.Dialect.DWs cfg w) (hv : Spec.Dialect.Value cfg L body v) (htr : Spec.Dialect.Trailer v rest)
    (d : Doc) (gok : PL.GeoOK d.g) (hp : PL.Inv d.g d.pl)
    (hno : (JDD.run cfg L d (w ++ body ++ rest)).2.1.overflowed = false) :
    (JDD.run cfg L d (w ++ body ++ rest)).1 = .ok ∧
    (JDD.run cfg L d (w ++ body ++ rest)).2.2 =
      w.length + body.length + (if JD.isNumberVal v then min 1 rest.length else 0) ∧
    (JDD.run cfg L d (w ++ body ++ rest)).2.1.toVal (JDD.run cfg L d (w ++ body ++ rest)).2.1.root = v :=
  SlotCor.of_value ((C01.slot_level_refines cfg L d (w ++ body ++ rest) gok hp h31).1 hno) (run_doc cfg hw hv htr)

/-- **C16, slot level (MessagePack, from `C16.msgpack_exact_consumption`)**: exactly the bytes of one object are consumed,
    and code and document do not depend on what follows (nor on the document deserialized into) -/
theorem msgpack_exact_consumption_slot_level (env : MD.Env) (L : Nat) (v : Val) (hr : C09.RawFree v)
    (hw : C09.WithinLimits env v) (hd : C09.depth v ≤ L) (rest rest' : List Byte)
    (d : Doc) (gok : PL.GeoOK d.g) (hp : PL.Inv d.g d.pl) (d' : Doc) (gok' : PL.GeoOK d'.g) (hp' : PL.Inv d'.g d'.pl)
    (hno : (MDD.run env L d (MD.ser v ++ rest)).2.1.overflowed = false)
    (hno' : (MDD.run env L d' (MD.ser v ++ rest')).2.1.overflowed = false) :
    (MDD.run env L d (MD.ser v ++ rest)).2.2 = (MD.ser v).length ∧
    (MDD.run env L d (MD.ser v ++ rest)).1 = (MDD.run env L d' (MD.ser v ++ rest')).1 ∧
    (MDD.run env L d (MD.ser v ++ rest)).2.1.toVal (MDD.run env L d (MD.ser v ++ rest)).2.1.root =
      (MDD.run env L d' (MD.ser v ++ rest')).2.1.toVal (MDD.run env L d' (MD.ser v ++ rest')).2.1.root := by
  obtain ⟨a, b, c⟩ := (C09.slot_level_refines env L d (MD.ser v ++ rest) gok hp).1 hno
  obtain ⟨a', _, c'⟩ := (C09.slot_level_refines env L d' (MD.ser v ++ rest') gok' hp').1 hno'
  rw [a, b, c, a', c']
  exact msgpack_exact_consumption env L v hr hw hd rest rest'

/-! ### successive calls INTO THE SAME DOCUMENT

   `streamDoc f k d t`: the loop `C16.stream` (AJ/Lemmas/StreamSeq.lean) at slot level: at most `k` calls of the slot-level
   deserializer `f`, each on the bytes the previous call left AND INTO THE DOCUMENT the previous call left (the call clears
   it and reuses its pools), recording the code and the value the document reads back as after each call. -/

/-- at most `k` successive calls on one stream into one document -/
def streamDoc (f : Doc → List Byte → Code × Doc × Nat) : Nat → Doc → List Byte → List (Code × Val)
  | 0, _, _ => []
  | k + 1, d, t =>
    ((f d t).1, (f d t).2.1.toVal (f d t).2.1.root) ::
      (if (f d t).1 = .ok then
        (if t.drop (f d t).2.2 = [] then [] else streamDoc f k (f d t).2.1 (t.drop (f d t).2.2))
       else [])

/-- none of the calls the loop makes meets an allocation failure -/
def NoFail (f : Doc → List Byte → Code × Doc × Nat) : Nat → Doc → List Byte → Prop
  | 0, _, _ => True
  | k + 1, d, t =>
    (f d t).2.1.overflowed = false ∧
      ((f d t).1 = .ok → t.drop (f d t).2.2 ≠ [] → NoFail f k (f d t).2.1 (t.drop (f d t).2.2))

/-- a call leaves a document with the geometry it was given and a pool that satisfies its invariant: the next call may
    start from it -/
theorem run_keeps (cfg : Cfg) (L : Nat) (d : Doc) (t : List Byte) (gok : PL.GeoOK d.g) (hp : PL.Inv d.g d.pl) :
    PL.GeoOK (JDD.run cfg L d t).2.1.g ∧ PL.Inv (JDD.run cfg L d t).2.1.g (JDD.run cfg L d t).2.1.pl := by
  obtain ⟨F, w, _⟩ := JDD.run_wf cfg L t gok hp
  exact ⟨by rw [JDD.run_g cfg L t gok hp]; exact gok, w.pool⟩

theorem mp_run_keeps (env : MD.Env) (L : Nat) (d : Doc) (t : List Byte) (gok : PL.GeoOK d.g) (hp : PL.Inv d.g d.pl) :
    PL.GeoOK (MDD.run env L d t).2.1.g ∧ PL.Inv (MDD.run env L d t).2.1.g (MDD.run env L d t).2.1.pl := by
  obtain ⟨F, w, _⟩ := MDD.mp_run_wf env L t gok hp
  exact ⟨by rw [MDD.mp_run_g env L t gok hp]; exact gok, w.pool⟩

/-- generic step: if every call without allocation failure keeps the invariant `I` of the document and agrees with the
    value-level `g`, the slot-level loop is the value-level loop -/
theorem streamDoc_refines (f : Doc → List Byte → Code × Doc × Nat) (g : List Byte → Code × Val × Nat)
    (I : Doc → Prop)
    (hstep : ∀ d t, I d → (f d t).2.1.overflowed = false →
      I (f d t).2.1 ∧ (f d t).1 = (g t).1 ∧ (f d t).2.2 = (g t).2.2 ∧ (f d t).2.1.toVal (f d t).2.1.root = (g t).2.1) :
    ∀ (k : Nat) (d : Doc) (t : List Byte), I d → NoFail f k d t → streamDoc f k d t = stream g k t := by
  intro k
  induction k with
  | zero => intro d t _ _; rfl
  | succ k ih =>
    intro d t hI hnf
    obtain ⟨hno, hrest⟩ := hnf
    obtain ⟨hI', a, b, c⟩ := hstep d t hI hno
    rw [streamDoc, stream, c]
    by_cases h1 : (f d t).1 = .ok
    · by_cases h2 : t.drop (f d t).2.2 = []
      · rw [if_pos h1, if_pos h2, ← a, ← b, if_pos h1, if_pos h2]
      · rw [if_pos h1, if_neg h2, ih _ _ hI' (hrest h1 h2), ← a, ← b, if_pos h1, if_neg h2]
    · rw [if_neg h1, ← a, if_neg h1]

/-- **C16, slot level: successive `deserializeJson` calls into the same document.** `k` calls of `JDD.run`, each on what
    the previous one left of the input and INTO THE DOCUMENT the previous one left, none of them meeting an allocation
    failure: the codes and the values the document reads back as after each call are exactly those of the value-level loop
    `C16.stream (JD.run cfg L)` — to which all the sequence theorems of AJ/Props/C16Seq.lean apply. -/
theorem sequence_slot_level (cfg : Cfg) (h31 : 31 ≤ cfg.maxStrLen) (L : Nat) (k : Nat) (d : Doc) (t : List Byte)
    (gok : PL.GeoOK d.g) (hp : PL.Inv d.g d.pl) (hnf : NoFail (JDD.run cfg L) k d t) :
    streamDoc (JDD.run cfg L) k d t = stream (JD.run cfg L) k t := by
  refine streamDoc_refines (JDD.run cfg L) (JD.run cfg L) (fun d => PL.GeoOK d.g ∧ PL.Inv d.g d.pl) ?_ k d t
    ⟨gok, hp⟩ hnf
  intro d t ⟨gok, hp⟩ hno
  exact ⟨run_keeps cfg L d t gok hp, (C01.slot_level_refines cfg L d t gok hp h31).1 hno⟩

/-- **C16, slot level: NDJSON / JSON Lines / concatenated JSON into one document** (from `C16.json_sequence`): `n ≥ 1`
    documents `w_i ++ body_i` of the dialect followed by white space `tail`, separator condition `Sep` (after a number
    only). For every `k`, `k` calls into the same document return the first `k` of `(Ok, v_1), …, (Ok, v_n),
    (EmptyInput, null)` (the last entry only if something is left of `tail`). -/
theorem json_sequence_slot_level (cfg : Cfg) (h31 : 31 ≤ cfg.maxStrLen) (L : Nat) (ds : List JDoc)
    (tail : List Byte) (hne : ds ≠ []) (hok : ∀ x ∈ ds, x.OK cfg L) (htail : Spec.Dialect.DWs cfg tail)
    (hsep : Sep ds tail) (k : Nat) (d : Doc) (gok : PL.GeoOK d.g) (hp : PL.Inv d.g d.pl)
    (hnf : NoFail (JDD.run cfg L) k d (cat ds tail)) :
    streamDoc (JDD.run cfg L) k d (cat ds tail) =
      (ds.map (fun x => (Code.ok, x.v)) ++ (if left ds tail = [] then [] else [(Code.empty, Val.null)])).take k := by
  rw [sequence_slot_level cfg h31 L k d _ gok hp hnf]
  exact json_sequence cfg L ds tail hne hok htail hsep k

/-- two documents, with the result of the first call named (`R1`) -/
theorem two_documents_aux (cfg : Cfg) (h31 : 31 ≤ cfg.maxStrLen) (L : Nat) {w1 b1 w2 b2 rest : List Byte}
    {v1 v2 : Val} (hw1 : Spec.Dialect.DWs cfg w1) (hv1 : Spec.Dialect.Value cfg L b1 v1)
    (hn1 : JD.isNumberVal v1 = false) (hw2 : Spec.Dialect.DWs cfg w2) (hv2 : Spec.Dialect.Value cfg L b2 v2)
    (htr : Spec.Dialect.Trailer v2 rest) (d : Doc) (gok : PL.GeoOK d.g) (hp : PL.Inv d.g d.pl)
    (R1 : Code × Doc × Nat) (hR1 : R1 = JDD.run cfg L d (w1 ++ b1 ++ (w2 ++ b2 ++ rest)))
    (hno1 : R1.2.1.overflowed = false)
    (hno2 : (JDD.run cfg L R1.2.1 ((w1 ++ b1 ++ (w2 ++ b2 ++ rest)).drop R1.2.2)).2.1.overflowed = false) :
    R1.1 = .ok ∧ R1.2.1.toVal R1.2.1.root = v1 ∧
    (JDD.run cfg L R1.2.1 ((w1 ++ b1 ++ (w2 ++ b2 ++ rest)).drop R1.2.2)).1 = .ok ∧
    (JDD.run cfg L R1.2.1 ((w1 ++ b1 ++ (w2 ++ b2 ++ rest)).drop R1.2.2)).2.1.toVal
      (JDD.run cfg L R1.2.1 ((w1 ++ b1 ++ (w2 ++ b2 ++ rest)).drop R1.2.2)).2.1.root = v2 ∧
    (w1 ++ b1 ++ (w2 ++ b2 ++ rest)).drop R1.2.2 = w2 ++ b2 ++ rest := by
  obtain ⟨a1, a2, a3⟩ := dialect_consumption_slot_level cfg h31 hw1 hv1
    (trailer_of_not_number hn1 (w2 ++ b2 ++ rest)) d gok hp (hR1 ▸ hno1)
  obtain ⟨gok1, hp1⟩ := run_keeps cfg L d (w1 ++ b1 ++ (w2 ++ b2 ++ rest)) gok hp
  rw [← hR1] at a1 a2 a3 gok1 hp1
  have hdrop : (w1 ++ b1 ++ (w2 ++ b2 ++ rest)).drop R1.2.2 = w2 ++ b2 ++ rest := by
    rw [a2, hn1, if_neg Bool.false_ne_true, Nat.add_zero, ← List.length_append, List.drop_left]
  rw [hdrop] at hno2 ⊢
  obtain ⟨c1, _, c3⟩ := dialect_consumption_slot_level cfg h31 hw2 hv2 htr R1.2.1 gok1 hp1 hno2
  exact ⟨a1, a3, c1, c3, rfl⟩

/-- two documents, spelled out: `w1 body1 w2 body2 rest` (the first value not a number, so that no separator is needed;
    after the second the trailer condition) read by two calls into the same document: both `Ok`, the document reads back
    as `v1` after the first call and as `v2` after the second, which started from the document holding `v1`. -/
theorem two_documents_slot_level (cfg : Cfg) (h31 : 31 ≤ cfg.maxStrLen) (L : Nat) {w1 b1 w2 b2 rest : List Byte}
    {v1 v2 : Val} (hw1 : Spec.Dialect.DWs cfg w1) (hv1 : Spec.Dialect.Value cfg L b1 v1)
    (hn1 : JD.isNumberVal v1 = false) (hw2 : Spec.Dialect.DWs cfg w2) (hv2 : Spec.Dialect.Value cfg L b2 v2)
    (htr : Spec.Dialect.Trailer v2 rest) (d : Doc) (gok : PL.GeoOK d.g) (hp : PL.Inv d.g d.pl)
    (hno1 : (JDD.run cfg L d (w1 ++ b1 ++ (w2 ++ b2 ++ rest))).2.1.overflowed = false)
    (hno2 : (JDD.run cfg L (JDD.run cfg L d (w1 ++ b1 ++ (w2 ++ b2 ++ rest))).2.1
      ((w1 ++ b1 ++ (w2 ++ b2 ++ rest)).drop
        (JDD.run cfg L d (w1 ++ b1 ++ (w2 ++ b2 ++ rest))).2.2)).2.1.overflowed = false) :
    let input := w1 ++ b1 ++ (w2 ++ b2 ++ rest)
    let r1 := JDD.run cfg L d input
    let r2 := JDD.run cfg L r1.2.1 (input.drop r1.2.2)
    r1.1 = .ok ∧ r1.2.1.toVal r1.2.1.root = v1 ∧ r2.1 = .ok ∧ r2.2.1.toVal r2.2.1.root = v2 ∧
      input.drop r1.2.2 = w2 ++ b2 ++ rest :=
  two_documents_aux cfg h31 L hw1 hv1 hn1 hw2 hv2 htr d gok hp _ rfl hno1 hno2

/-- **C16, slot level: successive `deserializeMsgPack` calls into the same document**: the slot-level loop without
    allocation failure is the value-level loop `C16.stream (MD.run env L .all)` -/
theorem msgpack_stream_slot_level (env : MD.Env) (L : Nat) (k : Nat) (d : Doc) (t : List Byte)
    (gok : PL.GeoOK d.g) (hp : PL.Inv d.g d.pl) (hnf : NoFail (MDD.run env L) k d t) :
    streamDoc (MDD.run env L) k d t = stream (MD.run env L .all) k t := by
  refine streamDoc_refines (MDD.run env L) (MD.run env L .all) (fun d => PL.GeoOK d.g ∧ PL.Inv d.g d.pl) ?_ k d t
    ⟨gok, hp⟩ hnf
  intro d t ⟨gok, hp⟩ hno
  exact ⟨mp_run_keeps env L d t gok hp, (C09.slot_level_refines env L d t gok hp).1 hno⟩

/-- `n ≥ 1` serialized documents back to back, then arbitrary bytes (from `C16.msgpack_sequence_ser`): the calls into
    the same document return `norm v_1, …, norm v_n` and go on with `rest` -/
theorem msgpack_sequence_ser_slot_level (env : MD.Env) (L : Nat) (vs : List Val) (rest : List Byte) (j : Nat)
    (hne : vs ≠ []) (hv : ∀ v ∈ vs, C09.RawFree v ∧ C09.WithinLimits env v ∧ C09.depth v ≤ L)
    (d : Doc) (gok : PL.GeoOK d.g) (hp : PL.Inv d.g d.pl)
    (hnf : NoFail (MDD.run env L) (vs.length + j) d ((vs.map MD.ser).flatten ++ rest)) :
    streamDoc (MDD.run env L) (vs.length + j) d ((vs.map MD.ser).flatten ++ rest) =
      vs.map (fun v => (Code.ok, C09.norm v)) ++ cont (MD.run env L .all) j rest := by
  rw [msgpack_stream_slot_level env L _ d _ gok hp hnf]
  exact msgpack_sequence_ser env L vs rest j hne hv

end C16

/-! ## C17 — `\uXXXX` escapes arrive in the document as UTF-8 -/
namespace C17
open DL JDD
open JD (Byte Val Cfg Code)

/-- **C17, slot level (from `C17.string_document`).** The text `"` body `"` whose body is well formed per RFC 8259
    (`JD.Body`: plain bytes, two-character escapes, `\uXXXX` for BMP code points, surrogate pairs) and denotes the bytes
    `v` (the UTF-8 encoding of the code points), `v` within the string limit, deserialized into ANY document with an
    allocator that does not fail: `Ok`, the whole text consumed, and the document holds the string `v`. -/
theorem unicode_escape_slot_level (cfg : Cfg) (L : Nat) (t v : List Byte) (hcfg : cfg.decodeUnicode = true)
    (hb : JD.Body 0x22 t v) (hlen : v.length ≤ cfg.maxStrLen) (h31 : 31 ≤ cfg.maxStrLen)
    (d : Doc) (gok : PL.GeoOK d.g) (hp : PL.Inv d.g d.pl)
    (hno : (JDD.run cfg L d (0x22 :: t ++ [0x22])).2.1.overflowed = false) :
    (JDD.run cfg L d (0x22 :: t ++ [0x22])).1 = .ok ∧ (JDD.run cfg L d (0x22 :: t ++ [0x22])).2.2 = t.length + 2 ∧
    (JDD.run cfg L d (0x22 :: t ++ [0x22])).2.1.toVal (JDD.run cfg L d (0x22 :: t ++ [0x22])).2.1.root = .str v :=
  SlotCor.of_value ((C01.slot_level_refines cfg L d (0x22 :: t ++ [0x22]) gok hp h31).1 hno)
    (string_document cfg L t v hcfg hb hlen)

/-- the serializer's escaping of ANY byte string (`JSer.writeString`: `\u0000` for NUL, the short escapes, everything else
    verbatim) comes back into the document as that byte string (from `C17.roundtrip_string`) -/
theorem roundtrip_string_slot_level (cfg : Cfg) (L : Nat) (s : List Byte) (hcfg : cfg.decodeUnicode = true)
    (hlen : s.length ≤ cfg.maxStrLen) (h31 : 31 ≤ cfg.maxStrLen) (d : Doc) (gok : PL.GeoOK d.g)
    (hp : PL.Inv d.g d.pl) (hno : (JDD.run cfg L d (JSer.writeString s)).2.1.overflowed = false) :
    (JDD.run cfg L d (JSer.writeString s)).1 = .ok ∧
    (JDD.run cfg L d (JSer.writeString s)).2.1.toVal (JDD.run cfg L d (JSer.writeString s)).2.1.root = .str s := by
  obtain ⟨a, _, c⟩ := (C01.slot_level_refines cfg L d (JSer.writeString s) gok hp h31).1 hno
  rw [a, c, roundtrip_string cfg L s hcfg hlen]
  exact ⟨rfl, rfl⟩

end C17

/-! ## Non-vacuity: the fresh document `C01.ExDoc.dz` (geometry ⟨4, 1, 1⟩), default configuration

   As in AJ/Props/C01Doc.lean: the overflow flag of a slot-level run that touches slot 0 only is evaluated in the kernel;
   everything else comes from the theorems above. -/
namespace C02
open DL JDD C01.ExDoc
open JD (Byte Val Cfg Code)

/-- `serializeJson` of the string `hi` (the text `"hi"`) into `dz` -/
example : (JDD.run {} 10 dz (JSer.compact {} (.str [0x68, 0x69]))).1 = .ok ∧
    (JDD.run {} 10 dz (JSer.compact {} (.str [0x68, 0x69]))).2.1.toVal
      (JDD.run {} 10 dz (JSer.compact {} (.str [0x68, 0x69]))).2.1.root = .str [0x68, 0x69] := by
  have hs : JSer.compact {} (.str [0x68, 0x69]) = hi := by decide +kernel
  have := serialized_text_read_back_slot_level {} rfl h31 10 (.str [0x68, 0x69])
    (by simp only [SerG.Ok]; exact ⟨by decide, by decide⟩) (by decide) dz gok hp (by rw [hs]; exact ov_hi)
  simpa only [SerG.denote] using this

end C02

namespace C07
open DL JDD C01.ExDoc
open JD (Byte Val Cfg Code)

/-- the JSON round trip of `[1]` through `dz` -/
example : (JDD.run {} 10 dz (JSer.compact {} (.arr [.num (.uint 1)]))).1 = .ok ∧
    (JDD.run {} 10 dz (JSer.compact {} (.arr [.num (.uint 1)]))).2.2 = 3 ∧
    (JDD.run {} 10 dz (JSer.compact {} (.arr [.num (.uint 1)]))).2.1.toVal
      (JDD.run {} 10 dz (JSer.compact {} (.arr [.num (.uint 1)]))).2.1.root = readBack {} (.arr [.num (.uint 1)]) := by
  have hs : JSer.compact {} (.arr [.num (.uint 1)]) = arr1 := by decide +kernel
  have := json_roundtrip_slot_level {} 10 (.arr [.num (.uint 1)]) rfl rfl rfl
    (by simp [RawFree, AllV, AllE, AllM, RawFreeS]) (by simp [IntsInRange, AllV, AllE, AllM, IntOkS])
    (by simp [StrsWithin, AllV, AllE, AllM, StrOkS]) (by simp [depth, depthE, depthM]) h31 dz gok hp
    (by rw [hs]; exact ov_arr1)
  rw [hs] at this ⊢
  exact this

/-- the text `[1]` into `dz`, the document serialized to MessagePack (`91 01`) and read into `dz` again -/
example :
    let V := (JDD.run {} 10 dz arr1).2.1.toVal (JDD.run {} 10 dz arr1).2.1.root
    let R := MDD.run {} 10 dz (MD.ser V ++ [])
    R.1 = .ok ∧ R.2.1.toVal R.2.1.root = C09.norm V := by
  obtain ⟨a, _, c⟩ := (C01.slot_level_refines {} 10 dz arr1 gok hp h31).1 ov_arr1
  have hV : (JDD.run {} 10 dz arr1).2.1.toVal (JDD.run {} 10 dz arr1).2.1.root = .arr [.num (.uint 1)] := by
    rw [c]; exact valEq_sound _ _ (by decide +kernel)
  have hok : (JDD.run {} 10 dz arr1).1 = .ok := by rw [a]; decide +kernel
  have hno' : (MDD.run {} 10 dz
      (MD.ser ((JDD.run {} 10 dz arr1).2.1.toVal (JDD.run {} 10 dz arr1).2.1.root) ++ [])).2.1.overflowed = false := by
    rw [hV, show MD.ser (.arr [.num (.uint 1)]) ++ [] = C09.ExDoc.arr1 from by decide +kernel]
    exact C09.ExDoc.ov_arr1
  have := cross_format_slot_level {} {} 10 10 arr1 h31 dz gok hp dz gok hp hok (by decide) (by decide) (by decide) []
    hno'
  exact ⟨this.1, this.2.2.1⟩

end C07

namespace C12
open DL JDD C01.ExDoc
open JD (Byte Val Cfg Code)

/-- the token `0042` read into `dz`: the unsigned integer 42 at the root -/
example : (JDD.run {} 10 dz ([] ++ (List.replicate 2 0x30 ++ JS.digits 42) ++ [] : List UInt8)).1 = .ok ∧
    (JDD.run {} 10 dz ([] ++ (List.replicate 2 0x30 ++ JS.digits 42) ++ [] : List UInt8)).2.1.toVal
      (JDD.run {} 10 dz ([] ++ (List.replicate 2 0x30 ++ JS.digits 42) ++ [] : List UInt8)).2.1.root =
        .num (.uint 42) :=
  integer_literal_slot_level {} h31 10 42 2 (by decide) (by decide +kernel) [] [] Spec.Dialect.DWs.nil (Or.inl rfl) dz gok hp
    (by decide +kernel)

/-- `-7` followed by a space: the signed integer -7 -/
example : (JDD.run {} 10 dz ([] ++ (0x2D :: (List.replicate 0 0x30 ++ JS.digits 7)) ++ [0x20] : List UInt8)).2.1.toVal
      (JDD.run {} 10 dz ([] ++ (0x2D :: (List.replicate 0 0x30 ++ JS.digits 7)) ++ [0x20] : List UInt8)).2.1.root =
        .num (.sint (-7)) :=
  (negative_integer_literal_slot_level {} h31 10 7 0 (by decide) (by decide +kernel) [] [0x20] Spec.Dialect.DWs.nil
    (Or.inr (by decide)) dz gok hp (by decide +kernel)).2

end C12

namespace C16
open DL JDD C01.ExDoc C16.SeqExamples
open JD (Byte Val Cfg Code)

theorem noFail_zero (f : Doc → List Byte → Code × Doc × Nat) (d : Doc) (t : List Byte) : NoFail f 0 d t := trivial

theorem noFail_succ (f : Doc → List Byte → Code × Doc × Nat) (k : Nat) (d : Doc) (t : List Byte) :
    NoFail f (k + 1) d t ↔ ((f d t).2.1.overflowed = false ∧
      ((f d t).1 = .ok → t.drop (f d t).2.2 ≠ [] → NoFail f k (f d t).2.1 (t.drop (f d t).2.2))) := Iff.rfl

/-- `"x"[1]` : two documents without separator -/
def xArr : List Byte := [0x22, 0x78, 0x22, 0x5B, 0x31, 0x5D]

theorem ov_x1 : (JDD.run {} 10 dz xArr).2.1.overflowed = false := by decide +kernel
theorem ov_x2 : (JDD.run {} 10 (JDD.run {} 10 dz xArr).2.1
    (xArr.drop (JDD.run {} 10 dz xArr).2.2)).2.1.overflowed = false := by decide +kernel

/-- two calls into the same document `dz`: after the first it reads back as `"x"`, after the second (which cleared and
    reused it) as `[1]` -/
example :
    (JDD.run {} 10 dz xArr).1 = .ok ∧
    (JDD.run {} 10 dz xArr).2.1.toVal (JDD.run {} 10 dz xArr).2.1.root = .str [0x78] ∧
    (JDD.run {} 10 (JDD.run {} 10 dz xArr).2.1 (xArr.drop (JDD.run {} 10 dz xArr).2.2)).1 = .ok ∧
    (JDD.run {} 10 (JDD.run {} 10 dz xArr).2.1 (xArr.drop (JDD.run {} 10 dz xArr).2.2)).2.1.toVal
      (JDD.run {} 10 (JDD.run {} 10 dz xArr).2.1 (xArr.drop (JDD.run {} 10 dz xArr).2.2)).2.1.root =
        .arr [.num (.uint 1)] := by
  have e : ([] ++ [0x22, 0x78, 0x22] ++ ([] ++ [0x5B, 0x31, 0x5D] ++ []) : List Byte) = xArr := rfl
  have h := two_documents_aux {} h31 10 (w1 := []) (w2 := []) (rest := []) Spec.Dialect.DWs.nil vStrX rfl
    Spec.Dialect.DWs.nil vArr1 (trailer_nil _) dz gok hp (JDD.run {} 10 dz xArr) (by rw [e]) ov_x1
    (by rw [e]; exact ov_x2)
  rw [e] at h
  exact ⟨h.1, h.2.1, h.2.2.1, h.2.2.2.1⟩

/-- the same through the loop: `streamDoc` returns the two documents one after the other, then stops -/
example : streamDoc (JDD.run {} 10) 5 dz xArr = [(.ok, .str [0x78]), (.ok, .arr [.num (.uint 1)])] := by
  have hnf : NoFail (JDD.run {} 10) 5 dz xArr := by
    refine (noFail_succ _ _ _ _).2 ⟨ov_x1, fun _ _ => (noFail_succ _ _ _ _).2 ⟨ov_x2, fun _ h => ?_⟩⟩
    exact absurd (by decide +kernel) h
  have := json_sequence_slot_level {} h31 10 [⟨[], [0x22, 0x78, 0x22], .str [0x78]⟩, ⟨[], [0x5B, 0x31, 0x5D], .arr [.num (.uint 1)]⟩]
    [] (by simp) (by
      intro x hx
      simp only [List.mem_cons, List.not_mem_nil, or_false] at hx
      rcases hx with rfl | rfl
      · exact ⟨Spec.Dialect.DWs.nil, vStrX⟩
      · exact ⟨Spec.Dialect.DWs.nil, vArr1⟩)
    Spec.Dialect.DWs.nil ⟨trailer_of_not_number rfl _, trailer_nil _, trivial⟩ 5 dz gok hp hnf
  exact this

end C16

namespace C17
open DL JDD C01.ExDoc
open JD (Byte Val Cfg Code)

/-- `"é"` into `dz`: the document holds the two UTF-8 bytes C3 A9 -/
example : (JDD.run {} 10 dz [0x22, 0x5C, 0x75, 0x30, 0x30, 0x45, 0x39, 0x22]).1 = .ok ∧
    (JDD.run {} 10 dz [0x22, 0x5C, 0x75, 0x30, 0x30, 0x45, 0x39, 0x22]).2.1.toVal
      (JDD.run {} 10 dz [0x22, 0x5C, 0x75, 0x30, 0x30, 0x45, 0x39, 0x22]).2.1.root = .str [0xC3, 0xA9] := by
  have hb : JD.Body 0x22 [0x5C, 0x75, 0x30, 0x30, 0x45, 0x39] (Spec.utf8 (0 * 4096 + 0 * 256 + 14 * 16 + 9) ++ []) :=
    .bmp 0x30 0x30 0x45 0x39 0 0 14 9 [] [] (by decide) (by decide) (by decide) (by decide) (by decide) .nil
  have e : Spec.utf8 (0 * 4096 + 0 * 256 + 14 * 16 + 9) ++ [] = [0xC3, 0xA9] := by decide +kernel
  rw [e] at hb
  obtain ⟨a, _, c⟩ := unicode_escape_slot_level {} 10 _ _ rfl hb (by decide) h31 dz gok hp (by decide +kernel)
  exact ⟨a, c⟩

end C17
