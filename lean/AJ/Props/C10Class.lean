/- C10, classification of refused inputs — how a text that is not accepted is split between `IncompleteInput` and
   `InvalidInput` (acceptance itself: AJ/Props/C10.lean; `TooDeep`: AJ/Props/C15.lean).

   `text t` is the input up to its first NUL (all of it if there is none); `run cfg L t = (code, document, bytes taken)`.
   For EVERY configuration (comments, nan, inf, decodeUnicode, maxStrLen), nesting limit and input:
   * `nul_is_end`, `run_local`: the end of the input and a NUL are the same thing; the answer depends only on the bytes
     taken from the reader;
   * `never_reads_past_nul`, `incomplete_reads_to_the_end`, `empty_reads_to_the_end`, `invalid_stops_inside`,
     `toodeep_stops_inside`, `nomem_stops_inside`: where the reader stands when the deserializer answers;
   * `invalid_is_final`, `invalid_never_ok`, `toodeep_final`, `nomem_final`, `nomem_final_triple`: an error that was not
     caused by the end of the input is the answer for every input with the same beginning. The exceptions (`Dangling`:
     the text ends with a number byte or, comments enabled, with `/`) are real: `-`, `[1,-`, `/`, `[1/` are
     `InvalidInput` and have accepted continuations;
   * `NoMemory` for an unquoted key longer than `maxStrLen` (`LongTail`: the text ends with such a run of identifier
     bytes): the key is read to its end, the byte that ends it — the terminator, when the text ends inside the key — is
     taken as look-ahead. The code and the document are final (`nomem_final`); the number of bytes taken is not
     (`ClassExamples`: `{abc` with `maxStrLen = 2`);
   * `incomplete_is_extendable`: an `IncompleteInput` text is a proper prefix of an accepted one, provided it is shorter
     than `maxStrLen` (`incomplete_not_extendable`: the condition cannot be dropped);
   * `prefix_of_accepted`, `prefix_of_closed_value`: the proper prefixes of an accepted text;
   * `classification`: the summary.
   `ClassExamples`: kernel-checked instances.
   Helper lemmas: AJ/Lemmas/Class*.lean (generic two-run simulation `tw_mutual`, fuel independence `fm_mutual`, the stop
   invariant `gh_mutual`, completion `inc_all`), AJ/Lemmas/DialectClass2.lean. -/
import AJ.Lemmas.DialectClass2
import AJ.Lemmas.ClassNoMem
import AJ.Lemmas.ClassExt3
import AJ.Props.C10
set_option linter.unusedSimpArgs false
set_option linter.unusedVariables false
namespace C10
open JD Spec.Dialect

/-! ## The end of the input is a NUL; the answer depends only on the bytes taken -/

/-- **C10 (end of input = NUL terminator).** Appending a NUL to the input changes neither the code nor the document;
    the number of bytes taken from the reader grows by at most one (the terminator itself). -/
theorem nul_is_end (cfg : Cfg) (L : Nat) (t : List UInt8) :
    (run cfg L (t ++ [0])).1 = (run cfg L t).1 ∧ (run cfg L (t ++ [0])).2.1 = (run cfg L t).2.1 ∧
      (run cfg L t).2.2 = min (run cfg L (t ++ [0])).2.2 t.length :=
  run_nul_end cfg L t

/-- **C10 (locality).** If the run over `p ++ x` (`x` not empty) took no byte of `x` from the reader, then the answer —
    code, document, number of bytes taken — is the same for every input that starts with `p`. -/
theorem run_local (cfg : Cfg) (L : Nat) (p x y : List UInt8) (hx : x ≠ [])
    (h : (run cfg L (p ++ x)).2.2 ≤ p.length) : run cfg L (p ++ y) = run cfg L (p ++ x) :=
  JD.run_local cfg L p x y hx h

/-! ## Where the reader stands -/

/-- the facts of AJ/Lemmas/ClassRun2.lean for the NUL-terminated input -/
theorem stop_facts (cfg : Cfg) (L : Nat) (t : List UInt8) :
    StopFacts cfg (t ++ [0]) (text t).length (run cfg L (t ++ [0])) :=
  run_stop (nulAt_append t) L

/-- **C10 (nothing is read after the terminator).** The reader never takes a byte after the first NUL. -/
theorem never_reads_past_nul (cfg : Cfg) (L : Nat) (t : List UInt8) :
    (run cfg L t).2.2 ≤ min ((text t).length + 1) t.length := by
  obtain ⟨_, _, e3⟩ := nul_is_end cfg L t
  have hs := (stop_facts cfg L t).1
  rw [e3]; omega

/-- **C10 (`IncompleteInput` = the input ended).** When the answer is `IncompleteInput`, the reader has taken the whole
    text and the terminator: every byte up to and including the first NUL — or every byte of the input when it contains
    no NUL. -/
theorem incomplete_reads_to_the_end (cfg : Cfg) (L : Nat) (t : List UInt8) (h : (run cfg L t).1 = .incomplete) :
    (run cfg L t).2.2 = min ((text t).length + 1) t.length := by
  obtain ⟨e1, _, e3⟩ := nul_is_end cfg L t
  have hs := (stop_facts cfg L t).2.1 (Or.inl (e1.trans h))
  rw [e3, hs]

/-- the same for `EmptyInput` -/
theorem empty_reads_to_the_end (cfg : Cfg) (L : Nat) (t : List UInt8) (h : (run cfg L t).1 = .empty) :
    (run cfg L t).2.2 = min ((text t).length + 1) t.length := by
  obtain ⟨e1, _, e3⟩ := nul_is_end cfg L t
  have hs := (stop_facts cfg L t).2.1 (Or.inr (e1.trans h))
  rw [e3, hs]

/-- **C10 (`InvalidInput` stops inside the text, or at a token cut by the end).** When the answer is `InvalidInput`,
    either the last byte taken is a byte of the text (not the terminator) — the byte the deserializer stumbled on —,
    or the reader took the whole text and the terminator, and then the text ends with a number byte or, when comments are
    enabled, with `/` (`Dangling`). -/
theorem invalid_stops_inside (cfg : Cfg) (L : Nat) (t : List UInt8) (h : (run cfg L t).1 = .invalid) :
    (1 ≤ (run cfg L t).2.2 ∧ (run cfg L t).2.2 ≤ (text t).length ∧
      ∃ c, t[(run cfg L t).2.2 - 1]? = some c ∧ c ≠ 0) ∨
    ((run cfg L t).2.2 = min ((text t).length + 1) t.length ∧ Dangling cfg (text t)) := by
  obtain ⟨e1, _, e3⟩ := nul_is_end cfg L t
  have hl := text_length_le t
  rcases (stop_facts cfg L t).2.2.1 (e1.trans h) with ⟨a1, a2, c, a3, a4⟩ | ⟨b1, b2⟩
  · left
    have hp : (run cfg L t).2.2 = (run cfg L (t ++ [0])).2.2 := by rw [e3]; omega
    rw [hp]
    refine ⟨a1, a2, c, ?_, a4⟩
    rw [List.getElem?_append_left (by omega)] at a3
    exact a3
  · right
    refine ⟨by rw [e3, b1], ?_⟩
    obtain ⟨x, hx⟩ := nul_split t
    rw [hx] at b2
    exact dangling_of_dang b2

/-- the text in front of the terminator -/
theorem take_text (t : List UInt8) : (t ++ [0]).take (text t).length = text t := by
  obtain ⟨x, hx⟩ := nul_split t
  rw [hx]
  simp

/-- the text ends with more than `maxStrLen` identifier bytes (the bytes of an unquoted key) -/
theorem longTail_def (cfg : Cfg) (e : List UInt8) :
    LongTail cfg e ↔ ∃ pre k, e = pre ++ k ∧ (∀ c ∈ k, inUnquoted c = true) ∧ cfg.maxStrLen < k.length := Iff.rfl

/-- `LongTail` as a computation -/
theorem longTail_iff (cfg : Cfg) (e : List UInt8) :
    LongTail cfg e ↔ cfg.maxStrLen < (e.reverse.takeWhile inUnquoted).length := by
  constructor
  · rintro ⟨pre, k, rfl, hk, hl⟩
    rw [List.reverse_append, List.takeWhile_append_of_pos (by intro a ha; exact hk a (List.mem_reverse.mp ha))]
    simp only [List.length_append, List.length_reverse]
    omega
  · intro h
    refine ⟨(e.reverse.dropWhile inUnquoted).reverse, (e.reverse.takeWhile inUnquoted).reverse, ?_, ?_, by simpa using h⟩
    · rw [← List.reverse_append, List.takeWhile_append_dropWhile, List.reverse_reverse]
    · intro c hc
      have := List.all_takeWhile (p := inUnquoted) (l := e.reverse)
      rw [List.all_eq_true] at this
      exact this c (List.mem_reverse.mp hc)

instance (cfg : Cfg) (e : List UInt8) : Decidable (LongTail cfg e) := decidable_of_iff _ (longTail_iff cfg e).symm

/-- **C10 (`TooDeep` is answered inside the text).** -/
theorem toodeep_stops_inside (cfg : Cfg) (L : Nat) (t : List UInt8) (h : (run cfg L t).1 = .tooDeep) :
    (run cfg L t).2.2 ≤ (text t).length := by
  obtain ⟨e1, _, e3⟩ := nul_is_end cfg L t
  have hs := (stop_facts cfg L t).2.2.2.1 (e1.trans h)
  rw [e3]; omega

/-- **C10 (`NoMemory` is answered inside the text, or at the end of an unquoted key that is too long).** When the
    answer is `NoMemory`, either the reader did not take the terminator, or it took the whole text and the terminator,
    and then the text ends with more than `maxStrLen` identifier bytes: an unquoted key is read to its end (the byte
    that ends it is taken as look-ahead) before its length is checked. -/
theorem nomem_stops_inside (cfg : Cfg) (L : Nat) (t : List UInt8) (h : (run cfg L t).1 = .noMemory) :
    (run cfg L t).2.2 ≤ (text t).length ∨
    ((run cfg L t).2.2 = min ((text t).length + 1) t.length ∧ LongTail cfg (text t)) := by
  obtain ⟨e1, _, e3⟩ := nul_is_end cfg L t
  rcases (stop_facts cfg L t).2.2.2.2 (e1.trans h) with a | ⟨b1, b2⟩
  · left; rw [e3]; omega
  · right
    rw [take_text] at b2
    exact ⟨by rw [e3, b1], b2⟩

/-- `TooDeep` and `NoMemory` together: the reader stands inside the text, except at the end of an unquoted key that is
    too long. (Before the model correction for unquoted keys this read `… ≤ (text t).length`; that statement is false,
    see `ClassExamples.old_stop_inside_false`.) -/
theorem toodeep_nomem_stop_inside (cfg : Cfg) (L : Nat) (t : List UInt8)
    (h : (run cfg L t).1 = .tooDeep ∨ (run cfg L t).1 = .noMemory) :
    (run cfg L t).2.2 ≤ (text t).length + 1 ∧
    (¬ ((run cfg L t).1 = .noMemory ∧ LongTail cfg (text t)) → (run cfg L t).2.2 ≤ (text t).length) := by
  have hn := never_reads_past_nul cfg L t
  refine ⟨by omega, fun hno => ?_⟩
  rcases h with h | h
  · exact toodeep_stops_inside cfg L t h
  · rcases nomem_stops_inside cfg L t h with a | ⟨_, b⟩
    · exact a
    · exact absurd ⟨h, b⟩ hno

/-! ## Finality -/

/-- if the run over the NUL-terminated input did not take the terminator, the answer is the same for every input
    that starts with the text -/
theorem determined_by_text (cfg : Cfg) (L : Nat) (t : List UInt8)
    (h : (run cfg L (t ++ [0])).2.2 ≤ (text t).length) (ext : List UInt8) :
    run cfg L (text t ++ ext) = run cfg L t := by
  obtain ⟨e1, e2, e3⟩ := nul_is_end cfg L t
  obtain ⟨x, hx⟩ := nul_split t
  have hl := text_length_le t
  rw [hx] at h
  have h1 := JD.run_local cfg L (text t) (0 :: x) ext (by simp) h
  rw [← hx] at h1 h
  rw [h1]
  apply Prod.ext e1
  apply Prod.ext e2
  rw [e3]; omega

/-- on an input that contains a NUL: if the terminator was not taken, the answer (whatever it is) is the same for every
    input that starts with the text -/
theorem final_of_stops_inside (cfg : Cfg) (L : Nat) (t : List UInt8) (hn : (text t).length < t.length)
    (h : (run cfg L t).2.2 ≤ (text t).length) (ext : List UInt8) : run cfg L (text t ++ ext) = run cfg L t := by
  obtain ⟨_, _, e3⟩ := nul_is_end cfg L t
  apply determined_by_text
  rw [e3] at h
  omega

/-- **C10 (`InvalidInput` is final).** If the answer is `InvalidInput` and the text does not end with a number byte
    (nor with `/` when comments are enabled), then every input that starts with the text gets the same answer: no
    continuation of the text is accepted. -/
theorem invalid_is_final (cfg : Cfg) (L : Nat) (t : List UInt8) (h : (run cfg L t).1 = .invalid)
    (hd : ¬ Dangling cfg (text t)) (ext : List UInt8) : run cfg L (text t ++ ext) = run cfg L t := by
  obtain ⟨e1, _, _⟩ := nul_is_end cfg L t
  apply determined_by_text
  rcases (stop_facts cfg L t).2.2.1 (e1.trans h) with ⟨_, a2, _⟩ | ⟨_, b2⟩
  · exact a2
  · obtain ⟨x, hx⟩ := nul_split t
    rw [hx] at b2
    exact absurd (dangling_of_dang b2) hd

theorem invalid_never_ok (cfg : Cfg) (L : Nat) (t : List UInt8) (h : (run cfg L t).1 = .invalid)
    (hd : ¬ Dangling cfg (text t)) (ext : List UInt8) : (run cfg L (text t ++ ext)).1 ≠ .ok := by
  rw [invalid_is_final cfg L t h hd ext, h]; exact Code.noConfusion

/-- **C10 (`TooDeep` is final).** -/
theorem toodeep_final (cfg : Cfg) (L : Nat) (t : List UInt8) (h : (run cfg L t).1 = .tooDeep) (ext : List UInt8) :
    run cfg L (text t ++ ext) = run cfg L t := by
  obtain ⟨e1, _, _⟩ := nul_is_end cfg L t
  apply determined_by_text
  exact (stop_facts cfg L t).2.2.2.1 (e1.trans h)

/-- **C10 (`NoMemory` is final: code and document).** Every input that starts with the text is answered `NoMemory`, with
    the same document. -/
theorem nomem_final (cfg : Cfg) (L : Nat) (t : List UInt8) (h : (run cfg L t).1 = .noMemory) (ext : List UInt8) :
    (run cfg L (text t ++ ext)).1 = .noMemory ∧ (run cfg L (text t ++ ext)).2.1 = (run cfg L t).2.1 := by
  obtain ⟨e1, e2, _⟩ := nul_is_end cfg L t
  obtain ⟨x, hx⟩ := nul_split t
  have := run_nomem_final cfg L (text t) x ext (text_nz t) (by rw [← hx, e1]; exact h)
  rw [← hx] at this
  exact ⟨this.1, this.2.trans e2⟩

/-- **C10 (`NoMemory` is final: the whole answer)**, unless the text ends with more than `maxStrLen` identifier bytes
    (then a longer key is read further: `ClassExamples`). -/
theorem nomem_final_triple (cfg : Cfg) (L : Nat) (t : List UInt8) (h : (run cfg L t).1 = .noMemory)
    (hs : ¬ LongTail cfg (text t)) (ext : List UInt8) : run cfg L (text t ++ ext) = run cfg L t := by
  obtain ⟨e1, _, _⟩ := nul_is_end cfg L t
  apply determined_by_text
  rcases (stop_facts cfg L t).2.2.2.2 (e1.trans h) with a | ⟨_, b2⟩
  · exact a
  · rw [take_text] at b2
    exact absurd b2 hs

/-- **C10 (`TooDeep` and `NoMemory` are final).** The code and the document are the same for every input that starts
    with the text; so is the number of bytes taken, except for `NoMemory` on a text that ends with more than `maxStrLen`
    identifier bytes. (Before the model correction for unquoted keys this was the equality of the whole answer in all
    cases; that statement is false, see `ClassExamples.old_final_false`.) -/
theorem toodeep_nomem_final (cfg : Cfg) (L : Nat) (t : List UInt8)
    (h : (run cfg L t).1 = .tooDeep ∨ (run cfg L t).1 = .noMemory) (ext : List UInt8) :
    (run cfg L (text t ++ ext)).1 = (run cfg L t).1 ∧ (run cfg L (text t ++ ext)).2.1 = (run cfg L t).2.1 ∧
    (¬ ((run cfg L t).1 = .noMemory ∧ LongTail cfg (text t)) → run cfg L (text t ++ ext) = run cfg L t) := by
  rcases h with h | h
  · have := toodeep_final cfg L t h ext
    exact ⟨by rw [this], by rw [this], fun _ => this⟩
  · obtain ⟨a, b⟩ := nomem_final cfg L t h ext
    exact ⟨by rw [a, h], b, fun hno => nomem_final_triple cfg L t h (fun hl => hno ⟨h, hl⟩) ext⟩

/-! ## Prefixes of an accepted text -/

/-- the number of bytes taken on an accepted text: the white space and the value, plus one look-ahead byte (if there
    is one) after a number -/
theorem doc_pos (cfg : Cfg) {L : Nat} {w body rest : List UInt8} {v : Val} (hw : DWs cfg w) (hv : Value cfg L body v)
    (htr : Trailer v rest) :
    (run cfg L (w ++ body ++ rest)).2.2 = w.length + body.length + (if isNumberVal v then min 1 rest.length else 0) := by
  have hd : isNumberVal v = true → Delim cfg rest := by
    intro hn c r hr
    have := htr hn
    rw [hr] at this
    rcases this with h0 | hws
    · have : c = 0 := h0
      subst this; exact inNumber_zero cfg
    · exact (sep_facts cfg c (Or.inl hws)).1
  obtain ⟨s', hp, _, hpost⟩ := complete cfg hv (2 * (w ++ body ++ rest).length + 4) w rest
    { l := { unread := w ++ body ++ rest } } hw rfl rfl (by simp; omega) hd
  rw [JD.run_eq, hp, JD.finishRun_pos]
  cases hn : isNumberVal v with
  | false =>
    rw [hn] at hpost
    simp only [Bool.false_eq_true, ↓reduceIte] at hpost ⊢
    rw [hpost.2.2]
    omega
  | true =>
    rw [hn] at hpost
    simp only [↓reduceIte] at hpost ⊢
    rw [hpost.2.2.2]
    omega

/-- the first byte of a value text is a token byte, and says whether the value is a number -/
theorem value_head_num {cfg : Cfg} {L : Nat} {body : List UInt8} {v : Val} (hv : Value cfg L body v) :
    ∃ c cs, body = c :: cs ∧ Tok c ∧ (NumStartD c ↔ isNumberVal v = true) := by
  have no : ∀ c : UInt8, (c = 0x5B ∨ c = 0x7B ∨ c = 0x22 ∨ c = 0x27 ∨ c = 0x74 ∨ c = 0x66 ∨ c = 0x6E) →
      (NumStartD c ↔ false = true) := by
    intro c hc
    refine iff_of_false (fun hs => ?_) Bool.false_ne_true
    obtain ⟨_, a1, a2, a3, a4, a5, a6, a7, _, _⟩ := numStartD_facts hs
    rcases hc with rfl | rfl | rfl | rfl | rfl | rfl | rfl
    · cases a1
    · cases a2
    · cases a3
    · cases a4
    · cases a5
    · cases a6
    · cases a7
  cases hv with
  | null => exact ⟨_, _, rfl, by decide, no _ (by decide)⟩
  | «true» => exact ⟨_, _, rfl, by decide, no _ (by decide)⟩
  | «false» => exact ⟨_, _, rfl, by decide, no _ (by decide)⟩
  | num _ _ _ h =>
    obtain ⟨c, cs, rfl, hc⟩ := numTok_head h
    exact ⟨c, cs, rfl, (numStartD_facts hc).1, iff_of_true hc (numDen_isNumber h.2.2.2)⟩
  | str _ q b s hq _ _ =>
    refine ⟨q, b ++ [q], by simp, (isQuote_tok hq).1, ?_⟩
    rcases hq with rfl | rfl
    · exact no _ (by decide)
    · exact no _ (by decide)
  | arrEmpty _ w _ => exact ⟨0x5B, w ++ [0x5D], by simp, by decide, no _ (by decide)⟩
  | arr _ b _ _ => exact ⟨0x5B, b ++ [0x5D], by simp, by decide, no _ (by decide)⟩
  | objEmpty _ w _ => exact ⟨0x7B, w ++ [0x7D], by simp, by decide, no _ (by decide)⟩
  | obj _ b _ _ => exact ⟨0x7B, b ++ [0x7D], by simp, by decide, no _ (by decide)⟩

theorem tok_noWs {c : UInt8} (hx : Tok c) : NoWs c := by
  refine ⟨fun hws => ?_, hx.2.2⟩
  have := (ws_byte hws).2
  rw [hx.2.1] at this
  cases this

/-- a prefix of the text is free of NUL bytes -/
theorem prefix_nz {t p z : List UInt8} (ht : t = p ++ z) (hl : p.length ≤ (text t).length) : ∀ c ∈ p, c ≠ 0 := by
  obtain ⟨r', hs, _⟩ := text_split t
  have h1 : p = (text t).take p.length := by
    have : (p ++ z).take p.length = (text t ++ r').take p.length := by rw [← ht, ← hs]
    rw [List.take_left', List.take_append_of_le_length hl] at this
    · exact this
    · rfl
  intro c hc
  rw [h1] at hc
  exact text_nz t c (List.mem_of_mem_take hc)

/-- **C10 (proper prefixes of an accepted text).** Let `t` be accepted and `p` a proper prefix of the part of `t` that
    the deserializer took (white space and value). Then the answer on `p` is one of:
    * `IncompleteInput`;
    * `EmptyInput`, when `p` is inside the leading white space;
    * `InvalidInput`, and then `p` ends with a number byte (a sign alone: `-`) or, with comments enabled, with `/`;
    * `Ok`, and then both `p` and `t` are numbers (`12` in `123`).
    In every case the whole of `p` was read: never an `InvalidInput` caused by a byte of `p`, never `TooDeep`, never
    `NoMemory`. -/
theorem prefix_of_accepted (cfg : Cfg) (L : Nat) (t p z : List UInt8) (h : (run cfg L t).1 = .ok) (ht : t = p ++ z)
    (hlen : p.length < (run cfg L t).2.2) :
    (run cfg L p).1 = .incomplete ∨ ((run cfg L p).1 = .empty ∧ DWs cfg p) ∨
    ((run cfg L p).1 = .invalid ∧ Dangling cfg p) ∨
    ((run cfg L p).1 = .ok ∧ isNumberVal (run cfg L p).2.1 = true ∧ isNumberVal (run cfg L t).2.1 = true) := by
  have hnp := never_reads_past_nul cfg L t
  have hpz : ∀ c ∈ p, c ≠ 0 := prefix_nz ht (by omega)
  have htp : text p = p := text_of_nz hpz
  have hz : z ≠ [] := by
    intro hz
    rw [hz, List.append_nil] at ht
    subst ht
    omega
  have sf := stop_facts cfg L p
  rw [htp] at sf
  obtain ⟨e1, e2, e3⟩ := nul_is_end cfg L p
  -- the run over `p` followed by a NUL took the NUL
  have hpos : (run cfg L (p ++ [0])).2.2 = p.length + 1 := by
    by_cases hle : (run cfg L (p ++ [0])).2.2 ≤ p.length
    · have := JD.run_local cfg L p [0] z (by simp) hle
      rw [← ht] at this
      rw [this] at hlen
      omega
    · have := sf.1; omega
  have hnf := run_ne_fuel cfg L p
  cases hc : (run cfg L p).1 with
  | incomplete => exact Or.inl rfl
  | empty =>
    refine Or.inr (Or.inl ⟨rfl, ?_⟩)
    have := (empty_iff cfg L p).mp hc
    have h2 : p.takeWhile (· != 0) = p := htp
    rw [h2] at this
    exact this
  | invalid =>
    refine Or.inr (Or.inr (Or.inl ⟨rfl, ?_⟩))
    rcases sf.2.2.1 (e1.trans hc) with ⟨_, a2, _⟩ | ⟨_, b2⟩
    · omega
    · have hx : p ++ [0] = p ++ 0 :: [] := rfl
      rw [hx] at b2
      exact dangling_of_dang b2
  | tooDeep => have := sf.2.2.2.1 (e1.trans hc); omega
  | noMemory =>
    -- `NoMemory` is final: `t` would be answered `NoMemory` too
    have := (nomem_final cfg L p hc z).1
    rw [htp, ← ht, h] at this
    cases this
  | fuel => exact absurd hc hnf
  | ok =>
    refine Or.inr (Or.inr (Or.inr ⟨rfl, ?_⟩))
    obtain ⟨w', body', rest', hp', hw', hv', htr'⟩ := run_sound cfg L p hc
    have hnum' : isNumberVal (run cfg L p).2.1 = true := by
      cases hn : isNumberVal (run cfg L p).2.1 with
      | true => rfl
      | false =>
        exfalso
        have htr2 : Trailer (run cfg L p).2.1 (rest' ++ z) := by
          intro h'; rw [hn] at h'; cases h'
        have hpos2 := doc_pos cfg hw' hv' htr2
        have ht2 : t = w' ++ body' ++ (rest' ++ z) := by rw [ht, hp']; simp
        rw [← ht2, hn] at hpos2
        simp only [Bool.false_eq_true, ↓reduceIte, Nat.add_zero] at hpos2
        have : p.length = w'.length + body'.length + rest'.length := by rw [hp']; simp only [List.length_append]
        omega
    obtain ⟨w, body, rest, htd, hw, hv, _⟩ := run_sound cfg L t h
    obtain ⟨c, cs, rfl, tok, hc⟩ := value_head_num hv
    obtain ⟨c', cs', rfl, tok', hc'⟩ := value_head_num hv'
    have heq : w ++ c :: (cs ++ rest) = w' ++ c' :: (cs' ++ rest' ++ z) := by
      rw [show w ++ c :: (cs ++ rest) = w ++ c :: cs ++ rest by simp, ← htd, ht, hp']; simp
    -- both values start at the same byte, and that byte starts a number
    obtain ⟨_, rfl, _⟩ := dws_prefix_unique hw hw' (tok_noWs tok) (tok_noWs tok') heq
    exact ⟨hnum', hc.mp (hc'.mpr hnum')⟩

/-- **C10 (a proper prefix of an accepted array, object, string or literal is `IncompleteInput`)** — unless it is
    white space only, or ends with a number byte / a comment opener (`[-` of `[-1]`, `[1/` of `[1/**/]`), where the
    answer is `InvalidInput`. It is never `Ok`. -/
theorem prefix_of_closed_value (cfg : Cfg) (L : Nat) (t p z : List UInt8) (h : (run cfg L t).1 = .ok) (ht : t = p ++ z)
    (hlen : p.length < (run cfg L t).2.2) (hv : isNumberVal (run cfg L t).2.1 = false) :
    (run cfg L p).1 ≠ .ok ∧ (¬ DWs cfg p → ¬ Dangling cfg p → (run cfg L p).1 = .incomplete) := by
  rcases prefix_of_accepted cfg L t p z h ht hlen with h1 | ⟨h1, h2⟩ | ⟨h1, h2⟩ | ⟨_, _, h3⟩
  · exact ⟨by rw [h1]; exact Code.noConfusion, fun _ _ => h1⟩
  · exact ⟨by rw [h1]; exact Code.noConfusion, fun hw _ => absurd h2 hw⟩
  · exact ⟨by rw [h1]; exact Code.noConfusion, fun _ hd => absurd h2 hd⟩
  · rw [hv] at h3; cases h3

/-- `prefix_of_accepted` under the name of the property statement: a proper prefix (of the part that was read) of an
    accepted text is `IncompleteInput` or `Ok` — `Ok` only for a number inside a number —, apart from the prefixes that
    are white space only (`EmptyInput`) or end with a sign / comment opener cut short (`InvalidInput`, `Dangling`). -/
theorem prefix_of_valid_is_incomplete_or_ok (cfg : Cfg) (L : Nat) (t p z : List UInt8) (h : (run cfg L t).1 = .ok)
    (ht : t = p ++ z) (hlen : p.length < (run cfg L t).2.2) (hw : ¬ DWs cfg p) (hd : ¬ Dangling cfg p) :
    (run cfg L p).1 = .incomplete ∨
    ((run cfg L p).1 = .ok ∧ isNumberVal (run cfg L p).2.1 = true ∧ isNumberVal (run cfg L t).2.1 = true) := by
  rcases prefix_of_accepted cfg L t p z h ht hlen with h1 | ⟨_, h2⟩ | ⟨_, h2⟩ | h4
  · exact Or.inl h1
  · exact absurd h2 hw
  · exact absurd h2 hd
  · exact Or.inr h4

/-! ## An `IncompleteInput` text is the beginning of an accepted one -/

/-- the text in front of the first NUL is determined -/
theorem ends_text {e a z : List UInt8} (he : ∀ c ∈ e, c ≠ 0) (ha : ∀ c ∈ a, c ≠ 0) (h : e ++ [0] = a ++ z)
    (hz : z.headD 0 = 0) : a = e := by
  induction e generalizing a with
  | nil =>
    cases a with
    | nil => rfl
    | cons c a' =>
      simp only [List.nil_append, List.cons_append, List.cons.injEq] at h
      exact absurd h.1.symm (ha c (List.mem_cons_self ..))
  | cons c e' ih =>
    cases a with
    | nil =>
      simp only [List.nil_append, List.cons_append] at h
      rw [← h] at hz
      exact absurd hz (he c (List.mem_cons_self ..))
    | cons c' a' =>
      simp only [List.cons_append, List.cons.injEq] at h
      rw [h.1, ih (fun d hd => he d (List.mem_cons_of_mem _ hd)) (fun d hd => ha d (List.mem_cons_of_mem _ hd)) h.2]

/-- the run over the text followed by one NUL: same code and document as over the input -/
theorem run_text_nul (cfg : Cfg) (L : Nat) (t : List UInt8) :
    (run cfg L (text t ++ [0])).1 = (run cfg L t).1 ∧ (run cfg L (text t ++ [0])).2.1 = (run cfg L t).2.1 := by
  obtain ⟨e1, e2, _⟩ := nul_is_end cfg L t
  obtain ⟨x, hx⟩ := nul_split t
  have hs := (stop_facts cfg L t).1
  have h1 : run cfg L (text t ++ [0]) = run cfg L (t ++ [0]) := by
    cases x with
    | nil => rw [hx]
    | cons b x' =>
      have e : t ++ [0] = (text t ++ [0]) ++ (b :: x') := by rw [hx]; simp
      have := JD.run_local cfg L (text t ++ [0]) (b :: x') [] (by simp) (by rw [← e]; simpa using hs)
      rw [List.append_nil] at this
      rw [this, ← e]
  rw [h1]; exact ⟨e1, e2⟩

/-- **C10 (`IncompleteInput` texts can be completed).** If the answer is `IncompleteInput` and the text is shorter than
    the longest string the document may hold (`|text| + 5 ≤ maxStrLen`), some continuation of the text is accepted. The
    length condition is needed: an unclosed string longer than `maxStrLen` is `IncompleteInput`, and closing it gives
    `NoMemory` (`ClassExamples.incomplete_not_extendable`). -/
theorem incomplete_is_extendable (cfg : Cfg) (L : Nat) (t : List UInt8) (h : (run cfg L t).1 = .incomplete)
    (hB : (text t).length + 5 ≤ cfg.maxStrLen) : ∃ ext, (run cfg L (text t ++ ext)).1 = .ok := by
  have h1 := (run_text_nul cfg L t).1.trans h
  rw [JD.run_eq] at h1
  have hpv : ∃ v s', parseVariant cfg (2 * (text t ++ [0]).length + 4) L { l := { unread := text t ++ [0] } } =
      (.incomplete, v, s') :=
    ⟨_, _, Prod.ext (JD.finishRun_code h1 (show Code.incomplete ≠ .invalid by decide)) rfl⟩
  obtain ⟨v, s', hpv⟩ := hpv
  obtain ⟨a, x, w, body, v', ⟨z, hz1, hz2⟩, hax, hw, hv⟩ :=
    (inc_all cfg _).1 L _ (text t ++ [0]) v s' (Rem.un rfl) (by simp; omega) hpv
  have hnz : ∀ c ∈ a, c ≠ 0 := by
    intro c hc
    have : c ∈ w ++ body := by rw [← hax]; exact List.mem_append_left _ hc
    rcases List.mem_append.mp this with hm | hm
    · exact dws_no_nul hw c hm
    · exact value_nz hv c hm
  have hae := ends_text (text_nz t) hnz hz1 hz2
  subst hae
  refine ⟨x, (complete_doc cfg (v := v') ⟨w, body, [], by rw [List.append_nil]; exact hax, hw, hv, fun _ => Or.inl rfl⟩).1⟩

/-- a value text that starts with a quote is a string -/
theorem value_str_inv {cfg : Cfg} {L : Nat} {q : UInt8} {cs : List UInt8} {v : Val} (hv : Value cfg L (q :: cs) v)
    (hq : IsQuote q) : ∃ body s, cs = body ++ [q] ∧ decodeBody cfg q 0 body = some s ∧ s.length ≤ cfg.maxStrLen := by
  have nq : ∀ c : UInt8, (c = 0x6E ∨ c = 0x74 ∨ c = 0x66 ∨ c = 0x5B ∨ c = 0x7B) → ¬ IsQuote c := by
    intro c hc hqc
    rcases hc with rfl | rfl | rfl | rfl | rfl <;> rcases hqc with h | h <;> exact absurd h (by decide)
  generalize hb : q :: cs = b at hv
  cases hv with
  | null => injection hb with h1 _; exact absurd hq (nq _ (by rw [h1]; simp))
  | «true» => injection hb with h1 _; exact absurd hq (nq _ (by rw [h1]; simp))
  | «false» => injection hb with h1 _; exact absurd hq (nq _ (by rw [h1]; simp))
  | num _ _ _ hn =>
    obtain ⟨c, cs', rfl, hs⟩ := numTok_head hn
    injection hb with h1 _
    subst h1
    obtain ⟨_, _, _, a3, a4, _⟩ := numStartD_facts hs
    rcases hq with h | h
    · rw [h] at a3; cases a3
    · rw [h] at a4; cases a4
  | str _ q' body s _ hd hl =>
    simp only [List.cons_append, List.cons.injEq] at hb
    obtain ⟨rfl, rfl⟩ := hb
    exact ⟨body, s, rfl, hd, hl⟩
  | arrEmpty _ w _ => simp only [List.cons_append, List.cons.injEq] at hb; exact absurd hq (nq _ (by rw [hb.1]; simp))
  | arr _ b _ _ => simp only [List.cons_append, List.cons.injEq] at hb; exact absurd hq (nq _ (by rw [hb.1]; simp))
  | objEmpty _ w _ => simp only [List.cons_append, List.cons.injEq] at hb; exact absurd hq (nq _ (by rw [hb.1]; simp))
  | obj _ b _ _ => simp only [List.cons_append, List.cons.injEq] at hb; exact absurd hq (nq _ (by rw [hb.1]; simp))

/-- **the length condition of `incomplete_is_extendable` cannot be dropped**: with `maxStrLen = 0` the text `"a` is
    `IncompleteInput` and no continuation of it is accepted -/
theorem incomplete_not_extendable :
    (run { maxStrLen := 0 } 10 [0x22, 0x61]).1 = .incomplete ∧
    ∀ L ext, (run { maxStrLen := 0 } L ([0x22, 0x61] ++ ext)).1 ≠ .ok := by
  constructor
  · decide +kernel
  · intro L ext hok
    obtain ⟨w, body, rest, ht, hw, hv, _⟩ := run_sound _ L _ hok
    obtain ⟨c, cs, rfl, tok, _, _⟩ := value_head_d hv
    have hq : NoWs (0x22 : UInt8) := tok_noWs (by decide)
    have heq : [] ++ (0x22 : UInt8) :: (0x61 :: ext) = w ++ c :: (cs ++ rest) := by rw [List.nil_append]; simpa using ht
    obtain ⟨rfl, rfl, hcs⟩ := dws_prefix_unique DWs.nil hw hq (tok_noWs tok) heq
    obtain ⟨b, s, rfl, hd, hl⟩ := value_str_inv hv (Or.inl rfl)
    cases b with
    | nil => simp at hcs
    | cons x b' =>
      simp only [List.cons_append, List.append_assoc, List.cons.injEq] at hcs
      obtain ⟨rfl, _⟩ := hcs
      rw [decodeBody_plain (by decide) (by decide) (by decide)] at hd
      cases hd' : decodeBody { maxStrLen := 0 } 0x22 0 b' with
      | none => rw [hd'] at hd; cases hd
      | some y =>
        rw [hd'] at hd
        simp only [Option.map_some, Option.some.injEq] at hd
        subst hd
        simp at hl

/-! ## Summary -/

/-- **C10 (classification).** For every configuration, nesting limit and input, the answer is exactly one of the
    following (`Code.fuel` is an artefact of the model and never happens):
    * `Ok`: the input is a text of the dialect and the document is the one the dialect assigns;
    * `EmptyInput`: the text is white space only; the reader took all of it (and the terminator);
    * `IncompleteInput`: the reader took the whole text and the terminator; some continuation of the text is accepted
      (if the text is shorter than `maxStrLen`);
    * `InvalidInput`: the last byte taken is a byte of the text, and then — unless the text ends with a number byte or
      a comment opener — the answer is the same for every input that starts with the text; or the text ends with a
      number byte / comment opener and the reader took all of it;
    * `TooDeep`: answered inside the text; the same answer for every input that starts with the text;
    * `NoMemory`: answered inside the text, or the text ends with more than `maxStrLen` identifier bytes (an unquoted
      key that is too long, read to its end) and the reader took all of it and the terminator; `NoMemory` and the same
      document for every input that starts with the text; the same number of bytes too, unless the text ends with
      more than `maxStrLen` identifier bytes. -/
theorem classification (cfg : Cfg) (L : Nat) (t : List UInt8) :
    ((run cfg L t).1 = .ok ∧ Doc cfg L t (run cfg L t).2.1) ∨
    ((run cfg L t).1 = .empty ∧ DWs cfg (text t) ∧ (run cfg L t).2.2 = min ((text t).length + 1) t.length) ∨
    ((run cfg L t).1 = .incomplete ∧ (run cfg L t).2.2 = min ((text t).length + 1) t.length ∧
      ((text t).length + 5 ≤ cfg.maxStrLen → ∃ ext, (run cfg L (text t ++ ext)).1 = .ok)) ∨
    ((run cfg L t).1 = .invalid ∧
      ((1 ≤ (run cfg L t).2.2 ∧ (run cfg L t).2.2 ≤ (text t).length ∧ ∃ c, t[(run cfg L t).2.2 - 1]? = some c ∧ c ≠ 0) ∨
       ((run cfg L t).2.2 = min ((text t).length + 1) t.length ∧ Dangling cfg (text t))) ∧
      (¬ Dangling cfg (text t) → ∀ ext, run cfg L (text t ++ ext) = run cfg L t)) ∨
    ((run cfg L t).1 = .tooDeep ∧ (run cfg L t).2.2 ≤ (text t).length ∧
      ∀ ext, run cfg L (text t ++ ext) = run cfg L t) ∨
    ((run cfg L t).1 = .noMemory ∧
      ((run cfg L t).2.2 ≤ (text t).length ∨
       ((run cfg L t).2.2 = min ((text t).length + 1) t.length ∧ LongTail cfg (text t))) ∧
      (∀ ext, (run cfg L (text t ++ ext)).1 = .noMemory ∧ (run cfg L (text t ++ ext)).2.1 = (run cfg L t).2.1) ∧
      (¬ LongTail cfg (text t) → ∀ ext, run cfg L (text t ++ ext) = run cfg L t)) := by
  have hnf := run_ne_fuel cfg L t
  cases hc : (run cfg L t).1 with
  | ok => exact Or.inl ⟨rfl, run_sound cfg L t hc⟩
  | empty =>
    exact Or.inr (Or.inl ⟨rfl, (empty_iff cfg L t).mp hc, empty_reads_to_the_end cfg L t hc⟩)
  | incomplete =>
    exact Or.inr (Or.inr (Or.inl ⟨rfl, incomplete_reads_to_the_end cfg L t hc,
      fun hB => incomplete_is_extendable cfg L t hc hB⟩))
  | invalid =>
    exact Or.inr (Or.inr (Or.inr (Or.inl ⟨rfl, invalid_stops_inside cfg L t hc,
      fun hd ext => invalid_is_final cfg L t hc hd ext⟩)))
  | tooDeep =>
    exact Or.inr (Or.inr (Or.inr (Or.inr (Or.inl ⟨rfl, toodeep_stops_inside cfg L t hc,
      fun ext => toodeep_final cfg L t hc ext⟩))))
  | noMemory =>
    exact Or.inr (Or.inr (Or.inr (Or.inr (Or.inr ⟨rfl, nomem_stops_inside cfg L t hc,
      fun ext => nomem_final cfg L t hc ext, fun hs ext => nomem_final_triple cfg L t hc hs ext⟩))))
  | fuel => exact absurd hc hnf

/-! ## Non-vacuity -/
namespace ClassExamples

/-- `[1,2` : `IncompleteInput`, all 4 bytes taken -/
example : (run {} 10 [0x5B, 0x31, 0x2C, 0x32]).1 = .incomplete ∧ (run {} 10 [0x5B, 0x31, 0x2C, 0x32]).2.2 = 4 := by decide +kernel
example : (run {} 10 [0x5B, 0x31, 0x2C, 0x32]).2.2 = min ((text [0x5B, 0x31, 0x2C, 0x32]).length + 1) 4 :=
  incomplete_reads_to_the_end {} 10 _ (by decide +kernel)
/-- `[1,2` NUL `x]` : the terminator is taken (5 bytes), nothing after it -/
example : (run {} 10 [0x5B, 0x31, 0x2C, 0x32, 0, 0x78, 0x5D]).1 = .incomplete ∧
    (run {} 10 [0x5B, 0x31, 0x2C, 0x32, 0, 0x78, 0x5D]).2.2 = 5 := by decide +kernel
example : (run {} 10 [0x5B, 0x31, 0x2C, 0x32, 0, 0x78, 0x5D]).2.2 =
    min ((text [0x5B, 0x31, 0x2C, 0x32, 0, 0x78, 0x5D]).length + 1) 7 :=
  incomplete_reads_to_the_end {} 10 _ (by decide +kernel)

/-- `[1x` : `InvalidInput` at the third byte, whatever follows -/
example : (run {} 10 [0x5B, 0x31, 0x78]).1 = .invalid ∧ (run {} 10 [0x5B, 0x31, 0x78]).2.2 = 3 := by decide +kernel
example (ext : List UInt8) : (run {} 10 ([0x5B, 0x31, 0x78] ++ ext)).1 = .invalid ∧
    (run {} 10 ([0x5B, 0x31, 0x78] ++ ext)).2.2 = 3 := by
  have h := invalid_is_final {} 10 [0x5B, 0x31, 0x78] (by decide +kernel) (by decide) ext
  have e : text [0x5B, 0x31, 0x78] = [0x5B, 0x31, 0x78] := by decide
  rw [e] at h
  rw [h]; decide +kernel

/-- `[1x2` NUL : the text ends with a number byte (`Dangling`), but the reader stopped at `x`: final by
    `final_of_stops_inside` -/
example (ext : List UInt8) : (run {} 10 ([0x5B, 0x31, 0x78, 0x32] ++ ext)).1 = .invalid := by
  have h := final_of_stops_inside {} 10 [0x5B, 0x31, 0x78, 0x32, 0] (by decide) (by decide +kernel) ext
  have e : text [0x5B, 0x31, 0x78, 0x32, 0] = [0x5B, 0x31, 0x78, 0x32] := by decide
  rw [e] at h
  rw [h]; decide +kernel

/-- the texts that are `InvalidInput` and nevertheless have an accepted continuation: a sign alone where a value is
    expected, and (comments enabled) a `/` alone where white space may stand -/
example : (run {} 10 [0x2D]).1 = .invalid ∧ (run {} 10 [0x2D, 0x31]).1 = .ok := by decide +kernel          -- `-`, `-1`
example : (run {} 10 [0x5B, 0x31, 0x2C, 0x2D]).1 = .invalid ∧
    (run {} 10 [0x5B, 0x31, 0x2C, 0x2D, 0x31, 0x5D]).1 = .ok := by decide +kernel                       -- `[1,-`, `[1,-1]`
example : (run { comments := true } 10 [0x2F]).1 = .invalid ∧
    (run { comments := true } 10 [0x2F, 0x2A, 0x2A, 0x2F, 0x31]).1 = .ok := by decide +kernel            -- `/`, `/**/1`
example : (run { comments := true } 10 [0x5B, 0x31, 0x2F]).1 = .invalid ∧
    (run { comments := true } 10 [0x5B, 0x31, 0x2F, 0x2A, 0x2A, 0x2F, 0x5D]).1 = .ok := by decide +kernel -- `[1/`, `[1/**/]`
/-- they are `Dangling`, as `invalid_stops_inside` says -/
example : Dangling {} [0x5B, 0x31, 0x2C, 0x2D] ∧ Dangling { comments := true } [0x5B, 0x31, 0x2F] ∧
    ¬ Dangling {} [0x5B, 0x31, 0x2F] := by decide
/-- a text that ends with a number byte and is `InvalidInput` for good (`[1-`): `Dangling` is not exact -/
example : (run {} 10 [0x5B, 0x31, 0x2D]).1 = .invalid ∧ (run {} 10 [0x5B, 0x31, 0x2D, 0x31, 0x5D]).1 = .invalid := by
  decide +kernel

/-- `NoMemory` exists in the model (string longer than `maxStrLen`), it is answered after the closing quote and final -/
example : (run { maxStrLen := 1 } 10 [0x22, 0x61, 0x62, 0x22]).1 = .noMemory ∧
    (run { maxStrLen := 1 } 10 [0x22, 0x61, 0x62, 0x22]).2.2 = 4 := by decide +kernel
example (ext : List UInt8) : (run { maxStrLen := 1 } 10 ([0x22, 0x61, 0x62, 0x22] ++ ext)).1 = .noMemory ∧
    (run { maxStrLen := 1 } 10 ([0x22, 0x61, 0x62, 0x22] ++ ext)).2.2 = 4 := by
  have h := nomem_final_triple { maxStrLen := 1 } 10 [0x22, 0x61, 0x62, 0x22] (by decide +kernel) (by decide) ext
  have e : text [0x22, 0x61, 0x62, 0x22] = [0x22, 0x61, 0x62, 0x22] := by decide
  rw [e] at h
  rw [h]; decide +kernel

/-- an unquoted key longer than `maxStrLen`: `{abc` and `{abc:1}` with `maxStrLen = 2`. The key is read to its end and
    the byte after it is taken as look-ahead: 4 bytes for `{abc` (the end of the input), 5 for `{abc` NUL, 5 for
    `{abc:1}`, 6 for `{abcd:1}` -/
example : (run { maxStrLen := 2 } 10 [0x7B, 0x61, 0x62, 0x63]).1 = .noMemory ∧
    (run { maxStrLen := 2 } 10 [0x7B, 0x61, 0x62, 0x63]).2.2 = 4 := by decide +kernel
example : (run { maxStrLen := 2 } 10 [0x7B, 0x61, 0x62, 0x63, 0]).1 = .noMemory ∧
    (run { maxStrLen := 2 } 10 [0x7B, 0x61, 0x62, 0x63, 0]).2.2 = 5 := by decide +kernel
example : (run { maxStrLen := 2 } 10 [0x7B, 0x61, 0x62, 0x63, 0x3A, 0x31, 0x7D]).1 = .noMemory ∧
    (run { maxStrLen := 2 } 10 [0x7B, 0x61, 0x62, 0x63, 0x3A, 0x31, 0x7D]).2.2 = 5 := by decide +kernel
example : (run { maxStrLen := 2 } 10 [0x7B, 0x61, 0x62, 0x63, 0x64, 0x3A, 0x31, 0x7D]).1 = .noMemory ∧
    (run { maxStrLen := 2 } 10 [0x7B, 0x61, 0x62, 0x63, 0x64, 0x3A, 0x31, 0x7D]).2.2 = 6 := by decide +kernel
/-- the same key within the limit is accepted -/
example : (run { maxStrLen := 3 } 10 [0x7B, 0x61, 0x62, 0x63, 0x3A, 0x31, 0x7D]).1 = .ok := by decide +kernel
/-- `{abc` ends with 3 > 2 identifier bytes; `{abc:` does not -/
example : LongTail { maxStrLen := 2 } [0x7B, 0x61, 0x62, 0x63] ∧ ¬ LongTail { maxStrLen := 2 } [0x7B, 0x61, 0x62, 0x63, 0x3A] ∧
    ¬ LongTail { maxStrLen := 3 } [0x7B, 0x61, 0x62, 0x63] := by decide
/-- `nomem_stops_inside` on `{abc` NUL: the second alternative (terminator taken, `LongTail`) is the one that holds -/
example : (run { maxStrLen := 2 } 10 [0x7B, 0x61, 0x62, 0x63, 0]).2.2 =
      min ((text [0x7B, 0x61, 0x62, 0x63, 0]).length + 1) 5 ∧ LongTail { maxStrLen := 2 } (text [0x7B, 0x61, 0x62, 0x63, 0]) := by
  rcases nomem_stops_inside { maxStrLen := 2 } 10 [0x7B, 0x61, 0x62, 0x63, 0] (by decide +kernel) with h | h
  · exact absurd h (by decide +kernel)
  · exact h
/-- the statement of `toodeep_nomem_stop_inside` before the model correction is false: on `{abc` NUL the answer is
    `NoMemory` and 5 bytes are taken, the text has 4 -/
theorem old_stop_inside_false :
    ¬ ∀ (cfg : Cfg) (L : Nat) (t : List UInt8), ((run cfg L t).1 = .tooDeep ∨ (run cfg L t).1 = .noMemory) →
      (run cfg L t).2.2 ≤ (text t).length := by
  intro h
  exact absurd (h { maxStrLen := 2 } 10 [0x7B, 0x61, 0x62, 0x63, 0] (Or.inr (by decide +kernel))) (by decide +kernel)
/-- the statement of `toodeep_nomem_final` before the model correction is false: `{abc` takes 4 bytes, `{abc:` takes 5 -/
theorem old_final_false :
    ¬ ∀ (cfg : Cfg) (L : Nat) (t : List UInt8), ((run cfg L t).1 = .tooDeep ∨ (run cfg L t).1 = .noMemory) →
      ∀ ext, run cfg L (text t ++ ext) = run cfg L t := by
  intro h
  have := h { maxStrLen := 2 } 10 [0x7B, 0x61, 0x62, 0x63] (Or.inr (by decide +kernel)) [0x3A]
  have e : (run { maxStrLen := 2 } 10 (text [0x7B, 0x61, 0x62, 0x63] ++ [0x3A])).2.2 =
      (run { maxStrLen := 2 } 10 [0x7B, 0x61, 0x62, 0x63]).2.2 := by rw [this]
  exact absurd e (by decide +kernel)
/-- `nomem_final` on `{abc`: whatever follows — a longer key, `:1}`, anything — the answer is `NoMemory` -/
example (ext : List UInt8) : (run { maxStrLen := 2 } 10 ([0x7B, 0x61, 0x62, 0x63] ++ ext)).1 = .noMemory := by
  have h := (nomem_final { maxStrLen := 2 } 10 [0x7B, 0x61, 0x62, 0x63] (by decide +kernel) ext).1
  have e : text [0x7B, 0x61, 0x62, 0x63] = [0x7B, 0x61, 0x62, 0x63] := by decide
  rw [e] at h
  exact h
/-- `nomem_final_triple` on `{abc:1}`: the text does not end inside the key, the whole answer is final -/
example (ext : List UInt8) : (run { maxStrLen := 2 } 10 ([0x7B, 0x61, 0x62, 0x63, 0x3A, 0x31, 0x7D] ++ ext)).1 = .noMemory ∧
    (run { maxStrLen := 2 } 10 ([0x7B, 0x61, 0x62, 0x63, 0x3A, 0x31, 0x7D] ++ ext)).2.2 = 5 := by
  have h := nomem_final_triple { maxStrLen := 2 } 10 [0x7B, 0x61, 0x62, 0x63, 0x3A, 0x31, 0x7D] (by decide +kernel)
    (by decide) ext
  have e : text [0x7B, 0x61, 0x62, 0x63, 0x3A, 0x31, 0x7D] = [0x7B, 0x61, 0x62, 0x63, 0x3A, 0x31, 0x7D] := by decide
  rw [e] at h
  rw [h]; decide +kernel
/-- `TooDeep` is final: `[[` with nesting limit 1 -/
example (ext : List UInt8) : (run {} 1 ([0x5B, 0x5B] ++ ext)).1 = .tooDeep ∧ (run {} 1 ([0x5B, 0x5B] ++ ext)).2.2 = 2 := by
  have h := toodeep_final {} 1 [0x5B, 0x5B] (by decide +kernel) ext
  have e : text [0x5B, 0x5B] = [0x5B, 0x5B] := by decide
  rw [e] at h
  rw [h]; decide +kernel

/-- `prefix_of_closed_value` on `{"a":[1]}` and its prefix `{"a":[` -/
example : (run {} 10 [0x7B, 0x22, 0x61, 0x22, 0x3A, 0x5B]).1 = .incomplete := by
  refine (prefix_of_closed_value {} 10 [0x7B, 0x22, 0x61, 0x22, 0x3A, 0x5B, 0x31, 0x5D, 0x7D]
    [0x7B, 0x22, 0x61, 0x22, 0x3A, 0x5B] [0x31, 0x5D, 0x7D] (by decide +kernel) rfl (by decide +kernel) (by decide +kernel)).2
    ?_ (by decide)
  intro h
  cases h with
  | ws c w hc _ => revert hc; unfold IsWsByte; decide

/-- `incomplete_is_extendable` on `{"a":[1,` : some continuation is accepted (for instance `0]}`) -/
example : ∃ ext, (run {} 10 ([0x7B, 0x22, 0x61, 0x22, 0x3A, 0x5B, 0x31, 0x2C] ++ ext)).1 = .ok := by
  have h := incomplete_is_extendable {} 10 [0x7B, 0x22, 0x61, 0x22, 0x3A, 0x5B, 0x31, 0x2C] (by decide +kernel) (by decide)
  have e : text [0x7B, 0x22, 0x61, 0x22, 0x3A, 0x5B, 0x31, 0x2C] = [0x7B, 0x22, 0x61, 0x22, 0x3A, 0x5B, 0x31, 0x2C] := by
    decide
  rw [e] at h
  exact h
example : (run {} 10 ([0x7B, 0x22, 0x61, 0x22, 0x3A, 0x5B, 0x31, 0x2C] ++ [0x30, 0x5D, 0x7D])).1 = .ok := by decide +kernel
/-- an unfinished `\u` escape and an unfinished comment are `IncompleteInput` and can be completed -/
example : (run {} 10 [0x22, 0x5C, 0x75, 0x34]).1 = .incomplete ∧
    (run {} 10 [0x22, 0x5C, 0x75, 0x34, 0x30, 0x30, 0x30, 0x22]).1 = .ok := by decide +kernel      -- `"\u4`, `"\u4000"`
example : (run { comments := true } 10 [0x5B, 0x2F, 0x2A, 0x78]).1 = .incomplete ∧
    (run { comments := true } 10 [0x5B, 0x2F, 0x2A, 0x78, 0x2A, 0x2F, 0x5D]).1 = .ok := by decide +kernel -- `[/*x`, `[/*x*/]`
/-- with `maxStrLen = 0`: `"a` is `IncompleteInput`, closing the string gives `NoMemory` -/
example : (run { maxStrLen := 0 } 10 [0x22, 0x61, 0x22]).1 = .noMemory := by decide +kernel

/-- `12` in `123`: a proper prefix of an accepted number is accepted -/
example : (run {} 10 [0x31, 0x32]).1 = .ok ∧ (run {} 10 [0x31, 0x32, 0x33]).1 = .ok := by decide +kernel

end ClassExamples

end C10
