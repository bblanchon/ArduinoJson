/- C13, last clause: "copyArray never writes beyond the destination it was given".
   Theorems about the model CA (tied to the library by the `copyarr` correspondence suite: same documents, destination sizes 0..N,
   guard cells and exactly-sized heap blocks under ASan). -/
import AJ.Model.CA
open JD

namespace C13

theorem copy1_cons_cons {α} (conv : Val → α) (x : Val) (xs : List Val) (d : α) (ds : List α) :
    CA.copy1 conv (x :: xs) (d :: ds) = (conv x :: (CA.copy1 conv xs ds).1, (CA.copy1 conv xs ds).2 + 1) := rfl

theorem copy2_cons_cons {α} (conv : Val → α) (x : Val) (xs : List Val) (r : List α) (rs : List (List α)) :
    CA.copy2 conv (x :: xs) (r :: rs) =
      ((CA.copy1 conv (CA.elems x) r).1 :: (CA.copy2 conv xs rs).1, (CA.copy2 conv xs rs).2 + 1) := rfl

/-- cells and count in closed form: the walk stops at the shorter of the two -/
theorem copy1_eq {α} (conv : Val → α) (xs : List Val) (dst : List α) :
    CA.copy1 conv xs dst = ((xs.take dst.length).map conv ++ dst.drop xs.length, min xs.length dst.length) := by
  induction xs generalizing dst with
  | nil => cases dst <;> rfl
  | cons x xs ih =>
    cases dst with
    | nil => rfl
    | cons d ds =>
      rw [copy1_cons_cons, ih ds, List.length_cons, List.length_cons, List.take_succ_cons, List.map_cons,
        List.drop_succ_cons, List.cons_append, Nat.succ_min_succ]

/-- exactly the first `count` cells hold the converted elements, every other cell is untouched -/
theorem copy1_content {α} (conv : Val → α) (xs : List Val) (dst : List α) :
    (CA.copy1 conv xs dst).1 = (xs.take dst.length).map conv ++ dst.drop xs.length := by
  rw [copy1_eq]

/-- the count returned is the smaller of the two lengths -/
theorem copy1_count {α} (conv : Val → α) (xs : List Val) (dst : List α) :
    (CA.copy1 conv xs dst).2 = min xs.length dst.length := by
  rw [copy1_eq]

/-- the destination keeps its size, whatever the array holds -/
theorem copy1_within {α} (conv : Val → α) (xs : List Val) (dst : List α) :
    (CA.copy1 conv xs dst).1.length = dst.length := by
  rw [copy1_content, List.length_append, List.length_map, List.length_take, List.length_drop]
  omega

theorem copy2_within {α} (conv : Val → α) (xs : List Val) (rows : List (List α)) :
    (CA.copy2 conv xs rows).1.length = rows.length ∧
    (CA.copy2 conv xs rows).1.map List.length = rows.map List.length := by
  induction xs generalizing rows with
  | nil => cases rows <;> exact ⟨rfl, rfl⟩
  | cons x xs ih =>
    cases rows with
    | nil => exact ⟨rfl, rfl⟩
    | cons r rs =>
      rw [copy2_cons_cons, List.length_cons, List.length_cons, List.map_cons, List.map_cons, (ih rs).1, (ih rs).2,
        copy1_within]
      exact ⟨rfl, rfl⟩

theorem copy2_count {α} (conv : Val → α) (xs : List Val) (rows : List (List α)) :
    (CA.copy2 conv xs rows).2 = min xs.length rows.length := by
  induction xs generalizing rows with
  | nil => cases rows <;> rfl
  | cons x xs ih =>
    cases rows with
    | nil => rfl
    | cons r rs => rw [copy2_cons_cons, ih rs, List.length_cons, List.length_cons, Nat.succ_min_succ]

/-- a non-empty destination receives `len` bytes of the string, a NUL, and keeps the cells after it, where
    `len = min (N-1) (length of the string)` -/
theorem copyStr_of_ne (v : Val) {dst : List Byte} (h : dst ≠ []) :
    CA.copyStr v dst = (CA.strOf v).take (min (dst.length - 1) (CA.strOf v).length) ++
      ([0] ++ dst.drop (min (dst.length - 1) (CA.strOf v).length + 1)) := by
  unfold CA.copyStr
  rw [if_neg (mt List.length_eq_zero_iff.mp h), List.append_assoc]

theorem length_take_min {α} (s : List α) (n : Nat) : (s.take (min n s.length)).length = min n s.length := by
  rw [List.length_take, Nat.min_assoc, Nat.min_self]

/-- a string copy keeps the destination's size, writes at most N-1 bytes of the string followed by one NUL, and nothing else -/
theorem copyStr_within (v : Val) (dst : List Byte) : (CA.copyStr v dst).length = dst.length := by
  cases dst with
  | nil => rfl
  | cons d ds =>
    rw [copyStr_of_ne v (List.cons_ne_nil d ds), List.length_append, length_take_min, List.length_append,
      List.length_drop, List.length_cons, List.length_singleton]
    omega

theorem copyStr_terminated (v : Val) (dst : List Byte) (h : dst ≠ []) :
    ∃ len, len = min (dst.length - 1) (CA.strOf v).length ∧ len < dst.length ∧
      (CA.copyStr v dst).take len = (CA.strOf v).take len ∧ (CA.copyStr v dst)[len]? = some 0 ∧
      (CA.copyStr v dst).drop (len + 1) = dst.drop (len + 1) := by
  have hl : 0 < dst.length := List.length_pos_iff.mpr h
  have ht := length_take_min (CA.strOf v) (dst.length - 1)
  rw [copyStr_of_ne v h]
  refine ⟨_, rfl, by omega, List.take_left' ht, ?_, ?_⟩
  · rw [List.getElem?_append_right (Nat.le_of_eq ht), ht, Nat.sub_self]
    rfl
  · rw [← List.append_assoc, List.drop_left' (by rw [List.length_append, ht, List.length_singleton])]

/-- non-vacuity: an array longer than the destination, a destination longer than the array, a non-array source -/
example : CA.copy1 (fun v => match v with | .num (.uint n) => n | _ => 0) [.num (.uint 1), .num (.uint 2), .num (.uint 3)] [9, 9] = ([1, 2], 2) := by decide
example : CA.copy1 (fun v => match v with | .num (.uint n) => n | _ => 0) [.num (.uint 1)] [9, 9, 9] = ([1, 9, 9], 1) := by decide
example : CA.copyStr (.str [0x61, 0x62, 0x63, 0x64]) [7, 7, 7] = [0x61, 0x62, 0] := by decide
example : CA.copyStr (.str [0x61]) [7, 7, 7, 7] = [0x61, 0, 7, 7] := by decide
example : CA.copyStr .null [7, 7] = [0, 7] := by decide

end C13
