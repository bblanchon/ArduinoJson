/- C15 — nesting limit: a document obtained with Ok has nesting() ≤ L (JSON unfiltered, JSON filtered, MessagePack);
   TooDeep is reported as soon as a container is opened at depth L+1 (also in parts that a filter discards).
   Helper lemmas: AJ/Lemmas/Depth.lean (depth bound, TooDeep at the limit), AJ/Lemmas/DepthMono.lean (the limit acts only through TooDeep). -/
import AJ.Lemmas.Depth
import AJ.Lemmas.DepthMono
import AJ.Lemmas.FilterId
import AJ.Lemmas.JDPosF
namespace C15
open JD

/-- JSON with a filter: a value returned with Ok has nesting depth ≤ the nesting limit. -/
theorem json_filtered_ok_depth (cfg : Cfg) (L : Nat) (flt : Flt) (input : List Byte)
    (h : (JD.frun cfg L flt input).1 = .ok) : depth (JD.frun cfg L flt input).2.1 ≤ L := by
  rw [frun_eq] at h ⊢
  rw [finishRun_val]
  exact (fokd_mutual (cfg := cfg) _).1 L flt _ (finishRun_code h (by decide))

-- `{"a":[1]}` through the allow-all filter: Ok, depth 2 = L
example : (JD.frun {} 2 .all [0x7B, 0x22, 0x61, 0x22, 0x3A, 0x5B, 0x31, 0x5D, 0x7D]).1 = .ok ∧
    depth (JD.frun {} 2 .all [0x7B, 0x22, 0x61, 0x22, 0x3A, 0x5B, 0x31, 0x5D, 0x7D]).2.1 = 2 := by decide +kernel
-- `[[1]]` under the filter `false` (everything discarded): Ok with L = 2 (value null), but still TooDeep with L = 1
example : (JD.frun {} 2 (.doc (some (.bool false))) [0x5B, 0x5B, 0x31, 0x5D, 0x5D]).1 = .ok ∧
    depth (JD.frun {} 2 (.doc (some (.bool false))) [0x5B, 0x5B, 0x31, 0x5D, 0x5D]).2.1 = 0 := by decide +kernel
example : (JD.frun {} 1 (.doc (some (.bool false))) [0x5B, 0x5B, 0x31, 0x5D, 0x5D]).1 = .tooDeep ∧
    (JD.frun {} 1 (.doc (some (.bool false))) [0x5B, 0x5B, 0x31, 0x5D, 0x5D]).2.2 = 2 := by decide +kernel

/-- JSON, unfiltered: a value returned with Ok has nesting depth ≤ the nesting limit. -/
theorem json_ok_depth (cfg : Cfg) (L : Nat) (input : List Byte)
    (h : (JD.run cfg L input).1 = .ok) : depth (JD.run cfg L input).2.1 ≤ L := by
  rw [run_all] at h ⊢
  exact json_filtered_ok_depth cfg L .all input h

-- `[[1]]` with L = 2 is accepted and has depth exactly 2 (the bound is attained); with L = 1 it is TooDeep after 2 bytes
example : (JD.run {} 2 [0x5B, 0x5B, 0x31, 0x5D, 0x5D]).1 = .ok ∧
    depth (JD.run {} 2 [0x5B, 0x5B, 0x31, 0x5D, 0x5D]).2.1 = 2 := by decide +kernel
example : (JD.run {} 1 [0x5B, 0x5B, 0x31, 0x5D, 0x5D]).1 = .tooDeep ∧
    (JD.run {} 1 [0x5B, 0x5B, 0x31, 0x5D, 0x5D]).2.2 = 2 := by decide +kernel

/-- MessagePack (with or without filter): a value returned with Ok has nesting depth ≤ the nesting limit. -/
theorem msgpack_ok_depth (env : MD.Env) (L : Nat) (flt : Flt) (input : List Byte)
    (h : (MD.run env L flt input).1 = .ok) : depth (MD.run env L flt input).2.1 ≤ L := by
  have h0 := (okm_mutual (env := env) (2 * input.length + 4)).1 L flt true ({ unread := input } : MD.R)
  revert h
  simp only [MD.run]
  generalize MD.parseVariant env (2 * input.length + 4) L flt true { unread := input } = x at h0 ⊢
  obtain ⟨e, v, r, found⟩ := x
  simp only
  intro h
  cases found
  · simp at h
  · simp only [↓reduceIte] at h; exact h0 h

-- MessagePack `[[1]]` = 91 91 01
example : (MD.run {} 2 .all [0x91, 0x91, 0x01]).1 = .ok ∧ depth (MD.run {} 2 .all [0x91, 0x91, 0x01]).2.1 = 2 := by
  decide +kernel
example : (MD.run {} 1 .all [0x91, 0x91, 0x01]).1 = .tooDeep ∧ (MD.run {} 1 .all [0x91, 0x91, 0x01]).2.2 = 2 := by
  decide +kernel

/-- With limit 0 no container routine is ever entered: an Ok result is a scalar (all three parsers). -/
theorem limit_zero_scalar (cfg : Cfg) (fuel : Nat) (s : St) (h : (parseVariant cfg fuel 0 s).1 = .ok) :
    depth (parseVariant cfg fuel 0 s).2.1 = 0 :=
  Nat.le_zero.mp ((okd_mutual (cfg := cfg) fuel).1 0 s h)

theorem limit_zero_scalar_filtered (cfg : Cfg) (fuel : Nat) (flt : Flt) (s : St)
    (h : (fparseVariant cfg fuel 0 flt s).1 = .ok) : depth (fparseVariant cfg fuel 0 flt s).2.1 = 0 :=
  Nat.le_zero.mp ((fokd_mutual (cfg := cfg) fuel).1 0 flt s h)

theorem limit_zero_scalar_msgpack (env : MD.Env) (fuel : Nat) (flt : Flt) (b : Bool) (r : MD.R)
    (h : (MD.parseVariant env fuel 0 flt b r).1 = .ok) : depth (MD.parseVariant env fuel 0 flt b r).2.1 = 0 :=
  Nat.le_zero.mp ((okm_mutual (env := env) fuel).1 0 flt b r h)

/-- every element / member value is parsed with the limit of the enclosing container routine, which is one less than
    the limit of the `parseVariant` call that opened the container: the values collected by `parseElems … limit`
    have depth ≤ limit, so the array has depth ≤ limit + 1. -/
theorem limit_monotone (cfg : Cfg) (fuel limit : Nat) (s : St) (acc : List Val) (hacc : depthList acc ≤ limit)
    (h : (parseElems cfg fuel limit s acc).1 = .ok) : depth (parseElems cfg fuel limit s acc).2.1 ≤ limit + 1 :=
  (okd_mutual (cfg := cfg) fuel).2.1 limit s acc hacc h

theorem limit_monotone_members (cfg : Cfg) (fuel limit : Nat) (s : St) (ms : List (List Byte × Val))
    (hms : depthMembers ms ≤ limit) (h : (parseMembers cfg fuel limit s ms).1 = .ok) :
    depth (parseMembers cfg fuel limit s ms).2.1 ≤ limit + 1 :=
  (okd_mutual (cfg := cfg) fuel).2.2 limit s ms hms h

/-! ### TooDeep "as soon as" the (L+1)-th container is opened -/

private theorem run_fuel_ok {wss : List (List Byte)} {rest : List Byte} :
    2 * (opens wss).length ≤ 2 * (opens wss ++ rest).length + 4 + 1 := by
  simp only [List.length_append]; omega

/-- JSON, any flags, any filter: if the input is `w₀ [ w₁ [ … w_L [ rest` (L+1 opening brackets, each preceded by
    arbitrary whitespace `wᵢ`), the result is TooDeep and the reader has taken exactly the bytes up to and including
    the (L+1)-th bracket — nothing of `rest` is looked at; also when the brackets lie in a part that the filter
    discards. -/
theorem toodeep_at_limit_filtered_ws (cfg : Cfg) (L : Nat) (flt : Flt) (wss : List (List Byte)) (rest : List Byte)
    (hlen : wss.length = L + 1) (hws : AllWs wss) :
    (JD.frun cfg L flt (opens wss ++ rest)).1 = .tooDeep ∧
    (JD.frun cfg L flt (opens wss ++ rest)).2.2 = (opens wss).length := by
  obtain ⟨v, s', hpv, _, _, hu⟩ := fpv_toodeep (cfg := cfg) L wss (2 * (opens wss ++ rest).length + 4) flt
    ({ l := { unread := opens wss ++ rest } } : St) rest hlen hws run_fuel_ok (by simp [stream])
  -- consumed + unread = length, all the way; at the end `rest` is unread
  have hi := (inv_fparse_mutual (n := (opens wss ++ rest).length) (cfg := cfg) (2 * (opens wss ++ rest).length + 4)).1 L flt
    ({ l := { unread := opens wss ++ rest } } : St) (by simp [JD.Inv])
  rw [hpv] at hi
  unfold JD.Inv at hi
  rw [hu] at hi
  simp only [List.length_append] at hi
  rw [frun_eq, hpv]
  exact ⟨rfl, by show s'.l.pos = _; omega⟩

/-- the unfiltered parser is the allow-all instance -/
theorem toodeep_at_limit_ws (cfg : Cfg) (L : Nat) (wss : List (List Byte)) (rest : List Byte)
    (hlen : wss.length = L + 1) (hws : AllWs wss) :
    (JD.run cfg L (opens wss ++ rest)).1 = .tooDeep ∧ (JD.run cfg L (opens wss ++ rest)).2.2 = (opens wss).length := by
  rw [run_all]; exact toodeep_at_limit_filtered_ws cfg L .all wss rest hlen hws

-- ` [\n\t[1]]` with L = 1: TooDeep after the 5 bytes ` [\n\t[`
example : (JD.run {} 1 ([0x20, 0x5B, 0x0A, 0x09, 0x5B] ++ [0x31, 0x5D, 0x5D])).1 = .tooDeep ∧
    (JD.run {} 1 ([0x20, 0x5B, 0x0A, 0x09, 0x5B] ++ [0x31, 0x5D, 0x5D])).2.2 = 5 :=
  toodeep_at_limit_ws {} 1 [[0x20], [0x0A, 0x09]] [0x31, 0x5D, 0x5D] rfl (by unfold AllWs; decide)

theorem toodeep_at_limit (cfg : Cfg) (L : Nat) (rest : List Byte) :
    (JD.run cfg L (List.replicate (L+1) 0x5B ++ rest)).1 = .tooDeep ∧
    (JD.run cfg L (List.replicate (L+1) 0x5B ++ rest)).2.2 = L + 1 := by
  have h := toodeep_at_limit_ws cfg L (List.replicate (L+1) []) rest (by simp)
    (by intro w hw; rw [List.eq_of_mem_replicate hw]; intro c hc; cases hc)
  rw [opens_replicate_nil] at h
  simpa using h

example : (JD.run {} 10 (List.replicate (10+1) 0x5B ++ [0x31])).1 = .tooDeep ∧
    (JD.run {} 10 (List.replicate (10+1) 0x5B ++ [0x31])).2.2 = 11 := toodeep_at_limit {} 10 [0x31]

theorem toodeep_at_limit_filtered (cfg : Cfg) (L : Nat) (flt : Flt) (rest : List Byte) :
    (JD.frun cfg L flt (List.replicate (L+1) 0x5B ++ rest)).1 = .tooDeep ∧
    (JD.frun cfg L flt (List.replicate (L+1) 0x5B ++ rest)).2.2 = L + 1 := by
  have h := toodeep_at_limit_filtered_ws cfg L flt (List.replicate (L+1) []) rest (by simp)
    (by intro w hw; rw [List.eq_of_mem_replicate hw]; intro c hc; cases hc)
  rw [opens_replicate_nil] at h
  simpa using h

-- discarded by the filter `{"k":true}` (an object filter does not allow arrays), yet TooDeep after 3 bytes
example : (JD.frun {} 2 (.doc (some (.obj [([0x6B], .bool true)]))) (List.replicate (2+1) 0x5B ++ [0x5D])).1 = .tooDeep ∧
    (JD.frun {} 2 (.doc (some (.obj [([0x6B], .bool true)]))) (List.replicate (2+1) 0x5B ++ [0x5D])).2.2 = 3 :=
  toodeep_at_limit_filtered {} 2 _ [0x5D]

/-- MessagePack, any filter: L+1 nested one-element array headers (0x91) give TooDeep after exactly L+1 bytes -/
theorem msgpack_toodeep_at_limit (env : MD.Env) (L : Nat) (flt : Flt) (rest : List Byte) :
    (MD.run env L flt (List.replicate (L+1) 0x91 ++ rest)).1 = .tooDeep ∧
    (MD.run env L flt (List.replicate (L+1) 0x91 ++ rest)).2.2 = L + 1 := by
  obtain ⟨v, r', hv, _, hp⟩ := mp_toodeep (env := env) L (2 * (List.replicate (L+1) 0x91 ++ rest).length + 4) flt true
    { unread := List.replicate (L+1) 0x91 ++ rest } rest (by simp; omega) rfl
  simp only [MD.run, hv, hp]
  simp

example : (MD.run {} 2 (.doc none) (List.replicate (2+1) 0x91 ++ [0x01])).1 = .tooDeep ∧
    (MD.run {} 2 (.doc none) (List.replicate (2+1) 0x91 ++ [0x01])).2.2 = 3 := msgpack_toodeep_at_limit {} 2 _ [0x01]

/-! ### "and never otherwise": the limit has no other effect than TooDeep

If the outcome with limit L is anything but TooDeep, then every larger limit gives exactly the same result (same code,
same document, same number of bytes read). Hence, for a given input, TooDeep is reported with limit L exactly when the
limit-free behaviour is not reproduced, i.e. when some container is opened beyond depth L. -/

theorem json_filtered_limit_only_toodeep (cfg : Cfg) (L L' : Nat) (flt : Flt) (input : List Byte) (hle : L ≤ L')
    (h : (JD.frun cfg L flt input).1 ≠ .tooDeep) : JD.frun cfg L' flt input = JD.frun cfg L flt input := by
  obtain ⟨k, rfl⟩ := Nat.exists_eq_add_of_le hle
  rw [frun_eq] at h
  have hpv : (fparseVariant cfg (2 * input.length + 4) L flt { l := { unread := input } }).1 ≠ .tooDeep :=
    fun hc => h (by rw [finishRun_code_of (by rw [hc]; decide), hc])
  rw [frun_eq, frun_eq,
    same_add (fun l => fparseVariant cfg (2 * input.length + 4) l flt { l := { unread := input } })
      (fun l => (mono_fmutual (cfg := cfg) _).1 l _ _) L k hpv]

theorem json_limit_only_toodeep (cfg : Cfg) (L L' : Nat) (input : List Byte) (hle : L ≤ L')
    (h : (JD.run cfg L input).1 ≠ .tooDeep) : JD.run cfg L' input = JD.run cfg L input := by
  rw [run_all] at h
  rw [run_all, run_all]; exact json_filtered_limit_only_toodeep cfg L L' .all input hle h

theorem msgpack_limit_only_toodeep (env : MD.Env) (L L' : Nat) (flt : Flt) (input : List Byte) (hle : L ≤ L')
    (h : (MD.run env L flt input).1 ≠ .tooDeep) : MD.run env L' flt input = MD.run env L flt input := by
  obtain ⟨k, rfl⟩ := Nat.exists_eq_add_of_le hle
  by_cases hpv : (MD.parseVariant env (2 * input.length + 4) L flt true { unread := input }).1 = .tooDeep
  · -- then the reader result is TooDeep unless nothing was found; `found` is false only for Incomplete at the first byte
    exfalso
    apply h
    simp only [MD.run]
    have hf := mp_toodeep_found env (2 * input.length + 4) L flt true { unread := input } hpv
    generalize MD.parseVariant env (2 * input.length + 4) L flt true { unread := input } = x at hpv hf ⊢
    obtain ⟨e, v, r, found⟩ := x
    simp only at hpv hf
    subst hpv hf
    rfl
  · have : MD.parseVariant env (2 * input.length + 4) (L + k) flt true { unread := input } =
        MD.parseVariant env (2 * input.length + 4) L flt true { unread := input } :=
      same_add (fun l => MD.parseVariant env (2 * input.length + 4) l flt true { unread := input })
        (fun l => (mono_mmutual (env := env) _).1 l _ _ _) L k hpv
    simp only [MD.run, this]

-- `[[1]]`: TooDeep with L = 1, and from L = 2 on the result no longer depends on the limit
example : JD.run {} 10 [0x5B, 0x5B, 0x31, 0x5D, 0x5D] = JD.run {} 2 [0x5B, 0x5B, 0x31, 0x5D, 0x5D] :=
  json_limit_only_toodeep {} 2 10 _ (by decide) (by decide +kernel)

end C15
