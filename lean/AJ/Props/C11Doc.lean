/- C11 at slot level — THE FILTERED SLOT-LEVEL DESERIALIZER REFINES THE VALUE-LEVEL FILTERED PARSER.

   `JDDF.run cfg limit flt d input` (AJ/Model/JDDF.lean) is `deserializeJson(doc, input, Filter(f), NestingLimit)` writing into
   the slot-level document `DL.Doc` (slots, chains, reference-counted strings, the StringBuilder and its allocation pattern;
   validated against the C++ including allocator logs and failure schedules). `JD.frun cfg limit flt input` (AJ/Model/JD.lean)
   is the value-level filtered deserializer that the projection theorems of C11 are about.

   * `C11.filtered_slot_level_core` / `filtered_slot_level_refines`: the statements of `C01.slot_level_core` /
     `C01.slot_level_refines` (AJ/Props/C01Doc.lean) for the filtered run, FOR EVERY FILTER: when no allocation failed, the code,
     the number of bytes consumed and the document left — complete or partial, for every code — are those of `JD.frun`, and the
     document is well-formed; in any case the code and the consumption are the value-level ones unless the answer is `NoMemory`
     with the overflow flag set.
   * `filtered_ok_no_overflow`, `filtered_slot_level_wf`, `filtered_ok_refines`.
   * `filtered_document_is_projection`: THE SLOT-LEVEL C11. If the unfiltered slot-level run (into any document) answers `Ok`
     and no allocation of the filtered run fails, the filtered run answers `Ok`, consumes the same number of bytes, and its
     document reads back as `Spec.Filter.project flt` of what the unfiltered document reads back as — for every input, filter,
     configuration and nesting limit (`C01.ok_refines` + `C11.json_projection_all_inputs` + the refinement).
   * `skipped_values_do_not_touch_document`: under a filter that allows nothing (`Filter` on an unbound variant, on `null`,
     `false`, a string …) the run is `JD.skipVariant` on the reader and the document left IS the cleared document: root `null`,
     no pool, no slot handed out, no string, and no allocator call beyond those of the clear.
   Helper lemmas: AJ/Lemmas/JddfSim.lean, JddfSimAll.lean (`JDDF.sim_all`: the simulation by induction on the fuel over the
   three mutual routines, in the outcome relation `JDD.Sim` of the unfiltered development), JddfRun.lean (`JDDF.run_core`). -/
import AJ.Lemmas.JddfRun
import AJ.Props.C01Doc
import AJ.Lemmas.JddMem
import AJ.Props.C11Full
set_option linter.unusedSimpArgs false
set_option linter.unusedVariables false

namespace C11
open DL JDD
open JD (Byte Val Cfg Code St Flt)

/-- the two outcomes of a filtered run: no allocation failed and everything agrees with the value-level filtered run (and the
    document is well-formed), or one failed and the code is not `Ok` -/
theorem filtered_slot_level_core (cfg : Cfg) (limit : Nat) (flt : Flt) (d : Doc) (input : List Byte) (gok : PL.GeoOK d.g)
    (hp : PL.Inv d.g d.pl) (h31 : 31 ≤ cfg.maxStrLen) :
    ((JDDF.run cfg limit flt d input).2.1.overflowed = false ∧
      (JDDF.run cfg limit flt d input).1 = (JD.frun cfg limit flt input).1 ∧
      (JDDF.run cfg limit flt d input).2.2 = (JD.frun cfg limit flt input).2.2 ∧
      (JDDF.run cfg limit flt d input).2.1.toVal (JDDF.run cfg limit flt d input).2.1.root =
        (JD.frun cfg limit flt input).2.1 ∧
      WF (JDDF.run cfg limit flt d input).2.1) ∨
    ((JDDF.run cfg limit flt d input).2.1.overflowed = true ∧ (JDDF.run cfg limit flt d input).1 ≠ .ok ∧
      ((JDDF.run cfg limit flt d input).1 = .noMemory ∨
        ((JDDF.run cfg limit flt d input).1 = (JD.frun cfg limit flt input).1 ∧
         (JDDF.run cfg limit flt d input).2.2 = (JD.frun cfg limit flt input).2.2))) :=
  JDDF.run_core cfg limit flt d input gok hp h31

/-- **C11 at slot level, refinement: the filtered slot-level deserializer refines the value-level filtered one, for every
    filter.** When no allocation failed, the code, the number of bytes consumed and the document left — complete or partial,
    for every code — are those of `JD.frun`; in any case the code and the consumption are those of `JD.frun` unless the answer
    is `NoMemory` with the overflow flag set. -/
theorem filtered_slot_level_refines (cfg : Cfg) (limit : Nat) (flt : Flt) (d : Doc) (input : List Byte)
    (gok : PL.GeoOK d.g) (hp : PL.Inv d.g d.pl) (h31 : 31 ≤ cfg.maxStrLen) :
    ((JDDF.run cfg limit flt d input).2.1.overflowed = false →
      (JDDF.run cfg limit flt d input).1 = (JD.frun cfg limit flt input).1 ∧
      (JDDF.run cfg limit flt d input).2.2 = (JD.frun cfg limit flt input).2.2 ∧
      (JDDF.run cfg limit flt d input).2.1.toVal (JDDF.run cfg limit flt d input).2.1.root =
        (JD.frun cfg limit flt input).2.1) ∧
    (((JDDF.run cfg limit flt d input).1 = (JD.frun cfg limit flt input).1 ∧
        (JDDF.run cfg limit flt d input).2.2 = (JD.frun cfg limit flt input).2.2) ∨
      ((JDDF.run cfg limit flt d input).1 = .noMemory ∧ (JDDF.run cfg limit flt d input).2.1.overflowed = true)) := by
  rcases filtered_slot_level_core cfg limit flt d input gok hp h31 with ⟨a, b, c, e, _⟩ | ⟨a, _, b⟩
  · exact ⟨fun _ => ⟨b, c, e⟩, Or.inl ⟨b, c⟩⟩
  · refine ⟨fun h => (by rw [a] at h; cases h), ?_⟩
    rcases b with b | b
    · exact Or.inr ⟨b, a⟩
    · exact Or.inl b

/-- `Ok` is never answered after an allocation failure: an `Ok` filtered run has the overflow flag clear -/
theorem filtered_ok_no_overflow (cfg : Cfg) (limit : Nat) (flt : Flt) (d : Doc) (input : List Byte) (gok : PL.GeoOK d.g)
    (hp : PL.Inv d.g d.pl) (h31 : 31 ≤ cfg.maxStrLen) (hok : (JDDF.run cfg limit flt d input).1 = .ok) :
    (JDDF.run cfg limit flt d input).2.1.overflowed = false := by
  rcases filtered_slot_level_core cfg limit flt d input gok hp h31 with ⟨a, _⟩ | ⟨_, b, _⟩
  · exact a
  · exact absurd hok b

/-- without an allocation failure the document left by a filtered run is well-formed — for every code -/
theorem filtered_slot_level_wf (cfg : Cfg) (limit : Nat) (flt : Flt) (d : Doc) (input : List Byte) (gok : PL.GeoOK d.g)
    (hp : PL.Inv d.g d.pl) (h31 : 31 ≤ cfg.maxStrLen) (hno : (JDDF.run cfg limit flt d input).2.1.overflowed = false) :
    WF (JDDF.run cfg limit flt d input).2.1 := by
  rcases filtered_slot_level_core cfg limit flt d input gok hp h31 with ⟨_, _, _, _, w⟩ | ⟨a, _⟩
  · exact w
  · rw [a] at hno; cases hno

/-- an `Ok` filtered run: the value-level filtered run is `Ok` too, with the same consumption, and the document reads back
    as its value -/
theorem filtered_ok_refines (cfg : Cfg) (limit : Nat) (flt : Flt) (d : Doc) (input : List Byte) (gok : PL.GeoOK d.g)
    (hp : PL.Inv d.g d.pl) (h31 : 31 ≤ cfg.maxStrLen) (hok : (JDDF.run cfg limit flt d input).1 = .ok) :
    (JD.frun cfg limit flt input).1 = .ok ∧
    (JDDF.run cfg limit flt d input).2.2 = (JD.frun cfg limit flt input).2.2 ∧
    (JDDF.run cfg limit flt d input).2.1.toVal (JDDF.run cfg limit flt d input).2.1.root =
      (JD.frun cfg limit flt input).2.1 := by
  obtain ⟨a, b, c⟩ := (filtered_slot_level_refines cfg limit flt d input gok hp h31).1
    (filtered_ok_no_overflow cfg limit flt d input gok hp h31 hok)
  exact ⟨by rw [← a]; exact hok, b, c⟩

/-- **C11 at slot level: the filtered document is the projection of the unfiltered one.** For every configuration (string
    limit at least the initial StringBuilder capacity), nesting limit, filter, input and starting documents `d`, `d'`: if the
    UNFILTERED slot-level run (into `d'`) answers `Ok` and no allocation of the filtered run (into `d`) fails, the filtered
    run answers `Ok`, consumes the same number of bytes, and its document reads back as `Spec.Filter.project flt` of what the
    unfiltered document reads back as. No grammar hypothesis: every input the library accepts. -/
theorem filtered_document_is_projection (cfg : Cfg) (L : Nat) (flt : Flt) (d d' : Doc) (input : List Byte)
    (gok : PL.GeoOK d.g) (hp : PL.Inv d.g d.pl) (gok' : PL.GeoOK d'.g) (hp' : PL.Inv d'.g d'.pl)
    (h31 : 31 ≤ cfg.maxStrLen) (hok : (JDD.run cfg L d' input).1 = .ok)
    (hno : (JDDF.run cfg L flt d input).2.1.overflowed = false) :
    (JDDF.run cfg L flt d input).1 = .ok ∧
    (JDDF.run cfg L flt d input).2.2 = (JDD.run cfg L d' input).2.2 ∧
    (JDDF.run cfg L flt d input).2.1.toVal (JDDF.run cfg L flt d input).2.1.root =
      Spec.Filter.project flt ((JDD.run cfg L d' input).2.1.toVal (JDD.run cfg L d' input).2.1.root) := by
  obtain ⟨u1, u2, u3⟩ := C01.ok_refines cfg L d' input gok' hp' h31 hok
  obtain ⟨f1, f2, f3⟩ := (filtered_slot_level_refines cfg L flt d input gok hp h31).1 hno
  have hpr := json_projection_all_inputs cfg L flt input u1
  rw [f1, f2, f3, u2, u3, hpr]
  exact ⟨rfl, rfl, rfl⟩

/-- the same with the allocator hypothesis on the answer: when both slot-level runs answer `Ok` -/
theorem filtered_document_is_projection_ok (cfg : Cfg) (L : Nat) (flt : Flt) (d d' : Doc) (input : List Byte)
    (gok : PL.GeoOK d.g) (hp : PL.Inv d.g d.pl) (gok' : PL.GeoOK d'.g) (hp' : PL.Inv d'.g d'.pl)
    (h31 : 31 ≤ cfg.maxStrLen) (hok : (JDD.run cfg L d' input).1 = .ok)
    (hokF : (JDDF.run cfg L flt d input).1 = .ok) :
    (JDDF.run cfg L flt d input).2.2 = (JDD.run cfg L d' input).2.2 ∧
    (JDDF.run cfg L flt d input).2.1.toVal (JDDF.run cfg L flt d input).2.1.root =
      Spec.Filter.project flt ((JDD.run cfg L d' input).2.1.toVal (JDD.run cfg L d' input).2.1.root) :=
  (filtered_document_is_projection cfg L flt d d' input gok hp gok' hp' h31 hok
    (filtered_ok_no_overflow cfg L flt d input gok hp h31 hokF)).2

/-- with an allocation failure in the filtered run the answer is `NoMemory` (the unfiltered run being `Ok`, the value-level
    filtered run is `Ok`, so no other error is possible) -/
theorem filtered_overflow_is_noMemory (cfg : Cfg) (L : Nat) (flt : Flt) (d d' : Doc) (input : List Byte)
    (gok : PL.GeoOK d.g) (hp : PL.Inv d.g d.pl) (gok' : PL.GeoOK d'.g) (hp' : PL.Inv d'.g d'.pl)
    (h31 : 31 ≤ cfg.maxStrLen) (hok : (JDD.run cfg L d' input).1 = .ok)
    (hov : (JDDF.run cfg L flt d input).2.1.overflowed = true) :
    (JDDF.run cfg L flt d input).1 = .noMemory := by
  obtain ⟨u1, _, _⟩ := C01.ok_refines cfg L d' input gok' hp' h31 hok
  have hpr := json_projection_all_inputs cfg L flt input u1
  rcases filtered_slot_level_core cfg L flt d input gok hp h31 with ⟨a, _⟩ | ⟨_, hne, b⟩
  · rw [a] at hov; cases hov
  · rcases b with b | ⟨b, _⟩
    · exact b
    · rw [hpr] at b
      exact absurd b hne

/-! ## A filter that allows nothing -/

/-- general form: a filter that allows neither arrays, objects nor values (`Filter` on an unbound variant, on `null`, `false`,
    `0`, a string …). The run is `JD.skipVariant` on the reader and the document left IS the cleared document. No hypothesis
    on the document or the allocator. -/
theorem allow_nothing_run (cfg : Cfg) (L : Nat) (flt : Flt) (hA : flt.allowArray = false) (hO : flt.allowObject = false)
    (hV : flt.allowValue = false) (d : Doc) (input : List Byte) :
    JDDF.run cfg L flt d input =
      ((JD.skipVariant cfg (2 * input.length + 4) L { l := { unread := input } }).1, d.clearAll,
       (JD.skipVariant cfg (2 * input.length + 4) L { l := { unread := input } }).2.l.pos) :=
  JDDF.run_allow_nothing cfg L hA hO hV d input

theorem clearAll_toVal_root (d : Doc) : d.clearAll.toVal d.clearAll.root = .null := by
  show d.clearAll.toValF d.clearAll.fuel .null = .null
  cases d.clearAll.fuel <;> rfl

/-- **skipped values do not touch the document**: `deserializeJson(doc, input, Filter(unbound))`. For every document,
    allocator, configuration, nesting limit and input: the code and the number of bytes consumed are those of the skipping
    routine `JD.skipVariant` on the reader; the document left is exactly the cleared document — it reads back as `null`, has
    no string, no pool and no slot handed out (`memSlots = usage = 0`), the overflow flag is clear, and its allocator state
    (call counter, log) is the one right after the clear: not a single allocator call was made by the parse. -/
theorem skipped_values_do_not_touch_document (cfg : Cfg) (L : Nat) (d : Doc) (input : List Byte) :
    (JDDF.run cfg L (.doc none) d input).1 =
      (JD.skipVariant cfg (2 * input.length + 4) L { l := { unread := input } }).1 ∧
    (JDDF.run cfg L (.doc none) d input).2.2 =
      (JD.skipVariant cfg (2 * input.length + 4) L { l := { unread := input } }).2.l.pos ∧
    (JDDF.run cfg L (.doc none) d input).2.1 = d.clearAll ∧
    (JDDF.run cfg L (.doc none) d input).2.1.toVal (JDDF.run cfg L (.doc none) d input).2.1.root = .null ∧
    (JDDF.run cfg L (.doc none) d input).2.1.overflowed = false ∧
    (JDDF.run cfg L (.doc none) d input).2.1.strings = [] ∧
    (JDDF.run cfg L (.doc none) d input).2.1.pl.pools = [] ∧
    PL.memSlots (JDDF.run cfg L (.doc none) d input).2.1.pl = 0 ∧
    PL.usage (JDDF.run cfg L (.doc none) d input).2.1.pl = 0 ∧
    (JDDF.run cfg L (.doc none) d input).2.1.pl.calls = d.clearAll.pl.calls ∧
    (JDDF.run cfg L (.doc none) d input).2.1.pl.log = d.clearAll.pl.log := by
  rw [allow_nothing_run cfg L (.doc none) rfl rfl rfl d input]
  have hp := (JDDF.clearAll_pools d).1
  refine ⟨rfl, rfl, rfl, clearAll_toVal_root d, rfl, rfl, hp, ?_, ?_, rfl, rfl⟩
  · show PL.memSlots d.clearAll.pl = 0
    unfold PL.memSlots; rw [hp]; rfl
  · show PL.usage d.clearAll.pl = 0
    unfold PL.usage; rw [hp]; rfl

/-- under a filter that allows nothing the document left does not depend on the input -/
theorem allow_nothing_input_independent (cfg : Cfg) (L : Nat) (flt : Flt) (hA : flt.allowArray = false)
    (hO : flt.allowObject = false) (hV : flt.allowValue = false) (d : Doc) (input input' : List Byte) :
    (JDDF.run cfg L flt d input).2.1 = (JDDF.run cfg L flt d input').2.1 := by
  rw [allow_nothing_run cfg L flt hA hO hV d input, allow_nothing_run cfg L flt hA hO hV d input']

end C11

/-! ## Non-vacuity: geometry ⟨4, 1, 1⟩ (4 slots per pool, 1 inline pool, 1-byte slot ids), default configuration.

   As in AJ/Props/C01Doc.lean the slot-level runs are evaluated in the kernel where they touch slot 0 only; the value-level
   runs are evaluated in the kernel; the theorems then give the code, the consumption and the value of the slot-level
   document. -/
namespace C11.ExDocF
open DL JDD
open JD (Byte Val Cfg Code St Flt)

def g411 : PL.Geo := ⟨4, 1, 1, 16, 16⟩
def dz : Doc := { g := g411, alloc := 0, pl := PL.init g411 }
theorem gok : PL.GeoOK dz.g := ⟨by decide, by decide⟩
theorem hp : PL.Inv dz.g dz.pl := PL.init_inv gok []
theorem h31 : 31 ≤ ({} : Cfg).maxStrLen := by decide

/-- `[{"a":[1,2]}]` -/
def tA : List Byte := [0x5B, 0x7B, 0x22, 0x61, 0x22, 0x3A, 0x5B, 0x31, 0x2C, 0x32, 0x5D, 0x7D, 0x5D]
/-- the filter `[{"b":true}]` -/
def fB : Flt := .doc (some (.arr [.obj [([0x62], .bool true)]]))
/-- `[7]` -/
def t7 : List Byte := [0x5B, 0x37, 0x5D]
/-- the filter `[false]` -/
def fF : Flt := .doc (some (.arr [.bool false]))
/-- the filter `[true]` -/
def fT : Flt := .doc (some (.arr [.bool true]))
/-- `[7` -/
def t7open : List Byte := [0x5B, 0x37]

set_option maxRecDepth 100000 in
theorem ov_tA : (JDDF.run {} 10 fB dz tA).2.1.overflowed = false := by decide +kernel
set_option maxRecDepth 100000 in
theorem ov_t7F : (JDDF.run {} 10 fF dz t7).2.1.overflowed = false := by decide +kernel
set_option maxRecDepth 100000 in
theorem ov_t7T : (JDDF.run {} 10 fT dz t7).2.1.overflowed = false := by decide +kernel
set_option maxRecDepth 100000 in
theorem ov_t7openT : (JDDF.run {} 10 fT dz t7open).2.1.overflowed = false := by decide +kernel
set_option maxRecDepth 100000 in
theorem ok_t7 : (JDD.run {} 10 dz t7).1 = .ok := by decide +kernel

/-- `[{"a":[1,2]}]` under `[{"b":true}]`: `Ok`, 13 bytes consumed, the element is an object built in slot 0, its member `"a"` is
    skipped (the key went through the StringBuilder — the allocator log shows its buffer — the value through `skipVariant`),
    and the slot-level document reads back as `[{}]` -/
example : (JDDF.run {} 10 fB dz tA).1 = .ok ∧ (JDDF.run {} 10 fB dz tA).2.2 = 13 ∧
    (JDDF.run {} 10 fB dz tA).2.1.toVal (JDDF.run {} 10 fB dz tA).2.1.root = .arr [.obj []] := by
  obtain ⟨a, b, c⟩ := (C11.filtered_slot_level_refines {} 10 fB dz tA gok hp h31).1 ov_tA
  rw [a, b, c]
  exact ⟨by decide +kernel, by decide +kernel, valEq_sound _ _ (by decide +kernel)⟩

set_option maxRecDepth 100000 in
/-- the allocator log of that run: pool block (4 slots of 16 bytes), StringBuilder buffer for the key of the skipped member
    (31 + 15 bytes), buffer released when the deserializer is destroyed, pool shrunk to the one slot in use -/
example : (JDDF.run {} 10 fB dz tA).2.1.pl.log = ["R16", "D", "A46", "A64"] := by decide +kernel

/-- the document of that run is well-formed -/
example : WF (JDDF.run {} 10 fB dz tA).2.1 := C11.filtered_slot_level_wf {} 10 fB dz tA gok hp h31 ov_tA

/-- `[7` under `[true]`: `IncompleteInput`, and the PARTIAL document `[7]` is the same on both sides -/
example : (JDDF.run {} 10 fT dz t7open).1 = .incomplete ∧
    (JDDF.run {} 10 fT dz t7open).2.1.toVal (JDDF.run {} 10 fT dz t7open).2.1.root = .arr [.num (.uint 7)] := by
  obtain ⟨a, _, c⟩ := (C11.filtered_slot_level_refines {} 10 fT dz t7open gok hp h31).1 ov_t7openT
  rw [a, c]
  exact ⟨by decide +kernel, valEq_sound _ _ (by decide +kernel)⟩

/-- `filtered_document_is_projection` on `[7]`: under `[false]` the filtered document is `project [false] [7] = []`, under
    `[true]` it is `[7]`; both `Ok` after the 3 bytes of the unfiltered run -/
example : (JDDF.run {} 10 fF dz t7).1 = .ok ∧ (JDDF.run {} 10 fF dz t7).2.2 = (JDD.run {} 10 dz t7).2.2 ∧
    (JDDF.run {} 10 fF dz t7).2.1.toVal (JDDF.run {} 10 fF dz t7).2.1.root =
      Spec.Filter.project fF ((JDD.run {} 10 dz t7).2.1.toVal (JDD.run {} 10 dz t7).2.1.root) :=
  C11.filtered_document_is_projection {} 10 fF dz dz t7 gok hp gok hp h31 ok_t7 ov_t7F

example : (JDDF.run {} 10 fF dz t7).2.1.toVal (JDDF.run {} 10 fF dz t7).2.1.root = .arr [] ∧
    (JDDF.run {} 10 fT dz t7).2.1.toVal (JDDF.run {} 10 fT dz t7).2.1.root = .arr [.num (.uint 7)] := by
  obtain ⟨_, _, a⟩ := C11.filtered_document_is_projection {} 10 fF dz dz t7 gok hp gok hp h31 ok_t7 ov_t7F
  obtain ⟨_, _, b⟩ := C11.filtered_document_is_projection {} 10 fT dz dz t7 gok hp gok hp h31 ok_t7 ov_t7T
  obtain ⟨_, _, u⟩ := C01.ok_refines {} 10 dz t7 gok hp h31 ok_t7
  rw [a, b, u]
  exact ⟨valEq_sound _ _ (by decide +kernel), valEq_sound _ _ (by decide +kernel)⟩

/-- an allocator that fails at its first call: the filtered run of `[7]` under `[true]` answers `NoMemory` with the overflow
    flag set (the unconditional clause), while under `[false]` nothing is allocated and the run is `Ok` -/
def dzf : Doc := { dz with pl := { dz.pl with failFrom := some 1 } }
set_option maxRecDepth 100000 in
example : (JDDF.run {} 10 fT dzf t7).1 = .noMemory ∧ (JDDF.run {} 10 fT dzf t7).2.1.overflowed = true ∧
    (JD.frun {} 10 fT t7).1 = .ok ∧ (JDDF.run {} 10 fF dzf t7).1 = .ok := by decide +kernel

/-- `skipped_values_do_not_touch_document` on `{"a":[1,2]}x` with an unbound filter: `Ok` after 11 bytes, document `null`,
    no allocator call at all (the document was empty: the clear makes none either) -/
def tS : List Byte := [0x7B, 0x22, 0x61, 0x22, 0x3A, 0x5B, 0x31, 0x2C, 0x32, 0x5D, 0x7D, 0x78]
example : (JDDF.run {} 10 (.doc none) dz tS).1 = .ok ∧ (JDDF.run {} 10 (.doc none) dz tS).2.2 = 11 ∧
    (JDDF.run {} 10 (.doc none) dz tS).2.1.toVal (JDDF.run {} 10 (.doc none) dz tS).2.1.root = .null ∧
    PL.memSlots (JDDF.run {} 10 (.doc none) dz tS).2.1.pl = 0 ∧ (JDDF.run {} 10 (.doc none) dz tS).2.1.pl.log = [] := by
  obtain ⟨a, b, _, c, _, _, _, e, _, _, f⟩ := C11.skipped_values_do_not_touch_document {} 10 dz tS
  rw [a, b, f]
  exact ⟨by decide +kernel, by decide +kernel, c, e, by decide +kernel⟩

/-- the unfiltered run of the same text consumes the same 11 bytes and needs the StringBuilder and three slots -/
example : (JD.run {} 10 tS).1 = .ok ∧ (JD.run {} 10 tS).2.2 = 11 := by decide +kernel

end C11.ExDocF
