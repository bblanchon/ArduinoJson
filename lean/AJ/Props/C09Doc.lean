/- C09 at slot level — THE SLOT-LEVEL MESSAGEPACK DESERIALIZER REFINES THE VALUE-LEVEL ONE.

   `MDD.run env limit d input` (AJ/Model/MDD.lean) is `deserializeMsgPack` writing into the slot-level document `DL.Doc`
   (slots with next pointers, head/tail collections, extension slots, reference-counted strings, the StringBuffer and its
   allocation pattern: `reserve(n)` of exactly `n` bytes, `save()`), validated against the C++ including allocation-failure
   schedules. `MD.run env limit .all input` (AJ/Model/MD.lean) is the value-level deserializer that the MessagePack
   theorems are about (C09 round trip and prefix classification, C11 projection, C15 depth, C16 sequences).

   Main theorem `C09.slot_level_refines`: for EVERY environment (no hypothesis on the string limit: the StringBuffer
   allocates exactly the announced size and `reserve` refuses a size beyond the limit exactly when the value-level reader
   does), every nesting limit, input and starting document (any content: it is cleared first; hypotheses: the geometry
   and the pool invariant), with `R := MDD.run …` and `R0 := MD.run … .all …`:
   * if no allocation failed (`R.2.1.overflowed = false`): same code, same number of bytes consumed, and the document
     left — for EVERY code, also the partial document left by an error — reads back as the abstract value;
   * unconditionally: either code and consumption are the abstract ones, or the code is `NoMemory` with the flag set.
   Sharper than for JSON (`C09.slot_level_core`): the overflow flag is set IF AND ONLY IF the answer is `NoMemory`
   (`C09.noMemory_iff_overflow`); the value-level `NoMemory` (a string / binary longer than the limit, refused without any
   allocator call) is answered `NoMemory` by the slot-level run too, with the flag set (`C09.abstract_noMemory`).
   The run is the filtered run under `AllowAllFilter` (`MDD.run_all`), so the core is `MDDF.run_core` (AJ/Lemmas/MddfRun.lean)
   at that filter: simulation by induction on the fuel over the three mutual routines (AJ/Lemmas/MddfSim.lean), in the local
   specification `Pre`/`Post`/`Fr` of AJ/Lemmas/DocCopy.lean, reusing the document steps of AJ/Lemmas/JddSimDoc.lean. -/
import AJ.Lemmas.MddSimAll
import AJ.Lemmas.MddfRun
import AJ.Lemmas.MddInv
import AJ.Props.C01Doc
import AJ.Props.C09Prefix
import AJ.Props.C15
import AJ.Props.C16
set_option linter.unusedSimpArgs false
set_option linter.unusedVariables false

namespace C09
open DL MDD
open JD (Byte Val Code Flt)
open MD (Env)

/-- the two outcomes of a run: no allocation failed and everything agrees (and the answer is not `NoMemory`), or one
    failed and the answer is `NoMemory` -/
theorem slot_level_core (env : Env) (limit : Nat) (d : Doc) (input : List Byte) (gok : PL.GeoOK d.g)
    (hp : PL.Inv d.g d.pl) :
    ((MDD.run env limit d input).2.1.overflowed = false ∧
      (MDD.run env limit d input).1 = (MD.run env limit .all input).1 ∧
      (MDD.run env limit d input).1 ≠ .noMemory ∧
      (MDD.run env limit d input).2.2 = (MD.run env limit .all input).2.2 ∧
      (MDD.run env limit d input).2.1.toVal (MDD.run env limit d input).2.1.root = (MD.run env limit .all input).2.1 ∧
      WF (MDD.run env limit d input).2.1) ∨
    ((MDD.run env limit d input).2.1.overflowed = true ∧ (MDD.run env limit d input).1 = .noMemory) := by
  rw [MDD.run_all]
  exact MDDF.run_core env limit .all d input gok hp

/-- **C09 at slot level: the slot-level MessagePack deserializer refines the value-level one.** For every environment,
    nesting limit, input and starting document: when no allocation failed, the code, the number of bytes consumed and
    the document left — complete or partial, for every code — are those of the value-level deserializer; in any case the
    code and the consumption are the value-level ones unless the answer is `NoMemory` with the overflow flag set. -/
theorem slot_level_refines (env : Env) (limit : Nat) (d : Doc) (input : List Byte) (gok : PL.GeoOK d.g)
    (hp : PL.Inv d.g d.pl) :
    ((MDD.run env limit d input).2.1.overflowed = false →
      (MDD.run env limit d input).1 = (MD.run env limit .all input).1 ∧
      (MDD.run env limit d input).2.2 = (MD.run env limit .all input).2.2 ∧
      (MDD.run env limit d input).2.1.toVal (MDD.run env limit d input).2.1.root = (MD.run env limit .all input).2.1) ∧
    (((MDD.run env limit d input).1 = (MD.run env limit .all input).1 ∧
        (MDD.run env limit d input).2.2 = (MD.run env limit .all input).2.2) ∨
      ((MDD.run env limit d input).1 = .noMemory ∧ (MDD.run env limit d input).2.1.overflowed = true)) := by
  rcases slot_level_core env limit d input gok hp with ⟨a, b, _, c, e, _⟩ | ⟨a, b⟩
  · exact ⟨fun _ => ⟨b, c, e⟩, Or.inl ⟨b, c⟩⟩
  · exact ⟨fun h => (by rw [a] at h; cases h), Or.inr ⟨b, a⟩⟩

/-- the overflow flag is set exactly when the answer is `NoMemory` -/
theorem noMemory_iff_overflow (env : Env) (limit : Nat) (d : Doc) (input : List Byte) (gok : PL.GeoOK d.g)
    (hp : PL.Inv d.g d.pl) :
    (MDD.run env limit d input).1 = .noMemory ↔ (MDD.run env limit d input).2.1.overflowed = true := by
  rcases slot_level_core env limit d input gok hp with ⟨a, _, b, _⟩ | ⟨a, b⟩
  · exact ⟨fun h => absurd h b, fun h => by rw [a] at h; cases h⟩
  · exact ⟨fun _ => a, fun _ => b⟩

/-- the value-level `NoMemory` (a string or binary value longer than the limit: no allocator call is made) is answered
    `NoMemory` by the slot-level run too, and the overflow flag is set -/
theorem abstract_noMemory (env : Env) (limit : Nat) (d : Doc) (input : List Byte) (gok : PL.GeoOK d.g)
    (hp : PL.Inv d.g d.pl) (h : (MD.run env limit .all input).1 = .noMemory) :
    (MDD.run env limit d input).1 = .noMemory ∧ (MDD.run env limit d input).2.1.overflowed = true := by
  rcases slot_level_core env limit d input gok hp with ⟨_, a, b, _⟩ | ⟨a, b⟩
  · exact absurd (by rw [a]; exact h) b
  · exact ⟨b, a⟩

/-- `Ok` is never answered after an allocation failure: an `Ok` run has the overflow flag clear -/
theorem ok_no_overflow (env : Env) (limit : Nat) (d : Doc) (input : List Byte) (gok : PL.GeoOK d.g)
    (hp : PL.Inv d.g d.pl) (hok : (MDD.run env limit d input).1 = .ok) :
    (MDD.run env limit d input).2.1.overflowed = false := by
  rcases slot_level_core env limit d input gok hp with ⟨a, _⟩ | ⟨_, b⟩
  · exact a
  · rw [b] at hok; cases hok

/-- without an allocation failure the document left is well-formed — for every code -/
theorem slot_level_wf (env : Env) (limit : Nat) (d : Doc) (input : List Byte) (gok : PL.GeoOK d.g)
    (hp : PL.Inv d.g d.pl) (hno : (MDD.run env limit d input).2.1.overflowed = false) :
    WF (MDD.run env limit d input).2.1 := by
  rcases slot_level_core env limit d input gok hp with ⟨_, _, _, _, _, w⟩ | ⟨a, _⟩
  · exact w
  · rw [a] at hno; cases hno

/-- an `Ok` run: the value-level run is `Ok` too, with the same consumption, and the document reads back as its value -/
theorem ok_refines (env : Env) (limit : Nat) (d : Doc) (input : List Byte) (gok : PL.GeoOK d.g)
    (hp : PL.Inv d.g d.pl) (hok : (MDD.run env limit d input).1 = .ok) :
    (MD.run env limit .all input).1 = .ok ∧ (MDD.run env limit d input).2.2 = (MD.run env limit .all input).2.2 ∧
    (MDD.run env limit d input).2.1.toVal (MDD.run env limit d input).2.1.root = (MD.run env limit .all input).2.1 := by
  obtain ⟨a, b, c⟩ := (slot_level_refines env limit d input gok hp).1 (ok_no_overflow env limit d input gok hp hok)
  exact ⟨by rw [← a]; exact hok, b, c⟩

/-- the geometry of the document is not changed by a run -/
theorem run_geo (env : Env) (limit : Nat) (d : Doc) (input : List Byte) (gok : PL.GeoOK d.g) (hp : PL.Inv d.g d.pl)
    (hno : (MDD.run env limit d input).2.1.overflowed = false) : (MDD.run env limit d input).2.1.g = d.g :=
  MDD.mp_run_g env limit input gok hp

/-- **C09 round trip, slot level.** The serializer's encoding of `v` (followed by anything) deserialized into ANY
    document with an allocator that does not fail: `Ok`, exactly the bytes of the encoding consumed, and the document
    left reads back as the value encoded (`norm v`: `v` up to the number representation chosen by the writer). -/
theorem roundtrip_slot_level (env : Env) (L : Nat) (v : Val) (hr : RawFree v) (hw : WithinLimits env v)
    (hd : depth v ≤ L) (rest : List Byte) (d : Doc) (gok : PL.GeoOK d.g) (hp : PL.Inv d.g d.pl)
    (hno : (MDD.run env L d (MD.ser v ++ rest)).2.1.overflowed = false) :
    (MDD.run env L d (MD.ser v ++ rest)).1 = .ok ∧ (MDD.run env L d (MD.ser v ++ rest)).2.2 = (MD.ser v).length ∧
    (MDD.run env L d (MD.ser v ++ rest)).2.1.toVal (MDD.run env L d (MD.ser v ++ rest)).2.1.root = norm v := by
  obtain ⟨a, b, c⟩ := (slot_level_refines env L d (MD.ser v ++ rest) gok hp).1 hno
  rw [a, b, c, roundtrip env L v hr hw hd rest]
  exact ⟨rfl, rfl, rfl⟩

/-- every legal encoding (`MD.Enc`: any width at every place, bin, ext, fixext, nested containers; followed by
    anything) deserialized into any document with an allocator that does not fail: `Ok`, exactly the bytes of the
    encoding consumed, and the document left reads back as the value the value-level deserializer yields -/
theorem enc_accepts_slot_level (env : Env) (L : Nat) {dd : Nat} {e : List Byte} (h : MD.Enc env dd e) (hd : dd ≤ L)
    (rest : List Byte) (d : Doc) (gok : PL.GeoOK d.g) (hp : PL.Inv d.g d.pl)
    (hno : (MDD.run env L d (e ++ rest)).2.1.overflowed = false) :
    (MDD.run env L d (e ++ rest)).1 = .ok ∧ (MDD.run env L d (e ++ rest)).2.2 = e.length ∧
    (MDD.run env L d (e ++ rest)).2.1.toVal (MDD.run env L d (e ++ rest)).2.1.root =
      (MD.run env L .all (e ++ rest)).2.1 := by
  obtain ⟨a, b, c⟩ := (slot_level_refines env L d (e ++ rest) gok hp).1 hno
  obtain ⟨h1, h2⟩ := enc_accepts env L .all h hd rest
  exact ⟨by rw [a, h1], by rw [b, h2], c⟩

/-- **C09 prefix classification, slot level**: with an allocator that does not fail, the encoding itself is accepted,
    the empty prefix is `EmptyInput`, every other proper prefix is `IncompleteInput`; the whole prefix is consumed -/
theorem prefix_classification_slot_level (env : Env) (L : Nat) (v : Val) (hr : RawFree v) (hw : WithinLimits env v)
    (hd : depth v ≤ L) (p : List Byte) (hpre : p <+: MD.ser v) (d : Doc) (gok : PL.GeoOK d.g) (hp : PL.Inv d.g d.pl)
    (hno : (MDD.run env L d p).2.1.overflowed = false) :
    (MDD.run env L d p).1 = (if p = MD.ser v then .ok else if p = [] then .empty else .incomplete) ∧
    (MDD.run env L d p).2.2 = p.length := by
  obtain ⟨a, b, _⟩ := (slot_level_refines env L d p gok hp).1 hno
  rw [a, b]
  exact prefix_classification env L v hr hw hd p hpre

/-- the same for every legal encoding -/
theorem enc_prefix_classification_slot_level (env : Env) (L : Nat) {dd : Nat} {e : List Byte} (h : MD.Enc env dd e)
    (hd : dd ≤ L) (p : List Byte) (hpre : p <+: e) (d : Doc) (gok : PL.GeoOK d.g) (hp : PL.Inv d.g d.pl)
    (hno : (MDD.run env L d p).2.1.overflowed = false) :
    (MDD.run env L d p).1 = (if p = e then .ok else if p = [] then .empty else .incomplete) ∧
    (MDD.run env L d p).2.2 = p.length := by
  obtain ⟨a, b, _⟩ := (slot_level_refines env L d p gok hp).1 hno
  rw [a, b]
  exact enc_prefix_classification env L .all h hd p hpre

/-- whatever the allocator does: a prefix of a legal encoding is never answered anything but the classification above
    or `NoMemory` (with the flag set) -/
theorem enc_prefix_classification_or_noMemory (env : Env) (L : Nat) {dd : Nat} {e : List Byte} (h : MD.Enc env dd e)
    (hd : dd ≤ L) (p : List Byte) (hpre : p <+: e) (d : Doc) (gok : PL.GeoOK d.g) (hp : PL.Inv d.g d.pl) :
    ((MDD.run env L d p).1 = (if p = e then .ok else if p = [] then .empty else .incomplete) ∧
      (MDD.run env L d p).2.2 = p.length) ∨
    ((MDD.run env L d p).1 = .noMemory ∧ (MDD.run env L d p).2.1.overflowed = true) := by
  rcases (slot_level_refines env L d p gok hp).2 with ⟨a, b⟩ | h2
  · left
    rw [a, b]
    exact enc_prefix_classification env L .all h hd p hpre
  · exact Or.inr h2

end C09

namespace C15
open DL MDD
open JD (Byte Val Code Flt)

/-- **C15, slot level, MessagePack.** A document obtained with `Ok` has nesting depth at most the nesting limit (whatever
    the allocator does: `Ok` is not answered after a failure). -/
theorem msgpack_ok_depth_slot_level (env : MD.Env) (L : Nat) (input : List Byte) (d : Doc)
    (gok : PL.GeoOK d.g) (hp : PL.Inv d.g d.pl) (hok : (MDD.run env L d input).1 = .ok) :
    C15.depth ((MDD.run env L d input).2.1.toVal (MDD.run env L d input).2.1.root) ≤ L := by
  obtain ⟨a, _, c⟩ := C09.ok_refines env L d input gok hp hok
  rw [c]
  exact msgpack_ok_depth env L .all input a

end C15

namespace C16
open DL MDD
open JD (Byte Val Code Flt)

/-- **C16, slot level, MessagePack.** Two back-to-back objects read by successive calls INTO THE SAME DOCUMENT (the second
    call starts from the document the first one left: it is cleared and reused): with an allocator that does not fail
    both calls answer `Ok`, the documents read back as the two values, and together the two encodings are consumed. -/
theorem msgpack_sequence_slot_level (env : MD.Env) (L : Nat) (v w : Val)
    (hv : C09.RawFree v ∧ C09.WithinLimits env v ∧ C09.depth v ≤ L)
    (hw : C09.RawFree w ∧ C09.WithinLimits env w ∧ C09.depth w ≤ L) (rest : List Byte) (d : Doc)
    (gok : PL.GeoOK d.g) (hp : PL.Inv d.g d.pl)
    (hno1 : (MDD.run env L d (MD.ser v ++ (MD.ser w ++ rest))).2.1.overflowed = false)
    (hno2 : (MDD.run env L (MDD.run env L d (MD.ser v ++ (MD.ser w ++ rest))).2.1
      ((MD.ser v ++ (MD.ser w ++ rest)).drop (MDD.run env L d (MD.ser v ++ (MD.ser w ++ rest))).2.2)).2.1.overflowed = false) :
    let input := MD.ser v ++ (MD.ser w ++ rest)
    let r1 := MDD.run env L d input
    let r2 := MDD.run env L r1.2.1 (input.drop r1.2.2)
    r1.1 = .ok ∧ r1.2.1.toVal r1.2.1.root = C09.norm v ∧ r2.1 = .ok ∧ r2.2.1.toVal r2.2.1.root = C09.norm w ∧
      r1.2.2 + r2.2.2 = (MD.ser v).length + (MD.ser w).length := by
  intro input r1 r2
  obtain ⟨a1, a2, a3⟩ := C09.roundtrip_slot_level env L v hv.1 hv.2.1 hv.2.2 (MD.ser w ++ rest) d gok hp hno1
  have hg : r1.2.1.g = d.g := C09.run_geo env L d input gok hp hno1
  obtain ⟨F, wf, _⟩ := C09.slot_level_wf env L d input gok hp hno1
  have gok1 : PL.GeoOK r1.2.1.g := by rw [hg]; exact gok
  have hdrop : input.drop r1.2.2 = MD.ser w ++ rest := by
    show (MD.ser v ++ (MD.ser w ++ rest)).drop (MDD.run env L d (MD.ser v ++ (MD.ser w ++ rest))).2.2 = _
    rw [a2]; simp
  have hno2' : (MDD.run env L r1.2.1 (MD.ser w ++ rest)).2.1.overflowed = false := by
    have : (MDD.run env L r1.2.1 (input.drop r1.2.2)).2.1.overflowed = false := hno2
    rw [hdrop] at this; exact this
  obtain ⟨b1, b2, b3⟩ := C09.roundtrip_slot_level env L w hw.1 hw.2.1 hw.2.2 rest r1.2.1 gok1 wf.pool hno2'
  have hr2 : r2 = MDD.run env L r1.2.1 (MD.ser w ++ rest) := by
    show MDD.run env L r1.2.1 (input.drop r1.2.2) = _
    rw [hdrop]
  rw [hr2]
  exact ⟨a1, a3, b1, b3, by rw [a2, b2]⟩

end C16

/-! ## Non-vacuity: geometry ⟨4, 1, 1⟩ (4 slots per pool, 1 inline pool, 1-byte slot ids), default environment

   The hypotheses of `C09.slot_level_refines` are discharged for the fresh document `C01.ExDoc.dz`; the overflow flag of
   the slot-level run is evaluated in the kernel where the run touches slot 0 only (`Std.HashMap` lookups with another key
   do not evaluate in the kernel); the value-level run is evaluated in the kernel; the theorem then gives the code, the
   consumption and the abstract value of the slot-level document. For runs that touch two or more slots the facts are
   derived from `C09.slot_level_core` instead. -/
namespace C09.ExDoc
open DL MDD C01.ExDoc
open JD (Byte Val Code)

/-- `[1]` : fixarray of one positive fixint -/
def arr1 : List Byte := [0x91, 0x01]
/-- `"hi"` : fixstr -/
def hi : List Byte := [0xa2, 0x68, 0x69]
/-- `{"a":1,"a":2}` : a repeated key — MessagePack members are appended without lookup, both are kept -/
def dup : List Byte := [0x82, 0xa1, 0x61, 0x01, 0xa1, 0x61, 0x02]
/-- fixarray of one element, element missing: an error leaves the partial document -/
def arrOpen : List Byte := [0x91]
/-- fixarray of two elements, the second missing -/
def arrOpen2 : List Byte := [0x92, 0x01]
/-- bin 8 with one byte of payload: stored as a raw node holding header and payload -/
def bin1 : List Byte := [0xc4, 0x01, 0xff]

set_option maxRecDepth 100000 in
theorem ov_arr1 : (MDD.run {} 10 dz arr1).2.1.overflowed = false := by decide +kernel
set_option maxRecDepth 100000 in
theorem ov_hi : (MDD.run {} 10 dz hi).2.1.overflowed = false := by decide +kernel
set_option maxRecDepth 100000 in
theorem ov_arrOpen : (MDD.run {} 10 dz arrOpen).2.1.overflowed = false := by decide +kernel
set_option maxRecDepth 100000 in
theorem ov_bin1 : (MDD.run {} 10 dz bin1).2.1.overflowed = false := by decide +kernel

/-- `91 01` into a fresh document: `Ok`, 2 bytes consumed, and the slot-level document (an array whose chain holds one slot
    with the integer) reads back as `[1]` -/
example : (MDD.run {} 10 dz arr1).1 = .ok ∧ (MDD.run {} 10 dz arr1).2.2 = 2 ∧
    (MDD.run {} 10 dz arr1).2.1.toVal (MDD.run {} 10 dz arr1).2.1.root = .arr [.num (.sint 1)] := by
  obtain ⟨a, b, c⟩ := (slot_level_refines {} 10 dz arr1 gok hp).1 ov_arr1
  rw [a, b, c]
  exact ⟨by decide +kernel, by decide +kernel, valEq_sound _ _ (by decide +kernel)⟩

/-- `a2 68 69`: the string went through the StringBuffer model (`reserve`, `save`) and the string table -/
example : (MDD.run {} 10 dz hi).1 = .ok ∧ (MDD.run {} 10 dz hi).2.2 = 3 ∧
    (MDD.run {} 10 dz hi).2.1.toVal (MDD.run {} 10 dz hi).2.1.root = .str [0x68, 0x69] := by
  obtain ⟨a, b, c⟩ := (slot_level_refines {} 10 dz hi gok hp).1 ov_hi
  rw [a, b, c]
  exact ⟨by decide +kernel, by decide +kernel, valEq_sound _ _ (by decide +kernel)⟩

/-- `c4 01 ff`: a binary value is kept as a raw node: header byte, size byte and payload -/
example : (MDD.run {} 10 dz bin1).1 = .ok ∧ (MDD.run {} 10 dz bin1).2.2 = 3 ∧
    (MDD.run {} 10 dz bin1).2.1.toVal (MDD.run {} 10 dz bin1).2.1.root = .raw [0xc4, 0x01, 0xff] := by
  obtain ⟨a, b, c⟩ := (slot_level_refines {} 10 dz bin1 gok hp).1 ov_bin1
  rw [a, b, c]
  exact ⟨by decide +kernel, by decide +kernel, valEq_sound _ _ (by decide +kernel)⟩

/-- `91` : `IncompleteInput`, and the PARTIAL document `[null]` (the element slot was appended before its value was
    looked for) is the same on both sides -/
example : (MDD.run {} 10 dz arrOpen).1 = .incomplete ∧
    (MDD.run {} 10 dz arrOpen).2.1.toVal (MDD.run {} 10 dz arrOpen).2.1.root = .arr [.null] := by
  obtain ⟨a, _, c⟩ := (slot_level_refines {} 10 dz arrOpen gok hp).1 ov_arrOpen
  rw [a, c]
  exact ⟨by decide +kernel, valEq_sound _ _ (by decide +kernel)⟩

/-- the round-trip corollary on the serializer's encoding of `[1]` -/
example : (MDD.run {} 10 dz (MD.ser (.arr [.num (.uint 1)]) ++ [])).1 = .ok ∧
    (MDD.run {} 10 dz (MD.ser (.arr [.num (.uint 1)]) ++ [])).2.1.toVal
      (MDD.run {} 10 dz (MD.ser (.arr [.num (.uint 1)]) ++ [])).2.1.root = norm (.arr [.num (.uint 1)]) := by
  have hs : MD.ser (.arr [.num (.uint 1)]) ++ [] = arr1 := by decide +kernel
  obtain ⟨a, _, c⟩ := roundtrip_slot_level {} 10 (.arr [.num (.uint 1)])
    (by simp [RawFree, RawFreeElems]) (by simp [WithinLimits, WithinLimitsElems, NumOk]) (by decide) [] dz gok hp
    (by rw [hs]; exact ov_arr1)
  exact ⟨a, c⟩

/-- `82 a1 61 01 a1 61 02` (four slots: the run does not evaluate in the kernel). The value-level run answers `Ok` with BOTH
    members `"a": 1, "a": 2` after 7 bytes; hence the slot-level run either answers `Ok` after 7 bytes, leaving a document
    that reads back as `{"a":1,"a":2}`, or it answers `NoMemory` with the overflow flag set (evaluating the model, `#eval`,
    shows the first: the allocator of `dz` never fails). -/
example :
    ((MDD.run {} 10 dz dup).1 = .ok ∧ (MDD.run {} 10 dz dup).2.2 = 7 ∧
      (MDD.run {} 10 dz dup).2.1.toVal (MDD.run {} 10 dz dup).2.1.root =
        .obj [([0x61], .num (.sint 1)), ([0x61], .num (.sint 2))]) ∨
    ((MDD.run {} 10 dz dup).1 = .noMemory ∧ (MDD.run {} 10 dz dup).2.1.overflowed = true) := by
  have h0 : (MD.run {} 10 .all dup).1 = .ok ∧ (MD.run {} 10 .all dup).2.2 = 7 ∧
      (MD.run {} 10 .all dup).2.1 = .obj [([0x61], .num (.sint 1)), ([0x61], .num (.sint 2))] :=
    ⟨by decide +kernel, by decide +kernel, valEq_sound _ _ (by decide +kernel)⟩
  rcases slot_level_core {} 10 dz dup gok hp with ⟨_, a, _, b, c, _⟩ | ⟨a, b⟩
  · exact Or.inl ⟨by rw [a]; exact h0.1, by rw [b]; exact h0.2.1, by rw [c]; exact h0.2.2⟩
  · exact Or.inr ⟨b, a⟩

/-- `92 01` (two slots): `IncompleteInput` after 2 bytes with the partial document `[1, null]`, or `NoMemory` -/
example :
    ((MDD.run {} 10 dz arrOpen2).1 = .incomplete ∧ (MDD.run {} 10 dz arrOpen2).2.2 = 2 ∧
      (MDD.run {} 10 dz arrOpen2).2.1.toVal (MDD.run {} 10 dz arrOpen2).2.1.root = .arr [.num (.sint 1), .null]) ∨
    ((MDD.run {} 10 dz arrOpen2).1 = .noMemory ∧ (MDD.run {} 10 dz arrOpen2).2.1.overflowed = true) := by
  have h0 : (MD.run {} 10 .all arrOpen2).1 = .incomplete ∧ (MD.run {} 10 .all arrOpen2).2.2 = 2 ∧
      (MD.run {} 10 .all arrOpen2).2.1 = .arr [.num (.sint 1), .null] :=
    ⟨by decide +kernel, by decide +kernel, valEq_sound _ _ (by decide +kernel)⟩
  rcases slot_level_core {} 10 dz arrOpen2 gok hp with ⟨_, a, _, b, c, _⟩ | ⟨a, b⟩
  · exact Or.inl ⟨by rw [a]; exact h0.1, by rw [b]; exact h0.2.1, by rw [c]; exact h0.2.2⟩
  · exact Or.inr ⟨b, a⟩

/-- an allocator that fails at its first call (`C01.ExDoc.dzf`): `NoMemory`, overflow flag set, as the unconditional clause
    allows, while the value-level run answers `Ok` -/
example : (MDD.run {} 10 dzf hi).1 = .noMemory ∧ (MDD.run {} 10 dzf hi).2.1.overflowed = true ∧
    (MD.run {} 10 .all hi).1 = .ok := by decide +kernel

/-- after an allocation failure the consumption differs too (the slot-level run stops at the failed `addElement`, after the
    header: 1 byte; the value-level run consumes the 2 bytes): the unconditional clause is a disjunction -/
example : (MDD.run {} 10 dzf arr1).1 = .noMemory ∧ (MDD.run {} 10 dzf arr1).2.2 = 1 ∧
    (MD.run {} 10 .all arr1).1 = .ok ∧ (MD.run {} 10 .all arr1).2.2 = 2 := by decide +kernel

/-- a string longer than the limit: BOTH sides answer `NoMemory` after the header byte; the slot-level run sets the
    overflow flag although no allocator call was made (`calls = 0`) — the first clause of the theorem is about runs with
    the flag clear, this run falls under `C09.abstract_noMemory` -/
example : (MD.run ⟨1⟩ 10 .all hi).1 = .noMemory ∧ (MDD.run ⟨1⟩ 10 dz hi).1 = .noMemory ∧
    (MDD.run ⟨1⟩ 10 dz hi).2.1.overflowed = true ∧ (MDD.run ⟨1⟩ 10 dz hi).2.1.pl.calls = 0 ∧
    (MDD.run ⟨1⟩ 10 dz hi).2.2 = (MD.run ⟨1⟩ 10 .all hi).2.2 := by decide +kernel

/-- no hypothesis on the string limit is needed (contrast with `C01.slot_level_refines`, which needs `31 ≤ maxStrLen`: the
    JSON StringBuilder starts with 31 bytes): with a limit of 3 bytes the 4-byte string `a4 61 62 63 64` is refused by both
    deserializers, the 3-byte string `a3 61 62 63` is accepted by both -/
example : (MD.run ⟨3⟩ 10 .all [0xa4, 0x61, 0x62, 0x63, 0x64]).1 = .noMemory ∧
    (MDD.run ⟨3⟩ 10 dz [0xa4, 0x61, 0x62, 0x63, 0x64]).1 = .noMemory ∧
    (MD.run ⟨3⟩ 10 .all [0xa3, 0x61, 0x62, 0x63]).1 = .ok ∧ (MDD.run ⟨3⟩ 10 dz [0xa3, 0x61, 0x62, 0x63]).1 = .ok ∧
    (MDD.run ⟨3⟩ 10 dz [0xa3, 0x61, 0x62, 0x63]).2.1.overflowed = false := by decide +kernel

/-- `C15.msgpack_ok_depth_slot_level` on `91 01` with limit 1 -/
example : C15.depth ((MDD.run {} 1 dz arr1).2.1.toVal (MDD.run {} 1 dz arr1).2.1.root) ≤ 1 :=
  C15.msgpack_ok_depth_slot_level {} 1 arr1 dz gok hp (by decide +kernel)

end C09.ExDoc
