/- C03 at the document level, MessagePack: "deserializeMsgPack applied to ANY byte sequence leaves the document a
   well-formed value that can be traversed, cleared and reused" - for the slot-level deserializer `MDD.run`
   (AJ/Model/MDD.lean: the MessagePack deserializer writing into the slot-level document `DL.Doc` through the operations
   the C++ uses, StringBuffer included), for every environment, nesting limit, input, starting document and EVERY allocator
   failure schedule (`failAt`, `failFrom` are arbitrary), and whatever the result code is.
   Invariant: `DL.WFG` / `DL.StrOK` (AJ/Lemmas/DocInv.lean); proof: AJ/Lemmas/MddInv.lean, from the filtered
   development AJ/Lemmas/MddfInv.lean at `AllowAllFilter` (induction on the fuel over the mutual block `parseVariant /
   readArray / readObject`, invariant `JDD.Built` of AJ/Lemmas/JddOps.lean, shared with the JSON twin AJ/Props/C03Doc.lean). -/
import AJ.Lemmas.MddInv
import AJ.Props.C03Doc
namespace C03
open DL
open JD (Byte Code)

/-- WELL-FORMED AFTER ANY INPUT, ANY FAILURE SCHEDULE. `d` is any document whose pool list satisfies its invariant (every
    reachable document does: `WFG.pool`); `run` clears it first. The allocator oracle of `d.pl` is arbitrary. -/
theorem mp_deserialized_document_wf (env : MD.Env) (limit : Nat) (d : Doc) (input : List Byte) (gok : PL.GeoOK d.g)
    (hp : PL.Inv d.g d.pl) :
    ∃ F', WFG (MDD.run env limit d input).2.1 F' ∧
      StrOK (MDD.run env limit d input).2.1 ((MDD.run env limit d input).2.1.strRefs F') :=
  MDD.mp_run_wf env limit input gok hp

/-- the same, with the failure oracle made explicit: for every list `fa` of failing call positions and every `k`
    ("every call from position `k` on fails") -/
theorem mp_deserialized_document_wf_any_oracle (env : MD.Env) (limit : Nat) (d : Doc) (input : List Byte)
    (gok : PL.GeoOK d.g) (hp : PL.Inv d.g d.pl) (fa : List Nat) (k : Option Nat) :
    WF (MDD.run env limit { d with pl := { d.pl with failAt := fa, failFrom := k } } input).2.1 :=
  MDD.mp_run_wf env limit input (d := { d with pl := { d.pl with failAt := fa, failFrom := k } }) gok
    (hp.congr rfl rfl rfl rfl)

/-- the result can be TRAVERSED: the fuelled walk `toVal` never runs out of fuel, it computes the value of the layout -/
theorem mp_deserialized_document_traversable (env : MD.Env) (limit : Nat) (d : Doc) (input : List Byte)
    (gok : PL.GeoOK d.g) (hp : PL.Inv d.g d.pl) :
    ∃ F', WFG (MDD.run env limit d input).2.1 F' ∧
      abs (MDD.run env limit d input).2.1 =
        (MDD.run env limit d input).2.1.valOf (MDD.run env limit d input).2.1.root F' := by
  obtain ⟨F', w, _⟩ := MDD.mp_run_wf env limit input gok hp
  exact ⟨F', w, abs_eq w⟩

/-- the result can be CLEARED: `clear()` on the root leaves a well-formed null document -/
theorem mp_deserialized_document_clearable (env : MD.Env) (limit : Nat) (d : Doc) (input : List Byte)
    (gok : PL.GeoOK d.g) (hp : PL.Inv d.g d.pl) :
    WF ((MDD.run env limit d input).2.1.clearV .root) ∧ abs ((MDD.run env limit d input).2.1.clearV .root) = .null := by
  obtain ⟨F', w, hs⟩ := MDD.mp_run_wf env limit input gok hp
  obtain ⟨a, b, c, _⟩ := clearV_spec w hs (l := .root) trivial
  exact ⟨⟨_, a, b⟩, c⟩

/-- the result can be REUSED: deserializing again into it (any input, any environment) gives a well-formed document -/
theorem mp_deserialized_document_reusable (env env' : MD.Env) (limit limit' : Nat) (d : Doc) (input input' : List Byte)
    (gok : PL.GeoOK d.g) (hp : PL.Inv d.g d.pl) :
    WF (MDD.run env' limit' (MDD.run env limit d input).2.1 input').2.1 := by
  obtain ⟨F', w, _⟩ := MDD.mp_run_wf env limit input gok hp
  exact MDD.mp_run_wf env' limit' input' (by rw [MDD.mp_run_g env limit input gok hp]; exact gok) w.pool

/-- ... also by the JSON deserializer, and the other way round: the two deserializers share the document invariant -/
theorem mp_deserialized_document_reusable_by_json (env : MD.Env) (cfg : JD.Cfg) (limit limit' : Nat) (d : Doc)
    (input input' : List Byte) (gok : PL.GeoOK d.g) (hp : PL.Inv d.g d.pl) :
    WF (JDD.run cfg limit' (MDD.run env limit d input).2.1 input').2.1 ∧
    WF (MDD.run env limit' (JDD.run cfg limit d input).2.1 input').2.1 := by
  obtain ⟨F', w, _⟩ := MDD.mp_run_wf env limit input gok hp
  obtain ⟨F2, w2, _⟩ := JDD.run_wf cfg limit input gok hp
  exact ⟨JDD.run_wf cfg limit' input' (by rw [MDD.mp_run_g env limit input gok hp]; exact gok) w.pool,
    MDD.mp_run_wf env limit' input' (by rw [JDD.run_g cfg limit input gok hp]; exact gok) w2.pool⟩

/-! ## Non-vacuity: tiny geometry (4 slots per pool, 1 pool in the inline table, 1-byte slot ids; `C03.ExDoc`) -/
namespace ExMp
open ExDoc

/-- `[1]` -/
def mArr1 : List Byte := [0x91, 0x01]
/-- `"hi"` -/
def mHi : List Byte := [0xa2, 0x68, 0x69]
/-- `{"a":1}` -/
def mObj1 : List Byte := [0x81, 0xa1, 0x61, 0x01]
/-- `{"a":1,"a":"a"}`: a repeated key (both members are kept), a string stored three times (one node, three references) -/
def mObj2 : List Byte := [0x82, 0xa1, 0x61, 0x01, 0xa1, 0x61, 0xa1, 0x61]
/-- the 64-bit unsigned integer 0x0102030405060708 (needs an extension slot) -/
def mBig : List Byte := [0xcf, 1, 2, 3, 4, 5, 6, 7, 8]

/-- `"hi"` without failure: Ok, one string node; the buffer is allocated with the exact size (`A17` = 2 + 15) and
    becomes the node without a reallocation -/
example : (MDD.run {} 10 (dk []) mHi).1 = .ok ∧ (MDD.run {} 10 (dk []) mHi).2.1.pl.log = ["A17"] ∧
    WF (MDD.run {} 10 (dk []) mHi).2.1 :=
  ⟨by decide +kernel, by decide +kernel, mp_deserialized_document_wf {} 10 (dk []) mHi gok (dk_inv [])⟩

/-- `"hi"` when the buffer's allocation fails: NoMemory, and still a well-formed document -/
example : (MDD.run {} 10 (dk [1]) mHi).1 = .noMemory ∧ (MDD.run {} 10 (dk [1]) mHi).2.1.pl.log = ["A17!"] ∧
    WF (MDD.run {} 10 (dk [1]) mHi).2.1 :=
  ⟨by decide +kernel, by decide +kernel, mp_deserialized_document_wf {} 10 (dk [1]) mHi gok (dk_inv [1])⟩

/-- `[1]`, without failure and with the pool allocation failing -/
example : (MDD.run {} 10 (dk []) mArr1).1 = .ok ∧ WF (MDD.run {} 10 (dk []) mArr1).2.1 :=
  ⟨by decide +kernel, mp_deserialized_document_wf {} 10 (dk []) mArr1 gok (dk_inv [])⟩
example : (MDD.run {} 10 (dk [1]) mArr1).1 = .noMemory ∧ WF (MDD.run {} 10 (dk [1]) mArr1).2.1 :=
  ⟨by decide +kernel, mp_deserialized_document_wf {} 10 (dk [1]) mArr1 gok (dk_inv [1])⟩

/-- objects, a repeated key, a 64-bit integer, truncated input, a nesting limit of 0, every single failure position:
    always well-formed (the kernel does not evaluate cell maps with a key above 0, the theorem does not need to) -/
example (k : Nat) : WF (MDD.run {} 10 (dk [k]) mObj1).2.1 ∧ WF (MDD.run {} 10 (dk [k]) mObj2).2.1 ∧
    WF (MDD.run {} 10 (dk [k]) (mObj2.take 5)).2.1 ∧ WF (MDD.run {} 0 (dk [k]) mObj2).2.1 ∧
    WF (MDD.run {} 10 (dk [k]) mBig).2.1 :=
  ⟨mp_deserialized_document_wf {} 10 (dk [k]) mObj1 gok (dk_inv [k]),
    mp_deserialized_document_wf {} 10 (dk [k]) mObj2 gok (dk_inv [k]),
    mp_deserialized_document_wf {} 10 (dk [k]) _ gok (dk_inv [k]),
    mp_deserialized_document_wf {} 0 (dk [k]) mObj2 gok (dk_inv [k]),
    mp_deserialized_document_wf {} 10 (dk [k]) mBig gok (dk_inv [k])⟩

/-- the oracle "every call from the 2nd on fails" -/
example : WF (MDD.run {} 10 { dk [] with pl := { (dk []).pl with failAt := [], failFrom := some 2 } } mObj2).2.1 :=
  mp_deserialized_document_wf_any_oracle {} 10 (dk []) mObj2 gok (dk_inv []) [] (some 2)

/-- cleared and reused, by either deserializer -/
example : abs ((MDD.run {} 10 (dk [3]) mObj2).2.1.clearV .root) = .null ∧
    WF (MDD.run {} 10 (MDD.run {} 10 (dk [3]) mObj2).2.1 mArr1).2.1 ∧
    WF (JDD.run {} 10 (MDD.run {} 10 (dk [3]) mObj2).2.1 arr1).2.1 :=
  ⟨(mp_deserialized_document_clearable {} 10 (dk [3]) mObj2 gok (dk_inv [3])).2,
    mp_deserialized_document_reusable {} {} 10 10 (dk [3]) mObj2 mArr1 gok (dk_inv [3]),
    (mp_deserialized_document_reusable_by_json {} {} 10 10 (dk [3]) mObj2 arr1 gok (dk_inv [3])).1⟩
end ExMp

end C03
