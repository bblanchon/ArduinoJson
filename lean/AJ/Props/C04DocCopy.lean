/- C04, copy / move / swap of whole documents, as the history interpreter AJ/Model/DH.lean performs them:
   * `copydoc d e` (`JsonDocument d = e`, `d = e`, `d.set(e)`): `tmp := copyInto (newDocG geo so src.alloc maxStrLen) .root src src.root`
     — a FRESH document with the source's allocator, filled by the deep copy — replaces the destination, whose old
     content is released with `clearAll`;
   * `swapdoc d e` (`swap(d, e)`, move construction / assignment): the two `Doc` records are exchanged.
   Everything here is assembled from `C04.copyInto_refines` / `copyInto_exact` (AJ/Props/C04Copy.lean),
   `C05.copy_fail_safe` (AJ/Props/C05Copy.lean), `C06.clearAll_releases_all_owned` (AJ/Props/C06Doc.lean) and
   `JDD.clearAll_wf` (AJ/Lemmas/JddRes.lean); `DL.sameId_copyInto` (AJ/Lemmas/DocAlloc.lean): no operation changes the
   allocator identity of a document. -/
import AJ.Props.C05Copy
import AJ.Props.C06Doc
import AJ.Lemmas.JddInv
import AJ.Lemmas.DocAlloc
import AJ.Model.DH
namespace C04
open DL
open JD (Byte Val)

/-! ## The fresh document -/

/-- `DH.newDocG g so a` (every document of `W.initG`, and the target of `copydoc`) is a well-formed empty document over
    a sound geometry: cells (`WFG … .nil`), string table, pool invariant; it is not flagged, its value is null, its
    allocator is `a`, it owns nothing and its allocator log is empty (`C06.Good`, the start of a balanced history). -/
theorem fresh_document_wf (g : PL.Geo) (so a : Nat) (gok : PL.GeoOK g) (mx : Nat := 65535) :
    WFG (DH.newDocG g so a mx) .nil ∧ StrOK (DH.newDocG g so a mx) ((DH.newDocG g so a mx).strRefs .nil) ∧
    WF (DH.newDocG g so a mx) ∧ PL.Inv g (DH.newDocG g so a mx).pl ∧ PL.GeoOK (DH.newDocG g so a mx).g ∧
    (DH.newDocG g so a mx).overflowed = false ∧ abs (DH.newDocG g so a mx) = .null ∧ (DH.newDocG g so a mx).alloc = a ∧
    C06.Good (DH.newDocG g so a mx) .nil := by
  have hp : PL.Inv g (DH.newDocG g so a mx).pl := PL.init_inv gok []
  have hw : WFG (DH.newDocG g so a mx) .nil := wfg_nil_of_null_root rfl hp
  have hs : StrOK (DH.newDocG g so a mx) ((DH.newDocG g so a mx).strRefs .nil) := strOK_nil_of_no_strings rfl
  exact ⟨hw, hs, ⟨.nil, hw, hs⟩, hp, gok, rfl, rfl, rfl, C06.fresh_good rfl rfl rfl rfl⟩

/-! ## `copydoc`, success -/

/-- the temporary document of `copydoc`: a fresh document over geometry `g` (string overhead `so`, allocator `a` — the
    interpreter passes the source's), filled with a deep copy of the source's root -/
def docCopy (g : PL.Geo) (so a : Nat) (src : Doc) (mx : Nat := 65535) : Doc :=
  copyInto (DH.newDocG g so a mx) .root src src.root

/-- what `copydoc di ei` stores at `di` and what it releases -/
theorem copydoc_is_docCopy (g : PL.Geo) (so : Nat) (src : Doc) (mx : Nat := 65535) :
    docCopy g so src.alloc src mx = copyInto (DH.newDocG g so src.alloc mx) .root src src.root := rfl

/-- the copy is a document of the allocator, string overhead, geometry and string-length limit it was created with (whether or not the copy
    succeeds); the interpreter creates it with the SOURCE's allocator id -/
theorem copy_document_allocator (g : PL.Geo) (so a : Nat) (src : Doc) (mx : Nat := 65535) :
    (docCopy g so a src mx).alloc = a ∧ (docCopy g so a src mx).strOverhead = so ∧ (docCopy g so a src mx).g = g ∧
    (docCopy g so a src mx).maxStrLen = mx :=
  sameId_copyInto (DH.newDocG g so a mx) .root src src.root

/-- **Document copy, success.** `src` is a well-formed document (layout `Fs`) without an object that repeats a key; the
    copy is built in a fresh document over any sound geometry `g`. If the copy is not flagged `overflowed` (no allocation
    failed), then
    * it is well-formed (`WF`: cells and string table), over the geometry `g`, with layout `copyLayout`;
    * its value is the copy of the source's value (`copyVal`: a double that is exactly a float is stored as a float), and
      IS the source's value when the source stores its doubles canonically (`DblCanon`, always the case for documents
      built through the API or a deserializer);
    * every slot of the copy is one the fresh document handed out (none existed before: `∉ Forest.nil.ids`);
    * the source is an argument that is only read: it is the same `Doc` value afterwards (`src = src`, by construction of
      the model — a document is a value; see `documents_are_independent`);
    * the OLD destination `old` (any document) is released with `clearAll`: one deallocation per block it owned (pools with
      a block, heap pool table, string nodes), no other allocator traffic, nothing left. -/
theorem copy_document_refines {src : Doc} {Fs : Forest} {g : PL.Geo} (so a : Nat) (gok : PL.GeoOK g)
    (ws : WFG src Fs) (hnd : NoDupKeys (src.toVal src.root)) {mx : Nat}
    (hok : (docCopy g so a src mx).overflowed = false) (old : Doc) :
    WF (docCopy g so a src mx) ∧
    WFG (docCopy g so a src mx) (copyLayout (DH.newDocG g so a mx) .nil .root src src.root) ∧
    StrOK (docCopy g so a src mx)
      ((docCopy g so a src mx).strRefs (copyLayout (DH.newDocG g so a mx) .nil .root src src.root)) ∧
    (docCopy g so a src mx).g = g ∧
    abs (docCopy g so a src mx) = copyVal (abs src) ∧
    (DblCanon (abs src) → abs (docCopy g so a src mx) = abs src) ∧
    (old.clearAll.pl.log = List.replicate (PL.blocks old.pl + old.strings.length) "D" ++ old.pl.log ∧
      old.clearAll.pl.calls = old.pl.calls ∧ PL.blocks old.clearAll.pl = 0 ∧ old.clearAll.strings = [] ∧
      old.clearAll.pl.pools = [] ∧ old.clearAll.pl.free = []) := by
  obtain ⟨hw, hs, _, _, _, _, _, _, _⟩ := fresh_document_wf g so a gok mx
  obtain ⟨a1, a2, a3, a4, _⟩ := copyInto_refines (l := .root) (ls := .root) hw hs gok trivial ws trivial hnd hok
  refine ⟨⟨_, a1, a2⟩, a1, a2, a3, a4, fun hc => ?_, C06.clearAll_releases_all_owned old⟩
  have := copyVal_of_canon _ hc
  exact a4.trans this

/-- the old destination, when it was well-formed (pool invariant): after `clearAll` it is a well-formed EMPTY document
    over the same geometry, not flagged -/
theorem copy_document_old_cleared {old : Doc} (gok : PL.GeoOK old.g) (hp : PL.Inv old.g old.pl) :
    WFG old.clearAll .nil ∧ StrOK old.clearAll (old.clearAll.strRefs .nil) ∧ old.clearAll.g = old.g ∧
    old.clearAll.overflowed = false ∧ abs old.clearAll = .null := by
  obtain ⟨a, b, c, d, e⟩ := JDD.clearAll_wf gok hp
  refine ⟨a, b, c, d, ?_⟩
  show old.clearAll.toVal old.clearAll.root = .null
  rw [e]; rfl

/-- and when the old destination was reached by a history of operations from a document whose allocator log balanced
    (e.g. a fresh one): after `clearAll` NOTHING is outstanding at its allocator — every block it ever obtained has been
    returned -/
theorem copy_document_old_returns_everything {d0 old : Doc} {F0 F : Forest} (h : Hist d0 F0 old F) (w : WFG d0 F0)
    (hs : StrOK d0 (d0.strRefs F0)) (gok : PL.GeoOK d0.g) (g0 : C06.Good d0 F0) :
    PL.outstanding old.clearAll.pl.log = 0 ∧ PL.blocks old.clearAll.pl = 0 ∧ old.clearAll.strings = [] :=
  let ⟨_, a, b, c, _⟩ := C06.clearAll_returns_everything h w hs gok g0
  ⟨a, b, c⟩

/-- "Independent" in this model: a document is a VALUE (`Doc` record: its own cell map, its own string table, its own pool
    list); slot ids and string-node ids are indices into the record they belong to, so two records cannot share a slot or
    a node. Whatever is done afterwards to one document (`f`) cannot change the value of the other: the other is not an
    argument of `f`'s result. Stated for the record; true by construction. -/
theorem documents_are_independent (a b : Doc) (f : Doc → Doc) :
    (fun (_ : Doc) => abs b) (f a) = abs b ∧ (fun (_ : Doc) => abs a) (f b) = abs a := ⟨rfl, rfl⟩

-- with `set!` left folded the unifier evaluates the interpreter's step first; unfolding `set!` on the right first is slow
attribute [local irreducible] Array.set! in
/-- the interpreter's `copydoc r r2` step stores exactly `docCopy` (built with the SOURCE's allocator id, the world's
    geometry, string overhead and string-length limit) at index `r`, after moving the allocator logs into the world log (`flush`; the log is the
    ledger, not part of the document state) -/
theorem copydoc_step (w : DH.W) (r r2 : String) :
    (DH.step w ["copydoc", r, r2]).2.docs =
      w.flush.docs.set! r.toNat!
        { docCopy w.geo w.strOverhead (w.docs[r2.toNat!]!).alloc (w.docs[r2.toNat!]!) w.maxStrLen with
          pl := { (docCopy w.geo w.strOverhead (w.docs[r2.toNat!]!).alloc (w.docs[r2.toNat!]!) w.maxStrLen).pl with log := [] } } := by
  rfl

/-! ## `copydoc`, whatever fails -/

/-- **Document copy, fail-safe.** Same hypotheses, NO assumption on the allocator: whatever allocation fails, the copy is
    a well-formed document over `g`; its value is a `PartialCopy` (a prefix, see `DL.PartialCopy` and the inversion lemmas
    `C05.partial_arr`, `partial_obj`, …) of the complete copy; and it is flagged `overflowed` EXACTLY WHEN it is
    incomplete. -/
theorem copy_document_fail_safe {src : Doc} {Fs : Forest} {g : PL.Geo} (so a : Nat) (gok : PL.GeoOK g)
    (ws : WFG src Fs) (hnd : NoDupKeys (src.toVal src.root)) (mx : Nat := 65535) :
    WF (docCopy g so a src mx) ∧ (docCopy g so a src mx).g = g ∧
    PartialCopy (abs (docCopy g so a src mx)) (copyVal (abs src)) ∧
    ((docCopy g so a src mx).overflowed = true ↔ abs (docCopy g so a src mx) ≠ copyVal (abs src)) := by
  obtain ⟨hw, hs, _, _, _, hov, _, _, _⟩ := fresh_document_wf g so a gok mx
  obtain ⟨a1, a2, a3, _, a5, _⟩ := C05.copy_fail_safe (l := .root) (ls := .root) hw hs gok trivial ws trivial hnd
  exact ⟨⟨_, a1, a2⟩, a3, a5,
    C05.copy_flag_iff_incomplete (l := .root) (ls := .root) hw hs gok trivial ws trivial hnd hov⟩

/-! ## `swapdoc` -/

/-- the two documents of a world after `swapdoc`: the records are exchanged -/
def docSwap (p : Doc × Doc) : Doc × Doc := (p.2, p.1)

/-- **Swap.** Values, overflow flags, allocators, geometries, pools and string tables are exchanged — the records are;
    nothing is allocated, released or copied; well-formedness travels with the record; swapping twice is the identity. -/
theorem swap_documents (a b : Doc) :
    abs (docSwap (a, b)).1 = abs b ∧ abs (docSwap (a, b)).2 = abs a ∧
    (docSwap (a, b)).1.overflowed = b.overflowed ∧ (docSwap (a, b)).2.overflowed = a.overflowed ∧
    (docSwap (a, b)).1.alloc = b.alloc ∧ (docSwap (a, b)).2.alloc = a.alloc ∧
    (docSwap (a, b)).1.pl = b.pl ∧ (docSwap (a, b)).2.pl = a.pl ∧
    (WF a → WF (docSwap (a, b)).2) ∧ (WF b → WF (docSwap (a, b)).1) ∧
    docSwap (docSwap (a, b)) = (a, b) :=
  ⟨rfl, rfl, rfl, rfl, rfl, rfl, rfl, rfl, id, id, rfl⟩

/-- the interpreter's `swapdoc r r2` step is that exchange on the document array; nothing else of the world changes -/
theorem swapdoc_step (w : DH.W) (r r2 : String) :
    DH.step w ["swapdoc", r, r2] =
      ("", { w with docs := (w.docs.set! r.toNat! (w.docs[r2.toNat!]!)).set! r2.toNat! (w.docs[r.toNat!]!) }) := by
  rfl

end C04

/-! ## Non-vacuity -/
namespace C04.ExD
open DL C04 C04.Ex C04.ExC
open JD (Byte Val)

/-- the empty document `z0` of AJ/Props/C04Copy.lean is the interpreter's fresh document -/
example : z0 = DH.newDocG g0 15 1 := rfl

/-- `fresh_document_wf` at the interpreter's default geometry -/
example : WFG (DH.newDocG ⟨256, 4, 4, 16, 16⟩ 15 0) .nil ∧ abs (DH.newDocG ⟨256, 4, 4, 16, 16⟩ 15 0) = .null :=
  let h := fresh_document_wf ⟨256, 4, 4, 16, 16⟩ 15 0 ⟨by decide, by decide⟩
  ⟨h.1, h.2.2.2.2.2.2.1⟩

theorem e4_root_nodup : NoDupKeys (e4.toVal e4.root) := e4_nodup

/-- `copy_document_refines` applies: the document `["hi"]` (`e4`: one element slot, one copied string) copied into a fresh
    document over the geometry `g0`, allocator 1: not flagged, well-formed, its value is `["hi"]` -/
example : WF (docCopy g0 15 1 e4) ∧ abs (docCopy g0 15 1 e4) = .arr [.str hi] ∧ (docCopy g0 15 1 e4).g = g0 := by
  have hok : (docCopy g0 15 1 e4).overflowed = false := by decide +kernel
  obtain ⟨a, _, _, g, _, c, _⟩ := copy_document_refines (g := g0) 15 1 gok w4 e4_root_nodup hok e4
  have hv : abs e4 = .arr [.str hi] := e4_val
  refine ⟨a, ?_, g⟩
  rw [c (by rw [hv]; simp [DblCanon, DblCanonL]), hv]

/-- the old destination of that `copydoc` (here `e4` itself, which owns one pool block and one string node): two
    deallocations, nothing left -/
example : e4.clearAll.pl.log = List.replicate (PL.blocks e4.pl + e4.strings.length) "D" ++ e4.pl.log ∧
    PL.blocks e4.clearAll.pl = 0 ∧ e4.clearAll.strings = [] := by
  have hok : (docCopy g0 15 1 e4).overflowed = false := by decide +kernel
  obtain ⟨_, _, _, _, _, _, o⟩ := copy_document_refines (g := g0) 15 1 gok w4 e4_root_nodup hok e4
  exact ⟨o.1, o.2.2.1, o.2.2.2.1⟩
example : PL.blocks e4.pl + e4.strings.length = 2 := by decide +kernel

/-- `copy_document_fail_safe` applies with an allocator that fails from its first call on (`failFrom := some 1` is not part
    of `newDocG`; the fresh document of `copydoc` has a working allocator, so failure is exercised on the general theorem
    `C05.copy_fail_safe` in AJ/Props/C05Copy.lean). Here: the fresh document never fails for `["hi"]`, the copy is complete
    and NOT flagged — the `↔` is used from right to left. -/
example : (docCopy g0 15 1 e4).overflowed = false := by
  obtain ⟨_, _, _, iff⟩ := copy_document_fail_safe (g := g0) 15 1 gok w4 e4_root_nodup
  cases h : (docCopy g0 15 1 e4).overflowed with
  | false => rfl
  | true =>
    exfalso
    apply iff.mp h
    have hv : abs (docCopy g0 15 1 e4) = .arr [.str hi] := valEq_sound _ _ (by decide +kernel)
    rw [hv, show abs e4 = .arr [.str hi] from e4_val]
    exact (valEq_sound _ _ (by decide +kernel)).symm

/-- the string-length limit of the world applies to the copy: with the limit 1 the 2-byte string of `["hi"]` is refused,
    the copy is flagged and (by `copy_document_fail_safe`) well-formed and incomplete; no block was requested for it -/
example : (docCopy g0 15 1 e4 1).overflowed = true ∧ WF (docCopy g0 15 1 e4 1) ∧
    abs (docCopy g0 15 1 e4 1) ≠ copyVal (abs e4) ∧ (docCopy g0 15 1 e4 1).strings = [] ∧
    (docCopy g0 15 1 e4 1).maxStrLen = 1 := by
  obtain ⟨a, _, _, iff⟩ := copy_document_fail_safe (g := g0) 15 1 gok w4 e4_root_nodup 1
  have h : (docCopy g0 15 1 e4 1).overflowed = true := by decide +kernel
  exact ⟨h, a, iff.mp h, by decide +kernel, (copy_document_allocator g0 15 1 e4 1).2.2.2⟩

/-- `copy_document_allocator`: `copydoc 0 1` gives document 0 a copy that lives in document 1's allocator -/
example : (docCopy g0 15 e4.alloc e4).alloc = e4.alloc := (copy_document_allocator g0 15 e4.alloc e4).1

/-- `swap_documents` on `["hi"]` and the empty document -/
example : abs (docSwap (e4, z0)).1 = .null ∧ abs (docSwap (e4, z0)).2 = .arr [.str hi] := by
  obtain ⟨a, b, _⟩ := swap_documents e4 z0
  exact ⟨by rw [a]; rfl, by rw [b]; exact e4_val⟩

end C04.ExD
