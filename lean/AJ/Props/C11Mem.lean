/- Property C11, memory part: "a filtered deserialization never requests more memory than the unfiltered run", at the
   level of documents, independently of any parser.

   Setting: two slot-level documents `df` (filtered run) and `du` (unfiltered run) with their invariants (`WFG`, `StrOK`)
   and `hproj : abs df = project flt (abs du)` (proved for the deserializers elsewhere).  Conclusions: the string
   table of `df` is contained in that of `du` (nodes, bytes, allocator bytes), the value tree of `df` occupies at most
   as many pool slots (extension slots included) as that of `du`, and - when `df` has no leaked slot - `df` has at most
   as many live pool slots as `du`.

   Side conditions that the value `abs d` alone does not determine (see AJ/Lemmas/DocSize.lean):
   * `NoLinked du` : the strings of `du` are copies held by its string table (a linked string has no node);
   * `ExtBig df`   : no extension slot of `df` is spent on an integer that fits 32 bits;
   * `InlineSmall du` : integers stored inline in `du` fit 32 bits (the model stores unbounded `Int`/`Nat` inline).
   `setArg` (the only writer of numbers) establishes the last two; a deserializer copies every string.  Each of them is
   necessary: see the counterexamples `extBig_needed`, `inlineSmall_needed`, `noLinked_needed` at the end of the file.
   `NoLinked` and `InlineSmall` follow from the cell-global predicates `AllV notLinkedV` / `AllV inlineSmallV`, which
   every `DL` operation used by the deserializers preserves (lemmas `AllV.*` in AJ/Lemmas/DocSize.lean). -/
import AJ.Lemmas.DocSize
namespace C11
open JD (Byte Val Num Flt)
open DL DocSize
open Spec.Filter

/-! ## Strings -/

/-- every string stored by the filtered document is stored by the unfiltered one -/
theorem projected_strings_subset {df du : Doc} {Ff Fu : Forest} {flt : Flt}
    (wf : WFG df Ff) (sf : StrOK df (df.strRefs Ff)) (ef : Exact df (df.strRefs Ff))
    (wu : WFG du Fu) (su : StrOK du (du.strRefs Fu)) (nu : NoLinked du Fu)
    (hproj : abs df = project flt (abs du)) :
    ∀ n ∈ df.strings, ∃ m ∈ du.strings, m.bytes = n.bytes := by
  intro n hn
  have h1 : n.bytes ∈ strsOf (abs df) := table_in_strs wf sf ef n hn
  rw [hproj] at h1
  exact strs_in_table wu su nu _ (project_strs_subset flt _ _ h1)

/-- allocator bytes held for the string nodes: `sizeForLength(len) = len + strOverhead` each -/
def strHeld (d : Doc) : Nat := (d.strings.map (fun n => n.bytes.length + d.strOverhead)).sum

/-- when the filtered document stores equal strings once (`BytesNodup`, kept by `saveString`): it has at most as many
    string nodes as the unfiltered document, holding at most as many bytes - also counting the per-node overhead -/
theorem projected_string_bytes_le {df du : Doc} {Ff Fu : Forest} {flt : Flt}
    (wf : WFG df Ff) (sf : StrOK df (df.strRefs Ff)) (ef : Exact df (df.strRefs Ff))
    (wu : WFG du Fu) (su : StrOK du (du.strRefs Fu)) (nu : NoLinked du Fu)
    (hproj : abs df = project flt (abs du)) (hnd : (df.strings.map (·.bytes)).Nodup) :
    (df.strings.map (·.bytes.length)).sum ≤ (du.strings.map (·.bytes.length)).sum ∧
    df.strings.length ≤ du.strings.length ∧
    (df.strOverhead = du.strOverhead → strHeld df ≤ strHeld du) := by
  have hsub : ∀ b ∈ df.strings.map (·.bytes), b ∈ du.strings.map (·.bytes) := by
    intro b hb
    obtain ⟨n, hn, rfl⟩ := List.mem_map.1 hb
    obtain ⟨m, hm, e⟩ := projected_strings_subset wf sf ef wu su nu hproj n hn
    exact List.mem_map.2 ⟨m, hm, e⟩
  have key : ∀ c : Nat, (df.strings.map (fun n => n.bytes.length + c)).sum ≤ (du.strings.map (fun n => n.bytes.length + c)).sum := by
    intro c
    have := sum_map_le_of_nodup_subset (fun b : List Byte => b.length + c) hnd hsub
    simpa only [List.map_map, Function.comp_def] using this
  refine ⟨by simpa only [Nat.add_zero] using key 0, ?_, ?_⟩
  · have := List.Nodup.length_le_of_subset hnd hsub
    simpa only [List.length_map] using this
  · intro ho
    unfold strHeld
    rw [ho]
    exact key _

/-! ## Pool slots -/

/-- the value tree of the filtered document occupies at most as many pool slots (one per element, two per member, one
    per extension slot) as the value tree of the unfiltered document -/
theorem projected_tree_slots_le {df du : Doc} {Ff Fu : Forest} {flt : Flt}
    (wf : WFG df Ff) (bf : ExtBig df Ff) (wu : WFG du Fu) (iu : InlineSmall du Fu)
    (hproj : abs df = project flt (abs du)) :
    Ff.ids.length + extCount df Ff ≤ Fu.ids.length + extCount du Fu :=
  calc Ff.ids.length + extCount df Ff ≤ slotsOf (abs df) := forest_slots_le wf bf
    _ = slotsOf (project flt (abs du)) := by rw [hproj]
    _ ≤ slotsOf (abs du) := project_slots_le flt _
    _ ≤ Fu.ids.length + extCount du Fu := forest_slots_ge wu iu

/-- when every live slot of the filtered document belongs to its value tree (no leak), the filtered document has at
    most as many live pool slots as the unfiltered one -/
theorem projected_live_slots_le {df du : Doc} {Ff Fu : Forest} {flt : Flt}
    (wf : WFG df Ff) (bf : ExtBig df Ff) (lf : NoLeak df Ff) (wu : WFG du Fu) (iu : InlineSmall du Fu)
    (hproj : abs df = project flt (abs du)) :
    liveCount df ≤ liveCount du :=
  calc liveCount df ≤ Ff.ids.length + extCount df Ff := live_le wf lf
    _ ≤ Fu.ids.length + extCount du Fu := projected_tree_slots_le wf bf wu iu hproj
    _ ≤ liveCount du := live_ge wu

/-- the same in the counters of the pool model: slots handed out minus free list -/
theorem projected_pool_usage_le {df du : Doc} {Ff Fu : Forest} {flt : Flt}
    (wf : WFG df Ff) (bf : ExtBig df Ff) (lf : NoLeak df Ff) (wu : WFG du Fu) (iu : InlineSmall du Fu)
    (hproj : abs df = project flt (abs du)) :
    PL.usage df.pl - df.pl.free.length ≤ PL.usage du.pl - du.pl.free.length := by
  have h := projected_live_slots_le wf bf lf wu iu hproj
  have h1 := liveCount_usage wf.pool
  have h2 := liveCount_usage wu.pool
  omega

/-- without a free list on either side (a deserialization into a cleared document never releases a slot … unless it
    removes a duplicate member; then the free list of `df` only helps): slots handed out -/
theorem projected_pool_usage_le_of_no_free {df du : Doc} {Ff Fu : Forest} {flt : Flt}
    (wf : WFG df Ff) (bf : ExtBig df Ff) (lf : NoLeak df Ff) (wu : WFG du Fu) (iu : InlineSmall du Fu)
    (hproj : abs df = project flt (abs du)) (hfree : df.pl.free = []) :
    PL.usage df.pl ≤ PL.usage du.pl := by
  have h := projected_pool_usage_le wf bf lf wu iu hproj
  rw [hfree] at h
  simp only [List.length_nil, Nat.sub_zero] at h
  omega

end C11

/-! ## Examples: the documents `{"a":"hi","b":2^40}` (unfiltered) and `{"a":"hi"}` (filter `{"a":true}`)

   The documents are written down cell by cell (hash-map lookups of non-zero keys do not evaluate in the kernel, so
   documents produced by the `DL` operations cannot be inspected by `decide`); every invariant is proved for them. -/
namespace C11.MemEx
open JD (Byte Val Num Flt)
open DL DocSize
open Spec.Filter

def g8 : PL.Geo := ⟨8, 1, 1, 16, 16⟩
theorem gok8 : PL.GeoOK g8 := ⟨by decide, by decide⟩
def poolN : Nat → PL.St
  | 0 => PL.init g8
  | n+1 => (PL.allocSlot g8 (poolN n)).2
theorem poolN_inv : ∀ n, PL.Inv g8 (poolN n) ∧ (poolN n).free = []
  | 0 => ⟨PL.init_inv gok8 [], rfl⟩
  | n+1 => by
    obtain ⟨hI, hf⟩ := poolN_inv n
    obtain ⟨a, b, _⟩ := PL.allocSlot_nil gok8 hI hf (Prod.ext rfl rfl : PL.allocSlot g8 (poolN n) = ((PL.allocSlot g8 (poolN n)).1, poolN (n+1)))
    exact ⟨a, b⟩

def kA : List Byte := [0x61]
def kB : List Byte := [0x62]
def hi : List Byte := [0x68, 0x69]
def big : Int := 2^40

def du : Doc :=
  { g := g8, alloc := 0, pl := poolN 5,
    cells := (((((({} : Std.HashMap Nat Cell).insert 0 (.var (.owned 0) 1)).insert 1 (.var (.owned 1) 2)).insert 2
      (.var (.owned 2) 3)).insert 3 (.var (.i64 4) 255)).insert 4 (.ext big)),
    strings := [⟨2, kB, 1⟩, ⟨1, hi, 1⟩, ⟨0, kA, 1⟩], nextNode := 3, root := .obj 0 3 }
def Fu : Forest := .cons (some 0) 1 .nil (.cons (some 2) 3 .nil .nil)

theorem du_cell (j : Nat) : du.cell j =
    if 4 = j then .ext big else if 3 = j then .var (.i64 4) 255 else if 2 = j then .var (.owned 2) 3
    else if 1 = j then .var (.owned 1) 2 else if 0 = j then .var (.owned 0) 1 else .free := by
  simp only [Doc.cell, du, Std.HashMap.getD_insert, beq_iff_eq, Std.HashMap.getD_empty]


theorem du_null : du.null = 255 := by decide +kernel
theorem du_live : PL.liveIds du.g du.pl = [0, 1, 2, 3, 4] := by decide +kernel
theorem du_c0 : du.cell 0 = .var (.owned 0) 1 := by rw [du_cell]; rfl
theorem du_c1 : du.cell 1 = .var (.owned 1) 2 := by rw [du_cell]; rfl
theorem du_c2 : du.cell 2 = .var (.owned 2) 3 := by rw [du_cell]; rfl
theorem du_c3 : du.cell 3 = .var (.i64 4) 255 := by rw [du_cell]; rfl
theorem du_c4 : du.cell 4 = .ext big := by rw [du_cell]; rfl

theorem du_g0 : du.get (.slot 0) = .owned 0 := get_of_var du_c0
theorem du_g1 : du.get (.slot 1) = .owned 1 := get_of_var du_c1
theorem du_g2 : du.get (.slot 2) = .owned 2 := get_of_var du_c2
theorem du_g3 : du.get (.slot 3) = .i64 4 := get_of_var du_c3
theorem du_gr : du.get .root = .obj 0 3 := rfl

theorem du_holders {P : Loc → Prop} (hr : P .root) (h0 : P (.slot 0)) (h1 : P (.slot 1)) (h2 : P (.slot 2))
    (h3 : P (.slot 3)) : ∀ l ∈ holders Fu, P l := by
  intro l hl
  have hl' : l = .root ∨ l = .slot 0 ∨ l = .slot 1 ∨ l = .slot 2 ∨ l = .slot 3 := by
    simpa [holders, Fu, Forest.ids, Forest.keyL] using hl
  rcases hl' with rfl | rfl | rfl | rfl | rfl <;> assumption

theorem wu : WFG du Fu := by
  have n0 := nextOf_of_var du_c0
  have n1 := nextOf_of_var du_c1
  have n2 := nextOf_of_var du_c2
  have n3 := nextOf_of_var du_c3
  have v0 := get_of_var du_c0
  have v1 := get_of_var du_c1
  have v2 := get_of_var du_c2
  have v3 := get_of_var du_c3
  refine ⟨?_, by decide, by intro i hi; rw [du_null]; revert i; decide, (poolN_inv 5).1, ?_, ?_⟩
  · show VOK du (.obj 0 3) Fu
    rw [VOK_obj]
    refine ⟨?_, by rw [du_null]; rfl⟩
    unfold Fu
    rw [Lk_cons, n1, v1]
    refine ⟨⟨rfl, by rw [du_null]; decide, isVar_of_var du_c0, by rw [v0]; trivial, n0⟩, by rw [du_null]; decide,
      isVar_of_var du_c1, ?_, rfl⟩
    rw [Lk_cons, n3, v3, Lk_nil]
    exact ⟨⟨rfl, by rw [du_null]; decide, isVar_of_var du_c2, by rw [v2]; trivial, n2⟩, by rw [du_null]; decide,
      isVar_of_var du_c3, du_null.symm, rfl⟩
  · intro i hi
    exact (PL.mem_liveIds _ _ _).1 (by rw [du_live]; revert i; decide)
  · have h4 : ∀ e ∈ extOfV (du.get (.slot 3)), (∃ p, du.cell e = .ext p) ∧ PL.live du.g du.pl e ∧
        ∀ l' ∈ holders Fu, e ∈ extOfV (du.get l') → l' = .slot 3 := by
      intro e he
      rw [du_g3] at he
      have : e = 4 := by simpa [extOfV] using he
      subst this
      refine ⟨⟨_, du_c4⟩, (PL.mem_liveIds _ _ _).1 (by rw [du_live]; decide), ?_⟩
      refine du_holders ?_ ?_ ?_ ?_ ?_
      · rw [du_gr]; intro h; cases h
      · rw [du_g0]; intro h; cases h
      · rw [du_g1]; intro h; cases h
      · rw [du_g2]; intro h; cases h
      · intro _; rfl
    refine du_holders ?_ ?_ ?_ ?_ h4
    · rw [du_gr]; intro e he; cases he
    · rw [du_g0]; intro e he; cases he
    · rw [du_g1]; intro e he; cases he
    · rw [du_g2]; intro e he; cases he

theorem du_refs : du.strRefs Fu = [0, 1, 2] := by
  simp [Doc.strRefs, holders, Fu, Forest.ids, Forest.keyL, du_g0, du_g1, du_g2, du_g3, du_gr, strOfV]
theorem su : StrOK du (du.strRefs Fu) := by
  rw [du_refs]; exact ⟨by decide, by decide, by decide, by decide⟩
theorem nu : NoLinked du Fu :=
  du_holders (by rw [du_gr]; rfl) (by rw [du_g0]; rfl) (by rw [du_g1]; rfl) (by rw [du_g2]; rfl) (by rw [du_g3]; rfl)
theorem iu : InlineSmall du Fu :=
  du_holders (by rw [du_gr]; rfl) (by rw [du_g0]; rfl) (by rw [du_g1]; rfl) (by rw [du_g2]; rfl) (by rw [du_g3]; rfl)
theorem du_ext4 : du.extOf 4 = big := by simp only [Doc.extOf, du_c4]
theorem du_abs : abs du = .obj [(kA, .str hi), (kB, .num (.sint big))] := by
  rw [abs_eq wu]
  simp only [Doc.valOf, Fu, vals, mkVal, noOv, Option.getD_none, keyB, du_g0, du_g1, du_g2, du_g3, keyOfV, Doc.scalar,
    du_ext4]
  rfl

/-! the filtered document `{"a":"hi"}`: key slot 0, value slot 1, string nodes 0 ("a") and 1 ("hi") -/
def df : Doc :=
  { g := g8, alloc := 0, pl := poolN 2,
    cells := ((({} : Std.HashMap Nat Cell).insert 0 (.var (.owned 0) 1)).insert 1 (.var (.owned 1) 255)),
    strings := [⟨1, hi, 1⟩, ⟨0, kA, 1⟩], nextNode := 2, root := .obj 0 1 }
def Ff : Forest := .cons (some 0) 1 .nil .nil

theorem df_cell (j : Nat) : df.cell j =
    if 1 = j then .var (.owned 1) 255 else if 0 = j then .var (.owned 0) 1 else .free := by
  simp only [Doc.cell, df, Std.HashMap.getD_insert, beq_iff_eq, Std.HashMap.getD_empty]
theorem df_null : df.null = 255 := by decide +kernel
theorem df_live : PL.liveIds df.g df.pl = [0, 1] := by decide +kernel
theorem df_c0 : df.cell 0 = .var (.owned 0) 1 := by rw [df_cell]; rfl
theorem df_c1 : df.cell 1 = .var (.owned 1) 255 := by rw [df_cell]; rfl
theorem df_g0 : df.get (.slot 0) = .owned 0 := get_of_var df_c0
theorem df_g1 : df.get (.slot 1) = .owned 1 := get_of_var df_c1
theorem df_gr : df.get .root = .obj 0 1 := rfl

theorem df_holders {P : Loc → Prop} (hr : P .root) (h0 : P (.slot 0)) (h1 : P (.slot 1)) : ∀ l ∈ holders Ff, P l := by
  intro l hl
  have hl' : l = .root ∨ l = .slot 0 ∨ l = .slot 1 := by
    simpa [holders, Ff, Forest.ids, Forest.keyL] using hl
  rcases hl' with rfl | rfl | rfl <;> assumption

theorem wf : WFG df Ff := by
  refine ⟨?_, by decide, by intro i hi; rw [df_null]; revert i; decide, (poolN_inv 2).1, ?_, ?_⟩
  · show VOK df (.obj 0 1) Ff
    rw [VOK_obj]
    refine ⟨?_, by rw [df_null]; rfl⟩
    unfold Ff
    rw [Lk_cons, nextOf_of_var df_c1, df_g1, Lk_nil]
    exact ⟨⟨rfl, by rw [df_null]; decide, isVar_of_var df_c0, by rw [df_g0]; trivial, nextOf_of_var df_c0⟩,
      by rw [df_null]; decide, isVar_of_var df_c1, df_null.symm, rfl⟩
  · intro i hi
    exact (PL.mem_liveIds _ _ _).1 (by rw [df_live]; revert i; decide)
  · refine df_holders ?_ ?_ ?_
    · rw [df_gr]; intro e he; cases he
    · rw [df_g0]; intro e he; cases he
    · rw [df_g1]; intro e he; cases he

theorem df_refs : df.strRefs Ff = [0, 1] := by
  simp [Doc.strRefs, holders, Ff, Forest.ids, Forest.keyL, df_g0, df_g1, df_gr, strOfV]
theorem sf : StrOK df (df.strRefs Ff) := by
  rw [df_refs]; exact ⟨by decide, by decide, by decide, by decide⟩
theorem ef : Exact df (df.strRefs Ff) := by
  rw [df_refs]; unfold Exact; decide
theorem bf : ExtBig df Ff :=
  df_holders (by rw [df_gr]; rfl) (by rw [df_g0]; rfl) (by rw [df_g1]; rfl)
theorem df_exts : extIds df Ff = [] := by
  simp [extIds, holders, Ff, Forest.ids, Forest.keyL, df_g0, df_g1, df_gr, extOfV]
theorem du_exts : extIds du Fu = [4] := by
  simp [extIds, holders, Fu, Forest.ids, Forest.keyL, du_g0, du_g1, du_g2, du_g3, du_gr, extOfV]
theorem lf : NoLeak df Ff := by
  intro i hi
  have : i ∈ PL.liveIds df.g df.pl := (PL.mem_liveIds _ _ _).2 hi
  rw [df_live] at this
  exact Or.inl this
theorem df_abs : abs df = .obj [(kA, .str hi)] := by
  rw [abs_eq wf]
  simp only [Doc.valOf, Ff, vals, mkVal, noOv, Option.getD_none, keyB, df_g0, df_g1, keyOfV, Doc.scalar]
  rfl

/-- the filter `{"a": true}` -/
def fltA : Flt := .doc (some (.obj [(kA, .bool true)]))

theorem hproj : abs df = project fltA (abs du) := by
  rw [df_abs, du_abs]; rfl

/-- `projected_strings_subset` applies: both nodes of `df` ("hi", "a") are nodes of `du` -/
example : ∀ n ∈ df.strings, ∃ m ∈ du.strings, m.bytes = n.bytes :=
  projected_strings_subset wf sf ef wu su nu hproj

/-- `projected_string_bytes_le` applies: 3 ≤ 4 bytes, 2 ≤ 3 nodes, 33 ≤ 49 allocator bytes -/
example : (df.strings.map (·.bytes.length)).sum ≤ (du.strings.map (·.bytes.length)).sum ∧
    df.strings.length ≤ du.strings.length ∧ strHeld df ≤ strHeld du := by
  obtain ⟨a, b, c⟩ := projected_string_bytes_le wf sf ef wu su nu hproj (by decide)
  exact ⟨a, b, c rfl⟩
example : (df.strings.map (·.bytes.length)).sum = 3 ∧ (du.strings.map (·.bytes.length)).sum = 4 ∧
    strHeld df = 33 ∧ strHeld du = 49 := by decide

/-- `projected_tree_slots_le` applies: 2 + 0 ≤ 4 + 1 -/
example : Ff.ids.length + extCount df Ff ≤ Fu.ids.length + extCount du Fu :=
  projected_tree_slots_le wf bf wu iu hproj
example : Ff.ids.length + extCount df Ff = 2 ∧ Fu.ids.length + extCount du Fu = 5 := by
  simp only [extCount, df_exts, du_exts]; decide

/-- `projected_live_slots_le` applies: 2 ≤ 5 live slots -/
example : liveCount df ≤ liveCount du := projected_live_slots_le wf bf lf wu iu hproj
example : liveCount df = 2 ∧ liveCount du = 5 := by decide +kernel
example : PL.usage df.pl ≤ PL.usage du.pl :=
  projected_pool_usage_le_of_no_free wf bf lf wu iu hproj (poolN_inv 2).2

/-- the lemmas of AJ/Lemmas/DocSize.lean on `du`: 4 slots + 1 extension slot = what the value needs; its strings -/
example : Fu.ids.length + extCount du Fu = slotsOf (abs du) := by
  refine forest_slots wu ⟨iu, ?_⟩
  exact du_holders (by rw [du_gr]; rfl) (by rw [du_g0]; rfl) (by rw [du_g1]; rfl) (by rw [du_g2]; rfl)
    (by rw [du_g3]; simp only [extBigV, du_ext4]; decide)
example : strsOf (abs du) = [kA, hi, kB] := by rw [du_abs]; rfl
example : slotsOf (project fltA (abs du)) = 2 ∧ slotsOf (abs du) = 5 := by rw [du_abs]; exact ⟨rfl, rfl⟩


/-! ## The side conditions are needed: the value alone does not determine the memory

   Root-only documents (layout `.nil`) with equal abstract values and different memory. -/

/-- a number `x` kept in extension slot 0 -/
def dExt (x : Int) : Doc :=
  { g := g8, alloc := 0, pl := poolN 1, cells := ({} : Std.HashMap Nat Cell).insert 0 (.ext x), root := .i64 0 }
/-- a number `x` kept inline -/
def dInl (x : Int) : Doc := { g := g8, alloc := 0, pl := poolN 0, root := .i32 x }

theorem dExt_c0 (x : Int) : (dExt x).cell 0 = .ext x := by
  simp only [Doc.cell, dExt, Std.HashMap.getD_insert, beq_iff_eq, if_true]
theorem dExt_wf (x : Int) : WFG (dExt x) .nil := by
  refine wfg_root rfl (poolN_inv 1).1 ?_
  intro e he
  have : e = 0 := by simpa [extOfV, dExt] using he
  subst this
  exact ⟨⟨x, dExt_c0 x⟩, (PL.mem_liveIds _ _ _).1 (show 0 ∈ PL.liveIds g8 (poolN 1) by decide +kernel)⟩
theorem dInl_wf (x : Int) : WFG (dInl x) .nil :=
  wfg_nil rfl rfl (poolN_inv 0).1
theorem dExt_abs (x : Int) : abs (dExt x) = .num (.sint x) := by
  rw [abs_eq (dExt_wf x)]
  show Val.num (.sint ((dExt x).extOf 0)) = _
  simp only [Doc.extOf, dExt_c0]
theorem dInl_abs (x : Int) : abs (dInl x) = .num (.sint x) := by
  rw [abs_eq (dInl_wf x)]; rfl
theorem dExt_count (x : Int) : extCount (dExt x) .nil = 1 := rfl
theorem dInl_count (x : Int) : extCount (dInl x) .nil = 0 := rfl

/-- `ExtBig df` cannot be dropped from `projected_tree_slots_le`: the number 5 in an extension slot (never produced by
    `setArg`, but allowed by `WFG`) against the number 5 inline -/
theorem extBig_needed : ∃ df du : Doc, WFG df .nil ∧ WFG du .nil ∧ InlineSmall du .nil ∧
    abs df = project .all (abs du) ∧
    ¬ (Forest.nil.ids.length + extCount df .nil ≤ Forest.nil.ids.length + extCount du .nil) := by
  refine ⟨dExt 5, dInl 5, dExt_wf 5, dInl_wf 5, ?_, ?_, ?_⟩
  · intro l hl
    have hl' : l = .root := by simpa [holders, Forest.ids] using hl
    subst hl'; rfl
  · rw [dExt_abs, dInl_abs]; rfl
  · rw [dExt_count, dInl_count]; decide

/-- `InlineSmall du` cannot be dropped either: the model lets `.i32` carry any integer; `2^40` inline (impossible in
    C++: the inline payload has 32 bits) against `2^40` in an extension slot, stored canonically -/
theorem inlineSmall_needed : ∃ df du : Doc, WFG df .nil ∧ WFG du .nil ∧ ExtBig df .nil ∧
    abs df = project .all (abs du) ∧
    ¬ (Forest.nil.ids.length + extCount df .nil ≤ Forest.nil.ids.length + extCount du .nil) := by
  refine ⟨dExt big, dInl big, dExt_wf big, dInl_wf big, ?_, ?_, ?_⟩
  · intro l hl
    have hl' : l = .root := by simpa [holders, Forest.ids] using hl
    subst hl'
    show extBigV (dExt big) (.i64 0) = true
    simp only [extBigV, Doc.extOf, dExt_c0]; decide
  · rw [dExt_abs, dInl_abs]; rfl
  · rw [dExt_count, dInl_count]; decide

/-- the string "hi" copied (node 0) / linked (no node) -/
def dOwn : Doc := { g := g8, alloc := 0, pl := poolN 0, strings := [⟨0, hi, 1⟩], nextNode := 1, root := .owned 0 }
def dLnk : Doc := { g := g8, alloc := 0, pl := poolN 0, root := .linked hi }

/-- `NoLinked du` cannot be dropped from `projected_strings_subset`: a linked string has the same value and no node -/
theorem noLinked_needed : ∃ df du : Doc, WFG df .nil ∧ StrOK df (df.strRefs .nil) ∧ Exact df (df.strRefs .nil) ∧
    WFG du .nil ∧ StrOK du (du.strRefs .nil) ∧ abs df = project .all (abs du) ∧
    ¬ (∀ n ∈ df.strings, ∃ m ∈ du.strings, m.bytes = n.bytes) := by
  have w1 : WFG dOwn .nil := wfg_nil rfl rfl (poolN_inv 0).1
  have w2 : WFG dLnk .nil := wfg_nil rfl rfl (poolN_inv 0).1
  refine ⟨dOwn, dLnk, w1, ⟨by decide, by decide, by decide, by decide⟩, by unfold Exact; decide, w2,
    ⟨by decide, by decide, by decide, by decide⟩, ?_, ?_⟩
  · rw [abs_eq w1, abs_eq w2]; rfl
  · intro h
    obtain ⟨m, hm, _⟩ := h ⟨0, hi, 1⟩ (by simp [dOwn])
    cases hm


/-! ## The `AllV` lemmas (AJ/Lemmas/DocSize.lean) establish `NoLinked` / `InlineSmall` along the `DL` operations -/

/-- `["hi", 7, 2^40]` built by the operations a deserializer uses, from a cleared document -/
def dOps : Doc :=
  let d0 := ({ g := g8, alloc := 0, pl := PL.init g8 } : Doc).clearAll.set .root (.arr 255 255)
  let d1 := ((d0.addElement .root).2.setArg (.slot 0) (.strCopied hi)).2
  let d2 := ((d1.addElement .root).2.setArg (.slot 1) (.sint 7)).2
  ((d2.addElement .root).2.setArg (.slot 2) (.sint big)).2

example (F : Forest) : NoLinked dOps F ∧ InlineSmall dOps F := by
  constructor
  · refine AllV.noLinked ?_ F
    exact (((((((AllV.clearAll pcoll_notLinked _).set _ rfl).addElement pcoll_notLinked _).setArg_notLinked _ _
      (by intro s h; cases h)).addElement pcoll_notLinked _).setArg_notLinked _ _ (by intro s h; cases h)).addElement
      pcoll_notLinked _).setArg_notLinked _ _ (by intro s h; cases h)
  · refine AllV.inlineSmall ?_ F
    exact (((((((AllV.clearAll pcoll_inlineSmall _).set _ rfl).addElement pcoll_inlineSmall _).setArg_inlineSmall _ _
      ).addElement pcoll_inlineSmall _).setArg_inlineSmall _ _).addElement pcoll_inlineSmall _).setArg_inlineSmall _ _

end C11.MemEx
