/- C16 — One call consumes one document from a stream.
   MessagePack: exactly the bytes of one object are consumed, whatever follows (C09.consumes_exactly / roundtrip with arbitrary `rest`).
   JSON: `C16.exact_consumption` and `C16.exact_consumption_number` (in AJ/Props/C01.lean, same namespace): for every RFC 8259 value,
   leading whitespace + exactly the bytes of the value are consumed (plus the one look-ahead byte after a number), whatever follows. -/
import AJ.Props.C09
import AJ.Props.C17
import AJ.Props.C15
import AJ.Props.C01
namespace C16
open JD

/-- deserializeMsgPack consumes exactly the bytes of one object and its result does not depend on what follows -/
theorem msgpack_exact_consumption (env : MD.Env) (L : Nat) (v : Val) (hr : C09.RawFree v) (hw : C09.WithinLimits env v) (hd : C09.depth v ≤ L)
    (rest rest' : List UInt8) :
    (MD.run env L .all (MD.ser v ++ rest)).2.2 = (MD.ser v).length ∧
    (MD.run env L .all (MD.ser v ++ rest)).1 = (MD.run env L .all (MD.ser v ++ rest')).1 ∧
    (MD.run env L .all (MD.ser v ++ rest)).2.1 = (MD.run env L .all (MD.ser v ++ rest')).2.1 := by
  rw [C09.roundtrip env L v hr hw hd rest, C09.roundtrip env L v hr hw hd rest']
  exact ⟨rfl, rfl, rfl⟩

/-- successive calls on back-to-back MessagePack objects return them one after the other (two objects; induction on the list is immediate) -/
theorem msgpack_sequence (env : MD.Env) (L : Nat) (v w : Val) (hv : C09.RawFree v ∧ C09.WithinLimits env v ∧ C09.depth v ≤ L)
    (hw : C09.RawFree w ∧ C09.WithinLimits env w ∧ C09.depth w ≤ L) (rest : List UInt8) :
    let input := MD.ser v ++ (MD.ser w ++ rest)
    let r1 := MD.run env L .all input
    let r2 := MD.run env L .all (input.drop r1.2.2)
    r1.1 = .ok ∧ r1.2.1 = C09.norm v ∧ r2.1 = .ok ∧ r2.2.1 = C09.norm w ∧ r1.2.2 + r2.2.2 = (MD.ser v).length + (MD.ser w).length := by
  intro input r1 r2
  have h1 : r1 = (.ok, C09.norm v, (MD.ser v).length) := C09.roundtrip env L v hv.1 hv.2.1 hv.2.2 _
  have hdrop : input.drop r1.2.2 = MD.ser w ++ rest := by
    rw [h1]; exact List.drop_left
  have h2 : r2 = (.ok, C09.norm w, (MD.ser w).length) := by
    show MD.run env L .all (input.drop r1.2.2) = _
    rw [hdrop]; exact C09.roundtrip env L w hw.1 hw.2.1 hw.2.2 _
  rw [h1, h2]; exact ⟨rfl, rfl, rfl, rfl, rfl⟩
end C16
