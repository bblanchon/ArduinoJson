/- C04: every observable of a document equals what an ordered-tree model predicts; a mutation changes only its
   target. Per-primitive refinement theorems of the slot-level model `DL` (AJ/Model/DL.lean) against the abstraction
   `DL.abs d = d.toVal d.root : JD.Val`, over the layout invariant `DL.WFG` (AJ/Lemmas/DocInv.lean).
   `absWith d F l x` is the abstract tree of `d` with the value at location `l` replaced by `x` and nothing else changed.
   C14 (how a string is stored is unobservable) is `C14.kind_irrelevant` at the end. -/
import AJ.Lemmas.DocPair
import AJ.Lemmas.DocSetArg
import AJ.Props.C19
namespace C04
open DL
open JD (Byte Val)

/-! ## Array append -/

/-- `appendOne` of a fresh slot `id` (a variant cell holding null, not used by the document, live in the pool) to the
    array stored at a reachable location `l`: the invariant is kept and the abstract tree is the old one in which the
    array `xs` at `l` became `xs ++ [null]`; nothing else changed. -/
theorem appendOne_refines {d : Doc} {F : Forest} {l : Loc} {h t id : Nat} (w : WFG d F) (hl : isLoc F l)
    (hv : d.get l = .arr h t) (hid : d.cell id = .var .null d.null) (hidF : id ∉ F.ids) (hlt : id < d.null)
    (hlive : PL.live d.g d.pl id) :
    WFG (d.appendOne l id) (replaceAt F l ((layoutAt F l).snoc none id)) ∧
    ∃ xs, d.toVal (d.get l) = .arr xs ∧ abs (d.appendOne l id) = absWith d F l (.arr (xs ++ [.null])) :=
  appendOne_spec w hl hv hid hidF hlt hlive

/-- `appendOne_refines` for the full invariant `WF = WFG ∧ StrOK` -/
theorem appendOne_wf {d : Doc} {F : Forest} {l : Loc} {h t id : Nat} (w : WFG d F) (hs : StrOK d (d.strRefs F))
    (hl : isLoc F l) (hv : d.get l = .arr h t) (hid : d.cell id = .var .null d.null) (hidF : id ∉ F.ids)
    (hlt : id < d.null) (hlive : PL.live d.g d.pl id) :
    WFG (d.appendOne l id) (replaceAt F l ((layoutAt F l).snoc none id)) ∧
    StrOK (d.appendOne l id) ((d.appendOne l id).strRefs (replaceAt F l ((layoutAt F l).snoc none id))) ∧
    ∃ xs, d.toVal (d.get l) = .arr xs ∧ abs (d.appendOne l id) = absWith d F l (.arr (xs ++ [.null])) :=
  ⟨(appendOne_spec w hl hv hid hidF hlt hlive).1, appendOne_strOK w hs hl hv hid hidF hlt hlive,
    (appendOne_spec w hl hv hid hidF hlt hlive).2⟩

/-! ## Object member append -/

/-- `appendPair` of a fresh key slot `k` (a variant cell holding a string `kv`, linked or copied) and a fresh value slot
    `v` (holding null) to the object stored at a reachable location `l`: the invariant is kept and the abstract tree is
    the old one in which the object `ms` at `l` became `ms ++ [(key bytes, null)]`; nothing else changed. -/
theorem appendPair_refines {d : Doc} {F : Forest} {l : Loc} {h t k v nk : Nat} {kv : VData} (w : WFG d F)
    (hl : isLoc F l) (hv : d.get l = .obj h t) (hk : d.cell k = .var kv nk) (hkey : isKey kv)
    (hvc : d.cell v = .var .null d.null) (hkv : k ≠ v) (hkF : k ∉ F.ids) (hvF : v ∉ F.ids) (hklt : k < d.null)
    (hvlt : v < d.null) (hklive : PL.live d.g d.pl k) (hvlive : PL.live d.g d.pl v) :
    WFG (d.appendPair l k v) (replaceAt F l ((layoutAt F l).snoc (some k) v)) ∧
    ∃ ms, d.toVal (d.get l) = .obj ms ∧
      abs (d.appendPair l k v) = absWith d F l (.obj (ms ++ [(keyOfV d kv, .null)])) :=
  appendPair_spec w hl hv hk hkey hvc hkv hkF hvF hklt hvlt hklive hvlive

/-! ## Storing scalars and strings -/

/-- `absWith d F l x` differs from `abs d` at most at location `l`: putting back the value that is there gives `abs d`. -/
theorem absWith_self {d : Doc} {F : Forest} {l : Loc} (w : WFG d F) (hl : isLoc F l) :
    absWith d F l (d.toVal (d.get l)) = abs d :=
  DL.absWith_self w hl

/-- `set_scalar` below for the full invariant `WF = WFG ∧ StrOK`: the reference-count invariant is kept too (a copied
    string accounts for one more reference to its node, whether the node is new or shared) -/
theorem set_scalar_wf {d : Doc} {F : Forest} {l : Loc} {a : Arg} (w : WFG d F) (hs : StrOK d (d.strRefs F))
    (hl : isLoc F l) (hnull : d.get l = .null) (gok : PL.GeoOK d.g) (hok : (d.setArg l a).1 = true) :
    WFG (d.setArg l a).2 F ∧ StrOK (d.setArg l a).2 ((d.setArg l a).2.strRefs F) ∧
    abs (d.setArg l a).2 = absWith d F l (argVal a) := by
  have hold : ¬ isColl (d.get l) := by rw [hnull]; exact id
  have hstr : strOfV (d.get l) = [] := by rw [hnull]; rfl
  have sh := setArg_shape d l a
  generalize d.setArg l a = r at sh hok ⊢
  cases sh with
  | noop _ hx => exact ⟨w, hs, by rw [hx, ← DL.absWith_self w hl, hnull]; rfl⟩
  | plain _ hc he hv hx =>
    obtain ⟨h1, h2⟩ := set_plain w hl hold hc he
    exact ⟨h1, set_gen_strOK w hl hstr rfl (fun _ _ => rfl) (by rw [hv]; exact hs), by rw [← hx d]; exact h2⟩
  | extOk hal hc he hv hx =>
    obtain ⟨h1, h2, h3⟩ := set_ext w hl gok hold hal hc he
    obtain ⟨_, hroot, _, _, hco, _, _, hnl, _⟩ := allocExt_spec w gok hal
    obtain ⟨s1, s2⟩ := allocExt_str hal
    exact ⟨h1, set_gen_strOK w hl hstr hroot (fun j hj => hco j (fun e' => hnl (e' ▸ w.live j hj)))
      (by rw [hv]; exact StrOK_congr s1 s2 hs), by rw [← hx _ h3]; exact h2⟩
  | extFail => cases hok
  | strOk hal _ hc he hv hx =>
    obtain ⟨h1, h2, h3⟩ := set_copied w hl hs hold hal hc he
    obtain ⟨_, hroot, hcells, _⟩ := saveString_spec hs.ids_nodup hs.ids_lt hal
    exact ⟨h1, set_gen_strOK w hl hstr hroot (fun j _ => by simp only [Doc.cell, hcells])
      (by rw [hv]; exact saveString_strOK hs hal), by rw [← hx _ h3]; exact h2⟩
  | strFail hal => rw [(saveString_none w.pool hal).2.1] at hok; cases hok

/-- `setArg` on a cleared location (it holds null), when it reports success (extension slot / string copy could be
    allocated): the invariant is kept and the location holds exactly the value the argument stands for; nothing else
    changed. -/
theorem set_scalar {d : Doc} {F : Forest} {l : Loc} {a : Arg} (w : WFG d F) (hl : isLoc F l)
    (hnull : d.get l = .null) (gok : PL.GeoOK d.g) (hs : StrOK d (d.strRefs F))
    (hok : (d.setArg l a).1 = true) :
    WFG (d.setArg l a).2 F ∧ abs (d.setArg l a).2 = absWith d F l (argVal a) :=
  ⟨(set_scalar_wf w hs hl hnull gok hok).1, (set_scalar_wf w hs hl hnull gok hok).2.2⟩

/-! ## Clearing a location that holds a scalar or a string -/

/-- `clearV` on a reachable location holding a scalar or a string (linked, or copied and reference-counted): the
    location becomes null, every other location keeps its value (`absWith`), the invariant and the string-table
    invariant are kept — in particular a copied string shared (de-duplicated) with another value survives there. -/
theorem clearV_scalar {d : Doc} {F : Forest} {l : Loc} (w : WFG d F) (hs : StrOK d (d.strRefs F))
    (hl : isLoc F l) (hsc : ¬ isColl (d.get l)) :
    WFG (d.clearV l) F ∧ StrOK (d.clearV l) ((d.clearV l).strRefs F) ∧ abs (d.clearV l) = absWith d F l .null :=
  clearV_scalar_spec w hs hl hsc

/-- FRAME: after `clearV` of a scalar/string location `l`, every other reachable location `l'` whose value does not
    contain `l` still designates exactly the same value ("a mutation changes only its target; references to other
    values keep designating the same value"). -/
theorem clearV_scalar_frame {d : Doc} {F : Forest} {l l' : Loc} (w : WFG d F) (hs : StrOK d (d.strRefs F))
    (hl : isLoc F l) (hsc : ¬ isColl (d.get l)) (hl' : isLoc F l') (hne : l' ≠ l)
    (hnotin : ∀ i, l = .slot i → i ∉ (layoutAt F l').ids) :
    (d.clearV l).toVal ((d.clearV l).get l') = d.toVal (d.get l') :=
  DL.clearV_scalar_frame w hs hl hsc hl' hne hnotin

/-! ## Clearing any location, in particular a collection -/

/-- `VariantData::clear` on ANY reachable location `l` (scalar, string, array or object, arbitrarily nested): the
    invariant `WF` (cells and string table) is kept with the layout below `l` removed, the abstract tree is the old one
    with the value at `l` replaced by null (`absWith`: nothing else changed), and every slot of the cleared subtree has
    been released to the pool (it is no longer live). -/
theorem clearV_collection {d : Doc} {F : Forest} {l : Loc} (w : WFG d F) (hs : StrOK d (d.strRefs F)) (hl : isLoc F l) :
    WFG (d.clearV l) (replaceAt F l .nil) ∧
    StrOK (d.clearV l) ((d.clearV l).strRefs (replaceAt F l .nil)) ∧
    abs (d.clearV l) = absWith d F l .null ∧
    (∀ x ∈ (layoutAt F l).ids, ¬ PL.live (d.clearV l).g (d.clearV l).pl x) :=
  clearV_spec w hs hl

/-- FRAME for `clearV` on any location `l`: every other reachable location `l'` that lies outside the cleared subtree
    and whose own subtree does not contain `l` (nor anything below it) designates exactly the same value afterwards. -/
theorem clearV_frame {d : Doc} {F : Forest} {l l' : Loc} (w : WFG d F) (hs : StrOK d (d.strRefs F))
    (hl : isLoc F l) (hl' : isLoc F l') (hne : l' ≠ l)
    (hout : ∀ j, l' = .slot j → j ∉ (layoutAt F l).ids)
    (hdisj : ∀ x ∈ (layoutAt F l').ids, x ∉ (layoutAt F l).ids ∧ Loc.slot x ≠ l) :
    (d.clearV l).toVal ((d.clearV l).get l') = d.toVal (d.get l') :=
  clearV_frame_spec w hs hl hl' hne hout hdisj

/-! ## Read-only operations -/

/-- The observers are functions from a document (and a value) to a result: they cannot change the document. -/
theorem observers_pure (d : Doc) (v : VData) (l : Loc) (key : List Byte) :
    (fun (_ : Val × String × Nat × Nat × Option (Nat × Nat)) => d)
      (d.toVal v, d.show v, d.size v, d.nesting v, d.findKey l key) = d := rfl

/-- `size` is the length of the abstract array, resp. the number of members of the abstract object -/
theorem size_eq {d : Doc} {F : Forest} {l : Loc} (w : WFG d F) (hl : isLoc F l) :
    (∀ h t, d.get l = .arr h t → ∃ xs, d.toVal (d.get l) = .arr xs ∧ d.size (d.get l) = xs.length) ∧
    (∀ h t, d.get l = .obj h t → ∃ ms, d.toVal (d.get l) = .obj ms ∧ d.size (d.get l) = ms.length) :=
  size_spec w hl

/-- `findKey` returns the first member with that key of the abstract object: the value stored in the value slot it
    returns is the value of that member, and it returns nothing exactly when no member has the key. -/
theorem findKey_first {d : Doc} {F : Forest} {l : Loc} {h t : Nat} (w : WFG d F) (hl : isLoc F l)
    (hv : d.get l = .obj h t) (key : List Byte) :
    ∃ ms, d.toVal (d.get l) = .obj ms ∧
      ((d.findKey l key).map (fun p => d.toVal (d.get (.slot p.2)))) = (ms.find? (fun m => m.1 == key)).map (·.2) :=
  findKey_spec w hl hv key

/-- `getOrAddMember` on an object that already has a member with this key returns the value slot of the FIRST such
    member and does not change the document (the "key absent" branch is `addMember_refines` and
    `getOrAddMember_absent` of AJ/Props/C04Rem.lean, its failures `C05.add_member_fail_clean`). -/
theorem getOrAddMember_found_partial {d : Doc} {l : Loc} {h t k v : Nat} {key : List Byte} {linked : Bool}
    (hv : d.get l = .obj h t) (hf : d.findKey l key = some (k, v)) :
    d.getOrAddMember l key linked = (some v, d) := by
  simp only [Doc.getOrAddMember, hv, hf]

end C04

/-! ## C14: how a string is stored is unobservable -/
namespace C14
open DL
open JD (Byte Val)

/-- Storing the bytes `s` as a linked (not copied) string or as a copied, de-duplicated, reference-counted string
    gives the same abstract document, whenever the copy could be allocated. -/
theorem kind_irrelevant {d : Doc} {F : Forest} {l : Loc} {s : List Byte} (w : WFG d F) (hl : isLoc F l)
    (hnull : d.get l = .null) (gok : PL.GeoOK d.g) (hs : StrOK d (d.strRefs F))
    (hok1 : (d.setArg l (.strLinked s)).1 = true) (hok2 : (d.setArg l (.strCopied s)).1 = true) :
    abs (d.setArg l (.strLinked s)).2 = abs (d.setArg l (.strCopied s)).2 := by
  rw [(C04.set_scalar w hl hnull gok hs hok1).2, (C04.set_scalar w hl hnull gok hs hok2).2]
  rfl
end C14

/-! ## Non-vacuity: the theorems instantiated on a concrete document -/
namespace C04.Ex
open DL
open JD (Byte Val)

deriving instance DecidableEq for VData, Cell, PL.Pool, PL.St, StrNode

def g0 : PL.Geo := ⟨4, 1, 1, 16, 16⟩
/-- empty document whose root is an empty array -/
def e1 : Doc := ({ g := g0, alloc := 0, pl := PL.init g0 } : Doc).set .root (.arr 255 255)
/-- one slot allocated -/
def e2 : Doc := e1.allocVariant.2
/-- the slot appended: `[null]` -/
def e3 : Doc := e2.appendOne .root 0

theorem gok : PL.GeoOK g0 := ⟨by decide, by decide⟩

theorem wfg_empty_arr {d : Doc} (hr : d.root = .arr d.null d.null) (hp : PL.Inv d.g d.pl) : WFG d .nil :=
  wfg_nil (by rw [hr]; exact ⟨rfl, rfl⟩) (by rw [hr]; rfl) hp

theorem w1 : WFG e1 .nil := wfg_empty_arr rfl (PL.init_inv gok [])

theorem alloc2 : PL.allocSlot e1.g e1.pl = (some 0, e2.pl) := by decide +kernel

theorem w2 : WFG e2 .nil :=
  wfg_empty_arr (by decide +kernel) (PL.allocSlot_some gok w1.pool alloc2).2.2.2

/-- `appendOne_refines` applies: the document becomes `[null]` and stays well-formed -/
theorem w3 : WFG e3 (.cons none 0 .nil .nil) ∧ abs e3 = .arr [.null] := by
  have hlive : PL.live e2.g e2.pl 0 := ((PL.allocSlot_some gok w1.pool alloc2).2.2.1 0).2 (Or.inr rfl)
  obtain ⟨h1, xs, h2, h3⟩ := appendOne_refines (d := e2) (F := .nil) (l := .root) (h := 255) (t := 255) (id := 0)
    w2 trivial (by decide +kernel) (by decide +kernel) (by simp [Forest.ids]) (by decide +kernel) hlive
  have hx : xs = [] := by
    have : e2.toVal (e2.get .root) = .arr [] := by rfl
    rw [this] at h2; injection h2 with h2; exact h2.symm
  subst hx
  exact ⟨h1, h3⟩

def F3 : Forest := .cons none 0 .nil .nil
def hi : List Byte := [0x68, 0x69]

theorem s3 : StrOK e3 (e3.strRefs F3) :=
  ⟨by decide +kernel, by decide +kernel, by decide +kernel, by decide +kernel⟩

theorem loc0 : isLoc F3 (.slot 0) := by simp [isLoc, F3, Forest.locs]

/-- `set_scalar` applies (copied string): element 0 becomes the string, nothing else changes -/
example : abs (e3.setArg (.slot 0) (.strCopied hi)).2 = .arr [.str hi] := by
  have := (set_scalar (a := .strCopied hi) w3.1 loc0 (by decide +kernel) gok s3 (by decide +kernel)).2
  rw [this]; rfl

/-- `C14.kind_irrelevant` applies -/
example : abs (e3.setArg (.slot 0) (.strLinked hi)).2 = abs (e3.setArg (.slot 0) (.strCopied hi)).2 :=
  C14.kind_irrelevant w3.1 loc0 (by decide +kernel) gok s3 (by decide +kernel) (by decide +kernel)

/-- the document `["hi"]` with a copied string -/
def e4 : Doc := (e3.setArg (.slot 0) (.strCopied hi)).2
theorem w4 : WFG e4 F3 :=
  (set_scalar (a := .strCopied hi) w3.1 loc0 (by decide +kernel) gok s3 (by decide +kernel)).1
theorem s4 : StrOK e4 (e4.strRefs F3) :=
  ⟨by decide +kernel, by decide +kernel, by decide +kernel, by decide +kernel⟩

/-- `clearV_scalar` applies: clearing the string element gives `[null]`, invariants kept -/
example : WFG (e4.clearV (.slot 0)) F3 ∧ abs (e4.clearV (.slot 0)) = .arr [.null] := by
  obtain ⟨h1, _, h3⟩ := clearV_scalar w4 s4 loc0 (by rw [show e4.get (.slot 0) = .owned 0 from by decide +kernel]; exact fun h => h)
  exact ⟨h1, by rw [h3]; rfl⟩

/-- `clearV_collection` applies to the root array of `["hi"]` (a collection holding a copied string): the document
    becomes null, slot 0 is released, invariants kept -/
example : WFG (e4.clearV .root) .nil ∧ abs (e4.clearV .root) = .null ∧ ¬ PL.live (e4.clearV .root).g (e4.clearV .root).pl 0 := by
  obtain ⟨h1, _, h3, h4⟩ := clearV_collection w4 s4 (l := .root) trivial
  exact ⟨h1, h3, h4 0 (by simp [layoutAt, F3, Forest.ids, Forest.keyL])⟩

/-- `size_eq` applies to the root array of `["hi"]` -/
example : ∃ xs, e4.toVal (e4.get .root) = .arr xs ∧ e4.size (e4.get .root) = xs.length :=
  (size_eq w4 (l := .root) trivial).1 0 0 (by decide +kernel)

/-- the document `["hi", null]`: a second element, then `clearV_scalar_frame` applies to the two elements: clearing
    element 0 leaves the value designated by a reference to element 1 unchanged (and vice versa) -/
example (d : Doc) (F : Forest) (w : WFG d F) (hs : StrOK d (d.strRefs F)) (i j : Nat) (hi : i ∈ F.locs) (hj : j ∈ F.locs)
    (hij : j ≠ i) (hsc : ¬ isColl (d.get (.slot i))) (hdisj : i ∉ (F.subOf j).ids) :
    (d.clearV (.slot i)).toVal ((d.clearV (.slot i)).get (.slot j)) = d.toVal (d.get (.slot j)) :=
  clearV_scalar_frame w hs (l := .slot i) (l' := .slot j) hi hsc hj (by intro e; cases e; exact hij rfl)
    (fun i' e => by cases e; exact hdisj)

end C04.Ex

/-! ## allocator half: slot identifiers are fresh, releases are local (from AJ/Props/C19.lean) -/
namespace C04
open PL
/-- a new slot never aliases a value that still exists (ids are fresh, below NULL_SLOT), and every other live slot stays live -/
theorem new_slot_is_fresh {g : Geo} {s s' : St} {id : Nat} (gok : GeoOK g) (hI : Inv g s) (h : allocSlot g s = (some id, s')) :
    id < g.nullSlot ∧ ¬ live g s id ∧ (∀ x, live g s' x ↔ live g s x ∨ x = id) ∧ Inv g s' := allocSlot_some gok hI h

/-- removing a value releases exactly its slot: every other slot stays live (references to other values remain valid) -/
theorem release_is_local {g : Geo} {s : St} {id : Nat} (h : live g s id) (hI : Inv g s) :
    Inv g (freeSlot s id) ∧ ∀ x, live g (freeSlot s id) x ↔ live g s x ∧ x ≠ id := C19.free_then_alloc h hI

/-- shrinkToFit changes no slot -/
theorem shrink_changes_nothing {g : Geo} {s : St} (hI : Inv g s) :
    Inv g (shrink g s) ∧ ∀ x, live g (shrink g s) x ↔ live g s x := C19.shrink_keeps hI
end C04
