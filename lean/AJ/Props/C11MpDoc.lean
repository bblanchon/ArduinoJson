/- C11 at slot level, MessagePack — THE FILTERED SLOT-LEVEL MESSAGEPACK DESERIALIZER REFINES THE VALUE-LEVEL FILTERED ONE.

   `MDDF.run env limit flt d input` (AJ/Model/MDDF.lean) is `deserializeMsgPack(doc, input, Filter(f), NestingLimit)` writing into
   the slot-level document `DL.Doc` (slots, chains, reference-counted strings, the StringBuffer and its allocation pattern — EVERY
   map key, kept or not, goes through `StringBuffer::reserve`; validated against the C++ including allocator logs and failure
   schedules). `MD.run env limit flt input` (AJ/Model/MD.lean) is the value-level filtered deserializer that the projection
   theorems of C11 (AJ/Props/C11Mp.lean) are about.

   * `C11.filtered_mp_slot_level_core` / `filtered_mp_slot_level_refines`: the statements of `C09.slot_level_core` /
     `C09.slot_level_refines` (AJ/Props/C09Doc.lean) for the filtered run, FOR EVERY FILTER, environment (no hypothesis on the
     string limit), nesting limit, input and starting document: when no allocation failed, the code, the number of bytes
     consumed and the document left — complete or partial, for every code — are those of `MD.run env limit flt`, and the document
     is well-formed; in any case the code and the consumption are the value-level ones unless the answer is `NoMemory` with the
     overflow flag set. As for the unfiltered run the flag is set IF AND ONLY IF the answer is `NoMemory`
     (`filtered_mp_noMemory_iff_overflow`).
   * `filtered_mp_ok_no_overflow`, `filtered_mp_slot_level_wf`, `filtered_mp_ok_refines`, `filtered_mp_abstract_noMemory`.
   * `filtered_mp_document_is_projection`: THE SLOT-LEVEL C11 FOR MESSAGEPACK. If the unfiltered slot-level run (into any
     document) answers `Ok` and no allocation of the filtered run fails, the filtered run answers `Ok`, consumes the same
     number of bytes, and its document reads back as `Spec.Filter.project flt` of what the unfiltered document reads back as
     (members projected one by one, repeated keys kept) — every input, filter, environment and nesting limit
     (`C09.ok_refines` + `C11.msgpack_projection_all_inputs` + the refinement).
   * `filtered_mp_overflow_is_noMemory`, `filtered_mp_ok_or_noMemory`.
   * `mp_no_destination_untouched`, `mp_allow_nothing_untouched`: a run without destination, and a whole run under a filter that
     allows nothing, leave every field of the document but the allocator state and the overflow flag LITERALLY as they were
     (no hypothesis at all). Contrary to JSON the allocator IS called (keys of skipped maps), and such a run can fail with
     `NoMemory` (examples at the end).
   Helper lemmas: AJ/Lemmas/MddStep.lean (the routines cut into pieces), MddfSkip.lean (`MDDF.nsim_all`: runs without
   destination), MddfSim.lean (`MDDF.fsim_all`: runs with a destination, in the outcome relation `MDD.mpsim_Sim` of the
   unfiltered development), MddfRun.lean (`MDDF.run_core`), MddfUntouched.lean (`MDDF.untouched_all`). -/
import AJ.Lemmas.MddfRun
import AJ.Props.C09Doc
import AJ.Lemmas.MddfUntouched
import AJ.Props.C11Mp
set_option linter.unusedSimpArgs false
set_option linter.unusedVariables false

namespace C11
open DL MDD
open JD (Byte Val Code Flt)
open MD (Env)

/-- the two outcomes of a filtered run: no allocation failed and everything agrees with the value-level filtered run (the
    answer is not `NoMemory`, the document is well-formed), or one failed and the answer is `NoMemory` -/
theorem filtered_mp_slot_level_core (env : Env) (limit : Nat) (flt : Flt) (d : Doc) (input : List Byte)
    (gok : PL.GeoOK d.g) (hp : PL.Inv d.g d.pl) :
    ((MDDF.run env limit flt d input).2.1.overflowed = false ∧
      (MDDF.run env limit flt d input).1 = (MD.run env limit flt input).1 ∧
      (MDDF.run env limit flt d input).1 ≠ .noMemory ∧
      (MDDF.run env limit flt d input).2.2 = (MD.run env limit flt input).2.2 ∧
      (MDDF.run env limit flt d input).2.1.toVal (MDDF.run env limit flt d input).2.1.root =
        (MD.run env limit flt input).2.1 ∧
      WF (MDDF.run env limit flt d input).2.1) ∨
    ((MDDF.run env limit flt d input).2.1.overflowed = true ∧ (MDDF.run env limit flt d input).1 = .noMemory) :=
  MDDF.run_core env limit flt d input gok hp

/-- **C11 at slot level, MessagePack, refinement: the filtered slot-level deserializer refines the value-level filtered one,
    for every filter.** When no allocation failed, the code, the number of bytes consumed and the document left — complete or
    partial, for every code — are those of `MD.run env limit flt`; in any case the code and the consumption are those of the
    value-level run unless the answer is `NoMemory` with the overflow flag set. -/
theorem filtered_mp_slot_level_refines (env : Env) (limit : Nat) (flt : Flt) (d : Doc) (input : List Byte)
    (gok : PL.GeoOK d.g) (hp : PL.Inv d.g d.pl) :
    ((MDDF.run env limit flt d input).2.1.overflowed = false →
      (MDDF.run env limit flt d input).1 = (MD.run env limit flt input).1 ∧
      (MDDF.run env limit flt d input).2.2 = (MD.run env limit flt input).2.2 ∧
      (MDDF.run env limit flt d input).2.1.toVal (MDDF.run env limit flt d input).2.1.root =
        (MD.run env limit flt input).2.1) ∧
    (((MDDF.run env limit flt d input).1 = (MD.run env limit flt input).1 ∧
        (MDDF.run env limit flt d input).2.2 = (MD.run env limit flt input).2.2) ∨
      ((MDDF.run env limit flt d input).1 = .noMemory ∧ (MDDF.run env limit flt d input).2.1.overflowed = true)) := by
  rcases filtered_mp_slot_level_core env limit flt d input gok hp with ⟨a, b, _, c, e, _⟩ | ⟨a, b⟩
  · exact ⟨fun _ => ⟨b, c, e⟩, Or.inl ⟨b, c⟩⟩
  · exact ⟨fun h => (by rw [a] at h; cases h), Or.inr ⟨b, a⟩⟩

/-- the overflow flag is set exactly when the answer is `NoMemory`, under every filter -/
theorem filtered_mp_noMemory_iff_overflow (env : Env) (limit : Nat) (flt : Flt) (d : Doc) (input : List Byte)
    (gok : PL.GeoOK d.g) (hp : PL.Inv d.g d.pl) :
    (MDDF.run env limit flt d input).1 = .noMemory ↔ (MDDF.run env limit flt d input).2.1.overflowed = true := by
  rcases filtered_mp_slot_level_core env limit flt d input gok hp with ⟨a, _, b, _⟩ | ⟨a, b⟩
  · exact ⟨fun h => absurd h b, fun h => by rw [a] at h; cases h⟩
  · exact ⟨fun _ => a, fun _ => b⟩

/-- the value-level `NoMemory` (a kept string / binary value, or ANY map key, longer than the limit: no allocator call is
    made) is answered `NoMemory` by the slot-level run too, and the overflow flag is set -/
theorem filtered_mp_abstract_noMemory (env : Env) (limit : Nat) (flt : Flt) (d : Doc) (input : List Byte)
    (gok : PL.GeoOK d.g) (hp : PL.Inv d.g d.pl) (h : (MD.run env limit flt input).1 = .noMemory) :
    (MDDF.run env limit flt d input).1 = .noMemory ∧ (MDDF.run env limit flt d input).2.1.overflowed = true := by
  rcases filtered_mp_slot_level_core env limit flt d input gok hp with ⟨_, a, b, _⟩ | ⟨a, b⟩
  · exact absurd (by rw [a]; exact h) b
  · exact ⟨b, a⟩

/-- `Ok` is never answered after an allocation failure: an `Ok` filtered run has the overflow flag clear -/
theorem filtered_mp_ok_no_overflow (env : Env) (limit : Nat) (flt : Flt) (d : Doc) (input : List Byte)
    (gok : PL.GeoOK d.g) (hp : PL.Inv d.g d.pl) (hok : (MDDF.run env limit flt d input).1 = .ok) :
    (MDDF.run env limit flt d input).2.1.overflowed = false := by
  rcases filtered_mp_slot_level_core env limit flt d input gok hp with ⟨a, _⟩ | ⟨_, b⟩
  · exact a
  · rw [b] at hok; cases hok

/-- without an allocation failure the document left by a filtered run is well-formed — for every code -/
theorem filtered_mp_slot_level_wf (env : Env) (limit : Nat) (flt : Flt) (d : Doc) (input : List Byte)
    (gok : PL.GeoOK d.g) (hp : PL.Inv d.g d.pl) (hno : (MDDF.run env limit flt d input).2.1.overflowed = false) :
    WF (MDDF.run env limit flt d input).2.1 := by
  rcases filtered_mp_slot_level_core env limit flt d input gok hp with ⟨_, _, _, _, _, w⟩ | ⟨a, _⟩
  · exact w
  · rw [a] at hno; cases hno

/-- an `Ok` filtered run: the value-level filtered run is `Ok` too, with the same consumption, and the document reads back as
    its value -/
theorem filtered_mp_ok_refines (env : Env) (limit : Nat) (flt : Flt) (d : Doc) (input : List Byte)
    (gok : PL.GeoOK d.g) (hp : PL.Inv d.g d.pl) (hok : (MDDF.run env limit flt d input).1 = .ok) :
    (MD.run env limit flt input).1 = .ok ∧
    (MDDF.run env limit flt d input).2.2 = (MD.run env limit flt input).2.2 ∧
    (MDDF.run env limit flt d input).2.1.toVal (MDDF.run env limit flt d input).2.1.root =
      (MD.run env limit flt input).2.1 := by
  obtain ⟨a, b, c⟩ := (filtered_mp_slot_level_refines env limit flt d input gok hp).1
    (filtered_mp_ok_no_overflow env limit flt d input gok hp hok)
  exact ⟨by rw [← a]; exact hok, b, c⟩

/-- the geometry of the document is not changed by a filtered run -/
theorem filtered_mp_run_geo (env : Env) (limit : Nat) (flt : Flt) (d : Doc) (input : List Byte) (gok : PL.GeoOK d.g)
    (hp : PL.Inv d.g d.pl) (hno : (MDDF.run env limit flt d input).2.1.overflowed = false) :
    (MDDF.run env limit flt d input).2.1.g = d.g :=
  MDDF.run_g env limit flt input gok hp

/-- **C11 at slot level, MessagePack: the filtered document is the projection of the unfiltered one.** For every environment,
    nesting limit, filter, input and starting documents `d`, `d'`: if the UNFILTERED slot-level run (into `d'`) answers `Ok`
    and no allocation of the filtered run (into `d`) fails, the filtered run answers `Ok`, consumes the same number of bytes,
    and its document reads back as `Spec.Filter.project flt` of what the unfiltered document reads back as (member by member,
    repeated keys kept: `Spec.Filter.projectMembers`). No hypothesis on the input: every byte string the library accepts. -/
theorem filtered_mp_document_is_projection (env : Env) (L : Nat) (flt : Flt) (d d' : Doc) (input : List Byte)
    (gok : PL.GeoOK d.g) (hp : PL.Inv d.g d.pl) (gok' : PL.GeoOK d'.g) (hp' : PL.Inv d'.g d'.pl)
    (hok : (MDD.run env L d' input).1 = .ok)
    (hno : (MDDF.run env L flt d input).2.1.overflowed = false) :
    (MDDF.run env L flt d input).1 = .ok ∧
    (MDDF.run env L flt d input).2.2 = (MDD.run env L d' input).2.2 ∧
    (MDDF.run env L flt d input).2.1.toVal (MDDF.run env L flt d input).2.1.root =
      Spec.Filter.project flt ((MDD.run env L d' input).2.1.toVal (MDD.run env L d' input).2.1.root) := by
  obtain ⟨u1, u2, u3⟩ := C09.ok_refines env L d' input gok' hp' hok
  obtain ⟨f1, f2, f3⟩ := (filtered_mp_slot_level_refines env L flt d input gok hp).1 hno
  have hpr := msgpack_projection_all_inputs env L flt input u1
  rw [f1, f2, f3, u2, u3, hpr]
  exact ⟨rfl, rfl, rfl⟩

/-- the same with the allocator hypothesis on the answer: when both slot-level runs answer `Ok` -/
theorem filtered_mp_document_is_projection_ok (env : Env) (L : Nat) (flt : Flt) (d d' : Doc) (input : List Byte)
    (gok : PL.GeoOK d.g) (hp : PL.Inv d.g d.pl) (gok' : PL.GeoOK d'.g) (hp' : PL.Inv d'.g d'.pl)
    (hok : (MDD.run env L d' input).1 = .ok) (hokF : (MDDF.run env L flt d input).1 = .ok) :
    (MDDF.run env L flt d input).2.2 = (MDD.run env L d' input).2.2 ∧
    (MDDF.run env L flt d input).2.1.toVal (MDDF.run env L flt d input).2.1.root =
      Spec.Filter.project flt ((MDD.run env L d' input).2.1.toVal (MDD.run env L d' input).2.1.root) :=
  (filtered_mp_document_is_projection env L flt d d' input gok hp gok' hp' hok
    (filtered_mp_ok_no_overflow env L flt d input gok hp hokF)).2

/-- with an allocation failure in the filtered run the answer is `NoMemory`. (Stated as asked, with the unfiltered run `Ok`;
    for MessagePack that hypothesis is not needed: `filtered_mp_noMemory_iff_overflow`.) -/
theorem filtered_mp_overflow_is_noMemory (env : Env) (L : Nat) (flt : Flt) (d d' : Doc) (input : List Byte)
    (gok : PL.GeoOK d.g) (hp : PL.Inv d.g d.pl) (gok' : PL.GeoOK d'.g) (hp' : PL.Inv d'.g d'.pl)
    (hok : (MDD.run env L d' input).1 = .ok)
    (hov : (MDDF.run env L flt d input).2.1.overflowed = true) :
    (MDDF.run env L flt d input).1 = .noMemory :=
  (filtered_mp_noMemory_iff_overflow env L flt d input gok hp).2 hov

/-- when the unfiltered slot-level run answers `Ok`, the filtered run (whatever its allocator does) answers `Ok` or `NoMemory`,
    and `NoMemory` exactly when an allocation failed -/
theorem filtered_mp_ok_or_noMemory (env : Env) (L : Nat) (flt : Flt) (d d' : Doc) (input : List Byte)
    (gok : PL.GeoOK d.g) (hp : PL.Inv d.g d.pl) (gok' : PL.GeoOK d'.g) (hp' : PL.Inv d'.g d'.pl)
    (hok : (MDD.run env L d' input).1 = .ok) :
    ((MDDF.run env L flt d input).1 = .ok ∧ (MDDF.run env L flt d input).2.1.overflowed = false) ∨
    ((MDDF.run env L flt d input).1 = .noMemory ∧ (MDDF.run env L flt d input).2.1.overflowed = true) := by
  cases ho : (MDDF.run env L flt d input).2.1.overflowed with
  | false => exact Or.inl ⟨(filtered_mp_document_is_projection env L flt d d' input gok hp gok' hp' hok ho).1, rfl⟩
  | true => exact Or.inr ⟨(filtered_mp_noMemory_iff_overflow env L flt d input gok hp).2 ho, rfl⟩

/-! ## Runs that store nothing -/

/-- **no destination: the document is untouched.** `parseVariant` with a null destination (what the deserializer runs below a
    removed member, a removed element or a refused container) leaves every field of the document but the allocator state and
    the overflow flag as it was — for every document, filter, input; no hypothesis. -/
theorem mp_no_destination_untouched (env : Env) (fuel limit : Nat) (flt : Flt) (x : MDD.S) :
    MDDF.Same x.d (MDDF.parseVariant env fuel limit flt none x).2.1.d :=
  MDDF.none_untouched env fuel limit flt x

/-- a filter that allows nothing (`Filter` on an unbound variant, on `null`, `false`, a string …): the document left is the
    cleared document apart from the allocator state and the overflow flag; it reads back as `null` -/
theorem mp_allow_nothing_untouched (env : Env) (L : Nat) (flt : Flt) (hA : flt.allowArray = false)
    (hO : flt.allowObject = false) (hV : flt.allowValue = false) (d : Doc) (input : List Byte) :
    MDDF.Same d.clearAll (MDDF.run env L flt d input).2.1 ∧
    (MDDF.run env L flt d input).2.1.root = .null ∧
    (MDDF.run env L flt d input).2.1.strings = [] ∧
    (MDDF.run env L flt d input).2.1.toVal (MDDF.run env L flt d input).2.1.root = .null := by
  have h := MDDF.run_same env L flt d input hV hA hO
  have h4 := h.2.2.2.1
  have h6 := h.2.2.2.2.2.1
  have hr : (MDDF.run env L flt d input).2.1.root = .null := h6
  refine ⟨h, hr, h4, ?_⟩
  rw [hr]
  show (MDDF.run env L flt d input).2.1.toValF (MDDF.run env L flt d input).2.1.fuel .null = .null
  cases (MDDF.run env L flt d input).2.1.fuel <;> rfl

end C11

/-! ## Non-vacuity: geometry ⟨4, 1, 1⟩ (4 slots per pool, 1 inline pool, 1-byte slot ids), default environment.

   As in AJ/Props/C09Doc.lean the slot-level runs are evaluated in the kernel where they touch slot 0 only; the value-level runs
   are evaluated in the kernel; the theorems then give the code, the consumption and the value of the slot-level document. -/
namespace C11.ExMpDocF
open DL MDD C01.ExDoc
open JD (Byte Val Code Flt)

/-- `[1]` : fixarray of one positive fixint -/
def a1 : List Byte := [0x91, 0x01]
/-- `[1` : fixarray of one element, element missing -/
def a1open : List Byte := [0x91]
/-- `{"a":1}` -/
def mA : List Byte := [0x81, 0xa1, 0x61, 0x01]
/-- `{"a":{"key":[1]}}` -/
def mNest : List Byte := [0x81, 0xa1, 0x61, 0x81, 0xa3, 0x6b, 0x65, 0x79, 0x91, 0x01]
/-- the filter `[true]` -/
def fT : Flt := .doc (some (.arr [.bool true]))
/-- the filter `[false]` -/
def fF : Flt := .doc (some (.arr [.bool false]))
/-- the filter `{"b":true}` -/
def fB : Flt := .doc (some (.obj [([0x62], .bool true)]))
/-- the filter `{"a":true}` -/
def fA : Flt := .doc (some (.obj [([0x61], .bool true)]))

set_option maxRecDepth 100000 in
theorem ov_a1T : (MDDF.run {} 10 fT dz a1).2.1.overflowed = false := by decide +kernel
set_option maxRecDepth 100000 in
theorem ov_a1F : (MDDF.run {} 10 fF dz a1).2.1.overflowed = false := by decide +kernel
set_option maxRecDepth 100000 in
theorem ov_a1openT : (MDDF.run {} 10 fT dz a1open).2.1.overflowed = false := by decide +kernel
set_option maxRecDepth 100000 in
theorem ov_mAB : (MDDF.run {} 10 fB dz mA).2.1.overflowed = false := by decide +kernel
set_option maxRecDepth 100000 in
theorem ok_a1 : (MDD.run {} 10 dz a1).1 = .ok := by decide +kernel

/-- `91 01` under `[true]`: `Ok`, 2 bytes, the element is stored in slot 0 and the document reads back as `[1]` -/
example : (MDDF.run {} 10 fT dz a1).1 = .ok ∧ (MDDF.run {} 10 fT dz a1).2.2 = 2 ∧
    (MDDF.run {} 10 fT dz a1).2.1.toVal (MDDF.run {} 10 fT dz a1).2.1.root = .arr [.num (.sint 1)] := by
  obtain ⟨a, b, c⟩ := (C11.filtered_mp_slot_level_refines {} 10 fT dz a1 gok hp).1 ov_a1T
  rw [a, b, c]
  exact ⟨by decide +kernel, by decide +kernel, valEq_sound _ _ (by decide +kernel)⟩

/-- `81 a1 61 01` under `{"b":true}`: `Ok`, 4 bytes consumed, the object is built at the root, its member `"a"` is dropped (the
    key went through the StringBuffer, the value was read without destination), and the document reads back as `{}` -/
example : (MDDF.run {} 10 fB dz mA).1 = .ok ∧ (MDDF.run {} 10 fB dz mA).2.2 = 4 ∧
    (MDDF.run {} 10 fB dz mA).2.1.toVal (MDDF.run {} 10 fB dz mA).2.1.root = .obj [] := by
  obtain ⟨a, b, c⟩ := (C11.filtered_mp_slot_level_refines {} 10 fB dz mA gok hp).1 ov_mAB
  rw [a, b, c]
  exact ⟨by decide +kernel, by decide +kernel, valEq_sound _ _ (by decide +kernel)⟩

set_option maxRecDepth 100000 in
/-- the allocator log of that run: a StringBuffer node of 1 + 15 bytes for the key of the dropped member, released when the
    deserializer is destroyed; no pool block -/
example : (MDDF.run {} 10 fB dz mA).2.1.pl.log = ["D", "A16"] := by decide +kernel

/-- the document of that run is well-formed -/
example : WF (MDDF.run {} 10 fB dz mA).2.1 := C11.filtered_mp_slot_level_wf {} 10 fB dz mA gok hp ov_mAB

/-- `91` under `[true]`: `IncompleteInput`, and the PARTIAL document `[null]` is the same on both sides -/
example : (MDDF.run {} 10 fT dz a1open).1 = .incomplete ∧
    (MDDF.run {} 10 fT dz a1open).2.1.toVal (MDDF.run {} 10 fT dz a1open).2.1.root = .arr [.null] := by
  obtain ⟨a, _, c⟩ := (C11.filtered_mp_slot_level_refines {} 10 fT dz a1open gok hp).1 ov_a1openT
  rw [a, c]
  exact ⟨by decide +kernel, valEq_sound _ _ (by decide +kernel)⟩

/-- `filtered_mp_document_is_projection` on `91 01`: under `[false]` the filtered document is `project [false] [1] = []`, under
    `[true]` it is `[1]`; both `Ok` after the 2 bytes of the unfiltered run -/
example : (MDDF.run {} 10 fF dz a1).1 = .ok ∧ (MDDF.run {} 10 fF dz a1).2.2 = (MDD.run {} 10 dz a1).2.2 ∧
    (MDDF.run {} 10 fF dz a1).2.1.toVal (MDDF.run {} 10 fF dz a1).2.1.root =
      Spec.Filter.project fF ((MDD.run {} 10 dz a1).2.1.toVal (MDD.run {} 10 dz a1).2.1.root) :=
  C11.filtered_mp_document_is_projection {} 10 fF dz dz a1 gok hp gok hp ok_a1 ov_a1F

example : (MDDF.run {} 10 fF dz a1).2.1.toVal (MDDF.run {} 10 fF dz a1).2.1.root = .arr [] ∧
    (MDDF.run {} 10 fT dz a1).2.1.toVal (MDDF.run {} 10 fT dz a1).2.1.root = .arr [.num (.sint 1)] := by
  obtain ⟨_, _, a⟩ := C11.filtered_mp_document_is_projection {} 10 fF dz dz a1 gok hp gok hp ok_a1 ov_a1F
  obtain ⟨_, _, b⟩ := C11.filtered_mp_document_is_projection {} 10 fT dz dz a1 gok hp gok hp ok_a1 ov_a1T
  obtain ⟨_, _, u⟩ := C09.ok_refines {} 10 dz a1 gok hp ok_a1
  rw [a, b, u]
  exact ⟨valEq_sound _ _ (by decide +kernel), valEq_sound _ _ (by decide +kernel)⟩

/-- `81 a1 61 01` under `{"a":true}` (the kept member takes two slots: the run does not evaluate in the kernel). The value-level
    filtered run answers `Ok` with `{"a":1}` after 4 bytes; hence the slot-level run either answers `Ok` after 4 bytes, leaving
    a document that reads back as `{"a":1}`, or it answers `NoMemory` with the overflow flag set (evaluating the model,
    `#eval`, shows the first, with the allocator log `["R32", "A64", "A16"]`). -/
example :
    ((MDDF.run {} 10 fA dz mA).1 = .ok ∧ (MDDF.run {} 10 fA dz mA).2.2 = 4 ∧
      (MDDF.run {} 10 fA dz mA).2.1.toVal (MDDF.run {} 10 fA dz mA).2.1.root = .obj [([0x61], .num (.sint 1))]) ∨
    ((MDDF.run {} 10 fA dz mA).1 = .noMemory ∧ (MDDF.run {} 10 fA dz mA).2.1.overflowed = true) := by
  have h0 : (MD.run {} 10 fA mA).1 = .ok ∧ (MD.run {} 10 fA mA).2.2 = 4 ∧
      (MD.run {} 10 fA mA).2.1 = .obj [([0x61], .num (.sint 1))] :=
    ⟨by decide +kernel, by decide +kernel, valEq_sound _ _ (by decide +kernel)⟩
  rcases C11.filtered_mp_slot_level_core {} 10 fA dz mA gok hp with ⟨_, a, _, b, c, _⟩ | ⟨a, b⟩
  · exact Or.inl ⟨by rw [a]; exact h0.1, by rw [b]; exact h0.2.1, by rw [c]; exact h0.2.2⟩
  · exact Or.inr ⟨b, a⟩

/-- an allocator that fails at its first call (`C01.ExDoc.dzf`): the filtered run of `91 01` under `[true]` answers `NoMemory`
    with the overflow flag set (the unconditional clause) while the value-level run is `Ok`; under `[false]` nothing is
    allocated and the run is `Ok` -/
example : (MDDF.run {} 10 fT dzf a1).1 = .noMemory ∧ (MDDF.run {} 10 fT dzf a1).2.1.overflowed = true ∧
    (MD.run {} 10 fT a1).1 = .ok ∧ (MDDF.run {} 10 fF dzf a1).1 = .ok := by decide +kernel

/-- `mp_allow_nothing_untouched` on `{"a":{"key":[1]}}` with an unbound filter: `Ok` after 10 bytes, document `null`, no slot
    handed out — but, contrary to JSON (`C11.skipped_values_do_not_touch_document`), the allocator WAS called: the keys `"a"`
    and `"key"` of the skipped maps went through `StringBuffer::reserve` (16 bytes, released for 18 bytes, released) -/
example : (MDDF.run {} 10 (.doc none) dz mNest).1 = .ok ∧ (MDDF.run {} 10 (.doc none) dz mNest).2.2 = 10 ∧
    (MDDF.run {} 10 (.doc none) dz mNest).2.1.toVal (MDDF.run {} 10 (.doc none) dz mNest).2.1.root = .null ∧
    (MDDF.run {} 10 (.doc none) dz mNest).2.1.pl.log = ["D", "A18", "D", "A16"] := by
  obtain ⟨_, _, _, c⟩ := C11.mp_allow_nothing_untouched {} 10 (.doc none) rfl rfl rfl dz mNest
  exact ⟨by decide +kernel, by decide +kernel, c, by decide +kernel⟩

/-- and such a run CAN fail: with an allocator that refuses its first call the run under the unbound filter answers `NoMemory`
    after 2 bytes with the overflow flag set, although nothing would be stored (the value-level run is `Ok` after 10 bytes) -/
example : (MDDF.run {} 10 (.doc none) dzf mNest).1 = .noMemory ∧ (MDDF.run {} 10 (.doc none) dzf mNest).2.2 = 2 ∧
    (MDDF.run {} 10 (.doc none) dzf mNest).2.1.overflowed = true ∧
    (MD.run {} 10 (.doc none) mNest).1 = .ok ∧ (MD.run {} 10 (.doc none) mNest).2.2 = 10 := by decide +kernel

/-- a key longer than the string limit is refused by both runs whatever the filter (`filtered_mp_abstract_noMemory`): limit 2,
    key `"key"` of a skipped map -/
example : (MD.run ⟨2⟩ 10 (.doc none) mNest).1 = .noMemory ∧ (MDDF.run ⟨2⟩ 10 (.doc none) dz mNest).1 = .noMemory ∧
    (MDDF.run ⟨2⟩ 10 (.doc none) dz mNest).2.1.overflowed = true := by
  have h : (MD.run ⟨2⟩ 10 (.doc none) mNest).1 = .noMemory := by decide +kernel
  obtain ⟨a, b⟩ := C11.filtered_mp_abstract_noMemory ⟨2⟩ 10 (.doc none) dz mNest gok hp h
  exact ⟨h, a, b⟩

end C11.ExMpDocF
