/- C07 / C09 / C16 (MessagePack side): `deserializeMsgPack (serializeMsgPack d)` accepts, consumes exactly the bytes of the
   object whatever follows, yields the normalised document `norm d`, and `norm d` serialises to the same bytes.
   Error cases: reserved code 0xC1, empty input, non-string key. -/
import AJ.Lemmas.MpEncValue
import AJ.Lemmas.MsgPack
namespace C09
open JD hiding parseVariant run
open SF MD

/-! ## what comes back: `norm` mirrors the code paths of `MD.ser` followed by `MD.parseVariant` -/

/-- the float32 → integer shortcut taken by `MD.encF32` (`some k`: the value is written as the integer `k`) -/
def f32Int (bits : Nat) : Option Int :=
  match decode b32 bits with
  | .fin neg m e =>
    let inRange := ge b32 bits 0xDF000000 && le b32 bits 0x5EFFFFFF
    let isInt := e ≥ 0 || m % 2^((-e).toNat) == 0
    if inRange && isInt then
      let mag := if e ≥ 0 then m * 2^e.toNat else m / 2^((-e).toNat)
      some (if neg then -(mag : Int) else mag)
    else none
  | _ => none

/-- the "double is exactly a float" test of `MD.encF64` -/
def same64 (bits : Nat) : Bool :=
  match decode b64 bits with
  | .nan => false
  | _ => cvt b32 b64 (cvt b64 b32 bits) == bits ||
      (match decode b64 bits, decode b32 (cvt b64 b32 bits) with | .fin _ 0 _, .fin _ 0 _ => true | _, _ => false)

def normF32 (bits : Nat) : Num :=
  match f32Int bits with
  | some k => normInt k
  | none => .f32 bits

def normNum : Num → Num
  | .uint n => if n ≤ 0x7F then .sint n else .uint n
  | .sint v => normInt v
  | .f32 b => normF32 b
  | .f64 b => if same64 b then normF32 (cvt b64 b32 b) else storeDouble b

mutual
def norm : Val → Val
  | .null => .null
  | .bool b => .bool b
  | .num n => .num (normNum n)
  | .str s => .str s
  | .raw s => .raw s
  | .arr xs => .arr (normElems xs)
  | .obj ms => .obj (normMembers ms)
def normElems : List Val → List Val
  | [] => []
  | x :: r => norm x :: normElems r
def normMembers : List (List Byte × Val) → List (List Byte × Val)
  | [] => []
  | (k, v) :: r => (k, norm v) :: normMembers r
end

/-! ## hypotheses -/
mutual
def RawFree : Val → Prop
  | .raw _ => False
  | .arr xs => RawFreeElems xs
  | .obj ms => RawFreeMembers ms
  | _ => True
def RawFreeElems : List Val → Prop
  | [] => True
  | x :: r => RawFree x ∧ RawFreeElems r
def RawFreeMembers : List (List Byte × Val) → Prop
  | [] => True
  | (_, v) :: r => RawFree v ∧ RawFreeMembers r
end

/-- integers in the 64-bit ranges (signed: `-2^63 ≤ v`, and `v < 2^64` so that positive values written through the
    unsigned formats are covered), float bit patterns within their width -/
def NumOk : Num → Prop
  | .uint n => n < 2^64
  | .sint v => -2^63 ≤ v ∧ v < 2^64
  | .f32 b => b < 2^32
  | .f64 b => b < 2^64

mutual
def WithinLimits (env : Env) : Val → Prop
  | .num n => NumOk n
  | .str s => s.length ≤ env.maxStrLen ∧ s.length < 2^32
  | .arr xs => xs.length < 2^32 ∧ WithinLimitsElems env xs
  | .obj ms => ms.length < 2^32 ∧ WithinLimitsMembers env ms
  | _ => True
def WithinLimitsElems (env : Env) : List Val → Prop
  | [] => True
  | x :: r => WithinLimits env x ∧ WithinLimitsElems env r
def WithinLimitsMembers (env : Env) : List (List Byte × Val) → Prop
  | [] => True
  | (k, v) :: r => (k.length ≤ env.maxStrLen ∧ k.length < 2^32) ∧ WithinLimits env v ∧ WithinLimitsMembers env r
end

mutual
def depth : Val → Nat
  | .arr xs => 1 + depthElems xs
  | .obj ms => 1 + depthMembers ms
  | _ => 0
def depthElems : List Val → Nat
  | [] => 0
  | x :: r => max (depth x) (depthElems r)
def depthMembers : List (List Byte × Val) → Nat
  | [] => 0
  | (_, v) :: r => max (depth v) (depthMembers r)
end

/- fuel that suffices for `parseVariant` on `ser v` -/
mutual
def fuelNeed : Val → Nat
  | .arr xs => 1 + fuelElems xs
  | .obj ms => 1 + fuelMembers ms
  | _ => 1
def fuelElems : List Val → Nat
  | [] => 1
  | x :: r => 1 + max (fuelNeed x) (fuelElems r)
def fuelMembers : List (List Byte × Val) → Nat
  | [] => 1
  | (_, v) :: r => 1 + max (fuelNeed v) (fuelMembers r)
end

/-! ## the serializer's float paths in terms of `f32Int` / `same64` -/
theorem encF32_eq (bits : Nat) :
    encF32 bits = match f32Int bits with | some k => encInt k | none => 0xCA :: beN 4 bits := by
  unfold encF32 f32Int
  generalize decode b32 bits = d
  cases d with
  | nan => rfl
  | inf n => rfl
  | fin neg m e =>
    simp only
    split <;> simp [*]

theorem encF64_eq (bits : Nat) :
    encF64 bits = if same64 bits then encF32 (cvt b64 b32 bits) else 0xCB :: beN 8 bits :=
  MsgPack.encF64_eq bits

theorem fuelNeed_pos (v : Val) : 1 ≤ fuelNeed v := by
  cases v <;> simp only [fuelNeed] <;> omega

mutual
theorem fuelNeed_le : ∀ v, RawFree v → fuelNeed v ≤ 2 * (ser v).length
  | .null, _ => by decide
  | .bool _, _ => by simp only [fuelNeed, ser, List.length_cons, List.length_nil]; omega
  | .num (.uint n), _ => by have := MsgPack.encUInt_pos n; simp only [fuelNeed, ser]; omega
  | .num (.sint n), _ => by have := MsgPack.encInt_pos n; simp only [fuelNeed, ser]; omega
  | .num (.f32 n), _ => by have := MsgPack.encF32_pos n; simp only [fuelNeed, ser]; omega
  | .num (.f64 n), _ => by have := MsgPack.encF64_pos n; simp only [fuelNeed, ser]; omega
  | .str s, _ => by have := MsgPack.strHdr_pos s.length; simp only [fuelNeed, ser, List.length_append]; omega
  | .raw s, h => by simp only [RawFree] at h
  | .arr xs, h => by
    simp only [RawFree] at h
    have := fuelElems_le xs h
    have := MsgPack.arrHdr_pos xs.length
    simp only [fuelNeed, ser, List.length_append]; omega
  | .obj ms, h => by
    simp only [RawFree] at h
    have := fuelMembers_le ms h
    have := MsgPack.mapHdr_pos ms.length
    simp only [fuelNeed, ser, List.length_append]; omega
theorem fuelElems_le : ∀ xs, RawFreeElems xs → fuelElems xs ≤ 2 * (serElems xs).length + 1
  | [], _ => by decide
  | x :: r, h => by
    simp only [RawFreeElems] at h
    have h1 := fuelNeed_le x h.1
    have h2 := fuelElems_le r h.2
    have h3 := fuelNeed_pos x
    simp only [fuelElems, serElems, List.length_append]; omega
theorem fuelMembers_le : ∀ ms, RawFreeMembers ms → fuelMembers ms ≤ 2 * (serMembers ms).length + 1
  | [], _ => by decide
  | (k, v) :: r, h => by
    simp only [RawFreeMembers] at h
    have h1 := fuelNeed_le v h.1
    have h2 := fuelMembers_le r h.2
    have h3 := fuelNeed_pos v
    simp only [fuelMembers, serMembers, List.length_append]; omega
end

/-! ## second serialization -/
theorem ser_normInt (k : Int) : ser (.num (normInt k)) = encInt k := by
  unfold normInt
  split
  · simp only [ser]; unfold encInt; rw [if_pos (by omega)]
  · simp only [ser]

theorem encInt_natCast (n : Nat) : encInt (n : Int) = encUInt n := by
  unfold encInt
  split
  · simp
  · have : n = 0 := by omega
    subst this; decide

theorem storeDouble_of_not_same (b : Nat) (h : same64 b = false) : storeDouble b = .f64 b := by
  unfold storeDouble
  unfold same64 at h
  split
  · rfl
  · rename_i hnn
    split at h
    · rename_i hn; exact absurd hn hnn
    · simp only [Bool.or_eq_false_iff] at h
      obtain ⟨hA, hZ⟩ := h
      have hP : (decode b64 b == FP.fin false 0 (1 - 1023 - 52)) = false := by
        cases hp : (decode b64 b == FP.fin false 0 (1 - 1023 - 52)) with
        | false => rfl
        | true =>
          exfalso
          have hd : decode b64 b = FP.fin false 0 (1 - 1023 - 52) := by simpa using hp
          have hf : cvt b64 b32 b = 0 := by unfold cvt; rw [hd]; decide +kernel
          rw [hd, hf] at hZ
          revert hZ; decide +kernel
      simp only [hA, hP, Bool.false_or, Bool.false_eq_true, or_self, decide_false, reduceIte]
      split
      · rename_i h1 h2; rw [h1, h2] at hZ; simp at hZ
      · rfl

theorem ser_normF32 (b : Nat) : ser (.num (normF32 b)) = encF32 b := by
  unfold normF32
  cases hf : f32Int b with
  | none => simp only [ser]
  | some k => simp only []; rw [ser_normInt, encF32_eq, hf]

theorem ser_normNum (n : Num) : ser (.num (normNum n)) = ser (.num n) := by
  cases n with
  | uint n =>
    simp only [normNum]; split
    · simp only [ser]; exact encInt_natCast n
    · rfl
  | sint v => simp only [normNum]; rw [ser_normInt]; simp only [ser]
  | f32 b => simp only [normNum]; rw [ser_normF32]; simp only [ser]
  | f64 b =>
    simp only [normNum]
    by_cases hs : same64 b = true
    · rw [if_pos hs, ser_normF32]; simp only [ser]; rw [encF64_eq, if_pos hs]
    · rw [if_neg hs, storeDouble_of_not_same b (by simpa using hs)]


/-! ## range of the integers that the float shortcut stores -/
theorem f32Int_range (b : Nat) (k : Int) (h : f32Int b = some k) : -2^63 ≤ k ∧ k < 2^64 := by
  unfold f32Int at h
  split at h
  · rename_i neg m e hd
    simp only at h
    split at h
    · rename_i hc
      injection h with hk
      simp only [Bool.and_eq_true] at hc
      -- the magnitude computed by `f32Int` is `MsgPack.magOf m e` unfolded
      have hr := MsgPack.shortcut_range b neg m e hd hc.1.1 hc.1.2
      rw [← hk]
      exact ⟨hr.1, Int.lt_trans hr.2 (by decide)⟩
    · cases h
  · cases h


/-! ## the serializer writes a well-formed encoding, and its value is `norm` -/

theorem leafVal_encF32 {env : Env} (b : Nat) (hb : b < 2^32) : LeafVal env (encF32 b) (.num (normF32 b)) := by
  rw [encF32_eq]
  unfold normF32
  cases hf : f32Int b with
  | none =>
    have := LeafVal.f32 (env := env) (beN 4 b) (beN_length _ _)
    rwa [beNat_beN4 b hb] at this
  | some k => exact leafVal_encInt k (f32Int_range b k hf).1 (f32Int_range b k hf).2

theorem leafVal_num {env : Env} (n : Num) (h : NumOk n) : LeafVal env (ser (.num n)) (.num (normNum n)) := by
  cases n with
  | uint n =>
    have := leafVal_encUInt (env := env) n h
    simp only [ser, normNum]
    by_cases h7 : n ≤ 0x7F
    · rwa [if_pos h7, ← normInt_small n h7]
    · rwa [if_neg h7, ← normInt_big n h7]
  | sint v => exact leafVal_encInt v h.1 h.2
  | f32 b => exact leafVal_encF32 b h
  | f64 b =>
    simp only [ser, normNum]
    rw [encF64_eq]
    by_cases hs : same64 b = true
    · rw [if_pos hs, if_pos hs]
      exact leafVal_encF32 _ (MsgPack.cvt32_lt b)
    · have := LeafVal.f64 (env := env) (beN 8 b) (beN_length _ _)
      rw [beNat_beN8 b h] at this
      rwa [if_neg hs, if_neg hs]

theorem serElems_flatten : ∀ xs : List Val, serElems xs = (xs.map ser).flatten
  | [] => rfl
  | x :: r => by simp only [serElems, List.map_cons, List.flatten_cons, serElems_flatten r]

theorem serMembers_flatten : ∀ ms : List (List Byte × Val),
    serMembers ms = (ms.map (fun kv => strHdr kv.1.length ++ kv.1 ++ ser kv.2)).flatten
  | [] => rfl
  | (k, v) :: r => by simp only [serMembers, List.map_cons, List.flatten_cons, serMembers_flatten r]

theorem normElems_map : ∀ xs : List Val, normElems xs = xs.map norm
  | [] => rfl
  | x :: r => by simp only [normElems, List.map_cons, normElems_map r]

theorem normMembers_map : ∀ ms : List (List Byte × Val), normMembers ms = ms.map (fun kv => (kv.1, norm kv.2))
  | [] => rfl
  | (k, v) :: r => by simp only [normMembers, List.map_cons, normMembers_map r]

mutual
/-- at every depth bound `d` that the document respects -/
theorem ser_encVal (env : Env) : ∀ v d, RawFree v → WithinLimits env v → depth v ≤ d → EncVal env d (ser v) (norm v)
  | .null, _, _, _, _ => .leaf .nil
  | .bool b, _, _, _, _ => by simp only [ser, norm]; exact .leaf (.bool b)
  | .num n, _, _, hw, _ => by simp only [norm]; exact .leaf (leafVal_num n hw)
  | .str s, _, _, hw, _ => by
    simp only [WithinLimits] at hw
    simp only [ser, norm]
    exact .leaf (leafVal_str s hw.1 hw.2)
  | .raw s, _, hr, _, _ => by simp only [RawFree] at hr
  | .arr xs, d, hr, hw, hd => by
    simp only [RawFree] at hr
    simp only [WithinLimits] at hw
    simp only [depth] at hd
    obtain ⟨d', rfl⟩ : ∃ d', d = d' + 1 := ⟨d - 1, by omega⟩
    have := EncVal.arr (env := env) (d := d') (arrHdr xs.length) (xs.map (fun x => (ser x, norm x)))
      (by rw [List.length_map]; exact arrHdr_ok _ hw.1)
      (fun ev he => by
        obtain ⟨x, hx, rfl⟩ := List.mem_map.mp he
        exact ser_encVal_elems env xs d' hr hw.2 (by omega) x hx)
    rw [List.map_map, List.map_map] at this
    simp only [ser, norm, serElems_flatten, normElems_map]
    exact this
  | .obj ms, d, hr, hw, hd => by
    simp only [RawFree] at hr
    simp only [WithinLimits] at hw
    simp only [depth] at hd
    obtain ⟨d', rfl⟩ : ∃ d', d = d' + 1 := ⟨d - 1, by omega⟩
    have := EncVal.map (env := env) (d := d') (mapHdr ms.length)
      (ms.map (fun kv => (strHdr kv.1.length ++ kv.1, kv.1, ser kv.2, norm kv.2)))
      (by rw [List.length_map]; exact mapHdr_ok _ hw.1)
      (fun m he => by
        obtain ⟨kv, hkv, rfl⟩ := List.mem_map.mp he
        exact (ser_encVal_members env ms d' hr hw.2 (by omega) kv hkv).1)
      (fun m he => by
        obtain ⟨kv, hkv, rfl⟩ := List.mem_map.mp he
        exact (ser_encVal_members env ms d' hr hw.2 (by omega) kv hkv).2)
    rw [List.map_map, List.map_map] at this
    simp only [ser, norm, serMembers_flatten, normMembers_map]
    exact this
theorem ser_encVal_elems (env : Env) : ∀ xs d, RawFreeElems xs → WithinLimitsElems env xs → depthElems xs ≤ d →
    ∀ x ∈ xs, EncVal env d (ser x) (norm x)
  | [], _, _, _, _ => fun _ h => nomatch h
  | y :: r, d, hr, hw, hd => fun x hx => by
    simp only [RawFreeElems] at hr
    simp only [WithinLimitsElems] at hw
    simp only [depthElems] at hd
    rcases List.mem_cons.mp hx with h | hx
    · rw [h]; exact ser_encVal env y d hr.1 hw.1 (by omega)
    · exact ser_encVal_elems env r d hr.2 hw.2 (by omega) x hx
theorem ser_encVal_members (env : Env) : ∀ ms d, RawFreeMembers ms → WithinLimitsMembers env ms → depthMembers ms ≤ d →
    ∀ m ∈ ms, KeyVal env (strHdr m.1.length ++ m.1) m.1 ∧ EncVal env d (ser m.2) (norm m.2)
  | [], _, _, _, _ => fun _ h => nomatch h
  | (k, v) :: r, d, hr, hw, hd => fun m hm => by
    simp only [RawFreeMembers] at hr
    simp only [WithinLimitsMembers] at hw
    simp only [depthMembers] at hd
    rcases List.mem_cons.mp hm with h | hm
    · rw [h]; exact ⟨keyVal_str k hw.1.1 hw.1.2, ser_encVal env v d hr.1 hw.2.1 (by omega)⟩
    · exact ser_encVal_members env r d hr.2 hw.2.2 (by omega) m hm
end

/-! ## error cases (any filter, any nesting limit) -/

theorem pv_reserved (env : Env) (fuel limit : Nat) (flt : Flt) (hd : Bool) (rest : List Byte) (p : Nat) :
    parseVariant env (fuel+1) limit flt hd ⟨0xC1 :: rest, p⟩ = (.invalid, .null, ⟨rest, p+1⟩, true) := by
  rw [pv_cons]
  rfl

/-- the reserved code 0xC1 is rejected with InvalidInput after one byte -/
theorem reserved_code (env : Env) (L : Nat) (flt : Flt) (rest : List Byte) :
    MD.run env L flt (0xC1 :: rest) = (.invalid, .null, 1) := by
  simp only [run]
  rw [show 2 * (0xC1 :: rest).length + 4 = (2 * rest.length + 5) + 1 by simp only [List.length_cons]; omega,
    pv_reserved]
  rfl

/-- the empty input gives EmptyInput -/
theorem empty_input (env : Env) (L : Nat) (flt : Flt) : MD.run env L flt [] = (.empty, .null, 0) := by
  simp only [run]
  rw [show 2 * ([] : List Byte).length + 4 = 3 + 1 from rfl, pv_succ]
  rfl

/-- a one-member map whose key does not start with a str header (fixstr, str8, str16, str32) gives InvalidInput,
    two bytes consumed -/
theorem non_string_key (env : Env) (L : Nat) (flt : Flt) (c : Byte) (rest : List Byte)
    (h1 : ¬ (0xa0 ≤ c.toNat ∧ c.toNat ≤ 0xbf)) (h2 : ¬ (0xd9 ≤ c.toNat ∧ c.toNat ≤ 0xdb)) :
    (MD.run env (L+1) flt (0x81 :: c :: rest)).1 = .invalid ∧ (MD.run env (L+1) flt (0x81 :: c :: rest)).2.2 = 2 := by
  simp only [run]
  rw [show 2 * (0x81 :: c :: rest).length + 4 = (2 * rest.length + 6) + 1 + 1 by simp only [List.length_cons]; omega,
    pv_cons, pvAfter_sized 0x81 (by decide) (.inl (by decide)), szBytes_fix _ (.inl (by decide)), hdrOf_zero,
    pvTail_map 0x81 (.inr (.inr (by decide))), show sz2 (UInt8.toNat 0x81) = 0 + 1 from rfl,
    ro_bad_key env _ L flt true 0 c rest _ [] h1 h2, ro_bad_key env _ L flt false 0 c rest _ [] h1 h2]
  split <;> exact ⟨rfl, rfl⟩


/-! ## MAIN: round trip (C07), acceptance (C09), exact consumption whatever follows (C16) -/
theorem roundtrip (env : Env) (L : Nat) (v : Val)
    (hr : RawFree v) (hw : WithinLimits env v) (hd : depth v ≤ L) (rest : List Byte) :
    MD.run env L .all (ser v ++ rest) = (.ok, norm v, (ser v).length) := by
  have h := enc_val (ser_encVal env v L hr hw hd) (2 * (ser v ++ rest).length + 4) L rest 0 (Nat.le_refl _)
    (by rw [List.length_append]; omega)
  simp only [run]
  rw [h]
  simp only [reduceIte, Nat.zero_add]

/-! ## second serialization is byte-identical; `norm` is idempotent -/
theorem normElems_length (xs : List Val) : (normElems xs).length = xs.length := by
  induction xs with
  | nil => rfl
  | cons x r ih => simp only [normElems, List.length_cons, ih]
theorem normMembers_length (ms : List (List Byte × Val)) : (normMembers ms).length = ms.length := by
  induction ms with
  | nil => rfl
  | cons km r ih => obtain ⟨k, v⟩ := km; simp only [normMembers, List.length_cons, ih]

mutual
theorem fixpoint : ∀ v : Val, ser (norm v) = ser v
  | .null => by simp only [norm]
  | .bool _ => by simp only [norm]
  | .num n => by simp only [norm]; exact ser_normNum n
  | .str _ => by simp only [norm]
  | .raw _ => by simp only [norm]
  | .arr xs => by simp only [norm, ser, normElems_length, fixpointElems xs]
  | .obj ms => by simp only [norm, ser, normMembers_length, fixpointMembers ms]
theorem fixpointElems : ∀ xs : List Val, serElems (normElems xs) = serElems xs
  | [] => by simp only [normElems]
  | x :: r => by simp only [normElems, serElems, fixpoint x, fixpointElems r]
theorem fixpointMembers : ∀ ms : List (List Byte × Val), serMembers (normMembers ms) = serMembers ms
  | [] => by simp only [normMembers]
  | (k, v) :: r => by simp only [normMembers, serMembers, fixpoint v, fixpointMembers r]
end

theorem normNum_normInt (k : Int) : normNum (normInt k) = normInt k := by
  unfold normInt
  split
  · simp only [normNum]; rw [if_neg (by omega)]
  · rename_i h; simp only [normNum]; unfold normInt; rw [if_neg h]

theorem normNum_normF32 (b : Nat) : normNum (normF32 b) = normF32 b := by
  unfold normF32
  cases hf : f32Int b with
  | none => simp only [normNum]; unfold normF32; rw [hf]
  | some k => exact normNum_normInt k

set_option linter.unusedSimpArgs false in
theorem normNum_idem (n : Num) : normNum (normNum n) = normNum n := by
  cases n with
  | uint n =>
    by_cases h : n ≤ 0x7F
    · have e : normNum (.uint n) = .sint n := by simp only [normNum]; rw [if_pos h]
      rw [e]; simp only [normNum]; exact normInt_small n h
    · have e : normNum (.uint n) = .uint n := by simp only [normNum]; rw [if_neg h]
      rw [e, e]
  | sint v => simp only [normNum]; exact normNum_normInt v
  | f32 b => simp only [normNum]; exact normNum_normF32 b
  | f64 b =>
    simp only [normNum]
    by_cases hs : same64 b = true
    · rw [if_pos hs]; exact normNum_normF32 _
    · rw [if_neg hs, storeDouble_of_not_same b (by simpa using hs)]
      simp only [normNum]
      rw [if_neg hs, storeDouble_of_not_same b (by simpa using hs)]

mutual
theorem norm_idem : ∀ v : Val, norm (norm v) = norm v
  | .null => by simp only [norm]
  | .bool _ => by simp only [norm]
  | .num n => by simp only [norm, normNum_idem]
  | .str _ => by simp only [norm]
  | .raw _ => by simp only [norm]
  | .arr xs => by simp only [norm, normElems_idem xs]
  | .obj ms => by simp only [norm, normMembers_idem ms]
theorem normElems_idem : ∀ xs : List Val, normElems (normElems xs) = normElems xs
  | [] => by simp only [normElems]
  | x :: r => by simp only [normElems, norm_idem x, normElems_idem r]
theorem normMembers_idem : ∀ ms : List (List Byte × Val), normMembers (normMembers ms) = normMembers ms
  | [] => by simp only [normMembers]
  | (k, v) :: r => by simp only [normMembers, norm_idem v, normMembers_idem r]
end

/-- deserialising, serialising again gives the same bytes (C07, second clause) -/
theorem reserialize (env : Env) (L : Nat) (v : Val)
    (hr : RawFree v) (hw : WithinLimits env v) (hd : depth v ≤ L) (rest : List Byte) :
    ser (MD.run env L .all (ser v ++ rest)).2.1 = ser v := by
  rw [roundtrip env L v hr hw hd rest]; exact fixpoint v

/-! ## "equal in value" -/
/-- exact value of an integer-typed number -/
def intVal : Num → Option Int
  | .uint n => some n
  | .sint v => some v
  | _ => none

/-- the binary32 pattern `bits` is finite and denotes exactly the integer `k`: `(-1)^neg * m * 2^e = k` -/
def F32IsInt (bits : Nat) (k : Int) : Prop :=
  ∃ neg m e, decode b32 bits = .fin neg m e ∧
    (if neg then -(m : Int) else (m : Int)) * 2^e.toNat = k * 2^(-e).toNat

/-- numbers equal in value: identical; or two integers with the same value; or a float32 whose exact value is that
    integer; a double counts through what `VariantData::setFloat(double)` stores for it (`storeDouble`) -/
inductive SameValue : Num → Num → Prop
  | refl (a : Num) : SameValue a a
  | ints (a b : Num) (k : Int) : intVal a = some k → intVal b = some k → SameValue a b
  | f32int (bits : Nat) (b : Num) (k : Int) : intVal b = some k → F32IsInt bits k → SameValue (.f32 bits) b
  | f64 (bits : Nat) (b : Num) : SameValue (storeDouble bits) b → SameValue (.f64 bits) b

theorem intVal_normInt (k : Int) : intVal (normInt k) = some k := by
  unfold normInt
  split
  · simp only [intVal]; congr 1; omega
  · rfl

theorem f32Int_exact (b : Nat) (k : Int) (h : f32Int b = some k) : F32IsInt b k := by
  unfold f32Int at h
  split at h
  · rename_i neg m e hd
    simp only at h
    split at h
    · rename_i hc
      injection h with hk
      simp only [Bool.and_eq_true, Bool.or_eq_true, decide_eq_true_eq, beq_iff_eq] at hc
      obtain ⟨_, hint⟩ := hc
      refine ⟨neg, m, e, hd, ?_⟩
      by_cases he : e ≥ 0
      · rw [if_pos he] at hk
        have e0 : (-e).toNat = 0 := by omega
        rw [e0, Int.pow_zero, Int.mul_one, ← hk]
        cases neg <;> simp [Int.neg_mul]
      · rw [if_neg he] at hk
        have e0 : e.toNat = 0 := by omega
        have hmod : m % 2^(-e).toNat = 0 := by
          rcases hint with h | h
          · exact absurd h he
          · exact h
        have hdm : m = m / 2^(-e).toNat * 2^(-e).toNat := (Nat.div_mul_cancel (Nat.dvd_of_mod_eq_zero hmod)).symm
        rw [e0, Int.pow_zero, Int.mul_one, ← hk]
        generalize m / 2^(-e).toNat = q at hdm
        cases neg
        · simp only [Bool.false_eq_true, reduceIte]; rw [hdm]; push_cast; rfl
        · simp only [reduceIte]; rw [hdm]; push_cast; rw [Int.neg_mul]
    · cases h
  · cases h

theorem sameValue_normF32 (b : Nat) : SameValue (.f32 b) (normF32 b) := by
  unfold normF32
  cases hf : f32Int b with
  | none => exact .refl _
  | some k => exact .f32int b _ k (intVal_normInt k) (f32Int_exact b k hf)

theorem storeDouble_of_same (b : Nat) (h : same64 b = true) : storeDouble b = .f32 (cvt b64 b32 b) := by
  unfold storeDouble
  unfold same64 at h
  split
  · rename_i hn; rw [hn] at h; simp at h
  · rename_i hnn
    split at h
    · cases h
    · simp only [Bool.or_eq_true] at h
      rcases h with hA | hZ
      · simp [hA]
      · split at hZ
        · rename_i h1 h2; simp only [h1, h2, ite_self]
        · cases hZ

/-- `norm` never changes the numeric value of a number -/
theorem normNum_value_preserving (n : Num) : SameValue n (normNum n) := by
  cases n with
  | uint n =>
    simp only [normNum]
    split
    · exact .ints _ _ n rfl rfl
    · exact .refl _
  | sint v => exact .ints _ _ v rfl (intVal_normInt v)
  | f32 b => exact sameValue_normF32 b
  | f64 b =>
    simp only [normNum]
    by_cases hs : same64 b = true
    · rw [if_pos hs]
      apply SameValue.f64
      rw [storeDouble_of_same b hs]
      exact sameValue_normF32 _
    · rw [if_neg hs]
      exact .f64 _ _ (.refl _)

/- documents equal in value: same shape, same strings / keys in the same order, numbers `SameValue` -/
mutual
def ValSame : Val → Val → Prop
  | .null, .null => True
  | .bool a, .bool b => a = b
  | .num a, .num b => SameValue a b
  | .str a, .str b => a = b
  | .raw a, .raw b => a = b
  | .arr xs, .arr ys => ElemsSame xs ys
  | .obj ms, .obj ns => MembersSame ms ns
  | _, _ => False
def ElemsSame : List Val → List Val → Prop
  | [], [] => True
  | x :: r, y :: s => ValSame x y ∧ ElemsSame r s
  | _, _ => False
def MembersSame : List (List Byte × Val) → List (List Byte × Val) → Prop
  | [], [] => True
  | (k, x) :: r, (k', y) :: s => k = k' ∧ ValSame x y ∧ MembersSame r s
  | _, _ => False
end

mutual
theorem norm_value_preserving : ∀ v : Val, ValSame v (norm v)
  | .null => by simp only [norm, ValSame]
  | .bool _ => by simp only [norm, ValSame]
  | .num n => by simp only [norm, ValSame]; exact normNum_value_preserving n
  | .str _ => by simp only [norm, ValSame]
  | .raw _ => by simp only [norm, ValSame]
  | .arr xs => by simp only [norm, ValSame]; exact normElems_value_preserving xs
  | .obj ms => by simp only [norm, ValSame]; exact normMembers_value_preserving ms
theorem normElems_value_preserving : ∀ xs : List Val, ElemsSame xs (normElems xs)
  | [] => by simp only [normElems, ElemsSame]
  | x :: r => by
    simp only [normElems, ElemsSame]
    exact ⟨norm_value_preserving x, normElems_value_preserving r⟩
theorem normMembers_value_preserving : ∀ ms : List (List Byte × Val), MembersSame ms (normMembers ms)
  | [] => by simp only [normMembers, MembersSame]
  | (k, v) :: r => by
    simp only [normMembers, MembersSame]
    exact ⟨trivial, norm_value_preserving v, normMembers_value_preserving r⟩
end


/-! ## non-vacuity -/
/-- `{"a":[5,-3,2.0f,1.5f,"hi",null,true,300,1.5,0.1],"b":{}}` -/
def exDoc : Val := .obj [([0x61], .arr [.num (.uint 5), .num (.sint (-3)), .num (.f32 0x40000000), .num (.f32 0x3FC00000),
  .str [0x68, 0x69], .null, .bool true, .num (.uint 300), .num (.f64 0x3FF8000000000000), .num (.f64 0x3FB999999999999A)]),
  ([0x62], .obj [])]
def exBytes : List Byte :=
  [0x82, 0xA1, 0x61, 0x9A, 0x05, 0xFD, 0x02, 0xCA, 0x3F, 0xC0, 0x00, 0x00, 0xA2, 0x68, 0x69, 0xC0, 0xC3, 0xCD, 0x01, 0x2C,
   0xCA, 0x3F, 0xC0, 0x00, 0x00, 0xCB, 0x3F, 0xB9, 0x99, 0x99, 0x99, 0x99, 0x99, 0x9A, 0xA1, 0x62, 0x80]

example : ser exDoc = exBytes := by decide +kernel

/-- `roundtrip` instantiated: trailing garbage `C1 FF` is not touched, 37 bytes consumed -/
example : MD.run ⟨65535⟩ 10 .all (exBytes ++ [0xC1, 0xFF]) = (.ok, norm exDoc, 37) := by
  have h := roundtrip ⟨65535⟩ 10 exDoc
    (by simp only [exDoc, RawFree, RawFreeElems, RawFreeMembers, and_self])
    (by simp only [exDoc, WithinLimits, WithinLimitsElems, WithinLimitsMembers, NumOk, List.length_cons,
          List.length_nil]; decide)
    (by simp only [exDoc, depth, depthElems, depthMembers]; decide)
    [0xC1, 0xFF]
  rw [show ser exDoc = exBytes by decide +kernel] at h
  exact h

/-- the same facts by direct evaluation of the model (independent of the theorem) -/
example : (MD.run ⟨65535⟩ 10 .all (exBytes ++ [0xC1, 0xFF])).1 = .ok
    ∧ (MD.run ⟨65535⟩ 10 .all (exBytes ++ [0xC1, 0xFF])).2.2 = 37
    ∧ ser (MD.run ⟨65535⟩ 10 .all (exBytes ++ [0xC1, 0xFF])).2.1 = exBytes := by decide +kernel

/-- `norm` is not the identity here (2.0f became the integer 2, the double 1.5 became a float), the bytes agree -/
example : ser (norm exDoc) = exBytes := by rw [fixpoint]; decide +kernel

example : MD.run ⟨65535⟩ 10 .all [0xC1, 0x00] = (.invalid, .null, 1) := reserved_code _ _ _ _
example : MD.run ⟨65535⟩ 0 (.doc none) [] = (.empty, .null, 0) := empty_input _ _ _
example : (MD.run ⟨65535⟩ 1 .all [0x81, 0x01, 0x02]).1 = .invalid ∧ (MD.run ⟨65535⟩ 1 .all [0x81, 0x01, 0x02]).2.2 = 2 :=
  non_string_key ⟨65535⟩ 0 .all 0x01 [0x02] (by decide) (by decide)
/-- a proper prefix (12 of 37 bytes) gives IncompleteInput (an instance of `prefix_incomplete`, AJ/Props/C09Prefix.lean) -/
example : (MD.run ⟨65535⟩ 10 .all (exBytes.take 12)).1 = .incomplete := by decide +kernel

def IsScalar : Val → Prop
  | .null => True
  | .bool _ => True
  | .num _ => True
  | _ => False

/-! ## corollaries in the wording of C09 / C16 -/
/-- C09: the serializer's output is accepted -/
theorem accepts (env : Env) (L : Nat) (v : Val) (hr : RawFree v) (hw : WithinLimits env v) (hd : depth v ≤ L) :
    (MD.run env L .all (ser v)).1 = .ok := by
  have := roundtrip env L v hr hw hd []
  rw [List.append_nil] at this
  rw [this]

/-- C16: exactly the bytes of the object are consumed, whatever follows -/
theorem consumes_exactly (env : Env) (L : Nat) (v : Val) (hr : RawFree v) (hw : WithinLimits env v) (hd : depth v ≤ L)
    (rest : List Byte) : (MD.run env L .all (ser v ++ rest)).2.2 = (ser v).length := by
  rw [roundtrip env L v hr hw hd rest]


/-! ## remarks on the hypotheses, by evaluation -/
/-- `non_string_key` needs a nesting limit ≥ 1: with limit 0 the map header already gives TooDeep -/
example : (MD.run ⟨65535⟩ 0 .all [0x81, 0x01]).1 = .tooDeep := by decide +kernel
/-- the float → integer shortcut drops the sign of zero: `-0.0f` is written as the integer 0 (equal in value) -/
example : ser (.num (.f32 0x80000000)) = [0x00] ∧ normNum (.f32 0x80000000) = .sint 0 := by decide +kernel
/-- a string longer than `maxStrLen` is refused with NoMemory (hence the bound in `WithinLimits`) -/
example : (MD.run ⟨2⟩ 10 .all (ser (.str [0x61, 0x62, 0x63]))).1 = .noMemory := by decide +kernel

end C09
