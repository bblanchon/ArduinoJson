/- C19 lifted to whole histories: "for every supported combination of slot-id size, pool capacity, initial pool count,
   string overhead, a history that stays below the limits produces exactly the same observable results as under any other
   combination".
   * `C19.geometry_independent`: two histories standing for the same abstract operations (`C04.HistA`), over documents of
     ANY two geometries satisfying `GeoOK` (pool capacity ≥ 1, initial pools ≥ 1, any id size, any slot/pool/string
     overhead sizes), end with the same abstract value: the value computed by the geometry-free tree machine `DL.ARun`.
   * `C19.allocVariant_succeeds` / `addElement_succeeds` / `addMember_succeeds` / `C19.below_limit_succeeds`: "stays below the limits" implies the success hypothesis
     of `HistA` for slot allocations. The limits are: slot ids left, allocator oracle, and the string-length limit
     `Doc.maxStrLen` for a copied member key (`KeyFits`; a copied string VALUE beyond the limit makes `put` report failure,
     which `Op2.Valid` excludes). -/
import AJ.Props.C14Hist
import AJ.Lemmas.HistCorNominal
import AJ.Props.C19
import AJ.Lemmas.DocAlloc
namespace C19
open DL C04
open JD (Byte Val)

/-- GEOMETRY INDEPENDENCE, whole histories. `d1` and `d2` are well-formed documents over two geometries `d1.g`, `d2.g`
    (nothing relates them; also `strOverhead`, the allocator oracle, the slot ids in use and the layouts may differ) with
    the same abstract value. Two histories of valid operations whose allocations succeed and which stand for the same
    abstract operations `as` end in well-formed documents over the respective geometries with the same abstract value,
    namely `ARun (abs d1) as` — a term in which no geometry occurs. -/
theorem geometry_independent {d1 d1' d2 d2' : Doc} {F1 F1' F2 F2' : Forest} {as : List AOp}
    (h1 : HistA d1 F1 as d1' F1') (h2 : HistA d2 F2 as d2' F2')
    (w1 : WFG d1 F1) (s1 : StrOK d1 (d1.strRefs F1)) (g1 : PL.GeoOK d1.g)
    (w2 : WFG d2 F2) (s2 : StrOK d2 (d2.strRefs F2)) (g2 : PL.GeoOK d2.g)
    (he : abs d1 = abs d2) :
    abs d1' = abs d2' ∧ abs d1' = ARun (abs d1) as ∧
    (WFG d1' F1' ∧ d1'.g = d1.g) ∧ (WFG d2' F2' ∧ d2'.g = d2.g) := by
  obtain ⟨a1, _, c1, e1⟩ := history_simulates_tree_wf h1 w1 s1 g1
  obtain ⟨a2, _, c2, e2⟩ := history_simulates_tree_wf h2 w2 s2 g2
  exact ⟨by rw [e1, e2, he], e1, ⟨a1, c1⟩, ⟨a2, c2⟩⟩

/-- every observable that is read through a path agrees, too -/
theorem geometry_independent_at {d1 d1' d2 d2' : Doc} {F1 F1' F2 F2' : Forest} {as : List AOp}
    (h1 : HistA d1 F1 as d1' F1') (h2 : HistA d2 F2 as d2' F2')
    (w1 : WFG d1 F1) (s1 : StrOK d1 (d1.strRefs F1)) (g1 : PL.GeoOK d1.g)
    (w2 : WFG d2 F2) (s2 : StrOK d2 (d2.strRefs F2)) (g2 : PL.GeoOK d2.g)
    (he : abs d1 = abs d2) {l1 l2 : Loc} (hl1 : isLoc F1' l1) (hl2 : isLoc F2' l2)
    (hp : pathOf F1' l1 = pathOf F2' l2) : d1'.toVal (d1'.get l1) = d2'.toVal (d2'.get l2) :=
  C14.history_kind_irrelevant_at h1 h2 w1 s1 g1 w2 s2 g2 he hl1 hl2 hp

/-! ## "Stays below the limits" implies that the allocations succeed -/

/-- the allocator oracle lets the next `n` calls through -/
def OracleOK (s : PL.St) (n : Nat) : Prop := ∀ m, s.calls < m → m ≤ s.calls + n → s.failsAt m = false

/-- BELOW THE LIMIT `allocVariant` SUCCEEDS. Pool invariant; every pool owns a block of its nominal capacity
    (`PL.Nominal`: no block allocation failed earlier, `shrink` was not applied); the geometry admits a pool
    (`1 ≤ maxPools`, e.g. `2 ≤ poolCap` and `1 ≤ idBytes`: `C19.maxPools_pos`); fewer than `nullSlot` slots are live; the
    oracle lets the next `n + 2` calls through. Then a slot is returned; the hypotheses hold again with one more live slot
    and `n` calls left. -/
theorem allocVariant_succeeds {d : Doc} {n : Nat} (gok : PL.GeoOK d.g) (hI : PL.Inv d.g d.pl) (hN : PL.Nominal d.g d.pl)
    (hM : 1 ≤ d.g.maxPools) (hlim : (PL.liveIds d.g d.pl).length < d.g.nullSlot) (ho : OracleOK d.pl (n + 2)) :
    ∃ id d', d.allocVariant = (some id, d') ∧ d'.g = d.g ∧ PL.Inv d'.g d'.pl ∧ PL.Nominal d'.g d'.pl ∧
      (PL.liveIds d'.g d'.pl).length = (PL.liveIds d.g d.pl).length + 1 ∧ OracleOK d'.pl n ∧
      d'.strings = d.strings := by
  obtain ⟨id, s', h, hN', ⟨hc1, hc2⟩, hf⟩ := PL.allocSlot_succeeds gok hI hN hM hlim
    (ho _ (by omega) (by omega)) (ho _ (by omega) (by omega))
  refine ⟨id, { d with pl := s', cells := d.cells.insert id (.var .null d.null) }, by simp only [Doc.allocVariant, h], rfl,
    (alloc_fresh gok hI h).2.2.2, hN',
    PL.liveIds_length_alloc gok hI h, ?_, rfl⟩
  intro m h1 h2
  have h1' : s'.calls < m := h1
  have h2' : m ≤ s'.calls + n := h2
  show s'.failsAt m = false
  rw [hf]; exact ho m (by omega) (by omega)

/-- … hence `array.add()` returns a slot -/
theorem addElement_succeeds {d : Doc} (l : Loc) (gok : PL.GeoOK d.g) (hI : PL.Inv d.g d.pl) (hN : PL.Nominal d.g d.pl)
    (hM : 1 ≤ d.g.maxPools) (hlim : (PL.liveIds d.g d.pl).length < d.g.nullSlot) (ho : OracleOK d.pl 2) :
    (d.addElement l).1 ≠ none := by
  obtain ⟨id, d', h, _⟩ := allocVariant_succeeds (n := 0) gok hI hN hM hlim ho
  simp only [Doc.addElement, h]; exact fun e => by cases e

/-- … and `addMember` (two slots, and one block for a copied key that is not yet in the string table) returns a slot,
    when a copied key is within the string-length limit `maxStrLen` -/
theorem addMember_succeeds {d : Doc} (l : Loc) (key : List Byte) (linked : Bool) (gok : PL.GeoOK d.g)
    (hI : PL.Inv d.g d.pl) (hN : PL.Nominal d.g d.pl) (hM : 1 ≤ d.g.maxPools)
    (hlim : (PL.liveIds d.g d.pl).length + 1 < d.g.nullSlot) (ho : OracleOK d.pl 5)
    (hkey : linked = false → key.length ≤ d.maxStrLen) :
    (d.addMember l key linked).1 ≠ none := by
  obtain ⟨k, d1, h1, g1, I1, N1, L1, O1, _⟩ := allocVariant_succeeds (n := 3) gok hI hN hM (by omega) ho
  obtain ⟨v, d2, h2, g2, I2, N2, L2, O2, _⟩ := allocVariant_succeeds (n := 1) (d := d1) (by rw [g1]; exact gok) I1 N1
    (by rw [g1]; exact hM) (by rw [L1, g1]; omega) O1
  have hm1 : d1.maxStrLen = d.maxStrLen := by have := (sameId_allocVariant d).2.2.2; rw [h1] at this; exact this
  have hm2 : d2.maxStrLen = d1.maxStrLen := by have := (sameId_allocVariant d1).2.2.2; rw [h2] at this; exact this
  simp only [Doc.addMember, h1, h2]
  cases linked with
  | true => simp only [if_true]; exact fun e => by cases e
  | false =>
    simp only [Bool.false_eq_true, if_false]
    cases hf : d2.strings.find? (·.bytes == key) with
    | some x => rw [saveString_found hf]; exact fun e => by cases e
    | none =>
      rw [saveString_short hf (by rw [hm2, hm1]; exact hkey rfl),
        if_neg (by rw [O2 _ (by omega) (by omega)]; exact fun e => by cases e)]
      exact fun e => by cases e

/-- the step stays below the string-length limit: a COPIED member key is at most `maxStrLen` bytes long (a copied string
    VALUE beyond the limit is already excluded by `Op2.Valid`: `put` reports success) -/
def KeyFits (d : Doc) : Op2 → Prop
  | .member _ key linked => linked = false → key.length ≤ d.maxStrLen
  | _ => True

/-- "STAYS BELOW THE LIMITS" IMPLIES THE SUCCESS HYPOTHESIS of `C04.HistA`, step by step: for a valid operation on a
    document whose pool list is `Nominal`, with at least two slot ids left below `nullSlot`, an oracle that lets the
    next five allocator calls through and a copied key within the string-length limit, every allocation of the step
    succeeds (`Op2.Succ`). -/
theorem below_limit_succeeds {d : Doc} {F : Forest} {op : Op2} (hv : op.Valid d F) (gok : PL.GeoOK d.g)
    (hI : PL.Inv d.g d.pl) (hN : PL.Nominal d.g d.pl) (hM : 1 ≤ d.g.maxPools)
    (hlim : (PL.liveIds d.g d.pl).length + 1 < d.g.nullSlot) (ho : OracleOK d.pl 5) (hk : KeyFits d op) : op.Succ d := by
  cases op with
  | base op =>
    cases op with
    | add l =>
      exact addElement_succeeds l gok hI hN hM (by omega) (fun m h1 h2 => ho m h1 (by omega))
    | clear l => trivial
    | put l a => trivial
  | removeElem l k => trivial
  | removeMember l key => trivial
  | member l key linked =>
    show (d.getOrAddMember l key linked).1 ≠ none
    rw [getOrAddMember_eq]
    have hg' : (toObj d l).g = d.g := by simp only [toObj]; split <;> first | exact set_g _ _ _ | rfl
    have hp' : (toObj d l).pl = d.pl := by simp only [toObj]; split <;> first | exact set_pl _ _ _ | rfl
    have hm' : (toObj d l).maxStrLen = d.maxStrLen := by
      simp only [toObj]; split <;> first | exact (sameId_set _ _ _).2.2.2 | rfl
    have hg : ∃ h t, (toObj d l).get l = .obj h t := by
      rcases hv.2 with hn | ⟨h, t, hg⟩
      · exact ⟨d.null, d.null, by simp only [toObj, hn, get_set_self]⟩
      · exact ⟨h, t, by simp only [toObj, hg]⟩
    obtain ⟨h, t, hg⟩ := hg
    simp only [hg]
    cases (toObj d l).findKey l key with
    | some p => exact fun e => by cases e
    | none =>
      exact addMember_succeeds l key linked (by rw [hg']; exact gok) (by rw [hg', hp']; exact hI)
        (by rw [hg', hp']; exact hN) (by rw [hg']; exact hM) (by rw [hg', hp']; exact hlim) (by rw [hp']; exact ho)
        (by rw [hm']; exact hk)

/-! ## Whole histories that stay below the limits -/

/-- `HistB d F as d' F'`: a history of valid operations that STAYS BELOW THE LIMITS — before every step at least two slot
    ids are left below `nullSlot`, the allocator oracle lets the next five calls through and a copied key is within the
    string-length limit (`KeyFits`) — standing for the abstract operations `as`. Nothing is assumed about the success of
    any allocation. -/
inductive HistB : Doc → Forest → List AOp → Doc → Forest → Prop
  | nil (d : Doc) (F : Forest) : HistB d F [] d F
  | cons {d : Doc} {F : Forest} {as : List AOp} {d' : Doc} {F' : Forest} (op : Op2) :
      op.Valid d F → (PL.liveIds d.g d.pl).length + 1 < d.g.nullSlot → OracleOK d.pl 5 → KeyFits d op →
      HistB (op.run d) (op.layout d F) as d' F' → HistB d F (op.toA F :: as) d' F'

/-- A history that stays below the limits, from a well-formed document whose pool list is `Nominal` (e.g. has no pool
    yet) over a geometry that admits a pool, is a history all of whose allocations succeed. -/
theorem below_limit_history {d d' : Doc} {F F' : Forest} {as : List AOp} (h : HistB d F as d' F') :
    WFG d F → StrOK d (d.strRefs F) → PL.GeoOK d.g → 1 ≤ d.g.maxPools → PL.Nominal d.g d.pl → HistA d F as d' F' := by
  induction h with
  | nil d F => intros; exact HistA.nil d F
  | cons op hv hlim ho hk _ ih =>
    intro w hs gok hM hN
    have hok := below_limit_succeeds hv gok w.pool hN hM hlim ho hk
    obtain ⟨a, b, c, _⟩ := step_refines2 w hs gok hv
    exact HistA.cons op hv hok (ih a b (by rw [c]; exact gok) (by rw [c]; exact hM) (step_nominal w hs gok hv hok hN))

/-- C19, whole histories: "a history that stays below the limits produces exactly the same observable results as under
    any other combination" of slot-id size, pool capacity (≥ 2, see the finding below), initial pool count, string
    overhead. Two histories that stay below the limits of their respective geometries and stand for the same abstract
    operations, from well-formed documents with the same abstract value, end with the same abstract value, the one the
    geometry-free tree machine computes; no allocation fails on the way (the overflow flags stay as they were). -/
theorem geometry_independent_below_limit {d1 d1' d2 d2' : Doc} {F1 F1' F2 F2' : Forest} {as : List AOp}
    (h1 : HistB d1 F1 as d1' F1') (h2 : HistB d2 F2 as d2' F2')
    (w1 : WFG d1 F1) (s1 : StrOK d1 (d1.strRefs F1)) (g1 : PL.GeoOK d1.g) (m1 : 1 ≤ d1.g.maxPools)
    (n1 : PL.Nominal d1.g d1.pl)
    (w2 : WFG d2 F2) (s2 : StrOK d2 (d2.strRefs F2)) (g2 : PL.GeoOK d2.g) (m2 : 1 ≤ d2.g.maxPools)
    (n2 : PL.Nominal d2.g d2.pl)
    (he : abs d1 = abs d2) : abs d1' = abs d2' ∧ abs d1' = ARun (abs d1) as :=
  ⟨(geometry_independent (below_limit_history h1 w1 s1 g1 m1 n1) (below_limit_history h2 w2 s2 g2 m2 n2)
      w1 s1 g1 w2 s2 g2 he).1,
   history_simulates_tree (below_limit_history h1 w1 s1 g1 m1 n1) w1 s1 g1⟩

end C19

/-! ## Non-vacuity: geometry ⟨4,1,1⟩ (1-byte ids, string overhead 15) versus ⟨2,1,2⟩ (2-byte ids, string overhead 9) -/
namespace C19.ExG
open DL C04 C04.Ex C04.Ex3 C14.ExH
open JD (Byte Val)

def g2 : PL.Geo := ⟨2, 1, 2, 16, 16⟩
theorem gok2 : PL.GeoOK g2 := ⟨by decide, by decide⟩
/-- the empty array over the second geometry (null id 65535) -/
def e1g : Doc := ({ g := g2, alloc := 0, pl := PL.init g2, strOverhead := 9 } : Doc).set .root (.arr 65535 65535)
theorem w1g : WFG e1g .nil := wfg_empty_arr rfl (PL.init_inv gok2 [])
theorem s1g : StrOK e1g (e1g.strRefs .nil) := ⟨by decide +kernel, by decide +kernel, by decide +kernel, by decide +kernel⟩

def dd1g : Doc := op1.run e1g
def FF1g : Forest := op1.layout e1g .nil
theorem v1g : op1.Valid e1g .nil := ⟨trivial, 65535, 65535, rfl⟩
theorem ok1g : op1.Succ e1g := by show (e1g.addElement .root).1 ≠ none; decide +kernel
theorem p0g : pathOf FF1g (.slot 0) = [0] := by decide +kernel
theorem vCg1 : dd1g.get (.slot 0) = .null := by decide +kernel
theorem vCg2 : (dd1g.setArg (.slot 0) (.strCopied hi)).1 = true := by decide +kernel
theorem vCg : opC.Valid dd1g FF1g := ⟨by show 0 ∈ FF1g.locs; decide +kernel, vCg1, vCg2⟩

/-- the same abstract history `[add [], put [0] "hi"]` over the second geometry (string copied) -/
theorem histCg : HistA e1g .nil asA (opC.run dd1g) (opC.layout dd1g FF1g) := by
  have h := HistA.cons op1 v1g ok1g (HistA.cons opC vCg trivial (HistA.nil _ _))
  have e : opC.toA (op1.layout e1g .nil) = .put [0] (.str hi) := by
    show AOp.put (pathOf FF1g (.slot 0)) _ = _; rw [p0g]; rfl
  rw [e] at h; exact h

/-- `geometry_independent` applies: 1-byte ids / 4 slots per pool / linked string versus 2-byte ids / 2 slots per pool /
    copied string — the geometries differ, the final abstract documents are equal (`["hi"]`) -/
example : e1.g ≠ e1g.g ∧ abs (opL.run dd1) = abs (opC.run dd1g) ∧ abs (opC.run dd1g) = .arr [.str hi] ∧
    (opC.run dd1g).g = g2 ∧ (opL.run dd1).g = g0 := by
  have he : abs e1 = abs e1g := veq (by decide +kernel)
  obtain ⟨a, b, ⟨_, c⟩, ⟨_, e⟩⟩ := geometry_independent histL histCg w1 C04.Ex2.s1 gok w1g s1g gok2 he
  exact ⟨fun h => absurd (congrArg PL.Geo.poolCap h : (4 : Nat) = 2) (by decide), a, a.symm.trans (b.trans rfl), e, c⟩

/-- `below_limit_succeeds` applies to `add` on the empty array and to `root["hi"]` (copied key) on the empty object:
    pool list without pools (`Nominal`), 64 pools possible, no live slot, oracle without failures -/
theorem orc (d : Doc) (h1 : d.pl.failAt = []) (h2 : d.pl.failFrom = none) (n : Nat) : OracleOK d.pl n := by
  intro m _ _; simp only [PL.St.failsAt, h1, h2]; rfl
example : op1.Succ e1 :=
  below_limit_succeeds v1 gok (PL.init_inv gok []) (PL.Nominal_of_no_pools rfl) (by decide +kernel) (by decide +kernel)
    (orc e1 rfl rfl 5) trivial
example : kC.Succ eo :=
  below_limit_succeeds (vk false) gok (PL.init_inv gok []) (PL.Nominal_of_no_pools rfl) (by decide +kernel)
    (by decide +kernel) (orc eo rfl rfl 5) (fun _ => by decide +kernel)
/-- the hypothesis `KeyFits` cannot be dropped: on the empty object with the string-length limit 1 everything else holds
    (no pool yet, no live slot, no oracle failure) and `root["hi"]` with a copied key fails -/
example : ¬ kC.Succ { eo with maxStrLen := 1 } ∧ ¬ KeyFits { eo with maxStrLen := 1 } kC ∧
    OracleOK ({ eo with maxStrLen := 1 } : Doc).pl 5 :=
  ⟨by show ¬ (({ eo with maxStrLen := 1 } : Doc).getOrAddMember .root hi false).1 ≠ none; decide +kernel,
   fun h => absurd (h rfl) (by decide +kernel), orc _ rfl rfl 5⟩
/-- `allocVariant_succeeds` applies twice in a row (the hypotheses are re-established by the conclusion) -/
example : ∃ k d1 v d2, e1.allocVariant = (some k, d1) ∧ d1.allocVariant = (some v, d2) ∧
    (PL.liveIds d2.g d2.pl).length = 2 := by
  obtain ⟨k, d1, h1, g1, I1, N1, L1, O1, _⟩ := allocVariant_succeeds (n := 2) (d := e1) gok (PL.init_inv gok [])
    (PL.Nominal_of_no_pools rfl) (by decide +kernel) (by decide +kernel) (orc e1 rfl rfl 4)
  obtain ⟨v, d2, h2, g2, _, _, L2, _, _⟩ := allocVariant_succeeds (n := 0) (d := d1) (by rw [g1]; exact gok) I1 N1
    (by rw [g1]; decide +kernel) (by rw [L1, g1]; decide +kernel) O1
  exact ⟨k, d1, v, d2, h1, h2, by rw [L2, L1]; decide +kernel⟩

/-- the two histories stay below the limits of their geometries (255 resp. 65535 slot ids, no oracle failure) -/
theorem histLB : HistB e1 .nil asA (opL.run dd1) (opL.layout dd1 FF1) := by
  have h := HistB.cons op1 v1 (by decide +kernel) (orc e1 rfl rfl 5) trivial
    (HistB.cons opL vL (by decide +kernel) (orc dd1 (by decide +kernel) (by decide +kernel) 5) trivial (HistB.nil _ _))
  have e : opL.toA (op1.layout e1 .nil) = .put [0] (.str hi) := by
    show AOp.put (pathOf FF1 (.slot 0)) _ = _; rw [p0]; rfl
  rw [e] at h; exact h
theorem histCgB : HistB e1g .nil asA (opC.run dd1g) (opC.layout dd1g FF1g) := by
  have h := HistB.cons op1 v1g (by decide +kernel) (orc e1g rfl rfl 5) trivial
    (HistB.cons opC vCg (by decide +kernel) (orc dd1g (by decide +kernel) (by decide +kernel) 5) trivial (HistB.nil _ _))
  have e : opC.toA (op1.layout e1g .nil) = .put [0] (.str hi) := by
    show AOp.put (pathOf FF1g (.slot 0)) _ = _; rw [p0g]; rfl
  rw [e] at h; exact h

/-- `below_limit_history` and `geometry_independent_below_limit` apply: no success hypothesis is needed -/
example : HistA e1g .nil asA (opC.run dd1g) (opC.layout dd1g FF1g) ∧ abs (opL.run dd1) = abs (opC.run dd1g) :=
  ⟨below_limit_history histCgB w1g s1g gok2 (by decide +kernel) (PL.Nominal_of_no_pools rfl),
   (geometry_independent_below_limit histLB histCgB w1 C04.Ex2.s1 gok (by decide +kernel) (PL.Nominal_of_no_pools rfl)
      w1g s1g gok2 (by decide +kernel) (PL.Nominal_of_no_pools rfl) (veq (by decide +kernel))).1⟩

/-! ### The hypothesis `1 ≤ maxPools` cannot be dropped: FINDING about the geometry `poolCap = 1`
   `GeoOK` admits `poolCap = 1`; then `maxPools = (nullSlot / 1 + 1) mod 2^(8·idBytes) = 0` (the count wraps in the slot-id
   type, as `SlotId(NULL_SLOT / ARDUINOJSON_POOL_CAPACITY + 1)` does), no pool can ever be created and EVERY slot allocation
   fails cleanly although no slot is live. "Any pool capacity ≥ 1" in C19 must read "≥ 2" for "below the limit ⇒ success". -/
def gOne : PL.Geo := ⟨1, 1, 1, 16, 16⟩
example : PL.GeoOK gOne ∧ gOne.maxPools = 0 ∧ (PL.allocSlot gOne (PL.init gOne)).1 = none ∧
    (PL.liveIds gOne (PL.init gOne)).length = 0 :=
  ⟨⟨by decide, by decide⟩, by decide +kernel, by decide +kernel, by decide +kernel⟩

end C19.ExG
