/- C05 at the document level: when an allocation fails inside `addElement`, `setArg`, `addMember`, the operation reports
   failure, the overflow flag is set, the document stays well-formed (`WFG` and `StrOK`) and is the SAME abstract
   document. `addMember` may leave up to two allocated slots unreachable (they stay live until `clear`); this is
   stated precisely. Model: AJ/Model/DL.lean; invariant: AJ/Lemmas/DocInv.lean; frame lemma: AJ/Lemmas/DocFrame.lean; the outcomes of `setArg`: AJ/Lemmas/DocSetArg.lean. -/
import AJ.Lemmas.DocSetArg
namespace C05
open DL
open JD (Byte Val)

/-- `addElement` whose slot allocation fails: returns `none`, sets the overflow flag, changes nothing else -/
theorem add_element_fail_clean {d : Doc} {F : Forest} {l : Loc} (w : WFG d F) (hs : StrOK d (d.strRefs F))
    (gok : PL.GeoOK d.g) (h : (d.addElement l).1 = none) :
    (d.addElement l).2.overflowed = true ∧ WFG (d.addElement l).2 F ∧
    StrOK (d.addElement l).2 ((d.addElement l).2.strRefs F) ∧ abs (d.addElement l).2 = abs d ∧
    (∀ x, PL.live (d.addElement l).2.g (d.addElement l).2.pl x ↔ PL.live d.g d.pl x) := by
  rcases hal : d.allocVariant with ⟨_ | id, d1⟩
  · rw [show d.addElement l = (none, d1) by simp only [Doc.addElement, hal]]
    obtain ⟨hg, hov, hlv⟩ := allocVariant_none gok w.pool hal
    obtain ⟨a, b, c⟩ := wfg_of_grow w hs hg
    exact ⟨hov, a, b, c, hlv⟩
  · simp only [Doc.addElement, hal] at h; cases h

/-- `setArg` that reports failure on a document that had not overflowed (the extension slot or the string copy could
    not be allocated): the overflow flag is set, the document is well-formed and is the same abstract document -/
theorem set_fail_clean {d : Doc} {F : Forest} {l : Loc} {a : Arg} (w : WFG d F) (hs : StrOK d (d.strRefs F))
    (gok : PL.GeoOK d.g) (hov : d.overflowed = false) (h : (d.setArg l a).1 = false) :
    (d.setArg l a).2.overflowed = true ∧ WFG (d.setArg l a).2 F ∧
    StrOK (d.setArg l a).2 ((d.setArg l a).2.strRefs F) ∧ abs (d.setArg l a).2 = abs d := by
  have sh := setArg_shape d l a
  generalize d.setArg l a = r at sh h ⊢
  cases sh with
  | noop hb => rw [hb hov] at h; cases h
  | plain hb => rw [hb hov] at h; cases h
  | extOk => cases h
  | extFail hal =>
    obtain ⟨hg, ho, _⟩ := allocExt_none gok w.pool hal
    exact ⟨ho, wfg_of_grow w hs hg⟩
  | strOk _ hb => rw [hb hov] at h; cases h
  | strFail hal =>
    obtain ⟨hg, ho, _⟩ := saveString_none w.pool hal
    exact ⟨ho, wfg_of_grow w hs hg⟩

/-- `addMember` that returns `none` (one of its two slot allocations, or the key copy, failed): the overflow flag is
    set, the document is well-formed and is the same abstract document. The slots already obtained are NOT given back
    (as in `ObjectData::addMember`): at most two slots become live without being reachable. -/
theorem add_member_fail_clean {d : Doc} {F : Forest} {l : Loc} {key : List Byte} {linked : Bool} (w : WFG d F)
    (hs : StrOK d (d.strRefs F)) (gok : PL.GeoOK d.g) (h : (d.addMember l key linked).1 = none) :
    (d.addMember l key linked).2.overflowed = true ∧ WFG (d.addMember l key linked).2 F ∧
    StrOK (d.addMember l key linked).2 ((d.addMember l key linked).2.strRefs F) ∧
    abs (d.addMember l key linked).2 = abs d ∧
    ∃ leaked : List Nat, leaked.length ≤ 2 ∧ (∀ x ∈ leaked, x ∉ F.ids) ∧
      ∀ x, PL.live (d.addMember l key linked).2.g (d.addMember l key linked).2.pl x ↔ PL.live d.g d.pl x ∨ x ∈ leaked := by
  -- `d1`: after the allocations that succeeded, which gave the slots `leaked`; `d2`: after the one that failed
  have fin : ∀ d1 d2 (leaked : List Nat), Grow d d1 → leaked.length ≤ 2 → (∀ x ∈ leaked, ¬ PL.live d.g d.pl x) →
      (∀ x, PL.live d1.g d1.pl x ↔ PL.live d.g d.pl x ∨ x ∈ leaked) →
      (Grow d1 d2 ∧ d2.overflowed = true ∧ ∀ x, PL.live d2.g d2.pl x ↔ PL.live d1.g d1.pl x) →
      d2.overflowed = true ∧ WFG d2 F ∧ StrOK d2 (d2.strRefs F) ∧ abs d2 = abs d ∧
      ∃ leaked : List Nat, leaked.length ≤ 2 ∧ (∀ x ∈ leaked, x ∉ F.ids) ∧
        ∀ x, PL.live d2.g d2.pl x ↔ PL.live d.g d.pl x ∨ x ∈ leaked :=
    fun d1 d2 leaked hg hlen hnl hlv ⟨hg2, ho, hlv2⟩ => by
      obtain ⟨a, b, c⟩ := wfg_of_grow w hs (hg.trans hg2)
      exact ⟨ho, a, b, c, leaked, hlen, fun x hx m => hnl x hx (w.live x m), fun x => (hlv2 x).trans (hlv x)⟩
  rcases hal1 : d.allocVariant with ⟨_ | k, d1⟩
  · rw [show d.addMember l key linked = (none, d1) by simp only [Doc.addMember, hal1]]
    exact fin d d1 [] (Grow.refl w.pool) (Nat.zero_le 2) (fun x hx => nomatch hx)
      (fun x => by rw [List.mem_nil_iff, or_false]) (allocVariant_none gok w.pool hal1)
  obtain ⟨hg1, _, _, _, hnk, _, hlv1⟩ := allocVariant_some gok w.pool hal1
  have gok1 : PL.GeoOK d1.g := by rw [hg1.g]; exact gok
  rcases hal2 : d1.allocVariant with ⟨_ | v, d2⟩
  · rw [show d.addMember l key linked = (none, d2) by simp only [Doc.addMember, hal1, hal2]]
    exact fin d1 d2 [k] hg1 (Nat.le_succ 1) (fun x hx => List.mem_singleton.1 hx ▸ hnk)
      (fun x => by rw [hlv1 x, List.mem_singleton]) (allocVariant_none gok1 hg1.pool hal2)
  obtain ⟨hg2, _, _, _, hnv, _, hlv2⟩ := allocVariant_some gok1 hg1.pool hal2
  cases linked with
  | true => simp only [Doc.addMember, hal1, hal2, if_true] at h; cases h
  | false =>
    rcases hal3 : d2.saveString key with ⟨_ | n, d3⟩
    · rw [show d.addMember l key false = (none, d3) by
        simp only [Doc.addMember, hal1, hal2, hal3, Bool.false_eq_true, if_false]]
      refine fin d2 d3 [k, v] (hg1.trans hg2) (Nat.le_refl 2) (fun x hx => ?_) (fun x => ?_)
        (saveString_none hg2.pool hal3)
      · simp only [List.mem_cons, List.not_mem_nil, or_false] at hx
        rcases hx with e | e
        · exact e ▸ hnk
        · exact e ▸ fun hh => hnv ((hlv1 v).2 (Or.inl hh))
      · rw [hlv2 x, hlv1 x, or_assoc]; simp only [List.mem_cons, List.not_mem_nil, or_false]
    · simp only [Doc.addMember, hal1, hal2, hal3, Bool.false_eq_true, if_false] at h; cases h

end C05
