/- C01 — "Valid JSON deserializes to exactly the value it denotes", and C16 — "One call consumes one document".

   The specification is `Spec.Json` (AJ/Spec/Json.lean): `Value cfg L t v` says that the byte string `t` is a value
   of the RFC 8259 grammar within the limits of the deserializer (nesting ≤ `L`, strings ≤ `cfg.maxStrLen` bytes)
   and denotes the document `v`; `Doc` adds the surrounding white space.
   RFC 8259 is a sub-grammar of the dialect of C10 (AJ/Lemmas/JsonComplete.lean, `embed_value`), so the theorems here are
   those of AJ/Props/C10.lean on embedded derivations; number literals: AJ/Lemmas/NumLit.lean. -/
import AJ.Lemmas.JsonComplete
import AJ.Lemmas.JsonSpecFacts
import AJ.Props.C10
set_option linter.unusedSimpArgs false
namespace C01
open JD Spec.Json

/-- **Completeness of the value parser** (main theorem). For every configuration that decodes `\u` escapes
    (whatever its comments/NaN/Infinity flags), from an unloaded latch standing on `w ++ t ++ rest` where `w` is
    white space and `t` a value text denoting `v` within the limits, `parseVariant` with any fuel
    `≥ |w| + |t| + 1` and the limit `L` returns `Ok` and exactly `v`, having consumed exactly `w ++ t`:
    * if `v` is not a number the latch is unloaded, `rest` is unread, `|w| + |t|` more bytes were taken;
    * if `v` is a number the latch is LOADED with the byte that follows the literal (the end marker 0 if there is
      none) — it has been taken from the reader but not consumed — and the tail of `rest` is unread.
    The only side condition: after a number literal, the next byte must not be one that the scanner would add to the
    literal (`Delim`; in a JSON text a number is followed by white space, `,`, `]`, `}` or the end). -/
theorem value_complete (cfg : Cfg) (hu : cfg.decodeUnicode = true) {L : Nat} {t : List Byte} {v : Val}
    (h : Value cfg L t v) (fuel : Nat) (w rest : List Byte) (s : St)
    (hw : Ws w) (h1 : s.l.loaded = false) (h2 : s.l.unread = w ++ t ++ rest)
    (hfuel : w.length + t.length + 1 ≤ fuel) (hd : NumLit t → Delim cfg rest) :
    ∃ s', parseVariant cfg fuel L s = (.ok, v, s') ∧ s'.found = true ∧
      (if isNumberVal v then
         s'.l.loaded = true ∧ s'.l.cur = rest.headD 0 ∧ s'.l.unread = rest.tail ∧
         s'.l.pos = s.l.pos + w.length + t.length + min 1 rest.length
       else s'.l.loaded = false ∧ s'.l.unread = rest ∧ s'.l.pos = s.l.pos + w.length + t.length) :=
  C10.complete cfg (embed_value hu h) fuel w rest s (ws_dws cfg hw) h1 h2 hfuel (fun hn => hd (value_isNumber h hn))

/-- a non-number value: the result does not depend on what follows it -/
theorem run_value (cfg : Cfg) (hu : cfg.decodeUnicode = true) {L : Nat} {t : List Byte} {v : Val}
    (h : Value cfg L t v) (hn : isNumberVal v = false) (w rest : List Byte) (hw : Ws w) :
    JD.run cfg L (w ++ t ++ rest) = (.ok, v, w.length + t.length) := by
  have hnl : NumLit t → Delim cfg rest := fun hl => by rw [value_numLit h hl] at hn; cases hn
  obtain ⟨s', hp, _, hpost⟩ := value_complete cfg hu h (2 * (w ++ t ++ rest).length + 4) w rest
    { l := { unread := w ++ t ++ rest } } hw rfl rfl (by simp only [List.length_append]; omega) hnl
  rw [hn] at hpost
  rw [run_of_parseVariant_other hp hn, hpost.2.2]
  exact congrArg (fun n => (Code.ok, v, n + t.length)) (Nat.zero_add w.length)

/-- a number followed by a delimiter: `Ok` exactly when the delimiter is white space or the end -/
theorem run_number (cfg : Cfg) {L : Nat} {t : List Byte} (h : NumLit t) (w rest : List Byte) (hw : Ws w)
    (hd : Delim cfg rest) :
    JD.run cfg L (w ++ t ++ rest) =
      ((if rest.headD 0 != 0 && !isWs (rest.headD 0) then .invalid else .ok), numVal cfg t,
        w.length + t.length + min 1 rest.length) := by
  obtain ⟨s', hp, hS, hnum⟩ := pv_num cfg (L := L) (fuel := 2 * (w ++ t ++ rest).length + 4) (s := { l := { unread := w ++ t ++ rest } })
    (p := 0) (f := false) h hd hw (At.pos ⟨rfl, by simp, rfl, rfl⟩) (by simp only [List.length_append]; omega)
  obtain ⟨_, f2, _, f4, _⟩ := hS.fields
  rw [run_of_parseVariant hp, hnum, f2, f4, Bool.and_true, Nat.zero_add]

/-- **C01: a valid JSON text deserializes to exactly the document it denotes.** -/
theorem valid_json (cfg : Cfg) (hu : cfg.decodeUnicode = true) {L : Nat} {t : List Byte} {v : Val}
    (h : Doc cfg L t v) : (JD.run cfg L t).1 = .ok ∧ (JD.run cfg L t).2.1 = v :=
  C10.complete_doc cfg (embed_doc hu h)

/-- the limits of the specification are upper bounds: a text within `L` is within every `L' ≥ L` -/
theorem limits_monotone {cfg : Cfg} {L L' : Nat} {t : List Byte} {v : Val} (h : Value cfg L t v) (hl : L ≤ L') :
    Value cfg L' t v := value_mono h L' hl

/-- the denoted document is never deeper than the text, nor are its strings longer. (The converse fails: a value
    overwritten by a repeated key is in the text but not in the document, see `Examples` below; this is why
    `valid_json` bounds the text and not the document.) -/
theorem document_within_limits {cfg : Cfg} {L : Nat} {t : List Byte} {v : Val} (h : Value cfg L t v) :
    depth v ≤ L ∧ StrOk cfg.maxStrLen v := value_within h

end C01

namespace C16
open JD Spec.Json

/-- **C16: one call consumes one document.** Whatever follows a (non-number) value — more documents, garbage,
    nothing — the call returns the same result and has taken exactly the bytes of the leading white space and of
    the value from the reader. -/
theorem exact_consumption (cfg : Cfg) (hu : cfg.decodeUnicode = true) {L : Nat} {t : List Byte} {v : Val}
    (h : Value cfg L t v) (hn : isNumberVal v = false) (w rest : List Byte) (hw : Ws w) :
    JD.run cfg L (w ++ t ++ rest) = (.ok, v, w.length + t.length) :=
  C01.run_value cfg hu h hn w rest hw

/-- for a number the deserializer has to look one byte further: it takes that byte from the reader (if there is one) -/
theorem exact_consumption_number (cfg : Cfg) {L : Nat} {t : List Byte} (h : NumLit t) (w rest : List Byte) (hw : Ws w)
    (hd : Delim cfg rest) :
    (JD.run cfg L (w ++ t ++ rest)).2.1 = numVal cfg t ∧
    (JD.run cfg L (w ++ t ++ rest)).2.2 = w.length + t.length + min 1 rest.length := by
  rw [C01.run_number cfg h w rest hw hd]; exact ⟨rfl, rfl⟩

end C16

/-! ## Non-vacuity: explicit texts with their derivations -/
namespace C01.Examples
open JD Spec.Json

abbrev c0 : Cfg := {}

theorem n1 : NumLit [0x31] :=                                  -- 1
  ⟨by decide, [], [0x31], [], [], Or.inl rfl, Or.inr ⟨⟨by decide, by decide⟩, by decide⟩, Or.inl rfl, Or.inl rfl, rfl⟩
theorem nm0 : NumLit [0x2D, 0x30] :=                           -- -0
  ⟨by decide, [0x2D], [0x30], [], [], Or.inr rfl, Or.inl rfl, Or.inl rfl, Or.inl rfl, rfl⟩
theorem nf : NumLit [0x32, 0x2E, 0x35, 0x65, 0x33] :=          -- 2.5e3
  ⟨by decide, [], [0x32], [0x2E, 0x35], [0x65, 0x33], Or.inl rfl, Or.inr ⟨⟨by decide, by decide⟩, by decide⟩,
    Or.inr ⟨[0x35], ⟨by decide, by decide⟩, rfl⟩,
    Or.inr ⟨0x65, [], [0x33], Or.inl rfl, Or.inl rfl, ⟨by decide, by decide⟩, rfl⟩, rfl⟩

theorem v1 : numVal c0 [0x31] = .num (.uint 1) := by rfl
theorem vm0 : numVal c0 [0x2D, 0x30] = .num (.sint 0) := by rfl
theorem vf : numVal c0 [0x32, 0x2E, 0x35, 0x65, 0x33] = .num (.f32 0x451C4000) := by
  have : parseNumber c0 [0x32, 0x2E, 0x35, 0x65, 0x33] = .f32 0x451C4000 := by decide +kernel
  show floatVal c0 _ = _
  unfold floatVal
  rw [this]

/-- the text `[1,-0 , 2.5e3]` -/
def arrText : List Byte := [0x5B, 0x31, 0x2C, 0x2D, 0x30, 0x20, 0x2C, 0x20, 0x32, 0x2E, 0x35, 0x65, 0x33, 0x5D]

theorem arr_value : Value c0 1 arrText (.arr [.num (.uint 1), .num (.sint 0), .num (.f32 0x451C4000)]) := by
  rw [← v1, ← vm0, ← vf]
  exact Value.arr 0 [0x31, 0x2C, 0x2D, 0x30, 0x20, 0x2C, 0x20, 0x32, 0x2E, 0x35, 0x65, 0x33] _
    (Elements.cons 0 [] [0x31] _ [] [0x2D, 0x30, 0x20, 0x2C, 0x20, 0x32, 0x2E, 0x35, 0x65, 0x33] _
      (by decide) (Value.num 0 _ n1) (by decide)
      (Elements.cons 0 [] [0x2D, 0x30] _ [0x20] [0x20, 0x32, 0x2E, 0x35, 0x65, 0x33] _
        (by decide) (Value.num 0 _ nm0) (by decide)
        (Elements.one 0 [0x20] [0x32, 0x2E, 0x35, 0x65, 0x33] _ [] (by decide) (Value.num 0 _ nf) (by decide))))

/-- C16 on `[1,-0 , 2.5e3]` followed by ANY bytes: 14 bytes are taken, the array is returned -/
example (rest : List Byte) :
    JD.run c0 1 (arrText ++ rest) = (.ok, .arr [.num (.uint 1), .num (.sint 0), .num (.f32 0x451C4000)], 14) :=
  C16.exact_consumption c0 rfl arr_value rfl [] rest (by decide)

/-- the text ` {"k":[1,-0 , 2.5e3],"k":"\n"}` + LF: a repeated key, the last value wins -/
def docText : List Byte :=
  [0x20, 0x7B, 0x22, 0x6B, 0x22, 0x3A] ++ arrText ++ [0x2C, 0x22, 0x6B, 0x22, 0x3A, 0x22, 0x5C, 0x6E, 0x22, 0x7D, 0x0A]

theorem doc_value : Doc c0 2 docText (.obj [([0x6B], .str [0x0A])]) := by
  have hk : Body 0x22 [0x6B] [0x6B] := Body.plain 0x6B [] [] (by decide) (by decide) (by decide) Body.nil
  have hs : Body 0x22 [0x5C, 0x6E] [0x0A] := Body.esc 0x6E 0x0A [] [] (by decide) Body.nil
  refine ⟨[0x20], [0x7B, 0x22, 0x6B, 0x22, 0x3A] ++ arrText ++ [0x2C, 0x22, 0x6B, 0x22, 0x3A, 0x22, 0x5C, 0x6E, 0x22, 0x7D],
    [0x0A], rfl, by decide, by decide, ?_⟩
  exact Value.obj 1 ([0x22, 0x6B, 0x22, 0x3A] ++ arrText ++ [0x2C, 0x22, 0x6B, 0x22, 0x3A, 0x22, 0x5C, 0x6E, 0x22])
    [([0x6B], .arr [.num (.uint 1), .num (.sint 0), .num (.f32 0x451C4000)]), ([0x6B], .str [0x0A])]
    (Members.cons 1 [] [0x6B] [0x6B] [] [] arrText _ [] [0x22, 0x6B, 0x22, 0x3A, 0x22, 0x5C, 0x6E, 0x22] _
      (by decide) hk (by decide) (by decide) (by decide) arr_value (by decide)
      (Members.one 1 [] [0x6B] [0x6B] [] [] [0x22, 0x5C, 0x6E, 0x22] _ []
        (by decide) hk (by decide) (by decide) (by decide) (Value.str 1 [0x5C, 0x6E] [0x0A] hs (by decide)) (by decide)))

/-- C01 on that text -/
example : (JD.run c0 2 docText).1 = .ok ∧ (JD.run c0 2 docText).2.1 = .obj [([0x6B], .str [0x0A])] :=
  C01.valid_json c0 rfl doc_value

-- the same, evaluated directly (independent of the theorem); with the limit 1 the text is refused although the
-- denoted document is only one level deep: the limits are about the text
example : (JD.run c0 2 docText).1 = .ok ∧ (JD.run c0 2 docText).2.2 = 30 := by decide +kernel
example : (JD.run c0 1 docText).1 = .tooDeep := by decide +kernel
example : depth (.obj [([0x6B], .str [0x0A])]) = 1 := by simp [depth, depthMembers]

/-- Why `valid_json` bounds the TEXT: with the bounds on the denoted document instead
    (`depth v ≤ L`, `StrOk cfg.maxStrLen v`) the statement is false — this valid text denotes a document of depth 1
    with strings of one byte, and the deserializer with nesting limit 1 answers `TooDeep`, because the array that
    the repeated key overwrites is two levels deep. -/
theorem bounds_on_document_do_not_suffice :
    ∃ (t : List Byte) (v : Val) (L : Nat), (∃ L', Doc c0 L' t v) ∧ depth v ≤ L ∧ StrOk c0.maxStrLen v ∧
      (JD.run c0 L t).1 ≠ .ok :=
  ⟨docText, _, 1, ⟨2, doc_value⟩, by simp [depth, depthMembers], by simp [StrOk, StrOkMembers], by decide +kernel⟩

end C01.Examples
