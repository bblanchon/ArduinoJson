/- C20, THE LINK TO THE MODEL OF THE API: operations on distinct documents commute, on the history interpreter itself.

   AJ/Props/C20.lean proves the generic statement (for ANY step function over per-thread states every interleaving gives
   each thread its sequential result) and the read-only inventory of static objects. What was missing is that the modelled
   operations really are of that shape. The world in which several documents and references into them live is the one of
   the history interpreter `DH.step : DH.W → List String → String × DH.W` (AJ/Model/DH.lean: an array of documents, an
   array of references `⟨document, location⟩`, validated against the C++ by differential testing); the typed operations
   `C04.Op`, `C04.Op2`, `C04.OpD` of AJ/Props/C04Hist.lean, C04Rem.lean, AJ/Lemmas/HistDeser.lean are single-document
   functions `Doc → Doc` and are lifted to the same world here (`WOp`).

   1. FOOTPRINT AND FRAME. `Cmd` (AJ/Lemmas/HistFrameCmd4.lean) types 36 commands of the interpreter; `Cmd.fp c` is the
      footprint of `c`: the documents it may write / reads - through the CURRENT binding of the references it goes
      through -, the references it reads / rebinds. `step_frame`: a step leaves every document outside its write set and
      every reference it does not rebind LITERALLY unchanged, and adds nothing to the world log, the ghost table, the
      geometry. `step_reads_only_footprint`: its output, the new contents of what it writes and its footprint are
      functions of the documents it reads and the references it uses alone.
   2. `ops_on_distinct_documents_commute`: two commands with disjoint footprints commute - same world, same two outputs.
   3. `interleaving_of_document_histories`: two histories, each confined to its own documents and references (statically:
      `Cmd.In`; or along its solo run: `interleaving_of_confined_histories`): EVERY interleaving ends in the world reached
      by running one after the other, and each history sees the outputs of its solo run.
   4. `shared_const_source`: deep copies FROM a common third document (or through a common reference) into two distinct
      documents, and reads of it, commute; at the level of histories this is the region `S` of 3.
   5. The typed layer `WOp` over `C04.OpD` (`wops_on_distinct_documents_commute`, `WOp.keeps_wf`), and examples.

   WHAT DOES NOT COMMUTE, by construction of the interpreter (not of the library): `copydoc` moves the allocator logs of
   ALL THREE documents into the world log `W.log` (`W.flush`), so it writes every document's `pl.log` and orders the
   world log (`copydoc_writes_world_log`); `liveq` updates the ghost table `W.dead`; `reset`, `geo` replace the world. These four are
   not given a footprint. Every other command leaves `W.log` and `W.dead` alone (`step_frame`), so for them equality of
   worlds is plain equality - no "up to the log" is needed. The per-document allocator log `Doc.pl.log` is part of the
   document it belongs to and needs no special treatment. -/
import AJ.Lemmas.HistFrameCmd5
import AJ.Lemmas.HistDeser
import AJ.Props.C04DocCopy
namespace C20
open DL
open DH (W Ref)
open JD (Byte Val)

/-! ## 1. Footprint and frame -/

/-- the documents a command may write, as a list (the document its reference is bound to; the named document; both
    documents of a swap; none for the reads and the navigation without creation) -/
def Cmd.targets (w : W) : Cmd → List Nat
  | .memw _ r2 _ _ | .elemw _ r2 _ | .addv _ r2 | .toarr _ r2 | .toobj _ r2 => (w.refs[r2.toNat!]!).doc.toList
  | .clear r | .remi r _ | .remk r _ | .deserj r _ _ | .deserm r _ _ => (w.refs[r.toNat!]!).doc.toList
  | .set r _ _ _ | .setm r _ _ _ _ _ | .sete r _ _ _ _ | .add r _ _ _ => (w.refs[r.toNat!]!).doc.toList
  | .setDoc r _ | .setmDoc r _ _ _ | .seteDoc r _ _ | .addDoc r _ => (w.refs[r.toNat!]!).doc.toList
  | .setRef r _ | .setmRef r _ _ _ | .seteRef r _ _ | .addRef r _ => (w.refs[r.toNat!]!).doc.toList
  | .cleardoc d | .shrink d | .failat d _ | .failfrom d _ | .nofail d => [d.toNat!]
  | .swapdoc d e => [d.toNat!, e.toNat!]
  | _ => []

theorem docOf_iff_mem (s : Ref) (j : Nat) : docOf s j ↔ j ∈ s.doc.toList := by
  obtain ⟨_ | di, sl⟩ := s
  · exact ⟨fun h => (by cases h), fun h => (by cases h)⟩
  · exact ⟨fun h => (by cases h; exact List.mem_singleton.2 rfl), fun h => (by cases List.mem_singleton.1 h; rfl)⟩

/-- the write set of the footprint is the list of targets -/
theorem Cmd.wr_iff_targets (c : Cmd) (w : W) (j : Nat) : c.fp.wr w j ↔ j ∈ c.targets w := by
  cases c with
  | memw | elemw | addv | toarr | toobj | clear | remi | remk | deserj | deserm | set | setm | sete | add
  | setDoc | setmDoc | seteDoc | addDoc | setRef | setmRef | seteRef | addRef => exact docOf_iff_mem _ j
  | cleardoc | shrink | failat | failfrom | nofail => exact ⟨fun h => List.mem_singleton.2 h, fun h => List.mem_singleton.1 h⟩
  | swapdoc d e =>
    exact ⟨fun h => h.elim (fun h => h ▸ List.mem_cons_self) (fun h => h ▸ List.mem_cons_of_mem _ List.mem_cons_self),
      fun h => (List.mem_cons.1 h).elim Or.inl (fun h => Or.inr (List.mem_singleton.1 h))⟩
  | _ => exact ⟨fun h => h.elim, fun h => (by cases h)⟩

/-- **FRAME.** A step of the interpreter leaves every document that is not a target of the command literally unchanged,
    every reference the command does not rebind literally unchanged, and does not touch the world log, the ghost table,
    the geometry, the string overhead, the string-length limit: `w'.docs[j] = w.docs[j]` for `j ∉ targets`. -/
theorem step_frame (c : Cmd) (w : W) :
    (∀ j, j ∉ c.targets w → (DH.step w c.render).2.docs[j]? = w.docs[j]? ∧ (DH.step w c.render).2.docs[j]! = w.docs[j]!) ∧
    (∀ r, ¬ c.fp.bind r → (DH.step w c.render).2.refs[r]? = w.refs[r]? ∧ (DH.step w c.render).2.refs[r]! = w.refs[r]!) ∧
    (DH.step w c.render).2.log = w.log ∧ (DH.step w c.render).2.dead = w.dead ∧ (DH.step w c.render).2.geo = w.geo ∧
    (DH.step w c.render).2.strOverhead = w.strOverhead ∧ (DH.step w c.render).2.maxStrLen = w.maxStrLen := by
  refine ⟨fun j hj => ?_, fun r hr => ?_, c.local.frame_rest w⟩
  · have h := c.local.frame_docs w j (fun h => hj ((c.wr_iff_targets w j).1 h))
    exact ⟨h, docs_bang_congr h⟩
  · have h := c.local.frame_refs w r hr
    exact ⟨h, refs_bang_congr h⟩

/-- **LOCALITY.** The output of a step, the new contents of the documents it writes and of the references it rebinds,
    and its footprint, depend only on the documents it reads and the references it uses: two worlds that agree there give
    the same output and the same new contents - whatever else the worlds contain. -/
theorem step_reads_only_footprint (c : Cmd) (w w' : W) (h : c.fp.Agree w w') :
    (DH.step w c.render).1 = (DH.step w' c.render).1 ∧
    (∀ j, j ∈ c.targets w → (DH.step w c.render).2.docs[j]? = (DH.step w' c.render).2.docs[j]?) ∧
    (∀ r, c.fp.bind r → (DH.step w c.render).2.refs[r]? = (DH.step w' c.render).2.refs[r]?) ∧
    (∀ j, j ∈ c.targets w ↔ j ∈ c.targets w') ∧ (∀ j, c.fp.rd w j ↔ c.fp.rd w' j) := by
  obtain ⟨a, b, d, e, f⟩ := c.local.loc w w' h
  exact ⟨a, fun j hj => b j ((c.wr_iff_targets w j).2 hj), d,
    fun j => by rw [← c.wr_iff_targets, ← c.wr_iff_targets]; exact e j, f⟩

/-! ## 2. Commutation -/

/-- two footprints inside disjoint regions (sharing at most a region both only read) are disjoint -/
theorem FP.Within.disjoint {p q : FP} {A B S : Region} {w : W} (hp : p.Within A S w) (hq : q.Within B S w)
    (hAB : A.Disj B) (hAS : A.Disj S) (hBS : B.Disj S) : p.Disjoint q w :=
  ⟨fun j h h' => (hq.rd j h').elim (hAB.1 j (hp.wr j h)) (hAS.1 j (hp.wr j h)),
   fun j h h' => (hp.rd j h').elim (fun x => hAB.1 j x (hq.wr j h)) (hBS.1 j (hq.wr j h)),
   fun r h h' => (hq.use r h').elim (hAB.2 r (hp.bind r h)) (hAS.2 r (hp.bind r h)),
   fun r h h' => (hp.use r h').elim (fun x => hAB.2 r x (hq.bind r h)) (hBS.2 r (hq.bind r h))⟩

/-- **Operations on distinct documents commute.** Two commands whose footprints are disjoint at `w` - different target
    documents, neither reads a target of the other, neither uses a reference the other rebinds - can be run in either
    order: the final worlds are EQUAL, and each command gives the output it gives when it runs first. -/
theorem ops_on_distinct_documents_commute (a b : Cmd) (w : W) (hd : a.fp.Disjoint b.fp w) :
    (DH.step (DH.step w a.render).2 b.render).2 = (DH.step (DH.step w b.render).2 a.render).2 ∧
    (DH.step (DH.step w a.render).2 b.render).1 = (DH.step w b.render).1 ∧
    (DH.step (DH.step w b.render).2 a.render).1 = (DH.step w a.render).1 :=
  Local.commute a.local b.local w hd

/-- the same from the texts of the commands: `a` names references and documents of region `A`, `b` of region `B`, the
    regions are disjoint, and the references are bound inside their regions -/
theorem ops_in_disjoint_regions_commute {A B S : Region} (hAB : A.Disj B) (hAS : A.Disj S) (hBS : B.Disj S)
    (a b : Cmd) (w : W) (ha : a.In A S) (hb : b.In B S) (iA : RefsInto A S w) (iB : RefsInto B S w) :
    (DH.step (DH.step w a.render).2 b.render).2 = (DH.step (DH.step w b.render).2 a.render).2 ∧
    (DH.step (DH.step w a.render).2 b.render).1 = (DH.step w b.render).1 ∧
    (DH.step (DH.step w b.render).2 a.render).1 = (DH.step w a.render).1 :=
  ops_on_distinct_documents_commute a b w
    ((Cmd.within_of_in ha iA).disjoint (Cmd.within_of_in hb iB) hAB hAS hBS)

/-- two mutations through references bound to different documents commute (the simplest instance) -/
theorem mutations_through_distinct_references_commute (a b : Cmd) (r r' : Nat) (ha : a.fp = fpMut r) (hb : b.fp = fpMut r')
    (w : W) (hdoc : ∀ j, (w.refs[r]!).doc = some j → (w.refs[r']!).doc ≠ some j) :
    (DH.step (DH.step w a.render).2 b.render).2 = (DH.step (DH.step w b.render).2 a.render).2 := by
  refine (ops_on_distinct_documents_commute a b w ?_).1
  rw [ha, hb]
  exact ⟨fun j h h' => h'.elim (fun x => hdoc j h x) (fun x => x.elim),
    fun j h h' => h'.elim (fun x => hdoc j x h) (fun x => x.elim), fun _ h => h.elim, fun _ h => h.elim⟩

/-! ## 3. Interleavings -/

/-- sequential run of a list of commands: final world, outputs in order -/
def runCmds (h : List Cmd) (w : W) : W × List String := runHist (h.map Cmd.lstep) w
/-- run of a schedule of commands tagged with the history (`true` / `false`) they belong to -/
def runTagged (s : List (Bool × Cmd)) (w : W) : W × List (Bool × String) :=
  runInter (s.map (fun x => (x.1, x.2.lstep))) w

theorem runCmds_nil (w : W) : runCmds [] w = (w, []) := rfl
theorem runCmds_cons (c : Cmd) (h : List Cmd) (w : W) :
    runCmds (c :: h) w =
      ((runCmds h (DH.step w c.render).2).1, (DH.step w c.render).1 :: (runCmds h (DH.step w c.render).2).2) := rfl
theorem runTagged_nil (w : W) : runTagged [] w = (w, []) := rfl
theorem runTagged_cons (b : Bool) (c : Cmd) (s : List (Bool × Cmd)) (w : W) :
    runTagged ((b, c) :: s) w =
      ((runTagged s (DH.step w c.render).2).1, (b, (DH.step w c.render).1) :: (runTagged s (DH.step w c.render).2).2) := rfl

theorem sideOf_map {α β : Type} (f : α → β) (b : Bool) : ∀ (l : List (Bool × α)),
    sideOf b (l.map (fun x => (x.1, f x.2))) = (sideOf b l).map f
  | [] => rfl
  | (b', x) :: l => by
    have ih := sideOf_map f b l
    by_cases h : b' = b
    · subst h
      rw [List.map_cons, sideOf_cons_self, sideOf_cons_self, List.map_cons, ih]
    · have e : b = !b' := by cases b <;> cases b' <;> simp_all
      rw [e] at ih ⊢
      rw [List.map_cons, sideOf_cons_other, sideOf_cons_other, ih]

/-- **Interleaving, histories confined along their solo runs.** `A`, `B`, `S` pairwise disjoint regions. If the history
    tagged `true`, run alone from `w`, keeps its footprint inside `A` (reading `S`) at every step, and the history tagged
    `false` inside `B` (reading `S`), then EVERY schedule of the two ends in the world reached by running the first
    history and then the second, each history gets the outputs of its solo run from `w`, and these are also the outputs
    the second history gets when it runs after the first. -/
theorem interleaving_of_confined_histories {A B S : Region} (hAB : A.Disj B) (hAS : A.Disj S) (hBS : B.Disj S)
    (sched : List (Bool × Cmd)) (w : W)
    (cA : Confined A S ((sideOf true sched).map Cmd.lstep) w) (cB : Confined B S ((sideOf false sched).map Cmd.lstep) w) :
    (runTagged sched w).1 = (runCmds (sideOf false sched) (runCmds (sideOf true sched) w).1).1 ∧
    sideOf true (runTagged sched w).2 = (runCmds (sideOf true sched) w).2 ∧
    sideOf false (runTagged sched w).2 = (runCmds (sideOf false sched) w).2 ∧
    (runCmds (sideOf false sched) (runCmds (sideOf true sched) w).1).2 = (runCmds (sideOf false sched) w).2 := by
  have h := inter_seq hAB hAS hBS (sched.map (fun x => (x.1, x.2.lstep))) w
    (by rw [sideOf_map]; exact cA) (by rw [sideOf_map]; exact cB)
  rw [sideOf_map, sideOf_map] at h
  exact h

/-- **Interleaving of document histories.** `A`, `B`, `S` pairwise disjoint regions (sets of documents and of
    references). Every command of the first history names only references and documents of `A`, every command of the
    second only those of `B` (sources of deep copies and of reads may be in `S`); initially the references of each region
    are bound inside it. Then EVERY interleaving of the two histories ends in the SAME world as running the first history
    and then the second, and each history sees exactly the outputs of its solo run. -/
theorem interleaving_of_document_histories {A B S : Region} (hAB : A.Disj B) (hAS : A.Disj S) (hBS : B.Disj S)
    (sched : List (Bool × Cmd)) (w : W)
    (hA : ∀ c ∈ sideOf true sched, c.In A S) (hB : ∀ c ∈ sideOf false sched, c.In B S)
    (iA : RefsInto A S w) (iB : RefsInto B S w) :
    (runTagged sched w).1 = (runCmds (sideOf false sched) (runCmds (sideOf true sched) w).1).1 ∧
    sideOf true (runTagged sched w).2 = (runCmds (sideOf true sched) w).2 ∧
    sideOf false (runTagged sched w).2 = (runCmds (sideOf false sched) w).2 ∧
    (runCmds (sideOf false sched) (runCmds (sideOf true sched) w).1).2 = (runCmds (sideOf false sched) w).2 :=
  interleaving_of_confined_histories hAB hAS hBS sched w (confined_of_in hAS _ w hA iA) (confined_of_in hBS _ w hB iB)

/-- two interleavings of the same two histories cannot be told apart -/
theorem interleavings_agree {A B S : Region} (hAB : A.Disj B) (hAS : A.Disj S) (hBS : B.Disj S)
    (s1 s2 : List (Bool × Cmd)) (w : W) (e1 : sideOf true s1 = sideOf true s2) (e2 : sideOf false s1 = sideOf false s2)
    (hA : ∀ c ∈ sideOf true s1, c.In A S) (hB : ∀ c ∈ sideOf false s1, c.In B S)
    (iA : RefsInto A S w) (iB : RefsInto B S w) :
    (runTagged s1 w).1 = (runTagged s2 w).1 ∧ sideOf true (runTagged s1 w).2 = sideOf true (runTagged s2 w).2 ∧
    sideOf false (runTagged s1 w).2 = sideOf false (runTagged s2 w).2 := by
  obtain ⟨a1, a2, a3, _⟩ := interleaving_of_document_histories hAB hAS hBS s1 w hA hB iA iB
  obtain ⟨b1, b2, b3, _⟩ := interleaving_of_document_histories hAB hAS hBS s2 w (e1 ▸ hA) (e2 ▸ hB) iA iB
  rw [← e1] at b1 b2
  rw [← e2] at b1 b3
  exact ⟨a1.trans b1.symm, a2.trans b2.symm, a3.trans b3.symm⟩

/-! ## 4. A shared read-only source -/

/-- **A shared constant source.** Two commands that both READ a document `k` (deep copies from it, reads of it,
    serializations of it) but do not write it, and otherwise touch different documents, commute - as long as nobody writes
    the source. (An instance of `ops_on_distinct_documents_commute`: disjointness of footprints allows common reads.) -/
theorem shared_const_source (a b : Cmd) (w : W) (k : Nat) (ha : ¬ a.fp.wr w k) (hb : ¬ b.fp.wr w k)
    (hd : ∀ j, j ≠ k → a.fp.rd w j → ¬ b.fp.rd w j)
    (hr : ∀ r, a.fp.bind r → ¬ b.fp.use r) (hr' : ∀ r, b.fp.bind r → ¬ a.fp.use r) :
    (DH.step (DH.step w a.render).2 b.render).2 = (DH.step (DH.step w b.render).2 a.render).2 ∧
    (DH.step (DH.step w a.render).2 b.render).1 = (DH.step w b.render).1 ∧
    (DH.step (DH.step w b.render).2 a.render).1 = (DH.step w a.render).1 := by
  refine ops_on_distinct_documents_commute a b w ⟨fun j h h' => ?_, fun j h h' => ?_, hr, hr'⟩
  · by_cases e : j = k
    · exact ha (e ▸ h)
    · exact hd j e (a.local.wr_rd w j h) h'
  · by_cases e : j = k
    · exact hb (e ▸ h)
    · exact hd j e h' (b.local.wr_rd w j h)

/-- `r.set(document k)` and `r'.set(document k)`, with `r`, `r'` bound to different documents, neither to `k` -/
theorem shared_const_source_copies (r r' k : String) (w : W)
    (h1 : ∀ j, (w.refs[r.toNat!]!).doc = some j → (w.refs[r'.toNat!]!).doc ≠ some j)
    (h2 : (w.refs[r.toNat!]!).doc ≠ some k.toNat!) (h3 : (w.refs[r'.toNat!]!).doc ≠ some k.toNat!) :
    (DH.step (DH.step w ["set", r, "doc", k]).2 ["set", r', "doc", k]).2 =
      (DH.step (DH.step w ["set", r', "doc", k]).2 ["set", r, "doc", k]).2 :=
  (shared_const_source (.setDoc r k) (.setDoc r' k) w k.toNat! h2 h3
    (fun j hj ha hb => ha.elim (fun x => hb.elim (fun y => h1 j x y) (fun y => hj y)) (fun x => hj x))
    (fun _ h => h.elim) (fun _ h => h.elim)).1

/-- a deep copy from document `k` commutes with a serialization of document `k` -/
theorem shared_const_source_copy_read (r k : String) (w : W) (h : (w.refs[r.toNat!]!).doc ≠ some k.toNat!) :
    (DH.step (DH.step w ["set", r, "doc", k]).2 ["hser", k]).2 = (DH.step (DH.step w ["hser", k]).2 ["set", r, "doc", k]).2 ∧
    (DH.step (DH.step w ["set", r, "doc", k]).2 ["hser", k]).1 = (DH.step w ["hser", k]).1 :=
  let x := shared_const_source (.setDoc r k) (.hser k) w k.toNat! h (fun y => y.elim)
    (fun _ hj _ hb => hj hb) (fun _ h => h.elim) (fun _ h => h.elim)
  ⟨x.1, x.2.1⟩

/-- `r.set(r2)` and `r'.set(r2)`: copies through a common reference `r2`, into different documents -/
theorem shared_const_source_ref (r r' r2 : String) (w : W)
    (h1 : ∀ j, (w.refs[r.toNat!]!).doc = some j → (w.refs[r'.toNat!]!).doc ≠ some j ∧ (w.refs[r2.toNat!]!).doc ≠ some j)
    (h2 : ∀ j, (w.refs[r'.toNat!]!).doc = some j → (w.refs[r2.toNat!]!).doc ≠ some j) :
    (DH.step (DH.step w ["set", r, "ref", r2]).2 ["set", r', "ref", r2]).2 =
      (DH.step (DH.step w ["set", r', "ref", r2]).2 ["set", r, "ref", r2]).2 :=
  (ops_on_distinct_documents_commute (.setRef r r2) (.setRef r' r2) w
    ⟨fun j h h' => h'.elim (fun x => (h1 j h).1 x) (fun x => (h1 j h).2 x),
     fun j h h' => h'.elim (fun x => (h1 j x).1 h) (fun x => h2 j h x), fun _ h => h.elim, fun _ h => h.elim⟩).1

/-! ## What is global in the interpreter: `copydoc` -/

/-- `copydoc` appends the allocator log of document 0 (and of the others) to the WORLD log: whenever that log is not
    empty, the world log changes - whatever the two documents named in the command -/
theorem flushDoc_log (w : W) (i : Nat) :
    (w.flushDoc i).log = (w.docs[i]!).pl.log.map (fun e => s!"a{(w.docs[i]!).alloc}:{e}") ++ w.log := rfl

theorem copydoc_writes_world_log (w : W) (r r2 : String) (h : (w.docs[0]!).pl.log ≠ []) :
    (DH.step w ["copydoc", r, r2]).2.log ≠ w.log := by
  have e1 : ∃ X : List String, (DH.step w ["copydoc", r, r2]).2.log = X ++ w.flush.log := ⟨_, rfl⟩
  have e2 : ∃ Y : List String, w.flush.log = Y ++ (w.flushDoc 0).log :=
    ⟨_ ++ _, by
      show ((w.flushDoc 0).flushDoc 1 |>.flushDoc 2).log = _
      rw [flushDoc_log, flushDoc_log, List.append_assoc]⟩
  obtain ⟨X, e1⟩ := e1
  obtain ⟨Y, e2⟩ := e2
  intro hh
  have := congrArg List.length (e1.symm.trans hh)
  rw [e2, flushDoc_log] at this
  simp only [List.length_append, List.length_map] at this
  have : (w.docs[0]!).pl.log.length = 0 := by omega
  exact h (List.eq_nil_of_length_eq_zero this)

/-- hence `copydoc` has NO footprint in the sense of `Local` (every footprint leaves the world log alone) -/
theorem copydoc_not_local (r r2 : String) : ¬ ∃ p, Local (fun w => DH.step w ["copydoc", r, r2]) p := by
  rintro ⟨p, hp⟩
  let d : Doc := { DH.newDocG ⟨256, 4, 4, 16, 16⟩ 15 0 with pl := { (DH.newDocG ⟨256, 4, 4, 16, 16⟩ 15 0).pl with log := ["A"] } }
  let w : W := { DH.W.init with docs := #[d] }
  exact copydoc_writes_world_log w r r2 (by show d.pl.log ≠ []; exact List.cons_ne_nil _ _) (hp.frame_rest w).1

/-! ## 5. The typed operations of C04 (`Op`, `Op2`, `OpD`), lifted to the world -/

/-- an operation of the C04 histories applied to one document of the world -/
inductive WOp
  /-- `op` (an `add`, `clear`, `put`, `remove`, `object[key]`, a deserialization into a value, a copy inside the document,
      a copy from a FIXED document value) on document `i` -/
  | doc (i : Nat) (op : C04.OpD)
  /-- `docs[i][l].set(docs[k][ls])`: deep copy from document `k` of the world (`C04.OpD.copyFrom` with `src := docs[k]`) -/
  | copyFrom (i : Nat) (l : Loc) (k : Nat) (ls : Loc)

/-- the document the operation writes -/
def WOp.target : WOp → Option Nat
  | .doc i _ => some i
  | .copyFrom i _ _ _ => some i
/-- the documents the operation reads -/
def WOp.reads : WOp → List Nat
  | .doc i _ => [i]
  | .copyFrom i _ k _ => [i, k]

/-- the step; its output is the overflow flag of the target afterwards (what `doc.overflowed()` reports) -/
def WOp.step : WOp → Step Bool
  | .doc i op => modDoc i (fun d => ((op.run d).overflowed, op.run d))
  | .copyFrom i l k ls =>
    modDocFrom i k (fun d s => ((copyInto d l s (s.get ls)).overflowed, copyInto d l s (s.get ls)))

def WOp.fp (o : WOp) : FP := FP.static (fun j => o.target = some j) (fun j => j ∈ o.reads) none' none'

theorem WOp.local (o : WOp) : Local o.step o.fp := by
  cases o with
  | doc i op =>
    have h := Local.modDoc i (fun d => ((op.run d).overflowed, op.run d))
    exact h.mono_static (D' := fun j => some i = some j) (R' := fun j => j ∈ [i])
      (fun j (hj : j = i) => by rw [hj]) (fun j (hj : j = i) => by rw [hj]; exact List.mem_singleton.2 rfl)
      (fun _ h => h) (fun _ h => h)
      ⟨fun j hj => (by cases hj; exact List.mem_singleton.2 rfl), fun _ h => h.elim⟩
  | copyFrom i l k ls =>
    have h := Local.modDocFrom i k (fun d s => ((copyInto d l s (s.get ls)).overflowed, copyInto d l s (s.get ls)))
    exact h.mono_static (D' := fun j => some i = some j) (R' := fun j => j ∈ [i, k])
      (fun j (hj : j = i) => by rw [hj])
      (fun j (hj : j = i ∨ j = k) => by
        rcases hj with hj | hj
        · rw [hj]; exact List.mem_cons_self
        · rw [hj]; exact List.mem_cons_of_mem _ List.mem_cons_self)
      (fun _ h => h) (fun _ h => h)
      ⟨fun j hj => (by cases hj; exact List.mem_cons_self), fun _ h => h.elim⟩

/-- **frame** for the typed operations: every document other than the target is literally unchanged, no reference, no log
    entry; the output and the new target depend only on the documents read -/
theorem WOp.frame (o : WOp) (w : W) :
    (∀ j, o.target ≠ some j → (o.step w).2.docs[j]? = w.docs[j]? ∧ (o.step w).2.docs[j]! = w.docs[j]!) ∧
    (o.step w).2.refs = w.refs ∧ (o.step w).2.log = w.log ∧
    (∀ w' : W, (∀ j ∈ o.reads, w.docs[j]? = w'.docs[j]?) →
      (o.step w).1 = (o.step w').1 ∧ ∀ j, o.target = some j → (o.step w).2.docs[j]? = (o.step w').2.docs[j]?) := by
  refine ⟨fun j hj => ?_, by cases o <;> rfl, (o.local.frame_rest w).1, fun w' h => ?_⟩
  · have e := o.local.frame_docs w j hj
    exact ⟨e, docs_bang_congr e⟩
  · obtain ⟨a, b, _⟩ := o.local.loc w w' ⟨h, fun _ h => h.elim⟩
    exact ⟨a, b⟩

/-- **typed operations on distinct documents commute**: different targets, neither reads the other's target -/
theorem wops_on_distinct_documents_commute (a b : WOp) (w : W)
    (h1 : ∀ j, a.target = some j → j ∉ b.reads) (h2 : ∀ j, b.target = some j → j ∉ a.reads) :
    (b.step (a.step w).2).2 = (a.step (b.step w).2).2 ∧ (b.step (a.step w).2).1 = (b.step w).1 ∧
    (a.step (b.step w).2).1 = (a.step w).1 :=
  Local.commute a.local b.local w ⟨h1, h2, fun _ h => h.elim, fun _ h => h.elim⟩

/-- a typed operation as a step with its footprint (for `inter_seq`, `Confined`) -/
def WOp.lstep (o : WOp) : LStep Bool := ⟨o.step, o.fp, o.local⟩

/-- the typed footprints are static: a history of typed operations whose targets lie in `A` and whose sources lie in
    `A ∪ S` is confined, from any world -/
theorem confined_wops {A S : Region} : ∀ (h : List WOp) (w : W),
    (∀ o ∈ h, (∀ j, o.target = some j → A.docs j) ∧ ∀ j ∈ o.reads, A.docs j ∨ S.docs j) → Confined A S (h.map WOp.lstep) w
  | [], _, _ => trivial
  | o :: h, _, hh =>
    ⟨⟨(hh o List.mem_cons_self).1, (hh o List.mem_cons_self).2, fun _ x => x.elim, fun _ x => x.elim⟩,
      confined_wops h _ (fun x hx => hh x (List.mem_cons_of_mem _ hx))⟩

/-- what the step does to its target is the C04 operation: `WOp.doc i op` runs `op`, `WOp.copyFrom i l k ls` runs
    `C04.OpD.copyFrom l (docs[k]) _ ls` -/
theorem WOp.target_after (w : W) (i : Nat) (hi : i < w.docs.size) :
    (∀ op : C04.OpD, ((WOp.doc i op).step w).2.docs[i]! = op.run (w.docs[i]!)) ∧
    (∀ (l : Loc) (k : Nat) (ls : Loc) (Fs : Forest),
      ((WOp.copyFrom i l k ls).step w).2.docs[i]! = (C04.OpD.copyFrom l (w.docs[k]!) Fs ls).run (w.docs[i]!)) := by
  have key : ∀ x : Doc, (w.docs.set! i x)[i]! = x := fun x => by
    rw [getElem!_eq_getD?, getElem?_set!_self, Array.getElem?_eq_getElem hi]; rfl
  exact ⟨fun op => key _, fun l k ls Fs => key _⟩

/-- the invariant of the C04 refinement, for every document of the world, under the layouts `F` -/
def WorldWF (w : W) (F : Nat → Forest) : Prop :=
  ∀ (j : Nat) (d : Doc), w.docs[j]? = some d → WFG d (F j) ∧ StrOK d (d.strRefs (F j)) ∧ PL.GeoOK d.g

/-- **the C04 refinement, document by document**: a valid C04 operation on document `i` of a well-formed world gives a
    well-formed world; the layouts of the other documents are the old ones (`C04.stepD_refines` on the target, the frame
    on the others) -/
theorem WOp.keeps_wf (w : W) (F : Nat → Forest) (i : Nat) (op : C04.OpD) (hw : WorldWF w F)
    (hv : ∀ d, w.docs[i]? = some d → op.Valid d (F i)) :
    WorldWF ((WOp.doc i op).step w).2 (fun j => if j = i then op.layout (w.docs[i]!) (F i) else F j) := by
  intro j d hj
  by_cases e : j = i
  · subst e
    have hj' : (w.docs.set! j (op.run (w.docs[j]!)))[j]? = some d := hj
    rw [getElem?_set!_self] at hj'
    cases h0 : w.docs[j]? with
    | none => rw [h0] at hj'; cases hj'
    | some d0 =>
      rw [h0] at hj'
      have e0 : w.docs[j]! = d0 := by rw [getElem!_eq_getD?, h0]; rfl
      have hd : op.run (w.docs[j]!) = d := Option.some.inj hj'
      rw [e0] at hd
      subst hd
      obtain ⟨a, b, c⟩ := hw j d0 h0
      obtain ⟨x, y, z, _⟩ := C04.stepD_refines a b c (hv d0 h0)
      show WFG (op.run d0) (if j = j then op.layout (w.docs[j]!) (F j) else F j) ∧
        StrOK (op.run d0) ((op.run d0).strRefs (if j = j then op.layout (w.docs[j]!) (F j) else F j)) ∧
        PL.GeoOK (op.run d0).g
      rw [if_pos rfl, e0]
      exact ⟨x, y, by rw [z]; exact c⟩
  · have hj' : ((WOp.doc i op).step w).2.docs[j]? = w.docs[j]? :=
      (WOp.doc i op).local.frame_docs w j (fun h => e (Option.some.inj h).symm)
    rw [hj'] at hj
    show WFG d (if j = i then op.layout (w.docs[i]!) (F i) else F j) ∧
      StrOK d (d.strRefs (if j = i then op.layout (w.docs[i]!) (F i) else F j)) ∧ PL.GeoOK d.g
    rw [if_neg e]
    exact hw j d hj

/-- **Interleaving, typed operations.** The targets of the first history lie in `A`, those of the second in `B`, the
    sources of copies in the own region or in the shared region `S` (nobody's target): every interleaving ends in the
    world of the sequential run, each history sees the overflow flags of its solo run. No hypothesis on the world. -/
theorem interleaving_of_typed_histories {A B S : Region} (hAB : A.Disj B) (hAS : A.Disj S) (hBS : B.Disj S)
    (sched : List (Bool × WOp)) (w : W)
    (hA : ∀ o ∈ sideOf true sched, (∀ j, o.target = some j → A.docs j) ∧ ∀ j ∈ o.reads, A.docs j ∨ S.docs j)
    (hB : ∀ o ∈ sideOf false sched, (∀ j, o.target = some j → B.docs j) ∧ ∀ j ∈ o.reads, B.docs j ∨ S.docs j) :
    (runInter (sched.map (fun x => (x.1, x.2.lstep))) w).1 =
      (runHist ((sideOf false sched).map WOp.lstep) (runHist ((sideOf true sched).map WOp.lstep) w).1).1 ∧
    sideOf true (runInter (sched.map (fun x => (x.1, x.2.lstep))) w).2 = (runHist ((sideOf true sched).map WOp.lstep) w).2 ∧
    sideOf false (runInter (sched.map (fun x => (x.1, x.2.lstep))) w).2 = (runHist ((sideOf false sched).map WOp.lstep) w).2 := by
  have h := inter_seq hAB hAS hBS (sched.map (fun x => (x.1, x.2.lstep))) w
    (by rw [sideOf_map]; exact confined_wops _ w hA) (by rw [sideOf_map]; exact confined_wops _ w hB)
  rw [sideOf_map, sideOf_map] at h
  exact ⟨h.1, h.2.1, h.2.2.1⟩

/-! ## 6. Non-vacuity -/
namespace ExH

/-- the initial world binds no reference -/
theorem init_refs (r : Nat) : DH.W.init.refs[r]! = ⟨none, none⟩ := by
  rw [getElem!_eq_getD?]
  show ((Array.replicate 10 ({} : Ref))[r]?).getD default = _
  rw [Array.getElem?_replicate]
  split <;> rfl

theorem refsInto_init (A S : Region) : RefsInto A S DH.W.init :=
  ⟨fun r _ j h => (by rw [init_refs] at h; cases h), fun r _ j h => (by rw [init_refs] at h; cases h)⟩

/-! ### A. the interpreter: thread A works on document `d0` through reference `r0`, thread B on document `d1` through `r1`;
   both copy from / read the shared document `d2`, which nobody writes. (`String.toNat!` does not evaluate in the kernel, so
   the numerals are variables; at run time `r0 = "0"`, `r1 = "1"`, `d0 = "0"`, `d1 = "1"`, `d2 = "2"`.) -/
section
variable (r0 r1 d0 d1 d2 : String)

/-- `doc0.add(1); doc0.add("hi"); doc0[1] = doc2` (the last one a deep copy from the shared document) -/
def hA : List Cmd :=
  [.root r0 d0, .add r0 "i" "1" (by decide), .add r0 "sc" "6869" (by decide), .seteDoc r0 "1" d2]
/-- `deserializeJson(doc1, "[1]"); doc1.add(doc2); serialize(doc2); doc1.clear()` -/
def hB : List Cmd := [.root r1 d1, .deserj r1 "10" "5b315d", .addDoc r1 d2, .hser d2, .clear r1]

/-- two different interleavings of `hA` and `hB` -/
def sched1 : List (Bool × Cmd) :=
  [(true, .root r0 d0), (false, .root r1 d1), (true, .add r0 "i" "1" (by decide)), (false, .deserj r1 "10" "5b315d"),
   (false, .addDoc r1 d2), (true, .add r0 "sc" "6869" (by decide)), (true, .seteDoc r0 "1" d2), (false, .hser d2),
   (false, .clear r1)]
def sched2 : List (Bool × Cmd) :=
  [(false, .root r1 d1), (false, .deserj r1 "10" "5b315d"), (true, .root r0 d0), (false, .addDoc r1 d2), (false, .hser d2),
   (true, .add r0 "i" "1" (by decide)), (false, .clear r1), (true, .add r0 "sc" "6869" (by decide)), (true, .seteDoc r0 "1" d2)]

theorem side1 : sideOf true (sched1 r0 r1 d0 d1 d2) = hA r0 d0 d2 ∧ sideOf false (sched1 r0 r1 d0 d1 d2) = hB r1 d1 d2 := ⟨rfl, rfl⟩
theorem side2 : sideOf true (sched2 r0 r1 d0 d1 d2) = hA r0 d0 d2 ∧ sideOf false (sched2 r0 r1 d0 d1 d2) = hB r1 d1 d2 := ⟨rfl, rfl⟩

def regA : Region := ⟨one d0.toNat!, one r0.toNat!⟩
def regB : Region := ⟨one d1.toNat!, one r1.toNat!⟩
def regS : Region := ⟨one d2.toNat!, none'⟩

theorem hA_in : ∀ c ∈ hA r0 d0 d2, c.In (regA r0 d0) (regS d2) := by
  intro c hc
  simp only [hA, List.mem_cons, List.not_mem_nil, or_false] at hc
  rcases hc with rfl | rfl | rfl | rfl
  · exact ⟨rfl, rfl⟩
  · exact rfl
  · exact rfl
  · exact ⟨rfl, Or.inr rfl⟩

theorem hB_in : ∀ c ∈ hB r1 d1 d2, c.In (regB r1 d1) (regS d2) := by
  intro c hc
  simp only [hB, List.mem_cons, List.not_mem_nil, or_false] at hc
  rcases hc with rfl | rfl | rfl | rfl | rfl
  · exact ⟨rfl, rfl⟩
  · exact rfl
  · exact ⟨rfl, Or.inr rfl⟩
  · exact Or.inr rfl
  · exact rfl

/-- `interleaving_of_document_histories` / `interleavings_agree` apply: from the initial world, the two schedules end in the
    SAME world, equal to the one reached by running `hA` and then `hB`; each thread sees the same outputs in both schedules
    (the codes of `deserializeJson`, the success flags of `add`, the serialization of the shared document) -/
example (hr : r0.toNat! ≠ r1.toNat!) (h01 : d0.toNat! ≠ d1.toNat!) (h02 : d0.toNat! ≠ d2.toNat!) (h12 : d1.toNat! ≠ d2.toNat!) :
    (runTagged (sched1 r0 r1 d0 d1 d2) DH.W.init).1 = (runTagged (sched2 r0 r1 d0 d1 d2) DH.W.init).1 ∧
    (runTagged (sched1 r0 r1 d0 d1 d2) DH.W.init).1 = (runCmds (hB r1 d1 d2) (runCmds (hA r0 d0 d2) DH.W.init).1).1 ∧
    sideOf true (runTagged (sched1 r0 r1 d0 d1 d2) DH.W.init).2 = (runCmds (hA r0 d0 d2) DH.W.init).2 ∧
    sideOf false (runTagged (sched1 r0 r1 d0 d1 d2) DH.W.init).2 = sideOf false (runTagged (sched2 r0 r1 d0 d1 d2) DH.W.init).2 := by
  have hAB : (regA r0 d0).Disj (regB r1 d1) :=
    ⟨fun j (h : j = _) (h' : j = _) => h01 (h.symm.trans h'), fun j (h : j = _) (h' : j = _) => hr (h.symm.trans h')⟩
  have hAS : (regA r0 d0).Disj (regS d2) := ⟨fun j (h : j = _) (h' : j = _) => h02 (h.symm.trans h'), fun _ _ h => h.elim⟩
  have hBS : (regB r1 d1).Disj (regS d2) := ⟨fun j (h : j = _) (h' : j = _) => h12 (h.symm.trans h'), fun _ _ h => h.elim⟩
  obtain ⟨a1, a2⟩ := side1 r0 r1 d0 d1 d2
  obtain ⟨b1, b2⟩ := side2 r0 r1 d0 d1 d2
  obtain ⟨x, _, z⟩ := interleavings_agree hAB hAS hBS (sched1 r0 r1 d0 d1 d2) (sched2 r0 r1 d0 d1 d2) DH.W.init
    (a1.trans b1.symm) (a2.trans b2.symm) (by rw [a1]; exact hA_in r0 d0 d2) (by rw [a2]; exact hB_in r1 d1 d2)
    (refsInto_init _ _) (refsInto_init _ _)
  obtain ⟨y1, y2, _⟩ := interleaving_of_document_histories hAB hAS hBS (sched1 r0 r1 d0 d1 d2) DH.W.init
    (by rw [a1]; exact hA_in r0 d0 d2) (by rw [a2]; exact hB_in r1 d1 d2) (refsInto_init _ _) (refsInto_init _ _)
  rw [a1, a2] at y1
  rw [a1] at y2
  exact ⟨x, y1, y2, z⟩

/-- `ops_in_disjoint_regions_commute` (hence `ops_on_distinct_documents_commute`) and `shared_const_source_copies` apply to
    single steps: once the two roots are bound, `doc0.add(1)` and `deserializeJson(doc1, "[1]")` commute, and so do the deep
    copies from the shared document -/
example (hr : r0.toNat! ≠ r1.toNat!) (h01 : d0.toNat! ≠ d1.toNat!) (h02 : d0.toNat! ≠ d2.toNat!) (h12 : d1.toNat! ≠ d2.toNat!) :
    let w := (runCmds [.root r0 d0, .root r1 d1] DH.W.init).1
    (DH.step (DH.step w ["add", r0, "i", "1"]).2 ["deserj", r1, "10", "5b315d"]).2 =
      (DH.step (DH.step w ["deserj", r1, "10", "5b315d"]).2 ["add", r0, "i", "1"]).2 ∧
    (DH.step (DH.step w ["sete", r0, "1", "doc", d2]).2 ["add", r1, "doc", d2]).2 =
      (DH.step (DH.step w ["add", r1, "doc", d2]).2 ["sete", r0, "1", "doc", d2]).2 ∧
    (DH.step (DH.step w ["set", r0, "doc", d2]).2 ["set", r1, "doc", d2]).2 =
      (DH.step (DH.step w ["set", r1, "doc", d2]).2 ["set", r0, "doc", d2]).2 := by
  intro w
  have hAB : (regA r0 d0).Disj (regB r1 d1) :=
    ⟨fun j (h : j = _) (h' : j = _) => h01 (h.symm.trans h'), fun j (h : j = _) (h' : j = _) => hr (h.symm.trans h')⟩
  have hAS : (regA r0 d0).Disj (regS d2) := ⟨fun j (h : j = _) (h' : j = _) => h02 (h.symm.trans h'), fun _ _ h => h.elim⟩
  have hBS : (regB r1 d1).Disj (regS d2) := ⟨fun j (h : j = _) (h' : j = _) => h12 (h.symm.trans h'), fun _ _ h => h.elim⟩
  have iA0 := refsInto_init (regA r0 d0) (regS d2)
  have iB0 := refsInto_init (regB r1 d1) (regS d2)
  -- binding the two roots keeps the references inside their regions
  have iA1 : RefsInto (regA r0 d0) (regS d2) (DH.step DH.W.init ["root", r0, d0]).2 :=
    Cmd.refsInto_step hAS (c := .root r0 d0) ⟨rfl, rfl⟩ iA0
  have iB1 : RefsInto (regB r1 d1) (regS d2) (DH.step DH.W.init ["root", r0, d0]).2 := by
    refine ⟨fun r hr' j hj => ?_, fun r hr' => hr'.elim⟩
    have e : (DH.step DH.W.init ["root", r0, d0]).2.refs[r]! = DH.W.init.refs[r]! :=
      refs_bang_congr ((Cmd.root r0 d0).local.frame_refs DH.W.init r (fun (h : r = _) => hr (h.symm.trans hr')))
    rw [e, init_refs] at hj; cases hj
  have iB : RefsInto (regB r1 d1) (regS d2) w := Cmd.refsInto_step hBS (c := .root r1 d1) ⟨rfl, rfl⟩ iB1
  have iA : RefsInto (regA r0 d0) (regS d2) w := by
    refine ⟨fun r hr' j hj => ?_, fun r hr' => hr'.elim⟩
    have e : w.refs[r]! = (DH.step DH.W.init ["root", r0, d0]).2.refs[r]! :=
      refs_bang_congr ((Cmd.root r1 d1).local.frame_refs _ r (fun (h : r = _) => hr (hr'.symm.trans h)))
    rw [e] at hj; exact iA1.1 r hr' j hj
  refine ⟨(ops_in_disjoint_regions_commute hAB hAS hBS (.add r0 "i" "1" (by decide)) (.deserj r1 "10" "5b315d") w rfl rfl iA iB).1,
    (ops_in_disjoint_regions_commute hAB hAS hBS (.seteDoc r0 "1" d2) (.addDoc r1 d2) w ⟨rfl, Or.inr rfl⟩ ⟨rfl, Or.inr rfl⟩ iA iB).1,
    ?_⟩
  -- `shared_const_source_copies` applies: `r0.set(doc2)` and `r1.set(doc2)`
  refine shared_const_source_copies r0 r1 d2 w (fun j hj hj' => ?_) (fun h => ?_) (fun h => ?_)
  · exact h01 ((iA.1 _ rfl j hj).symm.trans (iB.1 _ rfl j hj'))
  · exact h02 (iA.1 _ rfl _ h).symm
  · exact h12 (iB.1 _ rfl _ h).symm
end

/-! ### B. the typed operations, fully concrete: documents 0 and 1 of the interpreter's initial world, document 2 (set to
   `true` beforehand) as a shared source -/

def put (a : Arg) : C04.OpD := .base (.base (.put .root a))
def clr : C04.OpD := .base (.base (.clear .root))
/-- the world in which document 2 is `true` -/
def w2 : W := ((WOp.doc 2 (put (.bool true))).step DH.W.init).2

/-- thread A: `doc0.set(7); doc0.clear(); doc0.set(doc2)` -/
def tA : List WOp := [.doc 0 (put (.uint 7)), .doc 0 clr, .copyFrom 0 .root 2 .root]
/-- thread B: `doc1.set(doc2); doc1.clear(); doc1.set(9)` -/
def tB : List WOp := [.copyFrom 1 .root 2 .root, .doc 1 clr, .doc 1 (put (.uint 9))]
def ts1 : List (Bool × WOp) :=
  [(true, .doc 0 (put (.uint 7))), (false, .copyFrom 1 .root 2 .root), (false, .doc 1 clr), (true, .doc 0 clr),
   (true, .copyFrom 0 .root 2 .root), (false, .doc 1 (put (.uint 9)))]
def ts2 : List (Bool × WOp) :=
  [(false, .copyFrom 1 .root 2 .root), (true, .doc 0 (put (.uint 7))), (true, .doc 0 clr), (true, .copyFrom 0 .root 2 .root),
   (false, .doc 1 clr), (false, .doc 1 (put (.uint 9)))]

def rA : Region := ⟨one 0, none'⟩
def rB : Region := ⟨one 1, none'⟩
def rS : Region := ⟨one 2, none'⟩

theorem tA_in : ∀ o ∈ tA, (∀ j, o.target = some j → rA.docs j) ∧ ∀ j ∈ o.reads, rA.docs j ∨ rS.docs j := by
  intro o ho
  simp only [tA, List.mem_cons, List.not_mem_nil, or_false] at ho
  rcases ho with rfl | rfl | rfl
  · exact ⟨fun j h => (Option.some.inj h).symm, fun j h => Or.inl (List.mem_singleton.1 h)⟩
  · exact ⟨fun j h => (Option.some.inj h).symm, fun j h => Or.inl (List.mem_singleton.1 h)⟩
  · refine ⟨fun j h => (Option.some.inj h).symm, fun j h => ?_⟩
    rcases List.mem_cons.1 h with h | h
    · exact Or.inl h
    · exact Or.inr (List.mem_singleton.1 h)

theorem tB_in : ∀ o ∈ tB, (∀ j, o.target = some j → rB.docs j) ∧ ∀ j ∈ o.reads, rB.docs j ∨ rS.docs j := by
  intro o ho
  simp only [tB, List.mem_cons, List.not_mem_nil, or_false] at ho
  rcases ho with rfl | rfl | rfl
  · refine ⟨fun j h => (Option.some.inj h).symm, fun j h => ?_⟩
    rcases List.mem_cons.1 h with h | h
    · exact Or.inl h
    · exact Or.inr (List.mem_singleton.1 h)
  · exact ⟨fun j h => (Option.some.inj h).symm, fun j h => Or.inl (List.mem_singleton.1 h)⟩
  · exact ⟨fun j h => (Option.some.inj h).symm, fun j h => Or.inl (List.mem_singleton.1 h)⟩

/-- `interleaving_of_typed_histories` applies to both schedules: same final world (the sequential one); evaluated: document 0
    ends as a copy of the shared document (`true`), document 1 as `9`, the shared document is still `true` -/
example :
    (runInter (ts1.map (fun x => (x.1, x.2.lstep))) w2).1 = (runInter (ts2.map (fun x => (x.1, x.2.lstep))) w2).1 ∧
    (runInter (ts1.map (fun x => (x.1, x.2.lstep))) w2).1 = (runHist (tB.map WOp.lstep) (runHist (tA.map WOp.lstep) w2).1).1 ∧
    ((runInter (ts1.map (fun x => (x.1, x.2.lstep))) w2).1.docs[0]!).root = .bool true ∧
    ((runInter (ts1.map (fun x => (x.1, x.2.lstep))) w2).1.docs[1]!).root = .u32 9 ∧
    ((runInter (ts1.map (fun x => (x.1, x.2.lstep))) w2).1.docs[2]!).root = .bool true := by
  have hAB : rA.Disj rB := ⟨fun j (h : j = 0) (h' : j = 1) => by omega, fun _ h => h.elim⟩
  have hAS : rA.Disj rS := ⟨fun j (h : j = 0) (h' : j = 2) => by omega, fun _ h => h.elim⟩
  have hBS : rB.Disj rS := ⟨fun j (h : j = 1) (h' : j = 2) => by omega, fun _ h => h.elim⟩
  have h1 := interleaving_of_typed_histories hAB hAS hBS ts1 w2 tA_in tB_in
  have h2 := interleaving_of_typed_histories hAB hAS hBS ts2 w2 tA_in tB_in
  exact ⟨h1.1.trans h2.1.symm, h1.1, by decide +kernel, by decide +kernel, by decide +kernel⟩

/-- `WOp.keeps_wf` applies: the fresh documents of the initial world are well formed (`C04.fresh_document_wf`), `put` on the
    (null) root of document 0 is valid, so the world after the step is well formed, document by document -/
example : ∃ F', WorldWF ((WOp.doc 0 (put (.uint 7))).step DH.W.init).2 F' := by
  have gok : PL.GeoOK (⟨256, 4, 4, 16, 16⟩ : PL.Geo) := ⟨by decide, by decide⟩
  have hw : WorldWF DH.W.init (fun _ => .nil) := by
    intro j d hj
    have hd : d = DH.newDocG ⟨256, 4, 4, 16, 16⟩ 15 0 ∨ d = DH.newDocG ⟨256, 4, 4, 16, 16⟩ 15 1 ∨
        d = DH.newDocG ⟨256, 4, 4, 16, 16⟩ 15 2 := by
      have : (#[DH.newDocG ⟨256, 4, 4, 16, 16⟩ 15 0, DH.newDocG ⟨256, 4, 4, 16, 16⟩ 15 1,
          DH.newDocG ⟨256, 4, 4, 16, 16⟩ 15 2] : Array Doc)[j]? = some d := hj
      match j, this with
      | 0, h => exact Or.inl (Option.some.inj h).symm
      | 1, h => exact Or.inr (Or.inl (Option.some.inj h).symm)
      | 2, h => exact Or.inr (Or.inr (Option.some.inj h).symm)
      | _ + 3, h => cases h
    rcases hd with rfl | rfl | rfl <;>
      exact ⟨(C04.fresh_document_wf _ 15 _ gok).1, (C04.fresh_document_wf _ 15 _ gok).2.1, gok⟩
  refine ⟨_, WOp.keeps_wf DH.W.init _ 0 (put (.uint 7)) hw (fun d hd => ?_)⟩
  have : d = DH.newDocG ⟨256, 4, 4, 16, 16⟩ 15 0 := (Option.some.inj hd).symm
  subst this
  exact ⟨trivial, rfl, by decide +kernel⟩

/-- `step_frame` applies: `document.clear()` on document `d` leaves every other document, every reference and the world log
    literally unchanged - in any world -/
example (d : String) (w : W) (j r : Nat) (h : j ≠ d.toNat!) :
    (DH.step w ["cleardoc", d]).2.docs[j]! = w.docs[j]! ∧ (DH.step w ["cleardoc", d]).2.refs[r]! = w.refs[r]! ∧
    (DH.step w ["cleardoc", d]).2.log = w.log :=
  let x := step_frame (.cleardoc d) w
  ⟨(x.1 j (fun hj => h (List.mem_singleton.1 hj))).2, (x.2.1 r (fun hr => hr.elim)).2, x.2.2.1⟩

/-- `step_frame` through a reference: `r.clear()` leaves every document but the one `r` is bound to unchanged -/
example (r : String) (w : W) (j : Nat) (h : (w.refs[r.toNat!]!).doc ≠ some j) :
    (DH.step w ["clear", r]).2.docs[j]! = w.docs[j]! :=
  ((step_frame (.clear r) w).1 j (fun hj => h ((docOf_iff_mem _ j).2 hj))).2

/-- `WOp.frame` and `wops_on_distinct_documents_commute` apply (documents 0, 1 and the shared source 2 of `w2`) -/
example :
    ((WOp.doc 0 (put (.uint 7))).step w2).2.docs[1]! = w2.docs[1]! ∧
    ((WOp.copyFrom 1 .root 2 .root).step ((WOp.doc 0 (put (.uint 7))).step w2).2).2 =
      ((WOp.doc 0 (put (.uint 7))).step ((WOp.copyFrom 1 .root 2 .root).step w2).2).2 :=
  ⟨(((WOp.doc 0 (put (.uint 7))).frame w2).1 1 (by decide)).2,
    (wops_on_distinct_documents_commute (.doc 0 (put (.uint 7))) (.copyFrom 1 .root 2 .root) w2
      (fun j h => by cases h; decide) (fun j h => by cases h; decide)).1⟩

end ExH

end C20
