/- Property C11, memory part, for the RUNS of the slot-level MessagePack deserializers: "the document left by a filtered
   deserialization HOLDS no more memory than the document left by the unfiltered one".

   `dF := (MDDF.run env L flt d input).2.1` (filtered, into any document `d`), `dU := (MDD.run env L d' input).2.1` (unfiltered,
   into any document `d'`). When the unfiltered run answers `Ok` and no allocation of the filtered run failed:
   * `filtered_mp_run_strings_subset`: every string stored by `dF` is stored by `dU`;
   * `filtered_mp_run_string_bytes_le`: `dF` has at most as many string nodes, holding at most as many bytes - also counting
     the per-node overhead when the two starting documents have the same one;
   * `filtered_mp_run_tree_slots_le`: for ALL layouts of the two documents, the value tree of `dF` occupies at most as many
     pool slots (extension slots included) as that of `dU`;
   * `filtered_mp_run_live_slots_le` / `filtered_mp_run_pool_usage_le`: `dF` has at most as many live pool slots;
   * `filtered_mp_run_holds_no_more`: the bundle, with the answer `Ok` of the filtered run.
   Everything is obtained by feeding the document-level comparison (AJ/Props/C11Mem.lean) with the projection theorem
   (`filtered_mp_document_is_projection`, AJ/Props/C11MpDoc.lean) and the side conditions proved for the runs: exact reference
   counts, no leaked slot, canonical extension slots (AJ/Lemmas/MddfExact.lean), 32-bit inline integers, no linked string
   (AJ/Lemmas/MddfCanon.lean), strings stored once.
   NOTE these theorems compare what the documents HOLD at the end. The allocator TRAFFIC of a filtered MessagePack run is not
   bounded by the document: every map key, kept or not, goes through `StringBuffer::reserve` (see the last example). -/
import AJ.Lemmas.MddfCanon
import AJ.Props.C11MpDoc
import AJ.Props.C11MpSlot
import AJ.Props.C11Mem
-- `List.sum` over ℕ below takes its zero from Mathlib's `MulZeroClass ℕ`, as with the files on numbers in scope
import Mathlib.Algebra.GroupWithZero.Nat
namespace C11
open DL DocSize
open JD (Byte Val Code Flt)
open MD (Env)

/-- the facts about the unfiltered document that the comparison needs - for EVERY run (no hypothesis on the result) -/
theorem mp_run_unfiltered_side (env : Env) (L : Nat) (d' : Doc) (input : List Byte) (gok' : PL.GeoOK d'.g)
    (hp' : PL.Inv d'.g d'.pl) :
    (∃ Fu, WFG (MDD.run env L d' input).2.1 Fu ∧
      StrOK (MDD.run env L d' input).2.1 ((MDD.run env L d' input).2.1.strRefs Fu)) ∧
    AllV inlineSmallV (MDD.run env L d' input).2.1 ∧ AllV notLinkedV (MDD.run env L d' input).2.1 := by
  rw [← mp_allow_all_is_unfiltered_slot_level]
  exact ⟨MDDF.run_wf env L .all input gok' hp', MDDF.mp_run_inlineSmall env L .all d' input,
    MDDF.mp_run_notLinked env L .all d' input⟩

/-- the filtered document reads back as the projection of the unfiltered one (`abs` form of
    `filtered_mp_document_is_projection`) -/
theorem filtered_mp_run_abs_projection (env : Env) (L : Nat) (flt : Flt) (d d' : Doc) (input : List Byte)
    (gok : PL.GeoOK d.g) (hp : PL.Inv d.g d.pl) (gok' : PL.GeoOK d'.g) (hp' : PL.Inv d'.g d'.pl)
    (hok : (MDD.run env L d' input).1 = .ok) (hno : (MDDF.run env L flt d input).2.1.overflowed = false) :
    abs (MDDF.run env L flt d input).2.1 = Spec.Filter.project flt (abs (MDD.run env L d' input).2.1) :=
  (filtered_mp_document_is_projection env L flt d d' input gok hp gok' hp' hok hno).2.2

/-- STRINGS: every string stored by the filtered document is stored by the unfiltered one -/
theorem filtered_mp_run_strings_subset (env : Env) (L : Nat) (flt : Flt) (d d' : Doc) (input : List Byte)
    (gok : PL.GeoOK d.g) (hp : PL.Inv d.g d.pl) (gok' : PL.GeoOK d'.g) (hp' : PL.Inv d'.g d'.pl)
    (hok : (MDD.run env L d' input).1 = .ok) (hno : (MDDF.run env L flt d input).2.1.overflowed = false) :
    ∀ n ∈ (MDDF.run env L flt d input).2.1.strings, ∃ m ∈ (MDD.run env L d' input).2.1.strings, m.bytes = n.bytes := by
  obtain ⟨Ff, wf, sf, ef, _⟩ := MDDF.mp_run_canon env L flt input gok hp hno
  obtain ⟨⟨Fu, wu, su⟩, _, nu⟩ := mp_run_unfiltered_side env L d' input gok' hp'
  exact projected_strings_subset wf sf ef wu su (nu.noLinked Fu)
    (filtered_mp_run_abs_projection env L flt d d' input gok hp gok' hp' hok hno)

/-- STRING MEMORY: at most as many bytes of string contents, at most as many string nodes, and - when the two starting documents
    have the same per-node overhead - at most as many allocator bytes held for string nodes -/
theorem filtered_mp_run_string_bytes_le (env : Env) (L : Nat) (flt : Flt) (d d' : Doc) (input : List Byte)
    (gok : PL.GeoOK d.g) (hp : PL.Inv d.g d.pl) (gok' : PL.GeoOK d'.g) (hp' : PL.Inv d'.g d'.pl)
    (hok : (MDD.run env L d' input).1 = .ok) (hno : (MDDF.run env L flt d input).2.1.overflowed = false) :
    ((MDDF.run env L flt d input).2.1.strings.map (·.bytes.length)).sum ≤
      ((MDD.run env L d' input).2.1.strings.map (·.bytes.length)).sum ∧
    (MDDF.run env L flt d input).2.1.strings.length ≤ (MDD.run env L d' input).2.1.strings.length ∧
    (d.strOverhead = d'.strOverhead →
      strHeld (MDDF.run env L flt d input).2.1 ≤ strHeld (MDD.run env L d' input).2.1) := by
  obtain ⟨Ff, wf, sf, ef, _⟩ := MDDF.mp_run_canon env L flt input gok hp hno
  obtain ⟨⟨Fu, wu, su⟩, _, nu⟩ := mp_run_unfiltered_side env L d' input gok' hp'
  obtain ⟨a, b, c⟩ := projected_string_bytes_le wf sf ef wu su (nu.noLinked Fu)
    (filtered_mp_run_abs_projection env L flt d d' input gok hp gok' hp' hok hno)
    (MDDF.run_bytes_nodup env L flt d input)
  refine ⟨a, b, fun ho => c ?_⟩
  rw [MDDF.mp_run_strOverhead, ← mp_allow_all_is_unfiltered_slot_level, MDDF.mp_run_strOverhead]
  exact ho

/-- TREE SLOTS, for all layouts of the two documents: the value tree of the filtered document occupies at most as many pool
    slots (one per element, two per member, one per extension slot) as the value tree of the unfiltered document -/
theorem filtered_mp_run_tree_slots_le (env : Env) (L : Nat) (flt : Flt) (d d' : Doc) (input : List Byte)
    (gok : PL.GeoOK d.g) (hp : PL.Inv d.g d.pl) (gok' : PL.GeoOK d'.g) (hp' : PL.Inv d'.g d'.pl)
    (hok : (MDD.run env L d' input).1 = .ok) (hno : (MDDF.run env L flt d input).2.1.overflowed = false)
    (Ff Fu : Forest) (wf : WFG (MDDF.run env L flt d input).2.1 Ff) (wu : WFG (MDD.run env L d' input).2.1 Fu) :
    Ff.ids.length + extCount (MDDF.run env L flt d input).2.1 Ff ≤
      Fu.ids.length + extCount (MDD.run env L d' input).2.1 Fu := by
  obtain ⟨F0, w0, _, _, l0, c0, _⟩ := MDDF.mp_run_canon env L flt input gok hp hno
  obtain ⟨_, iu, _⟩ := mp_run_unfiltered_side env L d' input gok' hp'
  calc Ff.ids.length + extCount (MDDF.run env L flt d input).2.1 Ff
      ≤ liveCount (MDDF.run env L flt d input).2.1 := live_ge wf
    _ ≤ F0.ids.length + extCount (MDDF.run env L flt d input).2.1 F0 := live_le w0 l0
    _ ≤ Fu.ids.length + extCount (MDD.run env L d' input).2.1 Fu :=
      projected_tree_slots_le w0 c0.2 wu (iu.inlineSmall Fu)
        (filtered_mp_run_abs_projection env L flt d d' input gok hp gok' hp' hok hno)

/-- LIVE SLOTS: the filtered document has at most as many live pool slots as the unfiltered one -/
theorem filtered_mp_run_live_slots_le (env : Env) (L : Nat) (flt : Flt) (d d' : Doc) (input : List Byte)
    (gok : PL.GeoOK d.g) (hp : PL.Inv d.g d.pl) (gok' : PL.GeoOK d'.g) (hp' : PL.Inv d'.g d'.pl)
    (hok : (MDD.run env L d' input).1 = .ok) (hno : (MDDF.run env L flt d input).2.1.overflowed = false) :
    liveCount (MDDF.run env L flt d input).2.1 ≤ liveCount (MDD.run env L d' input).2.1 := by
  obtain ⟨F0, w0, _, _, l0, c0, _⟩ := MDDF.mp_run_canon env L flt input gok hp hno
  obtain ⟨⟨Fu, wu, _⟩, iu, _⟩ := mp_run_unfiltered_side env L d' input gok' hp'
  exact projected_live_slots_le w0 c0.2 l0 wu (iu.inlineSmall Fu)
    (filtered_mp_run_abs_projection env L flt d d' input gok hp gok' hp' hok hno)

/-- the same in the counters of the pool model: slots handed out minus free list -/
theorem filtered_mp_run_pool_usage_le (env : Env) (L : Nat) (flt : Flt) (d d' : Doc) (input : List Byte)
    (gok : PL.GeoOK d.g) (hp : PL.Inv d.g d.pl) (gok' : PL.GeoOK d'.g) (hp' : PL.Inv d'.g d'.pl)
    (hok : (MDD.run env L d' input).1 = .ok) (hno : (MDDF.run env L flt d input).2.1.overflowed = false) :
    PL.usage (MDDF.run env L flt d input).2.1.pl - (MDDF.run env L flt d input).2.1.pl.free.length ≤
      PL.usage (MDD.run env L d' input).2.1.pl - (MDD.run env L d' input).2.1.pl.free.length := by
  obtain ⟨F0, w0, _, _, l0, c0, _⟩ := MDDF.mp_run_canon env L flt input gok hp hno
  obtain ⟨⟨Fu, wu, _⟩, iu, _⟩ := mp_run_unfiltered_side env L d' input gok' hp'
  exact projected_pool_usage_le w0 c0.2 l0 wu (iu.inlineSmall Fu)
    (filtered_mp_run_abs_projection env L flt d d' input gok hp gok' hp' hok hno)

/-- **C11, memory, MessagePack runs.** If the unfiltered slot-level run answers `Ok` and no allocation of the filtered run
    fails: the filtered run answers `Ok`, and its document holds no more than the unfiltered document - strings (a subset,
    fewer nodes, fewer bytes, fewer allocator bytes) and pool slots (live slots). -/
theorem filtered_mp_run_holds_no_more (env : Env) (L : Nat) (flt : Flt) (d d' : Doc) (input : List Byte)
    (gok : PL.GeoOK d.g) (hp : PL.Inv d.g d.pl) (gok' : PL.GeoOK d'.g) (hp' : PL.Inv d'.g d'.pl)
    (hok : (MDD.run env L d' input).1 = .ok) (hno : (MDDF.run env L flt d input).2.1.overflowed = false) :
    (MDDF.run env L flt d input).1 = .ok ∧
    (∀ n ∈ (MDDF.run env L flt d input).2.1.strings, ∃ m ∈ (MDD.run env L d' input).2.1.strings, m.bytes = n.bytes) ∧
    ((MDDF.run env L flt d input).2.1.strings.map (·.bytes.length)).sum ≤
      ((MDD.run env L d' input).2.1.strings.map (·.bytes.length)).sum ∧
    (MDDF.run env L flt d input).2.1.strings.length ≤ (MDD.run env L d' input).2.1.strings.length ∧
    (d.strOverhead = d'.strOverhead →
      strHeld (MDDF.run env L flt d input).2.1 ≤ strHeld (MDD.run env L d' input).2.1) ∧
    liveCount (MDDF.run env L flt d input).2.1 ≤ liveCount (MDD.run env L d' input).2.1 ∧
    PL.usage (MDDF.run env L flt d input).2.1.pl - (MDDF.run env L flt d input).2.1.pl.free.length ≤
      PL.usage (MDD.run env L d' input).2.1.pl - (MDD.run env L d' input).2.1.pl.free.length := by
  obtain ⟨a, b, c⟩ := filtered_mp_run_string_bytes_le env L flt d d' input gok hp gok' hp' hok hno
  exact ⟨(filtered_mp_document_is_projection env L flt d d' input gok hp gok' hp' hok hno).1,
    filtered_mp_run_strings_subset env L flt d d' input gok hp gok' hp' hok hno, a, b, c,
    filtered_mp_run_live_slots_le env L flt d d' input gok hp gok' hp' hok hno,
    filtered_mp_run_pool_usage_le env L flt d d' input gok hp gok' hp' hok hno⟩

/-- with the answers only: both runs `Ok` -/
theorem filtered_mp_run_holds_no_more_ok (env : Env) (L : Nat) (flt : Flt) (d d' : Doc) (input : List Byte)
    (gok : PL.GeoOK d.g) (hp : PL.Inv d.g d.pl) (gok' : PL.GeoOK d'.g) (hp' : PL.Inv d'.g d'.pl)
    (hok : (MDD.run env L d' input).1 = .ok) (hokF : (MDDF.run env L flt d input).1 = .ok) :
    (MDDF.run env L flt d input).2.1.strings.length ≤ (MDD.run env L d' input).2.1.strings.length ∧
    liveCount (MDDF.run env L flt d input).2.1 ≤ liveCount (MDD.run env L d' input).2.1 := by
  obtain ⟨_, _, _, b, _, c, _⟩ := filtered_mp_run_holds_no_more env L flt d d' input gok hp gok' hp' hok
    (filtered_mp_ok_no_overflow env L flt d input gok hp hokF)
  exact ⟨b, c⟩

end C11

/-! ## Non-vacuity (geometry ⟨4, 1, 1⟩; the runs touch slot 0 only, so the hypotheses evaluate in the kernel) -/
namespace C11.ExMpMemRun
open DL DocSize MDD C01.ExDoc C11.ExMpDocF
open JD (Byte Val Code Flt)

/-- fixstr `"hi"` -/
def sHi : List Byte := [0xa2, 0x68, 0x69]
/-- the filter `false` -/
def fNo : Flt := .doc (some (.bool false))

set_option maxRecDepth 100000 in
theorem ok_sHi : (MDD.run {} 10 dz sHi).1 = .ok := by decide +kernel
set_option maxRecDepth 100000 in
theorem ov_sHiNo : (MDDF.run {} 10 fNo dz sHi).2.1.overflowed = false := by decide +kernel
set_option maxRecDepth 100000 in
theorem ov_sHiAll : (MDDF.run {} 10 .all dz sHi).2.1.overflowed = false := by decide +kernel

/-- `91 01` under `[false]`: the bundle applies; in numbers 0 ≤ 1 live slots -/
example : liveCount (MDDF.run {} 10 fF dz a1).2.1 ≤ liveCount (MDD.run {} 10 dz a1).2.1 :=
  C11.filtered_mp_run_live_slots_le {} 10 fF dz dz a1 gok hp gok hp ok_a1 ov_a1F
set_option maxRecDepth 100000 in
example : liveCount (MDDF.run {} 10 fF dz a1).2.1 = 0 ∧ liveCount (MDD.run {} 10 dz a1).2.1 = 1 := by decide +kernel

/-- `91 01` under `[true]`: 1 ≤ 1 -/
example : (MDDF.run {} 10 fT dz a1).1 = .ok ∧
    liveCount (MDDF.run {} 10 fT dz a1).2.1 ≤ liveCount (MDD.run {} 10 dz a1).2.1 := by
  obtain ⟨a, _, _, _, _, b, _⟩ := C11.filtered_mp_run_holds_no_more {} 10 fT dz dz a1 gok hp gok hp ok_a1 ov_a1T
  exact ⟨a, b⟩
set_option maxRecDepth 100000 in
example : liveCount (MDDF.run {} 10 fT dz a1).2.1 = 1 := by decide +kernel

/-- `a2 68 69` under `false`: the string is not stored: 0 ≤ 1 nodes, 0 ≤ 2 bytes, 0 ≤ 17 allocator bytes -/
example : (MDDF.run {} 10 fNo dz sHi).2.1.strings.length ≤ (MDD.run {} 10 dz sHi).2.1.strings.length ∧
    strHeld (MDDF.run {} 10 fNo dz sHi).2.1 ≤ strHeld (MDD.run {} 10 dz sHi).2.1 := by
  obtain ⟨_, b, c⟩ := C11.filtered_mp_run_string_bytes_le {} 10 fNo dz dz sHi gok hp gok hp ok_sHi ov_sHiNo
  exact ⟨b, c rfl⟩
set_option maxRecDepth 100000 in
example : (MDDF.run {} 10 fNo dz sHi).2.1.strings.length = 0 ∧ (MDD.run {} 10 dz sHi).2.1.strings.length = 1 ∧
    strHeld (MDDF.run {} 10 fNo dz sHi).2.1 = 0 ∧ strHeld (MDD.run {} 10 dz sHi).2.1 = 17 := by decide +kernel

/-- `a2 68 69` under the `AllowAll` filter: the same string on both sides -/
example : ∀ n ∈ (MDDF.run {} 10 .all dz sHi).2.1.strings, ∃ m ∈ (MDD.run {} 10 dz sHi).2.1.strings, m.bytes = n.bytes :=
  C11.filtered_mp_run_strings_subset {} 10 .all dz dz sHi gok hp gok hp ok_sHi ov_sHiAll
set_option maxRecDepth 100000 in
example : (MDDF.run {} 10 .all dz sHi).2.1.strings = [⟨0, [0x68, 0x69], 1⟩] := by decide +kernel

/-- the side conditions proved for the runs, on `91 01` under `[true]`: one layout for all of them -/
example : ∃ F', WFG (MDDF.run {} 10 fT dz a1).2.1 F' ∧ DocSize.NoLeak (MDDF.run {} 10 fT dz a1).2.1 F' ∧
    Canon (MDDF.run {} 10 fT dz a1).2.1 F' ∧ NoLinked (MDDF.run {} 10 fT dz a1).2.1 F' := by
  obtain ⟨F', a, _, _, b, c, e⟩ := MDDF.mp_run_canon {} 10 fT a1 gok hp ov_a1T
  exact ⟨F', a, b, c, e⟩

/-- WHAT THE THEOREMS DO NOT SAY: the comparison is about the memory HELD at the end, not about allocator traffic. `81 a1 61 01`
    (`{"a":1}`) under `{"b":true}`: the filtered document holds nothing (no string node, no live slot), yet the run allocated
    (and released) a StringBuffer node for the key of the dropped member. -/
example : (MDDF.run {} 10 fB dz mA).2.1.strings = [] ∧ liveCount (MDDF.run {} 10 fB dz mA).2.1 = 0 ∧
    (MDDF.run {} 10 fB dz mA).2.1.pl.log = ["D", "A16"] := by decide +kernel

end C11.ExMpMemRun
