/- C04, deep copy: `copyInto d l src sv` (AJ/Model/DL.lean; the model of `JsonVariant::set(JsonVariantConst)`, of
   `JsonArray::set(JsonArrayConst)` and `JsonObject::set(JsonObjectConst)`) refines "replace the value at `l` by a copy of
   the source value, change nothing else", over the layout invariant `WFG` / `StrOK` of AJ/Lemmas/DocInv.lean.
   Proof: AJ/Lemmas/DocCopy.lean (local specification `Post`, induction on the layout of the source value).

   What the model does (reported, not assumed):
   * `copyIntoF` threads the ORIGINAL source document `src` through the whole recursion: the source is read from a
     snapshot, never from the evolving destination. Copying inside one document is therefore the instance `src := d` of
     the general theorem, and needs no "source and destination do not overlap" hypothesis in the model.
   * a double stored in an 8-byte extension slot is re-stored through `setArg (.f64 _)`, i.e. as a 4-byte float when the
     float has the same value: the copy of a value is `copyVal` of it (`copyVal v = v` whenever every stored double is
     stored the way `setArg` stores it, `DblCanon v`).
   * object members are copied with `getOrAddMember` (`dst[key]`): a source object with a repeated key is NOT copied
     member by member (the second value overwrites the first member). The hypothesis `NoDupKeys` is needed. Evidence
     (compiled evaluation with `#eval`; the kernel cannot evaluate it, see the note in `C04.ExC`): with
       z0 := { g := ⟨4,1,1,16,16⟩, alloc := 1, pl := PL.init _ },  o0 := z0.set .root (.obj 255 255),
       o1 := (o0.addMember .root [0x61] true).2,   o2 := (o1.setArg (.slot 1) (.sint 1)).2,
       o3 := (o2.addMember .root [0x61] true).2,   o4 := (o3.setArg (.slot 3) (.sint 2)).2
     `o4.show o4.root = "{61:I1,61:I2}"` (the object `{"a":1,"a":2}`), and for `c := copyInto z0 .root o4 o4.root`:
     `c.show c.root = "{61:I2}"`, `c.overflowed = false`.
   * the copy starts by clearing its target (`copyIntoF` calls `clearV`): no hypothesis on what the target holds. -/
import AJ.Lemmas.DocCopy
import AJ.Props.C04Hist
namespace C04
open DL
open JD (Byte Val)

/-! ## the abstract copy -/

def numCanon : JD.Num → Prop
  | .f64 b => normF64 b = .num (.f64 b)
  | _ => True

mutual
/-- every double of the tree that is stored in 8 bytes needs them (its value is not a float value): what `setArg` and
    the deserializers produce -/
def DblCanon : Val → Prop
  | .num n => numCanon n
  | .arr xs => DblCanonL xs
  | .obj ms => DblCanonM ms
  | _ => True
def DblCanonL : List Val → Prop
  | [] => True
  | x :: xs => DblCanon x ∧ DblCanonL xs
def DblCanonM : List (List Byte × Val) → Prop
  | [] => True
  | (_, v) :: ms => DblCanon v ∧ DblCanonM ms
end

mutual
/-- a complete copy of a value whose doubles are stored canonically is the value itself -/
theorem copyVal_of_canon : ∀ (v : Val), DblCanon v → copyVal v = v
  | .null, _ => rfl
  | .bool _, _ => rfl
  | .num n, h => by
    cases n
    case f64 b => exact h
    all_goals rfl
  | .str _, _ => rfl
  | .raw _, _ => rfl
  | .arr xs, h => by simp only [copyVal]; rw [copyVals_of_canon xs h]
  | .obj ms, h => by simp only [copyVal]; rw [copyMems_of_canon ms h]
theorem copyVals_of_canon : ∀ (xs : List Val), DblCanonL xs → copyVals xs = xs
  | [], _ => rfl
  | x :: xs, h => by simp only [copyVals]; rw [copyVal_of_canon x h.1, copyVals_of_canon xs h.2]
theorem copyMems_of_canon : ∀ (ms : List (List Byte × Val)), DblCanonM ms → copyMems ms = ms
  | [], _ => rfl
  | (k, v) :: ms, h => by simp only [copyMems]; rw [copyVal_of_canon v h.1, copyMems_of_canon ms h.2]
end

/-! ## 7. deep copy -/

/-- ghost layout after the copy: the layout read off the result below `l` replaces the old layout at `l` -/
def copyLayout (d : Doc) (F : Forest) (l : Loc) (src : Doc) (sv : VData) : Forest :=
  replaceAt F l ((copyInto d l src sv).lay ((copyInto d l src sv).get l))

theorem src_fuel_ok {src : Doc} {Fs : Forest} {ls : Loc} (ws : WFG src Fs) (hls : isLoc Fs ls) :
    (layoutAt Fs ls).ids.length < src.fuel :=
  Nat.lt_of_le_of_lt (List.Nodup.length_le_of_subset (layoutAt_nodup ws.nodup hls)
    (fun x hx => layoutAt_ids_sub Fs ls x hx)) ws.fuel_ok

/-- DEEP COPY, success case. `d` is a well-formed document, `l` ANY reachable location of it (whatever it holds: the copy
    clears it first, as the API does), `src` ANY well-formed document (another one, or `d` itself) and `ls` a reachable
    location of `src` whose value has no object with a repeated key. If the result is not flagged `overflowed` (hence
    `d` was not, and no allocation failed), then the result is well-formed (cells and string table) for the layout that
    has a new layout at `l` (`copyLayout`), over the same geometry; the value at `l` is the copy of the source value; the
    abstract document is the old one with exactly the value at `l` replaced (`absWith`: every other location keeps its
    value; `Keep` says the same cell by cell); the slots of the new layout are fresh or recycled from the subtree that
    was cleared at `l` - none belongs to the rest of `d`, in particular none to the source when `src = d` and the source
    lies outside `l`; and every slot of `d` outside the cleared subtree is still live.
    `src` is an argument that is only read: it is a separate value and is not modified, by construction. -/
theorem copyInto_refines {d src : Doc} {F Fs : Forest} {l ls : Loc}
    (w : WFG d F) (hs : StrOK d (d.strRefs F)) (gok : PL.GeoOK d.g) (hl : isLoc F l)
    (ws : WFG src Fs) (hls : isLoc Fs ls) (hnd : NoDupKeys (src.toVal (src.get ls)))
    (hok : (copyInto d l src (src.get ls)).overflowed = false) :
    WFG (copyInto d l src (src.get ls)) (copyLayout d F l src (src.get ls)) ∧
    StrOK (copyInto d l src (src.get ls)) ((copyInto d l src (src.get ls)).strRefs (copyLayout d F l src (src.get ls))) ∧
    (copyInto d l src (src.get ls)).g = d.g ∧
    (copyInto d l src (src.get ls)).toVal ((copyInto d l src (src.get ls)).get l) = copyVal (src.toVal (src.get ls)) ∧
    abs (copyInto d l src (src.get ls)) = absWith d F l (copyVal (src.toVal (src.get ls))) ∧
    (∀ x ∈ ((copyInto d l src (src.get ls)).lay ((copyInto d l src (src.get ls)).get l)).ids,
      x ∈ F.ids → x ∈ (layoutAt F l).ids) ∧
    (∀ x ∈ F.ids, x ∉ (layoutAt F l).ids →
      PL.live (copyInto d l src (src.get ls)).g (copyInto d l src (src.get ls)).pl x) ∧
    Keep d (copyInto d l src (src.get ls)) F l ∧
    d.overflowed = false := by
  have c := copyInto_spec w hs gok hl (VOK_at ws hls) (src_fuel_ok ws hls) hnd
  refine ⟨c.wfg, c.str, c.g, c.complete hok, by rw [c.absEq, c.complete hok], c.recycled, c.live, c.keep, ?_⟩
  cases h : d.overflowed with
  | false => rfl
  | true => rw [c.sticky h] at hok; cases hok

/-- when the target location was already cleared (it holds null), every slot of the new layout is fresh: it is not a
    slot of the old document -/
theorem copyInto_fresh_of_null {d src : Doc} {F Fs : Forest} {l ls : Loc}
    (w : WFG d F) (hs : StrOK d (d.strRefs F)) (gok : PL.GeoOK d.g) (hl : isLoc F l) (hnull : d.get l = .null)
    (ws : WFG src Fs) (hls : isLoc Fs ls) (hnd : NoDupKeys (src.toVal (src.get ls))) :
    ∀ x ∈ ((copyInto d l src (src.get ls)).lay ((copyInto d l src (src.get ls)).get l)).ids, x ∉ F.ids := by
  intro x hx hxF
  have := (copyInto_spec w hs gok hl (VOK_at ws hls) (src_fuel_ok ws hls) hnd).recycled x hx hxF
  rw [layoutAt_nil_of_scalar w hl (by rw [hnull]; exact fun h => h)] at this
  cases this

/-- DEEP COPY, success case, for a source whose doubles are stored canonically (`DblCanon`: always the case for values
    stored by `setArg` or by a deserializer): the value at `l` IS the source value, `abs d' = absWith d F l (src.toVal sv)`. -/
theorem copyInto_exact {d src : Doc} {F Fs : Forest} {l ls : Loc}
    (w : WFG d F) (hs : StrOK d (d.strRefs F)) (gok : PL.GeoOK d.g) (hl : isLoc F l)
    (ws : WFG src Fs) (hls : isLoc Fs ls) (hnd : NoDupKeys (src.toVal (src.get ls)))
    (hcanon : DblCanon (src.toVal (src.get ls)))
    (hok : (copyInto d l src (src.get ls)).overflowed = false) :
    WFG (copyInto d l src (src.get ls)) (copyLayout d F l src (src.get ls)) ∧
    StrOK (copyInto d l src (src.get ls)) ((copyInto d l src (src.get ls)).strRefs (copyLayout d F l src (src.get ls))) ∧
    (copyInto d l src (src.get ls)).toVal ((copyInto d l src (src.get ls)).get l) = src.toVal (src.get ls) ∧
    abs (copyInto d l src (src.get ls)) = absWith d F l (src.toVal (src.get ls)) := by
  obtain ⟨a, b, _, c, e, _⟩ := copyInto_refines w hs gok hl ws hls hnd hok
  rw [copyVal_of_canon _ hcanon] at c e
  exact ⟨a, b, c, e⟩

/-- The source document is not modified: it is an argument of the copy, not part of its result (by construction of the
    model: a document is a value). -/
theorem copyInto_source_untouched (d : Doc) (l : Loc) (src : Doc) (sv : VData) :
    (fun (_ : Doc) => src) (copyInto d l src sv) = src := rfl

/-- FRAME for the copy (success or not): every other reachable location `l'` that lies outside the subtree cleared at `l`
    and whose own subtree contains neither `l` nor anything of that subtree holds the same cell content and designates
    exactly the same value afterwards. -/
theorem copyInto_frame {d src : Doc} {F Fs : Forest} {l ls l' : Loc}
    (w : WFG d F) (hs : StrOK d (d.strRefs F)) (gok : PL.GeoOK d.g) (hl : isLoc F l)
    (ws : WFG src Fs) (hls : isLoc Fs ls) (hnd : NoDupKeys (src.toVal (src.get ls)))
    (hl' : isLoc F l') (hne : l' ≠ l) (hout : ∀ j, l' = .slot j → j ∉ (layoutAt F l).ids)
    (hdisj : ∀ x ∈ (layoutAt F l').ids, x ∉ (layoutAt F l).ids ∧ Loc.slot x ≠ l) :
    (copyInto d l src (src.get ls)).get l' = d.get l' ∧
    (copyInto d l src (src.get ls)).toVal ((copyInto d l src (src.get ls)).get l') = d.toVal (d.get l') :=
  (copyInto_spec w hs gok hl (VOK_at ws hls) (src_fuel_ok ws hls) hnd).keep.toVal w hl' hne hout hdisj

/-- SAME DOCUMENT: `d[l].set(d[ls])`. The model reads the source from the original `d` throughout (a snapshot taken before
    the target is cleared), so this is `copyInto_refines` with `src := d`: NO non-overlap hypothesis is needed for the
    value written at `l` (the source may even lie inside the subtree that the copy clears at `l`, or be `l` itself). If
    the source location lies outside what the copy touches, it still designates its value afterwards: in the result,
    `l` and `ls` designate equal values laid out over disjoint slots. -/
theorem copyInto_same_doc {d : Doc} {F : Forest} {l ls : Loc}
    (w : WFG d F) (hs : StrOK d (d.strRefs F)) (gok : PL.GeoOK d.g) (hl : isLoc F l)
    (hls : isLoc F ls) (hnd : NoDupKeys (d.toVal (d.get ls)))
    (hok : (copyInto d l d (d.get ls)).overflowed = false) :
    WFG (copyInto d l d (d.get ls)) (copyLayout d F l d (d.get ls)) ∧
    StrOK (copyInto d l d (d.get ls)) ((copyInto d l d (d.get ls)).strRefs (copyLayout d F l d (d.get ls))) ∧
    (copyInto d l d (d.get ls)).toVal ((copyInto d l d (d.get ls)).get l) = copyVal (d.toVal (d.get ls)) ∧
    abs (copyInto d l d (d.get ls)) = absWith d F l (copyVal (d.toVal (d.get ls))) ∧
    (ls ≠ l → (∀ j, ls = .slot j → j ∉ (layoutAt F l).ids) →
      (∀ x ∈ (layoutAt F ls).ids, x ∉ (layoutAt F l).ids ∧ Loc.slot x ≠ l) →
      (copyInto d l d (d.get ls)).toVal ((copyInto d l d (d.get ls)).get ls) = d.toVal (d.get ls) ∧
      ∀ x ∈ ((copyInto d l d (d.get ls)).lay ((copyInto d l d (d.get ls)).get l)).ids, x ∉ (layoutAt F ls).ids) := by
  obtain ⟨a, b, _, c, e, f, _⟩ := copyInto_refines w hs gok hl w hls hnd hok
  refine ⟨a, b, c, e, fun hne hout hdisj => ⟨(copyInto_frame w hs gok hl w hls hnd hls hne hout hdisj).2, ?_⟩⟩
  intro x hx m
  exact (hdisj x m).1 (f x hx (layoutAt_ids_sub F ls x m))

/-! ## History machine with `copy` -/

/-- the operations of `C04.Op`, plus the deep copy inside the document and from another document -/
inductive OpC
  | base (op : Op)
  | copy (l ls : Loc)                                   -- `d[l].set(d[ls])`
  | copyFrom (l : Loc) (src : Doc) (Fs : Forest) (ls : Loc)   -- `d[l].set(src[ls])`

def OpC.run (d : Doc) : OpC → Doc
  | .base op => op.run d
  | .copy l ls => copyInto d l d (d.get ls)
  | .copyFrom l src _ ls => copyInto d l src (src.get ls)

/-- source value and source document of a copy operation -/
def OpC.Valid (d : Doc) (F : Forest) : OpC → Prop
  | .base op => op.Valid d F
  | .copy l ls => isLoc F l ∧ isLoc F ls ∧ NoDupKeys (d.toVal (d.get ls))
  | .copyFrom l src Fs ls =>
    isLoc F l ∧ WFG src Fs ∧ isLoc Fs ls ∧ NoDupKeys (src.toVal (src.get ls))

def OpC.layout (d : Doc) (F : Forest) : OpC → Forest
  | .base op => op.layout d F
  | .copy l ls => copyLayout d F l d (d.get ls)
  | .copyFrom l src _ ls => copyLayout d F l src (src.get ls)

/-- the value a copy leaves at its target: the complete copy unless the result is flagged `overflowed`; then what is
    there (a `PartialCopy` of it, `C05.copy_fail_safe`) -/
def copyOutcome (d' : Doc) (l : Loc) (full : Val) : Val :=
  if d'.overflowed then d'.toVal (d'.get l) else full

/-- the list-level machine -/
def OpC.spec (d : Doc) (F : Forest) : OpC → Val
  | .base op => op.spec d F
  | .copy l ls => absWith d F l (copyOutcome (copyInto d l d (d.get ls)) l (copyVal (d.toVal (d.get ls))))
  | .copyFrom l src _ ls =>
    absWith d F l (copyOutcome (copyInto d l src (src.get ls)) l (copyVal (src.toVal (src.get ls))))

theorem copy_step {d src : Doc} {F Fs : Forest} {l ls : Loc}
    (w : WFG d F) (hs : StrOK d (d.strRefs F)) (gok : PL.GeoOK d.g) (hl : isLoc F l)
    (ws : WFG src Fs) (hls : isLoc Fs ls) (hnd : NoDupKeys (src.toVal (src.get ls))) :
    WFG (copyInto d l src (src.get ls)) (copyLayout d F l src (src.get ls)) ∧
    StrOK (copyInto d l src (src.get ls)) ((copyInto d l src (src.get ls)).strRefs (copyLayout d F l src (src.get ls))) ∧
    (copyInto d l src (src.get ls)).g = d.g ∧
    abs (copyInto d l src (src.get ls)) =
      absWith d F l (copyOutcome (copyInto d l src (src.get ls)) l (copyVal (src.toVal (src.get ls)))) := by
  have c := copyInto_spec w hs gok hl (VOK_at ws hls) (src_fuel_ok ws hls) hnd
  refine ⟨c.wfg, c.str, c.g, ?_⟩
  rw [c.absEq, copyOutcome]
  cases h : (copyInto d l src (src.get ls)).overflowed with
  | true => rfl
  | false => simp only [Bool.false_eq_true, if_false, c.complete h]

/-- one step: the invariant is kept, the geometry is kept, and the abstraction follows the list-level machine -/
theorem stepC_refines {d : Doc} {F : Forest} {op : OpC} (w : WFG d F) (hs : StrOK d (d.strRefs F))
    (gok : PL.GeoOK d.g) (hv : op.Valid d F) :
    WFG (op.run d) (op.layout d F) ∧ StrOK (op.run d) ((op.run d).strRefs (op.layout d F)) ∧
    (op.run d).g = d.g ∧ abs (op.run d) = op.spec d F := by
  cases op with
  | base op => exact step_refines w hs gok hv
  | copy l ls =>
    obtain ⟨hl, hls, hnd⟩ := hv
    exact copy_step w hs gok hl w hls hnd
  | copyFrom l src Fs ls =>
    obtain ⟨hl, ws, hls, hnd⟩ := hv
    exact copy_step w hs gok hl ws hls hnd

/-- `HistC d F d' F'`: `d'` (laid out as `F'`) is reached from `d` (laid out as `F`) by a sequence of valid operations -/
inductive HistC : Doc → Forest → Doc → Forest → Prop
  | nil (d : Doc) (F : Forest) : HistC d F d F
  | cons {d : Doc} {F : Forest} {d' : Doc} {F' : Forest} (op : OpC) :
      op.Valid d F → HistC (op.run d) (op.layout d F) d' F' → HistC d F d' F'

/-- what every valid operation keeps holds at the end of every history -/
theorem HistC.keeps {P : Doc → Forest → Prop} {d d' : Doc} {F F' : Forest} (h : HistC d F d' F')
    (step : ∀ d F (op : OpC), P d F → op.Valid d F → P (op.run d) (op.layout d F)) : P d F → P d' F' := by
  induction h with
  | nil => exact id
  | cons op hv _ ih => exact fun h0 => ih (step _ _ op h0 hv)

/-- Every history of valid operations (including deep copies, whether or not their allocations succeed) from a
    well-formed document ends in a well-formed document over the same geometry. -/
theorem historyC_refines {d d' : Doc} {F F' : Forest} (h : HistC d F d' F') :
    WFG d F → StrOK d (d.strRefs F) → PL.GeoOK d.g →
    WFG d' F' ∧ StrOK d' (d'.strRefs F') ∧ d'.g = d.g := by
  intro w hs gok
  refine h.keeps (P := fun d1 F1 => WFG d1 F1 ∧ StrOK d1 (d1.strRefs F1) ∧ d1.g = d.g) ?_ ⟨w, hs, rfl⟩
  intro d1 F1 op ⟨w1, s1, g1⟩ hv
  obtain ⟨a, b, c, _⟩ := stepC_refines w1 s1 (by rw [g1]; exact gok) hv
  exact ⟨a, b, c.trans g1⟩

/-- the abstract trace of a history: the successive abstract documents are those of the list-level machine -/
theorem historyC_trace {d d' : Doc} {F F' : Forest} (h : HistC d F d' F') :
    WFG d F → StrOK d (d.strRefs F) → PL.GeoOK d.g →
    ∀ (op : OpC), op.Valid d' F' → abs (op.run d') = op.spec d' F' := by
  intro w hs gok op hv
  obtain ⟨a, b, c⟩ := historyC_refines h w hs gok
  exact (stepC_refines a b (by rw [c]; exact gok) hv).2.2.2

end C04

/-! ## Non-vacuity -/
namespace C04.ExC
open DL C04.Ex
open JD (Byte Val)

deriving instance DecidableEq for Forest

/-- an empty document (root null, nothing allocated) -/
def z0 : Doc := { g := g0, alloc := 1, pl := PL.init g0 }

theorem wz0 : WFG z0 .nil := wfg_nil_of_null_root rfl (PL.init_inv gok [])
theorem sz0 : StrOK z0 (z0.strRefs .nil) := strOK_nil_of_no_strings rfl

theorem e4_val : e4.toVal (e4.get .root) = .arr [.str hi] := valEq_sound _ _ (by decide +kernel)
theorem e4_nodup : NoDupKeys (e4.toVal (e4.get .root)) := by
  rw [e4_val]; simp [NoDupKeys, NoDupKeysL]

/-- the document `["hi"]` (copied string) copied from the document `e4` into the root of the empty document `z0` -/
def cA : Doc := copyInto z0 .root e4 (e4.get .root)

/-- `copyInto_refines` and `copyInto_exact` apply (two distinct documents; an array holding a copied string): the result
    is well-formed, its layout is one fresh slot, and it is the document `["hi"]` -/
example : WFG cA (.cons none 0 .nil .nil) ∧ abs cA = .arr [.str hi] ∧ cA.toVal (cA.get .root) = e4.toVal (e4.get .root) := by
  have h := copyInto_refines (l := .root) (ls := .root) wz0 sz0 gok trivial w4 trivial e4_nodup (by decide +kernel)
  have hx := copyInto_exact (l := .root) (ls := .root) wz0 sz0 gok trivial w4 trivial e4_nodup
    (by rw [e4_val]; simp [DblCanon, DblCanonL]) (by decide +kernel)
  have hl : copyLayout z0 .nil .root e4 (e4.get .root) = .cons none 0 .nil .nil := by decide +kernel
  rw [hl] at h
  exact ⟨h.1, by show abs (copyInto z0 .root e4 (e4.get .root)) = _; rw [hx.2.2.2, e4_val]; rfl, hx.2.2.1⟩

/-- a history with a copy from another document: `root.set(e4.root)` on the empty document, then `root.clear()`; both
    steps are valid, the final document is well-formed (`historyC_refines`) -/
example : ∃ d' F', HistC z0 .nil d' F' ∧ WFG d' F' ∧ StrOK d' (d'.strRefs F') := by
  have h : HistC z0 .nil _ _ :=
    HistC.cons (.copyFrom .root e4 F3 .root) ⟨trivial, w4, trivial, e4_nodup⟩
      (HistC.cons (.base (.clear .root)) trivial (HistC.nil _ _))
  exact ⟨_, _, h, (historyC_refines h wz0 sz0 gok).1, (historyC_refines h wz0 sz0 gok).2.1⟩

/-- `stepC_refines` on the copy step: the abstract document becomes `["hi"]` -/
example : abs (OpC.run z0 (.copyFrom .root e4 F3 .root)) = .arr [.str hi] := by
  have h := (stepC_refines (op := .copyFrom .root e4 F3 .root) wz0 sz0 gok ⟨trivial, w4, trivial, e4_nodup⟩).2.2.2
  rw [h]
  exact valEq_sound _ _ (by decide +kernel)

/-! A document with TWO slots, `[true, null]`, built with `addElement` and `setArg`; its facts are derived from the refinement
    theorems (the kernel cannot evaluate `Std.HashMap` lookups of keys other than 0: `USize` arithmetic is opaque). -/

/-- `e3 = [null]` after a second `add()`: `[null, null]`, slots 0 and 1 -/
def e5 : Doc := (e3.addElement .root).2
def F5 : Forest := .cons none 0 .nil (.cons none 1 .nil .nil)
def d5 : Doc := e3.allocVariant.2

theorem al5 : e3.allocVariant = (some 1, d5) := Prod.ext (by decide +kernel) rfl
theorem e5_eq : e5 = d5.appendOne .root 1 := by
  have := (addElement_refines (l := .root) (h := 0) (t := 0) w3.1 s3 gok trivial (by decide +kernel) al5).1
  simp only [e5, this]
theorem w5 : WFG e5 F5 ∧ StrOK e5 (e5.strRefs F5) := by
  obtain ⟨_, a, b, _⟩ := addElement_refines (l := .root) (h := 0) (t := 0) w3.1 s3 gok trivial (by decide +kernel) al5
  exact ⟨a, b⟩
theorem d5_root : d5.get .root = .arr 0 0 := by decide +kernel
theorem e5_cells : e5.get (.slot 0) = .null ∧ e5.get (.slot 1) = .null ∧ e5.overflowed = false ∧
    ∃ h t, e5.get .root = .arr h t := by
  obtain ⟨hg, hov, hc1, hco, _, _, _⟩ := allocVariant_some gok w3.1.pool al5
  obtain ⟨_, _, _, _, hget, hco', hct, _, _⟩ := appendOne_cells (id := 1) d5_root (by intro h; cases h)
  have hv0 : d5.isVar 0 := by
    have : d5.cell 0 = e3.cell 0 := hco 0 (by decide)
    exact isVar_congr this (by simp only [Doc.null, hg.g]) (w3.1.isVar 0 (by simp [Forest.ids, Forest.keyL]))
  have h0 : d5.get (.slot 0) = .null := by
    rw [get_of_cell (hco 0 (by decide))]; decide +kernel
  rw [e5_eq]
  refine ⟨?_, ?_, ?_, _, _, hget⟩
  · rw [get_of_var (hct (by decide +kernel) hv0)]; exact h0
  · rw [get_of_cell (hco' 1 (by intro h; cases h) (fun _ => by decide))]; exact get_of_var hc1
  · rw [appendOne_get d5_root]
    split
    · rw [set_overflowed, setNext_overflowed, hov]; decide +kernel
    · rw [set_overflowed, hov]; decide +kernel

/-- `[true, null]` -/
def e6 : Doc := (e5.setArg (.slot 0) (.bool true)).2
theorem loc5_0 : isLoc F5 (.slot 0) := by simp [isLoc, F5, Forest.locs]
theorem loc5_1 : isLoc F5 (.slot 1) := by simp [isLoc, F5, Forest.locs]
theorem g5 : e5.g = e3.g := by rw [e5_eq, appendOne_g]; exact allocVariant_g e3
theorem gok5 : PL.GeoOK e5.g := by rw [g5]; exact gok
theorem w6 : WFG e6 F5 ∧ StrOK e6 (e6.strRefs F5) := by
  obtain ⟨a, b, _⟩ := set_scalar_wf (a := .bool true) w5.1 w5.2 loc5_0 e5_cells.1 gok5 rfl
  exact ⟨a, b⟩
theorem e6_cells : e6.get (.slot 0) = .bool true ∧ e6.get (.slot 1) = .null ∧ e6.overflowed = false := by
  refine ⟨?_, ?_, ?_⟩
  · show (e5.set (.slot 0) (.bool true)).get (.slot 0) = .bool true
    exact get_set_self _ _ _
  · show (e5.set (.slot 0) (.bool true)).get (.slot 1) = .null
    rw [get_set_ne (by intro h; cases h)]; exact e5_cells.2.1
  · show (e5.set (.slot 0) (.bool true)).overflowed = false
    rw [set_overflowed]; exact e5_cells.2.2.1
theorem gok6 : PL.GeoOK e6.g := by
  rw [show e6.g = e5.g from set_g _ _ _]; exact gok5

theorem lay5_0 : layoutAt F5 (.slot 0) = .nil := by decide +kernel
theorem lay5_1 : layoutAt F5 (.slot 1) = .nil := by decide +kernel

/-- `copyInto_same_doc` applies: in `[true, null]`, `d[1].set(d[0])`. All hypotheses hold, the result is not flagged, element 1
    now holds `true`, element 0 (the source) still does, and the layout did not change (a scalar needs no slot). -/
example : WFG (copyInto e6 (.slot 1) e6 (e6.get (.slot 0))) F5 ∧
    (copyInto e6 (.slot 1) e6 (e6.get (.slot 0))).toVal ((copyInto e6 (.slot 1) e6 (e6.get (.slot 0))).get (.slot 1)) = .bool true ∧
    (copyInto e6 (.slot 1) e6 (e6.get (.slot 0))).toVal ((copyInto e6 (.slot 1) e6 (e6.get (.slot 0))).get (.slot 0)) = .bool true ∧
    abs (copyInto e6 (.slot 1) e6 (e6.get (.slot 0))) = absWith e6 F5 (.slot 1) (.bool true) := by
  have hsv : e6.get (.slot 0) = .bool true := e6_cells.1
  have hval : e6.toVal (e6.get (.slot 0)) = .bool true := by rw [hsv]; rfl
  have hrun : copyInto e6 (.slot 1) e6 (.bool true) = (e6.clearV (.slot 1)).set (.slot 1) (.bool true) := rfl
  have hok : (copyInto e6 (.slot 1) e6 (e6.get (.slot 0))).overflowed = false := by
    rw [hsv, hrun, set_overflowed, clearV_overflowed]; exact e6_cells.2.2
  obtain ⟨a, _, c, e, f⟩ := copyInto_same_doc (l := .slot 1) (ls := .slot 0) w6.1 w6.2 gok6 loc5_1 loc5_0
    (by rw [hval]; trivial) hok
  have hlay : copyLayout e6 F5 (.slot 1) e6 (e6.get (.slot 0)) = F5 := by
    have hg : (copyInto e6 (.slot 1) e6 (e6.get (.slot 0))).get (.slot 1) = .bool true := by
      rw [hsv, hrun]; exact get_set_self _ _ _
    simp only [copyLayout, hg]
    rfl
  rw [hlay] at a
  rw [hval] at c e f
  refine ⟨a, c, ?_, e⟩
  exact (f (by intro h; cases h) (fun j hj => by rw [lay5_1]; exact fun h => by cases h)
    (fun x hx => by rw [lay5_0] at hx; cases hx)).1

/-- `copyInto_frame` applies to the same two-slot document with ANOTHER document as source (`["hi"]` copied into
    element 1 of `[true, null]`, whether or not its allocations succeed): element 0 is untouched -/
example : (copyInto e6 (.slot 1) e4 (e4.get .root)).toVal ((copyInto e6 (.slot 1) e4 (e4.get .root)).get (.slot 0)) =
    .bool true := by
  have h := (copyInto_frame (l := .slot 1) (ls := .root) (l' := .slot 0) w6.1 w6.2 gok6 loc5_1 w4 trivial
    e4_nodup loc5_0 (by intro h; cases h) (fun j hj => by rw [lay5_1]; exact fun h => by cases h)
    (fun x hx => by rw [lay5_0] at hx; cases hx)).2
  rw [h, e6_cells.1]; rfl

/-- `copyInto_same_doc` applies with OVERLAP: `d[0].set(d[0])` on `[true, null]` (source = target: the model clears the
    target, then copies from the snapshot of the source): element 0 still holds `true` -/
example : (copyInto e6 (.slot 0) e6 (e6.get (.slot 0))).toVal ((copyInto e6 (.slot 0) e6 (e6.get (.slot 0))).get (.slot 0)) =
    .bool true := by
  have hsv : e6.get (.slot 0) = .bool true := e6_cells.1
  have hval : e6.toVal (e6.get (.slot 0)) = .bool true := by rw [hsv]; rfl
  have hrun : copyInto e6 (.slot 0) e6 (.bool true) = (e6.clearV (.slot 0)).set (.slot 0) (.bool true) := rfl
  have hok : (copyInto e6 (.slot 0) e6 (e6.get (.slot 0))).overflowed = false := by
    rw [hsv, hrun, set_overflowed, clearV_overflowed]; exact e6_cells.2.2
  obtain ⟨_, _, c, _⟩ := copyInto_same_doc (l := .slot 0) (ls := .slot 0) w6.1 w6.2 gok6 loc5_0 loc5_0
    (by rw [hval]; trivial) hok
  rw [c, hval]; rfl

/-- `copyInto_same_doc` applies with TOTAL OVERLAP on a collection: `root.set(root)` on `["hi"]`. The model clears the root
    (slot 0 and the string node are released), then rebuilds it from the snapshot of the source: the document is again
    `["hi"]`, over the recycled slot 0, well-formed -/
example : WFG (copyInto e4 .root e4 (e4.get .root)) (.cons none 0 .nil .nil) ∧
    abs (copyInto e4 .root e4 (e4.get .root)) = .arr [.str hi] := by
  obtain ⟨a, _, _, e, _⟩ := copyInto_same_doc (l := .root) (ls := .root) w4 s4 gok trivial trivial e4_nodup
    (by decide +kernel)
  have hl : copyLayout e4 F3 .root e4 (e4.get .root) = .cons none 0 .nil .nil := by decide +kernel
  rw [hl] at a
  exact ⟨a, by rw [e, e4_val]; rfl⟩

/-- `copyInto_refines` applies to a target that holds a value: `["hi"]` is overwritten by a copy of `[null]` (document `e3`);
    the old element slot is recycled -/
example : abs (copyInto e4 .root e3 (e3.get .root)) = .arr [.null] := by
  have hv3 : e3.toVal (e3.get .root) = .arr [.null] := valEq_sound _ _ (by decide +kernel)
  obtain ⟨_, _, _, _, e, _⟩ := copyInto_refines (l := .root) (ls := .root) w4 s4 gok trivial w3.1 trivial
    (by rw [hv3]; simp [NoDupKeys, NoDupKeysL]) (by decide +kernel)
  rw [e, hv3]; rfl

/-! Why `copyVal` and not the identity: a document (reachable only by writing the representation directly, never through
    `setArg`) whose root is the double 1.0 stored in an 8-byte extension slot. It is well-formed; its copy stores the
    float 1.0. -/
def one64 : Nat := 0x3FF0000000000000
def q0 : Doc := (z0.allocExt one64).2.set .root (.f64 0)
theorem alq : PL.allocSlot z0.g z0.pl = (some 0, q0.pl) := by decide +kernel
theorem wq0 : WFG q0 .nil := by
  obtain ⟨_, _, hlv, hinv⟩ := PL.allocSlot_some gok wz0.pool alq
  refine ⟨rfl, List.nodup_nil, fun i hi => (by cases hi), hinv, fun i hi => (by cases hi), ?_⟩
  intro l hl e he
  rcases mem_holders.1 hl with h | ⟨j, hj, _⟩
  · subst h
    have he0 : e = 0 := by simpa [extOfV, Doc.get, q0, Doc.set] using he
    subst he0
    refine ⟨⟨one64, by decide +kernel⟩, (hlv 0).2 (Or.inr rfl), ?_⟩
    intro l' hl' _
    rcases mem_holders.1 hl' with h' | ⟨j, hj, _⟩
    · exact h'
    · cases hj
  · cases hj
theorem q0_val : q0.toVal (q0.get .root) = .num (.f64 one64) := valEq_sound _ _ (by decide +kernel)
example : q0.toVal (q0.get .root) = .num (.f64 one64) := q0_val
/-- the copy is well-formed, not flagged, and holds the float `0x3F800000`: `copyVal (1.0 : double) = (1.0 : float)` -/
example : (copyInto z0 .root q0 (q0.get .root)).toVal ((copyInto z0 .root q0 (q0.get .root)).get .root) =
    .num (.f32 0x3F800000) := by
  obtain ⟨_, _, _, c, _⟩ := copyInto_refines (l := .root) (ls := .root) wz0 sz0 gok trivial wq0 trivial
    (by rw [q0_val]; trivial)
    (by decide +kernel)
  rw [c]
  exact valEq_sound _ _ (by decide +kernel)

end C04.ExC
