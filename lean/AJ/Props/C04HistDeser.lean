/- C04, DESERIALIZATION INTO A VALUE inside the history refinement.

   `JDD.runAt cfg limit d l input` / `MDD.runAt env limit d l input` model `deserializeJson(doc[l], input)` /
   `deserializeMsgPack(doc[l], input)`: the destination `l` (the root, an array element, a member value - whatever it
   holds) is cleared, the input is parsed into it, the rest of the document is not touched, the pools are not shrunk.

   1. `C04.deser_into_value_refines`, `C04.mp_deser_into_value_refines`: into a well-formed document, for every input,
      nesting limit and configuration: the result is well formed (explicit layout `deserLayout`); if nothing overflowed
      then the code, the number of bytes consumed and the VALUE left at `l` - complete or partial, for every code - are
      those of the value-level deserializer `JD.run` / `MD.run … .all`, and the abstract document is the old one with
      exactly the value at `l` replaced: `abs d' = absWith d F l v0`. (`JDD.sim_all` / `MDD.mpsim_all` at the inner
      location `l` after `clearV l`, instead of the root after `clearAll`.)
   2. the abstract tree machine `DL.AOpD` (AJ/Lemmas/HistDeser.lean) = `DL.AOp` + `deserJ p cfg limit input`,
      `deserM p env limit input` (the value at path `p` becomes the value-level result) + `copy p q`, `copyFrom p v`;
      the concrete operations `C04.OpD` = `Op2` + `deserJ l …`, `deserM l …`, `copy l ls`, `copyFrom l src Fs ls`;
      `C04.historyD_refines` (the invariant along ANY history, whatever the inputs, codes and allocation failures),
      `C04.historyD_simulates_tree` (`abs d' = ARunD (abs d) as` when nothing overflowed),
      `C04.historyD_simulates_tree_of_flag` (the same read off the overflow flag at the END of the history).
   3. `C04.deser_changes_only_target`, `C04.mutationD_changes_only_target`: a location whose path parts ways with the
      path of the target keeps its path and its value - for every input, code and allocation failure schedule.
   Helper lemmas: AJ/Lemmas/HistDeser.lean. -/
import AJ.Lemmas.HistDeser
namespace C04
open DL
open JD (Byte Val Code)

/-! ## 1. Deserialization into a value refines the value-level deserializer -/

/-- **`deserializeJson(doc[l], input)` refines `JD.run`.** `d` well formed, `l` ANY location of it, string limit at
    least the initial StringBuilder capacity. With `(c, d', n) := JDD.runAt cfg limit d l input` and
    `(c0, v0, n0) := JD.run cfg limit input`:
    * unconditionally `d'` is well formed, for the explicit layout `deserLayout d' F l`, over the same geometry;
    * if nothing overflowed (`d'.overflowed = false`; then `d.overflowed = false` too): `c = c0`, `n = n0`, the value at
      `l` IS `v0` - for every code, the partial value left by a syntax error included - and the abstract document is the
      old one with exactly the value at `l` replaced by `v0`;
    * if `d` was not flagged: the code and the consumption are the value-level ones, unless the answer is `NoMemory`
      with the flag raised. -/
theorem deser_into_value_refines (cfg : JD.Cfg) (limit : Nat) (d : Doc) (F : Forest) (l : Loc) (input : List Byte)
    (w : WFG d F) (hs : StrOK d (d.strRefs F)) (hl : isLoc F l) (gok : PL.GeoOK d.g) (h31 : 31 ≤ cfg.maxStrLen) :
    WF (JDD.runAt cfg limit d l input).2.1 ∧
    WFG (JDD.runAt cfg limit d l input).2.1 (deserLayout (JDD.runAt cfg limit d l input).2.1 F l) ∧
    StrOK (JDD.runAt cfg limit d l input).2.1
      ((JDD.runAt cfg limit d l input).2.1.strRefs (deserLayout (JDD.runAt cfg limit d l input).2.1 F l)) ∧
    (JDD.runAt cfg limit d l input).2.1.g = d.g ∧
    ((JDD.runAt cfg limit d l input).2.1.overflowed = false →
      d.overflowed = false ∧
      (JDD.runAt cfg limit d l input).1 = (JD.run cfg limit input).1 ∧
      (JDD.runAt cfg limit d l input).2.2 = (JD.run cfg limit input).2.2 ∧
      (JDD.runAt cfg limit d l input).2.1.toVal ((JDD.runAt cfg limit d l input).2.1.get l) = (JD.run cfg limit input).2.1 ∧
      abs (JDD.runAt cfg limit d l input).2.1 = absWith d F l (JD.run cfg limit input).2.1) ∧
    (d.overflowed = false →
      ((JDD.runAt cfg limit d l input).1 = (JD.run cfg limit input).1 ∧
        (JDD.runAt cfg limit d l input).2.2 = (JD.run cfg limit input).2.2) ∨
      ((JDD.runAt cfg limit d l input).1 = .noMemory ∧ (JDD.runAt cfg limit d l input).2.1.overflowed = true)) := by
  have S := runAt_step cfg limit d F l input w hs hl gok
  have hst := (deser_into_value cfg limit d F l input w hs hl gok).2.2.2.1
  refine ⟨⟨_, S.wf, S.str⟩, S.wf, S.str, S.into.g, fun hno => ?_, fun h0 => ?_⟩
  · have h0 := flag_was_down hst hno
    rcases runAt_core cfg limit d F l input w hs hl gok h31 h0 with ⟨_, a, b, e⟩ | ⟨o, _⟩
    · exact ⟨h0, a, b, e, by rw [S.into.abs, e]⟩
    · rw [o] at hno; cases hno
  · rcases runAt_core cfg limit d F l input w hs hl gok h31 h0 with ⟨_, a, b, _⟩ | ⟨o, _, e⟩
    · exact Or.inl ⟨a, b⟩
    · rcases e with e | e
      · exact Or.inr ⟨e, o⟩
      · exact Or.inl e

/-- **`deserializeMsgPack(doc[l], input)` refines `MD.run … .all`** (no hypothesis on the string limit). Sharper than
    for JSON: into a document that was not flagged, the flag is raised exactly when the answer is `NoMemory`, and any
    other answer comes with the value-level code, consumption and value. -/
theorem mp_deser_into_value_refines (env : MD.Env) (limit : Nat) (d : Doc) (F : Forest) (l : Loc) (input : List Byte)
    (w : WFG d F) (hs : StrOK d (d.strRefs F)) (hl : isLoc F l) (gok : PL.GeoOK d.g) :
    WF (MDD.runAt env limit d l input).2.1 ∧
    WFG (MDD.runAt env limit d l input).2.1 (deserLayout (MDD.runAt env limit d l input).2.1 F l) ∧
    StrOK (MDD.runAt env limit d l input).2.1
      ((MDD.runAt env limit d l input).2.1.strRefs (deserLayout (MDD.runAt env limit d l input).2.1 F l)) ∧
    (MDD.runAt env limit d l input).2.1.g = d.g ∧
    ((MDD.runAt env limit d l input).2.1.overflowed = false →
      d.overflowed = false ∧
      (MDD.runAt env limit d l input).1 = (MD.run env limit .all input).1 ∧
      (MDD.runAt env limit d l input).2.2 = (MD.run env limit .all input).2.2 ∧
      (MDD.runAt env limit d l input).2.1.toVal ((MDD.runAt env limit d l input).2.1.get l) =
        (MD.run env limit .all input).2.1 ∧
      abs (MDD.runAt env limit d l input).2.1 = absWith d F l (MD.run env limit .all input).2.1) ∧
    (d.overflowed = false →
      ((MDD.runAt env limit d l input).1 = .noMemory ↔ (MDD.runAt env limit d l input).2.1.overflowed = true) ∧
      (((MDD.runAt env limit d l input).1 = (MD.run env limit .all input).1 ∧
        (MDD.runAt env limit d l input).2.2 = (MD.run env limit .all input).2.2) ∨
       ((MDD.runAt env limit d l input).1 = .noMemory ∧ (MDD.runAt env limit d l input).2.1.overflowed = true))) := by
  have S := mp_runAt_step env limit d F l input w hs hl gok
  have hst := (mp_deser_into_value env limit d F l input w hs hl gok).2.2.2.1
  refine ⟨⟨_, S.wf, S.str⟩, S.wf, S.str, S.into.g, fun hno => ?_, fun h0 => ?_⟩
  · have h0 := flag_was_down hst hno
    rcases mp_runAt_core env limit d F l input w hs hl gok h0 with ⟨_, a, _, b, e⟩ | ⟨o, _⟩
    · exact ⟨h0, a, b, e, by rw [S.into.abs, e]⟩
    · rw [o] at hno; cases hno
  · rcases mp_runAt_core env limit d F l input w hs hl gok h0 with ⟨o, a, ne, b, _⟩ | ⟨o, e⟩
    · exact ⟨⟨fun h => absurd h ne, fun h => by rw [o] at h; cases h⟩, Or.inl ⟨a, b⟩⟩
    · exact ⟨⟨fun _ => o, fun _ => e⟩, Or.inr ⟨e, o⟩⟩

/-! ## 2. Histories -/

/-- **The invariant along ANY history** of `add`, `clear`, `put`, `remove`, `object[key]`, deep copies and
    deserializations into values - whatever the inputs, the codes answered and the allocation failures: the final
    document is well formed (cells and string table) over the same geometry. -/
theorem historyD_refines {d d' : Doc} {F F' : Forest} {as : List AOpD} (h : HistDW d F as d' F') :
    WFG d F → StrOK d (d.strRefs F) → PL.GeoOK d.g →
    WFG d' F' ∧ StrOK d' (d'.strRefs F') ∧ d'.g = d.g := by
  induction h with
  | nil d F => intro w hs _; exact ⟨w, hs, rfl⟩
  | cons op hv _ ih =>
    intro w hs gok
    obtain ⟨a, b, c, _⟩ := stepD_refines w hs gok hv
    obtain ⟨x, y, z⟩ := ih a b (by rw [c]; exact gok)
    exact ⟨x, y, by rw [z, c]⟩

/-- **Refinement to the ordered tree, whole histories with deserializations and copies.** Every history of valid
    operations in which nothing overflowed, from a well-formed document, computes on the abstract document exactly what
    the plain ordered tree computes: `abs d' = ARunD (abs d) as`, where a deserialization into `l` stands for "the value
    at the path of `l` becomes the result of the value-level deserializer on that input". -/
theorem historyD_simulates_tree {d d' : Doc} {F F' : Forest} {as : List AOpD} (h : HistD d F as d' F') :
    WFG d F → StrOK d (d.strRefs F) → PL.GeoOK d.g → abs d' = ARunD (abs d) as := by
  induction h with
  | nil d F => intros; rfl
  | cons op hv hok _ ih =>
    intro w hs gok
    obtain ⟨a, b, c, _⟩ := stepD_refines w hs gok hv
    rw [ARunD_cons, ← stepD_simulates w hs gok hv hok]
    exact ih a b (by rw [c]; exact gok)

/-- the same with the invariant at the end -/
theorem historyD_simulates_tree_wf {d d' : Doc} {F F' : Forest} {as : List AOpD} (h : HistD d F as d' F')
    (w : WFG d F) (hs : StrOK d (d.strRefs F)) (gok : PL.GeoOK d.g) :
    WFG d' F' ∧ StrOK d' (d'.strRefs F') ∧ d'.g = d.g ∧ abs d' = ARunD (abs d) as :=
  ⟨(historyD_refines h.weak w hs gok).1, (historyD_refines h.weak w hs gok).2.1, (historyD_refines h.weak w hs gok).2.2,
    historyD_simulates_tree h w hs gok⟩

/-- a history that ends with the overflow flag down (and whose JSON configurations are real ones) is a history in which
    nothing overflowed: the flag is sticky through every operation, deserializations and copies included -/
theorem HistDW.toHistD {d d' : Doc} {F F' : Forest} {as : List AOpD} (h : HistDW d F as d' F') :
    WFG d F → StrOK d (d.strRefs F) → PL.GeoOK d.g → (∀ a ∈ as, a.CfgOK) → d'.overflowed = false →
    d.overflowed = false ∧ HistD d F as d' F' := by
  induction h with
  | nil d F => intro _ _ _ _ hov; exact ⟨hov, HistD.nil d F⟩
  | cons op hv _ ih =>
    intro w hs gok hc hov
    obtain ⟨a, b, c, _⟩ := stepD_refines w hs gok hv
    obtain ⟨h1, hh⟩ := ih a b (by rw [c]; exact gok) (fun x hx => hc x (List.mem_cons_of_mem _ hx)) hov
    obtain ⟨h0, hok⟩ := stepD_overflowed w hs gok hv (hc _ List.mem_cons_self) h1
    exact ⟨h0, HistD.cons op hv hok hh⟩

/-- the success of every step read off the overflow flag at the END of the history -/
theorem historyD_simulates_tree_of_flag {d d' : Doc} {F F' : Forest} {as : List AOpD} (h : HistDW d F as d' F')
    (w : WFG d F) (hs : StrOK d (d.strRefs F)) (gok : PL.GeoOK d.g) (hc : ∀ a ∈ as, a.CfgOK)
    (hov : d'.overflowed = false) : HistD d F as d' F' ∧ abs d' = ARunD (abs d) as := by
  obtain ⟨_, hh⟩ := h.toHistD w hs gok hc hov
  exact ⟨hh, historyD_simulates_tree hh w hs gok⟩

/-- the final abstract value depends on the abstract operations only: two histories (different stores, layouts,
    geometries, string storage kinds) standing for the same abstract operations from equal abstract documents end in
    equal abstract documents -/
theorem historyD_determined {d1 d1' d2 d2' : Doc} {F1 F1' F2 F2' : Forest} {as : List AOpD}
    (h1 : HistD d1 F1 as d1' F1') (h2 : HistD d2 F2 as d2' F2')
    (w1 : WFG d1 F1) (s1 : StrOK d1 (d1.strRefs F1)) (g1 : PL.GeoOK d1.g)
    (w2 : WFG d2 F2) (s2 : StrOK d2 (d2.strRefs F2)) (g2 : PL.GeoOK d2.g)
    (he : abs d1 = abs d2) : abs d1' = abs d2' := by
  rw [historyD_simulates_tree h1 w1 s1 g1, historyD_simulates_tree h2 w2 s2 g2, he]

/-- the extension is conservative: on the histories of `Op2` the machine is `ARun` -/
theorem historyD_of_histA {d d' : Doc} {F F' : Forest} {as : List AOp} (h : HistA d F as d' F') :
    HistD d F (as.map .base) d' F' ∧ ARunD (abs d) (as.map .base) = ARun (abs d) as :=
  ⟨h.toD, ARunD_base as _⟩

/-! ## 3. A deserialization changes only its target -/

/-- **`deserializeJson(doc[l], …)` changes only its target** - for EVERY input, configuration, nesting limit, code
    and allocation failure schedule: a location `l'` whose path parts ways with the path of `l` (it is neither `l`, nor
    inside `l`, nor does it contain `l`) is still a location of the result, at the same path, and a reference to it
    designates exactly the same abstract value. -/
theorem deser_changes_only_target (cfg : JD.Cfg) (limit : Nat) (d : Doc) (F : Forest) (l l' : Loc) (input : List Byte)
    (w : WFG d F) (hs : StrOK d (d.strRefs F)) (hl : isLoc F l) (gok : PL.GeoOK d.g) (hl' : isLoc F l')
    (hdv : Diverge (pathOf F l) (pathOf F l')) :
    isLoc (deserLayout (JDD.runAt cfg limit d l input).2.1 F l) l' ∧
    pathOf (deserLayout (JDD.runAt cfg limit d l input).2.1 F l) l' = pathOf F l' ∧
    (JDD.runAt cfg limit d l input).2.1.toVal ((JDD.runAt cfg limit d l input).2.1.get l') = d.toVal (d.get l') :=
  stepD_frame (op := .deserJ l cfg limit input) w hs gok hl hl' hdv

theorem mp_deser_changes_only_target (env : MD.Env) (limit : Nat) (d : Doc) (F : Forest) (l l' : Loc)
    (input : List Byte) (w : WFG d F) (hs : StrOK d (d.strRefs F)) (hl : isLoc F l) (gok : PL.GeoOK d.g)
    (hl' : isLoc F l') (hdv : Diverge (pathOf F l) (pathOf F l')) :
    isLoc (deserLayout (MDD.runAt env limit d l input).2.1 F l) l' ∧
    pathOf (deserLayout (MDD.runAt env limit d l input).2.1 F l) l' = pathOf F l' ∧
    (MDD.runAt env limit d l input).2.1.toVal ((MDD.runAt env limit d l input).2.1.get l') = d.toVal (d.get l') :=
  stepD_frame (op := .deserM l env limit input) w hs gok hl hl' hdv

/-- **A mutation changes only its target, whole histories with deserializations and copies - whatever happens in
    them.** Let `l` be a location of the initial document whose path parts ways with the path of the target of every
    operation of the history. Then `l` is still a location of the final document, at the same path, and a reference to
    it designates exactly the same abstract value as before the history. No success hypothesis: inputs may be malformed,
    allocations may fail. -/
theorem mutationD_changes_only_target {d d' : Doc} {F F' : Forest} {as : List AOpD} (h : HistDW d F as d' F') :
    WFG d F → StrOK d (d.strRefs F) → PL.GeoOK d.g → ∀ l, isLoc F l → (∀ a ∈ as, Diverge a.path (pathOf F l)) →
    isLoc F' l ∧ pathOf F' l = pathOf F l ∧ d'.toVal (d'.get l) = d.toVal (d.get l) := by
  induction h with
  | nil d F => intro _ _ _ l hl _; exact ⟨hl, rfl, rfl⟩
  | @cons d F as d' F' op hv _ ih =>
    intro w hs gok l hl hdv
    obtain ⟨a, b, c, _⟩ := stepD_refines w hs gok hv
    have h0 := hdv _ List.mem_cons_self
    rw [OpD.toA_path] at h0
    obtain ⟨hl1, hp1, hv1⟩ := stepD_frame w hs gok hv hl h0
    obtain ⟨x, y, z⟩ := ih a b (by rw [c]; exact gok) l hl1
      (fun e he => by rw [hp1]; exact hdv e (List.mem_cons_of_mem _ he))
    exact ⟨x, y.trans hp1, z.trans hv1⟩

/-- the same read off the abstract machine alone -/
theorem treeD_frame (t : Val) (as : List AOpD) (q : Path) (h : ∀ a ∈ as, Diverge a.path q) :
    getAt q (ARunD t as) = getAt q t := ARunD_frame q as t h

/-- the value at the target right after a deserialization step of the abstract machine is the value-level result -/
theorem treeD_deser_at_target (t : Val) (p : Path) (cfg : JD.Cfg) (limit : Nat) (input : List Byte) {v : Val}
    (hp : getAt p t = some v) :
    getAt p ((AOpD.deserJ p cfg limit input).step t) = some (JD.run cfg limit input).2.1 := by
  have := getAt_step_self t (.deserJ p cfg limit input)
  rw [show (AOpD.deserJ p cfg limit input).path = p from rfl, hp] at this
  exact this

end C04

/-! ## Non-vacuity (geometry ⟨4,1,1⟩). `Std.HashMap` lookups with a key ≥ 1 do not evaluate in the kernel: runs that touch
   slot 0 only are evaluated with `decide +kernel`, the facts about documents with two slots are derived from the
   theorems. -/
namespace C04.ExD
open DL C04 C04.Ex C04.Ex3
open JD (Byte Val Code)

/-- `"hi"` (JSON) -/
def hiQ : List Byte := [0x22, 0x68, 0x69, 0x22]
/-- `[1]` (JSON) -/
def arr1 : List Byte := [0x5B, 0x31, 0x5D]
/-- `[1` (JSON, incomplete) -/
def arrOpen : List Byte := [0x5B, 0x31]
/-- `[]` (JSON) -/
def arr0 : List Byte := [0x5B, 0x5D]
/-- `"hi"` (MessagePack) -/
def mHi : List Byte := [0xa2, 0x68, 0x69]
theorem h31 : 31 ≤ ({} : JD.Cfg).maxStrLen := by decide

/-! ### A. a mixed history from `[]`: `deserializeJson(doc, "[1]")`, then `deserializeMsgPack(doc[0], "hi")` INTO THE ELEMENT
   the first call created, then `doc.add()`. Every step is valid and nothing overflows (evaluated); the theorems give the
   final document `["hi", null]` (two slots: not evaluated) and its invariant. -/
def oA1 : OpD := .deserJ .root {} 10 arr1
def oA2 : OpD := .deserM (.slot 0) {} 10 mHi
def oA3 : OpD := .base (.base (.add .root))
def dA1 : Doc := oA1.run e1
def FA1 : Forest := oA1.layout e1 .nil
def dA2 : Doc := oA2.run dA1
def FA2 : Forest := oA2.layout dA1 FA1
def dA3 : Doc := oA3.run dA2
def FA3 : Forest := oA3.layout dA2 FA2

theorem okA1 : oA1.Succ e1 := ⟨h31, by decide +kernel⟩
theorem fa1 : FA1 = .cons none 0 .nil .nil := by decide +kernel
theorem lA2 : isLoc FA1 (.slot 0) := by show 0 ∈ FA1.locs; rw [fa1]; decide
theorem vA2 : oA2.Valid dA1 FA1 := lA2
theorem okA2 : oA2.Succ dA1 := by show (MDD.runAt {} 10 dA1 (.slot 0) mHi).2.1.overflowed = false; decide +kernel
theorem fa2 : FA2 = .cons none 0 .nil .nil := by decide +kernel
theorem vA3 : oA3.Valid dA2 FA2 := ⟨trivial, 0, 0, by decide +kernel⟩
theorem okA3 : oA3.Succ dA2 := by show (dA2.addElement .root).1 ≠ none; decide +kernel

/-- the abstract history the three steps stand for -/
def asA : List AOpD := [.deserJ [] {} 10 arr1, .deserM [0] {} 10 mHi, .base (.add [])]

theorem histA : HistD e1 .nil asA dA3 FA3 := by
  have h := HistD.cons oA1 trivial okA1 (HistD.cons oA2 vA2 okA2 (HistD.cons oA3 vA3 okA3 (HistD.nil _ _)))
  have e2 : oA2.toA (oA1.layout e1 .nil) = .deserM [0] {} 10 mHi := by
    show AOpD.deserM (pathOf FA1 (.slot 0)) _ _ _ = _; rw [fa1]; rfl
  rw [e2] at h; exact h

/-- `historyD_simulates_tree_wf` applies: the slot-level history computes what the tree machine computes, `["hi", null]`,
    and ends in a well-formed document -/
example : abs dA3 = ARunD (.arr []) asA ∧ ARunD (.arr []) asA = .arr [.str hi, .null] ∧ WFG dA3 FA3 ∧
    StrOK dA3 (dA3.strRefs FA3) := by
  obtain ⟨a, b, _, c⟩ := historyD_simulates_tree_wf histA w1 C04.Ex2.s1 gok
  exact ⟨c, valEq_sound _ _ (by decide +kernel), a, b⟩

/-- `mp_deser_into_value_refines` applies to the second step (an INNER location of a document built by a previous
    deserialization): code `Ok`, 3 bytes, the element holds `"hi"`, the document is `["hi"]` -/
example : (MDD.runAt {} 10 dA1 (.slot 0) mHi).1 = .ok ∧ (MDD.runAt {} 10 dA1 (.slot 0) mHi).2.2 = 3 ∧
    dA2.toVal (dA2.get (.slot 0)) = .str hi ∧ abs dA2 = .arr [.str hi] := by
  obtain ⟨w, s, g, habs⟩ : WFG dA1 FA1 ∧ StrOK dA1 (dA1.strRefs FA1) ∧ dA1.g = e1.g ∧ abs dA1 = ARunD (abs e1) [oA1.toA .nil] :=
    historyD_simulates_tree_wf (HistD.cons oA1 trivial okA1 (HistD.nil _ _)) w1 C04.Ex2.s1 gok
  have habs1 : abs dA1 = .arr [.num (.uint 1)] := habs.trans (valEq_sound _ _ (by decide +kernel))
  obtain ⟨_, _, _, _, h, _⟩ := mp_deser_into_value_refines {} 10 dA1 FA1 (.slot 0) mHi w s lA2 (by rw [g]; exact gok)
  obtain ⟨_, a, b, c, e⟩ := h okA2
  refine ⟨a.trans (by decide +kernel), b.trans (by decide +kernel), c.trans (valEq_sound _ _ (by decide +kernel)), ?_⟩
  show abs (MDD.runAt {} 10 dA1 (.slot 0) mHi).2.1 = _
  rw [e, absWith_updAt w lA2 (fun _ => (MD.run {} 10 .all mHi).2.1), habs1]
  show updAt _ (pathOf FA1 (.slot 0)) _ = _
  rw [fa1]
  exact valEq_sound _ _ (by decide +kernel)

/-! ### B. JSON into an element of `[null]` (the document `dd1` of AJ/Props/C04Rem.lean: `[]` after `add`) -/
def oJ : OpD := .deserJ (.slot 0) {} 10 hiQ
def oE : OpD := .deserJ (.slot 0) {} 10 arr0
theorem ff1 : FF1 = .cons none 0 .nil .nil := by decide +kernel
theorem l0 : isLoc FF1 (.slot 0) := by show 0 ∈ FF1.locs; rw [ff1]; decide
theorem vJ (cfg : JD.Cfg) (limit : Nat) (input : List Byte) : (OpD.deserJ (.slot 0) cfg limit input).Valid dd1 FF1 := l0
theorem okJ : oJ.Succ dd1 := ⟨h31, by decide +kernel⟩
theorem okE : oE.Succ dd1 := ⟨h31, by decide +kernel⟩

/-- `deser_into_value_refines` applies: `deserializeJson(doc[0], "\"hi\"")` and `deserializeJson(doc[0], "[]")` on `[null]` -/
example : (JDD.runAt {} 10 dd1 (.slot 0) hiQ).1 = .ok ∧ abs (JDD.runAt {} 10 dd1 (.slot 0) hiQ).2.1 = .arr [.str hi] ∧
    (JDD.runAt {} 10 dd1 (.slot 0) arr0).1 = .ok ∧ abs (JDD.runAt {} 10 dd1 (.slot 0) arr0).2.1 = .arr [.arr []] ∧
    WF (JDD.runAt {} 10 dd1 (.slot 0) arr0).2.1 := by
  obtain ⟨w, s, g, habs⟩ := st1
  have gk : PL.GeoOK dd1.g := by rw [g]; exact gok
  have key : ∀ v, absWith dd1 FF1 (.slot 0) v = .arr [v] := by
    intro v
    rw [absWith_updAt w l0 (fun _ => v), habs]
    show updAt _ (pathOf FF1 (.slot 0)) _ = _
    rw [ff1]; rfl
  obtain ⟨_, _, _, _, h1, _⟩ := deser_into_value_refines {} 10 dd1 FF1 (.slot 0) hiQ w s l0 gk h31
  obtain ⟨_, a1, _, _, e1⟩ := h1 okJ.2
  obtain ⟨wf2, _, _, _, h2, _⟩ := deser_into_value_refines {} 10 dd1 FF1 (.slot 0) arr0 w s l0 gk h31
  obtain ⟨_, a2, _, _, e2⟩ := h2 okE.2
  refine ⟨a1.trans (by decide +kernel), ?_, a2.trans (by decide +kernel), ?_, wf2⟩
  · rw [e1, key]; exact congrArg (fun v => Val.arr [v]) (valEq_sound _ _ (by decide +kernel))
  · rw [e2, key]; exact congrArg (fun v => Val.arr [v]) (valEq_sound _ _ (by decide +kernel))

/-- `[1]` and the incomplete `[1` into `doc[0]` need a second slot: the runs are not evaluated. Unconditionally the results
    are well formed and `historyD_refines` applies; by `historyD_simulates_tree_of_flag`, IF the overflow flag is down at the
    end (compiled evaluation, `#eval`, says so: the allocator of `e1` never fails), THEN the documents are `[[1]]` - for the
    complete text and, with code `IncompleteInput`, for the partial one alike -/
example (input : List Byte) (hin : input = arr1 ∨ input = arrOpen) :
    WF (JDD.runAt {} 10 dd1 (.slot 0) input).2.1 ∧
    ((JDD.runAt {} 10 dd1 (.slot 0) input).2.1.overflowed = false →
      abs (JDD.runAt {} 10 dd1 (.slot 0) input).2.1 = .arr [.arr [.num (.uint 1)]] ∧
      (JDD.runAt {} 10 dd1 (.slot 0) input).1 = (if input = arr1 then .ok else .incomplete)) := by
  obtain ⟨w, s, g, habs⟩ := st1
  have gk : PL.GeoOK dd1.g := by rw [g]; exact gok
  obtain ⟨wf, _, _, _, h1, _⟩ := deser_into_value_refines {} 10 dd1 FF1 (.slot 0) input w s l0 gk h31
  refine ⟨wf, fun hno => ?_⟩
  -- the history is built one step at a time, each with its end document written as in the goal: left to the unifier,
  -- matching `(OpD.deserJ …).run ((OpD.base op1).run e1)` against `(JDD.runAt … dd1 …).2.1` evaluates the run on `dd1`
  have h2 : HistDW dd1 FF1 [AOpD.deserJ (pathOf FF1 (.slot 0)) {} 10 input]
      (JDD.runAt {} 10 dd1 (.slot 0) input).2.1 (deserLayout (JDD.runAt {} 10 dd1 (.slot 0) input).2.1 FF1 (.slot 0)) :=
    HistDW.cons (.deserJ (.slot 0) {} 10 input) l0 (HistDW.nil _ _)
  have hh : HistDW e1 .nil [AOpD.base (.add []), AOpD.deserJ (pathOf FF1 (.slot 0)) {} 10 input]
      (JDD.runAt {} 10 dd1 (.slot 0) input).2.1 (deserLayout (JDD.runAt {} 10 dd1 (.slot 0) input).2.1 FF1 (.slot 0)) :=
    HistDW.cons (.base op1) v1 h2
  have hc : ∀ a ∈ [AOpD.base (.add []), AOpD.deserJ (pathOf FF1 (.slot 0)) {} 10 input], a.CfgOK := by
    intro a ha
    rcases List.mem_cons.1 ha with e | ha
    · subst e; trivial
    · rw [List.mem_singleton] at ha; subst ha; exact h31
  have hs := (historyD_simulates_tree_of_flag hh w1 C04.Ex2.s1 gok hc hno).2
  have hp : pathOf FF1 (.slot 0) = [0] := by rw [ff1]; rfl
  rw [hp] at hs
  obtain ⟨_, a, _⟩ := h1 hno
  constructor
  · rw [hs]
    rcases hin with e | e <;> subst e <;> exact valEq_sound _ _ (by decide +kernel)
  · rw [a]
    rcases hin with e | e <;> subst e <;> decide +kernel

/-! ### C. frame: `[null, null]` (the document `b2` of AJ/Props/C04Rem.lean, slots 0 and 1). Whatever is deserialized
   into element 0 - any text, configuration, limit, by either deserializer - element 1 keeps its path and its value. -/
theorem pg1 : pathOf G2 (.slot 1) = [1] := by decide +kernel
theorem pg0 : pathOf G2 (.slot 0) = [0] := by decide +kernel

example (cfg : JD.Cfg) (env : MD.Env) (limit : Nat) (input : List Byte) :
    pathOf (deserLayout (JDD.runAt cfg limit b2 (.slot 0) input).2.1 G2 (.slot 0)) (.slot 1) = [1] ∧
    (JDD.runAt cfg limit b2 (.slot 0) input).2.1.toVal ((JDD.runAt cfg limit b2 (.slot 0) input).2.1.get (.slot 1)) = .null ∧
    (MDD.runAt env limit b2 (.slot 0) input).2.1.toVal ((MDD.runAt env limit b2 (.slot 0) input).2.1.get (.slot 1)) = .null := by
  obtain ⟨w, s, g, habs⟩ := wb2
  have gk : PL.GeoOK b2.g := by rw [g]; exact gok
  have l0 : isLoc G2 (.slot 0) := by show 0 ∈ G2.locs; decide +kernel
  have l1 : isLoc G2 (.slot 1) := by show 1 ∈ G2.locs; decide +kernel
  have hdv : Diverge (pathOf G2 (.slot 0)) (pathOf G2 (.slot 1)) := by rw [pg0, pg1]; exact Or.inl (by decide)
  have hv1 : b2.toVal (b2.get (.slot 1)) = .null := by
    have := getAt_pathOf w l1
    rw [pg1, habs] at this
    exact (Option.some.inj this).symm
  obtain ⟨_, p, v⟩ := deser_changes_only_target cfg limit b2 G2 (.slot 0) (.slot 1) input w s l0 gk l1 hdv
  obtain ⟨_, _, v'⟩ := mp_deser_changes_only_target env limit b2 G2 (.slot 0) (.slot 1) input w s l0 gk l1 hdv
  exact ⟨p.trans pg1, v.trans hv1, v'.trans hv1⟩

/-- `mutationD_changes_only_target` applies to a whole history on `[null, null]`: two deserializations into element 0
    (any inputs), then `doc[0].clear()`; element 1 still designates null at path `[1]` -/
example (cfg : JD.Cfg) (env : MD.Env) (limit : Nat) (in1 in2 : List Byte) :
    ∃ d' F' as, HistDW b2 G2 as d' F' ∧ WFG d' F' ∧ pathOf F' (.slot 1) = [1] ∧ d'.toVal (d'.get (.slot 1)) = .null := by
  obtain ⟨w, s, g, habs⟩ := wb2
  have gk : PL.GeoOK b2.g := by rw [g]; exact gok
  have l0 : isLoc G2 (.slot 0) := by show 0 ∈ G2.locs; decide +kernel
  have l1 : isLoc G2 (.slot 1) := by show 1 ∈ G2.locs; decide +kernel
  have hdv : Diverge (pathOf G2 (.slot 0)) (pathOf G2 (.slot 1)) := by rw [pg0, pg1]; exact Or.inl (by decide)
  have hv1 : b2.toVal (b2.get (.slot 1)) = .null := by
    have := getAt_pathOf w l1
    rw [pg1, habs] at this
    exact (Option.some.inj this).symm
  -- the location `.slot 0` stays a location, at path `[0]`, as long as the operations target it
  have step1 := stepD_refines (op := .deserJ (.slot 0) cfg limit in1) w s gk l0
  obtain ⟨k1, p1⟩ := deser_keeps_target (JDD.runAt cfg limit b2 (.slot 0) in1).2.1 l0
  have step2 := stepD_refines (op := .deserM (.slot 0) env limit in2) step1.1 step1.2.1 (by rw [step1.2.2.1]; exact gk) k1
  obtain ⟨k2, p2⟩ := deser_keeps_target
    (MDD.runAt env limit (JDD.runAt cfg limit b2 (.slot 0) in1).2.1 (.slot 0) in2).2.1 k1
  have hh : HistDW b2 G2 _ _ _ :=
    HistDW.cons (.deserJ (.slot 0) cfg limit in1) l0
      (HistDW.cons (.deserM (.slot 0) env limit in2) k1
        (HistDW.cons (.base (.base (.clear (.slot 0)))) k2 (HistDW.nil _ _)))
  obtain ⟨a, _, _⟩ := historyD_refines hh w s gk
  obtain ⟨_, p, v⟩ := mutationD_changes_only_target hh w s gk (.slot 1) l1 (by
    intro x hx
    simp only [List.mem_cons, List.not_mem_nil, or_false] at hx
    rcases hx with e | e | e <;> subst e <;> rw [OpD.toA_path]
    · exact hdv
    · show Diverge (pathOf (deserLayout _ G2 (.slot 0)) (.slot 0)) _
      rw [p1]; exact hdv
    · exact Eq.mpr (congrArg (fun q => Diverge q (pathOf G2 (.slot 1))) (p2.trans p1)) hdv)
  exact ⟨_, _, _, hh, a, p.trans pg1, v.trans hv1⟩

/-! ### D. a copy from another document, then a deserialization into the copied element: the empty document `z0`, the
   document `e4 = ["hi"]` of AJ/Props/C04.lean -/
open C04.ExC in
example : ∃ d' F', HistD z0 .nil [.copyFrom [] (.arr [.str hi]), .deserJ [0] {} 10 arr0] d' F' ∧
    abs d' = .arr [.arr []] ∧ WFG d' F' := by
  have hl : copyLayout z0 .nil .root e4 (e4.get .root) = .cons none 0 .nil .nil := by decide +kernel
  have v2 : (OpD.deserJ (.slot 0) {} 10 arr0).Valid ((OpD.copyFrom .root e4 F3 .root).run z0)
      ((OpD.copyFrom .root e4 F3 .root).layout z0 .nil) := by
    show 0 ∈ (copyLayout z0 .nil .root e4 (e4.get .root)).locs; rw [hl]; decide
  have h := HistD.cons (.copyFrom .root e4 F3 .root) ⟨trivial, w4, trivial, e4_nodup⟩
      (show (copyInto z0 .root e4 (e4.get .root)).overflowed = false by decide +kernel)
    (HistD.cons (.deserJ (.slot 0) {} 10 arr0) v2
      ⟨h31, show (JDD.runAt {} 10 (copyInto z0 .root e4 (e4.get .root)) (.slot 0) arr0).2.1.overflowed = false by
        decide +kernel⟩ (HistD.nil _ _))
  have e1 : (OpD.copyFrom .root e4 F3 .root).toA .nil = .copyFrom [] (.arr [.str hi]) := by
    show AOpD.copyFrom [] (e4.toVal (e4.get .root)) = _; rw [e4_val]
  have e2 : (OpD.deserJ (.slot 0) {} 10 arr0).toA ((OpD.copyFrom .root e4 F3 .root).layout z0 .nil) =
      .deserJ [0] {} 10 arr0 := by
    show AOpD.deserJ (pathOf (copyLayout z0 .nil .root e4 (e4.get .root)) (.slot 0)) _ _ _ = _; rw [hl]; rfl
  rw [e1, e2] at h
  obtain ⟨a, _, _, c⟩ := historyD_simulates_tree_wf h wz0 sz0 gok
  exact ⟨_, _, h, c.trans (valEq_sound _ _ (by decide +kernel)), a⟩

end C04.ExD
