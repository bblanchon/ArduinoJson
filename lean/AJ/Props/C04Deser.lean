/- C04 / C03 / C05 for deserialization INTO A VALUE INSIDE A DOCUMENT: `deserializeJson(JsonVariant dst, …)` and
   `deserializeMsgPack(JsonVariant dst, …)` - `JDD.runAt` (AJ/Model/JDD.lean) and `MDD.runAt` (AJ/Model/MDD.lean): the
   destination `l` (the root, an array element, a member value) is cleared, the input is parsed into it, the deserializer
   object is destroyed (a kept buffer is released); the pools are not shrunk.
   For every well-formed document (`WFG d F`, `StrOK`), every location `l` of its layout, every input, nesting limit,
   configuration and every allocator failure schedule:
   * the document stays WELL FORMED, laid out as `F` with the layout below `l` replaced;
   * FRAME: every slot of `F` outside `l` and outside the old subtree of `l` keeps its cell and its value
     (`DL.Good`); hence (`C04.into_frame_toVal`) every location whose subtree is disjoint from `l`'s designates the same
     value, and the WHOLE document denotes the old value with the value at `l` replaced by the new value at `l`
     (`abs d' = absWith d F l (d'.toVal (d'.get l))`);
   * the CODE tells about allocation failures: `Ok` only if the overflow flag is the one before, `NoMemory` only if it is
     raised (MessagePack: raised exactly when `NoMemory`, unless it was raised before); the flag is sticky;
   * LEDGER: a balanced allocator log stays balanced.
   These are corollaries of `JDD.parse_all` / `MDD.mp_parse_all`, stated for an arbitrary context `Ctx d0 F l`, and of
   the `clearV` lemmas of AJ/Lemmas/DocCopy.lean / DocReuse.lean. -/
import AJ.Lemmas.MddInv
import AJ.Props.C03MpDoc
import AJ.Props.C05Deser
namespace C04
open DL
open JD (Byte Code)
open JDD (Ctx Built Fx PlEq LBd)

/-- what a deserialization into the location `l` of the document `d` (laid out as `F`) guarantees of the result `d'` -/
structure IntoOK (d : Doc) (F : Forest) (l : Loc) (d' : Doc) : Prop where
  /-- well formed: the layout is `F` with the layout below `l` replaced -/
  wf : ∃ s, WFG d' (replaceAt F l s) ∧ StrOK d' (d'.strRefs (replaceAt F l s))
  g : d'.g = d.g
  /-- a destination other than the root leaves the root value alone -/
  root : l ≠ .root → d'.root = d.root
  /-- every slot outside `l` and outside the subtree that was below `l` keeps its cell; the scalar / string stored there
      reads the same -/
  frame : ∀ j ∈ F.ids, Loc.slot j ≠ l → j ∉ (layoutAt F l).ids → Good d d' j
  /-- the document denotes the old value with the value at `l` replaced by the new value at `l` -/
  abs : abs d' = absWith d F l (d'.toVal (d'.get l))

/-- the invariant `Built`, started from the cleared destination, read as a statement about the original document -/
theorem into_of_built {d d' : Doc} {F s : Forest} {l : Loc} (w : WFG d F) (hs : StrOK d (d.strRefs F)) (hl : isLoc F l)
    (B : Built (d.clearV l) (replaceAt F l .nil) l d' s) : IntoOK d F l d' := by
  obtain ⟨_, hn0, hsl0, hgood0, _⟩ := clearV_good w hs hl
  have hg0 := clearV_g d l
  have w' : WFG d' (replaceAt F l s) := by have := B.wf; rwa [replaceAt_replaceAt] at this
  have s' : StrOK d' (d'.strRefs (replaceAt F l s)) := by have := B.str; rwa [replaceAt_replaceAt] at this
  have hg : d'.g = d.g := B.g.trans hg0
  have hn : d'.null = d.null := by simp only [Doc.null, hg]
  have hn1 : d'.null = (d.clearV l).null := by simp only [Doc.null, B.g]
  have hgood : ∀ j ∈ F.ids, Loc.slot j ≠ l → j ∉ (layoutAt F l).ids → Good d d' j := by
    intro j hj hjl hjs
    obtain ⟨c0, sc0⟩ := hgood0 j hj hjl hjs
    have hj1 : j ∈ (replaceAt F l .nil).ids := (mem_ids_cleared w.nodup hl j).2 ⟨hj, hjs⟩
    have c1 := B.cells j hj1 hjl
    have g1 : (d.clearV l).get (.slot j) = d.get (.slot j) := get_of_cell c0
    refine ⟨c1.trans c0, ?_⟩
    have := B.scal j hj1 hjl
    rw [g1] at this
    exact this.trans sc0
  have hroot : l ≠ .root → d'.root = d.root := by
    intro hne
    cases l with
    | root => exact absurd rfl hne
    | slot i => exact (B.root hne).trans (hsl0 i rfl).2
  have hl' : isLoc (replaceAt F l s) l := isLoc_replaceAt_self s hl
  have hlay : layoutAt (replaceAt F l s) l = s := JDD.layoutAt_replaceAt s hl
  have hv' : VOK d' (d'.get l) s := by have := VOK_at w' hl'; rwa [hlay] at this
  have hslot : ∀ i, l = .slot i → d'.cell i = .var (d'.get l) (d.nextOf i) ∧ d'.root = d.root := by
    intro i e
    subst e
    have hi : i ∈ (replaceAt F (.slot i) s).ids :=
      (mem_ids_replaceAt s w.nodup hl i).2 (Or.inl ⟨isLoc_ids hl, self_notin_layoutAt w.nodup i⟩)
    have hv : d'.cell i = .var (d'.get (.slot i)) (d'.nextOf i) := w'.isVar i hi
    rw [B.next i rfl, (hsl0 i rfl).1] at hv
    exact ⟨hv, hroot (fun e => by cases e)⟩
  obtain ⟨_, h2⟩ := lift_at (v' := d'.get l) (s' := s) w hl hn rfl hslot hv' hgood
  have ht : d'.toVal (d'.get l) = d'.valOf (d'.get l) s := by rw [toVal_at w' hl', hlay]
  exact ⟨⟨s, w', s'⟩, hg, hroot, hgood, by rw [abs_eq w', h2, ht]⟩

/-- FRAME on values: a slot `j` of the layout, other than the destination, outside the old subtree of the destination,
    and whose own subtree contains neither the destination nor anything of its old subtree, designates exactly the same
    value after the deserialization. -/
theorem into_frame_toVal {d d' : Doc} {F : Forest} {l : Loc} {j : Nat} (w : WFG d F) (I : IntoOK d F l d')
    (hj : isLoc F (.slot j)) (hjl : Loc.slot j ≠ l) (hjs : j ∉ (layoutAt F l).ids)
    (hdisj : ∀ x ∈ (layoutAt F (.slot j)).ids, x ∉ (layoutAt F l).ids ∧ Loc.slot x ≠ l) :
    d'.toVal (d'.get (.slot j)) = d.toVal (d.get (.slot j)) := by
  have hsF := layoutAt_ids_sub F (.slot j)
  have hn : d'.null = d.null := by simp only [Doc.null, I.g]
  have hgj : Good d d' j := I.frame j (isLoc_ids hj) hjl hjs
  have hgood : ∀ x ∈ (layoutAt F (.slot j)).ids, Good d d' x := fun x hx =>
    I.frame x (hsF x hx) (hdisj x hx).2 (hdisj x hx).1
  have hget : d'.get (.slot j) = d.get (.slot j) := get_of_cell hgj.1
  have hvok : VOK d' (d.get (.slot j)) (layoutAt F (.slot j)) := VOK_congr (agree_of_good hn hgood).1 (VOK_at w hj)
  have hlen : (layoutAt F (.slot j)).ids.length < d.fuel :=
    Nat.lt_of_le_of_lt (List.Nodup.length_le_of_subset (layoutAt_nodup w.nodup hj) (fun x hx => hsF x hx)) w.fuel_ok
  have hfu : d'.fuel = d.fuel := by simp only [Doc.fuel, I.g]
  rw [hget, toVal_eq hvok (by rw [hfu]; exact hlen), toVal_at w hj]
  simp only [Doc.valOf]
  obtain ⟨a, sa⟩ := agree_of_good hn hgood
  rw [vals_congr noOv _ a sa, mkVal_congr]
  exact hgj.2

/-! ## The end of `runAt`: the deserializer is destroyed -/

/-- a kept buffer is released -/
def dropBuf (xd : Doc) (xb : Option Nat) : Doc :=
  match xb with
  | some _ => { xd with pl := xd.pl.dealloc }
  | none => xd

theorem dropBuf_pleq (xd : Doc) (xb : Option Nat) : PlEq xd (dropBuf xd xb) ∧ (dropBuf xd xb).overflowed = xd.overflowed := by
  unfold dropBuf
  cases xb with
  | none => exact ⟨PlEq.refl _, rfl⟩
  | some c => exact ⟨⟨rfl, rfl, rfl, rfl, rfl, rfl, rfl, rfl, rfl, rfl⟩, rfl⟩

theorem dropBuf_bal {xd : Doc} {xb : Option Nat} (h : LBd xd xb) : Bal (dropBuf xd xb) := by
  unfold dropBuf
  unfold LBd at h
  unfold Bal
  cases xb with
  | none => simpa using h
  | some c =>
    show PL.net xd.pl.dealloc = _
    rw [JDD.dealloc_net, h]; simp

theorem bal_LBd {d : Doc} (h : Bal d) : LBd d none := by
  unfold Bal at h; unfold LBd; rw [h]; simp

/-- the context of a parse into the cleared destination -/
theorem ctx_cleared {d : Doc} {F : Forest} {l : Loc} (w : WFG d F) (hs : StrOK d (d.strRefs F)) (hl : isLoc F l)
    (gok : PL.GeoOK d.g) :
    Ctx (d.clearV l) (replaceAt F l .nil) l ∧ Built (d.clearV l) (replaceAt F l .nil) l (d.clearV l) .nil ∧
    (d.clearV l).get l = .null := by
  obtain ⟨w0, s0, _, _⟩ := clearV_spec w hs hl
  have C : Ctx (d.clearV l) (replaceAt F l .nil) l :=
    ⟨w0.nodup, isLoc_replaceAt_self .nil hl, JDD.layoutAt_replaceAt .nil hl, by rw [clearV_g]; exact gok⟩
  exact ⟨C, JDD.built_start w0 s0 C, (clearV_good w hs hl).1⟩

/-- from the parser's result to the result of `runAt` -/
theorem into_finish {d : Doc} {F : Forest} {l : Loc} {xd : Doc} {xb : Option Nat} {c : Code} (w : WFG d F)
    (hs : StrOK d (d.strRefs F)) (hl : isLoc F l) (hB : ∃ s, Built (d.clearV l) (replaceAt F l .nil) l xd s)
    (fx : Fx (d.clearV l) none xd xb c) :
    (∃ s, Built (d.clearV l) (replaceAt F l .nil) l (dropBuf xd xb) s) ∧
    IntoOK d F l (dropBuf xd xb) ∧
    (c = .ok → (dropBuf xd xb).overflowed = d.overflowed) ∧
    (c = .noMemory → (dropBuf xd xb).overflowed = true) ∧
    (d.overflowed = true → (dropBuf xd xb).overflowed = true) ∧
    (Bal d → Bal (dropBuf xd xb)) := by
  obtain ⟨s, B⟩ := hB
  obtain ⟨hpe, hov⟩ := dropBuf_pleq xd xb
  have h0 : (d.clearV l).overflowed = d.overflowed := clearV_overflowed d l
  refine ⟨⟨s, B.pleq hpe⟩, into_of_built w hs hl (B.pleq hpe), fun e => ?_, fun e => ?_, fun e => ?_, fun hb => ?_⟩
  · rw [hov, fx.ok e, h0]
  · rw [hov]; exact fx.nomem e
  · rw [hov]; exact fx.ovs (by rw [h0]; exact e)
  · exact dropBuf_bal (fx.bal (bal_LBd (clearV_bal w hs hl hb)))

/-- the corollaries in the shape of C03 / C05, for either deserializer: with a clear flag before, `Ok` means the flag is
    still clear and a raised flag means the code is not `Ok` -/
theorem failure_reported_of {c : Code} {d d' : Doc} (a : c = .ok → d'.overflowed = d.overflowed)
    (b : c = .noMemory → d'.overflowed = true) (h0 : d.overflowed = false) :
    (c = .ok → d'.overflowed = false) ∧ (c = .noMemory → d'.overflowed = true) ∧ (d'.overflowed = true → c ≠ .ok) := by
  refine ⟨fun e => (a e).trans h0, b, fun ho e => ?_⟩
  rw [(a e).trans h0] at ho; cases ho

theorem IntoOK.toWF {d d' : Doc} {F : Forest} {l : Loc} (I : IntoOK d F l d') : WF d' := by
  obtain ⟨s, a, b⟩ := I.wf
  exact ⟨_, a, b⟩

/-! ## MessagePack -/

/-- the state in which `MDD.runAt` stops parsing -/
def mp_stopAt (env : MD.Env) (limit : Nat) (d : Doc) (l : Loc) (input : List Byte) : Code × MDD.S × Bool :=
  MDD.parseVariant env (2 * input.length + 4) limit l { r := { unread := input }, d := d.clearV l }

theorem mp_runAt_eq (env : MD.Env) (limit : Nat) (d : Doc) (l : Loc) (input : List Byte) :
    MDD.runAt env limit d l input =
      (MDD.mp_finalCode (mp_stopAt env limit d l input).1 (mp_stopAt env limit d l input).2.2,
        dropBuf (mp_stopAt env limit d l input).2.1.d (mp_stopAt env limit d l input).2.1.b,
        (mp_stopAt env limit d l input).2.1.r.pos) := by
  -- with the parser's answer a variable, the two sides differ by the eta rule of pairs only; `rfl` on the statement
  -- itself unfolds the parser
  unfold MDD.runAt mp_stopAt
  dsimp only
  generalize MDD.parseVariant env _ limit l { r := { unread := input }, d := d.clearV l } = p
  rfl

theorem mp_runAt_code (env : MD.Env) (limit : Nat) (d : Doc) (l : Loc) (input : List Byte) :
    (MDD.runAt env limit d l input).1 =
      MDD.mp_finalCode (mp_stopAt env limit d l input).1 (mp_stopAt env limit d l input).2.2 := by
  rw [mp_runAt_eq]

theorem mp_runAt_doc (env : MD.Env) (limit : Nat) (d : Doc) (l : Loc) (input : List Byte) :
    (MDD.runAt env limit d l input).2.1 =
      dropBuf (mp_stopAt env limit d l input).2.1.d (mp_stopAt env limit d l input).2.1.b := by
  rw [mp_runAt_eq]

/-- what the parser of `MDD.runAt` leaves -/
theorem mp_stopAt_res (env : MD.Env) (limit : Nat) {d : Doc} {F : Forest} {l : Loc} (input : List Byte)
    (w : WFG d F) (hs : StrOK d (d.strRefs F)) (hl : isLoc F l) (gok : PL.GeoOK d.g) :
    MDD.MRes (d.clearV l) (replaceAt F l .nil) l { r := { unread := input }, d := d.clearV l }
      (mp_stopAt env limit d l input).1 (mp_stopAt env limit d l input).2.1 := by
  obtain ⟨C, B0, hn⟩ := ctx_cleared w hs hl gok
  exact (MDD.mp_parse_all env (2 * input.length + 4)).1 limit l _ (d.clearV l) (replaceAt F l .nil) C B0 hn

/-- `deserializeMsgPack(dst, …)` into a value `l` inside a well-formed document: well-formedness, frame, code against
    the overflow flag, ledger - for every input and every allocator failure schedule. -/
theorem mp_deser_into_value (env : MD.Env) (limit : Nat) (d : Doc) (F : Forest) (l : Loc) (input : List Byte)
    (w : WFG d F) (hs : StrOK d (d.strRefs F)) (hl : isLoc F l) (gok : PL.GeoOK d.g) :
    IntoOK d F l (MDD.runAt env limit d l input).2.1 ∧
    ((MDD.runAt env limit d l input).1 = .ok → (MDD.runAt env limit d l input).2.1.overflowed = d.overflowed) ∧
    ((MDD.runAt env limit d l input).1 = .noMemory → (MDD.runAt env limit d l input).2.1.overflowed = true) ∧
    (d.overflowed = true → (MDD.runAt env limit d l input).2.1.overflowed = true) ∧
    (Bal d → Bal (MDD.runAt env limit d l input).2.1) := by
  have R := mp_stopAt_res env limit input w hs hl gok
  obtain ⟨_, a, b, c, e, f⟩ := into_finish w hs hl R.built R.fx
  rw [mp_runAt_code, mp_runAt_doc]
  exact ⟨a, fun h => b (MDD.mp_finalCode_ok h), fun h => c (MDD.mp_finalCode_nomem h), e, f⟩

/-- STRONGER, for MessagePack: any code but NoMemory leaves the overflow flag as it was; so, into a document whose flag
    is clear, the flag is raised exactly when the code is NoMemory -/
theorem mp_deser_into_value_nomemory_iff (env : MD.Env) (limit : Nat) (d : Doc) (F : Forest) (l : Loc) (input : List Byte)
    (w : WFG d F) (hs : StrOK d (d.strRefs F)) (hl : isLoc F l) (gok : PL.GeoOK d.g) :
    ((MDD.runAt env limit d l input).1 ≠ .noMemory → (MDD.runAt env limit d l input).2.1.overflowed = d.overflowed) ∧
    (d.overflowed = false →
      ((MDD.runAt env limit d l input).1 = .noMemory ↔ (MDD.runAt env limit d l input).2.1.overflowed = true)) := by
  have R := mp_stopAt_res env limit input w hs hl gok
  have h0 : (d.clearV l).overflowed = d.overflowed := clearV_overflowed d l
  have hq : (MDD.runAt env limit d l input).1 ≠ .noMemory →
      (MDD.runAt env limit d l input).2.1.overflowed = d.overflowed := by
    rw [mp_runAt_code, mp_runAt_doc, (dropBuf_pleq _ _).2]
    intro h
    rcases MDD.mp_finalCode_ne_nomem h with hc | hf
    · exact (R.quiet hc).trans h0
    · have : (mp_stopAt env limit d l input).1 = .incomplete := MDD.found_false env _ limit l _ hf
      exact (R.quiet (by rw [this]; simp)).trans h0
  refine ⟨hq, fun hd => ⟨(mp_deser_into_value env limit d F l input w hs hl gok).2.2.1, fun ho => ?_⟩⟩
  by_cases hc : (MDD.runAt env limit d l input).1 = .noMemory
  · exact hc
  · rw [hq hc, hd] at ho; cases ho

/-! ## JSON -/

/-- the state in which `JDD.runAt` stops parsing -/
def stopAt (cfg : JD.Cfg) (limit : Nat) (d : Doc) (l : Loc) (input : List Byte) : Code × JDD.S :=
  JDD.parseVariant cfg (2 * input.length + 4) limit l { s := { l := { unread := input } }, d := d.clearV l }

/-- the code `JDD.runAt` reports: trailing garbage glued to a number is InvalidInput -/
def finalCodeAt (c : Code) (x : JDD.S) (l : Loc) : Code :=
  match c with
  | .ok => if x.s.l.cur != 0 && !JD.isWs x.s.l.cur && JDD.locIsNumber x.d l then .invalid else .ok
  | e => e

theorem runAt_eq (cfg : JD.Cfg) (limit : Nat) (d : Doc) (l : Loc) (input : List Byte) :
    JDD.runAt cfg limit d l input =
      (finalCodeAt (stopAt cfg limit d l input).1 (stopAt cfg limit d l input).2 l,
        dropBuf (stopAt cfg limit d l input).2.d (stopAt cfg limit d l input).2.b,
        (stopAt cfg limit d l input).2.s.l.pos) := by
  unfold JDD.runAt stopAt
  dsimp only
  generalize JDD.parseVariant cfg _ limit l { s := { l := { unread := input } }, d := d.clearV l } = p
  rfl

theorem runAt_code (cfg : JD.Cfg) (limit : Nat) (d : Doc) (l : Loc) (input : List Byte) :
    (JDD.runAt cfg limit d l input).1 = finalCodeAt (stopAt cfg limit d l input).1 (stopAt cfg limit d l input).2 l := by
  rw [runAt_eq]

theorem runAt_doc (cfg : JD.Cfg) (limit : Nat) (d : Doc) (l : Loc) (input : List Byte) :
    (JDD.runAt cfg limit d l input).2.1 = dropBuf (stopAt cfg limit d l input).2.d (stopAt cfg limit d l input).2.b := by
  rw [runAt_eq]

/-- what the parser of `JDD.runAt` leaves -/
theorem stopAt_res (cfg : JD.Cfg) (limit : Nat) {d : Doc} {F : Forest} {l : Loc} (input : List Byte)
    (w : WFG d F) (hs : StrOK d (d.strRefs F)) (hl : isLoc F l) (gok : PL.GeoOK d.g) :
    JDD.Res (d.clearV l) (replaceAt F l .nil) l { s := { l := { unread := input } }, d := d.clearV l }
      (stopAt cfg limit d l input) := by
  obtain ⟨C, B0, hn⟩ := ctx_cleared w hs hl gok
  exact (JDD.parse_all cfg (2 * input.length + 4)).1 limit l _ (d.clearV l) (replaceAt F l .nil) C B0 hn

theorem finalCodeAt_ok {c : Code} {x : JDD.S} {l : Loc} (h : finalCodeAt c x l = .ok) : c = .ok := by
  cases c <;> first | rfl | exact absurd h (by simp [finalCodeAt])

theorem finalCodeAt_nomem {c : Code} {x : JDD.S} {l : Loc} (h : finalCodeAt c x l = .noMemory) : c = .noMemory := by
  cases c with
  | ok =>
    simp only [finalCodeAt] at h
    split at h <;> cases h
  | noMemory => rfl
  | _ => exact absurd h (by simp [finalCodeAt])

/-- `deserializeJson(dst, …)` into a value `l` inside a well-formed document: well-formedness, frame, code against the
    overflow flag, ledger - for every input and every allocator failure schedule. -/
theorem deser_into_value (cfg : JD.Cfg) (limit : Nat) (d : Doc) (F : Forest) (l : Loc) (input : List Byte)
    (w : WFG d F) (hs : StrOK d (d.strRefs F)) (hl : isLoc F l) (gok : PL.GeoOK d.g) :
    IntoOK d F l (JDD.runAt cfg limit d l input).2.1 ∧
    ((JDD.runAt cfg limit d l input).1 = .ok → (JDD.runAt cfg limit d l input).2.1.overflowed = d.overflowed) ∧
    ((JDD.runAt cfg limit d l input).1 = .noMemory → (JDD.runAt cfg limit d l input).2.1.overflowed = true) ∧
    (d.overflowed = true → (JDD.runAt cfg limit d l input).2.1.overflowed = true) ∧
    (Bal d → Bal (JDD.runAt cfg limit d l input).2.1) := by
  have R := stopAt_res cfg limit input w hs hl gok
  obtain ⟨_, a, b, c, e, f⟩ := into_finish w hs hl R.built R.fx
  rw [runAt_code, runAt_doc]
  exact ⟨a, fun h => b (finalCodeAt_ok h), fun h => c (finalCodeAt_nomem h), e, f⟩

/-- corollaries in the shape of C03 / C05 (either deserializer): the result is a well-formed document; with a clear flag
    before, `Ok` means the flag is still clear and a raised flag means the code is not `Ok` -/
theorem deser_into_value_wf (cfg : JD.Cfg) (limit : Nat) (d : Doc) (F : Forest) (l : Loc) (input : List Byte)
    (w : WFG d F) (hs : StrOK d (d.strRefs F)) (hl : isLoc F l) (gok : PL.GeoOK d.g) :
    WF (JDD.runAt cfg limit d l input).2.1 :=
  (deser_into_value cfg limit d F l input w hs hl gok).1.toWF

theorem mp_deser_into_value_wf (env : MD.Env) (limit : Nat) (d : Doc) (F : Forest) (l : Loc) (input : List Byte)
    (w : WFG d F) (hs : StrOK d (d.strRefs F)) (hl : isLoc F l) (gok : PL.GeoOK d.g) :
    WF (MDD.runAt env limit d l input).2.1 :=
  (mp_deser_into_value env limit d F l input w hs hl gok).1.toWF

theorem deser_into_value_failure_reported (cfg : JD.Cfg) (limit : Nat) (d : Doc) (F : Forest) (l : Loc)
    (input : List Byte) (w : WFG d F) (hs : StrOK d (d.strRefs F)) (hl : isLoc F l) (gok : PL.GeoOK d.g)
    (h0 : d.overflowed = false) :
    ((JDD.runAt cfg limit d l input).1 = .ok → (JDD.runAt cfg limit d l input).2.1.overflowed = false) ∧
    ((JDD.runAt cfg limit d l input).1 = .noMemory → (JDD.runAt cfg limit d l input).2.1.overflowed = true) ∧
    ((JDD.runAt cfg limit d l input).2.1.overflowed = true → (JDD.runAt cfg limit d l input).1 ≠ .ok) := by
  obtain ⟨_, a, b, _⟩ := deser_into_value cfg limit d F l input w hs hl gok
  exact failure_reported_of a b h0

theorem mp_deser_into_value_failure_reported (env : MD.Env) (limit : Nat) (d : Doc) (F : Forest) (l : Loc)
    (input : List Byte) (w : WFG d F) (hs : StrOK d (d.strRefs F)) (hl : isLoc F l) (gok : PL.GeoOK d.g)
    (h0 : d.overflowed = false) :
    ((MDD.runAt env limit d l input).1 = .ok → (MDD.runAt env limit d l input).2.1.overflowed = false) ∧
    ((MDD.runAt env limit d l input).1 = .noMemory → (MDD.runAt env limit d l input).2.1.overflowed = true) ∧
    ((MDD.runAt env limit d l input).2.1.overflowed = true → (MDD.runAt env limit d l input).1 ≠ .ok) := by
  obtain ⟨_, a, b, _⟩ := mp_deser_into_value env limit d F l input w hs hl gok
  exact failure_reported_of a b h0

/-! ## Non-vacuity: the document `[null]` of `C04.Ex` (geometry ⟨4,1,1⟩; the element is slot 0) and `[null, null]` -/
namespace ExInto
open C04.Ex C03.ExMp

/-- `[null]` with an allocator failing at the call positions `fa` (one call, the pool's, has been made) -/
def e3k (fa : List Nat) : Doc := { e3 with pl := { e3.pl with failAt := fa } }
theorem e3k_pleq (fa : List Nat) : PlEq e3 (e3k fa) := ⟨rfl, rfl, rfl, rfl, rfl, rfl, rfl, rfl, rfl, rfl⟩
theorem w3k (fa : List Nat) : WFG (e3k fa) F3 ∧ StrOK (e3k fa) ((e3k fa).strRefs F3) :=
  ⟨((e3k_pleq fa).wfg w3.1 s3).1, ((e3k_pleq fa).wfg w3.1 s3).2.1⟩

/-- MessagePack `"hi"` into the element of `[null]`: Ok, the element holds the new string node, the root is untouched -/
example : (MDD.runAt {} 10 e3 (.slot 0) mHi).1 = .ok ∧ (MDD.runAt {} 10 e3 (.slot 0) mHi).2.1.get (.slot 0) = .owned 0 ∧
    (MDD.runAt {} 10 e3 (.slot 0) mHi).2.1.root = e3.root ∧ IntoOK e3 F3 (.slot 0) (MDD.runAt {} 10 e3 (.slot 0) mHi).2.1 ∧
    (MDD.runAt {} 10 e3 (.slot 0) mHi).2.1.overflowed = false :=
  ⟨by decide +kernel, by decide +kernel,
    (mp_deser_into_value {} 10 e3 F3 (.slot 0) mHi w3.1 s3 loc0 gok).1.root (fun e => by cases e),
    (mp_deser_into_value {} 10 e3 F3 (.slot 0) mHi w3.1 s3 loc0 gok).1,
    (mp_deser_into_value_failure_reported {} 10 e3 F3 (.slot 0) mHi w3.1 s3 loc0 gok rfl).1 (by decide +kernel)⟩

/-- the same when the buffer's allocation (call 2) fails: NoMemory, flag raised, still well-formed, `[null]` again -/
example : (MDD.runAt {} 10 (e3k [2]) (.slot 0) mHi).1 = .noMemory ∧
    (MDD.runAt {} 10 (e3k [2]) (.slot 0) mHi).2.1.overflowed = true ∧
    WF (MDD.runAt {} 10 (e3k [2]) (.slot 0) mHi).2.1 ∧
    (MDD.runAt {} 10 (e3k [2]) (.slot 0) mHi).2.1.get (.slot 0) = .null :=
  ⟨by decide +kernel,
    (mp_deser_into_value {} 10 (e3k [2]) F3 (.slot 0) mHi (w3k [2]).1 (w3k [2]).2 loc0 gok).2.2.1 (by decide +kernel),
    mp_deser_into_value_wf {} 10 (e3k [2]) F3 (.slot 0) mHi (w3k [2]).1 (w3k [2]).2 loc0 gok,
    by decide +kernel⟩

/-- collections into the element (slots 1, 2: not evaluated by the kernel, the theorem does not need to), every single
    failure position, and into the root -/
example (k : Nat) : IntoOK (e3k [k]) F3 (.slot 0) (MDD.runAt {} 10 (e3k [k]) (.slot 0) mObj2).2.1 ∧
    IntoOK (e3k [k]) F3 (.slot 0) (MDD.runAt {} 10 (e3k [k]) (.slot 0) mArr1).2.1 ∧
    IntoOK (e3k [k]) F3 .root (MDD.runAt {} 10 (e3k [k]) .root mObj1).2.1 :=
  ⟨(mp_deser_into_value {} 10 (e3k [k]) F3 (.slot 0) mObj2 (w3k [k]).1 (w3k [k]).2 loc0 gok).1,
    (mp_deser_into_value {} 10 (e3k [k]) F3 (.slot 0) mArr1 (w3k [k]).1 (w3k [k]).2 loc0 gok).1,
    (mp_deser_into_value {} 10 (e3k [k]) F3 .root mObj1 (w3k [k]).1 (w3k [k]).2 trivial gok).1⟩

/-- JSON `"hi"` into the element of `[null]`, without and with a failing builder allocation -/
example : (JDD.runAt {} 10 e3 (.slot 0) C03.ExDoc.hiQ).1 = .ok ∧
    (JDD.runAt {} 10 e3 (.slot 0) C03.ExDoc.hiQ).2.1.get (.slot 0) = .owned 0 ∧
    IntoOK e3 F3 (.slot 0) (JDD.runAt {} 10 e3 (.slot 0) C03.ExDoc.hiQ).2.1 ∧
    (JDD.runAt {} 10 e3 (.slot 0) C03.ExDoc.hiQ).2.1.overflowed = false :=
  ⟨by decide +kernel, by decide +kernel, (deser_into_value {} 10 e3 F3 (.slot 0) _ w3.1 s3 loc0 gok).1,
    (deser_into_value_failure_reported {} 10 e3 F3 (.slot 0) _ w3.1 s3 loc0 gok rfl).1 (by decide +kernel)⟩
example : (JDD.runAt {} 10 (e3k [2]) (.slot 0) C03.ExDoc.hiQ).1 = .noMemory ∧
    (JDD.runAt {} 10 (e3k [2]) (.slot 0) C03.ExDoc.hiQ).2.1.overflowed = true ∧
    WF (JDD.runAt {} 10 (e3k [2]) (.slot 0) C03.ExDoc.hiQ).2.1 :=
  ⟨by decide +kernel,
    (deser_into_value {} 10 (e3k [2]) F3 (.slot 0) _ (w3k [2]).1 (w3k [2]).2 loc0 gok).2.2.1 (by decide +kernel),
    deser_into_value_wf {} 10 (e3k [2]) F3 (.slot 0) _ (w3k [2]).1 (w3k [2]).2 loc0 gok⟩
example (k : Nat) : IntoOK (e3k [k]) F3 (.slot 0) (JDD.runAt {} 10 (e3k [k]) (.slot 0) C03.ExDoc.obj2).2.1 :=
  (deser_into_value {} 10 (e3k [k]) F3 (.slot 0) _ (w3k [k]).1 (w3k [k]).2 loc0 gok).1

/-- the ledger: `[null]` has one block out (its pool) and no string; balanced before, balanced after -/
theorem e3k_bal (fa : List Nat) : Bal (e3k fa) :=
  Bal_of (d := e3) rfl rfl (by unfold Bal; decide +kernel)
example (k : Nat) : Bal (MDD.runAt {} 10 (e3k [k]) (.slot 0) mObj2).2.1 ∧
    Bal (JDD.runAt {} 10 (e3k [k]) (.slot 0) C03.ExDoc.obj2).2.1 :=
  ⟨(mp_deser_into_value {} 10 (e3k [k]) F3 (.slot 0) mObj2 (w3k [k]).1 (w3k [k]).2 loc0 gok).2.2.2.2 (e3k_bal [k]),
    (deser_into_value {} 10 (e3k [k]) F3 (.slot 0) _ (w3k [k]).1 (w3k [k]).2 loc0 gok).2.2.2.2 (e3k_bal [k])⟩

/-- FRAME, non-vacuously: `[null, null]` (a second element, slot 1, added to `[null]`); whatever is deserialized into
    element 0 - by either deserializer, under any single allocation failure - element 1 keeps its cell and its value -/
def e4 (fa : List Nat) : Doc := ((e3k fa).addElement .root).2
def F4 : Forest := .cons none 0 .nil (.cons none 1 .nil .nil)

theorem w4 (fa : List Nat) : WFG (e4 fa) F4 ∧ StrOK (e4 fa) ((e4 fa).strRefs F4) := by
  have h1 : (e3k fa).allocVariant.1 = some 1 := rfl
  have hal : (e3k fa).allocVariant = (some 1, (e3k fa).allocVariant.2) := by rw [← h1]
  obtain ⟨_, a, b, _⟩ := addElement_refines (l := .root) (h := 0) (t := 0) (w3k fa).1 (w3k fa).2 gok trivial
    rfl hal
  exact ⟨a, b⟩

theorem gok4 (fa : List Nat) : PL.GeoOK (e4 fa).g := by
  rw [show (e4 fa).g = g0 from addElement_g _ _]; exact gok

theorem loc4_0 : isLoc F4 (.slot 0) := by simp [isLoc, F4, Forest.locs]
theorem loc4_1 : isLoc F4 (.slot 1) := by simp [isLoc, F4, Forest.locs]

example (k : Nat) (env : MD.Env) (cfg : JD.Cfg) (input : List Byte) :
    Good (e4 [k]) (MDD.runAt env 10 (e4 [k]) (.slot 0) input).2.1 1 ∧
    (MDD.runAt env 10 (e4 [k]) (.slot 0) input).2.1.toVal ((MDD.runAt env 10 (e4 [k]) (.slot 0) input).2.1.get (.slot 1)) =
      (e4 [k]).toVal ((e4 [k]).get (.slot 1)) ∧
    (JDD.runAt cfg 10 (e4 [k]) (.slot 0) input).2.1.toVal ((JDD.runAt cfg 10 (e4 [k]) (.slot 0) input).2.1.get (.slot 1)) =
      (e4 [k]).toVal ((e4 [k]).get (.slot 1)) := by
  have I := (mp_deser_into_value env 10 (e4 [k]) F4 (.slot 0) input (w4 [k]).1 (w4 [k]).2 loc4_0 (gok4 [k])).1
  have I' := (deser_into_value cfg 10 (e4 [k]) F4 (.slot 0) input (w4 [k]).1 (w4 [k]).2 loc4_0 (gok4 [k])).1
  have h1 : (1 : Nat) ∈ F4.ids := by simp [F4, Forest.ids]
  have h2 : Loc.slot 1 ≠ Loc.slot 0 := fun e => by cases e
  have h3 : (1 : Nat) ∉ (layoutAt F4 (.slot 0)).ids := by decide
  have h4 : ∀ x ∈ (layoutAt F4 (.slot 1)).ids, x ∉ (layoutAt F4 (.slot 0)).ids ∧ Loc.slot x ≠ Loc.slot 0 := by
    intro x hx
    have : (layoutAt F4 (.slot 1)).ids = [] := by decide
    rw [this] at hx; cases hx
  exact ⟨I.frame 1 h1 h2 h3, into_frame_toVal (w4 [k]).1 I loc4_1 h2 h3 h4, into_frame_toVal (w4 [k]).1 I' loc4_1 h2 h3 h4⟩
end ExInto

end C04
