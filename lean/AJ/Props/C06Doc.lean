/- C06 at the document level (model `DL`, AJ/Model/DL.lean, over the pool model `PL`):
   "When no allocation fails, slots released by a removal are reused by later insertions before a new pool is requested,
    equal copied strings are stored once and released when the last value using them disappears, and read-only
    operations never call the allocator. … after clear() no block remains."

   * §1 reuse: `clear_then_add_no_allocator_call`, `clear_then_adds_no_allocator_call`, `clear_then_add_refines`
   * §2 strings: `equal_strings_stored_once`, `new_string_one_block`, `string_released_with_last_user`,
     `clear_last_user_releases_block`, `clear_one_of_several_keeps_block`, `clear_releases_unused_strings`
   * §3 read-only operations: `readonly_no_allocator`
   * §4 `clearAll`: `clearAll_returns_everything`, over the invariants `Good` kept by every history (`history_good`)

   The allocator log is read through the ledger `PL.outstanding` (AJ/Lemmas/DocStr.lean): +1 per successful `A<n>`,
   −1 per `D`, 0 for a failed `A<n>!` and for `R<n>` (a reallocation replaces a block by a block, or fails and keeps it).
   Not covered by this ledger: `PL.shrink` of a block-less pool (`reallocate(nullptr, 0)` yields a block); `shrink` is not
   an operation of the histories of AJ/Props/C04Hist.lean. -/
import AJ.Props.C04Hist
import AJ.Lemmas.DocReuse
namespace C06
open DL
open JD (Byte Val)
open C04 (Op Hist)

/-! ## 0. Invariants of reachable documents -/

/-- what every reachable document satisfies on top of `WFG`/`StrOK`: reference counts are exact (`StrOK` says "at
    least", `Exact` says "and not more, and no unused node"), the allocator log balances against the blocks owned,
    and no two string nodes hold the same bytes -/
structure Good (d : Doc) (F : Forest) : Prop where
  exact : Exact d (d.strRefs F)
  bal : Bal d
  once : BytesNodup d

/-- a document that owns nothing and whose allocator was never called (any root value, any failure oracle) -/
theorem fresh_good {d : Doc} {F : Forest} (h1 : d.strings = []) (h2 : d.pl.log = []) (h3 : d.pl.pools = [])
    (h4 : d.pl.tableHeap = false) : Good d F := by
  refine ⟨fun n hn => (by rw [h1] at hn; cases hn), ?_, ?_⟩
  · unfold Bal PL.net PL.blocks; rw [h1, h2, h3, h4]; rfl
  · unfold BytesNodup; rw [h1]; exact List.nodup_nil

theorem step_good {d : Doc} {F : Forest} {op : Op} (w : WFG d F) (hs : StrOK d (d.strRefs F))
    (gok : PL.GeoOK d.g) (hv : op.Valid d F) (h : Good d F) : Good (op.run d) (op.layout d F) := by
  cases op with
  | add l =>
    obtain ⟨hl, hh, t, hg⟩ := hv
    obtain ⟨a, b⟩ := addElement_strRefs w hs gok hl hg
    exact ⟨Exact_perm b.symm (Exact_congr a h.exact), addElement_bal l h.bal, addElement_bytesNodup l h.once⟩
  | clear l =>
    exact ⟨(clearV_exact w hs hv).2.2.2.2 h.exact, clearV_bal w hs hv h.bal, clearV_bytesNodup w hs hv h.once⟩
  | put l a =>
    obtain ⟨hl, hn, hok⟩ := hv
    exact ⟨setArg_exact w hs h.exact hl hn gok hok, setArg_bal l a h.bal, setArg_bytesNodup l a h.once⟩

/-- the invariants hold after every history of valid operations -/
theorem history_good {d d' : Doc} {F F' : Forest} (h : Hist d F d' F') :
    WFG d F → StrOK d (d.strRefs F) → PL.GeoOK d.g → Good d F → Good d' F' := by
  induction h with
  | nil d F => intro _ _ _ g; exact g
  | cons op hv _ ih =>
    intro w hs gok g
    obtain ⟨a, b, c, _⟩ := C04.step_refines w hs gok hv
    exact ih a b (by rw [c]; exact gok) (step_good w hs gok hv g)

/-! ## 1. Released slots are reused before the allocator is called -/

theorem subtree_slots_le {d : Doc} {F : Forest} {l : Loc} (w : WFG d F) (hs : StrOK d (d.strRefs F)) (hl : isLoc F l) :
    (layoutAt F l).ids.length ≤ (relSlots d F l).length := by
  obtain ⟨_, _, _, _, h, _⟩ := clearV_x w hs hl
  exact List.Nodup.length_le_of_subset (layoutAt_nodup w.nodup hl) (fun x hx => h x hx)

/-- a location whose subtree holds at least one slot releases at least one slot when cleared -/
theorem relSlots_ne_nil {d : Doc} {F : Forest} {l : Loc} (w : WFG d F) (hs : StrOK d (d.strRefs F)) (hl : isLoc F l)
    (hne : layoutAt F l ≠ .nil) : relSlots d F l ≠ [] := by
  have := subtree_slots_le w hs hl
  intro e
  rw [e] at this
  cases hF : layoutAt F l with
  | nil => exact hne hF
  | cons k i s r => rw [hF] at this; simp [Forest.ids] at this

/-- the free list after `clearV l`: the released slots, last released first, in front of the old free list -/
theorem free_after_clear {d : Doc} {F : Forest} {l : Loc} (w : WFG d F) (hs : StrOK d (d.strRefs F)) (hl : isLoc F l) :
    (d.clearV l).pl.free = (relSlots d F l).reverse ++ d.pl.free ∧ (d.clearV l).pl.pools = d.pl.pools ∧
    (d.clearV l).pl.calls = d.pl.calls ∧
    (d.clearV l).pl.log = List.replicate (d.strings.length - (d.clearV l).strings.length) "D" ++ d.pl.log := by
  rw [(clearV_exact w hs hl).1]; exact ⟨rfl, rfl, rfl, rfl⟩

/-- After `clearV l` released at least one slot (`l` holds an array/object with at least one element:
    `relSlots_ne_nil`; or a 64-bit number with its extension slot), the next `addElement` — at any location — succeeds
    WITHOUT any allocator call: it gets a slot that the clear released (it was live before), the allocator log, the
    call counter and the pools are unchanged, the overflow flag is not raised. -/
theorem clear_then_add_no_allocator_call {d : Doc} {F : Forest} {l : Loc} (w : WFG d F) (hs : StrOK d (d.strRefs F))
    (hl : isLoc F l) (hne : relSlots d F l ≠ []) (l' : Loc) :
    ∃ id, ((d.clearV l).addElement l').1 = some id ∧ id ∈ relSlots d F l ∧ PL.live d.g d.pl id ∧
      ((d.clearV l).addElement l').2.pl.log = (d.clearV l).pl.log ∧
      ((d.clearV l).addElement l').2.pl.calls = (d.clearV l).pl.calls ∧
      ((d.clearV l).addElement l').2.pl.pools = (d.clearV l).pl.pools ∧
      ((d.clearV l).addElement l').2.overflowed = d.overflowed := by
  obtain ⟨hfree, _⟩ := free_after_clear w hs hl
  obtain ⟨_, _, _, _, _, _, _, hlive⟩ := clearV_x w hs hl
  cases hr : (relSlots d F l).reverse with
  | nil => exact absurd (List.reverse_eq_nil_iff.1 hr) hne
  | cons id rest =>
    rw [hr] at hfree
    obtain ⟨a, b, c, _⟩ := addElement_reuse (d := d.clearV l) hfree l'
    have hid : id ∈ relSlots d F l := by
      have : id ∈ (relSlots d F l).reverse := by rw [hr]; simp
      exact List.mem_reverse.1 this
    exact ⟨id, a, hid, hlive id hid, by rw [b], by rw [b], by rw [b], by rw [c, (clearV_exact w hs hl).2.2.1]⟩

/-- More generally: after `clearV l` released `k` slots, the next `k` insertions (at any locations `ls`) take exactly
    these slots, last released first, and add nothing to the allocator log; in particular (`subtree_slots_le`) as many
    insertions as the cleared subtree had slots. -/
theorem clear_then_adds_no_allocator_call {d : Doc} {F : Forest} {l : Loc} (w : WFG d F) (hs : StrOK d (d.strRefs F))
    (hl : isLoc F l) (ls : List Loc) (hk : ls.length ≤ (relSlots d F l).length) :
    (addAll ls (d.clearV l)).1 = ((relSlots d F l).reverse.take ls.length).map some ∧
    (addAll ls (d.clearV l)).2.pl.log = (d.clearV l).pl.log ∧
    (addAll ls (d.clearV l)).2.pl.calls = (d.clearV l).pl.calls ∧
    (addAll ls (d.clearV l)).2.pl.pools = (d.clearV l).pl.pools ∧
    (addAll ls (d.clearV l)).2.overflowed = d.overflowed := by
  obtain ⟨hfree, _⟩ := free_after_clear w hs hl
  have hlen : ls.length ≤ (relSlots d F l).reverse.length := by rw [List.length_reverse]; exact hk
  obtain ⟨a, b, c, _⟩ := addAll_reuse ls (d.clearV l) (by rw [hfree, List.length_append]; omega)
  refine ⟨?_, by rw [b], by rw [b], by rw [b], by rw [c, (clearV_exact w hs hl).2.2.1]⟩
  rw [a, hfree, List.take_append_of_le_length hlen]

/-- … and when the insertion targets an array location of the cleared document, the result is the well-formed
    document with one null element appended there (C04), still without any allocator call. -/
theorem clear_then_add_refines {d : Doc} {F : Forest} {l l' : Loc} {h t : Nat} (w : WFG d F)
    (hs : StrOK d (d.strRefs F)) (gok : PL.GeoOK d.g) (hl : isLoc F l) (hne : relSlots d F l ≠ [])
    (hl' : isLoc (replaceAt F l .nil) l') (hv : (d.clearV l).get l' = .arr h t) :
    ∃ id F'', ((d.clearV l).addElement l').1 = some id ∧
      WFG ((d.clearV l).addElement l').2 F'' ∧ StrOK ((d.clearV l).addElement l').2 (((d.clearV l).addElement l').2.strRefs F'') ∧
      (∃ xs, (d.clearV l).toVal ((d.clearV l).get l') = .arr xs ∧
        abs ((d.clearV l).addElement l').2 = absWith (d.clearV l) (replaceAt F l .nil) l' (.arr (xs ++ [.null]))) ∧
      ((d.clearV l).addElement l').2.pl.log = (d.clearV l).pl.log := by
  obtain ⟨w1, s1, _, _⟩ := clearV_spec w hs hl
  obtain ⟨id, a, _, _, b, _⟩ := clear_then_add_no_allocator_call w hs hl hne l'
  have gok1 : PL.GeoOK (d.clearV l).g := by rw [clearV_g]; exact gok
  generalize hal : (d.clearV l).allocVariant = r
  obtain ⟨m, d1⟩ := r
  have hm : m = some id := by
    have : ((d.clearV l).addElement l').1 = m := by
      simp only [Doc.addElement, hal]; cases m <;> rfl
    rw [← this, a]
  subst hm
  obtain ⟨_, x, y, z⟩ := C04.addElement_refines w1 s1 gok1 hl' hv hal
  exact ⟨id, _, a, x, y, z, b⟩

/-! ## 2. Equal copied strings are stored once and released with their last user -/

/-- `saveString s` when a node already holds the bytes `s`: the allocator is not called (the pool state, log included,
    is untouched), no node is added, the node found gets one more reference, every other counter is unchanged. -/
theorem equal_strings_stored_once {d : Doc} {s : List Byte} (hnd : (d.strings.map (·.id)).Nodup)
    (hex : ∃ x ∈ d.strings, x.bytes = s) :
    ∃ x ∈ d.strings, x.bytes = s ∧ (d.saveString s).1 = some x.id ∧
      (d.saveString s).2.pl = d.pl ∧ (d.saveString s).2.overflowed = d.overflowed ∧
      (d.saveString s).2.strings.map (·.id) = d.strings.map (·.id) ∧
      (d.saveString s).2.strings.map (·.bytes) = d.strings.map (·.bytes) ∧
      (d.saveString s).2.refsOf x.id = d.refsOf x.id + 1 ∧
      ∀ m, m ≠ x.id → (d.saveString s).2.refsOf m = d.refsOf m := by
  cases hf : d.strings.find? (·.bytes == s) with
  | none =>
    obtain ⟨x, hx, hb⟩ := hex
    have := List.find?_eq_none.1 hf x hx
    simp [hb] at this
  | some x =>
    have hx : x ∈ d.strings := List.mem_of_find?_eq_some hf
    have hb : x.bytes = s := by have := List.find?_some hf; simpa using this
    have hr := refsOf_map_refs (d := d) x.id (· + 1) (d' := (d.saveString s).2) (by rw [saveString_found hf])
    rw [find_id_of_nodup hnd hx] at hr
    refine ⟨x, hx, hb, by rw [saveString_found hf], by rw [saveString_found hf], by rw [saveString_found hf], ?_, ?_,
      ?_, ?_⟩
    · rw [saveString_found hf]; exact map_refs_ids x.id (· + 1) d.strings
    · rw [saveString_found hf]; exact map_refs_bytes x.id (· + 1) d.strings
    · rw [hr, if_pos rfl, refsOf_of_mem hnd hx]
    · intro m hm; rw [hr, if_neg hm]

/-- `saveString s` when no node holds the bytes `s`, the length is within the limit `maxStrLen` (`StringNode::maxLength`)
    and the allocator does not fail: exactly one block of the
    documented size `length + overhead` is requested (one log entry, one call), nothing else happens to the pool, and
    one node with one reference is added. (Beyond the limit no block is requested at all: `new_string_too_long_no_block`.) -/
theorem new_string_one_block {d : Doc} {s : List Byte} (hnew : ∀ x ∈ d.strings, x.bytes ≠ s)
    (hlen : s.length ≤ d.maxStrLen) (hok : d.pl.failsAt (d.pl.calls + 1) = false) :
    (d.saveString s).1 = some d.nextNode ∧
    (d.saveString s).2.pl.log = s!"A{s.length + d.strOverhead}" :: d.pl.log ∧
    (d.saveString s).2.pl.calls = d.pl.calls + 1 ∧
    (d.saveString s).2.pl.pools = d.pl.pools ∧ (d.saveString s).2.pl.free = d.pl.free ∧
    (d.saveString s).2.strings = ⟨d.nextNode, s, 1⟩ :: d.strings ∧
    (d.saveString s).2.overflowed = d.overflowed := by
  have hf : d.strings.find? (·.bytes == s) = none := by
    rw [List.find?_eq_none]; intro x hx; simpa using hnew x hx
  rw [saveString_short hf hlen, hok]
  refine ⟨rfl, ?_, rfl, rfl, rfl, rfl, rfl⟩
  show (d.pl.alloc (s.length + d.strOverhead)).2.log = _
  show s!"A{s.length + d.strOverhead}{if d.pl.failsAt (d.pl.calls + 1) then "!" else ""}" :: d.pl.log = _
  rw [hok]
  show (toString "A" ++ toString (s.length + d.strOverhead) ++ "") :: d.pl.log = _
  rw [String.append_empty]

/-- `saveString s` when no node holds the bytes `s` and `s` is longer than `maxStrLen`: no block is requested (the
    allocator state - log, call counter, pools, free list - is untouched), no node is added, the overflow flag is set. -/
theorem new_string_too_long_no_block {d : Doc} {s : List Byte} (hnew : ∀ x ∈ d.strings, x.bytes ≠ s)
    (hlong : d.maxStrLen < s.length) :
    (d.saveString s).1 = none ∧ (d.saveString s).2.pl = d.pl ∧ (d.saveString s).2.strings = d.strings ∧
    (d.saveString s).2.overflowed = true := by
  have hf : d.strings.find? (·.bytes == s) = none := by
    rw [List.find?_eq_none]; intro x hx; simpa using hnew x hx
  rw [saveString_long hf hlong]
  exact ⟨rfl, rfl, rfl, rfl⟩

/-- `derefString` of an existing node: with reference count 1 (or less) the node is removed and exactly one `D` is
    logged; with a count above 1 the count is decremented and the allocator is left alone. Nothing else changes. -/
theorem string_released_with_last_user {d : Doc} {n : Nat} {x : StrNode} (hnd : (d.strings.map (·.id)).Nodup)
    (hx : x ∈ d.strings) (hn : x.id = n) :
    (x.refs ≤ 1 →
      (d.derefString n).pl.log = "D" :: d.pl.log ∧ (d.derefString n).pl.calls = d.pl.calls ∧
      (d.derefString n).pl.pools = d.pl.pools ∧ (d.derefString n).pl.free = d.pl.free ∧
      (d.derefString n).strings = d.strings.filter (·.id != n) ∧ (∀ y ∈ (d.derefString n).strings, y.id ≠ n) ∧
      (d.derefString n).strings.length + 1 = d.strings.length) ∧
    (1 < x.refs →
      (d.derefString n).pl = d.pl ∧ (d.derefString n).refsOf n = x.refs - 1 ∧
      (d.derefString n).strings.length = d.strings.length ∧
      ∀ m, m ≠ n → (d.derefString n).refsOf m = d.refsOf m) := by
  have hf : d.strings.find? (·.id == n) = some x := by rw [← hn]; exact find_id_of_nodup hnd hx
  rw [derefString_found hf]
  constructor
  · intro hle
    rw [if_pos hle]
    refine ⟨rfl, rfl, rfl, rfl, rfl, ?_, ?_⟩
    · intro y hy
      have := (List.mem_filter.1 hy).2
      simpa using this
    · have := filter_id_length hnd hx
      rw [hn] at this; exact this
  · intro hgt
    rw [if_neg (by omega)]
    generalize hd' : ({ d with strings := d.strings.map _ } : Doc) = d'
    have hs' : d'.strings = d.strings.map (fun y => if y.id == n then { y with refs := y.refs - 1 } else y) := by
      rw [← hd']
    have hr := refsOf_map_refs n (· - 1) hs'
    rw [hf] at hr
    refine ⟨by rw [← hd'], by rw [hr, if_pos rfl], by rw [hs', List.length_map], ?_⟩
    intro m hm; rw [hr, if_neg hm]

/-- the string table of `d.clearV l` when `l` holds a copied string: that of `d.derefString n` -/
theorem clearV_owned_eq {d : Doc} {l : Loc} {n : Nat} (hv : d.get l = .owned n) :
    d.clearV l = (d.derefString n).set l .null := by
  rw [clearV_scalar_eq (by rw [hv]; exact fun h => h), hv]; rfl

/-- Clearing the LAST value that uses a copied string (no other value of the document references node `n`) releases
    its block: exactly one `D` is logged, the node disappears; nothing else happens to the pool. -/
theorem clear_last_user_releases_block {d : Doc} {F : Forest} {l : Loc} {n : Nat}
    (hs : StrOK d (d.strRefs F)) (he : Exact d (d.strRefs F)) (hv : d.get l = .owned n)
    (hlast : (d.strRefs F).count n = 1) :
    (d.clearV l).pl.log = "D" :: d.pl.log ∧ (d.clearV l).pl.calls = d.pl.calls ∧
    (d.clearV l).pl.pools = d.pl.pools ∧ (d.clearV l).pl.free = d.pl.free ∧
    (∀ y ∈ (d.clearV l).strings, y.id ≠ n) ∧ (d.clearV l).strings.length + 1 = d.strings.length := by
  have hmem : n ∈ d.strRefs F := List.count_pos_iff.1 (by omega)
  obtain ⟨x, hx, hxn⟩ := hs.present n hmem
  have hrefs : x.refs ≤ 1 := by have := (he x hx).1; rw [hxn, hlast] at this; omega
  obtain ⟨a, b, c, e, _, f, g⟩ := (string_released_with_last_user hs.ids_nodup hx hxn).1 hrefs
  rw [clearV_owned_eq hv, set_pl, set_strings]
  exact ⟨a, b, c, e, f, g⟩

/-- Clearing ONE OF SEVERAL values that use a copied string does not release it: the allocator is not called, the
    pool state is untouched, the node stays with one reference less. -/
theorem clear_one_of_several_keeps_block {d : Doc} {F : Forest} {l : Loc} {n : Nat}
    (hs : StrOK d (d.strRefs F)) (hv : d.get l = .owned n)
    (hmore : 2 ≤ (d.strRefs F).count n) :
    (d.clearV l).pl = d.pl ∧ (d.clearV l).refsOf n = d.refsOf n - 1 ∧ 1 ≤ (d.clearV l).refsOf n ∧
    (d.clearV l).strings.length = d.strings.length := by
  have hmem : n ∈ d.strRefs F := List.count_pos_iff.1 (by omega)
  obtain ⟨x, hx, hxn⟩ := hs.present n hmem
  have hrefs : 1 < x.refs := by have := hs.refs x hx; rw [hxn] at this; omega
  obtain ⟨a, b, c, _⟩ := (string_released_with_last_user hs.ids_nodup hx hxn).2 hrefs
  have hr : d.refsOf n = x.refs := by rw [← hxn]; exact refsOf_of_mem hs.ids_nodup hx
  rw [clearV_owned_eq hv, set_pl]
  refine ⟨a, ?_, ?_, by rw [set_strings]; exact c⟩
  · show Doc.refsOf _ n = _
    simp only [Doc.refsOf, set_strings] at b ⊢
    rw [b, ← hr]; rfl
  · simp only [Doc.refsOf, set_strings] at b ⊢
    rw [b]; omega

/-- The general statement, for clearing ANY location (a whole array/object included): one `D` per string node that
    disappears and no other allocator traffic; the counter of every node drops by the number of references to it
    inside the cleared value; a node survives exactly when some reference to it remains. -/
theorem clear_releases_unused_strings {d : Doc} {F : Forest} {l : Loc} (w : WFG d F) (hs : StrOK d (d.strRefs F))
    (he : Exact d (d.strRefs F)) (hl : isLoc F l) :
    (d.clearV l).pl.log = List.replicate (d.strings.length - (d.clearV l).strings.length) "D" ++ d.pl.log ∧
    (d.clearV l).pl.calls = d.pl.calls ∧
    (∀ m, (d.clearV l).refsOf m + (relStrs d F l).count m = d.refsOf m) ∧
    (∀ m, (∃ y ∈ (d.clearV l).strings, y.id = m) ↔ (relStrs d F l).count m < d.refsOf m) := by
  obtain ⟨_, _, hc, hlog⟩ := free_after_clear w hs hl
  obtain ⟨_, s1, _, _⟩ := clearV_spec w hs hl
  have e1 := (clearV_exact w hs hl).2.2.2.2 he
  have hp := strRefs_clearV_perm w hs hl
  have hcount : ∀ m, (d.clearV l).refsOf m + (relStrs d F l).count m = d.refsOf m := by
    intro m
    rw [refsOf_exact s1 e1, refsOf_exact hs he, hp.count_eq, List.count_append]; omega
  refine ⟨hlog, hc, hcount, fun m => ?_⟩
  rw [node_iff_referenced s1 e1, ← List.count_pos_iff, ← refsOf_exact s1 e1]
  have := hcount m
  omega

/-! ## 3. Read-only operations never call the allocator -/

/-- The observers `toVal`, `size`, `nesting`, `findKey`, `chain`, `show`, `reach` are functions from a document to a
    result: they return no document, so they cannot change anything — in particular neither the allocator log nor the
    call counter. (Stated for completeness; true by construction of the model.) -/
theorem readonly_no_allocator (d : Doc) (v : VData) (l : Loc) (key : List Byte) (i : Nat) :
    (fun (_ : Val × Nat × Nat × Option (Nat × Nat) × List Nat × String × List Nat) => d.pl.log)
      (d.toVal v, d.size v, d.nesting v, d.findKey l key, d.chain i, d.show v, d.reach v) = d.pl.log ∧
    (fun (_ : Val × Nat × Nat × Option (Nat × Nat) × List Nat × String × List Nat) => d)
      (d.toVal v, d.size v, d.nesting v, d.findKey l key, d.chain i, d.show v, d.reach v) = d := ⟨rfl, rfl⟩

/-- `operator[]` on an object that has the key (`getOrAddMember` when `findKey` succeeds) returns the document
    unchanged: no allocator call, no slot taken -/
theorem lookup_existing_member_no_allocator {d : Doc} {l : Loc} {h t k v : Nat} {key : List Byte} {linked : Bool}
    (hv : d.get l = .obj h t) (hf : d.findKey l key = some (k, v)) :
    (d.getOrAddMember l key linked).1 = some v ∧ (d.getOrAddMember l key linked).2 = d ∧
    (d.getOrAddMember l key linked).2.pl.log = d.pl.log := by
  rw [C04.getOrAddMember_found_partial hv hf]; exact ⟨rfl, rfl, rfl⟩

/-- `getOrAddElement` with an index inside the array changes nothing either -/
theorem lookup_existing_element_no_allocator {d : Doc} {l : Loc} {h t index : Nat} (hv : d.get l = .arr h t)
    (hi : index < (d.chain h).length) :
    (d.getOrAddElement l index).2 = d ∧ (d.getOrAddElement l index).1 = (d.chain h)[index]? := by
  have : d.getOrAddElement l index = ((d.chain h)[index]?, d) := by
    simp only [Doc.getOrAddElement, hv, hi, if_true]
  rw [this]; exact ⟨rfl, rfl⟩

/-! ## 4. After `clear()` no block remains -/

/-- `clearAll` on ANY document: one `D` per block the document owns (pools with a block, heap-allocated pool table,
    string nodes) and no other allocator traffic; afterwards the document owns nothing and is empty. -/
theorem clearAll_releases_all_owned (d : Doc) :
    d.clearAll.pl.log = List.replicate (PL.blocks d.pl + d.strings.length) "D" ++ d.pl.log ∧
    d.clearAll.pl.calls = d.pl.calls ∧ PL.blocks d.clearAll.pl = 0 ∧ d.clearAll.strings = [] ∧
    d.clearAll.pl.pools = [] ∧ d.clearAll.pl.free = [] := by
  obtain ⟨a, b, c, e, f, g, _⟩ := clearAll_spec d
  exact ⟨a, b, f, g, c, e⟩

/-- For every document reachable by a history of `add` / `clear` / `put` operations (AJ/Props/C04Hist.lean) from a
    well-formed document whose log balances (`Good`; e.g. a fresh document, `fresh_good`), with ANY failure oracle:
    before `clearAll` the blocks outstanding according to the allocator log are exactly the blocks owned (pools, pool
    table, string nodes); after `clearAll` none is outstanding — every successful `A` has its `D`, string blocks
    included — and the document owns nothing. -/
theorem clearAll_returns_everything {d d' : Doc} {F F' : Forest} (h : Hist d F d' F') (w : WFG d F)
    (hs : StrOK d (d.strRefs F)) (gok : PL.GeoOK d.g) (g : Good d F) :
    PL.outstanding d'.pl.log = (PL.blocks d'.pl + d'.strings.length : Nat) ∧
    PL.outstanding d'.clearAll.pl.log = 0 ∧
    PL.blocks d'.clearAll.pl = 0 ∧ d'.clearAll.strings = [] ∧ d'.clearAll.pl.pools = [] ∧
    d'.clearAll.pl.calls = d'.pl.calls := by
  have g' := history_good h w hs gok g
  obtain ⟨_, b, c, e, f, _⟩ := clearAll_releases_all_owned d'
  refine ⟨?_, clearAll_outstanding g'.bal, c, e, f, b⟩
  have := g'.bal
  unfold Bal PL.net at this
  omega

end C06

/-! ## Non-vacuity: geometry ⟨4, 1, 1⟩ (4 slots per pool, 1 inline pool, 1-byte ids)
   Facts about documents with a slot other than 0 are derived by rewriting, not by evaluation (`Std.HashMap` with a
   non-zero key does not evaluate in the kernel). -/
namespace C06.Ex
open DL C04 C04.Ex C04.Ex2
open JD (Byte Val)

deriving instance DecidableEq for DL.Forest

/-- `e1` (empty array, nothing allocated) satisfies the extra invariants -/
theorem g1 : Good e1 .nil := fresh_good rfl rfl rfl rfl

/-! ### a 64-bit number and its extension slot: `[2^40]` -/
def big : Int := 2^40
def dA : Doc := (Op.add .root).run e1
def FA : Forest := (Op.add .root).layout e1 .nil
def dB : Doc := (Op.put (.slot 0) (.sint big)).run dA

theorem histB : Hist e1 .nil dB FA :=
  Hist.cons (.add .root) ⟨trivial, 255, 255, rfl⟩
    (Hist.cons (.put (.slot 0) (.sint big))
      ⟨by show 0 ∈ (Op.layout e1 .nil (.add .root)).locs; decide +kernel, by decide +kernel, by decide +kernel⟩
      (Hist.nil _ _))
theorem wB : WFG dB FA := (history_refines histB w1 s1 gok).1
theorem sB : StrOK dB (dB.strRefs FA) := (history_refines histB w1 s1 gok).2.1
theorem gB : Good dB FA := history_good histB w1 s1 gok g1
theorem locB : isLoc FA (.slot 0) := by show 0 ∈ FA.locs; decide +kernel

/-- the number went to extension slot 1 -/
theorem dB_eq : dB = (dA.allocExt big).2.set (.slot 0) (.i64 1) := by
  have h1 : (dA.allocExt big).1 = some 1 := by decide +kernel
  have hal : dA.allocExt big = (some 1, (dA.allocExt big).2) := by rw [← h1]
  show (dA.setArg (.slot 0) (.sint big)).2 = _
  rw [setArg_sint_big (by decide) hal]

/-- clearing element 0 (a 64-bit number) releases its extension slot 1 … -/
theorem relB : relSlots dB FA (.slot 0) = [1] := by
  have h : layoutAt FA (.slot 0) = .nil := by decide +kernel
  unfold relSlots
  rw [h, dB_eq, get_set_self]; rfl

/-- … and `clear_then_add_no_allocator_call` applies: the next `add` gets slot 1 back, the log is unchanged -/
example : ((dB.clearV (.slot 0)).addElement .root).1 = some 1 ∧ PL.live dB.g dB.pl 1 ∧
    ((dB.clearV (.slot 0)).addElement .root).2.pl.log = (dB.clearV (.slot 0)).pl.log := by
  obtain ⟨id, a, b, c, e, _⟩ := clear_then_add_no_allocator_call wB sB locB (by rw [relB]; simp) .root
  rw [relB] at b
  have : id = 1 := by simpa using b
  subst this
  exact ⟨a, c, e⟩
/-- `clear_then_add_refines` applies: the array `[null]` becomes `[null, null]`, well-formed, log unchanged -/
example : ∃ id F'', ((dB.clearV (.slot 0)).addElement .root).1 = some id ∧
    WFG ((dB.clearV (.slot 0)).addElement .root).2 F'' ∧
    ((dB.clearV (.slot 0)).addElement .root).2.pl.log = (dB.clearV (.slot 0)).pl.log := by
  have hroot : (dB.clearV (.slot 0)).get .root = .arr 0 0 := by
    show (dB.clearV (.slot 0)).root = _
    rw [clearV_slot_root wB sB locB, dB_eq, root_set_slot, allocExt_root]
    decide +kernel
  obtain ⟨id, F'', a, b, _, _, e⟩ := clear_then_add_refines (l' := .root) wB sB gok locB
    (by rw [relB]; simp) trivial hroot
  exact ⟨id, F'', a, b, e⟩
/-- `clear_then_adds_no_allocator_call` with one insertion -/
example : (addAll [.root] (dB.clearV (.slot 0))).1 = [some 1] ∧
    (addAll [.root] (dB.clearV (.slot 0))).2.pl.log = (dB.clearV (.slot 0)).pl.log := by
  obtain ⟨a, b, _⟩ := clear_then_adds_no_allocator_call wB sB locB [.root] (by rw [relB]; simp)
  refine ⟨?_, b⟩
  rw [a, relB]; rfl

/-- clearing the root array of `["hi"]` (C04.Ex.e4) releases slot 0; `relSlots_ne_nil` applies -/
example : relSlots e4 F3 .root ≠ [] := relSlots_ne_nil w4 s4 (l := .root) trivial (by simp [layoutAt, F3])
example : relSlots e4 F3 .root = [0] := by decide +kernel
example : ∃ id, ((e4.clearV .root).addElement .root).1 = some id ∧
    ((e4.clearV .root).addElement .root).2.pl.log = (e4.clearV .root).pl.log := by
  obtain ⟨id, a, _, _, e, _⟩ := clear_then_add_no_allocator_call w4 s4 (l := .root) trivial
    (relSlots_ne_nil w4 s4 (l := .root) trivial (by simp [layoutAt, F3])) .root
  exact ⟨id, a, e⟩
example : ((e4.clearV .root).addElement .root).1 = some 0 := by decide +kernel

/-! ### strings: `["hi"]` (e4) and `["hi", "hi"]` -/
def hiNode : StrNode := ⟨0, hi, 1⟩
theorem x4 : Exact e4 (e4.strRefs F3) := by unfold Exact; decide +kernel
theorem e4_strings : e4.strings = [hiNode] := by decide +kernel

/-- `equal_strings_stored_once` on `e4`: saving "hi" again touches neither the pool nor the log -/
example : (e4.saveString hi).1 = some 0 ∧ (e4.saveString hi).2.pl = e4.pl ∧ (e4.saveString hi).2.refsOf 0 = 2 := by
  obtain ⟨x, hx, _, a, b, _, _, _, c, _⟩ := equal_strings_stored_once (d := e4) (s := hi) (by decide +kernel)
    ⟨hiNode, by decide +kernel, rfl⟩
  have : x = hiNode := by rw [e4_strings] at hx; simpa using hx
  subst this
  have c' : (e4.saveString hi).2.refsOf 0 = e4.refsOf 0 + 1 := c
  exact ⟨a, b, by rw [c']; decide +kernel⟩
/-- `new_string_one_block` on `e4`: a different string costs one block of `1 + 15` bytes -/
example : (e4.saveString [0x61]).1 = some 1 ∧ (e4.saveString [0x61]).2.pl.log = s!"A{1 + 15}" :: e4.pl.log := by
  obtain ⟨a, b, _⟩ := new_string_one_block (d := e4) (s := [0x61]) (by decide +kernel) (by decide +kernel) (by decide +kernel)
  exact ⟨a, b⟩
/-- `string_released_with_last_user` on `e4`: the only reference goes, one `D` -/
example : (e4.derefString 0).pl.log = "D" :: e4.pl.log ∧ (e4.derefString 0).strings = [] := by
  obtain ⟨a, _, _, _, b, _⟩ := (string_released_with_last_user (d := e4) (n := 0) (x := hiNode) (by decide +kernel)
    (by decide +kernel) rfl).1 (by decide)
  exact ⟨a, by rw [b]; decide +kernel⟩
/-- `clear_last_user_releases_block` on `e4` -/
example : (e4.clearV (.slot 0)).pl.log = "D" :: e4.pl.log ∧ (e4.clearV (.slot 0)).strings.length + 1 = e4.strings.length := by
  obtain ⟨a, _, _, _, _, b⟩ := clear_last_user_releases_block (F := F3) (l := .slot 0) (n := 0) s4 x4
    (by decide +kernel) (by decide +kernel)
  exact ⟨a, b⟩
/-- `clear_releases_unused_strings` on `e4`, clearing the whole array: the reference goes, node 0 disappears -/
example : ¬ (∃ y ∈ (e4.clearV .root).strings, y.id = 0) := by
  have h := (clear_releases_unused_strings w4 s4 x4 (l := .root) trivial).2.2.2 0
  rw [h]
  have : (relStrs e4 F3 .root).count 0 = 1 ∧ e4.refsOf 0 = 1 := by decide +kernel
  omega

/-- `["hi", "hi"]`: both elements share node 0 (reference count 2) -/
def d2 : Doc := (Op.put (.slot 0) (.strCopied hi)).run dA
def d3 : Doc := (Op.add .root).run d2
def F3b : Forest := (Op.add .root).layout d2 FA
def d4 : Doc := (Op.put (.slot 1) (.strCopied hi)).run d3

theorem hist2 : Hist e1 .nil d2 FA :=
  Hist.cons (.add .root) ⟨trivial, 255, 255, rfl⟩
    (Hist.cons (.put (.slot 0) (.strCopied hi))
      ⟨by show 0 ∈ (Op.layout e1 .nil (.add .root)).locs; decide +kernel, by decide +kernel, by decide +kernel⟩
      (Hist.nil _ _))
theorem w2b : WFG d2 FA := (history_refines hist2 w1 s1 gok).1
theorem s2b : StrOK d2 (d2.strRefs FA) := (history_refines hist2 w1 s1 gok).2.1
theorem d2_strings : d2.strings = [hiNode] := by decide +kernel
theorem add2 : (d2.addElement .root).1 = some 1 := by decide +kernel
theorem d3_strings : d3.strings = [hiNode] := by
  show (d2.addElement .root).2.strings = _
  rw [(addElement_pl_s d2 .root).2, d2_strings]
theorem d3_find : d3.strings.find? (·.bytes == hi) = some hiNode := by rw [d3_strings]; decide +kernel
theorem d3_ov : d3.overflowed = false := by
  show (d2.addElement .root).2.overflowed = _
  rw [addElement_overflowed_some add2]; decide +kernel
theorem d4_eq : d4 = (d3.saveString hi).2.set (.slot 1) (.owned 0) := by
  show (d3.setArg (.slot 1) (.strCopied hi)).2 = _
  rw [setArg_copied_found d3_find]; rfl

theorem hist4 : Hist e1 .nil d4 F3b :=
  Hist.cons (.add .root) ⟨trivial, 255, 255, rfl⟩
    (Hist.cons (.put (.slot 0) (.strCopied hi))
      ⟨by show 0 ∈ (Op.layout e1 .nil (.add .root)).locs; decide +kernel, by decide +kernel, by decide +kernel⟩
      (Hist.cons (.add .root) ⟨trivial, 0, 0, by decide +kernel⟩
        (Hist.cons (.put (.slot 1) (.strCopied hi))
          ⟨by show 1 ∈ F3b.locs; decide +kernel,
           addElement_get_new w2b s2b gok (l := .root) trivial (by decide +kernel : d2.get .root = .arr 0 0) add2,
           by show (d3.setArg (.slot 1) (.strCopied hi)).1 = true
              rw [setArg_copied_found d3_find, d3_ov]; rfl⟩ (Hist.nil _ _))))
theorem w4b : WFG d4 F3b := (history_refines hist4 w1 s1 gok).1
theorem s4b : StrOK d4 (d4.strRefs F3b) := (history_refines hist4 w1 s1 gok).2.1
theorem g4b : Good d4 F3b := history_good hist4 w1 s1 gok g1

theorem d4_strings : d4.strings = [⟨0, hi, 2⟩] := by
  rw [d4_eq, set_strings, saveString_found d3_find]
  show d3.strings.map _ = _
  rw [d3_strings]; decide +kernel
theorem d4_count : (d4.strRefs F3b).count 0 = 2 := by
  have := (g4b.exact ⟨0, hi, 2⟩ (by rw [d4_strings]; simp)).1
  exact this.symm

/-- `clear_one_of_several_keeps_block` on `["hi","hi"]`: clearing element 1 leaves the pool state (log included)
    untouched; the node stays, with one reference -/
example : (d4.clearV (.slot 1)).pl = d4.pl ∧ (d4.clearV (.slot 1)).refsOf 0 = d4.refsOf 0 - 1 ∧
    (d4.clearV (.slot 1)).strings.length = 1 := by
  obtain ⟨a, b, _, c⟩ := clear_one_of_several_keeps_block (F := F3b) (l := .slot 1) (n := 0) s4b
    (by rw [d4_eq, get_set_self]) (by rw [d4_count]; decide)
  exact ⟨a, b, by rw [c, d4_strings]; rfl⟩
/-- `clear_releases_unused_strings` on `["hi","hi"]`, clearing the whole array -/
example : (d4.clearV .root).pl.calls = d4.pl.calls ∧
    ∀ m, (d4.clearV .root).refsOf m + (relStrs d4 F3b .root).count m = d4.refsOf m :=
  ⟨(clear_releases_unused_strings w4b s4b g4b.exact (l := .root) trivial).2.1,
   (clear_releases_unused_strings w4b s4b g4b.exact (l := .root) trivial).2.2.1⟩

/-- `clearAll_returns_everything` on the histories above -/
example : PL.outstanding dB.clearAll.pl.log = 0 ∧ PL.blocks dB.clearAll.pl = 0 :=
  ⟨(clearAll_returns_everything histB w1 s1 gok g1).2.1, (clearAll_returns_everything histB w1 s1 gok g1).2.2.1⟩
example : PL.outstanding d4.pl.log = (PL.blocks d4.pl + d4.strings.length : Nat) ∧
    PL.outstanding d4.clearAll.pl.log = 0 ∧ d4.clearAll.strings = [] :=
  ⟨(clearAll_returns_everything hist4 w1 s1 gok g1).1, (clearAll_returns_everything hist4 w1 s1 gok g1).2.1,
    (clearAll_returns_everything hist4 w1 s1 gok g1).2.2.2.1⟩
/-- `["hi"]` (e4) owns two blocks, one pool and one string: `clearAll_releases_all_owned` gives two `D` -/
example : e4.clearAll.pl.log = ["D", "D"] ++ e4.pl.log := by
  have := (clearAll_releases_all_owned e4).1
  have h : PL.blocks e4.pl + e4.strings.length = 2 := by decide +kernel
  rw [h] at this; exact this

/-- ledger entries are classified as intended -/
example : PL.delta "D" = -1 ∧ PL.delta (s!"A{64}") = 1 ∧ PL.delta (s!"A{64}!") = 0 ∧ PL.delta (s!"R{32}") = 0 := by
  refine ⟨PL.delta_D, ?_, ?_, ?_⟩
  · have := PL.delta_alloc 64 false
    simp only [Bool.false_eq_true, if_false] at this
    rwa [show toString "" = "" from rfl, String.append_empty] at this
  · exact PL.delta_alloc 64 true
  · have := PL.delta_realloc 32 false
    simp only [Bool.false_eq_true, if_false] at this
    rwa [show toString "" = "" from rfl, String.append_empty] at this

/-- `readonly_no_allocator`, `lookup_existing_element_no_allocator` on `["hi"]` -/
example : (e4.getOrAddElement .root 0).2 = e4 :=
  (lookup_existing_element_no_allocator (d := e4) (l := .root) (h := 0) (t := 0) (by decide +kernel) (by decide +kernel)).1

end C06.Ex
