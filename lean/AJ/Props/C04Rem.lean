/- C04, removal and member creation: `removeOne` (array element), `removePair` (object member), `addMember` /
   `getOrAddMember` refine the list-level operations `eraseIdx`, `eraseP` (first member with the key), `++ [(key, null)]`
   on the abstraction `DL.abs d : JD.Val`, keep the invariant `WF = WFG ∧ StrOK`, release exactly the slots of the
   removed subtree and leave every other location alone (frame). Then the history machine of AJ/Props/C04Hist.lean is
   extended by these operations (`Op2`, `step_refines2`, `history_refines2`).
   Helper lemmas: AJ/Lemmas/DocRemove.lean, AJ/Lemmas/DocMember.lean. -/
import AJ.Lemmas.DocMember
import AJ.Props.C04Hist
namespace C04
open DL
open JD (Byte Val)

/-! ## 1. removing an array element -/

/-- `CollectionData::removeOne` on the array stored at a reachable location `l`, for the element slot `id` at position
    `k` of its chain. With `F' = eraseAt F l id` the layout in which the tree of `id` is erased from the chain of `l`:
    * the invariant `WF` (cells and string table) holds for `F'`;
    * the abstract document is the old one in which the array `xs` at `l` became `xs.eraseIdx k` (`absWith`: nothing
      else changed);
    * the geometry is unchanged;
    * a slot is live afterwards iff it was live and is not in the territory of the removed element: the slot `id`, the
      slots of the layout below it, and the extension slots (64-bit payloads) referenced by the values stored in these
      slots (`Terr d js x := x ∈ js ∨ ∃ j ∈ js, x ∈ extOfV (d.get (.slot j))`). -/
theorem removeOne_refines {d : Doc} {F : Forest} {l : Loc} {h t id k : Nat} (w : WFG d F) (hs : StrOK d (d.strRefs F))
    (hl : isLoc F l) (hv : d.get l = .arr h t) (hk : (d.chain h)[k]? = some id) :
    WFG (d.removeOne l id) (eraseAt F l id) ∧
    StrOK (d.removeOne l id) ((d.removeOne l id).strRefs (eraseAt F l id)) ∧
    (∃ xs, d.toVal (d.get l) = .arr xs ∧ k < xs.length ∧
      abs (d.removeOne l id) = absWith d F l (.arr (xs.eraseIdx k))) ∧
    (d.removeOne l id).g = d.g ∧
    (∀ x, PL.live (d.removeOne l id).g (d.removeOne l id).pl x ↔
      PL.live d.g d.pl x ∧ ¬ Terr d (id :: ((layoutAt F l).subOf id).ids) x) := by
  obtain ⟨hlt, hget⟩ := List.getElem?_eq_some_iff.1 hk
  obtain ⟨hch, htree, R⟩ := removeOne_arr_core w hs hl hv (hget ▸ List.getElem_mem hlt)
  have hsnd := layoutAt_nodup w.nodup hl
  have htlnd : (layoutAt F l).tl.Nodup := List.Nodup.sublist (Forest.tl_sublist _) hsnd
  have hidx : List.idxOf id (layoutAt F l).tl = k := by
    have hlt' : k < (layoutAt F l).tl.length := hch ▸ hlt
    have : (layoutAt F l).tl[k] = id := by
      rw [← hget]; simp only [hch]
    rw [← this]; exact htlnd.idxOf_getElem k hlt'
  refine ⟨R.wfg, R.str, ⟨(vals d noOv (layoutAt F l)).map (·.2), ?_, ?_, ?_⟩, R.g, by rw [← htree]; exact R.live⟩
  · rw [toVal_at w hl, hv]; rfl
  · obtain ⟨xs, h1, h2⟩ := (size_spec w hl).1 h t hv
    have h3 : d.toVal (d.get l) = .arr ((vals d noOv (layoutAt F l)).map (·.2)) := by rw [toVal_at w hl, hv]; rfl
    rw [h3] at h1; injection h1 with h1
    rw [h1, ← h2, hv]; exact hlt
  · rw [R.absEq, hidx]

/-- FRAME for `removeOne`: a reachable location `l'` other than `l`, outside the removed element, whose own subtree
    contains neither `l` nor a slot of the removed element, designates exactly the same value afterwards. -/
theorem removeOne_frame {d : Doc} {F : Forest} {l l' : Loc} {h t id k : Nat} (w : WFG d F)
    (hs : StrOK d (d.strRefs F)) (hl : isLoc F l) (hv : d.get l = .arr h t) (hk : (d.chain h)[k]? = some id)
    (hl' : isLoc F l') (hne : l' ≠ l) (hout : ∀ j, l' = .slot j → j ∉ id :: ((layoutAt F l).subOf id).ids)
    (hdisj : ∀ x ∈ (layoutAt F l').ids, x ∉ id :: ((layoutAt F l).subOf id).ids ∧ Loc.slot x ≠ l) :
    (d.removeOne l id).toVal ((d.removeOne l id).get l') = d.toVal (d.get l') := by
  obtain ⟨hlt, hget⟩ := List.getElem?_eq_some_iff.1 hk
  obtain ⟨_, htree, R⟩ := removeOne_arr_core w hs hl hv (hget ▸ List.getElem_mem hlt)
  rw [← htree] at hout hdisj
  exact removed_frame w hl R.mem R.frame hl' hne hout hdisj

/-! ## 2. removing an object member -/

/-- `ObjectData::remove(key)`: `removePair` on the object stored at a reachable location `l`, for the key slot `k` and
    value slot `v` returned by `findKey`. With `F' = eraseAt F l v`:
    * `v` is a top-level value slot of the layout of `l`, `k` is its key slot, and its position in the chain is the
      position of the first member of `ms` whose key is `key`;
    * the invariant `WF` holds for `F'`;
    * the abstract document is the old one in which the member list `ms` at `l` lost the FIRST member whose key is
      `key` (`List.eraseP`), which exists and whose value is the one designated by `v`; nothing else changed;
    * a slot is live afterwards iff it was live and is not in the territory of the removed member: key slot, value slot,
      the slots below the value slot and the extension slots referenced from these. The copied key string loses one
      reference (`StrOK` for the new layout). -/
theorem removeMember_refines {d : Doc} {F : Forest} {l : Loc} {h t k v : Nat} {key : List Byte} (w : WFG d F)
    (hs : StrOK d (d.strRefs F)) (hl : isLoc F l) (hv : d.get l = .obj h t) (hf : d.findKey l key = some (k, v)) :
    v ∈ (layoutAt F l).tl ∧ (layoutAt F l).keyOfTop v = some k ∧
    WFG (d.removePair l k v) (eraseAt F l v) ∧
    StrOK (d.removePair l k v) ((d.removePair l k v).strRefs (eraseAt F l v)) ∧
    (∃ ms, d.toVal (d.get l) = .obj ms ∧
      List.idxOf v (layoutAt F l).tl = ms.findIdx (fun m => m.1 == key) ∧
      (ms.find? (fun m => m.1 == key)).map (·.2) = some (d.toVal (d.get (.slot v))) ∧
      abs (d.removePair l k v) = absWith d F l (.obj (ms.eraseP (fun m => m.1 == key)))) ∧
    (d.removePair l k v).g = d.g ∧
    (∀ x, PL.live (d.removePair l k v).g (d.removePair l k v).pl x ↔
      PL.live d.g d.pl x ∧ ¬ Terr d (k :: v :: ((layoutAt F l).subOf v).ids) x) := by
  obtain ⟨hkey, hidx, htree, R⟩ := removePair_core w hs hl hv hf
  obtain ⟨ms, hms, hfk⟩ := findKey_spec w hl hv key
  have h3 : d.toVal (d.get l) = .obj (vals d noOv (layoutAt F l)) := by rw [toVal_at w hl, hv]; rfl
  have hm : ms = vals d noOv (layoutAt F l) := by rw [h3] at hms; injection hms with e; exact e.symm
  refine ⟨R.mem, hkey, R.wfg, R.str, ⟨ms, hms, by rw [hidx, hm], ?_, by rw [R.absEq, hm]⟩, R.g,
    by rw [← htree]; exact R.live⟩
  rw [← hfk, hf]; rfl

/-- FRAME for `removePair` -/
theorem removeMember_frame {d : Doc} {F : Forest} {l l' : Loc} {h t k v : Nat} {key : List Byte} (w : WFG d F)
    (hs : StrOK d (d.strRefs F)) (hl : isLoc F l) (hv : d.get l = .obj h t) (hf : d.findKey l key = some (k, v))
    (hl' : isLoc F l') (hne : l' ≠ l) (hout : ∀ j, l' = .slot j → j ∉ k :: v :: ((layoutAt F l).subOf v).ids)
    (hdisj : ∀ x ∈ (layoutAt F l').ids, x ∉ k :: v :: ((layoutAt F l).subOf v).ids ∧ Loc.slot x ≠ l) :
    (d.removePair l k v).toVal ((d.removePair l k v).get l') = d.toVal (d.get l') := by
  obtain ⟨_, _, htree, R⟩ := removePair_core w hs hl hv hf
  rw [← htree] at hout hdisj
  exact removed_frame w hl R.mem R.frame hl' hne hout hdisj

/-! ## 3. creating a member -/

/-- `appendPair_refines` for the full invariant `WF`: the key slot accounts for the reference of its copied key -/
theorem appendPair_wf {d : Doc} {F : Forest} {l : Loc} {h t k v nk : Nat} {kv : VData} (w : WFG d F)
    (hs : StrOK d (strOfV kv ++ d.strRefs F)) (hl : isLoc F l) (hv : d.get l = .obj h t) (hk : d.cell k = .var kv nk)
    (hkey : isKey kv) (hvc : d.cell v = .var .null d.null) (hkv : k ≠ v) (hkF : k ∉ F.ids) (hvF : v ∉ F.ids)
    (hklt : k < d.null) (hvlt : v < d.null) (hklive : PL.live d.g d.pl k) (hvlive : PL.live d.g d.pl v) :
    WFG (d.appendPair l k v) (replaceAt F l ((layoutAt F l).snoc (some k) v)) ∧
    StrOK (d.appendPair l k v) ((d.appendPair l k v).strRefs (replaceAt F l ((layoutAt F l).snoc (some k) v))) ∧
    ∃ ms, d.toVal (d.get l) = .obj ms ∧
      abs (d.appendPair l k v) = absWith d F l (.obj (ms ++ [(keyOfV d kv, .null)])) :=
  ⟨(appendPair_spec w hl hv hk hkey hvc hkv hkF hvF hklt hvlt hklive hvlive).1,
    appendPair_strOK w hs hl hv hk hkey hvc hkv hkF hvF hklt hvlt hklive hvlive,
    (appendPair_spec w hl hv hk hkey hvc hkv hkF hvF hklt hvlt hklive hvlive).2⟩

/-- `ObjectData::addMember` (linked or copied key) that returns a slot `v`: with `k` the first slot handed out by the
    pool (it holds the key) the member `(key, null)` is appended to the object `ms` at `l`, nothing else changes, `WF`
    holds for the layout extended by `(k, v)`, `v` holds null, and exactly `k` and `v` became live. -/
theorem addMember_refines {d d' : Doc} {F : Forest} {l : Loc} {h t v : Nat} {key : List Byte} {linked : Bool}
    (w : WFG d F) (hs : StrOK d (d.strRefs F)) (gok : PL.GeoOK d.g) (hl : isLoc F l) (hv : d.get l = .obj h t)
    (hr : d.addMember l key linked = (some v, d')) :
    ∃ k, d.allocVariant.1 = some k ∧ k ≠ v ∧ ¬ PL.live d.g d.pl k ∧ ¬ PL.live d.g d.pl v ∧
      WFG d' (replaceAt F l ((layoutAt F l).snoc (some k) v)) ∧
      StrOK d' (d'.strRefs (replaceAt F l ((layoutAt F l).snoc (some k) v))) ∧
      (∃ ms, d.toVal (d.get l) = .obj ms ∧ abs d' = absWith d F l (.obj (ms ++ [(key, .null)]))) ∧
      d'.g = d.g ∧ d'.get (.slot v) = .null ∧
      (∀ x, PL.live d'.g d'.pl x ↔ PL.live d.g d.pl x ∨ x = k ∨ x = v) := by
  simp only [Doc.addMember] at hr
  generalize hal1 : d.allocVariant = r1 at hr
  obtain ⟨m1, d1⟩ := r1
  cases m1 with
  | none => simp at hr
  | some k =>
    obtain ⟨hg1, _, hc1, hco1, hnk, hklt, hlv1⟩ := allocVariant_some gok w.pool hal1
    have gok1 : PL.GeoOK d1.g := by rw [hg1.g]; exact gok
    simp only at hr
    generalize hal2 : d1.allocVariant = r2 at hr
    obtain ⟨m2, d2⟩ := r2
    cases m2 with
    | none => simp at hr
    | some v' =>
      obtain ⟨hg2, _, hc2, hco2, hnv, hvlt, hlv2⟩ := allocVariant_some gok1 hg1.pool hal2
      have hg12 := hg1.trans hg2
      obtain ⟨w2, hs2, _⟩ := wfg_of_grow w hs hg12
      obtain ⟨o1, o2, o3⟩ := grow_obs w hs hg12 hl
      have hn1 : d1.null = d.null := by simp only [Doc.null, hg1.g]
      have hn2 : d2.null = d.null := by simp only [Doc.null, hg12.g]
      have hkv : k ≠ v' := fun e => hnv (e ▸ (hlv1 k).2 (Or.inr rfl))
      have hnv' : ¬ PL.live d.g d.pl v' := fun hh => hnv ((hlv1 v').2 (Or.inl hh))
      have hk2c : d2.cell k = .var .null d2.null := by rw [hco2 k hkv, hc1, hn2]
      have hvc : d2.cell v' = .var .null d2.null := by rw [hc2, hn1, hn2]
      have hkF : k ∉ F.ids := fun m => hnk (w.live k m)
      have hvF : v' ∉ F.ids := fun m => hnv' (w.live v' m)
      have hklive : PL.live d2.g d2.pl k := (hlv2 k).2 (Or.inl ((hlv1 k).2 (Or.inr rfl)))
      have hvlive : PL.live d2.g d2.pl v' := (hlv2 v').2 (Or.inr rfl)
      have hlive2 : ∀ x, PL.live d2.g d2.pl x ↔ PL.live d.g d.pl x ∨ x = k ∨ x = v' := by
        intro x; rw [hlv2 x, hlv1 x, or_assoc]
      have hv2 : d2.get l = .obj h t := by rw [o1]; exact hv
      simp only at hr
      have fin : ∀ (dS : Doc) (kv : VData) (nk : Nat), dS.g = d2.g → dS.root = d2.root →
          (∀ x, x ≠ k → dS.cell x = d2.cell x) → dS.pl.pools = d2.pl.pools → dS.pl.free = d2.pl.free →
          dS.pl.tableCap = d2.pl.tableCap → dS.pl.tableHeap = d2.pl.tableHeap →
          StrOK dS (strOfV kv ++ d2.strRefs F) → (∀ n ∈ d2.strRefs F, dS.strBytes n = d2.strBytes n) →
          dS.cell k = .var kv nk → isKey kv → keyOfV dS kv = key → (some v', dS.appendPair l k v') = (some v, d') →
          k ≠ v ∧ ¬ PL.live d.g d.pl k ∧ ¬ PL.live d.g d.pl v ∧
            WFG d' (replaceAt F l ((layoutAt F l).snoc (some k) v)) ∧
            StrOK d' (d'.strRefs (replaceAt F l ((layoutAt F l).snoc (some k) v))) ∧
            (∃ ms, d.toVal (d.get l) = .obj ms ∧ abs d' = absWith d F l (.obj (ms ++ [(key, .null)]))) ∧
            d'.g = d.g ∧ d'.get (.slot v) = .null ∧
            (∀ x, PL.live d'.g d'.pl x ↔ PL.live d.g d.pl x ∨ x = k ∨ x = v) := by
        intro dS kv nk a1 a2 a3 a4 a5 a6 a7 a8 a9 a10 a11 a12 he
        simp only [Prod.mk.injEq, Option.some.injEq] at he
        obtain ⟨rfl, rfl⟩ := he
        obtain ⟨b1, b2, ⟨ms, b3, b4⟩, b5, b6, b7⟩ := addMember_tail w2 hl hv2 a1 a2 a3 a4 a5 a6 a7 a8 a9 a10 a11 a12
          hk2c hvc hkv hkF hvF (hn2 ▸ hklt) (by rw [hn2, ← hn1]; exact hvlt) hklive hvlive
        exact ⟨hkv, hnk, hnv', b1, b2, ⟨ms, by rw [← o2]; exact b3, by rw [b4, o3]⟩,
          by rw [b5, hg12.g], b6, fun x => by rw [b7 x, hlive2 x]⟩
      cases linked with
      | true =>
        simp only [if_true] at hr
        exact ⟨k, rfl, fin (d2.set (.slot k) (.linked key)) (.linked key) (d2.nextOf k) (set_g _ _ _) rfl
          (fun x hx => by rw [cell_set_slot, if_neg (Ne.symm hx)]) rfl rfl rfl rfl
          (StrOK_congr (set_strings _ _ _) (set_nextNode _ _ _) hs2) (fun n _ => strBytes_set _ _ _ n)
          (by rw [cell_set_slot, if_pos rfl]) trivial rfl hr⟩
      | false =>
        simp only [Bool.false_eq_true, if_false] at hr
        generalize hal3 : d2.saveString key = r3 at hr
        obtain ⟨m3, d3⟩ := r3
        cases m3 with
        | none => simp at hr
        | some n =>
          simp only at hr
          obtain ⟨s1, s2, s3, s4, s5, s6, s7, s8, s9⟩ := saveString_spec hs2.ids_nodup hs2.ids_lt hal3
          exact ⟨k, rfl, fin (d3.set (.slot k) (.owned n)) (.owned n) (d3.nextOf k) (by rw [set_g, s1])
            (by rw [root_set_slot, s2])
            (fun x hx => by rw [cell_set_slot, if_neg (Ne.symm hx)]; simp only [Doc.cell, s3])
            (by rw [set_pl, s6]) (by rw [set_pl, s7]) (by rw [set_pl, s8]) (by rw [set_pl, s9])
            (StrOK_congr (set_strings _ _ _) (set_nextNode _ _ _) (saveString_strOK hs2 hal3))
            (fun m hm => by rw [strBytes_set]; exact s5 m (hs2.present m hm))
            (by rw [cell_set_slot, if_pos rfl]) trivial
            (by show (d3.set (.slot k) (.owned n)).strBytes n = key; rw [strBytes_set, s4]) hr⟩

/-- `getOrAddMember` on a location holding an object with a member `key`: the slot of the FIRST such member is
    returned (its value is that member's value), the document is unchanged. -/
theorem getOrAddMember_found {d : Doc} {F : Forest} {l : Loc} {h t : Nat} {key : List Byte} {linked : Bool}
    {m : List Byte × Val} (w : WFG d F) (hl : isLoc F l) (hv : d.get l = .obj h t)
    (hfound : (membersAt d l).find? (fun m => m.1 == key) = some m) :
    ∃ v, d.getOrAddMember l key linked = (some v, d) ∧ d.toVal (d.get (.slot v)) = m.2 := by
  obtain ⟨ms, hms, hfk⟩ := findKey_spec w hl hv key
  have hm : membersAt d l = ms := membersAt_of_toVal hms
  rw [hm] at hfound
  rw [hfound] at hfk
  cases hf : d.findKey l key with
  | none => rw [hf] at hfk; cases hfk
  | some p =>
    obtain ⟨k, v⟩ := p
    rw [hf] at hfk
    simp only [Option.map_some, Option.some.injEq] at hfk
    exact ⟨v, by simp only [Doc.getOrAddMember, hv, hf], hfk⟩

/-- `getOrAddMember` on a location holding null or an object `ms = membersAt d l` without a member `key` (a null
    location first becomes the empty object): if a slot `v` is returned, `(key, null)` was appended (`v` holds null,
    `WF` for the extended layout, exactly the two new slots became live); if nothing is returned (an allocation failed)
    the overflow flag is set, `WF` holds for the old layout and the abstract document is the old one (with `l` an
    object). -/
theorem getOrAddMember_absent {d : Doc} {F : Forest} {l : Loc} {key : List Byte} {linked : Bool}
    (w : WFG d F) (hs : StrOK d (d.strRefs F)) (gok : PL.GeoOK d.g) (hl : isLoc F l)
    (hobj : d.get l = .null ∨ ∃ h t, d.get l = .obj h t)
    (habsent : (membersAt d l).find? (fun m => m.1 == key) = none) :
    ((d.getOrAddMember l key linked).1 = none →
      (d.getOrAddMember l key linked).2.overflowed = true ∧
      WFG (d.getOrAddMember l key linked).2 F ∧
      StrOK (d.getOrAddMember l key linked).2 ((d.getOrAddMember l key linked).2.strRefs F) ∧
      abs (d.getOrAddMember l key linked).2 = absWith d F l (.obj (membersAt d l)) ∧
      (d.getOrAddMember l key linked).2.g = d.g) ∧
    (∀ v, (d.getOrAddMember l key linked).1 = some v →
      ∃ k, d.allocVariant.1 = some k ∧ k ≠ v ∧ ¬ PL.live d.g d.pl k ∧ ¬ PL.live d.g d.pl v ∧
        WFG (d.getOrAddMember l key linked).2 (replaceAt F l ((layoutAt F l).snoc (some k) v)) ∧
        StrOK (d.getOrAddMember l key linked).2
          ((d.getOrAddMember l key linked).2.strRefs (replaceAt F l ((layoutAt F l).snoc (some k) v))) ∧
        abs (d.getOrAddMember l key linked).2 = absWith d F l (.obj (membersAt d l ++ [(key, .null)])) ∧
        (d.getOrAddMember l key linked).2.g = d.g ∧
        (d.getOrAddMember l key linked).2.get (.slot v) = .null ∧
        (∀ x, PL.live (d.getOrAddMember l key linked).2.g (d.getOrAddMember l key linked).2.pl x ↔
          PL.live d.g d.pl x ∨ x = k ∨ x = v)) := by
  obtain ⟨w0, hs0, ⟨h, t, hv0⟩, habs0, htv0, haw0, hg0, hpl0, _⟩ := toObj_spec w hs hl hobj
  have gok0 : PL.GeoOK (toObj d l).g := by rw [hg0]; exact gok
  rw [getOrAddMember_absent_eq w hs hl hobj habsent]
  generalize hr : (toObj d l).addMember l key linked = r
  obtain ⟨m, d'⟩ := r
  constructor
  · intro hm
    simp only at hm; subst hm
    obtain ⟨hG, hov⟩ := addMember_none gok0 w0.pool hr
    obtain ⟨a, b, c⟩ := wfg_of_grow w0 hs0 hG
    exact ⟨hov, a, b, by rw [c, habs0], hG.g.trans hg0⟩
  · intro v hm
    simp only at hm; subst hm
    obtain ⟨k, a1, a2, a3, a4, a5, a6, ⟨ms', a7, a8⟩, a9, a10, a11⟩ := addMember_refines w0 hs0 gok0 hl hv0 hr
    have hms' : ms' = membersAt d l := by rw [htv0] at a7; injection a7 with e; exact e.symm
    refine ⟨k, by rw [← allocVariant_fst_congr hg0 hpl0]; exact a1, a2, by rw [← hg0, ← hpl0]; exact a3,
      by rw [← hg0, ← hpl0]; exact a4, a5, a6, by rw [a8, haw0, hms'], a9.trans hg0, a10, ?_⟩
    intro x; rw [a11 x, hg0, hpl0]

/-! ## 4. Histories with removal and member creation -/

/-- the operations of `C04.Op` plus `array.remove(index)`, `object.remove(key)`, `object[key]` (`getOrAddMember`) -/
inductive Op2
  | base (op : Op)
  | removeElem (l : Loc) (k : Nat)                          -- `JsonArray::remove(index)`
  | removeMember (l : Loc) (key : List Byte)                -- `JsonObject::remove(key)`
  | member (l : Loc) (key : List Byte) (linked : Bool)      -- `variant[key]` / `object[key]`: `getOrAddMember`

def Op2.run (d : Doc) : Op2 → Doc
  | .base op => op.run d
  | .removeElem l k =>
    match d.get l with
    | .arr h _ => (match (d.chain h)[k]? with | some id => d.removeOne l id | none => d)   -- iterator done: no-op
    | _ => d
  | .removeMember l key =>
    match d.findKey l key with
    | some (k, v) => d.removePair l k v
    | none => d                                                                         -- iterator done: no-op
  | .member l key linked => (d.getOrAddMember l key linked).2

/-- the operation designates a reachable location of the right kind (an index out of range, a key that is absent are
    allowed: the C++ operations are no-ops then; `member` is allowed on a null location, which becomes an object) -/
def Op2.Valid (d : Doc) (F : Forest) : Op2 → Prop
  | .base op => op.Valid d F
  | .removeElem l _ => isLoc F l ∧ ∃ h t, d.get l = .arr h t
  | .removeMember l _ => isLoc F l ∧ ∃ h t, d.get l = .obj h t
  | .member l _ _ => isLoc F l ∧ (d.get l = .null ∨ ∃ h t, d.get l = .obj h t)

/-- ghost layout after the operation -/
def Op2.layout (d : Doc) (F : Forest) : Op2 → Forest
  | .base op => op.layout d F
  | .removeElem l k =>
    match d.get l with
    | .arr h _ => (match (d.chain h)[k]? with | some id => eraseAt F l id | none => F)
    | _ => F
  | .removeMember l key =>
    match d.findKey l key with
    | some (_, v) => eraseAt F l v
    | none => F
  | .member l key linked =>
    match (membersAt d l).find? (fun m => m.1 == key) with
    | some _ => F
    | none =>
      match d.allocVariant.1, (d.getOrAddMember l key linked).1 with
      | some k, some v => replaceAt F l ((layoutAt F l).snoc (some k) v)
      | _, _ => F

/-- the list-level machine over `JD.Val`: what the abstract document becomes -/
def Op2.spec (d : Doc) (F : Forest) : Op2 → Val
  | .base op => op.spec d F
  | .removeElem l k =>
    match d.toVal (d.get l) with
    | .arr xs => absWith d F l (.arr (xs.eraseIdx k))                  -- `eraseIdx` out of range: unchanged
    | _ => abs d
  | .removeMember l key =>
    match d.toVal (d.get l) with
    | .obj ms => absWith d F l (.obj (ms.eraseP (fun m => m.1 == key)))   -- first member with the key, if any
    | _ => abs d
  | .member l key linked =>
    match (membersAt d l).find? (fun m => m.1 == key) with
    | some _ => absWith d F l (.obj (membersAt d l))                   -- present: the object as it is
    | none =>
      match (d.getOrAddMember l key linked).1 with
      | some _ => absWith d F l (.obj (membersAt d l ++ [(key, .null)]))   -- appended
      | none => absWith d F l (.obj (membersAt d l))                   -- allocation failed: `l` is an object, unchanged

/-- one step: the invariant is kept, the geometry is kept, and the abstraction follows the list-level machine -/
theorem step_refines2 {d : Doc} {F : Forest} {op : Op2} (w : WFG d F) (hs : StrOK d (d.strRefs F))
    (gok : PL.GeoOK d.g) (hv : op.Valid d F) :
    WFG (op.run d) (op.layout d F) ∧ StrOK (op.run d) ((op.run d).strRefs (op.layout d F)) ∧
    (op.run d).g = d.g ∧ abs (op.run d) = op.spec d F := by
  cases op with
  | base op => exact step_refines w hs gok hv
  | removeElem l k =>
    obtain ⟨hl, h, t, hg⟩ := hv
    cases hk : (d.chain h)[k]? with
    | none =>
      obtain ⟨xs, hx1, hx2⟩ := (size_spec w hl).1 h t hg
      simp only [Op2.run, Op2.layout, Op2.spec, hg, hg ▸ hx1, hk]
      have hlen : xs.length ≤ k := by
        rw [← hx2, hg]; exact List.getElem?_eq_none_iff.1 hk
      refine ⟨w, hs, trivial, ?_⟩
      rw [List.eraseIdx_of_length_le hlen, ← hx1]; exact (absWith_self w hl).symm
    | some id =>
      obtain ⟨a, b, ⟨xs, c1, _, c2⟩, e, _⟩ := removeOne_refines w hs hl hg hk
      simp only [Op2.run, Op2.layout, Op2.spec, hg, hg ▸ c1, hk]
      exact ⟨a, b, e, c2⟩
  | removeMember l key =>
    obtain ⟨hl, h, t, hg⟩ := hv
    cases hf : d.findKey l key with
    | none =>
      obtain ⟨ms, hm1, hm2⟩ := findKey_spec w hl hg key
      simp only [Op2.run, Op2.layout, Op2.spec, hm1, hf]
      rw [hf] at hm2
      have hnone : ms.find? (fun m => m.1 == key) = none := by
        cases hq : ms.find? (fun m => m.1 == key) with
        | none => rfl
        | some q => rw [hq] at hm2; cases hm2
      refine ⟨w, hs, trivial, ?_⟩
      rw [List.eraseP_of_forall_not (List.find?_eq_none.1 hnone), ← hm1]; exact (absWith_self w hl).symm
    | some p =>
      obtain ⟨k, v⟩ := p
      obtain ⟨_, _, a, b, ⟨ms, c1, _, _, c2⟩, e, _⟩ := removeMember_refines w hs hl hg hf
      simp only [Op2.run, Op2.layout, Op2.spec, c1, hf]
      exact ⟨a, b, e, c2⟩
  | member l key linked =>
    obtain ⟨hl, hobj⟩ := hv
    simp only [Op2.run, Op2.layout, Op2.spec]
    cases hfind : (membersAt d l).find? (fun m => m.1 == key) with
    | some m =>
      have hg : ∃ h t, d.get l = .obj h t := by
        rcases hobj with hnull | hg
        · exfalso
          have : membersAt d l = [] := by simp only [membersAt, hnull, toVal_null]
          rw [this] at hfind; cases hfind
        · exact hg
      obtain ⟨h, t, hg⟩ := hg
      obtain ⟨v, hr, _⟩ := getOrAddMember_found (linked := linked) w hl hg hfind
      have hm := toVal_obj_at w hl hg
      rw [hr]
      exact ⟨w, hs, rfl, by rw [← hm]; exact (absWith_self w hl).symm⟩
    | none =>
      obtain ⟨hfail, hok⟩ := getOrAddMember_absent (linked := linked) w hs gok hl hobj hfind
      cases hr : (d.getOrAddMember l key linked).1 with
      | none =>
        obtain ⟨_, a, b, c, e⟩ := hfail hr
        have : (match d.allocVariant.1, (none : Option Nat) with
            | some k, some v => replaceAt F l ((layoutAt F l).snoc (some k) v)
            | _, _ => F) = F := by
          cases d.allocVariant.1 <;> rfl
        simp only [this]
        exact ⟨a, b, e, c⟩
      | some v =>
        obtain ⟨k, a1, _, _, _, a5, a6, a7, a8, _, _⟩ := hok v hr
        simp only [a1]
        exact ⟨a5, a6, a8, a7⟩

/-- `Hist2 d F d' F'`: `d'` (laid out as `F'`) is reached from `d` (laid out as `F`) by a sequence of valid operations -/
inductive Hist2 : Doc → Forest → Doc → Forest → Prop
  | nil (d : Doc) (F : Forest) : Hist2 d F d F
  | cons {d : Doc} {F : Forest} {d' : Doc} {F' : Forest} (op : Op2) :
      op.Valid d F → Hist2 (op.run d) (op.layout d F) d' F' → Hist2 d F d' F'

/-- Every history of valid operations (`add`, `clear`, `put`, `removeElem`, `removeMember`, `member`) from a well-formed
    document ends in a well-formed document over the same geometry; by `step_refines2` the abstract document moves at
    each step exactly as the list-level machine `Op2.spec` says. -/
theorem history_refines2 {d d' : Doc} {F F' : Forest} (h : Hist2 d F d' F') :
    WFG d F → StrOK d (d.strRefs F) → PL.GeoOK d.g →
    WFG d' F' ∧ StrOK d' (d'.strRefs F') ∧ d'.g = d.g := by
  induction h with
  | nil d F => intro w hs _; exact ⟨w, hs, rfl⟩
  | cons op hv _ ih =>
    intro w hs gok
    obtain ⟨a, b, c, _⟩ := step_refines2 w hs gok hv
    obtain ⟨x, y, z⟩ := ih a b (by rw [c]; exact gok)
    exact ⟨x, y, by rw [z, c]⟩

/-- the abstract trace of a history: after any history, the next valid operation moves the abstract document as the
    list-level machine says -/
theorem history_trace2 {d d' : Doc} {F F' : Forest} (h : Hist2 d F d' F') :
    WFG d F → StrOK d (d.strRefs F) → PL.GeoOK d.g →
    ∀ (op : Op2), op.Valid d' F' → abs (op.run d') = op.spec d' F' := by
  intro w hs gok op hv
  obtain ⟨a, b, c⟩ := history_refines2 h w hs gok
  exact (step_refines2 a b (by rw [c]; exact gok) hv).2.2.2

end C04

/-! ## Non-vacuity: the theorems instantiated on concrete documents (geometry ⟨4,1,1⟩)
   Note: `Std.HashMap` lookups of non-zero keys do not reduce in the kernel (the bucket index goes through `USize`), so
   only one-slot documents evaluate completely with `decide +kernel`. For documents with several slots the hypotheses
   are discharged from the theorems themselves (layouts and pool states evaluate; values are read off `abs`). -/
namespace C04.Ex3
open DL C04 C04.Ex
open JD (Byte Val)
deriving instance DecidableEq for Forest

/-- kernel evaluation of an equation between abstract values -/
theorem veq {a b : Val} (h : valEqb a b = true) : a = b := valEqb_sound a b h

/-! A: the one-element array `["hi"]` (copied string): removing element 0 gives `[]`, slot 0 is released -/
example : WFG (e4.removeOne .root 0) .nil ∧ abs (e4.removeOne .root 0) = .arr [] ∧
    ¬ PL.live (e4.removeOne .root 0).g (e4.removeOne .root 0).pl 0 := by
  obtain ⟨a, _, ⟨xs, h1, _, h2⟩, _, f⟩ := removeOne_refines (k := 0) (id := 0) w4 s4 (l := .root) trivial
    (by decide +kernel : e4.get .root = .arr 0 0) (by decide +kernel)
  have hx : xs = [.str hi] := by
    have : e4.toVal (e4.get .root) = .arr [.str hi] := veq (by decide +kernel)
    rw [this] at h1; injection h1 with h1; exact h1.symm
  subst hx
  exact ⟨a, h2, fun hl => ((f 0).1 hl).2 (Or.inl (by simp))⟩

/-! B: the array `[null, null]` (slots 0 and 1) -/
def b1 : Doc := (e1.addElement .root).2
def G1 : Forest := .cons none 0 .nil .nil
def b2 : Doc := (b1.addElement .root).2
def G2 : Forest := .cons none 0 .nil (.cons none 1 .nil .nil)

theorem wb1 : WFG b1 G1 ∧ StrOK b1 (b1.strRefs G1) ∧ b1.g = g0 ∧ abs b1 = .arr [.null] := by
  obtain ⟨a, b, c, e⟩ := step_refines (op := .add .root) w1 C04.Ex2.s1 gok ⟨trivial, 255, 255, rfl⟩
  have hl : Op.layout e1 .nil (.add .root) = G1 := by decide +kernel
  rw [hl] at a b
  exact ⟨a, b, c, e.trans (veq (by decide +kernel))⟩

theorem wb2 : WFG b2 G2 ∧ StrOK b2 (b2.strRefs G2) ∧ b2.g = g0 ∧ abs b2 = .arr [.null, .null] := by
  obtain ⟨a1, a2, a3, a4⟩ := wb1
  obtain ⟨a, b, c, e⟩ := step_refines (op := .add .root) a1 a2 (by rw [a3]; exact gok) ⟨trivial, 0, 0, by decide +kernel⟩
  have hl : Op.layout b1 G1 (.add .root) = G2 := by decide +kernel
  rw [hl] at a b
  exact ⟨a, b, c.trans a3, e.trans (veq (by decide +kernel))⟩

/-- `removeOne_refines` and `removeOne_frame` apply to `[null, null]`: removing element 1 (slot 1) gives `[null]`, slot 1
    is released, and the reference to element 0 (slot 0) still designates the same value -/
example : abs (b2.removeOne .root 1) = .arr [.null] ∧ WFG (b2.removeOne .root 1) G1 ∧
    ¬ PL.live (b2.removeOne .root 1).g (b2.removeOne .root 1).pl 1 ∧
    (b2.removeOne .root 1).toVal ((b2.removeOne .root 1).get (.slot 0)) = b2.toVal (b2.get (.slot 0)) := by
  obtain ⟨w, s, _, habs⟩ := wb2
  have htv : b2.toVal (b2.get .root) = .arr [.null, .null] := habs
  obtain ⟨h, t, hv⟩ := toVal_arr_inv htv
  have hk : (b2.chain h)[1]? = some 1 := by rw [chain_of_layout w (l := .root) trivial hv]; rfl
  obtain ⟨a, _, ⟨xs, h1, _, h2⟩, _, f⟩ := removeOne_refines w s (l := .root) trivial hv hk
  have hx : xs = [.null, .null] := by rw [htv] at h1; injection h1 with h1; exact h1.symm
  subst hx
  have hfr := removeOne_frame w s (l := .root) (l' := .slot 0) trivial hv hk
    (by show 0 ∈ G2.locs; decide +kernel) (by intro e; cases e)
    (by intro j e; cases e; decide +kernel)
    (by intro x hx; have : (layoutAt G2 (.slot 0)).ids = [] := by decide +kernel
        rw [this] at hx; cases hx)
  exact ⟨h2, a, fun hl => ((f 1).1 hl).2 (Or.inl (by simp)), hfr⟩

/-! C: objects. `eo`: the empty object `{}` -/
def eo : Doc := ({ g := g0, alloc := 0, pl := PL.init g0 } : Doc).set .root (.obj 255 255)
def k2 : List Byte := [0x6b, 0x32]

theorem wo : WFG eo .nil := wfg_empty_coll true rfl (PL.init_inv gok [])
theorem so : StrOK eo (eo.strRefs .nil) := strOK_nil_of_no_strings rfl
theorem mo (key : List Byte) : (membersAt eo .root).find? (fun m => m.1 == key) = none := rfl

/-- layout of an object with one member: key slot 0, value slot 1 -/
def H1 : Forest := .cons (some 0) 1 .nil .nil

/-- `getOrAddMember_absent` applies to `{}` (key copied into the string table): the result is `{"hi": null}`, slot 1 is
    returned and holds null, the invariant holds for the layout with key slot 0 and value slot 1 -/
def c1 : Doc := (eo.getOrAddMember .root hi false).2
theorem wc1 : WFG c1 H1 ∧ StrOK c1 (c1.strRefs H1) ∧ abs c1 = .obj [(hi, .null)] ∧ c1.g = g0 ∧
    c1.get (.slot 1) = .null := by
  obtain ⟨_, hok⟩ := getOrAddMember_absent (linked := false) wo so gok (l := .root) trivial (Or.inr ⟨255, 255, rfl⟩) (mo hi)
  obtain ⟨k, a1, _, _, _, a5, a6, a7, a8, a9, _⟩ := hok 1 (by decide +kernel)
  have hk : k = 0 := by
    have : eo.allocVariant.1 = some 0 := by decide +kernel
    rw [this] at a1; injection a1 with a1; exact a1.symm
  subst hk
  exact ⟨a5, a6, a7, a8, a9⟩

/-- ... and when the allocator fails from its first call on: nothing is returned, the overflow flag is set, the document
    is still `{}` and well-formed -/
def eof : Doc := { eo with pl := { eo.pl with failFrom := some 1 } }
theorem wof : WFG eof .nil := wfg_empty_coll true rfl (PL.init_inv gok [] (some 1))
theorem sof : StrOK eof (eof.strRefs .nil) := strOK_nil_of_no_strings rfl
example : (eof.getOrAddMember .root hi false).2.overflowed = true ∧ abs (eof.getOrAddMember .root hi false).2 = .obj [] ∧
    WFG (eof.getOrAddMember .root hi false).2 .nil := by
  obtain ⟨hfail, _⟩ := getOrAddMember_absent (linked := false) wof sof gok (l := .root) trivial (Or.inr ⟨255, 255, rfl⟩)
    (rfl : (membersAt eof .root).find? (fun m => m.1 == hi) = none)
  obtain ⟨a, b, _, c, _⟩ := hfail (by decide +kernel)
  exact ⟨a, c, b⟩

/-- `addMember_refines` applies to `{}` with a linked key -/
example : ∃ d', eo.addMember .root hi true = (some 1, d') ∧ WFG d' H1 ∧ abs d' = .obj [(hi, .null)] ∧
    ∀ x, PL.live d'.g d'.pl x ↔ PL.live eo.g eo.pl x ∨ x = 0 ∨ x = 1 := by
  have hr : eo.addMember .root hi true = (some 1, (eo.addMember .root hi true).2) :=
    Prod.ext (by decide +kernel) rfl
  obtain ⟨k, a1, _, _, _, a5, _, ⟨ms, a6, a7⟩, _, _, a10⟩ := addMember_refines wo so gok (l := .root) trivial rfl hr
  have hk : k = 0 := by
    have : eo.allocVariant.1 = some 0 := by decide +kernel
    rw [this] at a1; injection a1 with a1; exact a1.symm
  subst hk
  have hms : ms = [] := by
    have : eo.toVal (eo.get .root) = .obj [] := rfl
    rw [this] at a6; injection a6 with a6; exact a6.symm
  subst hms
  exact ⟨_, hr, a5, a7, a10⟩

theorem mc1 : membersAt c1 .root = [(hi, .null)] := membersAt_of_toVal wc1.2.2.1

/-- `getOrAddMember_found` applies to `{"hi": null}`: the value slot of the member is returned, nothing changes -/
example : ∃ v, c1.getOrAddMember .root hi true = (some v, c1) ∧ c1.toVal (c1.get (.slot v)) = .null := by
  obtain ⟨w, _, habs, _, _⟩ := wc1
  obtain ⟨h, t, hv⟩ := toVal_obj_inv (show c1.toVal (c1.get .root) = .obj [(hi, .null)] from habs)
  exact getOrAddMember_found (m := (hi, .null)) w (l := .root) trivial hv (by rw [mc1]; rfl)

/-- `removeMember_refines` applies to `{"hi": null}` (copied key): the member found by `findKey` occupies key slot 0 and
    value slot 1; after `removePair` the document is `{}`, well-formed, both slots are released -/
example : ∃ k v, c1.findKey .root hi = some (k, v) ∧ k = 0 ∧ v = 1 ∧ abs (c1.removePair .root k v) = .obj [] ∧
    WFG (c1.removePair .root k v) .nil ∧
    ¬ PL.live (c1.removePair .root k v).g (c1.removePair .root k v).pl 0 ∧
    ¬ PL.live (c1.removePair .root k v).g (c1.removePair .root k v).pl 1 := by
  obtain ⟨w, s, habs, _, _⟩ := wc1
  have htv : c1.toVal (c1.get .root) = .obj [(hi, .null)] := habs
  obtain ⟨h, t, hv⟩ := toVal_obj_inv htv
  obtain ⟨ms, hms, hfk⟩ := findKey_first w (l := .root) trivial hv hi
  have hm : ms = [(hi, .null)] := by rw [htv] at hms; injection hms with e; exact e.symm
  subst hm
  cases hf : c1.findKey .root hi with
  | none => rw [hf] at hfk; cases hfk
  | some p =>
    obtain ⟨k, v⟩ := p
    obtain ⟨hi1, hi2, a, _, ⟨ms', c1', _, _, c3⟩, _, f⟩ := removeMember_refines w s (l := .root) trivial hv hf
    have hm' : ms' = [(hi, .null)] := by rw [htv] at c1'; injection c1' with e; exact e.symm
    subst hm'
    have hv1 : v = 1 := by simpa [layoutAt, H1, Forest.tl] using hi1
    subst hv1
    have hk0 : k = 0 := by
      have : (layoutAt H1 .root).keyOfTop 1 = some 0 := by decide +kernel
      rw [this] at hi2; injection hi2 with e; exact e.symm
    subst hk0
    exact ⟨0, 1, rfl, rfl, rfl, c3, a, fun hl => ((f 0).1 hl).2 (Or.inl (by simp)),
      fun hl => ((f 1).1 hl).2 (Or.inl (by simp))⟩

/-! the object `{"hi": null, "k2": null}` with linked keys: slots 0,1 and 2,3 -/
def m1 : Doc := (eo.getOrAddMember .root hi true).2
def m2 : Doc := (m1.getOrAddMember .root k2 true).2
def H2 : Forest := .cons (some 0) 1 .nil (.cons (some 2) 3 .nil .nil)

theorem wm1 : WFG m1 H1 ∧ StrOK m1 (m1.strRefs H1) ∧ abs m1 = .obj [(hi, .null)] ∧ m1.g = g0 := by
  obtain ⟨_, hok⟩ := getOrAddMember_absent (linked := true) wo so gok (l := .root) trivial (Or.inr ⟨255, 255, rfl⟩) (mo hi)
  obtain ⟨k, a1, _, _, _, a5, a6, a7, a8, _, _⟩ := hok 1 (by decide +kernel)
  have hk : k = 0 := by
    have : eo.allocVariant.1 = some 0 := by decide +kernel
    rw [this] at a1; injection a1 with a1; exact a1.symm
  subst hk
  exact ⟨a5, a6, a7, a8⟩

/-- the pool of `m1`, computed from the pool of `eo` (the cells of `m1` do not evaluate in the kernel) -/
theorem pm1 : m1.pl = (PL.allocSlot g0 (PL.allocSlot g0 eo.pl).2).2 := by
  have e : eo.getOrAddMember .root hi true = (toObj eo .root).addMember .root hi true :=
    getOrAddMember_absent_eq wo so (l := .root) trivial (Or.inr ⟨255, 255, rfl⟩) (mo hi)
  have ht : toObj eo .root = eo := rfl
  show (eo.getOrAddMember .root hi true).2.pl = _
  rw [e, ht, addMember_linked_pl]
  have : PL.allocSlot eo.g eo.pl = (some 0, (PL.allocSlot g0 eo.pl).2) := Prod.ext (by decide +kernel) rfl
  rw [this]; rfl

theorem mm1 : membersAt m1 .root = [(hi, .null)] := membersAt_of_toVal wm1.2.2.1

theorem wm2 : WFG m2 H2 ∧ StrOK m2 (m2.strRefs H2) ∧ abs m2 = .obj [(hi, .null), (k2, .null)] ∧ m2.g = g0 := by
  obtain ⟨w, s, habs, hg⟩ := wm1
  have htv : m1.toVal (m1.get .root) = .obj [(hi, .null)] := habs
  obtain ⟨h, t, hv⟩ := toVal_obj_inv htv
  have gok1 : PL.GeoOK m1.g := by rw [hg]; exact gok
  have habsent : (membersAt m1 .root).find? (fun m => m.1 == k2) = none := by rw [mm1]; rfl
  obtain ⟨_, hok⟩ := getOrAddMember_absent (linked := true) w s gok1 (l := .root) trivial (Or.inr ⟨h, t, hv⟩) habsent
  obtain ⟨_, _, _, _, _, _, hg0, hpl0, _⟩ := toObj_spec w s (l := .root) trivial (Or.inr ⟨h, t, hv⟩)
  have hfst : (m1.getOrAddMember .root k2 true).1 = some 3 := by
    rw [getOrAddMember_absent_eq w s (l := .root) trivial (Or.inr ⟨h, t, hv⟩) habsent, addMember_linked_fst,
      hg0, hpl0, hg, pm1]
    decide +kernel
  obtain ⟨k, a1, _, _, _, a5, a6, a7, a8, _, _⟩ := hok 3 hfst
  have hk : k = 2 := by
    have : m1.allocVariant.1 = some 2 := by rw [allocVariant_fst, hg, pm1]; decide +kernel
    rw [this] at a1; injection a1 with a1; exact a1.symm
  subst hk
  rw [mm1] at a7
  exact ⟨a5, a6, a7, a8.trans hg⟩

/-- `removeMember_refines` and `removeMember_frame` apply to `{"hi": null, "k2": null}`: removing `"hi"` (slots 0, 1)
    gives `{"k2": null}`, and the reference to the value of `"k2"` (slot 3) still designates the same value -/
example : ∃ k v, m2.findKey .root hi = some (k, v) ∧ k = 0 ∧ v = 1 ∧
    abs (m2.removePair .root k v) = .obj [(k2, .null)] ∧
    WFG (m2.removePair .root k v) (.cons (some 2) 3 .nil .nil) ∧
    (m2.removePair .root k v).toVal ((m2.removePair .root k v).get (.slot 3)) = m2.toVal (m2.get (.slot 3)) := by
  obtain ⟨w, s, habs, _⟩ := wm2
  have htv : m2.toVal (m2.get .root) = .obj [(hi, .null), (k2, .null)] := habs
  obtain ⟨h, t, hv⟩ := toVal_obj_inv htv
  obtain ⟨ms, hms, hfk⟩ := findKey_first w (l := .root) trivial hv hi
  have hm : ms = [(hi, .null), (k2, .null)] := by rw [htv] at hms; injection hms with e; exact e.symm
  subst hm
  cases hf : m2.findKey .root hi with
  | none => rw [hf] at hfk; cases hfk
  | some p =>
    obtain ⟨k, v⟩ := p
    obtain ⟨hi1, hi2, a, _, ⟨ms', c1', cidx, _, c3⟩, _, _⟩ := removeMember_refines w s (l := .root) trivial hv hf
    have hm' : ms' = [(hi, .null), (k2, .null)] := by rw [htv] at c1'; injection c1' with e; exact e.symm
    subst hm'
    have hv1 : v = 1 := by
      have h0 : List.findIdx (fun m => m.1 == hi) [(hi, Val.null), (k2, Val.null)] = 0 := by decide +kernel
      rw [h0] at cidx
      have htl : (layoutAt H2 .root).tl = [1, 3] := rfl
      rw [htl, List.idxOf_cons] at cidx
      by_cases e : (1 == v) = true
      · exact (by simpa using e : 1 = v).symm
      · simp [e] at cidx
    subst hv1
    have hk0 : k = 0 := by
      have : (layoutAt H2 .root).keyOfTop 1 = some 0 := by decide +kernel
      rw [this] at hi2; injection hi2 with e; exact e.symm
    subst hk0
    have hfr := removeMember_frame w s (l := .root) (l' := .slot 3) trivial hv hf
      (by show 3 ∈ H2.locs; decide +kernel) (by intro e; cases e)
      (by intro j e; cases e; decide +kernel)
      (by intro x hx; have : (layoutAt H2 (.slot 3)).ids = [] := by decide +kernel
          rw [this] at hx; cases hx)
    exact ⟨0, 1, rfl, rfl, rfl, c3, a, hfr⟩

/-! `appendPair_wf` applies: two fresh slots are allocated by hand, the key is linked into slot 0 -/
def a1 : Doc := eo.allocVariant.2
def a2 : Doc := a1.allocVariant.2
def a3 : Doc := a2.set (.slot 0) (.linked hi)

example : WFG (a3.appendPair .root 0 1) H1 ∧ StrOK (a3.appendPair .root 0 1) ((a3.appendPair .root 0 1).strRefs H1) ∧
    abs (a3.appendPair .root 0 1) = .obj [(hi, .null)] := by
  have h1 : eo.allocVariant = (some 0, a1) := Prod.ext (by decide +kernel) rfl
  obtain ⟨g1, _, c1, _, _, _, l1⟩ := allocVariant_some gok wo.pool h1
  have gok1 : PL.GeoOK a1.g := by rw [g1.g]; exact gok
  have h2 : a1.allocVariant = (some 1, a2) := Prod.ext (by decide +kernel) rfl
  obtain ⟨g2, _, c2, _, _, _, l2⟩ := allocVariant_some gok1 g1.pool h2
  have hp3 : PL.Inv a3.g a3.pl := by rw [show a3.pl = a2.pl from set_pl _ _ _, show a3.g = a2.g from set_g _ _ _]; exact g2.pool
  have w3 : WFG a3 .nil := wfg_empty_coll true (by decide +kernel) hp3
  have s3 : StrOK a3 (strOfV (.linked hi) ++ a3.strRefs .nil) :=
    ⟨by decide +kernel, by decide +kernel, by decide +kernel, by decide +kernel⟩
  have hlive : ∀ x, PL.live a3.g a3.pl x ↔ PL.live a2.g a2.pl x := fun x => by
    rw [show a3.pl = a2.pl from set_pl _ _ _, show a3.g = a2.g from set_g _ _ _]
  obtain ⟨a, b, ms, hms, habs⟩ := appendPair_wf (d := a3) (kv := .linked hi) (k := 0) (v := 1) (nk := a2.nextOf 0) w3 s3
    (l := .root) trivial (by decide +kernel : a3.get .root = .obj 255 255)
    (by show (a2.set (.slot 0) (.linked hi)).cell 0 = _; rw [cell_set_slot, if_pos rfl])
    trivial
    (by show (a2.set (.slot 0) (.linked hi)).cell 1 = _
        rw [cell_set_slot, if_neg (by decide), c2]; rfl)
    (by decide) (by simp [Forest.ids]) (by simp [Forest.ids]) (by decide +kernel) (by decide +kernel)
    ((hlive 0).2 ((l2 0).2 (Or.inl ((l1 0).2 (Or.inr rfl))))) ((hlive 1).2 ((l2 1).2 (Or.inr rfl)))
  have hm : ms = [] := by
    have : a3.toVal (a3.get .root) = .obj [] := veq (by decide +kernel)
    rw [this] at hms; injection hms with e; exact e.symm
  subst hm
  exact ⟨a, b, habs⟩

/-! D: histories over `Op2` -/

def op1 : Op2 := .base (.add .root)
def op2 : Op2 := .member (.slot 0) hi false
def op3 : Op2 := .removeElem .root 0
def dd1 : Doc := op1.run e1
def FF1 : Forest := op1.layout e1 .nil
def dd2 : Doc := op2.run dd1
def FF2 : Forest := op2.layout dd1 FF1
def dd3 : Doc := op3.run dd2
def FF3 : Forest := op3.layout dd2 FF2

theorem v1 : op1.Valid e1 .nil := ⟨trivial, 255, 255, rfl⟩
theorem st1 : WFG dd1 FF1 ∧ StrOK dd1 (dd1.strRefs FF1) ∧ dd1.g = g0 ∧ abs dd1 = .arr [.null] := by
  obtain ⟨a, b, c, e⟩ := step_refines2 w1 C04.Ex2.s1 gok v1
  exact ⟨a, b, c, e.trans (veq (by decide +kernel))⟩
theorem v2 : op2.Valid dd1 FF1 :=
  ⟨by show 0 ∈ FF1.locs; decide +kernel, Or.inl (by decide +kernel)⟩
/-- `step_refines2` applies to `member`: element 0 of `[null]` becomes the object `{"hi": null}` (key copied) -/
theorem st2 : WFG dd2 FF2 ∧ StrOK dd2 (dd2.strRefs FF2) ∧ dd2.g = g0 ∧ abs dd2 = .arr [.obj [(hi, .null)]] := by
  obtain ⟨a1, a2, a3, _⟩ := st1
  obtain ⟨a, b, c, e⟩ := step_refines2 a1 a2 (by rw [a3]; exact gok) v2
  exact ⟨a, b, c.trans a3, e.trans (veq (by decide +kernel))⟩
theorem ff2 : FF2 = .cons none 0 (.cons (some 1) 2 .nil .nil) .nil := by decide +kernel
theorem v3 : op3.Valid dd2 FF2 := ⟨trivial, toVal_arr_inv (show dd2.toVal (dd2.get .root) = _ from st2.2.2.2)⟩
/-- `step_refines2` applies to `removeElem`: the element holding `{"hi": null}` (slots 0, 1, 2 and the copied key
    string) is removed, the document is `[]` -/
theorem st3 : WFG dd3 FF3 ∧ StrOK dd3 (dd3.strRefs FF3) ∧ dd3.g = g0 ∧ abs dd3 = .arr [] := by
  obtain ⟨a1, a2, a3, a4⟩ := st2
  obtain ⟨a, b, c, e⟩ := step_refines2 a1 a2 (by rw [a3]; exact gok) v3
  refine ⟨a, b, c.trans a3, e.trans ?_⟩
  have htv : dd2.toVal (dd2.get .root) = .arr [.obj [(hi, .null)]] := a4
  simp only [op3, Op2.spec, htv]
  rfl

theorem hist3 : Hist2 e1 .nil dd3 FF3 :=
  Hist2.cons op1 v1 (Hist2.cons op2 v2 (Hist2.cons op3 v3 (Hist2.nil _ _)))

/-- `history_refines2` applies to the history `add root; root[0]["hi"]; root.remove(0)` -/
example : Hist2 e1 .nil dd3 FF3 ∧ WFG dd3 FF3 ∧ StrOK dd3 (dd3.strRefs FF3) ∧ dd3.g = e1.g ∧ abs dd3 = .arr [] :=
  ⟨hist3, (history_refines2 hist3 w1 C04.Ex2.s1 gok).1, (history_refines2 hist3 w1 C04.Ex2.s1 gok).2.1,
    (history_refines2 hist3 w1 C04.Ex2.s1 gok).2.2, st3.2.2.2⟩

/-- `history_trace2` applies: after that history, `clear root` gives null -/
example : abs ((Op2.base (.clear .root)).run dd3) = .null := by
  rw [history_trace2 hist3 w1 C04.Ex2.s1 gok (.base (.clear .root)) trivial]
  rfl

/-! the same on an object: `root["hi"]` (copied key) then `root.remove("hi")` from `{}` -/
def oo1 : Op2 := .member .root hi false
def oo2 : Op2 := .removeMember .root hi
theorem u1 : oo1.Valid eo .nil := ⟨trivial, Or.inr ⟨255, 255, rfl⟩⟩
theorem su1 : WFG (oo1.run eo) (oo1.layout eo .nil) ∧ StrOK (oo1.run eo) ((oo1.run eo).strRefs (oo1.layout eo .nil)) ∧
    (oo1.run eo).g = g0 ∧ abs (oo1.run eo) = .obj [(hi, .null)] := by
  obtain ⟨a, b, c, e⟩ := step_refines2 wo so gok u1
  exact ⟨a, b, c, e.trans (veq (by decide +kernel))⟩
theorem u2 : oo2.Valid (oo1.run eo) (oo1.layout eo .nil) :=
  ⟨trivial, toVal_obj_inv (show (oo1.run eo).toVal ((oo1.run eo).get .root) = _ from su1.2.2.2)⟩
/-- `step_refines2` applies to `removeMember`: the document is `{}` again, and well-formed -/
example : WFG (oo2.run (oo1.run eo)) (oo2.layout (oo1.run eo) (oo1.layout eo .nil)) ∧
    abs (oo2.run (oo1.run eo)) = .obj [] := by
  obtain ⟨a1, a2, a3, a4⟩ := su1
  obtain ⟨a, _, _, e⟩ := step_refines2 a1 a2 (by rw [a3]; exact gok) u2
  refine ⟨a, e.trans ?_⟩
  have htv : (oo1.run eo).toVal ((oo1.run eo).get .root) = .obj [(hi, .null)] := a4
  simp only [oo2, Op2.spec, htv]
  rfl

end C04.Ex3

