/- C01 at slot level — THE SLOT-LEVEL DESERIALIZER REFINES THE ABSTRACT ONE.

   `JDD.run cfg limit d input` (AJ/Model/JDD.lean) is `deserializeJson` writing into the slot-level document `DL.Doc`
   (slots with next pointers, head/tail collections, extension slots, reference-counted strings, the StringBuilder and its
   allocation pattern), validated against the C++ including allocation-failure schedules. `JD.run cfg limit input`
   (AJ/Model/JD.lean) is the value-level deserializer that all the grammar theorems are about (C01 `valid_json`, C10
   `accepts_iff`, C11 projection, C12 numbers, C15 depth, C16 consumption, C17 unicode).

   Main theorem `C01.slot_level_refines`: for every configuration whose string limit is at least the initial StringBuilder
   capacity (31; the real limits are 255, 65535, 2^32-1), every nesting limit, input and starting document (any content:
   it is cleared first; hypotheses: the geometry and the pool invariant), with `(c, d', n) := JDD.run …` and
   `(c0, v0, n0) := JD.run …`:
   * if no allocation failed (`d'.overflowed = false`): `c = c0`, `n = n0` and the document left — for EVERY code, also
     the partial document left by a syntax error — reads back as the abstract value: `d'.toVal d'.root = v0`;
   * unconditionally: either `c = c0 ∧ n = n0`, or `c = NoMemory` with the overflow flag set.
   Helper lemmas: AJ/Lemmas/JddSim*.lean (a simulation by induction on the fuel over the three mutual routines, in the
   local specification `Pre`/`Post`/`Fr` of AJ/Lemmas/DocCopy.lean). -/
import AJ.Lemmas.JddSimAll
import AJ.Lemmas.JddfRun
import AJ.Lemmas.JddInv
import AJ.Lemmas.FilterId
import AJ.Props.C01
import AJ.Props.C10
import AJ.Props.C15
set_option linter.unusedSimpArgs false
set_option linter.unusedVariables false

namespace C01
open DL JDD
open JD (Byte Val Cfg Code St)

/-- the two outcomes of a run: no allocation failed and everything agrees, or one failed and the code is not `Ok` -/
theorem slot_level_core (cfg : Cfg) (limit : Nat) (d : Doc) (input : List Byte) (gok : PL.GeoOK d.g)
    (hp : PL.Inv d.g d.pl) (h31 : 31 ≤ cfg.maxStrLen) :
    ((JDD.run cfg limit d input).2.1.overflowed = false ∧
      (JDD.run cfg limit d input).1 = (JD.run cfg limit input).1 ∧
      (JDD.run cfg limit d input).2.2 = (JD.run cfg limit input).2.2 ∧
      (JDD.run cfg limit d input).2.1.toVal (JDD.run cfg limit d input).2.1.root = (JD.run cfg limit input).2.1 ∧
      WF (JDD.run cfg limit d input).2.1) ∨
    ((JDD.run cfg limit d input).2.1.overflowed = true ∧ (JDD.run cfg limit d input).1 ≠ .ok ∧
      ((JDD.run cfg limit d input).1 = .noMemory ∨
        ((JDD.run cfg limit d input).1 = (JD.run cfg limit input).1 ∧
         (JDD.run cfg limit d input).2.2 = (JD.run cfg limit input).2.2))) := by
  rw [← JDD.run_all, JD.run_all]
  exact JDDF.run_core cfg limit .all d input gok hp h31

/-- **C01 at slot level: the slot-level deserializer refines the abstract one.** For every configuration (string limit at
    least the initial StringBuilder capacity), nesting limit, input and starting document: when no allocation failed,
    the code, the number of bytes consumed and the document left — complete or partial, for every code — are those of
    the abstract deserializer; in any case the code and the consumption are the abstract ones unless the answer is
    `NoMemory` with the overflow flag set. -/
theorem slot_level_refines (cfg : Cfg) (limit : Nat) (d : Doc) (input : List Byte) (gok : PL.GeoOK d.g)
    (hp : PL.Inv d.g d.pl) (h31 : 31 ≤ cfg.maxStrLen) :
    ((JDD.run cfg limit d input).2.1.overflowed = false →
      (JDD.run cfg limit d input).1 = (JD.run cfg limit input).1 ∧
      (JDD.run cfg limit d input).2.2 = (JD.run cfg limit input).2.2 ∧
      (JDD.run cfg limit d input).2.1.toVal (JDD.run cfg limit d input).2.1.root = (JD.run cfg limit input).2.1) ∧
    (((JDD.run cfg limit d input).1 = (JD.run cfg limit input).1 ∧
        (JDD.run cfg limit d input).2.2 = (JD.run cfg limit input).2.2) ∨
      ((JDD.run cfg limit d input).1 = .noMemory ∧ (JDD.run cfg limit d input).2.1.overflowed = true)) := by
  rcases slot_level_core cfg limit d input gok hp h31 with ⟨a, b, c, e, _⟩ | ⟨a, _, b⟩
  · exact ⟨fun _ => ⟨b, c, e⟩, Or.inl ⟨b, c⟩⟩
  · refine ⟨fun h => (by rw [a] at h; cases h), ?_⟩
    rcases b with b | b
    · exact Or.inr ⟨b, a⟩
    · exact Or.inl b

/-- `Ok` is never answered after an allocation failure: an `Ok` run has the overflow flag clear -/
theorem ok_no_overflow (cfg : Cfg) (limit : Nat) (d : Doc) (input : List Byte) (gok : PL.GeoOK d.g)
    (hp : PL.Inv d.g d.pl) (h31 : 31 ≤ cfg.maxStrLen) (hok : (JDD.run cfg limit d input).1 = .ok) :
    (JDD.run cfg limit d input).2.1.overflowed = false := by
  rcases slot_level_core cfg limit d input gok hp h31 with ⟨a, _⟩ | ⟨_, b, _⟩
  · exact a
  · exact absurd hok b

/-- without an allocation failure the document left is well-formed (chains acyclic and unshared, slots live in a consistent
    pool, extension slots referenced once, reference counts of the string table cover all references) — for every
    code. (Well-formedness for every failure schedule is the subject of AJ/Props/C03Doc.lean.) -/
theorem slot_level_wf (cfg : Cfg) (limit : Nat) (d : Doc) (input : List Byte) (gok : PL.GeoOK d.g)
    (hp : PL.Inv d.g d.pl) (h31 : 31 ≤ cfg.maxStrLen) (hno : (JDD.run cfg limit d input).2.1.overflowed = false) :
    WF (JDD.run cfg limit d input).2.1 := by
  rcases slot_level_core cfg limit d input gok hp h31 with ⟨_, _, _, _, w⟩ | ⟨a, _⟩
  · exact w
  · rw [a] at hno; cases hno

/-- an `Ok` run: the abstract run is `Ok` too, with the same consumption, and the document reads back as its value -/
theorem ok_refines (cfg : Cfg) (limit : Nat) (d : Doc) (input : List Byte) (gok : PL.GeoOK d.g)
    (hp : PL.Inv d.g d.pl) (h31 : 31 ≤ cfg.maxStrLen) (hok : (JDD.run cfg limit d input).1 = .ok) :
    (JD.run cfg limit input).1 = .ok ∧ (JDD.run cfg limit d input).2.2 = (JD.run cfg limit input).2.2 ∧
    (JDD.run cfg limit d input).2.1.toVal (JDD.run cfg limit d input).2.1.root = (JD.run cfg limit input).2.1 := by
  obtain ⟨a, b, c⟩ := (slot_level_refines cfg limit d input gok hp h31).1 (ok_no_overflow cfg limit d input gok hp h31 hok)
  exact ⟨by rw [← a]; exact hok, b, c⟩

/-- **C01, slot level.** Every RFC 8259 text within the limits, deserialized into ANY document with an allocator that
    does not fail, is answered `Ok` and leaves a document whose abstract value is the value the text denotes. -/
theorem valid_json_slot_level (cfg : Cfg) (hu : cfg.decodeUnicode = true) (h31 : 31 ≤ cfg.maxStrLen) {L : Nat}
    {t : List Byte} {v : Val} (h : Spec.Json.Doc cfg L t v) (d : Doc) (gok : PL.GeoOK d.g) (hp : PL.Inv d.g d.pl)
    (hno : (JDD.run cfg L d t).2.1.overflowed = false) :
    (JDD.run cfg L d t).1 = .ok ∧ (JDD.run cfg L d t).2.1.toVal (JDD.run cfg L d t).2.1.root = v := by
  obtain ⟨a, _, c⟩ := (slot_level_refines cfg L d t gok hp h31).1 hno
  obtain ⟨h1, h2⟩ := valid_json cfg hu h
  exact ⟨by rw [a, h1], by rw [c, h2]⟩

end C01

namespace C10
open DL JDD
open JD (Byte Val Cfg Code St)

/-- **C10, slot level.** With an allocator that does not fail, the slot-level deserializer answers `Ok` and leaves a
    document reading back as `v` exactly when the input is a text of the dialect denoting `v`. -/
theorem ok_iff_dialect_slot_level (cfg : Cfg) (h31 : 31 ≤ cfg.maxStrLen) (L : Nat) (t : List UInt8) (v : Val) (d : Doc)
    (gok : PL.GeoOK d.g) (hp : PL.Inv d.g d.pl) (hno : (JDD.run cfg L d t).2.1.overflowed = false) :
    ((JDD.run cfg L d t).1 = .ok ∧ (JDD.run cfg L d t).2.1.toVal (JDD.run cfg L d t).2.1.root = v) ↔
      Spec.Dialect.Doc cfg L t v := by
  obtain ⟨a, _, c⟩ := (C01.slot_level_refines cfg L d t gok hp h31).1 hno
  rw [a, c]
  exact ok_iff_dialect cfg L t v

/-- acceptance alone -/
theorem accepts_iff_slot_level (cfg : Cfg) (h31 : 31 ≤ cfg.maxStrLen) (L : Nat) (t : List UInt8) (d : Doc)
    (gok : PL.GeoOK d.g) (hp : PL.Inv d.g d.pl) (hno : (JDD.run cfg L d t).2.1.overflowed = false) :
    (JDD.run cfg L d t).1 = .ok ↔ ∃ v, Spec.Dialect.Doc cfg L t v := by
  rw [((C01.slot_level_refines cfg L d t gok hp h31).1 hno).1]
  exact accepts_iff cfg L t

/-- soundness needs no hypothesis on the allocator: an `Ok` answer means the input is a text of the dialect, denoting
    the value the document reads back as -/
theorem ok_sound_slot_level (cfg : Cfg) (h31 : 31 ≤ cfg.maxStrLen) (L : Nat) (t : List UInt8) (d : Doc)
    (gok : PL.GeoOK d.g) (hp : PL.Inv d.g d.pl) (hok : (JDD.run cfg L d t).1 = .ok) :
    Spec.Dialect.Doc cfg L t ((JDD.run cfg L d t).2.1.toVal (JDD.run cfg L d t).2.1.root) := by
  obtain ⟨a, _, c⟩ := C01.ok_refines cfg L d t gok hp h31 hok
  rw [c]
  exact (ok_iff_dialect cfg L t _).1 ⟨a, rfl⟩

end C10

namespace C15
open DL JDD
open JD (Byte Val Cfg Code St)

/-- **C15, slot level.** A document obtained with `Ok` has nesting depth at most the nesting limit (whatever the
    allocator does: `Ok` is not answered after a failure). -/
theorem ok_depth_slot_level (cfg : Cfg) (h31 : 31 ≤ cfg.maxStrLen) (L : Nat) (input : List Byte) (d : Doc)
    (gok : PL.GeoOK d.g) (hp : PL.Inv d.g d.pl) (hok : (JDD.run cfg L d input).1 = .ok) :
    C15.depth ((JDD.run cfg L d input).2.1.toVal (JDD.run cfg L d input).2.1.root) ≤ L := by
  obtain ⟨a, _, c⟩ := C01.ok_refines cfg L d input gok hp h31 hok
  rw [c]
  exact json_ok_depth cfg L input a

end C15

/-! ## Non-vacuity: geometry ⟨4, 1, 1⟩ (4 slots per pool, 1 inline pool, 1-byte slot ids), default configuration

   The hypotheses of `C01.slot_level_refines` are discharged for a fresh document; the overflow flag of the slot-level
   run is evaluated in the kernel where the run touches slot 0 only (`Std.HashMap` lookups with another key do not
   evaluate in the kernel); the abstract run is evaluated in the kernel; the theorem then gives the code, the
   consumption and the abstract value of the slot-level document. -/
namespace C01.ExDoc
open DL JDD
open JD (Byte Val Cfg Code St)

def g411 : PL.Geo := ⟨4, 1, 1, 16, 16⟩
def dz : Doc := { g := g411, alloc := 0, pl := PL.init g411 }
theorem gok : PL.GeoOK dz.g := ⟨by decide, by decide⟩
theorem hp : PL.Inv dz.g dz.pl := PL.init_inv gok []
theorem h31 : 31 ≤ ({} : Cfg).maxStrLen := by decide

/-- `[1]` -/
def arr1 : List Byte := [0x5B, 0x31, 0x5D]
/-- `"hi"` -/
def hi : List Byte := [0x22, 0x68, 0x69, 0x22]
/-- `{"a":1,"a":null}` : the duplicate key replaces the value of the first member -/
def dup : List Byte := [0x7B, 0x22, 0x61, 0x22, 0x3A, 0x31, 0x2C, 0x22, 0x61, 0x22, 0x3A, 0x6E, 0x75, 0x6C, 0x6C, 0x7D]
/-- `[1` : a syntax error leaves the partial document -/
def arrOpen : List Byte := [0x5B, 0x31]

set_option maxRecDepth 100000 in
theorem ov_arr1 : (JDD.run {} 10 dz arr1).2.1.overflowed = false := by decide +kernel
set_option maxRecDepth 100000 in
theorem ov_hi : (JDD.run {} 10 dz hi).2.1.overflowed = false := by decide +kernel
set_option maxRecDepth 100000 in
theorem ov_arrOpen : (JDD.run {} 10 dz arrOpen).2.1.overflowed = false := by decide +kernel

/-- `[1]` into a fresh document: `Ok`, 3 bytes consumed, and the slot-level document (an array whose chain holds one slot
    with the integer) reads back as `[1]` -/
example : (JDD.run {} 10 dz arr1).1 = .ok ∧ (JDD.run {} 10 dz arr1).2.2 = 3 ∧
    (JDD.run {} 10 dz arr1).2.1.toVal (JDD.run {} 10 dz arr1).2.1.root = .arr [.num (.uint 1)] := by
  obtain ⟨a, b, c⟩ := (slot_level_refines {} 10 dz arr1 gok hp h31).1 ov_arr1
  rw [a, b, c]
  exact ⟨by decide +kernel, by decide +kernel, valEq_sound _ _ (by decide +kernel)⟩

/-- `"hi"`: the string went through the StringBuilder model and the string table -/
example : (JDD.run {} 10 dz hi).1 = .ok ∧ (JDD.run {} 10 dz hi).2.2 = 4 ∧
    (JDD.run {} 10 dz hi).2.1.toVal (JDD.run {} 10 dz hi).2.1.root = .str [0x68, 0x69] := by
  obtain ⟨a, b, c⟩ := (slot_level_refines {} 10 dz hi gok hp h31).1 ov_hi
  rw [a, b, c]
  exact ⟨by decide +kernel, by decide +kernel, valEq_sound _ _ (by decide +kernel)⟩

/-- `[1` : `IncompleteInput`, and the PARTIAL document `[1]` is the same on both sides -/
example : (JDD.run {} 10 dz arrOpen).1 = .incomplete ∧
    (JDD.run {} 10 dz arrOpen).2.1.toVal (JDD.run {} 10 dz arrOpen).2.1.root = .arr [.num (.uint 1)] := by
  obtain ⟨a, _, c⟩ := (slot_level_refines {} 10 dz arrOpen gok hp h31).1 ov_arrOpen
  rw [a, c]
  exact ⟨by decide +kernel, valEq_sound _ _ (by decide +kernel)⟩

/-- `{"a":1,"a":null}` (two slots: the run does not evaluate in the kernel). The abstract run answers `Ok` with the single
    member `"a": null` (last occurrence wins, position of the first) after 16 bytes; hence the slot-level run either
    answers `Ok` after 16 bytes, leaving a document that reads back as `{"a":null}`, or it answers `NoMemory` with the
    overflow flag set (evaluating the model, `#eval`, shows the first: the allocator of `dz` never fails). -/
example :
    ((JDD.run {} 10 dz dup).1 = .ok ∧ (JDD.run {} 10 dz dup).2.2 = 16 ∧
      (JDD.run {} 10 dz dup).2.1.toVal (JDD.run {} 10 dz dup).2.1.root = .obj [([0x61], .null)]) ∨
    ((JDD.run {} 10 dz dup).1 = .noMemory ∧ (JDD.run {} 10 dz dup).2.1.overflowed = true) := by
  have h0 : (JD.run {} 10 dup).1 = .ok ∧ (JD.run {} 10 dup).2.2 = 16 ∧ (JD.run {} 10 dup).2.1 = .obj [([0x61], .null)] :=
    ⟨by decide +kernel, by decide +kernel, valEq_sound _ _ (by decide +kernel)⟩
  rcases slot_level_core {} 10 dz dup gok hp h31 with ⟨_, a, b, c, _⟩ | ⟨a, hne, b⟩
  · exact Or.inl ⟨by rw [a]; exact h0.1, by rw [b]; exact h0.2.1, by rw [c]; exact h0.2.2⟩
  · rcases b with b | ⟨b, _⟩
    · exact Or.inr ⟨b, a⟩
    · exact absurd (by rw [b]; exact h0.1) hne

/-- an allocator that fails at its first call: `NoMemory`, overflow flag set, as the unconditional clause allows -/
def dzf : Doc := { dz with pl := { dz.pl with failFrom := some 1 } }
set_option maxRecDepth 100000 in
example : (JDD.run {} 10 dzf hi).1 = .noMemory ∧ (JDD.run {} 10 dzf hi).2.1.overflowed = true ∧
    (JD.run {} 10 hi).1 = .ok := by decide +kernel

/-- after an allocation failure the consumption differs too (the slot-level run stops at the failed `addElement`, after
    `[1` minus the value: 2 bytes; the abstract run consumes the 3 bytes): the unconditional clause is a disjunction -/
example : (JDD.run {} 10 dzf arr1).1 = .noMemory ∧ (JDD.run {} 10 dzf arr1).2.2 = 2 ∧
    (JD.run {} 10 arr1).1 = .ok ∧ (JD.run {} 10 arr1).2.2 = 3 := by decide +kernel

/-- the hypothesis `31 ≤ cfg.maxStrLen` cannot be dropped: with a string limit of 3 bytes (below the initial capacity of
    the StringBuilder) the 4-byte string `"abcd"` is refused by the abstract deserializer (`NoMemory`) and accepted by the
    slot-level one without any allocation failure -/
def abcd : List Byte := [0x22, 0x61, 0x62, 0x63, 0x64, 0x22]
set_option maxRecDepth 100000 in
example : (JD.run { maxStrLen := 3 } 10 abcd).1 = .noMemory ∧ (JDD.run { maxStrLen := 3 } 10 dz abcd).1 = .ok ∧
    (JDD.run { maxStrLen := 3 } 10 dz abcd).2.1.overflowed = false := by decide +kernel

end C01.ExDoc

