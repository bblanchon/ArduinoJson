/- C09 — the VALUE of every legal MessagePack encoding, non-minimal widths included.

   `C09.enc_accepts` (Props/C09Prefix.lean) proves that every encoding of the syntactic predicate `MD.Enc env d e` (any legal
   width at every place: fix/8/16/32 lengths and counts, bin, ext, fixext, nested arrays and maps, within the limits) is accepted
   with exact consumption; the value stayed behind an existential. Here:

   * `MD.EncVal env d e v` (Lemmas/MpEncValue.lean) mirrors `MD.Enc` constructor by constructor and carries the value `v`
     (leaf cases compute it from the header / payload bytes); `enc_value_unique`: `Enc env d e → ∃! v, EncVal env d e v`.
   * `enc_value` : `EncVal env d e v → d ≤ L → MD.run env L .all (e ++ rest) = (.ok, v, e.length)`;
     `enc_value_filtered` : under any filter the result is `Spec.Filter.project flt v`.
   * `enc_decodeTop` : the independent decoder written from the format specification (`MSpec.decodeTop`) reads `e` as exactly one
     object `mv` with nothing left, and `v` denotes `mv` (`MD.Den`: integers by value, floats bit-exact, strings, raw nodes
     whose bytes decode to that bin / ext, arrays, maps in order). `enc_decodeTop_value`: for raw-free `v`,
     `canon v = valOfMV mv`: up to the signedness tag of non-negative integers, `v` is a function of `mv`.
   * `width_irrelevant` : two legal encodings that the specification decoder reads as the same object give documents that
     compare equal (`Cmp.compare … = .equal`, `C18.vEq`), provided the first holds no raw node, no NaN, no repeated key.
     `raw_width_matters`: for bin the hypothesis is needed (bin8 and bin16 of the same payload: same object, unequal documents). -/
import AJ.Lemmas.MpEncSpec
import AJ.Props.C09Prefix
import AJ.Props.C11Mp
import AJ.Props.C18
namespace C09
open JD hiding parseVariant run
open MD CrossFormat

/-! ## 1. existence and uniqueness of the value -/

/-- every legal encoding has exactly one value -/
theorem enc_value_unique {env : Env} {d : Nat} {e : List Byte} (h : Enc env d e) :
    ∃ v, EncVal env d e v ∧ ∀ v', EncVal env d e v' → v' = v := by
  obtain ⟨v, hv⟩ := h.hasVal
  exact ⟨v, hv, fun v' hv' => encVal_unique hv' hv⟩

/-- an encoding with a value is a legal encoding -/
theorem encVal_enc {env : Env} {d : Nat} {e : List Byte} {v : Val} (h : EncVal env d e v) : Enc env d e := h.enc

/-! ## 2. the deserializer computes exactly that value -/

/-- **C09, value clause.** For every legal encoding `e` (any width at every place) with value `v`, nesting at most `L`:
    the deserializer model, on `e` followed by anything, answers Ok with exactly `v` and consumes exactly `e`. -/
theorem enc_value (env : Env) (L : Nat) {d : Nat} {e : List Byte} {v : Val} (h : EncVal env d e v) (hd : d ≤ L)
    (rest : List Byte) :
    MD.run env L .all (e ++ rest) = (.ok, v, e.length) := by
  have hv := enc_val h (2 * (e ++ rest).length + 4) L rest 0 hd (by simp only [List.length_append]; omega)
  simp only [run]
  rw [hv]
  simp

/-- the same under any filter: the stored document is the projection of `v` by the filter -/
theorem enc_value_filtered (env : Env) (L : Nat) (flt : Flt) {d : Nat} {e : List Byte} {v : Val} (h : EncVal env d e v)
    (hd : d ≤ L) (rest : List Byte) :
    MD.run env L flt (e ++ rest) = (.ok, Spec.Filter.project flt v, e.length) := by
  have h0 := enc_value env L h hd rest
  have := C11.msgpack_projection_all_inputs env L flt (e ++ rest) (by rw [h0])
  rw [this, h0]

/-- the existential of `enc_accepts` removed: the value of the run is THE value of the encoding -/
theorem enc_run_value (env : Env) (L : Nat) (flt : Flt) {d : Nat} {e : List Byte} (h : Enc env d e) (hd : d ≤ L)
    (rest : List Byte) :
    ∃ v, EncVal env d e v ∧ MD.run env L .all (e ++ rest) = (.ok, v, e.length) ∧
      MD.run env L flt (e ++ rest) = (.ok, Spec.Filter.project flt v, e.length) := by
  obtain ⟨v, hv⟩ := h.hasVal
  exact ⟨v, hv, enc_value env L hv hd rest, enc_value_filtered env L flt hv hd rest⟩

/-! ## 3. agreement with the decoder written from the specification -/

/-- the specification decoder reads every legal encoding (bin / ext / fixext included) as exactly one object, nothing
    trailing, and the value the library stores denotes that object -/
theorem enc_decodeTop {env : Env} {d : Nat} {e : List Byte} {v : Val} (h : EncVal env d e v) :
    ∃ mv, MSpec.decodeTop e = some (mv, []) ∧ Den mv v := by
  obtain ⟨mv, hden, hdec⟩ := enc_spec h
  refine ⟨mv, ?_, hden⟩
  have := hdec (2 * e.length + 2) [] (by omega)
  rw [List.append_nil] at this
  exact this

/-- followed by anything: the specification decoder stops exactly where the library does -/
theorem enc_decode_rest {env : Env} {d : Nat} {e : List Byte} {v : Val} (h : EncVal env d e v) (rest : List Byte) :
    ∃ mv, MSpec.decodeTop (e ++ rest) = some (mv, rest) ∧ Den mv v := by
  obtain ⟨mv, hden, hdec⟩ := enc_spec h
  exact ⟨mv, hdec (2 * (e ++ rest).length + 2) rest (by simp only [List.length_append]; omega), hden⟩

/-- without bin / ext: the stored value, up to the signedness tag of non-negative integers (`canon`), is the function
    `valOfMV` of the object the specification decoder returns -/
theorem enc_decodeTop_value {env : Env} {d : Nat} {e : List Byte} {v : Val} (h : EncVal env d e v) (hr : RawFree v) :
    ∃ mv, MSpec.decodeTop e = some (mv, []) ∧ canon v = valOfMV mv := by
  obtain ⟨mv, h1, h2⟩ := enc_decodeTop h
  exact ⟨mv, h1, den_canon mv v h2 hr⟩

/-- **the width is irrelevant.** Two legal encodings (any widths) that the specification decoder reads as the same object
    give two documents with the same canonical form, and these compare equal — `Cmp.compare` both ways, i.e. `==` of two
    variants — provided the first document holds no raw node (no bin / ext), no NaN and no object with a repeated key. -/
theorem width_irrelevant {env : Env} {d1 d2 : Nat} {e1 e2 : List Byte} {v1 v2 : Val} (h1 : EncVal env d1 e1 v1)
    (h2 : EncVal env d2 e2 v2) (hs : MSpec.decodeTop e1 = MSpec.decodeTop e2) (hr : RawFree v1) (hn : NoNaN v1)
    (hd : Cmp.NoDupKeys v1) :
    canon v1 = canon v2 ∧ Cmp.compare v1 v2 = .equal ∧ Cmp.compare v2 v1 = .equal ∧
      C18.vEq v1 v2 = true ∧ C18.vEq v2 v1 = true := by
  obtain ⟨mv1, a1, b1⟩ := enc_decodeTop h1
  obtain ⟨mv2, a2, b2⟩ := enc_decodeTop h2
  rw [a1, a2] at hs
  simp only [Option.some.injEq, Prod.mk.injEq, and_true] at hs
  subst hs
  have hr2 := den_rawFree mv1 v1 v2 b1 b2 hr
  have hc : canon v1 = canon v2 := (den_canon mv1 v1 b1 hr).trans (den_canon mv1 v2 b2 hr2).symm
  obtain ⟨c1, c2⟩ := canon_eq_eqBoth v1 v2 hc hn hd
  exact ⟨hc, c1, c2, C18.vEq_of_compare c2, C18.vEq_of_compare c1⟩

/-- the same about the two runs of the deserializer -/
theorem width_irrelevant_run (env : Env) (L : Nat) {d1 d2 : Nat} {e1 e2 : List Byte} {v1 v2 : Val}
    (h1 : EncVal env d1 e1 v1) (h2 : EncVal env d2 e2 v2) (hd1 : d1 ≤ L) (hd2 : d2 ≤ L)
    (hs : MSpec.decodeTop e1 = MSpec.decodeTop e2) (hr : RawFree v1) (hn : NoNaN v1) (hd : Cmp.NoDupKeys v1)
    (rest1 rest2 : List Byte) :
    (MD.run env L .all (e1 ++ rest1)).1 = .ok ∧ (MD.run env L .all (e2 ++ rest2)).1 = .ok ∧
    C18.vEq (MD.run env L .all (e1 ++ rest1)).2.1 (MD.run env L .all (e2 ++ rest2)).2.1 = true := by
  rw [enc_value env L h1 hd1, enc_value env L h2 hd2]
  exact ⟨rfl, rfl, (width_irrelevant h1 h2 hs hr hn hd).2.2.2.1⟩

/-! ## 4. non-vacuity -/
section examples

mutual
/-- `MSpec.MV` is a nested inductive type without decidable equality: the examples compare two answers of the
    specification decoder by this Boolean test, which the kernel evaluates -/
def mvEqb : MSpec.MV → MSpec.MV → Bool
  | .nil, .nil => true
  | .bool a, .bool b => a == b
  | .int a, .int b => a == b
  | .f32 a, .f32 b => a == b
  | .f64 a, .f64 b => a == b
  | .str a, .str b => a == b
  | .bin a, .bin b => a == b
  | .ext s a, .ext t b => s == t && a == b
  | .arr a, .arr b => mvEqbL a b
  | .map a, .map b => mvEqbM a b
  | _, _ => false
def mvEqbL : List MSpec.MV → List MSpec.MV → Bool
  | [], [] => true
  | x :: a, y :: b => mvEqb x y && mvEqbL a b
  | _, _ => false
def mvEqbM : List (MSpec.MV × MSpec.MV) → List (MSpec.MV × MSpec.MV) → Bool
  | [], [] => true
  | (k, x) :: a, (l, y) :: b => mvEqb k l && mvEqb x y && mvEqbM a b
  | _, _ => false
end

mutual
theorem mvEqb_sound : ∀ a b, mvEqb a b = true → a = b
  | .nil, b, h => by cases b <;> simp only [mvEqb, Bool.false_eq_true] at h; rfl
  | .bool x, b, h => by cases b <;> simp only [mvEqb, Bool.false_eq_true, beq_iff_eq] at h; rw [h]
  | .int x, b, h => by cases b <;> simp only [mvEqb, Bool.false_eq_true, beq_iff_eq] at h; rw [h]
  | .f32 x, b, h => by cases b <;> simp only [mvEqb, Bool.false_eq_true, beq_iff_eq] at h; rw [h]
  | .f64 x, b, h => by cases b <;> simp only [mvEqb, Bool.false_eq_true, beq_iff_eq] at h; rw [h]
  | .str x, b, h => by cases b <;> simp only [mvEqb, Bool.false_eq_true, beq_iff_eq] at h; rw [h]
  | .bin x, b, h => by cases b <;> simp only [mvEqb, Bool.false_eq_true, beq_iff_eq] at h; rw [h]
  | .ext s x, b, h => by
    cases b <;> simp only [mvEqb, Bool.false_eq_true, Bool.and_eq_true, beq_iff_eq] at h
    rw [h.1, h.2]
  | .arr x, b, h => by
    cases b <;> simp only [mvEqb, Bool.false_eq_true] at h
    rw [mvEqbL_sound x _ h]
  | .map x, b, h => by
    cases b <;> simp only [mvEqb, Bool.false_eq_true] at h
    rw [mvEqbM_sound x _ h]
theorem mvEqbL_sound : ∀ a b, mvEqbL a b = true → a = b
  | [], [], _ => rfl
  | [], _ :: _, h => by simp only [mvEqbL, Bool.false_eq_true] at h
  | _ :: _, [], h => by simp only [mvEqbL, Bool.false_eq_true] at h
  | x :: a, y :: b, h => by
    simp only [mvEqbL, Bool.and_eq_true] at h
    rw [mvEqb_sound x y h.1, mvEqbL_sound a b h.2]
theorem mvEqbM_sound : ∀ a b, mvEqbM a b = true → a = b
  | [], [], _ => rfl
  | [], _ :: _, h => by simp only [mvEqbM, Bool.false_eq_true] at h
  | _ :: _, [], h => by simp only [mvEqbM, Bool.false_eq_true] at h
  | (k, x) :: a, (l, y) :: b, h => by
    simp only [mvEqbM, Bool.and_eq_true] at h
    rw [mvEqb_sound k l h.1.1, mvEqb_sound x y h.1.2, mvEqbM_sound a b h.2]
end

/-- two answers of the specification decoder are equal when the Boolean comparison evaluates to `true` -/
theorem same_answer {x y : Option (MSpec.MV × List Byte)}
    (h : (match x, y with
      | some (a, r), some (b, s) => mvEqb a b && r == s
      | none, none => true
      | _, _ => false) = true) : x = y := by
  split at h
  · simp only [Bool.and_eq_true, beq_iff_eq] at h
    rw [mvEqb_sound _ _ h.1, h.2]
  · rfl
  · exact absurd h Bool.false_ne_true

abbrev E : Env := ⟨65535⟩

/-- the integer 1 in its seven legal encodings -/
theorem one_fix : EncVal E 0 [0x01] (.num (.sint 1)) := .leaf (.posfix 0x01 (by decide))
theorem one_u8 : EncVal E 0 [0xCC, 0x01] (.num (.uint 1)) := .leaf (.uint 0xCC [0x01] (by decide) (by decide) rfl)
theorem one_u16 : EncVal E 0 [0xCD, 0x00, 0x01] (.num (.uint 1)) :=
  .leaf (.uint 0xCD [0x00, 0x01] (by decide) (by decide) rfl)
theorem one_u32 : EncVal E 0 [0xCE, 0x00, 0x00, 0x00, 0x01] (.num (.uint 1)) :=
  .leaf (.uint 0xCE [0x00, 0x00, 0x00, 0x01] (by decide) (by decide) rfl)
theorem one_u64 : EncVal E 0 [0xCF, 0x00, 0x00, 0x00, 0x00, 0x00, 0x00, 0x00, 0x01] (.num (.uint 1)) :=
  .leaf (.uint 0xCF [0x00, 0x00, 0x00, 0x00, 0x00, 0x00, 0x00, 0x01] (by decide) (by decide) rfl)
theorem one_i8 : EncVal E 0 [0xD0, 0x01] (.num (.sint 1)) := .leaf (.sint 0xD0 [0x01] (by decide) (by decide) rfl)
theorem one_i16 : EncVal E 0 [0xD1, 0x00, 0x01] (.num (.sint 1)) := by
  have h := EncVal.leaf (env := E) (d := 0) (LeafVal.sint 0xD1 [0x00, 0x01] (by decide) (by decide) rfl)
  rw [show twos [0x00, 0x01] = 1 by decide +kernel] at h
  exact h
/-- a negative one: `d1 ff fe` is -2, like the negative fixint `fe` -/
theorem minus2_i16 : EncVal E 0 [0xD1, 0xFF, 0xFE] (.num (.sint (-2))) := by
  have h := EncVal.leaf (env := E) (d := 0) (LeafVal.sint 0xD1 [0xFF, 0xFE] (by decide) (by decide) rfl)
  rw [show twos [0xFF, 0xFE] = -2 by decide +kernel] at h
  exact h
theorem minus2_fix : EncVal E 0 [0xFE] (.num (.sint (-2))) := .leaf (.negfix 0xFE (by decide))

/-- `enc_value` instantiated: the values, with trailing bytes left alone -/
example : MD.run E 0 .all ([0x01] ++ [0xC1]) = (.ok, .num (.sint 1), 1) := enc_value E 0 one_fix (by decide) _
example : MD.run E 0 .all ([0xCC, 0x01] ++ [0xC1]) = (.ok, .num (.uint 1), 2) := enc_value E 0 one_u8 (by decide) _
example : MD.run E 0 .all ([0xCD, 0x00, 0x01] ++ [0xC1]) = (.ok, .num (.uint 1), 3) :=
  enc_value E 0 one_u16 (by decide) _
example : MD.run E 0 .all ([0xCE, 0x00, 0x00, 0x00, 0x01] ++ []) = (.ok, .num (.uint 1), 5) :=
  enc_value E 0 one_u32 (by decide) _
example : MD.run E 0 .all ([0xCF, 0x00, 0x00, 0x00, 0x00, 0x00, 0x00, 0x00, 0x01] ++ []) = (.ok, .num (.uint 1), 9) :=
  enc_value E 0 one_u64 (by decide) _
example : MD.run E 0 .all ([0xD0, 0x01] ++ []) = (.ok, .num (.sint 1), 2) := enc_value E 0 one_i8 (by decide) _
example : MD.run E 0 .all ([0xD1, 0x00, 0x01] ++ []) = (.ok, .num (.sint 1), 3) := enc_value E 0 one_i16 (by decide) _
example : MD.run E 0 .all ([0xD1, 0xFF, 0xFE] ++ []) = (.ok, .num (.sint (-2)), 3) :=
  enc_value E 0 minus2_i16 (by decide) _

/-- the same seven by evaluation of the model in the kernel (independent of the theorems) -/
example : MD.run E 0 .all [0x01, 0xC1] = (.ok, .num (.sint 1), 1) ∧
    MD.run E 0 .all [0xCC, 0x01, 0xC1] = (.ok, .num (.uint 1), 2) ∧
    MD.run E 0 .all [0xCD, 0x00, 0x01, 0xC1] = (.ok, .num (.uint 1), 3) ∧
    MD.run E 0 .all [0xCE, 0x00, 0x00, 0x00, 0x01] = (.ok, .num (.uint 1), 5) ∧
    MD.run E 0 .all [0xCF, 0x00, 0x00, 0x00, 0x00, 0x00, 0x00, 0x00, 0x01] = (.ok, .num (.uint 1), 9) ∧
    MD.run E 0 .all [0xD0, 0x01] = (.ok, .num (.sint 1), 2) ∧
    MD.run E 0 .all [0xD1, 0x00, 0x01] = (.ok, .num (.sint 1), 3) :=
  ⟨result_eq (by decide +kernel), result_eq (by decide +kernel), result_eq (by decide +kernel),
   result_eq (by decide +kernel), result_eq (by decide +kernel), result_eq (by decide +kernel),
   result_eq (by decide +kernel)⟩

/-- the specification decoder reads all seven as the integer 1 -/
example : ∀ e ∈ [[0x01], [0xCC, 0x01], [0xCD, 0x00, 0x01], [0xCE, 0x00, 0x00, 0x00, 0x01],
    [0xCF, 0x00, 0x00, 0x00, 0x00, 0x00, 0x00, 0x00, 0x01], [0xD0, 0x01], [0xD1, 0x00, 0x01]],
    MSpec.decodeTop e = MSpec.decodeTop [0x01] := by
  intro e he
  simp only [List.mem_cons, List.mem_nil_iff, or_false] at he
  rcases he with rfl | rfl | rfl | rfl | rfl | rfl | rfl <;> exact same_answer (by decide +kernel)

theorem noNaN_int (n : Num) (h : NoNaNNum n) : NoNaN (.num n) := by simp only [NoNaN]; exact h

/-- `width_irrelevant` instantiated: the fixint (stored signed) against uint16 (stored unsigned), and int16 against uint64 -/
example : C18.vEq (.num (.sint 1)) (.num (.uint 1)) = true ∧ C18.vEq (.num (.uint 1)) (.num (.sint 1)) = true :=
  (width_irrelevant one_fix one_u16 (same_answer (by decide +kernel)) (by simp only [RawFree]) (noNaN_int _ trivial)
    (by simp only [Cmp.NoDupKeys])).2.2.2
example : Cmp.compare (.num (.sint 1)) (.num (.uint 1)) = .equal :=
  (width_irrelevant one_i16 one_u64 (same_answer (by decide +kernel)) (by simp only [RawFree]) (noNaN_int _ trivial)
    (by simp only [Cmp.NoDupKeys])).2.1
example : C18.vEq (.num (.sint (-2))) (.num (.sint (-2))) = true :=
  (width_irrelevant minus2_fix minus2_i16 (same_answer (by decide +kernel)) (by simp only [RawFree]) (noNaN_int _ trivial)
    (by simp only [Cmp.NoDupKeys])).2.2.2.1

/-- the string "a" as fixstr / str8 / str16 / str32: one value -/
theorem a_fix : EncVal E 0 [0xA1, 0x61] (.str [0x61]) := .leaf (.fixstr 0xA1 [0x61] (by decide) (by decide) (by decide))
theorem a_s8 : EncVal E 0 [0xD9, 0x01, 0x61] (.str [0x61]) :=
  .leaf (.str8 [0x01] [0x61] rfl (by decide +kernel) (by decide))
theorem a_s16 : EncVal E 0 [0xDA, 0x00, 0x01, 0x61] (.str [0x61]) :=
  .leaf (.str16 [0x00, 0x01] [0x61] rfl (by decide +kernel) (by decide))
theorem a_s32 : EncVal E 0 [0xDB, 0x00, 0x00, 0x00, 0x01, 0x61] (.str [0x61]) :=
  .leaf (.str32 [0x00, 0x00, 0x00, 0x01] [0x61] rfl (by decide +kernel) (by decide))

example : MD.run E 0 .all ([0xDB, 0x00, 0x00, 0x00, 0x01, 0x61] ++ [0xFF]) = (.ok, .str [0x61], 6) :=
  enc_value E 0 a_s32 (by decide) _
example : MD.run E 0 .all [0xA1, 0x61] = (.ok, .str [0x61], 2) ∧ MD.run E 0 .all [0xD9, 0x01, 0x61] = (.ok, .str [0x61], 3) ∧
    MD.run E 0 .all [0xDA, 0x00, 0x01, 0x61] = (.ok, .str [0x61], 4) ∧
    MD.run E 0 .all [0xDB, 0x00, 0x00, 0x00, 0x01, 0x61, 0xFF] = (.ok, .str [0x61], 6) :=
  ⟨result_eq (by decide +kernel), result_eq (by decide +kernel), result_eq (by decide +kernel),
   result_eq (by decide +kernel)⟩
example : C18.vEq (.str [0x61]) (.str [0x61]) = true :=
  (width_irrelevant a_fix a_s16 (same_answer (by decide +kernel)) (by simp only [RawFree]) (by simp only [NoNaN]) (by simp only [Cmp.NoDupKeys])).2.2.2.1

/-- a one-element array as fixarray / array16 / array32, the element in three different widths -/
theorem arr1_fix : EncVal E 1 [0x91, 0x01] (.arr [.num (.sint 1)]) :=
  EncVal.arr (d := 0) [0x91] [([0x01], .num (.sint 1))] (.fix 0x91 1 (by decide) (by decide))
    (fun ev h => by
      simp only [List.mem_cons, List.mem_nil_iff, or_false] at h
      subst h; exact one_fix)
theorem arr1_a16 : EncVal E 1 [0xDC, 0x00, 0x01, 0xCD, 0x00, 0x01] (.arr [.num (.uint 1)]) :=
  EncVal.arr (d := 0) [0xDC, 0x00, 0x01] [([0xCD, 0x00, 0x01], .num (.uint 1))] (.a16 [0x00, 0x01] 1 rfl (by decide +kernel))
    (fun ev h => by
      simp only [List.mem_cons, List.mem_nil_iff, or_false] at h
      subst h; exact one_u16)
theorem arr1_a32 : EncVal E 1 [0xDD, 0x00, 0x00, 0x00, 0x01, 0xD0, 0x01] (.arr [.num (.sint 1)]) :=
  EncVal.arr (d := 0) [0xDD, 0x00, 0x00, 0x00, 0x01] [([0xD0, 0x01], .num (.sint 1))]
    (.a32 [0x00, 0x00, 0x00, 0x01] 1 rfl (by decide +kernel))
    (fun ev h => by
      simp only [List.mem_cons, List.mem_nil_iff, or_false] at h
      subst h; exact one_i8)

example : MD.run E 1 .all ([0xDC, 0x00, 0x01, 0xCD, 0x00, 0x01] ++ [0xC1]) = (.ok, .arr [.num (.uint 1)], 6) :=
  enc_value E 1 arr1_a16 (by decide) _
example : MD.run E 1 .all [0x91, 0x01] = (.ok, .arr [.num (.sint 1)], 2) ∧
    MD.run E 1 .all [0xDC, 0x00, 0x01, 0xCD, 0x00, 0x01, 0xC1] = (.ok, .arr [.num (.uint 1)], 6) ∧
    MD.run E 1 .all [0xDD, 0x00, 0x00, 0x00, 0x01, 0xD0, 0x01] = (.ok, .arr [.num (.sint 1)], 7) :=
  ⟨result_eq (by decide +kernel), result_eq (by decide +kernel), result_eq (by decide +kernel)⟩
/-- the nesting limit counts: with `L = 0` the theorem does not apply, and indeed the array is refused -/
example : (MD.run E 0 .all [0x91, 0x01]).1 = .tooDeep := by decide +kernel

theorem arr1_noNaN : NoNaN (.arr [.num (.sint 1)]) := by simp only [NoNaN, NoNaNL, NoNaNNum, and_self]
theorem arr1_noDup : Cmp.NoDupKeys (.arr [.num (.sint 1)]) := by
  simp only [Cmp.NoDupKeys, Cmp.NoDupKeys.ndL, and_self]
theorem arr1_rawFree : RawFree (.arr [.num (.sint 1)]) := by simp only [RawFree, RawFreeElems, and_self]

/-- fixarray[fixint] == array16[uint16] == array32[int8] -/
example : C18.vEq (.arr [.num (.sint 1)]) (.arr [.num (.uint 1)]) = true ∧
    C18.vEq (.arr [.num (.uint 1)]) (.arr [.num (.sint 1)]) = true :=
  (width_irrelevant arr1_fix arr1_a16 (same_answer (by decide +kernel)) arr1_rawFree arr1_noNaN arr1_noDup).2.2.2
example : C18.vEq (.arr [.num (.sint 1)]) (.arr [.num (.sint 1)]) = true :=
  (width_irrelevant arr1_fix arr1_a32 (same_answer (by decide +kernel)) arr1_rawFree arr1_noNaN arr1_noDup).2.2.2.1

/-- a map16 with a str8 key, under a filter that keeps the key: `enc_value_filtered` -/
theorem map1_m16 : EncVal E 1 [0xDE, 0x00, 0x01, 0xD9, 0x01, 0x6B, 0xCD, 0x00, 0x05] (.obj [([0x6B], .num (.uint 5))]) :=
  EncVal.map (d := 0) [0xDE, 0x00, 0x01] [([0xD9, 0x01, 0x6B], [0x6B], [0xCD, 0x00, 0x05], .num (.uint 5))]
    (.m16 [0x00, 0x01] 1 rfl (by decide +kernel))
    (fun m h => by
      simp only [List.mem_cons, List.mem_nil_iff, or_false] at h
      subst h
      exact KeyVal.sized 0xD9 0 [0x01] [0x6B] (by decide) (by decide) rfl (by decide +kernel) (by decide))
    (fun m h => by
      simp only [List.mem_cons, List.mem_nil_iff, or_false] at h
      subst h
      exact .leaf (.uint 0xCD [0x00, 0x05] (by decide) (by decide) rfl))
example : MD.run E 1 .all ([0xDE, 0x00, 0x01, 0xD9, 0x01, 0x6B, 0xCD, 0x00, 0x05] ++ []) =
    (.ok, .obj [([0x6B], .num (.uint 5))], 9) := enc_value E 1 map1_m16 (by decide) _
example : MD.run E 1 (.doc (some (.obj [([0x6B], .bool true)]))) ([0xDE, 0x00, 0x01, 0xD9, 0x01, 0x6B, 0xCD, 0x00, 0x05] ++ []) =
    (.ok, Spec.Filter.project (.doc (some (.obj [([0x6B], .bool true)]))) (.obj [([0x6B], .num (.uint 5))]), 9) :=
  enc_value_filtered E 1 _ map1_m16 (by decide) _

/-- float64 `1.5` (`cb 3ff8000000000000`): the library stores the float32 `3fc00000` (`storeDouble`), exactly the value of the
    float32 encoding `ca 3fc00000`; the specification objects differ (`f64` / `f32`), so this pair is outside
    `width_irrelevant`, but `enc_value` gives both values and they are identical -/
theorem f64_15 : EncVal E 0 [0xCB, 0x3F, 0xF8, 0x00, 0x00, 0x00, 0x00, 0x00, 0x00] (.num (.f32 0x3FC00000)) := by
  have h := EncVal.leaf (env := E) (d := 0) (LeafVal.f64 [0x3F, 0xF8, 0x00, 0x00, 0x00, 0x00, 0x00, 0x00] rfl)
  rw [show storeDouble (beNat [0x3F, 0xF8, 0x00, 0x00, 0x00, 0x00, 0x00, 0x00]) = .f32 0x3FC00000 by decide +kernel] at h
  exact h
theorem f32_15 : EncVal E 0 [0xCA, 0x3F, 0xC0, 0x00, 0x00] (.num (.f32 0x3FC00000)) := by
  have h := EncVal.leaf (env := E) (d := 0) (LeafVal.f32 [0x3F, 0xC0, 0x00, 0x00] rfl)
  rw [show beNat [0x3F, 0xC0, 0x00, 0x00] = 0x3FC00000 by decide +kernel] at h
  exact h
example : MD.run E 0 .all ([0xCB, 0x3F, 0xF8, 0x00, 0x00, 0x00, 0x00, 0x00, 0x00] ++ []) = (.ok, .num (.f32 0x3FC00000), 9) ∧
    MD.run E 0 .all ([0xCA, 0x3F, 0xC0, 0x00, 0x00] ++ []) = (.ok, .num (.f32 0x3FC00000), 5) :=
  ⟨enc_value E 0 f64_15 (by decide) _, enc_value E 0 f32_15 (by decide) _⟩

/-- bin8 / bin16 of the same payload: the raw node keeps the encoding verbatim -/
theorem bin_b8 : EncVal E 0 [0xC4, 0x01, 0xAA] (.raw [0xC4, 0x01, 0xAA]) :=
  .leaf (.bin 0xC4 0 [0x01] [0xAA] (by decide) (by decide) rfl (by decide +kernel) (by decide))
theorem bin_b16 : EncVal E 0 [0xC5, 0x00, 0x01, 0xAA] (.raw [0xC5, 0x00, 0x01, 0xAA]) :=
  .leaf (.bin 0xC5 1 [0x00, 0x01] [0xAA] (by decide) (by decide) rfl (by decide +kernel) (by decide))

/-- **the raw-free hypothesis of `width_irrelevant` is needed**: bin8 `c4 01 aa` and bin16 `c5 00 01 aa` are both legal, the
    specification decoder reads both as the same object `bin [aa]`, the library stores two different raw nodes
    (`enc_value`), and these do NOT compare equal -/
theorem raw_width_matters :
    MSpec.decodeTop [0xC4, 0x01, 0xAA] = MSpec.decodeTop [0xC5, 0x00, 0x01, 0xAA] ∧
    MD.run E 0 .all [0xC4, 0x01, 0xAA] = (.ok, .raw [0xC4, 0x01, 0xAA], 3) ∧
    MD.run E 0 .all [0xC5, 0x00, 0x01, 0xAA] = (.ok, .raw [0xC5, 0x00, 0x01, 0xAA], 4) ∧
    Cmp.compare (.raw [0xC4, 0x01, 0xAA]) (.raw [0xC5, 0x00, 0x01, 0xAA]) ≠ .equal ∧
    C18.vEq (.raw [0xC4, 0x01, 0xAA]) (.raw [0xC5, 0x00, 0x01, 0xAA]) = false := by
  have hc : Cmp.compare (.raw [0xC4, 0x01, 0xAA]) (.raw [0xC5, 0x00, 0x01, 0xAA]) = .less := by
    rw [Cmp.compare_raw]; decide +kernel
  have hc' : Cmp.compare (.raw [0xC5, 0x00, 0x01, 0xAA]) (.raw [0xC4, 0x01, 0xAA]) = .greater := by
    rw [Cmp.compare_raw]; decide +kernel
  refine ⟨same_answer (by decide +kernel), ?_, ?_, (by rw [hc]; exact fun h => Cmp.CR.noConfusion h), ?_⟩
  · have := enc_value E 0 bin_b8 (by decide) []
    rw [List.append_nil] at this; exact this
  · have := enc_value E 0 bin_b16 (by decide) []
    rw [List.append_nil] at this; exact this
  · simp only [C18.vEq, Cmp.variantOps, Cmp.opsRev, List.getD_cons_zero, hc']; rfl

end examples
end C09
