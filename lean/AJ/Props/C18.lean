/- C18 — the six comparison operators of two variants are coherent (`==` symmetric, `!=` its negation, `<` the mirror of `>`,
   `<=` = `<` or `==`, at most one of `<`, `==`, `>`), numbers compare by value, strings / raw by bytes, arrays element-wise,
   objects member-wise regardless of order, null only equals null.
   Model: AJ/Model/Cmp.lean. Helper lemmas: AJ/Lemmas/CmpLemmas.lean. -/
import AJ.Model.Cmp
import AJ.Lemmas.CmpLemmas
namespace C18
open Cmp JD _root_.SF

/-! ## 1. Operator coherence, by construction, for all values
`variantOps a b = opsRev (compare b a) = [a==b, a!=b, a<b, a<=b, a>b, a>=b]`. -/

/-- the six results of `a ? b`, by name -/
def vEq (a b : Val) : Bool := (variantOps a b).getD 0 false
def vNe (a b : Val) : Bool := (variantOps a b).getD 1 false
def vLt (a b : Val) : Bool := (variantOps a b).getD 2 false
def vLe (a b : Val) : Bool := (variantOps a b).getD 3 false
def vGt (a b : Val) : Bool := (variantOps a b).getD 4 false
def vGe (a b : Val) : Bool := (variantOps a b).getD 5 false
theorem variantOps_eq (a b : Val) : variantOps a b = [vEq a b, vNe a b, vLt a b, vLe a b, vGt a b, vGe a b] := rfl

section
variable {eq ne lt le gt ge : Bool}
theorem opsRev_ne_iff_not_eq (r : CR) (h : opsRev r = [eq, ne, lt, le, gt, ge]) : ne = !eq := by
  cases r <;> cases h <;> decide
theorem opsRev_le_iff (r : CR) (h : opsRev r = [eq, ne, lt, le, gt, ge]) : le = (lt || eq) := by
  cases r <;> cases h <;> decide
theorem opsRev_ge_iff (r : CR) (h : opsRev r = [eq, ne, lt, le, gt, ge]) : ge = (gt || eq) := by
  cases r <;> cases h <;> decide
theorem opsRev_exclusive (r : CR) (h : opsRev r = [eq, ne, lt, le, gt, ge]) :
    ¬ (lt = true ∧ eq = true) ∧ ¬ (lt = true ∧ gt = true) ∧ ¬ (eq = true ∧ gt = true) := by
  cases r <;> cases h <;> decide

/-- `a != b` is exactly `!(a == b)` -/
theorem ne_iff_not_eq (a b : Val) (h : variantOps a b = [eq, ne, lt, le, gt, ge]) : ne = !eq := opsRev_ne_iff_not_eq _ h
/-- `a <= b` is exactly `a < b || a == b` -/
theorem le_iff (a b : Val) (h : variantOps a b = [eq, ne, lt, le, gt, ge]) : le = (lt || eq) := opsRev_le_iff _ h
/-- `a >= b` is exactly `a > b || a == b` -/
theorem ge_iff (a b : Val) (h : variantOps a b = [eq, ne, lt, le, gt, ge]) : ge = (gt || eq) := opsRev_ge_iff _ h
/-- at most one of `a < b`, `a == b`, `a > b` -/
theorem exclusive (a b : Val) (h : variantOps a b = [eq, ne, lt, le, gt, ge]) :
    ¬ (lt = true ∧ eq = true) ∧ ¬ (lt = true ∧ gt = true) ∧ ¬ (eq = true ∧ gt = true) := opsRev_exclusive _ h

/-- the same facts for the non-reversed operator table `ops` (variant against a C++ scalar) -/
theorem ops_coherent (r : CR) (h : ops r = [eq, ne, lt, le, gt, ge]) :
    ne = (!eq) ∧ le = (lt || eq) ∧ ge = (gt || eq) ∧
    ¬ (lt = true ∧ eq = true) ∧ ¬ (lt = true ∧ gt = true) ∧ ¬ (eq = true ∧ gt = true) := by
  cases r <;> cases h <;> decide
end

/-- the hypothesis `variantOps a b = [..]` is always satisfiable: the named form, for all values -/
theorem coherent_named (a b : Val) :
    vNe a b = (!vEq a b) ∧ vLe a b = (vLt a b || vEq a b) ∧ vGe a b = (vGt a b || vEq a b) ∧
    ¬ (vLt a b = true ∧ vEq a b = true) ∧ ¬ (vLt a b = true ∧ vGt a b = true) ∧ ¬ (vEq a b = true ∧ vGt a b = true) :=
  ⟨ne_iff_not_eq a b (variantOps_eq a b), le_iff a b (variantOps_eq a b), ge_iff a b (variantOps_eq a b),
   exclusive a b (variantOps_eq a b)⟩

/-! ## 2. Antisymmetry of the primitive comparisons -/

/-- a NaN operand takes part in the comparison (as a double) -/
def involvesNaN (l r : NumV) : Prop :=
  ((∃ x, l = .d x) ∨ (∃ x, r = .d x)) ∧ (isNaN b64 (toDouble l) = true ∨ isNaN b64 (toDouble r) = true)

/-- `arithmeticCompare(r, l)` is the mirror of `arithmeticCompare(l, r)` for ALL operands: every `Int`, every `Nat`, every bit
    pattern (no range hypothesis is needed), every mix of integer / unsigned / double / bool, NaN included (both sides
    then give `differ`, which is its own mirror). Stronger than the requested `¬ involvesNaN l r → …` with bounded operands. -/
theorem arith_reverse (l r : NumV) : arith r l = (arith l r).reverse := Cmp.arith_reverse l r

/-- the requested form (hypotheses not used) -/
theorem arith_reverse_wf (l r : NumV) (_ : ¬ involvesNaN l r) : arith r l = (arith l r).reverse := Cmp.arith_reverse l r

/-- with a NaN operand both directions give `differ` -/
theorem arith_nan_differ (l r : NumV) (h : involvesNaN l r) : arith l r = .differ ∧ arith r l = .differ := by
  obtain ⟨hd, hn⟩ := h
  have key : arith l r = .differ := by
    rcases hd with ⟨x, rfl⟩ | ⟨x, rfl⟩
    · rw [arith_d_left]; exact dcmp_nan _ _ hn
    · rw [arith_d_right]; exact dcmp_nan _ _ hn
  exact ⟨key, by rw [Cmp.arith_reverse l r, key]; rfl⟩

/-- the double order used by `arith`: `a > c` is by definition `c < a`, and `<` is asymmetric on all bit patterns -/
theorem double_lt_gt (a c : Nat) : SF.lt b64 a c = SF.gt b64 c a := rfl
theorem double_lt_asymm (a c : Nat) (h : SF.lt b64 a c = true) : SF.gt b64 a c = false := sf_lt_asymm b64 a c h

/-- any comparison with a double operand is the comparison of the two operands converted to double -/
theorem mixed_as_double (x : Nat) (n : NumV) :
    arith (.d x) n = dcmp x (toDouble n) ∧ arith n (.d x) = dcmp (toDouble n) x := ⟨arith_d_left x n, arith_d_right n x⟩

theorem stringCompare_antisym (a b : List Byte) : stringCompare b a = - stringCompare a b := Cmp.stringCompare_antisym a b
/-- `stringCompare` answers 0 exactly on identical byte sequences -/
theorem stringCompare_eq_zero_iff (a b : List Byte) : stringCompare a b = 0 ↔ a = b := Cmp.stringCompare_eq_zero a b
theorem rawCompare_antisym (a b : List Byte) : rawCompare b a = - rawCompare a b := Cmp.rawCompare_antisym a b
theorem rawCompare_eq_zero_iff (a b : List Byte) : rawCompare a b = 0 ↔ a = b := Cmp.rawCompare_eq_zero a b
/-- the signed-char view of a byte is injective -/
theorem schar_injective (a c : Byte) (h : schar a = schar c) : a = c := schar_inj a c h

example : arith (.d 0x7FF8000000000000) (.i 3) = .differ ∧ arith (.i 3) (.d 0x7FF8000000000000) = .differ :=
  arith_nan_differ _ _ ⟨Or.inl ⟨_, rfl⟩, Or.inl (by decide +kernel)⟩
example : arith (.u 18446744073709551615) (.i (-1)) = .greater ∧ arith (.i (-1)) (.u 18446744073709551615) = .less := by
  decide +kernel
example : stringCompare [0x61, 0xC3] [0x61, 0x62] = -159 ∧ stringCompare [0x61, 0x62] [0x61, 0xC3] = 159 := by decide +kernel

/-! ## 3. Swap symmetry of the whole comparison -/

/-- `compare(b, a)` is the mirror of `compare(a, b)` as soon as no object inside `a` or `b` repeats a key.
    (No bound on the numeric payloads is needed: `WFNum` of the task statement is superfluous.) Objects included. -/
theorem compare_reverse (a b : Val) (ha : NoDupKeys a) (hb : NoDupKeys b) : Cmp.compare b a = (Cmp.compare a b).reverse := by
  have := compareF_reverse (depth a + depth b + 2) a b ha hb
  unfold Cmp.compare; rw [Nat.add_comm (depth b) (depth a)]; exact this

/-- `a == b` is decided by `compare b a` (`variantOps a b = opsRev (compare b a)`) -/
theorem vEq_of_compare {a b : Val} (h : Cmp.compare b a = .equal) : vEq a b = true := by
  simp only [vEq, variantOps, opsRev, List.getD_cons_zero, h]; rfl

/-- `a == b` iff `b == a` -/
theorem eq_symm (a b : Val) (ha : NoDupKeys a) (hb : NoDupKeys b) : vEq a b = vEq b a := by
  simp only [vEq, variantOps, opsRev, List.getD_cons_zero]
  rw [compare_reverse a b ha hb]; cases Cmp.compare a b <;> rfl
/-- `a != b` iff `b != a` -/
theorem ne_symm (a b : Val) (ha : NoDupKeys a) (hb : NoDupKeys b) : vNe a b = vNe b a := by
  have h1 := (coherent_named a b).1; have h2 := (coherent_named b a).1
  rw [h1, h2, eq_symm a b ha hb]
/-- `a < b` iff `b > a` -/
theorem lt_gt (a b : Val) (ha : NoDupKeys a) (hb : NoDupKeys b) : vLt a b = vGt b a := by
  simp only [vLt, vGt, variantOps, opsRev, List.getD_cons_succ, List.getD_cons_zero]
  rw [compare_reverse a b ha hb]; cases Cmp.compare a b <;> rfl
/-- `a <= b` iff `b >= a` -/
theorem le_ge (a b : Val) (ha : NoDupKeys a) (hb : NoDupKeys b) : vLe a b = vGe b a := by
  have h1 := (coherent_named a b).2.1; have h2 := (coherent_named b a).2.2.1
  rw [h1, h2, eq_symm a b ha hb, lt_gt a b ha hb]
/-- list form: the whole operator table of `b ? a` is the table of `a ? b` with `<`/`>` and `<=`/`>=` exchanged -/
theorem variantOps_swap (a b : Val) (ha : NoDupKeys a) (hb : NoDupKeys b) :
    variantOps b a = [vEq a b, vNe a b, vGt a b, vGe a b, vLt a b, vLe a b] := by
  rw [variantOps_eq b a, eq_symm a b ha hb, ne_symm a b ha hb, lt_gt a b ha hb, le_ge a b ha hb,
    lt_gt b a hb ha, le_ge b a hb ha]

/-- values without any object need no hypothesis at all -/
def NoObj : Val → Prop
  | .arr xs => noObjL xs
  | .obj _ => False
  | _ => True
where
  noObjL : List Val → Prop
    | [] => True
    | x :: r => NoObj x ∧ noObjL r

mutual
theorem NoObj.noDupKeys : ∀ v, NoObj v → NoDupKeys v
  | .arr xs, h => by simp only [NoDupKeys]; simp only [NoObj] at h; exact NoObj.noDupKeysL xs h
  | .obj _, h => by simp only [NoObj] at h
  | .null, _ | .bool _, _ | .num _, _ | .str _, _ | .raw _, _ => by simp only [NoDupKeys]
theorem NoObj.noDupKeysL : ∀ xs, NoObj.noObjL xs → NoDupKeys.ndL xs
  | [], _ => by simp only [NoDupKeys.ndL]
  | x :: r, h => by
    simp only [NoObj.noObjL] at h; simp only [NoDupKeys.ndL]
    exact ⟨NoObj.noDupKeys x h.1, NoObj.noDupKeysL r h.2⟩
end

theorem compare_reverse_noobj (a b : Val) (ha : NoObj a) (hb : NoObj b) : Cmp.compare b a = (Cmp.compare a b).reverse :=
  compare_reverse a b ha.noDupKeys hb.noDupKeys

/-- kernel-evaluable form of `variantOps` (through the structurally recursive `compareS`, proved equal to `compareF`) -/
theorem variantOps_eval (a b : Val) : variantOps a b = opsRev (compareS (depth b + depth a + 2) b a) := by
  rw [variantOps, Cmp.compare, compareF_eq_compareS]
theorem compare_eval (a b : Val) : Cmp.compare a b = compareS (depth a + depth b + 2) a b := by
  rw [Cmp.compare, compareF_eq_compareS]

/-- The hypothesis on keys is needed: with a = {"a":1,"a":1} (repeated key) and b = {"a":1,"b":2},
    `a == b` is true (every member of `a` is found in `b`, and the counts agree) but `b == a` is false. -/
theorem eq_asymmetric_with_repeated_keys :
    let a : Val := .obj [([0x61], .num (.uint 1)), ([0x61], .num (.uint 1))]
    let b : Val := .obj [([0x61], .num (.uint 1)), ([0x62], .num (.uint 2))]
    vEq a b ≠ vEq b a ∧
    variantOps a b = [true, false, false, true, false, true] ∧
    variantOps b a = [false, true, false, false, false, false] := by
  intro a b
  simp only [vEq]
  rw [variantOps_eval a b, variantOps_eval b a]
  decide +kernel

/-- non-vacuity of `compare_reverse`: nested value with an object whose members are in a different order, mixed storage -/
example :
    let a : Val := .arr [.obj [([0x61], .num (.uint 1)), ([0x62], .str [0x78])], .num (.sint (-5)), .null]
    let b : Val := .arr [.obj [([0x62], .str [0x78]), ([0x61], .num (.f64 0x3FF0000000000000))], .num (.f64 0xC014000000000000), .null]
    NoDupKeys a ∧ NoDupKeys b ∧ Cmp.compare a b = .equal ∧ Cmp.compare b a = .equal := by
  intro a b
  refine ⟨?_, ?_, ?_, ?_⟩
  · simp only [a, NoDupKeys, NoDupKeys.ndL, NoDupKeys.ndM, and_true, keys]; decide
  · simp only [b, NoDupKeys, NoDupKeys.ndL, NoDupKeys.ndM, and_true, keys]; decide
  · rw [compare_eval]; decide +kernel
  · rw [compare_eval]; decide +kernel

example : variantOps (.num (.sint (-1))) (.num (.uint 18446744073709551615)) = [false, true, true, true, false, false] ∧
    variantOps (.num (.uint 18446744073709551615)) (.num (.sint (-1))) = [false, true, false, false, true, true] := by
  rw [variantOps_eval, variantOps_eval]; decide +kernel

/-! ## 4. Agreement with the values -/

/-- integer against integer: exact on all of `Int` / `Nat` (in particular the whole int64 / uint64 ranges), every
    signedness combination. `ordCR x y` is `less / equal / greater` according to `x < y`, `x = y`, `x > y` in ℤ. -/
theorem int_exact (x y : Int) (m n : Nat) :
    arith (.i x) (.i y) = ordCR x y ∧ arith (.u m) (.u n) = ordCR m n ∧
    arith (.i x) (.u n) = ordCR x n ∧ arith (.u m) (.i y) = ordCR m y :=
  ⟨arith_ii x y, arith_uu m n, arith_iu x n, arith_ui m y⟩

theorem ordCR_spec (x y : Int) :
    (ordCR x y = .less ↔ x < y) ∧ (ordCR x y = .equal ↔ x = y) ∧ (ordCR x y = .greater ↔ x > y) ∧ ordCR x y ≠ .differ := by
  unfold ordCR
  by_cases h1 : x < y
  · rw [if_pos h1]
    exact ⟨iff_of_true rfl h1, iff_of_false (by decide) (by omega), iff_of_false (by decide) (by omega), by decide⟩
  · rw [if_neg h1]
    by_cases h2 : x = y
    · rw [if_pos h2]
      exact ⟨iff_of_false (by decide) h1, iff_of_true rfl h2, iff_of_false (by decide) (by omega), by decide⟩
    · rw [if_neg h2]
      exact ⟨iff_of_false (by decide) h1, iff_of_false (by decide) h2, iff_of_true rfl (by omega), by decide⟩

/-- two number-like values (bool, unsigned, signed, float, double) compare as `arith` of their payloads, whatever the storage -/
theorem num_by_value (a b : Val) (x y : NumV) (ha : numOf a = some x) (hb : numOf b = some y) :
    Cmp.compare a b = arith x y := compare_num a b x y ha hb

/-- integers stored with different signedness compare by value over the whole range -/
theorem num_int_exact (x y : Int) (m n : Nat) :
    Cmp.compare (.num (.sint x)) (.num (.sint y)) = ordCR x y ∧ Cmp.compare (.num (.uint m)) (.num (.uint n)) = ordCR m n ∧
    Cmp.compare (.num (.sint x)) (.num (.uint n)) = ordCR x n ∧ Cmp.compare (.num (.uint m)) (.num (.sint y)) = ordCR m y :=
  ⟨(compare_num _ _ _ _ rfl rfl).trans (arith_ii x y), (compare_num _ _ _ _ rfl rfl).trans (arith_uu m n),
   (compare_num _ _ _ _ rfl rfl).trans (arith_iu x n), (compare_num _ _ _ _ rfl rfl).trans (arith_ui m y)⟩

/-- a NaN is never equal (nor ordered) to anything, itself included -/
theorem nan_never_equal (a b : Nat) (h : isNaN b64 a = true ∨ isNaN b64 b = true) : arith (.d a) (.d b) = .differ := by
  rw [arith_d_left]; exact dcmp_nan a b h
/-- conversely two doubles that compare equal are not NaN -/
theorem double_equal_not_nan (a b : Nat) (h : arith (.d a) (.d b) = .equal) : isNaN b64 a = false ∧ isNaN b64 b = false := by
  rw [arith_d_left] at h; exact dcmp_equal_not_nan a b h

/-- strings are equal exactly when their bytes are identical; otherwise they are ordered by `stringCompare` (never `differ`) -/
theorem string_eq_iff (a b : List Byte) : Cmp.compare (.str a) (.str b) = .equal ↔ a = b := by
  rw [compare_str, ← Cmp.stringCompare_eq_zero a b]
  repeat' split
  all_goals first | (simp only [reduceCtorEq, false_iff]; omega) | (simp only [true_iff]; omega)
theorem string_order (a b : List Byte) : Cmp.compare (.str a) (.str b) =
    if stringCompare a b < 0 then .less else if stringCompare a b > 0 then .greater else .equal := compare_str a b

theorem raw_eq_iff (a b : List Byte) : Cmp.compare (.raw a) (.raw b) = .equal ↔ a = b := by
  rw [compare_raw, ← Cmp.rawCompare_eq_zero a b]
  repeat' split
  all_goals first | (simp only [reduceCtorEq, false_iff]; omega) | (simp only [true_iff]; omega)
theorem raw_order (a b : List Byte) : Cmp.compare (.raw a) (.raw b) =
    if rawCompare a b < 0 then .less else if rawCompare a b > 0 then .greater else .equal := compare_raw a b

/-- null equals only null -/
theorem null_only_null (b : Val) : Cmp.compare .null b = .equal ↔ b = .null := compare_null b
theorem only_null_null (a : Val) : Cmp.compare a .null = .equal ↔ a = .null := compare_null_right a

/-- arrays compare element-wise, in order (and the answer is only ever `equal` or `differ`) -/
theorem array_elementwise (xs ys : List Val) : Cmp.compare (.arr xs) (.arr ys) = .equal ↔
    xs.length = ys.length ∧ ∀ i (h1 : i < xs.length) (h2 : i < ys.length), Cmp.compare xs[i] ys[i] = .equal :=
  compare_arr xs ys
theorem array_equal_or_differ (xs ys : List Val) :
    Cmp.compare (.arr xs) (.arr ys) = .equal ∨ Cmp.compare (.arr xs) (.arr ys) = .differ := compare_arr_cases xs ys

/-- objects compare member-wise: same member count, and every member of the second is found in the first (first match on
    the key) with an equal value -/
theorem object_memberwise (ma mb : List (List Byte × Val)) : Cmp.compare (.obj ma) (.obj mb) = .equal ↔
    mb.length = ma.length ∧ ∀ p ∈ mb, ∃ rv, lookup ma p.1 = some rv ∧ Cmp.compare p.2 rv = .equal := compare_obj ma mb
theorem object_equal_or_differ (ma mb : List (List Byte × Val)) :
    Cmp.compare (.obj ma) (.obj mb) = .equal ∨ Cmp.compare (.obj ma) (.obj mb) = .differ := compare_obj_cases ma mb

/-- … regardless of the order of the members: permuting either operand does not change the answer
    (left operand: needs distinct keys, because the lookup takes the first match) -/
theorem object_order_irrelevant (ma ma' mb mb' : List (List Byte × Val)) (ha : ma.Perm ma') (hb : mb.Perm mb')
    (hn : (keys ma).Nodup) : Cmp.compare (.obj ma) (.obj mb) = Cmp.compare (.obj ma') (.obj mb') :=
  (compare_obj_perm_left ma ma' mb ha hn).trans (compare_obj_perm_right ma' mb mb' hb)

/-! ### non-vacuity -/
-- INT64_MIN < UINT64_MAX, UINT64_MAX > INT64_MAX, 2^63 (unsigned) > 2^63 - 1 (signed): exact where a double comparison would tie
example : arith (.i (-9223372036854775808)) (.u 18446744073709551615) = .less ∧
    arith (.u 18446744073709551615) (.i 9223372036854775807) = .greater ∧
    arith (.u 9223372036854775808) (.i 9223372036854775807) = .greater ∧
    arith (.i 9223372036854775807) (.i 9223372036854775807) = .equal := by
  refine ⟨?_, ?_, ?_, ?_⟩
  · rw [(int_exact _ 0 0 _).2.2.1]; decide
  · rw [(int_exact 0 _ _ 0).2.2.2]; decide
  · rw [(int_exact 0 _ _ 0).2.2.2]; decide
  · rw [(int_exact _ _ 0 0).1]; decide
-- the same through doubles would NOT distinguish 2^63 from 2^63 - 1: the integer path is what makes it exact
example : arith (.d (toDouble (.u 9223372036854775808))) (.i 9223372036854775807) = .equal := by decide +kernel
example : Cmp.compare (.num (.uint 3)) (.num (.f64 0x4008000000000000)) = .equal ∧
    Cmp.compare (.num (.f32 0x40400000)) (.num (.sint 3)) = .equal ∧ Cmp.compare (.bool true) (.num (.uint 1)) = .equal := by
  rw [num_by_value _ _ _ _ rfl rfl, num_by_value _ _ _ _ rfl rfl, num_by_value _ _ _ _ rfl rfl]; decide +kernel
example : arith (.d 0x7FF8000000000000) (.d 0x7FF8000000000000) = .differ := nan_never_equal _ _ (Or.inl (by decide +kernel))
example : Cmp.compare (.str [0x61, 0x62]) (.str [0x61, 0x62]) = .equal := (string_eq_iff _ _).mpr rfl
example : Cmp.compare (.str [0x61, 0x62]) (.str [0x61, 0x63]) = .less := by rw [string_order]; decide +kernel
example : Cmp.compare (.str [0x61, 0x62]) (.str [0x61, 0x63]) ≠ .equal := fun h => by
  have := (string_eq_iff _ _).mp h; revert this; decide
example : Cmp.compare (.raw [0x31]) (.raw [0x31, 0x30]) = .less := by rw [raw_order]; decide +kernel
example : Cmp.compare .null (.num (.uint 0)) ≠ .equal := fun h => by cases (null_only_null _).mp h
example : Cmp.compare (.str []) .null ≠ .equal := fun h => by cases (only_null_null _).mp h
example :
    let xs : List Val := [.num (.uint 1), .str [0x61], .arr [.null]]
    let ys : List Val := [.num (.f64 0x3FF0000000000000), .str [0x61], .arr [.null]]
    Cmp.compare (.arr xs) (.arr ys) = .equal ∧ Cmp.compare xs[2] ys[2] = .equal := by
  intro xs ys
  have h : Cmp.compare (.arr xs) (.arr ys) = .equal := by rw [compare_eval]; decide +kernel
  exact ⟨h, ((array_elementwise xs ys).mp h).2 2 (by decide) (by decide)⟩
example : Cmp.compare (.arr [.null]) (.arr [.null, .null]) = .differ := by
  rcases array_equal_or_differ [.null] [.null, .null] with h | h
  · have := ((array_elementwise _ _).mp h).1; revert this; decide
  · exact h
example :
    Cmp.compare (.obj [([0x61], .null), ([0x62], .bool true)]) (.obj [([0x62], .num (.uint 1)), ([0x61], .null)]) =
    Cmp.compare (.obj [([0x62], .bool true), ([0x61], .null)]) (.obj [([0x61], .null), ([0x62], .num (.uint 1))]) :=
  object_order_irrelevant _ _ _ _ (List.Perm.swap _ _ _) (List.Perm.swap _ _ _) (by decide)
example : Cmp.compare (.obj [([0x61], .null), ([0x62], .bool true)]) (.obj [([0x62], .num (.uint 1)), ([0x61], .null)]) = .equal := by
  rw [compare_eval]; decide +kernel

/-! ## fuel: `compare` is the fuel-independent value of `compareF` -/
/-- any fuel above `depth a + depth b` gives the same answer as `compare` (which uses `depth a + depth b + 2`) -/
theorem fuel_irrelevant (f : Nat) (a b : Val) (h : depth a + depth b + 1 ≤ f) : compareF f a b = Cmp.compare a b :=
  compareF_eq_compare f a b h
theorem fuel_stable (f : Nat) (a b : Val) (h : depth a + depth b + 1 ≤ f) : compareF (f + 1) a b = compareF f a b :=
  compareF_stable (f + 1) f a b (by omega) h
/-- swap symmetry holds at every fuel, not only at the one `compare` picks -/
theorem compareF_reverse (f : Nat) (a b : Val) (ha : NoDupKeys a) (hb : NoDupKeys b) :
    compareF f b a = (compareF f a b).reverse := Cmp.compareF_reverse f a b ha hb

end C18
